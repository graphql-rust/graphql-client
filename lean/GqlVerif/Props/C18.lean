import GqlVerif.Proofs.C18
import GqlVerif.Model.Gen.Consts
/-!
# C18 — the derive macro applies exactly the options written in `#[graphql(...)]`

Model: `GqlVerif.Model.Attr` (the three positional scanners of `attributes.rs`, option building of
`lib.rs`).  Specification: an attribute is a list of `Item`s (`key = "value"`, flag, `key("a", …)`)
laid out by `render` (commas between items, optional trailing comma, optional trailing comma and any
delimiter for lists), surrounded by arbitrary other attributes (`mkInput`); the options it denotes are
`lookupKv` / `hasFlag` / `lookupList` / `specDerive`, defined on the item list.

All theorems are for **every** item list (any length, any order, any values: string-literal *values*
are arbitrary strings, so "a value that looks like a key", commas, `=` etc. are covered) — proved by
induction over the items with the invariant that the scanner stands at an item boundary
(`Proofs/C18.lean`: `scanAttr_render`, `scanAttrList_render`, `identExistsToks_render`).

Side conditions (all decidable):
* `WfItems items`   — the leading identifiers of the items are pairwise distinct;
* `NoFlagThenKv k`  — the exact condition `extract_attr` needs for key `k` (implied by `WfItems`);
* `NotKey f items`  — `f` is not used as the key of a `key = ".."` / `key(..)` item;
* `NoGraphql pre`   — no attribute named `graphql` precedes the one considered (the first one wins).
-/
namespace GqlVerif
namespace C18
open Attr

/-! ## a full attribute built from the recognised keys (used by the `example`s) -/

def fullAttr : List Item :=
  [.kv "schema_path" "schema.graphql", .flag "skip_serializing_none", .kv "query_path" "src/q.graphql",
   .listAttr "extern_enums" ["Direction", "query_path"], .kv "response_derives" "Debug,PartialEq",
   .kv "variables_derives" "deprecated = \"deny\"", .kv "deprecated" " DeNy ", .kv "normalization" "Rust",
   .kv "custom_scalars_module" "crate::scalars", .kv "fragments_other_variant" "true"]

def derivesAround : List Attribute :=
  [{ path := "derive", tokens := some [.ident "GraphQLQuery"] }, { path := "allow", tokens := some [.ident "dead_code"] }]

def plain : Style := { trailing := false, listTrailing := false, delim := .paren }
def trailingCommas : Style := { trailing := true, listTrailing := true, delim := .paren }

example : WfItems fullAttr := by decide +kernel
example : WfItems fullAttr.reverse := by decide +kernel
example : NotKey "skip_serializing_none" fullAttr := by decide +kernel
example : NoGraphql derivesAround := by decide +kernel
example : ∀ k ∈ ["schema_path", "query_path", "deprecated", "skip_serializing_none", "extern_enums", "unknown"],
    NoFlagThenKv k fullAttr = true := by decide +kernel

/-! ## 1. the three scanners return what was written -/

theorem extractAttr_spec (pre post : List Attribute) (st : Style) (items : List Item) (k : String)
    (hpre : NoGraphql pre) (h : NoFlagThenKv k items = true) :
    extractAttr (mkInput pre st items post) k = resOfOpt (lookupKv k items) := by
  simp [extractAttr, findGraphql_mkInput pre post st items hpre, scanAttr_render st k items h]

theorem extractAttrList_spec (pre post : List Attribute) (st : Style) (items : List Item) (k : String)
    (hpre : NoGraphql pre) :
    extractAttrList (mkInput pre st items post) k = resOfOpt (lookupList k items) := by
  simp [extractAttrList, findGraphql_mkInput pre post st items hpre, scanAttrList_render st k items]

theorem identExists_spec (pre post : List Attribute) (st : Style) (items : List Item) (f : String)
    (hpre : NoGraphql pre) :
    identExists (mkInput pre st items post) f =
      if (items.map Item.head).contains f then .ok () else .error .notFound := by
  simp [identExists, findGraphql_mkInput pre post st items hpre, identExistsToks_render st f items]

/-- **`extract_attr` returns exactly the written value** (`WfItems` form): for every layout, every
surrounding attributes and every key `k` (recognised or not). -/
theorem extractAttr_iff (pre post : List Attribute) (st : Style) (items : List Item) (k v : String)
    (hpre : NoGraphql pre) (wf : WfItems items) :
    extractAttr (mkInput pre st items post) k = .ok v ↔ Item.kv k v ∈ items := by
  rw [extractAttr_spec pre post st items k hpre (noFlagThenKv_of_wf k items wf)]
  constructor
  · intro h
    cases e : lookupKv k items with
    | none => simp [e] at h
    | some w => simp [e] at h; subst h; exact lookupKv_mem k w items e
  · intro h; simp [lookupKv_of_mem k v items wf h]

example : extractAttr (mkInput derivesAround trailingCommas fullAttr []) "variables_derives" = .ok "deprecated = \"deny\"" :=
  (extractAttr_iff _ _ _ _ _ _ (by decide +kernel) (by decide +kernel)).mpr (by decide +kernel)

/-- **absent key ⇒ error** (which `build_graphql_client_derive_options` turns into the default);
no side condition on the items at all. -/
theorem extractAttr_absent (pre post : List Attribute) (st : Style) (items : List Item) (k : String)
    (hpre : NoGraphql pre) (h : ∀ v, Item.kv k v ∉ items) :
    extractAttr (mkInput pre st items post) k = .error .notFound := by
  rw [extractAttr_spec pre post st items k hpre (noFlagThenKv_of_absent k items h), lookupKv_none_of_absent k items h]
  rfl

example : ∀ v, Item.kv "skip_serializing_none" v ∉ fullAttr := by intro v h; simp [fullAttr] at h

/-- `ident_exists f` ⇔ `f` is the leading identifier of some item (unconditionally) -/
theorem identExists_iff_head (pre post : List Attribute) (st : Style) (items : List Item) (f : String)
    (hpre : NoGraphql pre) :
    identExists (mkInput pre st items post) f = .ok () ↔ f ∈ items.map Item.head := by
  rw [identExists_spec pre post st items f hpre]
  by_cases h : f ∈ items.map Item.head
  · simp [h]
  · simp [h]

/-- **flags**: `ident_exists f` ⇔ the flag `f` is written, provided `f` is not used as a key -/
theorem identExists_iff_flag (pre post : List Attribute) (st : Style) (items : List Item) (f : String)
    (hpre : NoGraphql pre) (nk : NotKey f items) :
    identExists (mkInput pre st items post) f = .ok () ↔ Item.flag f ∈ items := by
  rw [identExists_iff_head pre post st items f hpre, List.mem_map]
  constructor
  · rintro ⟨i, hi, e⟩; exact nk i hi e ▸ hi
  · intro h; exact ⟨_, h, rfl⟩

/-- **`extract_attr_list` returns exactly the written list** (also the empty one, see
`empty_list_is_ok` below) -/
theorem extractAttrList_iff (pre post : List Attribute) (st : Style) (items : List Item) (k : String)
    (vs : List String) (hpre : NoGraphql pre) (wf : WfItems items) :
    extractAttrList (mkInput pre st items post) k = .ok vs ↔ Item.listAttr k vs ∈ items := by
  rw [extractAttrList_spec pre post st items k hpre]
  constructor
  · intro h
    cases e : lookupList k items with
    | none => simp [e] at h
    | some w => simp [e] at h; subst h; exact lookupList_mem k w items e
  · intro h; simp [lookupList_of_mem k vs items wf h]

example : extractAttrList (mkInput derivesAround plain fullAttr []) "extern_enums" = .ok ["Direction", "query_path"] :=
  (extractAttrList_iff _ _ _ _ _ _ (by decide +kernel) (by decide +kernel)).mpr (by decide +kernel)

/-- no `#[graphql]` attribute at all: every function reports the missing attribute -/
theorem missing_attribute (input : Input) (h : ∀ a ∈ input, a.path ≠ "graphql") (k : String) :
    extractAttr input k = .error .missingAttribute ∧ identExists input k = .error .missingAttribute ∧
    extractAttrList input k = .error .missingAttribute := by
  have : findGraphql input = none := by
    induction input with
    | nil => rfl
    | cons a rest ih =>
      have ha : a.path ≠ "graphql" := h a (by simp)
      simp [findGraphql, ha, ih (fun b hb => h b (by simp [hb]))]
  simp [extractAttr, identExists, extractAttrList, this]

/-! ## 2. the options -/

/-- what `derive` computes on a rendered attribute, with the schema path still in the code's form -/
theorem derive_core (pre post : List Attribute) (st : Style) (items : List Item)
    (manifestDir : Option String) (pathOk : String → Bool)
    (hpre : NoGraphql pre) (wf : WfItems items) (nk : NotKey "skip_serializing_none" items) :
    derive manifestDir pathOk (mkInput pre st items post) =
      match specDerive manifestDir pathOk items, manifestDir, lookupKv "schema_path" items with
      | .ok d, some dir, some s => .ok { d with schemaPath := pathJoin dir.toList s.toList }
      | r, _, _ => r := by
  have hE : ∀ k, extractAttr (mkInput pre st items post) k = resOfOpt (lookupKv k items) :=
    fun k => extractAttr_spec pre post st items k hpre (noFlagThenKv_of_wf k items wf)
  have hL := extractAttrList_spec pre post st items "extern_enums" hpre
  have hI := identExists_spec pre post st items "skip_serializing_none" hpre
  rw [hasFlag_eq_head _ _ nk] at hI
  cases manifestDir with
  | none => simp [derive, buildPaths, specDerive]
  | some dir =>
    simp only [derive, buildPaths, buildOptions, fov_eq _ _ (hE _), skip_eq _ _ hI, depr_eq _ _ (hE _),
      norm_eq _ _ (hE _), hE, hL, specDerive, toOption_resOfOpt]
    cases hq : lookupKv "query_path" items with
    | none => simp
    | some q =>
      cases hs : lookupKv "schema_path" items with
      | none => simp
      | some s =>
        simp only [resOfOpt_some]
        cases hc : lookupKv "custom_scalars_module" items with
        | none => simp [specOptions, Options.new, pathFormat, resolveAgainst, hc]
        | some m => cases hp : pathOk m <;> simp [specOptions, Options.new, pathFormat, resolveAgainst, hc, hp]

theorem derive_eq_spec (pre post : List Attribute) (st : Style) (items : List Item)
    (manifestDir : Option String) (pathOk : String → Bool)
    (hpre : NoGraphql pre) (wf : WfItems items) (nk : NotKey "skip_serializing_none" items)
    (hdir : ∀ d, manifestDir = some d → DirOk d)
    (hrel : ∀ s, Item.kv "schema_path" s ∈ items → Relative s) :
    derive manifestDir pathOk (mkInput pre st items post) = specDerive manifestDir pathOk items := by
  rw [derive_core pre post st items manifestDir pathOk hpre wf nk]
  cases manifestDir with
  | none => simp [specDerive]
  | some dir =>
    cases hs : lookupKv "schema_path" items with
    | none => cases specDerive (some dir) pathOk items <;> rfl
    | some s =>
      have hj : pathJoin dir.toList s.toList = resolveAgainst dir s :=
        pathJoin_relative _ _ (hdir dir rfl).1 (hdir dir rfl).2 (hrel s (lookupKv_mem _ _ _ hs))
      simp only [specDerive, hs]
      cases lookupKv "query_path" items with
      | none => rfl
      | some q =>
        cases lookupKv "custom_scalars_module" items with
        | none => simp [hj]
        | some m => cases hp : pathOk m <;> simp [hj, hp]

example : derive (some "/home/u/proj") (fun _ => true) (mkInput derivesAround trailingCommas fullAttr []) =
    specDerive (some "/home/u/proj") (fun _ => true) fullAttr :=
  derive_eq_spec _ _ _ _ _ _ (by decide +kernel) (by decide +kernel) (by decide +kernel)
    (by intro d h; cases h; decide +kernel) (by intro s h; simp [fullAttr] at h; subst h; decide +kernel)

/-- what the full attribute denotes (values unchanged; ` DeNy ` is the `deny` strategy, `Rust` is `rust`) -/
example : specDerive (some "/p") (fun _ => true) fullAttr =
    .ok { options :=
            { queryFile := "/p/src/q.graphql".toList, variablesDerives := some "deprecated = \"deny\"",
              responseDerives := some "Debug,PartialEq", deprecation := some .deny, normalization := .rust,
              customScalarsModule := some "crate::scalars", externEnums := ["Direction", "query_path"],
              fragmentsOtherVariant := true, skipSerializingNone := true },
          schemaPath := "/p/schema.graphql".toList } := by
  decide +kernel

/-- **`options_of_attrs`**: the options record the derive builds is the one the attribute denotes —
each recognised key's value unchanged, documented defaults otherwise; no hypothesis on the paths. -/
theorem options_of_attrs (pre post : List Attribute) (st : Style) (items : List Item)
    (manifestDir : Option String) (pathOk : String → Bool)
    (hpre : NoGraphql pre) (wf : WfItems items) (nk : NotKey "skip_serializing_none" items) :
    (derive manifestDir pathOk (mkInput pre st items post)).map (·.options) =
      (specDerive manifestDir pathOk items).map (·.options) := by
  rw [derive_core pre post st items manifestDir pathOk hpre wf nk]
  cases specDerive manifestDir pathOk items with
  | error e => cases manifestDir <;> cases lookupKv "schema_path" items <;> rfl
  | ok d => cases manifestDir <;> cases lookupKv "schema_path" items <;> rfl

/-- **`options_defaults`**: when the four optional keys are absent the documented defaults apply
(deprecated = warn, normalization = none, other-variant off, skip-none off) — whatever else the
attribute contains, in whatever order; no well-formedness needed. -/
theorem options_defaults (pre post : List Attribute) (st : Style) (items : List Item)
    (manifestDir : Option String) (pathOk : String → Bool) (d : Derived) (hpre : NoGraphql pre)
    (hd : ∀ v, Item.kv "deprecated" v ∉ items) (hn : ∀ v, Item.kv "normalization" v ∉ items)
    (hf : ∀ v, Item.kv "fragments_other_variant" v ∉ items)
    (hs : "skip_serializing_none" ∉ items.map Item.head)
    (h : derive manifestDir pathOk (mkInput pre st items post) = .ok d) :
    d.options.effectiveDeprecation = .warn ∧ d.options.normalization = .none ∧
    d.options.fragmentsOtherVariant = false ∧ d.options.skipSerializingNone = false := by
  have e1 := extractAttr_absent pre post st items _ hpre hd
  have e2 := extractAttr_absent pre post st items _ hpre hn
  have e3 := extractAttr_absent pre post st items _ hpre hf
  have e4 : identExists (mkInput pre st items post) "skip_serializing_none" = .error .notFound := by
    rw [identExists_spec pre post st items _ hpre]; simp [hs]
  unfold derive at h
  cases hp : buildPaths manifestDir (mkInput pre st items post) with
  | error e => simp [hp] at h
  | ok p =>
    cases ho : buildOptions pathOk (mkInput pre st items post) p.query with
    | error e => simp [hp, ho] at h
    | ok o =>
      simp only [hp, ho, Except.ok.injEq] at h
      subst h
      exact buildOptions_defaults pathOk _ _ o e1 e2 e3 e4 ho

/-- an unparsable value is swallowed (`.ok()` / `if let Ok`): the default stays -/
theorem invalid_value_keeps_default (pre post : List Attribute) (st : Style) (items : List Item)
    (manifestDir : Option String) (pathOk : String → Bool) (d : Derived) (v : String)
    (hpre : NoGraphql pre) (wf : WfItems items) (nk : NotKey "skip_serializing_none" items)
    (hv : Item.kv "deprecated" v ∈ items) (hbad : specDeprecation v = none)
    (h : derive manifestDir pathOk (mkInput pre st items post) = .ok d) :
    d.options.effectiveDeprecation = .warn := by
  have := options_of_attrs pre post st items manifestDir pathOk hpre wf nk
  rw [h] at this
  cases hs : specDerive manifestDir pathOk items with
  | error e => simp [hs, Except.map] at this
  | ok d' =>
    simp only [hs, Except.map, Except.ok.injEq] at this
    have hopt : d'.options.deprecation = none := by
      unfold specDerive at hs
      repeat' split at hs
      all_goals first | (simp at hs; done) | (simp at hs; subst hs; simp [specOptions, lookupKv_of_mem _ _ _ wf hv, hbad])
    simp [Options.effectiveDeprecation, this, hopt]

/-! ## 3. invariance: order, layout, surroundings -/

theorem lookupKv_perm (k : String) (a b : List Item) (wf : WfItems a) (hp : a.Perm b) :
    lookupKv k a = lookupKv k b := by
  have wfb : WfItems b := (List.Perm.nodup_iff (hp.map Item.head)).mp wf
  apply Option.ext; intro v
  constructor
  · intro h; exact lookupKv_of_mem k v b wfb (hp.mem_iff.mp (lookupKv_mem k v a h))
  · intro h; exact lookupKv_of_mem k v a wf (hp.mem_iff.mpr (lookupKv_mem k v b h))

theorem lookupList_perm (k : String) (a b : List Item) (wf : WfItems a) (hp : a.Perm b) :
    lookupList k a = lookupList k b := by
  have wfb : WfItems b := (List.Perm.nodup_iff (hp.map Item.head)).mp wf
  apply Option.ext; intro v
  constructor
  · intro h; exact lookupList_of_mem k v b wfb (hp.mem_iff.mp (lookupList_mem k v a h))
  · intro h; exact lookupList_of_mem k v a wf (hp.mem_iff.mpr (lookupList_mem k v b h))

/-- **permutation, layout and surroundings invariance**: two attributes with the same items in any
order, any comma/delimiter style and any other attributes around them give the same result (value or
error) — for the complete derive, hence for every single option. -/
theorem derive_perm (pre post pre' post' : List Attribute) (st st' : Style) (items items' : List Item)
    (manifestDir : Option String) (pathOk : String → Bool)
    (hpre : NoGraphql pre) (hpre' : NoGraphql pre') (wf : WfItems items) (hp : items.Perm items') :
    derive manifestDir pathOk (mkInput pre st items post) = derive manifestDir pathOk (mkInput pre' st' items' post') := by
  have wf' : WfItems items' := (List.Perm.nodup_iff (hp.map Item.head)).mp wf
  apply derive_congr
  · intro k
    rw [extractAttr_spec pre post st items k hpre (noFlagThenKv_of_wf k items wf),
      extractAttr_spec pre' post' st' items' k hpre' (noFlagThenKv_of_wf k items' wf'), lookupKv_perm k _ _ wf hp]
  · intro f
    rw [identExists_spec pre post st items f hpre, identExists_spec pre' post' st' items' f hpre']
    have : (items.map Item.head).contains f = (items'.map Item.head).contains f := by
      rw [Bool.eq_iff_iff]; simp only [List.contains_iff_mem]; exact (hp.map Item.head).mem_iff
    rw [this]
  · intro k
    rw [extractAttrList_spec pre post st items k hpre, extractAttrList_spec pre' post' st' items' k hpre',
      lookupList_perm k _ _ wf hp]

example : derive (some "/p") (fun _ => true) (mkInput derivesAround trailingCommas fullAttr []) =
    derive (some "/p") (fun _ => true) (mkInput [] plain fullAttr.reverse derivesAround) :=
  derive_perm _ _ _ _ _ _ _ _ _ _ (by decide +kernel) (by decide +kernel) (by decide +kernel) (List.reverse_perm _).symm

/-- **trailing comma / list style / surrounding attributes do not matter** (corollary) -/
theorem derive_layout (pre post pre' post' : List Attribute) (st st' : Style) (items : List Item)
    (manifestDir : Option String) (pathOk : String → Bool) (hpre : NoGraphql pre) (hpre' : NoGraphql pre')
    (wf : WfItems items) :
    derive manifestDir pathOk (mkInput pre st items post) = derive manifestDir pathOk (mkInput pre' st' items post') :=
  derive_perm pre post pre' post' st st' items items manifestDir pathOk hpre hpre' wf (List.Perm.refl _)

/-- a second `#[graphql(...)]` attribute is never read: only the first one counts -/
theorem second_graphql_attribute_ignored (pre post post' : List Attribute) (st : Style) (items : List Item)
    (manifestDir : Option String) (pathOk : String → Bool) (hpre : NoGraphql pre) :
    derive manifestDir pathOk (mkInput pre st items post) = derive manifestDir pathOk (mkInput pre st items post') := by
  have hf : ∀ q, findGraphql (mkInput pre st items q) = some { path := "graphql", tokens := some (render st items) } :=
    fun q => findGraphql_mkInput pre q st items hpre
  apply derive_congr <;> intro k <;> simp [extractAttr, identExists, extractAttrList, hf]

/-! ## 4. paths -/

/-- for a relative schema path and a manifest directory without trailing `/`, both paths are
`<manifest dir>/<path>` (the two different constructions in `build_query_and_schema_path` agree) -/
theorem paths_relative (dir q s : String) (input : Input) (hd : DirOk dir) (hs : Relative s)
    (hq : extractAttr input "query_path" = .ok q) (hsp : extractAttr input "schema_path" = .ok s) :
    buildPaths (some dir) input = .ok { query := resolveAgainst dir q, schema := resolveAgainst dir s } := by
  simp [buildPaths, hq, hsp, pathFormat, resolveAgainst, pathJoin_relative _ _ hd.1 hd.2 hs]

/-- **negative fact**: the two paths are *not* built the same way.  An absolute `schema_path`
replaces the manifest directory (`Path::join`), an absolute `query_path` is appended to it
(`format!("{}/{}")`). -/
theorem paths_absolute_differ (dir q s : String) (input : Input)
    (hq : extractAttr input "query_path" = .ok ("/" ++ q)) (hsp : extractAttr input "schema_path" = .ok ("/" ++ s)) :
    buildPaths (some dir) input =
      .ok { query := dir.toList ++ '/' :: '/' :: q.toList, schema := '/' :: s.toList } := by
  have e : ∀ x : String, ("/" ++ x).toList = '/' :: x.toList := by
    intro x; rw [String.toList_append]; rfl
  simp [buildPaths, hq, hsp, pathFormat, pathJoin, e]

/-- a manifest directory ending in `/` gets a doubled separator on the query side only -/
theorem paths_trailing_slash (dir q s : String) (input : Input) (hs : Relative s)
    (hq : extractAttr input "query_path" = .ok q) (hsp : extractAttr input "schema_path" = .ok s) :
    buildPaths (some (dir ++ "/")) input =
      .ok { query := dir.toList ++ '/' :: '/' :: q.toList, schema := dir.toList ++ '/' :: s.toList } := by
  have e : (dir ++ "/").toList = dir.toList ++ ['/'] := by rw [String.toList_append]; rfl
  have hj : pathJoin (dir.toList ++ ['/']) s.toList = dir.toList ++ '/' :: s.toList := by
    unfold pathJoin
    split
    · rename_i h; unfold Relative at hs; simp [h] at hs
    · simp
  simp [buildPaths, hq, hsp, pathFormat, e, hj]

/-! ## 5. negative facts the proofs force -/

/-- **the positional scanner can be confused, but only outside `WfItems`**: a flag named `k`
immediately followed by `k = "v"` hides the value (the scanner skips the comma and *consumes* the
second `k`).  This is why `extractAttr_iff` needs the leading identifiers to be distinct. -/
theorem flag_then_kv_hides_value (pre post : List Attribute) (st : Style) (k v : String) (rest : List Item)
    (hpre : NoGraphql pre) (hr : ∀ w, Item.kv k w ∉ rest) :
    extractAttr (mkInput pre st (.flag k :: .kv k v :: rest) post) k = .error .notFound ∧
    lookupKv k (.flag k :: .kv k v :: rest) = some v := by
  constructor
  · have e : render st (Item.flag k :: Item.kv k v :: rest) =
        .ident k :: .punct ',' :: .ident k :: .punct '=' :: .lit v :: (sep st rest ++ render st rest) := by
      simp [render, renderItem, Item.head, Item.body, sep, comma]
    simp only [extractAttr, findGraphql_mkInput pre post st _ hpre, e, scanAttr_key_ident, scanAttr_punct,
      scanAttr_lit, scanAttr_sep, scanAttr_render st k rest (noFlagThenKv_of_absent k rest hr),
      lookupKv_none_of_absent k rest hr, resOfOpt_none]
  · simp [lookupKv]

/-- **a flag written as `key = "false"` is ON**: `ident_exists` only looks for the identifier, so
`skip_serializing_none = "false"` enables the option (unlike `fragments_other_variant = "false"`). -/
theorem flag_written_as_kv_is_on (pre post : List Attribute) (st : Style) (items : List Item) (v : String)
    (hpre : NoGraphql pre) (h : Item.kv "skip_serializing_none" v ∈ items) :
    extractSkipSerializingNone (mkInput pre st items post) = true := by
  have : identExists (mkInput pre st items post) "skip_serializing_none" = .ok () :=
    (identExists_iff_head pre post st items _ hpre).mpr (mem_head _ _ h)
  simp [extractSkipSerializingNone, this]

/-- **an empty list is accepted**: `key()` yields `Ok([])`; the "not found or empty" error of
`extract_attr_list` is only ever raised for "not found". -/
theorem empty_list_is_ok (pre post : List Attribute) (st : Style) (items : List Item) (k : String)
    (hpre : NoGraphql pre) (wf : WfItems items) (h : Item.listAttr k [] ∈ items) :
    extractAttrList (mkInput pre st items post) k = .ok [] :=
  (extractAttrList_iff pre post st items k [] hpre wf).mpr h

/-- a non-string literal as a value is an error (not "absent"): `syn::parse_str::<LitStr>` fails -/
theorem non_string_value_is_error (pre post : List Attribute) (k text : String) (T : List Tok)
    (hpre : NoGraphql pre) :
    extractAttr (pre ++ { path := "graphql", tokens := some (.ident k :: .punct '=' :: .litOther text :: T) } :: post) k
      = .error .badLiteral := by
  have hf := findGraphql_first pre post
    { path := "graphql", tokens := some (.ident k :: .punct '=' :: .litOther text :: T) } rfl hpre
  simp [extractAttr, hf]

/-- string-literal values can never be mistaken for keys (a value equal to a key name, containing
commas or `=`): instance of `extractAttr_iff` on an attribute whose values are key names -/
example (st : Style) :
    extractAttr (mkInput [] st [.kv "response_derives" "deprecated", .kv "variables_derives" "deprecated = \"deny\", x",
      .kv "deprecated" "allow"] []) "deprecated" = .ok "allow" :=
  (extractAttr_iff _ _ _ _ _ _ (by decide +kernel) (by decide +kernel)).mpr (by decide +kernel)


/-! ## the keys of `#[graphql(...)]`: model vs source (regenerated table) -/

/-- every look-up the model's option extraction makes (`Model/Attr.lean`: `derive` and its helpers),
    with the scanner used: kv = `extractAttr`, list = `extractAttrList`, flag = `identExists` -/
def modelKeys : List (String × String) :=
  [("custom_scalars_module", "kv"), ("deprecated", "kv"), ("extern_enums", "list"),
   ("fragments_other_variant", "kv"), ("normalization", "kv"), ("query_path", "kv"),
   ("response_derives", "kv"), ("schema_path", "kv"), ("skip_serializing_none", "flag"),
   ("variables_derives", "kv")]

/-- the derive macro of the *current* source looks up exactly these keys with exactly these scanners
    (`Gen.deriveKeys` is regenerated from `graphql_query_derive/src/{lib,attributes}.rs` on every run):
    a key added, renamed or read with another scanner breaks this obligation -/
theorem derive_keys_match_source : modelKeys = Gen.deriveKeys := by decide +kernel

/-- the option values the model's parsers recognise are the arms of the two `FromStr` impls of the current source
    (after `trim`), and the default strategy is the `#[default]` variant: a spelling added or removed there breaks
    this obligation (guards by evaluation, like the one above) -/
theorem option_spellings_match_source :
    Gen.deprecationFromStr = ("s.trim()", [("allow", "Allow"), ("deny", "Deny"), ("warn", "Warn")]) ∧
    Gen.normalizationFromStr = ("s.trim()", [("none", "None"), ("rust", "Rust")]) ∧
    Gen.deprecationDefault = "Warn" := ⟨rfl, rfl, rfl⟩

end C18
end GqlVerif
