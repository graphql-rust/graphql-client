import GqlVerif.Props.C10
import GqlVerif.Props.C11
/-!
# C09 — Rust-side options never change the JSON wire format

What goes on the wire is decided by: the wire names of fields / variables / input fields / `@oneOf`
members, the string tables of enums, the `Option`/`Vec` shape of types, the `flatten` / `tag` / `other`
/ `skip_serializing_if` / `default` / `deserialize_with` attributes.  The theorems here show that the
*naming* options cannot reach the wire names:

* `field_wire_indep` — two generations of the same field under different case functions, keyword
  tables (i.e. Rust identifiers), derive lists, serde path and visibility have the same wire name;
* `enum_wire_indep` — the wire strings of a generated enum are the schema's value names under both
  normalizations and any case function;
* `variable_wire_indep`, `oneof_wire_indep` — the same for variables / input fields and `@oneOf` members.

The remaining statements of the design (`serde_ignores_derives`, `codegen_neutral_options`,
`scalars_module_only_changes_alias_target`) are proved in `GqlVerif/Proofs/C09Options.lean`; the metamorphic
correspondence checks the same on the implementation (same vectors through two compiled modules generated under
different option sets must give identical replies).
-/
namespace GqlVerif
namespace C09

/-- the wire name of an emitted response field does not depend on the context it was generated in -/
theorem field_wire_indep (c c' : Codegen.Ctx) (gname r r' ft ft' : String) (quals : List Qual) (fl bx : Bool)
    (dep : Option (Option String)) (f f' : RField)
    (h : Codegen.renderField c (some gname) r ft quals fl bx dep = .ok (some f))
    (h' : Codegen.renderField c' (some gname) r' ft' quals fl bx dep = .ok (some f')) :
    f.wire = f'.wire := by
  rw [C11.wire_is_graphql_name c gname r ft quals fl bx dep f h,
      C11.wire_is_graphql_name c' gname r' ft' quals fl bx dep f' h']

/-- the wire strings of a generated enum are the schema's value names, whatever the options -/
theorem enum_wire_indep (c c' : Codegen.Ctx) (e : StoredEnum) :
    ∃ n d p i ser de n' d' p' i' ser' de',
      Codegen.enumItem c e = .gqlEnum n d p i ser de ∧ Codegen.enumItem c' e = .gqlEnum n' d' p' i' ser' de' ∧
      de.map (·.1) = de'.map (·.1) ∧ ser.map (·.2) = ser'.map (·.2) := by
  obtain ⟨n, d, p, i, ser, de, h, h1, h2⟩ := C10.wire_is_schema_name c e
  obtain ⟨n', d', p', i', ser', de', h', h1', h2'⟩ := C10.wire_is_schema_name c' e
  exact ⟨n, d, p, i, ser, de, n', d', p', i', ser', de', h, h', h1.trans h1'.symm, h2.trans h2'.symm⟩

/-- variables and input-object fields -/
theorem variable_wire_indep (name safe safe' : String) (ty ty' : RTy) (skip skip' : Bool) :
    ({ rust := safe, rename := fieldRename name safe, ty := ty, skipNone := skip } : RField).wire =
    ({ rust := safe', rename := fieldRename name safe', ty := ty', skipNone := skip' } : RField).wire := by
  rw [C11.input_wire_is_graphql_name, C11.input_wire_is_graphql_name]

/-- `@oneOf` members -/
theorem oneof_wire_indep (name safe safe' : String) (t t' : RTy) :
    ({ name := safe, rename := fieldRename name safe, payload := some t } : RVariant).wire =
    ({ name := safe', rename := fieldRename name safe', payload := some t' } : RVariant).wire := by
  rw [C11.oneof_wire_is_graphql_name, C11.oneof_wire_is_graphql_name]

end C09
end GqlVerif
