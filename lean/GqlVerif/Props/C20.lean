import GqlVerif.Model.Cli
/-!
# C20 — `introspect-schema` sends the right request and never corrupts its output

* `header_spec` / `header_rejects`: `Header::from_str` accepts exactly the strings `a:b` (split at the
  **first** colon) whose trimmed name is non-empty and free of (Unicode) whitespace, and returns the
  trimmed halves — for **all** strings.
* `doc_select`: the 2×2 flag table picks the document whose operation name is sent; facts about the
  document texts are evaluated on the texts regenerated from `graphql_client_cli/src/graphql/`.
* `out_file_safe` / `out_file_written` / `stdout_untouched`: for every server behaviour and every
  initial state of the `--output` file.
-/
namespace GqlVerif
namespace C20
open Cli

deriving instance DecidableEq for Except

/-! ## lemmas about the string primitives -/

theorem mem_takeWhile_imp (p : Char → Bool) (l : List Char) (c : Char) (h : c ∈ l.takeWhile p) : p c = true := by
  induction l with
  | nil => simp at h
  | cons x xs ih =>
    by_cases hp : p x
    · simp [List.takeWhile, hp] at h
      cases h with
      | inl h => rw [h]; exact hp
      | inr h => exact ih h
    · simp [List.takeWhile, hp] at h

theorem dropWhile_eq_nil (p : Char → Bool) (l : List Char) (h : ∀ c ∈ l, p c = true) : l.dropWhile p = [] := by
  induction l with
  | nil => rfl
  | cons x xs ih =>
    have hx : p x = true := h x (by simp)
    simp [List.dropWhile, hx]
    exact ih (fun c hc => h c (by simp [hc]))

theorem splitFirstColon_none (s : List Char) : splitFirstColon s = none ↔ ':' ∉ s := by
  induction s with
  | nil => simp [splitFirstColon]
  | cons c cs ih =>
    unfold splitFirstColon
    by_cases hc : c = ':'
    · simp [hc]
    · have hc' : ¬ ':' = c := fun h => hc h.symm
      cases h : splitFirstColon cs with
      | none => simp [hc, hc', ih.mp h]
      | some ab =>
        have : ¬ ':' ∉ cs := fun hn => by rw [ih.mpr hn] at h; cases h
        simp [hc, hc']
        simpa using this

/-- the split is at the *first* colon, and it is the only decomposition with a colon-free left part -/
theorem splitFirstColon_some (s a b : List Char) :
    splitFirstColon s = some (a, b) ↔ s = a ++ ':' :: b ∧ ':' ∉ a := by
  induction s generalizing a with
  | nil => simp [splitFirstColon]
  | cons c cs ih =>
    unfold splitFirstColon
    by_cases hc : c = ':'
    · subst hc
      simp only [↓reduceIte, Option.some.injEq, Prod.mk.injEq]
      constructor
      · rintro ⟨rfl, rfl⟩; simp
      · rintro ⟨h, hn⟩
        cases a with
        | nil => simpa using h
        | cons x xs => simp at h hn; exact absurd h.1 hn.1
    · simp only [hc, ↓reduceIte]
      cases h : splitFirstColon cs with
      | none =>
        have hno := (splitFirstColon_none cs).mp h
        simp only [reduceCtorEq, false_iff]
        rintro ⟨heq, hn⟩
        cases a with
        | nil => simp at heq; exact hc heq.1
        | cons x xs =>
          simp at heq
          apply hno
          rw [heq.2]; simp
      | some ab =>
        obtain ⟨a0, b0⟩ := ab
        simp only [Option.some.injEq, Prod.mk.injEq]
        constructor
        · rintro ⟨rfl, rfl⟩
          have h0 := (ih a0).mp h
          refine ⟨by simp [h0.1], ?_⟩
          simp [h0.2]; exact fun h => hc h.symm
        · rintro ⟨heq, hn⟩
          cases a with
          | nil => simp at heq; exact absurd heq.1 hc
          | cons x xs =>
            simp at heq hn
            have := (ih xs).mpr ⟨heq.2, hn.2⟩
            rw [h] at this
            simp at this
            simp [heq.1, this.1, this.2]

/-- a list is *trimmed* when it neither starts nor ends with whitespace -/
def Trimmed (t : List Char) : Prop :=
  (∀ x, t.head? = some x → isWhitespace x = false) ∧ (∀ x, t.getLast? = some x → isWhitespace x = false)

theorem head_dropWhile (p : Char → Bool) (l : List Char) : ∀ x, (l.dropWhile p).head? = some x → p x = false := by
  induction l with
  | nil => simp
  | cons c cs ih =>
    intro x
    by_cases hp : p c
    · simpa [List.dropWhile, hp] using ih x
    · simp [List.dropWhile, hp]; rintro rfl; simpa using hp

theorem trimEnd_prefix (u : List Char) : ∃ r, u = trimEnd u ++ r ∧ ∀ c ∈ r, isWhitespace c = true := by
  refine ⟨(u.reverse.takeWhile isWhitespace).reverse, ?_, ?_⟩
  · have := List.takeWhile_append_dropWhile (p := isWhitespace) (l := u.reverse)
    have h2 := congrArg List.reverse this
    simp only [List.reverse_append, List.reverse_reverse] at h2
    exact h2.symm
  · intro c hc
    have hc' : c ∈ u.reverse.takeWhile isWhitespace := by simpa using hc
    exact mem_takeWhile_imp _ _ _ hc'

theorem trim_trimmed (s : List Char) : Trimmed (trim s) := by
  constructor
  · intro x hx
    obtain ⟨r, hr, _⟩ := trimEnd_prefix (trimStart s)
    have hu := head_dropWhile isWhitespace s
    unfold trim at hx
    cases ht : trimEnd (trimStart s) with
    | nil => rw [ht] at hx; simp at hx
    | cons y ys =>
      rw [ht] at hx hr
      simp at hx; subst hx
      apply hu
      show (trimStart s).head? = some y
      rw [hr]; simp
  · intro x hx
    unfold trim trimEnd at hx
    rw [List.getLast?_reverse] at hx
    exact head_dropWhile isWhitespace _ x hx

/-- `trim` removes an all-whitespace prefix and an all-whitespace suffix, and what is left is trimmed -/
theorem trim_spec (a : List Char) :
    ∃ l r, a = l ++ trim a ++ r ∧ (∀ c ∈ l, isWhitespace c = true) ∧ (∀ c ∈ r, isWhitespace c = true) ∧
      Trimmed (trim a) := by
  obtain ⟨r, hr, hrw⟩ := trimEnd_prefix (trimStart a)
  refine ⟨a.takeWhile isWhitespace, r, ?_, ?_, hrw, trim_trimmed a⟩
  · have := List.takeWhile_append_dropWhile (p := isWhitespace) (l := a)
    unfold trim
    rw [List.append_assoc, ← hr]
    exact this.symm
  · intro c hc; exact mem_takeWhile_imp _ _ _ hc

theorem trim_eq_nil (a : List Char) : trim a = [] ↔ ∀ c ∈ a, isWhitespace c = true := by
  obtain ⟨l, r, h, hl, hr, _⟩ := trim_spec a
  constructor
  · intro ht
    rw [ht] at h
    intro c hc
    rw [h] at hc
    simp at hc
    cases hc with
    | inl h1 => exact hl c h1
    | inr h1 => exact hr c h1
  · intro hall
    have : trimStart a = [] := by
      unfold trimStart
      exact dropWhile_eq_nil _ _ hall
    unfold trim
    rw [this]; rfl

/-- counting words: with no whitespace at all there is at most one word -/
theorem wordsFrom_noWs (cs : List Char) (h : ∀ c ∈ cs, isWhitespace c = false) :
    wordsFrom cs true = 0 ∧ wordsFrom cs false = (if cs = [] then 0 else 1) := by
  induction cs with
  | nil => simp [wordsFrom]
  | cons c cs ih =>
    have hc : isWhitespace c = false := h c (by simp)
    have ih' := ih (fun x hx => h x (by simp [hx]))
    simp [wordsFrom, hc, ih'.1]

/-- a list whose last character is not whitespace: a new word starts after every whitespace -/
theorem wordsFrom_lastNonWs (cs : List Char) (h : ∀ x, cs.getLast? = some x → isWhitespace x = false) :
    (1 ≤ wordsFrom cs false ↔ cs ≠ []) ∧ (1 ≤ wordsFrom cs true ↔ ∃ c ∈ cs, isWhitespace c = true) := by
  induction cs with
  | nil => simp [wordsFrom]
  | cons c cs ih =>
    by_cases hne : cs = []
    · subst hne
      have hc : isWhitespace c = false := h c (by simp)
      simp [wordsFrom, hc]
    · have hlast : ∀ x, cs.getLast? = some x → isWhitespace x = false := by
        intro x hx
        apply h x
        cases cs with
        | nil => exact absurd rfl hne
        | cons y ys => rw [List.getLast?_cons_cons]; exact hx
      have ih' := ih hlast
      by_cases hc : isWhitespace c = true
      · simp only [wordsFrom, hc, ↓reduceIte]
        have h1 : 1 ≤ wordsFrom cs false := ih'.1.mpr hne
        simp [h1]
        exact Or.inl hc
      · have hc' : isWhitespace c = false := by simpa using hc
        simp only [wordsFrom, hc', Bool.false_eq_true, ↓reduceIte]
        constructor
        · simp
        · simp only [Nat.zero_add]
          rw [ih'.2]
          constructor
          · rintro ⟨x, hx, hw⟩; exact ⟨x, by simp [hx], hw⟩
          · rintro ⟨x, hx, hw⟩
            simp at hx
            cases hx with
            | inl h1 => subst h1; rw [hc'] at hw; cases hw
            | inr h1 => exact ⟨x, h1, hw⟩

/-- for a trimmed, non-empty name: more than one word ⇔ some whitespace character inside -/
theorem wordCount_trimmed (n : List Char) (ht : Trimmed n) (hne : n ≠ []) :
    wordCount n > 1 ↔ ∃ c ∈ n, isWhitespace c = true := by
  cases n with
  | nil => exact absurd rfl hne
  | cons a rest =>
    have ha : isWhitespace a = false := ht.1 a (by simp)
    unfold wordCount
    simp only [wordsFrom, ha, Bool.false_eq_true, ↓reduceIte]
    by_cases hr : rest = []
    · subst hr; simp [wordsFrom, ha]
    · have hlast : ∀ x, rest.getLast? = some x → isWhitespace x = false := by
        intro x hx
        apply ht.2 x
        cases rest with
        | nil => exact absurd rfl hr
        | cons y ys => rw [List.getLast?_cons_cons]; exact hx
      have := (wordsFrom_lastNonWs rest hlast).2
      constructor
      · intro h
        have h1 : 1 ≤ wordsFrom rest true := by omega
        obtain ⟨c, hc, hw⟩ := this.mp h1
        exact ⟨c, by simp [hc], hw⟩
      · rintro ⟨c, hc, hw⟩
        simp at hc
        cases hc with
        | inl h1 => subst h1; rw [ha] at hw; cases hw
        | inr h1 =>
          have := this.mpr ⟨c, h1, hw⟩
          omega

/-! ## the header parser -/

/-- **`Header::from_str` accepts exactly `a:b` split at the first colon**, returns both halves trimmed,
and requires the trimmed name to be non-empty and free of whitespace.  All strings. -/
theorem header_spec (s n v : List Char) :
    parseHeaderChars s = .ok (n, v) ↔
      ∃ a b, s = a ++ ':' :: b ∧ ':' ∉ a ∧ n = trim a ∧ v = trim b ∧ n ≠ [] ∧
        ∀ c ∈ n, isWhitespace c = false := by
  unfold parseHeaderChars
  cases h : splitFirstColon s with
  | none =>
    simp only [reduceCtorEq, false_iff]
    rintro ⟨a, b, hs, ha, _⟩
    rw [(splitFirstColon_some s a b).mpr ⟨hs, ha⟩] at h
    cases h
  | some ab =>
    obtain ⟨a0, b0⟩ := ab
    have h0 := (splitFirstColon_some s a0 b0).mp h
    have key : wordCount (trim a0) > 1 ↔ ∃ c ∈ trim a0, isWhitespace c = true := by
      by_cases hne : trim a0 = []
      · simp [hne, wordCount, wordsFrom]
      · exact wordCount_trimmed _ (trim_trimmed a0) hne
    simp only []
    by_cases hne : trim a0 = []
    · simp only [hne, ↓reduceIte, reduceCtorEq, false_iff]
      rintro ⟨a, b, hs, ha, hn, _, hnn, _⟩
      have := (splitFirstColon_some s a b).mpr ⟨hs, ha⟩
      rw [h] at this
      simp at this
      rw [hn, ← this.1] at hnn
      exact hnn hne
    · simp only [hne, ↓reduceIte]
      by_cases hw : wordCount (trim a0) > 1
      · simp only [hw, ↓reduceIte, reduceCtorEq, false_iff]
        rintro ⟨a, b, hs, ha, hn, _, _, hall⟩
        have := (splitFirstColon_some s a b).mpr ⟨hs, ha⟩
        rw [h] at this
        simp at this
        obtain ⟨c, hc, hcw⟩ := key.mp hw
        rw [hn, ← this.1] at hall
        rw [hall c hc] at hcw
        cases hcw
      · simp only [hw, ↓reduceIte, Except.ok.injEq, Prod.mk.injEq]
        constructor
        · rintro ⟨rfl, rfl⟩
          refine ⟨a0, b0, h0.1, h0.2, rfl, rfl, hne, ?_⟩
          intro c hc
          cases hcw : isWhitespace c with
          | false => rfl
          | true => exact absurd (key.mpr ⟨c, hc, hcw⟩) hw
        · rintro ⟨a, b, hs, ha, hn, hv, _, _⟩
          have := (splitFirstColon_some s a b).mpr ⟨hs, ha⟩
          rw [h] at this
          simp at this
          rw [hn, hv, this.1, this.2]
          exact ⟨rfl, rfl⟩

example : parseHeaderChars " X-Name :\tVal:ue ".toList = .ok ("X-Name".toList, "Val:ue".toList) := by decide +kernel

/-- the same on the function clap calls (`Result<Header, String>`) -/
theorem header_spec_str (s : List Char) (n v : String) :
    parseHeader s = .ok (n, v) ↔
      ∃ a b, s = a ++ ':' :: b ∧ ':' ∉ a ∧ n = String.ofList (trim a) ∧ v = String.ofList (trim b) ∧
        trim a ≠ [] ∧ ∀ c ∈ trim a, isWhitespace c = false := by
  unfold parseHeader
  cases h : parseHeaderChars s with
  | error e =>
    simp only [reduceCtorEq, false_iff]
    rintro ⟨a, b, hs, ha, _, _, hne, hall⟩
    rw [(header_spec s (trim a) (trim b)).mpr ⟨a, b, hs, ha, rfl, rfl, hne, hall⟩] at h
    cases h
  | ok nv =>
    obtain ⟨n0, v0⟩ := nv
    obtain ⟨a, b, hs, ha, hn, hv, hne, hall⟩ := (header_spec s n0 v0).mp h
    simp only [Except.ok.injEq, Prod.mk.injEq]
    constructor
    · rintro ⟨rfl, rfl⟩
      exact ⟨a, b, hs, ha, by rw [hn], by rw [hv], by rw [← hn]; exact hne, by rw [← hn]; exact hall⟩
    · rintro ⟨a', b', hs', ha', hn', hv', _, _⟩
      have h1 := (splitFirstColon_some s a b).mpr ⟨hs, ha⟩
      have h2 := (splitFirstColon_some s a' b').mpr ⟨hs', ha'⟩
      rw [h1] at h2
      simp at h2
      rw [hn', hv', ← h2.1, ← h2.2, ← hn, ← hv]
      exact ⟨rfl, rfl⟩

/-- **what is refused, and why**: no colon; nothing but whitespace before the first colon; whitespace
inside the (trimmed) name.  Together with `header_spec` this classifies every string. -/
theorem header_rejects (s : List Char) :
    (':' ∉ s → parseHeaderChars s = .error .noColon) ∧
    (∀ a b, s = a ++ ':' :: b → ':' ∉ a → (∀ c ∈ a, isWhitespace c = true) →
        parseHeaderChars s = .error .emptyName) ∧
    (∀ a b, s = a ++ ':' :: b → ':' ∉ a → trim a ≠ [] → (∃ c ∈ trim a, isWhitespace c = true) →
        parseHeaderChars s = .error .whitespaceInName) := by
  refine ⟨?_, ?_, ?_⟩
  · intro h
    unfold parseHeaderChars
    rw [(splitFirstColon_none s).mpr h]
  · intro a b hs ha hall
    unfold parseHeaderChars
    rw [(splitFirstColon_some s a b).mpr ⟨hs, ha⟩]
    simp [(trim_eq_nil a).mpr hall]
  · intro a b hs ha hne hw
    unfold parseHeaderChars
    rw [(splitFirstColon_some s a b).mpr ⟨hs, ha⟩]
    have := (wordCount_trimmed _ (trim_trimmed a) hne).mpr hw
    simp [hne, this]

example : ':' ∉ "X-Name Value".toList := by decide +kernel
example : parseHeaderChars ": Value".toList = .error .emptyName := by decide +kernel
example : parseHeaderChars "X Name: Value".toList = .error .whitespaceInName := by decide +kernel

/-- a refused `--header` stops the program in clap: exit status 2, no request is ever built -/
theorem refused_header_no_request (hs : List String) (h : String) (m : String)
    (hbad : parseHeader h.toList = .error m) (hin : h ∈ hs) :
    ∃ m', parseHeaderArgs hs = .error (.usage m') := by
  induction hs with
  | nil => cases hin
  | cons x xs ih =>
    unfold parseHeaderArgs
    cases hx : parseHeader x.toList with
    | error e => exact ⟨e, rfl⟩
    | ok nv =>
      simp only []
      have hin' : h ∈ xs := by
        cases hin with
        | head => rw [hbad] at hx; cases hx
        | tail _ h' => exact h'
      obtain ⟨m', hm'⟩ := ih hin'
      exact ⟨m', by rw [hm']⟩

/-! ## which document is sent -/

def containsSub : List Char → List Char → Bool
  | [], [] => true
  | _ :: _, [] => false
  | pat, c :: cs => pat.isPrefixOf (c :: cs) || containsSub pat cs

def splitLines : List Char → List Char → List (List Char)
  | [], cur => [cur.reverse]
  | c :: cs, cur => if c = '\n' then cur.reverse :: splitLines cs [] else splitLines cs (c :: cur)

def identChar (c : Char) : Bool := c.isAlphanum || c = '_'

/-- the operation a line starts, if any (the documents define operations at the beginning of a line;
`{` alone would be an anonymous query) -/
def opNameOfLine (l : List Char) : Option (List Char) :=
  let kws : List (List Char) := [['q','u','e','r','y',' '], ['m','u','t','a','t','i','o','n',' '],
    ['s','u','b','s','c','r','i','p','t','i','o','n',' ']]
  match kws.find? (fun k => k.isPrefixOf l) with
  | some k => some ((l.drop k.length).takeWhile identChar)
  | none => if ['{'].isPrefixOf l then some [] else none

/-- names of the operations a document text defines -/
def operationNames (text : List Char) : List String :=
  ((splitLines text []).filterMap opNameOfLine).map String.ofList

def isOneOfWord : List Char := ['i','s','O','n','e','O','f']
def specifiedByWord : List Char := ['s','p','e','c','i','f','i','e','d','B','y','U','R','L']

/-- the `OPERATION_NAME` / `QUERY` constants that reach the body -/
def opOf (o u : Bool) : String := match selectDoc o u with | some (op, _, _) => op | none => ""
def textOf (o u : Bool) : String := match selectDoc o u with | some (_, _, t) => t | none => ""

/-- the documented table: flags ↦ operation -/
def specOp : Bool → Bool → String
  | false, false => "IntrospectionQuery"
  | true, false => "IntrospectionQueryWithIsOneOf"
  | false, true => "IntrospectionQueryWithSpecifiedBy"
  | true, true => "IntrospectionQueryWithIsOneOfSpecifiedByURL"

/-- **flags ↦ document** on the texts regenerated from the source: every flag pair selects a
document; the operation name sent is the documented one and is the name of the *only* operation the
selected text defines; the text contains the word `isOneOf` iff `--is-one-of` and the word `specifiedByURL` iff
`--specify-by-url` (containment only: a fragment name such as `FullTypeWithisOneOf` already meets the first). -/
theorem doc_select (o u : Bool) :
    (selectDoc o u).isSome = true ∧ opOf o u = specOp o u ∧
    operationNames (textOf o u).toList = [opOf o u] ∧
    containsSub isOneOfWord (textOf o u).toList = o ∧
    containsSub specifiedByWord (textOf o u).toList = u := by
  -- the selected text is an entry of the literal table; the kernel identifies a literal with `String.ofList [c₁, …, cₙ]`
  -- linearly (`String.toList_ofList`), whereas evaluating `toList` on it walks the UTF-8 bytes quadratically
  cases o <;> cases u
  · have h : textOf false false = (Gen.introDocs[0]'(by decide)).2.2 := rfl
    rw [h]; simp only [Gen.introDocs, List.getElem_cons_zero]
    rewrite [String.toList_ofList]; decide +kernel
  · have h : textOf false true = (Gen.introDocs[2]'(by decide)).2.2 := rfl
    rw [h]; simp only [Gen.introDocs, List.getElem_cons_zero, List.getElem_cons_succ]
    rewrite [String.toList_ofList]; decide +kernel
  · have h : textOf true false = (Gen.introDocs[1]'(by decide)).2.2 := rfl
    rw [h]; simp only [Gen.introDocs, List.getElem_cons_zero, List.getElem_cons_succ]
    rewrite [String.toList_ofList]; decide +kernel
  · have h : textOf true true = (Gen.introDocs[3]'(by decide)).2.2 := rfl
    rw [h]; simp only [Gen.introDocs, List.getElem_cons_zero, List.getElem_cons_succ]
    rewrite [String.toList_ofList]; decide +kernel

/-- the body has exactly the members `variables`, `query`, `operationName`, carrying the selected
document verbatim; the request is a POST with the trimmed headers (names lower-cased by `http`) in
order and `authorization: Bearer <token>` last -/
theorem request_shape (loc : String) (hs : List (String × String)) (auth : Option String) (o u : Bool) (r : Request)
    (h : buildRequest loc hs auth o u = .ok r) :
    r.method = "POST" ∧ r.url = loc ∧
    r.body = .obj [("variables", .null), ("query", .str (textOf o u)), ("operationName", .str (opOf o u))] ∧
    r.headers = [("content-type", "application/json"), ("accept", "application/json")] ++
      hs.map (fun nv => (String.ofList (lowerAscii nv.1.toList), nv.2)) ++
      (match auth with | some t => [("authorization", "Bearer " ++ t)] | none => []) := by
  unfold buildRequest at h
  unfold opOf textOf
  cases hd : selectDoc o u with
  | none => rw [hd] at h; cases h
  | some d =>
    obtain ⟨op, file, text⟩ := d
    rw [hd] at h
    simp only [] at h
    split at h
    · cases h
    · cases auth with
      | none => simp only [Except.ok.injEq] at h; subst h; simp [requestBody]
      | some t =>
        simp only [] at h
        split at h
        · simp only [Except.ok.injEq] at h; subst h; simp [requestBody]
        · cases h

/-! ## the output file -/

/-- **failure ⇒ nothing is touched**: whatever the server does and whatever the file contained (or
whether it existed), an unsuccessful run leaves the `--output` file and stdout exactly as they were -/
theorem out_file_safe (beh : ServerBehaviour) (output creatable : Bool) (w : World) :
    (introspect beh output creatable w).1 ≠ .success → (introspect beh output creatable w).2 = w := by
  intro h
  unfold introspect at h ⊢
  cases beh with
  | ok200Json j =>
    cases output <;> cases creatable <;> simp_all
  | cutMidReply b => cases b <;> rfl
  | _ => rfl

/-- only a 2xx reply with a JSON body succeeds (given the file can be created) -/
theorem success_iff (beh : ServerBehaviour) (output creatable : Bool) (w : World) :
    (introspect beh output creatable w).1 = .success ↔
      (∃ j, beh = .ok200Json j) ∧ (output = true → creatable = true) := by
  unfold introspect
  cases beh with
  | ok200Json j => cases output <;> cases creatable <;> simp
  | cutMidReply b => cases b <;> simp
  | _ => simp

/-- **success ⇒ the file holds exactly the pretty-printed JSON that was served** (whatever it held before) -/
theorem out_file_written (j : Json) (w : World) :
    introspect (.ok200Json j) true true w = (.success, { file := some (pretty j), stdout := w.stdout }) := by
  simp [introspect]

/-- with `--output`, stdout is never written, in any outcome -/
theorem stdout_untouched (beh : ServerBehaviour) (creatable : Bool) (w : World) :
    (introspect beh true creatable w).2.stdout = w.stdout := by
  unfold introspect
  cases beh with
  | ok200Json j => cases creatable <;> simp
  | cutMidReply b => cases b <;> rfl
  | _ => rfl

/-- without `--output` no file is touched, and on success stdout receives exactly the pretty JSON -/
theorem stdout_written (beh : ServerBehaviour) (creatable : Bool) (w : World) :
    (introspect beh false creatable w).2.file = w.file ∧
    (∀ j, beh = .ok200Json j → (introspect beh false creatable w).2.stdout = w.stdout ++ pretty j) := by
  unfold introspect
  cases beh with
  | ok200Json j => simp
  | cutMidReply b => cases b <;> simp
  | _ => simp

example : (introspect (.status5xx "boom") true true { file := some "old", stdout := "" }).1 ≠ .success := by decide +kernel

end C20
end GqlVerif
