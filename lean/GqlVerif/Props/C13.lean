import GqlVerif.Model.Codegen
import GqlVerif.Model.Intro
import GqlVerif.Model.Gen.Consts
/-!
# C13 — one exact rule maps GraphQL type modifiers to Option / Vec nesting

Specification (`rustOf`): non-null removes one `Option`, a list becomes `Vec`, at every level.
Theorems: the code's `decorate_type` (a right-to-left fold over the flat qualifier list with a
one-bit state) computes exactly `rustOf` for **every** well-formed type expression, of any depth;
it panics exactly on `!!` (which neither parser produces); both schema front-ends extract the same
qualifier list; the built-in scalar aliases are the documented ones.
-/
namespace GqlVerif
namespace C13

/-! ## the specification -/
mutual
  /-- Rust type of a type expression in non-null context -/
  def rustOfNN (b : RTy) : GTy → RTy
    | .named _ => b
    | .list t => .vec (rustOf b t)
    | .nonNull t => rustOfNN b t
  /-- Rust type of a type expression -/
  def rustOf (b : RTy) : GTy → RTy
    | .nonNull t => rustOfNN b t
    | .named n => .opt (rustOfNN b (.named n))
    | .list t => .opt (rustOfNN b (.list t))
end

/-- well-formed: no `!!` (the GraphQL grammar has no such type, so neither schema parser produces one) -/
def wf : GTy → Bool
  | .named _ => true
  | .list t => wf t
  | .nonNull (.nonNull _) => false
  | .nonNull t => wf t

example : rustOf (.path "i64") (.nonNull (.list (.list (.nonNull (.named "Int"))))) =
    .vec (.opt (.vec (.path "i64"))) := by simp [rustOf, rustOfNN]   -- `[[Int!]]!` is `Vec<Option<Vec<i64>>>`

/-! ## the fold state after reading the qualifiers of `t` -/

def isNN : GTy → Bool
  | .nonNull _ => true
  | _ => false

/-- what `decorateType` returns from the state `(t, nn)` its fold ends in: `t` if the outermost qualifier was `!`, else `Option<t>` -/
def final (st : RTy × Bool) : RTy := if st.2 then st.1 else .opt st.1

theorem rustOf_eq (b : RTy) (t : GTy) : rustOf b t = final (rustOfNN b t, isNN t) := by
  cases t <;> simp [rustOf, rustOfNN, final, isNN]

theorem foldlM_snoc (f : RTy × Bool → Qual → Outcome (RTy × Bool)) (init : RTy × Bool) (qs : List Qual) (q : Qual) :
    (qs ++ [q]).foldlM f init = (qs.foldlM f init >>= fun st => f st q) := by
  simp [List.foldlM_append]

/-- the fold over the reversed qualifier list reaches `(rustOfNN t, isNN t)` -/
theorem fold_state (b : RTy) (t : GTy) (h : wf t = true) :
    (GTy.quals t).reverse.foldlM Codegen.decorateStep (b, false) = .ok (rustOfNN b t, isNN t) := by
  induction t with
  | named n => simp [GTy.quals, rustOfNN, isNN]; rfl
  | list t ih =>
    have h' : wf t = true := by simpa [wf] using h
    simp only [GTy.quals, List.reverse_cons, foldlM_snoc, ih h']
    show Codegen.decorateStep (rustOfNN b t, isNN t) Qual.list = _
    rw [rustOfNN, rustOf_eq]
    cases hnn : isNN t <;> simp [Codegen.decorateStep, final, isNN] <;> rfl
  | nonNull t ih =>
    have h' : wf t = true := by
      cases t <;> simp_all [wf]
    have hnn : isNN t = false := by
      cases t <;> simp_all [wf, isNN]
    simp only [GTy.quals, List.reverse_cons, foldlM_snoc, ih h']
    show Codegen.decorateStep (rustOfNN b t, isNN t) Qual.required = _
    rw [hnn]
    simp [Codegen.decorateStep, rustOfNN, isNN]; rfl

/-! ## `decorate_type` against the specification -/

/-- **C13.** For every well-formed type expression (any list depth, any placement of
`!`) and every base type, `decorate_type` returns exactly the Rust type the documented rule gives. -/
theorem decorate_spec (b : RTy) (t : GTy) (h : wf t = true) :
    Codegen.decorateType b (GTy.quals t) = .ok (rustOf b t) := by
  unfold Codegen.decorateType
  rw [fold_state b t h, rustOf_eq]
  simp [final]
  cases isNN t <;> rfl

/-- `!!` makes `decorate_type` panic instead of silently producing a type -/
theorem decorate_double_required_panics (b : RTy) (t : GTy) (h : wf t = true) :
    Codegen.decorateType b (GTy.quals (.nonNull (.nonNull t))) = .error (.panic "double required annotation") := by
  unfold Codegen.decorateType
  have hq : (GTy.quals (.nonNull (.nonNull t))).reverse = ((GTy.quals t).reverse ++ [Qual.required]) ++ [Qual.required] := by
    simp [GTy.quals]
  rw [hq, foldlM_snoc, foldlM_snoc, fold_state b t h]
  cases hnn : isNN t
  · simp [Codegen.decorateStep, bind, Except.bind, panic', pure, Except.pure]
  · simp [Codegen.decorateStep, bind, Except.bind, panic']

/-- the introspection rendering of a type expression (`__Type` with `ofType` chain) -/
def toTypeRef (kind : String) : GTy → TypeRef
  | .named n => .mk (some kind) (some n) none
  | .list t => .mk (some "LIST") none (some (toTypeRef kind t))
  | .nonNull t => .mk (some "NON_NULL") none (some (toTypeRef kind t))

/-- **both front-ends read the same qualifiers**: the JSON path applied to the introspection
rendering of `t` yields exactly `quals t` (and the named type's id), for every `t`. -/
theorem quals_json_eq_sdl (s : Schema) (kind : String) (t : GTy) (id : TypeId)
    (hk : kind ≠ "NON_NULL" ∧ kind ≠ "LIST") (hid : namesGet t.base s.names = some id) :
    Intro.fromJsonType s (toTypeRef kind t) = .ok { id := id, quals := GTy.quals t } ∧
    resolveFieldType s t = .ok { id := id, quals := GTy.quals t } := by
  constructor
  · induction t with
    | named n =>
      simp only [toTypeRef, GTy.base] at *
      unfold Intro.fromJsonType
      split <;> simp_all [GTy.quals] <;> rfl
    | list t ih =>
      have := ih (by simpa [GTy.base] using hid)
      simp [toTypeRef, Intro.fromJsonType, this, GTy.quals, bind, Except.bind, pure, Except.pure]
    | nonNull t ih =>
      have := ih (by simpa [GTy.base] using hid)
      simp [toTypeRef, Intro.fromJsonType, this, GTy.quals, bind, Except.bind, pure, Except.pure]
  · simp [resolveFieldType, Schema.findTypeId, Schema.findType, hid, bind, Except.bind, pure, Except.pure]

/-- the built-in scalars map to the documented Rust types (aliases emitted in every module) -/
theorem builtin_alias_map :
    Codegen.builtinAliases =
      [.alias "Boolean" false (.path "bool"), .alias "Float" false (.path "f64"),
       .alias "Int" false (.path "i64"), .alias "ID" false (.path "String")] := rfl

/-- the model's aliases are the ones the *current source* emits (table regenerated by the translator
on every run: a change to the aliases in `codegen.rs` breaks this obligation) -/
theorem builtin_alias_source :
    Codegen.builtinAliases = Gen.builtinAliases.map (fun ab => Item.alias ab.1 false (.path ab.2)) := by
  simp [Codegen.builtinAliases, Gen.builtinAliases]

/-- the rule is the same at every position: response fields, variables and input fields all go
through `decorate_type` on the schema's qualifier list (response side, stated on `renderField`). -/
theorem response_field_type (c : Codegen.Ctx) (g : Option String) (r ft : String) (t : GTy)
    (h : wf t = true) (f : RField)
    (hr : Codegen.renderField c g r ft (GTy.quals t) false false none = .ok (some f)) :
    f.ty = rustOf (.path ft) t := by
  unfold Codegen.renderField at hr
  rw [decorate_spec _ _ h] at hr
  simp [bind, Except.bind, pure, Except.pure] at hr
  rw [← hr]

end C13
end GqlVerif
