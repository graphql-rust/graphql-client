import GqlVerif.Props.C03
import GqlVerif.Props.C16
import GqlVerif.Proofs.C01Layers
/-!
# C01 — every spec-conforming response deserializes losslessly into ResponseData

Leaf positions at every modifier depth, proved here for all type expressions and values:

* `accepts_mono` — admitting more at the leaves admits more at every type expression;
* `conforming_int_accepted` — a value conforming to a GraphQL `Int` type expression (32-bit
  integers at the leaves, nulls only where allowed, lists where required) is accepted by the
  generated Rust type, at any list depth and `!` placement; likewise `conforming_string_accepted`,
  `conforming_id_accepted` (ID as string **or** integer, through the helper the generator attaches);
* `int_roundtrip_leaf`, `string_roundtrip_leaf`, `id_canonical_leaf` — what is read is written back
  unchanged, except that an integer ID comes back as its decimal string (the difference the property allows).

The layers L1–L4 are proved in `GqlVerif/Proofs/C01Layers.lean` (same namespace), together with the writer of a plain
struct (C04); `Audit/C01.lean` audits the statements of this file and the layer theorems named first in each bullet (for L4:
`flatten_eq`, `flatten_take_roundtrip`, `flatten_roundtrip`, which rest on the general statements named after them):

* L1 `leaf_roundtrip`, `leaf_lossless`, `*_position_rt`, `id_field_roundtrip` — at every type expression:
  what is read is written back as `canon leafCanon t j` (identity at the leaves except integer ID →
  decimal string);
* L2 `struct_accepts`, `struct_roundtrip`, `struct_roundtrip_lookup`, `struct_roundtrip_keys`,
  `unknown_keys_ignored`, `struct_position_roundtrip` — plain structs, nested objects and lists of
  objects along a selection tree (`__typename` and unselected keys are dropped, nothing else);
* L3 `tagged_read`, `tagged_roundtrip` — `__typename`-tagged enums;
* L4 `flatten_eq`, `flatten_take_roundtrip`, `flatten_roundtrip` — one flattened fragment struct with
  keys disjoint from the own fields' keys; any number of flattened members, each described by `ReadsAs`:
  `deStructMap_members`, `memberVals_whole` (where key disjointness enters), `deStruct_finds_with`, `ser_flat`;
* `overlap_loses_key`, `overlap_loses_key_silently`, `disjoint_control` — the known finding
  `C01-overlap` as theorems about the model (and the disjointness hypothesis is exactly what L4 needs).

The composition of all layers along a generated module is in the other `GqlVerif/Proofs/C01*.lean`: end-to-end
statements over `Codegen.responseForQuery`, one family of files per class of operations (`C01EndToEnd*` for `TreeOp`,
`C01Abstract*`, `C01VariantSpread*`, `C01Mixed*`, `C01Nested*`, `C01AliasFrag*`, `C01Recursive*`, `C01Deny*`, `C01Rust*`;
DESIGN.md §10.1 says how they hang together), with `C01TopLevel` the step to `Serde.de` / `Serde.ser` shared by all.
-/
namespace GqlVerif
namespace C01
open Serde Spec C13 C03

/-- GraphQL `Int`: a signed 32-bit integer -/
def int32Ok : Json → Bool
  | .int n => -2147483648 ≤ n && n ≤ 2147483647
  | _ => false

/-- `accepts_mono` relative to a class `Q` of values that contains the elements of its arrays (all values; the values
    below some size) -/
theorem accepts_mono_on (Q : Json → Prop) (hQ : ∀ xs, Q (.arr xs) → ∀ x ∈ xs, Q x) (ok ok' : Json → Bool)
    (h : ∀ j, Q j → ok j = true → ok' j = true) :
    ∀ t : GTy, (∀ j, Q j → acceptsNN ok t j = true → acceptsNN ok' t j = true) ∧
               (∀ j, Q j → accepts ok t j = true → accepts ok' t j = true) := by
  intro t
  induction t with
  | named n =>
    have hnn : ∀ j, Q j → acceptsNN ok (.named n) j = true → acceptsNN ok' (.named n) j = true := by
      intro j hq; simpa [acceptsNN] using h j hq
    refine ⟨hnn, fun j hq hj => ?_⟩
    simp only [accepts, Bool.or_eq_true] at hj ⊢
    exact hj.imp id (hnn j hq)
  | list t ih =>
    have hnn : ∀ j, Q j → acceptsNN ok (.list t) j = true → acceptsNN ok' (.list t) j = true := by
      intro j hq hj
      cases j with
      | arr xs =>
        simp only [acceptsNN, List.all_eq_true] at hj ⊢
        intro x hx; exact ih.2 x (hQ xs hq x hx) (hj x hx)
      | null => simp [acceptsNN] at hj
      | bool b => simp [acceptsNN] at hj
      | int n => simp [acceptsNN] at hj
      | num s => simp [acceptsNN] at hj
      | str s => simp [acceptsNN] at hj
      | obj kvs => simp [acceptsNN] at hj
    refine ⟨hnn, fun j hq hj => ?_⟩
    simp only [accepts, Bool.or_eq_true] at hj ⊢
    exact hj.imp id (hnn j hq)
  | nonNull t ih =>
    exact ⟨fun j hq hj => by simpa [acceptsNN] using ih.1 j hq (by simpa [acceptsNN] using hj),
           fun j hq hj => by simpa [accepts] using ih.1 j hq (by simpa [accepts] using hj)⟩

theorem accepts_mono (ok ok' : Json → Bool) (h : ∀ j, ok j = true → ok' j = true) :
    ∀ t : GTy, (∀ j, acceptsNN ok t j = true → acceptsNN ok' t j = true) ∧
               (∀ j, accepts ok t j = true → accepts ok' t j = true) := fun t =>
  have H := accepts_mono_on (fun _ => True) (fun _ _ _ _ => trivial) ok ok' (fun j _ => h j) t
  ⟨fun j => H.1 j trivial, fun j => H.2 j trivial⟩

theorem int32_is_i64 (j : Json) (h : int32Ok j = true) : intOk j = true := by
  cases j <;> simp_all [int32Ok, intOk, i64Ok]
  omega

theorem conforming_int_accepted (e : Env) (b : Bool) (fuel : Nat)
    (h : e.find "Int" = some (.alias "Int" false (.path "i64"))) (t : GTy) (hw : wf t = true) (j : Json)
    (hc : accepts int32Ok t j = true) :
    okB (deTy e b (fuel + 2) (rustOf (.path "Int") t) j) = true := by
  rw [int_position e b fuel h t hw j]
  exact (accepts_mono int32Ok intOk int32_is_i64 t).2 j hc

theorem conforming_string_accepted (e : Env) (b : Bool) (fuel : Nat) (t : GTy) (hw : wf t = true) (j : Json)
    (hc : accepts stringOk t j = true) :
    okB (deTy e b (fuel + 1) (rustOf (.path "String") t) j) = true := by
  rw [string_position e b fuel t hw j]; exact hc

/-- every value conforming to an `ID` type expression (strings or 64-bit integers at the leaves) is
    accepted by the field the generator emits for it, at any depth -/
theorem conforming_id_accepted (t : GTy) (hw : wf t = true) (j : Json) (hc : accepts idOk t j = true) :
    okB (deHelper (C16.idHelperFor t) (rustOf (.path "ID") t) j) = true := by
  rw [C16.id_field_iff t hw j]; exact hc

theorem int_roundtrip_leaf (n : Int) (h : inI64 n = true) :
    (dePrim "i64" (.int n)) = some (.ok (.int n)) ∧ serPrim (.int n) = some (.int n) := by
  simp [dePrim, h, pure, Except.pure, serPrim]

theorem string_roundtrip_leaf (s : String) :
    (dePrim "String" (.str s)) = some (.ok (.str s)) ∧ serPrim (.str s) = some (.str s) := by
  simp [dePrim, pure, Except.pure, serPrim]

theorem id_canonical_leaf (n : Int) (h : i64Ok n = true) :
    deIntOrString (.int n) = .ok (.str (toString n)) ∧ serPrim (.str (toString n)) = some (.str (toString n)) :=
  ⟨C16.id_int n h, rfl⟩

example : accepts int32Ok (.nonNull (.list (.list (.nonNull (.named "Int")))))
    (.arr [.null, .arr [.int 1, .int (-2147483648)], .arr []]) = true := by
  simp [accepts, acceptsNN, int32Ok, Json.isNull]

end C01
end GqlVerif
