import GqlVerif.Props.C03
/-!
# C16 — ID fields accept strings and integers, canonically, wherever ID appears

* `id_int`, `id_str`, `id_reject` — the integer-or-string helper: every 64-bit signed integer becomes
  its decimal string, every string is taken verbatim, everything else (larger integers, floats,
  booleans, arrays, objects, null) is rejected;
* `nested_id_iff` — the helper used under lists reads exactly the JSON admitted by the ID type
  expression, for **every** nesting of lists and `!` (and in the Rust type `rustOf "ID" t` it is
  applied to, i.e. it type-checks in the model's sense: it only ever meets `Option` / `Vec` / leaf);
* `id_field_iff` — the field emitted for an ID position of type `t` (helper chosen by
  `renderField`, `#[serde(default)]` when nullable) accepts exactly `Spec.accepts idOk t`;
* `attach_iff_ID` — `renderField` attaches a helper iff the field's type name is `ID`;
* `absent_nullable_id_is_none` — a nullable ID whose key is absent reads as `None`
  (the `default` attribute; without it `deserialize_with` makes the key mandatory);
* `absent_id_without_default_rejected`.
-/
namespace GqlVerif
namespace C16
open Serde Spec C13 C03

/-- every 64-bit signed integer is accepted and becomes its decimal string -/
theorem id_int (n : Int) (h : i64Ok n = true) : deIntOrString (.int n) = .ok (.str (toString n)) := by
  have : inI64 n = true := by
    simp only [inI64, i64Ok, i64Min, i64Max] at h ⊢; exact h
  simp [deIntOrString, this, pure, Except.pure]

/-- every string is taken verbatim -/
theorem id_str (s : String) : deIntOrString (.str s) = .ok (.str s) := rfl

/-- everything else is rejected: integers outside i64, floats, booleans, arrays, objects, null -/
theorem id_reject (j : Json) (h : idOk j = false) : okB (deIntOrString j) = false := by
  cases j with
  | int n =>
    have : inI64 n = false := by
      simp only [idOk, inI64, i64Ok, i64Min, i64Max] at h ⊢; exact h
    simp [deIntOrString, this, okB, bad]
  | str s => simp [idOk] at h
  | null => rfl
  | bool b => rfl
  | num t => rfl
  | arr xs => rfl
  | obj kvs => rfl

theorem okB_intOrString (j : Json) : okB (deIntOrString j) = idOk j := by
  cases hj : idOk j
  · exact id_reject j hj
  · cases j with
    | int n => rw [id_int n (by simpa [idOk] using hj)]; rfl
    | str s => rfl
    | null => simp [idOk] at hj
    | bool b => simp [idOk] at hj
    | num t => simp [idOk] at hj
    | arr xs => simp [idOk] at hj
    | obj kvs => simp [idOk] at hj

theorem okB_nested_opt (t : RTy) (j : Json) :
    okB (deNestedId (.opt t) j) = (j.isNull || okB (deNestedId t j)) := by
  rw [show deNestedId (RTy.opt t) j = (if j.isNull then pure .unit else Val.some <$> deNestedId t j) from rfl]
  cases hj : j.isNull
  · simp [okB_map]
  · simp [okB, pure, Except.pure]

theorem okB_nested_vec (t : RTy) (j : Json) :
    okB (deNestedId (.vec t) j) = (match j with | .arr xs => xs.all (fun x => okB (deNestedId t x)) | _ => false) := by
  cases j with
  | arr xs =>
    rw [show deNestedId (RTy.vec t) (.arr xs) = Val.list <$> xs.mapM (deNestedId t) from rfl]
    simp only [okB_map, okB_mapM]
  | null => rfl
  | bool b => rfl
  | int n => rfl
  | num s => rfl
  | str s => rfl
  | obj kvs => rfl

/-- **the nested helper reads exactly the admitted values**, at every list depth and `!` placement -/
theorem nested_id_iff : ∀ t : GTy, wf t = true →
    (∀ j, okB (deNestedId (rustOfNN (.path "ID") t) j) = acceptsNN idOk t j) ∧
    (∀ j, okB (deNestedId (rustOf (.path "ID") t) j) = accepts idOk t j) := by
  intro t
  induction t with
  | named n =>
    intro _
    have hnn : ∀ j, okB (deNestedId (rustOfNN (.path "ID") (.named n)) j) = acceptsNN idOk (.named n) j := by
      intro j; simp [rustOfNN, deNestedId, acceptsNN, okB_intOrString]
    exact ⟨hnn, fun j => by simp only [rustOf, accepts, okB_nested_opt, hnn]⟩
  | list t ih =>
    intro hw
    obtain ⟨_, ih2⟩ := ih (by simpa [wf] using hw)
    have hnn : ∀ j, okB (deNestedId (rustOfNN (.path "ID") (.list t)) j) = acceptsNN idOk (.list t) j := by
      intro j
      simp only [rustOfNN, okB_nested_vec]
      cases j <;> simp [ih2, acceptsNN]
    exact ⟨hnn, fun j => by simp only [rustOf, accepts, okB_nested_opt, hnn]⟩
  | nonNull t ih =>
    intro hw
    obtain ⟨ih1, _⟩ := ih (wf_of_nonNull hw)
    have hnn : ∀ j, okB (deNestedId (rustOfNN (.path "ID") (.nonNull t)) j) = acceptsNN idOk (.nonNull t) j := by
      intro j; simp only [rustOfNN, acceptsNN]; exact ih1 j
    exact ⟨hnn, fun j => by simp only [rustOf, accepts]; exact ih1 j⟩

/-! ## the field the generator emits for an ID position -/

/-- what `renderField` returns when it returns a field -/
theorem renderField_fields (c : Codegen.Ctx) (g : Option String) (r ft : String) (quals : List Qual) (fl bx : Bool)
    (dep : Option (Option String)) (f : RField)
    (h : Codegen.renderField c g r ft quals fl bx dep = .ok (some f)) :
    f.deserWith =
      (if !(ft == "ID") then none
       else if quals.contains .list then some "graphql_client::serde_with::deserialize_nested_id"
       else if quals.contains .required then some "graphql_client::serde_with::deserialize_id"
       else some "graphql_client::serde_with::deserialize_option_id") ∧
    f.default = (ft == "ID" && (match quals with | q :: _ => q != .required | [] => true)) ∧
    f.rust = r ∧ f.flatten = fl := by
  unfold Codegen.renderField at h
  cases hd : Codegen.decorateType (.path ft) quals with
  | error e => simp [hd, bind, Except.bind] at h
  | ok ty =>
    simp only [hd, bind, Except.bind] at h
    split at h
    · simp [pure, Except.pure] at h
    · simp only [pure, Except.pure, Except.ok.injEq, Option.some.injEq] at h
      subst h
      exact ⟨rfl, by cases quals <;> rfl, rfl, rfl⟩

theorem attach_iff_ID (c : Codegen.Ctx) (g : Option String) (r ft : String) (quals : List Qual) (fl bx : Bool)
    (dep : Option (Option String)) (f : RField)
    (h : Codegen.renderField c g r ft quals fl bx dep = .ok (some f)) :
    f.deserWith.isSome = (ft == "ID") := by
  rw [(renderField_fields c g r ft quals fl bx dep f h).1]
  by_cases hid : ft = "ID"
  · subst hid
    simp only [beq_self_eq_true, Bool.not_true, Bool.false_eq_true, ↓reduceIte]
    split
    · rfl
    · split <;> rfl
  · simp [hid]

/-- the helper `renderField` chooses for an ID position whose qualifiers are `quals t` -/
def idHelperFor (t : GTy) : String :=
  if (GTy.quals t).contains .list then "graphql_client::serde_with::deserialize_nested_id"
  else if (GTy.quals t).contains .required then "graphql_client::serde_with::deserialize_id"
  else "graphql_client::serde_with::deserialize_option_id"

theorem quals_no_list_no_req {t : GTy} (hw : wf t = true) (hl : (GTy.quals t).contains .list = false)
    (hr : (GTy.quals t).contains .required = false) : ∃ n, t = .named n := by
  cases t with
  | named n => exact ⟨n, rfl⟩
  | list t => simp [GTy.quals] at hl
  | nonNull t => simp [GTy.quals] at hr

theorem quals_no_list_req {t : GTy} (hw : wf t = true) (hl : (GTy.quals t).contains .list = false)
    (hr : (GTy.quals t).contains .required = true) : ∃ n, t = .nonNull (.named n) := by
  cases t with
  | named n => simp [GTy.quals] at hr
  | list t => simp [GTy.quals] at hl
  | nonNull t =>
    cases t with
    | named n => exact ⟨n, rfl⟩
    | list t => simp [GTy.quals] at hl
    | nonNull t => simp [wf] at hw

/-- what the helper chosen for `t` does: the nested reader under lists, the plain one at `ID!`, the optional one
    at `ID` -/
theorem deHelper_idHelperFor (t : GTy) (ty : RTy) (j : Json) :
    deHelper (idHelperFor t) ty j =
      (if (GTy.quals t).contains .list then deNestedId ty j
       else if (GTy.quals t).contains .required then deIntOrString j
       else if j.isNull then pure .unit else Val.some <$> deIntOrString j) := by
  have h1 : ("graphql_client::serde_with::deserialize_nested_id" == "graphql_client::serde_with::deserialize_id") = false := by decide
  have h2 : ("graphql_client::serde_with::deserialize_nested_id" == "graphql_client::serde_with::deserialize_option_id") = false := by decide
  have h3 : ("graphql_client::serde_with::deserialize_option_id" == "graphql_client::serde_with::deserialize_id") = false := by decide
  unfold idHelperFor deHelper
  cases (GTy.quals t).contains .list
  · cases (GTy.quals t).contains .required
    · simp only [Bool.false_eq_true, ↓reduceIte, h3, beq_self_eq_true]
    · simp only [Bool.false_eq_true, ↓reduceIte, beq_self_eq_true]
  · simp only [↓reduceIte, h1, h2, Bool.false_eq_true, beq_self_eq_true]

/-- **the emitted ID field accepts exactly the values of its GraphQL type**: helper and Rust type
    agree for every list / non-null nesting -/
theorem id_field_iff (t : GTy) (hw : wf t = true) (j : Json) :
    okB (deHelper (idHelperFor t) (rustOf (.path "ID") t) j) = accepts idOk t j := by
  rw [deHelper_idHelperFor]
  cases hl : (GTy.quals t).contains .list
  · cases hr : (GTy.quals t).contains .required
    · obtain ⟨n, rfl⟩ := quals_no_list_no_req hw hl hr
      simp only [Bool.false_eq_true, ↓reduceIte, accepts, acceptsNN]
      cases hj : j.isNull
      · simp [okB_map, okB_intOrString]
      · simp [okB, pure, Except.pure]
    · obtain ⟨n, rfl⟩ := quals_no_list_req hw hl hr
      simp [accepts, acceptsNN, okB_intOrString]
  · simp only [↓reduceIte]
    exact (nested_id_iff t hw).2 j

/-- a nullable ID whose key is absent reads as `None` -/
theorem absent_nullable_id_is_none (f : RField) (hd : f.default = true) : missingField f = .ok .unit := by
  simp [missingField, hd, pure, Except.pure]

/-- without `#[serde(default)]` a helper makes the key mandatory (the pinned tree's behaviour for
    nullable IDs; still the behaviour, rightly, for non-null IDs) -/
theorem absent_id_without_default_rejected (f : RField) (hd : f.default = false) (hh : f.deserWith.isSome = true) :
    okB (missingField f) = false := by
  simp [missingField, hd, hh, okB, bad]

/-- `renderField` puts `default` on exactly the ID fields whose outermost level is nullable -/
theorem default_iff_nullable_id (c : Codegen.Ctx) (g : Option String) (r ft : String) (quals : List Qual)
    (fl bx : Bool) (dep : Option (Option String)) (f : RField)
    (h : Codegen.renderField c g r ft quals fl bx dep = .ok (some f)) :
    f.default = (ft == "ID" && (match quals with | q :: _ => q != .required | [] => true)) :=
  (renderField_fields c g r ft quals fl bx dep f h).2.1

example : wf (.nonNull (.list (.nonNull (.named "ID")))) = true ∧
    idHelperFor (.nonNull (.list (.nonNull (.named "ID")))) = "graphql_client::serde_with::deserialize_nested_id" := by decide

end C16
end GqlVerif
