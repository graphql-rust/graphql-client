import GqlVerif.Proofs.C08
/-!
# C08 — codegen is a pure function of its inputs across calls, threads and processes

Specification (`Cache.spec`, written from the property statement): a call returns
`generate (query value) (schema value) options`, where the two values are what the loaders return for
the call's paths on the (fixed) file system — nothing else.  A fresh process starts from the empty
cache, so "the call alone in a fresh process" is `step init call`, and `alone_eq_spec` shows it is `spec`.

Theorems (for **every** history, **every** number of threads and **every** schedule):

* `inv_step`, `inv_reachable`, `inv_reachable_interleaving`: every entry of either cache is the loader's
  value for its key, in every reachable state of every history and of every interleaving;
* `pure_history`: the i-th call of any history returns what it returns alone from the empty cache;
* `failed_call_no_effect`, `failed_load_state_unchanged`: a failed call changes no later outcome;
* `pure_interleaving`, `pure_interleaving_finished`: whatever the schedule, every completed call of every
  thread returned what it returns alone;
* `schedule_completes`: no action ever blocks (a measure decreases with every action of an unfinished thread);
* `no_stale_alias`, `same_basename_distinct`: results depend on content only; keys are full paths;
* negative witnesses, so that the record shows the theorems depend on the repaired code:
  `poisoning_breaks_purity` (old lock discipline) and `trailing_slash_alias` (old `PathBuf` keying).

The generic theorems carry one hypothesis, `Faithful S`: a loader cannot tell apart two paths with the
same key.  For the system `lib.rs` implements now (`rustSys`: key = the path as written) it holds
trivially (`rustSys_faithful`) and the `rust_*` corollaries have no hypothesis at all.
-/
namespace GqlVerif
namespace C08
open Cache

section generic
variable {P K QV SV O R : Type} [DecidableEq K]

/-- the loaders cannot tell apart two paths with the same cache key -/
def Faithful (S : Sys P K QV SV O R) : Prop :=
  KeyFaithful S.key S.loadQ ∧ KeyFaithful S.key S.loadS

/-- the cache invariant: every entry is what the loader returns for (every path with) its key -/
def Inv (S : Sys P K QV SV O R) (c : CacheState K QV SV) : Prop :=
  MInv S.key S.loadQ c.q ∧ MInv S.key S.loadS c.s

theorem inv_init (S : Sys P K QV SV O R) : Inv S .init := ⟨MInv_nil _ _, MInv_nil _ _⟩

/-! ### sequential histories -/

theorem stepSchema_result {S : Sys P K QV SV O R} (hF : Faithful S) {c : CacheState K QV SV}
    (hc : Inv S c) (qv : QV) (sp : P) (o : O) :
    (stepSchema S c qv sp o).2 = (S.loadS sp >>= fun sv => S.gen qv sv o) := by
  have h := getSet_result hF.2 hc.2 sp
  simp only [stepSchema, h]
  cases S.loadS sp <;> rfl

theorem stepSchema_inv {S : Sys P K QV SV O R} (hF : Faithful S) {c : CacheState K QV SV}
    (hc : Inv S c) (qv : QV) (sp : P) (o : O) : Inv S (stepSchema S c qv sp o).1 := by
  have h := getSet_inv hF.2 hc.2 sp
  simp only [stepSchema]
  split <;> exact ⟨hc.1, h⟩

/-- **a call returns its specification in every state satisfying the invariant** -/
theorem step_result {S : Sys P K QV SV O R} (hF : Faithful S) {c : CacheState K QV SV}
    (hc : Inv S c) (call : Call P O) : (step S c call).2 = spec S call := by
  cases call with
  | fromFile qp sp o =>
    have h := getSet_result hF.1 hc.1 qp
    have hi := getSet_inv hF.1 hc.1 qp
    cases hl : S.loadQ qp with
    | error e =>
      rw [hl] at h
      simp [step, h, hl, spec, queryVal, bind, Except.bind]
    | ok qv =>
      rw [hl] at h hi
      simp only [step, h, hl]
      rw [stepSchema_result hF (c := { c with q := (getSet c.q (S.key qp) (.ok qv)).1 }) ⟨hi, hc.2⟩]
      simp [spec, queryVal, hl, bind, Except.bind, Call.spath, Call.opts]
  | fromString t sp o =>
    simp only [step]
    cases hl : S.parseQ t with
    | error e => simp [spec, queryVal, hl, bind, Except.bind]
    | ok qv =>
      simp only
      rw [stepSchema_result hF hc]
      simp [spec, queryVal, hl, bind, Except.bind, Call.spath, Call.opts]

/-- **the invariant is preserved by every call** (successful or not) -/
theorem inv_step {S : Sys P K QV SV O R} (hF : Faithful S) {c : CacheState K QV SV}
    (hc : Inv S c) (call : Call P O) : Inv S (step S c call).1 := by
  cases call with
  | fromFile qp sp o =>
    have hi := getSet_inv hF.1 hc.1 qp
    simp only [step]
    split
    · exact ⟨hi, hc.2⟩
    · exact stepSchema_inv hF (c := { c with q := (getSet c.q (S.key qp) (S.loadQ qp)).1 }) ⟨hi, hc.2⟩ _ sp o
  | fromString t sp o =>
    simp only [step]
    split
    · exact hc
    · exact stepSchema_inv hF hc _ sp o

/-- **the invariant holds in every reachable state of every history** -/
theorem inv_reachable {S : Sys P K QV SV O R} (hF : Faithful S) (calls : List (Call P O))
    {c : CacheState K QV SV} (hc : Inv S c) : Inv S (run S c calls).1 := by
  induction calls generalizing c with
  | nil => exact hc
  | cons call rest ih => exact ih (inv_step hF hc call)

theorem outcomes_eq_spec {S : Sys P K QV SV O R} (hF : Faithful S) (calls : List (Call P O))
    {c : CacheState K QV SV} (hc : Inv S c) : outcomes S c calls = calls.map (spec S) := by
  induction calls generalizing c with
  | nil => rfl
  | cons call rest ih =>
    have h1 := step_result hF hc call
    have h2 := ih (inv_step hF hc call)
    simp only [outcomes, run, List.map_cons] at h2 ⊢
    rw [h1, h2]

/-- the call alone, from the empty cache of a fresh process, returns its specification -/
theorem alone_eq_spec {S : Sys P K QV SV O R} (hF : Faithful S) (call : Call P O) :
    outcomes S .init [call] = [spec S call] := outcomes_eq_spec hF [call] (inv_init S)

/-- **every call of every finite history returns what it returns alone from an empty cache**
(also after failed calls: no hypothesis on the earlier calls) -/
theorem pure_history {S : Sys P K QV SV O R} (hF : Faithful S) (calls : List (Call P O)) (i : Nat)
    (h : i < calls.length) :
    (outcomes S .init calls)[i]? = (outcomes S .init [calls[i]])[0]? := by
  rw [outcomes_eq_spec hF calls (inv_init S), alone_eq_spec hF]
  simp [h]

/-- a call whose *first* failing stage is a load leaves that cache exactly as it was: in particular a
failing query load changes nothing at all -/
theorem failed_load_state_unchanged (S : Sys P K QV SV O R) (c : CacheState K QV SV) (qp sp : P) (o : O)
    (e : Err) (h : (getSet c.q (S.key qp) (S.loadQ qp)).2 = .error e) :
    (step S c (.fromFile qp sp o)).1 = c := by
  have hu := getSet_error_unchanged h
  simp only [step, h, hu]

/-- **a failure for one input never changes the outcome for another input**: after any call (in
particular a failed one) every later history returns exactly what it returns without that call -/
theorem failed_call_no_effect {S : Sys P K QV SV O R} (hF : Faithful S) {c : CacheState K QV SV}
    (hc : Inv S c) (call : Call P O) (rest : List (Call P O)) :
    outcomes S (step S c call).1 rest = outcomes S c rest := by
  rw [outcomes_eq_spec hF rest (inv_step hF hc call), outcomes_eq_spec hF rest hc]

/-! ### interleavings -/

/-- what the thread-local data of a program counter must satisfy -/
def PcOk (S : Sys P K QV SV O R) : Pc P QV SV O → Prop
  | .start _ => True
  | .computeQ _ => True
  | .insertQ call v => queryVal S call = .ok v
  | .lookupS call qv => queryVal S call = .ok qv
  | .computeS call qv => queryVal S call = .ok qv
  | .insertS call qv v => queryVal S call = .ok qv ∧ S.loadS call.spath = .ok v
  | .generate call qv sv => queryVal S call = .ok qv ∧ S.loadS call.spath = .ok sv

/-- thread invariant w.r.t. its program: the completed calls are a prefix of the program, each with
its specified result; the local data of the call in progress are loader values -/
def TInv (S : Sys P K QV SV O R) (prog : List (Call P O)) (t : Thread P QV SV O R) : Prop :=
  (∀ pc, t.cur = some pc → PcOk S pc) ∧ (t.cur = none → t.todo = []) ∧
  ∃ pre, prog = pre ++ t.pending ∧ t.done = pre.map (spec S)

omit [DecidableEq K] in
theorem TInv_ofProg (S : Sys P K QV SV O R) (prog : List (Call P O)) : TInv S prog (Thread.ofProg prog) := by
  cases prog with
  | nil => exact ⟨by intro pc h; simp [Thread.ofProg] at h, fun _ => rfl, [], rfl, rfl⟩
  | cons c cs =>
    refine ⟨?_, by intro h; simp [Thread.ofProg] at h, [], rfl, rfl⟩
    intro pc h
    simp [Thread.ofProg] at h
    subst h
    trivial

omit [DecidableEq K] in
/-- completing the current call with its specified result keeps the thread invariant -/
theorem TInv_finish {S : Sys P K QV SV O R} {prog : List (Call P O)} {t : Thread P QV SV O R} {pc : Pc P QV SV O}
    (ht : TInv S prog t) (hcur : t.cur = some pc) {r : Outcome R} (hr : r = spec S pc.call) :
    TInv S prog (t.finish r) := by
  obtain ⟨_, _, pre, hpre, hdone⟩ := ht
  unfold Thread.finish
  cases htodo : t.todo with
  | nil =>
    refine ⟨by intro pc' h; simp at h, fun _ => rfl, pre ++ [pc.call], ?_, ?_⟩
    · simp [Thread.pending, hpre, hcur, htodo]
    · simp [hdone, hr]
  | cons c cs =>
    refine ⟨?_, by intro h; simp at h, pre ++ [pc.call], ?_, ?_⟩
    · intro pc' h; simp at h; subst h; trivial
    · simp [Thread.pending, hpre, hcur, htodo, Pc.call]
    · simp [hdone, hr]

omit [DecidableEq K] in
/-- moving to another program counter of the same call keeps the thread invariant -/
theorem TInv_goto {S : Sys P K QV SV O R} {prog : List (Call P O)} {t : Thread P QV SV O R} {pc pc' : Pc P QV SV O}
    (ht : TInv S prog t) (hcur : t.cur = some pc) (hcall : pc'.call = pc.call) (hok : PcOk S pc') :
    TInv S prog (t.goto pc') := by
  obtain ⟨_, _, pre, hpre, hdone⟩ := ht
  refine ⟨?_, by intro h; simp [Thread.goto] at h, pre, ?_, hdone⟩
  · intro pc'' h; simp [Thread.goto] at h; subst h; exact hok
  · simpa [Thread.pending, Thread.goto, hcur, hcall] using hpre

omit [DecidableEq K] in
theorem spec_of_queryVal_error {S : Sys P K QV SV O R} {call : Call P O} {e : Err}
    (h : queryVal S call = .error e) : (.error e : Outcome R) = spec S call := by
  simp [spec, h, bind, Except.bind]

omit [DecidableEq K] in
theorem spec_of_loadS_error {S : Sys P K QV SV O R} {call : Call P O} {qv : QV} {e : Err}
    (hq : queryVal S call = .ok qv) (h : S.loadS call.spath = .error e) : (.error e : Outcome R) = spec S call := by
  simp [spec, hq, h, bind, Except.bind]

omit [DecidableEq K] in
theorem spec_of_ok {S : Sys P K QV SV O R} {call : Call P O} {qv : QV} {sv : SV}
    (hq : queryVal S call = .ok qv) (h : S.loadS call.spath = .ok sv) : S.gen qv sv call.opts = spec S call := by
  simp [spec, hq, h, bind, Except.bind]

/-- **one atomic action of any thread preserves the cache invariant and the thread invariant** -/
theorem act_inv {S : Sys P K QV SV O R} (hF : Faithful S) {c : CacheState K QV SV} (hc : Inv S c)
    {prog : List (Call P O)} {t : Thread P QV SV O R} (ht : TInv S prog t) :
    Inv S (act S c t).1 ∧ TInv S prog (act S c t).2 := by
  unfold act
  cases hcur : t.cur with
  | none => exact ⟨hc, ht⟩
  | some pc =>
    have hpc : PcOk S pc := ht.1 pc hcur
    cases pc with
    | start call =>
      cases call with
      | fromFile qp sp o =>
        simp only
        cases hf : find c.q (S.key qp) with
        | some v => exact ⟨hc, TInv_goto ht hcur rfl (hc.1 qp v hf)⟩
        | none => exact ⟨hc, TInv_goto ht hcur rfl trivial⟩
      | fromString txt sp o =>
        simp only
        cases hp : S.parseQ txt with
        | error e => exact ⟨hc, TInv_finish ht hcur (spec_of_queryVal_error (call := .fromString txt sp o) hp)⟩
        | ok qv => exact ⟨hc, TInv_goto ht hcur rfl hp⟩
    | computeQ call =>
      cases call with
      | fromFile qp sp o =>
        simp only
        cases hl : S.loadQ qp with
        | error e => exact ⟨hc, TInv_finish ht hcur (spec_of_queryVal_error (call := .fromFile qp sp o) hl)⟩
        | ok v => exact ⟨hc, TInv_goto ht hcur rfl hl⟩
      | fromString txt sp o => simp only; exact ⟨hc, by rw [← hcur] at *; exact ht⟩
    | insertQ call v =>
      cases call with
      | fromFile qp sp o =>
        simp only
        have hi := insertGet_inv hF.1 hc.1 (p := qp) (v := v) hpc
        exact ⟨⟨hi.1, hc.2⟩, TInv_goto ht hcur rfl hi.2⟩
      | fromString txt sp o => simp only; exact ⟨hc, by rw [← hcur] at *; exact ht⟩
    | lookupS call qv =>
      simp only
      cases hf : find c.s (S.key call.spath) with
      | some sv => exact ⟨hc, TInv_goto ht hcur rfl ⟨hpc, hc.2 call.spath sv hf⟩⟩
      | none => exact ⟨hc, TInv_goto ht hcur rfl hpc⟩
    | computeS call qv =>
      simp only
      cases hl : S.loadS call.spath with
      | error e => exact ⟨hc, TInv_finish ht hcur (spec_of_loadS_error hpc hl)⟩
      | ok v => exact ⟨hc, TInv_goto ht hcur rfl ⟨hpc, hl⟩⟩
    | insertS call qv v =>
      simp only
      have hi := insertGet_inv hF.2 hc.2 (p := call.spath) (v := v) hpc.2
      exact ⟨⟨hc.1, hi.1⟩, TInv_goto ht hcur rfl ⟨hpc.1, hi.2⟩⟩
    | generate call qv sv =>
      simp only
      exact ⟨hc, TInv_finish ht hcur (spec_of_ok hpc.1 hpc.2)⟩

/-- the global invariant of a configuration running the programs `progs` -/
def GInv (S : Sys P K QV SV O R) (progs : List (List (Call P O))) (cfg : Config P K QV SV O R) : Prop :=
  Inv S cfg.cache ∧ Forall₂ (TInv S) progs cfg.threads

theorem ginv_start (S : Sys P K QV SV O R) (progs : List (List (Call P O))) :
    GInv S progs (Config.start progs) := by
  refine ⟨inv_init S, ?_⟩
  simp only [Config.start]
  induction progs with
  | nil => exact .nil
  | cons p ps ih => exact .cons (TInv_ofProg S p) ih

theorem ginv_stepAt {S : Sys P K QV SV O R} (hF : Faithful S) {progs : List (List (Call P O))}
    {cfg : Config P K QV SV O R} (h : GInv S progs cfg) (i : Nat) : GInv S progs (cfg.stepAt S i) := by
  unfold Config.stepAt
  cases ht : cfg.threads[i]? with
  | none => exact h
  | some t =>
    obtain ⟨prog, hprog, htinv⟩ := h.2.get i t ht
    have := act_inv hF h.1 htinv
    simp only
    refine ⟨this.1, h.2.set i _ ?_⟩
    intro a ha
    rw [hprog] at ha
    cases ha
    exact this.2

theorem ginv_exec {S : Sys P K QV SV O R} (hF : Faithful S) {progs : List (List (Call P O))}
    (sched : List Nat) {cfg : Config P K QV SV O R} (h : GInv S progs cfg) : GInv S progs (cfg.exec S sched) := by
  induction sched generalizing cfg with
  | nil => exact h
  | cons i rest ih => exact ih (ginv_stepAt hF h i)

/-- **the cache invariant holds in every reachable state of every interleaving** -/
theorem inv_reachable_interleaving {S : Sys P K QV SV O R} (hF : Faithful S) (progs : List (List (Call P O)))
    (sched : List Nat) : Inv S ((Config.start progs).exec S sched).cache :=
  (ginv_exec hF sched (ginv_start S progs)).1

/-- **for every schedule of every family of call sequences on any number of threads: the calls each
thread has completed are a prefix of its program, and each returned what it returns alone** -/
theorem pure_interleaving {S : Sys P K QV SV O R} (hF : Faithful S) (progs : List (List (Call P O)))
    (sched : List Nat) :
    Forall₂ (fun prog (t : Thread P QV SV O R) => ∃ pre, prog = pre ++ t.pending ∧ t.done = pre.map (spec S))
      progs ((Config.start progs).exec S sched).threads := by
  have h := (ginv_exec hF sched (ginv_start S progs)).2
  exact h.imp (fun _ _ hti => hti.2.2)

/-- … in particular a thread that has finished returned, for each of its calls, the call's result alone -/
theorem pure_interleaving_finished {S : Sys P K QV SV O R} (hF : Faithful S) (progs : List (List (Call P O)))
    (sched : List Nat) (i : Nat) (t : Thread P QV SV O R)
    (ht : ((Config.start progs).exec S sched).threads[i]? = some t) (hfin : t.finished = true) :
    ∃ prog, progs[i]? = some prog ∧ t.done = prog.map (spec S) := by
  obtain ⟨prog, hprog, pre, hpre, hdone⟩ := (pure_interleaving hF progs sched).get i t ht
  refine ⟨prog, hprog, ?_⟩
  have : t.pending = [] := by
    simp [Thread.finished] at hfin
    simp [Thread.pending, hfin]
  rw [this, List.append_nil] at hpre
  rw [hpre, hdone]

/-! ### no action ever blocks: a measure that strictly decreases -/

omit [DecidableEq K] in
theorem finish_measure (t : Thread P QV SV O R) (r : Outcome R) : (t.finish r).measure = 7 * t.todo.length := by
  unfold Thread.finish Thread.measure
  cases t.todo <;> simp [Pc.rank]; omega

/-- **every action of an unfinished (well-formed) thread makes progress**: so any schedule that gives
each thread `measure` turns completes it; nothing ever waits for another thread -/
theorem schedule_completes (S : Sys P K QV SV O R) (c : CacheState K QV SV) (t : Thread P QV SV O R)
    (pc : Pc P QV SV O) (hcur : t.cur = some pc) (hwf : pc.wf) :
    (act S c t).2.measure < t.measure ∧ (∀ pc', (act S c t).2.cur = some pc' → pc'.wf) := by
  have hm : t.measure = pc.rank + 7 * t.todo.length := by simp [Thread.measure, hcur]
  have hfin : ∀ r, (t.finish r).measure < t.measure ∧ (∀ pc', (t.finish r).cur = some pc' → pc'.wf) := by
    intro r
    refine ⟨by rw [finish_measure, hm]; cases pc <;> simp [Pc.rank], ?_⟩
    intro pc' h
    unfold Thread.finish at h
    cases htodo : t.todo with
    | nil => simp [htodo] at h
    | cons c cs => simp [htodo] at h; subst h; trivial
  have hgo : ∀ pc' : Pc P QV SV O, pc'.rank < pc.rank → pc'.wf →
      (t.goto pc').measure < t.measure ∧ (∀ pc'', (t.goto pc').cur = some pc'' → pc''.wf) := by
    intro pc' hr hw
    refine ⟨by simp only [Thread.goto, Thread.measure, hcur]; omega, ?_⟩
    intro pc'' h; simp [Thread.goto] at h; subst h; exact hw
  unfold act
  rw [hcur]
  cases pc with
  | start call =>
    cases call with
    | fromFile qp sp o =>
      simp only
      cases find c.q (S.key qp) <;> exact hgo _ (by simp [Pc.rank]) trivial
    | fromString txt sp o =>
      simp only
      cases S.parseQ txt with
      | error e => exact hfin _
      | ok qv => exact hgo _ (by simp [Pc.rank]) trivial
  | computeQ call =>
    cases call with
    | fromFile qp sp o =>
      simp only
      cases S.loadQ qp with
      | error e => exact hfin _
      | ok v => exact hgo _ (by simp [Pc.rank]) trivial
    | fromString txt sp o => exact absurd hwf (by simp [Pc.wf])
  | insertQ call v =>
    cases call with
    | fromFile qp sp o =>
      simp only
      exact hgo _ (by simp [Pc.rank]) trivial
    | fromString txt sp o => exact absurd hwf (by simp [Pc.wf])
  | lookupS call qv =>
    simp only
    cases find c.s (S.key call.spath) <;> exact hgo _ (by simp [Pc.rank]) trivial
  | computeS call qv =>
    simp only
    cases S.loadS call.spath with
    | error e => exact hfin _
    | ok v => exact hgo _ (by simp [Pc.rank]) trivial
  | insertS call qv v =>
    simp only
    exact hgo _ (by simp [Pc.rank]) trivial
  | generate call qv sv => exact hfin _

end generic

/-! ## the system `lib.rs` implements: no hypothesis left -/

section rust
variable {QDoc SV O R : Type}

/-- keyed by the path as written, the loaders trivially cannot tell apart two paths with equal keys -/
theorem rustSys_faithful (E : Ext QDoc SV O R) (fs : Fs) : Faithful (rustSys E fs) :=
  ⟨fun _ _ h => by simp [rustSys] at h; rw [h], fun _ _ h => by simp [rustSys] at h; rw [h]⟩

theorem rust_inv_reachable (E : Ext QDoc SV O R) (fs : Fs) (calls : List (Call Path O)) :
    Inv (rustSys E fs) (run (rustSys E fs) .init calls).1 :=
  inv_reachable (rustSys_faithful E fs) calls (inv_init _)

theorem rust_pure_history (E : Ext QDoc SV O R) (fs : Fs) (calls : List (Call Path O)) (i : Nat)
    (h : i < calls.length) :
    (outcomes (rustSys E fs) .init calls)[i]? = (outcomes (rustSys E fs) .init [calls[i]])[0]? :=
  pure_history (rustSys_faithful E fs) calls i h

theorem rust_pure_interleaving (E : Ext QDoc SV O R) (fs : Fs) (progs : List (List (Call Path O)))
    (sched : List Nat) (i : Nat) (t : Thread Path (String × QDoc) SV O R)
    (ht : ((Config.start progs).exec (rustSys E fs) sched).threads[i]? = some t) (hfin : t.finished = true) :
    ∃ prog, progs[i]? = some prog ∧ t.done = prog.map (spec (rustSys E fs)) :=
  pure_interleaving_finished (rustSys_faithful E fs) progs sched i t ht hfin

/-- **results depend on content only**: two calls whose query paths hold the same text and whose schema
paths hold the same text in the same format return the same result, in any two reachable states
(no entry is ever served for a path whose file has other content) -/
theorem no_stale_alias (E : Ext QDoc SV O R) (fs : Fs) (qp qp' sp sp' : Path) (o : O)
    (hq : fs qp = fs qp') (hs : fs sp = fs sp') (hfmt : schemaFormat sp = schemaFormat sp')
    {c c' : CacheState Path (String × QDoc) SV} (hc : Inv (rustSys E fs) c) (hc' : Inv (rustSys E fs) c') :
    (step (rustSys E fs) c (.fromFile qp sp o)).2 = (step (rustSys E fs) c' (.fromFile qp' sp' o)).2 := by
  rw [step_result (rustSys_faithful E fs) hc, step_result (rustSys_faithful E fs) hc']
  simp [spec, queryVal, Call.spath, Call.opts, rustSys, rustLoadQ, rustLoadS, readFile, hq, hs, hfmt]

/-- **keys are full paths**: two files with the same base name in different directories have different
keys, so by the invariant (`rust_inv_reachable`) neither is ever served the other's entry -/
theorem same_basename_distinct (E : Ext QDoc SV O R) (fs : Fs) (d1 d2 n : Path) (h : d1 ≠ d2) :
    (rustSys E fs).key (d1 ++ '/' :: n) ≠ (rustSys E fs).key (d2 ++ '/' :: n) := by
  intro hk
  simp [rustSys] at hk
  exact h hk

/-- … and whatever ran before (same base name elsewhere, aliases, failures), a call is served the
generator's result on the content of *its own* paths -/
theorem rust_call_after_history (E : Ext QDoc SV O R) (fs : Fs) (calls : List (Call Path O)) (call : Call Path O) :
    (step (rustSys E fs) (run (rustSys E fs) .init calls).1 call).2 = spec (rustSys E fs) call :=
  step_result (rustSys_faithful E fs) (rust_inv_reachable E fs calls) call

/-- the same statement for the component comparison `Path` uses (holds for both keyings): equal base
names never make two directories' files share a key -/
theorem same_basename_distinct_components (d1 d2 n : Path) (h1 : d1 ≠ []) (h2 : d2 ≠ [])
    (h : components d1 ≠ components d2) : components (d1 ++ '/' :: n) ≠ components (d2 ++ '/' :: n) := by
  rw [components_join d1 n h1, components_join d2 n h2]
  intro he
  exact h (List.append_cancel_right he)

end rust

/-! ## concrete instances (non-vacuity) and the negative witnesses -/

namespace Witness

/-- a toy external world: every text except `bad` parses; the generator pairs the two texts -/
def E : Ext Unit String Unit (String × String) where
  parseQuery t := if t = "bad" then .error "parse" else .ok ()
  loadSdl t := if t = "bad" then panic' "Parser error" else .ok t
  loadJson t := if t = "bad" then panic' "serde" else .ok t
  generate q s _ := .ok (q.1, s)

def qPath : Path := "d/q.graphql".toList
def qSlash : Path := "d/q.graphql/".toList
def sPath : Path := "d/s.graphql".toList
def missing : Path := "d/nope.graphql".toList

def fs : Fs := fun p =>
  if p = qPath then some "q1" else if p = sPath then some "s1" else none

def qDot : Path := "d/./q.graphql".toList
def sGql : Path := "e/../d/s.gql".toList

/-- the same two files, each also reachable under a second spelling -/
def fs2 : Fs := fun p =>
  if p = qPath ∨ p = qDot then some "q1" else if p = sPath ∨ p = sGql then some "s1" else none

def okCall : Call Path Unit := .fromFile qPath sPath ()
def missingCall : Call Path Unit := .fromFile missing sPath ()
def slashCall : Call Path Unit := .fromFile qSlash sPath ()

def isOk {α} : Outcome α → Bool | .ok _ => true | .error _ => false
def isPanic {α} : Outcome α → Bool | .error (.panic _) => true | _ => false

/-- the repaired code on `[ok-call, missing-file call, ok-call]`: ok, panic, ok -/
theorem repaired_history_ok :
    (outcomes (rustSys E fs) .init [okCall, missingCall, okCall]).map isOk = [true, false, true] := by
  decide +kernel

/-- **old lock discipline** (load inside the critical section, panic poisons the mutex): the same
history makes the third call fail although alone it succeeds -/
theorem poisoning_breaks_purity :
    (Old.outcomes (rustSys E fs) {} [okCall, missingCall, okCall]).map isPanic = [false, true, true] ∧
    (Old.outcomes (rustSys E fs) {} [okCall]).map isPanic = [false] := by
  decide +kernel

/-- **old keying** (`PathBuf`, compared by components): `d/q.graphql/` has the key of `d/q.graphql` but
cannot be opened; after the good call it is served from the cache, alone it panics -/
theorem trailing_slash_alias :
    components qSlash = components qPath ∧ fs qSlash ≠ fs qPath ∧
    (outcomes (componentKeyedSys E fs) .init [okCall, slashCall]).map isOk = [true, true] ∧
    (outcomes (componentKeyedSys E fs) .init [slashCall]).map isOk = [false] ∧
    (outcomes (rustSys E fs) .init [okCall, slashCall]).map isOk = [true, false] := by
  decide +kernel

/-- the hypothesis of the generic theorems holds for the current keying … -/
example : Faithful (rustSys E fs) := rustSys_faithful E fs

/-- … and fails for the old one, on exactly the trailing-slash pair -/
theorem old_keying_not_faithful : ¬ Faithful (componentKeyedSys E fs) := by
  intro h
  have h1 := h.1 qSlash qPath (by decide +kernel)
  have h2 := congrArg isOk h1
  revert h2
  decide +kernel

/-- the `Inv` hypotheses are met by every reachable state, e.g. the non-empty cache after a good call -/
example : Inv (rustSys E fs) (run (rustSys E fs) .init [okCall, missingCall]).1 ∧
    (run (rustSys E fs) .init [okCall, missingCall]).1.q.length = 1 :=
  ⟨rust_inv_reachable E fs _, by decide +kernel⟩

/-- `schedule_completes`: the program counters a thread starts from are well-formed -/
example : (Pc.start okCall : Pc Path (String × Unit) String Unit).wf := trivial

/-- the hypotheses of `no_stale_alias` are satisfiable by genuinely different paths -/
example : qDot ≠ qPath ∧ sGql ≠ sPath ∧ fs2 qDot = fs2 qPath ∧ fs2 sGql = fs2 sPath ∧
    schemaFormat sGql = schemaFormat sPath := by decide +kernel

/-- `same_basename_distinct`: `d/q.graphql` and `e/q.graphql` -/
example : ("d".toList ++ '/' :: "q.graphql".toList) ≠ ("e".toList ++ '/' :: "q.graphql".toList) := by decide +kernel

example : schemaFormat sPath = .sdl ∧ schemaFormat "x/s.json".toList = .json ∧
    schemaFormat "x/s.txt".toList = .unsupported ∧ schemaFormat "x/.graphql".toList = .unsupported ∧
    schemaFormat "x/s.graphql/".toList = .sdl ∧ schemaFormat "x/s".toList = .unsupported := by decide +kernel

/-- two threads racing on the same cold keys, one of them also issuing the failing call: an actual
schedule in which both compute the query before either inserts -/
theorem race_example :
    (((Config.start [[okCall, missingCall], [okCall]]).exec (rustSys E fs)
        [0, 1, 0, 1, 0, 1, 0, 0, 0, 0, 1, 1, 1, 1, 0, 0, 1]).threads.map
      fun t => (t.finished, t.done.map isOk)) = [(true, [true, false]), (true, [true])] := by
  decide +kernel

end Witness

end C08
end GqlVerif
