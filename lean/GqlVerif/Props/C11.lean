import GqlVerif.Model.Names
import GqlVerif.Model.Codegen
/-!
# C11 — Rust keywords and naming conventions never reach the wire or break the build

* `bsearch_sound`, `bsearch_complete`, `binsearch_iff_mem` — on a strictly sorted table, binary search
  finds a word **iff** it is in the table (any table, any word);
* `table_sorted` — the keyword table **as regenerated from the current source** is strictly sorted
  (so a misplaced entry breaks this obligation, and `keyword_replace` silently misses words exactly
  when this fails);
* `table_covers_reference` — it contains every strict and reserved keyword of editions 2015–2021
  (reference list written from the Rust Reference, independent of the code's table);
* `keywordReplace_spec` — hence `keyword_replace w = w ++ "_"` for every reference keyword and the
  identity on every word outside the table;
* `escaped_not_keyword` — no escaped form `w_` is itself in the table, so escaping never lands on
  another keyword;
* `wire_is_graphql_name` — whatever Rust identifier `renderField` is handed for a response field (the outcome of
  any case mapping and keyword escaping done by its caller), the wire name (`rename` or identifier) of the emitted
  member is exactly the GraphQL name it was given (the alias when there is one); the same rename rule for
  variables, input fields and `@oneOf` members (`input_wire_is_graphql_name`, `oneof_wire_is_graphql_name`).
  The statements on the generator's own functions are in `Proofs/ComposedC11.lean`.
-/
namespace GqlVerif
namespace C11

/-! ## binary search -/

theorem bsearch_sound (t : Array String) (x : String) :
    ∀ (n lo hi : Nat), hi - lo ≤ n → ∀ i, bsearch t x lo hi = some i → t[i]? = some x := by
  intro n
  induction n with
  | zero =>
    intro lo hi hn i h
    unfold bsearch at h
    have : ¬ lo < hi := by omega
    simp [this] at h
  | succ n ih =>
    intro lo hi hn i h
    unfold bsearch at h
    split at h
    · rename_i hlt
      simp only at h
      split at h
      · simp at h
      · rename_i m hm
        split at h
        · rename_i hxm
          simp only [Option.some.injEq] at h
          subst h
          rw [hm]; simp at hxm; simp [hxm]
        · split at h
          · exact ih lo ((lo + hi) / 2) (by omega) i h
          · exact ih ((lo + hi) / 2 + 1) hi (by omega) i h
    · simp at h

theorem lt_or_eq_or_gt (a b : String) : a < b ∨ a = b ∨ b < a := by
  by_cases h1 : a < b
  · exact Or.inl h1
  · by_cases h2 : b < a
    · exact Or.inr (Or.inr h2)
    · exact Or.inr (Or.inl (String.le_antisymm (String.not_lt.mp h2) (String.not_lt.mp h1)))

def StrictlySorted (t : Array String) : Prop :=
  ∀ i j (hi : i < t.size) (hj : j < t.size), i < j → t[i] < t[j]

theorem bsearch_complete (t : Array String) (hs : StrictlySorted t) (x : String) :
    ∀ (n lo hi : Nat), hi - lo ≤ n → hi ≤ t.size → ∀ i, lo ≤ i → i < hi → t[i]? = some x →
      (bsearch t x lo hi).isSome = true := by
  intro n
  induction n with
  | zero => intro lo hi hn _ i h1 h2 _; omega
  | succ n ih =>
    intro lo hi hn hsz i hlo hhi hi_x
    unfold bsearch
    have hlt : lo < hi := by omega
    simp only [hlt, ↓reduceDIte]
    have hmid : (lo + hi) / 2 < t.size := by omega
    have hm : t[(lo + hi) / 2]? = some t[(lo + hi) / 2] := by simp [hmid]
    rw [hm]
    simp only
    have hisz : i < t.size := by omega
    have hxi : t[i] = x := by
      have := hi_x; simp [hisz] at this; exact this
    split
    · rfl
    · rename_i hne
      have hne' : x ≠ t[(lo + hi) / 2] := by simpa using hne
      split
      · rename_i hxlt
        -- x < t[mid]  ⇒  i < mid
        have : i < (lo + hi) / 2 := by
          rcases Nat.lt_trichotomy i ((lo + hi) / 2) with h | h | h
          · exact h
          · exfalso; subst h; exact hne' hxi.symm
          · exfalso
            have := hs _ _ hmid hisz h
            rw [hxi] at this
            exact String.lt_asymm this hxlt
        exact ih lo _ (by omega) (by omega) i hlo this hi_x
      · rename_i hnlt
        have : (lo + hi) / 2 < i := by
          rcases Nat.lt_trichotomy i ((lo + hi) / 2) with h | h | h
          · exfalso
            have := hs _ _ hisz hmid h
            rw [hxi] at this
            exact hnlt this
          · exfalso; subst h; exact hne' hxi.symm
          · exact h
        exact ih _ hi (by omega) hsz i (by omega) hhi hi_x

theorem sorted_of_pairwise (l : List String) (h : l.Pairwise (· < ·)) : StrictlySorted l.toArray := by
  intro i j hi hj hij
  simp only [List.size_toArray] at hi hj
  simpa using (List.pairwise_iff_getElem.mp h) i j hi hj hij

/-- **binary search = membership** on a strictly sorted table -/
theorem binsearch_iff_mem (l : List String) (h : l.Pairwise (· < ·)) (x : String) :
    (binarySearch l x).isSome = true ↔ x ∈ l := by
  unfold binarySearch
  constructor
  · intro hsome
    obtain ⟨i, hi⟩ := Option.isSome_iff_exists.mp hsome
    have := bsearch_sound l.toArray x _ 0 l.length (Nat.le_refl _) i hi
    have : l[i]? = some x := by simpa using this
    exact List.mem_of_getElem? this
  · intro hmem
    obtain ⟨i, hi, hx⟩ := List.getElem_of_mem hmem
    exact bsearch_complete l.toArray (sorted_of_pairwise l h) x _ 0 l.length (Nat.le_refl _) (by simp) i
      (Nat.zero_le _) hi (by simp [hi, hx])

/-- … and the index it returns is the word's position -/
theorem binsearch_index (l : List String) (x : String) (i : Nat) (h : binarySearch l x = some i) :
    l[i]? = some x := by
  have := bsearch_sound l.toArray x _ 0 l.length (Nat.le_refl _) i h
  simpa using this

/-! ## the table of the current source -/

def ascending : List String → Bool
  | a :: b :: l => decide (a < b) && ascending (b :: l)
  | _ => true

theorem lt_of_ascending : ∀ (l : List String) (a : String), ascending (a :: l) = true → ∀ x ∈ l, a < x
  | [], _, _, x, hx => by cases hx
  | b :: l, a, h, x, hx => by
    rw [ascending, Bool.and_eq_true, decide_eq_true_eq] at h
    rcases List.mem_cons.mp hx with rfl | hx
    · exact h.1
    · exact String.lt_trans h.1 (lt_of_ascending l b h.2 x hx)

/-- `<` on strings is transitive, so comparing neighbours is enough -/
theorem pairwise_of_ascending : ∀ (l : List String), ascending l = true → l.Pairwise (· < ·)
  | [], _ => List.Pairwise.nil
  | a :: l, h => by
    refine List.Pairwise.cons (lt_of_ascending l a h) (pairwise_of_ascending l ?_)
    cases l with
    | nil => rfl
    | cons b l => rw [ascending, Bool.and_eq_true] at h; exact h.2

theorem table_sorted : Gen.keywordTable.Pairwise (· < ·) := pairwise_of_ascending _ (by decide +kernel)

/-- strict and reserved keywords, editions 2015–2021 (Rust Reference, "Keywords") -/
def referenceKeywords : List String :=
  ["as", "break", "const", "continue", "crate", "else", "enum", "extern", "false", "fn", "for", "if", "impl", "in",
   "let", "loop", "match", "mod", "move", "mut", "pub", "ref", "return", "self", "Self", "static", "struct", "super",
   "trait", "true", "type", "unsafe", "use", "where", "while", "async", "await", "dyn", "abstract", "become", "box",
   "do", "final", "macro", "override", "priv", "typeof", "unsized", "virtual", "yield", "try"]

theorem table_covers_reference : ∀ w ∈ referenceKeywords, w ∈ Gen.keywordTable := by decide +kernel

theorem escaped_not_keyword : ∀ w ∈ Gen.keywordTable, (w ++ "_") ∉ Gen.keywordTable := by
  -- no word of the table ends in an underscore
  have hlast : ∀ k ∈ Gen.keywordTable, k.toList.getLast? ≠ some '_' := by decide +kernel
  intro w _ h
  apply hlast _ h
  simp [String.toList_append]

/-- `keyword_replace` on the current table: a word of the table gets a trailing underscore, every
    other word is unchanged -/
theorem keywordReplace_spec (w : String) :
    keywordReplace w = if w ∈ Gen.keywordTable then w ++ "_" else w := by
  unfold keywordReplace keywordReplaceIn
  by_cases hm : w ∈ Gen.keywordTable
  · have := (binsearch_iff_mem _ table_sorted w).mpr hm
    obtain ⟨i, hi⟩ := Option.isSome_iff_exists.mp this
    simp [hi, hm, binsearch_index _ _ _ hi]
  · have : binarySearch Gen.keywordTable w = none := by
      cases h : binarySearch Gen.keywordTable w with
      | none => rfl
      | some i => exact absurd ((binsearch_iff_mem _ table_sorted w).mp (by simp [h])) hm
    simp [this, hm]

theorem reference_keyword_escaped (w : String) (h : w ∈ referenceKeywords) : keywordReplace w = w ++ "_" := by
  rw [keywordReplace_spec]; simp [table_covers_reference w h]

/-! ## the wire name is the GraphQL name, whatever the Rust identifier -/

/-- response fields (alias when there is one): for any case function, keyword table, type and options -/
theorem wire_is_graphql_name (c : Codegen.Ctx) (gname r ft : String) (quals : List Qual) (fl bx : Bool)
    (dep : Option (Option String)) (f : RField)
    (h : Codegen.renderField c (some gname) r ft quals fl bx dep = .ok (some f)) : f.wire = gname := by
  unfold Codegen.renderField at h
  cases hd : Codegen.decorateType (.path ft) quals with
  | error e => simp [hd, bind, Except.bind] at h
  | ok ty =>
    simp only [hd, bind, Except.bind] at h
    split at h
    · simp [pure, Except.pure] at h
    · simp only [pure, Except.pure, Except.ok.injEq, Option.some.injEq] at h
      subst h
      unfold RField.wire fieldRename
      by_cases hg : gname = r <;> simp [hg]

/-- the rename rule used for variables and input-object fields -/
theorem input_wire_is_graphql_name (name safe : String) (ty : RTy) (skip : Bool) :
    ({ rust := safe, rename := fieldRename name safe, ty := ty, skipNone := skip } : RField).wire = name := by
  unfold RField.wire fieldRename
  by_cases h : name = safe <;> simp [h]

theorem rename_wire (gname rname : String) :
    ({ rust := rname, rename := fieldRename gname rname, ty := .path "" } : RField).wire = gname :=
  input_wire_is_graphql_name gname rname (.path "") false

/-- `@oneOf` members (rename computed against the escaped identifier since the repair) -/
theorem oneof_wire_is_graphql_name (name safe : String) (t : RTy) :
    ({ name := safe, rename := fieldRename name safe, payload := some t } : RVariant).wire = name := by
  unfold RVariant.wire fieldRename
  by_cases h : name = safe <;> simp [h]

example : binarySearch Gen.keywordTable "type" ≠ none ∧ keywordReplace "typo" = "typo" := by
  constructor
  · have := (binsearch_iff_mem _ table_sorted "type").mpr (by decide +kernel)
    intro h; simp [h] at this
  · rw [keywordReplace_spec]; simp; decide +kernel

end C11
end GqlVerif
