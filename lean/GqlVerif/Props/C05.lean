import GqlVerif.Model.Codegen
import GqlVerif.Proofs.OutcomeLemmas
/-!
# C05 — request body carries the verbatim document and the right operation name

About `Codegen.generate` (mirror of `generate_module_token_stream_inner`) and `generatedModule`:

* `module_constants` — a generated module's `OPERATION_NAME` is the operation's name exactly as
  written and its `QUERY` is the document text passed in, unchanged (the model carries the text
  through untouched; that the string-literal token `quote` emits denotes the same text for rustc is
  `C05L.query_constant_roundtrip`, `Proofs/C05StrLit.lean`);
* `module_types_from_same_operation` — the items of a module are generated from the operation the
  (normalized) name selects: the first operation whose normalized name equals the normalized name of
  the module's own operation;
* `derive_no_fallback` — in derive mode, when no operation matches the struct name, generation fails
  (it never falls back to another operation), and the error lists every defined operation;
* `derive_selects_named` — in derive mode, when generation succeeds there is exactly one module and
  its operation's normalized name is the requested name;
* `cli_explicit_selects` — the same in CLI / library mode when the explicit name matches;
* `cli_none_gives_all` — without a selection, one module per operation, in document order
  (the i-th module is the i-th operation's).
-/
namespace GqlVerif
namespace C05
open Codegen

/-- inversion of `generatedModule`: the operation the normalized name selects, its items, and the module as a record -/
theorem generatedModule_inv {c : Ctx} {text operation : String} {m : Module}
    (h : generatedModule c text operation = .ok m) :
    ∃ root items, selectOperation c (c.o.normalization.operation c.cs operation) = some root ∧
      responseForQuery c root = .ok items ∧
      m = { modName := c.cs.snake operation, vis := c.o.visibility,
            structDecl := if c.o.mode == .cli then some (c.o.normalization.operation c.cs operation) else none,
            operationName := operation, query := text, queryInclude := c.o.queryFile,
            useSerde := c.o.serdePath, implFor := c.o.normalization.operation c.cs operation, items := items } := by
  unfold generatedModule at h
  simp only [bind, Except.bind] at h
  cases hs : selectOperation c (c.o.normalization.operation c.cs operation) with
  | none => simp [hs, fail'] at h
  | some root =>
    simp only [hs, pure, Except.pure] at h
    cases hr : responseForQuery c root with
    | error e => simp [hr] at h
    | ok items =>
      simp only [hr, Except.ok.injEq] at h
      subst h
      exact ⟨root, items, rfl, hr, rfl⟩

/-- a generated module: its items are those of the operation its normalized name selects, its two constants are the
operation's name and the document text as given -/
theorem module_shape (c : Ctx) (text operation : String) (m : Module)
    (h : generatedModule c text operation = .ok m) :
    ∃ root items, selectOperation c (c.o.normalization.operation c.cs operation) = some root ∧
      responseForQuery c root = .ok items ∧ m.items = items ∧ m.operationName = operation ∧ m.query = text := by
  obtain ⟨root, items, hs, hr, rfl⟩ := generatedModule_inv h
  exact ⟨root, items, hs, hr, rfl, rfl, rfl⟩

/-- `OPERATION_NAME` and `QUERY` of a generated module -/
theorem module_constants (c : Ctx) (text operation : String) (m : Module)
    (h : generatedModule c text operation = .ok m) :
    m.operationName = operation ∧ m.query = text := by
  obtain ⟨_, _, _, _, _, h1, h2⟩ := module_shape c text operation m h
  exact ⟨h1, h2⟩

/-- the module's items come from the operation selected by the normalized name of its own operation -/
theorem module_types_from_same_operation (c : Ctx) (text operation : String) (m : Module)
    (h : generatedModule c text operation = .ok m) :
    ∃ root, selectOperation c (c.o.normalization.operation c.cs operation) = some root ∧
      responseForQuery c root = .ok m.items := by
  obtain ⟨root, items, h1, h2, h3, _, _⟩ := module_shape c text operation m h
  exact ⟨root, h1, h3 ▸ h2⟩

/-- what `selectOperation` returns: the first operation whose normalized name is the requested one -/
theorem selectOperation_spec (c : Ctx) (name : String) (i : Nat) (h : selectOperation c name = some i) :
    ∃ op, c.q.operations[i]? = some op ∧ c.o.normalization.operation c.cs op.name = name ∧
      ∀ j, j < i → ∀ opj, c.q.operations[j]? = some opj → c.o.normalization.operation c.cs opj.name ≠ name := by
  unfold selectOperation at h
  have hlt := List.findIdx?_eq_some_iff_getElem.mp h
  obtain ⟨hi, hp, hmin⟩ := hlt
  refine ⟨c.q.operations[i], by simp [hi], by simpa using hp, ?_⟩
  intro j hj opj hopj
  have hjl : j < c.q.operations.length := Nat.lt_trans hj hi
  have := hmin j hj
  have heq : c.q.operations[j] = opj := by
    have := hopj; simp [hjl] at this; exact this
  simpa [heq] using this

/-- **derive mode never falls back**: if no operation has the requested (normalized) name the
    result is an error that lists the defined operations -/
theorem derive_no_fallback (s : Schema) (cs : CaseFns) (o : Options) (text : String) (d : QDoc) (q : Query)
    (hmode : o.mode = .derive) (hq : Resolve.resolve s d = .ok q)
    (hnone : o.operationName.bind (selectOperation { s, q, o, cs }) = none) :
    generate s cs o text d = .error (.error
      ("The struct name does not match any defined operation in the query file.\nStruct name: " ++
        o.structIdent.getD "" ++ "\nDefined operations: " ++ ", ".intercalate (q.operations.map (·.name)))) := by
  unfold generate
  simp [hq, bind, Except.bind, hnone, hmode, fail']

/-- in derive mode success means exactly one module, for an operation with the requested name -/
theorem derive_selects_named (s : Schema) (cs : CaseFns) (o : Options) (text : String) (d : QDoc) (q : Query)
    (ms : List Module) (hmode : o.mode = .derive) (hq : Resolve.resolve s d = .ok q)
    (h : generate s cs o text d = .ok ms) :
    ∃ name i op m, o.operationName = some name ∧ selectOperation { s, q, o, cs } name = some i ∧
      q.operations[i]? = some op ∧ ms = [m] ∧ m.operationName = op.name ∧ m.query = text := by
  unfold generate at h
  simp only [hq, bind, Except.bind] at h
  cases hsel : o.operationName.bind (selectOperation { s, q, o, cs }) with
  | none => simp [hsel, hmode, fail'] at h
  | some i =>
    simp only [hsel, pure, Except.pure] at h
    obtain ⟨name, hname, hi⟩ : ∃ name, o.operationName = some name ∧ selectOperation { s, q, o, cs } name = some i := by
      cases hn : o.operationName with
      | none => simp [hn] at hsel
      | some name => exact ⟨name, rfl, by simpa [hn] using hsel⟩
    rw [List.mapM_cons, List.mapM_nil] at h
    simp only [bind, Except.bind, pure, Except.pure] at h
    cases hop : Query.getOperation q i with
    | error e => simp [hop] at h
    | ok op =>
      simp only [hop] at h
      cases hm : generatedModule { s, q, o, cs } text op.name with
      | error e => simp [hm] at h
      | ok m =>
        simp only [hm, Except.ok.injEq] at h
        have hget : q.operations[i]? = some op := C02.getOperation_ok hop
        have := module_constants _ _ _ _ hm
        exact ⟨name, i, op, m, hname, hi, hget, h.symm, this.1, this.2⟩

/-- CLI / library mode with an explicit name that matches: exactly that operation -/
theorem cli_explicit_selects (s : Schema) (cs : CaseFns) (o : Options) (text : String) (d : QDoc) (q : Query)
    (ms : List Module) (name : String) (i : Nat) (hq : Resolve.resolve s d = .ok q)
    (hname : o.operationName = some name) (hsel : selectOperation { s, q, o, cs } name = some i)
    (h : generate s cs o text d = .ok ms) :
    ∃ op m, q.operations[i]? = some op ∧ ms = [m] ∧ m.operationName = op.name ∧ m.query = text := by
  unfold generate at h
  simp only [hq, bind, Except.bind, hname, Option.bind, hsel, pure, Except.pure] at h
  rw [List.mapM_cons, List.mapM_nil] at h
  simp only [bind, Except.bind, pure, Except.pure] at h
  cases hop : Query.getOperation q i with
  | error e => simp [hop] at h
  | ok op =>
    simp only [hop] at h
    cases hm : generatedModule { s, q, o, cs } text op.name with
    | error e => simp [hm] at h
    | ok m =>
      simp only [hm, Except.ok.injEq] at h
      have hget : q.operations[i]? = some op := C02.getOperation_ok hop
      have := module_constants _ _ _ _ hm
      exact ⟨op, m, hget, h.symm, this.1, this.2⟩

/-- a successful `mapM`, read position by position (used by `cli_none_gives_all` below; the other inversion lemmas of
    `mapM` / `filterMapM` are in `Proofs/OutcomeLemmas.lean`) -/
theorem mapM_spec {α β : Type} (f : α → Outcome β) :
    ∀ (l : List α) (bs : List β), l.mapM f = .ok bs →
      bs.length = l.length ∧ ∀ (i : Nat) (b : β), bs[i]? = some b → ∃ a, l[i]? = some a ∧ f a = .ok b := by
  intro l
  induction l with
  | nil => intro bs h; simp [List.mapM_nil, pure, Except.pure] at h; subst h; simp
  | cons a l ih =>
    intro bs h
    rw [List.mapM_cons] at h
    cases ha : f a with
    | error e => simp [ha, bind, Except.bind] at h
    | ok b =>
      cases hl : l.mapM f with
      | error e => simp [ha, hl, bind, Except.bind] at h
      | ok rest =>
        simp only [ha, hl, bind, Except.bind, pure, Except.pure, Except.ok.injEq] at h
        subst h
        obtain ⟨ihl, ihe⟩ := ih rest hl
        refine ⟨by simp [ihl], ?_⟩
        intro i b' hi
        cases i with
        | zero => simp at hi; subst hi; exact ⟨a, by simp, ha⟩
        | succ i => simpa using ihe i b' (by simpa using hi)

/-- no selection (CLI / library): one module per operation, in document order -/
theorem cli_none_gives_all (s : Schema) (cs : CaseFns) (o : Options) (text : String) (d : QDoc) (q : Query)
    (ms : List Module) (hmode : o.mode = .cli) (hq : Resolve.resolve s d = .ok q) (hnone : o.operationName = none)
    (h : generate s cs o text d = .ok ms) :
    ms.length = q.operations.length ∧
    ∀ (i : Nat) (m : Module), ms[i]? = some m →
      ∃ op : ROperation, q.operations[i]? = some op ∧ m.operationName = op.name ∧ m.query = text := by
  unfold generate at h
  simp only [hq, bind, Except.bind, hnone, Option.bind, hmode, pure, Except.pure] at h
  obtain ⟨hlen, hall⟩ := mapM_spec _ _ ms h
  refine ⟨by simpa using hlen, ?_⟩
  intro i m hi
  obtain ⟨j, hj, hfj⟩ := hall i m hi
  have hij : j = i := by
    have := List.getElem?_eq_some_iff.mp hj
    obtain ⟨hlt, heq⟩ := this
    simpa using heq.symm
  subst hij
  cases hop : Query.getOperation q j with
  | error e => simp [hop] at hfj
  | ok op =>
    simp only [hop] at hfj
    have hget : q.operations[j]? = some op := C02.getOperation_ok hop
    have hc := module_constants _ _ _ _ hfj
    exact ⟨op, hget, hc.1, hc.2⟩

end C05
end GqlVerif
