import GqlVerif.Model.Sdl
import GqlVerif.Model.Intro
import GqlVerif.Props.C13
/-!
# C07 — SDL and introspection JSON of the same schema generate identical code

Both front-ends produce a value of the same type `Schema`, and everything after them
(`Resolve.resolve`, `Codegen.generate`) is a function of that value only.  So "identical code" follows
from "identical `Schema`".  This file proves the per-construct agreement facts, for all inputs:

* `wrapped_equal` — a full introspection response `{"data": X}` denotes the same schema as the bare `X`;
* `absent_eq_null` — an absent JSON member and an explicit `null` are read identically (every optional
  member of the introspection shape);
* `field_type_agree` (from C13's `quals_json_eq_sdl`) — a type expression and its `ofType` chain give the
  same qualifier list and the same named type, at every nesting depth;
* `deprecation_agree` — `@deprecated` / `@deprecated(reason: r)` / nothing, and
  `isDeprecated` + `deprecationReason`, give the same deprecation status;
* `one_of_agree` — `@oneOf` on an input object and `isOneOf: true` give the same flag, for inputs with
  the same fields;
* `roots_agree` — an explicit `schema { query: Q … }` block and `queryType: {name: Q}` designate the
  same root objects under the same name table (the default root names the SDL path falls back to without such
  a block are treated in `Proofs/C07Frontends.lean`: `AS.DefaultRoots`, `default_root`).

Whole-schema equality for arbitrary abstract schemas (`frontends_equal`, `frontends_equal_json`) is proved in
`Proofs/C07Frontends.lean`, the permutation statement (`codegen_iso_perm`) in `Proofs/C07PermCodegenE.lean`; this file
keeps the component theorems. The correspondence run checks the same on the implementation (every rendering of every
generated schema must give the same token string, and the Lean front-ends must reproduce it).
-/
namespace GqlVerif
namespace C07

/-- `{"data": X}` and `X` denote the same schema, for every JSON object `X` that is an
    introspection container (no `data` member of its own). -/
theorem wrapped_equal (readOneOf : Bool) (kvs : List (String × Json))
    (hnodata : Json.lookup "data" kvs = none)
    (hparses : Intro.decContainer readOneOf (.obj kvs) ≠ none) :
    Intro.parseIntro readOneOf (.obj [("data", .obj kvs)]) = Intro.parseIntro readOneOf (.obj kvs) := by
  unfold Intro.parseIntro
  cases h : Intro.decContainer readOneOf (.obj kvs) with
  | none => exact absurd h hparses
  | some r => simp [Intro.asObj, Intro.reqMember, Json.lookup, hnodata, h, bind, Option.bind]

/-- an absent member and an explicit `null` are read identically -/
theorem absent_eq_null {α} (kvs : List (String × Json)) (k : String) (dec : Json → Option α)
    (habsent : Json.lookup k kvs = none) :
    Intro.optMember kvs k dec = Intro.optMember ((k, Json.null) :: kvs) k dec := by
  simp [Intro.optMember, habsent, Json.lookup]

/-- field types agree at every depth (re-export of the C13 theorem, in C07's terms) -/
theorem field_type_agree (s : Schema) (kind : String) (t : GTy) (id : TypeId)
    (hk : kind ≠ "NON_NULL" ∧ kind ≠ "LIST") (hid : namesGet t.base s.names = some id) :
    Intro.fromJsonType s (C13.toTypeRef kind t) = resolveFieldType s t :=
  let h := C13.quals_json_eq_sdl s kind t id hk hid
  h.1.trans h.2.symm

/-- the SDL rendering of a deprecation status -/
def depDirectives : Option (Option String) → List Directive
  | none => []
  | some none => [{ name := "deprecated", args := [] }]
  | some (some r) => [{ name := "deprecated", args := [("reason", .str r)] }]

/-- the JSON rendering of a deprecation status -/
def depJson (d : Option (Option String)) : Option Bool × Option String :=
  (some d.isSome, d.bind id)

/-- both renderings of every deprecation status are read back to that status -/
theorem deprecation_agree (d : Option (Option String)) :
    Sdl.findDeprecation (depDirectives d) = d ∧
    (if (depJson d).1 == some true then some (depJson d).2 else none) = d := by
  rcases d with _ | _ | r <;> simp [depDirectives, depJson, Sdl.findDeprecation, List.find?]

/-- other directives around `@deprecated` do not matter, nor do other arguments -/
theorem deprecation_first_directive (pre : List Directive) (d : Directive) (post : List Directive)
    (hpre : ∀ x ∈ pre, x.name ≠ "deprecated") (hd : d.name = "deprecated") :
    Sdl.findDeprecation (pre ++ d :: post) = Sdl.findDeprecation [d] := by
  unfold Sdl.findDeprecation
  have : (pre ++ d :: post).find? (·.name == "deprecated") = some d := by
    rw [List.find?_append]
    have hnone : pre.find? (·.name == "deprecated") = none := by
      rw [List.find?_eq_none]; intro x hx; simpa using hpre x hx
    simp [hnone, hd]
  simp [this, hd]

/-- the `__Type` entry of an input object -/
def inputFullType (name : String) (ifs : List IntroInputValue) (flag : Bool) : FullType :=
  { kind := some "INPUT_OBJECT", name := some name, fields := none, inputFields := some ifs,
    interfaces := none, enumValues := none, possibleTypes := none, isOneOf := some flag }

/-- `@oneOf` and `isOneOf: true` give the same flag (the JSON path reads it since the repair).  `Sdl.ingestDef 6` is
the SDL pass that ingests input objects; `Intro.ingestInput true` is the introspection path with `isOneOf` read. -/
theorem one_of_agree (s : Schema) (name : String) (fs : List (String × GTy)) (flag : Bool)
    (ifs : List IntroInputValue)
    (hfields : fs.mapM (fun (p : String × GTy) => do let ty ← resolveFieldType s p.2; pure (p.1, ty)) =
               ifs.mapM (fun f => do let ty ← Intro.fromJsonType s f.ty; pure (f.name, ty))) :
    (Sdl.ingestDef 6 s (.input name (if flag then ["oneOf"] else []) fs)).map (·.inputs) =
    (Intro.ingestInput true s (inputFullType name ifs flag)).map (·.inputs) := by
  unfold inputFullType
  simp only [Sdl.ingestDef, Intro.ingestInput, Intro.expectName, bind, Except.bind, pure, Except.pure] at hfields ⊢
  rw [hfields]
  split
  · rfl
  · cases flag <;> simp [Except.map]

/-- explicit root designation: `schema { query: Q }` and `queryType: {name: Q}` pick the same object -/
theorem roots_agree (s : Schema) (q : Option String) :
    Sdl.rootOf s q = Intro.rootOf s (q.map some) := by
  cases q <;> simp [Sdl.rootOf, Intro.rootOf, Option.bind]

end C07
end GqlVerif
