import GqlVerif.Model.Cli
/-!
# C19 — `graphql-client generate` writes exactly the library's output to the right file

* `C19C.cliOptions_eq`: flags ↦ options as one equation for all flag values (the record `optionsOf`,
  the panic, the error).
* `cli_options_map`: every flag reaches the library option it documents, unchanged, for all flag
  values; an unparsable deprecation strategy is the default; the visibility table.
* `dest_path`, `dest_path_beside`, `dest_path_trailing`, `stem_spec`, `dest_file_name`: the
  destination is `<output dir or directory of the query file>/<stem of the query file name>.rs`,
  over all path strings of the modelled grammar (`/`-separated, any number of dots, hidden files, no
  extension, `..ext`, trailing `/` and `/.`).
* `output_is_header_then_lib`: the file holds the warning-suppression line, a newline and the
  library's tokens (through rustfmt unless `--no-formatting`); nothing else is written.
* `gen_error_no_file`: whenever the command does not succeed — generation error, library panic,
  rustfmt failure, bad flag value — the file system is unchanged and the exit status is non-zero.
-/
namespace GqlVerif

namespace C19C
open Cli

/-- the options record for accepted flags, written out -/
def optionsOf (vis : Vis) (f : GenFlags) : Options :=
  { mode := .cli, visibility := vis.tokens, otherVariant := f.fragmentsOtherVariant,
    operationName := f.selectedOperation, variablesDerives := f.variablesDerives,
    responseDerives := f.responseDerives,
    deprecation := (f.deprecationStrategy.bind parseDeprecation).getD .warn,
    externEnums := f.externalEnums.getD [], scalarsModule := f.customScalarsModule }

theorem cliOptions_eq (ok : String → Bool) (f : GenFlags) :
    cliOptions ok f =
      match parseVisibility ok f.moduleVisibility with
      | none => .error (.panic "called `Result::unwrap()` on an `Err` value")
      | some vis =>
        match f.customScalarsModule with
        | none => .ok (optionsOf vis f)
        | some m => if ok m then .ok (optionsOf vis f) else .error (.failure "Invalid custom scalar module path") := by
  obtain ⟨qp, sp, sel, vd, rd, dep, nofmt, vis, outdir, scalars, other, enums⟩ := f
  cases hv : parseVisibility ok vis with
  | none => unfold cliOptions; simp only [hv]
  | some v =>
    cases hd : dep.bind parseDeprecation
    all_goals
      unfold cliOptions optionsOf
      simp only [hv, hd]
      -- the two sides are the same record once every optional flag is known to be given or not
      cases scalars <;> cases sel <;> cases vd <;> cases rd <;> cases enums <;> rfl

end C19C

namespace C19
open Cli

/-! ## flags → options -/

/-- documented meaning of `--deprecation-strategy`: one of the three words (surrounding whitespace
ignored), anything else — or no flag — is the default `warn` -/
def specDeprecation : Option String → DepStrategy
  | none => .warn
  | some s =>
    if trim s.toList = allowWord then .allow
    else if trim s.toList = denyWord then .deny
    else .warn

/-- the flag value is one of the three visibility words (case-insensitive) -/
def VisWord (v : String) : Prop :=
  lowerAscii v.toList = pubWord ∨ lowerAscii v.toList = inheritedWord ∨ lowerAscii v.toList = privateWord

/-- documented meaning of `--module-visibility`: `pub`; `private` (or `inherited`) = no visibility
keyword; any other value is a path `p`, giving `pub(p)`; no flag = `pub` -/
def specVisibility : Option String → Vis
  | none => .pub
  | some v =>
    if lowerAscii v.toList = pubWord then .pub
    else if lowerAscii v.toList = inheritedWord then .inherited
    else if lowerAscii v.toList = privateWord then .inherited
    else .restricted v

theorem parseVisibility_spec (ok : String → Bool) (vis : Option String)
    (hv : ∀ v, vis = some v → ¬ VisWord v → ok v = true) :
    parseVisibility ok vis = some (specVisibility vis) := by
  cases vis with
  | none => rfl
  | some v =>
    simp only [parseVisibility, specVisibility]
    by_cases h1 : lowerAscii v.toList = pubWord
    · rw [if_pos h1, if_pos h1]
    · rw [if_neg h1, if_neg h1]
      by_cases h2 : lowerAscii v.toList = inheritedWord
      · rw [if_pos h2, if_pos h2]
      · rw [if_neg h2, if_neg h2]
        by_cases h3 : lowerAscii v.toList = privateWord
        · rw [if_pos h3, if_pos h3]
        · rw [if_neg h3, if_neg h3]
          have : ok v = true := hv v rfl (fun h => by
            cases h with
            | inl h => exact h1 h
            | inr h => cases h with
              | inl h => exact h2 h
              | inr h => exact h3 h)
          rw [if_pos this]

theorem parseDeprecation_spec (dep : Option String) :
    (match dep.bind parseDeprecation with | some d => d | none => DepStrategy.warn) = specDeprecation dep := by
  cases dep with
  | none => rfl
  | some s =>
    simp only [Option.bind, parseDeprecation, specDeprecation]
    by_cases h1 : trim s.toList = allowWord
    · rw [if_pos h1, if_pos h1]
    · rw [if_neg h1, if_neg h1]
      by_cases h2 : trim s.toList = denyWord
      · rw [if_pos h2, if_pos h2]
      · rw [if_neg h2, if_neg h2]
        by_cases h3 : trim s.toList = warnWord
        · rw [if_pos h3]
        · rw [if_neg h3]

/-- **every flag has the effect of the corresponding library option.**  For all flag values whose
paths `syn` accepts: the options handed to the library are the CLI-mode defaults with exactly the
given flags applied, each value unchanged. -/
theorem cli_options_map (ok : String → Bool) (f : GenFlags)
    (hv : ∀ v, f.moduleVisibility = some v → ¬ VisWord v → ok v = true)
    (hs : ∀ m, f.customScalarsModule = some m → ok m = true) :
    ∃ o, cliOptions ok f = .ok o ∧
      o.mode = .cli ∧
      o.operationName = f.selectedOperation ∧
      o.variablesDerives = f.variablesDerives ∧
      o.responseDerives = f.responseDerives ∧
      o.deprecation = specDeprecation f.deprecationStrategy ∧
      o.visibility = (specVisibility f.moduleVisibility).tokens ∧
      o.scalarsModule = f.customScalarsModule ∧
      o.otherVariant = f.fragmentsOtherVariant ∧
      o.externEnums = f.externalEnums.getD [] ∧
      -- nothing else is set
      o.structIdent = none ∧ o.normalization = .none ∧ o.skipNone = false ∧
      o.serdePath = "::serde" ∧ o.queryFile = none := by
  refine ⟨C19C.optionsOf (specVisibility f.moduleVisibility) f, ?_, rfl, rfl, rfl, rfl, ?_, rfl, rfl, rfl, rfl,
    rfl, rfl, rfl, rfl, rfl⟩
  · rw [C19C.cliOptions_eq, parseVisibility_spec ok _ hv]
    cases hm : f.customScalarsModule with
    | none => rfl
    | some m => simp only [hs m hm, if_true]
  · rw [← parseDeprecation_spec]
    show (f.deprecationStrategy.bind parseDeprecation).getD .warn = _
    cases f.deprecationStrategy.bind parseDeprecation <;> rfl

example : specDeprecation (some " deny ") = .deny := by decide +kernel
example : specDeprecation (some "Deny") = .warn := by decide +kernel
example : (specVisibility (some "Private")).tokens = "" := by decide +kernel
example : (specVisibility (some "crate")).tokens = "pub(crate)" := by decide +kernel
example : ¬ VisWord "crate" := by unfold VisWord; decide +kernel

/-- flag values `syn` refuses end the run before the library is called: a panic for the visibility
path, the error "Invalid custom scalar module path" for the scalars module -/
theorem cli_options_refused (ok : String → Bool) (f : GenFlags) :
    (∀ v, f.moduleVisibility = some v → ¬ VisWord v → ok v = false →
        ∃ m, cliOptions ok f = .error (.panic m)) ∧
    (∀ m, f.customScalarsModule = some m → ok m = false →
        (∀ v, f.moduleVisibility = some v → ¬ VisWord v → ok v = true) →
        cliOptions ok f = .error (.failure "Invalid custom scalar module path")) := by
  constructor
  · intro v hv hw hok
    have h1 : ¬ lowerAscii v.toList = pubWord := fun h => hw (Or.inl h)
    have h2 : ¬ lowerAscii v.toList = inheritedWord := fun h => hw (Or.inr (Or.inl h))
    have h3 : ¬ lowerAscii v.toList = privateWord := fun h => hw (Or.inr (Or.inr h))
    unfold cliOptions parseVisibility
    rw [hv]
    simp only [if_neg h1, if_neg h2, if_neg h3, hok]
    exact ⟨_, rfl⟩
  · intro m hm hok hv
    unfold cliOptions
    rw [parseVisibility_spec ok f.moduleVisibility hv]
    simp [hm, hok]

/-! ## destination path -/

/-- a normal path component: non-empty, no separator, neither `.` nor `..` -/
def Normal (n : List Char) : Prop := n ≠ [] ∧ '/' ∉ n ∧ n ≠ ['.'] ∧ n ≠ ['.', '.']

/-- text that can precede the file name: nothing, or something ending in the separator -/
def DirPrefix (p : List Char) : Prop := p = [] ∨ p.getLast? = some '/'

/-- `d/` — the directory `d` as a prefix of the names inside it (`""` stays `""`) -/
def dirSlash (d : List Char) : List Char :=
  match d.getLast? with
  | none => []
  | some c => if c = '/' then d else d ++ ['/']

/-- a directory written without anything `Path` would drop at its end (`/`, `/.`) -/
def CleanDir (d : List Char) : Prop := d ≠ [] ∧ d.getLast? ≠ some '/' ∧ skipTrail d.reverse = d.reverse

theorem takeWhile_append_stop (p : Char → Bool) (l r : List Char) (hl : ∀ c ∈ l, p c = true)
    (hr : ∀ x, r.head? = some x → p x = false) :
    (l ++ r).takeWhile p = l ∧ (l ++ r).dropWhile p = r := by
  induction l with
  | nil =>
    cases r with
    | nil => simp
    | cons x xs => have := hr x rfl; simp [this]
  | cons c cs ih =>
    have hc : p c = true := hl c (by simp)
    have := ih (fun x hx => hl x (by simp [hx]))
    simp [hc, this.1, this.2]

theorem skipTrail_slash (r : List Char) : skipTrail ('/' :: r) = skipTrail r := by
  conv => lhs; unfold skipTrail
  simp

theorem skipTrail_dotSlash (r : List Char) : skipTrail ('.' :: '/' :: r) = skipTrail r := by
  conv => lhs; unfold skipTrail
  simp

theorem skipTrail_normal (name rest : List Char) (hn : Normal name) :
    skipTrail (name.reverse ++ rest) = name.reverse ++ rest := by
  obtain ⟨hne, hslash, hdot, _⟩ := hn
  cases hrev : name.reverse with
  | nil => simp at hrev; exact absurd hrev hne
  | cons c r =>
    have hmem : ∀ x ∈ c :: r, x ≠ '/' := by
      intro x hx h
      apply hslash
      have : x ∈ name.reverse := by rw [hrev]; exact hx
      rw [← h]; simpa using this
    have hc : c ≠ '/' := hmem c (by simp)
    simp only [List.cons_append]
    unfold skipTrail
    simp only [hc, ↓reduceIte]
    by_cases hd : c = '.'
    · simp only [hd, ↓reduceIte]
      cases r with
      | nil =>
        exfalso; apply hdot
        have := congrArg List.reverse hrev
        simpa [hd] using this
      | cons d r' =>
        have : d ≠ '/' := hmem d (by simp)
        simp [this]
    · simp [hd]

theorem lastComponentRev_normal (pre name : List Char) (hp : DirPrefix pre) (hn : Normal name) :
    lastComponentRev (pre ++ name) = (name.reverse, pre.reverse) := by
  have hhead : ∀ x, pre.reverse.head? = some x → x = '/' := by
    intro x hx
    rw [List.head?_reverse] at hx
    cases hp with
    | inl h => rw [h] at hx; cases hx
    | inr h => rw [h] at hx; cases hx; rfl
  unfold lastComponentRev
  simp only [List.reverse_append]
  rw [skipTrail_normal name pre.reverse hn]
  have hall : ∀ c ∈ name.reverse, (fun x : Char => decide (x ≠ '/')) c = true := by
    intro c hc
    have : c ∈ name := by simpa using hc
    have : c ≠ '/' := fun h => hn.2.1 (h ▸ this)
    simpa using this
  have hstop : ∀ x, pre.reverse.head? = some x → (fun x : Char => decide (x ≠ '/')) x = false := by
    intro x hx; simp [hhead x hx]
  have := takeWhile_append_stop _ name.reverse pre.reverse hall hstop
  rw [this.1, this.2]

theorem fileName_normal (pre name : List Char) (hp : DirPrefix pre) (hn : Normal name) :
    fileName (pre ++ name) = some name := by
  unfold fileName
  rw [lastComponentRev_normal pre name hp hn]
  simp [hn.1, hn.2.2.1, hn.2.2.2]

theorem pathJoin_dirSlash (d name : List Char) : pathJoin d name = dirSlash d ++ name ∧ DirPrefix (dirSlash d) := by
  unfold pathJoin dirSlash DirPrefix
  cases h : d.getLast? with
  | none => simp
  | some c =>
    by_cases hc : c = '/'
    · simp [hc, h]
    · simp [hc]

/-- **the stem**: a name without a dot, or whose only dot is the first character, is its own stem;
otherwise the stem is what precedes the **last** dot (`a.b.graphql` ↦ `a.b`, `q.` ↦ `q`, `..graphql` ↦ `.`). -/
theorem stem_spec (n : List Char) (hn : n ≠ ['.', '.']) :
    ('.' ∉ n → fileStem n = n) ∧
    (∀ before after, n = before ++ '.' :: after → '.' ∉ after →
        fileStem n = if before = [] then n else before) := by
  constructor
  · intro h; simp [fileStem, hn, h]
  · intro before after heq hafter
    have hmem : '.' ∈ n := by rw [heq]; simp
    unfold fileStem
    simp only [hn, ↓reduceIte, hmem]
    have hrev : n.reverse = after.reverse ++ ('.' :: before.reverse) := by rw [heq]; simp
    have hall : ∀ c ∈ after.reverse, (fun x : Char => decide (x ≠ '.')) c = true := by
      intro c hc
      have : c ∈ after := by simpa using hc
      have : c ≠ '.' := fun h => hafter (h ▸ this)
      simpa using this
    have := (takeWhile_append_stop _ after.reverse ('.' :: before.reverse) hall (by simp)).2
    rw [hrev, this]
    simp

example : fileStem "a.b.graphql".toList = "a.b".toList := by decide +kernel
example : fileStem ".graphql".toList = ".graphql".toList := by decide +kernel
example : fileStem "noext".toList = "noext".toList := by decide +kernel
example : fileStem "q.".toList = "q".toList := by decide +kernel
example : fileStem "..graphql".toList = ".".toList := by decide +kernel

/-- every split of a name at a dot that is followed by no further dot is the split at the last dot:
the two clauses of `stem_spec` cover every name -/
theorem exists_last_dot (n : List Char) (h : '.' ∈ n) :
    ∃ before after, n = before ++ '.' :: after ∧ '.' ∉ after := by
  induction n with
  | nil => cases h
  | cons c cs ih =>
    by_cases hcs : '.' ∈ cs
    · obtain ⟨b, a, heq, ha⟩ := ih hcs
      exact ⟨c :: b, a, by simp [heq], ha⟩
    · have hc : c = '.' := by
        cases h with
        | head => rfl
        | tail _ h' => exact absurd h' hcs
      exact ⟨[], cs, by simp [hc], hcs⟩

theorem parentOf_normal (pre name : List Char) (hp : DirPrefix pre) (hn : Normal name) :
    parentOf (pre ++ name) =
      if skipTrail pre.reverse = [] ∧ pre.reverse.getLast? = some '/' then ['/'] else (skipTrail pre.reverse).reverse := by
  unfold parentOf
  rw [lastComponentRev_normal pre name hp hn]

/-- **destination path.**  For every query path `pre ++ name` (`name` a normal file name, `pre` empty
or ending in `/`): the query's file name is `name`; the code goes to the file `stem(name).rs` inside
the query file's parent directory, or inside `d` with `-o d`. -/
theorem dest_path (pre name : List Char) (hp : DirPrefix pre) (hn : Normal name) :
    fileName (pre ++ name) = some name ∧
    destPath none (pre ++ name) = some (dirSlash (parentOf (pre ++ name)) ++ fileStem name ++ rsExt) ∧
    ∀ d, destPath (some d) (pre ++ name) = some (dirSlash d ++ fileStem name ++ rsExt) := by
  refine ⟨fileName_normal pre name hp hn, ?_, ?_⟩
  · unfold destPath withFileName
    rw [fileName_normal pre name hp hn]
    simp only []
    rw [(pathJoin_dirSlash _ _).1, List.append_assoc]
  · intro d
    unfold destPath
    rw [fileName_normal pre name hp hn]
    simp only []
    rw [(pathJoin_dirSlash _ _).1, List.append_assoc]

/-- **beside the query file**, as strings: `name` ↦ `stem.rs`, `/name` ↦ `/stem.rs`,
`dir/name` ↦ `dir/stem.rs` for every directory text `dir` that does not end in `/` or `/.` -/
theorem dest_path_beside (name : List Char) (hn : Normal name) :
    destPath none name = some (fileStem name ++ rsExt) ∧
    destPath none ('/' :: name) = some ('/' :: (fileStem name ++ rsExt)) ∧
    ∀ dir, CleanDir dir → destPath none (dir ++ '/' :: name) = some (dir ++ '/' :: (fileStem name ++ rsExt)) := by
  refine ⟨?_, ?_, ?_⟩
  · have h := (dest_path [] name (Or.inl rfl) hn).2.1
    have hpar := parentOf_normal [] name (Or.inl rfl) hn
    simp only [List.nil_append] at h hpar
    rw [h, hpar]
    simp [skipTrail, dirSlash]
  · have hp : DirPrefix ['/'] := Or.inr rfl
    have h := (dest_path ['/'] name hp hn).2.1
    have hpar := parentOf_normal ['/'] name hp hn
    simp only [List.cons_append, List.nil_append] at h hpar
    rw [h, hpar]
    simp [skipTrail_slash, skipTrail, dirSlash]
  · intro dir ⟨hne, hlast, hclean⟩
    have hp : DirPrefix (dir ++ ['/']) := Or.inr (by simp)
    have h := (dest_path (dir ++ ['/']) name hp hn).2.1
    have hpar := parentOf_normal (dir ++ ['/']) name hp hn
    simp only [List.append_assoc, List.cons_append, List.nil_append] at h hpar
    rw [h, hpar]
    simp only [List.reverse_append, List.reverse_cons, List.reverse_nil, List.nil_append, List.cons_append,
      skipTrail_slash, hclean]
    have hrne : dir.reverse ≠ [] := by simpa using hne
    simp only [hrne, false_and, ↓reduceIte, List.reverse_reverse]
    unfold dirSlash
    cases hl : dir.getLast? with
    | none => simp at hl; exact absurd hl hne
    | some c =>
      have hc : c ≠ '/' := fun hcs => hlast (by rw [hl, hcs])
      simp [hc]

example : Normal "a.b.graphql".toList := by unfold Normal; decide +kernel
example : DirPrefix "q/sub/".toList := by unfold DirPrefix; decide +kernel
example : CleanDir "./q/sub dir".toList := by unfold CleanDir; decide +kernel
example : destPath (some "out".toList) "q/a.b.graphql".toList = some "out/a.b.rs".toList := by decide +kernel
example : destPath none "q/.graphql".toList = some "q/.graphql.rs".toList := by decide +kernel
example : destPath none "q//..graphql".toList = some "q/..rs".toList := by decide +kernel

/-- without a file name (``""``, `/`, `.`, a path ending in `..`) there is no destination -/
theorem dest_path_none (d : Option (List Char)) (q : List Char) : destPath d q = none ↔ fileName q = none := by
  unfold destPath
  cases fileName q with
  | none => simp
  | some n => cases d <;> simp

/-- what `Path` ignores at the end of a path: any sequence of `/` and `/.` -/
inductive Trail : List Char → Prop where
  | nil : Trail []
  | slash {t} : Trail t → Trail (t ++ ['/'])
  | slashDot {t} : Trail t → Trail (t ++ ['/', '.'])

/-- trailing separators and `.` components change neither the file name nor the destination -/
theorem dest_path_trailing (p t : List Char) (ht : Trail t) :
    fileName (p ++ t) = fileName p ∧ ∀ d, destPath d (p ++ t) = destPath d p := by
  have hskip : skipTrail (p ++ t).reverse = skipTrail p.reverse := by
    induction ht with
    | nil => simp
    | slash _ ih =>
      rw [← List.append_assoc, List.reverse_append]
      simp only [List.reverse_cons, List.reverse_nil, List.nil_append, List.cons_append]
      rw [skipTrail_slash]; exact ih
    | slashDot _ ih =>
      rw [← List.append_assoc, List.reverse_append]
      simp only [List.reverse_cons, List.reverse_nil, List.nil_append, List.cons_append]
      rw [skipTrail_dotSlash]; exact ih
  have hlc : lastComponentRev (p ++ t) = lastComponentRev p := by
    unfold lastComponentRev; rw [hskip]
  have hfn : fileName (p ++ t) = fileName p := by unfold fileName; rw [hlc]
  refine ⟨hfn, ?_⟩
  intro d
  unfold destPath withFileName parentOf
  rw [hfn, hlc]

example : Trail "/.//".toList :=
  Trail.slash (t := "/./".toList) (Trail.slash (t := "/.".toList) (Trail.slashDot (t := []) Trail.nil))

theorem mem_fileStem (n : List Char) (c : Char) (h : c ∈ fileStem n) : c ∈ n := by
  unfold fileStem at h
  split at h
  · exact h
  · split at h
    · simp only [] at h
      split at h
      · exact h
      · have h1 : c ∈ (n.reverse.dropWhile (· ≠ '.')).drop 1 := by simpa using h
        have h2 := List.mem_of_mem_drop h1
        have h3 := (List.dropWhile_sublist (fun x : Char => decide (x ≠ '.'))).subset h2
        simpa using h3
    · exact h

/-- the file that is written is itself named `<stem>.rs` (round trip through `file_name`) -/
theorem dest_file_name (pre name : List Char) (hp : DirPrefix pre) (hn : Normal name) (d : Option (List Char)) :
    ∃ p, destPath d (pre ++ name) = some p ∧ fileName p = some (fileStem name ++ rsExt) := by
  have hn' : Normal (fileStem name ++ rsExt) := by
    refine ⟨by simp [rsExt], ?_, ?_, ?_⟩
    · intro h
      simp only [List.mem_append] at h
      cases h with
      | inl h => exact hn.2.1 (mem_fileStem _ _ h)
      | inr h => simp [rsExt] at h
    · intro h; have := congrArg List.length h; simp [rsExt] at this
    · intro h; have := congrArg List.length h; simp [rsExt] at this
  obtain ⟨_, h1, h2⟩ := dest_path pre name hp hn
  cases d with
  | none => exact ⟨_, h1, by rw [List.append_assoc]; exact fileName_normal _ _ (pathJoin_dirSlash _ name).2 hn'⟩
  | some dir =>
    exact ⟨_, h2 dir, by rw [List.append_assoc]; exact fileName_normal _ _ (pathJoin_dirSlash dir name).2 hn'⟩

/-! ### for the record: the former rule, `Path::with_extension("rs")`

Until the repair `generate derives the output file name from the query file's stem` the destination
was `query_path.with_extension("rs")` (resp. `dir.join(name).with_extension("rs")`).  std implements
`with_extension` by copying the path *without the bytes of the old extension* (the dot stays) and
then calling `set_extension`; for a file name `..ext` the copy is `..`, which has no file name, and
the result is the directory `..`.  The harness stream `dotdot-name` replays these names on the binary. -/

def extensionOf (n : List Char) : Option (List Char) :=
  if n = ['.', '.'] then none
  else if '.' ∈ n then
    let before := ((n.reverse.dropWhile (· ≠ '.')).drop 1).reverse
    if before = [] then none else some (n.reverse.takeWhile (· ≠ '.')).reverse
  else none

def setExtensionRs (p : List Char) : List Char :=
  match fileName p with
  | none => p
  | some n => (lastComponentRev p).2.reverse ++ fileStem n ++ rsExt

def withExtensionRs (p : List Char) : List Char :=
  match (fileName p).bind extensionOf with
  | none => setExtensionRs p
  | some ext => setExtensionRs (p.take (p.length - ext.length))

/-- the former rule sent `q/..graphql` to the directory `q/..`; the present one to `q/..rs`;
on ordinary names the two agree -/
theorem old_with_extension_quirk :
    withExtensionRs ['q', '/', '.', '.', 'g', 'r', 'a', 'p', 'h', 'q', 'l'] = ['q', '/', '.', '.'] ∧
    destPath none ['q', '/', '.', '.', 'g', 'r', 'a', 'p', 'h', 'q', 'l'] = some ['q', '/', '.', '.', 'r', 's'] ∧
    withExtensionRs ['q', '/', 'a', '.', 'b', '.', 'g', 'q', 'l'] = ['q', '/', 'a', '.', 'b', '.', 'r', 's'] ∧
    destPath none ['q', '/', 'a', '.', 'b', '.', 'g', 'q', 'l'] = some ['q', '/', 'a', '.', 'b', '.', 'r', 's'] := by
  decide +kernel

/-! ## what is written, and when nothing is -/

/-- **the file is the header line, a newline, and the library's tokens** — verbatim with
`--no-formatting`, through rustfmt otherwise — written to the destination and nowhere else. -/
theorem output_is_header_then_lib (env : GenEnv) (f : GenFlags) (fs : Fs) (o : Options) (t : String)
    (dest : List Char)
    (ho : cliOptions env.synPathOk f = .ok o) (hl : env.lib o = .tokens t)
    (hd : destPath (f.outputDirectory.map String.toList) f.queryPath.toList = some dest)
    (hc : env.creatable (String.ofList dest) = true) :
    (f.noFormatting = true →
      generateCode env f fs = (.success, fs.write (String.ofList dest) (Gen.warningSuppression ++ "\n" ++ t))) ∧
    (f.noFormatting = false → ∀ out, env.rustfmt (Gen.warningSuppression ++ "\n" ++ t) = some out →
      generateCode env f fs = (.success, fs.write (String.ofList dest) out)) ∧
    (∀ q, q ≠ String.ofList dest → (generateCode env f fs).2 q = fs q) := by
  refine ⟨?_, ?_, ?_⟩
  · intro hnf
    simp [generateCode, ho, hl, hd, hc, hnf, generatedCode]
  · intro hnf out hout
    simp [generateCode, ho, hl, hd, hc, hnf, generatedCode, hout]
  · intro q hq
    unfold generateCode
    simp only [ho, hl, hd, hc]
    split
    · rfl
    · simp [Fs.write, hq]

/-- the flags are never refused with exit status 0 -/
theorem cliOptions_error_ne_success (ok : String → Bool) (f : GenFlags) (e : Exit) (h : cliOptions ok f = .error e) :
    e ≠ .success := by
  rw [C19C.cliOptions_eq] at h
  rintro rfl
  split at h
  · cases h
  · split at h
    · cases h
    · split at h <;> cases h

/-- **the runs of `generateCode`**: either the one successful run — flags accepted, tokens returned, formatted,
a destination found and creatable, exactly that file written — or the file system is untouched and the exit
status is not `success` -/
theorem generateCode_cases (env : GenEnv) (f : GenFlags) (fs : Fs) :
    (∃ o t out dest, cliOptions env.synPathOk f = .ok o ∧ env.lib o = .tokens t ∧
        (if f.noFormatting then some (generatedCode t) else env.rustfmt (generatedCode t)) = some out ∧
        destPath (f.outputDirectory.map String.toList) f.queryPath.toList = some dest ∧
        env.creatable (String.ofList dest) = true ∧
        generateCode env f fs = (.success, fs.write (String.ofList dest) out)) ∨
    ((generateCode env f fs).2 = fs ∧ (generateCode env f fs).1 ≠ .success) := by
  unfold generateCode
  cases ho : cliOptions env.synPathOk f with
  | error e => exact .inr ⟨rfl, cliOptions_error_ne_success _ _ _ ho⟩
  | ok o =>
    dsimp only
    cases hl : env.lib o with
    | err m => exact .inr ⟨rfl, nofun⟩
    | panic m => exact .inr ⟨rfl, nofun⟩
    | tokens t =>
      dsimp only
      cases hf : (if f.noFormatting = true then some (generatedCode t) else env.rustfmt (generatedCode t)) with
      | none => exact .inr ⟨rfl, nofun⟩
      | some out =>
        dsimp only
        cases hd : destPath (Option.map String.toList f.outputDirectory) f.queryPath.toList with
        | none => exact .inr ⟨rfl, nofun⟩
        | some dest =>
          dsimp only
          by_cases hc : env.creatable (String.ofList dest) = true
          · rw [if_pos hc]; exact .inl ⟨o, t, out, dest, rfl, hl, hf, rfl, hc, rfl⟩
          · rw [if_neg hc]; exact .inr ⟨rfl, nofun⟩

/-- **no success ⇒ no file**: in every run that does not end with exit status 0 — generation error,
library panic, rustfmt failure, refused flag value, no file name, destination not creatable — the file
system is exactly what it was. -/
theorem gen_error_no_file (env : GenEnv) (f : GenFlags) (fs : Fs) :
    (generateCode env f fs).1 ≠ .success →
      (generateCode env f fs).2 = fs ∧ (generateCode env f fs).1.code ≠ 0 := by
  intro h
  rcases generateCode_cases env f fs with ⟨_, _, _, _, _, _, _, _, _, hr⟩ | ⟨h2, _⟩
  · exact absurd (by rw [hr]) h
  · refine ⟨h2, ?_⟩
    cases hx : (generateCode env f fs).1 with
    | success => exact absurd hx h
    | _ => simp [Exit.code]

/-- a generation error is reported as such, before any file is created -/
theorem gen_error_reported (env : GenEnv) (f : GenFlags) (fs : Fs) (o : Options) (m : String)
    (ho : cliOptions env.synPathOk f = .ok o) (hl : env.lib o = .err m) :
    generateCode env f fs = (.failure ("Error generating module code: " ++ m), fs) := by
  simp [generateCode, ho, hl]

end C19
end GqlVerif
