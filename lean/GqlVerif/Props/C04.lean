import GqlVerif.Props.C11
import GqlVerif.Props.C13
import GqlVerif.Model.Serde
import GqlVerif.Proofs.C01Layers
/-!
# C04 — variables serialize to exactly the operation's declared variables, validly typed

* `variables_fields_are_declared` — the `Variables` struct has one field per declared variable, in
  order, whose wire name is the variable's GraphQL name (any case function, any keyword table);
* `variable_type_rule` — each field's Rust type is `rustOf` of the declared type expression (C13), so a
  non-null position has no `Option` (that it is never written as `null` is part of `C04S.ser_valid`);
* `skip_none_step` / `no_skip_step` — one step of struct serialization: with
  `skip_serializing_if` a member that is `None` is omitted, and **only** such a member; without it
  every member is written (explicit `null` for `None`);
* `oneof_single_key` — a `@oneOf` value serializes to an object with exactly one key, the selected
  member's GraphQL name;
* `unit_variables_null` — an operation without variables gets the unit struct `struct Variables;`, which
  `unit_struct_is_null` shows is written as `null`; `none_is_null` — `None` is written as `null`.

Whole-struct statements, proved in `GqlVerif/Proofs/C01Layers.lean` (namespace `C01`, audited with this file):
`ser_fields_iff`, `ser_keys_exact` (keys = wire names of the non-skipped members, in order),
`ser_keys_nodup`, `ser_keys_all`, `oneof_keys`. (`non_null_never_null` below and `C01.ser_conforms` carry a leaf
hypothesis the model's own serializer cannot meet — a unit struct is written as `null` — and are NOT part of the
claim: see `Proofs/C04SurjectiveSerValid.lean`, `ser_valid` / `variables_ser_valid`.)
-/
namespace GqlVerif
namespace C04
open Codegen Serde

/-- one `Variables` field per declared variable, in order, with the GraphQL name on the wire -/
theorem variables_fields_are_declared (c : Ctx) (op : Nat) (fs : List RField) (d : List String) (sc : Option String)
    (rest : List Item) (hne : (c.q.opVariables op) ≠ [])
    (h : variablesItems c op = .ok (.struct "Variables" d sc fs :: rest)) :
    fs.map (·.wire) = (c.q.opVariables op).map (·.name) := by
  unfold variablesItems at h
  have hemp : (c.q.opVariables op).isEmpty = false := by
    cases hv : c.q.opVariables op with
    | nil => exact absurd hv hne
    | cons a b => rfl
  simp only [hemp, Bool.false_eq_true, ↓reduceIte, bind, Except.bind] at h
  split at h
  · simp at h
  · rename_i fs' hfs
    split at h
    · simp at h
    · simp only [pure, Except.pure, Except.ok.injEq, List.cons.injEq, Item.struct.injEq] at h
      obtain ⟨⟨-, -, -, rfl⟩, -⟩ := h
      clear hemp hne
      generalize c.q.opVariables op = vars at hfs
      induction vars generalizing fs' with
      | nil => simp [List.mapM_nil, pure, Except.pure] at hfs; subst hfs; rfl
      | cons v vs ih =>
        rw [List.mapM_cons] at hfs
        simp only [bind, Except.bind] at hfs
        cases hvt : variableType c v with
        | error e => simp [hvt] at hfs
        | ok t =>
          simp only [hvt, pure, Except.pure] at hfs
          split at hfs
          · simp at hfs
          · rename_i tl htl
            simp only [Except.ok.injEq] at hfs
            subst hfs
            simp only [List.map_cons, List.cons.injEq]
            exact ⟨C11.input_wire_is_graphql_name _ _ _ _, ih tl htl⟩

/-- the Rust type of a variable follows the single rule of C13 -/
theorem variable_type_rule (c : Ctx) (v : RVariable) (t : GTy) (tn : String)
    (hq : v.ty.quals = GTy.quals t) (hw : C13.wf t = true) (hn : c.s.typeName v.ty.id = .ok tn) :
    variableType c v = .ok (C13.rustOf (.path (keywordReplace (c.o.normalization.fieldType c.cs tn))) t) := by
  unfold variableType
  simp only [hn, bind, Except.bind, hq]
  exact C13.decorate_spec _ t hw

/-- a value of a non-null Rust type (`rustOfNN`, no outer `Option`) never serializes as `null`
    when the named type does not (leaf types and structs never do) -/
theorem non_null_never_null (path : String → Val → D Json) (b : RTy) (t : GTy) (v : Val) (j : Json)
    (hleaf : ∀ p v j, path p v = .ok j → j ≠ .null)
    (hb : ∃ p, b = .path p)
    (h : serTyWith path (C13.rustOfNN b t) v = .ok j) : j ≠ .null := by
  induction t generalizing v j with
  | named n =>
    obtain ⟨p, rfl⟩ := hb
    simp only [C13.rustOfNN, serTyWith] at h
    exact hleaf p v j h
  | list t _ =>
    simp only [C13.rustOfNN, serTyWith] at h
    cases v <;> simp [unmodelled] at h
    rename_i vs
    cases hm : vs.mapM (serTyWith path (C13.rustOf b t)) with
    | error e => simp [hm, Functor.map, Except.map] at h
    | ok xs => simp [hm, Functor.map, Except.map] at h; subst h; simp
  | nonNull t ih =>
    simp only [C13.rustOfNN] at h
    exact ih v j h

/-- serialization of one member with `skip_serializing_if = "Option::is_none"`: omitted iff `None` -/
theorem skip_none_step (path : String → Val → D Json) (f : RField) (fs : List RField) (vals : List (String × Val))
    (v : Val) (rest : List (String × Json)) (hf : f.flatten = false) (hs : f.skipNone = true)
    (hv : vals.find? (·.1 == f.rust) = some (f.rust, v)) (hrest : serFieldsWith path fs vals = .ok rest) :
    serFieldsWith path (f :: fs) vals =
      (if v.isUnit then .ok rest else (fun j => (f.wire, j) :: rest) <$> serTyWith path f.ty v) := by
  simp only [serFieldsWith, hrest, hv, hf, hs, bind, Except.bind, Bool.false_eq_true, ↓reduceIte, Bool.true_and]
  cases v.isUnit
  · simp only [Bool.false_eq_true, ↓reduceIte]
    cases serTyWith path f.ty v <;> rfl
  · rfl

/-- without the attribute every member is written, `None` as explicit `null` -/
theorem no_skip_step (path : String → Val → D Json) (f : RField) (fs : List RField) (vals : List (String × Val))
    (v : Val) (rest : List (String × Json)) (hf : f.flatten = false) (hs : f.skipNone = false)
    (hv : vals.find? (·.1 == f.rust) = some (f.rust, v)) (hrest : serFieldsWith path fs vals = .ok rest) :
    serFieldsWith path (f :: fs) vals = (fun j => (f.wire, j) :: rest) <$> serTyWith path f.ty v := by
  simp only [serFieldsWith, hrest, hv, hf, hs, bind, Except.bind, Bool.false_eq_true, ↓reduceIte, Bool.false_and]
  cases serTyWith path f.ty v <;> rfl

theorem none_is_null (path : String → Val → D Json) (t : RTy) : serTyWith path (.opt t) .unit = .ok .null := rfl

/-- a `@oneOf` value serializes to exactly one key: the selected member's wire name -/
theorem oneof_single_key (e : Env) (fuel : Nat) (p name : String) (d : List String) (sc : Option String)
    (vs : List RVariant) (var : RVariant) (t : RTy) (pv : Val) (j : Json)
    (hfind : e.find p = some (.oneOf name d sc vs))
    (hvar : vs.find? (·.name == var.name) = some var) (hpay : var.payload = some t)
    (h : serPath e (fuel + 1) p (.variant var.name (some pv)) = .ok j) :
    ∃ inner, j = .obj [(var.wire, inner)] := by
  unfold serPath at h
  simp only [serPrim, hfind, hvar, hpay, bind, Except.bind] at h
  cases hs : serTyWith (serPath e fuel) t pv with
  | error err => simp [hs] at h
  | ok inner => simp [hs, pure, Except.pure] at h; exact ⟨inner, h.symm⟩

/-- an operation without variables: `struct Variables;` -/
theorem unit_variables_null (c : Ctx) (op : Nat) (h : c.q.opVariables op = []) :
    variablesItems c op = .ok [.unitStruct "Variables" (allVariableDerives c.o) c.serdeCrate] := by
  simp [variablesItems, h, pure, Except.pure]

theorem unit_struct_is_null (e : Env) (fuel : Nat) (p n : String) (d : List String) (sc : Option String)
    (h : e.find p = some (.unitStruct n d sc)) : serPath e (fuel + 1) p .unit = .ok .null := by
  simp [serPath, serPrim, h, pure, Except.pure]

end C04
end GqlVerif
