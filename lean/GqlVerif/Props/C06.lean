import GqlVerif.Model.Resolve
import GqlVerif.Model.Valid
import GqlVerif.Model.Sdl
import GqlVerif.Proofs.OutcomeLemmas
/-!
# C06 — operations the schema cannot answer are never turned into code

`Resolve.resolve` is the only gate between a document and code generation (`Codegen.generate` starts
with it).  The theorems below show that the gate's individual validators are *sound* with respect to
declarative statements of the rules, for every schema and every document (no bound on sizes):

* `typename_check_sound` — whenever the `__typename` search says yes, `__typename` really is selected,
  directly or through a chain of spreads of fragments on the same type;
* (`C06Sound.validateTypenamePresence_ok` carries it to every fragment on an abstract type and every
  abstract-typed field selection of an accepted query, at any depth;)
* `condition_check_sound` — an accepted type condition can apply to its parent type (the possible
  runtime types intersect, or it is the type itself);
* (`C06Sound.validateTypeConditions_ok`: every inline fragment and every spread of an accepted query,
  at any depth, satisfies it;)
* `resolve_ok_validated` — `resolve` only returns a query that passed all three validators;
* `no_selection_accepted` — the one catalogue rule that is **not** enforced (known finding
  `C06-no-selection`), as a concrete witness on the model (replayed on the implementation by the harness).
-/
namespace GqlVerif
namespace C06
open Resolve

/-! ## `__typename` presence -/

/-- declarative rule: the selection set selects `__typename` on type `t`, directly or through a
    spread of a fragment on the same type that does -/
inductive HasTypename (q : Query) (t : TypeId) : List Sel → Prop
  | direct {sels} : Sel.typename ∈ sels → HasTypename q t sels
  | viaSpread {sels fid f} : Sel.spread fid ∈ sels → q.fragments[fid]? = some f → f.on = t →
      HasTypename q t f.sels → HasTypename q t sels

theorem typename_check_sound (q : Query) (t : TypeId) :
    ∀ (fuel : Nat) (visited : List Nat) (sels : List Sel),
      containsTypenameAux q t fuel visited sels = true → HasTypename q t sels := by
  intro fuel
  induction fuel with
  | zero => intro visited sels h; simp [containsTypenameAux] at h
  | succ n ih =>
    intro visited sels h
    unfold containsTypenameAux at h
    rw [List.any_eq_true] at h
    obtain ⟨sel, hmem, hsel⟩ := h
    cases sel with
    | typename => exact .direct hmem
    | spread fid =>
      simp only at hsel
      split at hsel
      · simp at hsel
      · split at hsel
        · simp at hsel
        · rename_i f hf
          simp only [Bool.and_eq_true, beq_iff_eq] at hsel
          have hon : f.on = t := hsel.1
          exact .viaSpread hmem hf hon (ih _ _ (hon ▸ hsel.2))
    | field a b c => simp at hsel
    | inline a b => simp at hsel

/-- every abstract-typed field selection below these selections selects `__typename` -/
inductive FieldsTyped (s : Schema) (q : Query) : List Sel → Prop
  | nil : FieldsTyped s q []
  | field {alias fid sub rest f} : s.fields[fid]? = some f →
      (f.ty.id.isAbstract = true → HasTypename q f.ty.id sub) →
      FieldsTyped s q sub → FieldsTyped s q rest → FieldsTyped s q (.field alias fid sub :: rest)
  | inline {t sub rest} : FieldsTyped s q sub → FieldsTyped s q rest → FieldsTyped s q (.inline t sub :: rest)
  | spread {fid rest} : FieldsTyped s q rest → FieldsTyped s q (.spread fid :: rest)
  | typename {rest} : FieldsTyped s q rest → FieldsTyped s q (.typename :: rest)

mutual
  theorem fieldsHaveTypename_sound (s : Schema) (q : Query) :
      ∀ (sel : Sel) (rest : List Sel), fieldsHaveTypename s q sel = .ok () → FieldsTyped s q rest →
        FieldsTyped s q (sel :: rest)
    | .field alias fid sub, rest, h, hr => by
      unfold fieldsHaveTypename at h
      cases hf : s.getField fid with
      | error e => simp [hf, bind, Except.bind] at h
      | ok f =>
        simp only [hf, bind, Except.bind] at h
        split at h
        · simp [fail'] at h
        · rename_i hcond
          refine .field (C02.getField_ok hf) ?_ (fieldsHaveTypenameList_sound s q sub h) hr
          intro habs
          have : containsTypename q f.ty.id sub = true := by
            simp only [habs, Bool.true_and, Bool.not_eq_true'] at hcond
            cases hc : containsTypename q f.ty.id sub <;> simp_all
          exact typename_check_sound q _ _ _ _ this
    | .inline t sub, rest, h, hr => by
      unfold fieldsHaveTypename at h
      exact .inline (fieldsHaveTypenameList_sound s q sub h) hr
    | .spread fid, rest, _, hr => .spread hr
    | .typename, rest, _, hr => .typename hr
  theorem fieldsHaveTypenameList_sound (s : Schema) (q : Query) :
      ∀ (sels : List Sel), fieldsHaveTypenameList s q sels = .ok () → FieldsTyped s q sels
    | [], _ => .nil
    | x :: xs, h => by
      unfold fieldsHaveTypenameList at h
      cases hx : fieldsHaveTypename s q x with
      | error e => simp [hx, bind, Except.bind] at h
      | ok u =>
        simp only [hx, bind, Except.bind] at h
        exact fieldsHaveTypename_sound s q x xs hx (fieldsHaveTypenameList_sound s q xs h)
end

/-! ## type conditions -/

theorem mem_implementors {s : Schema} {iid oid : Nat} :
    oid ∈ s.implementors iid ↔ ∃ o, s.objects[oid]? = some o ∧ o.implements.contains iid = true := by
  unfold Schema.implementors
  simp only [List.mem_map, List.mem_filter, Prod.exists]
  constructor
  · rintro ⟨o, i, ⟨hmem, hc⟩, rfl⟩
    have := List.mem_zipIdx hmem
    simp at this
    exact ⟨o, by simpa using this.2.symm ▸ (by simp), hc⟩
  · rintro ⟨o, ho, hc⟩
    refine ⟨o, oid, ⟨?_, hc⟩, rfl⟩
    rw [List.mem_zipIdx_iff_getElem?]
    simpa using ho

/-- schema well-formedness used by the union arm: union members are object types
    (`fromSdl`/`fromJson` look member names up in the name table; a valid schema lists objects) -/
def UnionsOfObjects (s : Schema) : Prop :=
  ∀ u ∈ s.unions, ∀ v ∈ u.variants, ∃ o, v = TypeId.object o

theorem condition_check_sound (s : Schema) (hs : UnionsOfObjects s) (parent cond : TypeId)
    (hp : Valid.isComposite parent = true)
    (h : conditionOk s parent cond = .ok true) : Valid.applicable s parent cond = true := by
  unfold conditionOk at h
  unfold Valid.applicable
  split at h
  · rename_i heq; simp [heq]
  · rename_i hne
    cases parent with
    | union uid =>
      simp only [bind, Except.bind] at h
      cases hu : s.getUnion uid with
      | error e => simp [hu] at h
      | ok u =>
        simp only [hu, pure, Except.pure, Except.ok.injEq] at h
        have hmem : cond ∈ u.variants := by simpa [List.contains_iff_mem] using h
        have hu' : s.unions[uid]? = some u := C02.getUnion_ok hu
        obtain ⟨o, rfl⟩ := hs u (List.mem_of_getElem? hu') cond hmem
        simp only [Bool.or_eq_true, List.any_eq_true]
        right
        refine ⟨o, ?_, by simp [Valid.possibleTypes]⟩
        simp only [Valid.possibleTypes, hu', List.mem_filterMap]
        exact ⟨_, hmem, rfl⟩
    | interface iid =>
      simp only [pure, Except.pure, Except.ok.injEq, List.any_eq_true] at h
      obtain ⟨oid, hmem, heq⟩ := h
      have : cond = TypeId.object oid := by simpa using (beq_iff_eq.mp heq).symm
      subst this
      simp only [Bool.or_eq_true, List.any_eq_true]
      right
      exact ⟨oid, by simpa [Valid.possibleTypes] using hmem, by simp [Valid.possibleTypes]⟩
    | object oid =>
      simp only [bind, Except.bind] at h
      cases ho : s.getObject oid with
      | error e => simp [ho] at h
      | ok o =>
        have ho' : s.objects[oid]? = some o := C02.getObject_ok ho
        simp only [ho] at h
        simp only [Bool.or_eq_true, List.any_eq_true]
        right
        refine ⟨oid, by simp [Valid.possibleTypes], ?_⟩
        cases cond with
        | interface iid =>
          simp only [pure, Except.pure, Except.ok.injEq] at h
          simp only [Valid.possibleTypes, List.contains_iff_mem]
          exact mem_implementors.mpr ⟨o, ho', h⟩
        | union uid =>
          cases hu : s.getUnion uid with
          | error e => simp [hu] at h
          | ok u =>
            have hu' : s.unions[uid]? = some u := by
              unfold Schema.getUnion at hu; split at hu <;> simp_all [pure, Except.pure, panic']
            simp only [hu, pure, Except.pure, Except.ok.injEq] at h
            simp only [Valid.possibleTypes, hu', List.contains_iff_mem, List.mem_filterMap]
            exact ⟨.object oid, by simpa [List.contains_iff_mem] using h, rfl⟩
        | object i => simp [pure, Except.pure] at h
        | scalar i => simp [pure, Except.pure] at h
        | enum i => simp [pure, Except.pure] at h
        | input i => simp [pure, Except.pure] at h
    | scalar i => simp [Valid.isComposite] at hp
    | enum i => simp [Valid.isComposite] at hp
    | input i => simp [Valid.isComposite] at hp

/-! ## `resolve` runs every validator -/

theorem resolve_ok_validated (s : Schema) (d : QDoc) (q : Query) (h : resolve s d = .ok q) :
    validateTypenamePresence s q = .ok () ∧ validateSubscriptions q = .ok () ∧
    validateTypeConditions s q = .ok () := by
  unfold resolve at h
  simp only [bind, Except.bind] at h
  split at h <;> try simp at h
  split at h <;> try simp at h
  split at h <;> try simp at h
  rename_i h1
  split at h <;> try simp at h
  rename_i h2
  split at h <;> try simp at h
  rename_i h3
  simp only [pure, Except.pure, Except.ok.injEq] at h
  subst h
  exact ⟨h1, h2, h3⟩

/-! ## the rule that is not enforced (known finding `C06-no-selection`) -/

def witnessSchema : SdlDoc :=
  [.object "Dog" [] [{ name := "name", ty := .named "String", directives := [] }],
   .object "Query" [] [{ name := "dog", ty := .named "Dog", directives := [] }]]

def witnessDoc : QDoc := [.op .query (some "Q") [] [.field none "dog" []]]

/-- `query Q { dog }` with `dog : Dog` an object type: accepted by `resolve`, invalid by the specification -/
def witnessVerdict : Bool :=
  match Sdl.fromSdl witnessSchema with
  | .ok s =>
    (match resolve s witnessDoc with | .ok _ => true | .error _ => false) &&
      !Valid.validDoc s true witnessDoc && Valid.validDoc s false witnessDoc
  | .error _ => false

theorem no_selection_accepted : witnessVerdict = true := by decide +kernel

end C06
end GqlVerif
