import GqlVerif.Proofs.C12Graph
/-!
# C12 — recursive input types and fragments get finite-size Rust types

Property theorems (proofs and helper lemmas in `GqlVerif/Proofs/C12Graph.lean`).  For **every** schema
(any number of input types, any edges) and every query:

* `dfs_sound`, `dfs_complete` — the generator's DFS (`contains_type_without_indirection`, visited set
  keyed by name, fuel-free in Rust) answers `true` exactly for the input types that lie on a cycle of
  fields that are not behind a list (`OnDirectCycle`); completeness needs input type names to be
  pairwise distinct (a decidable predicate; `C12FE.dup_input_not_wf` shows it cannot be dropped);
* `boxed_acyclic` — after boxing every field whose *target* is such a type, no cycle of by-value
  containment remains: all generated input types have finite size;
* `box_iff_target_recursive` — `Box` is emitted exactly on those fields;
* `fragment_dfs_sound`, `fragment_dfs_complete`, `fragment_boxed_acyclic` — the same for named
  fragments and spreads (any depth, under fields and inline fragments; transitive cycles included),
  with no hypothesis; `walkFuel` is shown sufficient;
* `box_transparent_de`, `box_transparent_ser` — `Box` is invisible to (de)serialization.
-/
namespace GqlVerif
namespace C12
open C12Graph Codegen

theorem dfs_sound (s : Schema) (t : Nat) : inputIsRecursive s t = true → OnDirectCycle s t :=
  inputIsRecursive_sound s t

theorem dfs_complete (s : Schema) (t : Nat) : InputsWf s → OnDirectCycle s t → inputIsRecursive s t = true :=
  inputIsRecursive_complete s t

theorem boxed_acyclic (s : Schema) : InputsWf s → ¬ ∃ t, Relation.TransGen (byValue s) t t :=
  C12Graph.boxed_acyclic s

theorem box_iff_target_recursive (c : Ctx) (ty : FieldType) (quals : List Qual) (r : RTy) :
    inputFieldType c ty quals = .ok r →
      ((∃ t, r = .box t) ↔ ∃ iid, ty.id = .input iid ∧ inputIsRecursive c.s iid = true) :=
  C12Graph.box_iff_target_recursive c ty quals r

theorem fragment_dfs_sound (q : Query) (f : Nat) : fragmentIsRecursive q f = true → OnSpreadCycle q f :=
  fragmentIsRecursive_sound q f

theorem fragment_dfs_complete (q : Query) (f : Nat) : OnSpreadCycle q f → fragmentIsRecursive q f = true :=
  fragmentIsRecursive_complete q f

theorem fragment_boxed_acyclic (q : Query) : ¬ ∃ t, Relation.TransGen (byValueF q) t t :=
  C12Graph.fragment_boxed_acyclic' q

theorem box_transparent_de (path : String → Json → Serde.D Val) (t : RTy) (j : Json) :
    Serde.deTyWith path (.box t) j = Serde.deTyWith path t j := C12Graph.box_transparent_de path t j

theorem box_transparent_ser (path : String → Val → Serde.D Json) (t : RTy) (v : Val) :
    Serde.serTyWith path (.box t) v = Serde.serTyWith path t v := C12Graph.box_transparent_ser path t v

end C12
end GqlVerif
