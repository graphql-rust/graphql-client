import GqlVerif.Model.Scope
import GqlVerif.Proofs.C02Closure
/-!
# C02 — supported inputs are accepted and the generated code type-checks

What is proved (all schemas, queries, operations, options and case functions; no bound on sizes):

* the executable scope check the correspondence harness evaluates on the IR extracted from the real
  token stream means what it says (`wellScoped_iff`);
* the closure computed by `allUsedTypes` contains everything the emitted module can mention:
  the types of all reachable selections, all spread fragments, all inline type conditions
  (`selected_types_used`), the types of all variables (`variable_types_used`), and it is closed under
  input-object fields (`used_inputs_closed`) — `Proofs/C02Closure.lean`;
* every type name mentioned by the emitted input structs / `@oneOf` enums and by the `Variables`
  struct and its `default_*` functions is resolved inside the module the generator emits for the
  operation (`inputs_resolved_in_module`, `variables_resolved_in_module`): it is one of the module's own
  items, a Rust prelude type, or an extern enum the consumer supplies;
* the walks never run out of fuel (`responseForQuery_fuel` in `Proofs/C02Closure.lean`, shared with C17).

The same statement for the *response* items (nested selection structs, fragment structs, variant enums) and the
characterisation of the whole scope check on the emitted module are in `Proofs/C02Response.lean`
(`response_mentions_resolved`, `module_well_scoped_iff`).  rustc's type checker is exercised by the correspondence
(the compiled consumer crates in all delivery forms), not modelled.
-/
namespace GqlVerif
namespace C02
open Codegen

/-! ## the executable scope check is the stated discipline -/

theorem dups_eq_nil_iff (l : List String) : Scope.dups l = [] ↔ l.Nodup := by
  induction l with
  | nil => simp [Scope.dups]
  | cons x xs ih =>
    unfold Scope.dups
    by_cases h : xs.contains x = true
    · rw [if_pos h, List.nodup_cons]
      constructor
      · intro h'; cases h'
      · intro h'; exact absurd (by simpa using h) h'.1
    · rw [if_neg h, List.nodup_cons, ih]
      constructor
      · intro h'; exact ⟨by simpa using h, h'⟩
      · intro h'; exact h'.2

theorem flatMap_eq_nil {α β} (l : List α) (f : α → List β) : l.flatMap f = [] ↔ ∀ x ∈ l, f x = [] := by
  induction l with
  | nil => simp
  | cons a l ih => simp [List.flatMap_cons, ih]

/-- the member identifiers of an item (struct fields, enum variants, `default_*` functions) -/
def memberIdents : Item → List String
  | .struct _ _ _ fs => fs.map (·.rust)
  | .tagged _ _ _ _ vs => vs.map (·.name)
  | .oneOf _ _ _ vs => vs.map (·.name)
  | .gqlEnum _ _ _ vs _ _ => vs ++ ["Other"]
  | .defaults fns => fns.map (·.1)
  | _ => []

theorem itemMemberDups_nil_iff (it : Item) : Scope.itemMemberDups it = [] ↔ (memberIdents it).Nodup := by
  cases it <;> simp [Scope.itemMemberDups, memberIdents, dups_eq_nil_iff]

/-- **the scope check, spelled out**: `wellScoped` holds exactly when every mention is resolved
    (own item, Rust prelude type, or supplied by the consumer), no type name is defined twice, no item
    has two members of the same identifier, and every item with a serde derive names the serde crate -/
theorem wellScoped_iff (items : List Item) (supplied : List String) :
    Scope.wellScoped items supplied = true ↔
      (∀ n ∈ Scope.mentions items,
          n ∈ Scope.defines items ∨ n ∈ Scope.rustBuiltins ∨ n ∈ supplied) ∧
      (Scope.defines items).Nodup ∧
      (∀ it ∈ items, (memberIdents it).Nodup) ∧
      (∀ it ∈ items, Scope.missingSerdeCrate it = false) := by
  unfold Scope.wellScoped Scope.report
  rw [beq_iff_eq]
  simp only [Scope.Report.mk.injEq]
  rw [dups_eq_nil_iff, flatMap_eq_nil]
  have h1 : Scope.undefinedMentions items supplied = [] ↔
      ∀ n ∈ Scope.mentions items, n ∈ Scope.defines items ∨ n ∈ Scope.rustBuiltins ∨ n ∈ supplied := by
    unfold Scope.undefinedMentions Scope.resolved
    rw [List.filter_eq_nil_iff]
    constructor
    · intro h n hn
      have := h n hn
      simp only [Bool.not_eq_true, Bool.not_eq_false', Bool.or_eq_true, List.contains_iff_mem] at this
      rcases this with (h | h) | h
      · exact .inl h
      · exact .inr (.inl h)
      · exact .inr (.inr h)
    · intro h n hn
      simp only [Bool.not_eq_true, Bool.not_eq_false', Bool.or_eq_true, List.contains_iff_mem]
      rcases h n hn with h | h | h
      · exact .inl (.inl h)
      · exact .inl (.inr h)
      · exact .inr h
  have h2 : List.map Item.name (List.filter Scope.missingSerdeCrate items) = [] ↔
      ∀ it ∈ items, Scope.missingSerdeCrate it = false := by
    rw [List.map_eq_nil_iff, List.filter_eq_nil_iff]
    constructor
    · intro h it hit; simpa using h it hit
    · intro h it hit; simp [h it hit]
  rw [h1, h2]
  constructor
  · rintro ⟨a, b, c, d⟩
    exact ⟨a, b, fun it hit => (itemMemberDups_nil_iff it).1 (c it hit), d⟩
  · rintro ⟨a, b, c, d⟩
    exact ⟨a, b, fun it hit => (itemMemberDups_nil_iff it).2 (c it hit), d⟩

/-- non-vacuity: a module shaped like the generator's output for `query Q($v: In) { dog { name } }` -/
example : Scope.wellScoped
    [.alias "Int" false (.path "i64"), .alias "ID" false (.path "String"),
     .alias "Date" false (.path "super::Date"),
     .struct "In" ["Serialize"] (some "::serde") [{ rust := "when", ty := .opt (.path "Date") }, { rust := "dir", ty := .path "Direction" }],
     .struct "Variables" ["Serialize"] (some "::serde") [{ rust := "v", ty := .opt (.box (.path "In")) }],
     .struct "QDog" ["Deserialize"] (some "::serde") [{ rust := "name", ty := .opt (.path "String") }],
     .struct "ResponseData" ["Deserialize"] (some "::serde") [{ rust := "dog", ty := .opt (.path "QDog") }]]
    ["super::Date", "Direction"] = true := by decide

/-- … and the check is not vacuous the other way: a mention without an item is reported -/
example : (Scope.report
    [.struct "ResponseData" ["Deserialize"] none [{ rust := "dog", ty := .opt (.path "QDog") }, { rust := "dog", ty := .path "Int" }]]
    []) = { undefined := ["QDog", "Int"], duplicateDefs := [], duplicateMembers := ["dog"], serdeless := ["ResponseData"] } := by
  decide

/-! ## the proofs of `Proofs/C02Closure.lean` speak about the same `mentions` -/

theorem leaf_eq : ∀ t : RTy, C02.leaf t = Scope.leaf t
  | .path _ => rfl
  | .opt t => by simp [C02.leaf, Scope.leaf, leaf_eq t]
  | .vec t => by simp [C02.leaf, Scope.leaf, leaf_eq t]
  | .box t => by simp [C02.leaf, Scope.leaf, leaf_eq t]

theorem itemMentions_eq (it : Item) : C02.itemMentions it = Scope.itemMentions it := by
  have hl : C02.leaf = Scope.leaf := funext leaf_eq
  cases it <;> simp [C02.itemMentions, Scope.itemMentions, hl]

/-! ## mentions of the input items and of `Variables` are resolved inside the emitted module -/

/-- the items `responseForQuery` emits, decomposed -/
theorem responseForQuery_ok {c : Ctx} {op : Nat} {items : List Item} (h : responseForQuery c op = .ok items) :
    ∃ u S E F I V R, allUsedTypes c.s c.q op = .ok u ∧ scalarItems c u = .ok S ∧ enumItems c u = .ok E ∧
      inputItems c u = .ok I ∧ variablesItems c op = .ok V ∧
      items = builtinAliases ++ S ++ E ++ I ++ V ++ F ++ R := by
  unfold responseForQuery at h
  obtain ⟨u, hu, h⟩ := bind_ok h
  obtain ⟨S, hS, h⟩ := bind_ok h
  obtain ⟨E, hE, h⟩ := bind_ok h
  obtain ⟨F, _, h⟩ := bind_ok h
  obtain ⟨I, hI, h⟩ := bind_ok h
  obtain ⟨V, hV, h⟩ := bind_ok h
  obtain ⟨o, _, h⟩ := bind_ok h
  obtain ⟨R, _, h⟩ := bind_ok h
  simp only [pure, Except.pure, Except.ok.injEq] at h
  exact ⟨u, S, E, F.flatten, I, V, R, hu, hS, hE, hI, hV, h.symm⟩

theorem scalarItems_itemDefines {c : Ctx} {u : UsedTypes} {S : List Item} (h : scalarItems c u = .ok S) :
    ∀ it ∈ S, Scope.itemDefines it = some it.name := by
  unfold scalarItems at h
  obtain ⟨ns, _, h⟩ := bind_ok h
  simp only [pure, Except.pure, Except.ok.injEq] at h
  subst h
  intro it hit
  simp only [List.mem_map] at hit
  obtain ⟨n, _, rfl⟩ := hit
  rfl

theorem enumItems_itemDefines {c : Ctx} {u : UsedTypes} {E : List Item} (h : enumItems c u = .ok E) :
    ∀ it ∈ E, Scope.itemDefines it = some it.name := by
  unfold enumItems at h
  obtain ⟨es, _, h⟩ := bind_ok h
  simp only [pure, Except.pure, Except.ok.injEq] at h
  subst h
  intro it hit
  simp only [List.mem_map] at hit
  obtain ⟨e, _, rfl⟩ := hit
  rfl

theorem inputItem_itemDefines {c : Ctx} {i : StoredInput} {it : Item} (h : inputItem c i = .ok it) :
    Scope.itemDefines it = some it.name := by
  unfold inputItem at h
  split at h
  · obtain ⟨vs, _, h⟩ := bind_ok h
    simp only [pure, Except.pure, Except.ok.injEq] at h
    subst h; rfl
  · obtain ⟨fs, _, h⟩ := bind_ok h
    simp only [pure, Except.pure, Except.ok.injEq] at h
    subst h; rfl

theorem inputItems_itemDefines {c : Ctx} {u : UsedTypes} {I : List Item} (h : inputItems c u = .ok I) :
    ∀ it ∈ I, Scope.itemDefines it = some it.name := by
  intro it hit
  unfold inputItems at h
  obtain ⟨x, _, hx⟩ := C02.mapM_ok_mem h it hit
  exact inputItem_itemDefines hx

theorem mem_defines {items : List Item} {n : String} :
    n ∈ Scope.defines items ↔ ∃ it ∈ items, Scope.itemDefines it = some n := by
  unfold Scope.defines; exact List.mem_filterMap

/-- `String` is a prelude type, the other default scalars are the built-in aliases -/
theorem defaultScalars_builtin : ∀ n ∈ Schema.defaultScalars,
    n ∈ Scope.defines builtinAliases ∨ n ∈ Scope.rustBuiltins := by decide

/-- `Defined` (the notion of `Proofs/C02Closure.lean`) implies `resolved` in the emitted module -/
theorem defined_resolved {c : Ctx} {u : UsedTypes} {S E I : List Item} (rest1 rest2 : List Item)
    (hS : scalarItems c u = .ok S) (hE : enumItems c u = .ok E) (hI : inputItems c u = .ok I)
    (n : String) (h : Defined c S E I n) :
    Scope.resolved (builtinAliases ++ S ++ E ++ I ++ rest1 ++ rest2) c.o.externEnums n = true := by
  unfold Scope.resolved
  simp only [Bool.or_eq_true, List.contains_iff_mem, mem_defines, List.mem_append]
  rcases h with h | h | ⟨it, hit, rfl⟩
  · rcases defaultScalars_builtin n h with h | h
    · obtain ⟨it, hit, hd⟩ := mem_defines.mp h
      exact .inl (.inl ⟨it, .inl (.inl (.inl (.inl (.inl hit)))), hd⟩)
    · exact .inl (.inr h)
  · exact .inr h
  · refine .inl (.inl ⟨it, ?_⟩)
    simp only [List.mem_append] at hit
    rcases hit with (hit | hit) | hit
    · exact ⟨.inl (.inl (.inl (.inl (.inr hit)))), scalarItems_itemDefines hS it hit⟩
    · exact ⟨.inl (.inl (.inl (.inr hit))), enumItems_itemDefines hE it hit⟩
    · exact ⟨.inl (.inl (.inr hit)), inputItems_itemDefines hI it hit⟩

/-- **input items are resolved in the emitted module.**  For every operation for which
    `responseForQuery` succeeds (normalization `none`; no input type named like a Rust keyword;
    `OutputOnly` / `InputFieldsRelevant`: the schema and query are GraphQL-valid in the sense that input
    types only occur in input positions), every type name mentioned by an emitted input struct or
    `@oneOf` enum is an item of the same module, a prelude type or an extern enum. -/
theorem inputs_resolved_in_module (c : Ctx) (op : Nat) (items : List Item)
    (hnorm : c.o.normalization = .none)
    (hkw : ∀ i ∈ c.s.inputs, keywordReplace i.name = i.name)
    (hwf : OutputOnly c.s c.q = true) (hrel : InputFieldsRelevant c.s = true)
    (h : responseForQuery c op = .ok items) :
    ∃ u I, allUsedTypes c.s c.q op = .ok u ∧ inputItems c u = .ok I ∧ (∀ it ∈ I, it ∈ items) ∧
      ∀ it ∈ I, ∀ n ∈ Scope.itemMentions it, Scope.resolved items c.o.externEnums n = true := by
  obtain ⟨u, S, E, F, I, V, R, hu, hS, hE, hI, hV, rfl⟩ := responseForQuery_ok h
  refine ⟨u, I, hu, hI, fun it hit => by simp [hit], ?_⟩
  intro it hit n hn
  rw [← itemMentions_eq] at hn
  have hd := inputItems_mentions_defined c op u S E I hnorm hkw hwf hrel hu hS hE hI it hit n hn
  have := defined_resolved (V ++ F) R hS hE hI n hd
  simpa [List.append_assoc] using this

/-- **the `Variables` struct and its `default_*` functions are resolved in the emitted module.** -/
theorem variables_resolved_in_module (c : Ctx) (op : Nat) (items : List Item)
    (hnorm : c.o.normalization = .none)
    (hkwS : ∀ n ∈ c.s.scalars, keywordReplace n = n)
    (hkwE : ∀ e ∈ c.s.enums, keywordReplace e.name = e.name)
    (hvars : ∀ v ∈ c.q.opVariables op, Relevant v.ty.id)
    (h : responseForQuery c op = .ok items) :
    ∃ V, variablesItems c op = .ok V ∧ (∀ it ∈ V, it ∈ items) ∧
      ∀ it ∈ V, ∀ n ∈ Scope.itemMentions it, Scope.resolved items c.o.externEnums n = true := by
  obtain ⟨u, S, E, F, I, V, R, hu, hS, hE, hI, hV, rfl⟩ := responseForQuery_ok h
  refine ⟨V, hV, fun it hit => by simp [hit], ?_⟩
  intro it hit n hn
  rw [← itemMentions_eq] at hn
  have hd := variables_mentions_defined c op u S E I V hnorm hkwS hkwE hvars hu hS hE hI hV it hit n hn
  have := defined_resolved (V ++ F) R hS hE hI n hd
  simpa [List.append_assoc] using this

/-- non-vacuity of the hypotheses: the schema / query pair of `Proofs/C02Closure.lean`
    (`input In { e: E, next: In2 } input In2 { back: [In], s: Date }`, `query Q($v: In) { x { y } ...F }`)
    satisfies them and generation succeeds on it -/
example : OutputOnly goodSchema goodQuery = true ∧ InputFieldsRelevant goodSchema = true ∧
    (responseForQuery { s := goodSchema, q := goodQuery, o := {}, cs := ⟨id, id⟩ } 0).toOption.isSome = true := by
  decide

end C02
end GqlVerif
