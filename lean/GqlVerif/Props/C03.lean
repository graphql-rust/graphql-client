import GqlVerif.Model.Serde
import GqlVerif.Model.Spec
import GqlVerif.Model.Codegen
import GqlVerif.Props.C13
/-!
# C03 — generated response types reject what the schema forbids

The generated type of a position is `rustOf base t` (C13).  This file proves, for **every** type
expression `t` (any list depth, any placement of `!`) and every JSON value `j`, that serde's
deserializer for that type succeeds **iff** `j` is admitted by `t` (`Spec.accepts`): `null` only at
nullable positions, arrays exactly at list positions, the leaf kind at the leaves.  Hence null at a
non-null position, a non-list where a list is required and a wrong scalar kind are all rejected —
at every nesting depth.  For the `__typename`-tagged enums: a known tag selects its own variant
(never another), an unknown tag is an error without the other-variant option and `Unknown` with it.
-/
namespace GqlVerif
namespace C03
open Serde Spec C13

def okB {α} : D α → Bool
  | .ok _ => true
  | .error _ => false

theorem okB_map {α β} (f : α → β) (x : D α) : okB (f <$> x) = okB x := by
  cases x <;> rfl

theorem okB_mapM {α β} (f : α → D β) (xs : List α) : okB (xs.mapM f) = xs.all (fun x => okB (f x)) := by
  induction xs with
  | nil => rfl
  | cons x xs ih =>
    rw [List.mapM_cons, List.all_cons, ← ih]
    cases hx : f x with
    | error e => rfl
    | ok y => cases hm : xs.mapM f <;> simp [okB, bind, Except.bind, pure, Except.pure]

theorem okB_opt (path : String → Json → D Val) (t : RTy) (j : Json) :
    okB (deTyWith path (.opt t) j) = (j.isNull || okB (deTyWith path t j)) := by
  rw [show deTyWith path (RTy.opt t) j = (if j.isNull then pure .unit else Val.some <$> deTyWith path t j) from rfl]
  cases hj : j.isNull
  · simp [okB_map]
  · simp [okB, pure, Except.pure]

theorem okB_vec (path : String → Json → D Val) (t : RTy) (j : Json) :
    okB (deTyWith path (.vec t) j) =
      (match j with | .arr xs => xs.all (fun x => okB (deTyWith path t x)) | _ => false) := by
  cases j with
  | arr xs =>
    rw [show deTyWith path (RTy.vec t) (.arr xs) = Val.list <$> xs.mapM (deTyWith path t) from rfl]
    simp only [okB_map, okB_mapM]
  | null => rfl
  | bool b => rfl
  | int n => rfl
  | num s => rfl
  | str s => rfl
  | obj kvs => rfl

theorem wf_of_nonNull {t : GTy} (h : wf (.nonNull t) = true) : wf t = true := by
  cases t <;> simp_all [wf]

/-- **acceptance is exactly conformance**, at every modifier depth.  `path base` is how the named
    leaf type is read, `leafOk` what it accepts. -/
theorem ok_iff_accepts (path : String → Json → D Val) (base : String) (leafOk : Json → Bool)
    (hleaf : ∀ j, okB (path base j) = leafOk j) :
    ∀ t : GTy, wf t = true →
      (∀ j, okB (deTyWith path (rustOfNN (.path base) t) j) = acceptsNN leafOk t j) ∧
      (∀ j, okB (deTyWith path (rustOf (.path base) t) j) = accepts leafOk t j) := by
  intro t
  induction t with
  | named n =>
    intro _
    have hnn : ∀ j, okB (deTyWith path (rustOfNN (.path base) (.named n)) j) = acceptsNN leafOk (.named n) j := by
      intro j; simp [rustOfNN, deTyWith, acceptsNN, hleaf]
    refine ⟨hnn, ?_⟩
    intro j
    simp only [rustOf, accepts, okB_opt, hnn]
  | list t ih =>
    intro hw
    have hw' : wf t = true := by simpa [wf] using hw
    obtain ⟨_, ih2⟩ := ih hw'
    have hnn : ∀ j, okB (deTyWith path (rustOfNN (.path base) (.list t)) j) = acceptsNN leafOk (.list t) j := by
      intro j
      simp only [rustOfNN, okB_vec]
      cases j <;> simp [ih2, acceptsNN]
    refine ⟨hnn, ?_⟩
    intro j
    simp only [rustOf, accepts, okB_opt, hnn]
  | nonNull t ih =>
    intro hw
    have hw' : wf t = true := wf_of_nonNull hw
    obtain ⟨ih1, _⟩ := ih hw'
    have hnn : ∀ j, okB (deTyWith path (rustOfNN (.path base) (.nonNull t)) j) = acceptsNN leafOk (.nonNull t) j := by
      intro j; simp only [rustOfNN, acceptsNN]; exact ih1 j
    refine ⟨hnn, ?_⟩
    intro j
    simp only [rustOf, accepts]; exact ih1 j

theorem acceptsNN_null (leafOk : Json → Bool) (hnull : leafOk .null = false) (t : GTy) :
    acceptsNN leafOk t .null = false := by
  induction t with
  | named n => simpa [acceptsNN] using hnull
  | list t _ => simp [acceptsNN]
  | nonNull t ih => simpa [acceptsNN] using ih

/-- corollary: `null` at a non-null position is rejected, at any depth of `t` -/
theorem null_at_non_null_rejected (path : String → Json → D Val) (base : String) (leafOk : Json → Bool)
    (hleaf : ∀ j, okB (path base j) = leafOk j) (hnull : leafOk .null = false) (t : GTy)
    (hw : wf (.nonNull t) = true) :
    okB (deTyWith path (rustOf (.path base) (.nonNull t)) .null) = false := by
  rw [(ok_iff_accepts path base leafOk hleaf (.nonNull t) hw).2]
  simp only [accepts]
  exact acceptsNN_null leafOk hnull t

/-- corollary: a non-list where a list is required is rejected -/
theorem non_list_rejected (path : String → Json → D Val) (base : String) (leafOk : Json → Bool)
    (hleaf : ∀ j, okB (path base j) = leafOk j) (t : GTy) (hw : wf t = true)
    (j : Json) (hj : j.isNull = false) (hnot : ∀ xs, j ≠ .arr xs) :
    okB (deTyWith path (rustOf (.path base) (.list t)) j) = false ∧
    okB (deTyWith path (rustOf (.path base) (.nonNull (.list t))) j) = false := by
  have h1 : wf (.list t) = true := by simpa [wf] using hw
  have h2 : wf (.nonNull (.list t)) = true := by simpa [wf] using hw
  rw [(ok_iff_accepts path base leafOk hleaf _ h1).2, (ok_iff_accepts path base leafOk hleaf _ h2).2]
  cases j <;> simp_all [accepts, acceptsNN, Json.isNull]

/-! ## the leaf kinds in a generated module (built-in aliases `Int = i64`, …) -/

theorem find_alias (e : Env) (n : String) (t : RTy) (h : e.find n = some (.alias n false t)) :
    e.find n = some (.alias n false t) := h

theorem leaf_int (e : Env) (b : Bool) (fuel : Nat) (h : e.find "Int" = some (.alias "Int" false (.path "i64"))) (j : Json) :
    okB (dePath e b (fuel + 2) "Int" j) = intOk j := by
  have h1 : dePrim "Int" j = none := by simp [dePrim]
  unfold dePath; simp only [h1, h, deTyWith]
  unfold dePath
  cases j <;> simp [dePrim, intOk, okB, bad, pure, Except.pure, inI64, i64Ok, i64Min, i64Max]
  rename_i n
  by_cases h1 : -9223372036854775808 ≤ n <;> by_cases h2 : n ≤ 9223372036854775807 <;> simp [h1, h2]

theorem leaf_float (e : Env) (b : Bool) (fuel : Nat) (h : e.find "Float" = some (.alias "Float" false (.path "f64"))) (j : Json) :
    okB (dePath e b (fuel + 2) "Float" j) = floatOk j := by
  have h1 : dePrim "Float" j = none := by simp [dePrim]
  unfold dePath; simp only [h1, h, deTyWith]
  unfold dePath
  cases j <;> simp [dePrim, floatOk, okB, bad, pure, Except.pure]

theorem leaf_boolean (e : Env) (b : Bool) (fuel : Nat) (h : e.find "Boolean" = some (.alias "Boolean" false (.path "bool"))) (j : Json) :
    okB (dePath e b (fuel + 2) "Boolean" j) = boolOk j := by
  have h1 : dePrim "Boolean" j = none := by simp [dePrim]
  unfold dePath; simp only [h1, h, deTyWith]
  unfold dePath
  cases j <;> simp [dePrim, boolOk, okB, bad, pure, Except.pure]

theorem leaf_string (e : Env) (b : Bool) (fuel : Nat) (j : Json) :
    okB (dePath e b (fuel + 1) "String" j) = stringOk j := by
  unfold dePath
  cases j <;> simp [dePrim, stringOk, okB, bad, pure, Except.pure]

/-- a generated string enum admits exactly the JSON strings (open world) -/
theorem leaf_enum (e : Env) (b : Bool) (fuel : Nat) (p name : String) (d : List String) (sp : String)
    (vs : List String) (ser de : List (String × String))
    (hp : p ≠ "String" ∧ p ≠ "i64" ∧ p ≠ "f64" ∧ p ≠ "bool")
    (h : e.find p = some (.gqlEnum name d sp vs ser de)) (j : Json) :
    okB (dePath e b (fuel + 1) p j) = stringOk j := by
  have h1 : dePrim p j = none := by simp [dePrim, hp.1, hp.2.1, hp.2.2.1, hp.2.2.2]
  unfold dePath; simp only [h1, h]
  cases j with
  | str s => simp only [stringOk]; cases de.find? (·.1 == s) <;> rfl
  | null => rfl
  | bool _ => rfl
  | int _ => rfl
  | num _ => rfl
  | arr _ => rfl
  | obj _ => rfl

example : intOk .null = false ∧ floatOk .null = false ∧ boolOk .null = false ∧ stringOk .null = false := by decide

/-- **Int positions** of a generated module: accepted iff conforming, at every depth (`string_position`: the same for
    `String`) -/
theorem int_position (e : Env) (b : Bool) (fuel : Nat) (h : e.find "Int" = some (.alias "Int" false (.path "i64")))
    (t : GTy) (hw : wf t = true) (j : Json) :
    okB (deTy e b (fuel + 2) (rustOf (.path "Int") t) j) = accepts intOk t j :=
  (ok_iff_accepts (dePath e b (fuel + 2)) "Int" intOk (leaf_int e b fuel h) t hw).2 j

theorem string_position (e : Env) (b : Bool) (fuel : Nat) (t : GTy) (hw : wf t = true) (j : Json) :
    okB (deTy e b (fuel + 1) (rustOf (.path "String") t) j) = accepts stringOk t j :=
  (ok_iff_accepts (dePath e b (fuel + 1)) "String" stringOk (leaf_string e b fuel) t hw).2 j

/-! ## `__typename`-tagged enums -/

/-- a **known tag selects its own variant** (the first one with that wire name): the result is either an
    error (the payload does not fit) or a value of exactly that variant -/
theorem known_tag_own_variant (pathB : String → Json → D Val) (buffered : Bool) (tag : String)
    (vs : List RVariant) (kvs : List (String × Json)) (name : String) (v : RVariant)
    (hcount : countKey tag kvs = 1) (htag : Json.lookup tag kvs = some (.str name))
    (hfind : vs.find? (fun x => !x.other && x.wire == name) = some v) :
    ∀ r, deTaggedWith pathB buffered tag vs kvs = .ok r → ∃ payload, r = .variant v.name payload := by
  intro r hr
  unfold deTaggedWith at hr
  simp only [hcount, htag, hfind] at hr
  have hno : v.other = false := by
    have := List.find?_some hfind
    simp only [Bool.and_eq_true, Bool.not_eq_eq_eq_not, Bool.not_true] at this
    exact this.1
  simp only [hno, Bool.false_eq_true, ↓reduceIte] at hr
  cases hp : v.payload with
  | none => simp [hp, pure, Except.pure] at hr; exact ⟨none, hr.symm⟩
  | some t =>
    simp only [hp] at hr
    cases hd : deTyWith pathB t (.obj (kvs.filter (·.1 != tag))) with
    | error e => simp [hd, Functor.map, Except.map] at hr
    | ok x => simp [hd, Functor.map, Except.map] at hr; exact ⟨some x, hr.symm⟩

/-- an **unknown tag is an error** when there is no `other` variant -/
theorem unknown_tag_rejected (pathB : String → Json → D Val) (buffered : Bool) (tag : String)
    (vs : List RVariant) (kvs : List (String × Json)) (name : String)
    (hcount : countKey tag kvs = 1) (htag : Json.lookup tag kvs = some (.str name))
    (hunknown : vs.find? (fun x => !x.other && x.wire == name) = none)
    (hno_other : vs.find? (·.other) = none) :
    okB (deTaggedWith pathB buffered tag vs kvs) = false := by
  unfold deTaggedWith
  simp [hcount, htag, hunknown, hno_other, okB, bad]

/-- an **unknown tag yields the `other` variant** when the option is on -/
theorem unknown_tag_other (pathB : String → Json → D Val) (buffered : Bool) (tag : String)
    (vs : List RVariant) (kvs : List (String × Json)) (name : String) (o : RVariant)
    (hcount : countKey tag kvs = 1) (htag : Json.lookup tag kvs = some (.str name))
    (hunknown : vs.find? (fun x => !x.other && x.wire == name) = none)
    (hother : vs.find? (·.other) = some o) :
    deTaggedWith pathB buffered tag vs kvs = .ok (.variant o.name none) := by
  unfold deTaggedWith
  simp [hcount, htag, hunknown, hother, pure, Except.pure]

/-- a missing tag is an error -/
theorem missing_tag_rejected (pathB : String → Json → D Val) (buffered : Bool) (tag : String)
    (vs : List RVariant) (kvs : List (String × Json)) (hcount : countKey tag kvs = 0) :
    okB (deTaggedWith pathB buffered tag vs kvs) = false := by
  unfold deTaggedWith
  simp [hcount, okB, bad]

/-- the known finding `C03-typename-index`, as a theorem about the model: from *buffered* content an integer tag
    equal to a variant index is accepted (and from direct content it is not) -/
theorem integer_tag_buffered_vs_direct (pathB : String → Json → D Val) :
    deTaggedWith pathB true "__typename" [{ name := "Dog" }, { name := "Cat" }] [("__typename", .int 0)] =
      .ok (.variant "Dog" none) ∧
    okB (deTaggedWith pathB false "__typename" [{ name := "Dog" }, { name := "Cat" }] [("__typename", .int 0)]) = false := by
  constructor <;> simp [deTaggedWith, countKey, Json.lookup, okB, bad, pure, Except.pure]

end C03
end GqlVerif
