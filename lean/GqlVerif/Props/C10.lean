import GqlVerif.Model.EnumSpec
import GqlVerif.Model.Codegen
import GqlVerif.Model.Serde
/-!
# C10 — generated enums are open-world string bijections

The generated `impl Serialize` / `impl Deserialize` of a GraphQL enum are two `match` tables plus the
`Other(String)` fallback.  The harness extracts both tables from the *emitted* impls on every run and
evaluates `EnumSpec.tablesWf` on them; the theorems below say what follows from `tablesWf`, for
**every** table and **every** string:

* `roundtrip_all_strings` — `serialize (deserialize s) = s` for all strings `s`;
* `schema_value_own_variant` — each wire name maps to its own variant and that variant back to
  exactly that name;
* `distinct_values_distinct_variants` — two different wire names never share a variant;
* `unknown_string_is_other` — any string that is not a wire name becomes `Other(s)`, never an error;
* `codegen_tables_wf` — the tables `Codegen.enumItem` emits satisfy `tablesWf` whenever the schema's
  value names are pairwise distinct and their Rust identifiers are pairwise distinct (the case
  function and keyword escaping are arbitrary: parameters of the theorem);
* `wire_is_schema_name` — whatever the case function and normalization, the wire strings are exactly
  the schema's value names;
* `serde_model_enum` — the serde model used by the wire-level checks reads a string enum exactly as
  `EnumSpec.deE`.
-/
namespace GqlVerif
namespace C10
open EnumSpec

theorem nodup_iff {l : List String} : nodup l = true ↔ l.Nodup := by
  induction l with
  | nil => simp [nodup]
  | cons x xs ih => simp [nodup, ih]

theorem find_fst_of_nodup {l : List (String × String)} (h : (l.map (·.1)).Nodup) {p : String × String}
    (hp : p ∈ l) : l.find? (·.1 == p.1) = some p := by
  induction l with
  | nil => simp at hp
  | cons a l ih =>
    simp only [List.map_cons, List.nodup_cons] at h
    simp only [List.mem_cons] at hp
    rcases hp with rfl | hp
    · simp
    · have hne : a.1 ≠ p.1 := by
        intro heq
        exact h.1 (heq ▸ List.mem_map_of_mem hp)
      simp [hne, ih h.2 hp]

theorem find_none_of_not_mem {l : List (String × String)} {s : String} (h : s ∉ l.map (·.1)) :
    l.find? (·.1 == s) = none := by
  rw [List.find?_eq_none]
  intro x hx
  simp only [beq_iff_eq]
  intro heq
  exact h (heq ▸ List.mem_map_of_mem hx)

theorem wf_parts {vs : List String} {ser de : List (String × String)} (h : tablesWf vs ser de = true) :
    (de.map (·.1)).Nodup ∧ (de.map (·.2)).Nodup ∧ vs = de.map (·.2) ∧ ser = de.map (fun p => (p.2, p.1)) := by
  simp only [tablesWf, Bool.and_eq_true, beq_iff_eq] at h
  exact ⟨nodup_iff.mp h.1.1.1, nodup_iff.mp h.1.1.2, h.1.2, h.2⟩

/-- each wire name selects its own variant, and that variant serializes to exactly that name -/
theorem schema_value_own_variant {vs ser de} (h : tablesWf vs ser de = true) {w ident : String}
    (hm : (w, ident) ∈ de) :
    deE de w = .variant ident ∧ serE ser (.variant ident) = some w := by
  obtain ⟨h1, h2, -, hser⟩ := wf_parts h
  constructor
  · simp [deE, find_fst_of_nodup h1 hm]
  · subst hser
    have hm' : (ident, w) ∈ de.map (fun p => (p.2, p.1)) := List.mem_map.mpr ⟨(w, ident), hm, rfl⟩
    have hnd : ((de.map (fun p => (p.2, p.1))).map (·.1)).Nodup := by simpa [List.map_map, Function.comp_def] using h2
    simp [serE, find_fst_of_nodup hnd hm']

/-- any string that is not a wire name becomes `Other(s)` -/
theorem unknown_string_is_other (de : List (String × String)) (s : String) (h : s ∉ de.map (·.1)) :
    deE de s = .other s := by
  simp [deE, find_none_of_not_mem h]

/-- **serialize ∘ deserialize = id on all strings** -/
theorem roundtrip_all_strings {vs ser de} (h : tablesWf vs ser de = true) (s : String) :
    serE ser (deE de s) = some s := by
  by_cases hs : s ∈ de.map (·.1)
  · obtain ⟨p, hp, rfl⟩ := List.mem_map.mp hs
    have := schema_value_own_variant h (w := p.1) (ident := p.2) hp
    rw [this.1, this.2]
  · rw [unknown_string_is_other de s hs]; rfl

/-- two different wire names never share a variant -/
theorem distinct_values_distinct_variants {vs ser de} (h : tablesWf vs ser de = true)
    {w1 w2 : String} (hne : w1 ≠ w2) :
    deE de w1 ≠ deE de w2 := by
  intro heq
  have r1 := roundtrip_all_strings h w1
  have r2 := roundtrip_all_strings h w2
  rw [heq, r2] at r1
  exact hne (Option.some.inj r1).symm

/-- deserialization is total on strings (never an error): it is a function into `EVal` -/
theorem deserialize_total (de : List (String × String)) (s : String) :
    (∃ ident, deE de s = .variant ident) ∨ deE de s = .other s := by
  unfold deE
  cases de.find? (·.1 == s) with
  | none => right; rfl
  | some p => left; exact ⟨p.2, rfl⟩

example : tablesWf ["where_", "self_", "Red"] [("where_", "where"), ("self_", "self"), ("Red", "red")]
    [("where", "where_"), ("self", "self_"), ("red", "Red")] = true := by decide

/-! ## the tables the generator emits -/

/-- the wire strings are exactly the schema's value names, for any case function, normalization
    and keyword table -/
theorem wire_is_schema_name (c : Codegen.Ctx) (e : StoredEnum) :
    ∃ name derives path idents ser de, Codegen.enumItem c e = .gqlEnum name derives path idents ser de ∧
      de.map (·.1) = e.variants ∧ ser.map (·.2) = e.variants := by
  refine ⟨_, _, _, _, _, _, rfl, ?_, ?_⟩ <;> simp [List.map_map, Function.comp_def]

/-- the emitted tables are well-formed whenever value names and their identifiers are distinct -/
theorem codegen_tables_wf (c : Codegen.Ctx) (e : StoredEnum) (hv : e.variants.Nodup)
    (hi : (e.variants.map (fun v => enumVariantIdent c.o.normalization c.cs v)).Nodup) :
    ∃ name derives path idents ser de, Codegen.enumItem c e = .gqlEnum name derives path idents ser de ∧
      tablesWf idents ser de = true := by
  refine ⟨_, _, _, _, _, _, rfl, ?_⟩
  simp only [tablesWf, Bool.and_eq_true, beq_iff_eq]
  refine ⟨⟨⟨?_, ?_⟩, ?_⟩, ?_⟩
  · apply nodup_iff.mpr; simpa [List.map_map, Function.comp_def] using hv
  · apply nodup_iff.mpr; simpa [List.map_map, Function.comp_def] using hi
  · simp [List.map_map, Function.comp_def]
  · simp [List.map_map, Function.comp_def]

/-- no schema value gets the identifier of the catch-all variant `Other(String)`: for ANY value name, case
    function and normalization (a value that would be called `Other` — `Other` itself, `OTHER` / `other` under
    `normalization = rust` — is escaped to `Other_`) -/
theorem ident_ne_other (n : Normalization) (cs : CaseFns) (v : String) : enumVariantIdent n cs v ≠ "Other" := by
  unfold enumVariantIdent
  simp only
  split
  · decide
  · rename_i h; simpa using h

/-- so the identifiers the generated enum declares — the schema values' and `Other` — are pairwise distinct
    exactly when the schema values' identifiers are -/
theorem declared_idents_nodup (c : Codegen.Ctx) (e : StoredEnum)
    (hi : (e.variants.map (fun v => enumVariantIdent c.o.normalization c.cs v)).Nodup) :
    ∃ name derives path idents ser de, Codegen.enumItem c e = .gqlEnum name derives path idents ser de ∧
      (idents ++ ["Other"]).Nodup := by
  refine ⟨_, _, _, _, _, _, rfl, ?_⟩
  rw [List.nodup_append]
  refine ⟨hi, by simp, ?_⟩
  intro a ha b hb
  simp only [List.mem_singleton] at hb
  subst hb
  obtain ⟨v, -, rfl⟩ := List.mem_map.mp ha
  exact ident_ne_other _ _ v

/-- the escape is the only change: any other identifier is `keyword_replace (normalization value)` -/
theorem ident_eq_unless_other (n : Normalization) (cs : CaseFns) (v : String)
    (h : keywordReplace (n.enumVariant cs v) ≠ "Other") :
    enumVariantIdent n cs v = keywordReplace (n.enumVariant cs v) := by
  unfold enumVariantIdent
  simp [h]

/-- the serde model reads a string enum exactly as `deE` -/
theorem serde_model_enum (env : Env) (b : Bool) (fuel : Nat) (p name : String) (d : List String) (sp : String)
    (vs : List String) (ser de : List (String × String)) (s : String)
    (hp : p ≠ "String" ∧ p ≠ "i64" ∧ p ≠ "f64" ∧ p ≠ "bool")
    (hfind : env.find p = some (.gqlEnum name d sp vs ser de)) :
    Serde.dePath env b (fuel + 1) p (.str s) =
      .ok (match deE de s with | .variant i => Val.variant i none | .other o => Val.enumOther o) := by
  unfold Serde.dePath
  have hprim : Serde.dePrim p (.str s) = none := by
    simp [Serde.dePrim, hp.1, hp.2.1, hp.2.2.1, hp.2.2.2]
  simp only [hprim, hfind]
  unfold deE
  cases de.find? (·.1 == s) with
  | none => rfl
  | some q => rfl

end C10
end GqlVerif
