import GqlVerif.Model.Codegen
import GqlVerif.Model.Serde
import GqlVerif.Props.C07
/-!
# C14 — deprecation strategies allow / warn / deny do exactly what is documented

The decision is local to one field (`ExpandedField::render`), so "for all schemas and selections"
is "for every call of `renderField`".

* `dep_table` — the complete 2 × 3 case table (deprecated? × strategy), for every field: a field
  that is not deprecated is always emitted without attribute; `allow` emits a deprecated field
  without attribute; `warn` emits it with `#[deprecated]` carrying the schema's reason **verbatim**
  (or no note when the schema gives none); `deny` omits it;
* `never_omitted_unless_denied`, `never_marked_unless_warned` — the converse readings;
* `front_ends_agree` — the status read from an SDL directive and from `isDeprecated` /
  `deprecationReason` is the same (C07);
* `omitted_field_key_ignored` — a struct from which `deny` removed a field still deserializes
  payloads that contain the field's key: a key that is no field's wire name never changes the result
  of reading the struct's own fields (serde ignores unknown keys);
* `omitted_key_not_taken` — the same for the flatten-buffer path (`takeKeys`).
-/
namespace GqlVerif
namespace C14
open Codegen Serde

/-- the documented table -/
def expected (dep : Option (Option String)) (s : DepStrategy) : Option (Option (Option String)) :=
  match dep, s with
  | none, _ => some none                 -- emitted, no attribute
  | some _, .allow => some none          -- emitted, no attribute
  | some m, .warn => some (some m)       -- emitted, #[deprecated(note = m)] / #[deprecated]
  | some _, .deny => none                -- omitted

/-- **the case table**, for every field, type, position and option set -/
theorem dep_table (c : Ctx) (g : Option String) (r ft : String) (quals : List Qual) (fl bx : Bool)
    (dep : Option (Option String)) (ty : RTy) (hty : decorateType (.path ft) quals = .ok ty) :
    (renderField c g r ft quals fl bx dep).map (Option.map (·.deprecated)) = .ok (expected dep c.o.deprecation) := by
  unfold renderField
  simp only [hty, bind, Except.bind]
  cases dep with
  | none => cases c.o.deprecation <;> simp [expected, Except.map, pure, Except.pure]
  | some m => cases c.o.deprecation <;> simp [expected, Except.map, pure, Except.pure]

theorem renderField_ok_ty {c : Ctx} {g : Option String} {r ft : String} {quals : List Qual} {fl bx : Bool}
    {dep : Option (Option String)} {x : Option RField} (h : renderField c g r ft quals fl bx dep = .ok x) :
    ∃ ty, decorateType (.path ft) quals = .ok ty := by
  unfold renderField at h
  cases hd : decorateType (.path ft) quals with
  | error e => rw [hd] at h; cases h
  | ok ty => exact ⟨ty, rfl⟩

/-- the table read backwards -/
theorem expected_inv (dep : Option (Option String)) (s : DepStrategy) :
    (expected dep s = none → dep.isSome = true ∧ s = .deny) ∧
    (∀ m, expected dep s = some (some m) → dep = some m ∧ s = .warn) := by
  cases dep <;> cases s <;> simp [expected]

/-- a field is omitted only when it is deprecated and the strategy is `deny` -/
theorem never_omitted_unless_denied (c : Ctx) (g : Option String) (r ft : String) (quals : List Qual) (fl bx : Bool)
    (dep : Option (Option String)) (h : renderField c g r ft quals fl bx dep = .ok none) :
    dep.isSome = true ∧ c.o.deprecation = .deny := by
  obtain ⟨ty, hty⟩ := renderField_ok_ty h
  have t := dep_table c g r ft quals fl bx dep ty hty
  rw [h] at t
  exact (expected_inv dep _).1 (Except.ok.inj t).symm

/-- a field carries `#[deprecated]` only when the schema deprecates it and the strategy is `warn`,
    and then the note is the schema's reason, unchanged -/
theorem never_marked_unless_warned (c : Ctx) (g : Option String) (r ft : String) (quals : List Qual) (fl bx : Bool)
    (dep : Option (Option String)) (f : RField) (m : Option String)
    (h : renderField c g r ft quals fl bx dep = .ok (some f)) (hm : f.deprecated = some m) :
    dep = some m ∧ c.o.deprecation = .warn := by
  obtain ⟨ty, hty⟩ := renderField_ok_ty h
  have t := dep_table c g r ft quals fl bx dep ty hty
  rw [h] at t
  exact (expected_inv dep _).2 m (by rw [← Except.ok.inj t, ← hm]; rfl)

/-- both front-ends read the same status (from C07) -/
theorem front_ends_agree (d : Option (Option String)) :
    Sdl.findDeprecation (C07.depDirectives d) = d ∧
    (if (C07.depJson d).1 == some true then some (C07.depJson d).2 else none) = d :=
  C07.deprecation_agree d

/-- an entry whose key is no field's wire name does not influence the struct's own fields:
    payloads that still contain a denied field deserialize exactly as without it -/
theorem omitted_field_key_ignored (path : String → Json → D Val) (fields : List RField)
    (k : String) (v : Json) (kvs : List (String × Json)) (hk : ∀ f ∈ fields, f.wire ≠ k) :
    deOwnWith path fields ((k, v) :: kvs) = deOwnWith path fields kvs := by
  induction fields with
  | nil => rfl
  | cons f fs ih =>
    have hf : f.wire ≠ k := hk f (by simp)
    have hfk : (k == f.wire) = false := by simpa using fun h => hf h.symm
    simp only [deOwnWith, ih (fun f' hf' => hk f' (by simp [hf'])), countKey, List.filter_cons, Json.lookup, hfk]
    simp

/-- the same on the flatten-buffer path: a key nobody recognises is never taken -/
theorem omitted_key_not_taken (keys : List String) (k : String) (v : Json) (buf : Buf) (hk : k ∉ keys) :
    takeKeys keys (some (k, v) :: buf) = ((takeKeys keys buf).1, some (k, v) :: (takeKeys keys buf).2) := by
  simp [takeKeys, hk]

example : expected (some (some "use `x` instead")) .warn = some (some (some "use `x` instead")) := rfl

end C14
end GqlVerif
