import GqlVerif.Props.C19
import GqlVerif.Props.C08
import GqlVerif.Proofs.C05BodyModel
import GqlVerif.Proofs.CliCommon
import GqlVerif.Model.Sdl
import GqlVerif.Model.Intro
/-!
# C19, composed: `graphql-client generate` with the library instantiated by the Codegen model

In `Props/C19.lean` the library is an opaque `GenEnv.lib : Options → LibResult`; it cannot see the
query or the schema, so "the file holds what the library generates **for these inputs**" and "one struct + module +
impl per operation, or only the selected one" are not statements of that file.  Here:

* `generateMain` — `Cli.generateCode` with `GenEnv.lib` **instantiated** by the model of
  `generate_module_token_stream(query_path, &schema_path, options)`: `Cache.step (Cache.rustSys …) .init (.fromFile …)`
  (`Model/Cache.lean`: read the query file, parse it, read the schema file, pick the front-end by extension) whose pure
  generator is `Codegen.generate`.  Only existing model functions are composed.  What is *not* repo code stays a
  parameter (`LibExt`): the three text parsers (`graphql_parser`, `serde_json`), heck (`CaseFns`) and `Display` of the
  token stream (`render`).
* `fixedLib` — the literal form `lib o := Codegen.generate s cs o text doc` for a fixed schema / query pair;
  `genEnv_lib_fixed` shows `generateMain`'s library is of that form once the two files are loaded.

With the library instantiated, the per-operation claim can be stated (`modules_per_operation`): the modules written
are, in document order, one per operation of the document — or only the operation named by `--selected-operation` when
the document defines it — each consisting of the struct declaration, the module and the `impl` for **that** operation,
with the items generated from **that** operation; a name the document does not define selects everything
(`selected_unknown_generates_all`).  The two flag parsers are specified a second time without any helper they use
(`parseDeprecation_table`, `parseVisibility_table`).
-/
namespace GqlVerif
namespace C19C
open Cli Codegen C19 C20C

/-! ## the library, instantiated -/

/-- what `generate_module_token_stream` uses that is not code of the repository -/
structure LibExt where
  /-- heck -/
  cs : CaseFns
  /-- `graphql_parser::parse_query` followed by the harness' AST conversion -/
  parseQuery : String → Except String QDoc
  /-- `graphql_parser::parse_schema` -/
  parseSdl : String → Except String SdlDoc
  /-- `serde_json::from_str::<serde_json::Value>` -/
  parseJsonText : String → Option Json
  /-- `Display` of the token stream of the generated modules -/
  render : List Module → String

/-- the external functions of `Model/Cache.lean`, with the two schema front-ends and `Codegen.generate` plugged in -/
def cacheExt (X : LibExt) : Cache.Ext QDoc Schema Options (List Module) where
  parseQuery := X.parseQuery
  loadSdl text :=
    match X.parseSdl text with
    | .error m => panic' ("called `Result::unwrap()` on an `Err` value: Parser error: " ++ m)
    | .ok d => Sdl.fromSdl d
  loadJson text :=
    match X.parseJsonText text with
    | none => panic' "called `Result::unwrap()` on an `Err` value: serde_json"
    | some j => Intro.fromJson true j
  generate qv s o := Codegen.generate s X.cs o qv.1 qv.2

/-- the file system the library reads (paths are scanned there, hence character lists) -/
def libFs (fs : Cli.Fs) : Cache.Fs := fun p => fs (String.ofList p)

/-- **`generate_module_token_stream(query_path, &schema_path, options)`** as the CLI calls it: one call in a fresh
process (empty caches) -/
def libCall (X : LibExt) (fs : Cli.Fs) (f : GenFlags) (o : Options) : Outcome (List Module) :=
  (Cache.step (Cache.rustSys (cacheExt X) (libFs fs)) .init (.fromFile f.queryPath.toList f.schemaPath.toList o)).2

/-- the `Result<TokenStream, BoxError>` (or the panic) as the CLI sees it.  Stack exhaustion and the parts the model
does not cover end the process abnormally; they are reported as `panic` (no theorem below depends on this choice:
each has a hypothesis that fixes the outcome, or holds for every `LibResult`) -/
def toLibResult (render : List Module → String) : Outcome (List Module) → LibResult
  | .ok ms => .tokens (render ms)
  | .error (.error m) => .err m
  | .error (.panic m) => .panic m
  | .error (.diverge w) => .panic w
  | .error (.unmodelled w) => .panic w

/-- the rest of the process environment of `generate_code` -/
structure GenProc where
  synPathOk : String → Bool
  rustfmt : String → Option String
  creatable : String → Bool

def genEnv (X : LibExt) (P : GenProc) (fs : Cli.Fs) (f : GenFlags) : GenEnv :=
  { synPathOk := P.synPathOk, lib := fun o => toLibResult X.render (libCall X fs f o),
    rustfmt := P.rustfmt, creatable := P.creatable }

/-- **`graphql-client generate`**: `generate_code` with the library call made on the files named by the flags, read
from the file system the run starts in -/
def generateMain (X : LibExt) (P : GenProc) (f : GenFlags) (fs : Cli.Fs) : Exit × Cli.Fs :=
  generateCode (genEnv X P fs f) f fs

/-! ### what the library call reads -/

/-- the query file exists, holds `text`, and `text` parses to `doc` -/
def QueryLoaded (X : LibExt) (fs : Cli.Fs) (f : GenFlags) (text : String) (doc : QDoc) : Prop :=
  fs f.queryPath = some text ∧ X.parseQuery text = .ok doc

/-- the schema file exists and one of the two front-ends — chosen by the extension of the path — turns it into `s` -/
def SchemaLoaded (X : LibExt) (fs : Cli.Fs) (f : GenFlags) (s : Schema) : Prop :=
  ∃ text, fs f.schemaPath = some text ∧
    ((Cache.schemaFormat f.schemaPath.toList = .sdl ∧ ∃ d, X.parseSdl text = .ok d ∧ Sdl.fromSdl d = .ok s) ∨
     (Cache.schemaFormat f.schemaPath.toList = .json ∧ ∃ j, X.parseJsonText text = some j ∧ Intro.fromJson true j = .ok s))

theorem libCall_eq_spec (X : LibExt) (fs : Cli.Fs) (f : GenFlags) (o : Options) :
    libCall X fs f o =
      Cache.spec (Cache.rustSys (cacheExt X) (libFs fs)) (.fromFile f.queryPath.toList f.schemaPath.toList o) :=
  C08.step_result (C08.rustSys_faithful _ _) (C08.inv_init _) _

theorem loadQ_of_loaded {X : LibExt} {fs : Cli.Fs} {f : GenFlags} {text : String} {doc : QDoc}
    (h : QueryLoaded X fs f text doc) :
    Cache.rustLoadQ (cacheExt X) (libFs fs) f.queryPath.toList = .ok (text, doc) := by
  obtain ⟨h1, h2⟩ := h
  simp [Cache.rustLoadQ, Cache.readFile, libFs, String.ofList_toList, h1, cacheExt, h2, bind, Except.bind, pure,
    Except.pure]

theorem loadS_of_loaded {X : LibExt} {fs : Cli.Fs} {f : GenFlags} {s : Schema} (h : SchemaLoaded X fs f s) :
    Cache.rustLoadS (cacheExt X) (libFs fs) f.schemaPath.toList = .ok s := by
  obtain ⟨text, h1, h2⟩ := h
  rcases h2 with ⟨hf, d, hd, hs⟩ | ⟨hf, j, hj, hs⟩
  · simp [Cache.rustLoadS, Cache.readFile, libFs, String.ofList_toList, h1, hf, cacheExt, hd, hs, bind, Except.bind]
  · simp [Cache.rustLoadS, Cache.readFile, libFs, String.ofList_toList, h1, hf, cacheExt, hj, hs, bind, Except.bind]

/-- with both files loaded, the library call **is** `Codegen.generate` on their contents -/
theorem libCall_of_loaded (X : LibExt) (fs : Cli.Fs) (f : GenFlags) (o : Options) (text : String) (doc : QDoc)
    (s : Schema) (hq : QueryLoaded X fs f text doc) (hs : SchemaLoaded X fs f s) :
    libCall X fs f o = Codegen.generate s X.cs o text doc := by
  rw [libCall_eq_spec]
  simp only [Cache.spec, Cache.queryVal, Cache.rustSys, Cache.Call.spath, Cache.Call.opts, loadQ_of_loaded hq,
    loadS_of_loaded hs, bind, Except.bind]
  rfl

/-! ## the modules `Codegen.generate` returns in CLI mode -/

/-- the parts of an emitted module that do not depend on the selection: `struct <Op>;`, `mod <op> { … }`,
`impl GraphQLQuery for <Op>` all carry the name of the module's own operation -/
def ModuleFor (o : Options) (cs : CaseFns) (text : String) (M : Module) : Prop :=
  M.structDecl = some M.operationName ∧ M.implFor = M.operationName ∧ M.modName = cs.snake M.operationName ∧
  M.vis = o.visibility ∧ M.query = text ∧ M.queryInclude = o.queryFile ∧ M.useSerde = o.serdePath

/-- the operation names for which a module is written; a selected name the document does not define selects **all** of
    them, as `generate_module_token_stream_inner` does in CLI mode (`selected_unknown_generates_all`) -/
def selectedNames (sel : Option String) (names : List String) : List String :=
  match sel with
  | some n => if n ∈ names then [n] else names
  | none => names

theorem module_fields (c : Ctx) (text operation : String) (M : Module) (hmode : c.o.mode = .cli)
    (hnorm : c.o.normalization = .none) (h : generatedModule c text operation = .ok M) :
    M.operationName = operation ∧ ModuleFor c.o c.cs text M := by
  obtain ⟨h1, h2, h3, h4, h5, h6, h7, h8⟩ := C05BodyModel.generatedModule_fields c text operation M h
  refine ⟨h3, ?_⟩
  simp [ModuleFor, h1, h2, h3, h4, h5, h6, h7, h8, hmode, hnorm, Normalization.operation, Normalization.camelCase]

theorem selectOperation_none_norm (c : Ctx) (hnorm : c.o.normalization = .none) (n : String) :
    selectOperation c n = c.q.operations.findIdx? (fun op => op.name == n) := by
  simp [selectOperation, hnorm, Normalization.operation, Normalization.camelCase]

/-- the per-index generator of `generate` -/
abbrev genAt (c : Ctx) (text : String) (i : Nat) : Outcome Module := do
  let op ← c.q.getOperation i
  generatedModule c text op.name

theorem genAt_name (c : Ctx) (text : String) (i : Nat) (M : Module) (h : genAt c text i = .ok M) :
    (c.q.operations.map (·.name))[i]? = some M.operationName := by
  obtain ⟨op, hop, h⟩ := C06Sound.bind_ok h
  have := (C05.module_constants _ _ _ _ h).1
  rw [List.getElem?_map, C05Body.getOperation_ok hop, this]; rfl

theorem mapM_range_names (c : Ctx) (text : String) (ms : List Module)
    (h : (List.range c.q.operations.length).mapM (genAt c text) = .ok ms) :
    ms.map (·.operationName) = c.q.operations.map (·.name) := by
  obtain ⟨hlen, hall⟩ := C05.mapM_spec _ _ ms h
  simp only [List.length_range] at hlen
  apply List.ext_getElem?
  intro k
  by_cases hk : k < c.q.operations.length
  · have hk' : k < ms.length := by omega
    obtain ⟨a, ha, hfa⟩ := hall k ms[k] (by simp [hk'])
    rw [List.getElem?_range hk] at ha
    cases ha
    rw [genAt_name c text k _ hfa, List.getElem?_map]
    simp [hk']
  · rw [List.getElem?_eq_none (by simp; omega), List.getElem?_eq_none (by simp; omega)]

/-- **what `Codegen.generate` returns in CLI mode without normalization** (the only configuration the CLI can
produce): the modules are, in document order, those of all operations, or the single module of the operation whose
name is the selection; each module is the struct + module + impl of its own operation, with the items of that
operation. -/
theorem generate_cli_modules (s : Schema) (cs : CaseFns) (o : Options) (text : String) (doc : QDoc) (ms : List Module)
    (hmode : o.mode = .cli) (hnorm : o.normalization = .none) (h : generate s cs o text doc = .ok ms) :
    ∃ q, Resolve.resolve s doc = .ok q ∧ q.operations.map (·.name) = Valid.opNames doc ∧
      ms.map (·.operationName) = selectedNames o.operationName (Valid.opNames doc) ∧
      ∀ M ∈ ms, ModuleFor o cs text M ∧
        ∃ (i : Nat) (op : ROperation), q.operations[i]? = some op ∧ op.name = M.operationName ∧
          (Valid.opNames doc)[i]? = some M.operationName ∧ responseForQuery { s, q, o, cs } i = .ok M.items := by
  obtain ⟨q, hq, hall⟩ := C05Body.generate_inv s cs o text doc ms h
  obtain ⟨hnames, hnd⟩ := C05Body.resolve_opNames hq
  refine ⟨q, hq, hnames, ?_, ?_⟩
  · unfold generate at h
    simp only [hq, bind, Except.bind] at h
    have hsel := selectOperation_none_norm { s, q, o, cs } hnorm
    cases hopn : o.operationName with
    | none =>
      simp only [hopn, Option.bind, hmode, pure, Except.pure] at h
      have := mapM_range_names { s, q, o, cs } text ms h
      simp only [selectedNames]
      rw [this, hnames]
    | some n =>
      simp only [hopn, Option.bind] at h
      rw [hsel n] at h
      simp only [selectedNames]
      cases hf : q.operations.findIdx? (fun op => op.name == n) with
      | none =>
        simp only [hf, hmode, pure, Except.pure] at h
        have hnot : n ∉ Valid.opNames doc := by
          rw [← hnames]
          intro hmem
          obtain ⟨op, hop, hn⟩ := List.mem_map.mp hmem
          have := List.findIdx?_eq_none_iff.mp hf op hop
          simp [hn] at this
        rw [if_neg hnot, mapM_range_names { s, q, o, cs } text ms h, hnames]
      | some i =>
        simp only [hf, pure, Except.pure] at h
        obtain ⟨hi, hp, _⟩ := List.findIdx?_eq_some_iff_getElem.mp hf
        have hmem : n ∈ Valid.opNames doc := by
          rw [← hnames]
          exact List.mem_map.mpr ⟨q.operations[i], List.getElem_mem hi, by simpa using hp⟩
        rw [if_pos hmem]
        obtain ⟨hlen, hall'⟩ := C05.mapM_spec _ _ ms h
        cases ms with
        | nil => simp at hlen
        | cons M rest =>
          cases rest with
          | cons _ _ => simp at hlen
          | nil =>
            obtain ⟨a, ha, hfa⟩ := hall' 0 M rfl
            simp only [List.getElem?_cons_zero, Option.some.injEq] at ha
            subst ha
            have := genAt_name { s, q, o, cs } text i M hfa
            simp only [List.getElem?_map, List.getElem?_eq_getElem hi, Option.map_some, Option.some.injEq] at this
            simp only [List.map_cons, List.map_nil, List.cons.injEq, and_true]
            rw [← this]; simpa using hp
  · intro M hM
    obtain ⟨i0, op0, _, hgen⟩ := hall M hM
    have hf := (module_fields { s, q, o, cs } text op0.name M hmode hnorm hgen).2
    obtain ⟨q', i, op, hq', hop, hname, hith, hresp⟩ :=
      C05Body.items_of_named_operation s cs o text doc ms M h hM (Or.inl hnorm)
    rw [hq] at hq'; cases hq'
    exact ⟨hf, i, op, hop, hname, hith, hresp⟩

/-! ## the command, end to end -/

/-- what the CLI's options are, whenever the flags are accepted: CLI mode, **no normalization**, the selection
passed on unchanged, no `include_str!` line, the default serde path -/
theorem cliOptions_ok (ok : String → Bool) (f : GenFlags) (o : Options) (h : cliOptions ok f = .ok o) :
    ∃ vis, parseVisibility ok f.moduleVisibility = some vis ∧ o = optionsOf vis f ∧
      (∀ m, f.customScalarsModule = some m → ok m = true) := by
  rw [cliOptions_eq] at h
  cases hv : parseVisibility ok f.moduleVisibility with
  | none => rw [hv] at h; cases h
  | some v =>
    rw [hv] at h
    simp only at h
    cases hs : f.customScalarsModule with
    | none => rw [hs] at h; cases h; exact ⟨v, rfl, rfl, by simp⟩
    | some m =>
      rw [hs] at h
      simp only at h
      by_cases hm : ok m = true
      · rw [if_pos hm] at h; cases h
        exact ⟨v, rfl, rfl, by intro m' h'; cases h'; exact hm⟩
      · rw [if_neg hm] at h; cases h

theorem lib_of_loaded (X : LibExt) (P : GenProc) (fs : Cli.Fs) (f : GenFlags) (o : Options) (text : String)
    (doc : QDoc) (s : Schema) (hq : QueryLoaded X fs f text doc) (hs : SchemaLoaded X fs f s) :
    (genEnv X P fs f).lib o = toLibResult X.render (Codegen.generate s X.cs o text doc) := by
  simp only [genEnv]
  rw [libCall_of_loaded X fs f o text doc s hq hs]

/-- **the file is the header line, a newline, and the rendering of the modules `Codegen.generate` returns for the
query file and the schema file named on the command line** — verbatim with `--no-formatting`, through rustfmt
otherwise — written to the destination and nowhere else. -/
theorem output_is_header_then_modules (X : LibExt) (P : GenProc) (f : GenFlags) (fs : Cli.Fs) (o : Options)
    (text : String) (doc : QDoc) (s : Schema) (ms : List Module) (dest : List Char)
    (ho : cliOptions P.synPathOk f = .ok o)
    (hq : QueryLoaded X fs f text doc) (hs : SchemaLoaded X fs f s)
    (hg : Codegen.generate s X.cs o text doc = .ok ms)
    (hd : destPath (f.outputDirectory.map String.toList) f.queryPath.toList = some dest)
    (hc : P.creatable (String.ofList dest) = true) :
    (f.noFormatting = true →
      generateMain X P f fs =
        (.success, fs.write (String.ofList dest) (Gen.warningSuppression ++ "\n" ++ X.render ms))) ∧
    (f.noFormatting = false → ∀ out, P.rustfmt (Gen.warningSuppression ++ "\n" ++ X.render ms) = some out →
      generateMain X P f fs = (.success, fs.write (String.ofList dest) out)) ∧
    (∀ p, p ≠ String.ofList dest → (generateMain X P f fs).2 p = fs p) := by
  have hl : (genEnv X P fs f).lib o = .tokens (X.render ms) := by
    rw [lib_of_loaded X P fs f o text doc s hq hs, hg]; rfl
  exact C19.output_is_header_then_lib (genEnv X P fs f) f fs o (X.render ms) dest ho hl hd hc

/-- **a generation error is reported as such, and no file is created**: whenever `Codegen.generate` returns an
error for the two files, the command prints it behind "Error generating module code: " and leaves the file system
as it was -/
theorem gen_error_reported (X : LibExt) (P : GenProc) (f : GenFlags) (fs : Cli.Fs) (o : Options)
    (text : String) (doc : QDoc) (s : Schema) (m : String)
    (ho : cliOptions P.synPathOk f = .ok o)
    (hq : QueryLoaded X fs f text doc) (hs : SchemaLoaded X fs f s)
    (hg : Codegen.generate s X.cs o text doc = .error (.error m)) :
    generateMain X P f fs = (.failure ("Error generating module code: " ++ m), fs) := by
  have hl : (genEnv X P fs f).lib o = .err m := by
    rw [lib_of_loaded X P fs f o text doc s hq hs, hg]; rfl
  exact C19.gen_error_reported (genEnv X P fs f) f fs o m ho hl

/-- in particular: a document the schema cannot answer (`Resolve.resolve` fails with a message) -/
theorem invalid_document_reported (X : LibExt) (P : GenProc) (f : GenFlags) (fs : Cli.Fs) (o : Options)
    (text : String) (doc : QDoc) (s : Schema) (m : String)
    (ho : cliOptions P.synPathOk f = .ok o)
    (hq : QueryLoaded X fs f text doc) (hs : SchemaLoaded X fs f s)
    (hr : Resolve.resolve s doc = .error (.error m)) :
    generateMain X P f fs = (.failure ("Error generating module code: " ++ m), fs) := by
  refine gen_error_reported X P f fs o text doc s m ho hq hs ?_
  simp [Codegen.generate, hr, bind, Except.bind]

/-- a missing query file: the library `unwrap`s, the process panics (exit status 101), nothing is written -/
theorem missing_query_file_panics (X : LibExt) (P : GenProc) (f : GenFlags) (fs : Cli.Fs) (o : Options)
    (ho : cliOptions P.synPathOk f = .ok o) (hq : fs f.queryPath = none) :
    generateMain X P f fs = (.panic "called `Result::unwrap()` on an `Err` value: FileNotFound", fs) := by
  have hl : (genEnv X P fs f).lib o = .panic "called `Result::unwrap()` on an `Err` value: FileNotFound" := by
    simp only [genEnv]
    rw [libCall_eq_spec]
    simp [Cache.spec, Cache.queryVal, Cache.rustSys, Cache.rustLoadQ, Cache.readFile, libFs, String.ofList_toList, hq,
      bind, Except.bind, panic', toLibResult]
  have ho' : cliOptions (genEnv X P fs f).synPathOk f = .ok o := ho
  simp [generateMain, generateCode, ho', hl]

/-- **no success ⇒ no file**, for the instantiated library as well (every failure of the library included) -/
theorem main_error_no_file (X : LibExt) (P : GenProc) (f : GenFlags) (fs : Cli.Fs) :
    (generateMain X P f fs).1 ≠ .success →
      (generateMain X P f fs).2 = fs ∧ (generateMain X P f fs).1.code ≠ 0 :=
  C19.gen_error_no_file (genEnv X P fs f) f fs

/-- **one struct + module + impl per operation, or only the selected one.**  For every run of
`graphql-client generate` that reaches the generator with the two files loaded and gets modules back:
* the modules are — by `OPERATION_NAME`, in document order — those of **all** operations the query file defines
  (pairwise distinct names), unless `--selected-operation n` names one of them, in which case there is exactly the
  module of `n`;
* every module consists of `struct <name>;`, `mod <snake name>` and `impl GraphQLQuery for <name>` for its **own**
  operation name, carries the whole query file as `QUERY`, the flag's visibility, no `include_str!`, `::serde`;
* its items are `responseForQuery` of the operation with that name (position `i` of the document). -/
theorem modules_per_operation (X : LibExt) (P : GenProc) (f : GenFlags) (fs : Cli.Fs) (o : Options)
    (text : String) (doc : QDoc) (s : Schema) (ms : List Module)
    (ho : cliOptions P.synPathOk f = .ok o)
    (hq : QueryLoaded X fs f text doc) (hs : SchemaLoaded X fs f s)
    (hl : libCall X fs f o = .ok ms) :
    ∃ q vis, Resolve.resolve s doc = .ok q ∧ parseVisibility P.synPathOk f.moduleVisibility = some vis ∧
      (Valid.opNames doc).Nodup ∧
      ms.map (·.operationName) = selectedNames f.selectedOperation (Valid.opNames doc) ∧
      ∀ M ∈ ms,
        (M.structDecl = some M.operationName ∧ M.implFor = M.operationName ∧ M.modName = X.cs.snake M.operationName ∧
          M.vis = vis.tokens ∧ M.query = text ∧ M.queryInclude = none ∧ M.useSerde = "::serde") ∧
        ∃ (i : Nat) (op : ROperation), q.operations[i]? = some op ∧ op.name = M.operationName ∧
          (Valid.opNames doc)[i]? = some M.operationName ∧
          responseForQuery { s, q, o, cs := X.cs } i = .ok M.items := by
  obtain ⟨vis, hvis, rfl, _⟩ := cliOptions_ok _ _ _ ho
  rw [libCall_of_loaded X fs f _ text doc s hq hs] at hl
  obtain ⟨q, hres, _, hnames, hall⟩ := generate_cli_modules s X.cs _ text doc ms rfl rfl hl
  refine ⟨q, vis, hres, hvis, (C05Body.resolve_opNames hres).2, hnames, ?_⟩
  intro M hM
  obtain ⟨hf, hrest⟩ := hall M hM
  exact ⟨hf, hrest⟩

/-- `--selected-operation n` with an `n` the document does not define is **not** an error: all operations are
generated, exactly as without the flag (same in the Rust: `select_operation` returns `None`,
and `(None, CodegenMode::Cli)` collects every operation) -/
theorem selected_unknown_generates_all (names : List String) (n : String) (h : n ∉ names) :
    selectedNames (some n) names = selectedNames none names := by
  simp [selectedNames, h]

theorem selected_known_generates_one (names : List String) (n : String) (h : n ∈ names) :
    selectedNames (some n) names = [n] := by
  simp [selectedNames, h]

/-- **success ⇒** the flags were accepted, the library returned modules for the two files named on the command
line, and the destination holds the header, a newline and their rendering (through rustfmt unless
`--no-formatting`) -/
theorem main_success_inv (X : LibExt) (P : GenProc) (f : GenFlags) (fs : Cli.Fs)
    (h : (generateMain X P f fs).1 = .success) :
    ∃ o ms dest out, cliOptions P.synPathOk f = .ok o ∧ libCall X fs f o = .ok ms ∧
      destPath (f.outputDirectory.map String.toList) f.queryPath.toList = some dest ∧
      (if f.noFormatting then some (Gen.warningSuppression ++ "\n" ++ X.render ms)
        else P.rustfmt (Gen.warningSuppression ++ "\n" ++ X.render ms)) = some out ∧
      generateMain X P f fs = (.success, fs.write (String.ofList dest) out) := by
  rcases C19.generateCode_cases (genEnv X P fs f) f fs with ⟨o, t, out, dest, ho, hl, hf, hd, _, hr⟩ | ⟨_, hne⟩
  · change toLibResult X.render (libCall X fs f o) = .tokens t at hl
    cases hc : libCall X fs f o with
    | error e => rw [hc] at hl; cases e <;> cases hl
    | ok ms =>
      rw [hc] at hl; cases hl
      exact ⟨o, ms, dest, out, ho, hc, hd, hf, hr⟩
  · exact absurd h hne

/-! ## the same for an arbitrary `GenEnv` whose library is the Codegen model on a fixed schema / query pair

The statements above read the two files through `Model/Cache.lean`.  For callers that already hold the parsed pair,
the three claims are stated here against any `GenEnv` with `env.lib = fixedLib …` — literally
`lib o := Codegen.generate s cs o text doc` (rendered) — and the file-reading versions are instances
(`genEnv_lib_fixed`). -/

/-- `GenEnv.lib` instantiated with the Codegen model for a fixed schema / query pair -/
def fixedLib (s : Schema) (cs : CaseFns) (text : String) (doc : QDoc) (render : List Module → String) :
    Options → LibResult :=
  fun o => toLibResult render (Codegen.generate s cs o text doc)

theorem genEnv_lib_fixed (X : LibExt) (P : GenProc) (fs : Cli.Fs) (f : GenFlags) (text : String) (doc : QDoc)
    (s : Schema) (hq : QueryLoaded X fs f text doc) (hs : SchemaLoaded X fs f s) :
    (genEnv X P fs f).lib = fixedLib s X.cs text doc X.render :=
  funext fun o => lib_of_loaded X P fs f o text doc s hq hs

theorem output_is_header_then_lib_fixed (env : GenEnv) (f : GenFlags) (fs : Cli.Fs) (o : Options)
    (s : Schema) (cs : CaseFns) (text : String) (doc : QDoc) (render : List Module → String) (ms : List Module)
    (dest : List Char)
    (hlib : env.lib = fixedLib s cs text doc render)
    (ho : cliOptions env.synPathOk f = .ok o)
    (hg : Codegen.generate s cs o text doc = .ok ms)
    (hd : destPath (f.outputDirectory.map String.toList) f.queryPath.toList = some dest)
    (hc : env.creatable (String.ofList dest) = true) :
    (f.noFormatting = true →
      generateCode env f fs = (.success, fs.write (String.ofList dest) (Gen.warningSuppression ++ "\n" ++ render ms))) ∧
    (f.noFormatting = false → ∀ out, env.rustfmt (Gen.warningSuppression ++ "\n" ++ render ms) = some out →
      generateCode env f fs = (.success, fs.write (String.ofList dest) out)) ∧
    (∀ p, p ≠ String.ofList dest → (generateCode env f fs).2 p = fs p) :=
  C19.output_is_header_then_lib env f fs o (render ms) dest ho (by rw [hlib, fixedLib, hg]; rfl) hd hc

theorem gen_error_reported_fixed (env : GenEnv) (f : GenFlags) (fs : Cli.Fs) (o : Options)
    (s : Schema) (cs : CaseFns) (text : String) (doc : QDoc) (render : List Module → String) (m : String)
    (hlib : env.lib = fixedLib s cs text doc render)
    (ho : cliOptions env.synPathOk f = .ok o)
    (hg : Codegen.generate s cs o text doc = .error (.error m)) :
    generateCode env f fs = (.failure ("Error generating module code: " ++ m), fs) :=
  C19.gen_error_reported env f fs o m ho (by rw [hlib, fixedLib, hg]; rfl)

/-- the per-operation claim, against the Codegen model: for the options the flags map to, whatever `generate`
returns is one struct + module + impl per operation of the document, or only the selected one -/
theorem cli_modules_per_operation (ok : String → Bool) (f : GenFlags) (o : Options) (s : Schema) (cs : CaseFns)
    (text : String) (doc : QDoc) (ms : List Module)
    (ho : cliOptions ok f = .ok o) (hg : Codegen.generate s cs o text doc = .ok ms) :
    ∃ q vis, Resolve.resolve s doc = .ok q ∧ parseVisibility ok f.moduleVisibility = some vis ∧
      (Valid.opNames doc).Nodup ∧
      ms.map (·.operationName) = selectedNames f.selectedOperation (Valid.opNames doc) ∧
      ∀ M ∈ ms,
        (M.structDecl = some M.operationName ∧ M.implFor = M.operationName ∧ M.modName = cs.snake M.operationName ∧
          M.vis = vis.tokens ∧ M.query = text ∧ M.queryInclude = none ∧ M.useSerde = "::serde") ∧
        ∃ (i : Nat) (op : ROperation), q.operations[i]? = some op ∧ op.name = M.operationName ∧
          (Valid.opNames doc)[i]? = some M.operationName ∧
          responseForQuery { s, q, o, cs } i = .ok M.items := by
  obtain ⟨vis, hvis, rfl, _⟩ := cliOptions_ok _ _ _ ho
  obtain ⟨q, hres, _, hnames, hall⟩ := generate_cli_modules s cs _ text doc ms rfl rfl hg
  refine ⟨q, vis, hres, hvis, (C05Body.resolve_opNames hres).2, hnames, ?_⟩
  intro M hM
  obtain ⟨hf, hrest⟩ := hall M hM
  exact ⟨hf, hrest⟩

/-! ## the two flag parsers, specified without their helpers

`Props/C19.lean` specifies `parseDeprecation` / `parseVisibility` by `specDeprecation` / `specVisibility`, which
are the same `if`-chains over the same `trim` / `lowerAscii`.  The accepted sets are infinite
(white-space padding) resp. finite but large (2³ + 2⁹ + 2⁷ spellings), so they are characterised by predicates on the
character list; the words are written out as characters, white space is `C20C.WhiteSpace` (code-point ranges). -/

/-- the three words of `DeprecationStrategy::from_str`, as characters -/
def depWord : DepStrategy → List Char
  | .allow => ['a', 'l', 'l', 'o', 'w']
  | .deny => ['d', 'e', 'n', 'y']
  | .warn => ['w', 'a', 'r', 'n']

/-- `s` is the word `w` with white space (only) before and after it -/
def Padded (s w : List Char) : Prop :=
  ∃ l r, s = l ++ w ++ r ∧ (∀ c ∈ l, WhiteSpace c) ∧ (∀ c ∈ r, WhiteSpace c)

theorem padded_iff_trim (s : List Char) (d : DepStrategy) : Padded s (depWord d) ↔ trim s = depWord d := by
  have hh : ∀ x, (depWord d).head? = some x → ¬ WhiteSpace x := by
    intro x hx; cases d <;> (simp only [depWord, List.head?_cons, Option.some.injEq] at hx; subst hx; unfold WhiteSpace; decide)
  have hl : ∀ x, (depWord d).getLast? = some x → ¬ WhiteSpace x := by
    intro x hx; cases d <;> (simp [depWord] at hx; subst hx; unfold WhiteSpace; decide)
  constructor
  · rintro ⟨l, r, h, h1, h2⟩
    exact ((strip_iff_trim s (depWord d)).mp ⟨l, r, h, h1, h2, hh, hl⟩).symm
  · intro h
    obtain ⟨l, r, h0, h1, h2, _⟩ := (strip_iff_trim s (depWord d)).mpr h.symm
    exact ⟨l, r, h0, h1, h2⟩

/-- **`--deprecation-strategy`, as a table**: the value is accepted as strategy `d` iff it is the word of `d`
(`allow`, `deny`, `warn`, lower case, exactly) padded by white space; everything else is refused (and the CLI then
keeps the default) -/
theorem parseDeprecation_table (s : String) :
    (∀ d, parseDeprecation s = some d ↔ Padded s.toList (depWord d)) ∧
    (parseDeprecation s = none ↔ ∀ d, ¬ Padded s.toList (depWord d)) := by
  have key : ∀ d, parseDeprecation s = some d ↔ trim s.toList = depWord d := by
    intro d
    unfold parseDeprecation
    by_cases h1 : trim s.toList = allowWord
    · rw [if_pos h1, h1]; cases d <;> simp [depWord, allowWord]
    · rw [if_neg h1]
      by_cases h2 : trim s.toList = denyWord
      · rw [if_pos h2, h2]; cases d <;> simp [depWord, denyWord]
      · rw [if_neg h2]
        by_cases h3 : trim s.toList = warnWord
        · rw [if_pos h3, h3]; cases d <;> simp [depWord, warnWord]
        · rw [if_neg h3]
          cases d
          · simpa [depWord, allowWord] using h1
          · simpa [depWord, denyWord] using h2
          · simpa [depWord, warnWord] using h3
  refine ⟨fun d => (key d).trans (padded_iff_trim _ d).symm, ?_⟩
  constructor
  · intro h d hp
    rw [(key d).mpr ((padded_iff_trim _ d).mp hp)] at h; cases h
  · intro h
    cases hp : parseDeprecation s with
    | none => rfl
    | some d => exact absurd ((padded_iff_trim _ d).mpr ((key d).mp hp)) (h d)

example : Padded " deny\t".toList (depWord .deny) := ⟨[' '], ['\t'], by decide, by simp [WhiteSpace], by simp [WhiteSpace]⟩
example : parseDeprecation "Deny" = none := by decide +kernel

/-- `v` spells the lower-case word `w` up to ASCII case: same length, every character is the letter of `w` or the
letter 32 code points below it (its upper-case form) -/
def SpellsCI (v w : List Char) : Prop := All2 (fun c d => c = d ∨ c.toNat + 32 = d.toNat) v w

def LowerWord (w : List Char) : Prop := ∀ d ∈ w, 97 ≤ d.toNat ∧ d.toNat ≤ 122

theorem toLower_eq_iff (c d : Char) (hd : 97 ≤ d.toNat ∧ d.toNat ≤ 122) :
    c.toLower = d ↔ c = d ∨ c.toNat + 32 = d.toNat := by
  obtain ⟨hd1, hd2⟩ := hd
  simp only [Char.toLower]
  split
  · next h =>
    simp only [UInt32.le_iff_toNat_le, seval] at h
    simp only [Char.ext_iff, Char.toNat, ← UInt32.toNat_inj, UInt32.toNat_add, seval] at *
    omega
  · next h =>
    simp only [UInt32.le_iff_toNat_le, seval] at h
    simp only [← Char.toNat_inj, Char.toNat] at *
    omega

theorem lowerAscii_eq_iff (v w : List Char) (hw : LowerWord w) : lowerAscii v = w ↔ SpellsCI v w := by
  induction v generalizing w with
  | nil =>
    constructor
    · intro h; simp only [lowerAscii, List.map_nil] at h; subst h; exact .nil
    · intro h; cases h; rfl
  | cons c cs ih =>
    cases w with
    | nil =>
      constructor
      · intro h; simp [lowerAscii] at h
      · intro h; cases h
    | cons d ds =>
      have hd := hw d (by simp)
      have hds : LowerWord ds := fun x hx => hw x (by simp [hx])
      simp only [lowerAscii, List.map_cons, List.cons.injEq]
      constructor
      · rintro ⟨h1, h2⟩
        exact .cons ((toLower_eq_iff c d hd).mp h1) ((ih ds hds).mp h2)
      · intro h
        cases h with
        | cons h1 h2 => exact ⟨(toLower_eq_iff c d hd).mpr h1, (ih ds hds).mpr h2⟩

def pubChars : List Char := ['p', 'u', 'b']
def inheritedChars : List Char := ['i', 'n', 'h', 'e', 'r', 'i', 't', 'e', 'd']
def privateChars : List Char := ['p', 'r', 'i', 'v', 'a', 't', 'e']

/-- **`--module-visibility`, as a table**: no flag, or any spelling of `pub` ⇒ `pub`; any spelling of `inherited`
or `private` ⇒ no keyword; every other value `v` ⇒ `pub(v)` if `syn` parses `v` as a path, else the process
panics (`none`) -/
theorem parseVisibility_table (ok : String → Bool) :
    parseVisibility ok none = some .pub ∧
    ∀ v : String,
      (SpellsCI v.toList pubChars → parseVisibility ok (some v) = some .pub) ∧
      (SpellsCI v.toList inheritedChars ∨ SpellsCI v.toList privateChars → parseVisibility ok (some v) = some .inherited) ∧
      (¬ SpellsCI v.toList pubChars → ¬ SpellsCI v.toList inheritedChars → ¬ SpellsCI v.toList privateChars →
        parseVisibility ok (some v) = if ok v then some (.restricted v) else none) := by
  refine ⟨rfl, fun v => ?_⟩
  have e1 := lowerAscii_eq_iff v.toList pubChars (by unfold LowerWord pubChars; decide)
  have e2 := lowerAscii_eq_iff v.toList inheritedChars (by unfold LowerWord inheritedChars; decide)
  have e3 := lowerAscii_eq_iff v.toList privateChars (by unfold LowerWord privateChars; decide)
  have d12 : pubChars ≠ inheritedChars := by decide
  have d13 : pubChars ≠ privateChars := by decide
  refine ⟨?_, ?_, ?_⟩
  · intro h
    have := e1.mpr h
    simp only [parseVisibility]
    rw [if_pos (by exact this)]
  · intro h
    simp only [parseVisibility]
    rcases h with h | h
    · have h' := e2.mpr h
      have hn : ¬ lowerAscii v.toList = pubWord := by
        intro hp; exact d12 (show pubChars = inheritedChars from hp.symm.trans h')
      rw [if_neg hn, if_pos (by exact h')]
    · have h' := e3.mpr h
      have hn : ¬ lowerAscii v.toList = pubWord := by
        intro hp; exact d13 (show pubChars = privateChars from hp.symm.trans h')
      by_cases hi : lowerAscii v.toList = inheritedWord
      · rw [if_neg hn, if_pos hi]
      · rw [if_neg hn, if_neg hi, if_pos (by exact h')]
  · intro h1 h2 h3
    have n1 : ¬ lowerAscii v.toList = pubWord := fun h => h1 (e1.mp h)
    have n2 : ¬ lowerAscii v.toList = inheritedWord := fun h => h2 (e2.mp h)
    have n3 : ¬ lowerAscii v.toList = privateWord := fun h => h3 (e3.mp h)
    simp only [parseVisibility]
    rw [if_neg n1, if_neg n2, if_neg n3]

/-- the eight spellings of `pub`, explicitly -/
theorem spells_pub (v : List Char) :
    SpellsCI v pubChars ↔
      v ∈ [['p','u','b'], ['p','u','B'], ['p','U','b'], ['p','U','B'], ['P','u','b'], ['P','u','B'], ['P','U','b'], ['P','U','B']] := by
  have up : ∀ (x d u : Char), u.toNat + 32 = d.toNat → (x = d ∨ x.toNat + 32 = d.toNat) → x = d ∨ x = u := by
    intro x d u hu h
    rcases h with h | h
    · exact Or.inl h
    · exact Or.inr (Char.toNat_inj.mp (by omega))
  constructor
  · intro h
    cases h with
    | cons h1 h =>
      cases h with
      | cons h2 h =>
        cases h with
        | cons h3 h =>
          cases h
          have a1 := up _ 'p' 'P' (by decide) h1
          have a2 := up _ 'u' 'U' (by decide) h2
          have a3 := up _ 'b' 'B' (by decide) h3
          rcases a1 with rfl | rfl <;> rcases a2 with rfl | rfl <;> rcases a3 with rfl | rfl <;> simp
  · intro h
    simp only [List.mem_cons, List.not_mem_nil, or_false] at h
    rcases h with rfl | rfl | rfl | rfl | rfl | rfl | rfl | rfl <;>
      exact .cons (by decide) (.cons (by decide) (.cons (by decide) .nil))

example : parseVisibility (fun _ => false) (some "PuB") = some .pub ∧
    parseVisibility (fun _ => false) (some "PRIVATE") = some .inherited ∧
    parseVisibility (fun _ => true) (some "crate") = some (.restricted "crate") ∧
    parseVisibility (fun _ => false) (some "pub ") = none := by decide +kernel

/-- the two flags in the options handed to the library, by the tables above -/
theorem cli_flag_tables (ok : String → Bool) (f : GenFlags) (o : Options) (h : cliOptions ok f = .ok o) :
    (∀ d, (∃ s, f.deprecationStrategy = some s ∧ Padded s.toList (depWord d)) → o.deprecation = d) ∧
    ((∀ s, f.deprecationStrategy = some s → ∀ d, ¬ Padded s.toList (depWord d)) → o.deprecation = .warn) ∧
    (f.moduleVisibility = none → o.visibility = "pub") ∧
    (∀ v, f.moduleVisibility = some v →
      (SpellsCI v.toList pubChars → o.visibility = "pub") ∧
      (SpellsCI v.toList inheritedChars ∨ SpellsCI v.toList privateChars → o.visibility = "") ∧
      (¬ SpellsCI v.toList pubChars → ¬ SpellsCI v.toList inheritedChars → ¬ SpellsCI v.toList privateChars →
        ok v = true ∧ o.visibility = (Vis.restricted v).tokens)) := by
  obtain ⟨vis, hvis, rfl, _⟩ := cliOptions_ok ok f o h
  refine ⟨?_, ?_, ?_, ?_⟩
  · rintro d ⟨s, hs, hp⟩
    simp only [optionsOf, hs, Option.bind]
    rw [((parseDeprecation_table s).1 d).mpr hp]; rfl
  · intro hno
    simp only [optionsOf]
    cases hd : f.deprecationStrategy with
    | none => rfl
    | some s =>
      simp only [Option.bind]
      rw [(parseDeprecation_table s).2.mpr (hno s hd)]; rfl
  · intro hn
    rw [hn, (parseVisibility_table ok).1] at hvis
    cases hvis; rfl
  · intro v hv
    rw [hv] at hvis
    obtain ⟨t1, t2, t3⟩ := (parseVisibility_table ok).2 v
    refine ⟨?_, ?_, ?_⟩
    · intro hp; rw [t1 hp] at hvis; cases hvis; rfl
    · intro hp; rw [t2 hp] at hvis; cases hvis; rfl
    · intro h1 h2 h3
      rw [t3 h1 h2 h3] at hvis
      by_cases hok : ok v = true
      · rw [if_pos hok] at hvis; cases hvis; exact ⟨hok, rfl⟩
      · rw [if_neg hok] at hvis; cases hvis

/-! ## a concrete run through the composed pipeline (the hypotheses are jointly satisfiable) -/

def exSdl : SdlDoc :=
  [.object "Query" [] [{ name := "a", ty := .named "String", directives := [] },
                       { name := "b", ty := .named "Int", directives := [] }]]

/-- `query getA { a }  query getB { b }` -/
def exDoc : QDoc :=
  [.op .query (some "getA") [] [.field none "a" []],
   .op .query (some "getB") [] [.field none "b" []]]

def exX : LibExt :=
  { cs := { snake := fun s => if s == "getA" then "get_a" else if s == "getB" then "get_b" else s, camel := id },
    parseQuery := fun t => if t == "QUERYTEXT" then .ok exDoc else .error "parse error",
    parseSdl := fun t => if t == "SDLTEXT" then .ok exSdl else .error "parse error",
    parseJsonText := fun _ => none,
    render := fun ms => " ".intercalate (ms.map fun m =>
      "struct " ++ m.structDecl.getD "-" ++ "; mod " ++ m.modName ++ "; impl for " ++ m.implFor) }

def exP : GenProc := { synPathOk := fun _ => true, rustfmt := fun _ => none, creatable := fun _ => true }

def exFs : Cli.Fs := fun p =>
  if p == "q/ops.graphql" then some "QUERYTEXT" else if p == "schema.graphql" then some "SDLTEXT" else none

def exFlags : GenFlags := { queryPath := "q/ops.graphql", schemaPath := "schema.graphql", noFormatting := true }

example : QueryLoaded exX exFs exFlags "QUERYTEXT" exDoc := ⟨by decide +kernel, rfl⟩

example : ∃ s, SchemaLoaded exX exFs exFlags s := by
  have hok : (Sdl.fromSdl exSdl).toBool = true := by decide +kernel
  cases h : Sdl.fromSdl exSdl with
  | error e => rw [h] at hok; cases hok
  | ok s => exact ⟨s, "SDLTEXT", by decide +kernel, Or.inl ⟨by decide +kernel, exSdl, rfl, h⟩⟩

/-- no selection: both operations, in document order -/
example :
    (generateMain exX exP exFlags exFs).1 = .success ∧
    (generateMain exX exP exFlags exFs).2 "q/ops.rs" =
      some ("#![allow(clippy::all, warnings)]\n" ++
        "struct getA; mod get_a; impl for getA struct getB; mod get_b; impl for getB") ∧
    (generateMain exX exP exFlags exFs).2 "q/ops.graphql" = some "QUERYTEXT" := by decide +kernel

/-- `--selected-operation getB`: only that one -/
example :
    (generateMain exX exP { exFlags with selectedOperation := some "getB" } exFs).2 "q/ops.rs" =
      some ("#![allow(clippy::all, warnings)]\n" ++ "struct getB; mod get_b; impl for getB") := by decide +kernel

/-- `--selected-operation nope`: silently all of them -/
example :
    (generateMain exX exP { exFlags with selectedOperation := some "nope" } exFs).2 "q/ops.rs" =
      (generateMain exX exP exFlags exFs).2 "q/ops.rs" := by decide +kernel

/-- a schema path without a supported extension: the library panics, nothing is written -/
example :
    (generateMain exX exP { exFlags with schemaPath := "schema.txt" } (fun p => if p == "schema.txt" then some "SDLTEXT" else exFs p)).1 =
      .panic "Unsupported extension for the GraphQL schema" := by decide +kernel

end C19C
end GqlVerif
