import GqlVerif.Proofs.C01MixedD
/-!
# C01 end to end (`MixedOp`): `VariantSpreadOp` inside `MixedOp`

On `VariantSpreadOp` the side conditions of `mixed_roundtrip` are those of `variantspread_roundtrip`
(`mixedKeysOk_of_variantSpreadOp`, `mixedRustOk_of_spreadRustOkD`) and the canonical form is the same function
(`canonSelM_eq_D`), so `variantspread_roundtrip` **is** the instance (`mixed_roundtrip_on_S`).  The same for `FragmentOp`:
`C01MixedG`; a generated module in neither class: `C01MixedW`.
-/

namespace GqlVerif
namespace C01M
open Serde Codegen C01 C01.E2E

/-! ## `VariantSpreadOp` inside `MixedOp`: same canonical form, same side conditions -/

mutual
  theorem canonFieldM_eq_D (s : Schema) (q : Query) (o : Options) (skip : Bool) : ∀ (x : Sel),
      sSel s q o false x = true → ∀ v, canonFieldM s q skip x v = canonFieldD s q skip x v
    | .field a fid sub => by
      intro h v
      have IH := canonEntriesM_eq_D s q o skip sub
      cases hsf : s.fields[fid]? with
      | none => rw [sSel] at h; simp [hsf] at h
      | some sf =>
        by_cases hobj : ∃ i, sf.ty.id = .object i
        · obtain ⟨i, hid⟩ := hobj
          rw [sSel] at h
          simp only [hsf, hid, Bool.and_eq_true] at h
          have hnl : ∀ g, sub ≠ [Sel.spread g] := fun g hg => not_lone_spread_S h.2.1.2 g hg
          rw [canonFieldM, canonFieldD]
          simp only [hsf, hid]
          have hE : ∀ kvs, canonEntriesM s q skip sub kvs = canonEntriesD s q skip sub kvs := IH h.2.1.2
          simp only [hE]
          congr 1
        · have hno : ∀ i, sf.ty.id ≠ .object i := fun i h => hobj ⟨i, h⟩
          exact canonFieldM_nonobj hsf hno v
    | .spread _ => by intro h; simp [sSel] at h
    | .inline _ _ => by intro h; simp [sSel] at h
    | .typename => by intro _ v; simp [canonFieldM, canonFieldD]
  theorem canonEntriesM_eq_D (s : Schema) (q : Query) (o : Options) (skip : Bool) : ∀ (sels : List Sel),
      sSels s q o false sels = true → ∀ kvs, canonEntriesM s q skip sels kvs = canonEntriesD s q skip sels kvs
    | [] => by intro _ _; simp [canonEntriesM, canonEntriesD]
    | x :: xs => by
      intro h kvs
      obtain ⟨hx, hxs⟩ := sSels_cons h
      have ih := canonEntriesM_eq_D s q o skip xs hxs kvs
      cases x with
      | field a fid sub =>
        rw [canonEntriesM.eq_2, canonEntriesD.eq_2, ih]
        cases hsf : s.fields[fid]? with
        | none => rfl
        | some sf =>
          simp only []
          cases Json.lookup (a.getD sf.name) kvs with
          | none => rfl
          | some v => simp only [canonFieldM_eq_D s q o skip _ hx v]
      | spread g => simp [sSel] at hx
      | inline t sub => simp [sSel] at hx
      | typename => exact ih
end

theorem canonSelM_eq_D (c : Ctx) (op : ROperation) (h : VariantSpreadOp c op = true) (skip : Bool) (j : Json) :
    canonSelM c.s c.q skip op.sels j = canonSelD c.s c.q skip op.sels j := by
  obtain ⟨_, _, hs, _⟩ := variantSpreadOp_parts h
  rw [canonSelM_not_lone (fun g hg => not_lone_spread_S hs g hg)]
  cases j with
  | obj kvs => simp only [canonSelD, canonEntriesM_eq_D c.s c.q c.o skip op.sels hs kvs]
  | null => rfl
  | bool _ => rfl
  | int _ => rfl
  | num _ => rfl
  | str _ => rfl
  | arr _ => rfl

theorem rustNamesF_noSpread (c : Ctx) : ∀ (sels : List Sel), (∀ g, Sel.spread g ∉ sels) →
    rustNamesF c sels = rustNames c sels
  | [], _ => rfl
  | x :: xs, h => by
    have ih := rustNamesF_noSpread c xs (fun g hm => h g (List.mem_cons_of_mem _ hm))
    cases x with
    | spread g => exact absurd List.mem_cons_self (h g)
    | field a fid sub => simp only [rustNamesF, rustNames, List.filterMap_cons, rustNameF] at ih ⊢; rw [ih]
    | inline t sub => simp only [rustNamesF, rustNames, List.filterMap_cons, rustNameF] at ih ⊢; rw [ih]
    | typename => simp only [rustNamesF, rustNames, List.filterMap_cons, rustNameF] at ih ⊢; rw [ih]

mutual
  theorem rustOkSelM_of_D (c : Ctx) : ∀ (x : Sel), sSel c.s c.q c.o false x = true → rustOkSelD c x = true →
      rustOkSelM c x = true
    | .field a fid sub => by
      intro h hro
      have IH := rustOkSelsM_of_D c sub
      cases hsf : c.s.fields[fid]? with
      | none => rw [sSel] at h; simp [hsf] at h
      | some sf =>
        unfold rustOkSelM
        simp only [hsf, Option.map_some]
        cases hid : sf.ty.id with
        | object i =>
          rw [sSel] at h
          simp only [hsf, hid, Bool.and_eq_true] at h
          have hns := no_spread_of_sSels h.2.1.2
          have hnl : ∀ g, sub ≠ [Sel.spread g] := fun g hg => not_lone_spread_S h.2.1.2 g hg
          rw [rustOkSelD, Bool.and_eq_true, Bool.and_eq_true, isAbsField_of hsf, fieldTy_of hsf] at hro
          simp only [hid, TypeId.isAbstract, Bool.false_eq_true, ↓reduceIte, List.append_nil] at hro
          rw [rustNamesB_noSpread c _ sub hns] at hro
          rw [rustNamesF_noSpread c sub hns, hro.1.1, IH h.2.1.2 hro.1.2]; simp
        | scalar k => exact hro
        | «enum» k => exact hro
        | interface k => exact hro
        | union k => exact hro
        | input k => exact hro
    | .spread _ => by intro h; simp [sSel] at h
    | .inline _ _ => by intro h; simp [sSel] at h
    | .typename => by intro _ _; simp [rustOkSelM]
  theorem rustOkSelsM_of_D (c : Ctx) : ∀ (sels : List Sel), sSels c.s c.q c.o false sels = true →
      rustOkSelsD c sels = true → rustOkSelsM c sels = true
    | [] => by intro _ _; rfl
    | x :: xs => by
      intro h hro
      obtain ⟨hx, hxs⟩ := sSels_cons h
      rw [rustOkSelsD, Bool.and_eq_true] at hro
      rw [rustOkSelsM, rustOkSelM_of_D c x hx hro.1, rustOkSelsM_of_D c xs hxs hro.2]; rfl
end

theorem mixedRustOk_of_spreadRustOkD (c : Ctx) (op : ROperation) (h : VariantSpreadOp c op = true)
    (hr : spreadRustOkD c op = true) : mixedRustOk c op = true := by
  obtain ⟨_, _, hs, _⟩ := variantSpreadOp_parts h
  simp only [spreadRustOkD, Bool.and_eq_true] at hr
  simp only [mixedRustOk, Bool.and_eq_true]
  exact ⟨rustOkSelsM_of_D c op.sels hs hr.1, by rw [rustNamesF_noSpread c op.sels (no_spread_of_sSels hs)]; exact hr.2⟩

/-- **`variantspread_roundtrip` is the instance of `mixed_roundtrip` on `VariantSpreadOp`**: same hypotheses, same
    specification (`conformsOpM_eq_S`), same canonical form -/
theorem mixed_roundtrip_on_S (c : Ctx) (opIdx : Nat) (op : ROperation) (items : List Item)
    (hop : c.q.operations[opIdx]? = some op) (ht : VariantSpreadOp c op = true)
    (hgen : responseForQuery c opIdx = .ok items) (hok : moduleOk c items = true)
    (hr : spreadRustOkD c op = true) (j : Json) (hc : conformsOpS c op j = true) :
    Serde.roundtrip (moduleEnv c items) (.path "ResponseData") j =
      .ok (normJson (canonSelD c.s c.q c.o.skipNone op.sels j)) := by
  rw [← canonSelM_eq_D c op ht]
  exact mixed_roundtrip c opIdx op items hop (mixedOp_of_variantSpreadOp c op ht) (mixedKeysOk_of_variantSpreadOp c op ht)
    (mixedRustOk_of_spreadRustOkD c op ht hr) hgen hok j hc


end C01M
end GqlVerif
