import GqlVerif.Proofs.C14GeneratedDeep
import GqlVerif.Proofs.AcyclicModules
/-!
# `EnvOK` of every module emitted for an operation of `TreeOpD`: the last hypothesis discharged

`denied_field_payload_same` carries `EnvOK (moduleEnv c items)` ("the fuel `Serde.de` passes never matters"; decidable
sufficient checks `rankCheck` / `acyclicCheck`).  For the class it is a theorem: the selections of `TreeOpD` contain no
spread and no inline fragment (`spreadFrees_of_tree`), so no fragment is reachable (`spreadFree_of_reach`) and the rank
condition of `AcyclicM.module_acyclic_of_reachRanked` is empty: **`tree_module_acyclic`**, **`tree_module_envOK`**;
**`denied_field_payload_same'`** is the end-to-end corollary with `TreeOpD`, `responseForQuery = .ok items` and
`moduleOk c items` as the only hypotheses.
-/

namespace GqlVerif
namespace C14G
open SerdeFuel Codegen C01.E2E

/-! ## no spread ⟹ no fragment reachable -/

mutual
  def spreadFree : Sel → Bool
    | .field _ _ sub => spreadFrees sub
    | .typename => true
    | _ => false
  def spreadFrees : List Sel → Bool
    | [] => true
    | x :: xs => spreadFree x && spreadFrees xs
end

mutual
  theorem spreadFree_of_tree (c : Ctx) : ∀ x : Sel, treeSelD c x = true → spreadFree x = true
    | .field a fid sub => by
      intro h
      rw [spreadFree]
      obtain ⟨sf, _, _, ⟨_, _, _, _, rfl⟩ | ⟨_, _, _, _, rfl⟩ | ⟨_, _, _, _, hsub, _⟩⟩ := treeSelD_field h
      · rfl
      · rfl
      · exact spreadFrees_of_tree c sub hsub
    | .spread _ => by intro h; simp [treeSelD] at h
    | .inline _ _ => by intro h; simp [treeSelD] at h
    | .typename => by intro _; rfl
  theorem spreadFrees_of_tree (c : Ctx) : ∀ xs : List Sel, treeSelsD c xs = true → spreadFrees xs = true
    | [] => by intro _; rfl
    | x :: xs => by
      intro h
      obtain ⟨hx, hxs⟩ := treeSelsD_cons h
      rw [spreadFrees, spreadFree_of_tree c x hx, spreadFrees_of_tree c xs hxs]; rfl
end

theorem spreadFree_of_mem {x : Sel} : ∀ {xs : List Sel}, spreadFrees xs = true → x ∈ xs → spreadFree x = true :=
  fun {xs} h hx => List.all_eq_true.mp (all_of_eqns (ps := spreadFrees) rfl (fun _ _ => rfl) xs ▸ h) x hx

/-- below spread-free selections nothing but spread-free selections is reachable: no fragment is entered -/
theorem spreadFree_of_reach {q : Query} {sels : List Sel} {x : Sel} (hr : C02.Reach q sels x) :
    spreadFrees sels = true → spreadFree x = true := by
  induction hr with
  | here hm => exact fun h => spreadFree_of_mem h hm
  | field hm _ ih => exact fun h => ih (by simpa [spreadFree] using spreadFree_of_mem h hm)
  | inline hm _ _ => exact fun h => by simpa [spreadFree] using spreadFree_of_mem h hm
  | spread hm _ _ _ => exact fun h => by simpa [spreadFree] using spreadFree_of_mem h hm

/-- no fragment is reachable, so the rank condition of `AcyclicM.module_acyclic_of_reachRanked` is empty -/
theorem treeOpD_reachRanked {c : Ctx} {op : ROperation} (ht : TreeOpD c op = true) :
    AcyclicM.ReachRanked c.q op.sels (fun _ => 0) := by
  intro g hg
  have := spreadFree_of_reach hg (spreadFrees_of_tree c op.sels (treeOpD_parts ht).2.1)
  simp [spreadFree] at this

/-! ## acyclicity -/

theorem tree_module_acyclic (c : Ctx) (opIdx : Nat) (op : ROperation) (items : List Item)
    (hop : c.q.operations[opIdx]? = some op) (ht : TreeOpD c op = true)
    (hgen : responseForQuery c opIdx = .ok items) (hok : moduleOk c items = true) :
    ∃ d, Acyclic (moduleEnv c items) d :=
  AcyclicM.module_acyclic_of_reachRanked hgen hok hop (treeOpD_reachRanked ht)

/-- **`EnvOK` (and `EnvOKS`) for every module emitted for an operation of the class** -/
theorem tree_module_envOK (c : Ctx) (opIdx : Nat) (op : ROperation) (items : List Item)
    (hop : c.q.operations[opIdx]? = some op) (ht : TreeOpD c op = true)
    (hgen : responseForQuery c opIdx = .ok items) (hok : moduleOk c items = true) :
    EnvOK (moduleEnv c items) ∧ EnvOKS (moduleEnv c items) :=
  (tree_module_acyclic c opIdx op items hop ht hgen hok).elim fun _ hd => module_envOK_of_acyclic hgen hd

theorem names_of_moduleOk {c : Ctx} {items : List Item} (hok : moduleOk c items = true) :
    EnumSpec.nodup (items.map (·.name)) = true := by
  simp only [moduleOk, Bool.and_eq_true] at hok
  exact hok.1.1.1.1

/-- **C14 end to end, all hypotheses decidable**: for an operation of the class `TreeOpD` and the module emitted for it
    (with the side condition `moduleOk` of the C01 end-to-end theorems), EVERY payload deserializes at `ResponseData`
    exactly as the payload with the denied keys erased at every depth -/
theorem denied_field_payload_same' (c : Ctx) (opIdx : Nat) (op : ROperation) (items : List Item)
    (hop : c.q.operations[opIdx]? = some op) (ht : TreeOpD c op = true)
    (hgen : responseForQuery c opIdx = .ok items) (hok : moduleOk c items = true) (j : Json) :
    Serde.de (moduleEnv c items) (.path "ResponseData") j =
      Serde.de (moduleEnv c items) (.path "ResponseData") (eraseDenied c op j) :=
  denied_field_payload_same c opIdx op items hop ht hgen (names_of_moduleOk hok)
    (tree_module_envOK c opIdx op items hop ht hgen hok).1 j

/-- and it never answers with the fuel error -/
theorem tree_de_never_out_of_fuel (c : Ctx) (opIdx : Nat) (op : ROperation) (items : List Item)
    (hop : c.q.operations[opIdx]? = some op) (ht : TreeOpD c op = true)
    (hgen : responseForQuery c opIdx = .ok items) (hok : moduleOk c items = true) (t : RTy) (j : Json) :
    Serde.de (moduleEnv c items) t j ≠ .error (.unmodelled "fuel") :=
  de_never_out_of_fuel (tree_module_envOK c opIdx op items hop ht hgen hok).1 t j

end C14G
end GqlVerif
