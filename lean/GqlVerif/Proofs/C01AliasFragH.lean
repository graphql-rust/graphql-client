import GqlVerif.Proofs.C01NestedH
/-!
# `AliasFragOp` (and `NestedOp`, `NestedBOp` through it): losslessness

The allowed differences `canonSelN`, the round-trip interface `FragRT` (stated through `dePath` / `serPath` at the
fragment's name only — it never mentions a struct), the side condition `rustOkSelsN` and `rtMemN_of` are those of
`C01NestedH`; what is needed of a spread fragment for reading is `FragAccA` (`C01AliasFragC`).

The struct level is stated without the class: `rtStructA_of` asks for `Resolves`, for each spread to be admitted and to have
its environment, and takes the round trips of the own fields (`fcan`) and what the written entries amount to (`E`, through
`hE`: the class's own `flatMap_entries…_canon`) as hypotheses; `rtStructA` and the struct of `NestedBOp` (`C01NB.rtStructA`)
are instances.  Reading: `deStructA_finds` (`C01AliasFragG`); writing: `ser_flat` (`C01Layers`), which never needed plain
members; fields of scalar / enum / interface / union type: `rtSelD` of `C01VariantSpreadE`.

**`bodyA_lossless`** — round trip of the emitted types, for every large enough fuel.
-/

namespace GqlVerif
namespace C01AF
open Serde C13 Codegen C01 C01.E2E C01N

section RTA
variable (e : Env) (c : Ctx) (ok : TypeId → Nat → Bool) (whole : Nat → Bool → Json → Bool) (KN : String → List String)
  (fenv : Nat → Prop) (ex : Nat → Sel) (cent : Nat → List (String × Json) → List (String × Json))

variable (hok : OkSpec c.q ok) (hfa : ∀ p g, ok p g = true → fenv g → FragAccA e c whole KN g)
  (hfr : ∀ p g, ok p g = true → fenv g → FragRT e c ex cent KN g)
  (hexA : ∀ g, FragOkAny c.s c.q c.o g → ex g = expandSel c.q (.spread g))

include hok hfa hfr in
/-- **round trip of the struct of a selection set at an object position**, given the round trips of its own fields (`fcan`)
    and what the entries it writes amount to (`E`, through `hE`) -/
theorem rtStructA_of (pfx name : String) (i : Nat) (sels : List Sel) (R : Resolves c pfx sels)
    (hsp : ∀ g, Sel.spread g ∈ sels → ok (.object i) g = true ∧ fenv g)
    (fcan : Sel → Json → Json) (E : List (String × Json) → List (String × Json))
    (H : ∃ N, ∀ x ∈ sels, ∀ f, fieldOfSelV c pfx x = some f → ∀ b fd fs, N ≤ fd → N ≤ fs →
      ∀ v y, strictFieldV c.s (expandSelW ex x) v = true → deFieldWith (dePath e b fd) f v = .ok y →
        serTyWith (serPath e fs) f.ty y = .ok (fcan x v))
    (hE : ∀ (fc : RField → Json → Json) (mc : RField → List (String × Json)) (kvs' kvs : List (String × Json)),
      (∀ k ∈ fieldKeys c.s sels, Json.lookup k kvs' = Json.lookup k kvs) →
      (∀ a fid sub, Sel.field a fid sub ∈ sels → ∀ f, fieldOfSelV c pfx (.field a fid sub) = some f →
        ∀ v, fc f v = fcan (.field a fid sub) v) →
      (∀ g fr, Sel.spread g ∈ sels → c.q.fragments[g]? = some fr → mc (spreadField c fr) = cent g kvs) →
      (fieldsOfF c pfx sels).flatMap (entriesF fc mc kvs') = E kvs)
    (hkeys : EnumSpec.nodup (expKeysN KN c sels) = true) (hrn : EnumSpec.nodup (rustNamesF c sels) = true)
    (hs : StructEnv e name (fieldsOfF c pfx sels)) :
    ∃ N, ∀ b fd fs, N ≤ fd → N ≤ fs → ∀ kvs (L0 : List String) v, (kvs.map (·.1)).Nodup →
      (∀ k ∈ L0, k ∉ expKeysN KN c sels) → confSelsV c.s i (expandSelsW ex sels) kvs = true →
      dePath e b fd name (.obj (kvs.filter (fun kv => !L0.contains kv.1))) = .ok v →
      serPath e fs name v = .ok (.obj (E kvs)) := by
  obtain ⟨hp, _, n, d, cr, hfind⟩ := hs
  obtain ⟨N0, H0⟩ := H
  obtain ⟨N1, H1⟩ := accMemA_of e c ok whole KN fenv hok hfa pfx (.object i) sels R hsp
  obtain ⟨N2, H2⟩ := rtMemN_of e c ok KN fenv ex cent hok hfr i sels hsp
  refine ⟨max (max N0 N1) N2 + 2, fun b fd fs hfd hfs kvs L0 v hnd hL0 hconf hd => ?_⟩
  obtain ⟨fuel, rfl⟩ : ∃ k, fd = k + 2 := ⟨fd - 2, by omega⟩
  obtain ⟨fs', rfl⟩ : ∃ k, fs = k + 2 := ⟨fs - 2, by omega⟩
  have hnd' : ((kvs.filter (fun kv => !L0.contains kv.1)).map (·.1)).Nodup :=
    ((List.filter_sublist).map _).nodup hnd
  have hcnt := countKey_le_one_of_nodup hnd'
  obtain ⟨_, _, h3, h4⟩ := flat_hyps_kOf KN R (nodup_iff'.mp hkeys)
  have hrust : ((fieldsOfF c pfx sels).map (·.rust)).Nodup := by
    rw [rust_fieldsOfF c pfx sels R]; exact nodup_iff'.mp hrn
  obtain ⟨M1, _⟩ := H1 fuel (by omega)
  have hfk : (fieldKeys c.s sels).Nodup := (fieldKeys_sublist_expKeysN KN c sels).nodup (nodup_iff'.mp hkeys)
  have hlk : ∀ k ∈ fieldKeys c.s sels,
      Json.lookup k (kvs.filter (fun kv => !L0.contains kv.1)) = Json.lookup k kvs := by
    intro k hk
    exact lookup_filter (fun kv => !L0.contains kv.1) k
      (keep_notin L0 (fun hkL => hL0 k hkL (fieldKeys_sub_expKeysN KN c sels k hk))) kvs
  rw [dePath_struct e b (fuel + 1) name n d cr _ hp hfind, deStruct_obj] at hd
  obtain ⟨vals, rfl, hownf, hmemf⟩ := deStructA_finds e fuel _ _ _ (kOf KN) hcnt hrust
    (fun g hg hf => (M1 g hg hf).1) (fun g hg hf k hk hkK => h3 g hg hf k hkK hk) h4 v hd
  -- the members
  have hmemrt : ∀ gid fr, Sel.spread gid ∈ sels → c.q.fragments[gid]? = some fr →
      ∃ x, vals.find? (·.1 == (spreadField c fr).rust) = some ((spreadField c fr).rust, x) ∧
        serTyWith (serPath e (fs' + 1)) (spreadField c fr).ty x = .ok (.obj (cent gid kvs)) := by
    intro gid fr hm hfrg
    have hname : fragName c gid = fr.name := by simp [fragName, hfrg]
    have hgmem : spreadField c fr ∈ fieldsOfF c pfx sels :=
      List.mem_filterMap.mpr ⟨_, hm, by simp [fieldOfSelF, hfrg]⟩
    obtain ⟨L', x, hL', hval, hfindg⟩ := hmemf _ hgmem rfl
    have hval : dePath e true (fuel + 1) fr.name
        (.obj ((kvs.filter (fun kv => !L0.contains kv.1)).filter (fun kv => !L'.contains kv.1))) = .ok x := hval
    rw [filter_not_append] at hval
    refine ⟨x, hfindg, ?_⟩
    have hconfg : confSelV c.s i (ex gid) kvs = true := by
      have := confSelsV_mem hconf _ (expandSelsW_mem ex hm)
      simpa [expandSelW] using this
    have := H2 gid hm (fuel + 1) (fs' + 1) (by omega) (by omega) true kvs (L0 ++ L') x hnd
      (by
        intro k hk hkK
        rcases List.mem_append.mp hk with hk | hk
        · exact hL0 k hk (spreadKeys_sub_expKeysN KN c sels gid hm k hkK)
        · rw [hname] at hkK; exact hL' k hk hkK)
      hconfg (by rw [hname]; exact hval)
    rw [hname] at this
    exact this
  -- the entries a member writes, as a function of the member
  let mc : RField → List (String × Json) := fun g =>
    match vals.find? (·.1 == g.rust) with
    | some (_, x) => (match serTyWith (serPath e (fs' + 1)) g.ty x with | .ok (.obj o) => o | _ => [])
    | none => []
  have hmc : ∀ gid fr, Sel.spread gid ∈ sels → c.q.fragments[gid]? = some fr →
      mc (spreadField c fr) = cent gid kvs := by
    intro gid fr hm hfrg
    obtain ⟨x, hf, hser⟩ := hmemrt gid fr hm hfrg
    simp only [mc, hf, hser]
  have hopt := optionAttrs_fieldsOfF c pfx sels
  let fcO : RField → Json → Json := fun f v =>
    match sels.find? (fun x => fieldKey c.s x == some f.wire) with
    | some x => fcan x v
    | none => v
  rw [serPath_struct e (fs' + 1) name n d cr _ hfind,
    ser_flat (dePath e b (fuel + 1)) (serPath e (fs' + 1)) fcO mc _ vals
      (fieldsOfF c pfx sels) hownf ?_ (fun f hf _ => hopt.unit f hf) (fun f hf _ => hopt.default f hf) ?_]
  · rw [hE fcO mc _ kvs hlk ?_ hmc]
    · rfl
    · intro a fid sub hx f hfx v
      obtain ⟨sf, ft, hsf, hf', _⟩ := R.field a fid sub hx
      rw [hf'] at hfx
      cases hfx
      show (match sels.find? (fun x => fieldKey c.s x == some (fieldOf c (a.getD sf.name) ft sf.ty.quals sf.deprecation).wire) with
        | some x => fcan x v | none => v) = _
      rw [fieldOf_wire, find_fieldKey c.s _ sels hfk _ hx (by simp [fieldKey, hsf])]
  · intro f hf hfl j x hl hdx
    have hfV : f ∈ fieldsOfV c pfx sels := by
      rw [← filter_fieldsOfF c pfx sels]; exact List.mem_filter.mpr ⟨hf, by simp [hfl]⟩
    obtain ⟨a, fid, sub, sf, ft, hx, hsf, hfx, rfl, _⟩ := mem_fieldsOfV_of R hfV
    rw [fieldOf_wire] at hl
    rw [hlk _ (by
      have : fieldKey c.s (.field a fid sub) = some (a.getD sf.name) := by simp [fieldKey, hsf]
      exact List.mem_filterMap.mpr ⟨_, hx, this⟩)] at hl
    have hst : strictFieldV c.s (expandSelW ex (.field a fid sub)) j = true := by
      have := confSelsV_mem hconf _ (expandSelsW_mem ex hx)
      rw [expandSelW, confSelV_field] at this
      rw [expandSelW]
      simpa [hsf, hl] using this
    have hfc : fcO (fieldOf c (a.getD sf.name) ft sf.ty.quals sf.deprecation) j = fcan (.field a fid sub) j := by
      show (match sels.find? (fun x => fieldKey c.s x == some (fieldOf c (a.getD sf.name) ft sf.ty.quals sf.deprecation).wire) with
        | some x => fcan x j | none => j) = _
      rw [fieldOf_wire, find_fieldKey c.s _ sels hfk _ hx (by simp [fieldKey, hsf])]
    rw [hfc]
    exact H0 _ hx _ hfx b (fuel + 1) (fs' + 1) (by omega) (by omega) j x hst hdx
  · intro g hg hfl
    obtain ⟨gid, fr, hm, hfrg, rfl⟩ := mem_fieldsOfF_flatten hg hfl
    obtain ⟨x, hf, hser⟩ := hmemrt gid fr hm hfrg
    exact ⟨x, hf, by rw [hser, hmc gid fr hm hfrg]⟩

include hok hfa hfr in
/-- **round trip of the struct of an object-level selection set with spreads of fragments of the class** -/
theorem rtStructA (pfx name : String) (i : Nat) (sels : List Sel) (H : RTSelsN e c ok KN fenv ex cent pfx sels)
    (ht : nSels ok c.s c.q c.o (.object i) sels = true) (henv : envSelsN fenv e c pfx sels)
    (hko : keysOksN KN c sels = true) (hkeys : EnumSpec.nodup (expKeysN KN c sels) = true)
    (hro : rustOkSelsN c sels = true) (hrn : EnumSpec.nodup (rustNamesF c sels) = true)
    (hs : StructEnv e name (fieldsOfF c pfx sels)) :
    ∃ N, ∀ b fd fs, N ≤ fd → N ≤ fs → ∀ kvs (L0 : List String) v, (kvs.map (·.1)).Nodup →
      (∀ k ∈ L0, k ∉ expKeysN KN c sels) → confSelsV c.s i (expandSelsW ex sels) kvs = true →
      dePath e b fd name (.obj (kvs.filter (fun kv => !L0.contains kv.1))) = .ok v →
      serPath e fs name v = .ok (.obj (canonEntriesN cent c.s c.q c.o.skipNone sels kvs)) :=
  rtStructA_of e c ok whole KN fenv ex cent hok hfa hfr pfx name i sels (resolves_of_nSels hok ht) (spreads_of_nSels ht henv)
    (canonFieldN cent c.s c.q c.o.skipNone) (canonEntriesN cent c.s c.q c.o.skipNone sels) (H (.object i) ht henv hko hro)
    (fun fc mc kvs' kvs => flatMap_entriesN_canon hok cent pfx (.object i) fc mc kvs' kvs sels ht) hkeys hrn hs

include hok hfa hfr in
/-- round trip of the type emitted for an object-level selection set, from the round trips of its fields -/
theorem rtBodyA (pfx name : String) (i : Nat) (sels : List Sel) (H : RTSelsN e c ok KN fenv ex cent pfx sels)
    (ht : nBody ok c.s c.q c.o (.object i) sels = true) (henv : BodyEnvN fenv e c name pfx sels)
    (hko : keysOksN KN c sels = true) (hkeys : EnumSpec.nodup (expKeysN KN c sels) = true)
    (hro : rustOkSelsN c sels = true) (hrn : EnumSpec.nodup (rustNamesF c sels) = true) :
    ∃ N, ∀ b fd fs, N ≤ fd → N ≤ fs → ∀ j v, conformsV c.s i (expandSelsW ex sels) j = true →
      dePath e b fd name j = .ok v → serPath e fs name v = .ok (canonSelN cent c.s c.q c.o.skipNone sels j) := by
  rcases lone_or_not sels with hsp | hnl
  · obtain ⟨g, rfl⟩ := hsp
    unfold BodyEnvN at henv
    simp only at henv
    have hokg : ok (.object i) g = true := ht
    obtain ⟨fr, hfrg, hon, _, _⟩ := hok _ _ hokg
    have hfon : fragOn c.q g = .object i := by simp [fragOn, hfrg, hon]
    obtain ⟨Ng, hrt⟩ := (hfr _ g hokg henv.2).rt
    obtain ⟨hp, _, n, pub, hfind⟩ := henv.1
    refine ⟨Ng + 2, fun b fd fs hfd hfs j v hc hd => ?_⟩
    obtain ⟨fd', rfl⟩ : ∃ k, fd = k + 1 := ⟨fd - 1, by omega⟩
    obtain ⟨fs', rfl⟩ : ∃ k, fs = k + 2 := ⟨fs - 2, by omega⟩
    have hd' : dePath e b fd' (fragName c g) j = .ok v := by
      rw [dePath] at hd; simpa only [dePrim_none hp, hfind, deTyWith] using hd
    rw [serPath_alias e name (fragName c g) n pub hfind]
    obtain ⟨kvs, rfl, -, -⟩ := conformsV_obj hc
    simp only [expandSelsW, expandSelW, conformsV, confSelsV, Bool.and_true, Bool.and_eq_true] at hc
    rw [← filter_not_nil kvs] at hd'
    simp only [canonSelN, cwhole]
    exact hrt fd' (fs' + 1) (by omega) (by omega) b i kvs [] v hfon (nodup_iff'.mp hc.1.1) (by simp) hc.2 hd'
  · have henv' := bodyEnvN_not_lone hnl henv
    rw [nBody_not_lone hnl] at ht
    obtain ⟨N, hN⟩ := rtStructA e c ok whole KN fenv ex cent hok hfa hfr pfx name i sels H ht henv'.2 hko hkeys hro hrn
      henv'.1
    refine ⟨N, fun b fd fs hfd hfs j v hc hd => ?_⟩
    rw [canonSelN_not_lone hnl]
    obtain ⟨kvs, rfl, hnd, hconf⟩ := conformsV_obj hc
    rw [← filter_not_nil kvs] at hd
    exact hN b fd fs hfd hfs kvs [] v hnd (by simp) hconf hd

mutual
  theorem rtSelA : ∀ (x : Sel) (pfx : String), OkSpec c.q ok →
      (∀ p g, ok p g = true → fenv g → FragAccA e c whole KN g) →
      (∀ p g, ok p g = true → fenv g → FragRT e c ex cent KN g) →
      (∀ g, FragOkAny c.s c.q c.o g → ex g = expandSel c.q (.spread g)) → RTSelN e c ok KN fenv ex cent pfx x
    | .field a fid sub, pfx => by
      intro hok hfa hfr hexA p ht henv hko hro f hf
      have IH := rtSelsA sub
      obtain ⟨sf, ft, hsf, _, hf', hw⟩ := fieldOfSelV_n pfx p a fid sub ht
      by_cases hobj : ∃ i, sf.ty.id = .object i
      · obtain ⟨i, hid⟩ := hobj
        have hwf : wf (gtyOf sf.ty.quals) = true := by rw [wf_gtyOf]; exact hw
        obtain ⟨_, _, _, hbody⟩ := nSel_obj hsf hid ht
        have henvB := envSelN_obj hsf hid henv
        have hko := keysOkN_obj hsf hid hko
        simp only [fieldOfSelV, hsf, leafNameV, hid, Option.some.injEq] at hf
        subst hf
        have hID : pfx ++ c.cs.camel (a.getD sf.name) ≠ "ID" := by
          unfold BodyEnvN at henvB
          split at henvB
          · exact henvB.1.2.1
          · exact henvB.1.2.1
        have hleaf : ∃ N, ∀ b fd fs, N ≤ fd → N ≤ fs → ∀ j w,
            conformsV c.s i (expandSelsW ex sub) j = true →
            dePath e b fd (pfx ++ c.cs.camel (a.getD sf.name)) j = .ok w →
            serPath e fs (pfx ++ c.cs.camel (a.getD sf.name)) w =
              .ok (canonSelN cent c.s c.q c.o.skipNone sub j) := by
          rcases lone_or_not sub with hsp | hnl
          · obtain ⟨g, rfl⟩ := hsp
            exact rtBodyA e c ok whole KN fenv ex cent hok hfa hfr _ _ i [Sel.spread g]
              (fun _ _ _ _ _ => ⟨0, fun x hx f hf => by
                simp only [List.mem_singleton] at hx; subst hx; cases hf⟩)
              hbody henvB (by simp [keysOksN, keysOkN]) (by
                have : expKeysN KN c [Sel.spread g] = KN (fragName c g) := by simp [expKeysN]
                rw [this]; exact hko.1 ▸ (by simp [expKeysN])) (by simp [rustOkSelsN, rustOkSelN])
              (by simp [rustNamesF, rustNameF, EnumSpec.nodup])
          · have hroB := rustOkSelN_obj hsf hid hnl hro
            exact rtBodyA e c ok whole KN fenv ex cent hok hfa hfr _ _ i sub (IH _ hok hfa hfr hexA) hbody henvB hko.2
              hko.1 hroB.1 hroB.2
        obtain ⟨N, hN⟩ := hleaf
        refine ⟨N, fun b fd fs hfd hfs v y hst hd => ?_⟩
        simp only [expandSelW, strictFieldV] at hst
        rw [canonFieldN]
        simp only [hsf, hid] at hst ⊢
        rw [canonLambdaN]
        rw [deField_plain _ _ _ _ hID] at hd
        refine (leaf_roundtrip_on (dePath e b fd) (serPath e fs) _
          (conformsAt c.s (.object i) (expandSelsW ex sub)) (canonSelN cent c.s c.q c.o.skipNone sub) ?_ _ hwf).2 v y hst hd
        intro j w hc hdw
        simp only [conformsAt, List.any_eq_true, List.mem_range, Bool.and_eq_true, fragApplies, beq_iff_eq] at hc
        obtain ⟨rt, _, hrt, hcv⟩ := hc
        subst hrt
        exact hN b fd fs hfd hfs j w hcv hdw
      · have hno : ∀ i, sf.ty.id ≠ .object i := fun i h => hobj ⟨i, h⟩
        have hs := nSel_nonobj hsf hno ht
        refine ⟨2 * depthF c.q (.field a fid sub) + 1, fun b fd fs hfd hfs v y hst hd => ?_⟩
        rw [canonFieldN_nonobj hsf hno]
        have hexp : expandSelW ex (.field a fid sub) = expandSel c.q (.field a fid sub) :=
          expandSelW_congr c.q ex _ (fun g hg => hexA g (fragOk_of_spreadIdS c.s c.q c.o _ false hs g hg (by simp)))
        rw [hexp] at hst
        exact rtSelD e c _ pfx false hs (envSelN_nonobj hsf hno henv)
          (rustOkSelN_nonobj hsf hno hro) f hf b fd fs hfd (by omega) v y hst hd
    | .spread g, pfx => by intro _ _ _ _ _ _ _ _ _ f hf; cases hf
    | .inline t sub, pfx => by intro _ _ _ _ _ _ _ _ _ f hf; cases hf
    | .typename, pfx => by intro _ _ _ _ _ _ _ _ _ f hf; cases hf
  theorem rtSelsA : ∀ (sels : List Sel) (pfx : String), OkSpec c.q ok →
      (∀ p g, ok p g = true → fenv g → FragAccA e c whole KN g) →
      (∀ p g, ok p g = true → fenv g → FragRT e c ex cent KN g) →
      (∀ g, FragOkAny c.s c.q c.o g → ex g = expandSel c.q (.spread g)) → RTSelsN e c ok KN fenv ex cent pfx sels
    | [], _ => by
      intro _ _ _ _ _ _ _ _ _
      exact ⟨0, fun x hx => by simp at hx⟩
    | y :: ys, pfx => by
      intro hok hfa hfr hexA p ht henv hko hro
      obtain ⟨hy, hys⟩ := nSels_cons ht
      rw [envSelsN] at henv
      rw [keysOksN, Bool.and_eq_true] at hko
      rw [rustOkSelsN, Bool.and_eq_true] at hro
      obtain ⟨N2, I2⟩ := rtSelsA ys pfx hok hfa hfr hexA p hys henv.2 hko.2 hro.2
      have IY := rtSelA y pfx hok hfa hfr hexA p hy henv.1 hko.1 hro.1
      cases hfy : fieldOfSelV c pfx y with
      | none =>
        refine ⟨N2, fun x hx f hf => ?_⟩
        rcases List.mem_cons.mp hx with heq | hx'
        · rw [heq, hfy] at hf; cases hf
        · exact I2 x hx' f hf
      | some fy =>
        obtain ⟨N1, I1⟩ := IY fy hfy
        refine ⟨max N1 N2, fun x hx f hf b fd fs hfd hfs => ?_⟩
        rcases List.mem_cons.mp hx with heq | hx'
        · subst heq
          rw [hfy] at hf; cases hf
          exact I1 b fd fs (by omega) (by omega)
        · exact I2 x hx' f hf b fd fs (by omega) (by omega)
end

include hok hfa hfr hexA in
/-- **round trip of the type emitted for an object-level selection set of `AliasFragOp`** (from some fuel on) -/
theorem bodyA_lossless (pfx name : String) (i : Nat) (sels : List Sel)
    (ht : nBody ok c.s c.q c.o (.object i) sels = true) (henv : BodyEnvN fenv e c name pfx sels)
    (hko : keysOksN KN c sels = true) (hkeys : EnumSpec.nodup (expKeysN KN c sels) = true)
    (hro : rustOkSelsN c sels = true) (hrn : EnumSpec.nodup (rustNamesF c sels) = true) :
    ∃ N, ∀ b fd fs, N ≤ fd → N ≤ fs → ∀ j v, conformsV c.s i (expandSelsW ex sels) j = true →
      dePath e b fd name j = .ok v → serPath e fs name v = .ok (canonSelN cent c.s c.q c.o.skipNone sels j) :=
  rtBodyA e c ok whole KN fenv ex cent hok hfa hfr pfx name i sels
    (rtSelsA e c ok whole KN fenv ex cent sels pfx hok hfa hfr hexA) ht henv hko hkeys hro hrn

end RTA

end C01AF
end GqlVerif
