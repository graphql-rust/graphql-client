import GqlVerif.Proofs.C01AliasFragC
import GqlVerif.Proofs.AcyclicModulesClasses
import GqlVerif.Proofs.C01TopLevelFuel
/-!
# `NestedOp`: the rank recursion; `ResponseData` accepts exactly `conformsLooseN`

`C01NestedC` is parametric in "what a spread fragment accepts" (`whole`), "which keys it reads" (`KN`) and "what is known of
the environment" (`fenv`).  Here they are defined by recursion on the rank of `fragOkN`, a fragment keeping the value of the
first rank at which it is in the class:

* `wholeN c r g b j` — what the struct of the fragment `g` accepts: rank `0` `conformsLooseV` of its (spread-free) body, a
  fragment new at rank `r + 1` `conformsLooseN (wholeN c r)` of its body — **own fields, and every fragment spread in the
  body accepts the whole object**;
* `KNn c r name` — the response keys the struct named `name` reads at its own object level, through its flattened members;
* `FragEnvN e c r g` — the environment: the fragment's name resolves to the struct of `nested_fragment_shape`, …;
* `fragSideN c r g` — decidable side condition: keys disjoint between a spread and its siblings inside the fragment body,
  recursively.

`fragAccN` gives `FragAcc e c (wholeN c r) (KNn c r) g` for every fragment of rank `r`, by induction on the rank (hypothesis:
fragment names pairwise distinct, `fragNamesOk`: fragments are looked up by name, `idOf`).  `top_accepts_iffN`: in an
environment that is `EnvOK` (fuel independence, `SerdeFuel`), `okB (Serde.de e ResponseData j) = conformsLooseN (wholeN c R) …
false op.sels j` with `R = c.q.fragments.length`.
-/

namespace GqlVerif
namespace C01N
open Serde C03 Codegen C01 C01.E2E

/-! ## entries with other keys do not matter -/

theorem keep_notin (L : List String) {k : String} (hk : k ∉ L) (v : Json) :
    (fun kv : String × Json => !L.contains kv.1) (k, v) = true := by simp [hk]

theorem looseSelsV_filter (s : Schema) (o : Options) (b : Bool) (L : List String) (kvs : List (String × Json))
    (sels : List Sel) (h : ∀ k ∈ fieldKeys s sels, k ∉ L) :
    looseSelsV s o b sels (kvs.filter (fun kv => !L.contains kv.1)) = looseSelsV s o b sels kvs :=
  C01.E2E.looseSelsV_filter s o b _ kvs sels (fun k hk v => keep_notin L (h k hk) v)

theorem looseOwnN_filter (whole : Nat → Bool → Json → Bool) (s : Schema) (q : Query) (o : Options) (b : Bool)
    (L : List String) (kvs : List (String × Json)) :
    ∀ (sels : List Sel), (∀ k ∈ fieldKeys s sels, k ∉ L) →
    looseOwnN whole s q o b sels (kvs.filter (fun kv => !L.contains kv.1)) = looseOwnN whole s q o b sels kvs
  | [], _ => by simp [looseOwnN]
  | x :: xs, h => by
    have ih := looseOwnN_filter whole s q o b L kvs xs (fun k hk => h k (by
      simp only [fieldKeys, List.filterMap_cons] at hk ⊢
      cases fieldKey s x <;> simp [hk]))
    cases x with
    | field a fid sub =>
      rw [looseOwnN.eq_2, looseOwnN.eq_2, ih]
      cases hsf : s.fields[fid]? with
      | none => rfl
      | some sf =>
        have hk : a.getD sf.name ∉ L := h _ (by simp [fieldKeys, fieldKey, hsf])
        simp only [countKey_filter (fun kv => !L.contains kv.1) (a.getD sf.name) (keep_notin L hk),
          lookup_filter (fun kv => !L.contains kv.1) (a.getD sf.name) (keep_notin L hk)]
    | spread g => simpa [looseOwnN] using ih
    | inline t sub => simpa [looseOwnN] using ih
    | typename => simpa [looseOwnN] using ih

theorem looseMemN_filter (whole : Nat → Bool → Json → Bool) (L : List String) (kvs : List (String × Json)) :
    ∀ (sels : List Sel), (∀ g, Sel.spread g ∈ sels →
      whole g true (.obj (kvs.filter (fun kv => !L.contains kv.1))) = whole g true (.obj kvs)) →
    looseMemN whole sels (kvs.filter (fun kv => !L.contains kv.1)) = looseMemN whole sels kvs
  | [], _ => rfl
  | x :: xs, h => by
    have ih := looseMemN_filter whole L kvs xs (fun g hg => h g (List.mem_cons_of_mem _ hg))
    cases x with
    | spread g => rw [looseMemN, looseMemN, ih, h g (by simp)]
    | field a fid sub => simpa [looseMemN] using ih
    | inline t sub => simpa [looseMemN] using ih
    | typename => simpa [looseMemN] using ih

theorem fieldKeys_sublist_expKeysN (KN : String → List String) (c : Ctx) : ∀ (sels : List Sel),
    (fieldKeys c.s sels).Sublist (expKeysN KN c sels)
  | [] => by simp [fieldKeys, expKeysN]
  | x :: xs => by
    have ih := fieldKeys_sublist_expKeysN KN c xs
    cases x with
    | field a fid sub =>
      simp only [fieldKeys, List.filterMap_cons, fieldKey, expKeysN] at ih ⊢
      cases hsf : c.s.fields[fid]? with
      | none => simpa [hsf] using ih
      | some sf => simpa [hsf] using ih
    | spread g =>
      simp only [fieldKeys, List.filterMap_cons, fieldKey, expKeysN] at ih ⊢
      exact List.sublist_append_of_sublist_right ih
    | inline t sub => simpa [fieldKeys, List.filterMap_cons, fieldKey, expKeysN] using ih
    | typename => simpa [fieldKeys, List.filterMap_cons, fieldKey, expKeysN] using ih

theorem fieldKeys_sub_expKeysN (KN : String → List String) (c : Ctx) : ∀ (sels : List Sel),
    ∀ k ∈ fieldKeys c.s sels, k ∈ expKeysN KN c sels :=
  fun sels _ hk => (fieldKeys_sublist_expKeysN KN c sels).subset hk

theorem spreadKeys_sub_expKeysN (KN : String → List String) (c : Ctx) : ∀ (sels : List Sel) (g : Nat),
    Sel.spread g ∈ sels → ∀ k ∈ KN (fragName c g), k ∈ expKeysN KN c sels
  | [], g, hg, _, _ => by simp at hg
  | x :: xs, g, hg, k, hk => by
    have ih := spreadKeys_sub_expKeysN KN c xs g
    rcases List.mem_cons.mp hg with rfl | hg'
    · rw [expKeysN]; exact List.mem_append_left _ hk
    · cases x with
      | field a fid sub => rw [expKeysN]; exact List.mem_append_right _ (ih hg' k hk)
      | spread g' => rw [expKeysN]; exact List.mem_append_right _ (ih hg' k hk)
      | inline t sub =>
        have : expKeysN KN c (.inline t sub :: xs) = expKeysN KN c xs := by simp [expKeysN]
        rw [this]; exact ih hg' k hk
      | typename =>
        have : expKeysN KN c (.typename :: xs) = expKeysN KN c xs := by simp [expKeysN]
        rw [this]; exact ih hg' k hk

/-! ## fragments by name -/

def idOfAux (name : String) : List RFragment → Nat
  | [] => 0
  | f :: fs => if f.name == name then 0 else idOfAux name fs + 1

/-- the (first) fragment named `name` -/
def idOf (q : Query) (name : String) : Nat := idOfAux name q.fragments

theorem idOfAux_spec : ∀ (fs : List RFragment) (g : Nat) (f : RFragment), (fs.map (·.name)).Nodup → fs[g]? = some f →
    idOfAux f.name fs = g
  | [], g, f, _, h => by simp at h
  | f0 :: fs, 0, f, _, h => by
    simp only [List.getElem?_cons_zero, Option.some.injEq] at h
    subst h; simp [idOfAux]
  | f0 :: fs, g + 1, f, hnd, h => by
    simp only [List.getElem?_cons_succ] at h
    simp only [List.map_cons, List.nodup_cons] at hnd
    have hne : (f0.name == f.name) = false := by
      have : f.name ∈ fs.map (·.name) := List.mem_map_of_mem (List.mem_of_getElem? h)
      cases hq : f0.name == f.name
      · rfl
      · exact absurd ((beq_iff_eq.mp hq) ▸ this) hnd.1
    simp only [idOfAux, hne, Bool.false_eq_true, ↓reduceIte, idOfAux_spec fs g f hnd.2 h]

/-- fragment names are pairwise distinct (decidable; GraphQL §5.5.1.1) -/
def fragNamesOk (c : Ctx) : Bool := EnumSpec.nodup (c.q.fragments.map (·.name))

theorem idOf_name {c : Ctx} (hnd : fragNamesOk c = true) {g : Nat} {f : RFragment} (hf : c.q.fragments[g]? = some f) :
    idOf c.q f.name = g :=
  idOfAux_spec _ g f (nodup_iff'.mp hnd) hf

def fragOn (q : Query) (g : Nat) : TypeId :=
  match q.fragments[g]? with
  | some f => f.on
  | none => .input 0

/-! ## the functions defined by recursion on the rank: `wholeN`, `KNn`, `FragEnvN`, `fragSideN` (and `objSpreads`) -/

/-- **what the struct of the fragment `g` accepts** -/
def wholeN (c : Ctx) : Nat → Nat → Bool → Json → Bool
  | 0, g, b, j => conformsLooseV c.s c.o b (fragSels c.q g) j
  | r + 1, g, b, j =>
    if fragOkN c.s c.q c.o r (fragOn c.q g) g then wholeN c r g b j
    else conformsLooseN (wholeN c r) c.s c.q c.o b (fragSels c.q g) j

/-- the response keys the struct named `name` reads at its own object level (own keys and those of its flattened members) -/
def KNn (c : Ctx) : Nat → String → List String
  | 0, name => fieldKeys c.s (fragSels c.q (idOf c.q name))
  | r + 1, name =>
    if fragOkN c.s c.q c.o r (fragOn c.q (idOf c.q name)) (idOf c.q name) then KNn c r name
    else expKeysN (KNn c r) c (fragSels c.q (idOf c.q name))

/-- the environment of the fragment `g`: its name resolves to the struct of `nested_fragment_shape`, and so on below -/
def FragEnvN (e : Env) (c : Ctx) : Nat → Nat → Prop
  | 0, g => FragEnv e c g
  | r + 1, g =>
    if fragOkN c.s c.q c.o r (fragOn c.q g) g = true then FragEnvN e c r g
    else match c.q.fragments[g]? with
      | some f => StructEnv e f.name (fieldsOfF c (c.cs.camel f.name) f.sels) ∧
          envSelsN (FragEnvN e c r) e c (c.cs.camel f.name) f.sels
      | none => True

mutual
  /-- the spreads at object positions of a selection set (not through fragment bodies) -/
  def objSpreads (s : Schema) : Sel → List Nat
    | .field _ fid sub =>
      match s.fields[fid]? with
      | none => []
      | some sf =>
        match sf.ty.id with
        | .object _ => objSpreadss s sub
        | _ => []
    | .spread g => [g]
    | _ => []
  def objSpreadss (s : Schema) : List Sel → List Nat
    | [] => []
    | x :: xs => objSpreads s x ++ objSpreadss s xs
end

/-- **keys disjoint between a spread and its siblings, inside the body of the fragment `g`** and of the fragments spread
    there (decidable) -/
def fragSideN (c : Ctx) : Nat → Nat → Bool
  | 0, _ => true
  | r + 1, g =>
    if fragOkN c.s c.q c.o r (fragOn c.q g) g then fragSideN c r g
    else keysOksN (KNn c r) c (fragSels c.q g) && EnumSpec.nodup (expKeysN (KNn c r) c (fragSels c.q g)) &&
      (objSpreadss c.s (fragSels c.q g)).all (fragSideN c r)

/-! ## the environment hypothesis and `FragAcc` in their parameters -/

mutual
  theorem envSelN_and {fenv : Nat → Prop} {P : Nat → Prop} {e : Env} {c : Ctx} : ∀ (x : Sel) (pfx : String),
      envSelN fenv e c pfx x → (∀ g ∈ objSpreads c.s x, P g) → envSelN (fun g => fenv g ∧ P g) e c pfx x
    | .field a fid sub, pfx => by
      intro h hP
      have IH := @envSelsN_and fenv P e c sub
      rw [envSelN] at h ⊢
      rw [objSpreads] at hP
      cases hsf : c.s.fields[fid]? with
      | none => trivial
      | some sf =>
        simp only [hsf] at h hP ⊢
        cases hid : sf.ty.id with
        | object i =>
          simp only [hid] at h hP ⊢
          rcases lone_or_not sub with hsp | hnl
          · obtain ⟨g, rfl⟩ := hsp
            simp only at h ⊢
            exact ⟨h.1, h.2, hP g (by simp [objSpreadss, objSpreads])⟩
          · have h' := bodyEnvN_not_lone hnl h
            split
            · exact absurd rfl (hnl _)
            · exact ⟨h'.1, IH _ h'.2 hP⟩
        | scalar k => simpa only [hid] using h
        | «enum» k => simpa only [hid] using h
        | interface k => simpa only [hid] using h
        | union k => simpa only [hid] using h
        | input k => simpa only [hid] using h
    | .spread g, pfx => by
      intro h hP
      rw [envSelN] at h ⊢
      exact ⟨h, hP g (by simp [objSpreads])⟩
    | .inline _ _, _ => by intro _ _; simp [envSelN]
    | .typename, _ => by intro _ _; simp [envSelN]
  theorem envSelsN_and {fenv : Nat → Prop} {P : Nat → Prop} {e : Env} {c : Ctx} : ∀ (sels : List Sel) (pfx : String),
      envSelsN fenv e c pfx sels → (∀ g ∈ objSpreadss c.s sels, P g) → envSelsN (fun g => fenv g ∧ P g) e c pfx sels
    | [], _ => by intro _ _; simp [envSelsN]
    | x :: xs, pfx => by
      intro h hP
      rw [envSelsN] at h ⊢
      rw [objSpreadss] at hP
      exact ⟨envSelN_and x pfx h.1 (fun g hg => hP g (List.mem_append_left _ hg)),
        envSelsN_and xs pfx h.2 (fun g hg => hP g (List.mem_append_right _ hg))⟩
end

theorem FragAcc.congr {e : Env} {c : Ctx} {whole whole' : Nat → Bool → Json → Bool} {KN KN' : String → List String}
    {g : Nat} (fa : FragAcc e c whole KN g) (hw : ∀ b j, whole' g b j = whole g b j)
    (hk : KN' (fragName c g) = KN (fragName c g)) : FragAcc e c whole' KN' g := by
  obtain ⟨n, d, cr, G, hnp, hfind, hG⟩ := fa.str
  obtain ⟨N, hacc⟩ := fa.acc
  refine ⟨⟨n, d, cr, G, hnp, hfind, by rw [hk]; exact hG⟩, ⟨N, fun fd hfd b j => by rw [hw]; exact hacc fd hfd b j⟩, ?_⟩
  intro L hL b kvs
  rw [hw, hw]
  exact fa.irr L (by rw [← hk]; exact hL) b kvs

/-! ## the steps under this class's names: instances of those of `AliasFragOp` (`C01AliasFragC`) -/

section AccN
variable (e : Env) (c : Ctx) (ok : TypeId → Nat → Bool) (whole : Nat → Bool → Json → Bool) (KN : String → List String)
  (fenv : Nat → Prop)

/-- `accSelA` for fragments whose name resolves to a struct item -/
theorem accSelN : ∀ (x : Sel) (pfx : String), OkSpec c.q ok →
      (∀ p g, ok p g = true → fenv g → FragAcc e c whole KN g) → AccSelN e c ok whole KN fenv pfx x :=
  fun x pfx hok hfa => C01AF.accSelA e c ok whole KN fenv x pfx hok (fun p g h f => .of_fragAcc (hfa p g h f))

theorem accSelsN : ∀ (sels : List Sel) (pfx : String), OkSpec c.q ok →
      (∀ p g, ok p g = true → fenv g → FragAcc e c whole KN g) → AccSelsN e c ok whole KN fenv pfx sels :=
  fun sels pfx hok hfa => C01AF.accSelsA e c ok whole KN fenv sels pfx hok (fun p g h f => .of_fragAcc (hfa p g h f))

variable (hok : OkSpec c.q ok) (hfa : ∀ p g, ok p g = true → fenv g → FragAcc e c whole KN g)

include hok hfa in
/-- the struct of an object-level selection set (not a lone spread) accepts exactly `conformsLooseN` -/
theorem accStructN (pfx name : String) (p : TypeId) (sels : List Sel) (H : AccSelsN e c ok whole KN fenv pfx sels)
    (hnl : ∀ g, sels ≠ [Sel.spread g])
    (ht : nSels ok c.s c.q c.o p sels = true) (henv : envSelsN fenv e c pfx sels) (hko : keysOksN KN c sels = true)
    (hkeys : EnumSpec.nodup (expKeysN KN c sels) = true)
    (hs : StructEnv e name (fieldsOfF c pfx sels)) :
    ∃ N, ∀ b fd, N ≤ fd → ∀ j, okB (dePath e b fd name j) = conformsLooseN whole c.s c.q c.o b sels j :=
  C01AF.accStructA e c ok whole KN fenv hok (fun p g h f => .of_fragAcc (hfa p g h f)) pfx name p sels H hnl ht henv hko
    hkeys hs

include hok hfa in
/-- **the type emitted for an object-level selection set accepts exactly `conformsLooseN`** (from some fuel on) -/
theorem bodyN_accepts_iff (pfx name : String) (p : TypeId) (sels : List Sel)
    (ht : nBody ok c.s c.q c.o p sels = true) (henv : BodyEnvN fenv e c name pfx sels)
    (hko : keysOksN KN c sels = true) (hkeys : EnumSpec.nodup (expKeysN KN c sels) = true) :
    ∃ N, ∀ b fd, N ≤ fd → ∀ j, okB (dePath e b fd name j) = conformsLooseN whole c.s c.q c.o b sels j :=
  C01AF.bodyA_accepts_iff e c ok whole KN fenv hok (fun p g h f => .of_fragAcc (hfa p g h f)) pfx name p sels ht henv hko
    hkeys

end AccN

/-! ## the induction on the rank -/

/-- **what the struct of a fragment of rank `r` accepts, exactly** (by induction on the rank) -/
theorem fragAccN (e : Env) (c : Ctx) (hnd : fragNamesOk c = true) : ∀ (r : Nat) (p : TypeId) (g : Nat),
    fragOkN c.s c.q c.o r p g = true → FragEnvN e c r g → fragSideN c r g = true →
    FragAcc e c (wholeN c r) (KNn c r) g
  | 0, p, g => by
    intro h henv _
    rw [fragOkN] at h
    obtain ⟨fr, hfr, hon, _, hv, _⟩ := fragOk_parts h
    have hname : fragName c g = fr.name := by simp [fragName, hfr]
    have hsels : fragSels c.q g = fr.sels := by simp [fragSels, hfr]
    have hid : idOf c.q fr.name = g := idOf_name hnd hfr
    have hKN : KNn c 0 fr.name = fieldKeys c.s fr.sels := by rw [KNn, hid, hsels]
    rw [FragEnvN] at henv
    unfold FragEnv at henv
    rw [hfr] at henv
    obtain ⟨hs, henvV⟩ := henv
    obtain ⟨hp, _, n, d, cr, hfind⟩ := hs
    refine ⟨⟨n, d, cr, fieldsOfV c (c.cs.camel fr.name) fr.sels, hname ▸ hp, hname ▸ hfind, ?_⟩,
      ⟨2 * selsDepth fr.sels + 2, ?_⟩, ?_⟩
    · intro f hf _
      rw [hname, hKN, ← wire_fieldsOfV c _ false fr.sels hv]
      exact List.mem_map_of_mem hf
    · intro fd hfd b j
      rw [hname, wholeN, hsels]
      exact structV_accepts_iff e c _ _ fr.sels false hv henvV ⟨hp, ‹_›, n, d, cr, hfind⟩ b fd hfd j
    · intro L hL b kvs
      rw [hname, hKN] at hL
      simp only [wholeN, hsels, conformsLooseV]
      exact looseSelsV_filter c.s c.o b L kvs fr.sels (fun k hk hkL => hL k hkL hk)
  | r + 1, p, g => by
    intro h henv hside
    have IH := fragAccN e c hnd r
    by_cases hold : fragOkN c.s c.q c.o r p g = true
    · -- already of rank `r`
      obtain ⟨fr, hfr, hon, _, _⟩ := fragOkN_spec c.s c.q c.o r p g hold
      have hfon : fragOn c.q g = p := by simp [fragOn, hfr, hon]
      have hname : fragName c g = fr.name := by simp [fragName, hfr]
      have hid : idOf c.q fr.name = g := idOf_name hnd hfr
      rw [FragEnvN, hfon, if_pos hold] at henv
      rw [fragSideN, hfon, if_pos hold] at hside
      refine (IH p g hold henv hside).congr (fun b j => ?_) ?_
      · rw [wholeN, hfon, if_pos hold]
      · rw [hname, KNn, hid, hfon, if_pos hold]
    · -- new at rank `r + 1`
      have holdf : fragOkN c.s c.q c.o r p g = false := by simpa using hold
      rw [fragOkN, holdf, Bool.false_or] at h
      obtain ⟨fr, hfr, hon, _, _, hnl, hb⟩ := fragNew_parts h
      have hfon : fragOn c.q g = p := by simp [fragOn, hfr, hon]
      have hname : fragName c g = fr.name := by simp [fragName, hfr]
      have hsels : fragSels c.q g = fr.sels := by simp [fragSels, hfr]
      have hid : idOf c.q fr.name = g := idOf_name hnd hfr
      have hKN : KNn c (r + 1) fr.name = expKeysN (KNn c r) c fr.sels := by
        rw [KNn, hid, hfon, if_neg hold, hsels]
      have hwh : ∀ b j, wholeN c (r + 1) g b j = conformsLooseN (wholeN c r) c.s c.q c.o b fr.sels j := by
        intro b j; rw [wholeN, hfon, if_neg hold, hsels]
      rw [FragEnvN, hfon, if_neg hold] at henv
      simp only [hfr] at henv
      rw [fragSideN, hfon] at hside
      simp only [holdf, Bool.false_eq_true, ↓reduceIte, hsels, Bool.and_eq_true, List.all_eq_true] at hside
      obtain ⟨⟨hko, hkeys⟩, hsub⟩ := hside
      obtain ⟨hs, henvs⟩ := henv
      have hok := fragOkN_spec c.s c.q c.o r
      have hfa : ∀ p' g', fragOkN c.s c.q c.o r p' g' = true →
          (FragEnvN e c r g' ∧ fragSideN c r g' = true) → FragAcc e c (wholeN c r) (KNn c r) g' :=
        fun p' g' h1 h2 => IH p' g' h1 h2.1 h2.2
      have henvs' := envSelsN_and (P := fun g' => fragSideN c r g' = true) fr.sels _ henvs hsub
      have hfaA := fun p' g' h1 h2 => C01AF.FragAccA.of_fragAcc (hfa p' g' h1 h2)
      obtain ⟨N, hN⟩ := C01AF.accStructA e c _ (wholeN c r) (KNn c r) _ hok hfaA (c.cs.camel fr.name) fr.name fr.on fr.sels
        (C01AF.accSelsA e c _ (wholeN c r) (KNn c r) _ fr.sels _ hok hfaA) hnl hb henvs' hko hkeys hs
      obtain ⟨_, h2, _, _⟩ := flat_hypsN hok (KNn c r) (c.cs.camel fr.name) fr.on fr.sels hb (nodup_iff'.mp hkeys)
      obtain ⟨hp, _, n, d, cr, hfind⟩ := hs
      refine ⟨⟨n, d, cr, fieldsOfF c (c.cs.camel fr.name) fr.sels, hname ▸ hp, hname ▸ hfind, ?_⟩, ⟨N, ?_⟩, ?_⟩
      · intro f hf hfl
        rw [hname, hKN]
        exact h2 f hf hfl
      · intro fd hfd b j
        rw [hname, hwh]
        exact hN b fd hfd j
      · intro L hL b kvs
        rw [hname, hKN] at hL
        rw [hwh, hwh, conformsLooseN_not_lone hnl, conformsLooseN_not_lone hnl]
        simp only
        rw [looseOwnN_filter _ _ _ _ _ L kvs fr.sels
            (fun k hk hkL => hL k hkL (fieldKeys_sub_expKeysN (KNn c r) c fr.sels k hk)),
          looseMemN_filter _ L kvs fr.sels (fun g' hg' => by
            obtain ⟨hokg', hfg'⟩ := spreads_of_nSels hb henvs' g' hg'
            exact (hfa _ g' hokg' hfg').irr L
              (fun k hkL hk => hL k hkL (spreadKeys_sub_expKeysN (KNn c r) c fr.sels g' hg' k hk)) true kvs)]

/-! ## top level (generic environment) -/

/-- keys disjoint between a spread at an object position and its siblings: at every object level of the operation, and
    inside the bodies of the spread fragments (decidable) -/
def nestedKeysOk (c : Ctx) (op : ROperation) : Bool :=
  keysOksN (KNn c c.q.fragments.length) c op.sels &&
  EnumSpec.nodup (expKeysN (KNn c c.q.fragments.length) c op.sels) &&
  (objSpreadss c.s op.sels).all (fragSideN c c.q.fragments.length)

structure TopEnvN (e : Env) (c : Ctx) (op : ROperation) : Prop where
  root : BodyEnvN (FragEnvN e c c.q.fragments.length) e c "ResponseData" (c.cs.camel op.name) op.sels
  ok : SerdeFuel.EnvOK e

theorem bodyEnvN_and {fenv : Nat → Prop} {P : Nat → Prop} {e : Env} {c : Ctx} {name pfx : String} {sels : List Sel}
    (h : BodyEnvN fenv e c name pfx sels) (hP : ∀ g ∈ objSpreadss c.s sels, P g) :
    BodyEnvN (fun g => fenv g ∧ P g) e c name pfx sels := by
  rcases lone_or_not sels with hsp | hnl
  · obtain ⟨g, rfl⟩ := hsp
    unfold BodyEnvN at h ⊢
    simp only at h ⊢
    exact ⟨h.1, h.2, hP g (by simp [objSpreadss, objSpreads])⟩
  · have h' := bodyEnvN_not_lone hnl h
    unfold BodyEnvN
    split
    · exact absurd rfl (hnl _)
    · exact ⟨h'.1, envSelsN_and sels pfx h'.2 hP⟩

/-- **`ResponseData` accepts exactly `conformsLooseN … false`** (generic environment) -/
theorem top_accepts_iffN (e : Env) (c : Ctx) (op : ROperation) (ht : NestedOp c op = true) (hnd : fragNamesOk c = true)
    (hk : nestedKeysOk c op = true) (he : TopEnvN e c op) (j : Json) :
    okB (Serde.de e (.path "ResponseData") j) =
      conformsLooseN (wholeN c c.q.fragments.length) c.s c.q c.o false op.sels j := by
  obtain ⟨_, _, hsels⟩ := nestedOp_parts ht
  simp only [nestedKeysOk, Bool.and_eq_true, List.all_eq_true] at hk
  obtain ⟨⟨hko, hkeys⟩, hsub⟩ := hk
  have hfa : ∀ p' g', fragOkN c.s c.q c.o c.q.fragments.length p' g' = true →
      (FragEnvN e c c.q.fragments.length g' ∧ fragSideN c c.q.fragments.length g' = true) →
      FragAcc e c (wholeN c c.q.fragments.length) (KNn c c.q.fragments.length) g' :=
    fun p' g' h1 h2 => fragAccN e c hnd _ p' g' h1 h2.1 h2.2
  exact Top.de_iff_ok he.ok
    (C01AF.bodyA_accepts_iff e c _ (wholeN c c.q.fragments.length) (KNn c c.q.fragments.length) _
      (fragOkN_spec c.s c.q c.o _) (fun p' g' h1 h2 => .of_fragAcc (hfa p' g' h1 h2)) (c.cs.camel op.name) "ResponseData" _ op.sels hsels
      (bodyEnvN_and (P := fun g' => fragSideN c c.q.fragments.length g' = true) he.root hsub) hko hkeys) j

end C01N
end GqlVerif
