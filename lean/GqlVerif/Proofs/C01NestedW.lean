import GqlVerif.Proofs.C01NestedJ
import GqlVerif.Proofs.C01MixedSchema
import GqlVerif.Proofs.C01VariantSpreadEval
import GqlVerif.Proofs.SpecEval
/-!
# `NestedOp`: a generated module with a fragment whose own body spreads a fragment

`fragment Inner on Dog { barks }  fragment Outer on Dog { name ...Inner }  fragment AnimalName on Animal { __typename name }`
`query Q { dog { ...Outer } animal { __typename ...AnimalName } }` (`nxDog`: `Qdog` is the type alias of `Outer`), and
`query Q { dog { __typename ...Outer } animal { … } }` (`nx2Dog`: `Qdog` is a struct whose flattened member `Outer` has a
flattened member itself).  Both are in `NestedOp` (and in `NestedOp1`), not in `MixedOp` / `MixedOp2`.
-/
set_option linter.unusedSimpArgs false
set_option linter.unusedTactic false

namespace GqlVerif
namespace C01N
open Serde Spec C13 C03 Codegen C01 C01.E2E C01M

def nxOp (dog animal : List Sel) : ROperation :=
  { name := "Q", kind := .query, objectId := 0, sels := [.field none 0 dog, .field none 1 animal] }

def nxQuery (dog animal : List Sel) : Query :=
  { operations := [nxOp dog animal]
    fragments := [{ name := "Inner", on := .object 1, sels := [.field none 3 []] },
                  { name := "Outer", on := .object 1, sels := [.field none 2 [], .spread 0] },
                  { name := "AnimalName", on := .interface 0, sels := [.typename, .field none 2 []] }] }

def nxCtx (dog animal : List Sel) : Ctx := { s := mxSchema, q := nxQuery dog animal, o := {}, cs := ⟨id, id⟩ }

/-- `dog { ...Outer }` -/
def nxDog : List Sel := [.spread 1]
/-- `dog { __typename ...Outer }` -/
def nx2Dog : List Sel := [.typename, .spread 1]
/-- `animal { __typename ...AnimalName }` -/
def nxAnimal : List Sel := [.typename, .spread 2]

def nxItems : List Item := okOr (responseForQuery (nxCtx nxDog nxAnimal) 0)
def nx2Items : List Item := okOr (responseForQuery (nxCtx nx2Dog nxAnimal) 0)

theorem nx_gen : responseForQuery (nxCtx nxDog nxAnimal) 0 = .ok nxItems := gen_of_isOk (by decide +kernel)
theorem nx2_gen : responseForQuery (nxCtx nx2Dog nxAnimal) 0 = .ok nx2Items := gen_of_isOk (by decide +kernel)

theorem nx_class : NestedOp (nxCtx nxDog nxAnimal) (nxOp nxDog nxAnimal) = true := by decide +kernel
theorem nx2_class : NestedOp (nxCtx nx2Dog nxAnimal) (nxOp nx2Dog nxAnimal) = true := by decide +kernel
theorem nx_class1 : NestedOp1 (nxCtx nxDog nxAnimal) (nxOp nxDog nxAnimal) = true := by decide +kernel
/-- the operations are not in `MixedOp` … -/
theorem nx_not_M : MixedOp (nxCtx nxDog nxAnimal) (nxOp nxDog nxAnimal) = false := by decide +kernel
theorem nx2_not_M : MixedOp (nxCtx nx2Dog nxAnimal) (nxOp nx2Dog nxAnimal) = false := by decide +kernel
/-- … nor in `MixedOp2` -/
theorem nx_not_M2 : MixedOp2 (nxCtx nxDog nxAnimal) (nxOp nxDog nxAnimal) = false := by decide +kernel
theorem nx2_not_M2 : MixedOp2 (nxCtx nx2Dog nxAnimal) (nxOp nx2Dog nxAnimal) = false := by decide +kernel

theorem nx_names : fragNamesOk (nxCtx nxDog nxAnimal) = true := by decide +kernel
theorem nx2_names : fragNamesOk (nxCtx nx2Dog nxAnimal) = true := by decide +kernel
theorem nx_keys : nestedKeysOk (nxCtx nxDog nxAnimal) (nxOp nxDog nxAnimal) = true := by decide +kernel
theorem nx2_keys : nestedKeysOk (nxCtx nx2Dog nxAnimal) (nxOp nx2Dog nxAnimal) = true := by decide +kernel
theorem nx_acyclic : AcyclicM.spreadCheck (nxCtx nxDog nxAnimal).q = true := by decide +kernel
theorem nx2_acyclic : AcyclicM.spreadCheck (nxCtx nx2Dog nxAnimal).q = true := by decide +kernel
theorem nx_ok : moduleOk (nxCtx nxDog nxAnimal) nxItems = true := by decide +kernel
theorem nx2_ok : moduleOk (nxCtx nx2Dog nxAnimal) nx2Items = true := by decide +kernel

/-- the emitted types: `Outer` is a struct with the own field `name` and the flattened member `Inner`; `Qdog` is a struct
    with the flattened member `Outer` (a flattened member with a flattened member) -/
theorem nx2_items_shape :
    ((moduleEnv (nxCtx nx2Dog nxAnimal) nx2Items).find "Outer" ==
      some (.struct "Outer" ["Deserialize"] (some "::serde")
        [{ rust := "name", ty := .path "String" },
         { rust := "Inner", ty := .path "Inner", flatten := true }])) &&
    ((moduleEnv (nxCtx nx2Dog nxAnimal) nx2Items).find "Qdog" ==
      some (.struct "Qdog" ["Deserialize"] (some "::serde")
        [{ rust := "Outer", ty := .path "Outer", flatten := true }])) &&
    ((moduleEnv (nxCtx nxDog nxAnimal) nxItems).find "Qdog" == some (.alias "Qdog" true (.path "Outer"))) = true := by
  decide +kernel

/-- C03 on the modules: what `ResponseData` accepts, exactly -/
theorem nx_precise (j : Json) :
    okB (Serde.de (moduleEnv (nxCtx nxDog nxAnimal) nxItems) (.path "ResponseData") j) =
      conformsLooseN (wholeN (nxCtx nxDog nxAnimal) 3) mxSchema (nxQuery nxDog nxAnimal) {} false
        (nxOp nxDog nxAnimal).sels j :=
  nested_precise_iff (nxCtx nxDog nxAnimal) 0 (nxOp nxDog nxAnimal) nxItems rfl nx_class nx_names nx_keys nx_gen nx_ok j

theorem nx2_precise (j : Json) :
    okB (Serde.de (moduleEnv (nxCtx nx2Dog nxAnimal) nx2Items) (.path "ResponseData") j) =
      conformsLooseN (wholeN (nxCtx nx2Dog nxAnimal) 3) mxSchema (nxQuery nx2Dog nxAnimal) {} false
        (nxOp nx2Dog nxAnimal).sels j :=
  nested_precise_iff (nxCtx nx2Dog nxAnimal) 0 (nxOp nx2Dog nxAnimal) nx2Items rfl nx2_class nx2_names nx2_keys
    nx2_gen nx2_ok j

def nxJson : Json :=
  .obj [("dog", .obj [("barks", .bool true), ("name", .str "Rex")]),
        ("animal", .obj [("__typename", .str "Cat"), ("name", .str "Tom")])]

def nx2Json : Json :=
  .obj [("dog", .obj [("__typename", .str "Dog"), ("barks", .bool true), ("name", .str "Rex")]),
        ("animal", .obj [("__typename", .str "Cat"), ("name", .str "Tom")])]

/-! ## a concrete round trip -/

theorem nx_rust : nestedRustOk (nxCtx nxDog nxAnimal) (nxOp nxDog nxAnimal) = true := by decide +kernel
theorem nx2_rust : nestedRustOk (nxCtx nx2Dog nxAnimal) (nxOp nx2Dog nxAnimal) = true := by decide +kernel

theorem nx_conforms : conformsOpN (nxCtx nxDog nxAnimal) (nxOp nxDog nxAnimal) nxJson = true := by
  rw [conformsOpN, conformsV_eq_K]
  decide +kernel
theorem nx2_conforms : conformsOpN (nxCtx nx2Dog nxAnimal) (nxOp nx2Dog nxAnimal) nx2Json = true := by
  rw [conformsOpN, conformsV_eq_K]
  decide +kernel

abbrev C1 : Ctx := nxCtx nxDog nxAnimal
abbrev C2 : Ctx := nxCtx nx2Dog nxAnimal

/-- `Outer` (fragment 1) is new at rank `1`: not spread-free, its body spreads the spread-free `Inner` -/
theorem nx_r2 : fragOkN C1.s C1.q C1.o 2 (fragOn C1.q 1) 1 = true := by decide +kernel
theorem nx_r1 : fragOkN C1.s C1.q C1.o 1 (fragOn C1.q 1) 1 = true := by decide +kernel
theorem nx_r0 : fragOkN C1.s C1.q C1.o 0 (fragOn C1.q 1) 1 = false := by decide +kernel
theorem nx2_r2 : fragOkN C2.s C2.q C2.o 2 (fragOn C2.q 1) 1 = true := by decide +kernel
theorem nx2_r1 : fragOkN C2.s C2.q C2.o 1 (fragOn C2.q 1) 1 = true := by decide +kernel
theorem nx2_r0 : fragOkN C2.s C2.q C2.o 0 (fragOn C2.q 1) 1 = false := by decide +kernel

/-- the entries `Outer` writes: its own entry `name`, then the entries of `Inner` -/
theorem nx_cent (kvs : List (String × Json)) :
    centN C1 3 1 kvs = canonEntriesN (fun g kvs => canonEntriesV C1.s C1.o.skipNone (fragSels C1.q g) kvs) C1.s C1.q
      C1.o.skipNone (fragSels C1.q 1) kvs := by
  rw [centN, if_pos nx_r2, centN, if_pos nx_r1, centN, if_neg (by rw [nx_r0]; simp), centN_zero]

theorem nx2_cent (kvs : List (String × Json)) :
    centN C2 3 1 kvs = canonEntriesN (fun g kvs => canonEntriesV C2.s C2.o.skipNone (fragSels C2.q g) kvs) C2.s C2.q
      C2.o.skipNone (fragSels C2.q 1) kvs := by
  rw [centN, if_pos nx2_r2, centN, if_pos nx2_r1, centN, if_neg (by rw [nx2_r0]; simp), centN_zero]

macro "canonN_eval" : tactic => `(tactic|
  simp [canonSelN, canonEntriesN, canonFieldN, cwhole, nxCtx,
    canonSelM, canonEntriesM, canonFieldM, canonSelV, canonSelD, canonEntriesD, canonFieldD, loneG, canonEntriesBD,
    canonVarD, onNamed, absEntries, absRest, hasStruct, isBSpread, isFieldSel, canonAbsV, canonEntriesV, canonFieldV,
    canonInlV, tagName, fragSels, nxOp, nxQuery, mxSchema, objName, rtName, fieldKeys, fieldKey, Json.lookup, canon, canonNN,
    gtyOf, Json.isNull, skipQ, normJson, normKvs, normList, Json.normObj, Json.insert])

set_option maxRecDepth 8000 in
theorem nx_canon_abs (cent : Nat → List (String × Json) → List (String × Json))
    (h : ∀ kvs, cent 1 kvs = canonEntriesN (fun g kvs => canonEntriesV C1.s C1.o.skipNone (fragSels C1.q g) kvs) C1.s C1.q
      C1.o.skipNone (fragSels C1.q 1) kvs) :
    normJson (canonSelN cent mxSchema (nxQuery nxDog nxAnimal) false (nxOp nxDog nxAnimal).sels nxJson) =
      .obj [("dog", .obj [("name", .str "Rex"), ("barks", .bool true)]),
            ("animal", .obj [("name", .str "Tom"), ("__typename", .str "Cat")])] := by
  simp only [nxDog, nxAnimal, nxJson, C1] at h ⊢
  simp only [canonSelN, canonEntriesN, canonFieldN, cwhole, nxOp, h]
  canonN_eval

set_option maxRecDepth 8000 in
theorem nx2_canon_abs (cent : Nat → List (String × Json) → List (String × Json))
    (h : ∀ kvs, cent 1 kvs = canonEntriesN (fun g kvs => canonEntriesV C2.s C2.o.skipNone (fragSels C2.q g) kvs) C2.s C2.q
      C2.o.skipNone (fragSels C2.q 1) kvs) :
    normJson (canonSelN cent mxSchema (nxQuery nx2Dog nxAnimal) false (nxOp nx2Dog nxAnimal).sels nx2Json) =
      .obj [("dog", .obj [("name", .str "Rex"), ("barks", .bool true)]),
            ("animal", .obj [("name", .str "Tom"), ("__typename", .str "Cat")])] := by
  simp only [nx2Dog, nxAnimal, nx2Json, C2] at h ⊢
  simp only [canonSelN, canonEntriesN, canonFieldN, cwhole, nxOp, h]
  canonN_eval

/-- **`nested_roundtrip` on the generated module** (`Qdog` the type alias of `Outer`): the payload is accepted and written
    back — the own entry `name` of `Outer` first, then the entry `barks` of the fragment `Inner` spread in its body -/
theorem nx_roundtrip :
    Serde.roundtrip (moduleEnv (nxCtx nxDog nxAnimal) nxItems) (.path "ResponseData") nxJson =
      .ok (.obj [("dog", .obj [("name", .str "Rex"), ("barks", .bool true)]),
                 ("animal", .obj [("name", .str "Tom"), ("__typename", .str "Cat")])]) := by
  rw [nested_roundtrip (nxCtx nxDog nxAnimal) 0 (nxOp nxDog nxAnimal) nxItems rfl nx_class nx_names nx_keys nx_rust
    nx_gen nx_ok nxJson nx_conforms]
  exact congrArg Except.ok (nx_canon_abs _ nx_cent)

/-- … and with `Qdog` a struct whose flattened member `Outer` has the flattened member `Inner` (`__typename` in the
    payload is not read at an object position, and not written back) -/
theorem nx2_roundtrip :
    Serde.roundtrip (moduleEnv (nxCtx nx2Dog nxAnimal) nx2Items) (.path "ResponseData") nx2Json =
      .ok (.obj [("dog", .obj [("name", .str "Rex"), ("barks", .bool true)]),
                 ("animal", .obj [("name", .str "Tom"), ("__typename", .str "Cat")])]) := by
  rw [nested_roundtrip (nxCtx nx2Dog nxAnimal) 0 (nxOp nx2Dog nxAnimal) nx2Items rfl nx2_class nx2_names nx2_keys nx2_rust
    nx2_gen nx2_ok nx2Json nx2_conforms]
  exact congrArg Except.ok (nx2_canon_abs _ nx2_cent)

theorem nx2_accepts :
    ∃ v, Serde.de (moduleEnv (nxCtx nx2Dog nxAnimal) nx2Items) (.path "ResponseData") nx2Json = .ok v :=
  nested_accepts (nxCtx nx2Dog nxAnimal) 0 (nxOp nx2Dog nxAnimal) nx2Items rfl nx2_class nx2_names nx2_keys
    nx2_gen nx2_ok nx2Json nx2_conforms

/-! ## the side conditions are needed -/

def kOpN : ROperation := { name := "Q", kind := .query, objectId := 0, sels := [.field none 0 [.spread 1]] }
/-- `fragment Inner on Dog { name }  fragment Outer on Dog { name ...Inner }  query Q { dog { ...Outer } }` -/
def kQueryN : Query :=
  { operations := [kOpN]
    fragments := [{ name := "Inner", on := .object 1, sels := [.field none 2 []] },
                  { name := "Outer", on := .object 1, sels := [.field none 2 [], .spread 0] }] }
def kCtxN : Ctx := { s := mxSchema, q := kQueryN, o := {}, cs := ⟨id, id⟩ }
def kItemsN : List Item := okOr (responseForQuery kCtxN 0)
def kJsonN : Json := .obj [("dog", .obj [("name", .str "Rex")])]

theorem kN_conforms : conformsOpN kCtxN kOpN kJsonN = true := by
  rw [conformsOpN, conformsV_eq_K]
  decide +kernel

/-- **`nestedKeysOk` is needed**: the fragment `Outer` and the fragment `Inner` spread in its body both select `name`; the
    operation is in `NestedOp`, every other hypothesis of `nested_accepts` holds, the response conforms — and is rejected
    (`missing field name`: the struct `Outer` took the entry, the flattened member `Inner` does not see it any more) -/
theorem nested_keys_needed :
    NestedOp kCtxN kOpN = true ∧ nestedKeysOk kCtxN kOpN = false ∧ fragNamesOk kCtxN = true ∧
    nestedRustOk kCtxN kOpN = true ∧ AcyclicM.spreadCheck kCtxN.q = true ∧
    responseForQuery kCtxN 0 = .ok kItemsN ∧ moduleOk kCtxN kItemsN = true ∧ conformsOpN kCtxN kOpN kJsonN = true ∧
    okB (Serde.de (moduleEnv kCtxN kItemsN) (.path "ResponseData") kJsonN) = false :=
  have h : (NestedOp kCtxN kOpN = true ∧ nestedKeysOk kCtxN kOpN = false ∧ fragNamesOk kCtxN = true ∧
      nestedRustOk kCtxN kOpN = true ∧ AcyclicM.spreadCheck kCtxN.q = true) ∧ isOkO (responseForQuery kCtxN 0) = true ∧
      moduleOk kCtxN kItemsN = true ∧ okB (Serde.de (moduleEnv kCtxN kItemsN) (.path "ResponseData") kJsonN) = false := by decide +kernel
  ⟨h.1.1, h.1.2.1, h.1.2.2.1, h.1.2.2.2.1, h.1.2.2.2.2, gen_of_isOk h.2.1, h.2.2.1, kN_conforms, h.2.2.2⟩

def rOpN : ROperation := { name := "Q", kind := .query, objectId := 0, sels := [.field none 0 [.spread 1]] }
/-- `fragment Inner on Dog { barks }  fragment Outer on Dog { Inner: name ...Inner }  query Q { dog { ...Outer } }` -/
def rQueryN : Query :=
  { operations := [rOpN]
    fragments := [{ name := "Inner", on := .object 1, sels := [.field none 3 []] },
                  { name := "Outer", on := .object 1, sels := [.field (some "Inner") 2 [], .spread 0] }] }
def rCtxN : Ctx := { s := mxSchema, q := rQueryN, o := {}, cs := ⟨id, id⟩ }
def rItemsN : List Item := okOr (responseForQuery rCtxN 0)
def rJsonN : Json := .obj [("dog", .obj [("Inner", .str "Rex"), ("barks", .bool true)])]

theorem rN_conforms : conformsOpN rCtxN rOpN rJsonN = true := by
  rw [conformsOpN, conformsV_eq_K]
  decide +kernel

/-- **`nestedRustOk` is needed**: the own field of `Outer` with the alias `Inner` and the flattened member for `...Inner`
    get the same Rust name; every other hypothesis of `nested_roundtrip` holds, the response conforms — and the round trip
    fails (rustc would reject the struct) -/
theorem nested_rust_needed :
    NestedOp rCtxN rOpN = true ∧ nestedKeysOk rCtxN rOpN = true ∧ fragNamesOk rCtxN = true ∧
    nestedRustOk rCtxN rOpN = false ∧ AcyclicM.spreadCheck rCtxN.q = true ∧
    responseForQuery rCtxN 0 = .ok rItemsN ∧ moduleOk rCtxN rItemsN = true ∧ conformsOpN rCtxN rOpN rJsonN = true ∧
    okB (Serde.roundtrip (moduleEnv rCtxN rItemsN) (.path "ResponseData") rJsonN) = false :=
  have h : (NestedOp rCtxN rOpN = true ∧ nestedKeysOk rCtxN rOpN = true ∧ fragNamesOk rCtxN = true ∧
      nestedRustOk rCtxN rOpN = false ∧ AcyclicM.spreadCheck rCtxN.q = true) ∧ isOkO (responseForQuery rCtxN 0) = true ∧
      moduleOk rCtxN rItemsN = true ∧ okB (Serde.roundtrip (moduleEnv rCtxN rItemsN) (.path "ResponseData") rJsonN) = false := by decide +kernel
  ⟨h.1.1, h.1.2.1, h.1.2.2.1, h.1.2.2.2.1, h.1.2.2.2.2, gen_of_isOk h.2.1, h.2.2.1, rN_conforms, h.2.2.2⟩

/-! ## two levels of nesting: `fragment Top on Dog { __typename ...Outer }`, `query Q { dog { ...Top } animal { __typename name } }`

in `NestedOp`, not in the one-level sub-class `NestedOp1` -/

def n3Op : ROperation :=
  { name := "Q", kind := .query, objectId := 0,
    sels := [.field none 0 [.spread 2], .field none 1 [.typename, .field none 2 []]] }
def n3Query : Query :=
  { operations := [n3Op]
    fragments := [{ name := "Inner", on := .object 1, sels := [.field none 3 []] },
                  { name := "Outer", on := .object 1, sels := [.field none 2 [], .spread 0] },
                  { name := "Top", on := .object 1, sels := [.typename, .spread 1] }] }
def n3Ctx : Ctx := { s := mxSchema, q := n3Query, o := {}, cs := ⟨id, id⟩ }
def n3Items : List Item := okOr (responseForQuery n3Ctx 0)
def n3Json : Json :=
  .obj [("dog", .obj [("__typename", .str "Dog"), ("barks", .bool true), ("name", .str "Rex")]),
        ("animal", .obj [("__typename", .str "Cat"), ("name", .str "Tom")])]

theorem n3_gen : responseForQuery n3Ctx 0 = .ok n3Items := gen_of_isOk (by decide +kernel)
theorem n3_class : NestedOp n3Ctx n3Op = true := by decide +kernel
theorem n3_not_1 : NestedOp1 n3Ctx n3Op = false := by decide +kernel
theorem n3_names : fragNamesOk n3Ctx = true := by decide +kernel
theorem n3_keys : nestedKeysOk n3Ctx n3Op = true := by decide +kernel
theorem n3_rust : nestedRustOk n3Ctx n3Op = true := by decide +kernel
theorem n3_ok : moduleOk n3Ctx n3Items = true := by decide +kernel

/-- `Top` has the flattened member `Outer`, which has the flattened member `Inner`; `Qdog` is the alias of `Top` -/
theorem n3_items_shape :
    ((moduleEnv n3Ctx n3Items).find "Top" ==
      some (.struct "Top" ["Deserialize"] (some "::serde") [{ rust := "Outer", ty := .path "Outer", flatten := true }])) &&
    ((moduleEnv n3Ctx n3Items).find "Outer" ==
      some (.struct "Outer" ["Deserialize"] (some "::serde")
        [{ rust := "name", ty := .path "String" }, { rust := "Inner", ty := .path "Inner", flatten := true }])) &&
    ((moduleEnv n3Ctx n3Items).find "Qdog" == some (.alias "Qdog" true (.path "Top"))) = true := by
  decide +kernel

theorem n3_conforms : conformsOpN n3Ctx n3Op n3Json = true := by
  rw [conformsOpN, conformsV_eq_K]
  decide +kernel

theorem n3_top2 : fragOkN n3Ctx.s n3Ctx.q n3Ctx.o 2 (fragOn n3Ctx.q 2) 2 = true := by decide +kernel
theorem n3_top1 : fragOkN n3Ctx.s n3Ctx.q n3Ctx.o 1 (fragOn n3Ctx.q 2) 2 = false := by decide +kernel
theorem n3_outer0 : fragOkN n3Ctx.s n3Ctx.q n3Ctx.o 0 (fragOn n3Ctx.q 1) 1 = false := by decide +kernel

theorem n3_cent_top (kvs : List (String × Json)) :
    centN n3Ctx 3 2 kvs = canonEntriesN (centN n3Ctx 1) n3Ctx.s n3Ctx.q n3Ctx.o.skipNone (fragSels n3Ctx.q 2) kvs := by
  rw [centN, if_pos n3_top2, centN, if_neg (by rw [n3_top1]; simp)]

theorem n3_cent_outer (kvs : List (String × Json)) :
    centN n3Ctx 1 1 kvs = canonEntriesN (fun g kvs => canonEntriesV n3Ctx.s n3Ctx.o.skipNone (fragSels n3Ctx.q g) kvs)
      n3Ctx.s n3Ctx.q n3Ctx.o.skipNone (fragSels n3Ctx.q 1) kvs := by
  rw [centN, if_neg (by rw [n3_outer0]; simp), centN_zero]

set_option maxRecDepth 8000 in
theorem n3_canon_abs (cent cent1 : Nat → List (String × Json) → List (String × Json))
    (h2 : ∀ kvs, cent 2 kvs = canonEntriesN cent1 n3Ctx.s n3Ctx.q n3Ctx.o.skipNone (fragSels n3Ctx.q 2) kvs)
    (h1 : ∀ kvs, cent1 1 kvs =
      canonEntriesN (fun g kvs => canonEntriesV n3Ctx.s n3Ctx.o.skipNone (fragSels n3Ctx.q g) kvs)
        n3Ctx.s n3Ctx.q n3Ctx.o.skipNone (fragSels n3Ctx.q 1) kvs) :
    normJson (canonSelN cent mxSchema n3Query false n3Op.sels n3Json) =
      .obj [("dog", .obj [("name", .str "Rex"), ("barks", .bool true)]),
            ("animal", .obj [("name", .str "Tom"), ("__typename", .str "Cat")])] := by
  simp only [n3Ctx, n3Json] at h1 h2 ⊢
  simp only [canonSelN, canonEntriesN, canonFieldN, cwhole, n3Op, h2]
  simp [canonSelN, canonEntriesN, canonFieldN, cwhole, h1, n3Ctx,
    canonSelM, canonEntriesM, canonFieldM, canonSelV, canonSelD, canonEntriesD, canonFieldD, loneG, canonEntriesBD,
    canonVarD, onNamed, absEntries, absRest, hasStruct, isBSpread, isFieldSel, canonAbsV, canonEntriesV, canonFieldV,
    canonInlV, tagName, fragSels, n3Op, n3Query, mxSchema, objName, rtName, fieldKeys, fieldKey, Json.lookup, canon, canonNN,
    gtyOf, Json.isNull, skipQ, normJson, normKvs, normList, Json.normObj, Json.insert]

/-- **`nested_roundtrip` with two levels of nesting** -/
theorem n3_roundtrip :
    Serde.roundtrip (moduleEnv n3Ctx n3Items) (.path "ResponseData") n3Json =
      .ok (.obj [("dog", .obj [("name", .str "Rex"), ("barks", .bool true)]),
                 ("animal", .obj [("name", .str "Tom"), ("__typename", .str "Cat")])]) := by
  rw [nested_roundtrip n3Ctx 0 n3Op n3Items rfl n3_class n3_names n3_keys n3_rust n3_gen n3_ok n3Json n3_conforms]
  exact congrArg Except.ok (n3_canon_abs _ _ n3_cent_top n3_cent_outer)

end C01N
end GqlVerif
