import GqlVerif.Proofs.C01NestedBE
/-!
# `NestedBOp`: the specification side; `nestedb_accepts`

The specification is the one of `NestedOp`: `C01N.conformsOpN c op j` — `conformsV` on the root selection set with every
spread expanded, recursively (`exN`); it does not depend on the class.

* `aPays` — the fragments selected at abstract positions of the new kind; `absTagOk` (decidable): none of them reads the key
  `__typename` (the tagged enum consumes that entry: the payload is read from the other entries);
* **`nestedb_accepts`** — every conforming response is accepted by the emitted `ResponseData`.

What is particular to `NestedBOp` is `slTagB`: the variant side is read on the
selection set without its (b)-spreads (`confSelsV_expand_filter`), and every (b)-fragment's own type accepts the entries the own
fields left (`slMemB` of `C01VariantSpreadB`; this is where the key condition of `bOk` is used: `deepKeys_sub_fieldKeys`).
-/

namespace GqlVerif
namespace C01NB
open Serde C03 Codegen C01 C01.E2E C01N C01NA C01NG C01NX

mutual
  /-- the fragments selected at the abstract positions of the general kind, each with the keys consumed at its position -/
  def aPays (s : Schema) (q : Query) (o : Options) : Sel → List (Nat × List String)
    | .field a fid sub =>
      match s.fields[fid]? with
      | none => []
      | some sf =>
        match sf.ty.id with
        | .object _ => aPayss s q o sub
        | ty => if sSel s q o false (.field a fid sub) then []
               else ((unB q ty sub).filterMap selFrag).map (fun g => (g, posKeys s (unB q ty sub)))
    | _ => []
  def aPayss (s : Schema) (q : Query) (o : Options) : List Sel → List (Nat × List String)
    | [] => []
    | x :: xs => aPays s q o x ++ aPayss s q o xs
end

/-! ## conforming ⇒ accepted, parametric -/

theorem filter_pos_eq (K : List String) (kvs : List (String × Json)) :
    (kvs.filter (fun kv => !K.contains kv.1)).filter (fun kv => kv.1 != "__typename") =
      kvs.filter (fun kv => !("__typename" :: K).contains kv.1) := by
  rw [List.filter_filter]
  congr 1
  funext kv
  by_cases hkv : kv.1 = "__typename" <;> simp [hkv]

section SLA
variable (s : Schema) (q : Query) (o : Options) (ok : TypeId → Nat → Bool) (whole : Nat → Bool → Json → Bool)
  (ex : Nat → Sel)
  (hexA : ∀ g, FragOkAny s q o g → ex g = expandSel q (.spread g))
  (hmem : ∀ i g, ok (.object i) g = true → ∀ kvs, (∀ k, countKey k kvs ≤ 1) → confSelV s i (ex g) kvs = true →
    whole g true (.obj kvs) = true)
  (hali : ∀ i g, ok (.object i) g = true → ∀ b j, conformsV s i [ex g] j = true → whole g b j = true)
  (hokS : OkSpec q ok)

theorem looseSelsS_all {b : Bool} {kvs : List (String × Json)} : ∀ {sels : List Sel},
    (∀ x ∈ sels, looseSelsS s q o b [x] kvs = true) → looseSelsS s q o b sels kvs = true
  | [], _ => by simp [looseSelsS]
  | x :: xs, h => by
    have ih := looseSelsS_all (fun y hy => h y (List.mem_cons_of_mem _ hy))
    have hx := h x (List.mem_cons_self)
    cases x with
    | field a fid sub' =>
      rw [looseSelsS.eq_2] at hx ⊢
      rw [ih]
      simpa [looseSelsS] using hx
    | spread g => rw [looseSelsS.eq_3 _ _ _ _ _ _ _ (by simp)]; exact ih
    | inline t sub' => rw [looseSelsS.eq_3 _ _ _ _ _ _ _ (by simp)]; exact ih
    | typename => rw [looseSelsS.eq_3 _ _ _ _ _ _ _ (by simp)]; exact ih

theorem looseSelsS_mem {b : Bool} {kvs : List (String × Json)} : ∀ {sels : List Sel},
    looseSelsS s q o b sels kvs = true → ∀ x ∈ sels, looseSelsS s q o b [x] kvs = true
  | [], _, x, hx => by simp at hx
  | y :: ys, h, x, hx => by
    have hsplit : looseSelsS s q o b [y] kvs = true ∧ looseSelsS s q o b ys kvs = true := by
      cases y with
      | field a fid sub' =>
        rw [looseSelsS.eq_2, Bool.and_eq_true] at h
        refine ⟨?_, h.2⟩
        rw [looseSelsS.eq_2, h.1]; simp [looseSelsS]
      | spread g => rw [looseSelsS.eq_3 _ _ _ _ _ _ _ (by simp)] at h; exact ⟨by simp [looseSelsS], h⟩
      | inline t sub' => rw [looseSelsS.eq_3 _ _ _ _ _ _ _ (by simp)] at h; exact ⟨by simp [looseSelsS], h⟩
      | typename => rw [looseSelsS.eq_3 _ _ _ _ _ _ _ (by simp)] at h; exact ⟨by simp [looseSelsS], h⟩
    rcases List.mem_cons.mp hx with rfl | hx'
    · exact hsplit.1
    · exact looseSelsS_mem hsplit.2 x hx'

theorem looseMemN_all {kvs : List (String × Json)} : ∀ {sels : List Sel},
    (∀ g, Sel.spread g ∈ sels → whole g true (.obj kvs) = true) → looseMemN whole sels kvs = true
  | [], _ => rfl
  | x :: xs, h => by
    have ih := looseMemN_all (fun g hg => h g (List.mem_cons_of_mem _ hg))
    cases x with
    | spread g => rw [looseMemN, h g (List.mem_cons_self), ih]; rfl
    | field a fid sub' => simpa [looseMemN] using ih
    | inline t sub' => simpa [looseMemN] using ih
    | typename => simpa [looseMemN] using ih


theorem ownSels_unB (q : Query) (ty : TypeId) (sub : List Sel) : C01NG.ownSels (unB q ty sub) = C01NG.ownSels sub := by
  unfold C01NG.ownSels unB
  rw [List.filter_filter]
  apply List.filter_congr
  intro x _
  cases x <;> simp [isFieldSel, isBSpread]

theorem confSelsV_expand_filter (rt : Nat) (kvs : List (String × Json)) (p : Sel → Bool) : ∀ (sub : List Sel),
    confSelsV s rt (expandSelsW ex sub) kvs = true → confSelsV s rt (expandSelsW ex (sub.filter p)) kvs = true
  | [], h => h
  | x :: xs, h => by
    rw [expandSelsW, confSelsV, Bool.and_eq_true] at h
    have ih := confSelsV_expand_filter rt kvs p xs h.2
    rw [List.filter_cons]
    cases p x
    · simpa using ih
    · simp only [↓reduceIte, expandSelsW, confSelsV, Bool.and_eq_true]; exact ⟨h.1, ih⟩

theorem expandSelsW_eq_of_spreads : ∀ (l : List Sel), (∀ x ∈ l, ∃ g, x = Sel.spread g ∧ ex g = expandSel q (.spread g)) →
    expandSelsW ex l = expandSels q l
  | [], _ => rfl
  | x :: xs, h => by
    obtain ⟨g, rfl, hg⟩ := h x (by simp)
    rw [expandSelsW, expandSels, expandSelsW_eq_of_spreads xs (fun y hy => h y (List.mem_cons_of_mem _ hy)), expandSelW, hg]

theorem deepKeys_sub_fieldKeys : ∀ (sels : List Sel), bBodyOk s q o sels = true → ∀ k ∈ deepKeys s sels, k ∈ fieldKeys s sels
  | [], _, k, hk => by simp [deepKeys] at hk
  | x :: xs, h, k, hk => by
    simp only [bBodyOk, List.all_cons, Bool.and_eq_true] at h
    have ih := deepKeys_sub_fieldKeys xs (by simpa [bBodyOk] using h.2) k
    rw [deepKeys, List.mem_append] at hk
    unfold fieldKeys at ih ⊢
    rw [List.filterMap_cons]
    cases x with
    | field a fid sub' =>
      rcases hk with hk | hk
      · simp only [deepKey] at hk
        cases hsf : s.fields[fid]? with
        | none => simp [hsf] at hk
        | some sf => simp only [hsf, List.mem_singleton] at hk; subst hk; simp [fieldKey, hsf]
      · have := ih hk
        cases fieldKey s (.field a fid sub') <;> simp [this]
    | spread g => simp [isTypename, isFieldSel] at h
    | inline t sub' => simp [isTypename, isFieldSel] at h
    | typename =>
      rcases hk with hk | hk
      · simp [deepKey] at hk
      · simpa [fieldKey] using ih hk

theorem ownSels_unbody (sub : List Sel) : C01NG.ownSels (unbody sub) = C01NG.ownSels sub := by
  unfold C01NG.ownSels unbody
  rw [List.filter_filter]
  apply List.filter_congr
  intro x _
  cases hf : isFieldSel x with
  | false => simp
  | true =>
    have : isBody x = false := by cases x <;> simp_all [isFieldSel, isBody]
    simp [this]

/-- **what is known of a response object that conforms at an abstract position** whose selection set selects `__typename`: its
    runtime type, distinct keys, the members conform, the tag entry names the runtime type, which is one of the variants -/
theorem conformsAt_facts {ty : TypeId} {sub : List Sel} (hty : absHyp s ty) (htn : sub.any isTypename = true)
    (hnames : (variantNames s o ty).Nodup) {j : Json} (hc : conformsAt s ty (expandSelsW ex sub) j = true) :
    ∃ rt kvs, j = .obj kvs ∧ rt < s.objects.length ∧ fragApplies s rt ty = true ∧ (kvs.map (·.1)).Nodup ∧
      confSelsV s rt (expandSelsW ex sub) kvs = true ∧
      Json.lookup "__typename" kvs = some (.str (rtName s rt)) ∧
      (vtsOfTy s ty).find? (fun vt => objName s vt == rtName s rt) = some (.object rt) := by
  simp only [conformsAt, List.any_eq_true, List.mem_range, Bool.and_eq_true] at hc
  obtain ⟨rt, hrt, happ, hcv⟩ := hc
  obtain ⟨kvs, rfl, hnd, hconf⟩ := conformsV_obj hcv
  · have htn' : Sel.typename ∈ expandSelsW ex sub := by
      have := C01NA.expandSelsW_mem ex (typename_mem htn)
      simpa [expandSelW] using this
    have htag : Json.lookup "__typename" kvs = some (.str (rtName s rt)) := by
      have := confSelsV_mem hconf _ htn'
      simp only [confSelV] at this
      split at this
      · rename_i n hl; rw [hl]; simp only [beq_iff_eq] at this; rw [this]
      · cases this
    have hvn : ((vtsOfTy s ty).map (objName s)).Nodup := by
      unfold variantNames at hnames
      exact (List.nodup_append.mp hnames).1
    exact ⟨rt, kvs, rfl, hrt, happ, hnd, hconf, htag, find_by_name s _ hvn _ (mem_vtsOfTy happ hty)⟩

include hmem hokS hexA in
/-- a response object conforming at an abstract position of the general kind (spreads expanded) is accepted by the emitted
    type(s) -/
theorem slTagB (ty : TypeId) (sub : List Sel) (hty : absHyp s ty) (hsb : SpecialB ok s q o ty sub)
    (hirr : ∀ g ∈ (unB q ty sub).filterMap selFrag, ∀ i, ok (.object i) g = true → IrrL whole g (posKeys s (unB q ty sub))) (b : Bool) (j : Json)
    (h : conformsAt s ty (expandSelsW ex sub) j = true) : looseTagB whole s q o b ty sub j = true := by
  have hsx := hsb.x
  have hsg := hsx.gen
  have hsp := hsg.abs
  have hown_eq := ownSels_unbody (unB q ty sub)
  obtain ⟨rt, kvs, rfl, hrt, happ, hnd', hconf0, htag, hfind⟩ := conformsAt_facts s o ex hty hsb.tn hsp.nd h
  · have hconf : confSelsV s rt (expandSelsW ex (unB q ty sub)) kvs = true := confSelsV_expand_filter s ex rt kvs _ sub hconf0
    have hcnt := countKey_le_one_of_nodup hnd'
    have hc1 : countKey "__typename" kvs = 1 := by
      have := countKey_pos_of_lookup htag
      have := hcnt "__typename"
      omega
    have hmemv := mem_vtsOfTy happ hty
    have hT : "__typename" ∉ fieldKeys s (C01NG.ownSels (unB q ty sub)) := by
      rw [← hown_eq]; exact (List.nodup_cons.mp (nodup_iff'.mp hsg.nd)).1
    have hq : ∀ v : Json, (fun kv : String × Json => !(fieldKeys s (C01NG.ownSels (unB q ty sub))).contains kv.1) ("__typename", v) = true := by
      intro v; simp [hT]
    have htagR : Json.lookup "__typename" (restG s (unB q ty sub) kvs) = some (.str (rtName s rt)) := by
      unfold restG; rw [lookup_filter _ _ hq]; exact htag
    have hc1R : countKey "__typename" (restG s (unB q ty sub) kvs) = 1 := by
      unfold restG; rw [countKey_filter _ _ hq]; exact hc1
    have hfe : (restG s (unB q ty sub) kvs).filter (·.1 != "__typename") =
        kvs.filter (fun kv => !(posKeys s (unB q ty sub)).contains kv.1) := by
      exact filter_pos_eq _ kvs
    have hmineX := hsx.mine hokS hmemv
    -- every fragment selected on the runtime type accepts the whole object
    have hwhole : ∀ g ∈ memFrags q (.object rt) (unB q ty sub), whole g true (.obj kvs) = true := by
      intro g hg
      have hokg := memFrags_okX hmineX hg
      apply hmem rt g hokg kvs hcnt
      unfold memFrags at hg
      rcases List.mem_append.mp hg with hg | hg
      · obtain ⟨x, hx, hxg⟩ := List.mem_filterMap.mp hg
        cases x with
        | spread g' =>
          simp only [spreadId, Option.some.injEq] at hxg; subst hxg
          have := confSelsV_mem hconf _ (C01NA.expandSelsW_mem ex (mem_mineOf hx).1)
          simpa [expandSelW] using this
        | field a fid sub' => simp [spreadId] at hxg
        | inline t sub' => simp [spreadId] at hxg
        | typename => simp [spreadId] at hxg
      · obtain ⟨x, hx, hxg⟩ := List.mem_filterMap.mp hg
        obtain ⟨t, rfl⟩ := aliasInl_some hxg
        have ht : t = .object rt := by
          have := (mem_mineOf hx).2
          simpa [selOn] using this
        subst ht
        have := confSelsV_mem hconf _ (C01NA.expandSelsW_mem ex (mem_mineOf hx).1)
        simpa [expandSelW, expandSelsW, confSelV, confSelsV, fragApplies] using this
    have hirrm : ∀ g ∈ memFrags q (.object rt) (unB q ty sub), IrrL whole g (posKeys s (unB q ty sub)) :=
      fun g hg => hirr g (memFrags_mem_selFrag hg) rt (memFrags_okX hmineX hg)
    -- the payload
    have hP : payX whole s q o (unB q ty sub) (.object rt) ((restG s (unB q ty sub) kvs).filter (·.1 != "__typename")) = true := by
      rw [hfe]
      unfold payX
      cases hbody : (mineOf q (.object rt) (unB q ty sub)).any isBody with
      | false =>
        simp only [Bool.false_eq_true, if_false]
        have hmeq := mineOf_unbody hbody
        unfold payA memSels
        apply looseMemN_spreads_of
        intro g hg
        have hg' : g ∈ memFrags q (.object rt) (unB q ty sub) := by unfold memFrags at hg ⊢; rw [← hmeq]; exact hg
        rw [hirrm g hg' kvs]
        exact hwhole g hg'
      | true =>
        simp only [if_true, Bool.and_eq_true]
        refine ⟨?_, ?_⟩
        · -- the fields of the inline fragments on the runtime type
          have hkeys : ∀ k ∈ fieldKeys s (C01NG.ownSels (varSels q (.object rt) (unB q ty sub))), ∀ v : Json,
              (fun kv : String × Json => !(posKeys s (unB q ty sub)).contains kv.1) (k, v) = true := by
            intro k hk v
            obtain ⟨x, hx, hxk⟩ := List.mem_filterMap.mp hk
            obtain ⟨hxv, hxf⟩ := List.mem_filter.mp hx
            rcases mem_varSelsOf hxv with ⟨g, rfl, _⟩ | ⟨t, isub, hm, hb, hxi⟩
            · simp [isFieldSel] at hxf
            · have hbk := hsx.body _ (mem_mineOf hm).1 hb
              simp only [bodyOk, Bool.and_eq_true, List.all_eq_true, Bool.not_eq_true'] at hbk
              have := hbk.2 k (List.mem_filterMap.mpr ⟨x, hxi, hxk⟩)
              simpa [posKeys] using this
          rw [looseSelsS_filter s q o true _ kvs _ hkeys]
          apply looseSelsS_all
          intro x hx
          obtain ⟨hxv, hxf⟩ := List.mem_filter.mp hx
          rcases mem_varSelsOf hxv with ⟨g, rfl, _⟩ | ⟨t, isub, hm, hb, hxi⟩
          · simp [isFieldSel] at hxf
          · have ht : t = .object rt := by
              have := (mem_mineOf hm).2
              simpa [selOn] using this
            subst ht
            have hbk := hsx.body _ (mem_mineOf hm).1 hb
            simp only [bodyOk, Bool.and_eq_true, List.all_eq_true] at hbk
            have hci := confSelsV_mem hconf _ (C01NA.expandSelsW_mem ex (mem_mineOf hm).1)
            have hci' : confSelsV s rt (expandSelsW ex isub) kvs = true := by
              simpa [expandSelW, confSelV, fragApplies] using hci
            have hall := slLeafs s q o ex true rt kvs hcnt isub hbk.1.2 hci'
            exact looseSelsS_mem s q o hall x (List.mem_filter.mpr ⟨hxi, hxf⟩)
        · rw [looseMemN_filter whole (posKeys s (unB q ty sub)) kvs _ (fun g hg => by
            rcases mem_varSelsOf hg with ⟨g', h0, hg'⟩ | ⟨t, isub, hm, hb, hxi⟩
            · cases h0; exact hirrm g hg' kvs
            · obtain ⟨_, _, hx', _, hall⟩ := isBody_inline hb
              cases hx'
              have := hall _ hxi
              simp [isFieldSel] at this)]
          apply looseMemN_all
          intro g hg
          rcases mem_varSelsOf hg with ⟨g', h0, hg'⟩ | ⟨t, isub, hm, hb, hxi⟩
          · cases h0; exact hwhole g hg'
          · obtain ⟨_, _, hx', _, hall⟩ := isBody_inline hb
            cases hx'
            have := hall _ hxi
            simp [isFieldSel] at this
    have hownU : C01NG.ownSels (unB q ty sub) = C01NG.ownSels sub := ownSels_unB q ty sub
    have hrestU : restG s (unB q ty sub) kvs = restG s sub kvs := by unfold restG; rw [hownU]
    rw [hrestU] at hP htagR hc1R
    have hq' : ∀ v : Json, (fun kv : String × Json => !(fieldKeys s (C01NG.ownSels sub)).contains kv.1) ("__typename", v) = true := by
      rw [← hownU]; exact hq
    simp only [looseTagB]
    cases hown : ((C01NG.ownSels sub).isEmpty && (bSels q ty sub).isEmpty) with
    | true =>
      have hr : restG s sub kvs = kvs := by
        have : C01NG.ownSels sub = [] := by
          simp only [Bool.and_eq_true, List.isEmpty_iff] at hown; exact hown.1
        simp [restG, this, fieldKeys]
      rw [hr] at hP
      simp only [if_true]
      unfold tagOkV
      simp only [hc1, hfind, htag]
      exact hP
    | false =>
      simp only [Bool.false_eq_true, if_false, Bool.and_eq_true]
      refine ⟨slLeafs s q o ex b rt kvs hcnt sub hsb.leaf hconf0, ?_, ?_⟩
      · have hcB : confSelsV s rt (expandSels q (bSels q ty sub)) kvs = true := by
          rw [← expandSelsW_eq_of_spreads q ex (bSels q ty sub) (fun x hx => by
            obtain ⟨hm, hb⟩ := mem_bSels.mp hx
            obtain ⟨g, f, rfl, _, _⟩ := isBSpread_spread hb
            exact ⟨g, rfl, hexA g (.inr ⟨ty, hty, (hsb.b g hm hb).okB⟩)⟩)]
          exact confSelsV_expand_filter s ex rt kvs _ sub hconf0
        exact slMemB s q o ty hty rt hrt happ kvs hnd'
          (fun kv => !(fieldKeys s (C01NG.ownSels sub)).contains kv.1) hq' (bSels q ty sub)
          (fun g f hg hf hon => by
            obtain ⟨hm, hb⟩ := mem_bSels.mp hg
            have hbf := hsb.b g hm hb
            refine ⟨hbf.okB, fun k hk v => ?_⟩
            have hfs : fragSels q g = f.sels := by simp [fragSels, hf]
            have hk' : k ∈ fieldKeys s (fragSels q g) := by
              rw [hfs]; exact deepKeys_sub_fieldKeys s q o f.sels (by rw [← hfs]; exact hbf.body) k hk
            have := hbf.keys k hk'
            simpa using this) hcB
      · unfold tagOkV
        simp only [hc1R, hfind, htagR]
        exact hP

include hmem in
theorem slMemA (i : Nat) (kvs : List (String × Json)) (hc : ∀ k, countKey k kvs ≤ 1) (sels : List Sel)
    (ht : aSels ok s q o (.object i) sels = true) (h : confSelsV s i (expandSelsW ex sels) kvs = true) :
    looseMemN whole sels kvs = true :=
  looseMemN_all whole (fun g hg => hmem i g (by simpa [aSel] using aSels_mem ht _ hg) kvs hc
    (by simpa [expandSelW] using confSelsV_mem h _ (C01NA.expandSelsW_mem ex hg)))

include hmem hali in
theorem slBodyA_of (sels : List Sel)
    (IHown : ∀ b i kvs, aSels ok s q o (.object i) sels = true → (∀ k, countKey k kvs ≤ 1) →
      confSelsV s i (expandSelsW ex sels) kvs = true → looseOwnA whole s q o b sels kvs = true) :
    ∀ b i j, aBody ok s q o (.object i) sels = true → conformsV s i (expandSelsW ex sels) j = true →
      conformsLooseA whole s q o b sels j = true := by
  intro b i j ht hc
  rcases lone_or_not sels with ⟨g, rfl⟩ | hnl
  · have hokg : ok (.object i) g = true := ht
    simp only [conformsLooseA]
    exact hali i g hokg b j (by simpa [expandSelsW, expandSelW] using hc)
  · rw [aBody_not_lone hnl] at ht
    rw [conformsLooseA_not_lone hnl]
    obtain ⟨kvs, rfl, hnd, hconf⟩ := conformsV_obj hc
    have hcnt := countKey_le_one_of_nodup hnd
    simp only [IHown b i kvs ht hcnt hconf, slMemA s q o ok whole ex hmem i kvs hcnt sels ht hconf, Bool.and_self]

mutual
  theorem slFieldA : ∀ (x : Sel) (p : TypeId) (b : Bool) (v : Json),
      (∀ g, FragOkAny s q o g → ex g = expandSel q (.spread g)) →
      (∀ i g, ok (.object i) g = true → ∀ kvs, (∀ k, countKey k kvs ≤ 1) → confSelV s i (ex g) kvs = true →
        whole g true (.obj kvs) = true) →
      (∀ i g, ok (.object i) g = true → ∀ b j, conformsV s i [ex g] j = true → whole g b j = true) →
      OkSpec q ok → (∀ gl ∈ aPays s q o x, ∀ i, ok (.object i) gl.1 = true → IrrL whole gl.1 gl.2) →
      aSel ok s q o p x = true →
      strictFieldV s (expandSelW ex x) v = true → looseFieldA whole s q o b x v = true
    | .field a fid sub, p, b, v => by
      intro hexA hmem hali hokS hirr ht h
      have IH := slOwnA sub
      obtain ⟨sf, hsf⟩ := aSel_field_some ht
      by_cases hobj : ∃ i, sf.ty.id = .object i
      · obtain ⟨i, hid⟩ := hobj
        obtain ⟨_, _, hobjs, hbody⟩ := aSel_obj hsf hid ht
        simp only [expandSelW, strictFieldV] at h
        rw [looseFieldA]
        simp only [hsf, hid] at h ⊢
        cases ho : s.objects[i]? with
        | none => simp [ho] at hobjs
        | some ob =>
          simp only []
          rw [looseLambdaA]
          refine (accepts_mono _ _ ?_ _).2 v h
          intro j hj
          simp only [conformsAt, List.any_eq_true, List.mem_range, Bool.and_eq_true, fragApplies, beq_iff_eq] at hj
          obtain ⟨rt, _, hrt, hc⟩ := hj
          subst hrt
          exact slBodyA_of s q o ok whole ex hmem hali sub
            (fun b' i' kvs h1 h2 h3 => IH (.object i') b' i' kvs hexA hmem hali hokS
              (fun g hg => hirr g (by rw [aPays]; simp only [hsf, hid]; exact hg)) h1 h2 h3) b i j hbody hc
      · have hno : ∀ i, sf.ty.id ≠ .object i := fun i h => hobj ⟨i, h⟩
        rcases aSel_nonobj hsf hno ht with hs | ⟨hs, hnew⟩
        · rw [looseFieldA_old hsf hno hs]
          have hexp : expandSelW ex (.field a fid sub) = expandSel q (.field a fid sub) :=
            expandSelW_congr q ex _ (fun g hg => hexA g (fragOk_of_spreadIdS s q o _ false hs g hg (by simp)))
          rw [hexp] at h
          exact slFieldS s q o _ false b v hs h
        · rw [looseFieldA_new hsf hno hs]
          obtain ⟨_, _, hty, hsubA⟩ := absFieldB_parts hnew
          have hsp := absSubB_parts hsubA
          rw [expandSelW, strictFieldV_abs hsf hty] at h
          have hirr' : ∀ g ∈ (unB q sf.ty.id sub).filterMap selFrag, ∀ i, ok (.object i) g = true →
              IrrL whole g (posKeys s (unB q sf.ty.id sub)) := by
            intro g hg0
            have hg : (g, posKeys s (unB q sf.ty.id sub)) ∈
                ((unB q sf.ty.id sub).filterMap selFrag).map (fun g => (g, posKeys s (unB q sf.ty.id sub))) :=
              List.mem_map.mpr ⟨g, hg0, rfl⟩
            apply hirr (g, posKeys s (unB q sf.ty.id sub))
            rw [aPays]
            simp only [hsf]
            simpa only [hs, Bool.false_eq_true, if_false] using hg
          unfold looseAbsB
          refine (accepts_mono _ _ ?_ _).2 v h
          intro j hj
          exact slTagB s q o ok whole ex hexA hmem hokS sf.ty.id sub hty hsp hirr' b j hj
    | .spread _, _, _, _ => by intro _ _ _ _ _ _ _; simp [looseFieldA]
    | .inline _ _, _, _, _ => by intro _ _ _ _ _ ht; simp [aSel] at ht
    | .typename, _, _, _ => by intro _ _ _ _ _ _ _; simp [looseFieldA]
  theorem slOwnA : ∀ (sels : List Sel) (p : TypeId) (b : Bool) (i : Nat) (kvs : List (String × Json)),
      (∀ g, FragOkAny s q o g → ex g = expandSel q (.spread g)) →
      (∀ i g, ok (.object i) g = true → ∀ kvs, (∀ k, countKey k kvs ≤ 1) → confSelV s i (ex g) kvs = true →
        whole g true (.obj kvs) = true) →
      (∀ i g, ok (.object i) g = true → ∀ b j, conformsV s i [ex g] j = true → whole g b j = true) →
      OkSpec q ok → (∀ gl ∈ aPayss s q o sels, ∀ i, ok (.object i) gl.1 = true → IrrL whole gl.1 gl.2) →
      aSels ok s q o p sels = true → (∀ k, countKey k kvs ≤ 1) →
      confSelsV s i (expandSelsW ex sels) kvs = true → looseOwnA whole s q o b sels kvs = true
    | [], _, _, _, _, _, _, _, _, _, _, _, _ => by simp [looseOwnA]
    | x :: xs, p, b, i, kvs, hexA, hmem, hali, hokS, hirr, ht, hc, h => by
      obtain ⟨hx, hxs⟩ := aSels_cons ht
      rw [expandSelsW, confSelsV, Bool.and_eq_true] at h
      have ih := slOwnA xs p b i kvs hexA hmem hali hokS
        (fun g hg => hirr g (by rw [aPayss]; exact List.mem_append_right _ hg)) hxs hc h.2
      cases x with
      | field a fid sub =>
        have hcx := h.1
        rw [expandSelW, confSelV_field] at hcx
        rw [looseOwnA.eq_2, ih, Bool.and_true]
        cases hsf : s.fields[fid]? with
        | none => simp [hsf] at hcx
        | some sf =>
          simp only [hsf] at hcx ⊢
          cases hl : Json.lookup (a.getD sf.name) kvs with
          | none => simp [hl] at hcx
          | some v =>
            simp only [hl] at hcx ⊢
            have := slFieldA (.field a fid sub) p b v hexA hmem hali hokS
              (fun g hg => hirr g (by rw [aPayss]; exact List.mem_append_left _ hg)) hx (by rw [expandSelW]; exact hcx)
            simp [hc, this]
      | spread g => simpa [looseOwnA] using ih
      | inline t sub => simp [aSel] at hx
      | typename => simpa [looseOwnA] using ih
end

include hexA hmem hali hokS in
/-- every response conforming to the specification (on the expanded selection set) is accepted -/
theorem conformsA_loose (b : Bool) (i : Nat) (sels : List Sel) (j : Json)
    (hirr : ∀ gl ∈ aPayss s q o sels, ∀ i, ok (.object i) gl.1 = true → IrrL whole gl.1 gl.2)
    (ht : aBody ok s q o (.object i) sels = true) (h : conformsV s i (expandSelsW ex sels) j = true) :
    conformsLooseA whole s q o b sels j = true :=
  slBodyA_of s q o ok whole ex hmem hali sels
    (fun b' i' kvs h1 h2 h3 => slOwnA s q o ok whole ex sels (.object i') b' i' kvs hexA hmem hali hokS hirr h1 h2 h3) b i j ht h

end SLA


/-- none of the fragments selected at an abstract position of the general kind reads the key `__typename` or the key of an
    interface-level field of that position (decidable) -/
def absTagOk (c : Ctx) (op : ROperation) : Bool :=
  (aPayss c.s c.q c.o op.sels).all (fun gl =>
    gl.2.all (fun k => !(KNn c c.q.fragments.length (fragName c gl.1)).contains k))

/-- conforming ⇒ `conformsLooseA`, at the top level -/
theorem conformsOpA_loose (c : Ctx) (op : ROperation) (ht : NestedBOp c op = true) (hnd : fragNamesOk c = true)
    (htag : absTagOk c op = true) (b : Bool) (j : Json) (h : conformsOpN c op j = true) :
    conformsLooseA (wholeN c c.q.fragments.length) c.s c.q c.o b op.sels j = true := by
  obtain ⟨_, _, hsels⟩ := nestedBOp_parts ht
  refine conformsA_loose c.s c.q c.o _ (wholeN c c.q.fragments.length) (exN c.q c.q.fragments.length)
    (fun g hg => exN_fragOkAny hg _)
    (fun i g hg => (specN c _ i g hg _ (Nat.le_refl _)).1)
    (fun i g hg => (specN c _ i g hg _ (Nat.le_refl _)).2) (fragOkN_spec c.s c.q c.o _) b op.objectId op.sels j ?_ hsels h
  intro gl hg i hokg kvs
  simp only [absTagOk, List.all_eq_true, Bool.not_eq_true'] at htag
  have hk := htag gl hg
  exact wholeN_irr c hnd _ (.object i) gl.1 hokg gl.2 (by
    intro k hk' hmem'
    rw [← List.contains_iff_mem] at hmem'
    rw [hk k hk'] at hmem'
    cases hmem') true kvs

/-- **`nestedb_accepts`.**  Every conforming response is accepted by the emitted `ResponseData`. -/
theorem nestedb_accepts (c : Ctx) (opIdx : Nat) (op : ROperation) (items : List Item)
    (hop : c.q.operations[opIdx]? = some op) (ht : NestedBOp c op = true) (hnd : fragNamesOk c = true)
    (hk : nestedBKeysOk c op = true) (htag : absTagOk c op = true)
    (hgen : responseForQuery c opIdx = .ok items) (hok : moduleOk c items = true)
    (j : Json) (hc : conformsOpN c op j = true) :
    ∃ v, Serde.de (moduleEnv c items) (.path "ResponseData") j = .ok v := by
  exact Top.accepts_of_iff (nestedb_precise_iff c opIdx op items hop ht hnd hk hgen hok j)
    (conformsOpA_loose c op ht hnd htag false j hc)

end C01NB
end GqlVerif
