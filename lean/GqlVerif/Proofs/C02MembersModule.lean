import GqlVerif.Proofs.C02Members
import GqlVerif.Proofs.ComposedC11
/-!
# C02 — member distinctness as a decidable predicate on the query (`MembersOK`)

`C02.module_well_scoped_iff` (`Proofs/C02Response.lean`): under the supported-subset hypotheses the emitted module
is well scoped IFF `NoClash` ∧ "no emitted item has two members of one identifier" — the second conjunct stated on
the OUTPUT.  Here it is reduced to the INPUT:

* `moduleMembers c u o op` — the member-identifier lists of all items of the module (one entry per item, in
  emission order), computed from the schema, the resolved query, the options and the case functions:
  nothing for aliases; per enum the `enumVariantIdent`s plus `Other`; per input object `keywordReplace (snake f)`
  (`keywordReplace (camel f)` for `@oneOf`); the `Variables` struct and the `default_*` functions; per fragment and
  for the operation `C02M.selectionMembers` (`Proofs/C02Members.lean`).

`MembersOK c op : Bool` says that every list of `moduleMembers` is duplicate-free.  Whenever `responseForQuery` succeeds,
`items.map C02.memberIdents = moduleMembers …` (`module_members_eq`), so no emitted item has two members of one
identifier iff `MembersOK c op` (`members_iff`, no hypothesis), and `wellScoped ↔ NoClash ∧ MembersOK` under the
hypotheses of `module_well_scoped_iff` (`module_well_scoped_iff_inputs`).  The catch-all `Other` never clashes
(`enumMemberIdents_nodup_iff`).  Each open C02 finding about members is a failure of `MembersOK` alone (`NoClash` holds,
all mentions are resolved, `Scope.report` shows exactly the duplicate member).
-/
namespace GqlVerif
namespace C02M
open Codegen C02

/-! ## 1. the member lists of the non-response items -/

/-- variants of the enum generated for `e`: one per schema value, plus the catch-all -/
def enumMemberIdents (c : Ctx) (e : StoredEnum) : List String :=
  e.variants.map (enumVariantIdent c.o.normalization c.cs) ++ ["Other"]

/-- the used enums that are not extern, in id order (as `C02.enumNames`) -/
def enumMembers (c : Ctx) (u : UsedTypes) : List (List String) :=
  (((sortNat (u.types.filterMap TypeId.asEnum?)).filterMap (fun k => c.s.enums[k]?)).filter
    (fun e => !c.o.externEnums.contains e.name)).map (enumMemberIdents c)

/-- members of the struct (variants of the `@oneOf` enum) generated for an input object -/
def inputMemberIdents (c : Ctx) (i : StoredInput) : List String :=
  if i.isOneOf then i.fields.map (fun p => keywordReplace (c.cs.camel p.1))
  else i.fields.map (fun p => keywordReplace (c.cs.snake p.1))

/-- the used input types, in id order (as `C02.inputNames`) -/
def inputMembers (c : Ctx) (u : UsedTypes) : List (List String) :=
  (c.s.inputs.zipIdx.filter (fun (x : StoredInput × Nat) => u.types.contains (.input x.2))).map
    (fun x => inputMemberIdents c x.1)

/-- the `Variables` struct (unit struct when nothing is declared) and the `default_*` functions -/
def variablesMembers (c : Ctx) (op : Nat) : List (List String) :=
  if (c.q.opVariables op).isEmpty then [[]] else
  [(c.q.opVariables op).map (fun v => keywordReplace (c.cs.snake v.name)),
   ((c.q.opVariables op).filter (·.default.isSome)).map (fun v => "default_" ++ v.name)]

/-- the items of a used fragment -/
def fragmentMembers (c : Ctx) (g : Nat) : List (List String) :=
  match c.q.fragments[g]? with
  | some fr => selectionMembers c fr.on fr.sels
  | none => []

/-- **the member-identifier list of every item of the emitted module**, in emission order: the four built-in
    aliases and the scalar aliases (no members), the enums, the input types, `Variables` and `default_*`, the
    fragment items, the response items -/
def moduleMembers (c : Ctx) (u : UsedTypes) (o : ROperation) (op : Nat) : List (List String) :=
  List.replicate 4 [] ++ List.replicate (scalarNames c u).length [] ++ enumMembers c u ++ inputMembers c u ++
  variablesMembers c op ++ (sortNat u.fragments).flatMap (fragmentMembers c) ++
  selectionMembers c (.object o.objectId) o.sels

/-- **the decidable member check on the input**: no list of `moduleMembers` has a repeated identifier -/
def MembersOK (c : Ctx) (op : Nat) : Bool :=
  match allUsedTypes c.s c.q op, c.q.operations[op]? with
  | .ok u, some o => (moduleMembers c u o op).all (fun l => decide l.Nodup)
  | _, _ => true

/-! ## 2. the non-response items -/

theorem scalarItems_members {c : Ctx} {u : UsedTypes} {S : List Item} (h : scalarItems c u = .ok S) :
    S.map memberIdents = List.replicate (scalarNames c u).length [] := by
  have hlen : S.length = (scalarNames c u).length := by
    rw [← scalarItems_names h, defines_eq_map_name (scalarItems_itemDefines h), List.length_map]
  rw [← hlen]
  refine (List.map_congr_left ?_).trans (List.map_const')
  obtain ⟨ns, _, rfl⟩ := scalarItems_cases h
  intro it hit
  obtain ⟨n, _, rfl⟩ := List.mem_map.mp hit
  rfl

theorem enumItems_members {c : Ctx} {u : UsedTypes} {E : List Item} (h : enumItems c u = .ok E) :
    E.map memberIdents = enumMembers c u := by
  obtain ⟨es, hes, rfl⟩ := enumItems_cases h
  rw [mapM_eq_filterMap (g := fun k => c.s.enums[k]?) (fun a b hb => getEnum_ok hb) hes]
  simp only [enumMembers, List.map_map]
  rfl

theorem inputItem_members {c : Ctx} {i : StoredInput} {it : Item} (h : inputItem c i = .ok it) :
    memberIdents it = inputMemberIdents c i := by
  unfold inputMemberIdents
  rcases inputItem_cases h with ⟨ho, vs, hm, rfl⟩ | ⟨ho, fs, hm, rfl⟩
  · rw [if_pos ho]
    refine mapM_bind_pure_map _ _ (fun _ _ _ => ?_) hm
    rfl
  · rw [if_neg (by simp [ho])]
    refine mapM_bind_pure_map _ _ (fun _ _ _ => ?_) hm
    rfl

theorem inputItems_members {c : Ctx} {u : UsedTypes} {I : List Item} (h : inputItems c u = .ok I) :
    I.map memberIdents = inputMembers c u := by
  unfold inputItems at h
  exact mapM_ok_map _ (fun (x : StoredInput × Nat) => inputMemberIdents c x.1)
    (fun a b hb => inputItem_members hb) h

theorem variablesItems_members {c : Ctx} {op : Nat} {V : List Item} (h : variablesItems c op = .ok V) :
    V.map memberIdents = variablesMembers c op := by
  unfold variablesMembers
  rcases variablesItems_cases h with ⟨hemp, rfl⟩ | ⟨hemp, fs, dfl, hfs, _, rfl⟩
  · rw [if_pos (by rw [hemp]; rfl)]
    rfl
  · rw [if_neg (by simpa using hemp)]
    have hd := Composed.variablesItems_default_names c op _ dfl [] h
    have hf : fs.map (·.rust) = (c.q.opVariables op).map (fun v => keywordReplace (c.cs.snake v.name)) := by
      refine mapM_bind_pure_map _ _ (fun _ _ _ => ?_) hfs
      rfl
    simp only [List.map_cons, List.map_nil, memberIdents, hf, hd]

theorem fragmentItems_members {c : Ctx} {g : Nat} {its : List Item} (h : fragmentItems c g = .ok its) :
    its.map memberIdents = fragmentMembers c g := by
  obtain ⟨fr, hfr, hcalc⟩ := fragmentItems_ok h
  simp only [fragmentMembers, hfr]
  exact calc_members hcalc

theorem mapM_members_flatten {ε α : Type} {f : α → Except ε (List Item)} {n : α → List (List String)}
    (hfn : ∀ a its, f a = .ok its → its.map memberIdents = n a) :
    ∀ {l : List α} {F : List (List Item)}, l.mapM f = .ok F → F.flatten.map memberIdents = l.flatMap n := fun h => by
  rw [List.map_flatten, mapM_ok_map (List.map memberIdents) n hfn h, List.flatMap_def]

/-! ## 3. the module -/

/-- **the member identifiers of every item of the emitted module** are exactly `moduleMembers` (one list per
    item, same order); no hypothesis -/
theorem module_members_eq (c : Ctx) (op : Nat) (items : List Item) (h : responseForQuery c op = .ok items) :
    ∃ u o, allUsedTypes c.s c.q op = .ok u ∧ c.q.operations[op]? = some o ∧
      items.map memberIdents = moduleMembers c u o op := by
  obtain ⟨u, S, E, F, I, V, o, R, hu, hS, hE, hF, hI, hV, ho, hR, rfl⟩ := responseForQuery_ok_full h
  refine ⟨u, o, hu, ho, ?_⟩
  unfold responseItems at hR
  simp only [List.map_append, moduleMembers]
  rw [scalarItems_members hS, enumItems_members hE, inputItems_members hI, variablesItems_members hV,
    mapM_members_flatten (fun a its ha => fragmentItems_members ha) hF, calc_members hR]
  rfl

/-- **member distinctness, as a predicate on the query**: whenever `responseForQuery` succeeds, no emitted item has
    two members of one identifier exactly when the decidable `MembersOK` holds of the schema, the resolved query,
    the options and the case functions; no hypothesis -/
theorem members_iff (c : Ctx) (op : Nat) (items : List Item) (h : responseForQuery c op = .ok items) :
    (∀ it ∈ items, (memberIdents it).Nodup) ↔ MembersOK c op = true := by
  obtain ⟨u, o, hu, ho, hm⟩ := module_members_eq c op items h
  unfold MembersOK
  simp only [hu, ho, List.all_eq_true, decide_eq_true_eq]
  rw [← hm]
  simp only [List.mem_map, forall_exists_index, and_imp, forall_apply_eq_imp_iff₂]

/-- soundness of the input-side check, on its own -/
theorem members_nodup (c : Ctx) (op : Nat) (items : List Item) (h : responseForQuery c op = .ok items)
    (hok : MembersOK c op = true) : ∀ it ∈ items, (memberIdents it).Nodup :=
  (members_iff c op items h).mpr hok

/-- **`Scope.wellScoped` on the emitted module, characterised on the input.**  Under the hypotheses of
    `C02.module_well_scoped_iff`, the executable scope check holds for the module `responseForQuery` emits **iff**
    the two decidable predicates on schema + query + options + case functions hold: `NoClash` (no type name defined
    twice) and `MembersOK` (no item with two members of one identifier). -/
theorem module_well_scoped_iff_inputs (c : Ctx) (op : Nat) (items : List Item)
    (hnorm : c.o.normalization = .none)
    (hkwI : ∀ i ∈ c.s.inputs, keywordReplace i.name = i.name)
    (hkwS : ∀ n ∈ c.s.scalars, keywordReplace n = n)
    (hkwE : ∀ e ∈ c.s.enums, keywordReplace e.name = e.name)
    (hwf : OutputOnly c.s c.q = true) (hrel : InputFieldsRelevant c.s = true)
    (hvars : ∀ v ∈ c.q.opVariables op, Relevant v.ty.id)
    (h : responseForQuery c op = .ok items) :
    Scope.wellScoped items (moduleSupplied c) = true ↔ NoClash c op = true ∧ MembersOK c op = true := by
  rw [module_well_scoped_iff c op items hnorm hkwI hkwS hkwE hwf hrel hvars h, members_iff c op items h]

/-- the third component of `Scope.report` is empty exactly when `MembersOK` holds; no hypothesis -/
theorem duplicateMembers_nil_iff (c : Ctx) (op : Nat) (items : List Item) (supplied : List String)
    (h : responseForQuery c op = .ok items) :
    (Scope.report items supplied).duplicateMembers = [] ↔ MembersOK c op = true := by
  rw [← members_iff c op items h]
  unfold Scope.report
  simp only []
  rw [flatMap_eq_nil]
  exact ⟨fun hh it hit => (itemMemberDups_nil_iff it).1 (hh it hit),
    fun hh it hit => (itemMemberDups_nil_iff it).2 (hh it hit)⟩

/-! ## 4. `MembersOK`, part by part -/

/-- the catch-all `Other` never clashes: the variants of a generated enum are distinct iff the schema values'
    identifiers are (`C10.ident_ne_other`) -/
theorem enumMemberIdents_nodup_iff (c : Ctx) (e : StoredEnum) :
    (enumMemberIdents c e).Nodup ↔ (e.variants.map (enumVariantIdent c.o.normalization c.cs)).Nodup := by
  unfold enumMemberIdents
  rw [List.nodup_append]
  constructor
  · exact fun h => h.1
  · intro hi
    refine ⟨hi, by simp, ?_⟩
    intro a ha b hb
    simp only [List.mem_singleton] at hb
    subst hb
    obtain ⟨v, -, rfl⟩ := List.mem_map.mp ha
    exact C10.ident_ne_other _ _ v

/-- `MembersOK` spelled out: the enums, the input types, `Variables` / `default_*`, every used fragment and the
    operation each pass their own check -/
theorem membersOK_iff (c : Ctx) (op : Nat) (u : UsedTypes) (o : ROperation)
    (hu : allUsedTypes c.s c.q op = .ok u) (ho : c.q.operations[op]? = some o) :
    MembersOK c op = true ↔
      (∀ l ∈ enumMembers c u, l.Nodup) ∧ (∀ l ∈ inputMembers c u, l.Nodup) ∧
      (∀ l ∈ variablesMembers c op, l.Nodup) ∧
      (∀ g ∈ sortNat u.fragments, ∀ l ∈ fragmentMembers c g, l.Nodup) ∧
      (∀ l ∈ selectionMembers c (.object o.objectId) o.sels, l.Nodup) := by
  unfold MembersOK
  simp only [hu, ho, List.all_eq_true, decide_eq_true_eq, moduleMembers, List.mem_append, List.mem_flatMap,
    List.mem_replicate]
  constructor
  · intro h
    refine ⟨fun l hl => h l ?_, fun l hl => h l ?_, fun l hl => h l ?_, fun g hg l hl => h l ?_, fun l hl => h l ?_⟩
    · exact .inl (.inl (.inl (.inl (.inr hl))))
    · exact .inl (.inl (.inl (.inr hl)))
    · exact .inl (.inl (.inr hl))
    · exact .inl (.inr ⟨g, hg, hl⟩)
    · exact .inr hl
  · rintro ⟨h1, h2, h3, h4, h5⟩ l hl
    rcases hl with (((((hl | hl) | hl) | hl) | hl) | ⟨g, hg, hl⟩) | hl
    · rw [hl.2]; exact List.nodup_nil
    · rw [hl.2]; exact List.nodup_nil
    · exact h1 l hl
    · exact h2 l hl
    · exact h3 l hl
    · exact h4 g hg l hl
    · exact h5 l hl

/-! ## 5. non-vacuity and the open findings about members -/

/-- the rich sample of `Proofs/C02Response.lean` (interface, union, nested objects, fragments spread as fields, as a
    lone selection and inside inline fragments, extern enum, custom scalar, deprecated field, input-typed variable)
    passes both input-side checks -/
example : MembersOK richCtx 0 = true ∧ NoClash richCtx 0 = true := by
  constructor <;> decide +kernel

example : (allUsedTypes richCtx.s richCtx.q 0).toOption.map (fun u => moduleMembers richCtx u richQuery.operations[0] 0) =
    (responseForQuery richCtx 0).toOption.map (fun items => items.map memberIdents) := by
  decide +kernel

/-- the member lists of the rich sample, as `moduleMembers` computes them from schema and query: 5 aliases, enum
    `Kind`, input `In`, `Variables`, the (empty) `default_*` block, `DogF`, `DogFowner`, `AnimalF` / `AnimalFOn`,
    the alias `AnimalFOnDog`, `QF`, `ResponseData`, `Qanimal` / `QanimalOn`, `QanimalOnDog` (both selections on `Dog`
    contribute: the inline fragment's fields, then the flattened `DogF`), … -/
example : (allUsedTypes richCtx.s richCtx.q 0).toOption.map (fun u => moduleMembers richCtx u richQuery.operations[0] 0) =
    some [[], [], [], [], [], ["A", "B", "Other"], ["k", "d"], ["v"], [], ["barks", "owner"], ["id"], ["name", "on"],
      ["Dog", "Cat"], [], ["kind"], ["animal", "pets", "animal2", "kind", "when", "ext", "QF"], ["name", "on"],
      ["Dog", "Cat"], ["barks", "owner", "DogF"], ["id"], [], ["Dog", "Cat"], [], ["name"], []] := by
  decide +kernel

/-- the same sample under `deny` (the deprecated field `when` is dropped) -/
example : MembersOK { richCtx with o := { richCtx.o with deprecation := .deny } } 0 = true := by
  decide +kernel

/-- `type Query { fooBar: Int  foo_bar: Int }`, `query Q { fooBar foo_bar }`; heck's snake case sends `fooBar`
    to `foo_bar` -/
def snakeCtx : Ctx :=
  { s := { objects := [{ name := "Query", fields := [0, 1], implements := [] }],
           fields := [{ name := "fooBar", ty := { id := .scalar 2, quals := [] }, parent := .object 0, deprecation := none },
                      { name := "foo_bar", ty := { id := .scalar 2, quals := [] }, parent := .object 0, deprecation := none }],
           scalars := Schema.defaultScalars },
    q := { operations := [{ name := "Q", kind := .query, objectId := 0, sels := [.field none 0 [], .field none 1 []] }] },
    o := {}, cs := ⟨fun s => if s = "fooBar" then "foo_bar" else s, id⟩ }

/-- **known finding `fooBar` / `foo_bar`** (sibling fields that coincide after snake-casing): `MembersOK` fails,
    `NoClash` holds, nothing else is wrong with the module -/
theorem snake_collision_witness :
    MembersOK snakeCtx 0 = false ∧ NoClash snakeCtx 0 = true ∧
    (responseForQuery snakeCtx 0).toOption.map (fun items => Scope.report items (moduleSupplied snakeCtx))
      = some { undefined := [], duplicateDefs := [], duplicateMembers := ["foo_bar"], serdeless := [] } := by
  refine ⟨?_, ?_, ?_⟩ <;> decide +kernel

/-- **known finding: a field called `on` next to variants** (`C02.onCtx`: `query Q { i { on ... on O { on } } }`):
    `MembersOK` fails, `NoClash` holds -/
theorem on_witness : MembersOK onCtx 0 = false ∧ NoClash onCtx 0 = true := by
  constructor <;> decide +kernel

/-- the flattened `on` member is there as soon as the type has possible types, selected or not: `query Q { i { on } }`
    fails the check as well; with an alias on the field (`query Q { i { on2: on ... on O { on } } }`) it passes -/
example : MembersOK { onCtx with q := { operations := [{ name := "Q", kind := .query, objectId := 0, sels := [.field none 0 [.field none 1 []]] }] } } 0 = false ∧
    MembersOK { onCtx with q := { operations := [{ name := "Q", kind := .query, objectId := 0, sels := [.field none 0 [.field (some "on2") 1 [], .inline (.object 1) [.field none 1 []]]] }] } } 0 = true := by
  constructor <;> decide +kernel

/-- `enum E { FOO foo }  type Query { e: E }`, `query Q { e }`, `normalization = "rust"` (heck's camel case sends
    both values to `Foo`) -/
def enumCtx : Ctx :=
  { s := { objects := [{ name := "Query", fields := [0], implements := [] }],
           fields := [{ name := "e", ty := { id := .enum 0, quals := [] }, parent := .object 0, deprecation := none }],
           scalars := Schema.defaultScalars,
           enums := [{ name := "E", variants := ["FOO", "foo"] }] },
    q := { operations := [{ name := "Q", kind := .query, objectId := 0, sels := [.field none 0 []] }] },
    o := { normalization := .rust },
    cs := ⟨id, fun s => if s = "FOO" then "Foo" else if s = "foo" then "Foo" else s⟩ }

/-- **known finding: two enum values equal after normalization**: `MembersOK` fails, `NoClash` holds; without the
    normalization the same schema passes -/
theorem enum_collision_witness :
    MembersOK enumCtx 0 = false ∧ NoClash enumCtx 0 = true ∧
    MembersOK { enumCtx with o := {} } 0 = true ∧
    (responseForQuery enumCtx 0).toOption.map (fun items => Scope.report items (moduleSupplied enumCtx))
      = some { undefined := [], duplicateDefs := [], duplicateMembers := ["Foo"], serdeless := [] } := by
  refine ⟨?_, ?_, ?_, ?_⟩ <;> decide +kernel

/-- `interface I { x: String }  type O implements I { x: String }  type Query { i: I }`,
    `query Q { i { ... on O { x } ... on O { x } } }` -/
def twoInlineCtx : Ctx :=
  { s := { objects := [{ name := "Query", fields := [0], implements := [] }, { name := "O", fields := [1], implements := [0] }],
           fields := [{ name := "i", ty := { id := .interface 0, quals := [] }, parent := .object 0, deprecation := none },
                      { name := "x", ty := { id := .scalar 1, quals := [] }, parent := .interface 0, deprecation := none }],
           interfaces := [{ name := "I", fields := [1] }],
           scalars := Schema.defaultScalars },
    q := { operations := [{ name := "Q", kind := .query, objectId := 0,
                            sels := [.field none 0 [.inline (.object 1) [.field none 1 []],
                                                    .inline (.object 1) [.field none 1 []]]] }] },
    o := {}, cs := ⟨id, id⟩ }

/-- **known finding: two inline fragments on one type sharing a key** (after fix 78c01b5 every selection on a
    variant contributes to the variant struct): `MembersOK` fails, `NoClash` holds; with an alias on the second
    occurrence the check passes -/
theorem two_inline_witness :
    MembersOK twoInlineCtx 0 = false ∧ NoClash twoInlineCtx 0 = true ∧
    (responseForQuery twoInlineCtx 0).toOption.map (fun items => Scope.report items (moduleSupplied twoInlineCtx))
      = some { undefined := [], duplicateDefs := [], duplicateMembers := ["x"], serdeless := [] } ∧
    MembersOK { twoInlineCtx with q := { operations := [{ name := "Q", kind := .query, objectId := 0, sels := [.field none 0 [.inline (.object 1) [.field none 1 []], .inline (.object 1) [.field (some "y") 1 []]]] }] } } 0 = true := by
  refine ⟨?_, ?_, ?_, ?_⟩ <;> decide +kernel

/-- `type Query { f: String }`, `fragment f on Query { __typename f2: f }`, `query Q { f ...f }` -/
def fragFieldCtx : Ctx :=
  { s := { objects := [{ name := "Query", fields := [0], implements := [] }],
           fields := [{ name := "f", ty := { id := .scalar 1, quals := [] }, parent := .object 0, deprecation := none }],
           scalars := Schema.defaultScalars },
    q := { fragments := [{ name := "f", on := .object 0, sels := [.typename, .field (some "f2") 0 []] }],
           operations := [{ name := "Q", kind := .query, objectId := 0, sels := [.field none 0 [], .spread 0] }] },
    o := {}, cs := ⟨id, id⟩ }

/-- a further failure of the same predicate: the flattened member of a spread
    fragment is named `snake(F)`, which may coincide with a selected field -/
theorem fragment_field_witness :
    MembersOK fragFieldCtx 0 = false ∧ NoClash fragFieldCtx 0 = true ∧
    (responseForQuery fragFieldCtx 0).toOption.map (fun items => Scope.report items (moduleSupplied fragFieldCtx))
      = some { undefined := [], duplicateDefs := [], duplicateMembers := ["f"], serdeless := [] } := by
  refine ⟨?_, ?_, ?_⟩ <;> decide +kernel

/-- `type A { x: String }  type Unknown { x: String }  union U = A | Unknown  type Query { u: U }`,
    `query Q { u { __typename } }`, `fragments_other_variant` -/
def unknownCtx : Ctx :=
  { s := { objects := [{ name := "Query", fields := [0], implements := [] }, { name := "A", fields := [1], implements := [] },
                       { name := "Unknown", fields := [1], implements := [] }],
           fields := [{ name := "u", ty := { id := .union 0, quals := [] }, parent := .object 0, deprecation := none },
                      { name := "x", ty := { id := .scalar 1, quals := [] }, parent := .object 1, deprecation := none }],
           unions := [{ name := "U", variants := [.object 1, .object 2] }],
           scalars := Schema.defaultScalars },
    q := { operations := [{ name := "Q", kind := .query, objectId := 0, sels := [.field none 0 [.typename]] }] },
    o := { otherVariant := true }, cs := ⟨id, id⟩ }

/-- a further failure of the same predicate: under `fragments_other_variant` the
    catch-all variant `Unknown` is not escaped against a possible type of that name -/
theorem unknown_variant_witness :
    MembersOK unknownCtx 0 = false ∧ NoClash unknownCtx 0 = true ∧
    MembersOK { unknownCtx with o := {} } 0 = true ∧
    (responseForQuery unknownCtx 0).toOption.map (fun items => Scope.report items (moduleSupplied unknownCtx))
      = some { undefined := [], duplicateDefs := [], duplicateMembers := ["Unknown"], serdeless := [] } := by
  refine ⟨?_, ?_, ?_, ?_⟩ <;> decide +kernel

end C02M
end GqlVerif
