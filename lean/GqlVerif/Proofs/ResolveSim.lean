import GqlVerif.Proofs.CalcSim
import GqlVerif.Proofs.ResolveSteps
/-!
# The resolver on two schemas that correspond under a renaming

`SchemaSim M s t`: every look-up the resolver makes in `t` is the look-up in `s`, renamed by `M` (a `SelMap` together
with what it does to stored fields, objects and interfaces).  The resolver then commutes with the renaming, errors
included.  `C07.FieldIso` (field ids renumbered) and `C07P.TypeIso` (type ids renumbered) are the two instances.
-/
namespace GqlVerif
namespace C09
open Resolve

structure SchemaMap extends SelMap where
  field : StoredField → StoredField
  object : StoredObject → StoredObject
  iface : StoredInterface → StoredInterface
  union : StoredUnion → StoredUnion
  op : ROperation → ROperation
  query : Query → Query

/-- what the renaming does to the parts of a resolved query.  That it keeps `depthFuel` and `walkFuel` is assumed here:
each instance proves it from its own lemmas about the depth of renamed selections. -/
structure SchemaMap.Laws (M : SchemaMap) : Prop where
  sel : M.toSelMap.Lawful
  frag_sels : ∀ f, (M.frag f).sels = M.sels f.sels
  op_sels : ∀ o, (M.op o).sels = M.sels o.sels
  op_kind : ∀ o, (M.op o).kind = o.kind
  op_objectId : ∀ o, (M.op o).objectId = M.obj o.objectId
  query_fragments : ∀ q, (M.query q).fragments = q.fragments.map M.frag
  query_operations : ∀ q, (M.query q).operations = q.operations.map M.op
  depthFuel : ∀ q, depthFuel (M.query q) = depthFuel q
  walkFuel : ∀ q, Codegen.walkFuel (M.query q) = Codegen.walkFuel q

/-! ## walks over a resolved query -/

section walks
open Codegen
variable {M : SchemaMap} (L : M.Laws)
include L

theorem SchemaMap.Laws.any_sels (l : List Sel) (p p' : Sel → Bool) (h : ∀ x ∈ l, p' (M.sel x) = p x) :
    (M.sels l).any p' = l.any p := by
  rw [L.sel.sels_eq_map]
  induction l with
  | nil => rfl
  | cons x l ih => simp only [List.map_cons, List.any_cons, h x (by simp), ih fun y hy => h y (by simp [hy])]

theorem SchemaMap.Laws.foldl_sels {β} (l : List Sel) (f f' : β → Sel → β) (init : β)
    (h : ∀ b, ∀ x ∈ l, f' b (M.sel x) = f b x) : (M.sels l).foldl f' init = l.foldl f init := by
  rw [L.sel.sels_eq_map]
  induction l generalizing init with
  | nil => rfl
  | cons x l ih =>
    simp only [List.map_cons, List.foldl_cons, h init x (by simp)]
    exact ih _ fun b y hy => h b y (by simp [hy])

theorem containsTypenameAux_sim (q : Query) (fuel : Nat) : ∀ (parent : TypeId) (visited : List Nat) (sels : List Sel),
    containsTypenameAux (M.query q) (M.ty parent) fuel visited (M.sels sels) =
      containsTypenameAux q parent fuel visited sels := by
  induction fuel with
  | zero => intro _ _ _; rfl
  | succ fuel ih =>
    intro parent visited sels
    unfold containsTypenameAux
    apply L.any_sels
    intro x _
    cases x with
    | field a fid sub => rw [L.sel.sel_field]
    | inline t sub => rw [L.sel.sel_inline]
    | typename => rw [L.sel.sel_typename]
    | spread fid =>
      rw [L.sel.sel_spread]
      simp only [L.query_fragments, List.getElem?_map]
      cases q.fragments[fid]? with
      | none => rfl
      | some f => simp only [Option.map_some, L.sel.frag_on, L.frag_sels, ih, L.sel.ty_beq]

theorem containsTypename_sim (q : Query) (parent : TypeId) (sels : List Sel) :
    containsTypename (M.query q) (M.ty parent) (M.sels sels) = containsTypename q parent sels := by
  simp only [containsTypename, L.query_fragments, List.length_map, containsTypenameAux_sim L]

theorem rootFieldCount_sim (q : Query) (fuel : Nat) : ∀ (visited : List Nat) (sels : List Sel),
    rootFieldCount (M.query q) fuel visited (M.sels sels) = rootFieldCount q fuel visited sels := by
  induction fuel with
  | zero => intro _ _; rfl
  | succ fuel ih =>
    intro visited sels
    unfold rootFieldCount
    apply L.foldl_sels
    intro acc x _
    cases x with
    | field a fid sub => rw [L.sel.sel_field]
    | typename => rw [L.sel.sel_typename]
    | inline t sub => rw [L.sel.sel_inline]; simp only [ih]
    | spread fid =>
      rw [L.sel.sel_spread]
      simp only [L.query_fragments, List.getElem?_map]
      cases q.fragments[fid]? with
      | none => rfl
      | some f => simp only [Option.map_some, L.frag_sels, ih]

theorem reachesFragment_sim (q : Query) (target : Nat) (fuel : Nat) : ∀ (visited : List Nat) (sels : List Sel),
    reachesFragment (M.query q) target fuel visited (M.sels sels) = reachesFragment q target fuel visited sels := by
  induction fuel with
  | zero => intro _ _; rfl
  | succ fuel ih =>
    intro visited sels
    unfold reachesFragment
    apply L.foldl_sels
    intro acc x _
    cases x with
    | field a fid sub => rw [L.sel.sel_field]; simp only [ih]
    | typename => rw [L.sel.sel_typename]
    | inline t sub => rw [L.sel.sel_inline]; simp only [ih]
    | spread fid =>
      rw [L.sel.sel_spread]
      simp only [L.query_fragments, List.getElem?_map]
      cases q.fragments[fid]? with
      | none => rfl
      | some f => simp only [Option.map_some, L.frag_sels, ih]

theorem fragmentIsRecursive_sim (q : Query) (fid : Nat) :
    fragmentIsRecursive (M.query q) fid = fragmentIsRecursive q fid := by
  simp only [fragmentIsRecursive, L.query_fragments, List.getElem?_map, L.walkFuel]
  cases q.fragments[fid]? with
  | none => rfl
  | some f => simp only [Option.map_some, L.frag_sels, reachesFragment_sim L]

theorem validateSubscriptions_sim (q : Query) : validateSubscriptions (M.query q) = validateSubscriptions q := by
  unfold validateSubscriptions
  simp only [L.query_operations, List.forIn_map, L.op_kind, L.op_sels, L.depthFuel, rootFieldCount_sim L]

end walks

structure SchemaSim (M : SchemaMap) (s t : Schema) : Prop where
  laws : M.Laws
  field_name : ∀ f, (M.field f).name = f.name
  field_ty : ∀ f, (M.field f).ty.id = M.ty f.ty.id
  object_name : ∀ o, (M.object o).name = o.name
  object_fields : ∀ o, (M.object o).fields = o.fields.map M.fld
  object_implements : ∀ o, (M.object o).implements = o.implements.map M.ifc
  iface_name : ∀ i, (M.iface i).name = i.name
  iface_fields : ∀ i, (M.iface i).fields = i.fields.map M.fld
  union_variants : ∀ u, (M.union u).variants = u.variants.map M.ty
  getField : ∀ i, t.getField (M.fld i) = (s.getField i).map M.field
  getObject : ∀ i, t.getObject (M.obj i) = (s.getObject i).map M.object
  getInterface : ∀ i, t.getInterface (M.ifc i) = (s.getInterface i).map M.iface
  getUnion : ∀ i, t.getUnion (M.un i) = (s.getUnion i).map M.union
  implementors : ∀ i, (t.implementors (M.ifc i)).Perm ((s.implementors i).map M.obj)
  findType : ∀ n, t.findType n = (s.findType n).map M.ty

theorem SchemaSim.lawful {M : SchemaMap} {s t : Schema} (H : SchemaSim M s t) : M.toSelMap.Lawful := H.laws.sel

section
variable {M : SchemaMap} {s t : Schema} (H : SchemaSim M s t)
include H

theorem getFieldByName_sim (fields : List Nat) (name : String) :
    getFieldByName t (fields.map M.fld) name =
      (getFieldByName s fields name).map (Option.map fun (p : Nat × StoredField) => (M.fld p.1, M.field p.2)) := by
  have hm : (fields.map M.fld).mapM (fun id => do pure (id, ← t.getField id)) =
      (fields.mapM (fun id => do pure (id, ← s.getField id))).map
        (List.map fun (p : Nat × StoredField) => (M.fld p.1, M.field p.2)) := by
    induction fields with
    | nil => rfl
    | cons i fields ih =>
      simp only [List.map_cons, List.mapM_cons, ih, H.getField]
      generalize List.mapM (fun id => do pure (id, ← s.getField id)) fields = X
      cases s.getField i <;> cases X <;> rfl
  unfold getFieldByName
  rw [hm]
  generalize List.mapM (fun id => do pure (id, ← s.getField id)) fields = X
  cases X with
  | error e => rfl
  | ok fs =>
    simp only [Except.map, bind, Except.bind, pure, Except.pure, List.find?_map]
    congr 3
    funext p
    simp only [Function.comp_apply, H.field_name]

omit H in
theorem map_field_comp (L : M.toSelMap.Lawful) (a : Option String) (fid : Nat) (x : Outcome (List Sel)) :
    (x.map M.sels).map (Sel.field a (M.fld fid)) = (x.map (Sel.field a fid)).map M.sel := by
  cases x
  · rfl
  · simp only [Except.map, L.sel_field]

omit H in
theorem map_inline_comp (L : M.toSelMap.Lawful) (ty : TypeId) (x : Outcome (List Sel)) :
    (x.map M.sels).map (Sel.inline (M.ty ty)) = (x.map (Sel.inline ty)).map M.sel := by
  cases x
  · rfl
  · simp only [Except.map, L.sel_inline]

/-- the dispatch on the type of a sub-selection, from the two list resolvers on that sub-selection -/
theorem resolveSelection_sim_of {q q' : Query} {sub : List QSel}
    (hobj : ∀ pname fields, resolveObjectSels t q' pname (fields.map M.fld) sub =
      (resolveObjectSels s q pname fields sub).map M.sels)
    (huni : resolveUnionSels t q' sub = (resolveUnionSels s q sub).map M.sels) (ty : TypeId) :
    resolveSelection t q' (M.ty ty) sub = (resolveSelection s q ty sub).map M.sels := by
  unfold resolveSelection
  cases ty with
  | object oid =>
    simp only [SelMap.ty_object, H.getObject]
    cases s.getObject oid with
    | error e => rfl
    | ok o => simp only [Except.map, bind, Except.bind, H.object_name, H.object_fields, hobj]
  | interface iid =>
    simp only [SelMap.ty_interface, H.getInterface]
    cases s.getInterface iid with
    | error e => rfl
    | ok o => simp only [Except.map, bind, Except.bind, H.iface_name, H.iface_fields, hobj]
  | union uid => exact huni
  | scalar i => cases sub <;> simp [SelMap.ty_scalar, Except.map, pure, Except.pure, fail', H.lawful.nil]
  | «enum» i => cases sub <;> simp [SelMap.ty_enum, Except.map, pure, Except.pure, fail', H.lawful.nil]
  | input i => cases sub <;> simp [SelMap.ty_input, Except.map, pure, Except.pure, fail', H.lawful.nil]

mutual
  theorem objSel_sim (q q' : Query) (hq : ∀ n, q'.findFragment n = q.findFragment n) :
      ∀ (x : QSel) (pname : String) (fields : List Nat),
        resolveObjectSel t q' pname (fields.map M.fld) x = (resolveObjectSel s q pname fields x).map M.sel
    | .field a name sub, pname, fields => by
      by_cases hn : (name == typenameField) = true
      · unfold resolveObjectSel
        simp only [hn, if_true]
        split
        · rfl
        · simp only [Except.map, pure, Except.pure, H.lawful.sel_typename]
      · have hn' : (name == typenameField) = false := by simpa using hn
        rw [resolveObjectSel_field _ _ _ _ _ _ _ hn', resolveObjectSel_field _ _ _ _ _ _ _ hn',
          getFieldByName_sim H]
        cases getFieldByName s fields name with
        | error e => rfl
        | ok r =>
          cases r with
          | none => rfl
          | some p =>
            obtain ⟨fid, sf⟩ := p
            simp only [Except.map, Option.map, H.field_ty]
            rw [resolveSelection_sim_of H (objSels_sim q q' hq sub) (unionSels_sim q q' hq sub)]
            exact map_field_comp H.lawful a fid _
    | .inline none sub, pname, fields => by unfold resolveObjectSel; rfl
    | .inline (some on) sub, pname, fields => by
      rw [resolveObjectSel_inline, resolveObjectSel_inline, H.findType]
      cases s.findType on with
      | none => rfl
      | some ty =>
        simp only [Option.map]
        rw [resolveSelection_sim_of H (objSels_sim q q' hq sub) (unionSels_sim q q' hq sub)]
        exact map_inline_comp H.lawful ty _
    | .spread n, pname, fields => by
      unfold resolveObjectSel
      rw [hq]
      cases q.findFragment n
      · rfl
      · simp only [Except.map, pure, Except.pure, H.lawful.sel_spread]
  theorem objSels_sim (q q' : Query) (hq : ∀ n, q'.findFragment n = q.findFragment n) :
      ∀ (xs : List QSel) (pname : String) (fields : List Nat),
        resolveObjectSels t q' pname (fields.map M.fld) xs = (resolveObjectSels s q pname fields xs).map M.sels
    | [], pname, fields => by
      unfold resolveObjectSels
      simp only [Except.map, pure, Except.pure, H.lawful.nil]
    | x :: xs, pname, fields => by
      unfold resolveObjectSels
      rw [objSel_sim q q' hq x pname fields, objSels_sim q q' hq xs pname fields]
      cases resolveObjectSel s q pname fields x with
      | error e => rfl
      | ok a =>
        cases resolveObjectSels s q pname fields xs
        · rfl
        · simp only [Except.map, H.lawful.sels_eq_map, List.map_cons]
  theorem unionSel_sim (q q' : Query) (hq : ∀ n, q'.findFragment n = q.findFragment n) :
      ∀ (x : QSel), resolveUnionSel t q' x = (resolveUnionSel s q x).map M.sel
    | .field a name sub => by
      unfold resolveUnionSel
      split
      · split
        · rfl
        · simp only [Except.map, pure, Except.pure, H.lawful.sel_typename]
      · rfl
    | .inline none sub => by unfold resolveUnionSel; rfl
    | .inline (some on) sub => by
      rw [resolveUnionSel_inline, resolveUnionSel_inline, H.findType]
      cases s.findType on with
      | none => rfl
      | some ty =>
        simp only [Option.map]
        rw [resolveSelection_sim_of H (objSels_sim q q' hq sub) (unionSels_sim q q' hq sub)]
        exact map_inline_comp H.lawful ty _
    | .spread n => by
      unfold resolveUnionSel
      rw [hq]
      cases q.findFragment n
      · rfl
      · simp only [Except.map, pure, Except.pure, H.lawful.sel_spread]
  theorem unionSels_sim (q q' : Query) (hq : ∀ n, q'.findFragment n = q.findFragment n) :
      ∀ (xs : List QSel), resolveUnionSels t q' xs = (resolveUnionSels s q xs).map M.sels
    | [] => by
      unfold resolveUnionSels
      simp only [Except.map, pure, Except.pure, H.lawful.nil]
    | x :: xs => by
      unfold resolveUnionSels
      rw [unionSel_sim q q' hq x, unionSels_sim q q' hq xs]
      cases resolveUnionSel s q x with
      | error e => rfl
      | ok a =>
        cases resolveUnionSels s q xs
        · rfl
        · simp only [Except.map, H.lawful.sels_eq_map, List.map_cons]
end

theorem resolveSelection_sim (q q' : Query) (hq : ∀ n, q'.findFragment n = q.findFragment n) (on : TypeId)
    (sels : List QSel) :
    resolveSelection t q' (M.ty on) sels = (resolveSelection s q on sels).map M.sels :=
  resolveSelection_sim_of H (objSels_sim H q q' hq sels) (unionSels_sim H q q' hq sels) on

/-! ## the validation passes that read the schema -/

mutual
  theorem fieldsHaveTypename_sim (q : Query) : ∀ x : Sel,
      fieldsHaveTypename t (M.query q) (M.sel x) = fieldsHaveTypename s q x
    | .field a fid sub => by
      rw [H.lawful.sel_field]
      simp only [fieldsHaveTypename, H.getField, C02.map_bind_ok]
      refine bind_congr fun f => ?_
      simp only [H.field_ty, SelMap.ty_isAbstract, containsTypename_sim H.laws, fieldsHaveTypenameList_sim q sub]
    | .inline ty sub => by
      rw [H.lawful.sel_inline]; simp only [fieldsHaveTypename, fieldsHaveTypenameList_sim q sub]
    | .spread f => by rw [H.lawful.sel_spread]; rfl
    | .typename => by rw [H.lawful.sel_typename]; rfl
  theorem fieldsHaveTypenameList_sim (q : Query) : ∀ l : List Sel,
      fieldsHaveTypenameList t (M.query q) (M.sels l) = fieldsHaveTypenameList s q l
    | [] => by rw [H.lawful.nil]; rfl
    | x :: xs => by
      rw [H.lawful.sels_eq_map, List.map_cons, ← H.lawful.sels_eq_map]
      simp only [fieldsHaveTypenameList, fieldsHaveTypename_sim q x, fieldsHaveTypenameList_sim q xs]
end

theorem validateTypenamePresence_sim (q : Query) :
    validateTypenamePresence t (M.query q) = validateTypenamePresence s q := by
  unfold validateTypenamePresence
  simp only [H.laws.query_fragments, H.laws.query_operations, List.forIn_map, H.lawful.frag_on, H.laws.frag_sels,
    H.lawful.frag_name, H.laws.op_sels, SelMap.ty_isAbstract, containsTypename_sim H.laws,
    fieldsHaveTypenameList_sim H]

theorem conditionOk_sim (parent selected : TypeId) :
    conditionOk t (M.ty parent) (M.ty selected) = conditionOk s parent selected := by
  unfold conditionOk
  rw [H.lawful.ty_beq]
  split
  · rfl
  · cases parent with
    | union uid =>
      simp only [SelMap.ty_union, H.getUnion]
      cases s.getUnion uid with
      | error e => rfl
      | ok u => simp only [Except.map, bind, Except.bind, H.union_variants, H.lawful.contains_ty]
    | interface iid =>
      simp only [SelMap.ty_interface]
      rw [(H.implementors iid).any_eq, List.any_map]
      congr 2
      funext oid
      exact H.lawful.ty_beq (.object oid) selected
    | object oid =>
      simp only [SelMap.ty_object, H.getObject]
      cases s.getObject oid with
      | error e => rfl
      | ok o =>
        simp only [Except.map, bind, Except.bind]
        cases selected with
        | interface iid => simp only [SelMap.ty_interface, H.object_implements, H.lawful.contains_ifc]
        | union uid =>
          simp only [SelMap.ty_union, H.getUnion]
          cases s.getUnion uid with
          | error e => rfl
          | ok u =>
            simp only [Except.map, H.union_variants]
            rw [show (TypeId.object (M.obj oid)) = M.ty (.object oid) from rfl, H.lawful.contains_ty]
        | object _ => rfl
        | scalar _ => rfl
        | «enum» _ => rfl
        | input _ => rfl
    | scalar _ => rfl
    | «enum» _ => rfl
    | input _ => rfl

mutual
  theorem typeConditions_sim (q : Query) : ∀ (x : Sel) (parent : TypeId),
      typeConditions t (M.query q) (M.ty parent) (M.sel x) = typeConditions s q parent x
    | .field a fid sub, parent => by
      rw [H.lawful.sel_field]
      simp only [typeConditions, H.getField, C02.map_bind_ok]
      refine bind_congr fun f => ?_
      simp only [H.field_ty, typeConditionsList_sim q sub]
    | .inline ty sub, parent => by
      rw [H.lawful.sel_inline]
      simp only [typeConditions, conditionOk_sim H, typeConditionsList_sim q sub]
    | .spread f, parent => by
      rw [H.lawful.sel_spread]
      simp only [typeConditions, SelMap.getFragment_map (H.laws.query_fragments q), C02.map_bind_ok]
      refine bind_congr fun fr => ?_
      simp only [H.lawful.frag_on, conditionOk_sim H]
    | .typename, parent => by rw [H.lawful.sel_typename]; rfl
  theorem typeConditionsList_sim (q : Query) : ∀ (l : List Sel) (parent : TypeId),
      typeConditionsList t (M.query q) (M.ty parent) (M.sels l) = typeConditionsList s q parent l
    | [], parent => by rw [H.lawful.nil]; rfl
    | x :: xs, parent => by
      rw [H.lawful.sels_eq_map, List.map_cons, ← H.lawful.sels_eq_map]
      simp only [typeConditionsList, typeConditions_sim q x, typeConditionsList_sim q xs]
end

theorem validateTypeConditions_sim (q : Query) :
    validateTypeConditions t (M.query q) = validateTypeConditions s q := by
  unfold validateTypeConditions
  have e : ∀ o : ROperation, TypeId.object (M.obj o.objectId) = M.ty (.object o.objectId) := fun _ => rfl
  simp only [H.laws.query_fragments, H.laws.query_operations, List.forIn_map, H.lawful.frag_on, H.laws.frag_sels,
    H.laws.op_sels, H.laws.op_objectId, e, typeConditionsList_sim H]

end

end C09
end GqlVerif
