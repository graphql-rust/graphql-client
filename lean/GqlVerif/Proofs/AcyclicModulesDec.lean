import GqlVerif.Proofs.AcyclicModules
import GqlVerif.Proofs.SerdeFuelWitness
/-!
# `SameLevelAcyclic` is decidable; corollaries; necessity

For a finite graph on `Nat` (`succ g = []` beyond `n`) the executable check "the height computed with fuel `n + 2`
decreases along every edge" holds IFF some rank decreases along every edge (no cycle): `graphCheck_iff`.  So
`SameLevelAcyclic q := ∃ r, SameLevelRanked q r` is decidable, likewise `SpreadAcyclic q` (the weaker relation
`jumpSpreads`).  Under either, every emitted module that passes `moduleOk` is `Acyclic` — class-free — and so satisfies
`EnvOK` / `EnvOKS`: no per-module check is left.

Necessity: the document of `SerdeFuel.spread_cycle_module_not_acyclic` violates `SameLevelAcyclic` (and
`SpreadAcyclic`); its module is not `Acyclic`.
-/
namespace GqlVerif
namespace AcyclicM
open Codegen Serde SerdeFuel C01.E2E

/-! ## a finite graph on `Nat` is ranked iff its bounded height decreases along the edges -/

def lmax : List Nat → Nat
  | [] => 0
  | x :: xs => max x (lmax xs)

theorem le_lmax : ∀ {l : List Nat} {x : Nat}, x ∈ l → x ≤ lmax l
  | y :: l, x, h => by
    rcases List.mem_cons.mp h with rfl | h'
    · simp only [lmax]; omega
    · have := le_lmax h'
      simp only [lmax]; omega

/-- length of the longest path from `g`, cut at `fuel` -/
def height (succ : Nat → List Nat) : Nat → Nat → Nat
  | 0, _ => 0
  | fuel+1, g => lmax ((succ g).map (fun h => height succ fuel h + 1))

def GRanked (succ : Nat → List Nat) (r : Nat → Nat) : Prop := ∀ g, ∀ h ∈ succ g, r h < r g

def graphCheck (succ : Nat → List Nat) (n : Nat) : Bool :=
  (List.range n).all (fun g => (succ g).all (fun h => decide (height succ (n + 2) h < height succ (n + 2) g)))

theorem granked_of_check {succ : Nat → List Nat} {n : Nat} (hs : ∀ g, n ≤ g → succ g = [])
    (h : graphCheck succ n = true) : GRanked succ (height succ (n + 2)) := by
  intro g x hx
  simp only [graphCheck, List.all_eq_true, List.mem_range, decide_eq_true_eq] at h
  by_cases hg : g < n
  · exact h g hg x hx
  · rw [hs g (by omega)] at hx; cases hx

/-- the compressed rank: position of `r g` among the ranks of the nodes below `n` (the compression by `countP` of
    `SerdeFuel.comp`, over node numbers in place of names; both rest on `SerdeFuel.countP_lt_of`) -/
def gcomp (r : Nat → Nat) (n : Nat) (g : Nat) : Nat :=
  if g < n then 1 + (List.range n).countP (fun g' => decide (r g' < r g)) else 0

theorem gcomp_le (r : Nat → Nat) (n g : Nat) : gcomp r n g ≤ n + 1 := by
  unfold gcomp
  split
  · have := List.countP_le_length (p := fun g' => decide (r g' < r g)) (l := List.range n)
    simp only [List.length_range] at this
    omega
  · omega

theorem gcomp_edge {succ : Nat → List Nat} {r : Nat → Nat} {n : Nat} (hs : ∀ g, n ≤ g → succ g = [])
    (hr : GRanked succ r) : GRanked succ (gcomp r n) := by
  intro g x hx
  have hg : g < n := by
    by_cases hg : g < n
    · exact hg
    · rw [hs g (by omega)] at hx; cases hx
  have hlt := hr g x hx
  unfold gcomp
  rw [if_pos hg]
  split
  · rename_i hxn
    have := SerdeFuel.countP_lt_of (l := List.range n) (p := fun g' => decide (r g' < r x))
      (q := fun g' => decide (r g' < r g))
      (fun y _ hy => by simp only [decide_eq_true_eq] at hy ⊢; omega) x (List.mem_range.mpr hxn) (by simp)
      (by simpa using hlt)
    omega
  · omega

theorem height_stable {succ : Nat → List Nat} {ρ : Nat → Nat} (hρ : GRanked succ ρ) :
    ∀ (k g fuel fuel' : Nat), ρ g < k → k ≤ fuel → k ≤ fuel' → height succ fuel g = height succ fuel' g
  | 0, _, _, _, h, _, _ => by omega
  | k+1, g, fuel, fuel', h, h1, h2 => by
    obtain ⟨a, rfl⟩ : ∃ a, fuel = a + 1 := ⟨fuel - 1, by omega⟩
    obtain ⟨b, rfl⟩ : ∃ b, fuel' = b + 1 := ⟨fuel' - 1, by omega⟩
    simp only [height]
    congr 1
    refine List.map_congr_left (fun x hx => ?_)
    have := hρ g x hx
    rw [height_stable hρ k x a b (by omega) (by omega) (by omega)]

theorem check_of_granked {succ : Nat → List Nat} {r : Nat → Nat} {n : Nat} (hs : ∀ g, n ≤ g → succ g = [])
    (hr : GRanked succ r) : graphCheck succ n = true := by
  have hρ := gcomp_edge hs hr
  simp only [graphCheck, List.all_eq_true, List.mem_range, decide_eq_true_eq]
  intro g _ x hx
  have h1 := hρ g x hx
  have h2 := gcomp_le r n g
  have hst := height_stable hρ (n + 1) x (n + 1) (n + 2) (by omega) (by omega) (by omega)
  rw [← hst]
  have : height succ (n + 1) x + 1 ≤ height succ (n + 2) g := by
    rw [show height succ (n + 2) g = lmax ((succ g).map (fun h => height succ (n + 1) h + 1)) from rfl]
    exact le_lmax (List.mem_map_of_mem (f := fun h => height succ (n + 1) h + 1) hx)
  omega

/-- **the check decides whether the graph can be ranked** (has no cycle) -/
theorem graphCheck_iff {succ : Nat → List Nat} {n : Nat} (hs : ∀ g, n ≤ g → succ g = []) :
    graphCheck succ n = true ↔ ∃ r, GRanked succ r :=
  ⟨fun h => ⟨_, granked_of_check hs h⟩, fun ⟨_, hr⟩ => check_of_granked hs hr⟩

/-! ## `SameLevelAcyclic`, `SpreadAcyclic` -/

def succSL (q : Query) (g : Nat) : List Nat :=
  match q.fragments[g]? with
  | some f => sameLevel f.sels
  | none => []

def succJ (q : Query) (g : Nat) : List Nat :=
  match q.fragments[g]? with
  | some f => jumpSpreads q f
  | none => []

theorem succSL_out (q : Query) (g : Nat) (h : q.fragments.length ≤ g) : succSL q g = [] := by
  simp [succSL, List.getElem?_eq_none h]

theorem succJ_out (q : Query) (g : Nat) (h : q.fragments.length ≤ g) : succJ q g = [] := by
  simp [succJ, List.getElem?_eq_none h]

theorem granked_frag_iff (q : Query) (sel : RFragment → List Nat) (r : Nat → Nat) :
    (∀ g f, q.fragments[g]? = some f → ∀ h ∈ sel f, r h < r g) ↔
      GRanked (fun g => match q.fragments[g]? with | some f => sel f | none => []) r := by
  constructor
  · intro h g x hx
    cases hf : q.fragments[g]? with
    | none => simp only [hf] at hx; cases hx
    | some f => simp only [hf] at hx; exact h g f hf x hx
  · intro h g f hf x hx
    exact h g x (by simp only [hf]; exact hx)

theorem sameLevelRanked_iff (q : Query) (r : Nat → Nat) : SameLevelRanked q r ↔ GRanked (succSL q) r :=
  granked_frag_iff q (fun f => sameLevel f.sels) r

theorem spreadRanked_iff (q : Query) (r : Nat → Nat) : SpreadRanked q r ↔ GRanked (succJ q) r :=
  granked_frag_iff q (jumpSpreads q) r

/-- **the same-level spread graph of the document has no cycle**: some rank decreases along every same-level spread
    (`F` spreads `G` at the top level of its body, or at the top level of an inline fragment of its body) -/
def SameLevelAcyclic (q : Query) : Prop := ∃ r, SameLevelRanked q r

/-- the weaker condition the proof needs: no cycle along `jumpSpreads` (lone spread; top-level spreads of a fragment with
    the same type condition) -/
def SpreadAcyclic (q : Query) : Prop := ∃ r, SpreadRanked q r

def sameLevelCheck (q : Query) : Bool := graphCheck (succSL q) q.fragments.length
def spreadCheck (q : Query) : Bool := graphCheck (succJ q) q.fragments.length

theorem sameLevelCheck_iff (q : Query) : sameLevelCheck q = true ↔ SameLevelAcyclic q := by
  unfold sameLevelCheck SameLevelAcyclic
  rw [graphCheck_iff (succSL_out q)]
  exact exists_congr (fun r => (sameLevelRanked_iff q r).symm)

theorem spreadCheck_iff (q : Query) : spreadCheck q = true ↔ SpreadAcyclic q := by
  unfold spreadCheck SpreadAcyclic
  rw [graphCheck_iff (succJ_out q)]
  exact exists_congr (fun r => (spreadRanked_iff q r).symm)

instance (q : Query) : Decidable (SameLevelAcyclic q) := decidable_of_iff _ (sameLevelCheck_iff q)
instance (q : Query) : Decidable (SpreadAcyclic q) := decidable_of_iff _ (spreadCheck_iff q)

theorem SameLevelAcyclic.spreadAcyclic {q : Query} (h : SameLevelAcyclic q) : SpreadAcyclic q :=
  h.imp (fun _ hr => hr.spreadRanked)

/-! ## the class-free theorem and its corollaries -/

/-- **every emitted module (that passes `moduleOk`) of a document whose same-level spread graph is acyclic is
    `Acyclic`**: class-free, any normalization, any case functions -/
theorem module_acyclic {c : Ctx} {op : Nat} {items : List Item}
    (h : responseForQuery c op = .ok items) (hok : moduleOk c items = true) (ha : SameLevelAcyclic c.q) :
    ∃ d, Acyclic (moduleEnv c items) d := by
  obtain ⟨r, hr⟩ := ha
  exact module_acyclic_of_sameLevelRanked h hok hr

/-- the primed form has the weaker hypothesis `SpreadAcyclic` (`SameLevelAcyclic.spreadAcyclic`), so it is the stronger
    theorem; `module_envOK` rests on it -/
theorem module_acyclic' {c : Ctx} {op : Nat} {items : List Item}
    (h : responseForQuery c op = .ok items) (hok : moduleOk c items = true) (ha : SpreadAcyclic c.q) :
    ∃ d, Acyclic (moduleEnv c items) d := by
  obtain ⟨r, hr⟩ := ha
  exact module_acyclic_of_spreadRanked h hok hr

/-- **`EnvOK` and `EnvOKS` with no per-module check** -/
theorem module_envOK {c : Ctx} {op : Nat} {items : List Item}
    (h : responseForQuery c op = .ok items) (hok : moduleOk c items = true) (ha : SpreadAcyclic c.q) :
    EnvOK (moduleEnv c items) ∧ EnvOKS (moduleEnv c items) := by
  obtain ⟨d, hd⟩ := module_acyclic' h hok ha
  exact module_envOK_of_acyclic h hd

/-- `de` on the emitted module is never the fuel error -/
theorem module_de_never_out_of_fuel {c : Ctx} {op : Nat} {items : List Item}
    (h : responseForQuery c op = .ok items) (hok : moduleOk c items = true) (ha : SpreadAcyclic c.q)
    (t : RTy) (j : Json) : de (moduleEnv c items) t j ≠ .error (.unmodelled "fuel") :=
  de_never_out_of_fuel (module_envOK h hok ha).1 t j

/-- … and is what every fuel at or above the one `de` passes computes -/
theorem module_de_fuel_indep {c : Ctx} {op : Nat} {items : List Item}
    (h : responseForQuery c op = .ok items) (hok : moduleOk c items = true) (ha : SpreadAcyclic c.q)
    (t : RTy) (j : Json) (fuel : Nat) (hf : deFuel (moduleEnv c items) j ≤ fuel) :
    deTy (moduleEnv c items) false fuel t j = de (moduleEnv c items) t j :=
  de_fuel_indep (module_envOK h hok ha).1 t j fuel hf

theorem module_ser_never_out_of_fuel {c : Ctx} {op : Nat} {items : List Item}
    (h : responseForQuery c op = .ok items) (hok : moduleOk c items = true) (ha : SpreadAcyclic c.q)
    (t : RTy) (v : Val) : ser (moduleEnv c items) t v ≠ .error (.unmodelled "fuel") :=
  ser_never_out_of_fuel (module_envOK h hok ha).2 t v

theorem module_roundtrip_never_out_of_fuel {c : Ctx} {op : Nat} {items : List Item}
    (h : responseForQuery c op = .ok items) (hok : moduleOk c items = true) (ha : SpreadAcyclic c.q)
    (t : RTy) (j : Json) : roundtrip (moduleEnv c items) t j ≠ .error (.unmodelled "fuel") :=
  roundtrip_never_out_of_fuel (module_envOK h hok ha).1 (module_envOK h hok ha).2 t j

/-- a key nobody names is ignored by `de` on the emitted module (`SerdeFuel.denied_key_ignored_de`, its `EnvOK`
    hypothesis discharged) -/
theorem module_denied_key_ignored {c : Ctx} {op : Nat} {items : List Item}
    (h : responseForQuery c op = .ok items) (hok : moduleOk c items = true) (ha : SpreadAcyclic c.q)
    (k p : String) (kvs : List (String × Json)) (hkf : Composed.KeyFree (moduleEnv c items) k p) :
    de (moduleEnv c items) (.path p) (.obj kvs) = de (moduleEnv c items) (.path p) (.obj (Composed.eraseKey k kvs)) :=
  denied_key_ignored_de (module_envOK h hok ha).1 k p kvs hkf

/-! ## necessity -/

/-- **the hypothesis is needed**: the document `fragment F on Human { height ...G } fragment G on Human { height ...F }`
    is not `SameLevelAcyclic` (nor `SpreadAcyclic`), its module is emitted, passes `moduleOk`, and is not `Acyclic` for
    any rank (with the externs of `moduleEnv`) -/
theorem spread_cycle_not_sameLevelAcyclic :
    ¬ SameLevelAcyclic spreadCycleCtx.q ∧ ¬ SpreadAcyclic spreadCycleCtx.q ∧
    (∃ items, responseForQuery spreadCycleCtx 0 = .ok items ∧ moduleOk spreadCycleCtx items = true ∧
      ∀ d, ¬ Acyclic (moduleEnv spreadCycleCtx items) d) := by
  have h2 : ¬ SpreadAcyclic spreadCycleCtx.q := by
    rintro ⟨r, hr⟩
    have h01 := hr 0 _ rfl 1 (by decide)
    have h10 := hr 1 _ rfl 0 (by decide)
    omega
  refine ⟨fun h => h2 h.spreadAcyclic, h2, ?_⟩
  cases hgen : responseForQuery spreadCycleCtx 0 with
  | error e =>
    have := spread_cycle_module_not_acyclic.1
    rw [hgen] at this
    cases this
  | ok items =>
    have hex : moduleEnv spreadCycleCtx items = spreadCycleEnv := by
      simp only [moduleEnv, spreadCycleEnv, hgen]
      rfl
    have hok : moduleOk spreadCycleCtx items = true := by
      have := spread_cycle_module_not_acyclic.2.1
      simp only [spreadCycleEnv, hgen] at this
      exact this
    exact ⟨items, rfl, hok, fun d hd => spread_cycle_module_not_acyclic.2.2.2.2.2.2 d (hex ▸ hd)⟩

end AcyclicM
end GqlVerif
