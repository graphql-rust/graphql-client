import GqlVerif.Model.Attr
/-!
C18: how the three scanners of `attributes.rs` move over the token list of a rendered attribute
(`Attr.render`).  The invariant of every induction is that the scanner is
at an *item boundary* (the remaining tokens are `render st rest` for a suffix `rest` of the items).
-/
namespace GqlVerif
namespace C18
open Attr

def resOfOpt {α : Type} : Option α → Res α
  | some v => .ok v
  | none => .error .notFound

def isIdent : Tok → Bool
  | .ident _ => true
  | _ => false

def isLit : Tok → Bool
  | .lit _ => true
  | .litOther _ => true
  | _ => false

theorem scanAttr_skip (k : String) (t : Tok) (T : List Tok) (h : isIdent t = false) :
    scanAttr k (t :: T) = scanAttr k T := by
  rw [scanAttr.eq_def]; cases t <;> simp_all [isIdent]

@[simp] theorem scanAttr_punct (k : String) (c : Char) (T : List Tok) :
    scanAttr k (.punct c :: T) = scanAttr k T := scanAttr_skip k _ T rfl
@[simp] theorem scanAttr_lit (k v : String) (T : List Tok) :
    scanAttr k (.lit v :: T) = scanAttr k T := scanAttr_skip k _ T rfl
@[simp] theorem scanAttr_litOther (k v : String) (T : List Tok) :
    scanAttr k (.litOther v :: T) = scanAttr k T := scanAttr_skip k _ T rfl
@[simp] theorem scanAttr_group (k : String) (d : Delim) (ts T : List Tok) :
    scanAttr k (.group d ts :: T) = scanAttr k T := scanAttr_skip k _ T rfl

theorem scanAttr_ident_ne (k s : String) (T : List Tok) (h : s ≠ k) :
    scanAttr k (.ident s :: T) = scanAttr k T := by
  rw [scanAttr.eq_def]; simp only [h, if_false]

@[simp] theorem scanAttr_key_nil (k : String) : scanAttr k [.ident k] = .error .notFound := by
  rw [scanAttr.eq_def]; simp

@[simp] theorem scanAttr_key_one (k : String) (t : Tok) : scanAttr k [.ident k, t] = .error .notFound := by
  rw [scanAttr.eq_def]; simp

@[simp] theorem scanAttr_key_lit (k v : String) (t : Tok) (T : List Tok) :
    scanAttr k (.ident k :: t :: .lit v :: T) = .ok v := by
  rw [scanAttr.eq_def]; simp

@[simp] theorem scanAttr_key_litOther (k v : String) (t : Tok) (T : List Tok) :
    scanAttr k (.ident k :: t :: .litOther v :: T) = .error .badLiteral := by
  rw [scanAttr.eq_def]; simp

theorem scanAttr_key_other (k : String) (t u : Tok) (T : List Tok) (h : isLit u = false) :
    scanAttr k (.ident k :: t :: u :: T) = scanAttr k T := by
  rw [scanAttr.eq_def]; cases u <;> simp_all [isLit]

@[simp] theorem scanAttr_key_punct (k : String) (t : Tok) (c : Char) (T : List Tok) :
    scanAttr k (.ident k :: t :: .punct c :: T) = scanAttr k T := scanAttr_key_other k t _ T rfl
@[simp] theorem scanAttr_key_ident (k s : String) (t : Tok) (T : List Tok) :
    scanAttr k (.ident k :: t :: .ident s :: T) = scanAttr k T := scanAttr_key_other k t _ T rfl
@[simp] theorem scanAttr_key_group (k : String) (t : Tok) (d : Delim) (ts T : List Tok) :
    scanAttr k (.ident k :: t :: .group d ts :: T) = scanAttr k T := scanAttr_key_other k t _ T rfl

theorem scanAttr_body (k : String) (st : Style) (i : Item) (T : List Tok) :
    scanAttr k (i.body st ++ T) = scanAttr k T := by
  cases i <;> simp [Item.body]

theorem scanAttr_sep (k : String) (st : Style) (rest : List Item) (T : List Tok) :
    scanAttr k (sep st rest ++ T) = scanAttr k T := by
  cases rest with
  | nil => cases ht : st.trailing <;> simp [sep, comma, ht]
  | cons j r => simp [sep, comma]

theorem lookupKv_head_ne (k : String) (i : Item) (rest : List Item) (h : i.head ≠ k) :
    lookupKv k (i :: rest) = lookupKv k rest := by
  cases i <;> simp_all [lookupKv, Item.head]

theorem noFlagThenKv_tail (k : String) (i : Item) (rest : List Item) (h : NoFlagThenKv k (i :: rest) = true) :
    NoFlagThenKv k rest = true := by
  cases rest with
  | nil => simp [NoFlagThenKv]
  | cons j r => cases i <;> cases j <;> simp_all [NoFlagThenKv]

theorem scanAttr_render (st : Style) (k : String) :
    ∀ items, NoFlagThenKv k items = true → scanAttr k (render st items) = resOfOpt (lookupKv k items)
  | [], _ => rfl
  | i :: rest, h => by
    have ht := noFlagThenKv_tail k i rest h
    by_cases hk : i.head = k
    · cases i with
      | kv k' v =>
        simp only [Item.head] at hk
        subst hk
        simp [render, renderItem, Item.head, Item.body, lookupKv, resOfOpt]
      | flag f =>
        simp only [Item.head] at hk
        subst hk
        cases rest with
        | nil => cases ht : st.trailing <;> simp [render, renderItem, Item.head, Item.body, sep, comma, lookupKv, resOfOpt, ht]
        | cons j rest' =>
          have ht' := noFlagThenKv_tail f j rest' ht
          have ih := scanAttr_render st f rest' ht'
          have hj : lookupKv f (j :: rest') = lookupKv f rest' := by
            cases j <;> simp_all [lookupKv, NoFlagThenKv]
          have e : render st (Item.flag f :: j :: rest') =
              .ident f :: comma :: .ident j.head :: (j.body st ++ (sep st rest' ++ render st rest')) := by
            simp [render, renderItem, Item.head, Item.body, sep]
          rw [e, comma, scanAttr_key_ident, scanAttr_body, scanAttr_sep, ih]
          simp [lookupKv, hj]
      | listAttr k' vs =>
        simp only [Item.head] at hk
        subst hk
        have ih := scanAttr_render st k' rest ht
        cases rest with
        | nil => cases ht : st.trailing <;> simp [render, renderItem, Item.head, Item.body, sep, comma, lookupKv, resOfOpt, ht, scanAttr]
        | cons j rest' =>
          have e : render st (Item.listAttr k' vs :: j :: rest') =
              .ident k' :: .group st.delim (renderVals st.listTrailing vs) :: .punct ',' :: render st (j :: rest') := by
            simp [render, renderItem, Item.head, Item.body, sep, comma]
          rw [e, scanAttr_key_punct, ih]
          simp [lookupKv]
    · have ih := scanAttr_render st k rest ht
      simp only [render, renderItem, List.cons_append]
      rw [scanAttr_ident_ne _ _ _ hk, scanAttr_body, scanAttr_sep, ih, lookupKv_head_ne _ _ _ hk]

/-! ### `ident_exists` and `extract_attr_list` on rendered attributes -/

theorem identExistsToks_append (f : String) (A B : List Tok) :
    identExistsToks f (A ++ B) = (identExistsToks f A || identExistsToks f B) := by
  induction A with
  | nil => simp [identExistsToks]
  | cons t A ih =>
    cases t <;> simp [identExistsToks, ih, Bool.or_assoc]

theorem identExistsToks_body (f : String) (st : Style) (i : Item) : identExistsToks f (i.body st) = false := by
  cases i <;> simp [Item.body, identExistsToks]

theorem identExistsToks_sep (f : String) (st : Style) (rest : List Item) : identExistsToks f (sep st rest) = false := by
  cases rest with
  | nil => cases ht : st.trailing <;> simp [sep, comma, identExistsToks, ht]
  | cons j r => simp [sep, comma, identExistsToks]

theorem identExistsToks_render (st : Style) (f : String) (items : List Item) :
    identExistsToks f (render st items) = (items.map Item.head).contains f := by
  induction items with
  | nil => simp [render, identExistsToks]
  | cons i rest ih =>
    simp only [render, renderItem, List.cons_append, identExistsToks, identExistsToks_append,
      identExistsToks_body, identExistsToks_sep, ih, List.map_cons, List.contains_cons, Bool.false_or]
    by_cases h : i.head = f
    · simp [h]
    · have h' : ¬ f = i.head := fun e => h e.symm
      simp [h, h']

theorem groupLits_renderVals (lt : Bool) (vs : List String) : groupLits (renderVals lt vs) = .ok vs := by
  induction vs with
  | nil => simp [renderVals, groupLits]
  | cons v rest ih =>
    cases rest with
    | nil => cases lt <;> simp [renderVals, groupLits, comma]
    | cons w r => simp only [renderVals, groupLits, comma] at ih ⊢; simp [ih]

theorem scanAttrList_skip (k : String) (t : Tok) (T : List Tok) (h : isIdent t = false) :
    scanAttrList k (t :: T) = scanAttrList k T := by
  rw [scanAttrList.eq_def]; cases t <;> simp_all [isIdent]

@[simp] theorem scanAttrList_punct (k : String) (c : Char) (T : List Tok) :
    scanAttrList k (.punct c :: T) = scanAttrList k T := scanAttrList_skip k _ T rfl
@[simp] theorem scanAttrList_lit (k v : String) (T : List Tok) :
    scanAttrList k (.lit v :: T) = scanAttrList k T := scanAttrList_skip k _ T rfl
@[simp] theorem scanAttrList_group (k : String) (d : Delim) (ts T : List Tok) :
    scanAttrList k (.group d ts :: T) = scanAttrList k T := scanAttrList_skip k _ T rfl

theorem scanAttrList_ident_ne (k s : String) (T : List Tok) (h : s ≠ k) :
    scanAttrList k (.ident s :: T) = scanAttrList k T := by
  rw [scanAttrList.eq_def]; simp only [h, if_false]

@[simp] theorem scanAttrList_nil (k : String) : scanAttrList k [] = .error .notFound := by
  rw [scanAttrList.eq_def]; simp [finishList]

@[simp] theorem scanAttrList_key_nil (k : String) : scanAttrList k [.ident k] = .error .notFound := by
  rw [scanAttrList.eq_def]; simp [finishList]

@[simp] theorem scanAttrList_key_group (k : String) (d : Delim) (ts T : List Tok) :
    scanAttrList k (.ident k :: .group d ts :: T) = groupLits ts := by
  rw [scanAttrList.eq_def]; simp

@[simp] theorem scanAttrList_key_punct (k : String) (c : Char) (T : List Tok) :
    scanAttrList k (.ident k :: .punct c :: T) = scanAttrList k T := by
  rw [scanAttrList.eq_def]; simp

theorem scanAttrList_body (k : String) (st : Style) (i : Item) (T : List Tok) :
    scanAttrList k (i.body st ++ T) = scanAttrList k T := by
  cases i <;> simp [Item.body]

theorem scanAttrList_sep (k : String) (st : Style) (rest : List Item) (T : List Tok) :
    scanAttrList k (sep st rest ++ T) = scanAttrList k T := by
  cases rest with
  | nil => cases ht : st.trailing <;> simp [sep, comma, ht]
  | cons j r => simp [sep, comma]

theorem lookupList_head_ne (k : String) (i : Item) (rest : List Item) (h : i.head ≠ k) :
    lookupList k (i :: rest) = lookupList k rest := by
  cases i <;> simp_all [lookupList, Item.head]

/-- the list scanner stays on item boundaries for *every* item list (no side condition) -/
theorem scanAttrList_render (st : Style) (k : String) (items : List Item) :
    scanAttrList k (render st items) = resOfOpt (lookupList k items) := by
  induction items with
  | nil => simp [render, lookupList, resOfOpt]
  | cons i rest ih =>
    by_cases hk : i.head = k
    · cases i with
      | kv k' v =>
        simp only [Item.head] at hk
        subst hk
        simp only [render, renderItem, Item.head, Item.body, List.cons_append, List.nil_append,
          scanAttrList_key_punct, scanAttrList_lit, scanAttrList_sep, ih, lookupList]
      | flag f =>
        simp only [Item.head] at hk
        subst hk
        cases rest with
        | nil => cases ht : st.trailing <;> simp [render, renderItem, Item.head, Item.body, sep, comma, lookupList, resOfOpt, ht]
        | cons j rest' =>
          have e : render st (Item.flag f :: j :: rest') = .ident f :: .punct ',' :: render st (j :: rest') := by
            simp [render, renderItem, Item.head, Item.body, sep, comma]
          rw [e, scanAttrList_key_punct, ih]; simp [lookupList]
      | listAttr k' vs =>
        simp only [Item.head] at hk
        subst hk
        simp [render, renderItem, Item.head, Item.body, groupLits_renderVals, lookupList, resOfOpt]
    · simp only [render, renderItem, List.cons_append]
      rw [scanAttrList_ident_ne _ _ _ hk, scanAttrList_body, scanAttrList_sep, ih, lookupList_head_ne _ _ _ hk]

/-! ### lookups versus membership -/

theorem lookupKv_mem (k v : String) (items : List Item) (h : lookupKv k items = some v) : Item.kv k v ∈ items := by
  induction items with
  | nil => simp [lookupKv] at h
  | cons i rest ih =>
    cases i with
    | kv k' v' =>
      by_cases hk : k' = k
      · subst hk; simp [lookupKv] at h; simp [h]
      · simp [lookupKv, hk] at h; simp [ih h]
    | flag f => simp [lookupKv] at h; simp [ih h]
    | listAttr k' vs => simp [lookupKv] at h; simp [ih h]

theorem mem_head (i : Item) (items : List Item) (h : i ∈ items) : i.head ∈ items.map Item.head :=
  List.mem_map_of_mem h

theorem lookupKv_of_mem (k v : String) (items : List Item) (wf : WfItems items) (h : Item.kv k v ∈ items) :
    lookupKv k items = some v := by
  induction items with
  | nil => simp at h
  | cons i rest ih =>
    have wf' : WfItems rest := by unfold WfItems at wf ⊢; exact (List.nodup_cons.mp wf).2
    have hn : i.head ∉ rest.map Item.head := by unfold WfItems at wf; exact (List.nodup_cons.mp wf).1
    rcases List.mem_cons.mp h with e | hr
    · subst e; simp [lookupKv]
    · have hk : i.head ≠ k := fun e => hn (e ▸ mem_head _ _ hr)
      rw [lookupKv_head_ne _ _ _ hk]; exact ih wf' hr

theorem lookupList_mem (k : String) (vs : List String) (items : List Item) (h : lookupList k items = some vs) :
    Item.listAttr k vs ∈ items := by
  induction items with
  | nil => simp [lookupList] at h
  | cons i rest ih =>
    cases i with
    | listAttr k' vs' =>
      by_cases hk : k' = k
      · subst hk; simp [lookupList] at h; simp [h]
      · simp [lookupList, hk] at h; simp [ih h]
    | flag f => simp [lookupList] at h; simp [ih h]
    | kv k' v => simp [lookupList] at h; simp [ih h]

theorem lookupList_of_mem (k : String) (vs : List String) (items : List Item) (wf : WfItems items)
    (h : Item.listAttr k vs ∈ items) : lookupList k items = some vs := by
  induction items with
  | nil => simp at h
  | cons i rest ih =>
    have wf' : WfItems rest := by unfold WfItems at wf ⊢; exact (List.nodup_cons.mp wf).2
    have hn : i.head ∉ rest.map Item.head := by unfold WfItems at wf; exact (List.nodup_cons.mp wf).1
    rcases List.mem_cons.mp h with e | hr
    · subst e; simp [lookupList]
    · have hk : i.head ≠ k := fun e => hn (e ▸ mem_head _ _ hr)
      rw [lookupList_head_ne _ _ _ hk]; exact ih wf' hr

theorem noFlagThenKv_of_wf (k : String) : ∀ items, WfItems items → NoFlagThenKv k items = true
  | [], _ => rfl
  | [i], _ => by cases i <;> simp [NoFlagThenKv]
  | i :: j :: rest, wf => by
    have wf' : WfItems (j :: rest) := by unfold WfItems at wf ⊢; exact (List.nodup_cons.mp wf).2
    have hne : i.head ≠ j.head := by
      unfold WfItems at wf
      have := (List.nodup_cons.mp wf).1
      intro e; apply this; simp [e]
    have ih := noFlagThenKv_of_wf k (j :: rest) wf'
    cases i <;> cases j <;> simp_all [NoFlagThenKv, Item.head]
    rename_i f k' v
    by_cases e1 : f = k
    · right; intro e2; exact hne (e1.trans e2.symm)
    · left; exact e1

theorem noFlagThenKv_of_absent (k : String) : ∀ items, (∀ v, Item.kv k v ∉ items) → NoFlagThenKv k items = true
  | [], _ => rfl
  | [i], _ => by cases i <;> simp [NoFlagThenKv]
  | i :: j :: rest, h => by
    have ih := noFlagThenKv_of_absent k (j :: rest) (fun v hm => h v (List.mem_cons_of_mem _ hm))
    cases i <;> cases j <;> simp_all [NoFlagThenKv]
    rename_i f k' v
    right; intro e; exact (h v).1 e.symm rfl

theorem lookupKv_none_of_absent (k : String) (items : List Item) (h : ∀ v, Item.kv k v ∉ items) :
    lookupKv k items = none := by
  cases e : lookupKv k items with
  | none => rfl
  | some v => exact absurd (lookupKv_mem k v items e) (h v)

/-! ### the `DeriveInput` level -/

theorem findGraphql_first (pre post : List Attribute) (a : Attribute) (ha : a.path = "graphql")
    (hpre : ∀ b ∈ pre, b.path ≠ "graphql") : findGraphql (pre ++ a :: post) = some a := by
  induction pre with
  | nil => simp [findGraphql, ha]
  | cons b pre ih =>
    have hb : b.path ≠ "graphql" := hpre b (by simp)
    have := ih (fun c hc => hpre c (by simp [hc]))
    simp only [List.cons_append, findGraphql, hb, if_false]
    exact this

theorem findGraphql_mkInput (pre post : List Attribute) (st : Style) (items : List Item)
    (hpre : ∀ a ∈ pre, a.path ≠ "graphql") :
    findGraphql (mkInput pre st items post) = some { path := "graphql", tokens := some (render st items) } := by
  induction pre with
  | nil => simp [mkInput, findGraphql]
  | cons a pre ih =>
    have ha : a.path ≠ "graphql" := hpre a (by simp)
    have := ih (fun b hb => hpre b (by simp [hb]))
    simp only [mkInput, List.cons_append, findGraphql, ha, if_false] at this ⊢
    exact this

/-! ### side conditions and field lemmas of the option building -/

def NoGraphql (pre : List Attribute) : Prop := ∀ a ∈ pre, a.path ≠ "graphql"

instance (pre : List Attribute) : Decidable (NoGraphql pre) := by unfold NoGraphql; infer_instance

def NotKey (f : String) (items : List Item) : Prop := ∀ i ∈ items, i.head = f → i = Item.flag f

instance (f : String) (items : List Item) : Decidable (NotKey f items) := by unfold NotKey; infer_instance

theorem derive_congr (dir : Option String) (pathOk : String → Bool) (a b : Input)
    (h1 : ∀ k, extractAttr a k = extractAttr b k) (h2 : ∀ f, identExists a f = identExists b f)
    (h3 : ∀ k, extractAttrList a k = extractAttrList b k) : derive dir pathOk a = derive dir pathOk b := by
  simp only [derive, buildPaths, buildOptions, extractDeprecationStrategy, extractNormalization,
    extractFragmentsOtherVariant, extractSkipSerializingNone, h1, h2, h3]

@[simp] theorem toOption_resOfOpt {α : Type} (o : Option α) : toOption (resOfOpt o) = o := by
  cases o <;> rfl

theorem parseDeprecation_eq_spec (s : String) : parseDeprecation s = specDeprecation s := by
  simp only [parseDeprecation, specDeprecation, List.lookup]
  repeat' split
  all_goals simp_all

theorem parseNormalization_eq_spec (s : String) : parseNormalization s = specNormalization s := by
  simp only [parseNormalization, specNormalization, List.lookup]
  repeat' split
  all_goals simp_all

theorem pathJoin_relative (dir p : List Char) (hd : dir ≠ []) (hs : dir.getLast? ≠ some '/')
    (hp : p.head? ≠ some '/') : pathJoin dir p = dir ++ '/' :: p := by
  unfold pathJoin
  split
  · simp at hp
  · cases h : dir.getLast? with
    | none => simp [List.getLast?_eq_none_iff] at h; exact absurd h hd
    | some c =>
      have : c ≠ '/' := fun e => hs (by rw [h, e])
      simp [this]

def DirOk (d : String) : Prop := d.toList ≠ [] ∧ d.toList.getLast? ≠ some '/'
def Relative (p : String) : Prop := p.toList.head? ≠ some '/'
instance (d : String) : Decidable (DirOk d) := by unfold DirOk; infer_instance
instance (p : String) : Decidable (Relative p) := by unfold Relative; infer_instance

theorem buildOptions_defaults (pathOk : String → Bool) (input : Input) (q : List Char) (o : Options)
    (e1 : extractAttr input "deprecated" = .error .notFound)
    (e2 : extractAttr input "normalization" = .error .notFound)
    (e3 : extractAttr input "fragments_other_variant" = .error .notFound)
    (e4 : identExists input "skip_serializing_none" = .error .notFound)
    (h : buildOptions pathOk input q = .ok o) :
    o.effectiveDeprecation = .warn ∧ o.normalization = .none ∧
    o.fragmentsOtherVariant = false ∧ o.skipSerializingNone = false := by
  simp only [buildOptions, extractDeprecationStrategy, extractNormalization,
    extractFragmentsOtherVariant, extractSkipSerializingNone, e1, e2, e3, e4, toOption] at h
  cases hc : extractAttr input "custom_scalars_module" with
  | error e =>
    simp only [hc] at h
    injection h with h; subst h; simp [Options.effectiveDeprecation, Options.new]
  | ok m =>
    simp only [hc] at h
    cases hp : pathOk m
    · simp [hp] at h
    · simp only [hp, if_true] at h
      injection h with h; subst h; simp [Options.effectiveDeprecation, Options.new]

@[simp] theorem resOfOpt_some {α : Type} (v : α) : resOfOpt (some v) = .ok v := rfl
@[simp] theorem resOfOpt_none {α : Type} : (resOfOpt (none : Option α)) = .error .notFound := rfl

theorem fov_eq (input : Input) (o : Option String)
    (h : extractAttr input "fragments_other_variant" = resOfOpt o) :
    extractFragmentsOtherVariant input = decide (o = some "true") := by
  unfold extractFragmentsOtherVariant; rw [h]
  cases o with
  | none => simp
  | some v =>
    by_cases h1 : v = "true"
    · simp [parseBool, h1]
    · by_cases h2 : v = "false" <;> simp [parseBool, h1, h2]

theorem skip_eq (input : Input) (b : Bool)
    (h : identExists input "skip_serializing_none" = if b then .ok () else .error .notFound) :
    extractSkipSerializingNone input = b := by
  unfold extractSkipSerializingNone; rw [h]; cases b <;> simp

theorem depr_eq (input : Input) (o : Option String) (h : extractAttr input "deprecated" = resOfOpt o) :
    toOption (extractDeprecationStrategy input) = o.bind specDeprecation := by
  unfold extractDeprecationStrategy; rw [h]
  cases o with
  | none => simp [toOption]
  | some v => simp only [resOfOpt_some, parseDeprecation_eq_spec, Option.bind_some]; cases specDeprecation v <;> simp [toOption]

theorem norm_eq (input : Input) (o : Option String) (h : extractAttr input "normalization" = resOfOpt o) :
    toOption (extractNormalization input) = o.bind specNormalization := by
  unfold extractNormalization; rw [h]
  cases o with
  | none => simp [toOption]
  | some v => simp only [resOfOpt_some, parseNormalization_eq_spec, Option.bind_some]; cases specNormalization v <;> simp [toOption]

theorem hasFlag_eq_head (f : String) (items : List Item) (nk : NotKey f items) :
    (items.map Item.head).contains f = hasFlag f items := by
  unfold hasFlag
  rw [Bool.eq_iff_iff]
  simp only [List.contains_iff_mem, List.mem_map]
  constructor
  · rintro ⟨i, hi, e⟩; exact nk i hi e ▸ hi
  · intro h; exact ⟨_, h, rfl⟩


end C18
end GqlVerif
