import GqlVerif.Proofs.C02Complete
import GqlVerif.Proofs.C02Response
/-!
# C02 (first half) — code generation succeeds on what `resolve` accepts

* **`codegen_succeeds`**: `SchemaWf s`, `SchemaWfGen s`, `QueryWf s q`, `VarsGenOk s q`, `op < q.operations.length`
  ⇒ `Codegen.responseForQuery ⟨s, q, o, cs⟩ op = .ok items` — for **all** options `o` and case functions `cs`
  (no condition on options is needed for success).
* **`generate_succeeds`**: with `resolve s d = .ok q`, `Codegen.generate s cs o text d = .ok ms` with `ms.length` =
  number of operations (CLI mode, no selected operation) or 1 (an operation is selected: derive mode with a
  matching struct name, or `--selected-operation`), as computed by `selectedOps`.
* **`resolve_queryWf`**: `SchemaWf s → resolve s d = .ok q → QueryWf s q` (every field id, type id and fragment id
  of the resolved tree is in range; variables have existing types), and **`varsGenOk_of_doc`**: the condition on
  variables can be checked on the document (`DocVarsOk`), through `resolve_vars` (every resolved variable is the
  resolved form of a variable definition of the document).

Conditions (all decidable `Bool`s), each with a witness that it cannot be dropped (`w_*` at the end; the model
**panics**):
* `SchemaWfGen s`: no output field has an input-object type (`w_input_typed_field`: "field selection on input
  type"); no field / input-field type `T!!` (`w_double_required`); union members are ids in range
  (`w_dangling_variant`); `@oneOf` input fields are nullable (`w_oneof_nonnull`: SDL-expressible, panics with
  "double required annotation").
* `VarsGenOk s q` / `DocVarsOk s d`: no variable of type `T!!` (`w_var_double_required`; not expressible in
  GraphQL syntax, expressible in the AST); the default-value literal passes `literalOk` — it has no `null` at a
  NON-NULL position (`null` at a nullable position is rendered as `None` since the repair of the generator) and
  no variable at any position the code looks at (`w_default_null`, `w_default_var`, `w_default_null_nested`),
  and is nested less than 64 levels (a bound of the model, not of the code).  `docVarsOk_of_plain`: the purely
  syntactic `DocVarsPlain d` (no `T!!`; default literals without `null` / variables anywhere, nesting ≤ 64 — or the
  literal `null` itself for a variable of nullable type; `null` deeper inside a literal is not covered by the
  syntactic condition, which does not look at types: use `DocVarsOk`) implies `DocVarsOk s d` (`literalOk_plain`).

Method: `Ret P r` ("`r` is a success satisfying `P`, or the model ran out of fuel") is proved compositionally for
`allUsedTypes` (`allUsedTypes_ret`: the used set only contains existing types and fragments) and for the four
mutual `calc*` functions at *any* fuel (`calc_ret`, simultaneous induction); the fuel theorems of
`Proofs/C02Closure.lean` (`calcSelection_clean`, `clean_allUsedTypes`) then turn `Ret` into `.ok`.
-/
namespace GqlVerif
namespace C02Gen
open Codegen C02Complete
open C02 (getEnum_some getScalar_some getInput_some getFragment_some getOperation_some mapM_total_len filterMapM_total)

/-! ## outcomes that are neither a panic nor an error -/

/-- `r` is a success whose value satisfies `P`, or the model ran out of fuel (excluded separately by the
    fuel theorems of `C02Closure`); never `panic`, `error`, `diverge` -/
def Ret {α} (P : α → Prop) (r : Outcome α) : Prop :=
  match r with
  | .ok a => P a
  | .error (.unmodelled _) => True
  | .error _ => False

theorem Ret.ok {α} {P : α → Prop} {a : α} (h : P a) : Ret P (.ok a) := h
theorem Ret.unmodelled {α} {P : α → Prop} (w : String) : Ret P (.error (.unmodelled w) : Outcome α) := trivial

/-- `Ret` in terms of the generic classification of outcomes -/
theorem ret_iff {α} {P : α → Prop} {r : Outcome α} : Ret P r ↔ C02.Sat (fun e => ∃ w, e = .unmodelled w) P r := by
  cases r with
  | ok a => exact Iff.rfl
  | error e => cases e <;> simp [Ret, C02.Sat]

theorem Ret.bind {α β} {P : α → Prop} {Q : β → Prop} {x : Outcome α} {f : α → Outcome β}
    (hx : Ret P x) (hf : ∀ a, x = .ok a → P a → Ret Q (f a)) : Ret Q (x >>= f) :=
  ret_iff.2 ((ret_iff.1 hx).bind (fun a ha hp => ret_iff.1 (hf a ha hp)))

theorem Ret.mono {α} {P Q : α → Prop} {x : Outcome α} (hx : Ret P x) (h : ∀ a, P a → Q a) : Ret Q x :=
  ret_iff.2 ((ret_iff.1 hx).mono (fun _ he => he) h)

theorem Ret.map {α β} {P : α → Prop} {Q : β → Prop} {x : Outcome α} {f : α → β}
    (hx : Ret P x) (h : ∀ a, P a → Q (f a)) : Ret Q (f <$> x) :=
  ret_iff.2 ((ret_iff.1 hx).map h)

theorem Ret.true {α} {P : α → Prop} {x : Outcome α} (hx : Ret P x) : Ret (fun _ => True) x := hx.mono (fun _ _ => trivial)

theorem Ret.ok_of_clean {α} {P : α → Prop} {x : Outcome α} (hx : Ret P x) (hc : C02.Clean x) : ∃ a, x = .ok a ∧ P a := by
  cases x with
  | ok a => exact ⟨a, rfl, hx⟩
  | error e => cases e <;> first | exact hx.elim | exact absurd rfl (hc _)

theorem Ret.of_ok {α} {P : α → Prop} {x : Outcome α} {a : α} (h : x = .ok a) (hp : P a) : Ret P x := by
  rw [h]; exact hp

theorem ret_foldlM {α β} {P : β → Prop} (f : β → α → Outcome β) (l : List α) (b : β)
    (h : ∀ b x, x ∈ l → P b → Ret P (f b x)) (hb : P b) : Ret P (l.foldlM f b) :=
  ret_iff.2 (C02.sat_foldlM f l b (fun b x hx hp => ret_iff.1 (h b x hx hp)) hb)

theorem ret_mapM {α β} {Q : β → Prop} (f : α → Outcome β) (l : List α) (h : ∀ x ∈ l, Ret Q (f x)) :
    Ret (fun ys => ∀ y ∈ ys, Q y) (l.mapM f) :=
  ret_iff.2 (C02.sat_mapM f l (fun x hx => ret_iff.1 (h x hx)))

theorem ret_filterMapM {α β} (f : α → Outcome (Option β)) (l : List α)
    (h : ∀ x ∈ l, Ret (fun _ => True) (f x)) : Ret (fun _ => True) (l.filterMapM f) :=
  ret_iff.2 (C02.sat_filterMapM f l (fun x hx => ret_iff.1 (h x hx)))

/-! ## `decorate_type` -/

/-- no two adjacent `!` (`T!!` is not expressible in GraphQL syntax; the `Schema` record allows it) -/
def qualsOk : List Qual → Bool
  | .required :: .required :: _ => false
  | _ :: rest => qualsOk rest
  | [] => true

theorem qualsOk_cons {q : Qual} {rest : List Qual} (h : qualsOk (q :: rest) = true) :
    qualsOk rest = true ∧ ¬ (q = .required ∧ rest.head? = some .required) := by
  cases q <;> cases rest with
  | nil => simp [qualsOk]
  | cons r rest => cases r <;> simp_all [qualsOk]

theorem decState_ok (base : RTy) : ∀ (quals : List Qual), qualsOk quals = true →
    ∃ t nn, quals.reverse.foldlM decorateStep (base, false) = .ok (t, nn) ∧ (nn = true ↔ quals.head? = some .required)
  | [], _ => ⟨base, false, rfl, by simp⟩
  | q :: rest, h => by
    obtain ⟨hr, hq⟩ := qualsOk_cons h
    obtain ⟨t, nn, ht, hnn⟩ := decState_ok base rest hr
    rw [List.reverse_cons, List.foldlM_append, ht]
    cases q with
    | list =>
      cases nn <;> simp [decorateStep, List.foldlM, bind, Except.bind, pure, Except.pure]
    | required =>
      cases nn with
      | false => simp [decorateStep, List.foldlM, bind, Except.bind, pure, Except.pure]
      | true => exact absurd ⟨rfl, hnn.mp rfl⟩ hq

theorem decorateType_ok (base : RTy) (quals : List Qual) (h : qualsOk quals = true) :
    ∃ t, decorateType base quals = .ok t := by
  obtain ⟨t, nn, ht, _⟩ := decState_ok base quals h
  unfold decorateType
  rw [ht]
  exact ⟨_, rfl⟩

theorem ret_renderField (c : Ctx) (g : Option String) (r ft : String) (quals : List Qual) (fl bx : Bool)
    (dep : Option (Option String)) (h : qualsOk quals = true) :
    Ret (fun _ => True) (renderField c g r ft quals fl bx dep) := by
  obtain ⟨t, ht⟩ := decorateType_ok (.path ft) quals h
  unfold renderField
  rw [ht]
  simp only [bind, Except.bind]
  split <;> trivial


/-! ## well-formedness needed by code generation -/

/-- beyond `SchemaWf`: what `response_for_query` needs of a schema never to panic -/
def SchemaWfGen (s : Schema) : Bool :=
  s.fields.all (fun f => f.ty.id.asInput?.isNone && qualsOk f.ty.quals) &&
  s.unions.all (fun u => u.variants.all (tyOk s)) &&
  s.inputs.all (fun i => i.fields.all (fun p => tyOk s p.2.id && qualsOk p.2.quals &&
    (!i.isOneOf || p.2.quals.head? != some .required)))

structure WfG (s : Schema) : Prop where
  noInput : ∀ f ∈ s.fields, ∀ j, f.ty.id ≠ .input j
  fieldQuals : ∀ f ∈ s.fields, qualsOk f.ty.quals = true
  variants : ∀ u ∈ s.unions, ∀ v ∈ u.variants, tyOk s v = true
  inputTy : ∀ i ∈ s.inputs, ∀ p ∈ i.fields, tyOk s p.2.id = true
  inputQuals : ∀ i ∈ s.inputs, ∀ p ∈ i.fields, qualsOk p.2.quals = true
  oneOf : ∀ i ∈ s.inputs, i.isOneOf = true → ∀ p ∈ i.fields, p.2.quals.head? ≠ some .required

theorem wfG_of {s : Schema} (h : SchemaWfGen s = true) : WfG s := by
  unfold SchemaWfGen at h
  simp only [Bool.and_eq_true, List.all_eq_true, Bool.or_eq_true, Bool.not_eq_true'] at h
  obtain ⟨⟨h1, h2⟩, h3⟩ := h
  refine ⟨?_, fun f hf => (h1 f hf).2, h2, fun i hi p hp => (h3 i hi p hp).1.1, fun i hi p hp => (h3 i hi p hp).1.2, ?_⟩
  · intro f hf j hj
    have := (h1 f hf).1
    rw [hj] at this
    simp [TypeId.asInput?] at this
  · intro i hi ho p hp
    have := (h3 i hi p hp).2
    rw [ho] at this
    simpa using this

mutual
  def selWf (s : Schema) (nf : Nat) : Sel → Bool
    | .field _ fid sub => decide (fid < s.fields.length) && selsWf s nf sub
    | .inline t sub => tyOk s t && selsWf s nf sub
    | .spread fid => decide (fid < nf)
    | .typename => true
  def selsWf (s : Schema) (nf : Nat) : List Sel → Bool
    | [] => true
    | x :: xs => selWf s nf x && selsWf s nf xs
end

/-- the resolved query only refers to existing fields, types and fragments -/
def QueryWf (s : Schema) (q : Query) : Bool :=
  q.fragments.all (fun f => tyOk s f.on && selsWf s q.fragments.length f.sels) &&
  q.operations.all (fun o => tyOk s (.object o.objectId) && selsWf s q.fragments.length o.sels) &&
  q.variables.all (fun v => tyOk s v.ty.id)

theorem selsWf_mem {s : Schema} {nf : Nat} : ∀ {l : List Sel} {x : Sel}, selsWf s nf l = true → x ∈ l → selWf s nf x = true
  | [], _, _, h => by cases h
  | y :: ys, x, hl, h => by
    rw [selsWf] at hl
    simp only [Bool.and_eq_true] at hl
    rcases List.mem_cons.mp h with rfl | h
    · exact hl.1
    · exact selsWf_mem hl.2 h

theorem typeName_ok {s : Schema} {t : TypeId} (h : tyOk s t = true) : ∃ n, s.typeName t = .ok n := by
  cases t <;> simp only [tyOk, decide_eq_true_eq] at h <;> simp only [Schema.typeName]
  · rw [C02.getObject_some h]; exact ⟨_, rfl⟩
  · rw [getScalar_some h]; exact ⟨_, rfl⟩
  · rw [C02.getInterface_some h]; exact ⟨_, rfl⟩
  · rw [C02.getUnion_some h]; exact ⟨_, rfl⟩
  · rw [getEnum_some h]; exact ⟨_, rfl⟩
  · rw [getInput_some h]; exact ⟨_, rfl⟩

theorem ret_typeName {s : Schema} {t : TypeId} (h : tyOk s t = true) : Ret (fun _ => True) (s.typeName t) := by
  obtain ⟨n, hn⟩ := typeName_ok h
  exact Ret.of_ok hn trivial

theorem ret_getFragment {q : Query} {i : Nat} (h : i < q.fragments.length) :
    Ret (fun f => f ∈ q.fragments) (q.getFragment i) :=
  Ret.of_ok (getFragment_some h) (List.getElem_mem h)

theorem variantsOf_ret {s : Schema} (hg : WfG s) {t : TypeId} (h : tyOk s t = true) :
    Ret (fun o => ∀ vts, o = some vts → ∀ vt ∈ vts, tyOk s vt = true) (variantsOf s t) := by
  cases t with
  | interface iid =>
    simp only [variantsOf]
    refine Ret.ok ?_
    intro vts hv vt hvt
    cases hv
    obtain ⟨oid, hoid, rfl⟩ := List.mem_map.mp hvt
    obtain ⟨o, ho, _⟩ := C06.mem_implementors.mp hoid
    simpa [tyOk] using (List.getElem?_eq_some_iff.mp ho).1
  | union uid =>
    have hlt : uid < s.unions.length := by simpa [tyOk] using h
    simp only [variantsOf, C02.getUnion_some hlt, bind, Except.bind]
    refine Ret.ok ?_
    intro vts hv vt hvt
    cases hv
    exact hg.variants _ (List.getElem_mem hlt) vt hvt
  | object i => exact Ret.ok (fun _ h => by cases h)
  | scalar i => exact Ret.ok (fun _ h => by cases h)
  | «enum» i => exact Ret.ok (fun _ h => by cases h)
  | input i => exact Ret.ok (fun _ h => by cases h)

theorem variantSelOf_ret {s : Schema} {q : Query} {ty : TypeId} {x : Sel} (h : selWf s q.fragments.length x = true) :
    Ret (fun _ => True) (variantSelOf q ty x) := by
  cases x with
  | spread fid =>
    have hlt : fid < q.fragments.length := by simpa [selWf] using h
    simp only [variantSelOf, getFragment_some hlt, bind, Except.bind]
    trivial
  | inline t sub => trivial
  | field a b c => trivial
  | typename => trivial


/-! ## the `calc*` block never panics on a well-formed query (any fuel) -/

section Calc
variable (c : Ctx)

/-- the inline fragments among the variant selections are on existing types and have well-formed bodies -/
def VWf (vsels : List VariantSel) : Prop :=
  ∀ t sub, VariantSel.inline t sub ∈ vsels → tyOk c.s t = true ∧ selsWf c.s c.q.fragments.length sub = true

/-- no condition on the value: `Ret T r` says only that `r` is not a panic or an error -/
abbrev T {α : Type} : α → Prop := fun _ => True

/-- `S1 … S4 fuel`: on well-formed arguments `calcSelection` / `calcVariants` / `calcVariantSels` / `calcFields` neither
    panic nor fail at this fuel; `gstep1 … gstep4` carry them from `fuel` to `fuel + 1` -/
def S1 (fuel : Nat) : Prop := ∀ name pfx ty sels, tyOk c.s ty = true → selsWf c.s c.q.fragments.length sels = true →
  Ret T (calcSelection c fuel name pfx ty sels)
def S2 (fuel : Nat) : Prop := ∀ name pfx vsels vts, VWf c vsels → (∀ vt ∈ vts, tyOk c.s vt = true) →
  Ret T (calcVariants c fuel name pfx vsels vts)
def S3 (fuel : Nat) : Prop := ∀ sname pfx vt mine, VWf c mine → Ret T (calcVariantSels c fuel sname pfx vt mine)
def S4 (fuel : Nat) : Prop := ∀ pfx ty sels, selsWf c.s c.q.fragments.length sels = true →
  Ret T (calcFields c fuel pfx ty sels)

theorem gstep4 (hw : Wf c.s) (hg : WfG c.s) (f : Nat) (H1 : S1 c f) (H4 : S4 c f) : S4 c (f + 1) := by
  intro pfx ty sels hsels
  cases sels with
  | nil => rw [calcFields.eq_2 _ _ _ _ (by omega)]; trivial
  | cons x rest =>
    rw [selsWf] at hsels
    simp only [Bool.and_eq_true] at hsels
    have hrest : Ret T (calcFields c f pfx ty rest) := H4 pfx ty rest hsels.2
    have hx := hsels.1
    cases x with
    | field a fid sub =>
      rw [selWf] at hx
      simp only [Bool.and_eq_true, decide_eq_true_eq] at hx
      rw [calcFields.eq_3]
      simp only []
      refine Ret.bind (P := fun sf => sf ∈ c.s.fields) (Ret.of_ok (getField_some hx.1) (List.getElem_mem hx.1)) (fun sf _ hsf => ?_)
      have hty := hw.fieldTy sf hsf
      have hq := hg.fieldQuals sf hsf
      have hni := hg.noInput sf hsf
      have tail : ∀ (x : Option RField × List Item), Ret T (do
          let __x ← (pure x : Outcome _)
          let __x_1 ← calcFields c f pfx ty rest
          pure (__x.fst.toList ++ __x_1.fst, __x.snd ++ __x_1.snd)) :=
        fun x => Ret.bind (P := T) trivial (fun _ _ _ => Ret.bind hrest (fun _ _ _ => trivial))
      cases heq : sf.ty.id with
      | «enum» e =>
        rw [heq] at hty
        simp only []
        refine Ret.bind (P := T) (Ret.of_ok (getEnum_some (by simpa [tyOk] using hty)) trivial) (fun en _ _ => ?_)
        exact Ret.bind (ret_renderField _ _ _ _ _ _ _ _ hq) (fun _ _ _ => tail _)
      | scalar e =>
        rw [heq] at hty
        simp only []
        refine Ret.bind (P := T) (Ret.of_ok (getScalar_some (by simpa [tyOk] using hty)) trivial) (fun en _ _ => ?_)
        exact Ret.bind (ret_renderField _ _ _ _ _ _ _ _ hq) (fun _ _ _ => tail _)
      | input j => exact absurd heq (hni j)
      | _ =>
        rw [heq] at hty
        simp only []
        refine Ret.bind (ret_renderField _ _ _ _ _ _ _ _ hq) (fun _ _ _ => ?_)
        exact Ret.bind (H1 _ _ _ sub hty hx.2) (fun _ _ _ => tail _)
    | spread g =>
      have hlt : g < c.q.fragments.length := by simpa [selWf] using hx
      rw [calcFields.eq_4]
      refine Ret.bind (ret_getFragment hlt) (fun fr _ _ => ?_)
      refine Ret.bind hrest (fun p _ _ => ?_)
      obtain ⟨fs, items⟩ := p
      simp only []
      by_cases hne : (fr.on != ty) = true
      · rw [if_pos hne]; trivial
      · rw [if_neg hne]
        exact Ret.bind (ret_renderField _ _ _ _ _ _ _ _ (by decide)) (fun _ _ _ => trivial)
    | inline t sub => rw [calcFields.eq_5 _ _ _ _ _ _ (by simp) (by simp)]; exact hrest
    | typename => rw [calcFields.eq_5 _ _ _ _ _ _ (by simp) (by simp)]; exact hrest


theorem gstep3 (f : Nat) (H3 : S3 c f) (H4 : S4 c f) : S3 c (f + 1) := by
  intro sname pfx vt mine hI
  cases mine with
  | nil => rw [calcVariantSels.eq_2 _ _ _ _ _ (by omega)]; trivial
  | cons x rest =>
    have hrest : Ret T (calcVariantSels c f sname pfx vt rest) :=
      H3 sname pfx vt rest (fun t sub hm => hI t sub (List.mem_cons_of_mem _ hm))
    cases x with
    | spread g fr =>
      rw [calcVariantSels.eq_5]
      exact Ret.bind (P := T) (ret_renderField _ _ _ _ _ _ _ _ (by decide)) (fun _ _ _ =>
        Ret.bind (P := T) hrest (fun ⟨_, _, _⟩ _ _ => trivial))
    | inline t sub =>
      have ⟨ht, hs⟩ := hI t sub (by simp)
      have hsub : ∀ pfx, Ret T (calcFields c f pfx vt sub) := fun pfx => H4 pfx vt sub hs
      by_cases hsp : ∃ g, sub = [Sel.spread g]
      · obtain ⟨g, rfl⟩ := hsp
        have hlt : g < c.q.fragments.length := by
          simpa [selsWf, selWf] using hs
        rw [calcVariantSels.eq_3]
        simp only []
        refine Ret.bind (P := T) (ret_typeName ht) (fun tn _ _ => ?_)
        exact Ret.bind (P := T) (ret_getFragment hlt).true (fun _ _ _ =>
          Ret.bind (P := T) trivial (fun _ _ _ => Ret.bind (P := T) hrest (fun _ _ _ => trivial)))
      · rw [calcVariantSels.eq_4 _ _ _ _ _ _ _ _ (fun g hg => hsp ⟨g, hg⟩)]
        simp only []
        refine Ret.bind (P := T) (ret_typeName ht) (fun tn _ _ => ?_)
        exact Ret.bind (P := T) (hsub _) (fun _ _ _ =>
          Ret.bind (P := T) trivial (fun _ _ _ => Ret.bind (P := T) hrest (fun _ _ _ => trivial)))

theorem ret_aliasMember (a : Item) : Ret T (aliasMember c a) := by
  unfold aliasMember
  split
  · exact Ret.bind (ret_renderField _ _ _ _ _ _ _ _ (by decide)) (fun _ _ _ => trivial)
  · exact Ret.bind (ret_renderField _ _ _ _ _ _ _ _ (by decide)) (fun _ _ _ => trivial)
  · trivial

theorem gstep2 (f : Nat) (H2 : S2 c f) (H3 : S3 c f) : S2 c (f + 1) := by
  intro name pfx vsels vts hI hvts
  cases vts with
  | nil => rw [calcVariants.eq_2 _ _ _ _ _ (by omega)]; trivial
  | cons vt rest =>
    have hrest : Ret T (calcVariants c f name pfx vsels rest) :=
      H2 name pfx vsels rest hI (fun v hv => hvts v (List.mem_cons_of_mem _ hv))
    have hvt : tyOk c.s vt = true := hvts vt List.mem_cons_self
    have hmine : ∀ sname, Ret T (calcVariantSels c f sname pfx vt (vsels.filter (fun v => v.typeId == vt))) :=
      fun sname => H3 sname pfx vt _ (fun t sub hm => hI t sub (List.mem_filter.mp hm).1)
    rw [calcVariants.eq_3]
    simp only []
    refine Ret.bind (P := T) (ret_typeName hvt) (fun vname _ _ => ?_)
    -- every way of building this variant ends in the same continuation
    have tail : ∀ (x : RVariant × List Item), Ret T (do
        let __x ← (pure x : Outcome _)
        let __x_1 ← calcVariants c f name pfx vsels rest
        pure (__x.fst :: __x_1.fst, __x.snd ++ __x_1.snd)) :=
      fun x => Ret.bind (P := T) trivial (fun _ _ _ => Ret.bind (P := T) hrest (fun _ _ _ => trivial))
    split
    · exact tail _
    · split
      · exact tail _
      · refine Ret.bind (P := T) (hmine _) (fun r _ _ => ?_)
        split
        · exact tail _
        · exact Ret.bind (P := T) (ret_mapM _ _ (fun x _ => ret_aliasMember c x)).true (fun _ _ _ => tail _)

theorem gstep1 (hg : WfG c.s) (f : Nat) (H2 : S2 c f) (H4 : S4 c f) : S1 c (f + 1) := by
  intro name pfx ty sels hty hsels
  by_cases hsp : ∃ g, sels = [Sel.spread g]
  · obtain ⟨g, rfl⟩ := hsp
    have hlt : g < c.q.fragments.length := by simpa [selsWf, selWf] using hsels
    rw [calcSelection.eq_2]
    exact Ret.bind (P := T) (ret_getFragment hlt).true (fun _ _ _ => trivial)
  · rw [calcSelection.eq_3 _ _ _ _ _ _ (fun g hg => hsp ⟨g, hg⟩)]
    have hfields : Ret T (calcFields c f pfx ty sels) := H4 pfx ty sels hsels
    simp only []
    refine Ret.bind (variantsOf_ret hg hty) (fun variants _ hv => ?_)
    cases variants with
    | none =>
      simp only []
      exact Ret.bind (P := T) trivial (fun _ _ _ => Ret.bind (P := T) hfields (fun _ _ _ => trivial))
    | some vts =>
      simp only []
      refine Ret.bind (P := T) (ret_filterMapM _ _ (fun x hx => variantSelOf_ret (selsWf_mem hsels hx))) (fun vsels hvs _ => ?_)
      have hinl := (C02.variantSels_spec c.q ty sels vsels hvs).2
      have hvar : Ret T (calcVariants c f name pfx vsels vts) := by
        apply H2 name pfx vsels vts _ (hv vts rfl)
        intro t sub hm
        have := selsWf_mem hsels (hinl t sub hm)
        rw [selWf] at this
        simpa using this
      exact Ret.bind (P := T) hvar (fun _ _ _ =>
        Ret.bind (P := T) trivial (fun _ _ _ => Ret.bind (P := T) hfields (fun _ _ _ => trivial)))

theorem calc_ret (hw : Wf c.s) (hg : WfG c.s) : ∀ fuel, S1 c fuel ∧ S2 c fuel ∧ S3 c fuel ∧ S4 c fuel := by
  intro fuel
  induction fuel with
  | zero =>
    refine ⟨?_, ?_, ?_, ?_⟩
    · intro _ _ _ _ _ _; rw [calcSelection.eq_1]; trivial
    · intro _ _ _ _ _ _; rw [calcVariants.eq_1]; trivial
    · intro _ _ _ _ _; rw [calcVariantSels.eq_1]; trivial
    · intro _ _ _ _; rw [calcFields.eq_1]; trivial
  | succ f ih =>
    obtain ⟨H1, H2, H3, H4⟩ := ih
    exact ⟨gstep1 c hg f H2 H4, gstep2 c f H2 H3, gstep3 c f H3 H4, gstep4 c hw hg f H1 H4⟩

end Calc


/-! ## `all_used_types` -/

/-- the used set only contains existing types and fragments -/
def UOk (s : Schema) (q : Query) (u : UsedTypes) : Prop :=
  (∀ t ∈ u.types, tyOk s t = true) ∧ (∀ g ∈ u.fragments, g < q.fragments.length)

theorem UOk.insert {s : Schema} {q : Query} {u : UsedTypes} {t : TypeId} (hu : UOk s q u) (ht : tyOk s t = true) :
    UOk s q (u.insertType t) := by
  refine ⟨?_, by simpa using hu.2⟩
  intro x hx
  rcases C02.mem_insertType.mp hx with rfl | hx
  · exact ht
  · exact hu.1 x hx

theorem collectSel_ret {s : Schema} {q : Query} (hw : Wf s)
    (hq : ∀ f ∈ q.fragments, selsWf s q.fragments.length f.sels = true) :
    ∀ (fuel : Nat) (u : UsedTypes) (x : Sel), UOk s q u → selWf s q.fragments.length x = true →
      Ret (UOk s q) (collectSel s q fuel u x) := by
  intro fuel
  induction fuel with
  | zero => intro u x hu _; simp only [collectSel]; exact hu
  | succ n ih =>
    intro u x hu hx
    have hfold : ∀ (sub : List Sel) (u' : UsedTypes), selsWf s q.fragments.length sub = true → UOk s q u' →
        Ret (UOk s q) (sub.foldlM (collectSel s q n) u') := fun sub u' hsub hu' =>
      ret_foldlM _ sub u' (fun b y hy hb => ih b y hb (selsWf_mem hsub hy)) hu'
    cases x with
    | typename => simp only [collectSel]; exact hu
    | field a fid sub =>
      rw [selWf] at hx
      simp only [Bool.and_eq_true, decide_eq_true_eq] at hx
      rw [collectSel.eq_2]
      refine Ret.bind (P := fun sf => sf ∈ s.fields) (Ret.of_ok (getField_some hx.1) (List.getElem_mem hx.1)) (fun sf _ hsf => ?_)
      exact hfold sub _ hx.2 (hu.insert (hw.fieldTy sf hsf))
    | inline t sub =>
      rw [selWf] at hx
      simp only [Bool.and_eq_true] at hx
      rw [collectSel.eq_3]
      exact hfold sub _ hx.2 (hu.insert hx.1)
    | spread g =>
      have hlt : g < q.fragments.length := by simpa [selWf] using hx
      rw [collectSel.eq_4]
      split
      · exact hu
      · refine Ret.bind (ret_getFragment hlt) (fun fr _ hfr => ?_)
        refine hfold fr.sels _ (hq fr hfr) ⟨hu.1, ?_⟩
        intro g' hg'
        rcases List.mem_cons.mp hg' with rfl | hg'
        · exact hlt
        · exact hu.2 g' hg'

theorem usedInputIds_ret {s : Schema} {q : Query} (hg : WfG s) :
    ∀ (fuel : Nat) (u : UsedTypes) (i : StoredInput), i ∈ s.inputs → UOk s q u → Ret (UOk s q) (usedInputIds s fuel u i) := by
  intro fuel
  induction fuel with
  | zero => intro u i _ hu; simp only [usedInputIds]; exact hu
  | succ n ih =>
    intro u i hi hu
    rw [usedInputIds.eq_2]
    refine ret_foldlM _ _ _ ?_ hu
    rintro b ⟨fname, ty⟩ hmem hb
    have hty := hg.inputTy i hi _ hmem
    simp only [] at hty ⊢
    split
    · rename_i iid heq
      split
      · exact hb
      · rw [heq] at hty
        have hlt : iid < s.inputs.length := by simpa [tyOk] using hty
        rw [getInput_some hlt]
        exact ih _ _ (List.getElem_mem hlt) (hb.insert (by rw [heq]; exact hty))
    · exact hb.insert hty
    · exact hb.insert hty
    · exact hb

theorem allUsedTypes_ret {s : Schema} {q : Query} (hw : Wf s) (hg : WfG s) (hq : QueryWf s q = true)
    {op : Nat} (hop : op < q.operations.length) : Ret (UOk s q) (allUsedTypes s q op) := by
  unfold QueryWf at hq
  simp only [Bool.and_eq_true, List.all_eq_true] at hq
  obtain ⟨⟨hqf, hqo⟩, hqv⟩ := hq
  have hfr : ∀ f ∈ q.fragments, selsWf s q.fragments.length f.sels = true := fun f hf => (hqf f hf).2
  unfold allUsedTypes
  rw [getOperation_some hop]
  simp only [bind, Except.bind]
  change Ret (UOk s q) ((q.operations[op].sels.foldlM (collectSel s q (walkFuel q)) {}) >>= fun u =>
    (q.opVariables op).foldlM (collectVar s) u)
  refine Ret.bind (P := UOk s q) ?_ (fun u _ hu => ?_)
  · refine ret_foldlM _ _ _ (fun b y hy hb => collectSel_ret hw hfr _ b y hb
      (selsWf_mem (hqo _ (List.getElem_mem hop)).2 hy)) ⟨fun t ht => (by cases ht), fun t ht => (by cases ht)⟩
  · refine ret_foldlM _ _ _ ?_ hu
    intro b v hv hb
    have hvty : tyOk s v.ty.id = true := hqv v (List.mem_filter.mp hv).1
    unfold collectVar
    split
    · rename_i iid heq
      rw [heq] at hvty
      have hlt : iid < s.inputs.length := by simpa [tyOk] using hvty
      rw [getInput_some hlt]
      exact usedInputIds_ret hg _ _ _ (List.getElem_mem hlt) (hb.insert (by rw [heq]; exact hvty))
    · exact hb.insert hvty
    · exact hb.insert hvty
    · exact hb


/-! ## the item producers of `response_for_query` -/

theorem scalarItems_ok {c : Ctx} {u : UsedTypes} (hu : UOk c.s c.q u) : ∃ S, scalarItems c u = .ok S := by
  unfold scalarItems
  obtain ⟨names, hn⟩ := mapM_total c.s.getScalar (sortNat (u.types.filterMap TypeId.asScalar?)) (by
    intro id hid
    rw [C02.mem_sortNat, List.mem_filterMap] at hid
    obtain ⟨t, ht, hti⟩ := hid
    have : t = .scalar id := by cases t <;> simp_all [TypeId.asScalar?]
    subst this
    have := hu.1 _ ht
    exact ⟨_, getScalar_some (by simpa [tyOk] using this)⟩)
  simp only [hn, bind, Except.bind]
  exact ⟨_, rfl⟩

theorem enumItems_ok {c : Ctx} {u : UsedTypes} (hu : UOk c.s c.q u) : ∃ E, enumItems c u = .ok E := by
  unfold enumItems
  obtain ⟨es, hn⟩ := mapM_total c.s.getEnum (sortNat (u.types.filterMap TypeId.asEnum?)) (by
    intro id hid
    rw [C02.mem_sortNat, List.mem_filterMap] at hid
    obtain ⟨t, ht, hti⟩ := hid
    have : t = .enum id := by cases t <;> simp_all [TypeId.asEnum?]
    subst this
    have := hu.1 _ ht
    exact ⟨_, getEnum_some (by simpa [tyOk] using this)⟩)
  simp only [hn, bind, Except.bind]
  exact ⟨_, rfl⟩

theorem inputFieldType_ok {c : Ctx} {ty : FieldType} {quals : List Qual} (hty : tyOk c.s ty.id = true)
    (hq : qualsOk quals = true) : ∃ t, inputFieldType c ty quals = .ok t := by
  obtain ⟨tn, htn⟩ := typeName_ok hty
  obtain ⟨t, ht⟩ := decorateType_ok (.path (c.o.normalization.fieldType c.cs tn)) quals hq
  unfold inputFieldType
  simp only [htn, ht, bind, Except.bind]
  exact ⟨_, rfl⟩

theorem ex_bind {α β} {x : Outcome α} {f : α → Outcome β} (hx : ∃ a, x = .ok a)
    (hf : ∀ a, x = .ok a → ∃ b, f a = .ok b) : ∃ b, (x >>= f) = .ok b := by
  obtain ⟨a, ha⟩ := hx
  obtain ⟨b, hb⟩ := hf a ha
  exact ⟨b, by rw [ha]; exact hb⟩

theorem inputItem_ok {c : Ctx} (hg : WfG c.s) {i : StoredInput} (hi : i ∈ c.s.inputs) : ∃ it, inputItem c i = .ok it := by
  rw [inputItem.eq_1]
  split
  · rename_i hone
    refine ex_bind (mapM_total _ _ ?_) (fun _ _ => ⟨_, rfl⟩)
    rintro ⟨fname, ty⟩ hp
    have hq : qualsOk (.required :: ty.quals) = true := by
      have h1 := hg.inputQuals i hi _ hp
      have h2 := hg.oneOf i hi hone _ hp
      simp only [] at h1 h2
      cases hql : ty.quals with
      | nil => rfl
      | cons a rest =>
        rw [hql] at h1 h2
        cases a with
        | required => simp at h2
        | list => simpa [qualsOk] using h1
    exact ex_bind (inputFieldType_ok (c := c) (hg.inputTy i hi _ hp) hq) (fun _ _ => ⟨_, rfl⟩)
  · refine ex_bind (mapM_total _ _ ?_) (fun _ _ => ⟨_, rfl⟩)
    rintro ⟨fname, ty⟩ hp
    exact ex_bind (inputFieldType_ok (c := c) (hg.inputTy i hi _ hp) (hg.inputQuals i hi _ hp)) (fun _ _ => ⟨_, rfl⟩)

theorem inputItems_ok {c : Ctx} (hg : WfG c.s) (u : UsedTypes) : ∃ I, inputItems c u = .ok I := by
  unfold inputItems
  apply mapM_total
  rintro ⟨i, k⟩ hik
  have := (List.mem_filter.mp hik).1
  have hi : i ∈ c.s.inputs := by
    rw [List.mem_zipIdx_iff_getElem?] at this
    exact List.mem_of_getElem? this
  exact inputItem_ok hg hi


/-- conditions on the variables of the resolved query (decidable): no `T!!`, and the default-value literal
    passes `graphql_parser_value_to_literal` (it contains no `null` at a non-null position and no variable where the
    code looks) -/
def VarsGenOk (s : Schema) (q : Query) : Bool :=
  q.variables.all (fun v => qualsOk v.ty.quals &&
    match v.default with
    | none => true
    | some d => (match literalOk s 64 d v.ty.id v.ty.quals with | .ok _ => true | .error _ => false))

theorem variablesItems_ok {c : Ctx} (hq : QueryWf c.s c.q = true) (hv : VarsGenOk c.s c.q = true) (op : Nat) :
    ∃ V, variablesItems c op = .ok V := by
  unfold QueryWf at hq
  simp only [Bool.and_eq_true, List.all_eq_true] at hq
  unfold VarsGenOk at hv
  simp only [Bool.and_eq_true, List.all_eq_true] at hv
  have hvt : ∀ v ∈ c.q.opVariables op, ∃ t, variableType c v = .ok t := by
    intro v hvm
    have hm : v ∈ c.q.variables := (List.mem_filter.mp hvm).1
    obtain ⟨tn, htn⟩ := typeName_ok (hq.2 v hm)
    obtain ⟨t, ht⟩ := decorateType_ok (.path (keywordReplace (c.o.normalization.fieldType c.cs tn))) v.ty.quals (hv v hm).1
    exact ⟨t, by unfold variableType; simp only [htn, bind, Except.bind]; exact ht⟩
  unfold variablesItems
  simp only []
  split
  · exact ⟨_, rfl⟩
  · refine ex_bind (mapM_total _ _ ?_) (fun _ _ => ex_bind (filterMapM_total _ _ ?_) (fun _ _ => ⟨_, rfl⟩))
    · intro v hvm
      exact ex_bind (hvt v hvm) (fun _ _ => ⟨_, rfl⟩)
    · intro v hvm
      have hm : v ∈ c.q.variables := (List.mem_filter.mp hvm).1
      have hd := (hv v hm).2
      split
      · exact ⟨_, rfl⟩
      · rename_i d hdv
        rw [hdv] at hd
        simp only [] at hd
        refine ex_bind (hvt v hvm) (fun _ _ => ex_bind ?_ (fun _ _ => ⟨_, rfl⟩))
        cases hl : literalOk c.s 64 d v.ty.id v.ty.quals with
        | ok u => exact ⟨u, rfl⟩
        | error e => rw [hl] at hd; cases hd

theorem fragmentItems_ok {c : Ctx} (hw : Wf c.s) (hg : WfG c.s) (hq : QueryWf c.s c.q = true) {g : Nat}
    (hlt : g < c.q.fragments.length) : ∃ its, fragmentItems c g = .ok its := by
  unfold QueryWf at hq
  simp only [Bool.and_eq_true, List.all_eq_true] at hq
  have hr : Ret T (fragmentItems c g) := by
    unfold fragmentItems
    refine Ret.bind (ret_getFragment hlt) (fun fr _ hfr => ?_)
    exact (calc_ret c hw hg _).1 _ _ _ _ (hq.1.1 fr hfr).1 (hq.1.1 fr hfr).2
  obtain ⟨its, h, _⟩ := hr.ok_of_clean (C02.fragmentItems_fuel_sufficient c g)
  exact ⟨its, h⟩

theorem responseItems_ok {c : Ctx} (hw : Wf c.s) (hg : WfG c.s) (hq : QueryWf c.s c.q = true) {o : ROperation}
    (ho : o ∈ c.q.operations) : ∃ its, responseItems c o = .ok its := by
  unfold QueryWf at hq
  simp only [Bool.and_eq_true, List.all_eq_true] at hq
  have hr : Ret T (responseItems c o) := by
    unfold responseItems
    exact (calc_ret c hw hg _).1 _ _ _ _ (hq.1.2 o ho).1 (hq.1.2 o ho).2
  obtain ⟨its, h, _⟩ := hr.ok_of_clean (C02.responseItems_fuel_sufficient c o ho)
  exact ⟨its, h⟩


/-! ## `response_for_query` and `generate` -/

/-- **`codegen_succeeds`**: on a well-formed schema and a well-formed resolved query whose variables pass
    `VarsGenOk`, `response_for_query` returns a module body for every operation index in range — no `panic`,
    no `error`, no exhausted fuel; whatever the options and case functions. -/
theorem codegen_succeeds {c : Ctx} (hs : SchemaWf c.s = true) (hsg : SchemaWfGen c.s = true)
    (hq : QueryWf c.s c.q = true) (hv : VarsGenOk c.s c.q = true) {op : Nat} (hop : op < c.q.operations.length) :
    ∃ items, responseForQuery c op = .ok items := by
  have hw := wf_of_schemaWf hs
  have hg := wfG_of hsg
  obtain ⟨u, hu, huok⟩ := (allUsedTypes_ret hw hg hq hop).ok_of_clean (C02.clean_allUsedTypes _ _ _)
  unfold responseForQuery
  refine ex_bind ⟨u, hu⟩ (fun u' hu' => ?_)
  rw [hu] at hu'; cases hu'
  refine ex_bind (scalarItems_ok huok) (fun _ _ => ex_bind (enumItems_ok huok) (fun _ _ =>
    ex_bind (mapM_total _ _ ?_) (fun _ _ => ex_bind (inputItems_ok hg u) (fun _ _ =>
    ex_bind (variablesItems_ok hq hv op) (fun _ _ => ex_bind ⟨_, getOperation_some hop⟩ (fun o ho =>
    ex_bind (responseItems_ok hw hg hq ?_) (fun _ _ => ⟨_, rfl⟩)))))))
  · intro g hgm
    rw [C02.mem_sortNat] at hgm
    exact fragmentItems_ok hw hg hq (huok.2 g hgm)
  · exact List.mem_of_getElem? (C02.getOperation_ok ho)

theorem selectOperation_lt {c : Ctx} {name : String} {i : Nat} (h : selectOperation c name = some i) :
    i < c.q.operations.length := by
  unfold selectOperation at h
  exact (List.findIdx?_eq_some_iff_getElem.mp h).1

/-- one generated module, for an operation of the query -/
theorem generatedModule_ok {c : Ctx} (hs : SchemaWf c.s = true) (hsg : SchemaWfGen c.s = true)
    (hq : QueryWf c.s c.q = true) (hv : VarsGenOk c.s c.q = true) (text : String) {op : ROperation}
    (hop : op ∈ c.q.operations) : ∃ m, generatedModule c text op.name = .ok m := by
  unfold generatedModule
  simp only []
  cases hsel : selectOperation c (c.o.normalization.operation c.cs op.name) with
  | none =>
    unfold selectOperation at hsel
    rw [List.findIdx?_eq_none_iff] at hsel
    have := hsel op hop
    simp at this
  | some i =>
    simp only [pure_bind]
    obtain ⟨items, hi⟩ := codegen_succeeds hs hsg hq hv (selectOperation_lt hsel)
    simp only [hi, bind, Except.bind]
    exact ⟨_, rfl⟩

/-- the operations `generate` emits a module for -/
def selectedOps (c : Ctx) : Option (List Nat) :=
  match c.o.operationName.bind (selectOperation c), c.o.mode with
  | some i, _ => some [i]
  | none, .cli => some (List.range c.q.operations.length)
  | none, .derive => none

/-- **`generate` succeeds**: if `resolve` returns `q` (see `resolve_complete`) and the conditions of
    `codegen_succeeds` hold, `generate` returns one module per operation in CLI mode without a selected
    operation, and exactly one module when `operationName` selects an operation (derive mode with a matching
    struct name, or CLI with `--selected-operation`).  The only remaining failure is derive mode with a
    name matching no operation (`selectedOps = none`), which is the documented error. -/
theorem generate_succeeds {s : Schema} {cs : CaseFns} {o : Options} {text : String} {d : QDoc} {q : Query}
    (hres : Resolve.resolve s d = .ok q) (hs : SchemaWf s = true) (hsg : SchemaWfGen s = true)
    (hq : QueryWf s q = true) (hv : VarsGenOk s q = true) {ops : List Nat}
    (hops : selectedOps { s, q, o, cs } = some ops) :
    ∃ ms, generate s cs o text d = .ok ms ∧ ms.length = ops.length := by
  unfold generate
  simp only [hres, bind, Except.bind]
  have hmods : ∀ i ∈ ops, ∃ m, (do
      let op ← q.getOperation i
      generatedModule { s, q, o, cs } text op.name : Outcome Module) = .ok m := by
    intro i hi
    have hlt : i < q.operations.length := by
      unfold selectedOps at hops
      split at hops
      · rename_i j hj
        cases hops
        simp only [List.mem_singleton] at hi
        subst hi
        cases ho : o.operationName with
        | none => simp [ho] at hj
        | some n =>
          simp only [ho, Option.bind_some] at hj
          exact selectOperation_lt (c := { s, q, o, cs }) hj
      · cases hops; simpa using hi
      · cases hops
    rw [getOperation_some hlt]
    exact generatedModule_ok (c := { s, q, o, cs }) hs hsg hq hv text (List.getElem_mem hlt)
  obtain ⟨ms, hms, hlen⟩ := mapM_total_len _ ops hmods
  unfold selectedOps at hops
  simp only [] at hops
  split at hops
  · rename_i j hj
    cases hops
    simp only [hj]
    exact ⟨ms, hms, hlen⟩
  · rename_i hj hm
    cases hops
    simp only [hj, hm]
    exact ⟨ms, hms, hlen⟩
  · cases hops


/-! ## what `resolve` returns is a well-formed query -/

open C06Sound in
mutual
  theorem corr_selWf {s : Schema} (hw : Wf s) {ff : String → Option Nat} {nf : Nat}
      (hff : ∀ n fid, ff n = some fid → fid < nf) :
      ∀ (x : QSel) (p : TypeId) (r : Sel), Corr s ff p x r → selWf s nf r = true
    | .field a n sub, p, r, hc => by
      cases hc with
      | typename => rfl
      | field _ _ hfid _ hsub =>
        rw [selWf]
        simp only [Bool.and_eq_true, decide_eq_true_eq]
        exact ⟨(List.getElem?_eq_some_iff.mp hfid).1, corrL_selsWf hw hff sub _ _ hsub⟩
    | .inline on sub, p, r, hc => by
      cases hc with
      | inline ht _ hsub =>
        rw [selWf]
        simp only [Bool.and_eq_true]
        exact ⟨hw.names _ _ ht, corrL_selsWf hw hff sub _ _ hsub⟩
    | .spread n, p, r, hc => by
      cases hc with
      | spread h => simpa [selWf] using hff _ _ h
  theorem corrL_selsWf {s : Schema} (hw : Wf s) {ff : String → Option Nat} {nf : Nat}
      (hff : ∀ n fid, ff n = some fid → fid < nf) :
      ∀ (xs : List QSel) (p : TypeId) (rs : List Sel), CorrL s ff p xs rs → selsWf s nf rs = true
    | [], p, rs, hc => by cases hc; rfl
    | x :: xs, p, rs, hc => by
      cases hc with
      | cons hx hxs =>
        rw [selsWf]
        simp only [Bool.and_eq_true]
        exact ⟨corr_selWf hw hff x _ _ hx, corrL_selsWf hw hff xs _ _ hxs⟩
end

/-- where a resolved variable comes from -/
def VarFrom (s : Schema) (d : QDoc) (v : RVariable) : Prop :=
  ∃ kind name vars sels vd, QDef.op kind name vars sels ∈ d ∧ vd ∈ vars ∧ v.name = vd.name ∧
    v.default = vd.default ∧ v.ty.quals = vd.ty.quals ∧ s.findType vd.ty.base = some v.ty.id

theorem resolveVariables_inv {s : Schema} {id : Nat} {vars : List VarDef} {vs : List RVariable}
    (h : Resolve.resolveVariables s id vars = .ok vs) :
    ∀ v ∈ vs, ∃ vd ∈ vars, v.name = vd.name ∧ v.default = vd.default ∧ v.ty.quals = vd.ty.quals ∧
      s.findType vd.ty.base = some v.ty.id := by
  intro v hv
  unfold Resolve.resolveVariables at h
  obtain ⟨vd, hvd, hf⟩ := C02.mapM_ok_mem h v hv
  refine ⟨vd, hvd, ?_⟩
  obtain ⟨ty, hty, hf⟩ := C02.bind_ok hf
  simp only [pure, Except.pure, Except.ok.injEq] at hf
  subst hf
  unfold resolveFieldType at hty
  obtain ⟨t, ht, hty⟩ := C02.bind_ok hty
  simp only [pure, Except.pure, Except.ok.injEq] at hty
  subst hty
  refine ⟨rfl, rfl, rfl, ?_⟩
  unfold Schema.findTypeId at ht
  split at ht
  · rename_i t' ht'
    simp only [pure, Except.pure, Except.ok.injEq] at ht
    subst ht; exact ht'
  · simp [panic'] at ht

theorem resolveDef_vars {s : Schema} {q q' : Query} {x : QDef} (h : Resolve.resolveDef s q x = .ok q') :
    ∀ v ∈ q'.variables, v ∈ q.variables ∨ ∃ kind name vars sels, x = .op kind name vars sels ∧ ∃ vd ∈ vars,
      v.name = vd.name ∧ v.default = vd.default ∧ v.ty.quals = vd.ty.quals ∧ s.findType vd.ty.base = some v.ty.id := by
  cases Resolve.DefStep.of_ok h with
  | frag => exact fun v hv => .inl hv
  | op _ _ _ hvs =>
    intro v hv
    rcases List.mem_append.mp hv with hv | hv
    · exact .inl hv
    · exact .inr ⟨_, _, _, _, rfl, resolveVariables_inv hvs v hv⟩

open C06Sound in
theorem createRoots_vars (s : Schema) : ∀ (d : QDoc) (q q' : Query), Resolve.createRoots s d q = .ok q' →
    q'.variables = q.variables
  | [], q, q', h => by
    simp only [Resolve.createRoots, pure, Except.pure, Except.ok.injEq] at h
    rw [h]
  | x :: rest, q, q', h => by
    obtain ⟨q1, hstep, hrest⟩ := createRoots_cons h
    rw [createRoots_vars s rest q1 q' hrest]
    cases x with
    | selset sels => exact hstep.elim
    | frag n on sels => obtain ⟨t, _, _, rfl⟩ := hstep; rfl
    | op kind name vars sels => obtain ⟨n, root, _, _, _, _, rfl⟩ := hstep; rfl

theorem fold_vars {s : Schema} {d : QDoc} : ∀ (rest : QDoc) (q qF : Query), (∀ x ∈ rest, x ∈ d) →
    rest.foldlM (Resolve.resolveDef s) q = .ok qF → (∀ v ∈ q.variables, VarFrom s d v) →
    ∀ v ∈ qF.variables, VarFrom s d v
  | [], q, qF, _, h, hq => by
    simp only [List.foldlM_nil, pure, Except.pure, Except.ok.injEq] at h
    subst h; exact hq
  | x :: rest, q, qF, hsub, h, hq => by
    rw [List.foldlM_cons] at h
    obtain ⟨q1, hstep, hrest⟩ := C02.bind_ok h
    refine fold_vars rest q1 qF (fun y hy => hsub y (List.mem_cons_of_mem _ hy)) hrest ?_
    intro v hv
    rcases resolveDef_vars hstep v hv with hv | ⟨kind, name, vars, sels, rfl, vd, hvd, h1, h2, h3, h4⟩
    · exact hq v hv
    · exact ⟨kind, name, vars, sels, vd, hsub _ List.mem_cons_self, hvd, h1, h2, h3, h4⟩

/-- every variable of the resolved query is the resolved form of a variable definition of the document -/
theorem resolve_vars {s : Schema} {d : QDoc} {q : Query} (h : Resolve.resolve s d = .ok q) :
    ∀ v ∈ q.variables, VarFrom s d v := by
  obtain ⟨q0, h0, h1, _⟩ := C06Sound.resolve_inv h
  refine fold_vars d q0 q (fun _ hx => hx) h1 ?_
  rw [createRoots_vars s d {} q0 h0]
  intro v hv; cases hv

open C06Sound in
/-- **the query returned by `resolve` is well-formed** (on a well-formed schema) -/
theorem resolve_queryWf {s : Schema} {d : QDoc} {q : Query} (hs : SchemaWf s = true)
    (h : Resolve.resolve s d = .ok q) : QueryWf s q = true := by
  have hw := wf_of_schemaWf hs
  obtain ⟨hR, honF⟩ := resolve_parts h
  have hff : ∀ n fid, ftff (Valid.fragTable d) n = some fid → fid < q.fragments.length := by
    intro n fid hn
    obtain ⟨e, he, _⟩ := ftff_some hn
    rw [hR.table.len]
    exact (List.getElem?_eq_some_iff.mp he).1
  unfold QueryWf
  simp only [Bool.and_eq_true, List.all_eq_true]
  refine ⟨⟨?_, ?_⟩, ?_⟩
  · intro f hf
    obtain ⟨n, on, sels, _, hty, hc⟩ := frag_inv hR f hf
    exact ⟨hw.names _ _ hty, corrL_selsWf hw hff _ _ _ hc⟩
  · intro o ho
    obtain ⟨vars, sels, _, hroot, hc⟩ := op_inv hR honF o ho
    exact ⟨by simpa [tyOk] using hw.root _ _ hroot, corrL_selsWf hw hff _ _ _ hc⟩
  · intro v hv
    obtain ⟨_, _, _, _, vd, _, _, _, _, _, hty⟩ := resolve_vars h v hv
    exact hw.names _ _ hty

/-- the condition `VarsGenOk`, on the document (decidable): no variable type `T!!`, default literals pass
    `graphql_parser_value_to_literal` -/
def DocVarsOk (s : Schema) (d : QDoc) : Bool :=
  d.all fun
    | .op _ _ vars _ => vars.all (fun vd => qualsOk vd.ty.quals &&
        match vd.default, s.findType vd.ty.base with
        | some dv, some t => (match literalOk s 64 dv t vd.ty.quals with | .ok _ => true | .error _ => false)
        | _, _ => true)
    | _ => true

theorem varsGenOk_of_doc {s : Schema} {d : QDoc} {q : Query} (h : Resolve.resolve s d = .ok q)
    (hd : DocVarsOk s d = true) : VarsGenOk s q = true := by
  unfold VarsGenOk
  rw [List.all_eq_true]
  intro v hv
  obtain ⟨kind, name, vars, sels, vd, hm, hvd, _, hdef, hq, hty⟩ := resolve_vars h v hv
  unfold DocVarsOk at hd
  rw [List.all_eq_true] at hd
  have := hd _ hm
  simp only [List.all_eq_true, Bool.and_eq_true] at this
  have := this vd hvd
  rw [hq, hdef, Bool.and_eq_true]
  refine ⟨this.1, ?_⟩
  have h2 := this.2
  rw [hty] at h2
  cases hdv : vd.default with
  | none => rfl
  | some dv => rw [hdv] at h2; exact h2


/-! ## a syntactic sufficient condition for the default-value clause -/

mutual
  /-- no `null` and no variable anywhere in the literal -/
  def plainVal : Value → Bool
    | .var _ => false
    | .null => false
    | .list xs => plainVals xs
    | .obj kvs => plainKVs kvs
    | _ => true
  def plainVals : List Value → Bool
    | [] => true
    | x :: xs => plainVal x && plainVals xs
  def plainKVs : List (String × Value) → Bool
    | [] => true
    | (_, v) :: kvs => plainVal v && plainKVs kvs
end

mutual
  def valDepth : Value → Nat
    | .list xs => valsDepth xs + 1
    | .obj kvs => kvsDepth kvs + 1
    | _ => 1
  def valsDepth : List Value → Nat
    | [] => 0
    | x :: xs => max (valDepth x) (valsDepth xs)
  def kvsDepth : List (String × Value) → Nat
    | [] => 0
    | (_, v) :: kvs => max (valDepth v) (kvsDepth kvs)
end

theorem plainVals_mem : ∀ {xs : List Value} {x : Value}, plainVals xs = true → x ∈ xs →
    plainVal x = true ∧ valDepth x ≤ valsDepth xs
  | [], _, _, h => by cases h
  | y :: ys, x, hp, h => by
    rw [plainVals] at hp
    rw [valsDepth]
    simp only [Bool.and_eq_true] at hp
    rcases List.mem_cons.mp h with rfl | h
    · exact ⟨hp.1, Nat.le_max_left _ _⟩
    · have := plainVals_mem hp.2 h
      exact ⟨this.1, Nat.le_trans this.2 (Nat.le_max_right _ _)⟩

theorem plainKVs_mem : ∀ {kvs : List (String × Value)} {p : String × Value}, plainKVs kvs = true → p ∈ kvs →
    plainVal p.2 = true ∧ valDepth p.2 ≤ kvsDepth kvs
  | [], _, _, h => by cases h
  | (k, v) :: ys, p, hp, h => by
    rw [plainKVs] at hp
    rw [kvsDepth]
    simp only [Bool.and_eq_true] at hp
    rcases List.mem_cons.mp h with rfl | h
    · exact ⟨hp.1, Nat.le_max_left _ _⟩
    · have := plainKVs_mem hp.2 h
      exact ⟨this.1, Nat.le_trans this.2 (Nat.le_max_right _ _)⟩

theorem forM_ok {α} (f : α → Outcome PUnit) : ∀ (l : List α), (∀ x ∈ l, f x = .ok ()) → l.forM f = .ok ()
  | [], _ => by simp only [List.forM]; rfl
  | a :: l, h => by
    simp only [List.forM, h a List.mem_cons_self, bind, Except.bind]
    exact forM_ok f l (fun x hx => h x (List.mem_cons_of_mem _ hx))

/-- a literal without `null` and without variables, nested less deeply than the fuel, passes
    `graphql_parser_value_to_literal` against any existing type -/
theorem literalOk_plain {s : Schema} (hg : WfG s) : ∀ (fuel : Nat) (v : Value) (ty : TypeId) (quals : List Qual),
    tyOk s ty = true → plainVal v = true → valDepth v ≤ fuel → literalOk s fuel v ty quals = .ok () := by
  intro fuel
  induction fuel with
  | zero =>
    intro v ty quals _ _ hd
    cases v <;> simp [valDepth] at hd
  | succ n ih =>
    intro v ty quals hty hp hd
    cases v with
    | var x => simp [plainVal] at hp
    | null => simp [plainVal] at hp
    | list xs =>
      rw [plainVal] at hp
      rw [valDepth] at hd
      simp only [literalOk]
      apply forM_ok
      intro x hx
      have := plainVals_mem hp hx
      exact ih x ty _ hty this.1 (by omega)
    | obj kvs =>
      rw [plainVal] at hp
      rw [valDepth] at hd
      simp only [literalOk]
      cases ty with
      | input iid =>
        have hlt : iid < s.inputs.length := by simpa [tyOk] using hty
        simp only [TypeId.asInput?, getInput_some hlt, bind, Except.bind]
        apply forM_ok
        rintro ⟨fname, fty⟩ hf
        simp only []
        split
        · rename_i k v hfind
          have hm := List.mem_of_find?_eq_some hfind
          have := plainKVs_mem hp hm
          exact ih v fty.id _ (hg.inputTy _ (List.getElem_mem hlt) _ hf) this.1 (by simp only [] at this; omega)
        · rfl
      | _ => rfl
    | int x => simp [literalOk, pure, Except.pure]
    | float x => simp [literalOk, pure, Except.pure]
    | str x => simp [literalOk, pure, Except.pure]
    | bool x => simp [literalOk, pure, Except.pure]
    | «enum» x => simp [literalOk, pure, Except.pure]

/-- the syntactic form of `DocVarsOk`: variable types without `T!!`, default literals without `null` /
    variables and nested at most 64 levels — or the literal `null` for a variable of nullable type -/
def DocVarsPlain (d : QDoc) : Bool :=
  d.all fun
    | .op _ _ vars _ => vars.all (fun vd => qualsOk vd.ty.quals &&
        match vd.default with
        | some dv => (plainVal dv && decide (valDepth dv ≤ 64)) || (valueIsNull dv && (stripRequired vd.ty.quals).1)
        | none => true)
    | _ => true

theorem docVarsOk_of_plain {s : Schema} (hs : SchemaWf s = true) (hsg : SchemaWfGen s = true) {d : QDoc}
    (h : DocVarsPlain d = true) : DocVarsOk s d = true := by
  have hw := wf_of_schemaWf hs
  have hg := wfG_of hsg
  unfold DocVarsPlain at h
  unfold DocVarsOk
  rw [List.all_eq_true] at h ⊢
  intro x hx
  have := h x hx
  cases x with
  | op k n vars sels =>
    simp only [List.all_eq_true, Bool.and_eq_true] at this ⊢
    intro vd hvd
    refine ⟨(this vd hvd).1, ?_⟩
    have h2 := (this vd hvd).2
    cases hdv : vd.default with
    | none => rfl
    | some dv =>
      cases ht : s.findType vd.ty.base with
      | none => rfl
      | some t =>
        rw [hdv] at h2
        simp only [Bool.or_eq_true, Bool.and_eq_true, decide_eq_true_eq] at h2
        rcases h2 with h2 | h2
        · simp only [literalOk_plain hg 64 dv t vd.ty.quals (hw.names _ _ ht) h2.1 h2.2]
        · cases dv <;> simp only [valueIsNull, Bool.false_eq_true, false_and] at h2
          simp only [literalOk, h2.2, ↓reduceIte, pure, Except.pure]
  | _ => rfl

/-! ## non-vacuity and necessity -/

def isOk {α} : Outcome α → Bool | .ok _ => true | .error _ => false

/-- the C06 example schema (interface, union, three roots) plus input types, an enum and a custom scalar -/
def goodSdl : SdlDoc :=
  C06Sound.exampleSdl ++
  [.scalar "Date", .enum "Kind" ["A", "B"],
   .input "J" [] [("a", .nonNull (.named "Int")), ("k", .named "Kind"), ("d", .list (.named "Date")), ("j", .named "J")],
   .input "One" ["oneOf"] [("x", .named "Int"), ("y", .named "J")]]

/-- the C06 example document plus `query V($j: J = {a: 1, j: {a: 2}}, $o: One, $ks: [Kind!]! = [A]) { pet { ...P } }` -/
def goodDoc : QDoc :=
  C06Sound.exampleDoc ++
  [.op .query (some "V")
    [{ name := "j", ty := .named "J", default := some (.obj [("a", .int 1), ("j", .obj [("a", .int 2)])]) },
     { name := "o", ty := .named "One", default := none },
     { name := "ks", ty := .nonNull (.list (.nonNull (.named "Kind"))), default := some (.list [.enum "A"]) }]
    [.field none "pet" [.spread "P"]]]

/-- all hypotheses hold of a non-trivial instance; three modules are generated in CLI mode, one in derive mode -/
example : (match Sdl.fromSdl goodSdl with
    | .ok s =>
      SchemaWf s && SchemaWfGen s && Valid.validDoc s true goodDoc && Supported s goodDoc && DocVarsOk s goodDoc &&
      DocVarsPlain goodDoc &&
      (match generate s ⟨id, id⟩ {} "" goodDoc with | .ok ms => ms.length == 3 | .error _ => false) &&
      (match generate s ⟨id, id⟩ { mode := .derive, operationName := some "V" } "" goodDoc with
        | .ok ms => ms.length == 1 | .error _ => false)
    | .error _ => false) = true := by decide +kernel

def wSdl : SdlDoc :=
  [.input "I" ["oneOf"] [("a", .nonNull (.named "Int"))],
   .input "J" [] [("a", .nonNull (.named "Int")), ("j", .named "J")],
   .object "Query" [] [{ name := "a", ty := .named "String", directives := [] }]]

/-- on the schema `wSdl`: the document is valid, supported, the schema satisfies `SchemaWf`, `resolve` accepts,
    and `generate` **panics** with `msg` -/
def genPanics (d : QDoc) (msg : String) : Bool :=
  match Sdl.fromSdl wSdl with
  | .ok s => SchemaWf s && Valid.validDoc s true d && Supported s d && isOk (Resolve.resolve s d) &&
      (match generate s ⟨id, id⟩ {} "" d with | .error e => e == .panic msg | .ok _ => false)
  | .error _ => false

/-- `generate` succeeds on the schema `wSdl` -/
def genOk (d : QDoc) : Bool :=
  match Sdl.fromSdl wSdl with
  | .ok s => isOk (generate s ⟨id, id⟩ {} "" d)
  | .error _ => false

/-- the schema `Sdl.fromSdl` builds from `wSdl`, written out (so that the witnesses below evaluate the front-end once) -/
def wSchema : Schema :=
  { objects := [{ name := "Query", fields := [0], implements := [] }],
    fields := [{ name := "a", ty := { id := .scalar 1, quals := [] }, parent := .object 0, deprecation := none }],
    scalars := ["ID", "String", "Int", "Float", "Boolean"],
    inputs := [{ name := "I", fields := [("a", { id := .scalar 2, quals := [.required] })], isOneOf := true },
               { name := "J", fields := [("a", { id := .scalar 2, quals := [.required] }), ("j", { id := .input 1, quals := [] })],
                 isOneOf := false }],
    names := [("Boolean", .scalar 4), ("Float", .scalar 3), ("I", .input 0), ("ID", .scalar 0), ("Int", .scalar 2),
              ("J", .input 1), ("Query", .object 0), ("String", .scalar 1)],
    queryType := some 0 }

theorem fromSdl_wSdl : Sdl.fromSdl wSdl = .ok wSchema := by
  have h : (Sdl.fromSdl wSdl).toOption = some wSchema := by decide +kernel
  cases hr : Sdl.fromSdl wSdl with
  | error e => rw [hr] at h; cases h
  | ok s => rw [hr] at h; exact congrArg _ (Option.some.inj h)

theorem genPanics_eq (d : QDoc) (msg : String) :
    genPanics d msg = (SchemaWf wSchema && Valid.validDoc wSchema true d && Supported wSchema d &&
      isOk (Resolve.resolve wSchema d) &&
      (match generate wSchema ⟨id, id⟩ {} "" d with | .error e => e == .panic msg | .ok _ => false)) := by
  unfold genPanics
  rw [fromSdl_wSdl]

theorem genOk_eq (d : QDoc) : genOk d = isOk (generate wSchema ⟨id, id⟩ {} "" d) := by
  unfold genOk
  rw [fromSdl_wSdl]

/-- `query Q($x: Int! = null) { a }`: `null` at a NON-NULL position still panics — while `query Q($x: Int = null) { a }`
    (a valid default: the type is nullable) is generated since the repair of the generator (`None`), and passes the
    syntactic condition -/
theorem w_default_null :
    genPanics [.op .query (some "Q") [{ name := "x", ty := .nonNull (.named "Int"), default := some .null }]
      [.field none "a" []]] "null as default value" = true ∧
    genOk [.op .query (some "Q") [{ name := "x", ty := .named "Int", default := some .null }] [.field none "a" []]] = true ∧
    DocVarsPlain [.op .query (some "Q") [{ name := "x", ty := .named "Int", default := some .null }]
      [.field none "a" []]] = true := by
  refine ⟨?_, ?_, ?_⟩
  · rw [genPanics_eq]; decide +kernel
  · rw [genOk_eq]; decide +kernel
  · decide +kernel

/-- `query Q($x: Int = $y) { a }` -/
theorem w_default_var :
    genPanics [.op .query (some "Q") [{ name := "x", ty := .named "Int", default := some (.var "y") }] [.field none "a" []]]
      "variable in variable" = true := by rw [genPanics_eq]; decide +kernel

/-- `query Q($x: J = {a: null}) { a }` (`a: Int!`: a `null` at a non-null member still panics; at the nullable member
    `j` — `{a: 1, j: null}` — and inside a list of nullable elements — `$y: [Int] = [1, null]` — it is generated;
    a `null` under an unknown key, `{zzz: null}`, is not looked at) -/
theorem w_default_null_nested :
    genPanics [.op .query (some "Q") [{ name := "x", ty := .named "J", default := some (.obj [("a", .null)]) }]
      [.field none "a" []]] "null as default value" = true ∧
    genOk [.op .query (some "Q")
      [{ name := "x", ty := .named "J", default := some (.obj [("a", .int 1), ("j", .null)]) },
       { name := "y", ty := .list (.named "Int"), default := some (.list [.int 1, .null]) }] [.field none "a" []]] = true ∧
    genPanics [.op .query (some "Q")
      [{ name := "y", ty := .list (.nonNull (.named "Int")), default := some (.list [.int 1, .null]) }]
      [.field none "a" []]] "null as default value" = true ∧
    genOk [.op .query (some "Q")
        [{ name := "x", ty := .named "J", default := some (.obj [("zzz", .null)]) }] [.field none "a" []]] = true := by
  refine ⟨?_, ?_, ?_, ?_⟩
  · rw [genPanics_eq]; decide +kernel
  · rw [genOk_eq]; decide +kernel
  · rw [genPanics_eq]; decide +kernel
  · rw [genOk_eq]; decide +kernel

/-- a variable of type `Int!!` (AST only) -/
theorem w_var_double_required :
    genPanics [.op .query (some "Q") [{ name := "x", ty := .nonNull (.nonNull (.named "Int")), default := none }]
      [.field none "a" []]] "double required annotation" = true := by rw [genPanics_eq]; decide +kernel

/-- `input I @oneOf { a: Int! }  query Q($x: I) { a }` — an SDL-expressible schema outside `SchemaWfGen` -/
theorem w_oneof_nonnull :
    genPanics [.op .query (some "Q") [{ name := "x", ty := .named "I", default := none }] [.field none "a" []]]
      "double required annotation" = true ∧
    (match Sdl.fromSdl wSdl with | .ok s => !SchemaWfGen s | .error _ => false) = true := by
  rw [genPanics_eq, fromSdl_wSdl]; decide +kernel

/-- hand-made schemas (not obtainable from valid SDL) violating one clause of `SchemaWfGen` each -/
def handSchema (f : StoredField) (variants : List TypeId) : Schema :=
  { objects := [{ name := "Q", fields := [0], implements := [] }],
    fields := [f],
    unions := [{ name := "U", variants := variants }],
    scalars := ["S"],
    inputs := [{ name := "I", fields := [], isOneOf := false }],
    names := [("I", .input 0), ("Q", .object 0), ("S", .scalar 0), ("U", .union 0)],
    queryType := some 0 }

def handPanics (s : Schema) (d : QDoc) (msg : String) : Bool :=
  SchemaWf s && !SchemaWfGen s && Valid.validDoc s true d && Supported s d && isOk (Resolve.resolve s d) &&
    (match generate s ⟨id, id⟩ {} "" d with | .error e => e == .panic msg | .ok _ => false)

/-- a field of input-object type, selected as a leaf -/
theorem w_input_typed_field :
    handPanics (handSchema { name := "f", ty := { id := .input 0, quals := [] }, parent := .object 0, deprecation := none } [])
      [.op .query (some "Q") [] [.field none "f" []]] "field selection on input type" = true := by decide +kernel

/-- a field of type `S!!` -/
theorem w_double_required :
    handPanics (handSchema
        { name := "f", ty := { id := .scalar 0, quals := [.required, .required] }, parent := .object 0, deprecation := none } [])
      [.op .query (some "Q") [] [.field none "f" []]] "double required annotation" = true := by decide +kernel

/-- a union with a member id out of range -/
theorem w_dangling_variant :
    handPanics (handSchema { name := "f", ty := { id := .union 0, quals := [] }, parent := .object 0, deprecation := none }
        [.object 5])
      [.op .query (some "Q") [] [.field none "f" [.field none "__typename" []]]] "Schema::get_object" = true := by
  decide +kernel

end C02Gen
end GqlVerif
