import GqlVerif.Proofs.SerdeFuelCodegen
import GqlVerif.Proofs.C01RecursiveE
import GqlVerif.Proofs.C01AbstractW
import GqlVerif.Proofs.C01AbstractHW
import GqlVerif.Proofs.C01VariantSpreadW
/-!
# witnesses: why `deFuel` was doubled, and why the hypotheses `EnvOK` / `BoxBound` / `Acyclic` are needed

`dePath` / `deFlat` spend one unit of fuel per jump to a named type **and per `Box` around a flattened member**
(`deFlat e (fuel+1) (.box t) buf = deFlat e fuel t buf`).  Earlier, `deFuel e j` was
`(jsonSize j + 2) * (#items + #externs + 2)` (`oldDeFuel`): `#items + #externs + 2` jumps per JSON nesting level.  A struct
whose flattened member is `Box<F>` costs two units (`Box` hop, then `F`), so a chain of `n` structs, each flattening the
`Box` of the next, costs `2n` units on one JSON object — more than that allowance once the chain is long enough, and
the deficit accumulates with the nesting depth of the payload.  `deFuel` is now twice that.

* `chain_fuel_exhausted` — only single `Box`es: 5 structs + 1 alias, payload nested 8 deep: the old fuel is exhausted,
  the present `de` reads it;
* **`generated_module_fuel_exhausted`** — a module `Codegen.responseForQuery` emits (16 mutually recursive fragments
  `F1 { height ...F2 } … F16 { friend { ...F1 } }`, `query Q { me { ...F1 } }`; it satisfies `moduleOk`), payload nested
  12 deep: `deTy` with the OLD fuel expression answers `unmodelled "fuel"`, fuel 2000 reads it;
  **`generated_module_read`** — with the present `Serde.de` that payload, and one nested 60 deep, is read; the module
  satisfies `rankCheck`, hence no payload whatsoever exhausts the fuel; `generated_chain_threshold` (old width: 10
  fragments fit, 11 do not);
* `box_fuel_matters` — 24 `Box`es under one flattened member: `de` returns the fuel error, fuel 40 succeeds (so
  `deTy_fuel_indep` is false without a hypothesis on the environment: `BoxBound` is needed);
* `alias_cycle_always_out_of_fuel` — `type A = B; type B = A` (rejected by rustc, E0391): the fuel error at every fuel —
  acyclicity is needed for `de_never_out_of_fuel` (not for fuel independence);
  `spread_cycle_module_not_acyclic` — a module the generator emits for two fragments spreading each other at the same
  level (`F { height ...G }`, `G { height ...F }`: invalid GraphQL, valid Rust thanks to the `Box`es): serde recurses
  forever, the model answers the fuel error — `Acyclic` is not a property of every emitted module;
* `denied_key_not_ignored_without_rank` — `denied_key_ignored_de` fails without `EnvOK`;
* positive: `rankCheck` holds on the generated modules of the end-to-end theorems, and the theorems apply to them.
-/
namespace GqlVerif
namespace SerdeFuel
open Serde Composed Codegen

def isFuelErr {α : Type} : D α → Bool
  | .error (.unmodelled w) => w == "fuel"
  | _ => false

theorem isFuelErr_iff {α : Type} {r : D α} : isFuelErr r = true ↔ r = .error (.unmodelled "fuel") := by
  unfold isFuelErr
  split
  · rename_i w
    constructor
    · intro h; rw [eq_of_beq h]
    · intro h; cases h; exact beq_self_eq_true _
  · rename_i hne
    constructor
    · intro h; cases h
    · intro h; exact (hne "fuel" h).elim

theorem not_envOK_of_de {e : Env} {t : RTy} {j : Json} (h : isFuelErr (de e t j) = true) : ¬ EnvOK e :=
  fun hok => de_never_out_of_fuel hok t j (isFuelErr_iff.mp h)

/-- half of `deFuel`: the fuel `Serde.de` passed before it was doubled -/
def oldDeFuel (e : Env) (j : Json) : Nat := (jsonSize j + 2) * (e.items.length + e.externs.length + 2)

theorem deFuel_eq_old (e : Env) (j : Json) : deFuel e j = 2 * oldDeFuel e j := rfl

/-! ## single `Box`es, hand-written -/

/-- `struct F1 { x1: Option<String>, #[serde(flatten)] next: Box<F2> }` … `struct F5 { a: Option<A> }`, `type A = Box<F1>` -/
def chainEnv : Env :=
  { items := [.struct "F1" [] none [{ rust := "x1", ty := .opt (.path "String") }, { rust := "next", ty := .box (.path "F2"), flatten := true }],
              .struct "F2" [] none [{ rust := "x2", ty := .opt (.path "String") }, { rust := "next", ty := .box (.path "F3"), flatten := true }],
              .struct "F3" [] none [{ rust := "x3", ty := .opt (.path "String") }, { rust := "next", ty := .box (.path "F4"), flatten := true }],
              .struct "F4" [] none [{ rust := "x4", ty := .opt (.path "String") }, { rust := "next", ty := .box (.path "F5"), flatten := true }],
              .struct "F5" [] none [{ rust := "a", ty := .opt (.path "A") }],
              .alias "A" true (.box (.path "F1"))] }

def nestA : Nat → Json
  | 0 => .obj []
  | d+1 => .obj [("a", nestA d)]

/-- every level of the payload costs 10 jumps (`F1`, four times `Box` + struct, `A`); the old allowance was 8 per
    level: exhausted at depth 8.  The present `de` reads it, and every other payload (`rankCheck`). -/
theorem chain_fuel_exhausted :
    (deTy chainEnv false ((jsonSize (nestA 7) + 2) * (chainEnv.items.length + chainEnv.externs.length + 2))
      (.path "F1") (nestA 7)).toOption.isSome = true ∧
    isFuelErr (deTy chainEnv false ((jsonSize (nestA 8) + 2) * (chainEnv.items.length + chainEnv.externs.length + 2))
      (.path "F1") (nestA 8)) = true ∧
    (deTy chainEnv false 200 (.path "F1") (nestA 8)).toOption.isSome = true ∧
    (de chainEnv (.path "F1") (nestA 8)).toOption.isSome = true ∧
    rankCheck chainEnv = true ∧ rankCheckS chainEnv = false := by
  decide +kernel

/-! ## a module the generator emits -/

/-- `type Query { me: Human }`, `type Human { name: String!, height: Float, friend: Human }` (the schema of `C01RecursiveE`) -/
def gSchema : Schema := C01.E2E.rxSchema

/-- `fragment F1 on Human { height ...F2 }` … `fragment F(n-1) on Human { height ...Fn }`,
    `fragment Fn on Human { friend { ...F1 } }`: every fragment is on the cycle, so every spread is `Box`ed -/
def gFrags (n : Nat) : List RFragment :=
  (List.range (n-1)).map (fun i => { name := s!"F{i+1}", on := .object 1, sels := [.field none 2 [], .spread (i+1)] }) ++
  [{ name := s!"F{n}", on := .object 1, sels := [.field none 3 [.spread 0]] }]

/-- `query Q { me { ...F1 } }` -/
def gOp : ROperation := { name := "Q", kind := .query, objectId := 0, sels := [.field none 0 [.spread 0]] }

def gCtx (n : Nat) : Ctx := { s := gSchema, q := { operations := [gOp], fragments := gFrags n }, o := {}, cs := ⟨id, id⟩ }

def gItems (n : Nat) : List Item := (responseForQuery (gCtx n) 0).toOption.getD []

def gEnv (n : Nat) : Env := { items := gItems n }

def nestFriend : Nat → Json
  | 0 => .obj []
  | d+1 => .obj [("friend", nestFriend d)]

/-- `{"me": {"friend": {"friend": … {} … }}}` -/
def gPayload (d : Nat) : Json := .obj [("me", nestFriend d)]

/-- **the reason for doubling `deFuel`**: a generated module on which the former fuel
    `(jsonSize j + 2) * (#items + #externs + 2)` is exhausted.  `responseForQuery` succeeds (24 items: the four built-in
    aliases, `Variables`, 16 fragment structs, `F16friend = Box<F1>`, `ResponseData`, `Qme = Box<F1>`), the module
    passes `moduleOk`; with that fuel the payload nested 11 deep is read, the one nested 12 deep gets
    `unmodelled "fuel"`, although a larger fuel reads it (as the real serde does: every `friend` level is an ordinary
    struct) -/
theorem generated_module_fuel_exhausted :
    (responseForQuery (gCtx 16) 0).toOption.isSome = true ∧ (gItems 16).length = 24 ∧
    C01.E2E.moduleOk (gCtx 16) (gItems 16) = true ∧
    (deTy (gEnv 16) false ((jsonSize (gPayload 11) + 2) * ((gEnv 16).items.length + (gEnv 16).externs.length + 2))
      (.path "ResponseData") (gPayload 11)).toOption.isSome = true ∧
    isFuelErr (deTy (gEnv 16) false ((jsonSize (gPayload 12) + 2) * ((gEnv 16).items.length + (gEnv 16).externs.length + 2))
      (.path "ResponseData") (gPayload 12)) = true ∧
    (deTy (gEnv 16) false 2000 (.path "ResponseData") (gPayload 12)).toOption.isSome = true ∧
    rankCheckS (gEnv 16) = false := by
  decide +kernel

/-- **the positive instance, with the present `Serde.de`**: that payload — and one nested 60 deep — is read, and the
    module passes `rankCheck` -/
theorem generated_module_read :
    (de (gEnv 16) (.path "ResponseData") (gPayload 12)).toOption.isSome = true ∧
    (de (gEnv 16) (.path "ResponseData") (gPayload 60)).toOption.isSome = true ∧
    rankCheck (gEnv 16) = true := by
  decide +kernel

/-- … hence no payload at all exhausts the fuel on it, and the fuel never matters -/
theorem generated_module_never_out_of_fuel (t : RTy) (j : Json) :
    de (gEnv 16) t j ≠ .error (.unmodelled "fuel") ∧
    ∀ fuel, deFuel (gEnv 16) j ≤ fuel → deTy (gEnv 16) false fuel t j = de (gEnv 16) t j :=
  ⟨de_never_out_of_fuel (envOK_of_check generated_module_read.2.2) t j,
   fun fuel h => de_fuel_indep (envOK_of_check generated_module_read.2.2) t j fuel h⟩

/-- the old width was tight on this family: with 10 fragments on the cycle the generated module fits it, with 11 it
    does not — and a payload nested 80 deep did exhaust the old fuel; the present width takes 40 fragments too -/
theorem generated_chain_threshold :
    rankCheckS (gEnv 10) = true ∧ rankCheckS (gEnv 11) = false ∧
    isFuelErr (deTy (gEnv 11) false ((jsonSize (gPayload 80) + 2) * ((gEnv 11).items.length + (gEnv 11).externs.length + 2))
      (.path "ResponseData") (gPayload 80)) = true ∧
    (de (gEnv 11) (.path "ResponseData") (gPayload 80)).toOption.isSome = true ∧
    rankCheck (gEnv 40) = true := by decide +kernel

/-! ## many `Box`es under a flattened member: `BoxBound` is needed -/

def boxes : Nat → RTy → RTy
  | 0, t => t
  | n+1, t => .box (boxes n t)

/-- `struct A { #[serde(flatten)] f: Box<…Box<F>…> }` (24 `Box`es), `struct F { w: Option<String> }`: valid Rust, and
    serde reads `{}` at `A` (`Box<T>: Deserialize` delegates to `T`); never emitted by the generator -/
def boxEnv : Env :=
  { items := [.struct "A" [] none [{ rust := "f", ty := boxes 24 (.path "F"), flatten := true }],
              .struct "F" [] none [{ rust := "w", ty := .opt (.path "String") }]] }

/-- **the fuel matters at and above `deFuel`** on an environment that is acyclic but not `BoxBound _ 1`: `de` runs
    out of fuel, a larger fuel reads the payload -/
theorem box_fuel_matters :
    deFuel boxEnv (.obj []) = 24 ∧
    de boxEnv (.path "A") (.obj []) = .error (.unmodelled "fuel") ∧
    deTy boxEnv false 40 (.path "A") (.obj []) = .ok (.record [("f", .record [("w", .unit)])]) ∧
    boxBoundCheck boxEnv 1 = false ∧ boxBoundCheck boxEnv 24 = true ∧
    ¬ EnvOK boxEnv := by
  refine ⟨rfl, by rfl, by rfl, by decide +kernel, by decide +kernel,
    not_envOK_of_de (t := .path "A") (j := .obj []) (by decide +kernel)⟩

/-! ## cycles: `Acyclic` is needed -/

/-- `type A = B; type B = A` -/
def cycEnv : Env := { items := [.alias "A" true (.path "B"), .alias "B" true (.path "A")] }

theorem alias_cycle_aux (b : Bool) (j : Json) : ∀ fuel,
    dePath cycEnv b fuel "A" j = .error (.unmodelled "fuel") ∧ dePath cycEnv b fuel "B" j = .error (.unmodelled "fuel") := by
  intro fuel
  induction fuel with
  | zero => exact ⟨by rw [dePath]; rfl, by rw [dePath]; rfl⟩
  | succ n ih =>
    have hA : dePrim "A" j = none := by simp [dePrim]
    have hB : dePrim "B" j = none := by simp [dePrim]
    have fA : cycEnv.find "A" = some (.alias "A" true (.path "B")) := by rfl
    have fB : cycEnv.find "B" = some (.alias "B" true (.path "A")) := by rfl
    refine ⟨?_, ?_⟩
    · rw [dePath, hA]; simp only [fA, deTyWith]; exact ih.2
    · rw [dePath, hB]; simp only [fB, deTyWith]; exact ih.1

/-- on a cycle of aliases the model answers the fuel error at EVERY fuel: fuel independence holds trivially, but
    `de_never_out_of_fuel` needs the rank hypothesis (rustc rejects such a module: E0391) -/
theorem alias_cycle_always_out_of_fuel (b : Bool) (fuel : Nat) (j : Json) :
    dePath cycEnv b fuel "A" j = .error (.unmodelled "fuel") ∧ de cycEnv (.path "A") j = .error (.unmodelled "fuel") ∧
    ¬ EnvOK cycEnv := by
  have h : de cycEnv (.path "A") j = .error (.unmodelled "fuel") := (alias_cycle_aux false j _).1
  exact ⟨(alias_cycle_aux b j fuel).1, h, fun hok => de_never_out_of_fuel hok _ j h⟩

/-- `fragment F on Human { height ...G }`, `fragment G on Human { height ...F }`, `query Q { me { ...F } }`: two
    fragments spreading each other at the same level -/
def spreadCycleCtx : Ctx :=
  { s := gSchema,
    q := { operations := [gOp],
           fragments := [{ name := "F", on := .object 1, sels := [.field none 2 [], .spread 1] },
                         { name := "G", on := .object 1, sels := [.field none 2 [], .spread 0] }] },
    o := {}, cs := ⟨id, id⟩ }

def spreadCycleEnv : Env := { items := (responseForQuery spreadCycleCtx 0).toOption.getD [] }

/-- **`Acyclic` does not hold of every emitted module**: for this (GraphQL-invalid) document the generator succeeds,
    the module passes `moduleOk` and compiles (`struct F { height, #[serde(flatten)] g: Box<G> }`,
    `struct G { height, #[serde(flatten)] f: Box<F> }`), serde recurses forever on `{"me": {}}` — the model answers the
    fuel error (here at the fuel `de` passes and at 1000) -/
theorem spread_cycle_module_not_acyclic :
    (responseForQuery spreadCycleCtx 0).toOption.isSome = true ∧
    C01.E2E.moduleOk spreadCycleCtx spreadCycleEnv.items = true ∧
    boxBoundCheck spreadCycleEnv 1 = true ∧
    isFuelErr (de spreadCycleEnv (.path "ResponseData") (.obj [("me", .obj [])])) = true ∧
    isFuelErr (deTy spreadCycleEnv false 1000 (.path "ResponseData") (.obj [("me", .obj [])])) = true ∧
    ¬ EnvOK spreadCycleEnv ∧ ∀ d, ¬ Acyclic spreadCycleEnv d := by
  have h : (responseForQuery spreadCycleCtx 0).toOption.isSome = true ∧
      C01.E2E.moduleOk spreadCycleCtx spreadCycleEnv.items = true ∧
      boxBoundCheck spreadCycleEnv 1 = true ∧
      isFuelErr (de spreadCycleEnv (.path "ResponseData") (.obj [("me", .obj [])])) = true ∧
      isFuelErr (deTy spreadCycleEnv false 1000 (.path "ResponseData") (.obj [("me", .obj [])])) = true := by
    decide +kernel
  obtain ⟨h0, hm, h2, h1, h3⟩ := h
  exact ⟨h0, hm, h2, h1, h3, not_envOK_of_de h1,
    fun d ha => not_envOK_of_de h1 (envOK_of_acyclic ha (boxBound_of_check h2))⟩

/-! ## `denied_key_ignored_de` needs the hypothesis -/

/-- on `boxEnv` nothing names the key `zzz`, yet the payload with it is read (it is larger: more fuel) and the one
    without it runs out of fuel -/
theorem denied_key_not_ignored_without_rank :
    KeyFree boxEnv "zzz" "A" ∧
    (de boxEnv (.path "A") (.obj [("zzz", .null)])).toOption.isSome = true ∧
    de boxEnv (.path "A") (.obj (eraseKey "zzz" [("zzz", .null)])) = .error (.unmodelled "fuel") :=
  ⟨keyFree_of_all _ _ _ (by decide +kernel), by decide +kernel, by rfl⟩

/-! ## the check on generated modules; the theorems applied -/

/-- the recursive-fragment module of `C01RecursiveE` (`Box` on a flattened member and on an alias) -/
theorem rxEnv_ok : rankCheckS { items := C01.E2E.rxItems } = true := by decide +kernel

/-- the concrete modules of the end-to-end theorems (`C01EndToEnd`, `C01Abstract`, `C01AbstractH`, `C01RecursiveE`,
    `C01VariantSpread`), in the environment those theorems use (`moduleEnv`: items + the consumer's scalars), and the
    25-item module of `C02Response`: all fit even the single width (`rankCheckS`: `EnvOK` and `EnvOKS`) -/
theorem e2e_example_modules_ok :
    rankCheckS (C01.E2E.moduleEnv C01.E2E.exCtx C01.E2E.exItems) = true ∧
    rankCheckS (C01.E2E.moduleEnv C01.E2E.vxCtx C01.E2E.vxItems) = true ∧
    rankCheckS (C01.E2E.moduleEnv C01.E2E.fxCtx C01.E2E.fxItems) = true ∧
    rankCheckS (C01.E2E.moduleEnv C01.E2E.rxCtx C01.E2E.rxItems) = true ∧
    rankCheckS (C01.E2E.moduleEnv (C01.E2E.wsCtx C01.E2E.wsSels) C01.E2E.wsItems) = true ∧
    rankCheckS (C01.E2E.moduleEnv (C01.E2E.bsCtx C01.E2E.bsSels) C01.E2E.bsItems) = true ∧
    rankCheckS { items := (responseForQuery C02.richCtx 0).toOption.getD [],
                 externs := [("Ext", .path "String"), ("super::Date", .path "String")] } = true := by
  decide +kernel

/-- the same modules pass the executable `acyclicCheck` (with `responseForQuery_boxBound` this is all `EnvOK` needs of
    an emitted module: `module_envOK_of_check`); so does the 16-fragment module, while the spread-cycle module fails -/
theorem e2e_example_modules_acyclic :
    acyclicCheck (C01.E2E.moduleEnv C01.E2E.exCtx C01.E2E.exItems) = true ∧
    acyclicCheck (C01.E2E.moduleEnv C01.E2E.vxCtx C01.E2E.vxItems) = true ∧
    acyclicCheck (C01.E2E.moduleEnv C01.E2E.fxCtx C01.E2E.fxItems) = true ∧
    acyclicCheck (C01.E2E.moduleEnv C01.E2E.rxCtx C01.E2E.rxItems) = true ∧
    acyclicCheck (C01.E2E.moduleEnv (C01.E2E.wsCtx C01.E2E.wsSels) C01.E2E.wsItems) = true ∧
    acyclicCheck (C01.E2E.moduleEnv (C01.E2E.bsCtx C01.E2E.bsSels) C01.E2E.bsItems) = true ∧
    acyclicCheck (gEnv 16) = true ∧ acyclicCheck spreadCycleEnv = false := by
  decide +kernel

/-- `module_envOK_of_check` applied: the recursive-fragment module of `C01RecursiveE`, in the environment of the
    end-to-end theorems -/
theorem rx_module_envOK : EnvOK (C01.E2E.moduleEnv C01.E2E.rxCtx C01.E2E.rxItems) ∧
    EnvOKS (C01.E2E.moduleEnv C01.E2E.rxCtx C01.E2E.rxItems) :=
  module_envOK_of_check C01.E2E.rx_gen e2e_example_modules_acyclic.2.2.2.1

/-- **on the generated module of `ComposedC14`** (`denyEnv`) the denied key `when` is ignored by `Serde.de`, for every
    payload object, at every named type -/
theorem denyEnv_denied_key_ignored (p : String) (kvs : List (String × Json)) :
    de denyEnv (.path p) (.obj kvs) = de denyEnv (.path p) (.obj (eraseKey "when" kvs)) :=
  denied_key_ignored_de (envOK_of_checkS denyEnv_rankCheckS).1 "when" p kvs (denyEnv_keyFree p)

/-- fuel independence on the recursive-fragment module, every payload and type -/
example (t : RTy) (j : Json) (fuel : Nat) (h : deFuel { items := C01.E2E.rxItems } j ≤ fuel) :
    deTy { items := C01.E2E.rxItems } false fuel t j = de { items := C01.E2E.rxItems } t j :=
  de_fuel_indep (envOK_of_checkS rxEnv_ok).1 t j fuel h

/-- … and the round trip never runs out of fuel on it -/
example (t : RTy) (j : Json) : roundtrip { items := C01.E2E.rxItems } t j ≠ .error (.unmodelled "fuel") :=
  roundtrip_never_out_of_fuel (envOK_of_checkS rxEnv_ok).1 (envOK_of_checkS rxEnv_ok).2 t j

end SerdeFuel
end GqlVerif
