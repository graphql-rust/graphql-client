import GqlVerif.Proofs.C01MixedB
/-!
# C01 / C03 end to end (`MixedOp`): top level over `Codegen.responseForQuery`, acceptance

**`mixed_accepts`**: `conformsOpM c op j → ∃ v, Serde.de (moduleEnv c items) ResponseData j = .ok v`, where `conformsOpM` is the
specification `conformsV` on the root selection set with every spread replaced by the inline fragment `... on T { body }`
(`expandSels`, GraphQL §6.4.3) — **the same predicate as `conformsOpF` and `conformsOpS`** (`conformsOpM_eq_F`,
`conformsOpM_eq_S`: by `rfl`).  **`mixed_precise_iff`** (C03): `Serde.de … j` succeeds **iff**
`conformsLooseM c.s c.q c.o false op.sels j`.

Hypotheses (decidable): `MixedOp c op`, `mixedKeysOk c op` (keys disjoint between a fragment spread at an object position
and its siblings, at every object level; needed: `fragment_overlap_loses_key`), `moduleOk c items`.

The environment hypotheses of `C01MixedB` hold for the module `responseForQuery` emits: the items of every spread fragment — on
an object type or on an abstract type — are in the module (`FragsIn`, `FragsInB`, both from
`C01N.fragsIn_of_module`, which is declared in `C01VariantSpreadT`), and the depth of the selection tree *through spreads* is below the number of
items of the module (`depthM_sels`), so the fuel of `Serde.de` suffices.
-/

namespace GqlVerif
namespace C01M
open Serde C03 Codegen C01 C01.E2E

/-! ## fuel: depth (through spreads) vs. number of emitted items -/

theorem mem_itemsMs {c : Ctx} {pfx : String} {it : Item} : ∀ {sels : List Sel} {x : Sel}, x ∈ sels →
    it ∈ itemsM c pfx x → it ∈ itemsMs c pfx sels
  | [], _, h, _ => by simp at h
  | y :: ys, x, h, hit => by
    rw [itemsMs, List.mem_append]
    rcases List.mem_cons.mp h with rfl | h'
    · exact .inl hit
    · exact .inr (mem_itemsMs h' hit)

mutual
  theorem depthM_sel (c : Ctx) (K : Nat) : ∀ (x : Sel) (pfx : String) (p : TypeId), mSel c.s c.q c.o p x = true →
      (∀ g ∈ spreadIds x, selsDepth (fragSels c.q g) ≤ K) → depthF c.q x ≤ (itemsM c pfx x).length + K + 1
    | .field a fid sub, pfx, p => by
      intro ht hK
      have IH := depthM_sels c K sub
      obtain ⟨sf, hsf, hk⟩ := mSel_kinds ht
      rcases hk with ⟨i, hid, _, _, _, hbody⟩ | ⟨hno, hs⟩
      · rw [spreadIds] at hK
        rw [depthF, itemsM]
        simp only [hsf, hid]
        by_cases hsp : ∃ g, sub = [Sel.spread g]
        · obtain ⟨g, rfl⟩ := hsp
          have := hK g (by simp [spreadIdss, spreadIds])
          simp only [depthsF, depthF, List.length_cons, List.length_nil]
          omega
        · have hnl : ∀ g, sub ≠ [Sel.spread g] := fun g hg => hsp ⟨g, hg⟩
          rw [mBody_not_lone hnl] at hbody
          have := IH (pfx ++ c.cs.camel (a.getD sf.name)) (.object i) hbody hK
          split
          · exact absurd rfl (hnl _)
          · simp only [List.length_cons]; omega
      · rw [itemsM_nonobj c pfx a fid sub sf hsf hno]
        have := depthS_sel c K _ pfx false hs hK
        simp only [allItemsS, inlBonus] at this
        omega
    | .spread g, pfx, p => by
      intro _ hK
      have := hK g (by simp [spreadIds])
      rw [depthF]; omega
    | .inline t sub, _, _ => by intro ht; simp [mSel] at ht
    | .typename, _, _ => by intro _ _; simp [depthF]
  theorem depthM_sels (c : Ctx) (K : Nat) : ∀ (sels : List Sel) (pfx : String) (p : TypeId),
      mSels c.s c.q c.o p sels = true → (∀ g ∈ spreadIdss sels, selsDepth (fragSels c.q g) ≤ K) →
      depthsF c.q sels ≤ (itemsMs c pfx sels).length + K + 1
    | [], _, _ => by intro _ _; simp [depthsF]
    | x :: xs, pfx, p => by
      intro ht hK
      obtain ⟨hx, hxs⟩ := mSels_cons ht
      rw [spreadIdss] at hK
      have h1 := depthM_sel c K x pfx p hx (fun g hg => hK g (by simp [hg]))
      have h2 := depthM_sels c K xs pfx p hxs (fun g hg => hK g (by simp [hg]))
      rw [depthsF, itemsMs, List.length_append]
      omega
end

mutual
  /-- every spread of the tree is `fragOk` on an object type or `fragOkB` on an abstract type -/
  theorem fragOk_of_spreadIdM (s : Schema) (q : Query) (o : Options) : ∀ (x : Sel) (p : Nat),
      mSel s q o (.object p) x = true → ∀ g ∈ spreadIds x, FragOkAny s q o g
    | .field a fid sub, p => by
      intro ht g hg
      have IH := fragOk_of_spreadIdsM s q o sub
      obtain ⟨sf, hsf, hk⟩ := mSel_kinds ht
      rcases hk with ⟨i, hid, _, _, _, hbody⟩ | ⟨hno, hs⟩
      · rw [spreadIds] at hg
        by_cases hsp : ∃ g', sub = [Sel.spread g']
        · obtain ⟨g', rfl⟩ := hsp
          simp only [spreadIdss, spreadIds, List.append_nil, List.mem_singleton] at hg
          subst hg
          exact .inl ⟨i, hbody⟩
        · have hnl : ∀ g, sub ≠ [Sel.spread g] := fun g hg => hsp ⟨g, hg⟩
          rw [mBody_not_lone hnl] at hbody
          exact IH i hbody g hg
      · exact fragOk_of_spreadIdS s q o _ false hs g hg (by simp)
    | .spread g', p => by
      intro ht g hg
      simp only [spreadIds, List.mem_singleton] at hg
      subst hg
      exact .inl ⟨p, by simpa [mSel] using ht⟩
    | .inline _ _, _ => by intro ht; simp [mSel] at ht
    | .typename, _ => by intro _ g hg; simp [spreadIds] at hg
  theorem fragOk_of_spreadIdsM (s : Schema) (q : Query) (o : Options) : ∀ (sels : List Sel) (p : Nat),
      mSels s q o (.object p) sels = true → ∀ g ∈ spreadIdss sels, FragOkAny s q o g
    | [], _ => by intro _ g hg; simp [spreadIdss] at hg
    | x :: xs, p => by
      intro ht g hg
      obtain ⟨hx, hxs⟩ := mSels_cons ht
      rw [spreadIdss, List.mem_append] at hg
      rcases hg with hg | hg
      · exact fragOk_of_spreadIdM s q o x p hx g hg
      · exact fragOk_of_spreadIdsM s q o xs p hxs g hg
end

/-! ## the environment of an emitted module -/

section EnvOfM
variable {c : Ctx} {items : List Item} {u : UsedTypes} {root : List Sel} (M : ModFacts c items u root)
  (hfr : FragsIn c items root) (hfrB : FragsInB c items root)
include M hfr hfrB

-- the list half uses the hypotheses only through the selection half
set_option linter.unusedSectionVars false in
mutual
  theorem envSelM_of : ∀ (x : Sel) (pfx : String) (p : Nat), mSel c.s c.q c.o (.object p) x = true →
      (∀ it ∈ itemsM c pfx x, it ∈ items) → C02.Reach c.q root x → envSelM (moduleEnv c items) c pfx x
    | .field a fid sub, pfx, p => by
      intro ht hit hr
      have IH := envSelsM_of sub
      obtain ⟨sf, hsf, hk⟩ := mSel_kinds ht
      rcases hk with ⟨i, hid, _, _, _, hbody⟩ | ⟨hno, hs⟩
      · rw [itemsM] at hit
        rw [envSelM]
        simp only [hsf, hid] at hit ⊢
        by_cases hsp : ∃ g, sub = [Sel.spread g]
        · obtain ⟨g, rfl⟩ := hsp
          simp only at hit ⊢
          have hok : fragOk c.s c.q c.o (.object i) g = true := hbody
          exact ⟨aliasEnv_of M _ _ (hit _ (by simp)),
            fragEnv_of M hfr g i (reach_step hr (by simp)) hok⟩
        · have hnl : ∀ g, sub ≠ [Sel.spread g] := fun g hg => hsp ⟨g, hg⟩
          rw [mBody_not_lone hnl] at hbody
          have hit' : ∀ it ∈ (Item.struct (pfx ++ c.cs.camel (a.getD sf.name)) c.respDerives c.serdeCrate
              (fieldsOfF c (pfx ++ c.cs.camel (a.getD sf.name)) sub) ::
              itemsMs c (pfx ++ c.cs.camel (a.getD sf.name)) sub), it ∈ items := by
            revert hit
            split
            · exact absurd rfl (hnl _)
            · exact id
          split
          · exact absurd rfl (hnl _)
          · exact ⟨structEnv_of M _ _ (hit' _ (by simp)),
              IH _ i hbody (fun x hx it h => hit' it (by simp [mem_itemsMs hx h]))
                (fun y hy => reach_step hr hy)⟩
      · rw [itemsM_nonobj c pfx a fid sub sf hsf hno] at hit
        have := envSelS_of M hfr hfrB _ pfx false hs (by simpa [allItemsS] using hit) hr (fun g hg => by cases hg)
        rw [envSelM]
        simp only [hsf]
        cases hid : sf.ty.id with
        | object i => exact absurd hid (hno i)
        | scalar k => simpa only [hid] using this
        | «enum» k => simpa only [hid] using this
        | interface k => simpa only [hid] using this
        | union k => simpa only [hid] using this
        | input k => simpa only [hid] using this
    | .spread g, pfx, p => by
      intro ht _ hr
      have hok : fragOk c.s c.q c.o (.object p) g = true := by simpa [mSel] using ht
      rw [envSelM]
      exact fragEnv_of M hfr g p hr hok
    | .inline _ _, _, _ => by intro ht; simp [mSel] at ht
    | .typename, _, _ => by intro _ _ _; simp [envSelM]
  theorem envSelsM_of : ∀ (sels : List Sel) (pfx : String) (p : Nat), mSels c.s c.q c.o (.object p) sels = true →
      (∀ x ∈ sels, ∀ it ∈ itemsM c pfx x, it ∈ items) → (∀ x ∈ sels, C02.Reach c.q root x) →
      envSelsM (moduleEnv c items) c pfx sels
    | [], _, _ => by intro _ _ _; simp [envSelsM]
    | x :: xs, pfx, p => by
      intro ht hit hr
      obtain ⟨hx, hxs⟩ := mSels_cons ht
      rw [envSelsM]
      exact ⟨envSelM_of x pfx p hx (hit x (by simp)) (hr x (by simp)),
        envSelsM_of xs pfx p hxs (fun y hy => hit y (by simp [hy])) (fun y hy => hr y (by simp [hy]))⟩
end

end EnvOfM

/-- keys disjoint between every fragment spread at an object position and its siblings, at every object level
    (decidable) -/
def mixedKeysOk (c : Ctx) (op : ROperation) : Bool :=
  keysOksM c.s c.q op.sels && EnumSpec.nodup (expKeys c.s c.q op.sels)

structure TopEnvM (e : Env) (c : Ctx) (op : ROperation) : Prop where
  root : BodyEnvM e c "ResponseData" (c.cs.camel op.name) op.sels
  size : depthsF c.q op.sels ≤ e.items.length

/-- **`ResponseData` accepts exactly `conformsLooseM … false`** (generic environment) -/
theorem top_accepts_iffM (e : Env) (c : Ctx) (op : ROperation) (ht : MixedOp c op = true)
    (hk : mixedKeysOk c op = true) (he : TopEnvM e c op) (j : Json) :
    okB (Serde.de e (.path "ResponseData") j) = conformsLooseM c.s c.q c.o false op.sels j := by
  obtain ⟨_, _, hsels⟩ := mixedOp_parts ht
  simp only [mixedKeysOk, Bool.and_eq_true] at hk
  exact Top.de_iff he.size
    (fun fd hfd => bodyM_accepts_iff e c _ _ _ op.sels hsels he.root hk.1 hk.2 false fd (by omega)) j

/-- the environment of the emitted module, from the closed form of the response items for a selection set `sels'` of the
    class (the operation's own selection set, or its normalization: `C01MixedF`) -/
theorem topEnvM_of_closedForm {c : Ctx} {opIdx : Nat} {op : ROperation} {items : List Item} (sels' : List Sel)
    (hop : c.q.operations[opIdx]? = some op) (hn : c.o.normalization = .none)
    (hsels : mBody c.s c.q c.o (.object op.objectId) sels' = true)
    (hshape : responseItems c op = .ok (bodyItemsM c "ResponseData" (c.cs.camel op.name) sels'))
    (hused : ∀ u, allUsedTypes c.s c.q opIdx = .ok u → (∀ x, C02.Reach c.q op.sels x → C02.Direct c.s u x) →
      ∀ x, C02.Reach c.q sels' x → C02.Direct c.s u x)
    (hgen : responseForQuery c opIdx = .ok items) (hok : moduleOk c items = true) :
    BodyEnvM (moduleEnv c items) c "ResponseData" (c.cs.camel op.name) sels' ∧
      depthsF c.q sels' ≤ (moduleEnv c items).items.length := by
  obtain ⟨u, F, hu, hF, M0, hsub, hsubF, hlen⟩ := module_tail hop hn hgen hok hshape
  have M : ModFacts c items u sels' := { M0 with used := hused u hu M0.used }
  -- `C01N.fragsIn_of_module`: declared in `C01VariantSpreadT` (as `_root_.GqlVerif.C01N.…`, next to its first use)
  obtain ⟨hfr, hfrB⟩ := C01N.fragsIn_of_module M hF hsubF
  have hK : ∀ g, C02.Reach c.q sels' (.spread g) → FragOkAny c.s c.q c.o g →
      selsDepth (fragSels c.q g) ≤ F.flatten.length := fun g hr hokg => fragDepth_of_module M hF hr hokg
  by_cases hsp : ∃ g, sels' = [Sel.spread g]
  · obtain ⟨g, hg⟩ := hsp
    have hokg : fragOk c.s c.q c.o (.object op.objectId) g = true := by rw [hg] at hsels; exact hsels
    have hr : C02.Reach c.q sels' (.spread g) := .here (by rw [hg]; simp)
    refine ⟨?_, ?_⟩
    · unfold BodyEnvM
      rw [hg]
      simp only
      refine ⟨aliasEnv_of M _ _ (hsub _ (by rw [hg]; simp [bodyItemsM])), fragEnv_of M hfr g _ hr hokg⟩
    · have := hK g hr (.inl ⟨_, hokg⟩)
      rw [hg]
      simp only [depthsF, depthF]
      omega
  · have hnl : ∀ g, sels' ≠ [Sel.spread g] := fun g hg => hsp ⟨g, hg⟩
    have hsels' := hsels
    rw [mBody_not_lone hnl] at hsels'
    have hbody := bodyItemsM_not_lone c "ResponseData" (c.cs.camel op.name) hnl
    rw [hbody] at hsub hlen
    refine ⟨?_, ?_⟩
    · unfold BodyEnvM
      split
      · exact absurd rfl (hnl _)
      · exact ⟨structEnv_of M _ _ (hsub _ (by simp)),
          envSelsM_of M hfr hfrB sels' _ op.objectId hsels' (fun x hx it h => hsub it (by simp [mem_itemsMs hx h]))
            (fun x hx => .here hx)⟩
    · have hd := depthM_sels c F.flatten.length sels' (c.cs.camel op.name) _ hsels' (by
        intro g hg
        have hr := reach_spreadIdss c.q sels' sels' (fun y hy => .here hy) g hg
        exact hK g hr (fragOk_of_spreadIdsM c.s c.q c.o sels' _ hsels' g hg))
      simp only [List.length_cons] at hlen
      omega

/-- … with what the types used by `sels'` need of `allUsedTypes` alone -/
theorem topEnvM_of_shape {c : Ctx} {opIdx : Nat} {op : ROperation} {items : List Item} (sels' : List Sel)
    (hop : c.q.operations[opIdx]? = some op) (hn : c.o.normalization = .none)
    (hsels : mBody c.s c.q c.o (.object op.objectId) sels' = true)
    (hshape : responseItems c op = .ok (bodyItemsM c "ResponseData" (c.cs.camel op.name) sels'))
    (hused : ∀ u, allUsedTypes c.s c.q opIdx = .ok u → ∀ x, C02.Reach c.q sels' x → C02.Direct c.s u x)
    (hgen : responseForQuery c opIdx = .ok items) (hok : moduleOk c items = true) :
    BodyEnvM (moduleEnv c items) c "ResponseData" (c.cs.camel op.name) sels' ∧
      depthsF c.q sels' ≤ (moduleEnv c items).items.length :=
  topEnvM_of_closedForm sels' hop hn hsels hshape (fun u hu _ => hused u hu) hgen hok

theorem topEnvM_of_module {c : Ctx} {opIdx : Nat} {op : ROperation} {items : List Item}
    (hop : c.q.operations[opIdx]? = some op) (ht : MixedOp c op = true)
    (hgen : responseForQuery c opIdx = .ok items) (hok : moduleOk c items = true) :
    TopEnvM (moduleEnv c items) c op := by
  obtain ⟨hn, _, hsels⟩ := mixedOp_parts ht
  obtain ⟨h1, h2⟩ := topEnvM_of_closedForm op.sels hop hn hsels (mixed_items_shape c op (List.mem_of_getElem? hop) ht)
    (fun _ _ h => h) hgen hok
  exact ⟨h1, h2⟩

/-- a response conforms to the operation: the response object of the root selection set, every spread read as the
    inline fragment `... on T { body }` (GraphQL §6.4.3 CollectFields treats both alike), executed on the root object
    type (specification `conformsV` of `C01AbstractA`) -/
def conformsOpM (c : Ctx) (op : ROperation) (j : Json) : Bool :=
  conformsV c.s op.objectId (expandSels c.q op.sels) j

theorem conformsOpM_eq_F (c : Ctx) (op : ROperation) (j : Json) : conformsOpM c op j = conformsOpF c op j := rfl
theorem conformsOpM_eq_S (c : Ctx) (op : ROperation) (j : Json) : conformsOpM c op j = conformsOpS c op j := rfl

/-- **`mixed_accepts`.**  Every conforming response is accepted by the emitted `ResponseData`. -/
theorem mixed_accepts (c : Ctx) (opIdx : Nat) (op : ROperation) (items : List Item)
    (hop : c.q.operations[opIdx]? = some op) (ht : MixedOp c op = true) (hk : mixedKeysOk c op = true)
    (hgen : responseForQuery c opIdx = .ok items) (hok : moduleOk c items = true)
    (j : Json) (hc : conformsOpM c op j = true) :
    ∃ v, Serde.de (moduleEnv c items) (.path "ResponseData") j = .ok v :=
  Top.accepts_of_iff (top_accepts_iffM _ c op ht hk (topEnvM_of_module hop ht hgen hok) j)
    (conformsM_loose c.s c.q c.o false _ _ _ (mixedOp_parts ht).2.2 hc)

/-- **`mixed_precise` (C03), as an equivalence.** -/
theorem mixed_precise_iff (c : Ctx) (opIdx : Nat) (op : ROperation) (items : List Item)
    (hop : c.q.operations[opIdx]? = some op) (ht : MixedOp c op = true) (hk : mixedKeysOk c op = true)
    (hgen : responseForQuery c opIdx = .ok items) (hok : moduleOk c items = true) (j : Json) :
    okB (Serde.de (moduleEnv c items) (.path "ResponseData") j) = conformsLooseM c.s c.q c.o false op.sels j :=
  top_accepts_iffM (moduleEnv c items) c op ht hk (topEnvM_of_module hop ht hgen hok) j

theorem mixed_precise (c : Ctx) (opIdx : Nat) (op : ROperation) (items : List Item)
    (hop : c.q.operations[opIdx]? = some op) (ht : MixedOp c op = true) (hk : mixedKeysOk c op = true)
    (hgen : responseForQuery c opIdx = .ok items) (hok : moduleOk c items = true) (j : Json) (v : Val)
    (hd : Serde.de (moduleEnv c items) (.path "ResponseData") j = .ok v) :
    conformsLooseM c.s c.q c.o false op.sels j = true :=
  Top.precise_of_iff (mixed_precise_iff c opIdx op items hop ht hk hgen hok j) hd

/-! ## the side condition on the two classes -/

theorem expKeys_noSpread (s : Schema) (q : Query) : ∀ (sels : List Sel), (∀ g, Sel.spread g ∉ sels) →
    expKeys s q sels = fieldKeys s sels
  | [], _ => rfl
  | x :: xs, h => by
    have ih := expKeys_noSpread s q xs (fun g hm => h g (List.mem_cons_of_mem _ hm))
    cases x with
    | field a fid sub =>
      simp only [expKeys, fieldKeys, List.filterMap_cons, fieldKey] at ih ⊢
      cases hsf : s.fields[fid]? <;> simp [ih]
    | spread g => exact absurd List.mem_cons_self (h g)
    | inline t sub => exact ih
    | typename => exact ih

mutual
  theorem keysOkM_of_sSel (s : Schema) (q : Query) (o : Options) : ∀ (x : Sel) (abs : Bool), sSel s q o abs x = true →
      keysOkM s q x = true
    | .field a fid sub, abs => by
      intro h
      have IH := keysOksM_of_sSels s q o sub
      rw [keysOkM]
      cases hsf : s.fields[fid]? with
      | none => rfl
      | some sf =>
        simp only [Option.map_some]
        cases hid : sf.ty.id with
        | object i =>
          rw [sSel] at h
          simp only [hsf, hid, Bool.and_eq_true] at h ⊢
          refine ⟨?_, IH false h.2.1.2⟩
          rw [expKeys_noSpread s q sub (no_spread_of_sSels h.2.1.2)]
          exact nodup_iff'.mpr ((fieldKeys_sublist s sub).nodup (nodup_iff'.mp h.2.2))
        | scalar k => rfl
        | «enum» k => rfl
        | interface k => rfl
        | union k => rfl
        | input k => rfl
    | .spread _, _ => by intro _; rfl
    | .inline _ _, _ => by intro _; rfl
    | .typename, _ => by intro _; rfl
  theorem keysOksM_of_sSels (s : Schema) (q : Query) (o : Options) : ∀ (sels : List Sel) (abs : Bool),
      sSels s q o abs sels = true → keysOksM s q sels = true
    | [], _ => by intro _; rfl
    | x :: xs, abs => by
      intro h
      obtain ⟨hx, hxs⟩ := sSels_cons h
      rw [keysOksM, keysOkM_of_sSel s q o x abs hx, keysOksM_of_sSels s q o xs abs hxs]; rfl
end

/-- on `VariantSpreadOp` the side condition `mixedKeysOk` holds (it is part of that class) -/
theorem mixedKeysOk_of_variantSpreadOp (c : Ctx) (op : ROperation) (h : VariantSpreadOp c op = true) :
    mixedKeysOk c op = true := by
  obtain ⟨_, _, hs, hnd⟩ := variantSpreadOp_parts h
  simp only [mixedKeysOk, Bool.and_eq_true]
  refine ⟨keysOksM_of_sSels c.s c.q c.o op.sels false hs, ?_⟩
  rw [expKeys_noSpread c.s c.q op.sels (no_spread_of_sSels hs)]
  exact nodup_iff'.mpr ((fieldKeys_sublist c.s op.sels).nodup (nodup_iff'.mp hnd))

mutual
  theorem keysOkM_of_F (s : Schema) (q : Query) : ∀ (x : Sel), keysOkF s q x = true → keysOkM s q x = true
    | .field a fid sub => by
      intro h
      have IH := keysOksM_of_F s q sub
      rw [keysOkF, Bool.and_eq_true] at h
      rw [keysOkM]
      cases hsf : s.fields[fid]? with
      | none => rfl
      | some sf =>
        simp only [Option.map_some]
        cases hid : sf.ty.id with
        | object i => simp only [Bool.and_eq_true]; exact ⟨h.1, IH h.2⟩
        | scalar k => rfl
        | «enum» k => rfl
        | interface k => rfl
        | union k => rfl
        | input k => rfl
    | .spread _ => by intro _; rfl
    | .inline _ _ => by intro _; rfl
    | .typename => by intro _; rfl
  theorem keysOksM_of_F (s : Schema) (q : Query) : ∀ (sels : List Sel), keysOksF s q sels = true → keysOksM s q sels = true
    | [] => by intro _; rfl
    | x :: xs => by
      intro h
      rw [keysOksF, Bool.and_eq_true] at h
      rw [keysOksM, keysOkM_of_F s q x h.1, keysOksM_of_F s q xs h.2]; rfl
end

theorem mixedKeysOk_of_fragKeysOk (c : Ctx) (op : ROperation) (h : fragKeysOk c op = true) : mixedKeysOk c op = true := by
  simp only [fragKeysOk, Bool.and_eq_true] at h
  simp only [mixedKeysOk, Bool.and_eq_true]
  exact ⟨keysOksM_of_F c.s c.q op.sels h.1, h.2⟩

end C01M
end GqlVerif
