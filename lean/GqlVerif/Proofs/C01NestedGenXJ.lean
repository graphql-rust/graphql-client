import GqlVerif.Proofs.C01NestedGenXH
/-!
# `NestedGen2Op`: agreement with `C01NestedGen*` on `NestedGenOp`

On an operation of `NestedGenOp` everything the theorems about `NestedGen2Op` mention is what that class defines:
the exact acceptance predicate (`conformsLooseA_eq_G`), the environment (`envSelA_eq_G`), the canonical form (`canonSelA_eq_G`),
the side conditions (`nestedGen2KeysOk_eq_G`, `nestedGen2SideOk_eq_G`, `absTagOk_eq_G`); the specification `conformsOpN` does not
depend on the class.  `C01NestedGenE` reads the results of the smaller class off those of the larger one through these.
-/

namespace GqlVerif
namespace C01NX
open Serde Spec C13 C03 Codegen C01 C01.E2E C01M C01N C01NA C01NG

section Agree
variable {ok : TypeId → Nat → Bool} {s : Schema} {q : Query} {o : Options}

/-! ## at a position of `NestedGenOp` -/

theorem payX_eq_G {sub : List Sel} (hnb : ∀ x ∈ sub, isBody x = false) (whole : Nat → Bool → Json → Bool) :
    payX whole s q o sub = payA whole q (strip sub) := by
  funext vt rest
  unfold payX
  rw [mineOf_any_body_false hnb, unbody_eq_self hnb]
  rfl

theorem looseAbsX_eq_G {sf : StoredField} {sub : List Sel} (h : absFieldG ok s q o sf sub = true)
    (whole : Nat → Bool → Json → Bool) (b : Bool) (v : Json) :
    looseAbsX whole s q o b sf sub v = looseAbsG whole s q o b sf sub v := by
  have hnb := absSubG_nobody (C01NG.absFieldG_parts h).2.2.2
  unfold looseAbsX looseAbsG
  congr 1
  funext j
  cases j <;> simp only [looseTagX, looseTagG, payX_eq_G hnb]

theorem canonAbsX_eq_G {sf : StoredField} {sub : List Sel} (h : absFieldG ok s q o sf sub = true)
    (cent : Nat → List (String × Json) → List (String × Json)) (v : Json) :
    canonAbsX cent s q o sf sub v = canonAbsG cent s q o sf sub v := by
  have hnb := absSubG_nobody (C01NG.absFieldG_parts h).2.2.2
  have hp : ∀ vt kvs, payCanonX cent s q o sub vt kvs = (memFrags q vt (strip sub)).flatMap (fun g => cent g kvs) := by
    intro vt kvs
    unfold payCanonX
    rw [mineOf_any_body_false hnb, unbody_eq_self hnb]
    rfl
  unfold canonAbsX canonAbsG
  congr 1
  funext j
  cases j with
  | obj kvs =>
    simp only [canonTagX, canonTagG, hp]
    cases hl : Json.lookup "__typename" kvs with
    | none => rfl
    | some jv =>
      cases jv with
      | str n =>
        simp only []
        cases hfd : List.find? (fun vt => objName s vt == n) (vtsOfTy s sf.ty.id) <;> rfl
      | _ => rfl
  | _ => rfl

/-! ## acceptance -/

mutual
  theorem looseFieldA_eq_G (whole : Nat → Bool → Json → Bool) (b : Bool) : ∀ (x : Sel) (p : TypeId) (v : Json),
      C01NG.aSel ok s q o p x = true → looseFieldA whole s q o b x v = C01NG.looseFieldA whole s q o b x v
    | .field a fid sub, p, v => by
      intro h
      have IH1 := looseOwnA_eq_G whole b sub
      have IH2 := looseArrA_eq_G whole b sub
      obtain ⟨sf, hsf⟩ := C01NG.aSel_field_some h
      by_cases hobj : ∃ i, sf.ty.id = .object i
      · obtain ⟨i, hid⟩ := hobj
        obtain ⟨_, _, _, hb⟩ := C01NG.aSel_obj hsf hid h
        rw [looseFieldA, C01NG.looseFieldA]
        simp only [hsf, hid]
        by_cases hsp : ∃ g, sub = [Sel.spread g]
        · obtain ⟨g, rfl⟩ := hsp; rfl
        · have hnl : ∀ g, sub ≠ [Sel.spread g] := fun g hg => hsp ⟨g, hg⟩
          rw [C01NG.aBody_not_lone hnl] at hb
          have e1 : ∀ kvs, looseOwnA whole s q o b sub kvs = C01NG.looseOwnA whole s q o b sub kvs :=
            fun kvs => IH1 (.object i) kvs hb
          have e2 : ∀ xs, looseArrA whole s q o b sub xs = C01NG.looseArrA whole s q o b sub xs :=
            fun xs => IH2 (.object i) xs hb
          cases s.objects[i]? with
          | none => rfl
          | some ob =>
            simp only []
            congr 1
            funext j
            cases j <;> simp only [e1, e2]
      · have hno : ∀ i, sf.ty.id ≠ .object i := fun i h => hobj ⟨i, h⟩
        rcases C01NG.aSel_nonobj hsf hno h with hs | ⟨hs, hnew⟩
        · rw [looseFieldA_old hsf hno hs, C01NG.looseFieldA_old hsf hno hs]
        · rw [looseFieldA_new hsf hno hs, C01NG.looseFieldA_new hsf hno hs, looseAbsX_eq_G hnew]
    | .spread g, _, _ => by intro _; simp [looseFieldA, C01NG.looseFieldA]
    | .inline _ _, _, _ => by intro _; simp [looseFieldA, C01NG.looseFieldA]
    | .typename, _, _ => by intro _; simp [looseFieldA, C01NG.looseFieldA]
  theorem looseOwnA_eq_G (whole : Nat → Bool → Json → Bool) (b : Bool) : ∀ (sels : List Sel) (p : TypeId)
      (kvs : List (String × Json)), C01NG.aSels ok s q o p sels = true →
      looseOwnA whole s q o b sels kvs = C01NG.looseOwnA whole s q o b sels kvs
    | [], _, _ => by intro _; simp [looseOwnA, C01NG.looseOwnA]
    | x :: xs, p, kvs => by
      intro h
      obtain ⟨hx, hxs⟩ := C01NG.aSels_cons h
      have ih := looseOwnA_eq_G whole b xs p kvs hxs
      cases x with
      | field a fid sub =>
        rw [looseOwnA.eq_2, C01NG.looseOwnA.eq_2, ih]
        cases hsf : s.fields[fid]? with
        | none => rfl
        | some sf =>
          simp only []
          cases Json.lookup (a.getD sf.name) kvs with
          | none => rfl
          | some v => simp only [looseFieldA_eq_G whole b (.field a fid sub) p v hx]
      | spread g => simpa [looseOwnA, C01NG.looseOwnA] using ih
      | inline t sub => simpa [looseOwnA, C01NG.looseOwnA] using ih
      | typename => simpa [looseOwnA, C01NG.looseOwnA] using ih
  theorem looseArrA_eq_G (whole : Nat → Bool → Json → Bool) (b : Bool) : ∀ (sels : List Sel) (p : TypeId)
      (vs : List Json), C01NG.aSels ok s q o p sels = true →
      looseArrA whole s q o b sels vs = C01NG.looseArrA whole s q o b sels vs
    | [], _, _ => by intro _; simp [looseArrA, C01NG.looseArrA]
    | x :: xs, p, vs => by
      intro h
      obtain ⟨hx, hxs⟩ := C01NG.aSels_cons h
      cases x with
      | field a fid sub =>
        cases vs with
        | nil => simp [looseArrA, C01NG.looseArrA]
        | cons v vs' =>
          rw [looseArrA.eq_3, C01NG.looseArrA.eq_3, looseFieldA_eq_G whole b (.field a fid sub) p v hx,
            looseArrA_eq_G whole b xs p vs' hxs]
      | spread g => simpa [looseArrA, C01NG.looseArrA] using looseArrA_eq_G whole b xs p vs hxs
      | inline t sub => simpa [looseArrA, C01NG.looseArrA] using looseArrA_eq_G whole b xs p vs hxs
      | typename => simpa [looseArrA, C01NG.looseArrA] using looseArrA_eq_G whole b xs p vs hxs
end

/-- **on `NestedGenOp` the exact acceptance predicate is the one of `nestedgen_precise_iff`** -/
theorem conformsLooseA_eq_G (whole : Nat → Bool → Json → Bool) (b : Bool) (p : TypeId) (sels : List Sel) (j : Json)
    (h : C01NG.aBody ok s q o p sels = true) :
    conformsLooseA whole s q o b sels j = C01NG.conformsLooseA whole s q o b sels j := by
  by_cases hsp : ∃ g, sels = [Sel.spread g]
  · obtain ⟨g, rfl⟩ := hsp; rfl
  · have hnl : ∀ g, sels ≠ [Sel.spread g] := fun g hg => hsp ⟨g, hg⟩
    rw [C01NG.aBody_not_lone hnl] at h
    rw [conformsLooseA_not_lone hnl, C01NG.conformsLooseA_not_lone hnl]
    cases j <;> simp only [looseOwnA_eq_G whole b sels p _ h, looseArrA_eq_G whole b sels p _ h]

/-! ## canonical form -/

mutual
  theorem canonFieldA_eq_G (cent : Nat → List (String × Json) → List (String × Json)) : ∀ (x : Sel) (p : TypeId) (v : Json),
      C01NG.aSel ok s q o p x = true → canonFieldA cent s q o x v = C01NG.canonFieldA cent s q o x v
    | .field a fid sub, p, v => by
      intro h
      have IH := canonEntriesA_eq_G cent sub
      obtain ⟨sf, hsf⟩ := C01NG.aSel_field_some h
      by_cases hobj : ∃ i, sf.ty.id = .object i
      · obtain ⟨i, hid⟩ := hobj
        obtain ⟨_, _, _, hb⟩ := C01NG.aSel_obj hsf hid h
        rw [canonFieldA, C01NG.canonFieldA]
        simp only [hsf, hid]
        by_cases hsp : ∃ g, sub = [Sel.spread g]
        · obtain ⟨g, rfl⟩ := hsp; rfl
        · have hnl : ∀ g, sub ≠ [Sel.spread g] := fun g hg => hsp ⟨g, hg⟩
          rw [C01NG.aBody_not_lone hnl] at hb
          have e1 : ∀ kvs, canonEntriesA cent s q o sub kvs = C01NG.canonEntriesA cent s q o sub kvs :=
            fun kvs => IH (.object i) kvs hb
          rw [canonLambdaA, C01NG.canonLambdaA]
          congr 1
          funext j
          rw [canonSelA_not_lone hnl, C01NG.canonSelA_not_lone hnl]
          cases j <;> simp only [e1]
      · have hno : ∀ i, sf.ty.id ≠ .object i := fun i h => hobj ⟨i, h⟩
        rcases C01NG.aSel_nonobj hsf hno h with hs | ⟨hs, hnew⟩
        · rw [canonFieldA_old hsf hno hs, C01NG.canonFieldA_old hsf hno hs]
        · rw [canonFieldA_new hsf hno hs, C01NG.canonFieldA_new hsf hno hs, canonAbsX_eq_G hnew]
    | .spread g, _, _ => by intro _; simp [canonFieldA, C01NG.canonFieldA]
    | .inline _ _, _, _ => by intro _; simp [canonFieldA, C01NG.canonFieldA]
    | .typename, _, _ => by intro _; simp [canonFieldA, C01NG.canonFieldA]
  theorem canonEntriesA_eq_G (cent : Nat → List (String × Json) → List (String × Json)) : ∀ (sels : List Sel) (p : TypeId)
      (kvs : List (String × Json)), C01NG.aSels ok s q o p sels = true →
      canonEntriesA cent s q o sels kvs = C01NG.canonEntriesA cent s q o sels kvs
    | [], _, _ => by intro _; simp [canonEntriesA, C01NG.canonEntriesA]
    | x :: xs, p, kvs => by
      intro h
      obtain ⟨hx, hxs⟩ := C01NG.aSels_cons h
      have ih := canonEntriesA_eq_G cent xs p kvs hxs
      cases x with
      | field a fid sub =>
        rw [canonEntriesA.eq_2, C01NG.canonEntriesA.eq_2, ih]
        cases hsf : s.fields[fid]? with
        | none => rfl
        | some sf =>
          simp only []
          cases Json.lookup (a.getD sf.name) kvs with
          | none => rfl
          | some v => simp only [canonFieldA_eq_G cent (.field a fid sub) p v hx]
      | spread g => rw [canonEntriesA.eq_3, C01NG.canonEntriesA.eq_3, ih]
      | inline t sub => simpa [canonEntriesA, C01NG.canonEntriesA] using ih
      | typename => simpa [canonEntriesA, C01NG.canonEntriesA] using ih
end

/-- **on `NestedGenOp` the canonical form is the one of `nestedgen_roundtrip`** -/
theorem canonSelA_eq_G (cent : Nat → List (String × Json) → List (String × Json)) (p : TypeId) (sels : List Sel) (j : Json)
    (h : C01NG.aBody ok s q o p sels = true) :
    canonSelA cent s q o sels j = C01NG.canonSelA cent s q o sels j := by
  by_cases hsp : ∃ g, sels = [Sel.spread g]
  · obtain ⟨g, rfl⟩ := hsp; rfl
  · have hnl : ∀ g, sels ≠ [Sel.spread g] := fun g hg => hsp ⟨g, hg⟩
    rw [C01NG.aBody_not_lone hnl] at h
    rw [canonSelA_not_lone hnl, C01NG.canonSelA_not_lone hnl]
    cases j <;> simp only [canonEntriesA_eq_G cent sels p _ h]

/-! ## side conditions -/

mutual
  /-- the spread fragments are the same list (unconditionally) -/
  theorem aSpreads_eq_G : ∀ (x : Sel), aSpreads s q o x = C01NG.aSpreads s q o x
    | .field a fid sub => by
      have IH := aSpreadss_eq_G sub
      rw [aSpreads, C01NG.aSpreads]
      cases s.fields[fid]? with
      | none => rfl
      | some sf =>
        simp only []
        cases sf.ty.id <;> simp only [IH]
    | .spread g => by simp [aSpreads, C01NG.aSpreads]
    | .inline _ _ => by simp [aSpreads, C01NG.aSpreads]
    | .typename => by simp [aSpreads, C01NG.aSpreads]
  theorem aSpreadss_eq_G : ∀ (sels : List Sel), aSpreadss s q o sels = C01NG.aSpreadss s q o sels
    | [] => rfl
    | x :: xs => by rw [aSpreadss, C01NG.aSpreadss, aSpreads_eq_G x, aSpreadss_eq_G xs]
end

mutual
  /-- the fragments selected at abstract positions, with the keys consumed there, are the same list (unconditionally) -/
  theorem aPays_eq_G : ∀ (x : Sel), aPays s q o x = C01NG.aPays s q o x
    | .field a fid sub => by
      have IH := aPayss_eq_G sub
      rw [aPays, C01NG.aPays]
      cases s.fields[fid]? with
      | none => rfl
      | some sf =>
        simp only []
        cases sf.ty.id <;> simp only [IH]
    | .spread g => by simp [aPays, C01NG.aPays]
    | .inline _ _ => by simp [aPays, C01NG.aPays]
    | .typename => by simp [aPays, C01NG.aPays]
  theorem aPayss_eq_G : ∀ (sels : List Sel), aPayss s q o sels = C01NG.aPayss s q o sels
    | [] => rfl
    | x :: xs => by rw [aPayss, C01NG.aPayss, aPays_eq_G x, aPayss_eq_G xs]
end

end Agree

mutual
  theorem sideOkSelA_eq_G {ok : TypeId → Nat → Bool} (KN : String → List String) (c : Ctx) : ∀ (x : Sel) (p : TypeId),
      C01NG.aSel ok c.s c.q c.o p x = true → sideOkSelA KN c x = C01NG.sideOkSelA KN c x
    | .field a fid sub, p => by
      intro h
      have IH := sideOkSelsA_eq_G (ok := ok) KN c sub
      obtain ⟨sf, hsf⟩ := C01NG.aSel_field_some h
      unfold sideOkSelA C01NG.sideOkSelA
      simp only [hsf, Option.map_some]
      by_cases hobj : ∃ i, sf.ty.id = .object i
      · obtain ⟨i, hid⟩ := hobj
        obtain ⟨_, _, _, hb⟩ := C01NG.aSel_obj hsf hid h
        simp only [hid]
        by_cases hsp : ∃ g, sub = [Sel.spread g]
        · obtain ⟨g, rfl⟩ := hsp; rfl
        · have hnl : ∀ g, sub ≠ [Sel.spread g] := fun g hg => hsp ⟨g, hg⟩
          rw [C01NG.aBody_not_lone hnl] at hb
          have e1 := IH _ hb
          split
          · exact absurd rfl (hnl _)
          · split
            · exact absurd rfl (hnl _)
            · rw [e1]
      · have hno : ∀ i, sf.ty.id ≠ .object i := fun i h => hobj ⟨i, h⟩
        have hnewfacts : ∀ (hnew : absFieldG ok c.s c.q c.o sf sub = true),
            unbody sub = sub ∧ ∀ vt, varSideOk c vt sub = EnumSpec.nodup (memRust c vt (strip sub)) := by
          intro hnew
          have hnb := absSubG_nobody (C01NG.absFieldG_parts hnew).2.2.2
          refine ⟨unbody_eq_self hnb, fun vt => ?_⟩
          unfold varSideOk
          rw [mineOf_any_body_false hnb, unbody_eq_self hnb]
          rfl
        rcases C01NG.aSel_nonobj hsf hno h with hs | ⟨hs, hnew⟩
        · cases hid : sf.ty.id with
          | object i => exact absurd hid (hno i)
          | scalar k => simp [hs]
          | «enum» k => simp [hs]
          | interface k => simp [hs]
          | union k => simp [hs]
          | input k => simp [hs]
        · obtain ⟨h1, h2⟩ := hnewfacts hnew
          cases hid : sf.ty.id with
          | object i => exact absurd hid (hno i)
          | scalar k => simp [hs, h2]
          | «enum» k => simp [hs, h2]
          | interface k => simp [hs, h2]
          | union k => simp [hs, h2]
          | input k => simp [hs, h2]
    | .spread g, _ => by intro _; simp [sideOkSelA, C01NG.sideOkSelA]
    | .inline _ _, _ => by intro _; simp [sideOkSelA, C01NG.sideOkSelA]
    | .typename, _ => by intro _; simp [sideOkSelA, C01NG.sideOkSelA]
  theorem sideOkSelsA_eq_G {ok : TypeId → Nat → Bool} (KN : String → List String) (c : Ctx) : ∀ (sels : List Sel)
      (p : TypeId), C01NG.aSels ok c.s c.q c.o p sels = true → sideOkSelsA KN c sels = C01NG.sideOkSelsA KN c sels
    | [], _ => by intro _; rfl
    | x :: xs, p => by
      intro h
      obtain ⟨hx, hxs⟩ := C01NG.aSels_cons h
      rw [sideOkSelsA, C01NG.sideOkSelsA, sideOkSelA_eq_G KN c x p hx, sideOkSelsA_eq_G KN c xs p hxs]
end

mutual
  theorem keysOkA_eq_G {ok : TypeId → Nat → Bool} (KN : String → List String) (c : Ctx) : ∀ (x : Sel) (p : TypeId),
      C01NG.aSel ok c.s c.q c.o p x = true → keysOkA KN c x = C01NG.keysOkA KN c x
    | .field a fid sub, p => by
      intro h
      have IH := keysOksA_eq_G (ok := ok) KN c sub
      obtain ⟨sf, hsf⟩ := C01NG.aSel_field_some h
      rw [keysOkA, C01NG.keysOkA]
      simp only [hsf, Option.map_some]
      by_cases hobj : ∃ i, sf.ty.id = .object i
      · obtain ⟨i, hid⟩ := hobj
        obtain ⟨_, _, _, hb⟩ := C01NG.aSel_obj hsf hid h
        simp only [hid]
        by_cases hsp : ∃ g, sub = [Sel.spread g]
        · obtain ⟨g, rfl⟩ := hsp
          simp [keysOksA, keysOkA, C01NG.keysOksA, C01NG.keysOkA]
        · have hnl : ∀ g, sub ≠ [Sel.spread g] := fun g hg => hsp ⟨g, hg⟩
          rw [C01NG.aBody_not_lone hnl] at hb
          rw [IH _ hb]
      · have hno : ∀ i, sf.ty.id ≠ .object i := fun i h => hobj ⟨i, h⟩
        rcases C01NG.aSel_nonobj hsf hno h with hs | ⟨hs, hnew⟩
        · simp [hs]
        · have hnb := absSubG_nobody (C01NG.absFieldG_parts hnew).2.2.2
          have h3 : ∀ vt, varKeysOk KN c vt sub = EnumSpec.nodup (memKeys KN c vt (strip sub)) := by
            intro vt
            unfold varKeysOk
            rw [mineOf_any_body_false hnb, unbody_eq_self hnb]
            rfl
          simp [hs, h3]
    | .spread g, _ => by intro _; simp [keysOkA, C01NG.keysOkA]
    | .inline _ _, _ => by intro _; simp [keysOkA, C01NG.keysOkA]
    | .typename, _ => by intro _; simp [keysOkA, C01NG.keysOkA]
  theorem keysOksA_eq_G {ok : TypeId → Nat → Bool} (KN : String → List String) (c : Ctx) : ∀ (sels : List Sel)
      (p : TypeId), C01NG.aSels ok c.s c.q c.o p sels = true → keysOksA KN c sels = C01NG.keysOksA KN c sels
    | [], _ => by intro _; rfl
    | x :: xs, p => by
      intro h
      obtain ⟨hx, hxs⟩ := C01NG.aSels_cons h
      rw [keysOksA, C01NG.keysOksA, keysOkA_eq_G KN c x p hx, keysOksA_eq_G KN c xs p hxs]
end


/-- without inline fragments with fields of their own the environment of the position is the one of `NestedGenOp` -/
theorem envAbsX_eq_G {ok : TypeId → Nat → Bool} {fenv : Nat → Prop} {e : Env} {c : Ctx} {name : String} {ty : TypeId}
    {sub : List Sel} (h : absSubG ok c.s c.q c.o ty sub = true) :
    EnvAbsX fenv e c name ty sub = EnvAbsG fenv e c name ty sub := by
  have hnb := absSubG_nobody h
  unfold EnvAbsX EnvAbsG VarEnvX
  simp only [variantsV_marks_strip c name ty sub, mineOf_any_body_false hnb, unbody_eq_self hnb, Bool.false_eq_true, if_false]

mutual
  theorem envSelA_eq_G {ok : TypeId → Nat → Bool} (fenv : Nat → Prop) (e : Env) (c : Ctx) (hok : OkSpec c.q ok) :
      ∀ (x : Sel) (p : TypeId) (pfx : String),
      C01NG.aSel ok c.s c.q c.o p x = true → envSelA fenv e c pfx x = C01NG.envSelA fenv e c pfx x
    | .field a fid sub, p, pfx => by
      intro h
      have IH := envSelsA_eq_G (ok := ok) fenv e c hok sub
      obtain ⟨sf, hsf⟩ := C01NG.aSel_field_some h
      rw [envSelA, C01NG.envSelA]
      simp only [hsf]
      by_cases hobj : ∃ i, sf.ty.id = .object i
      · obtain ⟨i, hid⟩ := hobj
        obtain ⟨_, _, _, hb⟩ := C01NG.aSel_obj hsf hid h
        simp only [hid]
        by_cases hsp : ∃ g, sub = [Sel.spread g]
        · obtain ⟨g, rfl⟩ := hsp; rfl
        · have hnl : ∀ g, sub ≠ [Sel.spread g] := fun g hg => hsp ⟨g, hg⟩
          rw [C01NG.aBody_not_lone hnl] at hb
          split
          · exact absurd rfl (hnl _)
          · split
            · exact absurd rfl (hnl _)
            · rw [IH _ _ hb]
      · have hno : ∀ i, sf.ty.id ≠ .object i := fun i h => hobj ⟨i, h⟩
        rcases C01NG.aSel_nonobj hsf hno h with hs | ⟨hs, hnew⟩
        · split
          · exact absurd ‹_› (hno _)
          · simp [hs]
        · have hu := envAbsX_eq_G (fenv := fenv) (e := e) (c := c) (name := pfx ++ c.cs.camel (a.getD sf.name))
            (C01NG.absFieldG_parts hnew).2.2.2
          split
          · exact absurd ‹_› (hno _)
          · simp [hs, hu]
    | .spread g, _, _ => by intro _; simp [envSelA, C01NG.envSelA]
    | .inline _ _, _, _ => by intro _; simp [envSelA, C01NG.envSelA]
    | .typename, _, _ => by intro _; simp [envSelA, C01NG.envSelA]
  theorem envSelsA_eq_G {ok : TypeId → Nat → Bool} (fenv : Nat → Prop) (e : Env) (c : Ctx) (hok : OkSpec c.q ok) :
      ∀ (sels : List Sel) (p : TypeId) (pfx : String),
      C01NG.aSels ok c.s c.q c.o p sels = true → envSelsA fenv e c pfx sels = C01NG.envSelsA fenv e c pfx sels
    | [], _, _ => by intro _; simp [envSelsA, C01NG.envSelsA]
    | x :: xs, p, pfx => by
      intro h
      obtain ⟨hx, hxs⟩ := C01NG.aSels_cons h
      rw [envSelsA, C01NG.envSelsA, envSelA_eq_G fenv e c hok x p pfx hx, envSelsA_eq_G fenv e c hok xs p pfx hxs]
end

/-- a lone spread or not: the side conditions of a body of `NestedGenOp` -/
theorem body_agree_G {c : Ctx} {op : ROperation} (h : NestedGenOp c op = true) :
    (∀ KN, sideOkSelsA KN c op.sels = C01NG.sideOkSelsA KN c op.sels) ∧
      ∀ KN, keysOksA KN c op.sels = C01NG.keysOksA KN c op.sels := by
  obtain ⟨_, _, hb⟩ := C01NG.nestedGenOp_parts h
  by_cases hsp : ∃ g, op.sels = [Sel.spread g]
  · obtain ⟨g, hg⟩ := hsp
    rw [hg]
    refine ⟨fun KN => ?_, fun KN => ?_⟩
    · simp [sideOkSelsA, sideOkSelA, C01NG.sideOkSelsA, C01NG.sideOkSelA]
    · simp [keysOksA, keysOkA, C01NG.keysOksA, C01NG.keysOkA]
  · have hnl : ∀ g, op.sels ≠ [Sel.spread g] := fun g hg => hsp ⟨g, hg⟩
    rw [C01NG.aBody_not_lone hnl] at hb
    exact ⟨fun KN => sideOkSelsA_eq_G KN c _ _ hb, fun KN => keysOksA_eq_G KN c _ _ hb⟩

theorem nestedGen2KeysOk_eq_G (c : Ctx) (op : ROperation) (h : NestedGenOp c op = true) :
    nestedGen2KeysOk c op = nestedGenKeysOk c op := by
  unfold nestedGen2KeysOk nestedGenKeysOk
  rw [aSpreadss_eq_G, (body_agree_G h).2]

theorem nestedGen2SideOk_eq_G (c : Ctx) (op : ROperation) (h : NestedGenOp c op = true) :
    nestedGen2SideOk c op = nestedGenSideOk c op := by
  unfold nestedGen2SideOk nestedGenSideOk
  rw [aSpreadss_eq_G, (body_agree_G h).1]

/-- the same side condition, on every operation -/
theorem absTagOk_eq_G (c : Ctx) (op : ROperation) : absTagOk c op = C01NG.absTagOk c op := by
  unfold absTagOk C01NG.absTagOk
  rw [aPayss_eq_G]

/-- … and `nestedgen2_precise_iff` is `nestedgen_precise_iff` there -/
theorem conformsLooseA_eq_G_op (c : Ctx) (op : ROperation) (ht : NestedGenOp c op = true)
    (whole : Nat → Bool → Json → Bool) (b : Bool) (j : Json) :
    conformsLooseA whole c.s c.q c.o b op.sels j = C01NG.conformsLooseA whole c.s c.q c.o b op.sels j :=
  conformsLooseA_eq_G whole b _ _ j (C01NG.nestedGenOp_parts ht).2.2


/-- `NestedAbsOp ⊆ NestedGen2Op` -/
theorem nestedGen2Op_of_nestedAbsOp (c : Ctx) (op : ROperation) (h : NestedAbsOp c op = true) : NestedGen2Op c op = true :=
  nestedGen2Op_of_nestedGenOp c op (nestedGenOp_of_nestedAbsOp c op h)

/-- on `NestedAbsOp` the closed form of `nestedgen2_items_shape` is the one of `nestedabs_items_shape` -/
theorem bodyItemsA_eq_A2 (c : Ctx) (op : ROperation) (h : NestedAbsOp c op = true) (name pfx : String) :
    bodyItemsA c name pfx op.sels = C01NA.bodyItemsA c name pfx op.sels := by
  rw [bodyItemsA_eq_G c op (nestedGenOp_of_nestedAbsOp c op h), C01NG.bodyItemsA_eq_A c op h]

end C01NX
end GqlVerif
