import GqlVerif.Proofs.C01NestedA
/-!
# `NestedOp`, serde: a struct whose flattened members have flattened members themselves

This file is the second of `NestedOp`'s files `C01Nested{A..L}` (namespace `C01N`); it is not one of the files
`C01NestedB{A..W}` of the class `NestedBOp`.

The flatten lemmas of `C01AbstractG` (`deStructMap_flat`, `MemberOk`) need every flattened member to be a PLAIN struct.  The
struct of a fragment whose own body spreads a fragment is not: `struct Outer { name, #[serde(flatten)] inner: Inner }`.
serde reads such a member with `deserialize_map`: it sees **every** entry still in the buffer and takes none
(`Serde.deFlat`, the `fields.any (·.flatten)` branch: `deFlat_nonplain_struct`), whereas a plain member takes the entries it
recognises.  `MemberOkN` / `memberVal`: a flattened member that is a struct item (plain or not), and what it reads from an
object — by `memberVal_eq_dePath` the very function that reads the fragment struct at an object position.

Acceptance of a struct with such members (`okB_deStructMapN`, `C01NestedG`) is the case "struct item" of `okB_deStructMapA`
(`C01AliasFragS`).
-/

namespace GqlVerif
namespace C01N
open Serde Spec C13 C03 Codegen C01 C01.E2E C01M

/-- the member is a struct item of the environment (plain, or with flattened members of its own) -/
def MemberOkN (e : Env) (g : RField) : Prop :=
  ∃ q n d c, g.ty = .path q ∧ notPrim q ∧ e.find q = some (.struct n d c (memberFields e g))

/-- what a flattened member reads from the object `kvs`: its struct, from buffered content -/
def memberVal (e : Env) (fuel : Nat) (g : RField) (kvs : List (String × Json)) : D Val :=
  deStructMapWith (dePath e true fuel) (deFlat e fuel) (memberFields e g) kvs

set_option linter.unusedVariables false in
/-- … which is how the struct is read at any other place (with buffered content) -/
theorem memberVal_eq_dePath (e : Env) (fuel : Nat) (g : RField) (q n : String) (d : List String) (c : Option String)
    (hty : g.ty = .path q) (hnp : notPrim q) (hfind : e.find q = some (.struct n d c (memberFields e g)))
    (kvs : List (String × Json)) : memberVal e fuel g kvs = dePath e true (fuel + 1) q (.obj kvs) := by
  rw [dePath_struct e true fuel q n d c _ hnp hfind, deStruct_obj]; rfl

theorem any_flatten_of_not_plain {fields : List RField} (h : plain fields = false) :
    fields.any (·.flatten) = true := by
  induction fields with
  | nil => simp [plain] at h
  | cons f fs ih =>
    cases hf : f.flatten
    · have : plain fs = false := by simpa [plain, hf] using h
      simp [List.any_cons, hf, ih this]
    · simp [List.any_cons, hf]

theorem flatten_false_of_plain {fields : List RField} (h : plain fields = true) : ∀ f ∈ fields, f.flatten = false :=
  fun _ hf => not_flatten_of_plain h hf

/-- `deserialize_map`: a flattened member with flattened members of its own sees every remaining entry and takes none -/
theorem deFlat_nonplain_struct (e : Env) (fuel : Nat) (q n : String) (d : List String) (c : Option String)
    (gfields : List RField) (buf : Buf) (he : e.find q = some (.struct n d c gfields))
    (hany : gfields.any (·.flatten) = true) :
    deFlat e (fuel + 1) (.path q) buf =
      (do let v ← deStructMapWith (dePath e true fuel) (deFlat e fuel) gfields (present buf)
          pure (v, buf)) := by
  rw [deFlat]
  simp only [he, hany, ↓reduceIte]

protected theorem filter_not_append (kvs : List (String × Json)) (L W : List String) :
    (kvs.filter (fun kv => !L.contains kv.1)).filter (fun kv => !W.contains kv.1) =
      kvs.filter (fun kv => !(L ++ W).contains kv.1) :=
  C01.filter_not_append kvs L W

protected theorem filter_not_nil (kvs : List (String × Json)) :
    kvs.filter (fun kv => !([] : List String).contains kv.1) = kvs :=
  C01.filter_not_nil kvs

/-- own fields of a plain field list: entries with other keys do not matter (value level) -/
theorem deOwn_filter_not (path : String → Json → D Val) (L : List String) (kvs : List (String × Json))
    (fields : List RField) (h : ∀ f ∈ fields, f.flatten = false → f.wire ∉ L) :
    deOwnWith path fields (kvs.filter (fun kv => !L.contains kv.1)) = deOwnWith path fields kvs := by
  have hw : ∀ k ∈ (fields.filter (fun f => !f.flatten)).map (·.wire), k ∉ L := by
    intro k hk
    obtain ⟨f, hf, rfl⟩ := List.mem_map.mp hk
    have := List.mem_filter.mp hf
    exact h f this.1 (by simpa using this.2)
  have hkeys : ∀ f ∈ fields, f.flatten = false → f.wire ∈ (fields.filter (fun f => !f.flatten)).map (·.wire) :=
    fun f hf hfl => List.mem_map_of_mem (List.mem_filter.mpr ⟨hf, by simp [hfl]⟩)
  rw [← deOwn_filter path _ (kvs.filter (fun kv => !L.contains kv.1)) fields hkeys,
    filter_filter_disjoint kvs L _ hw, deOwn_filter path _ kvs fields hkeys]

end C01N
end GqlVerif
