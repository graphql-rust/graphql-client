import GqlVerif.Proofs.C01DenyFragLossless
import GqlVerif.Proofs.C14GeneratedFragWitness
/-!
# `FragOpD` under `deny`: a concrete module with every hypothesis evaluated; `loneOkOp` is necessary

The module of `C14GeneratedFragWitness`:
`fragment AF on Animal { name when owner { id since } }`, `query Q { animal { ...AF friends { ...AF } } when }`, strategy
`deny`, `when` / `since` deprecated.  Every hypothesis of `fragD_roundtrip` / `fragD_precise_iff` holds by evaluation
(`fd_*`, with `f_class`, `f_keys`, `f_gen` of `C14GeneratedFragWitness`).

* `fd_roundtrip` — a payload conforming to the operation as written (all denied fields present, at the root, in the object
  read through the flattened fragment struct, in the aliased one inside a list, two levels down) is read and written back
  as `fdCanon`; `fd_precise` and accepted / rejected payloads;
* **`lone_spread_matters`** — `query Q { animal { when ...AF } }`: every hypothesis of `fragD_precise_iff` but
  `loneOkOp` holds, and the statement is false: the generator emits `struct Qanimal { #[serde(flatten)] af: AF }`, which
  rejects a JSON array, while the pruned operation `animal { ...AF }` would get the alias `type Qanimal = AF`, which reads
  it positionally.
-/
namespace GqlVerif
namespace C01
namespace Deny
open Serde Spec C03 Codegen C01.E2E C14G C14G.Witness C14G.FragWitness

theorem fd_prune : FragmentOp (pruneCtx fCtx) (pruneOp fCtx fOp) = true := by decide +kernel
theorem fd_keys : fragKeysOk (pruneCtx fCtx) (pruneOp fCtx fOp) = true := by decide +kernel
theorem fd_lone : loneOkOp fCtx fOp = true := by decide +kernel
theorem fd_tn : tnOkOpF fCtx fOp = true := by decide +kernel
theorem fd_moduleOk : moduleOk fCtx fItems = true := by decide +kernel
theorem fd_rust : fragRustOk (pruneCtx fCtx) (pruneOp fCtx fOp) = true := by decide +kernel

def fdFull : Json :=
  .obj [("when", .str "root"),
        ("animal", .obj [("when", .str "2020"), ("name", .str "Rex"),
                         ("owner", .obj [("since", .str "2019"), ("id", .int 7)]),
                         ("friends", .arr [.obj [("name", .str "Tom"), ("when", .str "2020"), ("owner", .null)]])])]

def fdCanon : Json :=
  .obj [("animal", .obj [("name", .str "Rex"), ("owner", .obj [("id", .str "7")]),
                         ("friends", .arr [.obj [("name", .str "Tom"), ("owner", .null)]])])]

theorem fd_conforms : conformsOpF fCtx fOp fdFull = true := by
  rw [conformsOpF, conformsV_eq_K]
  decide +kernel


def fdErased : Json :=
  .obj [("animal", .obj [("name", .str "Rex"), ("owner", .obj [("id", .int 7)]),
                         ("friends", .arr [.obj [("name", .str "Tom"), ("owner", .null)]])])]

theorem fd_erase : eraseDeniedF fCtx fOp fdFull = fdErased := by
  simp [eraseDeniedF, eraseObjF, eraseInSelF, eraseEntryF, eraseFragEntry, eraseInSel, eraseEntry, thruQuals, eraseKeys,
    dropKeysF, dropKeys, collectedDenied, collectedKept, spreadFrags, deniedKeys, keptKeys, deniedKey, keptKey, isDenied,
    fCtx, fOp, fQuery, wSchema, fdFull, fdErased, Schema.defaultScalars]

def fdPrunedSels : List Sel := [.field none 0 [.spread 0, .field none 5 [.spread 0]]]
def fdPrunedQ : Query :=
  { fragments := [{ name := "AF", on := .object 1, sels := [.field none 1 [], .field none 3 [.field none 4 []]] }],
    operations := [fOp] }

theorem fd_pruneSels : pruneSels fCtx fOp.sels = fdPrunedSels := by
  simp [pruneSels, pruneSel, fCtx, fOp, wSchema, isDenied, fdPrunedSels]

theorem fd_pruneQ : (pruneCtx fCtx).q = fdPrunedQ := by
  simp [pruneCtx, pruneFrag, pruneSels, pruneSel, fCtx, fQuery, wSchema, isDenied, fdPrunedQ]

theorem fd_canon : canonSelF fCtx.s (pruneCtx fCtx).q fCtx.o.skipNone (pruneSels fCtx fOp.sels)
    (eraseDeniedF fCtx fOp fdFull) = fdCanon := by
  rw [fd_erase, fd_pruneSels, fd_pruneQ]
  simp [canonSelF, canonEntriesF, canonFieldF, canonSelV, canonEntriesV, canonFieldV, canon, canonNN, idCanon, gtyOf,
    fragSels, fCtx, wSchema, fdPrunedSels, fdPrunedQ, fdErased, fdCanon, Json.lookup, skipQ, Json.isNull,
    Schema.defaultScalars]
  decide

theorem fd_roundtrip : Serde.roundtrip fEnv (.path "ResponseData") fdFull = .ok fdCanon := by
  rw [← fd_canon]
  exact fragD_roundtrip fCtx 0 fOp fItems rfl f_class f_keys fd_prune fd_keys fd_rust fd_lone fd_tn f_gen fd_moduleOk
    fdFull fd_conforms

theorem fd_precise (j : Json) :
    okB (Serde.de fEnv (.path "ResponseData") j) = conformsLooseF wSchema fdPrunedQ fCtx.o false fdPrunedSels j := by
  have := fragD_precise_iff fCtx 0 fOp fItems rfl f_class fd_prune fd_keys fd_lone f_gen fd_moduleOk j
  rw [fd_pruneSels, fd_pruneQ] at this
  exact this

macro "fd_eval" : tactic => `(tactic|
  simp [conformsLooseF, looseOwnF, looseMemF, looseArrF, looseFieldF, conformsLooseV, looseSelsV, looseArrV,
    looseFieldV, fragSels, isSpread, wSchema, fdPrunedSels, fdPrunedQ, Json.lookup, accepts, acceptsNN, gtyOf, scalarOk,
    idOk, i64Ok, stringOk, Json.isNull, nullableQ, countKey, Schema.defaultScalars])

/-- accepted: the payload of `C14GeneratedFragWitness` with the denied keys (one of the wrong type) -/
example : okB (Serde.de fEnv (.path "ResponseData") fWith) = true := by rw [fd_precise]; unfold fWith; fd_eval
/-- rejected: a wrong scalar kind for a kept field read through the flattened fragment struct -/
example : okB (Serde.de fEnv (.path "ResponseData")
    (.obj [("animal", .obj [("name", .int 3), ("when", .str "x")])])) = false := by rw [fd_precise]; fd_eval
/-- rejected: the kept non-null `id` missing two levels down, whatever the denied `since` -/
example : okB (Serde.de fEnv (.path "ResponseData")
    (.obj [("animal", .obj [("owner", .obj [("since", .str "x")])])])) = false := by rw [fd_precise]; fd_eval

/-! necessity of `loneOkOp` -/
/-- `query Q { animal { when ...AF } }`, `when` denied: pruning leaves the lone spread `animal { ...AF }` -/
def lOp : ROperation :=
  { name := "Q", kind := .query, objectId := 0, sels := [.field none 0 [.field none 2 [], .spread 0]] }
def lQuery : Query :=
  { fragments := [{ name := "AF", on := .object 1, sels := [.field none 1 []] }], operations := [lOp] }
def lCtx : Ctx := { s := wSchema, q := lQuery, o := { deprecation := .deny }, cs := ⟨id, id⟩ }
def lItems : List Item := (responseForQuery lCtx 0).toOption.getD []
def lEnv : Env := moduleEnv lCtx lItems
def lJson : Json := .obj [("animal", .arr [.null])]

theorem lone_spread_matters :
    FragOpD lCtx lOp = true ∧ FragKeysOkD lCtx lOp = true ∧
    FragmentOp (pruneCtx lCtx) (pruneOp lCtx lOp) = true ∧ fragKeysOk (pruneCtx lCtx) (pruneOp lCtx lOp) = true ∧
    responseForQuery lCtx 0 = .ok lItems ∧ moduleOk lCtx lItems = true ∧
    loneOkOp lCtx lOp = false ∧
    okB (Serde.de lEnv (.path "ResponseData") lJson) = false ∧
    conformsLooseF lCtx.s (pruneCtx lCtx).q lCtx.o false (pruneSels lCtx lOp.sels) lJson = true ∧
    lItems.filterMap (fun | .struct n _ _ fs => some (n, fs.map (fun f => (f.wire, f.flatten))) | _ => none) =
      [("AF", [("name", false)]), ("ResponseData", [("animal", false)]), ("Qanimal", [("AF", true)])] := by
  refine ⟨by decide +kernel, by decide +kernel, by decide +kernel, by decide +kernel,
    except_ok_of_isSome (by decide +kernel), by decide +kernel, by decide +kernel, by decide +kernel, ?_,
    by decide +kernel⟩
  have hp : pruneSels lCtx lOp.sels = [.field none 0 [.spread 0]] := by
    simp [pruneSels, pruneSel, lCtx, lOp, wSchema, isDenied]
  have hq : (pruneCtx lCtx).q = lQuery := by
    simp [pruneCtx, pruneFrag, pruneSels, pruneSel, lCtx, lQuery, wSchema, isDenied]
  rw [hp, hq]
  simp [conformsLooseF, looseOwnF, looseMemF, looseFieldF, conformsLooseV, looseSelsV, looseArrV,
    looseFieldV, fragSels, lCtx, wSchema, lQuery, lJson, Json.lookup, accepts, acceptsNN, gtyOf, scalarOk,
    stringOk, Json.isNull, nullableQ, countKey, Schema.defaultScalars]

end Deny
end C01
end GqlVerif
