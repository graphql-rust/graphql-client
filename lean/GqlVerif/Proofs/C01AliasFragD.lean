import GqlVerif.Proofs.C01AliasFragA
import GqlVerif.Proofs.C01AliasFragC
import GqlVerif.Proofs.C01NestedD
import GqlVerif.Proofs.AcyclicModulesClasses
/-!
# `AliasFragOp`: the rank recursion; `ResponseData` accepts exactly `conformsLooseN`

As `C01NestedD`, with the ranks of `fragOkA`:

* `wholeA c r g b j` — what the type of the fragment `g` accepts: rank `0` `conformsLooseV` of its (spread-free) body, a
  fragment new at rank `r + 1` `conformsLooseN (wholeA c r)` of its body — for a lone-spread body `...G` that is
  `wholeA c r G`: **the alias accepts what its target accepts**;
* `KNa c r name` — the response keys read at the object level of the type named `name` (alias: those of its target);
* `FragEnvA e c r g` — the fragment's name resolves to the items of `aliasfrag_fragment_shape` (`BodyEnvN`: an alias item
  for a lone-spread body, a struct item otherwise), and so on below;
* `fragSideA c r g` — decidable side condition, the formula of `fragSideN`.

`fragAccA` gives `FragAccA e c (wholeA c r) (KNa c r) g` by induction on the rank; `top_accepts_iffA` as `top_accepts_iffN`.
-/

namespace GqlVerif
namespace C01AF
open Serde Spec C13 C03 Codegen C01 C01.E2E C01M C01N

/-- **what the type of the fragment `g` accepts** -/
def wholeA (c : Ctx) : Nat → Nat → Bool → Json → Bool
  | 0, g, b, j => conformsLooseV c.s c.o b (fragSels c.q g) j
  | r + 1, g, b, j =>
    if fragOkA c.s c.q c.o r (fragOn c.q g) g then wholeA c r g b j
    else conformsLooseN (wholeA c r) c.s c.q c.o b (fragSels c.q g) j

/-- the response keys the type named `name` reads at its own object level -/
def KNa (c : Ctx) : Nat → String → List String
  | 0, name => fieldKeys c.s (fragSels c.q (idOf c.q name))
  | r + 1, name =>
    if fragOkA c.s c.q c.o r (fragOn c.q (idOf c.q name)) (idOf c.q name) then KNa c r name
    else expKeysN (KNa c r) c (fragSels c.q (idOf c.q name))

def FragEnvA (e : Env) (c : Ctx) : Nat → Nat → Prop
  | 0, g => FragEnv e c g
  | r + 1, g =>
    if fragOkA c.s c.q c.o r (fragOn c.q g) g = true then FragEnvA e c r g
    else match c.q.fragments[g]? with
      | some f => BodyEnvN (FragEnvA e c r) e c f.name (c.cs.camel f.name) f.sels
      | none => True

/-- keys disjoint between a spread and its siblings, inside the body of the fragment `g` and of the fragments spread there -/
def fragSideA (c : Ctx) : Nat → Nat → Bool
  | 0, _ => true
  | r + 1, g =>
    if fragOkA c.s c.q c.o r (fragOn c.q g) g then fragSideA c r g
    else keysOksN (KNa c r) c (fragSels c.q g) && EnumSpec.nodup (expKeysN (KNa c r) c (fragSels c.q g)) &&
      (objSpreadss c.s (fragSels c.q g)).all (fragSideA c r)

theorem FragAccA.congr {e : Env} {c : Ctx} {whole whole' : Nat → Bool → Json → Bool} {KN KN' : String → List String}
    {g : Nat} (fa : FragAccA e c whole KN g) (hw : ∀ b j, whole' g b j = whole g b j)
    (hk : KN' (fragName c g) = KN (fragName c g)) : FragAccA e c whole' KN' g := by
  obtain ⟨Nm, hmem⟩ := fa.mem
  obtain ⟨N, hacc⟩ := fa.acc
  refine ⟨⟨Nm, fun fuel hf => by rw [hk]; exact hmem fuel hf⟩, ⟨N, fun fd hfd b j => by rw [hw]; exact hacc fd hfd b j⟩, ?_⟩
  intro L hL b kvs
  rw [hw, hw]
  exact fa.irr L (by rw [← hk]; exact hL) b kvs

theorem wholeA_zero (c : Ctx) : wholeA c 0 = wholeN c 0 := by
  funext g b j; rw [wholeA, wholeN]

theorem KNa_zero (c : Ctx) : KNa c 0 = KNn c 0 := by
  funext name; rw [KNa, KNn]

/-- **what the type of a fragment of rank `r` accepts, exactly** (by induction on the rank) -/
theorem fragAccA (e : Env) (c : Ctx) (hnd : fragNamesOk c = true) : ∀ (r : Nat) (p : TypeId) (g : Nat),
    fragOkA c.s c.q c.o r p g = true → FragEnvA e c r g → fragSideA c r g = true →
    FragAccA e c (wholeA c r) (KNa c r) g
  | 0, p, g => by
    intro h henv _
    rw [fragOkA] at h
    rw [FragEnvA] at henv
    rw [wholeA_zero, KNa_zero]
    exact FragAccA.of_fragAcc (fragAccN e c hnd 0 p g (by rw [fragOkN]; exact h) (by rw [FragEnvN]; exact henv)
      (by rw [fragSideN]))
  | r + 1, p, g => by
    intro h henv hside
    have IH := fragAccA e c hnd r
    by_cases hold : fragOkA c.s c.q c.o r p g = true
    · -- already of rank `r`
      obtain ⟨fr, hfr, hon, _, _⟩ := fragOkA_spec c.s c.q c.o r p g hold
      have hfon : fragOn c.q g = p := by simp [fragOn, hfr, hon]
      have hname : fragName c g = fr.name := by simp [fragName, hfr]
      have hid : idOf c.q fr.name = g := idOf_name hnd hfr
      rw [FragEnvA, hfon, if_pos hold] at henv
      rw [fragSideA, hfon, if_pos hold] at hside
      refine (IH p g hold henv hside).congr (fun b j => ?_) ?_
      · rw [wholeA, hfon, if_pos hold]
      · rw [hname, KNa, hid, hfon, if_pos hold]
    · -- new at rank `r + 1`
      have holdf : fragOkA c.s c.q c.o r p g = false := by simpa using hold
      rw [fragOkA, holdf, Bool.false_or] at h
      obtain ⟨fr, hfr, hon, _, _, hb⟩ := fragNewA_parts h
      have hfon : fragOn c.q g = p := by simp [fragOn, hfr, hon]
      have hname : fragName c g = fr.name := by simp [fragName, hfr]
      have hsels : fragSels c.q g = fr.sels := by simp [fragSels, hfr]
      have hid : idOf c.q fr.name = g := idOf_name hnd hfr
      have hKN : KNa c (r + 1) fr.name = expKeysN (KNa c r) c fr.sels := by
        rw [KNa, hid, hfon, if_neg hold, hsels]
      have hwh : ∀ b j, wholeA c (r + 1) g b j = conformsLooseN (wholeA c r) c.s c.q c.o b fr.sels j := by
        intro b j; rw [wholeA, hfon, if_neg hold, hsels]
      rw [FragEnvA, hfon, if_neg hold] at henv
      simp only [hfr] at henv
      rw [fragSideA, hfon] at hside
      simp only [holdf, Bool.false_eq_true, ↓reduceIte, hsels, Bool.and_eq_true, List.all_eq_true] at hside
      obtain ⟨⟨hko, hkeys⟩, hsub⟩ := hside
      have hok := fragOkA_spec c.s c.q c.o r
      have hfa : ∀ p' g', fragOkA c.s c.q c.o r p' g' = true →
          (FragEnvA e c r g' ∧ fragSideA c r g' = true) → FragAccA e c (wholeA c r) (KNa c r) g' :=
        fun p' g' h1 h2 => IH p' g' h1 h2.1 h2.2
      rcases lone_or_not fr.sels with hsp | hnl
      · -- **a lone spread: the fragment is a type alias of the fragment `g'`**
        obtain ⟨g', hg'⟩ := hsp
        rw [hg'] at hb henv hsub hKN hwh
        have hokg' : fragOkA c.s c.q c.o r fr.on g' = true := hb
        unfold BodyEnvN at henv
        simp only at henv
        obtain ⟨ha, henv'⟩ := henv
        have hside' : fragSideA c r g' = true := hsub g' (by simp [objSpreadss, objSpreads])
        have fa' := IH fr.on g' hokg' henv' hside'
        have hKN' : KNa c (r + 1) fr.name = KNa c r (fragName c g') := by
          rw [hKN]; simp [expKeysN]
        have hwh' : ∀ b j, wholeA c (r + 1) g b j = wholeA c r g' b j := by
          intro b j; rw [hwh]; rfl
        obtain ⟨Nm, hmem⟩ := fa'.mem
        obtain ⟨hp, _, n, pub, hfind⟩ := ha
        refine ⟨⟨Nm + 1, fun fuel hf => ?_⟩, ?_, ?_⟩
        · obtain ⟨fuel', rfl⟩ : ∃ k, fuel = k + 1 := ⟨fuel - 1, by omega⟩
          rw [hname, hKN']
          exact memSpec_chain e 1 fr.name (fragName c g') fuel' _ (chain_one hp hfind) (hmem fuel' (by omega))
        · obtain ⟨N, hN⟩ := accAliasA e c _ (wholeA c r) (KNa c r) _ hfa fr.name fr.on g' hokg'
            ⟨hp, ‹_›, n, pub, hfind⟩ ⟨henv', hside'⟩
          refine ⟨N, fun fd hfd b j => ?_⟩
          rw [hname, hwh']
          exact hN b fd hfd j
        · intro L hL b kvs
          rw [hname, hKN'] at hL
          rw [hwh', hwh']
          exact fa'.irr L hL b kvs
      · rw [nBody_not_lone hnl] at hb
        obtain ⟨hs, henvs⟩ := bodyEnvN_not_lone hnl henv
        have henvs' := envSelsN_and (P := fun g' => fragSideA c r g' = true) fr.sels _ henvs hsub
        obtain ⟨N, hN⟩ := accStructA e c _ (wholeA c r) (KNa c r) _ hok hfa (c.cs.camel fr.name) fr.name fr.on fr.sels
          (accSelsA e c _ (wholeA c r) (KNa c r) _ fr.sels _ hok hfa) hnl hb henvs' hko hkeys hs
        obtain ⟨_, h2, _, _⟩ := flat_hypsN hok (KNa c r) (c.cs.camel fr.name) fr.on fr.sels hb (nodup_iff'.mp hkeys)
        obtain ⟨hp, _, n, d, cr, hfind⟩ := hs
        refine ⟨⟨0, fun fuel _ => ?_⟩, ⟨N, ?_⟩, ?_⟩
        · rw [hname, hKN]
          exact memSpec_struct e fuel fr.name n d cr _ _ hp hfind h2
        · intro fd hfd b j
          rw [hname, hwh]
          exact hN b fd hfd j
        · intro L hL b kvs
          rw [hname, hKN] at hL
          rw [hwh, hwh, conformsLooseN_not_lone hnl, conformsLooseN_not_lone hnl]
          simp only
          rw [looseOwnN_filter _ _ _ _ _ L kvs fr.sels
              (fun k hk hkL => hL k hkL (fieldKeys_sub_expKeysN (KNa c r) c fr.sels k hk)),
            looseMemN_filter _ L kvs fr.sels (fun g' hg' => by
              have hokg' : fragOkA c.s c.q c.o r fr.on g' = true := by
                simpa [nSel] using nSels_mem hb _ hg'
              have hfg' := envSelsN_mem henvs' _ hg'
              rw [envSelN] at hfg'
              exact (hfa _ g' hokg' hfg').irr L
                (fun k hkL hk => hL k hkL (spreadKeys_sub_expKeysN (KNa c r) c fr.sels g' hg' k hk)) true kvs)]

/-! ## top level (generic environment) -/

/-- keys disjoint between a spread at an object position and its siblings: at every object level of the operation, and
    inside the bodies of the spread fragments (decidable) -/
def aliasKeysOk (c : Ctx) (op : ROperation) : Bool :=
  keysOksN (KNa c c.q.fragments.length) c op.sels &&
  EnumSpec.nodup (expKeysN (KNa c c.q.fragments.length) c op.sels) &&
  (objSpreadss c.s op.sels).all (fragSideA c c.q.fragments.length)

structure TopEnvA (e : Env) (c : Ctx) (op : ROperation) : Prop where
  root : BodyEnvN (FragEnvA e c c.q.fragments.length) e c "ResponseData" (c.cs.camel op.name) op.sels
  ok : SerdeFuel.EnvOK e

/-- **`ResponseData` accepts exactly `conformsLooseN … false`** (generic environment) -/
theorem top_accepts_iffA (e : Env) (c : Ctx) (op : ROperation) (ht : AliasFragOp c op = true) (hnd : fragNamesOk c = true)
    (hk : aliasKeysOk c op = true) (he : TopEnvA e c op) (j : Json) :
    okB (Serde.de e (.path "ResponseData") j) =
      conformsLooseN (wholeA c c.q.fragments.length) c.s c.q c.o false op.sels j := by
  obtain ⟨_, _, hsels⟩ := aliasFragOp_parts ht
  simp only [aliasKeysOk, Bool.and_eq_true, List.all_eq_true] at hk
  obtain ⟨⟨hko, hkeys⟩, hsub⟩ := hk
  have hfa : ∀ p' g', fragOkA c.s c.q c.o c.q.fragments.length p' g' = true →
      (FragEnvA e c c.q.fragments.length g' ∧ fragSideA c c.q.fragments.length g' = true) →
      FragAccA e c (wholeA c c.q.fragments.length) (KNa c c.q.fragments.length) g' :=
    fun p' g' h1 h2 => fragAccA e c hnd _ p' g' h1 h2.1 h2.2
  exact Top.de_iff_ok he.ok
    (bodyA_accepts_iff e c _ (wholeA c c.q.fragments.length) (KNa c c.q.fragments.length) _
      (fragOkA_spec c.s c.q c.o _) hfa (c.cs.camel op.name) "ResponseData" _ op.sels hsels
      (bodyEnvN_and (P := fun g' => fragSideA c c.q.fragments.length g' = true) he.root hsub) hko hkeys) j

end C01AF
end GqlVerif
