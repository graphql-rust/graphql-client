import GqlVerif.Props.C02
import GqlVerif.Proofs.CalcRelation
/-!
# C02 — the response items of a generated module are closed and defined once

`Props/C02.lean` proves that the mentions of the emitted *input* items and of `Variables` are resolved
inside the module `Codegen.responseForQuery` emits.  This file proves the same for the **response
items** — the structs / tagged enums / aliases produced by `responseItems` and `fragmentItems` (the four
mutual `calc*` functions of `Model/Codegen.lean`, `renderType`, `renderField`) — and assembles the
executable scope check `Scope.wellScoped` on the whole module.  All statements are about the model's own
functions, for all schemas, queries, operations, options and case functions (no bound on sizes); core Lean
only.

* A successful `calcSelection` / `calcVariants` / `calcVariantSels` / `calcFields` call is a derivation of the
  relation of `Proofs/CalcRelation.lean` (`CalcSel.of_ok`); the facts about the emitted items are proved by
  induction on it.
* §2 `calc_refs` — for any notion of reference: every reference of an emitted item goes to an item later in the same
  list, or to the name of an enum / scalar selected below or of a fragment spread below.  `calc_closed` is the instance for mentions: the item list of a `calcSelection` call is
  closed (every mention is defined by an item of the same list, or resolved globally) whenever the used set
  covers the selections at hand (`Cov`, from `used_covered`) and the global part resolves the used
  enums / scalars / fragments (`GOK`); `C12I.calc_fwd` is the instance for by-value containment.
* §3 **`response_mentions_resolved`** (normalization `none`, `supplied = externEnums`) and
  **`response_mentions_resolved_mapped`** (any normalization, explicit name mapping `NameMapOK`,
  `supplied = externSupplied`): every mention of every item of `fragmentItems` / `responseItems` is resolved
  in the emitted module.  No well-formedness or keyword hypothesis is needed for the response side.
* §4 **`module_well_scoped_partial`** / `module_no_undefined_mentions` — with the input / `Variables`
  theorems: every mention of *every* item of the module is resolved (`supplied = moduleSupplied`: extern
  enums and the paths of the custom scalars).
* §5 `calc_names`, **`module_defines_eq`** — the list of names the module defines equals `moduleNames`, a
  structurally recursive function of the selection trees (path-concatenated names); hence
  **`defines_nodup_iff`** / **`defines_nodup`**: no name is defined twice iff the decidable `NoClash` holds.
* §6 `calc_shape`, **`module_serde_crate`** — every item with a serde derive names the serde crate.
* §7 **`module_well_scoped_iff`** — under the hypotheses of §4, `Scope.wellScoped` holds on the emitted
  module iff `NoClash` holds and no item has two members of the same identifier.
* §8 non-vacuity (`richCtx`) and necessity witnesses: `normalization_needed`, `nameMap_needed`,
  `defines_dup_witness` (path collision `a.bC` / `aB.c`), `member_dup_witness` (field `on`),
  `keyword_enum_variable_mismatch`, `object_variable_unresolved`.
-/
namespace GqlVerif
namespace C02
open Codegen

/-! ## 0. scope vocabulary -/

theorem defines_append (a b : List Item) : Scope.defines (a ++ b) = Scope.defines a ++ Scope.defines b := by
  simp [Scope.defines, List.filterMap_append]

theorem defines_cons (a : Item) (b : List Item) :
    Scope.defines (a :: b) = (Scope.itemDefines a).toList ++ Scope.defines b := by
  cases h : Scope.itemDefines a <;> simp [Scope.defines, h]

@[simp] theorem defines_nil : Scope.defines [] = [] := rfl

/-- `n` is resolved by the items `ctx` or by the global part `G` of the module -/
def Res (G : String → Prop) (ctx : List Item) (n : String) : Prop := n ∈ Scope.defines ctx ∨ G n

/-- every mention of every item of `items` is resolved by `ctx` or globally -/
def ClosedIn (G : String → Prop) (ctx items : List Item) : Prop :=
  ∀ it ∈ items, ∀ n ∈ Scope.itemMentions it, Res G ctx n

/-! ## 1. `renderField`, `aliasItem`, `renderType` -/

theorem renderField_leaf {c : Ctx} {g : Option String} {r ft : String} {quals : List Qual} {fl bx : Bool}
    {dep : Option (Option String)} {o : Option RField}
    (h : renderField c g r ft quals fl bx dep = .ok o) : ∀ f ∈ o.toList, Scope.leaf f.ty = ft := by
  obtain ⟨ty, hty, ⟨rfl, _⟩ | ⟨f', rfl, _, _, _, _, hfty⟩⟩ := renderField_cases h
  · simp
  · have hl := decorateType_leaf hty
    rw [leaf_eq] at hl
    intro f hf
    simp only [Option.toList_some, List.mem_singleton] at hf
    subst hf
    rw [hfty]
    split
    · simpa [Scope.leaf, C02.leaf] using hl
    · simpa [Scope.leaf, C02.leaf] using hl

theorem aliasItem_mentions (n t : String) (b : Bool) : Scope.itemMentions (aliasItem n t b) = [t] := by
  cases b <;> rfl

theorem aliasItem_defines (n t : String) (b : Bool) : Scope.itemDefines (aliasItem n t b) = some n := by
  cases b <;> rfl

/-- `aliasMember` on an `aliasItem`: the flattened member rendered for the fragment -/
theorem aliasMember_aliasItem (c : Ctx) (n t : String) (b : Bool) :
    aliasMember c (aliasItem n t b) =
      (renderField c none (c.cs.snake t) t [.required] true b none >>= fun fld => pure fld.toList) := by
  cases b <;> rfl

theorem aliasMember_leaf {c : Ctx} {n t : String} {b : Bool} {fs : List RField}
    (h : aliasMember c (aliasItem n t b) = .ok fs) : ∀ f ∈ fs, Scope.leaf f.ty = t := by
  rw [aliasMember_aliasItem] at h
  obtain ⟨fld, hfld, h⟩ := bind_ok h
  simp only [pure, Except.pure, Except.ok.injEq] at h
  subst h
  exact renderField_leaf hfld

/-- the leaves of the flattened members made from aliased fragments are the alias targets -/
theorem aliasMembers_leaf {c : Ctx} {al : List Item} {extra : List (List RField)}
    (h : al.mapM (aliasMember c) = .ok extra) {P : String → Prop} {sname : String}
    (hal : ∀ a ∈ al, ∃ tgt b, a = aliasItem sname tgt b ∧ P tgt) :
    ∀ f ∈ extra.flatten, P (Scope.leaf f.ty) := by
  intro f hf
  obtain ⟨fs, hfs, hf⟩ := List.mem_flatten.mp hf
  obtain ⟨a, ha, hfa⟩ := mapM_ok_mem h fs hfs
  obtain ⟨tgt, b, rfl, ht⟩ := hal a ha
  rw [aliasMember_leaf hfa f hf]
  exact ht

theorem renderType_defines (c : Ctx) (name : String) (fs : List RField) (vs : List RVariant) :
    name ∈ Scope.defines (renderType c name fs vs) := by
  unfold renderType
  split
  · simp [Scope.defines, Scope.itemDefines, Item.name]
  · split <;> simp [Scope.defines, Scope.itemDefines, Item.name]

theorem variantSels_origin {c : Ctx} {ty : TypeId} {sels : List Sel} {vsels : List VariantSel}
    (h : sels.filterMapM (variantSelOf c.q ty) = .ok vsels) :
    (∀ t sub, VariantSel.inline t sub ∈ vsels → Sel.inline t sub ∈ sels) ∧
    (∀ g fr, VariantSel.spread g fr ∈ vsels → Sel.spread g ∈ sels ∧ c.q.fragments[g]? = some fr ∧ fr.on ≠ ty) := by
  refine ⟨(variantSels_spec c.q ty sels vsels h).2, fun g fr hm => ?_⟩
  rw [C02M.vsels_eq h] at hm
  obtain ⟨x, hx, hv⟩ := List.mem_filterMap.mp hm
  obtain ⟨rfl, h2⟩ := toVsel_spread hv
  exact ⟨hx, h2⟩

theorem mem_defines_left {a b : List Item} : ∀ m ∈ Scope.defines a, m ∈ Scope.defines (a ++ b) :=
  fun m hm => by rw [defines_append]; exact List.mem_append_left _ hm
theorem mem_defines_right {a b : List Item} : ∀ m ∈ Scope.defines b, m ∈ Scope.defines (a ++ b) :=
  fun m hm => by rw [defines_append]; exact List.mem_append_right _ hm

theorem CalcSel.defines_name {c : Ctx} {name pfx : String} {ty : TypeId} {sels : List Sel} {items : List Item}
    (h : CalcSel c name pfx ty sels items) : name ∈ Scope.defines items := by
  cases h with
  | alias _ => simp [Scope.defines, aliasItem_defines]
  | concrete _ _ _ => exact mem_defines_left _ (renderType_defines c _ _ _)
  | abstract _ _ _ _ _ =>
    rw [List.append_assoc]; exact mem_defines_left _ (renderType_defines c _ _ _)

theorem calcSelection_defines_name {c : Ctx} {fuel : Nat} {name pfx : String} {ty : TypeId} {sels : List Sel}
    {items : List Item} (h : calcSelection c fuel name pfx ty sels = .ok items) : name ∈ Scope.defines items :=
  (CalcSel.of_ok h).defines_name

/-! ## 2. where the references of the emitted items lead

One invariant of the `calc*` block, for any notion of reference (`ρ` on items, `φ` on member types; `β b`: a member
built with box flag `b` counts): every reference of an emitted item is defined by an item **later** in the same list,
or satisfies `X` — the name of an enum / scalar selected below, or of a fragment spread below.  `K` is what is known of
every selection node below the selections at hand.  Mentions (`calc_closed`) and by-value containment
(`C12I.calc_fwd`) are the two instances. -/

section Refs
variable (c : Ctx) (K : Sel → Prop) (ρ : Item → List String) (φ : RTy → Option String) (β : Bool → Prop)
  (X : String → Prop)

/-- `K` holds of every node below these selections (spreads are not entered) -/
def Pre (sels : List Sel) : Prop := ∀ x ∈ sels, ∀ y, Sub x y → K y

structure VPre (vsels : List VariantSel) : Prop where
  inl : ∀ t sub, VariantSel.inline t sub ∈ vsels → Pre K sub
  spr : ∀ g fr, VariantSel.spread g fr ∈ vsels → K (.spread g) ∧ c.q.fragments[g]? = some fr

/-- every reference of an item goes to an item later in the list, or satisfies `X` -/
def FwdR : List Item → Prop
  | [] => True
  | it :: post => (∀ n ∈ ρ it, n ∈ Scope.defines post ∨ X n) ∧ FwdR post

/-- the reference of a member type is resolved by the items `ctx` that follow, or satisfies `X` -/
def RefOK (ctx : List Item) (t : RTy) : Prop := ∀ n, φ t = some n → n ∈ Scope.defines ctx ∨ X n

/-- what the induction needs of the notion of reference -/
structure RefSys : Prop where
  leaf : ∀ t n, φ t = some n → Scope.leaf t = n
  struct : ∀ nm d sc fs, ∀ n ∈ ρ (.struct nm d sc fs), ∃ f ∈ fs, φ f.ty = some n
  tagged : ∀ nm d sc tg vs, ∀ n ∈ ρ (.tagged nm d sc tg vs), ∃ v ∈ vs, ∃ t, v.payload = some t ∧ φ t = some n
  aliasRef : ∀ nm t b, ∀ n ∈ ρ (aliasItem nm t b), n = t ∧ β b
  field : ∀ {g : Option String} {r ft : String} {quals : List Qual} {fl bx : Bool} {dep : Option (Option String)}
    {o : Option RField}, renderField c g r ft quals fl bx dep = .ok o →
    ∀ f ∈ o.toList, ∀ n, φ f.ty = some n → n = ft ∧ β bx
  enum : ∀ a fid sub sf k en, K (.field a fid sub) → c.s.fields[fid]? = some sf → sf.ty.id = .enum k →
    c.s.enums[k]? = some en → X (c.o.normalization.fieldType c.cs en.name)
  scalar : ∀ a fid sub sf k sn, K (.field a fid sub) → c.s.fields[fid]? = some sf → sf.ty.id = .scalar k →
    c.s.scalars[k]? = some sn → X (c.o.normalization.fieldType c.cs sn)
  frag : ∀ g fr, K (.spread g) → c.q.fragments[g]? = some fr → β (fragmentIsRecursive c.q g) → X fr.name

variable {c K ρ φ β X}

theorem FwdR.append {a : List Item} (b : List Item) (ha : FwdR ρ X a) (hb : FwdR ρ X b) : FwdR ρ X (a ++ b) := by
  induction a with
  | nil => exact hb
  | cons it a ih =>
    exact ⟨fun n hn => (ha.1 n hn).imp (mem_defines_left n) id, ih ha.2⟩

theorem FwdR.split {pre : List Item} {it : Item} {post : List Item} (h : FwdR ρ X (pre ++ it :: post)) :
    ∀ n ∈ ρ it, n ∈ Scope.defines post ∨ X n := by
  induction pre with
  | nil => exact h.1
  | cons x pre ih => exact ih h.2

theorem RefOK.mono {ctx ctx' : List Item} {t : RTy} (h : RefOK φ X ctx t)
    (hsub : ∀ n ∈ Scope.defines ctx, n ∈ Scope.defines ctx') : RefOK φ X ctx' t :=
  fun n hn => (h n hn).imp (hsub n) id

theorem Pre.tail {x : Sel} {rest : List Sel} (h : Pre K (x :: rest)) : Pre K rest :=
  fun y hy => h y (List.mem_cons_of_mem _ hy)

theorem Pre.field {sels : List Sel} {a : Option String} {fid : Nat} {sub : List Sel} (h : Pre K sels)
    (hm : .field a fid sub ∈ sels) : Pre K sub :=
  fun _ hy z hz => h _ hm z (.field hy hz)

theorem Pre.inline {sels : List Sel} {t : TypeId} {sub : List Sel} (h : Pre K sels)
    (hm : .inline t sub ∈ sels) : Pre K sub :=
  fun _ hy z hz => h _ hm z (.inline hy hz)

theorem Pre.here {sels : List Sel} {x : Sel} (h : Pre K sels) (hm : x ∈ sels) : K x := h _ hm _ (.refl _)

theorem Pre.vpre {sels : List Sel} {ty : TypeId} {vsels : List VariantSel} (h : Pre K sels)
    (hv : sels.filterMapM (variantSelOf c.q ty) = .ok vsels) : VPre c K vsels := by
  have ⟨h1, h2⟩ := variantSels_origin hv
  exact ⟨fun t sub hm => h.inline (h1 t sub hm), fun g fr hm => ⟨h.here (h2 g fr hm).1, (h2 g fr hm).2.1⟩⟩

theorem VPre.tail {x : VariantSel} {rest : List VariantSel} (h : VPre c K (x :: rest)) : VPre c K rest :=
  ⟨fun t sub hm => h.inl t sub (List.mem_cons_of_mem _ hm), fun g fr hm => h.spr g fr (List.mem_cons_of_mem _ hm)⟩

theorem VPre.filter {l : List VariantSel} (p : VariantSel → Bool) (h : VPre c K l) : VPre c K (l.filter p) :=
  ⟨fun t sub hm => h.inl t sub (List.mem_filter.mp hm).1, fun g fr hm => h.spr g fr (List.mem_filter.mp hm).1⟩

/-- the items of one rendered type, followed by the items `ctx` its members refer to -/
theorem renderType_fwd (S : RefSys c K ρ φ β X) (name : String) (fs : List RField) (vs : List RVariant)
    (ctx : List Item) (hf : ∀ f ∈ fs, RefOK φ X ctx f.ty)
    (hv : ∀ v ∈ vs, ∀ t, v.payload = some t → RefOK φ X ctx t)
    (hctx : FwdR ρ X ctx) : FwdR ρ X (renderType c name fs vs ++ ctx) := by
  have htag : ∀ nm, ∀ n ∈ ρ (.tagged nm c.respDerives c.serdeCrate "__typename" vs),
      n ∈ Scope.defines ctx ∨ X n := by
    intro nm n hn
    obtain ⟨v, hv', t, ht, hφ⟩ := S.tagged _ _ _ _ _ n hn
    exact hv v hv' t ht n hφ
  unfold renderType
  split
  · exact ⟨htag name, hctx⟩
  · split
    · refine ⟨fun n hn => ?_, hctx⟩
      obtain ⟨f, hf', hφ⟩ := S.struct _ _ _ _ n hn
      exact hf f hf' n hφ
    · refine ⟨fun n hn => ?_, htag _, hctx⟩
      obtain ⟨f, hf', hφ⟩ := S.struct _ _ _ _ n hn
      rcases List.mem_append.mp hf' with hf' | hf'
      · exact (hf f hf' n hφ).imp (mem_defines_right (a := [_]) n) id
      · simp only [List.mem_singleton] at hf'
        subst hf'
        have := S.leaf _ _ hφ
        simp only [Scope.leaf] at this
        subst this
        exact .inl (by simp [defines_cons, Scope.itemDefines, Item.name])

/-- the flattened members made from aliased fragments refer to a fragment only if it satisfies `X` -/
theorem aliasMembers_ref (S : RefSys c K ρ φ β X) {al : List Item} {extra : List (List RField)} {sname : String}
    (h : al.mapM (aliasMember c) = .ok extra) (ctx : List Item)
    (hal : ∀ a ∈ al, ∃ tgt b, a = aliasItem sname tgt b ∧ (β b → X tgt)) :
    ∀ f ∈ extra.flatten, RefOK φ X ctx f.ty := by
  intro f hf n hn
  obtain ⟨fs, hfs, hf⟩ := List.mem_flatten.mp hf
  obtain ⟨a, ha, hfa⟩ := mapM_ok_mem h fs hfs
  obtain ⟨tgt, b, rfl, ht⟩ := hal a ha
  rw [aliasMember_aliasItem] at hfa
  obtain ⟨fld, hfld, hfa⟩ := bind_ok hfa
  simp only [pure, Except.pure, Except.ok.injEq] at hfa
  subst hfa
  have ⟨e1, e2⟩ := S.field hfld f hf n hn
  rw [e1]
  exact .inr (ht e2)

/-- the references of a lone alias item: its target, which satisfies `X` when the alias counts -/
theorem alias_fwd (S : RefSys c K ρ φ β X) {nm tgt : String} {b : Bool} (ht : β b → X tgt) (post : List Item)
    (hpost : FwdR ρ X post) : FwdR ρ X (aliasItem nm tgt b :: post) :=
  ⟨fun n hn => let ⟨e, hb⟩ := S.aliasRef nm tgt b n hn; .inr (e ▸ ht hb), hpost⟩

/-- the payload of a variant is the name of the first item emitted for it -/
theorem payload_refOK (S : RefSys c K ρ φ β X) {hd : Item} {tl : List Item} {sname : String}
    (hd' : Scope.itemDefines hd = some sname) (t : RTy) (ht : some (RTy.path sname) = some t) :
    RefOK φ X (hd :: tl) t := by
  intro n hn
  cases ht
  have := S.leaf _ _ hn
  simp only [Scope.leaf] at this
  subst this
  exact .inl (by simp [defines_cons, hd'])

/-- **where the references of the emitted items lead**: in the item list of any `calc*` call every reference of an
    item goes to an item later in the same list, to the name of an enum / scalar selected below, or to the name of a
    fragment spread below (whose box flag lets it count) -/
theorem calc_refs (S : RefSys c K ρ φ β X) {name pfx : String} {ty : TypeId} {sels : List Sel} {items : List Item}
    (h : CalcSel c name pfx ty sels items) : Pre K sels → FwdR ρ X items := by
  induction h using CalcSel.rec
    (motive_2 := fun _ _ vsels _ vs items _ => VPre c K vsels →
      (∀ v ∈ vs, ∀ t, v.payload = some t → RefOK φ X items t) ∧ FwdR ρ X items)
    (motive_3 := fun sname _ _ mine fs items al _ => VPre c K mine →
      (∀ f ∈ fs, RefOK φ X items f.ty) ∧ FwdR ρ X items ∧
      ∀ a ∈ al, ∃ tgt b, a = aliasItem sname tgt b ∧ (β b → X tgt))
    (motive_4 := fun _ _ sels fs items _ => Pre K sels →
      (∀ f ∈ fs, RefOK φ X items f.ty) ∧ FwdR ρ X items) with
  | alias hfr =>
    intro hp
    exact alias_fwd S (S.frag _ _ (hp.here List.mem_cons_self) (getFragment_ok hfr)) [] trivial
  | concrete _ _ _ ih =>
    intro hp
    have ⟨f1, f2⟩ := ih hp
    exact renderType_fwd S _ _ [] _ f1 (fun v hv => by cases hv) f2
  | abstract _ _ hvs _ _ ihv ihf =>
    intro hp
    have ⟨f1, f2⟩ := ihf hp
    have ⟨v1, v2⟩ := ihv (hp.vpre hvs)
    rw [List.append_assoc]
    refine renderType_fwd S _ _ _ _ (fun f hf => (f1 f hf).mono mem_defines_right) (fun v hv' t ht => ?_)
      (v2.append _ f2)
    rcases List.mem_append.mp hv' with hv' | hv'
    · exact (v1 v hv' t ht).mono mem_defines_left
    · split at hv'
      · simp only [List.mem_singleton] at hv'
        subst hv'; cases ht
      · cases hv'
  | vnil => exact ⟨fun v hv => (by cases hv), trivial⟩
  | bare _ _ _ ih =>
    rename_i hv
    have ⟨ih1, ih2⟩ := ih hv
    refine ⟨fun v hv' t ht => ?_, ih2⟩
    rcases List.mem_cons.mp hv' with rfl | hv'
    · cases ht
    · exact ih1 v hv' t ht
  | lone _ hm _ ih =>
    rename_i g fr _ _ _ _ hv
    have ⟨ih1, ih2⟩ := ih hv
    have ⟨hg, hfr⟩ := (hv.filter _).spr g fr (by rw [hm]; exact List.mem_cons_self)
    refine ⟨fun v hv' t ht => ?_, alias_fwd S (S.frag _ _ hg hfr) _ ih2⟩
    rcases List.mem_cons.mp hv' with rfl | hv'
    · exact payload_refOK S (aliasItem_defines _ _ _) t ht
    · exact (ih1 v hv' t ht).mono (mem_defines_right (a := [_]))
  | aliasOnly _ hm _ _ _ _ _ ihs ih =>
    rename_i hv
    have ⟨ih1, ih2⟩ := ih hv
    obtain ⟨_, r2, r3⟩ := ihs (hm ▸ hv.filter _)
    obtain ⟨tgt, b, rfl, htgt⟩ := r3 _ List.mem_cons_self
    refine ⟨fun v hv' t ht => ?_, alias_fwd S htgt _ (r2.append _ ih2)⟩
    rcases List.mem_cons.mp hv' with rfl | hv'
    · exact payload_refOK S (aliasItem_defines _ _ _) t ht
    · exact (ih1 v hv' t ht).mono (fun n hn => mem_defines_right (a := _ :: _) n hn)
  | struct _ hm _ _ _ _ hex _ ihs ih =>
    rename_i hv
    have ⟨ih1, ih2⟩ := ih hv
    obtain ⟨r1, r2, r3⟩ := ihs (hm ▸ hv.filter _)
    refine ⟨fun v hv' t ht => ?_, FwdR.append _ (renderType_fwd S _ _ [] _
      (fun f hf => (List.mem_append.mp hf).elim (r1 f) (aliasMembers_ref S hex _ r3 f))
      (fun v hv => (by cases hv)) r2) ih2⟩
    rcases List.mem_cons.mp hv' with rfl | hv'
    · intro n hn
      cases ht
      have := S.leaf _ _ hn
      simp only [Scope.leaf] at this
      subst this
      rw [List.append_assoc]
      exact .inl (mem_defines_left _ (renderType_defines c _ _ _))
    · exact (ih1 v hv' t ht).mono mem_defines_right
  | snil => exact ⟨fun f hf => (by cases hf), trivial, fun a ha => (by cases ha)⟩
  | inlineLone _ hfr _ ih =>
    rename_i hv
    have ⟨ih1, ih2, ih3⟩ := ih hv.tail
    refine ⟨ih1, ih2, fun a ha => ?_⟩
    rcases List.mem_cons.mp ha with rfl | ha
    · exact ⟨_, _, rfl, fun hb => S.frag _ _ ((hv.inl _ _ List.mem_cons_self).here List.mem_cons_self)
        (getFragment_ok hfr) hb⟩
    · exact ih3 a ha
  | inlineFields _ _ _ _ ihf ih =>
    rename_i hv
    have ⟨ih1, ih2, ih3⟩ := ih hv.tail
    have ⟨k1, k2⟩ := ihf (hv.inl _ _ List.mem_cons_self)
    refine ⟨fun f hf => ?_, k2.append _ ih2, ih3⟩
    rcases List.mem_append.mp hf with hf | hf
    · exact (k1 f hf).mono mem_defines_left
    · exact (ih1 f hf).mono mem_defines_right
  | spreadMember hfld _ ih =>
    rename_i hv
    have ⟨ih1, ih2, ih3⟩ := ih hv.tail
    refine ⟨fun f hf => ?_, ih2, ih3⟩
    rcases List.mem_append.mp hf with hf | hf
    · intro n hn
      have ⟨e1, e2⟩ := S.field hfld f hf n hn
      have ⟨hg, hfr⟩ := hv.spr _ _ List.mem_cons_self
      rw [e1]
      exact .inr (S.frag _ _ hg hfr e2)
    · exact ih1 f hf
  | nil => exact ⟨fun f hf => (by cases hf), trivial⟩
  | enum hsf he hen hfld _ ih =>
    rename_i hp
    have ⟨ih1, ih2⟩ := ih hp.tail
    refine ⟨fun f hf => ?_, ih2⟩
    rcases List.mem_append.mp hf with hf | hf
    · intro n hn
      rw [(S.field hfld f hf n hn).1]
      exact .inr (S.enum _ _ _ _ _ _ (hp.here List.mem_cons_self) (getField_ok hsf) he (getEnum_ok hen))
    · exact ih1 f hf
  | scalar hsf hk hsn hfld _ ih =>
    rename_i hp
    have ⟨ih1, ih2⟩ := ih hp.tail
    refine ⟨fun f hf => ?_, ih2⟩
    rcases List.mem_append.mp hf with hf | hf
    · intro n hn
      rw [(S.field hfld f hf n hn).1]
      exact .inr (S.scalar _ _ _ _ _ _ (hp.here List.mem_cons_self) (getField_ok hsf) hk (getScalar_ok hsn))
    · exact ih1 f hf
  | nested _ _ _ _ hfld hsel _ ihs ih =>
    rename_i hp
    have ⟨ih1, ih2⟩ := ih hp.tail
    refine ⟨fun f hf => ?_, (ihs (hp.field List.mem_cons_self)).append _ ih2⟩
    rcases List.mem_append.mp hf with hf | hf
    · intro n hn
      rw [(S.field hfld f hf n hn).1]
      exact .inl (mem_defines_left _ hsel.defines_name)
    · exact (ih1 f hf).mono mem_defines_right
  | spreadOther _ _ _ ih => rename_i hp; exact ih hp.tail
  | spreadHere hfr _ hfld _ ih =>
    rename_i hp
    have ⟨ih1, ih2⟩ := ih hp.tail
    refine ⟨fun f hf => ?_, ih2⟩
    rcases List.mem_append.mp hf with hf | hf
    · intro n hn
      have ⟨e1, e2⟩ := S.field hfld f hf n hn
      rw [e1]
      exact .inr (S.frag _ _ (hp.here List.mem_cons_self) (getFragment_ok hfr) e2)
    · exact ih1 f hf
  | typename _ ih => rename_i hp; exact ih hp.tail
  | inline _ ih => rename_i hp; exact ih hp.tail

end Refs

section Calc
variable (c : Ctx) (u : UsedTypes) (G : String → Prop)

/-- the used set accounts for every node below these selections (spreads are not entered): `Pre (Direct c.s u)`;
    `VOK` below is `VPre` at the same `K` -/
def Cov (sels : List Sel) : Prop := ∀ x ∈ sels, Covered c.s u x

/-- the selections attached to the variants of an abstract type are accounted for in the used set -/
structure VOK (vsels : List VariantSel) : Prop where
  inl : ∀ t sub, VariantSel.inline t sub ∈ vsels → Cov c u sub
  spr : ∀ g fr, VariantSel.spread g fr ∈ vsels → g ∈ u.fragments ∧ c.q.fragments[g]? = some fr

/-- the global part of the module resolves the names of the used enums, scalars and fragments -/
structure GOK : Prop where
  enum : ∀ k en, TypeId.enum k ∈ u.types → c.s.enums[k]? = some en →
    G (c.o.normalization.fieldType c.cs en.name)
  scalar : ∀ k sn, TypeId.scalar k ∈ u.types → c.s.scalars[k]? = some sn →
    G (c.o.normalization.fieldType c.cs sn)
  frag : ∀ g fr, g ∈ u.fragments → c.q.fragments[g]? = some fr → G fr.name

variable {c u G}

theorem Cov.tail {x : Sel} {rest : List Sel} (h : Cov c u (x :: rest)) : Cov c u rest :=
  fun y hy => h y (List.mem_cons_of_mem _ hy)

theorem Cov.field {sels : List Sel} {a : Option String} {fid : Nat} {sub : List Sel} (h : Cov c u sels)
    (hm : .field a fid sub ∈ sels) : Cov c u sub :=
  fun _ hy z hz => h _ hm z (.field hy hz)

theorem Cov.inline {sels : List Sel} {t : TypeId} {sub : List Sel} (h : Cov c u sels)
    (hm : .inline t sub ∈ sels) : Cov c u sub :=
  fun _ hy z hz => h _ hm z (.inline hy hz)

theorem Cov.fieldType {sels : List Sel} {a : Option String} {fid : Nat} {sub : List Sel} (h : Cov c u sels)
    (hm : .field a fid sub ∈ sels) {sf : StoredField} (hsf : c.s.fields[fid]? = some sf) : sf.ty.id ∈ u.types :=
  h _ hm _ (.refl _) sf hsf

theorem Cov.spread {sels : List Sel} {g : Nat} (h : Cov c u sels) (hm : .spread g ∈ sels) : g ∈ u.fragments :=
  h _ hm _ (.refl _)

theorem Cov.vok {sels : List Sel} {ty : TypeId} {vsels : List VariantSel} (h : Cov c u sels)
    (hv : sels.filterMapM (variantSelOf c.q ty) = .ok vsels) : VOK c u vsels := by
  have ⟨h1, h2⟩ := variantSels_origin hv
  exact ⟨fun t sub hm => h.inline (h1 t sub hm), fun g fr hm => ⟨h.spread (h2 g fr hm).1, (h2 g fr hm).2.1⟩⟩

theorem VOK.tail {x : VariantSel} {rest : List VariantSel} (h : VOK c u (x :: rest)) : VOK c u rest :=
  ⟨fun t sub hm => h.inl t sub (List.mem_cons_of_mem _ hm), fun g fr hm => h.spr g fr (List.mem_cons_of_mem _ hm)⟩

theorem VOK.filter {l : List VariantSel} (p : VariantSel → Bool) (h : VOK c u l) : VOK c u (l.filter p) :=
  ⟨fun t sub hm => h.inl t sub (List.mem_filter.mp hm).1, fun g fr hm => h.spr g fr (List.mem_filter.mp hm).1⟩

/-- mentions as a notion of reference: every member type counts, under its leaf name -/
theorem refSys_mentions (hG : GOK c u G) :
    RefSys c (Direct c.s u) Scope.itemMentions (fun t => some (Scope.leaf t)) (fun _ => True) G where
  leaf := fun t n h => by cases h; rfl
  struct := by
    intro nm d sc fs n hn
    simp only [Scope.itemMentions, List.mem_map] at hn
    obtain ⟨f, hf, rfl⟩ := hn
    exact ⟨f, hf, rfl⟩
  tagged := by
    intro nm d sc tg vs n hn
    simp only [Scope.itemMentions, List.mem_filterMap] at hn
    obtain ⟨v, hv, hvn⟩ := hn
    cases hp : v.payload with
    | none => simp [hp] at hvn
    | some t =>
      simp only [hp, Option.map_some, Option.some.injEq] at hvn
      exact ⟨v, hv, t, hp, by rw [hvn]⟩
  aliasRef := by
    intro nm t b n hn
    rw [aliasItem_mentions, List.mem_singleton] at hn
    exact ⟨hn, trivial⟩
  field := fun h f hf n hn => by cases hn; exact ⟨renderField_leaf h f hf, trivial⟩
  enum := fun a fid sub sf k en hK hsf he hen => hG.enum k en (he ▸ hK sf hsf) hen
  scalar := fun a fid sub sf k sn hK hsf hk hsn => hG.scalar k sn (hk ▸ hK sf hsf) hsn
  frag := fun g fr hK hfr _ => hG.frag g fr hK hfr

theorem closedIn_of_fwdR : ∀ {items : List Item}, FwdR Scope.itemMentions G items → ClosedIn G items items
  | [], _ => fun it hit => by cases hit
  | x :: post, h => by
    have hsub : ∀ m ∈ Scope.defines post, m ∈ Scope.defines (x :: post) :=
      fun m hm => by rw [defines_cons]; exact List.mem_append_right _ hm
    intro it hit n hn
    rcases List.mem_cons.mp hit with rfl | hit
    · exact (h.1 n hn).imp (hsub n) id
    · exact (closedIn_of_fwdR h.2 it hit n hn).imp (hsub n) id

/-- **the `calc*` block emits closed item lists**: whenever the used set accounts for the selections
    at hand and the global part of the module resolves the names of the used enums, scalars and fragments,
    every mention of every item returned by `calcSelection` is resolved by an item of the same list or
    globally -/
theorem calc_closed (hG : GOK c u G) {fuel : Nat} {name pfx : String} {ty : TypeId} {sels : List Sel}
    {items : List Item} (hcov : Cov c u sels) (h : calcSelection c fuel name pfx ty sels = .ok items) :
    ClosedIn G items items :=
  closedIn_of_fwdR (calc_refs (refSys_mentions hG) (CalcSel.of_ok h) hcov)

end Calc

/-! ## 3. the response items inside the module -/

/-- the used set accounts for the operation's selection set and for the body of every used fragment -/
theorem used_covered {s : Schema} {q : Query} {op : Nat} {u : UsedTypes} (h : allUsedTypes s q op = .ok u)
    {o : ROperation} (ho : q.operations[op]? = some o) :
    (∀ x ∈ o.sels, Covered s u x) ∧
    (∀ g ∈ u.fragments, ∀ f, q.fragments[g]? = some f → ∀ x ∈ f.sels, Covered s u x) := by
  obtain ⟨o', u0, ho', hsel, hvar⟩ := allUsedTypes_ok h
  rw [ho] at ho'; cases ho'
  have ⟨hroot, hfr⟩ := selPhase_spec s q o (List.mem_of_getElem? ho) u0 hsel
  have ⟨hle, _⟩ := collectVars_spec s _ u0 u hvar
  have hfrag : ∀ g ∈ u0.fragments, g ∈ u.fragments := fun g hg => by rw [hle.frags]; exact hg
  refine ⟨fun x hx y hy => (hroot x hx y hy).mono hle.types hfrag, ?_⟩
  intro g hg f hf x hx y hy
  exact (hfr g (by rw [← hle.frags]; exact hg) f hf x hx y hy).mono hle.types hfrag

theorem defines_flatten {F : List (List Item)} {its : List Item} (h : its ∈ F) :
    ∀ m ∈ Scope.defines its, m ∈ Scope.defines F.flatten := by
  intro m hm
  simp only [Scope.defines, List.mem_filterMap, List.mem_flatten] at hm ⊢
  obtain ⟨it, hit, hd⟩ := hm
  exact ⟨it, ⟨its, h, hit⟩, hd⟩

theorem resolved_of_defines {items : List Item} {supplied : List String} {n : String}
    (h : n ∈ Scope.defines items) : Scope.resolved items supplied n = true := by
  unfold Scope.resolved
  simp only [Bool.or_eq_true, List.contains_iff_mem]
  exact .inl (.inl h)

theorem resolved_mono_supplied {items : List Item} {sup sup' : List String} {n : String}
    (hs : ∀ x ∈ sup, x ∈ sup') (h : Scope.resolved items sup n = true) : Scope.resolved items sup' n = true := by
  unfold Scope.resolved at h ⊢
  simp only [Bool.or_eq_true, List.contains_iff_mem] at h ⊢
  rcases h with h | h
  · exact .inl h
  · exact .inr (hs _ h)

/-- the bare names the consumer has to supply for the extern enums: the enum names as the generated code
    spells them in field position (`Normalization.fieldType`; the identity for normalization `none`) -/
def externSupplied (c : Ctx) : List String :=
  c.o.externEnums.map (c.o.normalization.fieldType c.cs)

theorem externSupplied_none {c : Ctx} (hnorm : c.o.normalization = .none) : externSupplied c = c.o.externEnums := by
  unfold externSupplied
  rw [hnorm]
  have : Normalization.fieldType .none c.cs = id := funext (fieldType_none c.cs)
  rw [this, List.map_id]

/-- the name mapping between field position and declaration (`Normalization.fieldType` vs
    `enumName` / `scalarName`) is consistent on the schema's enums and scalars.  Trivially true for
    normalization `none` (`NameMapOK.of_none`); for `rust` it says that no enum / custom scalar is called
    `ID` or starts with `__`, and that camel-casing leaves the names of the built-in scalars alone. -/
structure NameMapOK (c : Ctx) : Prop where
  enums : ∀ e ∈ c.s.enums, c.o.normalization.fieldType c.cs e.name = c.o.normalization.enumName c.cs e.name
  scalars : ∀ sn ∈ c.s.scalars, sn ∉ Schema.defaultScalars →
    c.o.normalization.fieldType c.cs sn = c.o.normalization.scalarName c.cs sn
  builtins : ∀ sn ∈ c.s.scalars, sn ∈ Schema.defaultScalars → c.o.normalization.fieldType c.cs sn = sn

theorem NameMapOK.of_none {c : Ctx} (hnorm : c.o.normalization = .none) : NameMapOK c := by
  refine ⟨fun e _ => ?_, fun sn _ _ => ?_, fun sn _ _ => ?_⟩ <;> rw [hnorm, fieldType_none] <;> rfl

theorem builtin_resolved {sn : String} (h : sn ∈ Schema.defaultScalars) (rest : List Item) (sup : List String) :
    Scope.resolved (builtinAliases ++ rest) sup sn = true := by
  unfold Scope.resolved
  simp only [Bool.or_eq_true, List.contains_iff_mem]
  exact .inl ((defaultScalars_builtin sn h).imp (mem_defines_left sn) id)

/-- **response items are resolved in the emitted module (any normalization, explicit name mapping).**
    For every operation for which `responseForQuery` succeeds and a consistent name mapping
    (`NameMapOK`), every type name mentioned by an item emitted for the response (`responseItems`:
    `ResponseData` and its nested structs / variant enums / aliases) or for a used fragment
    (`fragmentItems`) is an item of the same module, a Rust prelude type or an extern enum the consumer
    supplies (under its field-position spelling).  No well-formedness hypothesis on schema or query is
    needed: an ill-formed query makes `responseForQuery` fail. -/
theorem response_mentions_resolved_mapped (c : Ctx) (op : Nat) (items : List Item)
    (hmap : NameMapOK c)
    (h : responseForQuery c op = .ok items) :
    ∃ u o F R, allUsedTypes c.s c.q op = .ok u ∧ c.q.operations[op]? = some o ∧
      (sortNat u.fragments).mapM (fragmentItems c) = .ok F ∧ responseItems c o = .ok R ∧
      (∀ it ∈ F.flatten ++ R, it ∈ items) ∧
      ∀ it ∈ F.flatten ++ R, ∀ n ∈ Scope.itemMentions it, Scope.resolved items (externSupplied c) n = true := by
  obtain ⟨u, S, E, F, I, V, o, R, hu, hS, hE, hF, hI, hV, ho, hR, rfl⟩ := responseForQuery_ok_full h
  refine ⟨u, o, F, R, hu, ho, hF, hR, fun it hit => ?_, ?_⟩
  · rcases List.mem_append.mp hit with hit | hit <;> simp [hit]
  have ⟨hroot, hfrs⟩ := used_covered hu ho
  have hG : GOK c u (fun n => Scope.resolved (builtinAliases ++ S ++ E ++ I ++ V ++ F.flatten ++ R)
      (externSupplied c) n = true) := by
    refine ⟨fun k en hk hen => ?_, fun k sn hk hsn => ?_, fun g fr hg hfr => ?_⟩
    · by_cases hx : en.name ∈ c.o.externEnums
      · unfold Scope.resolved
        simp only [Bool.or_eq_true, List.contains_iff_mem]
        exact .inr (List.mem_map.mpr ⟨_, hx, rfl⟩)
      · obtain ⟨it, hit, hname⟩ := enumItems_defines hE hk hen hx
        rw [hmap.enums en (List.mem_of_getElem? hen), ← hname]
        apply resolved_of_defines
        exact mem_defines.mpr ⟨it, by simp [hit], enumItems_itemDefines hE it hit⟩
    · by_cases hd : sn ∈ Schema.defaultScalars
      · rw [hmap.builtins sn (List.mem_of_getElem? hsn) hd]
        simp only [List.append_assoc]
        exact builtin_resolved hd _ _
      · obtain ⟨it, hit, hname⟩ := scalarItems_defines hS hk hsn hd
        rw [hmap.scalars sn (List.mem_of_getElem? hsn) hd, ← hname]
        apply resolved_of_defines
        exact mem_defines.mpr ⟨it, by simp [hit], scalarItems_itemDefines hS it hit⟩
    · have hmem : g ∈ sortNat u.fragments := (mem_sortNat _ _).mpr hg
      obtain ⟨its, hits, hfi⟩ := mapM_ok_of_mem hF g hmem
      obtain ⟨fr', hfr', hcalc⟩ := fragmentItems_ok hfi
      rw [hfr] at hfr'; cases hfr'
      apply resolved_of_defines
      have := defines_flatten hits _ (calcSelection_defines_name hcalc)
      simp only [defines_append, List.mem_append]
      exact .inl (.inr this)
  intro it hit n hn
  rcases List.mem_append.mp hit with hit | hit
  · obtain ⟨its, hits, hit⟩ := List.mem_flatten.mp hit
    obtain ⟨g, hg, hfi⟩ := mapM_ok_mem hF its hits
    obtain ⟨fr, hfr, hcalc⟩ := fragmentItems_ok hfi
    have hcov : Cov c u fr.sels := hfrs g ((mem_sortNat _ _).mp hg) fr hfr
    rcases calc_closed hG hcov hcalc it hit n hn with hd | hd
    · apply resolved_of_defines
      have := defines_flatten hits _ hd
      simp only [defines_append, List.mem_append]
      exact .inl (.inr this)
    · exact hd
  · unfold responseItems at hR
    rcases calc_closed hG hroot hR it hit n hn with hd | hd
    · apply resolved_of_defines
      simp only [defines_append, List.mem_append]
      exact .inr hd
    · exact hd

/-- **response items are resolved in the emitted module** (normalization `none`, `supplied` = the extern
    enum names; the form of `inputs_resolved_in_module` / `variables_resolved_in_module`). -/
theorem response_mentions_resolved (c : Ctx) (op : Nat) (items : List Item)
    (hnorm : c.o.normalization = .none)
    (h : responseForQuery c op = .ok items) :
    ∃ u o F R, allUsedTypes c.s c.q op = .ok u ∧ c.q.operations[op]? = some o ∧
      (sortNat u.fragments).mapM (fragmentItems c) = .ok F ∧ responseItems c o = .ok R ∧
      (∀ it ∈ F.flatten ++ R, it ∈ items) ∧
      ∀ it ∈ F.flatten ++ R, ∀ n ∈ Scope.itemMentions it, Scope.resolved items c.o.externEnums n = true := by
  have := response_mentions_resolved_mapped c op items (NameMapOK.of_none hnorm) h
  rwa [externSupplied_none hnorm] at this

/-! ## 4. the whole module -/

/-- what the consumer supplies: the extern enums (bare names) and, for every custom scalar of the schema,
    a type at the path the scalar's alias points to (`<scalars module or super>::<Name>`) -/
def moduleSupplied (c : Ctx) : List String :=
  c.o.externEnums ++
  (c.s.scalars.filter (fun n => !Schema.defaultScalars.contains n)).map (fun n =>
    (c.o.scalarsModule.getD "super") ++ "::" ++ c.o.normalization.scalarName c.cs n)

theorem scalarItems_mentions_supplied {c : Ctx} {u : UsedTypes} {S : List Item} (h : scalarItems c u = .ok S) :
    ∀ it ∈ S, ∀ n ∈ Scope.itemMentions it, n ∈ moduleSupplied c := by
  obtain ⟨ns, hns, rfl⟩ := scalarItems_cases h
  intro it hit n hn
  simp only [List.mem_map, List.mem_filter] at hit
  obtain ⟨sn, ⟨hsn, hnd⟩, rfl⟩ := hit
  simp only [Scope.itemMentions, Scope.leaf, List.mem_singleton] at hn
  subst hn
  obtain ⟨k, _, hk⟩ := mapM_ok_mem hns sn hsn
  have hmem : sn ∈ c.s.scalars := List.mem_of_getElem? (getScalar_ok hk)
  unfold moduleSupplied
  apply List.mem_append_right
  exact List.mem_map.mpr ⟨sn, List.mem_filter.mpr ⟨hmem, hnd⟩, rfl⟩

theorem enumItems_mentions {c : Ctx} {u : UsedTypes} {E : List Item} (h : enumItems c u = .ok E) :
    ∀ it ∈ E, Scope.itemMentions it = [] := by
  obtain ⟨es, _, rfl⟩ := enumItems_cases h
  intro it hit
  simp only [List.mem_map] at hit
  obtain ⟨e, _, rfl⟩ := hit
  rfl

/-- **every mention of every item of the emitted module is resolved** (first component of
    `Scope.wellScoped`, see `C02.wellScoped_iff`): normalization `none`; `keyword_replace` is the identity
    on the names of the schema's input types, scalars and enums (needed by the input / `Variables` items
    only, see `keyword_input_name_mismatch`); the schema and query use input types in input positions only
    (`OutputOnly`, `InputFieldsRelevant`, `hvars`).  The response items need none of these.
    *Partial*: the other three components of `wellScoped` (no name defined twice, no duplicate member,
    serde crate named) are not part of this statement — the first two are false in general
    (`defines_dup_witness`). -/
theorem module_well_scoped_partial (c : Ctx) (op : Nat) (items : List Item)
    (hnorm : c.o.normalization = .none)
    (hkwI : ∀ i ∈ c.s.inputs, keywordReplace i.name = i.name)
    (hkwS : ∀ n ∈ c.s.scalars, keywordReplace n = n)
    (hkwE : ∀ e ∈ c.s.enums, keywordReplace e.name = e.name)
    (hwf : OutputOnly c.s c.q = true) (hrel : InputFieldsRelevant c.s = true)
    (hvars : ∀ v ∈ c.q.opVariables op, Relevant v.ty.id)
    (h : responseForQuery c op = .ok items) :
    ∀ it ∈ items, ∀ n ∈ Scope.itemMentions it, Scope.resolved items (moduleSupplied c) n = true := by
  have hsup : ∀ x ∈ c.o.externEnums, x ∈ moduleSupplied c := fun x hx => List.mem_append_left _ hx
  obtain ⟨u1, o, F1, R1, hu1, ho1, hF1, hR1, _, hresp⟩ := response_mentions_resolved c op items hnorm h
  obtain ⟨u2, I2, hu2, hI2, _, hinp⟩ := inputs_resolved_in_module c op items hnorm hkwI hwf hrel h
  obtain ⟨V3, hV3, _, hvar⟩ := variables_resolved_in_module c op items hnorm hkwS hkwE hvars h
  obtain ⟨u, S, E, F, I, V, o', R, hu, hS, hE, hF, hI, hV, ho, hR, hitems⟩ := responseForQuery_ok_full h
  rw [hu] at hu1 hu2
  cases hu1; cases hu2
  rw [hF] at hF1; cases hF1
  rw [hI] at hI2; cases hI2
  rw [hV] at hV3; cases hV3
  intro it hit n hn
  rw [hitems] at hit
  simp only [List.mem_append] at hit
  rcases hit with (((((hit | hit) | hit) | hit) | hit) | hit) | hit
  · -- built-in aliases
    unfold Scope.resolved
    simp only [Bool.or_eq_true, List.contains_iff_mem]
    refine .inl (.inr ?_)
    simp only [builtinAliases, List.mem_cons, List.not_mem_nil, or_false] at hit
    rcases hit with rfl | rfl | rfl | rfl <;>
      (simp only [Scope.itemMentions, Scope.leaf, List.mem_singleton] at hn; subst hn; simp [Scope.rustBuiltins])
  · unfold Scope.resolved
    simp only [Bool.or_eq_true, List.contains_iff_mem]
    exact .inr (scalarItems_mentions_supplied hS it hit n hn)
  · rw [enumItems_mentions hE it hit] at hn; cases hn
  · exact resolved_mono_supplied hsup (hinp it hit n hn)
  · exact resolved_mono_supplied hsup (hvar it hit n hn)
  · exact resolved_mono_supplied hsup (hresp it (List.mem_append_left _ hit) n hn)
  · have hoo : o = o' := by
      rw [ho] at ho1; cases ho1; rfl
    subst hoo
    rw [hR] at hR1; cases hR1
    exact resolved_mono_supplied hsup (hresp it (List.mem_append_right _ hit) n hn)

/-- `module_well_scoped_partial` in the vocabulary of the executable check: the `undefined` component of
    the scope report of the emitted module is empty -/
theorem module_no_undefined_mentions (c : Ctx) (op : Nat) (items : List Item)
    (hnorm : c.o.normalization = .none)
    (hkwI : ∀ i ∈ c.s.inputs, keywordReplace i.name = i.name)
    (hkwS : ∀ n ∈ c.s.scalars, keywordReplace n = n)
    (hkwE : ∀ e ∈ c.s.enums, keywordReplace e.name = e.name)
    (hwf : OutputOnly c.s c.q = true) (hrel : InputFieldsRelevant c.s = true)
    (hvars : ∀ v ∈ c.q.opVariables op, Relevant v.ty.id)
    (h : responseForQuery c op = .ok items) :
    (Scope.report items (moduleSupplied c)).undefined = [] := by
  have := module_well_scoped_partial c op items hnorm hkwI hkwS hkwE hwf hrel hvars h
  simp only [Scope.report, Scope.undefinedMentions, List.filter_eq_nil_iff, Scope.mentions, List.mem_flatMap]
  rintro n ⟨it, hit, hn⟩
  simp [this it hit n hn]

/-! ## 5. the names the response items define, computed from the selection tree -/

/-- the type name used for a variant (`""` when the id is out of range: generation fails then) -/
def tnOf (c : Ctx) (t : TypeId) : String := (c.s.typeName t).toOption.getD ""

/-- the possible types of an abstract type (`[]` for a concrete one) -/
def vtsOf (c : Ctx) (ty : TypeId) : List TypeId :=
  match variantsOf c.s ty with
  | .ok (some vts) => vts
  | _ => []

/-- does the emitted type carry variants (`rvariants` non-empty)? -/
def hasVariants (c : Ctx) (ty : TypeId) : Bool :=
  match variantsOf c.s ty with
  | .ok (some vts) => !vts.isEmpty || c.o.otherVariant
  | _ => false

def isLoneSpread : List Sel → Bool
  | [.spread _] => true
  | _ => false

/-- does this selection contribute a field to the struct of type `ty`? -/
def selHasField (c : Ctx) (ty : TypeId) : Sel → Bool
  | .field _ fid _ =>
    match c.s.fields[fid]? with
    | some sf => !(sf.deprecation.isSome && c.o.deprecation == .deny)
    | none => false
  | .spread g =>
    match c.q.fragments[g]? with
    | some fr => fr.on == ty
    | none => false
  | _ => false

/-- is this selection attached to the variant `vt` of the abstract type `ty`? -/
def selOnVariant (c : Ctx) (ty vt : TypeId) : Sel → Bool
  | .inline t _ => t == vt
  | .spread g =>
    match c.q.fragments[g]? with
    | some fr => fr.on != ty && fr.on == vt
    | none => false
  | _ => false

/-- the names `renderType` defines -/
def headNames (name : String) (hasF hasV : Bool) : List String :=
  if hasF && hasV then [name, name ++ "On"] else [name]

mutual
  /-- names of the items the field loop emits for one selection -/
  def selNames (c : Ctx) (pfx : String) : Sel → List String
    | .field alias fid sub =>
      match c.s.fields[fid]? with
      | none => []
      | some sf =>
        match sf.ty.id with
        | .enum _ => []
        | .scalar _ => []
        | .input _ => []
        | t =>
          let sname := pfx ++ c.cs.camel (alias.getD sf.name)
          if isLoneSpread sub then [sname] else
          headNames sname (sub.any (selHasField c t)) (hasVariants c t) ++
          (vtsOf c t).flatMap (fun vt =>
            if sub.any (selOnVariant c t vt) then (sname ++ "On" ++ tnOf c vt) :: inlsNames c sname vt sub else []) ++
          selsNames c sname sub
    | _ => []
  def selsNames (c : Ctx) (pfx : String) : List Sel → List String
    | [] => []
    | x :: xs => selNames c pfx x ++ selsNames c pfx xs
  /-- names of the nested items emitted for an inline fragment on the variant `vt` -/
  def inlNames (c : Ctx) (pfx : String) (vt : TypeId) : Sel → List String
    | .inline t sub =>
      if t == vt then
        (if isLoneSpread sub then [] else selsNames c (pfx ++ "On" ++ c.cs.camel (tnOf c t)) sub)
      else []
    | _ => []
  def inlsNames (c : Ctx) (pfx : String) (vt : TypeId) : List Sel → List String
    | [] => []
    | x :: xs => inlNames c pfx vt x ++ inlsNames c pfx vt xs
end

/-- names of the items `calcSelection c _ name pfx ty sels` emits, computed from the selection tree -/
def selectionNames (c : Ctx) (name pfx : String) (ty : TypeId) (sels : List Sel) : List String :=
  if isLoneSpread sels then [name] else
  headNames name (sels.any (selHasField c ty)) (hasVariants c ty) ++
  (vtsOf c ty).flatMap (fun vt =>
    if sels.any (selOnVariant c ty vt) then (pfx ++ "On" ++ tnOf c vt) :: inlsNames c pfx vt sels else []) ++
  selsNames c pfx sels


theorem tnOf_ok {c : Ctx} {t : TypeId} {tn : String} (h : c.s.typeName t = .ok tn) : tnOf c t = tn := by
  simp [tnOf, h, Except.toOption]

theorem isLoneSpread_false {sels : List Sel} (h : ∀ g, sels ≠ [Sel.spread g]) : isLoneSpread sels = false := by
  unfold isLoneSpread
  split
  · rename_i g; exact absurd rfl (h g)
  · rfl

theorem renderField_isSome {c : Ctx} {g : Option String} {r ft : String} {quals : List Qual} {fl bx : Bool}
    {dep : Option (Option String)} {o : Option RField}
    (h : renderField c g r ft quals fl bx dep = .ok o) :
    o.isSome = !(dep.isSome && c.o.deprecation == .deny) :=
  Pushed.renderField_isSome h

theorem defines_renderType (c : Ctx) (name : String) (fs : List RField) (vs : List RVariant) :
    Scope.defines (renderType c name fs vs) = headNames name (!fs.isEmpty) (!vs.isEmpty) := by
  unfold renderType headNames
  cases hf : fs.isEmpty <;> cases hv : vs.isEmpty <;>
    simp [Scope.defines, Scope.itemDefines, Item.name]

/-- names of the nested items emitted for the selections attached to one variant -/
def vselsNames (c : Ctx) (pfx : String) : List VariantSel → List String
  | [] => []
  | .inline t sub :: rest =>
    (if isLoneSpread sub then [] else selsNames c (pfx ++ "On" ++ c.cs.camel (tnOf c t)) sub) ++ vselsNames c pfx rest
  | .spread _ _ :: rest => vselsNames c pfx rest

/-- names of the items the per-variant loop emits -/
def variantsNames (c : Ctx) (pfx : String) (vsels : List VariantSel) (vts : List TypeId) : List String :=
  vts.flatMap (fun vt =>
    if (vsels.filter (fun v => v.typeId == vt)).isEmpty then []
    else (pfx ++ "On" ++ tnOf c vt) :: vselsNames c pfx (vsels.filter (fun v => v.typeId == vt)))

theorem selNames_composite {c : Ctx} {pfx : String} {a : Option String} {fid : Nat} {sub : List Sel}
    {sf : StoredField} (hsf : c.s.fields[fid]? = some sf)
    (h1 : ∀ e, sf.ty.id ≠ .enum e) (h2 : ∀ k, sf.ty.id ≠ .scalar k) (h3 : ∀ i, sf.ty.id ≠ .input i) :
    selNames c pfx (.field a fid sub) =
      selectionNames c (pfx ++ c.cs.camel (a.getD sf.name)) (pfx ++ c.cs.camel (a.getD sf.name)) sf.ty.id sub := by
  rw [selNames.eq_1]
  simp only [hsf]
  rfl

theorem filter_typeId_inline (t vt : TypeId) (sub : List Sel) (r : List VariantSel) :
    (VariantSel.inline t sub :: r).filter (fun v => v.typeId == vt) =
      if t == vt then .inline t sub :: r.filter (fun v => v.typeId == vt) else r.filter (fun v => v.typeId == vt) := by
  rw [List.filter_cons]; rfl

theorem filter_typeId_spread (g : Nat) (fr : RFragment) (vt : TypeId) (r : List VariantSel) :
    (VariantSel.spread g fr :: r).filter (fun v => v.typeId == vt) =
      if fr.on == vt then .spread g fr :: r.filter (fun v => v.typeId == vt) else r.filter (fun v => v.typeId == vt) := by
  rw [List.filter_cons]; rfl

/-- the selections attached to a variant, seen from the selection set -/
theorem toVsel_filter_spec (c : Ctx) (pfx : String) (ty vt : TypeId) : ∀ (sels : List Sel),
    vselsNames c pfx ((sels.filterMap (C02M.toVsel c ty)).filter (fun v => v.typeId == vt)) = inlsNames c pfx vt sels ∧
    ((sels.filterMap (C02M.toVsel c ty)).filter (fun v => v.typeId == vt)).isEmpty = !(sels.any (selOnVariant c ty vt))
  | [] => by simp [vselsNames, inlsNames]
  | x :: xs => by
    have ⟨ih1, ih2⟩ := toVsel_filter_spec c pfx ty vt xs
    rw [inlsNames.eq_2, List.any_cons, List.filterMap_cons]
    cases x with
    | inline t sub =>
      simp only [C02M.toVsel]
      rw [filter_typeId_inline, inlNames.eq_1, show selOnVariant c ty vt (.inline t sub) = (t == vt) from rfl]
      cases htv : (t == vt)
      · simp [ih1, ih2]
      · simp [vselsNames, ih1]
    | spread g =>
      have hinl : inlNames c pfx vt (.spread g) = [] := by simp [inlNames]
      simp only [C02M.toVsel, selOnVariant, hinl]
      cases hfr : c.q.fragments[g]? with
      | none => simpa using ⟨ih1, ih2⟩
      | some fr =>
        simp only []
        cases hon : (fr.on == ty)
        · have hne : (fr.on != ty) = true := by simp [bne, hon]
          simp only [Bool.false_eq_true, if_false, hne, Bool.true_and]
          rw [filter_typeId_spread]
          cases htv : (fr.on == vt)
          · simp [ih1, ih2]
          · simp [vselsNames, ih1]
        · have hne : (fr.on != ty) = false := by simp [bne, hon]
          simpa [hne] using ⟨ih1, ih2⟩
    | field a b c' => simpa [C02M.toVsel, inlNames, selOnVariant] using ⟨ih1, ih2⟩
    | typename => simpa [C02M.toVsel, inlNames, selOnVariant] using ⟨ih1, ih2⟩

section Names
variable {c : Ctx}

theorem isEmpty_toList_append {α} (o : Option α) (l : List α) :
    (o.toList ++ l).isEmpty = (!o.isSome && l.isEmpty) := by
  cases o <;> simp

theorem length_pos_of_ne_nil_bool {α} (l : List α) : (!l.isEmpty) = decide (0 < l.length) := by
  cases l <;> simp

theorem variantsNames_bare {pfx : String} {vsels : List VariantSel} {vt : TypeId} (rest : List TypeId)
    (hm : vsels.filter (fun v => v.typeId == vt) = []) :
    variantsNames c pfx vsels (vt :: rest) = variantsNames c pfx vsels rest := by
  unfold variantsNames
  rw [List.flatMap_cons, hm]
  rfl

theorem variantsNames_mine {pfx : String} {vsels mine : List VariantSel} {vt : TypeId} {vname : String}
    (rest : List TypeId) (hvn : c.s.typeName vt = .ok vname) (hm : vsels.filter (fun v => v.typeId == vt) = mine)
    (hne : mine ≠ []) :
    variantsNames c pfx vsels (vt :: rest) =
      (pfx ++ "On" ++ vname) :: vselsNames c pfx mine ++ variantsNames c pfx vsels rest := by
  unfold variantsNames
  rw [List.flatMap_cons, hm, tnOf_ok hvn]
  cases mine with
  | nil => exact absurd rfl hne
  | cons _ _ => rfl

/-- **the names defined by the items of a `calc*` call** are the names computed from the selection tree (same order,
    same multiplicity), for the four judgments at once: the four recursors take the same twenty cases -/
theorem names_of_derivation :
    (∀ {name pfx : String} {ty : TypeId} {sels : List Sel} {items : List Item},
      CalcSel c name pfx ty sels items → Scope.defines items = selectionNames c name pfx ty sels) ∧
    (∀ {name pfx : String} {vsels : List VariantSel} {vts : List TypeId} {vs : List RVariant} {items : List Item},
      CalcVars c name pfx vsels vts vs items →
      Scope.defines items = variantsNames c pfx vsels vts ∧ vs.length = vts.length) ∧
    (∀ {sname pfx : String} {vt : TypeId} {mine : List VariantSel} {fs : List RField} {items al : List Item},
      CalcVSels c sname pfx vt mine fs items al →
      Scope.defines items = vselsNames c pfx mine ∧ ∀ a ∈ al, Scope.itemDefines a = some sname) ∧
    (∀ {pfx : String} {ty : TypeId} {sels : List Sel} {fs : List RField} {items : List Item},
      CalcFields c pfx ty sels fs items →
      Scope.defines items = selsNames c pfx sels ∧ fs.isEmpty = !(sels.any (selHasField c ty))) := by
  refine (fun alias concrete abstract vnil bare lone aliasOnly struct snil inlineLone inlineFields spreadMember
      nil enum scalar nested spreadOther spreadHere typename inline =>
    ⟨fun h => CalcSel.rec (motive_1 := fun name pfx ty sels items _ =>
          Scope.defines items = selectionNames c name pfx ty sels)
        @alias @concrete @abstract @vnil @bare @lone @aliasOnly @struct @snil @inlineLone @inlineFields @spreadMember
        @nil @enum @scalar @nested @spreadOther @spreadHere @typename @inline h,
      fun h => CalcVars.rec (motive_1 := fun name pfx ty sels items _ =>
          Scope.defines items = selectionNames c name pfx ty sels)
        @alias @concrete @abstract @vnil @bare @lone @aliasOnly @struct @snil @inlineLone @inlineFields @spreadMember
        @nil @enum @scalar @nested @spreadOther @spreadHere @typename @inline h,
      fun h => CalcVSels.rec (motive_1 := fun name pfx ty sels items _ =>
          Scope.defines items = selectionNames c name pfx ty sels)
        @alias @concrete @abstract @vnil @bare @lone @aliasOnly @struct @snil @inlineLone @inlineFields @spreadMember
        @nil @enum @scalar @nested @spreadOther @spreadHere @typename @inline h,
      fun h => CalcFields.rec (motive_1 := fun name pfx ty sels items _ =>
          Scope.defines items = selectionNames c name pfx ty sels)
        @alias @concrete @abstract @vnil @bare @lone @aliasOnly @struct @snil @inlineLone @inlineFields @spreadMember
        @nil @enum @scalar @nested @spreadOther @spreadHere @typename @inline h⟩)
    ?alias ?concrete ?abstract ?vnil ?bare ?lone ?aliasOnly ?struct ?snil ?inlineLone ?inlineFields ?spreadMember
    ?nil ?enum ?scalar ?nested ?spreadOther ?spreadHere ?typename ?inline
  case alias => intros; simp [Scope.defines, aliasItem_defines, selectionNames, isLoneSpread]
  case concrete =>
    intros; rename_i hns hv _ ih
    unfold selectionNames
    rw [isLoneSpread_false hns]
    simp only [Bool.false_eq_true, if_false]
    rw [defines_append, defines_renderType, ih.1, ih.2, Bool.not_not]
    simp [hasVariants, vtsOf, hv]
  case abstract =>
    intro name pfx ty sels vts vsels vs vitems fs fitems hns hv hvs _ _ ihv ihf
    unfold selectionNames
    rw [isLoneSpread_false hns]
    simp only [Bool.false_eq_true, if_false]
    rw [defines_append, defines_append, defines_renderType, ihf.1, ihf.2, Bool.not_not]
    -- the enum has variants iff the type has possible types or the catch-all variant is on
    have hV : (!(vs ++ if c.o.otherVariant = true then [({ name := "Unknown", other := true } : RVariant)] else []).isEmpty)
        = hasVariants c ty := by
      simp only [hasVariants, hv]
      cases vts with
      | nil =>
        have : vs = [] := List.length_eq_zero_iff.mp ihv.2
        rw [this]
        cases c.o.otherVariant <;> simp
      | cons a l =>
        cases vs with
        | nil => simp at ihv
        | cons _ _ => simp
    rw [hV, ihv.1]
    congr 2
    unfold variantsNames
    simp only [vtsOf, hv]
    congr 1
    funext vt
    have ⟨e1, e2⟩ := toVsel_filter_spec c pfx ty vt sels
    rw [← C02M.vsels_eq hvs] at e1 e2
    rw [e1, e2]
    cases sels.any (selOnVariant c ty vt) <;> simp
  case vnil => intros; exact ⟨rfl, rfl⟩
  case bare =>
    intros; rename_i hm _ ih
    exact ⟨by rw [variantsNames_bare _ hm, ih.1], by simp [ih.2]⟩
  case lone =>
    intros; rename_i hvn hm _ ih
    refine ⟨?_, by simp [ih.2]⟩
    rw [variantsNames_mine _ hvn hm (by simp), defines_cons, aliasItem_defines, ih.1]
    simp [vselsNames]
  case aliasOnly =>
    intros; rename_i hvn hm hne _ _ _ _ ihs ih
    refine ⟨?_, by simp [ih.2]⟩
    rw [variantsNames_mine _ hvn hm hne, defines_append, defines_cons, ihs.2 _ List.mem_cons_self, ihs.1, ih.1]
    rfl
  case struct =>
    intros; rename_i hvn hm hne _ _ _ _ _ ihs ih
    refine ⟨?_, by simp [ih.2]⟩
    rw [variantsNames_mine _ hvn hm hne, defines_append, defines_append, defines_renderType, ihs.1, ih.1]
    simp [headNames]
  case snil => intros; exact ⟨rfl, fun a ha => nomatch ha⟩
  case inlineLone =>
    intros; rename_i ih
    refine ⟨by rw [vselsNames, ih.1]; simp [isLoneSpread], fun a ha => ?_⟩
    rcases List.mem_cons.mp ha with rfl | ha
    · exact aliasItem_defines _ _ _
    · exact ih.2 a ha
  case inlineFields =>
    intros; rename_i htn hns _ _ ihf ih
    exact ⟨by rw [defines_append, ihf.1, ih.1, vselsNames, tnOf_ok htn, isLoneSpread_false hns]; simp, ih.2⟩
  case spreadMember => intros; rename_i ih; exact ⟨by rw [ih.1, vselsNames], ih.2⟩
  case nil => intros; constructor <;> simp [selsNames]
  case enum =>
    intros; rename_i hsf he _ hfld _ ih
    rw [selsNames.eq_2, List.any_cons, ih.1, isEmpty_toList_append, ih.2, renderField_isSome hfld, selNames.eq_1]
    simp [selHasField, getField_ok hsf, he]
  case scalar =>
    intros; rename_i hsf hk _ hfld _ ih
    rw [selsNames.eq_2, List.any_cons, ih.1, isEmpty_toList_append, ih.2, renderField_isSome hfld, selNames.eq_1]
    simp [selHasField, getField_ok hsf, hk]
  case nested =>
    intros; rename_i hsf h1 h2 h3 hfld _ _ ihs ih
    rw [selsNames.eq_2, List.any_cons, defines_append, ihs, ih.1, isEmpty_toList_append, ih.2,
      renderField_isSome hfld, selNames_composite (getField_ok hsf) h1 h2 h3]
    simp [selHasField, getField_ok hsf]
  case spreadOther =>
    intro pfx ty g fr rest fs items hfr hne _ ih
    have : (fr.on == ty) = false := by simpa [bne] using hne
    rw [selsNames.eq_2, List.any_cons, selNames.eq_2 _ _ _ (by simp), ih.1, ih.2]
    simp [selHasField, getFragment_ok hfr, this]
  case spreadHere =>
    intro pfx ty g fr fld rest fs items hfr heq hfld _ ih
    have : (fr.on == ty) = true := by simpa [bne] using heq
    rw [selsNames.eq_2, List.any_cons, selNames.eq_2 _ _ _ (by simp), ih.1, isEmpty_toList_append,
      renderField_isSome hfld]
    simp [selHasField, getFragment_ok hfr, this]
  case typename =>
    intros; rename_i ih
    rw [selsNames.eq_2, List.any_cons, selNames.eq_2 _ _ _ (by simp), ih.1, ih.2]
    simp [selHasField]
  case inline =>
    intros; rename_i ih
    rw [selsNames.eq_2, List.any_cons, selNames.eq_2 _ _ _ (by simp), ih.1, ih.2]
    simp [selHasField]

/-- `names_of_derivation`, about a run -/
theorem calc_names {fuel : Nat} {name pfx : String} {ty : TypeId} {sels : List Sel} {items : List Item}
    (h : calcSelection c fuel name pfx ty sels = .ok items) :
    Scope.defines items = selectionNames c name pfx ty sels :=
  names_of_derivation.1 (CalcSel.of_ok h)

end Names

/-! ### the names the whole module defines -/

theorem defines_eq_map_name {l : List Item} (h : ∀ it ∈ l, Scope.itemDefines it = some it.name) :
    Scope.defines l = l.map Item.name :=
  (filterMap_congr' h).trans (congrFun List.filterMap_eq_map' l)

theorem mapM_defines_flatten {ε α : Type} {f : α → Except ε (List Item)} {n : α → List String}
    (hfn : ∀ a its, f a = .ok its → Scope.defines its = n a) :
    ∀ {l : List α} {F : List (List Item)}, l.mapM f = .ok F → Scope.defines F.flatten = l.flatMap n := fun h => by
  rw [Scope.defines, List.filterMap_flatten, mapM_ok_map (List.filterMap Scope.itemDefines) n hfn h, List.flatMap_def]

/-- aliases of the used custom scalars, in id order -/
def scalarNames (c : Ctx) (u : UsedTypes) : List String :=
  (((sortNat (u.types.filterMap TypeId.asScalar?)).filterMap (fun k => c.s.scalars[k]?)).filter
    (fun n => !Schema.defaultScalars.contains n)).map (c.o.normalization.scalarName c.cs)

/-- the used enums that are not extern, in id order -/
def enumNames (c : Ctx) (u : UsedTypes) : List String :=
  (((sortNat (u.types.filterMap TypeId.asEnum?)).filterMap (fun k => c.s.enums[k]?)).filter
    (fun e => !c.o.externEnums.contains e.name)).map (fun e => c.o.normalization.enumName c.cs e.name)

/-- the used input types, in id order -/
def inputNames (c : Ctx) (u : UsedTypes) : List String :=
  (c.s.inputs.zipIdx.filter (fun (x : StoredInput × Nat) => u.types.contains (.input x.2))).map
    (fun x => keywordReplace (c.o.normalization.inputName c.cs x.1.name))

/-- the items of a used fragment -/
def fragmentNames (c : Ctx) (g : Nat) : List String :=
  match c.q.fragments[g]? with
  | some fr => selectionNames c fr.name (c.cs.camel fr.name) fr.on fr.sels
  | none => []

/-- **every name the emitted module defines**, computed from the schema, the used set and the selection
    trees: the four built-in aliases, the custom scalars, the enums, the input types, `Variables`, the
    fragment structs with their path-named nested types, `ResponseData` with its path-named nested types -/
def moduleNames (c : Ctx) (u : UsedTypes) (o : ROperation) : List String :=
  ["Boolean", "Float", "Int", "ID"] ++ scalarNames c u ++ enumNames c u ++ inputNames c u ++ ["Variables"] ++
  (sortNat u.fragments).flatMap (fragmentNames c) ++
  selectionNames c "ResponseData" (c.cs.camel o.name) (.object o.objectId) o.sels

/-- the decidable no-clash predicate: the names of `moduleNames` are pairwise distinct -/
def NoClash (c : Ctx) (op : Nat) : Bool :=
  match allUsedTypes c.s c.q op, c.q.operations[op]? with
  | .ok u, some o => decide (moduleNames c u o).Nodup
  | _, _ => true

theorem scalarItems_names {c : Ctx} {u : UsedTypes} {S : List Item} (h : scalarItems c u = .ok S) :
    Scope.defines S = scalarNames c u := by
  rw [defines_eq_map_name (scalarItems_itemDefines h)]
  obtain ⟨ns, hns, rfl⟩ := scalarItems_cases h
  rw [mapM_eq_filterMap (g := fun k => c.s.scalars[k]?) (fun a b hb => getScalar_ok hb) hns]
  simp only [scalarNames, List.map_map]
  rfl

theorem enumItems_names {c : Ctx} {u : UsedTypes} {E : List Item} (h : enumItems c u = .ok E) :
    Scope.defines E = enumNames c u := by
  rw [defines_eq_map_name (enumItems_itemDefines h)]
  obtain ⟨es, hes, rfl⟩ := enumItems_cases h
  rw [mapM_eq_filterMap (g := fun k => c.s.enums[k]?) (fun a b hb => getEnum_ok hb) hes]
  simp only [enumNames, List.map_map]
  rfl

theorem inputItems_names {c : Ctx} {u : UsedTypes} {I : List Item} (h : inputItems c u = .ok I) :
    Scope.defines I = inputNames c u := by
  rw [defines_eq_map_name (inputItems_itemDefines h)]
  unfold inputItems at h
  exact mapM_ok_map _ (fun (x : StoredInput × Nat) => keywordReplace (c.o.normalization.inputName c.cs x.1.name))
    (fun a b hb => inputItem_name hb) h

theorem variablesItems_names {c : Ctx} {op : Nat} {V : List Item} (h : variablesItems c op = .ok V) :
    Scope.defines V = ["Variables"] := by
  rcases variablesItems_cases h with ⟨_, rfl⟩ | ⟨_, fs, dfl, _, _, rfl⟩ <;> rfl

theorem fragmentItems_names {c : Ctx} {g : Nat} {its : List Item} (h : fragmentItems c g = .ok its) :
    Scope.defines its = fragmentNames c g := by
  obtain ⟨fr, hfr, hcalc⟩ := fragmentItems_ok h
  simp only [fragmentNames, hfr]
  exact calc_names hcalc

/-- **the names the emitted module defines** are exactly `moduleNames` (same order, same multiplicity);
    no hypothesis -/
theorem module_defines_eq (c : Ctx) (op : Nat) (items : List Item) (h : responseForQuery c op = .ok items) :
    ∃ u o, allUsedTypes c.s c.q op = .ok u ∧ c.q.operations[op]? = some o ∧
      Scope.defines items = moduleNames c u o := by
  obtain ⟨u, S, E, F, I, V, o, R, hu, hS, hE, hF, hI, hV, ho, hR, rfl⟩ := responseForQuery_ok_full h
  refine ⟨u, o, hu, ho, ?_⟩
  unfold responseItems at hR
  simp only [defines_append, moduleNames]
  rw [scalarItems_names hS, enumItems_names hE, inputItems_names hI, variablesItems_names hV,
    mapM_defines_flatten (fun a its ha => fragmentItems_names ha) hF, calc_names hR]
  rfl

/-- **no name is defined twice** (second component of `Scope.wellScoped`) exactly when the decidable
    `NoClash` holds: the built-in aliases, scalar / enum / input names, `Variables`, fragment names and
    the path-concatenated names of all nested response types are pairwise distinct -/
theorem defines_nodup_iff (c : Ctx) (op : Nat) (items : List Item) (h : responseForQuery c op = .ok items) :
    (Scope.defines items).Nodup ↔ NoClash c op = true := by
  obtain ⟨u, o, hu, ho, hd⟩ := module_defines_eq c op items h
  unfold NoClash
  rw [hd]
  simp only [hu, ho, decide_eq_true_eq]

theorem defines_nodup (c : Ctx) (op : Nat) (items : List Item) (h : responseForQuery c op = .ok items)
    (hnc : NoClash c op = true) : (Scope.defines items).Nodup :=
  (defines_nodup_iff c op items h).mpr hnc

/-! ## 6. every response item is an alias or the rendering of one expanded type; the serde crate is named -/

section Shape
variable {c : Ctx} {P : Item → Prop} {Q : RField → Prop}

theorem aliasMembers_fields
    (hF : ∀ {g : Option String} {r ft : String} {quals : List Qual} {fl bx : Bool} {dep : Option (Option String)}
      {o : Option RField}, renderField c g r ft quals fl bx dep = .ok o → ∀ f ∈ o.toList, Q f)
    {al : List Item} {extra : List (List RField)} {sname : String}
    (h : al.mapM (aliasMember c) = .ok extra) (hal : ∀ a ∈ al, ∃ tgt b, a = aliasItem sname tgt b) :
    ∀ f ∈ extra.flatten, Q f := by
  intro f hf
  obtain ⟨fs, hfs, hf⟩ := List.mem_flatten.mp hf
  obtain ⟨a, ha, hfa⟩ := mapM_ok_mem h fs hfs
  obtain ⟨tgt, b, rfl⟩ := hal a ha
  rw [aliasMember_aliasItem] at hfa
  obtain ⟨fld, hfld, hfa⟩ := bind_ok hfa
  simp only [pure, Except.pure, Except.ok.injEq] at hfa
  subst hfa
  exact hF hfld f hf

/-- **shape of the response items**: a property `P` that holds for every alias item and for every item `renderType`
    makes from members with `Q`, where `Q` holds for every member `renderField` makes, holds for every item of a
    `calcSelection` call -/
theorem CalcSel.shape (hA : ∀ n t b, P (aliasItem n t b))
    (hR : ∀ n fs vs, (∀ f ∈ fs, Q f) → ∀ it ∈ renderType c n fs vs, P it)
    (hF : ∀ {g : Option String} {r ft : String} {quals : List Qual} {fl bx : Bool} {dep : Option (Option String)}
      {o : Option RField}, renderField c g r ft quals fl bx dep = .ok o → ∀ f ∈ o.toList, Q f)
    {name pfx : String} {ty : TypeId} {sels : List Sel} {items : List Item} (h : CalcSel c name pfx ty sels items) :
    ∀ it ∈ items, P it := by
  induction h using CalcSel.rec
    (motive_2 := fun _ _ _ _ _ items _ => ∀ it ∈ items, P it)
    (motive_3 := fun sname _ _ _ fs items al _ => (∀ f ∈ fs, Q f) ∧ (∀ it ∈ items, P it) ∧
      ∀ a ∈ al, ∃ tgt b, a = aliasItem sname tgt b)
    (motive_4 := fun _ _ _ fs items _ => (∀ f ∈ fs, Q f) ∧ ∀ it ∈ items, P it) with
  | alias _ =>
    intro it hit
    simp only [List.mem_singleton] at hit
    subst hit; exact hA _ _ _
  | concrete _ _ _ ih =>
    intro it hit
    rcases List.mem_append.mp hit with hit | hit
    · exact hR _ _ _ ih.1 it hit
    · exact ih.2 it hit
  | abstract _ _ _ _ _ ihv ihf =>
    intro it hit
    rcases List.mem_append.mp hit with hit | hit
    · rcases List.mem_append.mp hit with hit | hit
      · exact hR _ _ _ ihf.1 it hit
      · exact ihv it hit
    · exact ihf.2 it hit
  | vnil => rename_i it hit; cases hit
  | bare _ _ _ ih => rename_i it hit; exact ih it hit
  | lone _ _ _ ih =>
    rename_i it hit
    rcases List.mem_cons.mp hit with rfl | hit
    · exact hA _ _ _
    · exact ih it hit
  | aliasOnly _ _ _ _ _ _ _ ihs ih =>
    rename_i it hit
    obtain ⟨_, r2, r3⟩ := ihs
    obtain ⟨tgt, b, rfl⟩ := r3 _ List.mem_cons_self
    rcases List.mem_cons.mp hit with rfl | hit
    · exact hA _ _ _
    · exact (List.mem_append.mp hit).elim (r2 it) (ih it)
  | struct _ _ _ _ _ _ hex _ ihs ih =>
    rename_i it hit
    obtain ⟨r1, r2, r3⟩ := ihs
    rcases List.mem_append.mp hit with hit | hit
    · rcases List.mem_append.mp hit with hit | hit
      · exact hR _ _ _ (fun f hf => (List.mem_append.mp hf).elim (r1 f) (aliasMembers_fields hF hex r3 f)) it hit
      · exact r2 it hit
    · exact ih it hit
  | snil => exact ⟨fun f hf => (nomatch hf), fun it hit => (nomatch hit), fun a ha => (nomatch ha)⟩
  | inlineLone _ _ _ ih =>
    refine ⟨ih.1, ih.2.1, fun a ha => ?_⟩
    rcases List.mem_cons.mp ha with rfl | ha
    · exact ⟨_, _, rfl⟩
    · exact ih.2.2 a ha
  | inlineFields _ _ _ _ ihf ih =>
    exact ⟨fun f hf => (List.mem_append.mp hf).elim (ihf.1 f) (ih.1 f),
      fun it hit => (List.mem_append.mp hit).elim (ihf.2 it) (ih.2.1 it), ih.2.2⟩
  | spreadMember hfld _ ih =>
    exact ⟨fun f hf => (List.mem_append.mp hf).elim (hF hfld f) (ih.1 f), ih.2.1, ih.2.2⟩
  | nil => exact ⟨fun f hf => (nomatch hf), fun it hit => (nomatch hit)⟩
  | enum _ _ _ hfld _ ih => exact ⟨fun f hf => (List.mem_append.mp hf).elim (hF hfld f) (ih.1 f), ih.2⟩
  | scalar _ _ _ hfld _ ih => exact ⟨fun f hf => (List.mem_append.mp hf).elim (hF hfld f) (ih.1 f), ih.2⟩
  | nested _ _ _ _ hfld _ _ ihs ih =>
    exact ⟨fun f hf => (List.mem_append.mp hf).elim (hF hfld f) (ih.1 f),
      fun it hit => (List.mem_append.mp hit).elim (ihs it) (ih.2 it)⟩
  | spreadOther _ _ _ ih => exact ih
  | spreadHere _ _ hfld _ ih => exact ⟨fun f hf => (List.mem_append.mp hf).elim (hF hfld f) (ih.1 f), ih.2⟩
  | typename _ ih => exact ih
  | inline _ ih => exact ih

/-- `CalcSel.shape` for a property of the items alone, about a run -/
theorem calc_shape (hA : ∀ n t b, P (aliasItem n t b)) (hR : ∀ n fs vs, ∀ it ∈ renderType c n fs vs, P it)
    {fuel : Nat} {name pfx : String} {ty : TypeId} {sels : List Sel} {items : List Item}
    (h : calcSelection c fuel name pfx ty sels = .ok items) : ∀ it ∈ items, P it :=
  (CalcSel.of_ok h).shape (Q := fun _ => True) hA (fun n fs vs _ => hR n fs vs) (fun _ _ _ => trivial)

end Shape

theorem renderType_serde (c : Ctx) (n : String) (fs : List RField) (vs : List RVariant) :
    ∀ it ∈ renderType c n fs vs, Scope.missingSerdeCrate it = false := by
  intro it hit
  rcases renderType_cases c n fs vs with e | e | e <;> rw [e] at hit <;>
    simp only [List.mem_cons, List.not_mem_nil, or_false] at hit
  · subst hit; simp [Scope.missingSerdeCrate, Ctx.serdeCrate]
  · subst hit; simp [Scope.missingSerdeCrate, Ctx.serdeCrate]
  · rcases hit with rfl | rfl <;> simp [Scope.missingSerdeCrate, Ctx.serdeCrate]

theorem inputItem_serde {c : Ctx} {i : StoredInput} {it : Item} (h : inputItem c i = .ok it) :
    Scope.missingSerdeCrate it = false := by
  rcases inputItem_cases h with ⟨_, vs, _, rfl⟩ | ⟨_, fs, _, rfl⟩ <;> simp [Scope.missingSerdeCrate, Ctx.serdeCrate]

/-- **every item of the emitted module that carries a serde derive names the serde crate** (fourth
    component of `Scope.wellScoped`); no hypothesis -/
theorem module_serde_crate (c : Ctx) (op : Nat) (items : List Item) (h : responseForQuery c op = .ok items) :
    ∀ it ∈ items, Scope.missingSerdeCrate it = false := by
  obtain ⟨u, S, E, F, I, V, o, R, hu, hS, hE, hF, hI, hV, ho, hR, rfl⟩ := responseForQuery_ok_full h
  have hcalc := fun {fuel name pfx ty sels items} (h : calcSelection c fuel name pfx ty sels = .ok items) =>
    calc_shape (P := fun it => Scope.missingSerdeCrate it = false) (fun n t b => by cases b <;> rfl)
      (renderType_serde c) h
  intro it hit
  simp only [List.mem_append] at hit
  rcases hit with (((((hit | hit) | hit) | hit) | hit) | hit) | hit
  · simp only [builtinAliases, List.mem_cons, List.not_mem_nil, or_false] at hit
    rcases hit with rfl | rfl | rfl | rfl <;> rfl
  · obtain ⟨ns, _, rfl⟩ := scalarItems_cases hS
    simp only [List.mem_map] at hit
    obtain ⟨n, _, rfl⟩ := hit
    rfl
  · obtain ⟨es, _, rfl⟩ := enumItems_cases hE
    simp only [List.mem_map] at hit
    obtain ⟨e, _, rfl⟩ := hit
    rfl
  · obtain ⟨_, _, _, _, hx⟩ := inputItems_origin hI it hit
    exact inputItem_serde hx
  · rcases variablesItems_cases hV with ⟨_, rfl⟩ | ⟨_, fs, dfl, _, _, rfl⟩
    · simp only [List.mem_singleton] at hit
      subst hit; simp [Scope.missingSerdeCrate, Ctx.serdeCrate]
    · simp only [List.mem_cons, List.not_mem_nil, or_false] at hit
      rcases hit with rfl | rfl <;> simp [Scope.missingSerdeCrate, Ctx.serdeCrate]
  · obtain ⟨its, hits, hit⟩ := List.mem_flatten.mp hit
    obtain ⟨g, _, hfi⟩ := mapM_ok_mem hF its hits
    obtain ⟨fr, _, hc⟩ := fragmentItems_ok hfi
    exact hcalc hc it hit
  · unfold responseItems at hR
    exact hcalc hR it hit

/-! ## 7. the executable scope check on the emitted module -/

/-- **`Scope.wellScoped` on the emitted module, characterised.**  Under the hypotheses of
    `module_well_scoped_partial`, the executable check the correspondence harness evaluates holds for the
    module `responseForQuery` emits **iff** the decidable `NoClash` holds (no name defined twice) and no
    item has two members of the same identifier.  (The last condition is stated on the items: it fails for
    sibling fields that coincide after snake-casing, a field called `on` next to variants, two inline
    fragments on the same type — known findings of C02/C01.) -/
theorem module_well_scoped_iff (c : Ctx) (op : Nat) (items : List Item)
    (hnorm : c.o.normalization = .none)
    (hkwI : ∀ i ∈ c.s.inputs, keywordReplace i.name = i.name)
    (hkwS : ∀ n ∈ c.s.scalars, keywordReplace n = n)
    (hkwE : ∀ e ∈ c.s.enums, keywordReplace e.name = e.name)
    (hwf : OutputOnly c.s c.q = true) (hrel : InputFieldsRelevant c.s = true)
    (hvars : ∀ v ∈ c.q.opVariables op, Relevant v.ty.id)
    (h : responseForQuery c op = .ok items) :
    Scope.wellScoped items (moduleSupplied c) = true ↔
      NoClash c op = true ∧ ∀ it ∈ items, (memberIdents it).Nodup := by
  rw [wellScoped_iff, defines_nodup_iff c op items h]
  have h1 := module_well_scoped_partial c op items hnorm hkwI hkwS hkwE hwf hrel hvars h
  have h4 := module_serde_crate c op items h
  constructor
  · rintro ⟨_, b, c', _⟩; exact ⟨b, c'⟩
  · rintro ⟨b, c'⟩
    refine ⟨fun n hn => ?_, b, c', h4⟩
    simp only [Scope.mentions, List.mem_flatMap] at hn
    obtain ⟨it, hit, hn⟩ := hn
    have := h1 it hit n hn
    unfold Scope.resolved at this
    simp only [Bool.or_eq_true, List.contains_iff_mem] at this
    rcases this with (h | h) | h
    · exact .inl h
    · exact .inr (.inl h)
    · exact .inr (.inr h)

/-! ## 8. non-vacuity, and the hypotheses are needed -/

/-- ```graphql
    interface Animal { name: String }   type Dog implements Animal { name: String barks: Boolean owner: Person }
    type Cat implements Animal { name: String }   type Person { id: ID! }   union Pet = Dog | Cat
    enum Kind { A B }   enum Ext { X }   scalar Date   input In { k: Kind  d: Date! }
    type Query { animal: Animal  pet: [Pet]  kind: Kind!  when: Date @deprecated  ext: Ext }
    ``` -/
def richSchema : Schema :=
  { objects := [{ name := "Query", fields := [0, 1, 2, 3, 8], implements := [] },
                { name := "Dog", fields := [4, 5, 6], implements := [0] },
                { name := "Cat", fields := [4], implements := [0] },
                { name := "Person", fields := [7], implements := [] }],
    fields := [{ name := "animal", ty := { id := .interface 0, quals := [] }, parent := .object 0, deprecation := none },
               { name := "pet", ty := { id := .union 0, quals := [.list] }, parent := .object 0, deprecation := none },
               { name := "kind", ty := { id := .enum 0, quals := [.required] }, parent := .object 0, deprecation := none },
               { name := "when", ty := { id := .scalar 5, quals := [] }, parent := .object 0, deprecation := some none },
               { name := "name", ty := { id := .scalar 1, quals := [] }, parent := .interface 0, deprecation := none },
               { name := "barks", ty := { id := .scalar 4, quals := [] }, parent := .object 1, deprecation := none },
               { name := "owner", ty := { id := .object 3, quals := [] }, parent := .object 1, deprecation := none },
               { name := "id", ty := { id := .scalar 0, quals := [.required] }, parent := .object 3, deprecation := none },
               { name := "ext", ty := { id := .enum 1, quals := [] }, parent := .object 0, deprecation := none }],
    interfaces := [{ name := "Animal", fields := [4] }],
    unions := [{ name := "Pet", variants := [.object 1, .object 2] }],
    scalars := Schema.defaultScalars ++ ["Date"],
    enums := [{ name := "Kind", variants := ["A", "B"] }, { name := "Ext", variants := ["X"] }],
    inputs := [{ name := "In", fields := [("k", { id := .enum 0, quals := [] }), ("d", { id := .scalar 5, quals := [.required] })],
                 isOneOf := false }] }

/-- ```graphql
    fragment DogF on Dog { barks owner { id } }
    fragment AnimalF on Animal { name ... on Dog { ...DogF } }
    fragment QF on Query { kind }
    query Q($v: In) {
      animal { __typename name ... on Dog { barks owner { id } } ...DogF ... on Cat { ...AnimalF } }
      pets: pet { __typename ... on Dog { ...DogF } ... on Cat { name } }
      animal2: animal { ...AnimalF }
      kind when ext ...QF
    }
    ``` -/
def richQuery : Query :=
  { fragments := [{ name := "DogF", on := .object 1, sels := [.field none 5 [], .field none 6 [.field none 7 []]] },
                  { name := "AnimalF", on := .interface 0, sels := [.field none 4 [], .inline (.object 1) [.spread 0]] },
                  { name := "QF", on := .object 0, sels := [.field none 2 []] }],
    operations := [{ name := "Q", kind := .query, objectId := 0,
                     sels := [.field none 0 [.typename, .field none 4 [],
                                             .inline (.object 1) [.field none 5 [], .field none 6 [.field none 7 []]],
                                             .spread 0, .inline (.object 2) [.spread 1]],
                              .field (some "pets") 1 [.typename, .inline (.object 1) [.spread 0],
                                                      .inline (.object 2) [.field none 4 []]],
                              .field (some "animal2") 0 [.spread 1],
                              .field none 2 [], .field none 3 [], .field none 8 [], .spread 2] }],
    variables := [{ opIdx := 0, name := "v", default := none, ty := { id := .input 0, quals := [] } }] }

def richCtx : Ctx := { s := richSchema, q := richQuery, o := { externEnums := ["Ext"] }, cs := ⟨id, id⟩ }

/-- non-vacuity: all hypotheses of `module_well_scoped_partial` hold on a schema / query pair with an
    interface, a union, nested objects, fragments (spread as fields, as a lone selection, inside inline
    fragments), an extern enum, a custom scalar, a deprecated field and an input-typed variable;
    generation succeeds (25 items) — and there the full executable check `wellScoped` holds -/
example : richCtx.o.normalization = .none ∧
    (∀ i ∈ richCtx.s.inputs, keywordReplace i.name = i.name) ∧
    (∀ n ∈ richCtx.s.scalars, keywordReplace n = n) ∧
    (∀ e ∈ richCtx.s.enums, keywordReplace e.name = e.name) ∧
    OutputOnly richCtx.s richCtx.q = true ∧ InputFieldsRelevant richCtx.s = true ∧
    (∀ v ∈ richCtx.q.opVariables 0, Relevant v.ty.id) ∧
    (responseForQuery richCtx 0).toOption.map
      (fun items => (items.length, Scope.wellScoped items (moduleSupplied richCtx))) = some (25, true) := by
  refine ⟨rfl, hkw_of_not_keyword _ (by decide +kernel), fun n hn => ?_, fun e he => ?_, by decide, by decide,
    fun v hv => ?_, by decide +kernel⟩
  · rw [C11.keywordReplace_spec, if_neg]
    revert n; decide +kernel
  · rw [C11.keywordReplace_spec, if_neg]
    revert e; decide +kernel
  · have : v ∈ [richQuery.variables[0]] := hv
    simp only [List.mem_singleton] at this
    subst this
    trivial

/-- `type Query { e: my_enum }  enum my_enum { A }`, `query Q { e }`, `extern_enums("my_enum")`,
    `normalization = "rust"` (heck: `my_enum` ↦ `MyEnum`) -/
def rustCtx : Ctx :=
  { s := { objects := [{ name := "Query", fields := [0], implements := [] }],
           fields := [{ name := "e", ty := { id := .enum 0, quals := [] }, parent := .object 0, deprecation := none }],
           scalars := Schema.defaultScalars,
           enums := [{ name := "my_enum", variants := ["A"] }] },
    q := { operations := [{ name := "Q", kind := .query, objectId := 0, sels := [.field none 0 []] }] },
    o := { normalization := .rust, externEnums := ["my_enum"] },
    cs := ⟨id, fun s => if s = "my_enum" then "MyEnum" else s⟩ }

/-- **the normalization hypothesis of `response_mentions_resolved` is needed**: with
    `normalization = rust` the response struct mentions the extern enum under its camel-cased name
    (`MyEnum`), which `supplied = externEnums` (`my_enum`) does not resolve; the name-mapped statement
    (`response_mentions_resolved_mapped`, `supplied = externSupplied`) applies and resolves it -/
theorem normalization_needed :
    (responseForQuery rustCtx 0).toOption.map (fun items => Scope.undefinedMentions items rustCtx.o.externEnums)
      = some ["MyEnum"] ∧
    (responseForQuery rustCtx 0).toOption.map (fun items => Scope.undefinedMentions items (externSupplied rustCtx))
      = some [] ∧
    NameMapOK rustCtx := by
  refine ⟨by decide +kernel, by decide +kernel, ⟨?_, ?_, ?_⟩⟩
  · decide +kernel
  · decide +kernel
  · decide +kernel

/-- as `rustCtx`, the enum is called `__E` and is not extern (heck: `__E` ↦ `E`) -/
def rustCtx2 : Ctx :=
  { s := { objects := [{ name := "Query", fields := [0], implements := [] }],
           fields := [{ name := "e", ty := { id := .enum 0, quals := [] }, parent := .object 0, deprecation := none }],
           scalars := Schema.defaultScalars,
           enums := [{ name := "__E", variants := ["A"] }] },
    q := { operations := [{ name := "Q", kind := .query, objectId := 0, sels := [.field none 0 []] }] },
    o := { normalization := .rust },
    cs := ⟨id, fun s => if s = "__E" then "E" else s⟩ }

/-- **the name-mapping hypothesis `NameMapOK` of `response_mentions_resolved_mapped` is needed**: with
    `normalization = rust`, a name starting with `__` is left alone in field position
    (`Normalization.fieldType`) and camel-cased in the declaration (`enumName`): the enum is emitted as `E`,
    the response struct mentions `__E` -/
theorem nameMap_needed :
    (responseForQuery rustCtx2 0).toOption.map
      (fun items => (Scope.defines items, Scope.undefinedMentions items (externSupplied rustCtx2)))
      = some (["Boolean", "Float", "Int", "ID", "E", "Variables", "ResponseData"], ["__E"]) ∧
    ¬ NameMapOK rustCtx2 := by
  refine ⟨by decide +kernel, fun h => ?_⟩
  have := h.enums { name := "__E", variants := ["A"] } (by decide)
  revert this
  decide +kernel

/-- `type Query { a: A  aB: A2 }  type A { bC: B }  type A2 { c: B }  type B { x: Int }`,
    `query Q { a { bC { x } } aB { c { x } } }`, heck's `to_upper_camel_case` on the names involved -/
def clashCtx : Ctx :=
  { s := { objects := [{ name := "Query", fields := [0, 1], implements := [] }, { name := "A", fields := [2], implements := [] },
                       { name := "A2", fields := [3], implements := [] }, { name := "B", fields := [4], implements := [] }],
           fields := [{ name := "a", ty := { id := .object 1, quals := [] }, parent := .object 0, deprecation := none },
                      { name := "aB", ty := { id := .object 2, quals := [] }, parent := .object 0, deprecation := none },
                      { name := "bC", ty := { id := .object 3, quals := [] }, parent := .object 1, deprecation := none },
                      { name := "c", ty := { id := .object 3, quals := [] }, parent := .object 2, deprecation := none },
                      { name := "x", ty := { id := .scalar 2, quals := [] }, parent := .object 3, deprecation := none }],
           scalars := Schema.defaultScalars },
    q := { operations := [{ name := "Q", kind := .query, objectId := 0,
                            sels := [.field none 0 [.field none 2 [.field none 4 []]],
                                     .field none 1 [.field none 3 [.field none 4 []]]] }] },
    o := {},
    cs := ⟨id, fun s => if s = "a" then "A" else if s = "aB" then "AB" else if s = "bC" then "BC"
                        else if s = "c" then "C" else s⟩ }

/-- **without a no-clash hypothesis the module defines a name twice** (known finding: path-name
    collision): the selection paths `a.bC` and `aB.c` both concatenate to `QABC`; all mentions are
    resolved (`module_well_scoped_partial` applies), `wellScoped` fails on `duplicateDefs` alone -/
theorem defines_dup_witness :
    (responseForQuery clashCtx 0).toOption.map (fun items => Scope.report items (moduleSupplied clashCtx))
      = some { undefined := [], duplicateDefs := ["QABC"], duplicateMembers := [], serdeless := [] } := by
  decide +kernel

/-- the decidable `NoClash` separates the two: it holds on the rich sample and fails on the path collision -/
example : NoClash richCtx 0 = true ∧ NoClash clashCtx 0 = false := by
  constructor <;> decide +kernel

/-- the names of the rich sample, as `moduleNames` computes them from the selection trees -/
example : (allUsedTypes richCtx.s richCtx.q 0).toOption.map (fun u => moduleNames richCtx u richQuery.operations[0]) =
    some ["Boolean", "Float", "Int", "ID", "Date", "Kind", "In", "Variables", "DogF", "DogFowner", "AnimalF",
      "AnimalFOn", "AnimalFOnDog", "QF", "ResponseData", "Qanimal", "QanimalOn", "QanimalOnDog", "QanimalOnDogowner",
      "QanimalOnCat", "Qpets", "QpetsOnDog", "QpetsOnCat", "Qanimal2"] := by
  decide +kernel

/-- `interface I { on: String }  type O implements I { on: String }  type Query { i: I }`,
    `query Q { i { on ... on O { on } } }` -/
def onCtx : Ctx :=
  { s := { objects := [{ name := "Query", fields := [0], implements := [] }, { name := "O", fields := [1], implements := [0] }],
           fields := [{ name := "i", ty := { id := .interface 0, quals := [] }, parent := .object 0, deprecation := none },
                      { name := "on", ty := { id := .scalar 1, quals := [] }, parent := .interface 0, deprecation := none }],
           interfaces := [{ name := "I", fields := [1] }],
           scalars := Schema.defaultScalars },
    q := { operations := [{ name := "Q", kind := .query, objectId := 0,
                            sels := [.field none 0 [.field none 1 [], .inline (.object 1) [.field none 1 []]]] }] },
    o := {}, cs := ⟨id, id⟩ }

/-- **the member condition of `module_well_scoped_iff` is not implied by `NoClash`** (known finding: a
    field called `on` next to the flattened variant field `on`): every name is defined once, all mentions
    are resolved, the struct `Qi` has two fields `on` -/
theorem member_dup_witness :
    NoClash onCtx 0 = true ∧
    (responseForQuery onCtx 0).toOption.map (fun items => Scope.report items (moduleSupplied onCtx))
      = some { undefined := [], duplicateDefs := [], duplicateMembers := ["on"], serdeless := [] } := by
  constructor <;> decide +kernel

/-! ### the hypotheses `module_well_scoped_partial` inherits from the input / `Variables` theorems are needed
(`hkwI`: `keyword_input_name_mismatch`, `OutputOnly`: `outputOnly_needed` in `Proofs/C02Closure.lean`) -/

/-- `enum type { A }`, `query Q($v: type) { __typename }` -/
def kwEnumCtx : Ctx :=
  { s := { objects := [{ name := "Query", fields := [], implements := [] }],
           scalars := Schema.defaultScalars,
           enums := [{ name := "type", variants := ["A"] }] },
    q := { operations := [{ name := "Q", kind := .query, objectId := 0, sels := [.typename] }],
           variables := [{ opIdx := 0, name := "v", default := none, ty := { id := .enum 0, quals := [] } }] },
    o := {}, cs := ⟨id, id⟩ }

/-- **`hkwE` is needed** (the same mechanism gives `hkwS`): the `Variables` struct escapes the type name
    (`type_`), the enum is declared unescaped (`type`).  In *response* position the name is not escaped
    either, which is why the response theorems need no keyword hypothesis. -/
theorem keyword_enum_variable_mismatch :
    (responseForQuery kwEnumCtx 0).toOption.map
      (fun items => (Scope.defines items, Scope.undefinedMentions items (moduleSupplied kwEnumCtx)))
      = some (["Boolean", "Float", "Int", "ID", "type", "Variables", "ResponseData"], ["type_"]) := by
  decide +kernel

/-- `query Q($v: Query) { __typename }` (a variable of object type: rejected by GraphQL validation, not by
    the generator) -/
def objVarCtx : Ctx :=
  { s := { objects := [{ name := "Query", fields := [], implements := [] }],
           scalars := Schema.defaultScalars },
    q := { operations := [{ name := "Q", kind := .query, objectId := 0, sels := [.typename] }],
           variables := [{ opIdx := 0, name := "v", default := none, ty := { id := .object 0, quals := [] } }] },
    o := {}, cs := ⟨id, id⟩ }

/-- **`hvars` is needed**: `Variables` mentions the object type, for which no item is emitted -/
theorem object_variable_unresolved :
    (responseForQuery objVarCtx 0).toOption.map (fun items => Scope.undefinedMentions items (moduleSupplied objVarCtx))
      = some ["Query"] := by
  decide +kernel

end C02
end GqlVerif
