import GqlVerif.Model.Schema

/-! The example schema of the `VariantOp` / `VariantSpreadOp` instances: `hero : Character` (interface, implemented by
`Human`, `Droid`), `search : [SearchResult!]!` and `buddy : SearchResult` (union of `Human`, `Droid`). -/

namespace GqlVerif
namespace C01
namespace E2E

def vxSchema : Schema :=
  { objects := [{ name := "Query", fields := [0, 4], implements := [] },
                { name := "Human", fields := [1, 2, 5], implements := [0] },
                { name := "Droid", fields := [1, 3], implements := [0] }]
    fields := [{ name := "hero", ty := { id := .interface 0, quals := [] }, parent := .object 0, deprecation := none },
               { name := "name", ty := { id := .scalar 1, quals := [.required] }, parent := .interface 0, deprecation := none },
               { name := "height", ty := { id := .scalar 3, quals := [] }, parent := .object 1, deprecation := none },
               { name := "primaryFunction", ty := { id := .scalar 1, quals := [] }, parent := .object 2, deprecation := none },
               { name := "search", ty := { id := .union 0, quals := [.required, .list, .required] }, parent := .object 0, deprecation := none },
               { name := "buddy", ty := { id := .union 0, quals := [] }, parent := .object 1, deprecation := none }]
    interfaces := [{ name := "Character", fields := [1] }]
    unions := [{ name := "SearchResult", variants := [.object 1, .object 2] }]
    scalars := ["ID", "String", "Int", "Float", "Boolean"] }

end E2E
end C01
end GqlVerif
