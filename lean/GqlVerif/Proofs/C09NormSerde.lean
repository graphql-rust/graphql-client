import GqlVerif.Proofs.C09Options
/-!
# C09 — Serde half of the `normalization` wire theorem

Two environments `e₀`, `e₁` that have the same *shape* and differ only in the names of types (item names,
`RTy.path` leaves, keys of `externs`) and in the Rust identifiers of the variants of hand-written string
enums read and write the same JSON, provided the correspondence `R` between the two sets of names is a
partial bijection (`Bij R`) that relates a prelude name (`String`, `i64`, `f64`, `bool`) only to itself
(`PrimOK R`), and the identifier tables of corresponding enums have the same kernel (`EnumRen`).

* `EnvRen R e₀ e₁` — the hypothesis (items and externs related pointwise by `ItemRen R`, `Bij R`, `PrimOK R`);
* `VRel R e₀ e₁ t v v'` — type-directed relation of Rust values: equal except that a value of a string enum
  is the variant *at the same position* of the two identifier tables;
* `de_rename` (`dePath_rename`, `deFlat_rename`, `deTy_rename`): same acceptance, same `mismatch` error
  (an `unmodelled` error may carry a different text, it quotes type names), results related by `VRel`
  (needs `FieldsWF e₀`: fields with the same Rust name have the same type, variants with the same name the
  same payload — otherwise `VRel`, which follows the way `Serialize` looks fields up, is not what comes out);
* `ser_rename` (`serPath_rename`, `serTy_rename`): `VRel`-related values are written to the same JSON;
* `roundtrip_rename`: `to_value(from_value(j))` is the same.
-/
namespace GqlVerif
namespace C09N
open Serde C09

/-- same `Option` / `Vec` / `Box` shape, leaves related by `R` -/
def TyRen (R : String → String → Prop) : RTy → RTy → Prop
  | .path p, .path p' => R p p'
  | .opt t, .opt t' => TyRen R t t'
  | .vec t, .vec t' => TyRen R t t'
  | .box t, .box t' => TyRen R t t'
  | _, _ => False

structure FieldRen (R : String → String → Prop) (f f' : RField) : Prop where
  rust : f'.rust = f.rust
  rename : f'.rename = f.rename
  ty : TyRen R f.ty f'.ty
  flatten : f'.flatten = f.flatten
  skipNone : f'.skipNone = f.skipNone
  deserWith : f'.deserWith = f.deserWith
  default : f'.default = f.default

def OptTyRen (R : String → String → Prop) : Option RTy → Option RTy → Prop
  | none, none => True
  | some t, some t' => TyRen R t t'
  | _, _ => False

structure VariantRen (R : String → String → Prop) (v v' : RVariant) : Prop where
  name : v'.name = v.name
  rename : v'.rename = v.rename
  payload : OptTyRen R v.payload v'.payload
  other : v'.other = v.other

/-- the pairs `(a, a')` occurring at the same position have the same kernel: `a = b ↔ a' = b'` -/
def KernelEq (l : List (String × String)) : Prop :=
  ∀ x ∈ l, ∀ y ∈ l, (x.1 = y.1 ↔ x.2 = y.2)

instance (l : List (String × String)) : Decidable (KernelEq l) := by unfold KernelEq; infer_instance

/-- corresponding Rust identifiers of two `Deserialize` tables -/
def identPairs (de de' : List (String × String)) : List (String × String) :=
  (de.map (·.2)).zip (de'.map (·.2))

/-- the tables of two string enums: same wire strings in the same order, `Serialize` table inverse to the
    `Deserialize` table, identifiers with the same kernel -/
structure EnumRen (ser de ser' de' : List (String × String)) : Prop where
  keys : de.map (·.1) = de'.map (·.1)
  ser : ser = de.map Prod.swap
  ser' : ser' = de'.map Prod.swap
  kernel : KernelEq (identPairs de de')

inductive ItemRen (R : String → String → Prop) : Item → Item → Prop
  | struct {n n' d d' s s' fs fs'} : R n n' → All2 (FieldRen R) fs fs' →
      ItemRen R (.struct n d s fs) (.struct n' d' s' fs')
  | unitStruct {n n' d d' s s'} : R n n' → ItemRen R (.unitStruct n d s) (.unitStruct n' d' s')
  | tagged {n n' d d' s s' tag vs vs'} : R n n' → All2 (VariantRen R) vs vs' →
      ItemRen R (.tagged n d s tag vs) (.tagged n' d' s' tag vs')
  | alias {n n' pub pub' t t'} : R n n' → TyRen R t t' → ItemRen R (.alias n pub t) (.alias n' pub' t')
  | gqlEnum {n n' d d' sp sp' ids ids' ser ser' de de'} : R n n' → EnumRen ser de ser' de' →
      ItemRen R (.gqlEnum n d sp ids ser de) (.gqlEnum n' d' sp' ids' ser' de')
  | oneOf {n n' d d' s s' vs vs'} : R n n' → All2 (VariantRen R) vs vs' →
      ItemRen R (.oneOf n d s vs) (.oneOf n' d' s' vs')
  | defaults {fns fns'} : R "<impl Variables>" "<impl Variables>" → ItemRen R (.defaults fns) (.defaults fns')

/-- `R` is a partial bijection -/
def Bij (R : String → String → Prop) : Prop := ∀ a a' b b', R a a' → R b b' → (a = b ↔ a' = b')

/-- a prelude name corresponds only to itself -/
def PrimOK (R : String → String → Prop) : Prop :=
  ∀ a a', R a a' → (isPrimName a = true ∨ isPrimName a' = true) → a = a'

structure EnvRen (R : String → String → Prop) (e e' : Env) : Prop where
  items : All2 (ItemRen R) e.items e'.items
  externs : All2 (fun x x' => R x.1 x'.1 ∧ TyRen R x.2 x'.2) e.externs e'.externs
  bij : Bij R
  prim : PrimOK R

theorem ItemRen.name {R} {it it' : Item} (h : ItemRen R it it') : R it.name it'.name := by
  cases h <;> assumption

theorem All2.getElem? {α β} {R : α → β → Prop} : ∀ {l l'}, All2 R l l' → ∀ i : Nat,
    (l[i]? = none ∧ l'[i]? = none) ∨ ∃ a b, l[i]? = some a ∧ l'[i]? = some b ∧ R a b
  | _, _, .nil, i => Or.inl ⟨by simp, by simp⟩
  | _, _, .cons (a := a) (b := b) hab t, i => by
    cases i with
    | zero => exact Or.inr ⟨a, b, by simp, by simp, hab⟩
    | succ i => simpa using All2.getElem? t i

theorem All2.mem_left {α β} {R : α → β → Prop} : ∀ {l l'}, All2 R l l' → ∀ a ∈ l, ∃ b ∈ l', R a b
  | _, _, .nil, a, h => by cases h
  | _, _, .cons (a := x) (b := y) hab t, a, h => by
    rcases List.mem_cons.mp h with rfl | h
    · exact ⟨y, by simp, hab⟩
    · obtain ⟨b, hb, hr⟩ := All2.mem_left t a h
      exact ⟨b, by simp [hb], hr⟩

theorem All2.forall_zip {α β} {R : α → β → Prop} : ∀ {l : List α} {l' : List β}, All2 R l l' → ∀ x ∈ l.zip l', R x.1 x.2
  | _, _, .nil, x, hx => by cases hx
  | _, _, .cons h t, x, hx => by
    simp only [List.zip_cons_cons, List.mem_cons] at hx
    rcases hx with rfl | hx
    · exact h
    · exact All2.forall_zip t x hx

theorem mem_zip_of_mem_left {α β} : ∀ {l : List α} {l' : List β} {a : α}, a ∈ l → l.length = l'.length →
    ∃ b, (a, b) ∈ l.zip l'
  | [], _, _, h, _ => by cases h
  | _ :: _, [], _, _, hl => by simp at hl
  | x :: l, y :: l', a, h, hl => by
    rcases List.mem_cons.mp h with rfl | h
    · exact ⟨y, by simp⟩
    · obtain ⟨b, hb⟩ := mem_zip_of_mem_left h (by simpa using hl)
      exact ⟨b, by simp [hb]⟩

theorem All2.partner_left {α β} {S : α → β → Prop} {l : List α} {l' : List β} (h : All2 S l l') (a : α) (ha : a ∈ l) :
    ∃ b, (a, b) ∈ l.zip l' ∧ S a b := by
  obtain ⟨b, hz⟩ := mem_zip_of_mem_left ha (All2.length_eq h)
  exact ⟨b, hz, All2.forall_zip h _ hz⟩

theorem All2.partner_right {α β} {S : α → β → Prop} : ∀ {l : List α} {l' : List β}, All2 S l l' →
    ∀ b ∈ l', ∃ a, (a, b) ∈ l.zip l' ∧ a ∈ l ∧ S a b
  | _, _, .nil, b, h => by cases h
  | _, _, .cons (a := x) (b := y) hab t, b, h => by
    rcases List.mem_cons.mp h with rfl | h
    · exact ⟨x, by simp, by simp, hab⟩
    · obtain ⟨a, h1, h2, h3⟩ := All2.partner_right t b h
      exact ⟨a, by simp [h1], by simp [h2], h3⟩

theorem All2.find_zip {α β} {S : α → β → Prop} {pa : α → Bool} {pb : β → Bool} : ∀ {l : List α} {l' : List β},
    All2 S l l' → (∀ a b, S a b → pa a = pb b) → ∀ {x : α}, l.find? pa = some x →
      ∃ y, l'.find? pb = some y ∧ (x, y) ∈ l.zip l'
  | _, _, .nil, _, _, h => by simp at h
  | _, _, .cons (a := a) (b := b) hab t, hp, x, h => by
    have hpq := hp a b hab
    simp only [List.find?_cons] at h ⊢
    cases hpa : pa a with
    | true =>
      rw [hpa] at h
      simp only [Option.some.injEq] at h
      subst h
      rw [← hpq, hpa]
      exact ⟨b, rfl, by simp⟩
    | false =>
      rw [hpa] at h
      rw [← hpq, hpa]
      obtain ⟨y, hy, hm⟩ := All2.find_zip t hp h
      exact ⟨y, hy, by simp [hm]⟩

theorem All2.find? {α β} {R : α → β → Prop} {p : α → Bool} {q : β → Bool} :
    ∀ {l l'}, All2 R l l' → (∀ a b, a ∈ l → R a b → p a = q b) →
      (l.find? p = none ∧ l'.find? q = none) ∨ ∃ a b, a ∈ l ∧ l.find? p = some a ∧ l'.find? q = some b ∧ R a b
  | _, _, .nil, _ => Or.inl ⟨rfl, rfl⟩
  | _, _, .cons (a := a) (b := b) (as := as) hab t, h => by
    have hpq := h a b (by simp) hab
    cases hp : p a
    · have hq : q b = false := by rw [← hpq, hp]
      simp only [List.find?_cons, hp, hq]
      rcases All2.find? t (fun x y hx hr => h x y (by simp [hx]) hr) with hn | ⟨x, y, hx, h1, h2, hr⟩
      · exact Or.inl hn
      · exact Or.inr ⟨x, y, by simp [hx], h1, h2, hr⟩
    · have hq : q b = true := by rw [← hpq, hp]
      exact Or.inr ⟨a, b, by simp, by simp [hp], by simp [hq], hab⟩

theorem All2.any_eq {α β} {R : α → β → Prop} {p : α → Bool} {q : β → Bool} :
    ∀ {l l'}, All2 R l l' → (∀ a b, R a b → p a = q b) → l.any p = l'.any q
  | _, _, .nil, _ => rfl
  | _, _, .cons hab t, h => by simp only [List.any_cons, h _ _ hab, All2.any_eq t h]

theorem All2.map_eq {α β γ} {R : α → β → Prop} {f : α → γ} {g : β → γ} :
    ∀ {l l'}, All2 R l l' → (∀ a b, R a b → f a = g b) → l.map f = l'.map g
  | _, _, .nil, _ => rfl
  | _, _, .cons hab t, h => by simp only [List.map_cons, h _ _ hab, All2.map_eq t h]

theorem All2.filter {α β} {R : α → β → Prop} {p : α → Bool} {q : β → Bool} :
    ∀ {l l'}, All2 R l l' → (∀ a b, R a b → p a = q b) → All2 R (l.filter p) (l'.filter q)
  | _, _, .nil, _ => .nil
  | _, _, .cons (a := a) (b := b) hab t, h => by
    have := h a b hab
    cases hp : p a
    · have hq : q b = false := by rw [← this, hp]
      simp only [List.filter_cons, hp, hq]
      exact All2.filter t h
    · have hq : q b = true := by rw [← this, hp]
      simp only [List.filter_cons, hp, hq]
      exact .cons hab (All2.filter t h)

theorem All2.mono {α β} {R S : α → β → Prop} (h : ∀ a b, R a b → S a b) : ∀ {l l'}, All2 R l l' → All2 S l l'
  | _, _, .nil => .nil
  | _, _, .cons hab t => .cons (h _ _ hab) (All2.mono h t)

/-! ## the value relation -/

mutual
  /-- values without any enum / variant inside: what `Option::None`, unit structs and the ID helpers produce -/
  def idVal : Val → Bool
    | .unit => true
    | .str _ => true
    | .some v => idVal v
    | .list vs => idVals vs
    | _ => false
  def idVals : List Val → Bool
    | [] => true
    | v :: vs => idVal v && idVals vs
end

/-- `v` (a value of `e`'s type `t`) and `v'` are the same value, up to the identifiers of string-enum variants,
    which correspond by their position in the tables of the two environments -/
inductive VRel (R : String → String → Prop) (e e' : Env) : RTy → Val → Val → Prop
  | plain {t v} : idVal v = true → VRel R e e' t v v
  | some {t v v'} : VRel R e e' t v v' → VRel R e e' (.opt t) (.some v) (.some v')
  | list {t vs vs'} : vs.length = vs'.length →
      (∀ (i : Nat) v v', vs[i]? = some v → vs'[i]? = some v' → VRel R e e' t v v') →
      VRel R e e' (.vec t) (.list vs) (.list vs')
  | box {t v v'} : VRel R e e' t v v' → VRel R e e' (.box t) v v'
  | leaf {p v j} : serPrim v = some j → VRel R e e' (.path p) v v
  | alias {p n pub t v v'} : e.find p = some (.alias n pub t) → VRel R e e' t v v' → VRel R e e' (.path p) v v'
  | extern {p k t v v'} : e.find p = none → e.externs.find? (·.1 == p) = some (k, t) → VRel R e e' t v v' →
      VRel R e e' (.path p) v v'
  | record {p n d s fields vals vals'} : e.find p = some (.struct n d s fields) →
      vals.map (·.1) = vals'.map (·.1) → (∀ kv ∈ vals, ∃ f ∈ fields, f.rust = kv.1) →
      (∀ (i : Nat) kv kv', vals[i]? = some kv → vals'[i]? = some kv' →
        ∀ f ∈ fields, f.rust = kv.1 → VRel R e e' f.ty kv.2 kv'.2) →
      VRel R e e' (.path p) (.record vals) (.record vals')
  | taggedUnit {p n d s tag vs name} : e.find p = some (.tagged n d s tag vs) →
      VRel R e e' (.path p) (.variant name none) (.variant name none)
  | tagged {p n d s tag vs name pv pv'} : e.find p = some (.tagged n d s tag vs) →
      (∃ var ∈ vs, var.name = name ∧ ∃ t, var.payload = some t) →
      (∀ var ∈ vs, var.name = name → ∀ t, var.payload = some t → VRel R e e' t pv pv') →
      VRel R e e' (.path p) (.variant name (some pv)) (.variant name (some pv'))
  | oneOf {p n d s vs name pv pv'} : e.find p = some (.oneOf n d s vs) →
      (∃ var ∈ vs, var.name = name ∧ ∃ t, var.payload = some t) →
      (∀ var ∈ vs, var.name = name → ∀ t, var.payload = some t → VRel R e e' t pv pv') →
      VRel R e e' (.path p) (.variant name (some pv)) (.variant name (some pv'))
  | enum {p p' n d sp ids ser de n' d' sp' ids' ser' de' v v'} : e.find p = some (.gqlEnum n d sp ids ser de) →
      R p p' → e'.find p' = some (.gqlEnum n' d' sp' ids' ser' de') → (v, v') ∈ identPairs de de' →
      VRel R e e' (.path p) (.variant v none) (.variant v' none)

theorem all2_of_getElem {α β} {S : α → β → Prop} : ∀ {l : List α} {l' : List β}, l.length = l'.length →
    (∀ (i : Nat) a b, l[i]? = some a → l'[i]? = some b → S a b) → All2 S l l'
  | [], [], _, _ => .nil
  | [], _ :: _, h, _ => by simp at h
  | _ :: _, [], h, _ => by simp at h
  | a :: l, b :: l', h, hs =>
    .cons (hs 0 a b (by simp) (by simp))
      (all2_of_getElem (by simpa using h) (fun i x y hx hy => hs (i + 1) x y (by simpa using hx) (by simpa using hy)))

theorem getElem_of_all2 {α β} {S : α → β → Prop} {l : List α} {l' : List β} (h : All2 S l l') :
    l.length = l'.length ∧ ∀ (i : Nat) a b, l[i]? = some a → l'[i]? = some b → S a b := by
  refine ⟨All2.length_eq h, fun i a b ha hb => ?_⟩
  rcases All2.getElem? h i with ⟨h1, _⟩ | ⟨x, y, h1, h2, hr⟩
  · rw [ha] at h1; cases h1
  · rw [ha] at h1; rw [hb] at h2; cases h1; cases h2; exact hr

/-- the record relation, as a pointwise relation of lists -/
abbrev PW (R : String → String → Prop) (e e' : Env) (fields : List RField) : List (String × Val) → List (String × Val) → Prop :=
  All2 (fun kv kv' => kv.1 = kv'.1 ∧ (∃ f ∈ fields, f.rust = kv.1) ∧
    ∀ f ∈ fields, f.rust = kv.1 → VRel R e e' f.ty kv.2 kv'.2)

theorem vrel_ofPW {R e e' p n d s fields vals vals'} (h : e.find p = some (.struct n d s fields))
    (hpw : PW R e e' fields vals vals') : VRel R e e' (.path p) (.record vals) (.record vals') :=
  .record h (All2.map_eq hpw (fun _ _ h => h.1))
    (fun kv hkv => by obtain ⟨_, _, hr⟩ := All2.mem_left hpw kv hkv; exact hr.2.1)
    (fun i kv kv' h1 h2 => ((getElem_of_all2 hpw).2 i kv kv' h1 h2).2.2)

theorem pw_ofRecord {R e e' fields vals vals'} (hk : vals.map (·.1) = vals'.map (·.1))
    (hex : ∀ kv ∈ vals, ∃ f ∈ fields, f.rust = kv.1)
    (hv : ∀ (i : Nat) (kv kv' : String × Val), vals[i]? = some kv → vals'[i]? = some kv' →
        ∀ f ∈ fields, f.rust = kv.1 → VRel R e e' f.ty kv.2 kv'.2) : PW R e e' fields vals vals' := by
  refine all2_of_getElem (by simpa using congrArg List.length hk) (fun i kv kv' h1 h2 =>
    ⟨?_, hex kv (List.mem_of_getElem? h1), hv i kv kv' h1 h2⟩)
  have := congrArg (fun l : List String => l[i]?) hk
  simpa [List.getElem?_map, h1, h2] using this

theorem vrel_ofList {R e e' t vs vs'} (h : All2 (VRel R e e' t) vs vs') : VRel R e e' (.vec t) (.list vs) (.list vs') :=
  .list (getElem_of_all2 h).1 (getElem_of_all2 h).2

/-! ## results of `Deserialize` / `Serialize` up to the text of `unmodelled` -/

/-- same error, except that an `unmodelled` error (which quotes type names) may carry another text -/
def ERel : DErr → DErr → Prop
  | .mismatch w, .mismatch w' => w = w'
  | .unmodelled _, .unmodelled _ => True
  | _, _ => False

def DRel {α β} (S : α → β → Prop) : D α → D β → Prop
  | .ok a, .ok b => S a b
  | .error x, .error y => ERel x y
  | _, _ => False

theorem ERel.refl (x : DErr) : ERel x x := by cases x <;> simp [ERel]

theorem DRel.pure {α β} {S : α → β → Prop} {a : α} {b : β} (h : S a b) :
    DRel S (Pure.pure a : D α) (Pure.pure b : D β) := h

theorem DRel.ofBad {α β} {S : α → β → Prop} (w : String) : DRel S (Serde.bad w : D α) (Serde.bad w : D β) := by
  simp [Serde.bad, DRel, ERel]

theorem DRel.ofUnmodelled {α β} {S : α → β → Prop} (w w' : String) :
    DRel S (Serde.unmodelled w : D α) (Serde.unmodelled w' : D β) := by
  simp [Serde.unmodelled, DRel, ERel]

theorem DRel.eq_ok_iff {α} {x y : D α} (h : DRel Eq x y) (out : α) : x = .ok out ↔ y = .ok out := by
  cases x <;> cases y <;> simp_all [DRel]

theorem DRel.bind {α β γ δ} {S : α → β → Prop} {T : γ → δ → Prop} {x : D α} {y : D β} {f : α → D γ} {g : β → D δ}
    (hxy : DRel S x y) (hfg : ∀ a b, S a b → DRel T (f a) (g b)) : DRel T (x >>= f) (y >>= g) := by
  cases x <;> cases y <;> simp only [DRel] at hxy
  · exact hxy
  · exact hfg _ _ hxy

theorem DRel.map {α β γ δ} {S : α → β → Prop} {T : γ → δ → Prop} {x : D α} {y : D β} {f : α → γ} {g : β → δ}
    (hxy : DRel S x y) (hfg : ∀ a b, S a b → T (f a) (g b)) : DRel T (f <$> x) (g <$> y) := by
  cases x <;> cases y <;> simp only [DRel] at hxy
  · exact hxy
  · exact hfg _ _ hxy

theorem DRel.mono {α β} {S T : α → β → Prop} (h : ∀ a b, S a b → T a b) {x : D α} {y : D β} (hxy : DRel S x y) :
    DRel T x y := by
  cases x <;> cases y <;> simp only [DRel] at hxy ⊢
  · exact hxy
  · exact h _ _ hxy

theorem DRel.refl {α} {S : α → α → Prop} (h : ∀ a, S a a) (x : D α) : DRel S x x := by
  cases x
  · exact ERel.refl _
  · exact h _

theorem DRel.mapM {α β γ δ} {S : α → β → Prop} {T : γ → δ → Prop} {f : α → D γ} {g : β → D δ} :
    ∀ {l : List α} {l' : List β}, All2 S l l' → (∀ a b, S a b → DRel T (f a) (g b)) →
      DRel (All2 T) (l.mapM f) (l'.mapM g)
  | _, _, .nil, _ => by simp only [List.mapM_nil]; exact DRel.pure .nil
  | _, _, .cons hab t, h => by
    simp only [List.mapM_cons]
    apply DRel.bind (h _ _ hab); intro c d hcd
    apply DRel.bind (DRel.mapM t h); intro cs ds hcds
    exact DRel.pure (.cons hcd hcds)

/-! ## lookups commute with the renaming -/

section lookups
variable {R : String → String → Prop} {e e' : Env}

theorem dePrim_ren (H : EnvRen R e e') {p p' : String} (h : R p p') (j : Json) : dePrim p' j = dePrim p j := by
  cases hp : isPrimName p
  · cases hp' : isPrimName p'
    · rw [dePrim_none_of_notPrim hp, dePrim_none_of_notPrim hp']
    · rw [H.prim p p' h (Or.inr hp')]
  · rw [H.prim p p' h (Or.inl hp)]

theorem dePrim_rel {p : String} {j : Json} {r : D Val} (h : dePrim p j = some r) :
    DRel (VRel R e e' (.path p)) r r := by
  unfold dePrim at h
  split at h
  · cases h; cases j <;> first | exact DRel.ofBad _ | exact DRel.pure (.leaf rfl)
  · split at h
    · cases h
      cases j <;> try exact DRel.ofBad _
      rename_i n
      by_cases hn : inI64 n = true <;> simp only [hn, ↓reduceIte]
      · exact DRel.pure (.leaf rfl)
      · exact DRel.ofBad _
    · split at h
      · cases h; cases j <;> first | exact DRel.ofBad _ | exact DRel.pure (.leaf rfl)
      · split at h
        · cases h; cases j <;> first | exact DRel.ofBad _ | exact DRel.pure (.leaf rfl)
        · cases h

theorem find_ren (H : EnvRen R e e') {p p' : String} (h : R p p') :
    (e.find p = none ∧ e'.find p' = none) ∨
    ∃ it it', it ∈ e.items ∧ e.find p = some it ∧ e'.find p' = some it' ∧ ItemRen R it it' := by
  unfold Env.find
  apply All2.find? H.items
  intro a b _ hab
  have := H.bij a.name b.name p p' hab.name h
  by_cases hq : a.name = p
  · rw [beq_iff_eq.mpr hq, beq_iff_eq.mpr (this.mp hq)]
  · have hq' : ¬ b.name = p' := fun hb => hq (this.mpr hb)
    rw [beq_eq_false_iff_ne.mpr hq, beq_eq_false_iff_ne.mpr hq']

theorem extern_ren (H : EnvRen R e e') {p p' : String} (h : R p p') :
    (e.externs.find? (·.1 == p) = none ∧ e'.externs.find? (·.1 == p') = none) ∨
    ∃ k t k' t', e.externs.find? (·.1 == p) = some (k, t) ∧ e'.externs.find? (·.1 == p') = some (k', t') ∧
      TyRen R t t' := by
  rcases All2.find? (p := fun x : String × RTy => x.1 == p) (q := fun x : String × RTy => x.1 == p') H.externs
      (by
        intro a b _ hab
        have := H.bij a.1 b.1 p p' hab.1 h
        by_cases hq : a.1 = p
        · rw [beq_iff_eq.mpr hq, beq_iff_eq.mpr (this.mp hq)]
        · have hq' : ¬ b.1 = p' := fun hb => hq (this.mpr hb)
          rw [beq_eq_false_iff_ne.mpr hq, beq_eq_false_iff_ne.mpr hq']) with hn | ⟨a, b, _, h1, h2, hr⟩
  · exact Or.inl hn
  · exact Or.inr ⟨a.1, a.2, b.1, b.2, h1, h2, hr.2⟩

end lookups

section shape
variable {R : String → String → Prop}

theorem tyRen_path {p : String} {t' : RTy} (h : TyRen R (.path p) t') : ∃ p', t' = .path p' ∧ R p p' := by
  cases t' <;> simp only [TyRen] at h
  exact ⟨_, rfl, h⟩

theorem tyRen_opt {t t' : RTy} (h : TyRen R (.opt t) t') : ∃ u, t' = .opt u ∧ TyRen R t u := by
  cases t' <;> simp only [TyRen] at h
  exact ⟨_, rfl, h⟩

theorem tyRen_vec {t t' : RTy} (h : TyRen R (.vec t) t') : ∃ u, t' = .vec u ∧ TyRen R t u := by
  cases t' <;> simp only [TyRen] at h
  exact ⟨_, rfl, h⟩

theorem tyRen_box {t t' : RTy} (h : TyRen R (.box t) t') : ∃ u, t' = .box u ∧ TyRen R t u := by
  cases t' <;> simp only [TyRen] at h
  exact ⟨_, rfl, h⟩

theorem optTyRen_cases {x y : Option RTy} (h : OptTyRen R x y) :
    (x = none ∧ y = none) ∨ ∃ t t', x = some t ∧ y = some t' ∧ TyRen R t t' := by
  cases x <;> cases y <;> simp only [OptTyRen] at h
  · exact .inl ⟨rfl, rfl⟩
  · exact .inr ⟨_, _, rfl, rfl, h⟩

theorem optTyRen_some {t : RTy} {y : Option RTy} (h : OptTyRen R (some t) y) : ∃ t', y = some t' ∧ TyRen R t t' := by
  rcases optTyRen_cases h with ⟨h0, _⟩ | ⟨_, t', h0, h1, ht⟩
  · cases h0
  · cases h0; exact ⟨t', h1, ht⟩

theorem isOption_ren : ∀ {t t' : RTy}, TyRen R t t' → isOption t' = isOption t := by
  intro t
  induction t with
  | path p => intro t' h; obtain ⟨_, rfl, _⟩ := tyRen_path h; rfl
  | opt t _ => intro t' h; obtain ⟨_, rfl, _⟩ := tyRen_opt h; rfl
  | vec t _ => intro t' h; obtain ⟨_, rfl, _⟩ := tyRen_vec h; rfl
  | box t ih => intro t' h; obtain ⟨u, rfl, hu⟩ := tyRen_box h; exact ih (t' := u) hu

theorem deNestedId_ren : ∀ {t t' : RTy}, TyRen R t t' → ∀ j, deNestedId t' j = deNestedId t j := by
  intro t
  induction t with
  | path p => intro t' h j; obtain ⟨_, rfl, _⟩ := tyRen_path h; rfl
  | opt t ih => intro t' h j; obtain ⟨u, rfl, hu⟩ := tyRen_opt h; simp only [deNestedId, ih hu]
  | vec t ih =>
    intro t' h j; obtain ⟨u, rfl, hu⟩ := tyRen_vec h
    have : deNestedId u = deNestedId t := funext (ih hu)
    simp only [deNestedId, this]
  | box t ih => intro t' h j; obtain ⟨u, rfl, hu⟩ := tyRen_box h; simp only [deNestedId, ih hu]

theorem deHelper_ren {t t' : RTy} (h : TyRen R t t') (hl : String) (j : Json) : deHelper hl t' j = deHelper hl t j := by
  unfold deHelper; rw [deNestedId_ren h]

theorem missingField_ren {f f' : RField} (h : FieldRen R f f') : missingField f' = missingField f := by
  unfold missingField RField.wire
  rw [h.default, h.deserWith, h.rename, h.rust, isOption_ren h.ty]

theorem wire_ren {f f' : RField} (h : FieldRen R f f') : f'.wire = f.wire := by
  unfold RField.wire; rw [h.rename, h.rust]

theorem vwire_ren {v v' : RVariant} (h : VariantRen R v v') : v'.wire = v.wire := by
  unfold RVariant.wire; rw [h.rename, h.name]

end shape

/-! ## the ID helpers produce plain values -/

theorem mapM_idVals {f : Json → D Val} (hf : ∀ j v, f j = .ok v → idVal v = true) :
    ∀ (xs : List Json) (vs : List Val), xs.mapM f = .ok vs → idVals vs = true
  | [], vs, h => by
    simp only [List.mapM_nil, pure, Except.pure, Except.ok.injEq] at h
    subst h; rfl
  | x :: xs, vs, h => by
    rw [List.mapM_cons] at h
    cases hx : f x with
    | error err => simp [hx, bind, Except.bind] at h
    | ok y =>
      cases hxs : xs.mapM f with
      | error err => simp [hx, hxs, bind, Except.bind] at h
      | ok ys =>
        simp only [hx, hxs, bind, Except.bind, pure, Except.pure, Except.ok.injEq] at h
        subst h
        simp only [idVals, hf x y hx, mapM_idVals hf xs ys hxs, Bool.and_self]

theorem deIntOrString_idVal (j : Json) (v : Val) (h : deIntOrString j = .ok v) : idVal v = true := by
  unfold deIntOrString at h
  split at h
  · split at h
    · cases h; rfl
    · cases h
  · cases h; rfl
  · cases h

theorem deNestedId_idVal : ∀ (t : RTy) (j : Json) (v : Val), deNestedId t j = .ok v → idVal v = true := by
  intro t
  induction t with
  | path p => intro j v h; exact deIntOrString_idVal j v h
  | opt t ih =>
    intro j v h
    simp only [deNestedId] at h
    split at h
    · cases h; rfl
    · cases hr : deNestedId t j with
      | error err => simp [hr, Functor.map, Except.map] at h
      | ok x =>
        simp only [hr, Functor.map, Except.map, Except.ok.injEq] at h
        subst h
        simp only [idVal]; exact ih j x hr
  | vec t ih =>
    intro j v h
    simp only [deNestedId] at h
    split at h
    · rename_i xs
      cases hr : xs.mapM (deNestedId t) with
      | error err => simp [hr, Functor.map, Except.map] at h
      | ok ys =>
        simp only [hr, Functor.map, Except.map, Except.ok.injEq] at h
        subst h
        simp only [idVal]; exact mapM_idVals ih xs ys hr
    · cases h
  | box t ih => intro j v h; exact ih j v h

theorem deHelper_idVal (hl : String) (t : RTy) (j : Json) (v : Val) (h : deHelper hl t j = .ok v) : idVal v = true := by
  unfold deHelper at h
  split at h
  · exact deIntOrString_idVal j v h
  · split at h
    · split at h
      · cases h; rfl
      · cases hr : deIntOrString j with
        | error err => simp [hr, Functor.map, Except.map] at h
        | ok x =>
          simp only [hr, Functor.map, Except.map, Except.ok.injEq] at h
          subst h
          simp only [idVal]; exact deIntOrString_idVal j x hr
    · split at h
      · exact deNestedId_idVal t j v h
      · cases h

theorem DRel.plainSelf {R e e'} (t : RTy) (r : D Val) (h : ∀ v, r = .ok v → idVal v = true) : DRel (VRel R e e' t) r r := by
  cases r with
  | error err => exact ERel.refl _
  | ok v => exact VRel.plain (h v rfl)

theorem missingField_rel {R e e'} (f : RField) (t : RTy) : DRel (VRel R e e' t) (missingField f) (missingField f) := by
  apply DRel.plainSelf
  intro v h
  unfold missingField at h
  split at h
  · cases h; rfl
  · split at h
    · cases h
    · split at h
      · cases h; rfl
      · cases h

/-! ## the building blocks of `Deserialize` -/

section deBlocks
variable {R : String → String → Prop} {e e' : Env}

/-- two "read a named type" functions that agree up to the renaming -/
abbrev PathRel (R : String → String → Prop) (e e' : Env) (path path' : String → Json → D Val) : Prop :=
  ∀ p p', R p p' → ∀ j, DRel (VRel R e e' (.path p)) (path p j) (path' p' j)

theorem deTyWith_rel {path path' : String → Json → D Val} (hp : PathRel R e e' path path') :
    ∀ {t t' : RTy}, TyRen R t t' → ∀ j, DRel (VRel R e e' t) (deTyWith path t j) (deTyWith path' t' j) := by
  intro t
  induction t with
  | path p => intro t' h j; obtain ⟨p', rfl, hr⟩ := tyRen_path h; exact hp p p' hr j
  | opt t ih =>
    intro t' h j; obtain ⟨u, rfl, hu⟩ := tyRen_opt h
    simp only [deTyWith]
    split
    · exact DRel.pure (.plain rfl)
    · exact DRel.map (ih hu j) (fun a b hab => .some hab)
  | vec t ih =>
    intro t' h j; obtain ⟨u, rfl, hu⟩ := tyRen_vec h
    simp only [deTyWith]
    cases j <;> try exact DRel.ofBad _
    rename_i xs
    refine DRel.map (DRel.mapM (All2.refl (fun _ => rfl) xs) (fun a b hab => ?_)) (fun a b hab => vrel_ofList hab)
    subst hab
    exact ih hu a
  | box t ih =>
    intro t' h j; obtain ⟨u, rfl, hu⟩ := tyRen_box h
    simp only [deTyWith]
    exact DRel.mono (fun a b hab => .box hab) (ih hu j)

end deBlocks

section deBlocks2
variable {R : String → String → Prop} {e e' : Env}

theorem deFieldWith_rel {path path' : String → Json → D Val} (hp : PathRel R e e' path path') {f f' : RField}
    (h : FieldRen R f f') (j : Json) : DRel (VRel R e e' f.ty) (deFieldWith path f j) (deFieldWith path' f' j) := by
  unfold deFieldWith
  rw [h.deserWith]
  cases f.deserWith with
  | none => exact deTyWith_rel hp h.ty j
  | some hl =>
    simp only [deHelper_ren h.ty]
    exact DRel.plainSelf _ _ (deHelper_idVal hl f.ty j)

/-- fields with the same Rust name have the same type -/
def SameTy (fields : List RField) : Prop := ∀ f ∈ fields, ∀ g ∈ fields, f.rust = g.rust → f.ty = g.ty

instance (fields : List RField) : Decidable (SameTy fields) := by unfold SameTy; infer_instance

theorem pw_entry {fields : List RField} (hwf : SameTy fields) {f f' : RField} (hf : f ∈ fields) (h : FieldRen R f f')
    {v v' : Val} (hv : VRel R e e' f.ty v v') :
    (f.rust, v).1 = (f'.rust, v').1 ∧ (∃ g ∈ fields, g.rust = (f.rust, v).1) ∧
      ∀ g ∈ fields, g.rust = (f.rust, v).1 → VRel R e e' g.ty (f.rust, v).2 (f'.rust, v').2 := by
  refine ⟨h.rust.symm, ⟨f, hf, rfl⟩, fun g hg hgr => ?_⟩
  rw [hwf g hg f hf hgr]; exact hv

theorem deOwnWith_rel {path path' : String → Json → D Val} (hp : PathRel R e e' path path') {fields : List RField}
    (hwf : SameTy fields) : ∀ {fs fs' : List RField}, All2 (FieldRen R) fs fs' → (∀ f ∈ fs, f ∈ fields) → ∀ kvs,
      DRel (PW R e e' fields) (deOwnWith path fs kvs) (deOwnWith path' fs' kvs)
  | _, _, .nil, _, kvs => by unfold deOwnWith; exact DRel.pure .nil
  | _, _, .cons (a := f) (b := f') (as := fs) (bs := fs') h t, hsub, kvs => by
    unfold deOwnWith
    apply DRel.bind (deOwnWith_rel hp hwf t (fun g hg => hsub g (by simp [hg])) kvs); intro rest rest' hrest
    rw [h.flatten, wire_ren h]
    split
    · exact DRel.pure hrest
    · split
      · exact DRel.ofBad _
      · split
        · apply DRel.bind (deFieldWith_rel hp h _); intro v v' hv
          exact DRel.pure (.cons (pw_entry hwf (hsub f (by simp)) h hv) hrest)
        · rw [missingField_ren h]
          apply DRel.bind (missingField_rel f f.ty); intro v v' hv
          exact DRel.pure (.cons (pw_entry hwf (hsub f (by simp)) h hv) hrest)

/-- two "read a flattened member" functions that agree up to the renaming -/
abbrev FlatRel (R : String → String → Prop) (e e' : Env) (flat flat' : RTy → Buf → D (Val × Buf)) : Prop :=
  ∀ t t', TyRen R t t' → ∀ buf, DRel (fun a b => VRel R e e' t a.1 b.1 ∧ a.2 = b.2) (flat t buf) (flat' t' buf)

theorem deFlatsWith_rel {flat flat' : RTy → Buf → D (Val × Buf)} (hf : FlatRel R e e' flat flat') {fields : List RField}
    (hwf : SameTy fields) : ∀ {fs fs' : List RField}, All2 (FieldRen R) fs fs' → (∀ f ∈ fs, f ∈ fields) → ∀ buf,
      DRel (PW R e e' fields) (deFlatsWith flat fs buf) (deFlatsWith flat' fs' buf)
  | _, _, .nil, _, buf => by unfold deFlatsWith; exact DRel.pure .nil
  | _, _, .cons (a := f) (b := f') (as := fs) (bs := fs') h t, hsub, buf => by
    unfold deFlatsWith
    rw [h.flatten]
    split
    · exact deFlatsWith_rel hf hwf t (fun g hg => hsub g (by simp [hg])) buf
    · apply DRel.bind (hf f.ty f'.ty h.ty buf); intro a b hab
      obtain ⟨v, buf1⟩ := a
      obtain ⟨v', buf2⟩ := b
      obtain ⟨hv, hb⟩ := hab
      simp only at hv hb
      subst hb
      apply DRel.bind (deFlatsWith_rel hf hwf t (fun g hg => hsub g (by simp [hg])) buf1); intro rest rest' hrest
      exact DRel.pure (.cons (pw_entry hwf (hsub f (by simp)) h hv) hrest)

theorem pw_find {fields : List RField} {l l' : List (String × Val)} (h : PW R e e' fields l l') (k : String) :
    (l.find? (·.1 == k) = none ∧ l'.find? (·.1 == k) = none) ∨
    ∃ kv kv', l.find? (·.1 == k) = some kv ∧ l'.find? (·.1 == k) = some kv' ∧
      (kv.1 = kv'.1 ∧ (∃ f ∈ fields, f.rust = kv.1) ∧ ∀ f ∈ fields, f.rust = kv.1 → VRel R e e' f.ty kv.2 kv'.2) := by
  rcases All2.find? (p := fun x : String × Val => x.1 == k) (q := fun x : String × Val => x.1 == k) h
      (fun a b _ hab => by simp only [hab.1]) with hn | ⟨a, b, _, h1, h2, hr⟩
  · exact Or.inl hn
  · exact Or.inr ⟨a, b, h1, h2, hr⟩

theorem pw_filterMap {fields : List RField} {l l' : List (String × Val)} (h : PW R e e' fields l l') :
    ∀ {fs fs' : List RField}, All2 (FieldRen R) fs fs' →
      PW R e e' fields (fs.filterMap fun f => l.find? (·.1 == f.rust)) (fs'.filterMap fun f => l'.find? (·.1 == f.rust))
  | _, _, .nil => .nil
  | _, _, .cons (a := f) (b := f') hf t => by
    simp only [List.filterMap_cons, hf.rust]
    rcases pw_find h f.rust with ⟨h1, h2⟩ | ⟨kv, kv', h1, h2, hr⟩
    · simp only [h1, h2]; exact pw_filterMap h t
    · simp only [h1, h2]; exact .cons hr (pw_filterMap h t)

/-- both are records with related entries -/
def RecRel (R : String → String → Prop) (e e' : Env) (fields : List RField) (v v' : Val) : Prop :=
  ∃ vals vals', v = .record vals ∧ v' = .record vals' ∧ PW R e e' fields vals vals'

theorem deStructMapWith_rel {path path' : String → Json → D Val} (hp : PathRel R e e' path path')
    {flat flat' : RTy → Buf → D (Val × Buf)} (hf : FlatRel R e e' flat flat') {fields fields' : List RField}
    (hwf : SameTy fields) (h : All2 (FieldRen R) fields fields') (kvs : List (String × Json)) :
    DRel (RecRel R e e' fields) (deStructMapWith path flat fields kvs) (deStructMapWith path' flat' fields' kvs) := by
  unfold deStructMapWith
  apply DRel.bind (deOwnWith_rel hp hwf h (fun _ hf => hf) kvs); intro own own' hown
  have hany : fields'.any (·.flatten) = fields.any (·.flatten) :=
    (All2.any_eq h (fun a b hab => hab.flatten.symm)).symm
  have hkeys : (fields'.filter (!·.flatten)).map (·.wire) = (fields.filter (!·.flatten)).map (·.wire) :=
    (All2.map_eq (All2.filter h (fun a b hab => by rw [hab.flatten])) (fun a b hab => (wire_ren hab).symm)).symm
  rw [hany]
  split
  · simp only [hkeys]
    apply DRel.bind (deFlatsWith_rel hf hwf h (fun _ hf => hf) _); intro fl fl' hfl
    exact DRel.pure ⟨_, _, rfl, rfl, pw_filterMap (All2.append hown hfl) h⟩
  · exact DRel.pure ⟨_, _, rfl, rfl, hown⟩

theorem All2.zip_right {α β γ} {S : α → β → Prop} : ∀ {l : List α} {l' : List β}, All2 S l l' → ∀ (xs : List γ),
    All2 (fun a b => S a.1 b.1 ∧ a.2 = b.2) (l.zip xs) (l'.zip xs)
  | _, _, .nil, _ => by simp only [List.zip_nil_left]; exact .nil
  | _, _, .cons _ _, [] => by simp only [List.zip_nil_right]; exact .nil
  | _, _, .cons hab t, x :: xs => by
    simp only [List.zip_cons_cons]
    exact .cons ⟨hab, rfl⟩ (All2.zip_right t xs)

theorem All2.attach_mem {α β} {S : α → β → Prop} : ∀ {l : List α} {l' : List β}, All2 S l l' →
    All2 (fun a b => a ∈ l ∧ S a b) l l'
  | _, _, .nil => .nil
  | _, _, .cons hab t =>
    .cons ⟨by simp, hab⟩ (All2.mono (fun a b h => ⟨by simp [h.1], h.2⟩) (All2.attach_mem t))

theorem deStructWith_rel {path path' : String → Json → D Val} (hp : PathRel R e e' path path')
    {flat flat' : RTy → Buf → D (Val × Buf)} (hf : FlatRel R e e' flat flat') {fields fields' : List RField}
    (hwf : SameTy fields) (h : All2 (FieldRen R) fields fields') (j : Json) :
    DRel (RecRel R e e' fields) (deStructWith path flat fields j) (deStructWith path' flat' fields' j) := by
  unfold deStructWith
  cases j <;> try exact DRel.ofBad _
  · rename_i xs
    have hany : fields'.any (·.flatten) = fields.any (·.flatten) :=
      (All2.any_eq h (fun a b hab => hab.flatten.symm)).symm
    simp only [hany, ← All2.length_eq h]
    split
    · exact DRel.ofBad _
    · split
      · exact DRel.ofBad _
      · refine DRel.map (T := RecRel R e e' fields)
          (DRel.mapM (T := fun kv kv' => kv.1 = kv'.1 ∧ (∃ f ∈ fields, f.rust = kv.1) ∧
              ∀ f ∈ fields, f.rust = kv.1 → VRel R e e' f.ty kv.2 kv'.2)
            (All2.zip_right (All2.attach_mem h) xs) ?_) (fun a b hab => ⟨_, _, rfl, rfl, hab⟩)
        intro a b hab
        obtain ⟨f, x⟩ := a
        obtain ⟨f', x'⟩ := b
        obtain ⟨⟨hmem, hff⟩, hx⟩ := hab
        simp only at hmem hff hx
        subst hx
        apply DRel.bind (deFieldWith_rel hp hff x); intro v v' hv
        exact DRel.pure (pw_entry hwf hmem hff hv)
  · exact deStructMapWith_rel hp hf hwf h _

end deBlocks2

section deBlocks3
variable {R : String → String → Prop} {e e' : Env}

/-- variants with the same name have the same payload type -/
def SamePayload (vs : List RVariant) : Prop := ∀ v ∈ vs, ∀ w ∈ vs, v.name = w.name → v.payload = w.payload

instance (vs : List RVariant) : Decidable (SamePayload vs) := by unfold SamePayload; infer_instance

/-- both are the same variant, with related payloads -/
def TagRel (R : String → String → Prop) (e e' : Env) (vs : List RVariant) (v v' : Val) : Prop :=
  (∃ name, v = .variant name none ∧ v' = .variant name none) ∨
  (∃ name pv pv', v = .variant name (some pv) ∧ v' = .variant name (some pv') ∧
    (∃ var ∈ vs, var.name = name ∧ ∃ t, var.payload = some t) ∧
    ∀ var ∈ vs, var.name = name → ∀ t, var.payload = some t → VRel R e e' t pv pv')

theorem pick_rel {pathB pathB' : String → Json → D Val} (hp : PathRel R e e' pathB pathB') {vs : List RVariant}
    (hwf : SamePayload vs) {v v' : RVariant} (hv : v ∈ vs) (h : VariantRen R v v') (rest : List (String × Json)) :
    DRel (TagRel R e e' vs)
      (if v.other then pure (.variant v.name none) else
        match v.payload with
        | none => pure (.variant v.name none)
        | some t => (fun x => Val.variant v.name (some x)) <$> deTyWith pathB t (.obj rest))
      (if v'.other then pure (.variant v'.name none) else
        match v'.payload with
        | none => pure (.variant v'.name none)
        | some t => (fun x => Val.variant v'.name (some x)) <$> deTyWith pathB' t (.obj rest)) := by
  rw [h.other, h.name]
  split
  · exact DRel.pure (Or.inl ⟨_, rfl, rfl⟩)
  · rcases optTyRen_cases h.payload with ⟨hp0, hp1⟩ | ⟨t, t', hp0, hp1, hpl⟩
    · simp only [hp0, hp1]; exact DRel.pure (Or.inl ⟨_, rfl, rfl⟩)
    · simp only [hp0, hp1]
      refine DRel.map (deTyWith_rel hp hpl _) (fun a b hab => Or.inr ⟨_, _, _, rfl, rfl, ⟨v, hv, rfl, t, hp0⟩, ?_⟩)
      intro var hvar hname t2 ht2
      have := hwf var hvar v hv hname
      rw [ht2, hp0] at this
      cases this
      exact hab

theorem deTaggedWith_rel {pathB pathB' : String → Json → D Val} (hp : PathRel R e e' pathB pathB') {vs vs' : List RVariant}
    (hwf : SamePayload vs) (h : All2 (VariantRen R) vs vs') (buffered : Bool) (tag : String) (kvs : List (String × Json)) :
    DRel (TagRel R e e' vs) (deTaggedWith pathB buffered tag vs kvs) (deTaggedWith pathB' buffered tag vs' kvs) := by
  unfold deTaggedWith
  have hother : (vs.find? (·.other) = none ∧ vs'.find? (·.other) = none) ∨
      ∃ o o', vs.find? (·.other) = some o ∧ vs'.find? (·.other) = some o' ∧ o'.name = o.name := by
    rcases All2.find? (p := fun v : RVariant => v.other) (q := fun v : RVariant => v.other) h
        (fun a b _ hab => hab.other.symm) with hn | ⟨a, b, _, h1, h2, hr⟩
    · exact Or.inl hn
    · exact Or.inr ⟨a, b, h1, h2, hr.name⟩
  split
  · exact DRel.ofBad _
  · simp only
    split
    · rename_i name _
      rcases All2.find? (p := fun v : RVariant => !v.other && v.wire == name)
          (q := fun v : RVariant => !v.other && v.wire == name) h
          (fun a b _ hab => by rw [hab.other, vwire_ren hab]) with ⟨h1, h2⟩ | ⟨a, b, ha, h1, h2, hr⟩
      · simp only [h1, h2]
        rcases hother with ⟨h3, h4⟩ | ⟨o, o', h3, h4, ho⟩
        · simp only [h3, h4]; exact DRel.ofBad _
        · simp only [h3, h4, ho]; exact DRel.pure (Or.inl ⟨_, rfl, rfl⟩)
      · simp only [h1, h2]
        exact pick_rel hp hwf ha hr _
    · rename_i n _
      split
      · exact DRel.ofBad _
      · split
        · exact DRel.ofBad _
        · rcases All2.getElem? (All2.attach_mem h) n.toNat with ⟨h1, h2⟩ | ⟨a, b, h1, h2, ha, hr⟩
          · simp only [h1, h2]
            rcases hother with ⟨h3, h4⟩ | ⟨o, o', h3, h4, ho⟩
            · simp only [h3, h4]; exact DRel.ofBad _
            · simp only [h3, h4, ho]; exact DRel.pure (Or.inl ⟨_, rfl, rfl⟩)
          · simp only [h1, h2]
            exact pick_rel hp hwf ha hr _
    · exact DRel.ofBad _
  · exact DRel.ofBad _

end deBlocks3

/-! ## `Deserialize` commutes with the renaming -/

/-- well-formedness of the field lists: fields of a struct with the same Rust name have the same type, variants
    of an enum with the same name have the same payload (true of every module that compiles) -/
def ItemWF : Item → Prop
  | .struct _ _ _ fs => SameTy fs
  | .tagged _ _ _ _ vs => SamePayload vs
  | .oneOf _ _ _ vs => SamePayload vs
  | _ => True

instance (it : Item) : Decidable (ItemWF it) := by cases it <;> (simp only [ItemWF]; infer_instance)

def FieldsWF (e : Env) : Prop := ∀ it ∈ e.items, ItemWF it

instance (e : Env) : Decidable (FieldsWF e) := by unfold FieldsWF; infer_instance

theorem enum_de_find : ∀ {de de' : List (String × String)}, de.map (·.1) = de'.map (·.1) → ∀ s : String,
    (de.find? (·.1 == s) = none ∧ de'.find? (·.1 == s) = none) ∨
    ∃ x x', de.find? (·.1 == s) = some x ∧ de'.find? (·.1 == s) = some x' ∧ (x.2, x'.2) ∈ identPairs de de'
  | [], [], _, _ => Or.inl ⟨rfl, rfl⟩
  | [], _ :: _, h, _ => by simp at h
  | _ :: _, [], h, _ => by simp at h
  | x :: de, x' :: de', h, s => by
    simp only [List.map_cons, List.cons.injEq] at h
    cases hs : x.1 == s
    · have hs' : (x'.1 == s) = false := by rw [← h.1, hs]
      simp only [List.find?_cons, hs, hs']
      rcases enum_de_find h.2 s with hn | ⟨y, y', h1, h2, hm⟩
      · exact Or.inl hn
      · exact Or.inr ⟨y, y', h1, h2, by simp only [identPairs, List.map_cons, List.zip_cons_cons]; exact List.mem_cons_of_mem _ hm⟩
    · have hs' : (x'.1 == s) = true := by rw [← h.1, hs]
      exact Or.inr ⟨x, x', by simp [hs], by simp [hs'], by simp [identPairs]⟩

theorem de_rename_fuel {R : String → String → Prop} {e e' : Env} (H : EnvRen R e e') (hwf : FieldsWF e) : ∀ fuel,
    (∀ b, PathRel R e e' (dePath e b fuel) (dePath e' b fuel)) ∧ FlatRel R e e' (deFlat e fuel) (deFlat e' fuel) := by
  intro fuel
  induction fuel with
  | zero =>
    constructor
    · intro b p p' _ j; unfold dePath; exact DRel.ofUnmodelled _ _
    · intro t t' _ buf; unfold deFlat; exact DRel.ofUnmodelled _ _
  | succ n ih =>
    obtain ⟨ihP, ihF⟩ := ih
    constructor
    · intro b p p' hr j
      unfold dePath
      rw [dePrim_ren H hr]
      cases hprim : dePrim p j with
      | some r => exact dePrim_rel hprim
      | none =>
        simp only
        rcases find_ren H hr with ⟨h1, h2⟩ | ⟨it, it', hmem, h1, h2, hit⟩
        · simp only [h1, h2]
          rcases extern_ren H hr with ⟨h3, h4⟩ | ⟨k, t, k', t', h3, h4, ht⟩
          · simp only [h3, h4]; exact DRel.ofUnmodelled _ _
          · simp only [h3, h4]
            exact DRel.mono (fun a b hab => .extern h1 h3 hab) (deTyWith_rel (ihP b) ht j)
        · simp only [h1, h2]
          have hitwf := hwf it hmem
          cases hit with
          | alias hn ht => exact DRel.mono (fun a b hab => .alias h1 hab) (deTyWith_rel (ihP b) ht j)
          | struct hn hfs =>
            exact DRel.mono (fun a b ⟨_, _, ha, hb, hpw⟩ => by subst ha; subst hb; exact vrel_ofPW h1 hpw)
              (deStructWith_rel (ihP b) ihF hitwf hfs j)
          | unitStruct hn =>
            simp only
            split
            · exact DRel.pure (.plain rfl)
            · exact DRel.ofBad _
          | tagged hn hvs =>
            simp only
            cases j with
            | obj kvs =>
              refine DRel.mono ?_ (deTaggedWith_rel (ihP true) hitwf hvs b _ kvs)
              rintro a b (⟨name, rfl, rfl⟩ | ⟨name, pv, pv', rfl, rfl, hex, hpv⟩)
              · exact .taggedUnit h1
              · exact .tagged h1 hex hpv
            | arr xs => exact DRel.ofUnmodelled _ _
            | _ => exact DRel.ofBad _
          | gqlEnum hn hen =>
            simp only
            cases j with
            | str s =>
              simp only
              rcases enum_de_find hen.keys s with ⟨h3, h4⟩ | ⟨x, x', h3, h4, hm⟩
              · simp only [h3, h4]; exact DRel.pure (.leaf rfl)
              · simp only [h3, h4]; exact DRel.pure (.enum h1 hr h2 hm)
            | _ => exact DRel.ofBad _
          | oneOf hn hvs =>
            simp only
            split
            · rename_i k v
              rcases All2.find? (p := fun v : RVariant => v.wire == k) (q := fun v : RVariant => v.wire == k)
                  (All2.attach_mem hvs) (fun a b _ hab => by rw [vwire_ren hab.2]) with ⟨h3, h4⟩ | ⟨va, vb, _, h3, h4, ha, hab⟩
              · simp only [h3, h4]; exact DRel.ofBad _
              · simp only [h3, h4]
                rcases optTyRen_cases hab.payload with ⟨hp0, hp1⟩ | ⟨t, t', hp0, hp1, hpl⟩
                · simp only [hp0, hp1]; exact DRel.ofUnmodelled _ _
                · simp only [hp0, hp1, hab.name]
                  refine DRel.map (deTyWith_rel (ihP b) hpl _) (fun x y hxy => .oneOf h1 ⟨va, ha, rfl, t, hp0⟩ ?_)
                  intro var hvar hname t2 ht2
                  have := hitwf var hvar va ha hname
                  rw [ht2, hp0] at this
                  cases this
                  exact hxy
            · exact DRel.ofBad _
          | defaults hn => exact DRel.ofUnmodelled _ _
    · intro t t' ht buf
      cases t with
      | opt t => obtain ⟨u, rfl, _⟩ := tyRen_opt ht; unfold deFlat; exact DRel.ofUnmodelled _ _
      | vec t => obtain ⟨u, rfl, _⟩ := tyRen_vec ht; unfold deFlat; exact DRel.ofUnmodelled _ _
      | box t =>
        obtain ⟨u, rfl, hu⟩ := tyRen_box ht
        unfold deFlat
        exact DRel.mono (fun a b hab => ⟨.box hab.1, hab.2⟩) (ihF t u hu buf)
      | path p =>
        obtain ⟨p', rfl, hr⟩ := tyRen_path ht
        unfold deFlat
        rcases find_ren H hr with ⟨h1, h2⟩ | ⟨it, it', hmem, h1, h2, hit⟩
        · simp only [h1, h2]; exact DRel.ofUnmodelled _ _
        · simp only [h1, h2]
          have hitwf := hwf it hmem
          cases hit with
          | alias hn ht => exact DRel.mono (fun a b hab => ⟨.alias h1 hab.1, hab.2⟩) (ihF _ _ ht buf)
          | struct hn hfs =>
            simp only
            have hany := (All2.any_eq hfs (fun a b hab => hab.flatten.symm) : List.any _ (·.flatten) = List.any _ (·.flatten))
            rw [← hany]
            split
            · apply DRel.bind (deStructMapWith_rel (ihP true) ihF hitwf hfs (present buf))
              rintro a b ⟨_, _, rfl, rfl, hpw⟩
              exact DRel.pure ⟨vrel_ofPW h1 hpw, rfl⟩
            · have hw := All2.map_eq hfs (fun a b hab => (wire_ren hab).symm)
              rw [← hw]
              apply DRel.bind (deOwnWith_rel (ihP true) hitwf hfs (fun _ h => h) _)
              intro own own' hown
              exact DRel.pure ⟨vrel_ofPW h1 hown, rfl⟩
          | tagged hn hvs =>
            simp only
            apply DRel.bind (deTaggedWith_rel (ihP true) hitwf hvs true _ (present buf))
            rintro a b (⟨name, rfl, rfl⟩ | ⟨name, pv, pv', rfl, rfl, hex, hpv⟩)
            · exact DRel.pure ⟨.taggedUnit h1, rfl⟩
            · exact DRel.pure ⟨.tagged h1 hex hpv, rfl⟩
          | unitStruct hn => exact DRel.ofUnmodelled _ _
          | gqlEnum hn hen => exact DRel.ofUnmodelled _ _
          | oneOf hn hvs => exact DRel.ofUnmodelled _ _
          | defaults hn => exact DRel.ofUnmodelled _ _

/-! ## `Serialize` commutes with the renaming -/

section serBlocks
variable {R : String → String → Prop} {e e' : Env}

/-- related values agree on what `Serialize` looks at before it descends: the spelling of a leaf, and being `None` -/
theorem vrel_head {t : RTy} {v v' : Val} (h : VRel R e e' t v v') : serPrim v' = serPrim v ∧ v'.isUnit = v.isUnit := by
  induction h with
  | plain _ => exact ⟨rfl, rfl⟩
  | some _ _ => exact ⟨rfl, rfl⟩
  | list _ _ _ => exact ⟨rfl, rfl⟩
  | box _ ih => exact ih
  | leaf _ => exact ⟨rfl, rfl⟩
  | alias _ _ ih => exact ih
  | extern _ _ _ ih => exact ih
  | record _ _ _ _ _ => exact ⟨rfl, rfl⟩
  | taggedUnit _ => exact ⟨rfl, rfl⟩
  | tagged _ _ _ _ => exact ⟨rfl, rfl⟩
  | oneOf _ _ _ _ => exact ⟨rfl, rfl⟩
  | enum _ _ _ _ => exact ⟨rfl, rfl⟩

theorem idVals_mem : ∀ {vs : List Val}, idVals vs = true → ∀ v ∈ vs, idVal v = true
  | [], _, v, h => by cases h
  | x :: xs, h, v, hv => by
    simp only [idVals, Bool.and_eq_true] at h
    rcases List.mem_cons.mp hv with rfl | hv
    · exact h.1
    · exact idVals_mem h.2 v hv

/-- two "write a named type" functions that agree up to the renaming -/
abbrev SPathRel (R : String → String → Prop) (e e' : Env) (path path' : String → Val → D Json) : Prop :=
  ∀ p p', R p p' → ∀ v v', VRel R e e' (.path p) v v' → DRel Eq (path p v) (path' p' v')

theorem all2_eq {α} : ∀ {a b : List α}, All2 Eq a b → a = b
  | _, _, .nil => rfl
  | _, _, .cons h t => by rw [h, all2_eq t]

theorem all2_plain {t : RTy} : ∀ {vs : List Val}, idVals vs = true → All2 (VRel R e e' t) vs vs
  | [], _ => .nil
  | x :: xs, h => by
    simp only [idVals, Bool.and_eq_true] at h
    exact .cons (.plain h.1) (all2_plain h.2)

theorem serTyWith_rel {path path' : String → Val → D Json} (hp : SPathRel R e e' path path') :
    ∀ {t t' : RTy}, TyRen R t t' → ∀ {v v'}, VRel R e e' t v v' → DRel Eq (serTyWith path t v) (serTyWith path' t' v') := by
  intro t
  induction t with
  | path p => intro t' h v v' hv; obtain ⟨p', rfl, hr⟩ := tyRen_path h; exact hp p p' hr v v' hv
  | opt t ih =>
    intro t' h v v' hv; obtain ⟨u, rfl, hu⟩ := tyRen_opt h
    cases hv with
    | plain hid =>
      cases v <;> simp only [serTyWith] <;> try exact DRel.ofUnmodelled _ _
      · exact DRel.pure rfl
      · exact ih hu (.plain (by simpa [idVal] using hid))
    | some hx => simp only [serTyWith]; exact ih hu hx
  | vec t ih =>
    intro t' h v v' hv; obtain ⟨u, rfl, hu⟩ := tyRen_vec h
    cases hv with
    | plain hid =>
      cases v <;> simp only [serTyWith] <;> try exact DRel.ofUnmodelled _ _
      rename_i vs
      exact DRel.map (DRel.mapM (all2_plain (by simpa [idVal] using hid)) (fun a b hab => ih hu hab)) (fun a b hab => by rw [all2_eq hab])
    | list hl hx =>
      simp only [serTyWith]
      exact DRel.map (DRel.mapM (all2_of_getElem hl hx) (fun a b hab => ih hu hab)) (fun a b hab => by rw [all2_eq hab])
  | box t ih =>
    intro t' h v v' hv; obtain ⟨u, rfl, hu⟩ := tyRen_box h
    simp only [serTyWith]
    cases hv with
    | plain hid => exact ih hu (.plain hid)
    | box hx => exact ih hu hx

theorem serFieldsWith_rel {path path' : String → Val → D Json} (hp : SPathRel R e e' path path') {fields : List RField}
    {vals vals' : List (String × Val)} (hpw : PW R e e' fields vals vals') :
    ∀ {fs fs' : List RField}, All2 (FieldRen R) fs fs' → (∀ f ∈ fs, f ∈ fields) →
      DRel Eq (serFieldsWith path fs vals) (serFieldsWith path' fs' vals')
  | _, _, .nil, _ => by unfold serFieldsWith; exact DRel.pure rfl
  | _, _, .cons (a := f) (b := f') (as := fs) (bs := fs') h t, hsub => by
    unfold serFieldsWith
    apply DRel.bind (serFieldsWith_rel hp hpw t (fun g hg => hsub g (by simp [hg]))); intro rest rest' hrest
    subst hrest
    rw [h.rust]
    rcases pw_find hpw f.rust with ⟨h1, h2⟩ | ⟨kv, kv', h1, h2, hk, _, hv⟩
    · simp only [h1, h2]; exact DRel.ofUnmodelled _ _
    · simp only [h1, h2]
      have hkey : f.rust = kv.1 := by
        have := List.find?_some h1
        simpa using (beq_iff_eq.mp this).symm
      have hvv := hv f (hsub f (by simp)) hkey
      rw [h.flatten, h.skipNone, (vrel_head hvv).2, wire_ren h]
      split
      · apply DRel.bind (serTyWith_rel hp h.ty hvv); intro a b hab
        subst hab
        exact DRel.refl (fun _ => rfl) _
      · split
        · exact DRel.pure rfl
        · apply DRel.bind (serTyWith_rel hp h.ty hvv); intro a b hab
          subst hab
          exact DRel.pure rfl

end serBlocks

section serMain
variable {R : String → String → Prop} {e e' : Env}

/-! ### inversion of `VRel` at a named type, by the kind of item the name resolves to -/

/-- what `VRel` at the name `p` says about two values that are not plain, by what `p` resolves to in `e`
(`none`: an extern) -/
def PathCase (R : String → String → Prop) (e e' : Env) (p : String) (v v' : Val) : Option Item → Prop
  | some (.alias _ _ t) => VRel R e e' t v v'
  | some (.struct _ _ _ fields) => ∃ vals vals', v = .record vals ∧ v' = .record vals' ∧ PW R e e' fields vals vals'
  | some (.tagged _ _ _ _ vs) => TagRel R e e' vs v v'
  | some (.oneOf _ _ _ vs) => ∃ name pv pv', v = .variant name (some pv) ∧ v' = .variant name (some pv') ∧
      (∃ var ∈ vs, var.name = name ∧ ∃ t, var.payload = some t) ∧
      ∀ var ∈ vs, var.name = name → ∀ t, var.payload = some t → VRel R e e' t pv pv'
  | some (.gqlEnum _ _ _ _ _ de) => ∃ p' n' d' sp' ids' ser' de' a a', R p p' ∧
      e'.find p' = some (.gqlEnum n' d' sp' ids' ser' de') ∧ v = .variant a none ∧ v' = .variant a' none ∧
      (a, a') ∈ identPairs de de'
  | none => ∃ k t, e.externs.find? (·.1 == p) = some (k, t) ∧ VRel R e e' t v v'
  | _ => False

theorem vrel_inv_path {p v v'} (hs : serPrim v = none) (h : VRel R e e' (.path p) v v') :
    (v' = v ∧ idVal v = true) ∨ PathCase R e e' p v v' (e.find p) := by
  cases h with
  | plain hid => exact .inl ⟨rfl, hid⟩
  | leaf hj => rw [hs] at hj; cases hj
  | alias h1 hv => rw [h1]; exact .inr hv
  | extern h1 h2 hv => rw [h1]; exact .inr ⟨_, _, h2, hv⟩
  | record h1 hk hex hv => rw [h1]; exact .inr ⟨_, _, rfl, rfl, pw_ofRecord hk hex hv⟩
  | taggedUnit h1 => rw [h1]; exact .inr (.inl ⟨_, rfl, rfl⟩)
  | tagged h1 hex hv => rw [h1]; exact .inr (.inr ⟨_, _, _, rfl, rfl, hex, hv⟩)
  | oneOf h1 hex hv => rw [h1]; exact .inr ⟨_, _, _, rfl, rfl, hex, hv⟩
  | enum h1 hr h2 hm => rw [h1]; exact .inr ⟨_, _, _, _, _, _, _, _, _, hr, h2, rfl, rfl, hm⟩

theorem vrel_inv_alias {p n pub t v v'} (hf : e.find p = some (.alias n pub t)) (hs : serPrim v = none)
    (h : VRel R e e' (.path p) v v') : VRel R e e' t v v' := by
  rcases vrel_inv_path hs h with ⟨rfl, hid⟩ | hc
  · exact .plain hid
  · rw [hf] at hc; exact hc

theorem vrel_inv_extern {p k t v v'} (hf : e.find p = none) (hx : e.externs.find? (·.1 == p) = some (k, t))
    (hs : serPrim v = none) (h : VRel R e e' (.path p) v v') : VRel R e e' t v v' := by
  rcases vrel_inv_path hs h with ⟨rfl, hid⟩ | hc
  · exact .plain hid
  · rw [hf] at hc
    obtain ⟨_, _, hx', hv⟩ := hc
    rw [hx] at hx'; cases hx'; exact hv

theorem vrel_inv_struct {p n d s fields v v'} (hf : e.find p = some (.struct n d s fields)) (hs : serPrim v = none)
    (h : VRel R e e' (.path p) v v') :
    (v' = v ∧ idVal v = true) ∨ ∃ vals vals', v = .record vals ∧ v' = .record vals' ∧ PW R e e' fields vals vals' :=
  (vrel_inv_path hs h).imp_right fun hc => by rw [hf] at hc; exact hc

theorem vrel_inv_tagged {p n d s tag vs v v'} (hf : e.find p = some (.tagged n d s tag vs)) (hs : serPrim v = none)
    (h : VRel R e e' (.path p) v v') : (v' = v ∧ idVal v = true) ∨ TagRel R e e' vs v v' :=
  (vrel_inv_path hs h).imp_right fun hc => by rw [hf] at hc; exact hc

theorem vrel_inv_oneOf {p n d s vs v v'} (hf : e.find p = some (.oneOf n d s vs)) (hs : serPrim v = none)
    (h : VRel R e e' (.path p) v v') :
    (v' = v ∧ idVal v = true) ∨ ∃ name pv pv', v = .variant name (some pv) ∧ v' = .variant name (some pv') ∧
      (∃ var ∈ vs, var.name = name ∧ ∃ t, var.payload = some t) ∧ ∀ var ∈ vs, var.name = name → ∀ t, var.payload = some t → VRel R e e' t pv pv' :=
  (vrel_inv_path hs h).imp_right fun hc => by rw [hf] at hc; exact hc

theorem vrel_inv_enum (hb : Bij R) {p p' n d sp ids ser de n' d' sp' ids' ser' de' v v'}
    (hf : e.find p = some (.gqlEnum n d sp ids ser de)) (hr : R p p')
    (hf' : e'.find p' = some (.gqlEnum n' d' sp' ids' ser' de')) (hs : serPrim v = none)
    (h : VRel R e e' (.path p) v v') :
    (v' = v ∧ idVal v = true) ∨ ∃ a a', v = .variant a none ∧ v' = .variant a' none ∧ (a, a') ∈ identPairs de de' :=
  (vrel_inv_path hs h).imp_right fun hc => by
    rw [hf] at hc
    obtain ⟨_, _, _, _, _, _, _, _, _, hr2, h2, rfl, rfl, hm⟩ := hc
    have := (hb _ _ _ _ hr hr2).mp rfl
    subst this
    rw [hf'] at h2; cases h2
    exact ⟨_, _, rfl, rfl, hm⟩

theorem kernelEq_tail {x : String × String} {l : List (String × String)} (h : KernelEq (x :: l)) : KernelEq l :=
  fun a ha b hb => h a (by simp [ha]) b (by simp [hb])

/-- related identifiers are written as the same string -/
theorem enum_ser_find : ∀ {de de' : List (String × String)}, de.map (·.1) = de'.map (·.1) → KernelEq (identPairs de de') →
    ∀ {a a' : String}, (a, a') ∈ identPairs de de' →
    ∃ x x', (de.map Prod.swap).find? (·.1 == a) = some x ∧ (de'.map Prod.swap).find? (·.1 == a') = some x' ∧ x.2 = x'.2
  | [], _, _, _, _, _, hm => by simp [identPairs] at hm
  | _ :: _, [], _, _, _, _, hm => by simp [identPairs] at hm
  | x :: de, x' :: de', h, hk, a, a', hm => by
    simp only [List.map_cons, List.cons.injEq] at h
    have hk' : KernelEq ((x.2, x'.2) :: identPairs de de') := by simpa [identPairs] using hk
    have hm' : (a, a') ∈ (x.2, x'.2) :: identPairs de de' := by simpa [identPairs] using hm
    have hiff : x.2 = a ↔ x'.2 = a' := hk' (x.2, x'.2) (by simp) (a, a') hm'
    by_cases hxa : x.2 = a
    · have hxa' := hiff.mp hxa
      exact ⟨x.swap, x'.swap, by simp [hxa], by simp [hxa'], h.1⟩
    · have hxa' : ¬ x'.2 = a' := fun hc => hxa (hiff.mpr hc)
      have hmt : (a, a') ∈ identPairs de de' := by
        rcases List.mem_cons.mp hm' with heq | hmt
        · cases heq; exact absurd rfl hxa
        · exact hmt
      obtain ⟨y, y', h1, h2, h3⟩ := enum_ser_find h.2 (kernelEq_tail hk') hmt
      refine ⟨y, y', ?_, ?_, h3⟩
      · simp only [List.map_cons, List.find?_cons, Prod.fst_swap, beq_eq_false_iff_ne.mpr hxa]; exact h1
      · simp only [List.map_cons, List.find?_cons, Prod.fst_swap, beq_eq_false_iff_ne.mpr hxa']; exact h2

end serMain

section serMain2
variable {R : String → String → Prop} {e e' : Env}

theorem idVal_not_record {v : Val} (h : idVal v = true) : (∀ vals, v ≠ .record vals) ∧ (∀ n pl, v ≠ .variant n pl) := by
  cases v <;> simp [idVal] at h <;> exact ⟨fun _ => by simp, fun _ _ => by simp⟩

theorem ser_rename_fuel (H : EnvRen R e e') : ∀ fuel, SPathRel R e e' (serPath e fuel) (serPath e' fuel) := by
  intro fuel
  induction fuel with
  | zero => intro p p' _ v v' _; unfold serPath; exact DRel.ofUnmodelled _ _
  | succ n ih =>
    intro p p' hr v v' hv
    unfold serPath
    rw [(vrel_head hv).1]
    cases hs : serPrim v with
    | some j => exact DRel.pure rfl
    | none =>
      simp only
      rcases find_ren H hr with ⟨h1, h2⟩ | ⟨it, it', hmem, h1, h2, hit⟩
      · simp only [h1, h2]
        rcases extern_ren H hr with ⟨h3, h4⟩ | ⟨k, t, k', t', h3, h4, ht⟩
        · simp only [h3, h4]; exact DRel.ofUnmodelled _ _
        · simp only [h3, h4]
          exact serTyWith_rel ih ht (vrel_inv_extern h1 h3 hs hv)
      · simp only [h1, h2]
        cases hit with
        | alias hn ht => exact serTyWith_rel ih ht (vrel_inv_alias h1 hs hv)
        | struct hn hfs =>
          simp only
          rcases vrel_inv_struct h1 hs hv with ⟨rfl, hid⟩ | ⟨vals, vals', rfl, rfl, hpw⟩
          · have := (idVal_not_record hid).1
            cases v' <;> first | exact DRel.ofUnmodelled _ _ | exact absurd rfl (this _)
          · simp only
            exact DRel.map (serFieldsWith_rel ih hpw hfs (fun _ h => h)) (fun a b hab => by rw [hab])
        | unitStruct hn => exact DRel.pure rfl
        | tagged hn hvs =>
          simp only
          rcases vrel_inv_tagged h1 hs hv with ⟨rfl, hid⟩ | ⟨name, rfl, rfl⟩ | ⟨name, pv, pv', rfl, rfl, _, hpv⟩
          · have := (idVal_not_record hid).2
            cases v' <;> first | exact DRel.ofUnmodelled _ _ | exact absurd rfl (this _ _)
          · simp only
            rcases All2.find? (p := fun v : RVariant => v.name == name) (q := fun v : RVariant => v.name == name) hvs
                (fun a b _ hab => by rw [hab.name]) with ⟨h3, h4⟩ | ⟨a, b, _, h3, h4, hab⟩
            · simp only [h3, h4]; exact DRel.ofUnmodelled _ _
            · simp only [h3, h4, vwire_ren hab]; exact DRel.pure rfl
          · simp only
            rcases All2.find? (p := fun v : RVariant => v.name == name) (q := fun v : RVariant => v.name == name) hvs
                (fun a b _ hab => by rw [hab.name]) with ⟨h3, h4⟩ | ⟨a, b, ha, h3, h4, hab⟩
            · simp only [h3, h4]; exact DRel.ofUnmodelled _ _
            · simp only [h3, h4, vwire_ren hab]
              have hname : a.name = name := by simpa using List.find?_some h3
              rcases optTyRen_cases hab.payload with ⟨hp0, hp1⟩ | ⟨t, t', hp0, hp1, hpl⟩
              · simp only [hp0, hp1]; exact DRel.ofUnmodelled _ _
              · simp only [hp0, hp1]
                apply DRel.bind (serTyWith_rel ih hpl (hpv a ha hname t hp0)); intro x y hxy
                subst hxy
                exact DRel.refl (fun _ => rfl) _
        | gqlEnum hn hen =>
          simp only
          rcases vrel_inv_enum H.bij h1 hr h2 hs hv with ⟨rfl, hid⟩ | ⟨a, a', rfl, rfl, hm⟩
          · have := (idVal_not_record hid).2
            cases v' <;> first | exact DRel.ofUnmodelled _ _ | exact absurd rfl (this _ _)
          · simp only
            obtain ⟨x, x', h3, h4, hx⟩ := enum_ser_find hen.keys hen.kernel hm
            rw [hen.ser, hen.ser', h3, h4]
            simp only [hx]
            exact DRel.pure rfl
        | oneOf hn hvs =>
          simp only
          rcases vrel_inv_oneOf h1 hs hv with ⟨rfl, hid⟩ | ⟨name, pv, pv', rfl, rfl, _, hpv⟩
          · have := (idVal_not_record hid).2
            cases v' <;> first | exact DRel.ofUnmodelled _ _ | exact absurd rfl (this _ _)
          · simp only
            rcases All2.find? (p := fun v : RVariant => v.name == name) (q := fun v : RVariant => v.name == name) hvs
                (fun a b _ hab => by rw [hab.name]) with ⟨h3, h4⟩ | ⟨a, b, ha, h3, h4, hab⟩
            · simp only [h3, h4]; exact DRel.ofUnmodelled _ _
            · simp only [h3, h4, vwire_ren hab]
              have hname : a.name = name := by simpa using List.find?_some h3
              rcases optTyRen_cases hab.payload with ⟨hp0, hp1⟩ | ⟨t, t', hp0, hp1, hpl⟩
              · simp only [hp0, hp1]; exact DRel.ofUnmodelled _ _
              · simp only [hp0, hp1]
                apply DRel.bind (serTyWith_rel ih hpl (hpv a ha hname t hp0)); intro x y hxy
                subst hxy
                exact DRel.pure rfl
        | defaults hn => exact DRel.ofUnmodelled _ _

end serMain2

/-! ## top level: `Serde.de`, `Serde.ser`, `Serde.roundtrip` -/

section top
variable {R : String → String → Prop} {e e' : Env}

theorem valsSize_all2 : ∀ {vs vs' : List Val}, All2 (fun a b => valSize b = valSize a) vs vs' → valsSize vs' = valsSize vs
  | _, _, .nil => rfl
  | _, _, .cons h t => by simp only [valsSize, h, valsSize_all2 t]

theorem fieldsSize_all2 : ∀ {fs fs' : List (String × Val)}, All2 (fun a b => valSize b.2 = valSize a.2) fs fs' →
    fieldsSize fs' = fieldsSize fs
  | _, _, .nil => rfl
  | _, _, .cons (a := a) (b := b) h t => by
    obtain ⟨k, v⟩ := a
    obtain ⟨k', v'⟩ := b
    simp only at h
    simp only [fieldsSize, h, fieldsSize_all2 t]

/-- related values have the same size (hence get the same fuel) -/
theorem vrel_valSize {t : RTy} {v v' : Val} (h : VRel R e e' t v v') : valSize v' = valSize v := by
  induction h with
  | plain _ => rfl
  | some _ ih => simp only [valSize, ih]
  | list hl _ ih => simp only [valSize, valsSize_all2 (all2_of_getElem hl ih)]
  | box _ ih => exact ih
  | leaf _ => rfl
  | alias _ _ ih => exact ih
  | extern _ _ _ ih => exact ih
  | record _ hk hex _ ih =>
    simp only [valSize]
    rw [fieldsSize_all2 (all2_of_getElem (by simpa using congrArg List.length hk) (fun i kv kv' h1 h2 => ?_))]
    obtain ⟨f, hf, hfr⟩ := hex kv (List.mem_of_getElem? h1)
    exact ih i kv kv' h1 h2 f hf hfr
  | taggedUnit _ => rfl
  | tagged _ hex _ ih =>
    obtain ⟨var, hvar, hn, t, ht⟩ := hex
    simp only [valSize, ih var hvar hn t ht]
  | oneOf _ hex _ ih =>
    obtain ⟨var, hvar, hn, t, ht⟩ := hex
    simp only [valSize, ih var hvar hn t ht]
  | enum _ _ _ _ => rfl

theorem EnvRen.length_eq (H : EnvRen R e e') :
    e'.items.length + e'.externs.length = e.items.length + e.externs.length := by
  rw [All2.length_eq H.items, All2.length_eq H.externs]

/-- **`de_rename`**: reading at corresponding types of two renamed environments: same acceptance, same error
    (up to the text of `unmodelled`), `VRel`-related results; for every fuel and both content modes … -/
theorem deTy_rename (H : EnvRen R e e') (hwf : FieldsWF e) (b : Bool) (fuel : Nat) {t t' : RTy} (ht : TyRen R t t')
    (j : Json) : DRel (VRel R e e' t) (deTy e b fuel t j) (deTy e' b fuel t' j) :=
  deTyWith_rel ((de_rename_fuel H hwf fuel).1 b) ht j

theorem dePath_rename (H : EnvRen R e e') (hwf : FieldsWF e) (b : Bool) (fuel : Nat) {p p' : String} (hr : R p p')
    (j : Json) : DRel (VRel R e e' (.path p)) (dePath e b fuel p j) (dePath e' b fuel p' j) :=
  (de_rename_fuel H hwf fuel).1 b p p' hr j

theorem deFlat_rename (H : EnvRen R e e') (hwf : FieldsWF e) (fuel : Nat) {t t' : RTy} (ht : TyRen R t t')
    (buf : Buf) : DRel (fun a b => VRel R e e' t a.1 b.1 ∧ a.2 = b.2) (deFlat e fuel t buf) (deFlat e' fuel t' buf) :=
  (de_rename_fuel H hwf fuel).2 t t' ht buf

/-- … and at the top level -/
theorem de_rename (H : EnvRen R e e') (hwf : FieldsWF e) {t t' : RTy} (ht : TyRen R t t') (j : Json) :
    DRel (VRel R e e' t) (Serde.de e t j) (Serde.de e' t' j) := by
  unfold Serde.de deFuel
  rw [H.length_eq]
  exact deTy_rename H hwf false _ ht j

/-- **`ser_rename`**: related values are written to the same JSON (same error up to the text of `unmodelled`) -/
theorem serPath_rename (H : EnvRen R e e') (fuel : Nat) {p p' : String} (hr : R p p') {v v' : Val}
    (hv : VRel R e e' (.path p) v v') : DRel Eq (serPath e fuel p v) (serPath e' fuel p' v') :=
  ser_rename_fuel H fuel p p' hr v v' hv

theorem serTy_rename (H : EnvRen R e e') (fuel : Nat) {t t' : RTy} (ht : TyRen R t t') {v v' : Val}
    (hv : VRel R e e' t v v') : DRel Eq (serTy e fuel t v) (serTy e' fuel t' v') :=
  serTyWith_rel (ser_rename_fuel H fuel) ht hv

theorem ser_rename (H : EnvRen R e e') {t t' : RTy} (ht : TyRen R t t') {v v' : Val} (hv : VRel R e e' t v v') :
    DRel Eq (Serde.ser e t v) (Serde.ser e' t' v') := by
  unfold Serde.ser
  rw [H.length_eq, vrel_valSize hv]
  exact DRel.map (serTy_rename H _ ht hv) (fun a b hab => by rw [hab])

/-- **`roundtrip_rename`**: `to_value(from_value(j))` is the same in both environments -/
theorem roundtrip_rename (H : EnvRen R e e') (hwf : FieldsWF e) {t t' : RTy} (ht : TyRen R t t') (j : Json) :
    DRel Eq (Serde.roundtrip e t j) (Serde.roundtrip e' t' j) := by
  unfold Serde.roundtrip
  exact DRel.bind (de_rename H hwf ht j) (fun v v' hv => ser_rename H ht hv)

/-- spelled out: acceptance is the same -/
theorem de_rename_isOk (H : EnvRen R e e') (hwf : FieldsWF e) {t t' : RTy} (ht : TyRen R t t') (j : Json) :
    (Serde.de e t j).isOk = (Serde.de e' t' j).isOk := by
  have := de_rename H hwf ht j
  cases h1 : Serde.de e t j <;> cases h2 : Serde.de e' t' j <;> simp [h1, h2, DRel, Except.isOk, Except.toBool] at this ⊢

/-- spelled out: a successful round trip gives the same JSON -/
theorem roundtrip_rename_ok (H : EnvRen R e e') (hwf : FieldsWF e) {t t' : RTy} (ht : TyRen R t t') (j out : Json) :
    Serde.roundtrip e t j = .ok out ↔ Serde.roundtrip e' t' j = .ok out := by
  have := roundtrip_rename H hwf ht j
  cases h1 : Serde.roundtrip e t j <;> cases h2 : Serde.roundtrip e' t' j <;> simp [h1, h2, DRel] at this ⊢
  rw [this]

end top

end C09N
end GqlVerif
