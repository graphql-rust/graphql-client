import GqlVerif.Proofs.SerdeFuel
/-!
# C14: a decidable, reach-local checker for `KeyFree`

`Composed.KeyFree e k p` is a `Prop` over the inductive `Composed.Reach` (no `Decidable` instance); the evaluable
sufficient condition next to it, `e.items.all (itemOK k)`, is environment-global: false for every key some *other* struct
uses (`name`, `id`, `__typename`).  Here `reachSet e p` is the closure of `[p]` under `succs` (one step of `Reach` as a
list; a work list without repetitions, `reachFuel e` rounds), and `keyFreeCheck e k p : Bool` says: the closure is closed
under `succs` and every item found at one of its names is `itemOK k`.

Soundness (`keyFreeCheck_sound`) needs nothing about the number of rounds: closedness is *checked*.  Completeness
(`keyFreeCheck_complete`): the closure is closed after `reachFuel e` rounds, since every round that does not close adds a
name of the finite universe `p :: targets e`.  Hence `keyFreeCheck_iff` and a `Decidable (KeyFree e k p)` instance.
-/
namespace GqlVerif
namespace C14G
open Composed

/-! ## one step of `Reach` -/

/-- the named types read from the same JSON object as `p`, one step -/
def succs (e : Env) (p : String) : List String :=
  match e.find p with
  | some it => sameLevel it
  | none => match e.externs.find? (·.1 == p) with
    | some x => [Scope.leaf x.2]
    | none => []

theorem reach_of_succ {e : Env} {p q r : String} (hq : q ∈ succs e p) (h : Reach e q r) : Reach e p r := by
  unfold succs at hq
  cases hf : e.find p with
  | some it => rw [hf] at hq; exact .item hf hq h
  | none =>
    rw [hf] at hq
    cases hx : e.externs.find? (·.1 == p) with
    | none => rw [hx] at hq; simp at hq
    | some x =>
      rw [hx] at hq
      simp only [List.mem_singleton] at hq
      subst hq
      exact .extern hf hx h

theorem reach_cases {e : Env} {p r : String} (h : Reach e p r) : r = p ∨ ∃ q ∈ succs e p, Reach e q r := by
  cases h with
  | refl => exact .inl rfl
  | item hf hq hr => exact .inr ⟨_, by simp only [succs, hf]; exact hq, hr⟩
  | extern hf hx hr => exact .inr ⟨_, by simp [succs, hf, hx], hr⟩

theorem Reach.trans {e : Env} {p q r : String} (h1 : Reach e p q) (h2 : Reach e q r) : Reach e p r := by
  induction h1 with
  | refl => exact h2
  | item hf hq _ ih => exact .item hf hq (ih h2)
  | extern hf hx _ ih => exact .extern hf hx (ih h2)

theorem reach_snoc {e : Env} {p q r : String} (h1 : Reach e p q) (hr : r ∈ succs e q) : Reach e p r :=
  Reach.trans h1 (reach_of_succ hr (.refl r))

theorem reach_subset_of_closed {e : Env} {S : List String} (hcl : ∀ q ∈ S, ∀ r ∈ succs e q, r ∈ S) {p q : String}
    (hp : p ∈ S) (h : Reach e p q) : q ∈ S := by
  induction h with
  | refl => exact hp
  | item hf hq _ ih => exact ih (hcl _ hp _ (by simp only [succs, hf]; exact hq))
  | extern hf hx _ ih => exact ih (hcl _ hp _ (by simp [succs, hf, hx]))

/-! ## the closure -/

def addNew (S : List String) : List String → List String
  | [] => S
  | x :: xs => if S.contains x then addNew S xs else addNew (S ++ [x]) xs

theorem mem_addNew {y : String} : ∀ (xs S : List String), y ∈ addNew S xs ↔ y ∈ S ∨ y ∈ xs
  | [], S => by simp [addNew]
  | x :: xs, S => by
    rw [addNew]
    split
    · rename_i h
      have hx : x ∈ S := by simpa using h
      rw [mem_addNew xs S]
      constructor
      · rintro (h | h)
        · exact .inl h
        · exact .inr (by simp [h])
      · rintro (h | h)
        · exact .inl h
        · rcases List.mem_cons.mp h with rfl | h
          · exact .inl hx
          · exact .inr h
    · rw [mem_addNew xs (S ++ [x])]
      simp only [List.mem_append, List.mem_cons, List.not_mem_nil, or_false]
      constructor
      · rintro ((h | h) | h)
        · exact .inl h
        · exact .inr (.inl h)
        · exact .inr (.inr h)
      · rintro (h | h | h)
        · exact .inl (.inl h)
        · exact .inl (.inr h)
        · exact .inr h

theorem nodup_addNew : ∀ (xs S : List String), S.Nodup → (addNew S xs).Nodup
  | [], S, h => by simpa [addNew] using h
  | x :: xs, S, h => by
    rw [addNew]
    split
    · exact nodup_addNew xs S h
    · rename_i hc
      have hx : x ∉ S := by simpa using hc
      apply nodup_addNew xs (S ++ [x])
      rw [List.nodup_append]
      refine ⟨h, by simp, ?_⟩
      intro a ha b hb
      simp only [List.mem_singleton] at hb
      subst hb
      intro hab; subst hab; exact hx ha

theorem length_addNew_le : ∀ (xs S : List String), S.length ≤ (addNew S xs).length
  | [], S => by simp [addNew]
  | x :: xs, S => by
    rw [addNew]
    split
    · exact length_addNew_le xs S
    · have := length_addNew_le xs (S ++ [x])
      simp only [List.length_append, List.length_singleton] at this
      omega

theorem addNew_of_subset : ∀ (xs S : List String), (∀ x ∈ xs, x ∈ S) → addNew S xs = S
  | [], S, _ => rfl
  | x :: xs, S, h => by
    rw [addNew]
    have hx : S.contains x = true := by simpa using h x (by simp)
    rw [if_pos hx]
    exact addNew_of_subset xs S (fun y hy => h y (by simp [hy]))

theorem length_addNew_lt : ∀ (xs S : List String), (∃ x ∈ xs, x ∉ S) → S.length < (addNew S xs).length
  | [], S, h => by obtain ⟨x, hx, _⟩ := h; simp at hx
  | x :: xs, S, h => by
    rw [addNew]
    split
    · rename_i hc
      have hx : x ∈ S := by simpa using hc
      apply length_addNew_lt xs S
      obtain ⟨y, hy, hyS⟩ := h
      rcases List.mem_cons.mp hy with rfl | hy
      · exact absurd hx hyS
      · exact ⟨y, hy, hyS⟩
    · have := length_addNew_le xs (S ++ [x])
      simp only [List.length_append, List.length_singleton] at this
      omega

def expand (e : Env) (S : List String) : List String := addNew S (S.flatMap (succs e))

def closure (e : Env) : Nat → List String → List String
  | 0, S => S
  | n+1, S => closure e n (expand e S)

def closedB (e : Env) (S : List String) : Bool := S.all (fun q => (succs e q).all (fun r => S.contains r))

theorem closedB_iff {e : Env} {S : List String} : closedB e S = true ↔ ∀ q ∈ S, ∀ r ∈ succs e q, r ∈ S := by
  simp [closedB, List.all_eq_true]

theorem expand_of_closed {e : Env} {S : List String} (h : closedB e S = true) : expand e S = S := by
  apply addNew_of_subset
  intro x hx
  obtain ⟨q, hq, hxq⟩ := List.mem_flatMap.mp hx
  exact closedB_iff.mp h q hq x hxq

theorem closure_of_closed {e : Env} {S : List String} (h : closedB e S = true) : ∀ n, closure e n S = S
  | 0 => rfl
  | n+1 => by rw [closure, expand_of_closed h, closure_of_closed h n]

theorem length_expand_lt {e : Env} {S : List String} (h : closedB e S = false) : S.length < (expand e S).length := by
  apply length_addNew_lt
  have : ¬ (∀ q ∈ S, ∀ r ∈ succs e q, r ∈ S) := by
    intro hc
    have := closedB_iff.mpr hc
    rw [h] at this; cases this
  apply Classical.byContradiction
  intro hno
  apply this
  intro q hq r hr
  apply Classical.byContradiction
  intro hrS
  exact hno ⟨r, List.mem_flatMap.mpr ⟨q, hq, hr⟩, hrS⟩

theorem subset_closure {e : Env} : ∀ (n : Nat) (S : List String) {x : String}, x ∈ S → x ∈ closure e n S
  | 0, _, _, h => h
  | n+1, S, _, h => subset_closure n (expand e S) ((mem_addNew _ _).mpr (.inl h))

theorem closure_reach {e : Env} {p : String} : ∀ (n : Nat) (S : List String), (∀ q ∈ S, Reach e p q) →
    ∀ q ∈ closure e n S, Reach e p q
  | 0, _, h => h
  | n+1, S, h => by
    apply closure_reach n (expand e S)
    intro q hq
    rcases (mem_addNew _ _).mp hq with hq | hq
    · exact h q hq
    · obtain ⟨q', hq', hqq⟩ := List.mem_flatMap.mp hq
      exact reach_snoc (h q' hq') hqq

/-! ## the universe of names, and why `reachFuel e` rounds close the set -/

/-- every name that can be a successor -/
def targets (e : Env) : List String := e.items.flatMap sameLevel ++ e.externs.map (fun x => Scope.leaf x.2)

/-- the number of rounds: one per possible new name -/
def reachFuel (e : Env) : Nat := (targets e).length

theorem succs_subset_targets {e : Env} {q r : String} (h : r ∈ succs e q) : r ∈ targets e := by
  unfold succs at h
  unfold targets
  cases hf : e.find q with
  | some it =>
    rw [hf] at h
    exact List.mem_append_left _ (List.mem_flatMap.mpr ⟨it, List.mem_of_find?_eq_some hf, h⟩)
  | none =>
    rw [hf] at h
    cases hx : e.externs.find? (·.1 == q) with
    | none => rw [hx] at h; simp at h
    | some x =>
      rw [hx] at h
      simp only [List.mem_singleton] at h
      subst h
      exact List.mem_append_right _ (List.mem_map.mpr ⟨x, List.mem_of_find?_eq_some hx, rfl⟩)

theorem closure_closed {e : Env} {p : String} : ∀ (n : Nat) (S : List String), S.Nodup → (∀ x ∈ S, x ∈ p :: targets e) →
    (p :: targets e).length ≤ S.length + n → closedB e (closure e n S) = true
  | 0, S, hnd, hsub, hlen => by
    rw [closure]
    cases hc : closedB e S with
    | true => rfl
    | false =>
      exfalso
      have h1 := length_expand_lt hc
      have h2 := List.Nodup.length_le_of_subset (l₁ := expand e S) (l₂ := p :: targets e) (nodup_addNew _ _ hnd) (by
        intro x hx
        rcases (mem_addNew _ _).mp hx with hx | hx
        · exact hsub x hx
        · obtain ⟨q, _, hqx⟩ := List.mem_flatMap.mp hx
          exact List.mem_cons_of_mem _ (succs_subset_targets hqx))
      omega
  | n+1, S, hnd, hsub, hlen => by
    cases hc : closedB e S with
    | true => rw [closure_of_closed hc]; exact hc
    | false =>
      rw [closure]
      apply closure_closed n (expand e S) (nodup_addNew _ _ hnd)
      · intro x hx
        rcases (mem_addNew _ _).mp hx with hx | hx
        · exact hsub x hx
        · obtain ⟨q, _, hqx⟩ := List.mem_flatMap.mp hx
          exact List.mem_cons_of_mem _ (succs_subset_targets hqx)
      · have := length_expand_lt hc
        omega

/-! ## the checker -/

/-- the names read from the same JSON object as `p` (closure of `[p]`) -/
def reachSet (e : Env) (p : String) : List String := closure e (reachFuel e) [p]

def okAt (e : Env) (k q : String) : Bool :=
  match e.find q with
  | some it => itemOK k it
  | none => true

/-- **the reach-local checker**: the closure is closed, and nothing in it names `k` -/
def keyFreeCheck (e : Env) (k p : String) : Bool :=
  closedB e (reachSet e p) && (reachSet e p).all (okAt e k)

theorem reachSet_closed (e : Env) (p : String) : closedB e (reachSet e p) = true := by
  apply closure_closed (p := p) _ _ (by simp) (by simp)
  simp only [reachFuel, List.length_cons, List.length_nil]
  omega

theorem self_mem_reachSet (e : Env) (p : String) : p ∈ reachSet e p := subset_closure _ _ (by simp)

theorem mem_reachSet_iff (e : Env) (p q : String) : q ∈ reachSet e p ↔ Reach e p q :=
  ⟨closure_reach _ _ (by intro q hq; simp only [List.mem_singleton] at hq; subst hq; exact .refl _) q,
   reach_subset_of_closed (closedB_iff.mp (reachSet_closed e p)) (self_mem_reachSet e p)⟩

/-- **soundness** (independent of the number of rounds: closedness is part of the check) -/
theorem keyFreeCheck_sound {e : Env} {k p : String} (h : keyFreeCheck e k p = true) : KeyFree e k p := by
  simp only [keyFreeCheck, Bool.and_eq_true, List.all_eq_true] at h
  obtain ⟨hcl, hok⟩ := h
  intro q hq it hf
  have hmem : q ∈ reachSet e p := reach_subset_of_closed (closedB_iff.mp hcl) (self_mem_reachSet e p) hq
  have := hok q hmem
  simpa [okAt, hf] using this

theorem keyFreeCheck_complete {e : Env} {k p : String} (h : KeyFree e k p) : keyFreeCheck e k p = true := by
  simp only [keyFreeCheck, Bool.and_eq_true, List.all_eq_true]
  refine ⟨reachSet_closed e p, fun q hq => ?_⟩
  unfold okAt
  cases hf : e.find q with
  | none => rfl
  | some it => exact h q ((mem_reachSet_iff e p q).mp hq) it hf

theorem keyFreeCheck_iff (e : Env) (k p : String) : keyFreeCheck e k p = true ↔ KeyFree e k p :=
  ⟨keyFreeCheck_sound, keyFreeCheck_complete⟩

instance (e : Env) (k p : String) : Decidable (KeyFree e k p) :=
  decidable_of_iff _ (keyFreeCheck_iff e k p)

/-- the global sufficient condition implies the reach-local one -/
theorem keyFreeCheck_of_all (e : Env) (k p : String) (h : e.items.all (itemOK k) = true) : keyFreeCheck e k p = true :=
  keyFreeCheck_complete (keyFree_of_all e k p h)

/-! ## evaluation on the generated module `denyEnv` (25 items, flatten members, tagged enums, aliases)

`name`, `id`, `kind`, `__typename` are keys *other* structs of the module use: the global check fails for each of them,
the reach-local check succeeds exactly where the key is not read from the same JSON object. -/

example : denyItems.all (itemOK "name") = false ∧ denyItems.all (itemOK "id") = false ∧
    denyItems.all (itemOK "__typename") = false ∧ denyItems.all (itemOK "barks") = false := by decide +kernel

/-- `ResponseData { animal, pets, animal2, kind, ext, #[flatten] qf: QF { kind } }`: reads `kind` (own and flattened), not
    `name` / `id` / `barks` / `__typename` / `when` -/
example : reachSet denyEnv "ResponseData" = ["ResponseData", "QF"] ∧
    keyFreeCheck denyEnv "name" "ResponseData" = true ∧ keyFreeCheck denyEnv "id" "ResponseData" = true ∧
    keyFreeCheck denyEnv "__typename" "ResponseData" = true ∧ keyFreeCheck denyEnv "when" "ResponseData" = true ∧
    keyFreeCheck denyEnv "kind" "ResponseData" = false ∧ keyFreeCheck denyEnv "animal" "ResponseData" = false := by
  decide +kernel

/-- `Qanimal { name, #[flatten] on: QanimalOn }` with `QanimalOn = Dog(QanimalOnDog { barks, owner, #[flatten] dog_f }) | Cat(AnimalF)`:
    `id` (a key of `QanimalOnDogowner`, one JSON level below) is not read from this object; `name`, `barks`, `owner`,
    `__typename` are -/
example : reachSet denyEnv "Qanimal" = ["Qanimal", "QanimalOn", "QanimalOnDog", "QanimalOnCat", "DogF", "AnimalF", "AnimalFOn", "AnimalFOnDog"] ∧
    keyFreeCheck denyEnv "id" "Qanimal" = true ∧ keyFreeCheck denyEnv "when" "Qanimal" = true ∧
    keyFreeCheck denyEnv "kind" "Qanimal" = true ∧
    keyFreeCheck denyEnv "name" "Qanimal" = false ∧ keyFreeCheck denyEnv "barks" "Qanimal" = false ∧
    keyFreeCheck denyEnv "owner" "Qanimal" = false ∧ keyFreeCheck denyEnv "__typename" "Qanimal" = false := by
  decide +kernel

/-- the reach-local `KeyFree` for a key the global check rejects, by evaluation -/
theorem denyEnv_keyFree_id : KeyFree denyEnv "id" "Qanimal" := keyFreeCheck_sound (by decide +kernel)

example : KeyFree denyEnv "name" "ResponseData" := by decide +kernel

end C14G
end GqlVerif
