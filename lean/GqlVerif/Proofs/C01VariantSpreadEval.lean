import GqlVerif.Model.Codegen

/-! Naming the output of a generator run that a kernel evaluation shows to succeed (`gen_of_isOk`). -/

namespace GqlVerif
namespace C01
namespace E2E
open Codegen

def okOr {α} (x : Outcome (List α)) : List α :=
  match x with
  | .ok v => v
  | .error _ => []

def isOkO {α} (x : Outcome α) : Bool :=
  match x with
  | .ok _ => true
  | .error _ => false

theorem gen_of_isOk {c : Ctx} {i : Nat} (h : isOkO (responseForQuery c i) = true) :
    responseForQuery c i = .ok (okOr (responseForQuery c i)) := by
  cases hr : responseForQuery c i with
  | ok v => rfl
  | error e => rw [hr] at h; cases h

end E2E
end C01
end GqlVerif
