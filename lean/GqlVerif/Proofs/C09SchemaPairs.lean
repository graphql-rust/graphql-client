import GqlVerif.Proofs.C09Normalization
import GqlVerif.Proofs.C02Response
/-!
# C09 — the correspondence of names between two generated modules, in closed form

`C09Normalization.envPairs` reads the correspondence of type names off two generated modules, position by
position.  This file computes it from the schema, the query and the case functions:

* `calc_pairs` — relational induction over the four mutual `calc*` functions (two contexts that agree on everything
  `calc*` reads except `normalization`): every pair of names at corresponding positions of the response items is
  allowed by `P` (`POK`: the field-position spellings of a *used* enum / scalar, the name of a *used* fragment) or is
  the same name on both sides, defined by an item of the same list;
* `module_pairs` — the module level: every pair of `envPairs` (externs apart) belongs to `modulePairs`, a list
  computed from `allUsedTypes`, the schema and the selection trees (`C02.moduleNames` machinery).
-/
namespace GqlVerif
namespace C09S
open Serde Codegen C09
open C09N hiding ORel.bind_same'
open C02 (mem_defines_left mem_defines_right)

theorem tyLeaf_eq_leaf : ∀ t : RTy, tyLeaf t = Scope.leaf t
  | .path _ => rfl
  | .opt t => by simp only [tyLeaf, Scope.leaf, tyLeaf_eq_leaf t]
  | .vec t => by simp only [tyLeaf, Scope.leaf, tyLeaf_eq_leaf t]
  | .box t => by simp only [tyLeaf, Scope.leaf, tyLeaf_eq_leaf t]

theorem All2.forall_zip {α β} {R : α → β → Prop} {l : List α} {l' : List β} (h : All2 R l l') :
    ∀ x ∈ l.zip l', R x.1 x.2 := C09N.All2.forall_zip h

theorem mem_zip_self {α} : ∀ {l : List α} {y : α × α}, y ∈ l.zip l → y.1 = y.2 ∧ y.1 ∈ l
  | [], _, h => by cases h
  | a :: l, y, h => by
    simp only [List.zip_cons_cons, List.mem_cons] at h
    rcases h with rfl | h
    · exact ⟨rfl, List.mem_cons_self⟩
    · exact ⟨(mem_zip_self h).1, List.mem_cons_of_mem _ (mem_zip_self h).2⟩

theorem All2.of_forall_zip {α β} {R : α → β → Prop} : ∀ {l : List α} {l' : List β}, l.length = l'.length →
    (∀ x ∈ l.zip l', R x.1 x.2) → All2 R l l'
  | [], [], _, _ => .nil
  | [], _ :: _, h, _ => by simp at h
  | _ :: _, [], h, _ => by simp at h
  | a :: l, b :: l', h, hr =>
    .cons (hr (a, b) (by simp)) (All2.of_forall_zip (by simpa using h) (fun x hx => hr x (by simp [List.zip_cons_cons, hx])))

/-! ## names at corresponding positions -/

section Core
variable (P : String → String → Prop)

/-- the pair `(a, b)` of names at corresponding positions is accounted for: allowed by `P`, or the same name on both
    sides, defined by an item of `ctx` -/
def NameOK (ctx : List Item) (a b : String) : Prop := P a b ∨ (a = b ∧ a ∈ Scope.defines ctx)

/-- every pair of names at corresponding positions of the two items is accounted for -/
def ItemOK (ctx : List Item) (it it' : Item) : Prop := ∀ y ∈ itemPairs it it', NameOK P ctx y.1 y.2

def FieldOK (ctx : List Item) (f f' : RField) : Prop := NameOK P ctx (tyLeaf f.ty) (tyLeaf f'.ty)

variable {P}

theorem NameOK.mono {a b : List Item} {x y : String} (h : ∀ m ∈ Scope.defines a, m ∈ Scope.defines b)
    (hr : NameOK P a x y) : NameOK P b x y :=
  hr.elim .inl (fun ⟨e, hm⟩ => .inr ⟨e, h _ hm⟩)

theorem ItemOK.mono {a b : List Item} {it it' : Item} (h : ∀ m ∈ Scope.defines a, m ∈ Scope.defines b)
    (hr : ItemOK P a it it') : ItemOK P b it it' := fun y hy => (hr y hy).mono h

theorem itemsOK_mono {a b l l' : List Item} (h : ∀ m ∈ Scope.defines a, m ∈ Scope.defines b)
    (hr : All2 (ItemOK P a) l l') : All2 (ItemOK P b) l l' := All2.mono (fun _ _ hi => hi.mono h) hr

theorem fieldsOK_mono {a b : List Item} {l l' : List RField} (h : ∀ m ∈ Scope.defines a, m ∈ Scope.defines b)
    (hr : All2 (FieldOK P a) l l') : All2 (FieldOK P b) l l' := All2.mono (fun _ _ hi => NameOK.mono h hi) hr

theorem NameOK.self {ctx : List Item} {a : String} (h : a ∈ Scope.defines ctx) : NameOK P ctx a a := .inr ⟨rfl, h⟩

/-- a struct against a struct of the same name -/
theorem itemOK_struct {ctx : List Item} {n : String} {d d' : List String} {s s' : Option String} {fs fs' : List RField}
    (hn : n ∈ Scope.defines ctx) (hf : All2 (FieldOK P ctx) fs fs') :
    ItemOK P ctx (.struct n d s fs) (.struct n d' s' fs') := by
  intro y hy
  simp only [itemPairs, itemTys, Item.name, List.mem_cons] at hy
  rcases hy with rfl | hy
  · exact .self hn
  · rw [List.map_map, List.map_map, List.zip_map] at hy
    obtain ⟨x, hx, rfl⟩ := List.mem_map.mp hy
    exact All2.forall_zip hf x hx

theorem itemOK_tagged {ctx : List Item} {n tag : String} {d d' : List String} {s s' : Option String} {vs : List RVariant}
    (hn : n ∈ Scope.defines ctx) (hv : ∀ v ∈ vs, ∀ t, v.payload = some t → tyLeaf t ∈ Scope.defines ctx) :
    ItemOK P ctx (.tagged n d s tag vs) (.tagged n d' s' tag vs) := by
  intro y hy
  simp only [itemPairs, itemTys, Item.name, List.mem_cons] at hy
  rcases hy with rfl | hy
  · exact .self hn
  · obtain ⟨e, hm⟩ := mem_zip_self hy
    obtain ⟨t, ht, hty⟩ := List.mem_map.mp hm
    obtain ⟨v, hv', hvt⟩ := List.mem_filterMap.mp ht
    refine .inr ⟨e, ?_⟩
    rw [← hty]
    exact hv v hv' t hvt

theorem itemOK_alias {ctx : List Item} {n t : String} {b : Bool} (hn : n ∈ Scope.defines ctx) (ht : NameOK P ctx t t) :
    ItemOK P ctx (aliasItem n t b) (aliasItem n t b) := by
  intro y hy
  cases b <;>
  · simp only [aliasItem, itemPairs, itemTys, Item.name, List.map_cons, List.map_nil, List.zip_cons_cons, List.zip_nil_right,
      List.mem_cons, List.not_mem_nil, or_false, Bool.false_eq_true, if_false, if_true, tyLeaf] at hy
    rcases hy with rfl | rfl
    · exact .self hn
    · exact ht


/-- the items `renderType` emits for one expanded type, on both sides -/
theorem renderType_ok {c c' : Ctx} {ctx : List Item} (name : String) {fs fs' : List RField} (vs : List RVariant)
    (hd : ∀ m ∈ Scope.defines (renderType c name fs vs), m ∈ Scope.defines ctx)
    (hf : All2 (FieldOK P ctx) fs fs')
    (hv : ∀ v ∈ vs, ∀ t, v.payload = some t → tyLeaf t ∈ Scope.defines ctx) :
    All2 (ItemOK P ctx) (renderType c name fs vs) (renderType c' name fs' vs) := by
  have he : fs'.isEmpty = fs.isEmpty := by
    have := All2.length_eq hf
    cases fs <;> cases fs' <;> simp_all
  rw [C02.defines_renderType] at hd
  unfold renderType
  rw [he]
  cases hfe : fs.isEmpty <;> cases hve : vs.isEmpty <;>
    simp only [hfe, hve, C02.headNames, Bool.not_true, Bool.not_false, Bool.and_true, Bool.and_false, Bool.and_self,
      Bool.false_eq_true, if_true, if_false, List.mem_cons, List.not_mem_nil, or_false, forall_eq_or_imp, forall_eq] at hd ⊢
  · refine .cons (itemOK_struct hd.1 (All2.append hf (.cons ?_ .nil))) (.cons (itemOK_tagged hd.2 hv) .nil)
    exact .self hd.2
  · exact .cons (itemOK_struct hd hf) .nil
  · exact .cons (itemOK_tagged hd hv) .nil
  · exact .cons (itemOK_struct hd hf) .nil


/-- the items of one `calcSelection` call, assembled -/
theorem assemble_ok {c c' : Ctx} (name : String) {fs fs' : List RField} {vs : List RVariant} {vi vi' fi fi' : List Item}
    (hf : All2 (FieldOK P fi) fs fs') (hfi : All2 (ItemOK P fi) fi fi')
    (hv : ∀ v ∈ vs, ∀ t, v.payload = some t → tyLeaf t ∈ Scope.defines vi) (hvi : All2 (ItemOK P vi) vi vi') :
    All2 (ItemOK P (renderType c name fs vs ++ vi ++ fi)) (renderType c name fs vs ++ vi ++ fi)
      (renderType c' name fs' vs ++ vi' ++ fi') := by
  refine All2.append (All2.append (renderType_ok name vs (fun m hm => mem_defines_left _ (mem_defines_left _ hm))
    (fieldsOK_mono mem_defines_right hf) (fun v hv' t ht => mem_defines_left _ (mem_defines_right _ (hv v hv' t ht)))) ?_) ?_
  · exact itemsOK_mono (fun m hm => mem_defines_left _ (mem_defines_right _ hm)) hvi
  · exact itemsOK_mono mem_defines_right hfi

/-! ## `renderField` on both sides -/

/-- both omitted, or both rendered with the given leaves -/
def FldRel (ft ft' : String) (a b : Option RField) : Prop :=
  (a = none ∧ b = none) ∨ ∃ f f', a = some f ∧ b = some f' ∧ tyLeaf f.ty = ft ∧ tyLeaf f'.ty = ft'

theorem decorateType_tyLeaf {base : RTy} {quals : List Qual} {t : RTy} (h : decorateType base quals = .ok t) :
    tyLeaf t = tyLeaf base := by
  have := C02.decorateType_leaf h
  rwa [C02.leaf_eq, C02.leaf_eq, ← tyLeaf_eq_leaf, ← tyLeaf_eq_leaf] at this

theorem renderField_rel {c c' : Ctx} (h1 : c'.o.skipNone = c.o.skipNone) (h2 : c'.o.deprecation = c.o.deprecation)
    (g : Option String) (r ft ft' : String) (quals : List Qual) (fl bx : Bool) (dep : Option (Option String)) :
    ORel (FldRel ft ft') (renderField c g r ft quals fl bx dep) (renderField c' g r ft' quals fl bx dep) := by
  unfold renderField
  rw [h1, h2]
  apply ORel.bind' (decorateType_erase_path ft ft' quals); intro t t' ht ht' _
  have hl := decorateType_tyLeaf ht
  have hl' := decorateType_tyLeaf ht'
  simp only [tyLeaf] at hl hl'
  simp only
  split
  · exact ORel.pure (.inl ⟨rfl, rfl⟩)
  · apply ORel.pure
    refine .inr ⟨_, _, rfl, rfl, ?_, ?_⟩
    · cases bx <;> simp only [Bool.false_eq_true, if_false, if_true, tyLeaf, hl]
    · cases bx <;> simp only [Bool.false_eq_true, if_false, if_true, tyLeaf, hl']

theorem fldRel_fieldsOK {ctx : List Item} {ft ft' : String} {a b : Option RField} (h : FldRel ft ft' a b)
    (hn : NameOK P ctx ft ft') : All2 (FieldOK P ctx) a.toList b.toList := by
  rcases h with ⟨rfl, rfl⟩ | ⟨f, f', rfl, rfl, h1, h2⟩
  · exact .nil
  · refine .cons ?_ .nil
    unfold FieldOK
    rw [h1, h2]
    exact hn

/-- the same fields on both sides, every leaf allowed by `P` -/
theorem fieldsOK_self {ctx : List Item} : ∀ {fs : List RField}, (∀ f ∈ fs, P (tyLeaf f.ty) (tyLeaf f.ty)) →
    All2 (FieldOK P ctx) fs fs
  | [], _ => .nil
  | f :: _, h => .cons (.inl (h f List.mem_cons_self)) (fieldsOK_self (fun g hg => h g (List.mem_cons_of_mem _ hg)))


/-! ## the `calc*` block -/

/-- what `P` has to allow: the field-position spellings of the used enums and scalars, the names of the used fragments -/
structure POK (c c' : Ctx) (u : UsedTypes) (P : String → String → Prop) : Prop where
  enum : ∀ k en, TypeId.enum k ∈ u.types → c.s.enums[k]? = some en →
    P (c.o.normalization.fieldType c.cs en.name) (c'.o.normalization.fieldType c'.cs en.name)
  scalar : ∀ k sn, TypeId.scalar k ∈ u.types → c.s.scalars[k]? = some sn →
    P (c.o.normalization.fieldType c.cs sn) (c'.o.normalization.fieldType c'.cs sn)
  frag : ∀ g fr, g ∈ u.fragments → c.q.fragments[g]? = some fr → P fr.name fr.name

variable (P)
abbrev Q1 (a b : List Item) : Prop := All2 (ItemOK P a) a b
abbrev Q2 (a b : List RVariant × List Item) : Prop :=
  a.1 = b.1 ∧ (∀ v ∈ a.1, ∀ t, v.payload = some t → tyLeaf t ∈ Scope.defines a.2) ∧ All2 (ItemOK P a.2) a.2 b.2
abbrev Q3 (sname : String) (a b : List RField × List Item × List Item) : Prop :=
  All2 (FieldOK P a.2.1) a.1 b.1 ∧ All2 (ItemOK P a.2.1) a.2.1 b.2.1 ∧ a.2.2 = b.2.2 ∧
  ∀ x ∈ a.2.2, ∃ tgt bx, x = aliasItem sname tgt bx ∧ P tgt tgt
abbrev Q4 (a b : List RField × List Item) : Prop := All2 (FieldOK P a.2) a.1 b.1 ∧ All2 (ItemOK P a.2) a.2 b.2
variable {P}

theorem lone_spread_eq {sels : List Sel} {fid : Nat}
    (h : (match sels with | [.spread fid] => some fid | _ => none) = some fid) : sels = [.spread fid] := by
  split at h
  · simp only [Option.some.injEq] at h; subst h; rfl
  · cases h

theorem lone_vspread_eq {mine : List VariantSel} {fid : Nat} {f : RFragment}
    (h : (match mine with | [.spread fid f] => some (fid, f) | _ => none) = some (fid, f)) : mine = [.spread fid f] := by
  split at h
  · simp only [Option.some.injEq, Prod.mk.injEq] at h
    obtain ⟨rfl, rfl⟩ := h; rfl
  · cases h

theorem calc_pairs {c c' : Ctx} {u : UsedTypes} (H : CalcNorm c c') (hP : POK c c' u P) : ∀ fuel,
    (∀ name pfx t sels, C02.Cov c u sels →
      ORel (Q1 P) (calcSelection c fuel name pfx t sels) (calcSelection c' fuel name pfx t sels)) ∧
    (∀ name pfx vsels vts, C02.VOK c u vsels →
      ORel (Q2 P) (calcVariants c fuel name pfx vsels vts) (calcVariants c' fuel name pfx vsels vts)) ∧
    (∀ sname pfx vt vsels, C02.VOK c u vsels →
      ORel (Q3 P sname) (calcVariantSels c fuel sname pfx vt vsels) (calcVariantSels c' fuel sname pfx vt vsels)) ∧
    (∀ pfx t sels, C02.Cov c u sels →
      ORel (Q4 P) (calcFields c fuel pfx t sels) (calcFields c' fuel pfx t sels)) := by
  have hrf := renderField_congr H.skipNone H.deprecation
  have ham := aliasMember_congr hrf H.cs
  intro fuel
  induction fuel with
  | zero =>
    refine ⟨?_, ?_, ?_, ?_⟩
    · intros; unfold calcSelection; exact rfl
    · intros; unfold calcVariants; exact rfl
    · intros; unfold calcVariantSels; exact rfl
    · intros; unfold calcFields; exact rfl
  | succ n ih =>
    obtain ⟨ihS, ihV, ihVS, ihF⟩ := ih
    refine ⟨?_, ?_, ?_, ?_⟩
    · intro name pfx t sels hcov
      unfold calcSelection
      simp only [H.s, H.q, H.otherVariant]
      split
      · rename_i fid hfid
        have hsels := lone_spread_eq hfid
        subst hsels
        apply ORel.bind_same'; intro f hf
        apply ORel.pure
        refine .cons (itemOK_alias ?_ (.inl (hP.frag fid f (hcov.spread List.mem_cons_self) (C02.getFragment_ok hf)))) .nil
        rw [C02.defines_cons, C02.aliasItem_defines]
        exact List.mem_cons_self
      · apply ORel.bind_same'; intro variants hvar
        cases variants with
        | none =>
          simp only [pure_bind]
          apply ORel.bind (ihF pfx t sels hcov); intro a b hab
          apply ORel.pure
          exact assemble_ok name hab.1 hab.2 (fun v hv => by cases hv) .nil
        | some vts =>
          simp only [pure_bind]
          apply ORel.bind_same'; intro vsels hvsels
          apply ORel.bind (ihV name pfx vsels vts (hcov.vok hvsels)); intro r r' hr
          apply ORel.bind (ihF pfx t sels hcov); intro a b hab
          apply ORel.pure
          obtain ⟨h1, h2, h3⟩ := hr
          rw [← h1]
          refine assemble_ok name hab.1 hab.2 (fun v hv t' ht => ?_) h3
          rcases List.mem_append.mp hv with hv | hv
          · exact h2 v hv t' ht
          · split at hv
            · simp only [List.mem_singleton] at hv
              subst hv; cases ht
            · cases hv
    · intro name pfx vsels vts hvok
      cases vts with
      | nil => unfold calcVariants; exact ORel.pure ⟨rfl, fun v hv => (by cases hv), .nil⟩
      | cons vt rest =>
        unfold calcVariants
        simp only [H.s, H.q, ham]
        apply ORel.bind_same; intro vname
        have hrest : ∀ (v : RVariant) (i i' : List Item), (∀ t, v.payload = some t → tyLeaf t ∈ Scope.defines i) →
            All2 (ItemOK P i) i i' →
            ORel (Q2 P)
              (do let __x ← (Pure.pure (v, i) : Outcome _)
                  let __x_1 ← calcVariants c n name pfx vsels rest
                  Pure.pure (__x.fst :: __x_1.fst, __x.snd ++ __x_1.snd))
              (do let __x ← (Pure.pure (v, i') : Outcome _)
                  let __x_1 ← calcVariants c' n name pfx vsels rest
                  Pure.pure (__x.fst :: __x_1.fst, __x.snd ++ __x_1.snd)) := by
          intro v i i' hv hi
          simp only [pure_bind]
          apply ORel.bind (ihV name pfx vsels rest hvok); intro a b hab
          refine ORel.pure ⟨by rw [hab.1], fun w hw t ht => ?_,
            All2.append (itemsOK_mono mem_defines_left hi) (itemsOK_mono mem_defines_right hab.2.2)⟩
          rcases List.mem_cons.mp hw with rfl | hw
          · exact mem_defines_left _ (hv t ht)
          · exact mem_defines_right _ (hab.2.1 w hw t ht)
        have hmine : C02.VOK c u (vsels.filter (fun v => v.typeId == vt)) := hvok.filter _
        generalize List.filter (fun v => v.typeId == vt) vsels = mine at hmine
        split
        · exact hrest _ _ _ (fun t ht => by cases ht) .nil
        · split
          · rename_i first tl single fid f hsingle
            have hm := lone_vspread_eq hsingle
            rw [hm] at hmine
            have ⟨hg, hfr⟩ := hmine.spr fid f List.mem_cons_self
            have hdef : pfx ++ "On" ++ vname ∈
                Scope.defines [aliasItem (pfx ++ "On" ++ vname) f.name (fragmentIsRecursive c.q fid)] := by
              rw [C02.defines_cons, C02.aliasItem_defines]
              exact List.mem_cons_self
            refine hrest _ _ _ (fun t ht => ?_) (.cons (itemOK_alias hdef (.inl (hP.frag fid f hg hfr))) .nil)
            simp only [Option.some.injEq] at ht
            subst ht
            exact hdef
          · apply ORel.bind (ihVS _ pfx vt _ hmine); intro r r' hr
            obtain ⟨r1, r2, r3⟩ := r
            obtain ⟨r1', r2', r3'⟩ := r'
            obtain ⟨h1, h2, h3, h4⟩ := hr
            simp only at h1 h2 h3 h4
            subst h3
            have hpay : ∀ (i : List Item), pfx ++ "On" ++ vname ∈ Scope.defines i → ∀ t,
                ({ name := vname, payload := some (RTy.path (pfx ++ "On" ++ vname)) } : RVariant).payload = some t →
                tyLeaf t ∈ Scope.defines i := by
              intro i hi t ht
              simp only [Option.some.injEq] at ht
              subst ht
              exact hi
            have hbig : ∀ (fs fs' : List RField), All2 (FieldOK P r2) fs fs' →
                ORel (Q2 P)
                  (do let extra ← List.mapM (aliasMember c) r3
                      let __x ← (Pure.pure (({ name := vname, payload := some (RTy.path (pfx ++ "On" ++ vname)) } : RVariant),
                                  renderType c (pfx ++ "On" ++ vname) (fs ++ extra.flatten) [] ++ r2) : Outcome _)
                      let __x_1 ← calcVariants c n name pfx vsels rest
                      Pure.pure (__x.fst :: __x_1.fst, __x.snd ++ __x_1.snd))
                  (do let extra ← List.mapM (aliasMember c) r3
                      let __x ← (Pure.pure (({ name := vname, payload := some (RTy.path (pfx ++ "On" ++ vname)) } : RVariant),
                                  renderType c' (pfx ++ "On" ++ vname) (fs' ++ extra.flatten) [] ++ r2') : Outcome _)
                      let __x_1 ← calcVariants c' n name pfx vsels rest
                      Pure.pure (__x.fst :: __x_1.fst, __x.snd ++ __x_1.snd)) := by
              intro fs fs' hfs
              apply ORel.bind_same'; intro extra hex
              have hextra : ∀ f ∈ extra.flatten, P (tyLeaf f.ty) (tyLeaf f.ty) := by
                intro f hf
                have := C02.aliasMembers_leaf hex (P := fun n => P n n) h4 f hf
                rwa [← tyLeaf_eq_leaf] at this
              refine hrest _ _ _ (hpay _ (mem_defines_left _ (C02.renderType_defines c _ _ _))) ?_
              refine All2.append (renderType_ok _ [] (fun m hm => mem_defines_left _ hm)
                (All2.append (fieldsOK_mono mem_defines_right hfs) (fieldsOK_self hextra)) (fun v hv => by cases hv))
                (itemsOK_mono mem_defines_right h2)
            -- the decision (`pushedAny c.q vt mine`, the aliases) is the same on both sides
            simp only []
            split
            · rename_i a _
              obtain ⟨tgt, bx, rfl, htgt⟩ := h4 a List.mem_cons_self
              have hdef : pfx ++ "On" ++ vname ∈ Scope.defines (aliasItem (pfx ++ "On" ++ vname) tgt bx :: r2) := by
                rw [C02.defines_cons, C02.aliasItem_defines]
                exact List.mem_cons_self
              refine hrest _ _ _ (hpay _ hdef) (.cons (itemOK_alias hdef (.inl htgt)) ?_)
              exact itemsOK_mono (fun m hm => by rw [C02.defines_cons]; exact List.mem_append_right _ hm) h2
            · exact hbig _ _ h1
    · intro sname pfx vt vsels hvok
      cases vsels with
      | nil => unfold calcVariantSels; exact ORel.pure ⟨.nil, .nil, rfl, fun x hx => (by cases hx)⟩
      | cons v rest =>
        cases v with
        | inline t sub =>
          have hcov : C02.Cov c u sub := hvok.inl t sub List.mem_cons_self
          unfold calcVariantSels
          simp only [H.s, H.q, H.cs]
          apply ORel.bind_same; intro tn
          split
          · rename_i fid hfid
            have hsub := lone_spread_eq hfid
            subst hsub
            apply ORel.bind_same'; intro fr hfr
            simp only [pure_bind]
            apply ORel.bind (ihVS sname pfx vt rest hvok.tail); intro a b hab
            refine ORel.pure ⟨hab.1, hab.2.1, by rw [hab.2.2.1], fun x hx => ?_⟩
            rcases List.mem_append.mp hx with hx | hx
            · simp only [List.mem_singleton] at hx
              exact ⟨fr.name, _, hx, hP.frag fid fr (hcov.spread List.mem_cons_self) (C02.getFragment_ok hfr)⟩
            · exact hab.2.2.2 x hx
          · apply ORel.bind (ihF _ vt sub hcov); intro x y hxy
            simp only [pure_bind]
            apply ORel.bind (ihVS sname pfx vt rest hvok.tail); intro a b hab
            exact ORel.pure ⟨All2.append (fieldsOK_mono mem_defines_left hxy.1) (fieldsOK_mono mem_defines_right hab.1),
              All2.append (itemsOK_mono mem_defines_left hxy.2) (itemsOK_mono mem_defines_right hab.2.1),
              by rw [hab.2.2.1], hab.2.2.2⟩
        | spread fid fr =>
          have ⟨hg, hfr⟩ := hvok.spr fid fr List.mem_cons_self
          unfold calcVariantSels
          simp only [H.q, H.cs, hrf]
          apply ORel.bind_same'; intro fld hfld
          apply ORel.bind (ihVS sname pfx vt rest hvok.tail); intro a b hab
          refine ORel.pure ⟨All2.append (fieldsOK_self (fun f hf => ?_)) hab.1, hab.2.1, hab.2.2.1, hab.2.2.2⟩
          rw [tyLeaf_eq_leaf, C02.renderField_leaf hfld f hf]
          exact hP.frag fid fr hg hfr
    · intro pfx t sels hcov
      cases sels with
      | nil => unfold calcFields; exact ORel.pure ⟨.nil, .nil⟩
      | cons sel rest =>
        have hcons : ∀ (fl fl' : Option RField) (i i' : List Item), All2 (FieldOK P i) fl.toList fl'.toList →
            All2 (ItemOK P i) i i' →
            ORel (Q4 P)
              (do let __x ← (Pure.pure (fl, i) : Outcome _)
                  let __x_1 ← calcFields c n pfx t rest
                  Pure.pure (__x.fst.toList ++ __x_1.fst, __x.snd ++ __x_1.snd))
              (do let __x ← (Pure.pure (fl', i') : Outcome _)
                  let __x_1 ← calcFields c' n pfx t rest
                  Pure.pure (__x.fst.toList ++ __x_1.fst, __x.snd ++ __x_1.snd)) := by
          intro fl fl' i i' hfl hi
          simp only [pure_bind]
          apply ORel.bind (ihF pfx t rest hcov.tail); intro a b hab
          exact ORel.pure ⟨All2.append (fieldsOK_mono mem_defines_left hfl) (fieldsOK_mono mem_defines_right hab.1),
            All2.append (itemsOK_mono mem_defines_left hi) (itemsOK_mono mem_defines_right hab.2)⟩
        cases sel with
        | field al fid sub =>
          unfold calcFields
          simp only [H.s, H.cs]
          apply ORel.bind_same'; intro sf hsf
          have hused := hcov.fieldType List.mem_cons_self (C02.getField_ok hsf)
          split
          · rename_i e he
            apply ORel.bind_same'; intro en hen
            have := hP.enum e en (he ▸ hused) (C02.getEnum_ok hen)
            rw [H.cs] at this
            apply ORel.bind (renderField_rel H.skipNone H.deprecation _ _ _ _ _ _ _ _); intro fl fl' hfl
            exact hcons _ _ _ _ (fldRel_fieldsOK hfl (.inl this)) .nil
          · rename_i k hk
            apply ORel.bind_same'; intro sn hsn
            have := hP.scalar k sn (hk ▸ hused) (C02.getScalar_ok hsn)
            rw [H.cs] at this
            apply ORel.bind (renderField_rel H.skipNone H.deprecation _ _ _ _ _ _ _ _); intro fl fl' hfl
            exact hcons _ _ _ _ (fldRel_fieldsOK hfl (.inl this)) .nil
          · exact rfl
          · apply ORel.bind (renderField_rel H.skipNone H.deprecation _ _ _ _ _ _ _ _); intro fl fl' hfl
            apply ORel.bind' (ihS _ _ _ sub (hcov.field List.mem_cons_self)); intro i i' hi _ hii
            exact hcons _ _ _ _ (fldRel_fieldsOK hfl (.self (C02.calcSelection_defines_name hi))) hii
        | spread fid =>
          unfold calcFields
          simp only [H.q, H.cs, hrf]
          apply ORel.bind_same'; intro fr hfr
          apply ORel.bind (ihF pfx t rest hcov.tail); intro a b hab
          split
          · exact ORel.pure ⟨hab.1, hab.2⟩
          · apply ORel.bind_same'; intro fl hfl
            refine ORel.pure ⟨All2.append (fieldsOK_self (fun f hf => ?_)) hab.1, hab.2⟩
            rw [tyLeaf_eq_leaf, C02.renderField_leaf hfl f hf]
            exact hP.frag fid fr (hcov.spread List.mem_cons_self) (C02.getFragment_ok hfr)
        | inline t' sub =>
          unfold calcFields
          exact ihF pfx t rest hcov.tail
        | typename =>
          unfold calcFields
          exact ihF pfx t rest hcov.tail

end Core

/-! ## the module level -/

/-- every pair of names at corresponding positions of the two items belongs to `L` -/
def PairsIn (L : List (String × String)) (it it' : Item) : Prop := ∀ y ∈ itemPairs it it', y ∈ L

theorem PairsIn.mono {L L' : List (String × String)} (h : ∀ y ∈ L, y ∈ L') {it it' : Item} (hp : PairsIn L it it') :
    PairsIn L' it it' := fun y hy => h y (hp y hy)

theorem pairsIn_mono {L L' : List (String × String)} (h : ∀ y ∈ L, y ∈ L') {l l' : List Item}
    (hp : All2 (PairsIn L) l l') : All2 (PairsIn L') l l' := All2.mono (fun _ _ hi => hi.mono h) hp

theorem mapM_all2 {α β β' : Type} {R : β → β' → Prop} {f : α → Outcome β} {f' : α → Outcome β'} :
    ∀ {l : List α} {r : List β} {r' : List β'}, (∀ a ∈ l, ∀ x x', f a = .ok x → f' a = .ok x' → R x x') →
      l.mapM f = .ok r → l.mapM f' = .ok r' → All2 R r r'
  | [], r, r', _, h, h' => by
    simp only [List.mapM_nil, pure, Except.pure, Except.ok.injEq] at h h'
    subst h; subst h'; exact .nil
  | a :: l, r, r', hR, h, h' => by
    rw [List.mapM_cons] at h h'
    obtain ⟨b, hb, h⟩ := C02.bind_ok h
    obtain ⟨bs, hbs, h⟩ := C02.bind_ok h
    obtain ⟨b', hb', h'⟩ := C02.bind_ok h'
    obtain ⟨bs', hbs', h'⟩ := C02.bind_ok h'
    simp only [pure, Except.pure, Except.ok.injEq] at h h'
    subst h; subst h'
    exact .cons (hR a List.mem_cons_self b b' hb hb')
      (mapM_all2 (fun x hx => hR x (List.mem_cons_of_mem _ hx)) hbs hbs')

theorem all2_flatten {α β} {R : α → β → Prop} : ∀ {F : List (List α)} {F' : List (List β)},
    All2 (All2 R) F F' → All2 R F.flatten F'.flatten
  | _, _, .nil => .nil
  | _, _, .cons h t => by
    rw [List.flatten_cons, List.flatten_cons]
    exact All2.append h (all2_flatten t)

/-- the names of two structs, then the leaves of the fields at the same positions -/
theorem pairsIn_struct {L : List (String × String)} {n n' : String} {d d' : List String} {s s' : Option String}
    {fs fs' : List RField} (hn : (n, n') ∈ L) (hf : All2 (fun f f' => (tyLeaf f.ty, tyLeaf f'.ty) ∈ L) fs fs') :
    PairsIn L (.struct n d s fs) (.struct n' d' s' fs') := by
  intro y hy
  simp only [itemPairs, itemTys, Item.name, List.mem_cons] at hy
  rcases hy with rfl | hy
  · exact hn
  · rw [List.map_map, List.map_map, List.zip_map] at hy
    obtain ⟨x, hx, rfl⟩ := List.mem_map.mp hy
    exact All2.forall_zip hf x hx

theorem payload_zip {L : List (String × String)} : ∀ {vs vs' : List RVariant},
    All2 (fun v v' => ∃ t t', v.payload = some t ∧ v'.payload = some t' ∧ (tyLeaf t, tyLeaf t') ∈ L) vs vs' →
    ∀ y ∈ ((vs.filterMap (·.payload)).map tyLeaf).zip ((vs'.filterMap (·.payload)).map tyLeaf), y ∈ L
  | _, _, .nil, y, hy => by cases hy
  | _, _, .cons ⟨t, t', h1, h2, h3⟩ tl, y, hy => by
    simp only [List.filterMap_cons, h1, h2, List.map_cons, List.zip_cons_cons, List.mem_cons] at hy
    rcases hy with rfl | hy
    · exact h3
    · exact payload_zip tl y hy

theorem pairsIn_oneOf {L : List (String × String)} {n n' : String} {d d' : List String} {s s' : Option String}
    {vs vs' : List RVariant} (hn : (n, n') ∈ L)
    (hv : All2 (fun v v' => ∃ t t', v.payload = some t ∧ v'.payload = some t' ∧ (tyLeaf t, tyLeaf t') ∈ L) vs vs') :
    PairsIn L (.oneOf n d s vs) (.oneOf n' d' s' vs') := by
  intro y hy
  simp only [itemPairs, itemTys, Item.name, List.mem_cons] at hy
  rcases hy with rfl | hy
  · exact hn
  · exact payload_zip hv y hy

/-! ### the closed form -/

/-- the enums / scalars / input types the operation uses (`allUsedTypes`) -/
def usedEnumsOf (c : Ctx) (u : UsedTypes) : List StoredEnum :=
  (u.types.filterMap TypeId.asEnum?).filterMap (fun k => c.s.enums[k]?)
def usedScalarsOf (c : Ctx) (u : UsedTypes) : List String :=
  (u.types.filterMap TypeId.asScalar?).filterMap (fun k => c.s.scalars[k]?)
def usedInputsOf (c : Ctx) (u : UsedTypes) : List StoredInput :=
  (c.s.inputs.zipIdx.filter (fun (x : StoredInput × Nat) => u.types.contains (.input x.2))).map (·.1)

/-- the used scalars that get an alias -/
def customScalarsOf (c : Ctx) (u : UsedTypes) : List String :=
  (usedScalarsOf c u).filter (fun n => !Schema.defaultScalars.contains n)

/-- the used enums that get an item -/
def ownEnumsOf (c : Ctx) (u : UsedTypes) : List StoredEnum :=
  (usedEnumsOf c u).filter (fun e => !c.o.externEnums.contains e.name)

/-- the built-in aliases and their targets -/
def builtinPairs : List (String × String) :=
  [("Boolean", "Boolean"), ("bool", "bool"), ("Float", "Float"), ("f64", "f64"), ("Int", "Int"), ("i64", "i64"),
   ("ID", "ID"), ("String", "String")]

/-- alias and alias target of a custom scalar -/
def scalarPairs (c c' : Ctx) (u : UsedTypes) : List (String × String) :=
  (customScalarsOf c u).flatMap fun n =>
    [(c.o.normalization.scalarName c.cs n, c'.o.normalization.scalarName c'.cs n),
     ((c.o.scalarsModule.getD "super") ++ "::" ++ c.o.normalization.scalarName c.cs n,
      (c'.o.scalarsModule.getD "super") ++ "::" ++ c'.o.normalization.scalarName c'.cs n)]

def enumPairs (c c' : Ctx) (u : UsedTypes) : List (String × String) :=
  (ownEnumsOf c u).map fun e => (c.o.normalization.enumName c.cs e.name, c'.o.normalization.enumName c'.cs e.name)

/-- the types of the fields of an input type, in field position -/
def inputFieldPairs (c c' : Ctx) (i : StoredInput) : List (String × String) :=
  i.fields.filterMap fun p =>
    match c.s.typeName p.2.id with
    | .ok tn => some (c.o.normalization.fieldType c.cs tn, c'.o.normalization.fieldType c'.cs tn)
    | .error _ => none

def inputPairs (c c' : Ctx) (u : UsedTypes) : List (String × String) :=
  (usedInputsOf c u).flatMap fun i =>
    (keywordReplace (c.o.normalization.inputName c.cs i.name), keywordReplace (c'.o.normalization.inputName c'.cs i.name)) ::
      inputFieldPairs c c' i

def varPairs (c c' : Ctx) (op : Nat) : List (String × String) :=
  [("Variables", "Variables"), ("<impl Variables>", "<impl Variables>")] ++
  (c.q.opVariables op).filterMap fun v =>
    match c.s.typeName v.ty.id with
    | .ok tn => some (keywordReplace (c.o.normalization.fieldType c.cs tn), keywordReplace (c'.o.normalization.fieldType c'.cs tn))
    | .error _ => none

/-- the used enums and scalars in field position (response structs) -/
def leafPairs (c c' : Ctx) (u : UsedTypes) : List (String × String) :=
  (usedEnumsOf c u).map (fun e => (c.o.normalization.fieldType c.cs e.name, c'.o.normalization.fieldType c'.cs e.name)) ++
  (usedScalarsOf c u).map (fun n => (c.o.normalization.fieldType c.cs n, c'.o.normalization.fieldType c'.cs n))

/-- the names of the fragment items and of the response items (`C02.moduleNames`, last two parts): fragment
    names and path-concatenated struct names -/
def structNames (c : Ctx) (u : UsedTypes) (o : ROperation) : List String :=
  (sortNat u.fragments).flatMap (C02.fragmentNames c) ++
  C02.selectionNames c "ResponseData" (c.cs.camel o.name) (.object o.objectId) o.sels

/-- **the correspondence of names between the modules generated under `c` and `c'`, in closed form** -/
def modulePairs (c c' : Ctx) (u : UsedTypes) (o : ROperation) (op : Nat) : List (String × String) :=
  builtinPairs ++ scalarPairs c c' u ++ enumPairs c c' u ++ inputPairs c c' u ++ varPairs c c' op ++
  leafPairs c c' u ++ (structNames c u o).map (fun a => (a, a))

/-! ### the chunks of the module -/

theorem builtin_pairs : All2 (PairsIn builtinPairs) builtinAliases builtinAliases := by
  refine .cons ?_ (.cons ?_ (.cons ?_ (.cons ?_ .nil))) <;>
  · intro y hy
    simp only [itemPairs, itemTys, Item.name, tyLeaf, List.map_cons, List.map_nil, List.zip_cons_cons, List.zip_nil_right,
      List.mem_cons, List.not_mem_nil, or_false] at hy
    rcases hy with rfl | rfl <;> simp [builtinPairs]

theorem mem_usedScalarsOf {c : Ctx} {u : UsedTypes} {ns : List String}
    (h : (sortNat (u.types.filterMap TypeId.asScalar?)).mapM c.s.getScalar = .ok ns) : ∀ n ∈ ns, n ∈ usedScalarsOf c u := by
  intro n hn
  obtain ⟨k, hk, hkn⟩ := C02.mapM_ok_mem h n hn
  exact List.mem_filterMap.mpr ⟨k, (C02.mem_sortNat _ _).mp hk, C02.getScalar_ok hkn⟩

theorem mem_usedEnumsOf {c : Ctx} {u : UsedTypes} {es : List StoredEnum}
    (h : (sortNat (u.types.filterMap TypeId.asEnum?)).mapM c.s.getEnum = .ok es) : ∀ e ∈ es, e ∈ usedEnumsOf c u := by
  intro e he
  obtain ⟨k, hk, hke⟩ := C02.mapM_ok_mem h e he
  exact List.mem_filterMap.mpr ⟨k, (C02.mem_sortNat _ _).mp hk, C02.getEnum_ok hke⟩

theorem scalar_pairs {c c' : Ctx} (hs : c'.s = c.s) {u : UsedTypes} {S S' : List Item}
    (h : scalarItems c u = .ok S) (h' : scalarItems c' u = .ok S') : All2 (PairsIn (scalarPairs c c' u)) S S' := by
  obtain ⟨ns, hns, rfl⟩ := C02.scalarItems_cases h
  obtain ⟨ns', hns', rfl⟩ := C02.scalarItems_cases h'
  rw [hs, hns] at hns'; cases hns'
  refine All2.map_of _ _ _ (fun n hn => ?_)
  have hn' : n ∈ customScalarsOf c u :=
    List.mem_filter.mpr ⟨mem_usedScalarsOf hns n (List.mem_filter.mp hn).1, (List.mem_filter.mp hn).2⟩
  intro y hy
  simp only [itemPairs, itemTys, Item.name, tyLeaf, List.map_cons, List.map_nil, List.zip_cons_cons, List.zip_nil_right,
    List.mem_cons, List.not_mem_nil, or_false] at hy
  refine List.mem_flatMap.mpr ⟨n, hn', ?_⟩
  rcases hy with rfl | rfl <;> simp

theorem enum_pairs {c c' : Ctx} (hs : c'.s = c.s) (hx : c'.o.externEnums = c.o.externEnums) {u : UsedTypes} {E E' : List Item}
    (h : enumItems c u = .ok E) (h' : enumItems c' u = .ok E') : All2 (PairsIn (enumPairs c c' u)) E E' := by
  obtain ⟨es, hes, rfl⟩ := C02.enumItems_cases h
  obtain ⟨es', hes', rfl⟩ := C02.enumItems_cases h'
  rw [hs, hes] at hes'; cases hes'
  rw [hx]
  refine All2.map_of _ _ _ (fun e he => ?_)
  have he' : e ∈ ownEnumsOf c u :=
    List.mem_filter.mpr ⟨mem_usedEnumsOf hes e (List.mem_filter.mp he).1, (List.mem_filter.mp he).2⟩
  intro y hy
  simp only [enumItem, itemPairs, itemTys, Item.name, List.map_nil, List.zip_nil_right, List.mem_cons, List.not_mem_nil,
    or_false] at hy
  subst hy
  exact List.mem_map.mpr ⟨e, he', rfl⟩

theorem inputFieldType_pair {c c' : Ctx} (hs : c'.s = c.s) {p : String × FieldType} {q q' : List Qual} {t t' : RTy}
    (h : inputFieldType c p.2 q = .ok t) (h' : inputFieldType c' p.2 q' = .ok t') {i : StoredInput} (hp : p ∈ i.fields) :
    (tyLeaf t, tyLeaf t') ∈ inputFieldPairs c c' i := by
  obtain ⟨tn, htn, hl⟩ := C02.inputFieldType_leaf h
  obtain ⟨tn', htn', hl'⟩ := C02.inputFieldType_leaf h'
  rw [hs, htn] at htn'; cases htn'
  rw [C02.leaf_eq, ← tyLeaf_eq_leaf] at hl hl'
  refine List.mem_filterMap.mpr ⟨p, hp, ?_⟩
  simp only [htn, hl, hl']

theorem inputItem_pairs {c c' : Ctx} (H : NormAgree c c') {i : StoredInput} {it it' : Item}
    (h : inputItem c i = .ok it) (h' : inputItem c' i = .ok it') :
    PairsIn ((keywordReplace (c.o.normalization.inputName c.cs i.name),
      keywordReplace (c'.o.normalization.inputName c'.cs i.name)) :: inputFieldPairs c c' i) it it' := by
  unfold inputItem at h h'
  simp only [] at h h'
  split at h
  · rename_i hone
    rw [if_pos hone] at h'
    obtain ⟨vs, hvs, h⟩ := C02.bind_ok h
    obtain ⟨vs', hvs', h'⟩ := C02.bind_ok h'
    simp only [pure, Except.pure, Except.ok.injEq] at h h'
    subst h; subst h'
    refine pairsIn_oneOf List.mem_cons_self (mapM_all2 (fun p hp v v' hv hv' => ?_) hvs hvs')
    obtain ⟨t, ht, hv⟩ := C02.bind_ok hv
    obtain ⟨t', ht', hv'⟩ := C02.bind_ok hv'
    simp only [pure, Except.pure, Except.ok.injEq] at hv hv'
    subst hv; subst hv'
    exact ⟨t, t', rfl, rfl, List.mem_cons_of_mem _ (inputFieldType_pair H.s ht ht' hp)⟩
  · rename_i hone
    rw [if_neg hone] at h'
    obtain ⟨fs, hfs, h⟩ := C02.bind_ok h
    obtain ⟨fs', hfs', h'⟩ := C02.bind_ok h'
    simp only [pure, Except.pure, Except.ok.injEq] at h h'
    subst h; subst h'
    refine pairsIn_struct List.mem_cons_self (mapM_all2 (fun p hp f f' hf hf' => ?_) hfs hfs')
    obtain ⟨t, ht, hf⟩ := C02.bind_ok hf
    obtain ⟨t', ht', hf'⟩ := C02.bind_ok hf'
    simp only [pure, Except.pure, Except.ok.injEq] at hf hf'
    subst hf; subst hf'
    exact List.mem_cons_of_mem _ (inputFieldType_pair H.s ht ht' hp)

theorem input_pairs {c c' : Ctx} (H : NormAgree c c') {u : UsedTypes} {I I' : List Item}
    (h : inputItems c u = .ok I) (h' : inputItems c' u = .ok I') : All2 (PairsIn (inputPairs c c' u)) I I' := by
  unfold inputItems at h h'
  rw [H.s] at h'
  refine mapM_all2 (fun x hx it it' hit hit' => ?_) h h'
  refine (inputItem_pairs H hit hit').mono (fun y hy => ?_)
  exact List.mem_flatMap.mpr ⟨x.1, List.mem_map.mpr ⟨x, hx, rfl⟩, hy⟩

theorem variableType_pair {c c' : Ctx} (hs : c'.s = c.s) {v : RVariable} {t t' : RTy}
    (h : variableType c v = .ok t) (h' : variableType c' v = .ok t') {op : Nat} (hv : v ∈ c.q.opVariables op) :
    (tyLeaf t, tyLeaf t') ∈ varPairs c c' op := by
  unfold variableType at h h'
  rw [hs] at h'
  obtain ⟨tn, htn, h⟩ := C02.bind_ok h
  obtain ⟨tn', htn', h'⟩ := C02.bind_ok h'
  rw [htn] at htn'; cases htn'
  have hl := decorateType_tyLeaf h
  have hl' := decorateType_tyLeaf h'
  simp only [tyLeaf] at hl hl'
  refine List.mem_append_right _ (List.mem_filterMap.mpr ⟨v, hv, ?_⟩)
  simp only [htn, hl, hl']

theorem variables_pairs {c c' : Ctx} (H : NormAgree c c') {op : Nat} {V V' : List Item}
    (h : variablesItems c op = .ok V) (h' : variablesItems c' op = .ok V') : All2 (PairsIn (varPairs c c' op)) V V' := by
  unfold variablesItems at h h'
  rw [H.q] at h'
  simp only [] at h h'
  split at h
  · rename_i hemp
    rw [if_pos hemp] at h'
    simp only [pure, Except.pure, Except.ok.injEq] at h h'
    subst h; subst h'
    refine .cons (fun y hy => ?_) .nil
    simp only [itemPairs, itemTys, Item.name, List.map_nil, List.zip_nil_right, List.mem_cons, List.not_mem_nil, or_false] at hy
    subst hy; simp [varPairs]
  · rename_i hemp
    rw [if_neg hemp] at h'
    obtain ⟨fs, hfs, h⟩ := C02.bind_ok h
    obtain ⟨dfl, _, h⟩ := C02.bind_ok h
    obtain ⟨fs', hfs', h'⟩ := C02.bind_ok h'
    obtain ⟨dfl', _, h'⟩ := C02.bind_ok h'
    simp only [pure, Except.pure, Except.ok.injEq] at h h'
    subst h; subst h'
    refine .cons (pairsIn_struct (by simp [varPairs]) (mapM_all2 (fun v hv f f' hf hf' => ?_) hfs hfs')) (.cons (fun y hy => ?_) .nil)
    · obtain ⟨t, ht, hf⟩ := C02.bind_ok hf
      obtain ⟨t', ht', hf'⟩ := C02.bind_ok hf'
      simp only [pure, Except.pure, Except.ok.injEq] at hf hf'
      subst hf; subst hf'
      exact variableType_pair H.s ht ht' hv
    · simp only [itemPairs, itemTys, Item.name, List.map_nil, List.zip_nil_right, List.mem_cons, List.not_mem_nil, or_false] at hy
      subst hy; simp [varPairs]


/-! ### fragments and response -/

theorem name_mem_selectionNames (c : Ctx) (name pfx : String) (ty : TypeId) (sels : List Sel) :
    name ∈ C02.selectionNames c name pfx ty sels := by
  unfold C02.selectionNames
  split
  · exact List.mem_cons_self
  · refine List.mem_append_left _ (List.mem_append_left _ ?_)
    unfold C02.headNames
    split <;> exact List.mem_cons_self

/-- the pairs the response items may carry: used enums / scalars in field position, the struct and fragment names -/
def respPairs (c c' : Ctx) (u : UsedTypes) (o : ROperation) : List (String × String) :=
  leafPairs c c' u ++ (structNames c u o).map (fun a => (a, a))

theorem pok_respPairs (c c' : Ctx) (u : UsedTypes) (o : ROperation) :
    POK c c' u (fun a b => (a, b) ∈ respPairs c c' u o) := by
  refine ⟨fun k en hk hen => ?_, fun k sn hk hsn => ?_, fun g fr hg hfr => ?_⟩
  · refine List.mem_append_left _ (List.mem_append_left _ (List.mem_map.mpr ⟨en, ?_, rfl⟩))
    exact List.mem_filterMap.mpr ⟨k, List.mem_filterMap.mpr ⟨_, hk, rfl⟩, hen⟩
  · refine List.mem_append_left _ (List.mem_append_right _ (List.mem_map.mpr ⟨sn, ?_, rfl⟩))
    exact List.mem_filterMap.mpr ⟨k, List.mem_filterMap.mpr ⟨_, hk, rfl⟩, hsn⟩
  · refine List.mem_append_right _ (List.mem_map.mpr ⟨fr.name, List.mem_append_left _ ?_, rfl⟩)
    refine List.mem_flatMap.mpr ⟨g, (C02.mem_sortNat _ _).mpr hg, ?_⟩
    simp only [C02.fragmentNames, hfr]
    exact name_mem_selectionNames _ _ _ _ _

theorem itemsOK_pairsIn {c c' : Ctx} {u : UsedTypes} {o : ROperation} {l l' : List Item}
    (hd : ∀ m ∈ Scope.defines l, m ∈ structNames c u o)
    (h : All2 (ItemOK (fun a b => (a, b) ∈ respPairs c c' u o) l) l l') : All2 (PairsIn (respPairs c c' u o)) l l' := by
  refine All2.mono (fun it it' hi y hy => ?_) h
  rcases hi y hy with hp | ⟨he, hm⟩
  · exact hp
  · refine List.mem_append_right _ (List.mem_map.mpr ⟨y.1, hd _ hm, ?_⟩)
    exact Prod.ext rfl he

theorem calcSelection_pairs {c c' : Ctx} (H : CalcNorm c c') {u : UsedTypes} (o : ROperation) {fuel : Nat} {name pfx : String}
    {ty : TypeId} {sels : List Sel} (hcov : C02.Cov c u sels) {l l' : List Item}
    (h : calcSelection c fuel name pfx ty sels = .ok l) (h' : calcSelection c' fuel name pfx ty sels = .ok l')
    (hd : ∀ m ∈ C02.selectionNames c name pfx ty sels, m ∈ structNames c u o) :
    All2 (PairsIn (respPairs c c' u o)) l l' := by
  have := (calc_pairs H (pok_respPairs c c' u o) fuel).1 name pfx ty sels hcov
  rw [h, h'] at this
  refine itemsOK_pairsIn (fun m hm => hd m ?_) this
  rwa [C02.calc_names h] at hm

/-- **the correspondence of names between two generated modules is contained in `modulePairs`**: let `c`, `c'`
    agree on everything except `normalization` (and the neutral options) and let both generate a module for the
    operation `op`; then at every position the two items carry names (item names, leaves of member types) that are
    paired in `modulePairs c c' u o op`, a list computed from the used types, the schema, the query and the case
    functions -/
theorem module_pairs {c c' : Ctx} (H : NormAgree c c') (op : Nat) {items items' : List Item}
    (h : responseForQuery c op = .ok items) (h' : responseForQuery c' op = .ok items') :
    ∃ u o, allUsedTypes c.s c.q op = .ok u ∧ c.q.operations[op]? = some o ∧
      All2 (PairsIn (modulePairs c c' u o op)) items items' := by
  obtain ⟨u, S, E, F, I, V, o, R, hu, hS, hE, hF, hI, hV, ho, hR, rfl⟩ := C02.responseForQuery_ok_full h
  obtain ⟨u', S', E', F', I', V', o', R', hu', hS', hE', hF', hI', hV', ho', hR', rfl⟩ := C02.responseForQuery_ok_full h'
  rw [H.s, H.q, hu] at hu'; cases hu'
  rw [H.q, ho] at ho'; cases ho'
  refine ⟨u, o, hu, ho, ?_⟩
  have ⟨hroot, hfrs⟩ := C02.used_covered hu ho
  have hsub : ∀ {A B : List (String × String)} {l l' : List Item}, (∀ y ∈ A, y ∈ B) → All2 (PairsIn A) l l' →
      All2 (PairsIn B) l l' := fun hAB hl => pairsIn_mono hAB hl
  have hresp : ∀ y ∈ respPairs c c' u o, y ∈ modulePairs c c' u o op := by
    intro y hy
    unfold modulePairs
    rcases List.mem_append.mp hy with hy | hy
    · exact List.mem_append_left _ (List.mem_append_right _ hy)
    · exact List.mem_append_right _ hy
  have hR1 : All2 (PairsIn (respPairs c c' u o)) R R' := by
    unfold responseItems at hR hR'
    rw [H.s, H.q, H.cs] at hR'
    exact calcSelection_pairs H.toCalcNorm o hroot hR hR' (fun m hm => List.mem_append_right _ hm)
  have hF1 : All2 (PairsIn (respPairs c c' u o)) F.flatten F'.flatten := by
    refine all2_flatten (mapM_all2 (fun g hg its its' hi hi' => ?_) hF hF')
    obtain ⟨fr, hfr, hcalc⟩ := C02.fragmentItems_ok hi
    obtain ⟨fr', hfr', hcalc'⟩ := C02.fragmentItems_ok hi'
    rw [H.q, hfr] at hfr'; cases hfr'
    rw [H.s, H.q, H.cs] at hcalc'
    have hcov : C02.Cov c u fr.sels := hfrs g ((C02.mem_sortNat _ _).mp hg) fr hfr
    refine calcSelection_pairs H.toCalcNorm o hcov hcalc hcalc' (fun m hm => List.mem_append_left _ ?_)
    refine List.mem_flatMap.mpr ⟨g, hg, ?_⟩
    simp only [C02.fragmentNames, hfr]
    exact hm
  unfold modulePairs
  refine All2.append (All2.append (All2.append (All2.append (All2.append (All2.append ?_ ?_) ?_) ?_) ?_) ?_) ?_
  · exact hsub (fun y hy => by simp only [List.mem_append]; exact .inl (.inl (.inl (.inl (.inl (.inl hy)))))) builtin_pairs
  · exact hsub (fun y hy => by simp only [List.mem_append]; exact .inl (.inl (.inl (.inl (.inl (.inr hy))))))
      (scalar_pairs H.s hS hS')
  · exact hsub (fun y hy => by simp only [List.mem_append]; exact .inl (.inl (.inl (.inl (.inr hy)))))
      (enum_pairs H.s H.externEnums hE hE')
  · exact hsub (fun y hy => by simp only [List.mem_append]; exact .inl (.inl (.inl (.inr hy)))) (input_pairs H hI hI')
  · exact hsub (fun y hy => by simp only [List.mem_append]; exact .inl (.inl (.inr hy))) (variables_pairs H hV hV')
  · exact hsub hresp hF1
  · exact hsub hresp hR1

end C09S
end GqlVerif
