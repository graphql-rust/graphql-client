import GqlVerif.Proofs.C01NestedBC
/-!
# `NestedBOp`: `ResponseData` accepts exactly `conformsLooseA` (generic environment)

The rank recursion of `C01NestedD` (`wholeN`, `KNn`, `FragEnvN`, `fragSideN`, `fragAccN`) is about fragments only and is
used as it is.  `aSpreads`: the spreads at object positions and the fragments selected at positions of the new kind (their
inner key side conditions `fragSideN` are required); `nestedBKeysOk`; `TopEnvA`; **`top_accepts_iffA`**.

What is particular to `NestedBOp`: at an abstract position `aSpreads` collects the fragments of the
selection set **without its (b)-spreads** (`unB`): a (b)-fragment is spread-free (`fragOkB`), it needs no `fragSideN`.
-/

namespace GqlVerif
namespace C01NB
open Serde Spec C13 C03 Codegen C01 C01.E2E C01M C01N C01NA C01NG C01NX

mutual
  /-- the spreads at object positions of a selection set (not through fragment bodies), and the fragments selected at
      abstract positions of the new kind -/
  def aSpreads (s : Schema) (q : Query) (o : Options) : Sel → List Nat
    | .field a fid sub =>
      match s.fields[fid]? with
      | none => []
      | some sf =>
        match sf.ty.id with
        | .object _ => aSpreadss s q o sub
        | ty => if sSel s q o false (.field a fid sub) then [] else (unB q ty sub).filterMap selFrag
    | .spread g => [g]
    | _ => []
  def aSpreadss (s : Schema) (q : Query) (o : Options) : List Sel → List Nat
    | [] => []
    | x :: xs => aSpreads s q o x ++ aSpreadss s q o xs
end

theorem envAbsB_and {fenv : Nat → Prop} {P : Nat → Prop} {e : Env} {c : Ctx} {name : String} {ty : TypeId} {sub : List Sel}
    (h : EnvAbsB fenv e c name ty sub) (hP : ∀ g ∈ (unB c.q ty sub).filterMap selFrag, P g) :
    EnvAbsB (fun g => fenv g ∧ P g) e c name ty sub :=
  ⟨h.1, h.2.1, h.2.2.1, fun vt hvt => varEnvX_and (h.2.2.2 vt hvt) hP⟩

mutual
  theorem envSelA_and {fenv : Nat → Prop} {P : Nat → Prop} {e : Env} {c : Ctx} : ∀ (x : Sel) (pfx : String),
      envSelA fenv e c pfx x → (∀ g ∈ aSpreads c.s c.q c.o x, P g) → envSelA (fun g => fenv g ∧ P g) e c pfx x
    | .field a fid sub, pfx => by
      intro h hP
      have IH := @envSelsA_and fenv P e c sub
      rw [envSelA] at h ⊢
      rw [aSpreads] at hP
      cases hsf : c.s.fields[fid]? with
      | none => trivial
      | some sf =>
        simp only [hsf] at h hP ⊢
        by_cases hobj : ∃ i, sf.ty.id = .object i
        · obtain ⟨i, hid⟩ := hobj
          simp only [hid] at h hP ⊢
          by_cases hsp : ∃ g, sub = [Sel.spread g]
          · obtain ⟨g, rfl⟩ := hsp
            simp only at h ⊢
            exact ⟨h.1, h.2, hP g (by simp [aSpreadss, aSpreads])⟩
          · have hnl : ∀ g, sub ≠ [Sel.spread g] := fun g hg => hsp ⟨g, hg⟩
            have h' : StructEnv e (pfx ++ c.cs.camel (a.getD sf.name))
                (fieldsOfF c (pfx ++ c.cs.camel (a.getD sf.name)) sub) ∧
                envSelsA fenv e c (pfx ++ c.cs.camel (a.getD sf.name)) sub := by
              revert h; split
              · exact fun _ => absurd rfl (hnl _)
              · exact id
            split
            · exact absurd rfl (hnl _)
            · exact ⟨h'.1, IH _ h'.2 hP⟩
        · have hno : ∀ i, sf.ty.id ≠ .object i := fun i hi => hobj ⟨i, hi⟩
          cases hs : sSel c.s c.q c.o false (.field a fid sub) with
          | true => simpa only [hs, if_true] using h
          | false =>
            simp only [hs, Bool.false_eq_true, if_false] at h hP ⊢
            exact envAbsB_and h hP
    | .spread g, pfx => by
      intro h hP
      rw [envSelA] at h ⊢
      exact ⟨h, hP g (by simp [aSpreads])⟩
    | .inline _ _, _ => by intro _ _; simp [envSelA]
    | .typename, _ => by intro _ _; simp [envSelA]
  theorem envSelsA_and {fenv : Nat → Prop} {P : Nat → Prop} {e : Env} {c : Ctx} : ∀ (sels : List Sel) (pfx : String),
      envSelsA fenv e c pfx sels → (∀ g ∈ aSpreadss c.s c.q c.o sels, P g) → envSelsA (fun g => fenv g ∧ P g) e c pfx sels
    | [], _ => by intro _ _; simp [envSelsA]
    | x :: xs, pfx => by
      intro h hP
      rw [envSelsA] at h ⊢
      rw [aSpreadss] at hP
      exact ⟨envSelA_and x pfx h.1 (fun g hg => hP g (List.mem_append_left _ hg)),
        envSelsA_and xs pfx h.2 (fun g hg => hP g (List.mem_append_right _ hg))⟩
end

/-- keys disjoint between a spread at an object position and its siblings: at every object level of the operation, and
    inside the bodies of the spread fragments; at an abstract position of the new kind, for every possible type, the keys read
    on its variant pairwise distinct and, with an inline fragment with fields, no selected fragment named by a Rust keyword
    (`varKeysOk`, `kwOk`); `fragSideN` also for the fragments selected at those positions (`aSpreadss`) (decidable) -/
def nestedBKeysOk (c : Ctx) (op : ROperation) : Bool :=
  keysOksA (KNn c c.q.fragments.length) c op.sels &&
  EnumSpec.nodup (expKeysN (KNn c c.q.fragments.length) c op.sels) &&
  (aSpreadss c.s c.q c.o op.sels).all (fragSideN c c.q.fragments.length)

structure TopEnvA (e : Env) (c : Ctx) (op : ROperation) : Prop where
  root : BodyEnvA (FragEnvN e c c.q.fragments.length) e c "ResponseData" (c.cs.camel op.name) op.sels
  ok : SerdeFuel.EnvOK e

theorem bodyEnvA_and {fenv : Nat → Prop} {P : Nat → Prop} {e : Env} {c : Ctx} {name pfx : String} {sels : List Sel}
    (h : BodyEnvA fenv e c name pfx sels) (hP : ∀ g ∈ aSpreadss c.s c.q c.o sels, P g) :
    BodyEnvA (fun g => fenv g ∧ P g) e c name pfx sels := by
  by_cases hsp : ∃ g, sels = [Sel.spread g]
  · obtain ⟨g, rfl⟩ := hsp
    unfold BodyEnvA at h ⊢
    simp only at h ⊢
    exact ⟨h.1, h.2, hP g (by simp [aSpreadss, aSpreads])⟩
  · have hnl : ∀ g, sels ≠ [Sel.spread g] := fun g hg => hsp ⟨g, hg⟩
    have h' := bodyEnvA_not_lone hnl h
    unfold BodyEnvA
    split
    · exact absurd rfl (hnl _)
    · exact ⟨h'.1, envSelsA_and sels pfx h'.2 hP⟩

/-- **`ResponseData` accepts exactly `conformsLooseA … false`** (generic environment) -/
theorem top_accepts_iffA (e : Env) (c : Ctx) (op : ROperation) (ht : NestedBOp c op = true) (hnd : fragNamesOk c = true)
    (hk : nestedBKeysOk c op = true) (he : TopEnvA e c op) (j : Json) :
    okB (Serde.de e (.path "ResponseData") j) =
      conformsLooseA (wholeN c c.q.fragments.length) c.s c.q c.o false op.sels j := by
  obtain ⟨_, _, hsels⟩ := nestedBOp_parts ht
  simp only [nestedBKeysOk, Bool.and_eq_true, List.all_eq_true] at hk
  obtain ⟨⟨hko, hkeys⟩, hsub⟩ := hk
  have hfa : ∀ p' g', fragOkN c.s c.q c.o c.q.fragments.length p' g' = true →
      (FragEnvN e c c.q.fragments.length g' ∧ fragSideN c c.q.fragments.length g' = true) →
      FragAcc e c (wholeN c c.q.fragments.length) (KNn c c.q.fragments.length) g' :=
    fun p' g' h1 h2 => fragAccN e c hnd _ p' g' h1 h2.1 h2.2
  exact Top.de_iff_ok he.ok
    (bodyA_accepts_iff e c _ (wholeN c c.q.fragments.length) (KNn c c.q.fragments.length) _
      (fragOkN_spec c.s c.q c.o _) hfa (c.cs.camel op.name) "ResponseData" _ op.sels hsels
      (bodyEnvA_and (P := fun g' => fragSideN c c.q.fragments.length g' = true) he.root hsub) hko hkeys) j

end C01NB
end GqlVerif
