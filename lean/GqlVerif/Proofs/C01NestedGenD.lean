import GqlVerif.Proofs.C01NestedGenC
/-!
# `NestedGenOp`: spreads, key and tag conditions; the environment under a conjunction

* `aSpreads`: the spreads at object positions and the fragments selected at positions of the general kind (their inner key side
  conditions `fragSideN` are required); `nestedGenKeysOk`;
* `envSelA_and`: the environment hypothesis with a further property of the spread fragments;
* `aPays`, `absTagOk` (decidable): no fragment selected at a position of the general kind reads a key its position consumes.

`slLeafs`: the interface-level fields of a conforming response object are accepted.
-/

namespace GqlVerif
namespace C01NG
open Serde Spec C13 C03 Codegen C01 C01.E2E C01M C01N C01NA

mutual
  /-- the spreads at object positions of a selection set (not through fragment bodies), and the fragments selected at
      abstract positions of the new kind -/
  def aSpreads (s : Schema) (q : Query) (o : Options) : Sel → List Nat
    | .field a fid sub =>
      match s.fields[fid]? with
      | none => []
      | some sf =>
        match sf.ty.id with
        | .object _ => aSpreadss s q o sub
        | _ => if sSel s q o false (.field a fid sub) then [] else sub.filterMap selFrag
    | .spread g => [g]
    | _ => []
  def aSpreadss (s : Schema) (q : Query) (o : Options) : List Sel → List Nat
    | [] => []
    | x :: xs => aSpreads s q o x ++ aSpreadss s q o xs
end

theorem selFrag_strip_mem {sub : List Sel} {g : Nat} (h : g ∈ (strip sub).filterMap selFrag) : g ∈ sub.filterMap selFrag := by
  obtain ⟨x, hx, hxg⟩ := List.mem_filterMap.mp h
  exact List.mem_filterMap.mpr ⟨x, (mem_strip.mp hx).1, hxg⟩

theorem envAbsG_and {fenv : Nat → Prop} {P : Nat → Prop} {e : Env} {c : Ctx} {name : String} {ty : TypeId} {sub : List Sel}
    (h : EnvAbsG fenv e c name ty sub) (hP : ∀ g ∈ sub.filterMap selFrag, P g) :
    EnvAbsG (fun g => fenv g ∧ P g) e c name ty sub :=
  ⟨h.1, h.2.1, fun vt hvt => varEnvA_and (h.2.2 vt hvt)
    (fun g hg => hP g (selFrag_strip_mem (memFrags_mem_selFrag hg)))⟩

mutual
  theorem envSelA_and {fenv : Nat → Prop} {P : Nat → Prop} {e : Env} {c : Ctx} : ∀ (x : Sel) (pfx : String),
      envSelA fenv e c pfx x → (∀ g ∈ aSpreads c.s c.q c.o x, P g) → envSelA (fun g => fenv g ∧ P g) e c pfx x
    | .field a fid sub, pfx => by
      intro h hP
      have IH := @envSelsA_and fenv P e c sub
      rw [envSelA] at h ⊢
      rw [aSpreads] at hP
      cases hsf : c.s.fields[fid]? with
      | none => trivial
      | some sf =>
        simp only [hsf] at h hP ⊢
        by_cases hobj : ∃ i, sf.ty.id = .object i
        · obtain ⟨i, hid⟩ := hobj
          simp only [hid] at h hP ⊢
          by_cases hsp : ∃ g, sub = [Sel.spread g]
          · obtain ⟨g, rfl⟩ := hsp
            simp only at h ⊢
            exact ⟨h.1, h.2, hP g (by simp [aSpreadss, aSpreads])⟩
          · have hnl : ∀ g, sub ≠ [Sel.spread g] := fun g hg => hsp ⟨g, hg⟩
            have h' : StructEnv e (pfx ++ c.cs.camel (a.getD sf.name))
                (fieldsOfF c (pfx ++ c.cs.camel (a.getD sf.name)) sub) ∧
                envSelsA fenv e c (pfx ++ c.cs.camel (a.getD sf.name)) sub := by
              revert h; split
              · exact fun _ => absurd rfl (hnl _)
              · exact id
            split
            · exact absurd rfl (hnl _)
            · exact ⟨h'.1, IH _ h'.2 hP⟩
        · have hno : ∀ i, sf.ty.id ≠ .object i := fun i hi => hobj ⟨i, hi⟩
          cases hs : sSel c.s c.q c.o false (.field a fid sub) with
          | true => simpa only [hs, if_true] using h
          | false =>
            simp only [hs, Bool.false_eq_true, if_false] at h hP ⊢
            exact envAbsG_and h hP
    | .spread g, pfx => by
      intro h hP
      rw [envSelA] at h ⊢
      exact ⟨h, hP g (by simp [aSpreads])⟩
    | .inline _ _, _ => by intro _ _; simp [envSelA]
    | .typename, _ => by intro _ _; simp [envSelA]
  theorem envSelsA_and {fenv : Nat → Prop} {P : Nat → Prop} {e : Env} {c : Ctx} : ∀ (sels : List Sel) (pfx : String),
      envSelsA fenv e c pfx sels → (∀ g ∈ aSpreadss c.s c.q c.o sels, P g) → envSelsA (fun g => fenv g ∧ P g) e c pfx sels
    | [], _ => by intro _ _; simp [envSelsA]
    | x :: xs, pfx => by
      intro h hP
      rw [envSelsA] at h ⊢
      rw [aSpreadss] at hP
      exact ⟨envSelA_and x pfx h.1 (fun g hg => hP g (List.mem_append_left _ hg)),
        envSelsA_and xs pfx h.2 (fun g hg => hP g (List.mem_append_right _ hg))⟩
end

/-- keys disjoint between a spread at an object position and its siblings: at every object level of the operation, and
    inside the bodies of the spread fragments (decidable) -/
def nestedGenKeysOk (c : Ctx) (op : ROperation) : Bool :=
  keysOksA (KNn c c.q.fragments.length) c op.sels &&
  EnumSpec.nodup (expKeysN (KNn c c.q.fragments.length) c op.sels) &&
  (aSpreadss c.s c.q c.o op.sels).all (fragSideN c c.q.fragments.length)

/-! ## the specification side -/

/-- the keys the type(s) of a position of the general kind consume before the variant payloads are read: the tag and the
    interface-level fields -/
def posKeys (s : Schema) (sub : List Sel) : List String := "__typename" :: fieldKeys s (ownSels sub)

mutual
  /-- the fragments selected at the abstract positions of the general kind, each with the keys consumed at its position -/
  def aPays (s : Schema) (q : Query) (o : Options) : Sel → List (Nat × List String)
    | .field a fid sub =>
      match s.fields[fid]? with
      | none => []
      | some sf =>
        match sf.ty.id with
        | .object _ => aPayss s q o sub
        | _ => if sSel s q o false (.field a fid sub) then []
               else (sub.filterMap selFrag).map (fun g => (g, posKeys s sub))
    | _ => []
  def aPayss (s : Schema) (q : Query) (o : Options) : List Sel → List (Nat × List String)
    | [] => []
    | x :: xs => aPays s q o x ++ aPayss s q o xs
end

/-- the entries with a key in `L` do not matter to the struct of the fragment `g` -/
def IrrL (whole : Nat → Bool → Json → Bool) (g : Nat) (L : List String) : Prop :=
  ∀ kvs, whole g true (.obj (kvs.filter (fun kv => !L.contains kv.1))) = whole g true (.obj kvs)

/-! ## conforming ⇒ accepted, parametric -/

section SLA
variable (s : Schema) (q : Query) (o : Options) (ok : TypeId → Nat → Bool) (whole : Nat → Bool → Json → Bool)
  (ex : Nat → Sel)
  (hexA : ∀ g, FragOkAny s q o g → ex g = expandSel q (.spread g))
  (hmem : ∀ i g, ok (.object i) g = true → ∀ kvs, (∀ k, countKey k kvs ≤ 1) → confSelV s i (ex g) kvs = true →
    whole g true (.obj kvs) = true)
  (hali : ∀ i g, ok (.object i) g = true → ∀ b j, conformsV s i [ex g] j = true → whole g b j = true)
  (hokS : OkSpec q ok)

omit hexA hmem hali hokS in
/-- the interface-level fields of a conforming response object are accepted -/
theorem slLeafs (b : Bool) (rt : Nat) (kvs : List (String × Json)) (hc : ∀ k, countKey k kvs ≤ 1) : ∀ (sub : List Sel),
    (∀ x ∈ sub, leafSel s q o x = true) → confSelsV s rt (expandSelsW ex sub) kvs = true →
    looseSelsS s q o b (ownSels sub) kvs = true
  | [], _, _ => by simp [ownSels, looseSelsS]
  | x :: xs, hl, h => by
    rw [expandSelsW, confSelsV, Bool.and_eq_true] at h
    have ih := slLeafs b rt kvs hc xs (fun y hy => hl y (List.mem_cons_of_mem _ hy)) h.2
    cases x with
    | field a fid sub' =>
      have hlf := hl _ (List.mem_cons_self)
      obtain ⟨sf, hsf, _, _, hnil, _⟩ := leafSel_field hlf
      subst hnil
      have hcx := h.1
      rw [expandSelW, confSelV_field] at hcx
      rw [ownSels_cons_field, looseSelsS.eq_2, ih, Bool.and_true]
      simp only [hsf] at hcx ⊢
      cases hl' : Json.lookup (a.getD sf.name) kvs with
      | none => simp [hl'] at hcx
      | some v =>
        simp only [hl'] at hcx ⊢
        have hs : sSel s q o true (.field a fid []) = true := by
          simp only [leafSel, Bool.and_eq_true] at hlf
          exact hlf.1
        have := slFieldS s q o (.field a fid []) true b v hs (by simpa [expandSel, expandSels, expandSelsW] using hcx)
        simp [hc, this]
    | spread g => rw [ownSels_cons_other rfl]; exact ih
    | inline t sub' => rw [ownSels_cons_other rfl]; exact ih
    | typename => rw [ownSels_cons_other rfl]; exact ih

end SLA

/-! ## entries with other keys do not matter to `wholeN` -/

/-- none of the fragments selected at an abstract position of the general kind reads the key `__typename` or the key of an
    interface-level field of that position (decidable) -/
def absTagOk (c : Ctx) (op : ROperation) : Bool :=
  (aPayss c.s c.q c.o op.sels).all (fun gl =>
    gl.2.all (fun k => !(KNn c c.q.fragments.length (fragName c gl.1)).contains k))

theorem bodyEnvA_and {fenv : Nat → Prop} {P : Nat → Prop} {e : Env} {c : Ctx} {name pfx : String} {sels : List Sel}
    (h : BodyEnvA fenv e c name pfx sels) (hP : ∀ g ∈ aSpreadss c.s c.q c.o sels, P g) :
    BodyEnvA (fun g => fenv g ∧ P g) e c name pfx sels := by
  by_cases hsp : ∃ g, sels = [Sel.spread g]
  · obtain ⟨g, rfl⟩ := hsp
    unfold BodyEnvA at h ⊢
    simp only at h ⊢
    exact ⟨h.1, h.2, hP g (by simp [aSpreadss, aSpreads])⟩
  · have hnl : ∀ g, sels ≠ [Sel.spread g] := fun g hg => hsp ⟨g, hg⟩
    have h' := bodyEnvA_not_lone hnl h
    unfold BodyEnvA
    split
    · exact absurd rfl (hnl _)
    · exact ⟨h'.1, envSelsA_and sels pfx h'.2 hP⟩

end C01NG
end GqlVerif
