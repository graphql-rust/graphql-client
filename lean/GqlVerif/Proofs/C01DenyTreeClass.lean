import GqlVerif.Proofs.C01DenyTreeLossless
import GqlVerif.Proofs.C14GeneratedWitness
/-!
# the class `TreeOpR` ("`TreeOp` without the clause that excludes denied fields"), a concrete instance

`TreeOpR c op` is `TreeOp` evaluated with the deprecation strategy replaced by `allow`, i.e. literally the definition
of `TreeOp` with the conjunct `!(deprecated && strategy == deny)` deleted (`treeOpR_unfold`).  It contains `TreeOp`
and is contained in `TreeOpD`; for its operations every hypothesis of the theorems of `C01DenyTree` /
`C01DenyTreeLossless` holds (`treeOp_prune_of_treeOpR`, `tnOkOp_of_treeOpR`).  So `treeR_accepts`, `treeR_precise_iff`,
`treeR_lossless`, `treeR_roundtrip` are the four end-to-end theorems of `C01EndToEnd` for `TreeOpR` under ANY strategy
(under `allow` / `warn` nothing is pruned: `pruneSels_of_not_deny`, and the statements are those of `tree_*`).

The instance is the module of `C14GeneratedWitness` (`query Q { animal { __typename name when owner { id since } friends { name when } } when }`
under `deny`, `when` / `since` deprecated): every hypothesis evaluated, `wd_roundtrip`, rejected / accepted payloads.

`tn_condition_artifact` — where `tnOkOp` fails (a denied field aliased `__typename` next to `__typename`) the lemma
`conformsSel_erase` is false but the conclusion of `treeD_roundtrip` still holds on the witness: the side condition
comes from the proof route (reuse of `top_lossless` through `eraseDenied`), not from the generated code.
-/

namespace GqlVerif
namespace C01
namespace Deny
open Serde Spec C03 Codegen C01.E2E C14G

/-! ## the class -/

def allowCtx (c : Ctx) : Ctx := { c with o := { c.o with deprecation := .allow } }

/-- **`TreeOpR`**: `TreeOp` without the exclusion of denied fields -/
def TreeOpR (c : Ctx) (op : ROperation) : Bool := TreeOp (allowCtx c) op

theorem treeOpR_unfold (c : Ctx) (op : ROperation) :
    TreeOpR c op = (c.o.normalization == .none && (c.s.objects[op.objectId]?).isSome &&
      treeSels c.s (allowCtx c).o op.sels && EnumSpec.nodup (respKeys c.s op.sels)) := rfl

theorem allow_dep (c : Ctx) : ((allowCtx c).o.deprecation == DepStrategy.deny) = false := rfl

/-! ### response keys of the pruned selection -/

theorem respKeys_append (s : Schema) (xs ys : List Sel) : respKeys s (xs ++ ys) = respKeys s xs ++ respKeys s ys := by
  simp [respKeys]

theorem respKeys_cons (s : Schema) (x : Sel) (xs : List Sel) :
    respKeys s (x :: xs) = (respKey s x).toList ++ respKeys s xs := by
  simp only [respKeys, List.filterMap_cons]
  cases respKey s x <;> rfl

theorem respKeys_pruneSel_sublist (c : Ctx) (x : Sel) :
    (respKeys c.s (pruneSel c x)).Sublist (respKey c.s x).toList := by
  cases x with
  | field a fid sub =>
    cases hsf : c.s.fields[fid]? with
    | none => rw [pruneSel]; simp [hsf, respKeys, respKey]
    | some sf =>
      by_cases hd : isDenied c sf = true
      · rw [pruneSel_denied hsf hd]; simp [respKeys]
      · rw [pruneSel_kept hsf (by simpa using hd)]; simp [respKeys, respKey, hsf]
  | inline t sub => rw [pruneSel]; simp [respKeys, respKey]
  | spread g => rw [pruneSel]; simp [respKeys, respKey]
  | typename => rw [pruneSel]; simp [respKeys, respKey]

theorem respKeys_prune_sublist (c : Ctx) : ∀ sels : List Sel,
    (respKeys c.s (pruneSels c sels)).Sublist (respKeys c.s sels)
  | [] => by rw [pruneSels]; simp [respKeys]
  | x :: xs => by
    rw [pruneSels, respKeys_append, respKeys_cons]
    exact List.Sublist.append (respKeys_pruneSel_sublist c x) (respKeys_prune_sublist c xs)

theorem nodup_respKeys_prune (c : Ctx) (sels : List Sel) (h : EnumSpec.nodup (respKeys c.s sels) = true) :
    EnumSpec.nodup (respKeys c.s (pruneSels c sels)) = true :=
  nodup_iff'.mpr (List.Nodup.sublist (respKeys_prune_sublist c sels) (nodup_iff'.mp h))

theorem deniedKey_respKey {c : Ctx} {x : Sel} {k : String} (h : deniedKey c x = some k) : respKey c.s x = some k := by
  cases x with
  | field a fid sub =>
    simp only [deniedKey, respKey] at h ⊢
    cases hsf : c.s.fields[fid]? with
    | none => simp [hsf] at h
    | some sf =>
      simp only [hsf] at h ⊢
      split at h
      · simpa using h
      · cases h
  | inline t sub => simp [deniedKey] at h
  | spread g => simp [deniedKey] at h
  | typename => simp [deniedKey] at h

theorem deniedKeys_subset_respKeys {c : Ctx} {sels : List Sel} {k : String} (h : k ∈ deniedKeys c sels) :
    k ∈ respKeys c.s sels := by
  obtain ⟨x, hx, hkx⟩ := List.mem_filterMap.mp h
  exact List.mem_filterMap.mpr ⟨x, hx, deniedKey_respKey hkx⟩

theorem typename_mem_of_has {sels : List Sel} (h : hasTypename sels = true) : Sel.typename ∈ sels := by
  simp only [hasTypename, List.any_eq_true] at h
  obtain ⟨x, hx, hxt⟩ := h
  cases x <;> simp at hxt
  exact hx

/-- with pairwise distinct response keys, a selection set that selects `__typename` has no denied field with that key -/
theorem tnHere_of_respNodup (c : Ctx) (sels : List Sel) (h : EnumSpec.nodup (respKeys c.s sels) = true) :
    tnHere c sels = true := by
  by_cases ht : hasTypename sels = true
  · have hmem := typename_mem_of_has ht
    have hnot : "__typename" ∉ deniedKeys c sels := by
      intro hd
      have hnd := nodup_iff'.mp h
      clear h ht
      induction sels with
      | nil => simp at hmem
      | cons x xs ih =>
        rw [respKeys_cons] at hnd
        simp only [deniedKeys, List.filterMap_cons] at hd
        rcases List.mem_cons.mp hmem with hx | hx
        · subst hx
          simp only [deniedKey] at hd
          have hin := deniedKeys_subset_respKeys (c := c) (sels := xs) hd
          have : respKey c.s .typename = some "__typename" := rfl
          rw [this] at hnd
          simp only [Option.toList_some, List.singleton_append, List.nodup_cons] at hnd
          exact hnd.1 hin
        · have htn : "__typename" ∈ respKeys c.s xs := List.mem_filterMap.mpr ⟨.typename, hx, rfl⟩
          cases hdk : deniedKey c x with
          | none =>
            rw [hdk] at hd
            exact ih hx hd (List.Nodup.sublist (List.sublist_append_right _ _) hnd)
          | some k =>
            rw [hdk] at hd
            rcases List.mem_cons.mp hd with hk | hd'
            · subst hk
              rw [deniedKey_respKey hdk] at hnd
              simp only [Option.toList_some, List.singleton_append, List.nodup_cons] at hnd
              exact hnd.1 htn
            · exact ih hx hd' (List.Nodup.sublist (List.sublist_append_right _ _) hnd)
    simp only [tnHere, ht, Bool.not_true, Bool.false_or, Bool.not_eq_true', List.contains_eq_mem,
      decide_eq_false_iff_not]
    intro hdrop
    simp only [dropKeys, List.mem_filter] at hdrop
    exact hnot hdrop.1
  · simp [tnHere, ht]

/-! ### the hypotheses of `C01DenyTree` / `C01DenyTreeLossless` for the class -/

mutual
  theorem classR_sel (c : Ctx) : ∀ x : Sel, treeSel c.s (allowCtx c).o x = true →
      treeSelD c x = true ∧ treeSels c.s c.o (pruneSel c x) = true ∧ tnOkSel c x = true
    | .field a fid sub => by
      intro h
      have IH := classR_sels c sub
      obtain ⟨sf, hsf, hw, _, hty⟩ := treeSel_kinds h
      rw [treeSelD, tnOkSel]
      have hP : ∀ t : Bool, treeSel c.s c.o (.field a fid (pruneSels c sub)) = t →
          treeSels c.s c.o (pruneSel c (.field a fid sub)) = (isDenied c sf || t) := by
        intro t ht
        cases hd : isDenied c sf
        · rw [pruneSel_kept hsf hd, treeSels, treeSels, ht]; simp
        · rw [pruneSel_denied hsf hd]; simp [treeSels]
      have hdep : (sf.deprecation.isSome && c.o.deprecation == .deny) = isDenied c sf := rfl
      rw [hP _ rfl, treeSel]
      simp only [hsf, hw, hdep, Bool.true_and]
      rcases hty with ⟨k, n, hid, hn, rfl⟩ | ⟨k, en, hid, hn, rfl⟩ | ⟨i, ob, hid, ho, hsub, hk⟩
      · cases isDenied c sf <;> simp [hid, hn, pruneSels, tnHere, hasTypename, tnOkSels]
      · cases isDenied c sf <;> simp [hid, hn, pruneSels, tnHere, hasTypename, tnOkSels]
      · obtain ⟨h1, h2, h3⟩ := IH hsub
        cases isDenied c sf <;>
          simp [hid, ho, h1, h2, h3, nodup_kept_of_resp c sub hk, nodup_respKeys_prune c sub hk, tnHere_of_respNodup c sub hk]
    | .spread _ => by intro h; simp [treeSel] at h
    | .inline _ _ => by intro h; simp [treeSel] at h
    | .typename => by intro _; rw [pruneSel_typename]; simp [treeSelD, treeSels, treeSel, tnOkSel]
  theorem classR_sels (c : Ctx) : ∀ xs : List Sel, treeSels c.s (allowCtx c).o xs = true →
      treeSelsD c xs = true ∧ treeSels c.s c.o (pruneSels c xs) = true ∧ tnOkSels c xs = true
    | [] => by intro _; rw [pruneSels]; simp [treeSelsD, treeSels, tnOkSels]
    | x :: xs => by
      intro h
      obtain ⟨hx, hxs⟩ := treeSels_cons h
      obtain ⟨a1, a2, a3⟩ := classR_sel c x hx
      obtain ⟨b1, b2, b3⟩ := classR_sels c xs hxs
      rw [treeSelsD, pruneSels, tnOkSels, a1, b1, a3, b3]
      exact ⟨rfl, treeSels_append.mpr ⟨a2, b2⟩, rfl⟩
end

theorem treeOpR_parts {c : Ctx} {op : ROperation} (h : TreeOpR c op = true) :
    c.o.normalization = .none ∧ (c.s.objects[op.objectId]?).isSome = true ∧
      treeSels c.s (allowCtx c).o op.sels = true ∧ EnumSpec.nodup (respKeys c.s op.sels) = true :=
  treeOp_parts (c := allowCtx c) h

theorem treeOpD_of_treeOpR {c : Ctx} {op : ROperation} (h : TreeOpR c op = true) : TreeOpD c op = true := by
  obtain ⟨hn, ho, hs, hk⟩ := treeOpR_parts h
  simp only [TreeOpD, Bool.and_eq_true, beq_iff_eq]
  exact ⟨⟨⟨hn, ho⟩, (classR_sels c _ hs).1⟩, nodup_kept_of_resp c _ hk⟩

theorem treeOp_prune_of_treeOpR {c : Ctx} {op : ROperation} (h : TreeOpR c op = true) :
    TreeOp c (pruneOp c op) = true := by
  obtain ⟨hn, ho, hs, hk⟩ := treeOpR_parts h
  simp only [TreeOp, Bool.and_eq_true, beq_iff_eq, pruneOp_sels, pruneOp_objectId]
  exact ⟨⟨⟨hn, ho⟩, (classR_sels c _ hs).2.1⟩, nodup_respKeys_prune c _ hk⟩

theorem tnOkOp_of_treeOpR {c : Ctx} {op : ROperation} (h : TreeOpR c op = true) : tnOkOp c op = true := by
  obtain ⟨_, _, hs, hk⟩ := treeOpR_parts h
  simp only [tnOkOp, Bool.and_eq_true]
  exact ⟨tnHere_of_respNodup c _ hk, (classR_sels c _ hs).2.2⟩

/-! ### the class contains `TreeOp`; for `TreeOp` (and whenever the strategy is not `deny`) nothing is pruned -/

mutual
  theorem allow_of_treeSel (c : Ctx) : ∀ x : Sel, treeSel c.s c.o x = true →
      treeSel c.s (allowCtx c).o x = true ∧ pruneSel c x = [x]
    | .field a fid sub => by
      intro h
      have IH := allow_of_treeSels c sub
      obtain ⟨sf, hsf, hw, hdep, hty⟩ := treeSel_kinds h
      rw [pruneSel_kept hsf hdep, treeSel]
      simp only [hsf, hw, allow_dep, Bool.and_false, Bool.not_false, Bool.true_and]
      rcases hty with ⟨k, n, hid, hn, rfl⟩ | ⟨k, en, hid, hn, rfl⟩ | ⟨i, ob, hid, ho, hsub, hk⟩
      · simp [hid, hn, pruneSels]
      · simp [hid, hn, pruneSels]
      · obtain ⟨h1, h2⟩ := IH hsub
        simp [hid, ho, h1, h2, hk]
    | .spread _ => by intro h; simp [treeSel] at h
    | .inline _ _ => by intro h; simp [treeSel] at h
    | .typename => by intro _; exact ⟨by simp [treeSel], pruneSel_typename c⟩
  theorem allow_of_treeSels (c : Ctx) : ∀ xs : List Sel, treeSels c.s c.o xs = true →
      treeSels c.s (allowCtx c).o xs = true ∧ pruneSels c xs = xs
    | [] => by intro _; exact ⟨by simp [treeSels], by rw [pruneSels]⟩
    | x :: xs => by
      intro h
      obtain ⟨hx, hxs⟩ := treeSels_cons h
      obtain ⟨a1, a2⟩ := allow_of_treeSel c x hx
      obtain ⟨b1, b2⟩ := allow_of_treeSels c xs hxs
      rw [treeSels, pruneSels, a1, b1, a2, b2]
      exact ⟨rfl, rfl⟩
end

theorem treeOpR_of_treeOp {c : Ctx} {op : ROperation} (h : TreeOp c op = true) : TreeOpR c op = true := by
  obtain ⟨hn, ho, hs, hk⟩ := treeOp_parts h
  rw [treeOpR_unfold]
  simp only [Bool.and_eq_true, beq_iff_eq]
  exact ⟨⟨⟨hn, ho⟩, (allow_of_treeSels c _ hs).1⟩, hk⟩

/-- for an operation of `TreeOp` nothing is pruned, so the theorems below are `tree_*` there -/
theorem prune_id_of_treeOp {c : Ctx} {op : ROperation} (h : TreeOp c op = true) : pruneSels c op.sels = op.sels :=
  (allow_of_treeSels c _ (treeOp_parts h).2.2.1).2

mutual
  theorem pruneSel_of_not_deny (c : Ctx) (h : c.o.deprecation ≠ .deny) : ∀ x : Sel, pruneSel c x = [x]
    | .field a fid sub => by
      rw [pruneSel]
      cases hsf : c.s.fields[fid]? with
      | none => simp [pruneSels_of_not_deny c h sub]
      | some sf => simp [isDenied_false_of h sf, pruneSels_of_not_deny c h sub]
    | .inline t sub => by rw [pruneSel, pruneSels_of_not_deny c h sub]
    | .spread g => by rw [pruneSel]
    | .typename => by rw [pruneSel]
  theorem pruneSels_of_not_deny (c : Ctx) (h : c.o.deprecation ≠ .deny) : ∀ xs : List Sel, pruneSels c xs = xs
    | [] => by rw [pruneSels]
    | x :: xs => by rw [pruneSels, pruneSel_of_not_deny c h x, pruneSels_of_not_deny c h xs]; rfl
end

/-! ## the end-to-end theorems for the class -/

/-- **`treeR_accepts`: acceptance under any strategy.** -/
theorem treeR_accepts (c : Ctx) (opIdx : Nat) (op : ROperation) (items : List Item)
    (hop : c.q.operations[opIdx]? = some op) (ht : TreeOpR c op = true)
    (hgen : responseForQuery c opIdx = .ok items) (hok : moduleOk c items = true)
    (j : Json) (hc : conformsOp c op j = true) :
    ∃ v, Serde.de (moduleEnv c items) (.path "ResponseData") j = .ok v :=
  treeD_accepts c opIdx op items hop (treeOpD_of_treeOpR ht) (treeOp_prune_of_treeOpR ht) hgen hok j hc

/-- **`treeR_precise_iff` (C03): exact acceptance under any strategy.** -/
theorem treeR_precise_iff (c : Ctx) (opIdx : Nat) (op : ROperation) (items : List Item)
    (hop : c.q.operations[opIdx]? = some op) (ht : TreeOpR c op = true)
    (hgen : responseForQuery c opIdx = .ok items) (hok : moduleOk c items = true) (j : Json) :
    okB (Serde.de (moduleEnv c items) (.path "ResponseData") j) = conformsSelLoose c.s (pruneSels c op.sels) j :=
  treeD_precise_iff c opIdx op items hop (treeOpD_of_treeOpR ht) (treeOp_prune_of_treeOpR ht) hgen hok j

/-- **`treeR_lossless`: the round trip under any strategy.** -/
theorem treeR_lossless (c : Ctx) (opIdx : Nat) (op : ROperation) (items : List Item)
    (hop : c.q.operations[opIdx]? = some op) (ht : TreeOpR c op = true)
    (hgen : responseForQuery c opIdx = .ok items) (hok : moduleOk c items = true)
    (hro : rustOkSels c (pruneSels c op.sels) = true)
    (hrn : EnumSpec.nodup (rustNames c (pruneSels c op.sels)) = true)
    (j : Json) (hc : conformsOp c op j = true) (v : Val)
    (hd : Serde.de (moduleEnv c items) (.path "ResponseData") j = .ok v) :
    Serde.ser (moduleEnv c items) (.path "ResponseData") v = .ok (canonSelD c op j) :=
  treeD_lossless c opIdx op items hop (treeOpD_of_treeOpR ht) (treeOp_prune_of_treeOpR ht) (tnOkOp_of_treeOpR ht)
    hgen hok hro hrn j hc v hd

/-- **`treeR_roundtrip`**: acceptance and losslessness in one statement, under any strategy -/
theorem treeR_roundtrip (c : Ctx) (opIdx : Nat) (op : ROperation) (items : List Item)
    (hop : c.q.operations[opIdx]? = some op) (ht : TreeOpR c op = true)
    (hgen : responseForQuery c opIdx = .ok items) (hok : moduleOk c items = true)
    (hro : rustOkSels c (pruneSels c op.sels) = true)
    (hrn : EnumSpec.nodup (rustNames c (pruneSels c op.sels)) = true)
    (j : Json) (hc : conformsOp c op j = true) :
    Serde.roundtrip (moduleEnv c items) (.path "ResponseData") j = .ok (canonSelD c op j) :=
  treeD_roundtrip c opIdx op items hop (treeOpD_of_treeOpR ht) (treeOp_prune_of_treeOpR ht) (tnOkOp_of_treeOpR ht)
    hgen hok hro hrn j hc

/-! ## a concrete module under `deny` (the one of `C14GeneratedWitness`) -/

section Instance
open C14G.Witness

theorem wd_class : TreeOpR wCtx wOp = true := by decide +kernel
example : TreeOp wCtx wOp = false := by decide +kernel

def wdFull : Json :=
  .obj [("when", .str "root"),
        ("animal", .obj [("__typename", .str "Animal"), ("when", .str "2020"), ("name", .str "Rex"),
                         ("owner", .obj [("since", .str "2019"), ("id", .int 7)]),
                         ("friends", .arr [.obj [("name", .str "Tom"), ("when", .null)],
                                           .obj [("when", .str "x"), ("name", .null)]])])]
def wdCanon : Json :=
  .obj [("animal", .obj [("name", .str "Rex"),
                         ("owner", .obj [("id", .str "7")]),
                         ("friends", .arr [.obj [("name", .str "Tom")], .obj [("name", .null)]])])]

theorem wd_conforms : conformsOp wCtx wOp wdFull = true := by
  simp [conformsOp, rootName, conformsSel, confSels, confSel, wCtx, wSchema, wOp, wdFull, Json.lookup, accepts,
    acceptsNN, gtyOf, scalarOk, idOk, stringOk, i64Ok, Json.isNull, EnumSpec.nodup, respKeys, respKey, Schema.defaultScalars]

def wdPruned : List Sel :=
  [.field none 0 [.typename, .field none 1 [], .field none 3 [.field none 4 []], .field none 5 [.field none 1 []]]]

theorem wd_prune : pruneSels wCtx wOp.sels = wdPruned := by
  simp [pruneSels, pruneSel, wCtx, wOp, wSchema, isDenied, wdPruned]

theorem wd_canon : canonSelD wCtx wOp wdFull = wdCanon := by
  unfold canonSelD
  rw [wd_prune]
  simp [canonSel, canonEntries, canonField, canon, canonNN, idCanon, gtyOf, wCtx, wSchema, wdPruned, wdFull, wdCanon,
    Json.lookup, skipQ, Json.isNull, Schema.defaultScalars]
  decide

theorem wd_rust : rustOkSels wCtx (pruneSels wCtx wOp.sels) = true ∧
    EnumSpec.nodup (rustNames wCtx (pruneSels wCtx wOp.sels)) = true := by
  rw [wd_prune]
  have h1 : keywordReplace "animal" = "animal" := kw_not (by decide +kernel)
  have h2 : keywordReplace "name" = "name" := kw_not (by decide +kernel)
  have h3 : keywordReplace "owner" = "owner" := kw_not (by decide +kernel)
  have h4 : keywordReplace "friends" = "friends" := kw_not (by decide +kernel)
  have h5 : keywordReplace "id" = "id" := kw_not (by decide +kernel)
  have e1 : rustNames wCtx wdPruned = [keywordReplace "animal"] := rfl
  have e2 : rustNames wCtx [.typename, .field none 1 [], .field none 3 [.field none 4 []], .field none 5 [.field none 1 []]] =
      [keywordReplace "name", keywordReplace "owner", keywordReplace "friends"] := rfl
  have e3 : rustNames wCtx [.field none 4 []] = [keywordReplace "id"] := rfl
  have e4 : rustNames wCtx [.field none 1 []] = [keywordReplace "name"] := rfl
  have e5 : rustNames wCtx [] = [] := rfl
  refine ⟨?_, by rw [e1, h1]; decide +kernel⟩
  simp only [wdPruned, rustOkSels, rustOkSel, e2, e3, e4, e5, h2, h3, h4, h5]
  decide +kernel

theorem wd_roundtrip : Serde.roundtrip wEnv (.path "ResponseData") wdFull = .ok wdCanon := by
  rw [← wd_canon]
  exact treeR_roundtrip wCtx 0 wOp wItems rfl wd_class w_gen w_moduleOk wd_rust.1 wd_rust.2 wdFull wd_conforms

theorem wd_precise (j : Json) :
    okB (Serde.de wEnv (.path "ResponseData") j) = conformsSelLoose wSchema wdPruned j := by
  have := treeR_precise_iff wCtx 0 wOp wItems rfl wd_class w_gen w_moduleOk j
  rw [wd_prune] at this
  exact this

macro "wd_eval" : tactic => `(tactic|
  simp [conformsSelLoose, looseSels, looseArr, looseField, wSchema, wdPruned, Json.lookup, accepts, acceptsNN, gtyOf,
    scalarOk, idOk, stringOk, i64Ok, Json.isNull, nullableQ, countKey, Schema.defaultScalars])

example : okB (Serde.de wEnv (.path "ResponseData") wWith) = true := by rw [wd_precise]; unfold wWith; wd_eval
example : okB (Serde.de wEnv (.path "ResponseData")
    (.obj [("animal", .obj [("name", .int 3), ("when", .str "x")])])) = false := by rw [wd_precise]; wd_eval
example : okB (Serde.de wEnv (.path "ResponseData")
    (.obj [("animal", .obj [("owner", .obj [("since", .str "x")])])])) = false := by rw [wd_precise]; wd_eval

def tOp : ROperation :=
  { name := "T", kind := .query, objectId := 0, sels := [.typename, .field (some "__typename") 6 []] }
def tCtx : Ctx := { s := wSchema, q := { operations := [tOp] }, o := { deprecation := .deny }, cs := ⟨id, id⟩ }
def tItems : List Item := (responseForQuery tCtx 0).toOption.getD []
def tEnv : Env := moduleEnv tCtx tItems
def tJson : Json := .obj [("__typename", .str "Query")]

theorem tn_condition_artifact :
    TreeOpD tCtx tOp = true ∧ TreeOp tCtx (pruneOp tCtx tOp) = true ∧ tnOkOp tCtx tOp = false ∧
    responseForQuery tCtx 0 = .ok tItems ∧ moduleOk tCtx tItems = true ∧
    conformsOp tCtx tOp tJson = true ∧
    eraseDenied tCtx tOp tJson = .obj [] ∧
    conformsSel tCtx.s (rootName tCtx tOp) (pruneSels tCtx tOp.sels) (eraseDenied tCtx tOp tJson) = false ∧
    canonSelD tCtx tOp tJson = .obj [] ∧
    Serde.roundtrip tEnv (.path "ResponseData") tJson = .ok (canonSelD tCtx tOp tJson) := by
  have hp : pruneSels tCtx tOp.sels = [.typename] := by
    simp [pruneSels, pruneSel, tCtx, tOp, wSchema, isDenied]
  have he : eraseDenied tCtx tOp tJson = .obj [] := by
    simp [eraseDenied, eraseObj, eraseEntry, eraseKeys, dropKeys, deniedKeys, keptKeys, deniedKey,
      keptKey, isDenied, tCtx, tOp, wSchema, tJson]
  refine ⟨by decide +kernel, by decide +kernel, by decide +kernel, except_ok_of_isSome (by decide +kernel),
    by decide +kernel, ?_, he, ?_, ?_, ?_⟩
  · simp [conformsOp, rootName, conformsSel, confSels, confSel, tCtx, wSchema, tOp, tJson, Json.lookup, accepts,
      acceptsNN, gtyOf, scalarOk, stringOk, Json.isNull, EnumSpec.nodup, respKeys, respKey, Schema.defaultScalars]
  · rw [he, hp]; simp [conformsSel, confSels, confSel, Json.lookup, EnumSpec.nodup]
  · unfold canonSelD; rw [hp]; simp [canonSel, canonEntries, tJson]
  · refine treeD_roundtrip_pruned tCtx 0 tOp tItems rfl (by decide +kernel) (by decide +kernel)
      (except_ok_of_isSome (by decide +kernel)) (by decide +kernel) ?_ ?_ tJson ?_
    · rw [hp]; rfl
    · rw [hp]; rfl
    · show conformsSel tCtx.s (rootName tCtx (pruneOp tCtx tOp)) (pruneSels tCtx tOp.sels) tJson = true
      rw [hp]
      simp [rootName, pruneOp, conformsSel, confSels, confSel, tCtx, wSchema, tOp, tJson, Json.lookup,
        EnumSpec.nodup, respKeys, respKey]

/-- the `C14G.Witness.sibling_key_matters` scenario `query Q { animal { when: name  when } }` (the denied key is also the key of a
    kept sibling): the operation is NOT in `TreeOpR` (response keys not distinct) but the general theorems of
    `C01DenyTree` / `C01DenyTreeLossless` apply — no "denied key ≠ kept key" side condition is needed, because
    `eraseDenied` leaves such a key alone and the pruned selection reads it -/
theorem sibling_key_covered :
    TreeOpR sCtx sOp = false ∧
    Serde.roundtrip sEnv (.path "ResponseData") (.obj [("animal", .obj [("when", .str "Rex")])]) =
      .ok (.obj [("animal", .obj [("when", .str "Rex")])]) := by
  refine ⟨by decide +kernel, ?_⟩
  have hp : pruneSels sCtx sOp.sels = [.field none 0 [.field (some "when") 1 []]] := by
    simp [pruneSels, pruneSel, sCtx, sOp, wSchema, isDenied]
  have hc : canonSelD sCtx sOp (.obj [("animal", .obj [("when", .str "Rex")])]) =
      .obj [("animal", .obj [("when", .str "Rex")])] := by
    unfold canonSelD
    rw [hp]
    simp [canonSel, canonEntries, canonField, canon, canonNN, gtyOf, sCtx, wSchema, Json.lookup, skipQ, Json.isNull,
      Schema.defaultScalars]
  have := treeD_roundtrip sCtx 0 sOp sItems rfl (by decide +kernel) (by decide +kernel) (by decide +kernel)
    (except_ok_of_isSome (by decide +kernel)) (by decide +kernel) (by decide +kernel) (by decide +kernel)
    (.obj [("animal", .obj [("when", .str "Rex")])]) ?_
  · rw [hc] at this; exact this
  simp [conformsOp, rootName, conformsSel, confSels, confSel, sCtx, wSchema, sOp, Json.lookup, accepts,
    acceptsNN, gtyOf, scalarOk, stringOk, Json.isNull, EnumSpec.nodup, respKeys, respKey, Schema.defaultScalars]

/-- the payload `wWith` of `C14GeneratedWitness` — the denied key `when` twice at the root, of the wrong type in `animal`, … — does not conform to
    the operation as written, but its erasure `wWithout` conforms to the pruned operation: `treeD_roundtrip_of_erased` -/
theorem wd_roundtrip_dirty :
    Serde.roundtrip wEnv (.path "ResponseData") wWith = .ok (canonSelD wCtx wOp wWith) := by
  refine treeD_roundtrip_of_erased wCtx 0 wOp wItems rfl w_class (treeOp_prune_of_treeOpR wd_class) w_gen w_moduleOk
    wd_rust.1 wd_rust.2 wWith ?_
  rw [w_erase]
  show conformsSel wCtx.s (rootName wCtx (pruneOp wCtx wOp)) (pruneSels wCtx wOp.sels) wWithout = true
  rw [wd_prune]
  simp [rootName, pruneOp, conformsSel, confSels, confSel, wCtx, wSchema, wOp, wdPruned, wWithout, Json.lookup, accepts,
    acceptsNN, gtyOf, scalarOk, idOk, stringOk, i64Ok, Json.isNull, EnumSpec.nodup, respKeys, respKey,
    Schema.defaultScalars]

end Instance

end Deny
end C01
end GqlVerif
