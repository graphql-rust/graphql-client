import GqlVerif.Proofs.C01NestedGenXE
/-!
# `NestedGenOp`: the results (C01 / C03 / C17), from those of `NestedGen2Op`

`NestedGenOp ⊆ NestedGen2Op` (`nestedGen2Op_of_nestedGenOp`), and on `NestedGenOp` everything the statements about
`NestedGen2Op` speak of is what this namespace defines (`C01NestedGenXA`, `C01NestedGenXJ`: class predicate, closed form,
environment, key and side conditions, acceptance predicate, canonical form).  So each theorem about the emitted module is
the one of `NestedGen2Op`, read through these equalities.  The first part of the file (sections `AccA`, `EnvOfA`, `SLA`, `RTA`)
keeps this class's named steps `accSelA`, `envSelA_of`, `slFieldA`, `rtSelA` as corollaries of the steps of `NestedGen2Op`;
the theorems about the emitted module do not go through them.
-/

namespace GqlVerif
namespace C01NG
open Serde Spec C13 C03 Codegen C01 C01.E2E C01M C01N C01NA

/-! ## this class's named steps (`accSelA`, `envSelA_of`, `slFieldA`, `rtSelA`), as corollaries of those of `NestedGen2Op` -/

section AccA
variable (e : Env) (c : Ctx) (ok : TypeId → Nat → Bool) (whole : Nat → Bool → Json → Bool) (KN : String → List String)
  (fenv : Nat → Prop)

theorem accSelA : ∀ (x : Sel) (pfx : String), OkSpec c.q ok →
      (∀ p g, ok p g = true → fenv g → FragAcc e c whole KN g) → AccSelA e c ok whole KN fenv pfx x := by
  intro x pfx hok hfa p ht henv hk f hf
  have h := C01NX.accSelA e c ok whole KN fenv x pfx hok hfa p (C01NX.aSel_of_G c.s c.q c.o x p ht)
    (by rw [C01NX.envSelA_eq_G fenv e c hok x p pfx ht]; exact henv)
    (by rw [C01NX.keysOkA_eq_G KN c x p ht]; exact hk) f hf
  simpa only [C01NX.looseFieldA_eq_G whole _ x p _ ht] using h

end AccA

section EnvOfA
variable {c : Ctx} {items : List Item} {u : UsedTypes} {root : List Sel} (M : ModFacts c items u root)
  (hfr : FragsIn c items root) (hfrB : FragsInB c items root)
include M hfr hfrB

theorem envSelA_of {ok : TypeId → Nat → Bool} {fenv : Nat → Prop} (hok : OkSpec c.q ok)
      (hfenv : ∀ p g, ok (.object p) g = true → C02.Reach c.q root (.spread g) → fenv g) :
      ∀ (x : Sel) (pfx : String) (p : Nat), aSel ok c.s c.q c.o (.object p) x = true →
      (∀ it ∈ itemsA c pfx x, it ∈ items) → C02.Reach c.q root x → envSelA fenv (moduleEnv c items) c pfx x := by
  intro x pfx p ht hit hr
  rw [← C01NX.envSelA_eq_G fenv _ c hok x _ pfx ht]
  apply C01NX.envSelA_of M hfr hfrB hok hfenv x pfx p (C01NX.aSel_of_G c.s c.q c.o x _ ht) _ hr
  rw [C01NX.itemsA_eq_G c x _ pfx ht]
  exact hit

end EnvOfA

theorem own_fieldsOfA {ok : TypeId → Nat → Bool} {c : Ctx} (hok : OkSpec c.q ok) (pfx : String) (p : TypeId) :
    ∀ (sels : List Sel), aSels ok c.s c.q c.o p sels = true →
    (fieldsOfF c pfx sels).filter (fun f => !f.flatten) = fieldsOfV c pfx sels :=
  fun sels ht => C01NX.own_fieldsOfA hok pfx p sels (C01NX.aSels_of_G c.s c.q c.o sels p ht)

theorem fieldOfSelV_a {ok : TypeId → Nat → Bool} {c : Ctx} (pfx : String) (p : TypeId) (a : Option String) (fid : Nat)
    (sub : List Sel) (ht : aSel ok c.s c.q c.o p (.field a fid sub) = true) :
    ∃ sf ft, c.s.fields[fid]? = some sf ∧ leafNameV c pfx (a.getD sf.name) sf.ty.id = some ft ∧
      fieldOfSelV c pfx (.field a fid sub) = some (fieldOf c (a.getD sf.name) ft sf.ty.quals sf.deprecation) ∧
      wfQuals sf.ty.quals = true :=
  C01NX.fieldOfSelV_a pfx p a fid sub (C01NX.aSel_of_G c.s c.q c.o _ p ht)

section SLA
variable (s : Schema) (q : Query) (o : Options) (ok : TypeId → Nat → Bool) (whole : Nat → Bool → Json → Bool)
  (ex : Nat → Sel)

theorem slFieldA : ∀ (x : Sel) (p : TypeId) (b : Bool) (v : Json),
      (∀ g, FragOkAny s q o g → ex g = expandSel q (.spread g)) →
      (∀ i g, ok (.object i) g = true → ∀ kvs, (∀ k, countKey k kvs ≤ 1) → confSelV s i (ex g) kvs = true →
        whole g true (.obj kvs) = true) →
      (∀ i g, ok (.object i) g = true → ∀ b j, conformsV s i [ex g] j = true → whole g b j = true) →
      OkSpec q ok → (∀ gl ∈ aPays s q o x, ∀ i, ok (.object i) gl.1 = true → IrrL whole gl.1 gl.2) →
      aSel ok s q o p x = true →
      strictFieldV s (expandSelW ex x) v = true → looseFieldA whole s q o b x v = true := by
  intro x p b v hexA hmem hali hokS hirr ht h
  rw [← C01NX.looseFieldA_eq_G whole b x p v ht]
  apply C01NX.slFieldA s q o ok whole ex x p b v hexA hmem hali hokS _ (C01NX.aSel_of_G s q o x p ht) h
  rw [C01NX.aPays_eq_G x]
  exact hirr

end SLA

section RTA
variable (e : Env) (c : Ctx) (ok : TypeId → Nat → Bool) (whole : Nat → Bool → Json → Bool) (KN : String → List String)
  (fenv : Nat → Prop) (ex : Nat → Sel) (cent : Nat → List (String × Json) → List (String × Json))

theorem rtSelA : ∀ (x : Sel) (pfx : String), OkSpec c.q ok →
      (∀ p g, ok p g = true → fenv g → FragAcc e c whole KN g) →
      (∀ p g, ok p g = true → fenv g → FragRT e c ex cent KN g) →
      (∀ g, FragOkAny c.s c.q c.o g → ex g = expandSel c.q (.spread g)) → RTSelA e c ok KN fenv ex cent pfx x := by
  intro x pfx hok hfa hfr hexA p ht henv hk hs f hf
  have h := C01NX.rtSelA e c ok whole KN fenv ex cent x pfx hok hfa hfr hexA p (C01NX.aSel_of_G c.s c.q c.o x p ht)
    (by rw [C01NX.envSelA_eq_G fenv e c hok x p pfx ht]; exact henv)
    (by rw [C01NX.keysOkA_eq_G KN c x p ht]; exact hk)
    (by rw [C01NX.sideOkSelA_eq_G KN c x p ht]; exact hs) f hf
  simpa only [C01NX.canonFieldA_eq_G cent x p _ ht] using h

end RTA

/-! ## the emitted module -/

/-- **`nestedgen_items_shape`.**  For an operation of the class `NestedGenOp` the response items are, in closed
    form, `bodyItemsA`: those of `nested_items_shape`, and at a field of abstract type of the general kind `absItemsG`: the
    struct of the interface-level fields with the flattened tagged enum `…On` (the tagged enum alone without such fields), and
    per selected possible type `T` what `nestedabs_items_shape` gives (`variantHeadA`). -/
theorem nestedgen_items_shape (c : Ctx) (op : ROperation) (hop : op ∈ c.q.operations) (ht : NestedGenOp c op = true) :
    responseItems c op = .ok (bodyItemsA c "ResponseData" (c.cs.camel op.name) op.sels) := by
  rw [← C01NX.bodyItemsA_eq_G c op ht]
  exact C01NX.nestedgen2_items_shape c op hop (C01NX.nestedGen2Op_of_nestedGenOp c op ht)

/-- **the module of an operation of `NestedGenOp` is `EnvOK` and `EnvOKS`** (no fuel exhaustion, fuel independence), with no
    acyclicity hypothesis on the document -/
theorem nestedgen_module_envOK {c : Ctx} {opIdx : Nat} {op : ROperation} {items : List Item}
    (hop : c.q.operations[opIdx]? = some op) (ht : NestedGenOp c op = true)
    (hgen : responseForQuery c opIdx = .ok items) (hok : moduleOk c items = true) :
    SerdeFuel.EnvOK (moduleEnv c items) ∧ SerdeFuel.EnvOKS (moduleEnv c items) :=
  C01NX.nestedgen2_module_envOK hop (C01NX.nestedGen2Op_of_nestedGenOp c op ht) hgen hok

/-- **`nestedgen_precise_iff` (C03), as an equivalence**: on the module `responseForQuery` emits for an operation of
    `NestedGenOp`, `ResponseData` accepts exactly `conformsLooseA (wholeN c R)`, `R` the number of fragments -/
theorem nestedgen_precise_iff (c : Ctx) (opIdx : Nat) (op : ROperation) (items : List Item)
    (hop : c.q.operations[opIdx]? = some op) (ht : NestedGenOp c op = true) (hnd : fragNamesOk c = true)
    (hk : nestedGenKeysOk c op = true)
    (hgen : responseForQuery c opIdx = .ok items) (hok : moduleOk c items = true) (j : Json) :
    okB (Serde.de (moduleEnv c items) (.path "ResponseData") j) =
      conformsLooseA (wholeN c c.q.fragments.length) c.s c.q c.o false op.sels j := by
  rw [← C01NX.conformsLooseA_eq_G_op c op ht]
  exact C01NX.nestedgen2_precise_iff c opIdx op items hop (C01NX.nestedGen2Op_of_nestedGenOp c op ht) hnd
    (by rw [C01NX.nestedGen2KeysOk_eq_G c op ht]; exact hk) hgen hok j

theorem nestedgen_precise (c : Ctx) (opIdx : Nat) (op : ROperation) (items : List Item)
    (hop : c.q.operations[opIdx]? = some op) (ht : NestedGenOp c op = true) (hnd : fragNamesOk c = true)
    (hk : nestedGenKeysOk c op = true)
    (hgen : responseForQuery c opIdx = .ok items) (hok : moduleOk c items = true) (j : Json) (v : Val)
    (hd : Serde.de (moduleEnv c items) (.path "ResponseData") j = .ok v) :
    conformsLooseA (wholeN c c.q.fragments.length) c.s c.q c.o false op.sels j = true :=
  Top.precise_of_iff (nestedgen_precise_iff c opIdx op items hop ht hnd hk hgen hok j) hd

/-- **`nestedgen_accepts`.**  Every conforming response is accepted by the emitted `ResponseData`. -/
theorem nestedgen_accepts (c : Ctx) (opIdx : Nat) (op : ROperation) (items : List Item)
    (hop : c.q.operations[opIdx]? = some op) (ht : NestedGenOp c op = true) (hnd : fragNamesOk c = true)
    (hk : nestedGenKeysOk c op = true) (htag : absTagOk c op = true)
    (hgen : responseForQuery c opIdx = .ok items) (hok : moduleOk c items = true)
    (j : Json) (hc : conformsOpN c op j = true) :
    ∃ v, Serde.de (moduleEnv c items) (.path "ResponseData") j = .ok v :=
  C01NX.nestedgen2_accepts c opIdx op items hop (C01NX.nestedGen2Op_of_nestedGenOp c op ht) hnd
    (by rw [C01NX.nestedGen2KeysOk_eq_G c op ht]; exact hk) (by rw [C01NX.absTagOk_eq_G c op]; exact htag) hgen hok j hc

/-- **`nestedgen_lossless`.**  A conforming response that was read is written back as `normJson (canonSelA … j)`. -/
theorem nestedgen_lossless (c : Ctx) (opIdx : Nat) (op : ROperation) (items : List Item)
    (hop : c.q.operations[opIdx]? = some op) (ht : NestedGenOp c op = true) (hnd : fragNamesOk c = true)
    (hk : nestedGenKeysOk c op = true) (hr : nestedGenSideOk c op = true)
    (hgen : responseForQuery c opIdx = .ok items) (hok : moduleOk c items = true)
    (j : Json) (hc : conformsOpN c op j = true) (v : Val)
    (hd : Serde.de (moduleEnv c items) (.path "ResponseData") j = .ok v) :
    Serde.ser (moduleEnv c items) (.path "ResponseData") v =
      .ok (normJson (canonSelA (centN c c.q.fragments.length) c.s c.q c.o op.sels j)) := by
  rw [← C01NX.canonSelA_eq_G _ _ _ _ (nestedGenOp_parts ht).2.2]
  exact C01NX.nestedgen2_lossless c opIdx op items hop (C01NX.nestedGen2Op_of_nestedGenOp c op ht) hnd
    (by rw [C01NX.nestedGen2KeysOk_eq_G c op ht]; exact hk) (by rw [C01NX.nestedGen2SideOk_eq_G c op ht]; exact hr)
    hgen hok j hc v hd

/-- **`nestedgen_roundtrip`**: both in one statement -/
theorem nestedgen_roundtrip (c : Ctx) (opIdx : Nat) (op : ROperation) (items : List Item)
    (hop : c.q.operations[opIdx]? = some op) (ht : NestedGenOp c op = true) (hnd : fragNamesOk c = true)
    (hk : nestedGenKeysOk c op = true) (htag : absTagOk c op = true) (hr : nestedGenSideOk c op = true)
    (hgen : responseForQuery c opIdx = .ok items) (hok : moduleOk c items = true)
    (j : Json) (hc : conformsOpN c op j = true) :
    Serde.roundtrip (moduleEnv c items) (.path "ResponseData") j =
      .ok (normJson (canonSelA (centN c c.q.fragments.length) c.s c.q c.o op.sels j)) :=
  C01NX.nestedgen2_roundtrip_on_nestedGenOp c opIdx op items hop ht hnd hk htag hr hgen hok j hc

/-! ## on the smaller class the results are those of the smaller class -/

/-- **the restriction of `nestedgen_roundtrip` to `NestedAbsOp`**, under that class's own key and side conditions and with
    its own canonical form (`C01NA.canonSelA`); `nestedabs_roundtrip` is this theorem -/
theorem nestedgen_roundtrip_on_nestedAbsOp (c : Ctx) (opIdx : Nat) (op : ROperation) (items : List Item)
    (hop : c.q.operations[opIdx]? = some op) (ht : NestedAbsOp c op = true) (hnd : fragNamesOk c = true)
    (hk : nestedAbsKeysOk c op = true) (htag : C01NA.absTagOk c op = true) (hr : nestedAbsSideOk c op = true)
    (hgen : responseForQuery c opIdx = .ok items) (hok : moduleOk c items = true)
    (j : Json) (hc : conformsOpN c op j = true) :
    Serde.roundtrip (moduleEnv c items) (.path "ResponseData") j =
      .ok (normJson (C01NA.canonSelA (centN c c.q.fragments.length) c.s c.q c.o op.sels j)) := by
  have h := nestedgen_roundtrip c opIdx op items hop (nestedGenOp_of_nestedAbsOp c op ht) hnd
    (by rw [nestedGenKeysOk_eq_A c op ht]; exact hk) (by rw [absTagOk_eq_A c op ht]; exact htag)
    (by rw [nestedGenSideOk_eq_A c op ht]; exact hr) hgen hok j hc
  rw [h, canonSelA_eq_A _ _ _ _ (nestedAbsOp_parts ht).2.2]

end C01NG
end GqlVerif
