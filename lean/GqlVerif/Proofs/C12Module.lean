import GqlVerif.Proofs.C12Items
/-!
# C12 — by-value acyclicity of the WHOLE emitted module

`C12Items.lean` proves the by-value acyclicity of the emitted items **per chunk** (the input items w.r.t.
themselves, the fragment + response items w.r.t. themselves).  Here the statement is for the module
`responseForQuery c op` emits as a whole, the `Variables` struct included:

`items = builtinAliases ++ S ++ E ++ I ++ V ++ F.flatten ++ R`
(built-in aliases, scalar aliases, enums | input items | `Variables` (+ `default_*`) | fragments, response).

* §1 `acyclic_append` — the layer lemma: if no item of `X` holds by value a name **defined** by `Y`, and `X`
  and `Y` are acyclic, so is `X ++ Y` (no disjointness of names needed).
* §2 the by-value references of each layer: the leaf layer (`leaf_items_acyclic`, unconditional: alias
  targets are `bool` / `f64` / `i64` / `String` / a path `m::T`), the input items (`inputRefs`), the
  `Variables` struct (`varRefs`).
* §3 `respNamesOk`, `fixedNamesFree` (decidable, on schema + query + options; no generator run) and
  **`module_items_acyclic`**; `respNamesOk_of_noClash`, `module_items_acyclic_of_noClash` (`C02.NoClash` gives the
  distinctness of the response names); `variables_self_loop` — for EVERY context, a non-list variable whose
  rendered type is `Variables` gives a by-value self-loop (the `Variables` part of the third conjunct of
  `fixedNamesFree` is necessary in general, not only on a witness).

`fixedNamesFree` is sufficient, not minimal: a by-value reference from an input item or from `Variables` to a
fragment / response item (second halves of its conjuncts 2 and 3) cannot close a cycle on its own — a response
item would have to point back down through a leaf name.  For scalar- and enum-typed fields / variables these
halves already follow from `respNamesOk` (the reference is in `LeafNames c`, which no fragment / response item
may be named like); they add something only for input-typed ones, where the module defines the name twice
(`NoClash` fails) unless keyword escaping separates the item name from its mention.
-/
namespace GqlVerif
namespace C12Mod
open Codegen C12Graph C12I
open Relation (TransGen)

/-! ## 1. the layer lemma -/

/-- every item of `Y` named `n` holds nothing by value -/
def Sink (Y : List Item) (n : String) : Prop := ∀ it ∈ Y, it.name = n → byValueRefs it = []

/-- layer lemma on `mentionsByValue`: the by-value references of `X` only reach sinks of `Y` -/
theorem acyclic_append_mentions {X Y : List Item}
    (hX : ¬ ∃ a, TransGen (mentionsByValue X) a a) (hY : ¬ ∃ a, TransGen (mentionsByValue Y) a a)
    (hXY : ∀ it ∈ X, ∀ n ∈ byValueRefs it, Sink Y n) :
    ¬ ∃ a, TransGen (mentionsByValue (X ++ Y)) a a := by
  -- an edge out of a sink of `Y` is an edge of `X` into a sink of `Y`
  have stepA : ∀ a b, mentionsByValue (X ++ Y) a b → Sink Y a → mentionsByValue X a b ∧ Sink Y b := by
    rintro a b ⟨it, hit, hn, hr⟩ hs
    rcases List.mem_append.mp hit with hx | hy
    · exact ⟨⟨it, hx, hn, hr⟩, hXY it hx b hr⟩
    · rw [hs it hy hn] at hr; cases hr
  have A : ∀ a b, TransGen (mentionsByValue (X ++ Y)) a b → Sink Y a →
      TransGen (mentionsByValue X) a b ∧ Sink Y b := by
    intro a b h hs
    induction h with
    | single h => exact ⟨.single (stepA _ _ h hs).1, (stepA _ _ h hs).2⟩
    | tail _ h2 ih => exact ⟨.tail ih.1 (stepA _ _ h2 ih.2).1, (stepA _ _ h2 ih.2).2⟩
  have B : ∀ a b, TransGen (mentionsByValue (X ++ Y)) a b → TransGen (mentionsByValue Y) a b ∨ Sink Y b := by
    intro a b h
    induction h with
    | single h =>
      obtain ⟨it, hit, hn, hr⟩ := h
      rcases List.mem_append.mp hit with hx | hy
      · exact .inr (hXY it hx _ hr)
      · exact .inl (.single ⟨it, hy, hn, hr⟩)
    | tail _ h2 ih =>
      obtain ⟨it, hit, hn, hr⟩ := h2
      rcases List.mem_append.mp hit with hx | hy
      · exact .inr (hXY it hx _ hr)
      · rcases ih with ih | ih
        · exact .inl (.tail ih ⟨it, hy, hn, hr⟩)
        · rw [ih it hy hn] at hr; cases hr
  rintro ⟨a, ha⟩
  rcases B a a ha with h | h
  · exact hY ⟨a, h⟩
  · exact hX ⟨a, (A a a ha h).1⟩

/-- an item whose name is not among the defined names is the `default_*` block: it holds nothing -/
theorem sink_of_not_defines {Y : List Item} {n : String} (h : n ∉ Scope.defines Y) : Sink Y n := by
  intro it hit hn
  cases it with
  | defaults _ => rfl
  | _ =>
    exfalso; apply h
    simp only [Scope.defines, List.mem_filterMap]
    exact ⟨_, hit, by simp [Scope.itemDefines, ← hn]⟩

/-- **layer lemma**: if no item of `X` holds by value a name defined by `Y`, `X ++ Y` is acyclic as soon as
    `X` and `Y` are (the names of `X` and `Y` need not be disjoint) -/
theorem acyclic_append {X Y : List Item}
    (hX : ¬ ∃ a, TransGen (containsByValue X) a a) (hY : ¬ ∃ a, TransGen (containsByValue Y) a a)
    (hXY : ∀ it ∈ X, ∀ n ∈ byValueRefs it, n ∉ Scope.defines Y) :
    ¬ ∃ a, TransGen (containsByValue (X ++ Y)) a a := by
  rw [acyclic_iff] at hX hY ⊢
  exact acyclic_append_mentions hX hY (fun it hit n hn => sink_of_not_defines (hXY it hit n hn))

/-! ## 2. the by-value references of each layer -/

/-! ### the leaf layer: built-in aliases, scalar aliases, enums -/

/-- the path a custom scalar alias points to -/
def scalarPath (c : Ctx) (ident : String) : String := (c.o.scalarsModule.getD "super") ++ "::" ++ ident

/-- what the aliases of the leaf layer point to: the Rust primitives and the scalar paths -/
def leafRefs (c : Ctx) (u : UsedTypes) : List String :=
  ["bool", "f64", "i64", "String"] ++ (C02.scalarNames c u).map (scalarPath c)

theorem builtin_refs : ∀ it ∈ builtinAliases, ∀ n ∈ byValueRefs it, n ∈ ["bool", "f64", "i64", "String"] := by
  decide

theorem builtin_names : ∀ it ∈ builtinAliases, it.name ∈ ["Boolean", "Float", "Int", "ID"] := by decide

theorem scalarItems_shape {c : Ctx} {u : UsedTypes} {S : List Item} (h : scalarItems c u = .ok S) :
    ∀ it ∈ S, ∃ ident ∈ C02.scalarNames c u, it = .alias ident false (.path (scalarPath c ident)) := by
  have hn := C02.scalarItems_names h
  obtain ⟨ns, hns, rfl⟩ := C02.scalarItems_cases h
  intro it hit
  obtain ⟨n, hn', rfl⟩ := List.mem_map.mp hit
  refine ⟨c.o.normalization.scalarName c.cs n, ?_, rfl⟩
  rw [← hn]
  simp only [Scope.defines, List.mem_filterMap]
  exact ⟨_, hit, rfl⟩

theorem enumItems_refs {c : Ctx} {u : UsedTypes} {E : List Item} (h : enumItems c u = .ok E) :
    ∀ it ∈ E, byValueRefs it = [] := by
  obtain ⟨es, _, rfl⟩ := C02.enumItems_cases h
  intro it hit
  obtain ⟨e, _, rfl⟩ := List.mem_map.mp hit
  rfl

theorem path_ne_builtin (m x : String) : m ++ "::" ++ x ∉ ["Boolean", "Float", "Int", "ID"] := by
  intro h
  have hc : ':' ∈ (m ++ "::" ++ x).toList := by simp [String.toList_append]
  revert hc
  simp only [List.mem_cons, List.not_mem_nil, or_false] at h
  rcases h with h | h | h | h <;> rw [h] <;> decide

theorem leaf_refs {c : Ctx} {u : UsedTypes} {S E : List Item} (hS : scalarItems c u = .ok S)
    (hE : enumItems c u = .ok E) :
    ∀ it ∈ builtinAliases ++ S ++ E, ∀ n ∈ byValueRefs it, n ∈ leafRefs c u := by
  intro it hit n hn
  simp only [List.mem_append] at hit
  rcases hit with (hb | hs) | he
  · exact List.mem_append_left _ (builtin_refs it hb n hn)
  · obtain ⟨ident, hid, rfl⟩ := scalarItems_shape hS it hs
    simp only [byValueRefs, byValueLeaf, Option.toList_some, List.mem_singleton] at hn
    subst hn
    exact List.mem_append_right _ (List.mem_map.mpr ⟨ident, hid, rfl⟩)
  · rw [enumItems_refs hE it he] at hn; cases hn

/-- `C12I.acyclic_of_projection` with nothing to project onto: edges that strictly increase a measure form no cycle -/
theorem acyclic_of_rank {α : Type} (R : α → α → Prop) (m : α → Nat) (h : ∀ a b, R a b → m a < m b) :
    ¬ ∃ a, TransGen R a a := by
  have key : ∀ a b, TransGen R a b → m a < m b := by
    intro a b hab
    induction hab with
    | single e => exact h _ _ e
    | tail _ e ih => exact Nat.lt_trans ih (h _ _ e)
  rintro ⟨a, ha⟩
  exact Nat.lt_irrefl _ (key a a ha)

/-- **the leaf layer is acyclic, unconditionally**: a built-in alias points to a Rust primitive, a scalar
    alias `T` to the strictly longer path `m::T`, which is never one of `Boolean` / `Float` / `Int` / `ID` -/
theorem leaf_items_acyclic {c : Ctx} {u : UsedTypes} {S E : List Item} (hS : scalarItems c u = .ok S)
    (hE : enumItems c u = .ok E) :
    ¬ ∃ a, TransGen (containsByValue (builtinAliases ++ S ++ E)) a a := by
  rw [acyclic_iff]
  refine acyclic_of_rank _
    (fun n => if n ∈ ["Boolean", "Float", "Int", "ID"] then 0 else n.length + 1) ?_
  rintro a b ⟨it, hit, hn, hr⟩
  simp only [List.mem_append] at hit
  rcases hit with (hb | hs) | he
  · have hb' : b ∈ ["bool", "f64", "i64", "String"] := builtin_refs it hb b hr
    have ha : a ∈ ["Boolean", "Float", "Int", "ID"] := hn ▸ builtin_names it hb
    have hb2 : b ∉ ["Boolean", "Float", "Int", "ID"] := by
      revert hb'; simp only [List.mem_cons, List.not_mem_nil, or_false]
      rintro (h | h | h | h) <;> rw [h] <;> decide
    simp only [ha, hb2, if_true, if_false]
    omega
  · obtain ⟨ident, _, rfl⟩ := scalarItems_shape hS it hs
    simp only [byValueRefs, byValueLeaf, Option.toList_some, List.mem_singleton] at hr
    simp only [Item.name] at hn
    subst hr
    rw [← hn]
    have hb2 : scalarPath c ident ∉ ["Boolean", "Float", "Int", "ID"] := path_ne_builtin _ _
    simp only [hb2, if_false]
    have hl : (scalarPath c ident).length = (c.o.scalarsModule.getD "super").length + 2 + ident.length := by
      simp only [scalarPath, String.length_append]; rfl
    split <;> omega
  · rw [enumItems_refs hE it he] at hr; cases hr

/-! ### the input layer -/

/-- the type names the used input items hold **by value**: the rendered type of every field that is neither
    a list nor boxed (its target is not a recursive input) -/
def inputRefs (c : Ctx) (u : UsedTypes) : List String :=
  (c.s.inputs.zipIdx.filter (fun (x : StoredInput × Nat) => u.types.contains (.input x.2))).flatMap fun x =>
    x.1.fields.filterMap fun f =>
      if f.2.isIndirected || targetRecursive c.s f.2 then none
      else match c.s.typeName f.2.id with
        | .ok tn => some (mention c tn)
        | .error _ => none

theorem inputItems_refs {c : Ctx} {u : UsedTypes} {I : List Item} (h : inputItems c u = .ok I) :
    ∀ it ∈ I, ∀ n ∈ byValueRefs it, n ∈ inputRefs c u := by
  intro it hit n hn
  obtain ⟨k, i, hk, hi, hf⟩ := C02.inputItems_origin h it hit
  obtain ⟨p, hp, tn, htn, hm, hind, hrec⟩ := inputItem_byValueRefs hf n hn
  simp only [inputRefs, List.mem_flatMap, List.mem_filterMap]
  refine ⟨(i, k), ?_, p, hp, ?_⟩
  · rw [List.mem_filter, List.mem_zipIdx_iff_getElem?]
    exact ⟨by simpa using hi, by simpa using hk⟩
  · simp [hind, hrec, htn, hm]

/-! ### the `Variables` layer -/

/-- the type names the `Variables` struct holds by value: the (keyword-escaped) rendered type of every
    variable that is not a list -/
def varRefs (c : Ctx) (op : Nat) : List String :=
  (c.q.opVariables op).filterMap fun v =>
    if hasList v.ty.quals then none
    else match c.s.typeName v.ty.id with
      | .ok tn => some (keywordReplace (mention c tn))
      | .error _ => none

theorem variableType_byValue {c : Ctx} {v : RVariable} {t : RTy} {n : String} (h : variableType c v = .ok t)
    (hn : byValueLeaf t = some n) :
    ∃ tn, c.s.typeName v.ty.id = .ok tn ∧ n = keywordReplace (mention c tn) ∧ hasList v.ty.quals = false := by
  unfold variableType at h
  obtain ⟨tn, htn, h⟩ := C02.bind_ok h
  have hbv := decorateType_byValue h
  rw [hbv] at hn
  cases hl : hasList v.ty.quals with
  | true => simp [hl] at hn
  | false =>
    simp only [hl, Bool.false_eq_true, ↓reduceIte, Option.some.injEq] at hn
    exact ⟨tn, htn, hn.symm, rfl⟩

theorem variablesItems_refs {c : Ctx} {op : Nat} {V : List Item} (h : variablesItems c op = .ok V) :
    ∀ it ∈ V, ∀ n ∈ byValueRefs it, n ∈ varRefs c op := by
  rcases C02.variablesItems_cases h with ⟨_, rfl⟩ | ⟨_, fs, dfl, hfs, _, rfl⟩
  · intro it hit n hn
    simp only [List.mem_singleton] at hit
    subst hit; cases hn
  · intro it hit n hn
    simp only [List.mem_cons, List.not_mem_nil, or_false] at hit
    rcases hit with rfl | rfl
    · simp only [byValueRefs, List.mem_filterMap] at hn
      obtain ⟨f, hf, hfn⟩ := hn
      obtain ⟨v, hv, t, ht, rfl⟩ := C02.mapM_bind_pure_mem hfs f hf
      obtain ⟨tn, htn, hm, hl⟩ := variableType_byValue ht hfn
      simp only [varRefs, List.mem_filterMap]
      exact ⟨v, hv, by simp [hl, htn, hm]⟩
    · cases hn

/-! ### the fragment / response layer: names -/

theorem calc_itemDefines {c : Ctx} {fuel : Nat} {name pfx : String} {ty : TypeId} {sels : List Sel}
    {items : List Item} (h : calcSelection c fuel name pfx ty sels = .ok items) :
    ∀ it ∈ items, Scope.itemDefines it = some it.name := by
  refine C02.calc_shape (P := fun it => Scope.itemDefines it = some it.name) ?_ ?_ h
  · intro n t b; cases b <;> rfl
  · intro n fs vs it hit
    rcases C02.renderType_cases c n fs vs with e | e | e <;> rw [e] at hit <;>
      simp only [List.mem_cons, List.not_mem_nil, or_false] at hit
    · subst hit; rfl
    · subst hit; rfl
    · rcases hit with rfl | rfl <;> rfl

/-- the names of the fragment and response items, computed from the selection trees (`C02.moduleNames`) -/
def frNames (c : Ctx) (u : UsedTypes) (o : ROperation) : List String :=
  (sortNat u.fragments).flatMap (C02.fragmentNames c) ++
  C02.selectionNames c "ResponseData" (c.cs.camel o.name) (.object o.objectId) o.sels

theorem fr_names {c : Ctx} {fids : List Nat} {F : List (List Item)} {o : ROperation} {R : List Item}
    (hF : fids.mapM (fragmentItems c) = .ok F) (hR : responseItems c o = .ok R) :
    Scope.defines (F.flatten ++ R) = (F.flatten ++ R).map Item.name ∧
    Scope.defines (F.flatten ++ R) = fids.flatMap (C02.fragmentNames c) ++
      C02.selectionNames c "ResponseData" (c.cs.camel o.name) (.object o.objectId) o.sels := by
  constructor
  · apply C02.defines_eq_map_name
    intro it hit
    rcases List.mem_append.mp hit with hit | hit
    · obtain ⟨its, hits, hit⟩ := List.mem_flatten.mp hit
      obtain ⟨g, _, hg⟩ := C02.mapM_ok_mem hF its hits
      obtain ⟨fr, _, hc⟩ := C02.fragmentItems_ok hg
      exact calc_itemDefines hc it hit
    · exact calc_itemDefines hR it hit
  · rw [C02.defines_append, C02.mapM_defines_flatten (fun a its ha => C02.fragmentItems_names ha) hF]
    unfold responseItems at hR
    rw [C02.calc_names hR]

/-! ## 3. the module -/

/-- **the fragment / response names are fit** (the two naming hypotheses of `C12I.module_response_items_acyclic`,
    on the names computed from the selection trees): pairwise distinct, none is the rendered name of a
    scalar / enum of the schema (`C12I.fragment_named_String_cyclic`) -/
def respNamesOk (c : Ctx) (op : Nat) : Bool :=
  match allUsedTypes c.s c.q op, c.q.operations[op]? with
  | .ok u, some o => decide (frNames c u o).Nodup && (frNames c u o).all (fun n => !(LeafNames c).contains n)
  | _, _ => true

/-- **no by-value reference of a lower layer is a name defined by a higher layer** (decidable; schema, query,
    options and case functions only):
    * no used input item, nor `Variables`, nor a fragment / response item is named like the target of a
      leaf alias (`bool`, `f64`, `i64`, `String`, `m::T`);
    * no by-value field of a used input item has the rendered type `Variables` or that of a fragment /
      response item (e.g. an `extern_enums` enum or a scalar-filtered type called `Variables`, `ResponseData`,
      `Frag`, `QueryField`);
    * no non-list variable of the operation has such a rendered type (after keyword escaping) — in particular
      no `$v: Variables` for an input / extern enum called `Variables`. -/
def fixedNamesFree (c : Ctx) (op : Nat) : Bool :=
  match allUsedTypes c.s c.q op, c.q.operations[op]? with
  | .ok u, some o =>
    (leafRefs c u).all (fun n => !(C02.inputNames c u ++ "Variables" :: frNames c u o).contains n) &&
    (inputRefs c u).all (fun n => !("Variables" :: frNames c u o).contains n) &&
    (varRefs c op).all (fun n => !("Variables" :: frNames c u o).contains n)
  | _, _ => true

/-- **C12 for the whole module.**  The items `responseForQuery c op` emits — built-in aliases, scalar aliases,
    enums, input items, `Variables` (+ its `default_*` block), fragment items, response items — contain each other
    by value without cycle: every emitted Rust type has finite size.
    Hypotheses: `InputsWf`, `MentionsFaithful` (those of `C12I.input_items_acyclic`), `respNamesOk` (those of
    `C12I.module_response_items_acyclic`), `fixedNamesFree` (the layers are not short-circuited by a name). -/
theorem module_items_acyclic (c : Ctx) (op : Nat) (items : List Item)
    (hwf : InputsWf c.s) (hf : MentionsFaithful c)
    (hresp : respNamesOk c op = true) (hfix : fixedNamesFree c op = true)
    (h : responseForQuery c op = .ok items) :
    ¬ ∃ a, TransGen (containsByValue items) a a := by
  obtain ⟨u, S, E, F, I, V, o, R, hu, hS, hE, hF, hI, hV, ho, hR, rfl⟩ := C02.responseForQuery_ok_full h
  have ⟨hfr1, hfr2⟩ := fr_names hF hR
  have hfrn : Scope.defines (F.flatten ++ R) = frNames c u o := hfr2
  unfold respNamesOk at hresp
  unfold fixedNamesFree at hfix
  simp only [hu, ho, Bool.and_eq_true, decide_eq_true_eq, List.all_eq_true, Bool.not_eq_true',
    List.contains_eq_mem, decide_eq_false_iff_not] at hresp hfix
  obtain ⟨hnd, hleaf⟩ := hresp
  obtain ⟨⟨hfl, hfi⟩, hfv⟩ := hfix
  have aL := leaf_items_acyclic hS hE
  have aI := input_items_acyclic c u I hwf hf hI
  have dV : Scope.defines V = ["Variables"] := C02.variablesItems_names hV
  have aFR : ¬ ∃ a, TransGen (containsByValue (F.flatten ++ R)) a a := by
    obtain ⟨u', o', _, F', R', hu', ho', hF', hR', _, hac⟩ := responseForQuery_response_items_acyclic c op _ h
    rw [hu] at hu'; cases hu'
    rw [ho] at ho'; cases ho'
    rw [hF] at hF'; cases hF'
    rw [hR] at hR'; cases hR'
    refine hac (by rw [← hfr1, hfrn]; exact hnd) (fun it hit => hleaf it.name ?_)
    rw [← hfrn, hfr1]
    exact List.mem_map.mpr ⟨it, hit, rfl⟩
  have dVFR : Scope.defines (V ++ (F.flatten ++ R)) = "Variables" :: frNames c u o := by
    rw [C02.defines_append, dV, hfrn]; rfl
  have aV : ¬ ∃ a, TransGen (containsByValue V) a a := by
    rw [acyclic_iff]
    rintro ⟨a, ha⟩
    obtain ⟨b, _, hba⟩ := TransGen.tail'_iff.mp ha
    obtain ⟨it, hit, hn, hr⟩ := hba
    have hmem := hfv a (variablesItems_refs hV it hit a hr)
    obtain ⟨b', hab', _⟩ := TransGen.head'_iff.mp ha
    obtain ⟨it', hit', hn', hr'⟩ := hab'
    -- `a` is the name of an item of `V` that holds something: it is `Variables`
    have : a ∈ Scope.defines V := by
      refine Classical.byContradiction fun hd => ?_
      rw [sink_of_not_defines hd it' hit' hn'] at hr'
      cases hr'
    rw [dV, List.mem_singleton] at this
    exact hmem (this ▸ List.mem_cons_self)
  have aVFR : ¬ ∃ a, TransGen (containsByValue (V ++ (F.flatten ++ R))) a a :=
    acyclic_append aV aFR (fun it hit n hn hd => hfv n (variablesItems_refs hV it hit n hn)
      (by rw [hfrn] at hd; exact List.mem_cons_of_mem _ hd))
  have aIVFR : ¬ ∃ a, TransGen (containsByValue (I ++ (V ++ (F.flatten ++ R)))) a a :=
    acyclic_append aI aVFR (fun it hit n hn hd => hfi n (inputItems_refs hI it hit n hn)
      (by rw [dVFR] at hd; exact hd))
  have aAll : ¬ ∃ a, TransGen (containsByValue
      ((builtinAliases ++ S ++ E) ++ (I ++ (V ++ (F.flatten ++ R))))) a a :=
    acyclic_append aL aIVFR (fun it hit n hn hd => hfl n (leaf_refs hS hE it hit n hn)
      (by rw [C02.defines_append, dVFR, C02.inputItems_names hI] at hd; exact hd))
  simpa only [List.append_assoc] using aAll

/-! ### `respNamesOk` from `C02.NoClash` -/

/-- no fragment / response item is named like a scalar or an enum of the schema (hypothesis `hleaf` of
    `C12I.module_response_items_acyclic`, on the names computed from the selection trees) -/
def respLeafFree (c : Ctx) (op : Nat) : Bool :=
  match allUsedTypes c.s c.q op, c.q.operations[op]? with
  | .ok u, some o => (frNames c u o).all (fun n => !(LeafNames c).contains n)
  | _, _ => true

/-- `C02.NoClash` (no type name defined twice in the module: what compiling needs anyway) gives the
    distinctness half of `respNamesOk` -/
theorem respNamesOk_of_noClash {c : Ctx} {op : Nat} (hnc : C02.NoClash c op = true)
    (hlf : respLeafFree c op = true) : respNamesOk c op = true := by
  unfold respNamesOk
  unfold C02.NoClash at hnc
  unfold respLeafFree at hlf
  split
  · rename_i u o hu ho
    simp only [hu, ho, decide_eq_true_eq] at hnc hlf
    rw [Bool.and_eq_true, decide_eq_true_eq]
    refine ⟨?_, hlf⟩
    unfold C02.moduleNames at hnc
    rw [List.append_assoc] at hnc
    exact (List.nodup_append.mp hnc).2.1
  · rfl

/-- **C12 for the whole module, with `NoClash`** in place of the distinctness of the response names -/
theorem module_items_acyclic_of_noClash (c : Ctx) (op : Nat) (items : List Item)
    (hwf : InputsWf c.s) (hf : MentionsFaithful c) (hnc : C02.NoClash c op = true)
    (hlf : respLeafFree c op = true) (hfix : fixedNamesFree c op = true)
    (h : responseForQuery c op = .ok items) :
    ¬ ∃ a, TransGen (containsByValue items) a a :=
  module_items_acyclic c op items hwf hf (respNamesOk_of_noClash hnc hlf) hfix h

/-! ### the `Variables` conjunct is necessary in general -/

/-- **necessity, for every context**: if some non-list variable of the operation has the rendered type
    `Variables` (`"Variables" ∈ varRefs c op` — e.g. an input type, an `extern_enums` enum or a custom scalar of
    that name), the emitted `struct Variables` holds `Variables` by value: the module has a by-value self-loop -/
theorem variables_self_loop (c : Ctx) (op : Nat) (items : List Item) (h : responseForQuery c op = .ok items)
    (hv : "Variables" ∈ varRefs c op) : TransGen (containsByValue items) "Variables" "Variables" := by
  obtain ⟨u, S, E, F, I, V, o, R, hu, hS, hE, hF, hI, hV, ho, hR, rfl⟩ := C02.responseForQuery_ok_full h
  simp only [varRefs, List.mem_filterMap] at hv
  obtain ⟨v, hvm, hv⟩ := hv
  have key : ∃ it ∈ V, it.name = "Variables" ∧ "Variables" ∈ byValueRefs it := by
    rcases C02.variablesItems_cases hV with ⟨he, _⟩ | ⟨_, fs, dfl, hfs, _, rfl⟩
    · rw [he] at hvm; cases hvm
    · refine ⟨_, List.mem_cons_self, rfl, ?_⟩
      obtain ⟨f, hf, hfv⟩ := C02.mapM_ok_of_mem hfs v hvm
      obtain ⟨t, ht, hfv⟩ := C02.bind_ok hfv
      simp only [pure, Except.pure, Except.ok.injEq] at hfv
      subst hfv
      simp only [byValueRefs, List.mem_filterMap]
      refine ⟨_, hf, ?_⟩
      simp only
      unfold variableType at ht
      obtain ⟨tn, htn, ht⟩ := C02.bind_ok ht
      rw [decorateType_byValue ht]
      cases hl : hasList v.ty.quals with
      | true => simp [hl] at hv
      | false =>
        simp only [hl, Bool.false_eq_true, ↓reduceIte, htn, Option.some.injEq] at hv ⊢
        exact hv
  obtain ⟨it, hit, hn, hr⟩ := key
  have hmem : it ∈ builtinAliases ++ S ++ E ++ I ++ V ++ F.flatten ++ R := by
    simp only [List.mem_append]; exact .inl (.inl (.inr hit))
  exact .single ⟨it, hmem, hn, hr, List.mem_map.mpr ⟨it, hmem, hn⟩⟩

end C12Mod
end GqlVerif
