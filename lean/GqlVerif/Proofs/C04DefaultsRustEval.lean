import GqlVerif.Proofs.C04DefaultsRustLit
/-!
# C04 under `normalization = rust` — default literals, the semantic half: `evalLit` commutes with a renaming

For two environments related by a renaming (`EnvRen R e e'`, `C09NormSerde.lean`) whose items are well formed
(`ValWF`, `C04RustRename.lean`):

* `resolveTy_ren` — unfolding aliases / the consumer's types at the head of a type commutes with the renaming;
* `vrel_unresolve` — `VRel` at the resolved type is `VRel` at the type;
* **`evalLit_rename`** — `LitRel R EV`-related literals evaluate, at `TyRen R`-related types, to `VRel R e e'`-related
  values: if the first type-checks (`evalLit e l t = some x`) so does the second, and the two values are equal up to
  the identifiers of enum variants.  `EV` is tied to the two environments by `EnumFacts`: a path `Enum::Variant` whose
  variant exists in the enum `Enum` resolves to in `e` names, in `e'`, the variant at the same position.
-/
namespace GqlVerif
namespace C04DR
open C04S C04R C04D C09 C09N

section
variable {R : String → String → Prop} {e e' : Env}

/-! ## `resolveTy` -/

theorem resolveTyN_zero (e : Env) (t : RTy) : resolveTyN e 0 t = t := by
  cases t <;> rfl

theorem resolveTyN_ren (H : EnvRen R e e') : ∀ (n : Nat) {t t' : RTy}, TyRen R t t' →
    TyRen R (resolveTyN e n t) (resolveTyN e' n t')
  | 0, t, t', h => by rw [resolveTyN_zero, resolveTyN_zero]; exact h
  | n+1, .opt t, t', h => by obtain ⟨u, rfl, hu⟩ := tyRen_opt h; exact hu
  | n+1, .vec t, t', h => by obtain ⟨u, rfl, hu⟩ := tyRen_vec h; exact hu
  | n+1, .box t, t', h => by obtain ⟨u, rfl, hu⟩ := tyRen_box h; exact hu
  | n+1, .path p, t', h => by
    obtain ⟨p', rfl, hr⟩ := tyRen_path h
    cases hp : C04D.isPrimName p with
    | true =>
      have := prim_ren H hr hp; subst this
      rw [resolveTyN_prim e _ hp, resolveTyN_prim e' _ hp]
      exact hr
    | false =>
      have hp' : C04D.isPrimName p' = false :=
        (isPrimName_false_iff p').mpr (notPrim_ren H hr ((isPrimName_false_iff p).mp hp))
      rcases find_ren H hr with ⟨h1, h2⟩ | ⟨it, it', _, h1, h2, hit⟩
      · rcases extern_ren H hr with ⟨h3, h4⟩ | ⟨k, t1, k', t1', h3, h4, ht'⟩
        · simp only [resolveTyN, hp, hp', h1, h2, h3, h4, Bool.false_eq_true, ↓reduceIte]
          exact hr
        · simp only [resolveTyN, hp, hp', h1, h2, h3, h4, Bool.false_eq_true, ↓reduceIte]
          exact resolveTyN_ren H n ht'
      · cases hit with
        | «alias» hn ht' =>
          simp only [resolveTyN, hp, hp', h1, h2, Bool.false_eq_true, ↓reduceIte]
          exact resolveTyN_ren H n ht'
        | struct _ _ => simp only [resolveTyN, hp, hp', h1, h2, Bool.false_eq_true, ↓reduceIte]; exact hr
        | unitStruct _ => simp only [resolveTyN, hp, hp', h1, h2, Bool.false_eq_true, ↓reduceIte]; exact hr
        | tagged _ _ => simp only [resolveTyN, hp, hp', h1, h2, Bool.false_eq_true, ↓reduceIte]; exact hr
        | gqlEnum _ _ => simp only [resolveTyN, hp, hp', h1, h2, Bool.false_eq_true, ↓reduceIte]; exact hr
        | oneOf _ _ => simp only [resolveTyN, hp, hp', h1, h2, Bool.false_eq_true, ↓reduceIte]; exact hr
        | defaults _ => simp only [resolveTyN, hp, hp', h1, h2, Bool.false_eq_true, ↓reduceIte]; exact hr

theorem resolveTy_ren (H : EnvRen R e e') {t t' : RTy} (h : TyRen R t t') :
    TyRen R (resolveTy e t) (resolveTy e' t') := by
  unfold resolveTy
  rw [← All2.length_eq H.items, ← All2.length_eq H.externs]
  exact resolveTyN_ren H _ h

theorem vrel_unresolveN : ∀ (n : Nat) (t : RTy) {v v' : Val}, VRel R e e' (resolveTyN e n t) v v' → VRel R e e' t v v'
  | 0, t, _, _, h => by rwa [resolveTyN_zero] at h
  | n+1, .opt t, _, _, h => h
  | n+1, .vec t, _, _, h => h
  | n+1, .box t, _, _, h => h
  | n+1, .path p, v, v', h => by
    cases hp : C04D.isPrimName p with
    | true => rwa [resolveTyN_prim e _ hp] at h
    | false =>
      cases hf : e.find p with
      | none =>
        cases hx : e.externs.find? (·.1 == p) with
        | none =>
          simp only [resolveTyN, hp, hf, hx, Bool.false_eq_true, ↓reduceIte] at h
          exact h
        | some kt =>
          obtain ⟨k, t1⟩ := kt
          simp only [resolveTyN, hp, hf, hx, Bool.false_eq_true, ↓reduceIte] at h
          exact .extern hf hx (vrel_unresolveN n t1 h)
      | some it =>
        cases it with
        | «alias» a pub t1 =>
          simp only [resolveTyN, hp, hf, Bool.false_eq_true, ↓reduceIte] at h
          exact .alias hf (vrel_unresolveN n t1 h)
        | struct _ _ _ _ => simp only [resolveTyN, hp, hf, Bool.false_eq_true, ↓reduceIte] at h; exact h
        | unitStruct _ _ _ => simp only [resolveTyN, hp, hf, Bool.false_eq_true, ↓reduceIte] at h; exact h
        | tagged _ _ _ _ _ => simp only [resolveTyN, hp, hf, Bool.false_eq_true, ↓reduceIte] at h; exact h
        | gqlEnum _ _ _ _ _ _ => simp only [resolveTyN, hp, hf, Bool.false_eq_true, ↓reduceIte] at h; exact h
        | oneOf _ _ _ _ => simp only [resolveTyN, hp, hf, Bool.false_eq_true, ↓reduceIte] at h; exact h
        | defaults _ => simp only [resolveTyN, hp, hf, Bool.false_eq_true, ↓reduceIte] at h; exact h

theorem vrel_unresolve {t : RTy} {v v' : Val} (h : VRel R e e' (resolveTy e t) v v') : VRel R e e' t v v' :=
  vrel_unresolveN _ t h

/-- a prelude name resolves to itself, on both sides -/
theorem resolveTy_prim_ren (H : EnvRen R e e') {t t' : RTy} (h : TyRen R t t') {q : String} (hq : C04D.isPrimName q = true)
    (hr : resolveTy e t = .path q) : resolveTy e' t' = .path q := by
  have := resolveTy_ren H h
  rw [hr] at this
  obtain ⟨p', hp', hrp⟩ := tyRen_path this
  rw [hp', prim_ren H hrp hq]

/-! ## the members of a struct literal -/

/-- `FV` (field values): the member values of two struct literals, evaluated against corresponding member lists `fs`, are
    related member by member, under the same Rust identifiers -/
inductive FV (R : String → String → Prop) (e e' : Env) : List RField → List (String × Val) → List (String × Val) → Prop
  | nil : FV R e e' [] [] []
  | cons {f fs x x' vals vals'} : VRel R e e' f.ty x x' → FV R e e' fs vals vals' →
      FV R e e' (f :: fs) ((f.rust, x) :: vals) ((f.rust, x') :: vals')

theorem pw_of_FV {fields : List RField} (hnd : (fields.map (·.rust)).Nodup) :
    ∀ {gs : List RField} {vals vals' : List (String × Val)}, FV R e e' gs vals vals' → (∀ g ∈ gs, g ∈ fields) →
      PW R e e' fields vals vals'
  | _, _, _, .nil, _ => .nil
  | _, _, _, .cons (f := f) hv t, hsub => by
    refine .cons ⟨rfl, ⟨f, hsub f (by simp), rfl⟩, fun g hg hgr => ?_⟩ (pw_of_FV hnd t (fun g hg => hsub g (by simp [hg])))
    have : g = f := eq_of_key_eq (·.rust) hnd hg (hsub f (by simp)) hgr
    subst this
    exact hv

end

/-! ## `evalLit_rename` -/

/-- what ties `EV` to the two environments: a path `en::var` whose variant `var` exists in the string enum `en`
    resolves to in `e` names, in `e'`, the variant at the same position of the corresponding enum -/
def EnumFacts (R : String → String → Prop) (EV : String → String → String → Prop) (e e' : Env) : Prop :=
  ∀ en var var', EV en var var' → ∀ p p' n d sp ids ser de n' d' sp' ids' ser' de',
    resolveTy e (.path en) = .path p → R p p' → e.find p = some (.gqlEnum n d sp ids ser de) →
    e'.find p' = some (.gqlEnum n' d' sp' ids' ser' de') → var ∈ ids → (var, var') ∈ identPairs de de'

section
variable {R : String → String → Prop} {EV : String → String → String → Prop} {e e' : Env}
  (H : EnvRen R e e') (hw : ValWF e) (hw' : ValWF e') (hS : R "String" "String") (HE : EnumFacts R EV e e')
include H

theorem resolveTy_ren_at {t t' r : RTy} (ht : TyRen R t t') (hr : resolveTy e t = r) : TyRen R r (resolveTy e' t') :=
  hr ▸ resolveTy_ren H ht

/-- the common part of the three named-type cases: the type of the position and the name written in the literal
    resolve, in `e'`, to the partner of the item they resolve to in `e` -/
theorem names_ren {t t' : RTy} (ht : TyRen R t t') {name name' p : String} {it : Item} (hN : R name name')
    (h : C04D.Names e name t p it) :
    ∃ p' it', R p p' ∧ it ∈ e.items ∧ ItemRen R it it' ∧ C04D.Names e' name' t' p' it' := by
  obtain ⟨p', hp', hrp⟩ := tyRen_path (resolveTy_ren_at H ht h.ty)
  obtain ⟨p'', hp'', hrp''⟩ := tyRen_path (resolveTy_ren_at H (show TyRen R (.path name) (.path name') from hN) h.name)
  have : p' = p'' := (H.bij p p' p p'' hrp hrp'').mp rfl
  subst this
  obtain ⟨it', hmem, h2, hit⟩ := find_ren_some H hrp h.find
  exact ⟨p', it', hrp, hmem, hit, hp',
    (isPrimName_false_iff p').mpr (notPrim_ren H hrp ((isPrimName_false_iff p).mp h.notPrim)), hp'', h2⟩

include hw hw' hS HE

set_option linter.unusedSectionVars false in
mutual
  theorem evalLit_rename : ∀ (l l' : LitExpr), LitRel R EV l l' → ∀ (t t' : RTy), TyRen R t t' → ∀ x,
      evalLit e l t = some x → ∃ x', evalLit e' l' t' = some x' ∧ VRel R e e' t x x'
    | .bool b, _, h, t, t', ht, x, hx => by
      cases h
      obtain ⟨hr, rfl⟩ := C04D.evalLit_bool.mp hx
      exact ⟨_, C04D.evalLit_bool.mpr ⟨resolveTy_prim_ren H ht (by decide) hr, rfl⟩,
        vrel_unresolve (by rw [hr]; exact .leaf (j := .bool b) rfl)⟩
    | .str s, _, h, t, t', ht, x, hx => by
      cases h
      obtain ⟨hr, rfl⟩ := C04D.evalLit_str.mp hx
      exact ⟨_, C04D.evalLit_str.mpr ⟨resolveTy_prim_ren H ht (by decide) hr, rfl⟩,
        vrel_unresolve (by rw [hr]; exact .leaf (j := .str s) rfl)⟩
    | .int n, _, h, t, t', ht, x, hx => by
      cases h
      obtain ⟨hr, hn, rfl⟩ := C04D.evalLit_int.mp hx
      exact ⟨_, C04D.evalLit_int.mpr ⟨resolveTy_prim_ren H ht (by decide) hr, hn, rfl⟩,
        vrel_unresolve (by rw [hr]; exact .leaf (j := .int n) rfl)⟩
    | .float tok, _, h, t, t', ht, x, hx => by
      cases h
      obtain ⟨hr, rfl⟩ := C04D.evalLit_float.mp hx
      exact ⟨_, C04D.evalLit_float.mpr ⟨resolveTy_prim_ren H ht (by decide) hr, rfl⟩,
        vrel_unresolve (by rw [hr]; exact .leaf (j := floatJson tok) rfl)⟩
    | .ident _, _, h, t, t', ht, x, hx => by simp [evalLit] at hx
    | .compileError _, _, h, t, t', ht, x, hx => by simp [evalLit] at hx
    | .none, _, h, t, t', ht, x, hx => by
      cases h
      obtain ⟨u, hr, rfl⟩ := C04D.evalLit_none.mp hx
      obtain ⟨u', hu', _⟩ := tyRen_opt (resolveTy_ren_at H ht hr)
      exact ⟨_, C04D.evalLit_none.mpr ⟨u', hu', rfl⟩, .plain rfl⟩
    | .some l, _, h, t, t', ht, x, hx => by
      cases h with
      | some h =>
        obtain ⟨u, y, hr, hy, rfl⟩ := C04D.evalLit_some.mp hx
        obtain ⟨u', hu', hu⟩ := tyRen_opt (resolveTy_ren_at H ht hr)
        obtain ⟨y', hy', hv⟩ := evalLit_rename l _ h u u' hu y hy
        exact ⟨_, C04D.evalLit_some.mpr ⟨u', y', hu', hy', rfl⟩, vrel_unresolve (by rw [hr]; exact .some hv)⟩
    | .box l, _, h, t, t', ht, x, hx => by
      cases h with
      | box h =>
        obtain ⟨u, hr, hy⟩ := C04D.evalLit_box.mp hx
        obtain ⟨u', hu', hu⟩ := tyRen_box (resolveTy_ren_at H ht hr)
        obtain ⟨y', hy', hv⟩ := evalLit_rename l _ h u u' hu x hy
        exact ⟨_, C04D.evalLit_box.mpr ⟨u', hu', hy'⟩, vrel_unresolve (by rw [hr]; exact .box hv)⟩
    | .vec ls, _, h, t, t', ht, x, hx => by
      cases h with
      | vec h =>
        obtain ⟨u, ys, hr, hys, rfl⟩ := C04D.evalLit_vec.mp hx
        obtain ⟨u', hu', hu⟩ := tyRen_vec (resolveTy_ren_at H ht hr)
        obtain ⟨ys', hys', hv⟩ := evalList_rename ls _ h u u' hu ys hys
        exact ⟨_, C04D.evalLit_vec.mpr ⟨u', ys', hu', hys', rfl⟩,
          vrel_unresolve (by rw [hr]; exact vrel_ofList hv)⟩
    | .struct name fields, _, h, t, t', ht, x, hx => by
      cases h with
      | struct hN hfs =>
        obtain ⟨p, n, d, sc, fs, vals, hnm, hvals, rfl⟩ := C04D.evalLit_struct.mp hx
        obtain ⟨p', it', hrp, hmem, hit, hnm'⟩ := names_ren H ht hN hnm
        cases hit with
        | struct hn hfr =>
          obtain ⟨vals', hvals', hfv⟩ := evalFields_rename fields _ hfs fs _ hfr vals hvals
          exact ⟨_, C04D.evalLit_struct.mpr ⟨p', _, _, _, _, vals', hnm', hvals', rfl⟩,
            vrel_unresolve (by rw [hnm.ty]; exact vrel_ofPW hnm.find (pw_of_FV (hw _ hmem) hfv (fun _ h => h)))⟩
    | .path en var, _, h, t, t', ht, x, hx => by
      cases h with
      | path hN hEV =>
        obtain ⟨p, n, d, sp, ids, ser, de, hnm, hmemv, rfl⟩ := C04D.evalLit_path.mp hx
        obtain ⟨p', it', hrp, hmem, hit, hnm'⟩ := names_ren H ht hN hnm
        cases hit with
        | gqlEnum hn hen =>
          have hm := HE en var _ hEV p p' _ _ _ _ _ _ _ _ _ _ _ _ hnm.name hrp hnm.find hnm'.find hmemv
          have hids' := hw' _ (mem_of_find hnm'.find)
          exact ⟨_, C04D.evalLit_path.mpr ⟨p', _, _, _, _, _, _, hnm', by rw [hids']; exact (List.of_mem_zip hm).2, rfl⟩,
            vrel_unresolve (by rw [hnm.ty]; exact .enum hnm.find hrp hnm'.find hm)⟩
    | .variant en var l, _, h, t, t', ht, x, hx => by
      cases h with
      | variant hN hl =>
        rcases C04D.evalLit_variant.mp hx with ⟨p, n, d, sc, vs, v, u, y, hnm, hf1, hpay, hy, rfl⟩ |
          ⟨p, n, d, sp, ids, ser, de, s, hnm, rfl, hy, rfl⟩
        · obtain ⟨p', it', hrp, hmem, hit, hnm'⟩ := names_ren H ht hN hnm
          cases hit with
          | oneOf hn hvs =>
            rcases All2.find? (p := fun v : RVariant => v.name == var) (q := fun v : RVariant => v.name == var) hvs
                (fun a b _ hab => by simp only [hab.name]) with ⟨hn1, _⟩ | ⟨v0, v', hvm, hf0, hf2, hvv⟩
            · rw [hf1] at hn1; cases hn1
            · rw [hf1] at hf0; cases hf0
              have hp := hvv.payload
              rw [hpay] at hp
              obtain ⟨u', hpay', hp⟩ := optTyRen_some hp
              obtain ⟨y', hy', hv⟩ := evalLit_rename l _ hl u u' hp y hy
              have hvn : v.name = var := by simpa using List.find?_some hf1
              refine ⟨_, C04D.evalLit_variant.mpr (.inl ⟨p', _, _, _, _, v', u', y', hnm', hf2, hpay', hy', rfl⟩),
                vrel_unresolve ?_⟩
              rw [hnm.ty]
              refine .oneOf hnm.find ⟨v, hvm, hvn, u, hpay⟩ (fun w hwm hwn u2 hu2 => ?_)
              have hnd : (vs.map (·.name)).Nodup := hw _ hmem
              have : w = v := eq_of_key_eq (·.name) hnd hwm hvm (hwn.trans hvn.symm)
              subst this
              rw [hpay] at hu2; cases hu2
              exact hv
        · obtain ⟨p', it', hrp, hmem, hit, hnm'⟩ := names_ren H ht hN hnm
          cases hit with
          | gqlEnum hn hen =>
            obtain ⟨y', hy', hv⟩ := evalLit_rename l _ hl (.path "String") (.path "String") hS _ hy
            have : y' = .str s := vrel_prim_eq hv _ rfl
            subst this
            exact ⟨_, C04D.evalLit_variant.mpr (.inr ⟨p', _, _, _, _, _, _, s, hnm', rfl, hy', rfl⟩),
              vrel_unresolve (by rw [hnm.ty]; exact .leaf (j := .str s) rfl)⟩
  theorem evalList_rename : ∀ (ls ls' : List LitExpr), LitRelList R EV ls ls' → ∀ (t t' : RTy), TyRen R t t' → ∀ xs,
      evalList e ls t = some xs → ∃ xs', evalList e' ls' t' = some xs' ∧ All2 (VRel R e e' t) xs xs'
    | [], _, h, t, t', ht, xs, hx => by
      cases h
      simp only [evalList, Option.some.injEq] at hx ⊢
      subst hx
      exact ⟨[], rfl, .nil⟩
    | l :: ls, _, h, t, t', ht, xs, hx => by
      cases h with
      | cons h1 h2 =>
        simp only [evalList, Option.bind_eq_bind, Option.bind_eq_some_iff, Option.pure_def, Option.some.injEq] at hx
        obtain ⟨y, hy, ys, hys, rfl⟩ := hx
        obtain ⟨y', hy', hv⟩ := evalLit_rename l _ h1 t t' ht y hy
        obtain ⟨ys', hys', hvs⟩ := evalList_rename ls _ h2 t t' ht ys hys
        refine ⟨y' :: ys', ?_, .cons hv hvs⟩
        simp only [evalList, hy', hys', Option.bind_eq_bind, Option.bind_some, Option.pure_def]
  theorem evalFields_rename : ∀ (fields fields' : List (String × LitExpr)), LitRelFields R EV fields fields' →
      ∀ (fs fs' : List RField), All2 (FieldRen R) fs fs' → ∀ vals, evalFields e fs fields = some vals →
        ∃ vals', evalFields e' fs' fields' = some vals' ∧ FV R e e' fs vals vals'
    | [], _, h, fs, fs', hfr, vals, hx => by
      cases h
      cases hfr with
      | nil =>
        simp only [evalFields, Option.some.injEq] at hx ⊢
        subst hx
        exact ⟨[], rfl, .nil⟩
      | cons _ _ => simp [evalFields] at hx
    | (k, l) :: fields, _, h, fs, fs', hfr, vals, hx => by
      cases h with
      | cons h1 h2 =>
        cases hfr with
        | nil => simp [evalFields] at hx
        | cons hf hfr =>
          rename_i f f' fs fs'
          simp only [evalFields] at hx
          split at hx
          · rename_i hk
            simp only [Option.bind_eq_bind, Option.bind_eq_some_iff, Option.pure_def, Option.some.injEq] at hx
            obtain ⟨y, hy, ys, hys, rfl⟩ := hx
            obtain ⟨y', hy', hv⟩ := evalLit_rename l _ h1 f.ty f'.ty hf.ty y hy
            obtain ⟨ys', hys', hvs⟩ := evalFields_rename fields _ h2 fs fs' hfr ys hys
            refine ⟨(f.rust, y') :: ys', ?_, .cons hv hvs⟩
            simp only [evalFields, hf.rust, hk, ↓reduceIte, hy', hys', Option.bind_eq_bind, Option.bind_some,
              Option.pure_def]
          · cases hx
end

end

end C04DR
end GqlVerif
