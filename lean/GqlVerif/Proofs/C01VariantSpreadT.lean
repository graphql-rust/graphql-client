import GqlVerif.Proofs.C01VariantSpreadB
/-!
# C01 / C03 end to end: fragment spreads at abstract positions (`VariantSpreadOp`): the environment of an emitted module, `variantspread_accepts`

**`variantspread_accepts`**: `conformsOpS c op j → ∃ v, Serde.de (moduleEnv c items) ResponseData j = .ok v`, where `conformsOpS`
is the specification `conformsV` on the root selection set with every spread replaced by the inline fragment
`... on T { body }` (`expandSels`, GraphQL §6.4.3).  **`variantspread_precise_iff`** (C03): `Serde.de … j` succeeds **iff**
`conformsLooseS c.s c.q c.o false op.sels j`.

Hypotheses (decidable): `VariantSpreadOp c op` (`C01VariantSpreadA`; it contains the key-disjointness conditions `absOkS`),
`moduleOk c items`.

The environment hypotheses of `C01VariantSpreadB` hold for the module `responseForQuery` emits: the items of every spread
fragment are in the module (`FragsIn` / `FragsInB`, from `C02.selected_types_used` and `fragment_struct_shape` /
`fragment_abs_shape`), and the depth of the selection tree *through spreads* is below the number of items of the module — the
response items plus the items of the spread fragments (`depthS_sels`), so the fuel of `Serde.de` suffices.
-/

namespace GqlVerif
namespace C01
namespace E2E
open Serde C03 Codegen

/-! ## fuel: depth (through spreads) vs. number of emitted items -/

/-- the items emitted below the selection `x` of a selection set with prefix `pfx` -/
def allItemsS (c : Ctx) (pfx : String) : Sel → List Item
  | .inline t isub => itemsSs c (pfx ++ "On" ++ c.cs.camel (objName c.s t)) isub
  | x => itemsS c pfx x

def inlBonus : Sel → Nat
  | .inline _ _ => 1
  | _ => 0

theorem mem_itemsSs {c : Ctx} {pfx : String} {it : Item} : ∀ {sels : List Sel} {x : Sel}, x ∈ sels →
    it ∈ itemsS c pfx x → it ∈ itemsSs c pfx sels
  | [], _, h, _ => by simp at h
  | y :: ys, x, h, hit => by
    rw [itemsSs, List.mem_append]
    rcases List.mem_cons.mp h with rfl | h'
    · exact .inl hit
    · exact .inr (mem_itemsSs h' hit)

theorem mem_varItems {c : Ctx} {pfx : String} {vt : TypeId} {it : Item} : ∀ {sels : List Sel} {x : Sel}, x ∈ sels →
    it ∈ varItem c pfx vt x → it ∈ varItems c pfx vt sels
  | [], _, h, _ => by simp at h
  | y :: ys, x, h, hit => by
    rw [varItems, List.mem_append]
    rcases List.mem_cons.mp h with rfl | h'
    · exact .inl hit
    · exact .inr (mem_varItems h' hit)

theorem length_itemsSs_ge (c : Ctx) (pfx : String) : ∀ (sels : List Sel) (x : Sel), x ∈ sels →
    (itemsS c pfx x).length ≤ (itemsSs c pfx sels).length
  | [], x, h => by simp at h
  | y :: ys, x, h => by
    rw [itemsSs, List.length_append]
    rcases List.mem_cons.mp h with rfl | h'
    · omega
    · have := length_itemsSs_ge c pfx ys x h'; omega

theorem length_varItems_ge (c : Ctx) (pfx : String) (vt : TypeId) : ∀ (sels : List Sel) (x : Sel), x ∈ sels →
    (varItem c pfx vt x).length ≤ (varItems c pfx vt sels).length
  | [], x, h => by simp at h
  | y :: ys, x, h => by
    rw [varItems, List.length_append]
    rcases List.mem_cons.mp h with rfl | h'
    · omega
    · have := length_varItems_ge c pfx vt ys x h'; omega

theorem depthsF_le_of_forall (q : Query) (B : Nat) : ∀ (sels : List Sel), (∀ x ∈ sels, depthF q x ≤ B) →
    depthsF q sels ≤ B
  | [], _ => by simp [depthsF]
  | x :: xs, h => by
    have := depthsF_le_of_forall q B xs (fun y hy => h y (List.mem_cons_of_mem _ hy))
    have := h x (by simp)
    rw [depthsF]; omega

/-- the variant of an inline fragment has a struct -/
theorem variantHead_length_inline (c : Ctx) (pfx : String) (t : TypeId) (isub : List Sel) (sub : List Sel)
    (hm : Sel.inline t isub ∈ sub) : (variantHead c pfx t sub).length = 1 := by
  have hmine : Sel.inline t isub ∈ mineOf c.q t sub := by
    unfold mineOf
    exact List.mem_filter.mpr ⟨hm, by simp [onVt, selOn]⟩
  unfold variantHead
  split
  · rename_i h; rw [h] at hmine; simp at hmine
  · rfl
  · rfl

/-- the depth of the sub-selection of an abstract position, from the depth of its members -/
theorem depth_abs (c : Ctx) (K : Nat) (pfx : String) (vts : List TypeId) (sub : List Sel)
    (hin : ∀ t ∈ sub.filterMap inlineTy, t ∈ vts)
    (H : ∀ x ∈ sub, depthF c.q x ≤ (allItemsS c pfx x).length + K + 1 + inlBonus x) :
    depthsF c.q sub ≤ (vts.flatMap (fun vt => variantHead c pfx vt sub ++ varItems c pfx vt sub)).length +
      (itemsSs c pfx sub).length + K + 1 := by
  apply depthsF_le_of_forall
  intro x hx
  have hH := H x hx
  cases x with
  | inline t isub =>
    have ht : t ∈ vts := hin t (List.mem_filterMap.mpr ⟨_, hx, rfl⟩)
    have h1 := length_flatMap_ge (fun vt => variantHead c pfx vt sub ++ varItems c pfx vt sub) vts t ht
    have h2 := length_varItems_ge c pfx t sub _ hx
    have h3 := variantHead_length_inline c pfx t isub sub hx
    simp only [allItemsS, inlBonus] at hH
    simp only [varItem, beq_self_eq_true, ↓reduceIte] at h2
    simp only [List.length_append] at h1
    omega
  | field a fid sub' =>
    have h1 := length_itemsSs_ge c pfx sub _ hx
    simp only [allItemsS, inlBonus] at hH
    omega
  | spread g =>
    have h1 := length_itemsSs_ge c pfx sub _ hx
    simp only [allItemsS, inlBonus] at hH
    omega
  | typename =>
    simp only [allItemsS, inlBonus] at hH
    have : (itemsS c pfx Sel.typename).length = 0 := by simp [itemsS]
    omega

mutual
  theorem depthS_sel (c : Ctx) (K : Nat) : ∀ (x : Sel) (pfx : String) (abs : Bool), sSel c.s c.q c.o abs x = true →
      (∀ g ∈ spreadIds x, selsDepth (fragSels c.q g) ≤ K) →
      depthF c.q x ≤ (allItemsS c pfx x).length + K + 1 + inlBonus x
    | .field a fid sub, pfx, abs => by
      intro ht hK
      have IH := depthS_sels c K sub
      rw [spreadIds] at hK
      obtain ⟨sf, hsf, _, _, hk⟩ := sSel_kinds ht
      simp only [allItemsS, inlBonus]
      rw [depthF, itemsS]
      rcases hk with ⟨k, sn, hid, _, rfl⟩ | ⟨k, en, hid, _, rfl⟩ | ⟨i, ob, hid, _, hsub, _⟩ |
        ⟨k, hid, hty, hsub, hokL⟩ | ⟨k, hid, hty, hsub, hokL⟩
      · simp [hsf, hid, depthsF]
      · simp [hsf, hid, depthsF]
      · simp only [hsf, hid]
        have H := IH (pfx ++ c.cs.camel (a.getD sf.name)) false hsub hK
        have : depthsF c.q sub ≤ (itemsSs c (pfx ++ c.cs.camel (a.getD sf.name)) sub).length + K + 1 := by
          apply depthsF_le_of_forall
          intro x hx
          have hH := H x hx
          have hxs := sSels_mem hsub x hx
          have h1 := length_itemsSs_ge c (pfx ++ c.cs.camel (a.getD sf.name)) sub _ hx
          cases x with
          | inline t isub => simp [sSel] at hxs
          | spread g => simp [sSel] at hxs
          | field a' fid' sub' => simp only [allItemsS, inlBonus] at hH; omega
          | typename => simp only [allItemsS, inlBonus] at hH; omega
        simp only [List.length_cons]; omega
      all_goals
        simp only [hsf, hid]
        rcases absOkL_cases hokL with ⟨hok, hlg⟩ | ⟨g, rfl, hokB⟩
        · obtain ⟨hok1, _, _⟩ := absOkS_parts hok
          obtain ⟨_, _, _, _, _, hin, _, _⟩ := absOk2_parts hok1
          have := depth_abs c K (pfx ++ c.cs.camel (a.getD sf.name)) _ sub hin
            (IH (pfx ++ c.cs.camel (a.getD sf.name)) true hsub hK)
          have := renderType_length_pos c (pfx ++ c.cs.camel (a.getD sf.name))
            (fieldsB c (pfx ++ c.cs.camel (a.getD sf.name)) sf.ty.id sub)
            (variantsV c (pfx ++ c.cs.camel (a.getD sf.name)) sf.ty.id (marks c.q sub))
          rw [hid] at this
          simp only [hlg, List.length_append]; omega
        · have := hK g (by simp [spreadIdss, spreadIds])
          simp only [loneG_lone, depthsF, depthF, List.length_cons, List.length_nil]
          omega
    | .spread g, pfx, abs => by
      intro _ hK
      have := hK g (by simp [spreadIds])
      rw [depthF]; omega
    | .inline t isub, pfx, abs => by
      intro ht hK
      simp only [sSel, Bool.and_eq_true] at ht
      rw [spreadIds] at hK
      have H := depthS_sels c K isub (pfx ++ "On" ++ c.cs.camel (objName c.s t)) false ht.1.2 hK
      have : depthsF c.q isub ≤ (itemsSs c (pfx ++ "On" ++ c.cs.camel (objName c.s t)) isub).length + K + 1 := by
        apply depthsF_le_of_forall
        intro x hx
        have hH := H x hx
        have hxs := sSels_mem ht.1.2 x hx
        have h1 := length_itemsSs_ge c (pfx ++ "On" ++ c.cs.camel (objName c.s t)) isub _ hx
        cases x with
        | inline t isub => simp [sSel] at hxs
        | spread g => simp [sSel] at hxs
        | field a' fid' sub' => simp only [allItemsS, inlBonus] at hH; omega
        | typename => simp only [allItemsS, inlBonus] at hH; omega
      simp only [allItemsS, inlBonus]
      rw [depthF]; omega
    | .typename, _, _ => by intro _ _; rw [depthF]; omega
  theorem depthS_sels (c : Ctx) (K : Nat) : ∀ (sels : List Sel) (pfx : String) (abs : Bool),
      sSels c.s c.q c.o abs sels = true → (∀ g ∈ spreadIdss sels, selsDepth (fragSels c.q g) ≤ K) →
      ∀ x ∈ sels, depthF c.q x ≤ (allItemsS c pfx x).length + K + 1 + inlBonus x
    | [], _, _ => by intro _ _ x hx; simp at hx
    | y :: ys, pfx, abs => by
      intro ht hK x hx
      obtain ⟨hy, hys⟩ := sSels_cons ht
      rw [spreadIdss] at hK
      rcases List.mem_cons.mp hx with h | hx'
      · rw [h]; exact depthS_sel c K y pfx abs hy (fun g hg => hK g (by simp [hg]))
      · exact depthS_sels c K ys pfx abs hys (fun g hg => hK g (by simp [hg])) x hx'
end

/-- object level: the depth through spreads is below the number of nested items (plus the bound for the fragments) -/
theorem depthS_obj (c : Ctx) (K : Nat) (sels : List Sel) (pfx : String) (ht : sSels c.s c.q c.o false sels = true)
    (hK : ∀ g ∈ spreadIdss sels, selsDepth (fragSels c.q g) ≤ K) :
    depthsF c.q sels ≤ (itemsSs c pfx sels).length + K + 1 := by
  have H := depthS_sels c K sels pfx false ht hK
  apply depthsF_le_of_forall
  intro x hx
  have hH := H x hx
  have hxs := sSels_mem ht x hx
  have h1 := length_itemsSs_ge c pfx sels _ hx
  cases x with
  | inline t isub => simp [sSel] at hxs
  | spread g => simp [sSel] at hxs
  | field a' fid' sub' => simp only [allItemsS, inlBonus] at hH; omega
  | typename => simp only [allItemsS, inlBonus] at hH; omega

/-- a spread fragment of the class: on an object type (part (a)) or on an abstract type (part (b)) -/
def FragOkAny (s : Schema) (q : Query) (o : Options) (g : Nat) : Prop :=
  (∃ i, fragOk s q o (.object i) g = true) ∨ (∃ ty, absHyp s ty ∧ fragOkB s q o ty g = true)

theorem fragOkAny_of_abs {s : Schema} {q : Query} {o : Options} {ty : TypeId} {sub : List Sel} (hty : absHyp s ty)
    (hok : absOkS s q o ty sub = true) : ∀ g, Sel.spread g ∈ sub → FragOkAny s q o g := by
  intro g hg
  obtain ⟨hok1, hsp, _⟩ := absOkS_parts hok
  obtain ⟨_, _, hobj, _⟩ := absOk2_parts hok1
  rcases hsp g hg with ⟨vt, _, hvt, hfok, _⟩ | ⟨_, hfok, _⟩
  · obtain ⟨i, rfl, _⟩ := hobj vt hvt
    exact .inl ⟨i, hfok⟩
  · exact .inr ⟨ty, hty, hfok⟩

mutual
  /-- every spread of the tree is `fragOk` on an object type or `fragOkB` on an abstract type -/
  theorem fragOk_of_spreadIdS (s : Schema) (q : Query) (o : Options) : ∀ (x : Sel) (abs : Bool),
      sSel s q o abs x = true → ∀ g ∈ spreadIds x, g ∉ (match x with | .spread g' => [g'] | _ => []) →
      FragOkAny s q o g
    | .field a fid sub, abs => by
      intro ht g hg _
      have IH := fragOk_of_spreadIdsS s q o sub
      rw [spreadIds] at hg
      obtain ⟨sf, _, _, _, hk⟩ := sSel_kinds ht
      rcases hk with ⟨k, sn, _, _, rfl⟩ | ⟨k, en, _, _, rfl⟩ | ⟨i, ob, _, _, hsub, _⟩ |
        ⟨k, _, hty, hsub, hokL⟩ | ⟨k, _, hty, hsub, hokL⟩
      · simp [spreadIdss] at hg
      · simp [spreadIdss] at hg
      · exact IH false hsub (fun g' hg' => absurd hg' (no_spread_of_sSels hsub g')) g hg
      all_goals
        rcases absOkL_cases hokL with ⟨hok, hlg⟩ | ⟨g', rfl, hokB⟩
        · exact IH true hsub (fragOkAny_of_abs hty hok) g hg
        · simp only [spreadIdss, spreadIds, List.append_nil, List.mem_singleton] at hg
          subst hg
          exact .inr ⟨_, hty, hokB⟩
    | .spread g', _ => by
      intro _ g hg hn
      simp only [spreadIds, List.mem_singleton] at hg
      subst hg
      simp at hn
    | .inline t isub, abs => by
      intro ht g hg _
      simp only [sSel, Bool.and_eq_true] at ht
      rw [spreadIds] at hg
      exact fragOk_of_spreadIdsS s q o isub false ht.1.2
        (fun g' hg' => absurd hg' (no_spread_of_sSels ht.1.2 g')) g hg
    | .typename, _ => by intro _ g hg; simp [spreadIds] at hg
  theorem fragOk_of_spreadIdsS (s : Schema) (q : Query) (o : Options) : ∀ (sels : List Sel) (abs : Bool),
      sSels s q o abs sels = true → (∀ g, Sel.spread g ∈ sels → FragOkAny s q o g) →
      ∀ g ∈ spreadIdss sels, FragOkAny s q o g
    | [], _ => by intro _ _ g hg; simp [spreadIdss] at hg
    | x :: xs, abs => by
      intro ht htop g hg
      obtain ⟨hx, hxs⟩ := sSels_cons ht
      rw [spreadIdss, List.mem_append] at hg
      rcases hg with hg | hg
      · cases x with
        | spread g' =>
          simp only [spreadIds, List.mem_singleton] at hg
          subst hg
          exact htop g (by simp)
        | field a fid sub => exact fragOk_of_spreadIdS s q o _ abs hx g hg (by simp)
        | inline t isub => exact fragOk_of_spreadIdS s q o _ abs hx g hg (by simp)
        | typename => simp [spreadIds] at hg
      · exact fragOk_of_spreadIdsS s q o xs abs hxs (fun g' hg' => htop g' (List.mem_cons_of_mem _ hg')) g hg
end

/-! ## the environment of an emitted module -/

theorem varEnv_nil {e : Env} {c : Ctx} {pfx : String} {vt : TypeId} {sub : List Sel} (h : mineOf c.q vt sub = []) :
    VarEnv e c pfx vt sub := by
  unfold VarEnv; rw [h]; trivial

theorem varEnv_alias {e : Env} {c : Ctx} {pfx : String} {vt : TypeId} {sub : List Sel} {g : Nat}
    (h : mineOf c.q vt sub = [Sel.spread g]) (ha : AliasEnv e (pfx ++ "On" ++ objName c.s vt) (fragName c g)) :
    VarEnv e c pfx vt sub := by
  unfold VarEnv; rw [h]; exact ha

theorem varEnv_struct {e : Env} {c : Ctx} {pfx : String} {vt : TypeId} {sub : List Sel}
    (hs : ∀ g, mineOf c.q vt sub ≠ [Sel.spread g])
    (h : StructEnv e (pfx ++ "On" ++ objName c.s vt) (varFields c pfx vt sub)) : VarEnv e c pfx vt sub := by
  unfold VarEnv
  split
  · trivial
  · rename_i g h'; exact absurd h' (hs g)
  · exact h

/-- the items of every fragment on an abstract type that is spread in the operation are in the module -/
def FragsInB (c : Ctx) (items : List Item) (root : List Sel) : Prop :=
  ∀ g ty, C02.Reach c.q root (.spread g) → absHyp c.s ty → fragOkB c.s c.q c.o ty g = true →
    ∀ f, c.q.fragments[g]? = some f → ∀ it ∈ absItemsV c f.name (c.cs.camel f.name) ty f.sels, it ∈ items

section EnvOfS
-- the lemmas of this section are used with all three hypotheses, whichever of them each needs
set_option linter.unusedSectionVars false
variable {c : Ctx} {items : List Item} {u : UsedTypes} {root : List Sel} (M : ModFacts c items u root)
  (hfr : FragsIn c items root) (hfrB : FragsInB c items root)
include M hfr hfrB

theorem fragEnvS_of_A (g : Nat) (i : Nat) (hr : C02.Reach c.q root (.spread g))
    (hok : fragOk c.s c.q c.o (.object i) g = true) : FragEnvS (moduleEnv c items) c g := by
  have h := fragEnv_of M hfr g i hr hok
  obtain ⟨f, hf, hon, _⟩ := fragOk_parts hok
  unfold FragEnv at h
  unfold FragEnvS
  rw [hf] at h ⊢
  simpa [hon, TypeId.isAbstract] using h

theorem fragEnvS_of_B (g : Nat) (ty : TypeId) (hty : absHyp c.s ty) (hr : C02.Reach c.q root (.spread g))
    (hok : fragOkB c.s c.q c.o ty g = true) : FragEnvS (moduleEnv c items) c g := by
  obtain ⟨f, hf, hon, _, hv, hokf⟩ := fragOkB_parts hok
  have hin := hfrB g ty hr hty hok f hf
  obtain ⟨_, _, _, hne, _, hinl, _, _⟩ := absOk_parts hokf
  unfold FragEnvS
  rw [hf]
  have hisabs : ty.isAbstract = true := isAbstract_of_absHyp hty
  simp only [hon, hisabs, ↓reduceIte]
  refine ⟨absEnv_of M _ _ _ (variantsV_ne_nil c _ f.sels hne) (fun it h => hin it (by simp [absItemsV, h])), ?_⟩
  refine envSelsV_of M f.sels _ true hv (fun x hx it h => hin it ?_) (fun x hx => reach_step_spread hr hf hx)
  cases x with
  | inline t isub =>
    have ht' := hinl t (List.mem_filterMap.mpr ⟨_, hx, rfl⟩)
    have : it ∈ (vtsOfTy c.s ty).flatMap (fun vt => inlItems c (c.cs.camel f.name) vt f.sels) :=
      List.mem_flatMap.mpr ⟨t, ht', mem_inlItems hx h⟩
    simp [absItemsV, this]
  | field a' fid' sub' => simp [absItemsV, mem_itemsVs hx h]
  | spread g => simp [absItemsV, mem_itemsVs hx h]
  | typename => simp [absItemsV, mem_itemsVs hx h]

theorem fragEnvS_of_any (g : Nat) (hr : C02.Reach c.q root (.spread g)) (hok : FragOkAny c.s c.q c.o g) :
    FragEnvS (moduleEnv c items) c g := by
  rcases hok with ⟨i, hok⟩ | ⟨ty, hty, hok⟩
  · exact fragEnvS_of_A M hfr hfrB g i hr hok
  · exact fragEnvS_of_B M hfr hfrB g ty hty hr hok

theorem varEnv_of (pfx : String) (vt : TypeId) (sub : List Sel)
    (hit : ∀ it ∈ variantHead c pfx vt sub, it ∈ items) : VarEnv (moduleEnv c items) c pfx vt sub := by
  by_cases hm : mineOf c.q vt sub = []
  · exact varEnv_nil hm
  · by_cases hs : ∃ g, mineOf c.q vt sub = [Sel.spread g]
    · obtain ⟨g, hg⟩ := hs
      rw [variantHead_alias hg] at hit
      exact varEnv_alias hg (aliasEnv_of M _ _ (hit _ (by simp)))
    · have hs' : ∀ g, mineOf c.q vt sub ≠ [Sel.spread g] := fun g hg => hs ⟨g, hg⟩
      rw [variantHead_struct hm hs'] at hit
      exact varEnv_struct hs' (structEnv_of M _ _ (hit _ (by simp)))

mutual
  theorem envSelS_of : ∀ (x : Sel) (pfx : String) (abs : Bool), sSel c.s c.q c.o abs x = true →
      (∀ it ∈ allItemsS c pfx x, it ∈ items) → C02.Reach c.q root x →
      (∀ g, x = .spread g → FragEnvS (moduleEnv c items) c g) → envSelS (moduleEnv c items) c pfx x
    | .field a fid sub, pfx, abs => by
      intro ht hit hr _
      have IH := envSelsS_of sub
      obtain ⟨sf, hsf, _, _, hk⟩ := sSel_kinds ht
      have hused : sf.ty.id ∈ u.types := M.used _ hr sf hsf
      simp only [allItemsS] at hit
      rw [itemsS] at hit
      rw [envSelS]
      rcases hk with ⟨k, sn, hid, hk, _⟩ | ⟨k, en, hid, hk, _⟩ | ⟨i, ob, hid, _, hsub, _⟩ |
        ⟨k, hid, hty, hsub, hokL⟩ | ⟨k, hid, hty, hsub, hokL⟩
      · simp only [hsf, hid, hk]
        exact scalarEnv_of M k sn hk (hid ▸ hused)
      · simp only [hsf, hid, hk]
        exact enumEnv_of M k en hk (hid ▸ hused)
      · simp only [hsf, hid] at hit ⊢
        refine ⟨structEnv_of M _ _ (hit _ (by simp)), ?_⟩
        refine IH _ false hsub (fun x hx it h => hit it ?_) (fun y hy => reach_step hr hy)
          (fun g hg => absurd hg (no_spread_of_sSels hsub g))
        have hxs := sSels_mem hsub x hx
        have : it ∈ itemsSs c (pfx ++ c.cs.camel (a.getD sf.name)) sub := by
          cases x with
          | inline t isub => simp [sSel] at hxs
          | spread g => simp [sSel] at hxs
          | field a' fid' sub' => exact mem_itemsSs hx h
          | typename => exact mem_itemsSs hx h
        simp [this]
      all_goals
        simp only [hsf, hid] at hit ⊢
        rcases absOkL_cases hokL with ⟨hok, hlg⟩ | ⟨g, rfl, hokB⟩
        · simp only [hlg] at hit ⊢
          obtain ⟨hok1, hsp, _⟩ := absOkS_parts hok
          obtain ⟨_, _, hobj, hne, _, hin, _, _⟩ := absOk2_parts hok1
          -- the items of the variants, among the items at the position
          have hvar : ∀ vt ∈ vtsOfTy c.s sf.ty.id, ∀ it,
              it ∈ variantHead c (pfx ++ c.cs.camel (a.getD sf.name)) vt sub ++
                varItems c (pfx ++ c.cs.camel (a.getD sf.name)) vt sub → it ∈ items := by
            intro vt hvt it h
            apply hit
            have : it ∈ (vtsOfTy c.s sf.ty.id).flatMap (fun vt =>
                variantHead c (pfx ++ c.cs.camel (a.getD sf.name)) vt sub ++
                  varItems c (pfx ++ c.cs.camel (a.getD sf.name)) vt sub) := List.mem_flatMap.mpr ⟨vt, hvt, h⟩
            rw [hid] at this
            simp [this]
          rw [hid] at hvar
          refine ⟨absEnv_of M _ _ _ (variantsV_ne_nil c _ _ hne) (fun it h => hit it (by simp [h])), ?_, ?_⟩
          · exact fun vt hvt => varEnv_of M hfr hfrB _ vt sub (fun it h => hvar vt hvt it (List.mem_append_left _ h))
          · refine IH _ true hsub (fun x hx it h => ?_) (fun y hy => reach_step hr hy) ?_
            · cases x with
              | inline t isub =>
                exact hvar t (hin t (List.mem_filterMap.mpr ⟨_, hx, rfl⟩)) it (List.mem_append_right _
                  (mem_varItems hx (by simpa [varItem, allItemsS] using h)))
              | field a' fid' sub' => exact hit it (by simp [mem_itemsSs hx h])
              | spread g => exact hit it (by simp [mem_itemsSs hx h])
              | typename => exact hit it (by simp [mem_itemsSs hx h])
            · intro g hg
              exact fragEnvS_of_any M hfr hfrB g (reach_step hr hg) (fragOkAny_of_abs hty hok g hg)
        · simp only [loneG_lone] at hit ⊢
          exact ⟨aliasEnv_of M _ _ (hit _ (by simp)),
            fragEnvS_of_B M hfr hfrB g _ hty (reach_step hr (by simp)) hokB⟩
    | .spread g, pfx, abs => by
      intro _ _ _ hf
      rw [envSelS]
      exact hf g rfl
    | .inline t isub, pfx, abs => by
      intro ht hit hr _
      simp only [sSel, Bool.and_eq_true] at ht
      simp only [allItemsS] at hit
      rw [envSelS]
      refine envSelsS_of isub _ false ht.1.2 (fun x hx it h => hit it ?_) (fun y hy => reach_step_inline hr hy)
        (fun g hg => absurd hg (no_spread_of_sSels ht.1.2 g))
      have hxs := sSels_mem ht.1.2 x hx
      cases x with
      | inline t isub => simp [sSel] at hxs
      | spread g => simp [sSel] at hxs
      | field a' fid' sub' => exact mem_itemsSs hx h
      | typename => exact mem_itemsSs hx h
    | .typename, _, _ => by intro _ _ _ _; simp [envSelS]
  theorem envSelsS_of : ∀ (sels : List Sel) (pfx : String) (abs : Bool), sSels c.s c.q c.o abs sels = true →
      (∀ x ∈ sels, ∀ it ∈ allItemsS c pfx x, it ∈ items) → (∀ x ∈ sels, C02.Reach c.q root x) →
      (∀ g, Sel.spread g ∈ sels → FragEnvS (moduleEnv c items) c g) →
      envSelsS (moduleEnv c items) c pfx sels
    | [], _, _ => by intro _ _ _ _; simp [envSelsS]
    | x :: xs, pfx, abs => by
      intro ht hit hr hf
      obtain ⟨hx, hxs⟩ := sSels_cons ht
      rw [envSelsS]
      exact ⟨envSelS_of x pfx abs hx (hit x (by simp)) (hr x (by simp)) (fun g hg => hf g (by simp [hg])),
        envSelsS_of xs pfx abs hxs (fun y hy => hit y (by simp [hy])) (fun y hy => hr y (by simp [hy]))
          (fun g hg => hf g (List.mem_cons_of_mem _ hg))⟩
end

end EnvOfS


/-- the items of a spread fragment on an abstract type: those of an abstract position of `VariantOp` named like the
    fragment -/
theorem fragment_abs_shape (c : Ctx) (hn : c.o.normalization = .none) (ty : TypeId) (g : Nat) (hty : absHyp c.s ty)
    (hok : fragOkB c.s c.q c.o ty g = true) :
    ∃ f, c.q.fragments[g]? = some f ∧
      fragmentItems c g = .ok (absItemsV c f.name (c.cs.camel f.name) ty f.sels) := by
  obtain ⟨f, hf, hon, _, hv, hokf⟩ := fragOkB_parts hok
  subst hon
  exact ⟨f, hf, (calc_variant_abs c hn _ _ _ hty hv hokf).fragmentItems_eq hf⟩

/-! ## the fragments of an emitted module -/

section FragsOfModule
variable {c : Ctx} {items : List Item} {u : UsedTypes} {root : List Sel} {F : List (List Item)}
  (M : ModFacts c items u root) (hF : (sortNat u.fragments).mapM (fragmentItems c) = .ok F)
include M hF

theorem fragmentItems_memF {g : Nat} (hr : C02.Reach c.q root (.spread g)) {its : List Item}
    (hfi : fragmentItems c g = .ok its) : its ∈ F := by
  obtain ⟨its', hits, hfi'⟩ := C02.mapM_ok_of_mem hF g ((C02.mem_sortNat _ _).mpr (M.used _ hr))
  rw [hfi] at hfi'; cases hfi'
  exact hits

/-- the body of a reachable fragment is not deeper than the fragment chunk of the module is long -/
theorem fragDepth_of_module {g : Nat} (hr : C02.Reach c.q root (.spread g)) (hokg : FragOkAny c.s c.q c.o g) :
    selsDepth (fragSels c.q g) ≤ F.flatten.length := by
  rcases hokg with ⟨i, hokg⟩ | ⟨ty, hty, hokg⟩
  · obtain ⟨f, hf, hshape⟩ := fragment_struct_shape c M.hn (.object i) g i rfl hokg
    obtain ⟨f', hf', _, _, hv, _⟩ := fragOk_parts hokg
    rw [hf] at hf'; cases hf'
    have h1 := length_le_flatten (fragmentItems_memF M hF hr hshape)
    have h2 := (depthV_sels c f.sels (c.cs.camel f.name) false hv).1 rfl
    have : fragSels c.q g = f.sels := by simp [fragSels, hf]
    rw [this]
    simp only [structItemsV, List.length_cons] at h1
    omega
  · obtain ⟨f, hf, hshape⟩ := fragment_abs_shape c M.hn ty g hty hokg
    obtain ⟨f', hf', _, _, hv, hokf⟩ := fragOkB_parts hokg
    rw [hf] at hf'; cases hf'
    obtain ⟨_, _, _, _, _, hin, _, _⟩ := absOk_parts hokf
    have h1 := length_le_flatten (fragmentItems_memF M hF hr hshape)
    have h2 := (depthV_sels c f.sels (c.cs.camel f.name) true hv).2 _ hin
    have h3 := renderType_length_pos c f.name (fieldsOfV c (c.cs.camel f.name) f.sels)
      (variantsV c (c.cs.camel f.name) ty f.sels)
    have : fragSels c.q g = f.sels := by simp [fragSels, hf]
    rw [this]
    simp only [absItemsV, List.length_append] at h1
    omega

variable (hsub : ∀ it ∈ F.flatten, it ∈ items)
include hsub

/-- the items of a reachable fragment are in the module -/
theorem _root_.GqlVerif.C01N.fragmentItems_mem {g : Nat} (hr : C02.Reach c.q root (.spread g)) {its : List Item}
    (hfi : fragmentItems c g = .ok its) : ∀ it ∈ its, it ∈ items :=
  fun it hit => hsub it (List.mem_flatten.mpr ⟨_, fragmentItems_memF M hF hr hfi, hit⟩)

theorem _root_.GqlVerif.C01N.fragsIn_of_module : FragsIn c items root ∧ FragsInB c items root := by
  refine ⟨fun g i hr hokg f hf => ?_, fun g ty hr hty hokg f hf => ?_⟩
  · obtain ⟨f', hf', hshape⟩ := fragment_struct_shape c M.hn (.object i) g i rfl hokg
    rw [hf] at hf'; cases hf'
    exact C01N.fragmentItems_mem M hF hsub hr hshape
  · obtain ⟨f', hf', hshape⟩ := fragment_abs_shape c M.hn ty g hty hokg
    rw [hf] at hf'; cases hf'
    exact C01N.fragmentItems_mem M hF hsub hr hshape

end FragsOfModule

structure TopEnvS (e : Env) (c : Ctx) (op : ROperation) : Prop where
  root : StructEnv e "ResponseData" (fieldsOfV c (c.cs.camel op.name) op.sels)
  sub : envSelsS e c (c.cs.camel op.name) op.sels
  size : depthsF c.q op.sels ≤ e.items.length

theorem deFuel_depthS (e : Env) (c : Ctx) (op : ROperation) (hsz : depthsF c.q op.sels ≤ e.items.length) (j : Json) :
    2 * depthsF c.q op.sels + 2 ≤ deFuel e j := by
  have := Top.le_deFuel hsz j
  omega

/-- **`ResponseData` accepts exactly `conformsLooseS … false`** (generic environment) -/
theorem top_accepts_iffS (e : Env) (c : Ctx) (op : ROperation) (ht : VariantSpreadOp c op = true) (he : TopEnvS e c op)
    (j : Json) : okB (Serde.de e (.path "ResponseData") j) = conformsLooseS c.s c.q c.o false op.sels j := by
  obtain ⟨_, _, hsels, _⟩ := variantSpreadOp_parts ht
  exact Top.de_iff he.size
    (fun fd hfd => structS_accepts_iff e c _ _ op.sels false hsels he.sub he.root false fd (by omega)) j

/-- the environment of the emitted module, from the closed form of the response items for a selection set `sels` of the
    class (the operation's own selection set, or its normalization) -/
theorem topEnvS_of_shape {c : Ctx} {opIdx : Nat} {op : ROperation} {items : List Item} (sels : List Sel)
    (hop : c.q.operations[opIdx]? = some op) (hn : c.o.normalization = .none)
    (hsels : sSels c.s c.q c.o false sels = true)
    (hshape : responseItems c op = .ok (structItemsS c "ResponseData" (c.cs.camel op.name) sels))
    (hused : ∀ u, (∀ x, C02.Reach c.q op.sels x → C02.Direct c.s u x) → ∀ x, C02.Reach c.q sels x → C02.Direct c.s u x)
    (hgen : responseForQuery c opIdx = .ok items) (hok : moduleOk c items = true) :
    StructEnv (moduleEnv c items) "ResponseData" (fieldsOfV c (c.cs.camel op.name) sels) ∧
      envSelsS (moduleEnv c items) c (c.cs.camel op.name) sels ∧ depthsF c.q sels ≤ (moduleEnv c items).items.length := by
  obtain ⟨u, F, _, hF, M0, hsub, hsubF, hlen⟩ := module_tail hop hn hgen hok hshape
  have M : ModFacts c items u sels := { M0 with used := hused u M0.used }
  obtain ⟨hfr, hfrB⟩ := C01N.fragsIn_of_module M hF hsubF
  have hnosp := no_spread_of_sSels hsels
  refine ⟨structEnv_of M _ _ (hsub _ (by simp [structItemsS])), ?_, ?_⟩
  · refine envSelsS_of M hfr hfrB sels _ false hsels (fun x hx it h => hsub it ?_) (fun x hx => .here hx)
      (fun g hg => absurd hg (hnosp g))
    have hxs := sSels_mem hsels x hx
    have : it ∈ itemsSs c (c.cs.camel op.name) sels := by
      cases x with
      | inline t isub => simp [sSel] at hxs
      | spread g => simp [sSel] at hxs
      | field a' fid' sub' => exact mem_itemsSs hx h
      | typename => exact mem_itemsSs hx h
    simp [structItemsS, this]
  · have hd := depthS_obj c F.flatten.length sels (c.cs.camel op.name) hsels (by
      intro g hg
      exact fragDepth_of_module M hF (reach_spreadIdss c.q sels sels (fun y hy => .here hy) g hg)
        (fragOk_of_spreadIdsS c.s c.q c.o sels false hsels (fun g' hg' => absurd hg' (hnosp g')) g hg))
    simp only [structItemsS, List.length_cons] at hlen
    omega

theorem topEnvS_of_module {c : Ctx} {opIdx : Nat} {op : ROperation} {items : List Item}
    (hop : c.q.operations[opIdx]? = some op) (ht : VariantSpreadOp c op = true)
    (hgen : responseForQuery c opIdx = .ok items) (hok : moduleOk c items = true) :
    TopEnvS (moduleEnv c items) c op := by
  obtain ⟨hn, _, hsels, _⟩ := variantSpreadOp_parts ht
  obtain ⟨h1, h2, h3⟩ := topEnvS_of_shape op.sels hop hn hsels
    (variantspread_items_shape c op (List.mem_of_getElem? hop) ht) (fun _ h => h) hgen hok
  exact ⟨h1, h2, h3⟩

/-- a response conforms to the operation: the response object of the root selection set, every spread read as the
    inline fragment `... on T { body }` (GraphQL §6.4.3 CollectFields treats both alike), executed on the root object
    type (specification `conformsV` of `C01AbstractA`) -/
def conformsOpS (c : Ctx) (op : ROperation) (j : Json) : Bool :=
  conformsV c.s op.objectId (expandSels c.q op.sels) j

/-- **`variantspread_accepts`.**  Every conforming response is accepted by the emitted `ResponseData`. -/
theorem variantspread_accepts (c : Ctx) (opIdx : Nat) (op : ROperation) (items : List Item)
    (hop : c.q.operations[opIdx]? = some op) (ht : VariantSpreadOp c op = true)
    (hgen : responseForQuery c opIdx = .ok items) (hok : moduleOk c items = true)
    (j : Json) (hc : conformsOpS c op j = true) :
    ∃ v, Serde.de (moduleEnv c items) (.path "ResponseData") j = .ok v :=
  Top.accepts_of_iff (top_accepts_iffS _ c op ht (topEnvS_of_module hop ht hgen hok) j)
    (conformsS_loose c.s c.q c.o false _ _ _ (variantSpreadOp_parts ht).2.2.1 hc)

/-- **`variantspread_precise` (C03), as an equivalence.**  The emitted `ResponseData` accepts `j` **iff**
    `conformsLooseS … false … j`. -/
theorem variantspread_precise_iff (c : Ctx) (opIdx : Nat) (op : ROperation) (items : List Item)
    (hop : c.q.operations[opIdx]? = some op) (ht : VariantSpreadOp c op = true)
    (hgen : responseForQuery c opIdx = .ok items) (hok : moduleOk c items = true) (j : Json) :
    okB (Serde.de (moduleEnv c items) (.path "ResponseData") j) = conformsLooseS c.s c.q c.o false op.sels j :=
  top_accepts_iffS (moduleEnv c items) c op ht (topEnvS_of_module hop ht hgen hok) j

theorem variantspread_precise (c : Ctx) (opIdx : Nat) (op : ROperation) (items : List Item)
    (hop : c.q.operations[opIdx]? = some op) (ht : VariantSpreadOp c op = true)
    (hgen : responseForQuery c opIdx = .ok items) (hok : moduleOk c items = true) (j : Json) (v : Val)
    (hd : Serde.de (moduleEnv c items) (.path "ResponseData") j = .ok v) :
    conformsLooseS c.s c.q c.o false op.sels j = true :=
  Top.precise_of_iff (variantspread_precise_iff c opIdx op items hop ht hgen hok j) hd

end E2E
end C01
end GqlVerif
