import GqlVerif.Model.Codegen
import GqlVerif.Proofs.OutcomeLemmas
import GqlVerif.Proofs.CalcVariantsPushed
/-!
# Two runs of the `calc*` block compared

`calc_sim`: if the context `c'` answers every look-up of `calcSelection` / `calcVariants` / `calcVariantSels` /
`calcFields` as `c` does up to a renaming (`CalcSim`), the two runs stand in `GRel`.  Three choices let one induction
serve renumberings, permutations, changes of options and unary invariants:
* the map on selections is any pair `sel` / `sels` with the equations of `SelMap.Lawful` (`id`, `C07.mapSel ρ` and
  `C07P.tSel R` have them);
* `ErrPolicy` says how the second run may fail: `strict` (same fuel, same error) or `loose` (any fuels; the second run may end in any `.unmodelled` error, which is how
  `calc*` reports that it ran out of fuel);
* the member for variants is one iteration (`oneV`); the loop over the variant list is the field `CalcSim.variants`,
  so the two lists may come in different orders.
-/
namespace GqlVerif
namespace C09
open Codegen

/-- both fail with the same error, or both succeed with related results -/
def ORel {α} (R : α → α → Prop) : Outcome α → Outcome α → Prop
  | .ok a, .ok b => R a b
  | .error e, .error e' => e = e'
  | _, _ => False

theorem ORel.pure {α} {R : α → α → Prop} {a b : α} (h : R a b) : ORel R (Pure.pure a) (Pure.pure b) := h

theorem ORel.bind {α β} {R : α → α → Prop} {S : β → β → Prop} {x y : Outcome α} {f g : α → Outcome β}
    (hxy : ORel R x y) (hfg : ∀ a b, R a b → ORel S (f a) (g b)) : ORel S (x >>= f) (y >>= g) := by
  cases x <;> cases y <;> simp only [ORel] at hxy
  · subst hxy; exact rfl
  · exact hfg _ _ hxy

theorem ORel.bind_same {α β} {S : β → β → Prop} {x : Outcome α} {f g : α → Outcome β}
    (hfg : ∀ a, ORel S (f a) (g a)) : ORel S (x >>= f) (x >>= g) := by
  cases x
  · exact rfl
  · exact hfg _

theorem ORel.bind_same' {α β} {S : β → β → Prop} {x : Outcome α} {f g : α → Outcome β}
    (hfg : ∀ a, x = .ok a → ORel S (f a) (g a)) : ORel S (x >>= f) (x >>= g) := by
  cases x
  · exact rfl
  · exact hfg _ rfl

theorem ORel.refl {α} {R : α → α → Prop} (h : ∀ a, R a a) (x : Outcome α) : ORel R x x := by
  cases x
  · exact rfl
  · exact h _

theorem ORel.eq_iff {α} (x y : Outcome α) : ORel Eq x y ↔ x = y := by
  cases x <;> cases y <;> simp [ORel]

theorem ORel.map_iff {α β} (f : α → β) (x y : Outcome α) :
    ORel (fun a b => f a = f b) x y ↔ x.map f = y.map f := by
  cases x <;> cases y <;> simp [ORel, Except.map]

theorem ORel.mono {α} {R S : α → α → Prop} (h : ∀ a b, R a b → S a b) {x y : Outcome α} (hxy : ORel R x y) :
    ORel S x y := by
  cases x <;> cases y <;> simp only [ORel] at hxy ⊢
  · exact hxy
  · exact h _ _ hxy

/-- how the ids, selections and fragments of the second run correspond to those of the first -/
structure SelMap where
  fld : Nat → Nat
  obj : Nat → Nat
  sc : Nat → Nat
  ifc : Nat → Nat
  un : Nat → Nat
  en : Nat → Nat
  inp : Nat → Nat
  sel : Sel → Sel
  sels : List Sel → List Sel
  frag : RFragment → RFragment

namespace SelMap

def ty (M : SelMap) : TypeId → TypeId
  | .object i => .object (M.obj i)
  | .scalar i => .scalar (M.sc i)
  | .interface i => .interface (M.ifc i)
  | .union i => .union (M.un i)
  | .enum i => .enum (M.en i)
  | .input i => .input (M.inp i)

theorem ty_object (M : SelMap) (i : Nat) : M.ty (.object i) = .object (M.obj i) := rfl
theorem ty_scalar (M : SelMap) (i : Nat) : M.ty (.scalar i) = .scalar (M.sc i) := rfl
theorem ty_interface (M : SelMap) (i : Nat) : M.ty (.interface i) = .interface (M.ifc i) := rfl
theorem ty_union (M : SelMap) (i : Nat) : M.ty (.union i) = .union (M.un i) := rfl
theorem ty_enum (M : SelMap) (i : Nat) : M.ty (.enum i) = .enum (M.en i) := rfl
theorem ty_input (M : SelMap) (i : Nat) : M.ty (.input i) = .input (M.inp i) := rfl

def vsel (M : SelMap) : VariantSel → VariantSel
  | .inline t sub => .inline (M.ty t) (M.sels sub)
  | .spread g f => .spread g (M.frag f)

theorem ty_isAbstract (M : SelMap) (a : TypeId) : (M.ty a).isAbstract = a.isAbstract := by cases a <;> rfl

structure Lawful (M : SelMap) : Prop where
  ty_inj : ∀ a b, M.ty a = M.ty b → a = b
  sels_eq_map : ∀ l, M.sels l = l.map M.sel
  sel_field : ∀ a i sub, M.sel (.field a i sub) = .field a (M.fld i) (M.sels sub)
  sel_inline : ∀ t sub, M.sel (.inline t sub) = .inline (M.ty t) (M.sels sub)
  sel_spread : ∀ g, M.sel (.spread g) = .spread g
  sel_typename : M.sel .typename = .typename
  frag_name : ∀ f, (M.frag f).name = f.name
  frag_on : ∀ f, (M.frag f).on = M.ty f.on

variable {M : SelMap} (L : M.Lawful)
include L

theorem Lawful.nil : M.sels [] = [] := by rw [L.sels_eq_map]; rfl
theorem Lawful.field (a i sub rest) :
    M.sels (.field a i sub :: rest) = .field a (M.fld i) (M.sels sub) :: M.sels rest := by
  rw [L.sels_eq_map, List.map_cons, L.sel_field, L.sels_eq_map rest]
theorem Lawful.inline (t sub rest) :
    M.sels (.inline t sub :: rest) = .inline (M.ty t) (M.sels sub) :: M.sels rest := by
  rw [L.sels_eq_map, List.map_cons, L.sel_inline, L.sels_eq_map rest]
theorem Lawful.spread (g rest) : M.sels (.spread g :: rest) = .spread g :: M.sels rest := by
  rw [L.sels_eq_map, List.map_cons, L.sel_spread, L.sels_eq_map rest]
theorem Lawful.typename (rest) : M.sels (.typename :: rest) = .typename :: M.sels rest := by
  rw [L.sels_eq_map, List.map_cons, L.sel_typename, L.sels_eq_map rest]

theorem Lawful.ty_beq (a b : TypeId) : (M.ty a == M.ty b) = (a == b) := by
  by_cases h : a = b
  · subst h; simp
  · have : M.ty a ≠ M.ty b := fun e => h (L.ty_inj _ _ e)
    rw [beq_eq_false_iff_ne.2 h, beq_eq_false_iff_ne.2 this]

theorem Lawful.contains_ty (l : List TypeId) (a : TypeId) : (l.map M.ty).contains (M.ty a) = l.contains a := by
  induction l with
  | nil => rfl
  | cons x l ih => simp only [List.map_cons, List.contains_cons, ih, L.ty_beq a x]

theorem Lawful.ifc_beq (a b : Nat) : (M.ifc a == M.ifc b) = (a == b) := by
  by_cases h : a = b
  · subst h; simp
  · have : M.ifc a ≠ M.ifc b := fun e => h (TypeId.interface.inj (L.ty_inj (.interface a) (.interface b)
      (show M.ty (.interface a) = M.ty (.interface b) from congrArg TypeId.interface e)))
    rw [beq_eq_false_iff_ne.2 h, beq_eq_false_iff_ne.2 this]

theorem Lawful.contains_ifc (l : List Nat) (a : Nat) : (l.map M.ifc).contains (M.ifc a) = l.contains a := by
  induction l with
  | nil => rfl
  | cons x l ih => simp only [List.map_cons, List.contains_cons, ih, L.ifc_beq a x]

theorem Lawful.single (sels : List Sel) (g : Nat) : M.sels sels = [.spread g] ↔ sels = [.spread g] := by
  cases sels with
  | nil => simp [L.nil]
  | cons x xs =>
    cases xs with
    | nil => cases x <;> simp [L.nil, L.field, L.inline, L.spread, L.typename]
    | cons y ys =>
      cases x <;> cases y <;> simp [L.field, L.inline, L.spread, L.typename]

theorem Lawful.vsel_typeId (v : VariantSel) : (M.vsel v).typeId = M.ty v.typeId := by
  cases v
  · rfl
  · exact L.frag_on _

theorem Lawful.filter (vsels : List VariantSel) (vt : TypeId) :
    (vsels.map M.vsel).filter (fun v => v.typeId == M.ty vt) = (vsels.filter (fun v => v.typeId == vt)).map M.vsel := by
  rw [List.filter_map]
  congr 1
  apply List.filter_congr
  intro v _
  simp only [Function.comp_apply, L.vsel_typeId, L.ty_beq]

section query
variable {q q' : Query} (hfr : q'.fragments = q.fragments.map M.frag)
include hfr

omit L in
theorem getFragment_map (g : Nat) : q'.getFragment g = (q.getFragment g).map M.frag := by
  unfold Query.getFragment
  rw [hfr, List.getElem?_map]
  cases q.fragments[g]? <;> rfl

theorem Lawful.any_selPushes (vt : TypeId) :
    ∀ sub, (M.sels sub).any (selPushes q' (M.ty vt)) = sub.any (selPushes q vt)
  | [] => by rw [L.nil]; rfl
  | x :: xs => by
    have ih := Lawful.any_selPushes vt xs
    cases x with
    | field a i s => rw [L.field, List.any_cons, List.any_cons, ih]; rfl
    | inline t s => rw [L.inline, List.any_cons, List.any_cons, ih]; rfl
    | typename => rw [L.typename, List.any_cons, List.any_cons, ih]; rfl
    | spread g =>
      rw [L.spread, List.any_cons, List.any_cons, ih]
      congr 1
      simp only [selPushes, hfr, List.getElem?_map]
      cases q.fragments[g]? with
      | none => rfl
      | some f => simp only [Option.map_some, L.frag_on, L.ty_beq]

theorem Lawful.pushedAny (vt : TypeId) :
    ∀ mine : List VariantSel, pushedAny q' (M.ty vt) (mine.map M.vsel) = pushedAny q vt mine
  | [] => rfl
  | .spread g fr :: rest => by
    rw [List.map_cons, SelMap.vsel, Pushed.pushedAny_spread, Pushed.pushedAny_spread]
  | .inline t' sub :: rest => by
    rw [List.map_cons, SelMap.vsel]
    by_cases hsp : ∃ g, sub = [Sel.spread g]
    · obtain ⟨g, rfl⟩ := hsp
      rw [(L.single _ g).2 rfl, Pushed.pushedAny_inline_lone, Pushed.pushedAny_inline_lone,
        Lawful.pushedAny vt rest]
    · rw [Pushed.pushedAny_inline _ _ _ _ (fun g hg => hsp ⟨g, (L.single sub g).1 hg⟩),
        Pushed.pushedAny_inline _ _ _ _ (fun g hg => hsp ⟨g, hg⟩), Lawful.pushedAny vt rest,
        L.any_selPushes hfr]

theorem Lawful.vsels (ty : TypeId) : ∀ sels, (M.sels sels).filterMapM (variantSelOf q' (M.ty ty)) =
    (sels.filterMapM (variantSelOf q ty)).map (List.map M.vsel)
  | [] => by rw [L.nil]; rfl
  | x :: xs => by
    have ih := Lawful.vsels ty xs
    have step : ∀ x', variantSelOf q' (M.ty ty) x' = (variantSelOf q ty x).map (Option.map M.vsel) →
        (x' :: M.sels xs).filterMapM (variantSelOf q' (M.ty ty)) =
          ((x :: xs).filterMapM (variantSelOf q ty)).map (List.map M.vsel) := by
      intro x' hx
      rw [List.filterMapM_cons, List.filterMapM_cons, hx, ih]
      cases variantSelOf q ty x with
      | error e => rfl
      | ok r =>
        cases r with
        | none => rfl
        | some v => cases List.filterMapM (variantSelOf q ty) xs <;> rfl
    cases x with
    | field a i s => rw [L.field]; exact step _ rfl
    | inline t s => rw [L.inline]; exact step _ rfl
    | typename => rw [L.typename]; exact step _ rfl
    | spread g =>
      rw [L.spread]
      refine step _ ?_
      simp only [variantSelOf, getFragment_map hfr]
      cases q.getFragment g with
      | error e => rfl
      | ok f =>
        simp only [Except.map, bind, Except.bind, pure, Except.pure, L.frag_on, L.ty_beq]
        by_cases hb : (f.on == ty) = true
        · rw [if_pos hb, if_pos hb]; rfl
        · rw [if_neg hb, if_neg hb]; rfl
end query

end SelMap

/-- `F e`: the second run may fail with `e` where the first succeeds; `E e y`: the second run may be `y` where the
first fails with `e`; `fuel`: the pairs of fuels compared.  `.unmodelled w` is the error with which a `calc*` function
reports that its fuel is used up. -/
structure ErrPolicy where
  E : {α : Type} → Err → Outcome α → Prop
  F : Err → Prop
  fuel : Nat → Nat → Prop
  E_same : ∀ {α : Type} (e : Err), E e (.error e : Outcome α)
  E_bind : ∀ {α β : Type} {e : Err} {y : Outcome α} (g : α → Outcome β), E e y → E e (y >>= g)
  F_E : ∀ {α : Type} (e e' : Err), F e' → E e (.error e' : Outcome α)
  fuel_pred : ∀ {f f'}, fuel (f + 1) (f' + 1) → fuel f f'
  /-- either only equal fuels are compared, or nothing is said when the first run fails and the second may end in any
  out-of-fuel error: these are exactly `strict` and `loose`; the fuel-zero cases of `calc_sim` need no more -/
  dichotomy : (∀ f f', fuel f f' → f = f') ∨
    ((∀ {α : Type} (e : Err) (y : Outcome α), E e y) ∧ ∀ w, F (.unmodelled w))

def GRel (P : ErrPolicy) {α : Type} (R : α → α → Prop) : Outcome α → Outcome α → Prop
  | .ok a, .ok b => R a b
  | .ok _, .error e => P.F e
  | .error e, y => P.E e y

namespace GRel
variable {P : ErrPolicy} {α β : Type} {R : α → α → Prop} {S : β → β → Prop}

theorem pure {a b : α} (h : R a b) : GRel P R (Pure.pure a) (Pure.pure b) := h

theorem bind {x y : Outcome α} {f g : α → Outcome β}
    (hxy : GRel P R x y) (hfg : ∀ a b, R a b → GRel P S (f a) (g b)) : GRel P S (x >>= f) (y >>= g) := by
  cases x with
  | error e => exact P.E_bind g hxy
  | ok a =>
    cases y with
    | ok b => exact hfg _ _ hxy
    | error e' =>
      show GRel P S (f a) (.error e')
      cases f a with
      | ok _ => exact hxy
      | error e2 => exact P.F_E _ _ hxy

theorem of_ORel {x y : Outcome α} (h : ORel R x y) : GRel P R x y := by
  cases x <;> cases y <;> simp only [ORel] at h
  · subst h; exact P.E_same _
  · exact h

theorem bind_same {x : Outcome α} {f g : α → Outcome β}
    (hfg : ∀ a, GRel P S (f a) (g a)) : GRel P S (x >>= f) (x >>= g) := by
  cases x
  · exact P.E_same _
  · exact hfg _

theorem bind_same' {x : Outcome α} {f g : α → Outcome β}
    (hfg : ∀ a, x = .ok a → GRel P S (f a) (g a)) : GRel P S (x >>= f) (x >>= g) := by
  cases x
  · exact P.E_same _
  · exact hfg _ rfl

theorem fuel0L {f' : Nat} (hf : P.fuel 0 f') {w : String} {y : Outcome α}
    (hy : f' = 0 → y = .error (.unmodelled w)) : GRel P R (.error (.unmodelled w)) y := by
  rcases P.dichotomy with hs | ⟨hE, _⟩
  · rw [hy (hs _ _ hf).symm]; exact P.E_same _
  · exact hE _ _

theorem fuel0R {f : Nat} (hf : P.fuel (f + 1) 0) (x : Outcome α) (w : String) :
    GRel P R x (.error (.unmodelled w)) := by
  rcases P.dichotomy with hs | ⟨hE, hF⟩
  · cases hs _ _ hf
  · cases x
    · exact hE _ _
    · exact hF w
end GRel

def ErrPolicy.strict : ErrPolicy where
  E := fun e y => y = .error e
  F := fun _ => False
  fuel := fun f f' => f = f'
  E_same := fun _ => rfl
  E_bind := fun _ h => by rw [h]; rfl
  F_E := fun _ _ h => h.elim
  fuel_pred := fun h => Nat.succ.inj h
  dichotomy := .inl fun _ _ h => h

theorem GRel.strict_iff {α : Type} {R : α → α → Prop} (x y : Outcome α) : GRel .strict R x y ↔ ORel R x y := by
  cases x <;> cases y <;> simp [GRel, ORel, ErrPolicy.strict, eq_comm]


def ErrPolicy.loose : ErrPolicy where
  E := fun _ _ => True
  F := fun e => ∃ w, e = .unmodelled w
  fuel := fun _ _ => True
  E_same := fun _ => trivial
  E_bind := fun _ _ => trivial
  F_E := fun _ _ _ => trivial
  fuel_pred := fun _ => trivial
  dichotomy := .inr ⟨fun _ _ => trivial, fun w => ⟨w, rfl⟩⟩

theorem GRel.loose_iff {α : Type} {R : α → α → Prop} (x y : Outcome α) :
    GRel .loose R x y ↔ ∀ a, x = .ok a → (∃ w, y = .error (.unmodelled w)) ∨ ∃ b, y = .ok b ∧ R a b := by
  cases x <;> cases y <;> simp [GRel, ErrPolicy.loose]

/-- one iteration of `calcVariants` (the variant `vt`) -/
def oneV (c : Ctx) (fuel : Nat) (pfx : String) (vsels : List VariantSel) (vt : TypeId) :
    Outcome (RVariant × List Item) := do
  let vname ← c.s.typeName vt
  let mine := vsels.filter (fun v => v.typeId == vt)
  match mine with
  | [] => pure (({ name := vname } : RVariant), ([] : List Item))
  | _ :: _ => do
    let sname := pfx ++ "On" ++ vname
    let v : RVariant := { name := vname, payload := some (.path sname) }
    let single : Option (Nat × RFragment) := match mine with
      | [.spread fid f] => some (fid, f) | _ => none
    match single with
    | some (fid, f) => pure (v, [aliasItem sname f.name (fragmentIsRecursive c.q fid)])
    | none => do
      let r ← calcVariantSels c fuel sname pfx vt mine
      match pushedAny c.q vt mine, r.2.2 with
      | false, [a] => pure (v, a :: r.2.1)
      | _, als => do
        let extra ← als.mapM (aliasMember c)
        pure (v, renderType c sname (r.1 ++ extra.flatten) [] ++ r.2.1)

theorem calcVariants_succ (c : Ctx) (fuel : Nat) (name pfx : String) (vsels : List VariantSel) (vt : TypeId)
    (rest : List TypeId) :
    calcVariants c (fuel + 1) name pfx vsels (vt :: rest) =
      oneV c fuel pfx vsels vt >>= fun a =>
        calcVariants c fuel name pfx vsels rest >>= fun b => pure (a.1 :: b.1, a.2 ++ b.2) := by
  rw [calcVariants.eq_3, oneV]
  simp only [bind_assoc]
  congr 1
  funext vname
  generalize List.filter (fun v => v.typeId == vt) vsels = mine
  rcases mine with _ | ⟨v, tail⟩
  · rfl
  · rcases tail with _ | ⟨v2, tail⟩
    · rcases v with ⟨ty, sub⟩ | ⟨fid, f⟩
      · simp only [bind_assoc]
        congr 1
        funext r
        obtain ⟨fs, items, als⟩ := r
        generalize pushedAny c.q vt _ = b
        rcases b with _ | _ <;> rcases als with _ | ⟨a, _ | ⟨a2, als⟩⟩ <;>
          (try simp only [bind_assoc]) <;> rfl
      · rfl
    · simp only [bind_assoc]
      congr 1
      funext r
      obtain ⟨fs, items, als⟩ := r
      generalize pushedAny c.q vt _ = b
      rcases b with _ | _ <;> rcases als with _ | ⟨a, _ | ⟨a2, als⟩⟩ <;>
        (try simp only [bind_assoc]) <;> rfl

/-- what `calcFields` reads of a stored field -/
def FieldSim (M : SelMap) (sf sf' : StoredField) : Prop :=
  sf'.name = sf.name ∧ sf'.ty.quals = sf.ty.quals ∧ sf'.ty.id = M.ty sf.ty.id ∧ sf'.deprecation = sf.deprecation

abbrev SameOrder (M : SelMap) (a b : List TypeId) : Prop := b = a.map M.ty

def OptRel {α} (R : α → α → Prop) : Option α → Option α → Prop
  | none, none => True
  | some a, some b => R a b
  | _, _ => False

/-- results of `calcVariants`: the variants in `RV`, the items in `RI` -/
abbrev VariantsRel (RV : List RVariant → List RVariant → Prop) (RI : List Item → List Item → Prop)
    (a b : List RVariant × List Item) : Prop := RV a.1 b.1 ∧ RI a.2 b.2
/-- results of one iteration (`oneV`): the same variant, the items in `RI` -/
abbrev VariantRel (RI : List Item → List Item → Prop) (a b : RVariant × List Item) : Prop := a.1 = b.1 ∧ RI a.2 b.2
/-- results of `calcFields`: the members in `RF`, the items in `RI` -/
abbrev FieldsRel (RF : List RField → List RField → Prop) (RI : List Item → List Item → Prop)
    (a b : List RField × List Item) : Prop := RF a.1 b.1 ∧ RI a.2 b.2
/-- results of `calcVariantSels`: members in `RF`, items in `RI`; the aliased fragments (third component) are equal
(`aliasMember` reads their names) and are alias items -/
abbrev VariantSelsRel (RF : List RField → List RField → Prop) (RI : List Item → List Item → Prop)
    (a b : List RField × List Item × List Item) : Prop :=
  RF a.1 b.1 ∧ RI a.2.1 b.2.1 ∧ a.2.2 = b.2.2 ∧ ∀ x ∈ a.2.2, ∃ n t b, x = aliasItem n t b

section stmts
variable (P : ErrPolicy) (M : SelMap) (RF : List RField → List RField → Prop)
  (RV : List RVariant → List RVariant → Prop) (RT : List TypeId → List TypeId → Prop)
  (RI : List Item → List Item → Prop) (c c' : Ctx)

def SimSelection (f f' : Nat) : Prop := ∀ name pfx t sels,
  GRel P RI (calcSelection c f name pfx t sels) (calcSelection c' f' name pfx (M.ty t) (M.sels sels))
def SimVariants (f f' : Nat) : Prop := ∀ name pfx vsels vts vts', RT vts vts' →
  GRel P (VariantsRel RV RI) (calcVariants c f name pfx vsels vts) (calcVariants c' f' name pfx (vsels.map M.vsel) vts')
def SimOneV (f f' : Nat) : Prop := ∀ pfx vsels vt,
  GRel P (VariantRel RI) (oneV c f pfx vsels vt) (oneV c' f' pfx (vsels.map M.vsel) (M.ty vt))
def SimVariantSels (f f' : Nat) : Prop := ∀ sname pfx vt vsels,
  GRel P (VariantSelsRel RF RI) (calcVariantSels c f sname pfx vt vsels) (calcVariantSels c' f' sname pfx (M.ty vt) (vsels.map M.vsel))
def SimFields (f f' : Nat) : Prop := ∀ pfx t sels,
  GRel P (FieldsRel RF RI) (calcFields c f pfx t sels) (calcFields c' f' pfx (M.ty t) (M.sels sels))

/-- `c'` answers the look-ups of `calc*` as `c` does up to `M`.  `RF`, `RV`, `RI` relate emitted fields, variants and
items; `RT` relates the variant lists of an abstract type, and `variants` obtains the loop over lists in `RT` from
single iterations at smaller fuels -/
structure CalcSim : Prop where
  lawful : M.Lawful
  reflF : ∀ a, RF a a
  appF : ∀ {a a' b b'}, RF a a' → RF b b' → RF (a ++ b) (a' ++ b')
  nilI : RI [] []
  aliasI : ∀ n t b, RI [aliasItem n t b] [aliasItem n t b]
  appI : ∀ {a a' b b'}, RI a a' → RI b b' → RI (a ++ b) (a' ++ b')
  reflV : ∀ a, RV a a
  appV : ∀ {a a'} o, RV a a' → RV (a ++ o) (a' ++ o)
  cs : c'.cs = c.cs
  otherVariant : c'.o.otherVariant = c.o.otherVariant
  /-- so nothing `renderField` reads of the options (`skipNone`, `deprecation`) may differ -/
  renderField_eq : renderField c' = renderField c
  render : ∀ n fs fs' vs vs', RF fs fs' → RV vs vs' → RI (renderType c n fs vs) (renderType c' n fs' vs')
  /-- the members of enum / scalar type: the one place where `normalization` may differ (it spells the leaf type
  name).  `c.cs` on the `c'` side is meant: `cs` says the case functions are the same. -/
  named : ∀ n ∈ c.s.enums.map (·.name) ++ c.s.scalars, ∀ g r quals fl bx dep,
    ORel (fun a b : Option RField => RF a.toList b.toList)
      (renderField c g r (c.o.normalization.fieldType c.cs n) quals fl bx dep)
      (renderField c' g r (c'.o.normalization.fieldType c.cs n) quals fl bx dep)
  getField : ∀ i, ORel (FieldSim M) (c.s.getField i) (c'.s.getField (M.fld i))
  getEnum : ∀ i, c'.s.getEnum (M.en i) = c.s.getEnum i
  getScalar : ∀ i, c'.s.getScalar (M.sc i) = c.s.getScalar i
  typeName : ∀ t, c'.s.typeName (M.ty t) = c.s.typeName t
  variantsOf : ∀ t, ORel (OptRel RT) (variantsOf c.s t) (variantsOf c'.s (M.ty t))
  frags : c'.q.fragments = c.q.fragments.map M.frag
  isRec : ∀ g, fragmentIsRecursive c'.q g = fragmentIsRecursive c.q g
  variants : ∀ f, (∀ g, g < f → ∀ g', P.fuel g g' → SimOneV P M RI c c' g g') →
    ∀ f', P.fuel f f' → SimVariants P M RV RT RI c c' f f'
end stmts

section calcSim
variable {P : ErrPolicy} {M : SelMap} {RF : List RField → List RField → Prop}
  {RV : List RVariant → List RVariant → Prop} {RT : List TypeId → List TypeId → Prop}
  {RI : List Item → List Item → Prop} {c c' : Ctx}

/-- the loop over variant lists in the same order, whatever the policy -/
theorem variants_same (nilI : RI [] []) (appI : ∀ {a a' b b'}, RI a a' → RI b b' → RI (a ++ b) (a' ++ b')) :
    ∀ f, (∀ g, g < f → ∀ g', P.fuel g g' → SimOneV P M RI c c' g g') →
    ∀ f', P.fuel f f' → SimVariants P M Eq (SameOrder M) RI c c' f f' := by
  intro f HV f' hf name pfx vsels vts vts' hvts
  subst hvts
  induction vts generalizing f f' with
  | nil =>
    cases f with
    | zero => rw [calcVariants.eq_1]; exact GRel.fuel0L hf (fun e => by subst e; rw [calcVariants.eq_1])
    | succ n =>
      cases f' with
      | zero => rw [calcVariants.eq_1 c']; exact GRel.fuel0R hf _ _
      | succ m =>
        rw [List.map_nil, calcVariants.eq_2 _ _ _ _ _ (by omega), calcVariants.eq_2 _ _ _ _ _ (by omega)]
        exact GRel.pure ⟨rfl, nilI⟩
  | cons vt rest ih =>
    cases f with
    | zero => rw [calcVariants.eq_1]; exact GRel.fuel0L hf (fun e => by subst e; rw [calcVariants.eq_1])
    | succ n =>
      cases f' with
      | zero => rw [calcVariants.eq_1 c']; exact GRel.fuel0R hf _ _
      | succ m =>
        rw [List.map_cons, calcVariants_succ, calcVariants_succ]
        apply GRel.bind (HV n (Nat.lt_succ_self n) m (P.fuel_pred hf) pfx vsels vt); intro a b hab
        apply GRel.bind (ih n (fun g hg => HV g (by omega)) m (P.fuel_pred hf)); intro x y hxy
        exact GRel.pure ⟨by rw [hab.1, hxy.1], appI hab.2 hxy.2⟩

theorem calc_sim (H : CalcSim P M RF RV RT RI c c') : ∀ f f', P.fuel f f' →
    SimSelection P M RI c c' f f' ∧ SimOneV P M RI c c' f f' ∧ SimVariantSels P M RF RI c c' f f' ∧
    SimFields P M RF RI c c' f f' := by
  have L := H.lawful
  have hGF := SelMap.getFragment_map H.frags
  have hPA := L.pushedAny H.frags
  have hVS := L.vsels H.frags
  have ham : aliasMember c' = aliasMember c := by
    funext a; unfold aliasMember; rw [H.renderField_eq, H.cs]
  have oneStep : ∀ f f', SimVariantSels P M RF RI c c' f f' → SimOneV P M RI c c' f f' := by
    intro f f' hVS pfx vsels vt
    unfold oneV
    simp only [H.typeName, L.filter, hPA, ham]
    apply GRel.bind_same; intro vname
    generalize List.filter (fun v => v.typeId == vt) vsels = mine
    have body : ∀ (mine : List VariantSel),
        GRel P (VariantRel RI)
          (do let r ← calcVariantSels c f (pfx ++ "On" ++ vname) pfx vt mine
              match pushedAny c.q vt mine, r.2.2 with
              | false, [a] =>
                Pure.pure (({ name := vname, payload := some (RTy.path (pfx ++ "On" ++ vname)) } : RVariant), a :: r.2.1)
              | _, als => do
                let extra ← List.mapM (aliasMember c) als
                Pure.pure (({ name := vname, payload := some (RTy.path (pfx ++ "On" ++ vname)) } : RVariant),
                  renderType c (pfx ++ "On" ++ vname) (r.1 ++ extra.flatten) [] ++ r.2.1))
          (do let r ← calcVariantSels c' f' (pfx ++ "On" ++ vname) pfx (M.ty vt) (mine.map M.vsel)
              match pushedAny c.q vt mine, r.2.2 with
              | false, [a] =>
                Pure.pure (({ name := vname, payload := some (RTy.path (pfx ++ "On" ++ vname)) } : RVariant), a :: r.2.1)
              | _, als => do
                let extra ← List.mapM (aliasMember c) als
                Pure.pure (({ name := vname, payload := some (RTy.path (pfx ++ "On" ++ vname)) } : RVariant),
                  renderType c' (pfx ++ "On" ++ vname) (r.1 ++ extra.flatten) [] ++ r.2.1)) := by
      intro mine
      apply GRel.bind (hVS _ pfx vt mine); intro r r' hr
      obtain ⟨r1, r2, r3⟩ := r
      obtain ⟨r1', r2', r3'⟩ := r'
      obtain ⟨h1, h2, h3, h4⟩ := hr
      simp only at h1 h2 h3 h4
      subst h3
      simp only []
      split
      · rename_i a _
        obtain ⟨n, t, b, rfl⟩ := h4 a (List.mem_singleton.2 rfl)
        exact GRel.pure ⟨rfl, H.appI (H.aliasI _ _ _) h2⟩
      · apply GRel.bind_same; intro extra
        exact GRel.pure ⟨rfl, H.appI (H.render _ _ _ _ _ (H.appF h1 (H.reflF _)) (H.reflV _)) h2⟩
    cases mine with
    | nil => exact GRel.pure ⟨rfl, H.nilI⟩
    | cons v tail =>
      cases v with
      | spread g fr =>
        cases tail with
        | nil =>
          simp only [List.map_cons, List.map_nil, SelMap.vsel, L.frag_name, H.isRec]
          exact GRel.pure ⟨rfl, H.aliasI _ _ _⟩
        | cons v2 tail2 =>
          have := body (VariantSel.spread g fr :: v2 :: tail2)
          simp only [List.map_cons, SelMap.vsel] at this ⊢
          exact this
      | inline t' sub =>
        have := body (VariantSel.inline t' sub :: tail)
        simp only [List.map_cons, SelMap.vsel] at this ⊢
        exact this
  intro f
  induction f using Nat.strongRecOn with
  | _ f ih =>
  intro f' hf
  suffices main : SimSelection P M RI c c' f f' ∧ SimVariantSels P M RF RI c c' f f' ∧ SimFields P M RF RI c c' f f' from
    ⟨main.1, oneStep f f' main.2.1, main.2.1, main.2.2⟩
  cases f with
  | zero =>
    refine ⟨?_, ?_, ?_⟩
    · intro _ _ _ _; rw [calcSelection.eq_1]; exact GRel.fuel0L hf (fun e => by subst e; rw [calcSelection.eq_1])
    · intro _ _ _ _; rw [calcVariantSels.eq_1]; exact GRel.fuel0L hf (fun e => by subst e; rw [calcVariantSels.eq_1])
    · intro _ _ _; rw [calcFields.eq_1]; exact GRel.fuel0L hf (fun e => by subst e; rw [calcFields.eq_1])
  | succ n =>
  cases f' with
  | zero =>
    refine ⟨?_, ?_, ?_⟩
    · intro _ _ _ _; rw [calcSelection.eq_1 c']; exact GRel.fuel0R hf _ _
    · intro _ _ _ _; rw [calcVariantSels.eq_1 c']; exact GRel.fuel0R hf _ _
    · intro _ _ _; rw [calcFields.eq_1 c']; exact GRel.fuel0R hf _ _
  | succ m =>
    have hnm := P.fuel_pred hf
    obtain ⟨ihS, -, ihVS, ihF⟩ := ih n (Nat.lt_succ_self n) m hnm
    have ihV : SimVariants P M RV RT RI c c' n m :=
      H.variants n (fun g hg g' hg' => (ih g (by omega) g' hg').2.1) m hnm
    refine ⟨?_, ?_, ?_⟩
    · intro name pfx t sels
      by_cases hsp : ∃ g, sels = [Sel.spread g]
      · obtain ⟨g, rfl⟩ := hsp
        rw [(L.single _ g).2 rfl, calcSelection.eq_2, calcSelection.eq_2, hGF, H.isRec, C02.map_bind_ok]
        simp only [L.frag_name]
        apply GRel.bind_same; intro fr
        exact GRel.pure (H.aliasI _ _ _)
      · rw [calcSelection.eq_3 _ _ _ _ _ _ (fun g hg => hsp ⟨g, (L.single sels g).1 hg⟩),
          calcSelection.eq_3 _ _ _ _ _ _ (fun g hg => hsp ⟨g, hg⟩)]
        apply GRel.bind (GRel.of_ORel (H.variantsOf t)); intro variants variants' hv
        cases variants with
        | none =>
          cases variants' with
          | some _ => exact hv.elim
          | none =>
            simp only [pure_bind]
            apply GRel.bind (ihF pfx t sels); intro a b hab
            exact GRel.pure (H.appI (H.appI (H.render name _ _ _ _ hab.1 (H.reflV _)) H.nilI) hab.2)
        | some vts =>
          cases variants' with
          | none => exact hv.elim
          | some vts' =>
            simp only [hVS, C02.map_bind_ok, H.otherVariant, pure_bind]
            apply GRel.bind_same; intro vsels
            apply GRel.bind (ihV name pfx vsels vts vts' hv); intro r r' hr
            apply GRel.bind (ihF pfx t sels); intro a b hab
            exact GRel.pure (H.appI (H.appI (H.render name _ _ _ _ hab.1 (H.appV _ hr.1)) hr.2) hab.2)
    · intro sname pfx vt vsels
      cases vsels with
      | nil =>
        rw [List.map_nil, calcVariantSels.eq_2 _ _ _ _ _ (by omega), calcVariantSels.eq_2 _ _ _ _ _ (by omega)]
        exact GRel.pure ⟨H.reflF _, H.nilI, rfl, fun _ hx => by cases hx⟩
      | cons v rest =>
        have hrest := ihVS sname pfx vt rest
        cases v with
        | inline t' sub =>
          rw [List.map_cons, SelMap.vsel]
          by_cases hsp : ∃ g, sub = [Sel.spread g]
          · obtain ⟨g, rfl⟩ := hsp
            rw [(L.single _ g).2 rfl, calcVariantSels.eq_3, calcVariantSels.eq_3]
            simp only [H.typeName, hGF, H.isRec, C02.map_bind_ok, L.frag_name]
            apply GRel.bind_same; intro tn
            apply GRel.bind_same; intro fr
            simp only [pure_bind]
            apply GRel.bind hrest; intro a b hab
            refine GRel.pure ⟨H.appF (H.reflF _) hab.1, H.appI H.nilI hab.2.1, by rw [hab.2.2.1], fun x hx => ?_⟩
            rcases List.mem_cons.1 hx with rfl | hx
            · exact ⟨_, _, _, rfl⟩
            · exact hab.2.2.2 x hx
          · rw [calcVariantSels.eq_4 _ _ _ _ _ _ _ _ (fun g hg => hsp ⟨g, (L.single sub g).1 hg⟩),
              calcVariantSels.eq_4 _ _ _ _ _ _ _ _ (fun g hg => hsp ⟨g, hg⟩)]
            simp only [H.typeName, H.cs]
            apply GRel.bind_same; intro tn
            apply GRel.bind (ihF _ vt sub); intro x y hxy
            simp only [pure_bind]
            apply GRel.bind hrest; intro a b hab
            exact GRel.pure ⟨H.appF hxy.1 hab.1, H.appI hxy.2 hab.2.1, by rw [hab.2.2.1], hab.2.2.2⟩
        | spread g fr =>
          rw [List.map_cons, SelMap.vsel, calcVariantSels.eq_5, calcVariantSels.eq_5]
          simp only [H.cs, H.renderField_eq, H.isRec, L.frag_name]
          apply GRel.bind_same; intro fld
          apply GRel.bind hrest; intro a b hab
          exact GRel.pure ⟨H.appF (H.reflF _) hab.1, hab.2.1, hab.2.2.1, hab.2.2.2⟩
    · intro pfx t sels
      cases sels with
      | nil =>
        rw [L.nil, calcFields.eq_2 _ _ _ _ (by omega), calcFields.eq_2 _ _ _ _ (by omega)]
        exact GRel.pure ⟨H.reflF _, H.nilI⟩
      | cons sel rest =>
        have hrest := ihF pfx t rest
        have hcons : ∀ (fl fl' : Option RField) (i i' : List Item), RF fl.toList fl'.toList → RI i i' →
            GRel P (FieldsRel RF RI)
              (do let __x ← (Pure.pure (fl, i) : Outcome _)
                  match __x with
                  | (fld, items) => do
                    let __x ← calcFields c n pfx t rest
                    match __x with
                    | (fs, items') => Pure.pure (fld.toList ++ fs, items ++ items'))
              (do let __x ← (Pure.pure (fl', i') : Outcome _)
                  match __x with
                  | (fld, items) => do
                    let __x ← calcFields c' m pfx (M.ty t) (M.sels rest)
                    match __x with
                    | (fs, items') => Pure.pure (fld.toList ++ fs, items ++ items')) := by
          intro fl fl' i i' hfl hi
          simp only [pure_bind]
          apply GRel.bind hrest; intro a b hab
          exact GRel.pure ⟨H.appF hfl hab.1, H.appI hi hab.2⟩
        cases sel with
        | field al fid sub =>
          rw [L.field, calcFields.eq_3, calcFields.eq_3]
          apply GRel.bind (GRel.of_ORel (H.getField fid)); intro sf sf' hsf
          obtain ⟨fname, ⟨id, quals⟩, parent, dep⟩ := sf
          obtain ⟨fname', ⟨id', quals'⟩, parent', dep'⟩ := sf'
          obtain ⟨e1, e2, e3, e4⟩ := hsf
          simp only at e1 e2 e3 e4
          subst e1 e2 e3 e4
          simp only [H.cs]
          cases id with
          | «enum» e =>
            simp only [SelMap.ty, H.getEnum]
            apply GRel.bind_same'; intro en hen
            apply GRel.bind (GRel.of_ORel (H.named en.name (List.mem_append_left _
              (List.mem_map.mpr ⟨_, List.mem_of_getElem? (C02.getEnum_ok hen), rfl⟩)) _ _ _ _ _ _))
            intro fl fl' hfl
            exact hcons _ _ _ _ hfl H.nilI
          | scalar s =>
            simp only [SelMap.ty, H.getScalar]
            apply GRel.bind_same'; intro sn hsn
            apply GRel.bind (GRel.of_ORel (H.named sn (List.mem_append_right _
              (List.mem_of_getElem? (C02.getScalar_ok hsn))) _ _ _ _ _ _))
            intro fl fl' hfl
            exact hcons _ _ _ _ hfl H.nilI
          | input i => exact P.E_same _
          | object i =>
            simp only [SelMap.ty, H.renderField_eq]
            apply GRel.bind_same; intro fl
            apply GRel.bind (ihS _ _ (.object i) sub); intro i i' hi
            exact hcons _ _ _ _ (H.reflF _) hi
          | interface i =>
            simp only [SelMap.ty, H.renderField_eq]
            apply GRel.bind_same; intro fl
            apply GRel.bind (ihS _ _ (.interface i) sub); intro i i' hi
            exact hcons _ _ _ _ (H.reflF _) hi
          | union i =>
            simp only [SelMap.ty, H.renderField_eq]
            apply GRel.bind_same; intro fl
            apply GRel.bind (ihS _ _ (.union i) sub); intro i i' hi
            exact hcons _ _ _ _ (H.reflF _) hi
        | spread g =>
          rw [L.spread, calcFields.eq_4, calcFields.eq_4]
          simp only [hGF, H.cs, H.renderField_eq, H.isRec, C02.map_bind_ok, L.frag_name, L.frag_on]
          apply GRel.bind_same; intro fr
          apply GRel.bind hrest; intro a b hab
          have e : (M.ty fr.on != M.ty t) = (fr.on != t) := by simp only [bne, L.ty_beq]
          simp only [e]
          split
          · exact GRel.pure ⟨hab.1, hab.2⟩
          · apply GRel.bind_same; intro fl
            exact GRel.pure ⟨H.appF (H.reflF _) hab.1, hab.2⟩
        | inline t' sub =>
          rw [L.inline, calcFields.eq_5 _ _ _ _ _ _ (by simp) (by simp), calcFields.eq_5 _ _ _ _ _ _ (by simp) (by simp)]
          exact hrest
        | typename =>
          rw [L.typename, calcFields.eq_5 _ _ _ _ _ _ (by simp) (by simp), calcFields.eq_5 _ _ _ _ _ _ (by simp) (by simp)]
          exact hrest
end calcSim


theorem optRel_of_map {M : SelMap} {x y : Outcome (Option (List TypeId))}
    (h : y = x.map (Option.map (List.map M.ty))) : ORel (OptRel (SameOrder M)) x y := by
  subst h
  cases x with
  | error e => rfl
  | ok o => cases o <;> simp [ORel, OptRel, Except.map]

theorem calc_sim_strict {M : SelMap} {RF : List RField → List RField → Prop}
    {RV : List RVariant → List RVariant → Prop} {RT : List TypeId → List TypeId → Prop}
    {RI : List Item → List Item → Prop} {c c' : Ctx} (H : CalcSim .strict M RF RV RT RI c c')
    (fuel : Nat) (name pfx : String) (t : TypeId) (sels : List Sel) :
    ORel RI (calcSelection c fuel name pfx t sels) (calcSelection c' fuel name pfx (M.ty t) (M.sels sels)) :=
  (GRel.strict_iff _ _).1 ((calc_sim H fuel fuel rfl).1 name pfx t sels)

namespace SelMap
/-- the same ids and selections on both sides -/
def one : SelMap := ⟨id, id, id, id, id, id, id, id, id, id⟩

theorem one_ty : one.ty = id := by funext t; cases t <;> rfl
theorem one_lawful : one.Lawful where
  ty_inj := by rw [one_ty]; exact fun _ _ h => h
  sels_eq_map := fun l => (List.map_id l).symm
  sel_field := fun _ _ _ => rfl
  sel_inline := fun _ _ => by rw [one_ty]; rfl
  sel_spread := fun _ => rfl
  sel_typename := rfl
  frag_name := fun _ => rfl
  frag_on := fun _ => by rw [one_ty]; rfl
end SelMap

theorem outcome_map_id {α} (x : Outcome α) : x.map id = x := by cases x <;> rfl

section same
variable {P : ErrPolicy} {RF : List RField → List RField → Prop} {RI : List Item → List Item → Prop} {c c' : Ctx}

/-- contexts with the same schema, query, case functions and `otherVariant`, on which `renderField` is the same
function (so `skipNone` and `deprecation` agree): what may differ is `renderType` (derives, serde path) and, through
`named`, the spelling `normalization.fieldType` of the leaf type of enum / scalar members -/
theorem CalcSim.same (hs : c'.s = c.s) (hq : c'.q = c.q) (hcs : c'.cs = c.cs)
    (hov : c'.o.otherVariant = c.o.otherVariant) (hrf : renderField c' = renderField c)
    (reflF : ∀ a, RF a a) (appF : ∀ {a a' b b'}, RF a a' → RF b b' → RF (a ++ b) (a' ++ b'))
    (nilI : RI [] []) (aliasI : ∀ n t b, RI [aliasItem n t b] [aliasItem n t b])
    (appI : ∀ {a a' b b'}, RI a a' → RI b b' → RI (a ++ b) (a' ++ b'))
    (render : ∀ n fs fs' vs, RF fs fs' → RI (renderType c n fs vs) (renderType c' n fs' vs))
    (named : ∀ n ∈ c.s.enums.map (·.name) ++ c.s.scalars, ∀ g r quals fl bx dep,
      ORel (fun a b : Option RField => RF a.toList b.toList)
        (renderField c g r (c.o.normalization.fieldType c.cs n) quals fl bx dep)
        (renderField c' g r (c'.o.normalization.fieldType c.cs n) quals fl bx dep)) :
    CalcSim P SelMap.one RF Eq (SameOrder SelMap.one) RI c c' where
  lawful := SelMap.one_lawful
  reflF := reflF
  appF := appF
  nilI := nilI
  aliasI := aliasI
  appI := appI
  reflV := fun _ => rfl
  appV := fun _ h => by rw [h]
  cs := hcs
  otherVariant := hov
  renderField_eq := hrf
  render := fun n fs fs' vs vs' h e => e ▸ render n fs fs' vs h
  named := named
  getField := fun i => by
    rw [hs]; exact ORel.refl (fun _ => ⟨rfl, rfl, by rw [SelMap.one_ty]; rfl, rfl⟩) _
  getEnum := fun i => by rw [hs]; rfl
  getScalar := fun i => by rw [hs]; rfl
  typeName := fun t => by rw [hs, SelMap.one_ty]; rfl
  variantsOf := fun t => optRel_of_map (by
    rw [hs, SelMap.one_ty, List.map_id_fun, Option.map_id_fun, outcome_map_id]; rfl)
  frags := by rw [hq]; exact (List.map_id _).symm
  isRec := fun g => by rw [hq]
  variants := variants_same nilI appI

theorem calcSelection_same {RV : List RVariant → List RVariant → Prop} {RT : List TypeId → List TypeId → Prop}
    (H : CalcSim .strict SelMap.one RF RV RT RI c c') (fuel : Nat) (name pfx : String) (t : TypeId) (sels : List Sel) :
    ORel RI (calcSelection c fuel name pfx t sels) (calcSelection c' fuel name pfx t sels) := by
  have := calc_sim_strict H fuel name pfx t sels
  rw [SelMap.one_ty] at this
  exact this
end same

end C09
end GqlVerif
