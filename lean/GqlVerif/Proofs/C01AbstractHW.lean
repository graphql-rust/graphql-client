import GqlVerif.Proofs.C01AbstractM
import GqlVerif.Proofs.SpecEval

/-! `FragmentOp`: acceptance on a concrete module (`fxCtx`), and the key side condition is needed. -/

namespace GqlVerif
namespace C01
namespace E2E
open Serde Spec C13 C03 Codegen

/-! ## a concrete module

`fragment Basics on Human { name __typename }`, `fragment Size on Human { height }`,
`query Q { me { ...Basics friend { ...Size } ...Size } }` -/

def fxSchema : Schema :=
  { objects := [{ name := "Query", fields := [0], implements := [] },
                { name := "Human", fields := [1, 2, 3], implements := [] }]
    fields := [{ name := "me", ty := { id := .object 1, quals := [] }, parent := .object 0, deprecation := none },
               { name := "name", ty := { id := .scalar 1, quals := [.required] }, parent := .object 1, deprecation := none },
               { name := "height", ty := { id := .scalar 3, quals := [] }, parent := .object 1, deprecation := none },
               { name := "friend", ty := { id := .object 1, quals := [] }, parent := .object 1, deprecation := none }]
    scalars := ["ID", "String", "Int", "Float", "Boolean"] }

def fxOp : ROperation :=
  { name := "Q", kind := .query, objectId := 0,
    sels := [.field none 0 [.spread 0, .field none 3 [.spread 1], .spread 1]] }

def fxQuery : Query :=
  { operations := [fxOp]
    fragments := [{ name := "Basics", on := .object 1, sels := [.field none 1 [], .typename] },
                  { name := "Size", on := .object 1, sels := [.field none 2 []] }] }

def fxCtx : Ctx := { s := fxSchema, q := fxQuery, o := {}, cs := ⟨id, id⟩ }

theorem fx_fragment : FragmentOp fxCtx fxOp = true := by decide +kernel
theorem fx_keys : fragKeysOk fxCtx fxOp = true := by decide +kernel

def fxUsed : UsedTypes := { types := [.scalar 3, .scalar 1, .object 1], fragments := [1, 0] }

theorem fx_used : allUsedTypes fxSchema fxQuery 0 = .ok fxUsed := by rfl

def fxItems : List Item :=
  builtinAliases ++ [] ++ [] ++ [] ++ [.unitStruct "Variables" ["Serialize"] (some "::serde")] ++
    [structItemsV fxCtx "Basics" "Basics" [.field none 1 [], .typename],
     structItemsV fxCtx "Size" "Size" [.field none 2 []]].flatten ++
    bodyItemsF fxCtx "ResponseData" "Q" fxOp.sels

theorem fx_frags : (sortNat fxUsed.fragments).mapM (fragmentItems fxCtx) =
    .ok [structItemsV fxCtx "Basics" "Basics" [.field none 1 [], .typename],
         structItemsV fxCtx "Size" "Size" [.field none 2 []]] := by
  have h0 := fragment_struct_shape fxCtx rfl (.object 1) 0 1 rfl (by decide +kernel)
  have h1 := fragment_struct_shape fxCtx rfl (.object 1) 1 1 rfl (by decide +kernel)
  obtain ⟨f0, hf0, e0⟩ := h0
  obtain ⟨f1, hf1, e1⟩ := h1
  have : f0 = { name := "Basics", on := .object 1, sels := [.field none 1 [], .typename] } := by
    have : fxCtx.q.fragments[0]? = some { name := "Basics", on := .object 1, sels := [.field none 1 [], .typename] } := rfl
    rw [this] at hf0; exact (Option.some.inj hf0).symm
  subst this
  have : f1 = { name := "Size", on := .object 1, sels := [.field none 2 []] } := by
    have : fxCtx.q.fragments[1]? = some { name := "Size", on := .object 1, sels := [.field none 2 []] } := rfl
    rw [this] at hf1; exact (Option.some.inj hf1).symm
  subst this
  have hs : sortNat fxUsed.fragments = [0, 1] := by decide +kernel
  rw [hs]
  simp only [List.mapM_cons, List.mapM_nil, e0, e1, bind, Except.bind, pure, Except.pure]
  rfl

theorem fx_gen : responseForQuery fxCtx 0 = .ok fxItems := by
  have hresp := fragment_items_shape fxCtx fxOp (by simp [fxCtx, fxQuery]) fx_fragment
  unfold responseForQuery
  simp only [show fxCtx.s = fxSchema from rfl, show fxCtx.q = fxQuery from rfl, fx_used, bind, Except.bind]
  rw [show scalarItems fxCtx fxUsed = .ok [] from rfl, show enumItems fxCtx fxUsed = .ok [] from rfl]
  simp only [fx_frags]
  rw [show inputItems fxCtx fxUsed = .ok [] from rfl,
    show variablesItems fxCtx 0 = .ok [.unitStruct "Variables" ["Serialize"] (some "::serde")] from rfl]
  simp only []
  rw [show fxQuery.getOperation 0 = .ok fxOp from rfl]
  simp only [hresp]
  rfl

theorem fx_ok : moduleOk fxCtx fxItems = true := by decide +kernel

def fxJson : Json :=
  .obj [("me", .obj [("name", .str "Luke"), ("height", .num "1.7"), ("friend", .obj [("height", .null)]),
                     ("__typename", .str "Human")])]

theorem fx_conforms : conformsOpF fxCtx fxOp fxJson = true := by
  rw [conformsOpF, conformsV_eq_K]
  decide +kernel

/-- `fragment_accepts` on the concrete module -/
example : ∃ v, Serde.de (moduleEnv fxCtx fxItems) (.path "ResponseData") fxJson = .ok v :=
  fragment_accepts fxCtx 0 fxOp fxItems rfl fx_fragment fx_keys fx_gen fx_ok fxJson fx_conforms

theorem fx_precise (j : Json) :
    okB (Serde.de (moduleEnv fxCtx fxItems) (.path "ResponseData") j) =
      conformsLooseF fxSchema fxQuery {} false fxOp.sels j :=
  fragment_precise_iff fxCtx 0 fxOp fxItems rfl fx_fragment fx_keys fx_gen fx_ok j

macro "looseF_eval" : tactic => `(tactic|
  simp [conformsLooseF, looseOwnF, looseMemF, looseArrF, looseFieldF, conformsLooseV, looseSelsV, looseArrV,
    looseFieldV, fragSels, isSpread, fxSchema, fxOp, fxQuery, Json.lookup, accepts, acceptsNN, gtyOf, scalarOk,
    floatOk, stringOk, Json.isNull, nullableQ, countKey])

/-- rejected: the fragment's non-null `name` is missing -/
example : okB (Serde.de (moduleEnv fxCtx fxItems) (.path "ResponseData")
    (.obj [("me", .obj [("height", .null)])])) = false := by
  rw [fx_precise]; looseF_eval
/-- rejected: a wrong scalar kind inside the aliased fragment struct (`friend { ...Size }`) -/
example : okB (Serde.de (moduleEnv fxCtx fxItems) (.path "ResponseData")
    (.obj [("me", .obj [("name", .str "x"), ("friend", .obj [("height", .str "tall")])])])) = false := by
  rw [fx_precise]; looseF_eval
/-- rejected: a JSON array where the struct has flattened members (`me`) … -/
example : okB (Serde.de (moduleEnv fxCtx fxItems) (.path "ResponseData")
    (.obj [("me", .arr [.null])])) = false := by
  rw [fx_precise]; looseF_eval
/-- … but accepted at the aliased plain fragment struct (`friend`), positionally -/
example : okB (Serde.de (moduleEnv fxCtx fxItems) (.path "ResponseData")
    (.obj [("me", .obj [("name", .str "x"), ("friend", .arr [.null])])])) = true := by
  rw [fx_precise]; looseF_eval

/-- **the disjointness hypothesis `fragKeysOk` is needed**: `me { name ...Basics }` selects `name` both directly
    and through the fragment; the class side condition fails … -/
example : fragKeysOk fxCtx { fxOp with sels := [.field none 0 [.field none 1 [], .spread 0]] } = false := by
  decide +kernel

/-- … and the emitted struct `{ name: String, basics: Basics (flatten) }` rejects the conforming object: the own
    field consumed `name` before the flattened member saw the buffer (same mechanism as `C01-overlap`) -/
theorem fragment_overlap_loses_key :
    Serde.de
      { items := [.struct "Qme" [] none [{ rust := "name", ty := .path "String" },
                                        { rust := "basics", ty := .path "Basics", flatten := true }],
                  .struct "Basics" [] none [{ rust := "name", ty := .path "String" }]] }
      (.path "Qme") (.obj [("name", .str "Luke")]) = .error (.mismatch "missing field name") := by
  rfl

end E2E
end C01
end GqlVerif
