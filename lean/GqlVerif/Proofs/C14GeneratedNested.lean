import GqlVerif.Proofs.C14GeneratedSwap
/-!
# C14: a key nothing names is ignored at EVERY depth

`Composed.denied_key_ignored_flatten` / `SerdeFuel.denied_key_ignored_de` erase a key in the *top* object of the payload
read at `p`.  Here the same for a key inside a nested object, any number of keys, at any number of positions.

`Sim e π j j'` — inductively, along the type structure, "`j` and `j'` differ only by entries that nothing reading
that object names".  Positions `π`: a type expression (`.ty t`), a named type (`.named p`), the elements of an array
read at `Vec<t>` (`.elems t`), the entries of an object read at a struct with members `fs` (`.entries fs`).
Generators: `erase` (at a named type `p`, the entries of a key `k` with `KeyFree e k p` are removed — the
top-object step of the theorems above), congruence through `Option` / `Box` / `Vec` (element-wise), alias and
extern alias, and through a struct *member*: the value of the entry read by a non-flatten member `f` (no
`deserialize_with` helper, the only member with that wire name) is replaced by a `Sim`-related one at `f.ty`;
`buffered`: descending into the value of an entry that is read **through the flatten buffer** (by a member of a
flattened fragment struct, of a variant struct of a flattened tagged enum, … — possibly by several readers), sound by
`swap_dePath` (`C14GeneratedSwap`), its premises a decidable check over `reachSet` (`readersCheck`).  Closed under
`refl`, `symm`, `trans` (so: several keys, several positions, insertion as well as removal).

`sim_sound`: `Sim e (.named p) j j' → dePath e b fuel p j = dePath e b fuel p j'` for every fuel and `b`, in any
environment: flatten members, tagged enums … are allowed at every struct passed — the descent itself is through own
members, what `erase` needs is `KeyFree`.  `sim_de` is the top-level `Serde.de` form under `EnvOK e` (the two sides
compute different fuels); `sim_de_of_nf` has no hypothesis on the environment but "neither side answers with the fuel
error".
-/
namespace GqlVerif
namespace C14G
open Serde Composed SerdeFuel

/-! ## shape of a JSON value (what `isNull` / `dePrim` / the struct reader dispatch on) -/

/-- the constructor of a JSON value, contents of containers forgotten -/
def kind : Json → Json
  | .obj _ => .obj []
  | .arr _ => .arr []
  | j => j

theorem isNull_of_kind {j j' : Json} (h : kind j = kind j') : j.isNull = j'.isNull := by
  cases j <;> cases j' <;> simp [kind] at h <;> first | rfl | (subst h; rfl) | skip

theorem dePrim_arr (p : String) (xs xs' : List Json) : dePrim p (.arr xs) = dePrim p (.arr xs') := rfl

theorem dePrim_of_kind (p : String) {j j' : Json} (h : kind j = kind j') : dePrim p j = dePrim p j' := by
  cases j <;> cases j' <;> simp [kind] at h <;> first | rfl | (subst h; rfl)

/-! ## the relation -/

/-- where in the type structure a pair of JSON values is compared -/
inductive Pos where
  | ty (t : RTy)
  | named (p : String)
  /-- the elements of an array read at `Vec<t>` -/
  | elems (t : RTy)
  /-- the entries of an object read at a struct with these members -/
  | entries (fs : List RField)

/-- the item does not use `w` as a tag (and is no `@oneOf` enum, which is sensitive to every entry) -/
def noTagKey (w : String) : Item → Bool
  | .tagged _ _ _ tag _ => tag != w
  | .oneOf .. => false
  | _ => true

/-- **`j` and `j'` differ only by entries that nothing reading the object they sit in names** -/
inductive Sim (e : Env) : Pos → Json → Json → Prop
  | refl (π : Pos) (j : Json) : Sim e π j j
  | symm {π : Pos} {j j' : Json} : Sim e π j j' → Sim e π j' j
  | trans {π : Pos} {j j' j'' : Json} : Sim e π j j' → Sim e π j' j'' → Sim e π j j''
  | opt {t : RTy} {j j' : Json} : Sim e (.ty t) j j' → Sim e (.ty (.opt t)) j j'
  | box {t : RTy} {j j' : Json} : Sim e (.ty t) j j' → Sim e (.ty (.box t)) j j'
  | vec {t : RTy} {xs xs' : List Json} : Sim e (.elems t) (.arr xs) (.arr xs') → Sim e (.ty (.vec t)) (.arr xs) (.arr xs')
  | path {p : String} {j j' : Json} : Sim e (.named p) j j' → Sim e (.ty (.path p)) j j'
  | cons {t : RTy} {x x' : Json} {xs xs' : List Json} : Sim e (.ty t) x x' → Sim e (.elems t) (.arr xs) (.arr xs') →
      Sim e (.elems t) (.arr (x :: xs)) (.arr (x' :: xs'))
  /-- the top-object step: every entry of a key that nothing reading this object names is removed -/
  | erase {p k : String} {kvs : List (String × Json)} : KeyFree e k p → Sim e (.named p) (.obj kvs) (.obj (eraseKey k kvs))
  | alias {p n : String} {pub : Bool} {t : RTy} {j j' : Json} : e.find p = some (.alias n pub t) → Sim e (.ty t) j j' →
      Sim e (.named p) j j'
  | extern {p : String} {x : String × RTy} {j j' : Json} : e.find p = none → e.externs.find? (·.1 == p) = some x →
      Sim e (.ty x.2) j j' → Sim e (.named p) j j'
  | struct {p n : String} {d : List String} {sc : Option String} {fs : List RField} {kvs kvs' : List (String × Json)} :
      e.find p = some (.struct n d sc fs) → Sim e (.entries fs) (.obj kvs) (.obj kvs') → Sim e (.named p) (.obj kvs) (.obj kvs')
  | keep {fs : List RField} {kv : String × Json} {kvs kvs' : List (String × Json)} :
      Sim e (.entries fs) (.obj kvs) (.obj kvs') → Sim e (.entries fs) (.obj (kv :: kvs)) (.obj (kv :: kvs'))
  /-- the entry read by the own member `f`: its value replaced by a related one at the member's type -/
  | field {fs : List RField} {f : RField} {v v' : Json} {kvs kvs' : List (String × Json)} :
      f ∈ fs → f.flatten = false → f.deserWith = none → (∀ g ∈ fs, g.flatten = false → g.wire = f.wire → g = f) →
      Sim e (.ty f.ty) v v' → Sim e (.entries fs) (.obj kvs) (.obj kvs') →
      Sim e (.entries fs) (.obj ((f.wire, v) :: kvs)) (.obj ((f.wire, v') :: kvs'))
  /-- entries `(w, v)` that are read **through the flatten buffer**, their value replaced by `v'`: every own member with
      wire name `w` of every struct that reads this JSON object (`Reach`: flattened members, newtype variants of tagged
      enums, aliases) has no `deserialize_with` helper and a type at which `v` and `v'` are related; no reachable tagged
      enum has the tag `w`, no `@oneOf` enum is reachable -/
  | buffered {p w : String} {v v' : Json} {l l' : List (String × Json)} :
      Swap w v v' l l' →
      (∀ q it, Reach e p q → e.find q = some it → noTagKey w it = true) →
      (∀ q n d sc fs f, Reach e p q → e.find q = some (.struct n d sc fs) → f ∈ fs → f.flatten = false → f.wire = w →
        f.deserWith = none) →
      (∀ q n d sc fs f, Reach e p q → e.find q = some (.struct n d sc fs) → f ∈ fs → f.flatten = false → f.wire = w →
        Sim e (.ty f.ty) v v') →
      Sim e (.named p) (.obj l) (.obj l')

/-! ## what the relation guarantees, position by position -/

def elemsOf : Json → List Json
  | .arr xs => xs
  | _ => []

def kvsOf : Json → List (String × Json)
  | .obj kvs => kvs
  | _ => []

/-- two entry lists no reader of a struct with members `fs` can tell apart: same key multiplicities, every own member
    reads the same, and the entries of all other keys (the flatten buffer) are identical -/
def EntriesSound (e : Env) (fs : List RField) (kvs kvs' : List (String × Json)) : Prop :=
  (∀ w, countKey w kvs = countKey w kvs') ∧
  (∀ g ∈ fs, g.flatten = false → ∀ b fuel, readKey (dePath e b fuel) g kvs = readKey (dePath e b fuel) g kvs') ∧
  (∀ q : String → Bool, (∀ g ∈ fs, g.flatten = false → q g.wire = false) →
    kvs.filter (fun kv => q kv.1) = kvs'.filter (fun kv => q kv.1))

def Sound (e : Env) : Pos → Json → Json → Prop
  | .ty t, j, j' => ∀ b fuel, deTyWith (dePath e b fuel) t j = deTyWith (dePath e b fuel) t j'
  | .named p, j, j' => ∀ b fuel, dePath e b fuel p j = dePath e b fuel p j'
  | .elems t, j, j' => ∀ b fuel, (elemsOf j).mapM (deTyWith (dePath e b fuel) t) = (elemsOf j').mapM (deTyWith (dePath e b fuel) t)
  | .entries fs, j, j' => EntriesSound e fs (kvsOf j) (kvsOf j')

/-! ## congruence of the struct reader in the entries -/

theorem deStructMapWith_congr (e : Env) (b : Bool) (fuel : Nat) (fs : List RField) (kvs kvs' : List (String × Json))
    (h : EntriesSound e fs kvs kvs') :
    deStructMapWith (dePath e b fuel) (deFlat e fuel) fs kvs = deStructMapWith (dePath e b fuel) (deFlat e fuel) fs kvs' := by
  obtain ⟨hc, hr, hq⟩ := h
  unfold deStructMapWith
  rw [deOwnWith_congr (dePath e b fuel) fs kvs kvs' hc (fun g hg hfl => hr g hg hfl b fuel) fs (fun _ h => h)]
  have hbuf := hq (fun k => !((fs.filter (!·.flatten)).map (·.wire)).contains k) (by
    intro g hg hfl
    have : g.wire ∈ (fs.filter (!·.flatten)).map (·.wire) :=
      List.mem_map.mpr ⟨g, List.mem_filter.mpr ⟨hg, by simp [hfl]⟩, rfl⟩
    simpa using this)
  simp only [hbuf]

/-! ## soundness -/

theorem sim_sound_aux {e : Env} {π : Pos} {j j' : Json} (h : Sim e π j j') : kind j = kind j' ∧ Sound e π j j' := by
  induction h with
  | refl π j =>
    refine ⟨rfl, ?_⟩
    cases π with
    | ty t => exact fun _ _ => rfl
    | named p => exact fun _ _ => rfl
    | elems t => exact fun _ _ => rfl
    | entries fs => exact ⟨fun _ => rfl, fun _ _ _ _ _ => rfl, fun _ _ => rfl⟩
  | @symm π j j' _ ih =>
    refine ⟨ih.1.symm, ?_⟩
    have h2 := ih.2
    cases π with
    | ty t => exact fun b fuel => (h2 b fuel).symm
    | named p => exact fun b fuel => (h2 b fuel).symm
    | elems t => exact fun b fuel => (h2 b fuel).symm
    | entries fs =>
      exact ⟨fun w => (h2.1 w).symm, fun g hg hfl b fuel => (h2.2.1 g hg hfl b fuel).symm, fun q hq => (h2.2.2 q hq).symm⟩
  | @trans π j j' j'' _ _ ih1 ih2 =>
    refine ⟨ih1.1.trans ih2.1, ?_⟩
    have h1 := ih1.2
    have h2 := ih2.2
    cases π with
    | ty t => exact fun b fuel => (h1 b fuel).trans (h2 b fuel)
    | named p => exact fun b fuel => (h1 b fuel).trans (h2 b fuel)
    | elems t => exact fun b fuel => (h1 b fuel).trans (h2 b fuel)
    | entries fs =>
      exact ⟨fun w => (h1.1 w).trans (h2.1 w), fun g hg hfl b fuel => (h1.2.1 g hg hfl b fuel).trans (h2.2.1 g hg hfl b fuel),
        fun q hq => (h1.2.2 q hq).trans (h2.2.2 q hq)⟩
  | opt _ ih =>
    refine ⟨ih.1, fun b fuel => ?_⟩
    simp only [deTyWith, isNull_of_kind ih.1, ih.2 b fuel]
  | box _ ih => exact ⟨ih.1, fun b fuel => by simp only [deTyWith]; exact ih.2 b fuel⟩
  | vec _ ih =>
    refine ⟨rfl, fun b fuel => ?_⟩
    have := ih.2 b fuel
    simp only [elemsOf] at this
    simp only [deTyWith, this]
  | path _ ih => exact ⟨ih.1, fun b fuel => by simp only [deTyWith]; exact ih.2 b fuel⟩
  | cons _ _ ih1 ih2 =>
    refine ⟨rfl, fun b fuel => ?_⟩
    have h1 := ih1.2 b fuel
    have h2 := ih2.2 b fuel
    simp only [elemsOf] at h2 ⊢
    simp only [List.mapM_cons, h1, h2]
  | @erase p k kvs hkf => exact ⟨rfl, fun b fuel => denied_key_ignored_flatten e k b fuel p kvs hkf⟩
  | @alias p n pub t j j' hf _ ih =>
    refine ⟨ih.1, fun b fuel => ?_⟩
    cases fuel with
    | zero => rw [dePath, dePath]
    | succ f =>
      rw [dePath, dePath, dePrim_of_kind p ih.1]
      split
      · rfl
      · simp only [hf]; exact ih.2 b f
  | @extern p x j j' hf hx _ ih =>
    refine ⟨ih.1, fun b fuel => ?_⟩
    cases fuel with
    | zero => rw [dePath, dePath]
    | succ f =>
      rw [dePath, dePath, dePrim_of_kind p ih.1]
      split
      · rfl
      · simp only [hf, hx]; exact ih.2 b f
  | @struct p n d sc fs kvs kvs' hf _ ih =>
    refine ⟨rfl, fun b fuel => ?_⟩
    cases fuel with
    | zero => rw [dePath, dePath]
    | succ f =>
      rw [dePath, dePath, dePrim_obj p kvs kvs']
      split
      · rfl
      · simp only [hf, deStructWith]
        exact deStructMapWith_congr e b f fs kvs kvs' ih.2
  | @keep fs kv kvs kvs' _ ih =>
    refine ⟨rfl, ?_⟩
    obtain ⟨hc, hr, hq⟩ := ih.2
    simp only [Sound, kvsOf] at hc hr hq ⊢
    refine ⟨fun w => by rw [countKey_cons, countKey_cons, hc w], fun g hg hfl b fuel => ?_, fun q hq' => ?_⟩
    · rw [readKey_cons, readKey_cons, hr g hg hfl b fuel]
    · rw [List.filter_cons, List.filter_cons, hq q hq']
  | @field fs f v v' kvs kvs' hmem hfl hdw huniq _ _ ih1 ih2 =>
    refine ⟨rfl, ?_⟩
    obtain ⟨hc, hr, hq⟩ := ih2.2
    have hv := ih1.2
    simp only [Sound, kvsOf] at hc hr hq hv ⊢
    refine ⟨fun w => by rw [countKey_cons, countKey_cons, hc w], fun g hg hgfl b fuel => ?_, fun q hq' => ?_⟩
    · rw [readKey_cons, readKey_cons, hr g hg hgfl b fuel]
      by_cases hw : f.wire = g.wire
      · have hgf : g = f := huniq g hg hgfl hw.symm
        subst hgf
        simp only [beq_self_eq_true, ↓reduceIte, deFieldWith, hdw, hv b fuel]
      · have : (f.wire == g.wire) = false := by simpa using hw
        simp only [this, Bool.false_eq_true, ↓reduceIte]
    · rw [List.filter_cons, List.filter_cons, hq q hq']
      simp only [hq' f hmem hfl, Bool.false_eq_true, ↓reduceIte]
  | @buffered p w v v' l l' hs hnt hdw _ ih =>
    refine ⟨rfl, fun b fuel => ?_⟩
    refine swap_dePath (fun q hq it hf => ?_) hs b fuel
    cases it with
    | struct n d sc fs =>
      intro f hf' hfl hw
      exact ⟨hdw q n d sc fs f hq hf hf' hfl hw, (ih q n d sc fs f hq hf hf' hfl hw).2⟩
    | tagged n d sc tag vs => simpa [okItemS, noTagKey] using hnt q _ hq hf
    | oneOf n d sc vs => simpa [okItemS, noTagKey] using hnt q _ hq hf
    | alias n pub t => trivial
    | unitStruct n d sc => trivial
    | gqlEnum n d sp vs ser de => trivial
    | defaults fns => trivial

/-- **nested positions**: two payloads that differ only by entries nothing names — at any depth below `p`, through
    `Option` / `Vec` / `Box` / struct members / aliases — are read alike at the named type `p`: same value or same error,
    for every fuel, buffered or not -/
theorem sim_sound {e : Env} {p : String} {j j' : Json} (h : Sim e (.named p) j j') (b : Bool) (fuel : Nat) :
    dePath e b fuel p j = dePath e b fuel p j' :=
  (sim_sound_aux h).2 b fuel

/-- the same at a type expression -/
theorem sim_sound_ty {e : Env} {t : RTy} {j j' : Json} (h : Sim e (.ty t) j j') (b : Bool) (fuel : Nat) :
    deTy e b fuel t j = deTy e b fuel t j' :=
  (sim_sound_aux h).2 b fuel

/-- **top level** (`Serde.de` computes its fuel from the payload; `EnvOK`: the fuel never matters) -/
theorem sim_de {e : Env} (hOK : EnvOK e) {t : RTy} {j j' : Json} (h : Sim e (.ty t) j j') : de e t j = de e t j' := by
  have h1 := deTy_fuel_indep hOK false t j (max (deFuel e j) (deFuel e j')) (Nat.le_max_left _ _)
  have h2 := deTy_fuel_indep hOK false t j' (max (deFuel e j) (deFuel e j')) (Nat.le_max_right _ _)
  unfold de
  rw [← h1, ← h2]
  exact sim_sound_ty h false _

theorem sim_de_named {e : Env} (hOK : EnvOK e) {p : String} {j j' : Json} (h : Sim e (.named p) j j') :
    de e (.path p) j = de e (.path p) j' :=
  sim_de hOK (.path h)

/-- no hypothesis on the environment: if neither side is answered by the fuel error, the answers agree -/
theorem sim_de_of_nf {e : Env} {t : RTy} {j j' : Json} (h : Sim e (.ty t) j j')
    (hnf : de e t j ≠ .error (.unmodelled "fuel")) (hnf' : de e t j' ≠ .error (.unmodelled "fuel")) : de e t j = de e t j' := by
  have h1 := de_stable e t j hnf (max (deFuel e j) (deFuel e j')) (Nat.le_max_left _ _)
  have h2 := de_stable e t j' hnf' (max (deFuel e j) (deFuel e j')) (Nat.le_max_right _ _)
  rw [← h1, ← h2]
  exact sim_sound_ty h false _

/-! ## derived generators -/

def eraseKeys (ks : List String) (kvs : List (String × Json)) : List (String × Json) :=
  kvs.filter (fun kv => !ks.contains kv.1)

theorem eraseKeys_nil (kvs : List (String × Json)) : eraseKeys [] kvs = kvs := by
  simp [eraseKeys]

theorem eraseKeys_cons (k : String) (ks : List String) (kvs : List (String × Json)) :
    eraseKeys (k :: ks) kvs = eraseKeys ks (eraseKey k kvs) := by
  unfold eraseKeys eraseKey
  rw [List.filter_filter]
  apply List.filter_congr
  intro kv _
  by_cases h : kv.1 = k
  · simp [h]
  · have : (kv.1 == k) = false := by simpa using h
    simp [h]

theorem Sim.eraseKeys {e : Env} {p : String} : ∀ (ks : List String) (kvs : List (String × Json)),
    (∀ k ∈ ks, KeyFree e k p) → Sim e (.named p) (.obj kvs) (.obj (eraseKeys ks kvs))
  | [], kvs, _ => by rw [eraseKeys_nil]; exact .refl _ _
  | k :: ks, kvs, h => by
    rw [eraseKeys_cons]
    exact .trans (.erase (h k (by simp))) (Sim.eraseKeys ks _ (fun k' hk' => h k' (by simp [hk'])))

theorem Sim.insert {e : Env} {p k : String} (hkf : KeyFree e k p) (v : Json) (pre post : List (String × Json)) :
    Sim e (.named p) (.obj (pre ++ (k, v) :: post)) (.obj (pre ++ post)) := by
  have h1 : Sim e (.named p) (.obj (pre ++ (k, v) :: post)) (.obj (eraseKey k (pre ++ (k, v) :: post))) := .erase hkf
  have h2 : Sim e (.named p) (.obj (pre ++ post)) (.obj (eraseKey k (pre ++ post))) := .erase hkf
  rw [eraseKey_insert] at h1
  exact .trans h1 (.symm h2)

theorem Sim.entries_refl_prefix {e : Env} {fs : List RField} : ∀ (pre : List (String × Json)) {kvs kvs' : List (String × Json)},
    Sim e (.entries fs) (.obj kvs) (.obj kvs') → Sim e (.entries fs) (.obj (pre ++ kvs)) (.obj (pre ++ kvs'))
  | [], _, _, h => h
  | _ :: pre, _, _, h => .keep (Sim.entries_refl_prefix pre h)

/-- one entry, anywhere in the object, replaced: the value read by the own member `f` of the struct `p` -/
theorem Sim.atField {e : Env} {p n : String} {d : List String} {sc : Option String} {fs : List RField} {f : RField}
    (hfind : e.find p = some (.struct n d sc fs)) (hmem : f ∈ fs) (hfl : f.flatten = false) (hdw : f.deserWith = none)
    (huniq : ∀ g ∈ fs, g.flatten = false → g.wire = f.wire → g = f) {v v' : Json} (hv : Sim e (.ty f.ty) v v')
    (pre post : List (String × Json)) :
    Sim e (.named p) (.obj (pre ++ (f.wire, v) :: post)) (.obj (pre ++ (f.wire, v') :: post)) :=
  .struct hfind (Sim.entries_refl_prefix pre (.field hmem hfl hdw huniq hv (.refl _ _)))

/-! ## a decidable form of the premises of `Sim.buffered` -/

/-- every reader of the key `w` in the JSON object read at `p` has a type accepted by `P` (and no helper); no reachable
    tagged enum uses `w` as its tag, no `@oneOf` enum is reachable -/
def readersCheck (e : Env) (p w : String) (P : RTy → Bool) : Bool :=
  (reachSet e p).all (fun q => match e.find q with
    | some (.struct _ _ _ fs) => fs.all (fun f => f.flatten || f.wire != w || (f.deserWith.isNone && P f.ty))
    | some it => noTagKey w it
    | none => true)

theorem Sim.buffered_of_check {e : Env} {p w : String} {v v' : Json} {l l' : List (String × Json)} {P : RTy → Bool}
    (hc : readersCheck e p w P = true) (hP : ∀ t, P t = true → Sim e (.ty t) v v') (hs : Swap w v v' l l') :
    Sim e (.named p) (.obj l) (.obj l') := by
  simp only [readersCheck, List.all_eq_true] at hc
  have hstruct : ∀ q n d sc fs f, Reach e p q → e.find q = some (.struct n d sc fs) → f ∈ fs → f.flatten = false →
      f.wire = w → f.deserWith = none ∧ P f.ty = true := by
    intro q n d sc fs f hq hf hm hfl hw
    have := hc q ((mem_reachSet_iff e p q).mpr hq)
    simp only [hf, List.all_eq_true, Bool.or_eq_true, Bool.and_eq_true, bne_iff_ne, ne_eq, Option.isNone_iff_eq_none] at this
    rcases this f hm with (h | h) | h
    · rw [hfl] at h; cases h
    · exact absurd hw h
    · exact h
  refine .buffered hs (fun q it hq hf => ?_) (fun q n d sc fs f hq hf hm hfl hw => (hstruct q n d sc fs f hq hf hm hfl hw).1)
    (fun q n d sc fs f hq hf hm hfl hw => hP _ (hstruct q n d sc fs f hq hf hm hfl hw).2)
  have := hc q ((mem_reachSet_iff e p q).mpr hq)
  simp only [hf] at this
  cases it with
  | struct n d sc fs => rfl
  | tagged n d sc tag vs => exact this
  | oneOf n d sc vs => exact this
  | alias n pub t => rfl
  | unitStruct n d sc => rfl
  | gqlEnum n d sp vs ser de => rfl
  | defaults fns => rfl

/-- the members of the struct found at a name (decidable access: `Item` has no `DecidableEq`) -/
def structFields? : Option Item → Option (List RField)
  | some (.struct _ _ _ fs) => some fs
  | _ => none

theorem find_struct_of {e : Env} {p : String} {fs : List RField} (h : structFields? (e.find p) = some fs) :
    ∃ n d sc, e.find p = some (.struct n d sc fs) := by
  cases hf : e.find p with
  | none => rw [hf] at h; cases h
  | some it =>
    rw [hf] at h
    cases it <;> simp [structFields?] at h
    subst h
    exact ⟨_, _, _, rfl⟩

/-! ## an instance on the generated module `denyEnv`

`DogF { barks: Option<Boolean>, owner: Option<DogFowner> }`, `DogFowner { id: ID }`.  The key `name` (a key other structs
of the module use: the global check `items.all (itemOK "name")` is false) inside `owner` is ignored, and the read
succeeds. -/

theorem denyEnv_ok : EnvOK denyEnv := (envOK_of_checkS denyEnv_rankCheckS).1

example :
    de denyEnv (.path "DogF") (.obj [("barks", .bool true), ("owner", .obj [("name", .str "Ann"), ("id", .str "7"), ("name", .int 3)])]) =
    de denyEnv (.path "DogF") (.obj [("barks", .bool true), ("owner", .obj [("id", .str "7")])]) ∧
    (de denyEnv (.path "DogF") (.obj [("barks", .bool true), ("owner", .obj [("name", .str "Ann"), ("id", .str "7"), ("name", .int 3)])])).toOption.isSome = true := by
  refine ⟨?_, by decide +kernel⟩
  apply sim_de_named denyEnv_ok
  obtain ⟨n, d, sc, hfind⟩ := find_struct_of (e := denyEnv) (p := "DogF")
    (fs := [{ rust := "barks", ty := .opt (.path "Boolean") }, { rust := "owner", ty := .opt (.path "DogFowner") }])
    (by decide +kernel)
  have hkf : KeyFree denyEnv "name" "DogFowner" := keyFreeCheck_sound (by decide +kernel)
  exact Sim.atField (f := { rust := "owner", ty := .opt (.path "DogFowner") }) hfind (by simp) rfl rfl
    (by intro g hg _ hw; simp at hg; rcases hg with rfl | rfl <;> first | rfl | (exact absurd hw (by decide)))
    (.opt (.path (.erase (kvs := [("name", .str "Ann"), ("id", .str "7"), ("name", .int 3)]) hkf))) [("barks", .bool true)] []

/-- through the flatten buffer: `Qanimal { name, #[flatten] on: QanimalOn }`, `QanimalOn::Dog(QanimalOnDog { barks, owner,
    #[flatten] dog_f: DogF { barks, owner } })`.  The entry `owner` is not a member of `Qanimal`: it stays in the flatten
    buffer and is read by `QanimalOnDog.owner` (and would be read by `DogF.owner`); inside it the key `name` is ignored —
    and the read succeeds -/
example :
    de denyEnv (.path "Qanimal") (.obj [("__typename", .str "Dog"), ("name", .str "Rex"),
        ("owner", .obj [("name", .str "Ann"), ("id", .str "7")]), ("barks", .bool true)]) =
    de denyEnv (.path "Qanimal") (.obj [("__typename", .str "Dog"), ("name", .str "Rex"),
        ("owner", .obj [("id", .str "7")]), ("barks", .bool true)]) ∧
    (de denyEnv (.path "Qanimal") (.obj [("__typename", .str "Dog"), ("name", .str "Rex"),
        ("owner", .obj [("name", .str "Ann"), ("id", .str "7")]), ("barks", .bool true)])).toOption.isSome = true := by
  refine ⟨?_, by decide +kernel⟩
  apply sim_de_named denyEnv_ok
  have h1 : KeyFree denyEnv "name" "QanimalOnDogowner" := keyFreeCheck_sound (by decide +kernel)
  have h2 : KeyFree denyEnv "name" "DogFowner" := keyFreeCheck_sound (by decide +kernel)
  refine Sim.buffered_of_check (w := "owner") (v := .obj [("name", .str "Ann"), ("id", .str "7")]) (v' := .obj [("id", .str "7")])
    (P := fun t => t == .opt (.path "QanimalOnDogowner") || t == .opt (.path "DogFowner")) (by decide +kernel) ?_
    (Swap.at [("__typename", .str "Dog"), ("name", .str "Rex")] [("barks", .bool true)])
  intro t ht
  simp only [Bool.or_eq_true, beq_iff_eq] at ht
  rcases ht with rfl | rfl
  · exact .opt (.path (.erase (kvs := [("name", .str "Ann"), ("id", .str "7")]) h1))
  · exact .opt (.path (.erase (kvs := [("name", .str "Ann"), ("id", .str "7")]) h2))

end C14G
end GqlVerif
