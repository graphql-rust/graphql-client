import GqlVerif.Proofs.SerdeFuelNeed
import GqlVerif.Proofs.ComposedC14
/-!
# the fuel `Serde.de` / `Serde.ser` / `Serde.roundtrip` pass never matters … on ranked environments

`W = envWidth e = #items + #externs + 2`; `deFuel e j = 2 * ((jsonSize j + 2) * W)` (twice the width: `deFlat`
spends a unit on the `Box` of a recursive flattened fragment; see `generated_module_fuel_exhausted` (`SerdeFuelWitness`) for
what happened with the single width); the fuel of `ser` is `(valSize v + 2) * W` (`Box`es are free there).

* `EnvOK e` : there is a certificate `Ranked e c cf K` (`SerdeFuelNeed`) with `K ≤ deWidth e = 2 * W` — at most `2 * W - 1` jumps
  to named types in a row that do not consume input.  It holds for every acyclic environment whose alias targets /
  flattened members carry at most one `Box` (`envOK_of_acyclic`, in `SerdeFuelAcyclic`).  Decidable sufficient check:
  `rankCheck e` (`envOK_of_check`); for any other width `K`, `rankCheckWith e c cf K` gives the never-exhausted fuel
  `(jsonSize j + 1) * K` (`deTy_nf_of_check`).
* Under `EnvOK e`: `deTy_fuel_indep`, `dePath_fuel_indep`, `deStructWith_fuel_indep`, `deFlat_fuel_indep`
  (`b = false` and `b = true`), `de_never_out_of_fuel`, `roundtrip_fuel_indep`, `denied_key_ignored_de`; under the
  weaker `EnvOKS e` (alias chains only): `serTy_fuel_indep`, `ser_fuel_indep`, `ser_never_out_of_fuel`.
* Without any hypothesis (from monotonicity, `SerdeFuelMono`): `de_stable`, `ser_stable`, `denied_key_ignored_de_of_nf`.
* The hypothesis is needed (`SerdeFuelWitness.lean`: `box_fuel_matters` — many `Box`es under one flattened member,
  `alias_cycle_always_out_of_fuel`, `denied_key_not_ignored_without_rank`), and the former single width was too small
  for a module the generator emits (`chain_fuel_exhausted`, `generated_module_fuel_exhausted`, stated on the old fuel
  expression; `generated_module_read` is the positive instance with the present `de`).
-/
namespace GqlVerif
namespace SerdeFuel
open Serde Composed

/-- the per-level allowance of `ser` (and half that of `deFuel`) -/
def envWidth (e : Env) : Nat := e.items.length + e.externs.length + 2

/-- the per-level allowance of `deFuel`: twice `envWidth` -/
def deWidth (e : Env) : Nat := 2 * envWidth e

/-- the fuel `ser` passes -/
def serFuel (e : Env) (v : Val) : Nat := (valSize v + 2) * envWidth e

theorem deFuel_eq (e : Env) (j : Json) : deFuel e j = 2 * ((jsonSize j + 2) * envWidth e) := rfl

theorem deFuel_eq' (e : Env) (j : Json) : deFuel e j = (jsonSize j + 2) * deWidth e := by
  rw [deFuel_eq, deWidth, Nat.mul_left_comm]

theorem ser_eq (e : Env) (t : RTy) (v : Val) : ser e t v = normJson <$> serTy e (serFuel e v) t v := rfl

/-- **the hypothesis on the environment**: a rank certificate that fits into the per-level allowance of `deFuel` -/
def EnvOK (e : Env) : Prop := ∃ (c cf : String → Nat) (K : Nat), Ranked e c cf K ∧ K ≤ deWidth e

/-- the hypothesis serialization needs (alias chains only; `Box`es are free there), for the single width `ser` uses -/
def EnvOKS (e : Env) : Prop := ∃ (c : String → Nat) (K : Nat), RankedS e c K ∧ K ≤ envWidth e

/-- a certificate within the single width serves both directions -/
theorem envOK_of_ranked {e : Env} {c cf : String → Nat} {K : Nat} (hr : Ranked e c cf K) (hK : K ≤ envWidth e) :
    EnvOK e ∧ EnvOKS e :=
  ⟨⟨c, cf, K, hr, by unfold deWidth; omega⟩, ⟨c, K, hr.toS, hK⟩⟩

theorem need_le {n K W c : Nat} (hc : c < K) (hK : K ≤ W) : n * K + c + 1 ≤ (n + 2) * W := by
  have h1 : n * K ≤ n * W := Nat.mul_le_mul_left n hK
  have h2 : (n + 2) * W = n * W + 2 * W := Nat.add_mul n 2 W
  omega

theorem needP_le_deFuel {e : Env} {c cf : String → Nat} {K : Nat} (hr : Ranked e c cf K) (hK : K ≤ deWidth e)
    (p : String) (j : Json) : jsonSize j * K + c p + 1 ≤ deFuel e j := by
  rw [deFuel_eq']
  exact need_le (hr.bound p) hK

/-! ## deserialization -/

/-- `deTy`: at or above the fuel `de` passes, the result (value or error, including which error) does
    not depend on the fuel; buffered or not -/
theorem deTy_fuel_indep {e : Env} (h : EnvOK e) (b : Bool) (t : RTy) (j : Json) (fuel : Nat) (hf : deFuel e j ≤ fuel) :
    deTy e b fuel t j = deTy e b (deFuel e j) t j := by
  obtain ⟨c, cf, K, hr, hK⟩ := h
  have := needP_le_deFuel hr hK (Scope.leaf t) j
  exact deTy_fuel_eq hr b _ _ t j (by omega) this

theorem dePath_fuel_indep {e : Env} (h : EnvOK e) (b : Bool) (p : String) (j : Json) (fuel : Nat) (hf : deFuel e j ≤ fuel) :
    dePath e b fuel p j = dePath e b (deFuel e j) p j :=
  deTy_fuel_indep h b (.path p) j fuel hf

/-- `deStructWith`, as `dePath` calls it for a struct item of the environment -/
theorem deStructWith_fuel_indep {e : Env} (h : EnvOK e) (b : Bool) {p n : String} {d : List String} {sc : Option String}
    {fields : List RField} (hfind : e.find p = some (.struct n d sc fields)) (j : Json) (fuel : Nat)
    (hf : deFuel e j ≤ fuel) :
    deStructWith (dePath e b fuel) (deFlat e fuel) fields j =
      deStructWith (dePath e b (deFuel e j)) (deFlat e (deFuel e j)) fields j := by
  obtain ⟨c, cf, K, hr, hK⟩ := h
  have := needP_le_deFuel hr hK p j
  exact deStructWith_fuel_eq hr b _ _ hfind j (by omega) (by omega)

/-- `deFlat` for a flattened member `f` of a struct item of the environment, with the fuel of the buffered object -/
theorem deFlat_fuel_indep {e : Env} (h : EnvOK e) {p n : String} {d : List String} {sc : Option String}
    {fields : List RField} (hfind : e.find p = some (.struct n d sc fields)) {f : RField} (hmem : f ∈ fields)
    (hfl : f.flatten = true) (buf : Buf) (fuel : Nat) (hf : deFuel e (.obj (present buf)) ≤ fuel) :
    deFlat e fuel f.ty buf = deFlat e (deFuel e (.obj (present buf))) f.ty buf := by
  obtain ⟨c, cf, K, hr, hK⟩ := h
  have h1 := hr.flat p n d sc fields hfind f hmem hfl
  have h2 := hr.bound p
  have h3 : (bufSize buf + 1) * K + tyCost cf f.ty + 1 ≤ deFuel e (.obj (present buf)) := by
    have : jsonSize (.obj (present buf)) = bufSize buf + 1 := by rw [jsonSize, bufSize]; omega
    rw [deFuel_eq', this]
    exact need_le (by omega) hK
  exact deFlat_fuel_eq hr _ _ f.ty buf (by omega) h3

/-- `de` never returns the error of an exhausted fuel (`DErr.unmodelled "fuel"`, what `dePath` /
    `deFlat` return at fuel `0`) -/
theorem de_never_out_of_fuel {e : Env} (h : EnvOK e) (t : RTy) (j : Json) : de e t j ≠ .error (.unmodelled "fuel") := by
  obtain ⟨c, cf, K, hr, hK⟩ := h
  exact deTy_nf hr false _ t j (needP_le_deFuel hr hK _ j)

/-- `de` is what every fuel at or above `deFuel` computes -/
theorem de_fuel_indep {e : Env} (h : EnvOK e) (t : RTy) (j : Json) (fuel : Nat) (hf : deFuel e j ≤ fuel) :
    deTy e false fuel t j = de e t j :=
  deTy_fuel_indep h false t j fuel hf

/-- no hypothesis on the environment: whatever `de` returns other than the fuel error is final -/
theorem de_stable (e : Env) (t : RTy) (j : Json) (hnf : de e t j ≠ .error (.unmodelled "fuel")) (fuel : Nat)
    (hf : deFuel e j ≤ fuel) : deTy e false fuel t j = de e t j :=
  deTy_mono e false hf t j hnf

/-! ## serialization -/

theorem needS_le_serFuel {e : Env} {c : String → Nat} {K : Nat} (hr : RankedS e c K) (hK : K ≤ envWidth e)
    (p : String) (v : Val) : valSize v * K + c p + 1 ≤ serFuel e v :=
  need_le (hr.bound p) hK

/-- `serTy`: at or above the fuel `ser` passes the result does not depend on the fuel -/
theorem serTy_fuel_indep {e : Env} (h : EnvOKS e) (t : RTy) (v : Val) (fuel : Nat) (hf : serFuel e v ≤ fuel) :
    serTy e fuel t v = serTy e (serFuel e v) t v := by
  obtain ⟨c, K, hr, hK⟩ := h
  have := needS_le_serFuel hr hK (Scope.leaf t) v
  exact serTy_fuel_eq hr _ _ t v (by omega) this

theorem serPath_fuel_indep {e : Env} (h : EnvOKS e) (p : String) (v : Val) (fuel : Nat) (hf : serFuel e v ≤ fuel) :
    serPath e fuel p v = serPath e (serFuel e v) p v :=
  serTy_fuel_indep h (.path p) v fuel hf

/-- `ser` is what every fuel at or above the one it passes computes -/
theorem ser_fuel_indep {e : Env} (h : EnvOKS e) (t : RTy) (v : Val) (fuel : Nat) (hf : serFuel e v ≤ fuel) :
    normJson <$> serTy e fuel t v = ser e t v := by
  rw [ser_eq, serTy_fuel_indep h t v fuel hf]

theorem ser_never_out_of_fuel {e : Env} (h : EnvOKS e) (t : RTy) (v : Val) : ser e t v ≠ .error (.unmodelled "fuel") := by
  obtain ⟨c, K, hr, hK⟩ := h
  rw [ser_eq]
  exact nf_map.mpr (serTy_nf hr _ t v (needS_le_serFuel hr hK _ v))

/-- no hypothesis on the environment: whatever `ser` returns other than the fuel error is final -/
theorem ser_stable (e : Env) (t : RTy) (v : Val) (hnf : ser e t v ≠ .error (.unmodelled "fuel")) (fuel : Nat)
    (hf : serFuel e v ≤ fuel) : normJson <$> serTy e fuel t v = ser e t v := by
  rw [ser_eq] at hnf ⊢
  rw [serTy_mono e hf t v (nf_map.mp hnf)]

/-! ## round trip -/

/-- `roundtrip` is what any fuels at or above the ones it passes compute (the serialization fuel may
    depend on the value read) -/
theorem roundtrip_fuel_indep {e : Env} (h : EnvOK e) (hS : EnvOKS e) (t : RTy) (j : Json) (fuel : Nat) (sfuel : Val → Nat)
    (hf : deFuel e j ≤ fuel) (hs : ∀ v, serFuel e v ≤ sfuel v) :
    (do let v ← deTy e false fuel t j; normJson <$> serTy e (sfuel v) t v) = roundtrip e t j := by
  unfold roundtrip
  rw [de_fuel_indep h t j fuel hf]
  cases de e t j with
  | error err => rfl
  | ok v => exact ser_fuel_indep hS t v (sfuel v) (hs v)

theorem roundtrip_never_out_of_fuel {e : Env} (h : EnvOK e) (hS : EnvOKS e) (t : RTy) (j : Json) :
    roundtrip e t j ≠ .error (.unmodelled "fuel") := by
  unfold roundtrip
  exact nf_bind (de_never_out_of_fuel h t j) (fun v _ => ser_never_out_of_fuel hS t v)

/-! ## the hypothesis of `Composed.denied_key_ignored_de_of_fuel` discharged -/

theorem jsonSize_eraseKey_le (k : String) (kvs : List (String × Json)) :
    jsonSize (.obj (eraseKey k kvs)) ≤ jsonSize (.obj kvs) := by
  have := kvsSize_filter_le (fun kv => kv.1 != k) kvs
  rw [jsonSize, jsonSize]; unfold eraseKey; omega

theorem deFuel_eraseKey_le (e : Env) (k : String) (kvs : List (String × Json)) :
    deFuel e (.obj (eraseKey k kvs)) ≤ deFuel e (.obj kvs) := by
  rw [deFuel_eq', deFuel_eq']
  exact Nat.mul_le_mul_right _ (Nat.add_le_add_right (jsonSize_eraseKey_le k kvs) 2)

/-- a payload key that nothing reading this JSON object names is ignored by the top-level `Serde.de`,
    at any type expression -/
theorem denied_key_ignored_de_ty {e : Env} (h : EnvOK e) (k : String) (t : RTy) (kvs : List (String × Json))
    (hkf : KeyFree e k (Scope.leaf t)) : de e t (.obj kvs) = de e t (.obj (eraseKey k kvs)) :=
  denied_key_ignored_de_of_fuel e k t kvs hkf
    (deTy_fuel_indep h false t (.obj (eraseKey k kvs)) _ (deFuel_eraseKey_le e k kvs))

/-- … with the erased payload written out -/
theorem denied_key_ignored_de {e : Env} (h : EnvOK e) (k p : String) (kvs : List (String × Json)) (hkf : KeyFree e k p) :
    de e (.path p) (.obj kvs) = de e (.path p) (.obj (eraseKey k kvs)) :=
  denied_key_ignored_de_ty h k (.path p) kvs hkf

/-- no hypothesis on the environment: if the payload *without* the key is not answered by the fuel error, the payload
    with the key is read alike -/
theorem denied_key_ignored_de_of_nf (e : Env) (k : String) (t : RTy) (kvs : List (String × Json))
    (hkf : KeyFree e k (Scope.leaf t)) (hnf : de e t (.obj (eraseKey k kvs)) ≠ .error (.unmodelled "fuel")) :
    de e t (.obj kvs) = de e t (.obj (eraseKey k kvs)) :=
  denied_key_ignored_de_of_fuel e k t kvs hkf (de_stable e t _ hnf _ (deFuel_eraseKey_le e k kvs))

/-! ## a decidable sufficient check for `EnvOK` -/

def known (e : Env) (p : String) : Bool := (e.find p).isSome || (e.externs.find? (·.1 == p)).isSome

/-- `c` on the names the environment defines, `0` elsewhere -/
def clamp (e : Env) (c : String → Nat) (p : String) : Nat := if known e p then c p else 0

/-- the conditions of `Ranked`, checked on every item and extern of the environment -/
def rankCheckWith (e : Env) (c cf : String → Nat) (K : Nat) : Bool :=
  decide (1 ≤ K) &&
  e.items.all (fun it => decide (c it.name < K) && (match it with
    | .alias n _ t => decide (c (Scope.leaf t) < c n) && decide (tyCost cf t < cf n)
    | .struct n _ _ fs => fs.all (fun f => !f.flatten || (decide (tyCost cf f.ty < c n) && decide (tyCost cf f.ty < cf n)))
    | _ => true)) &&
  e.externs.all (fun x => decide (c x.1 < K) && ((e.find x.1).isSome || decide (c (Scope.leaf x.2) < c x.1)))

theorem clamp_le (e : Env) (c : String → Nat) (p : String) : clamp e c p ≤ c p := by
  unfold clamp; split <;> omega

theorem find_spec {e : Env} {p : String} {it : Item} (h : e.find p = some it) : it ∈ e.items ∧ it.name = p :=
  env_find_spec h

theorem ranked_of_check {e : Env} {c cf : String → Nat} {K : Nat} (h : rankCheckWith e c cf K = true) :
    Ranked e (clamp e c) cf K := by
  simp only [rankCheckWith, Bool.and_eq_true, decide_eq_true_eq, List.all_eq_true] at h
  obtain ⟨⟨hK, hI⟩, hX⟩ := h
  have hknown : ∀ {p it}, e.find p = some it → clamp e c p = c p := by
    intro p it hf
    simp [clamp, known, hf]
  have hstruct : ∀ p n d sc fields, e.find p = some (.struct n d sc fields) → ∀ f ∈ fields, f.flatten = true →
      tyCost cf f.ty < c p ∧ tyCost cf f.ty < cf p := by
    intro p n d sc fields hf f hmem hfl
    obtain ⟨hm, hn⟩ := env_find_spec hf
    have h2 := (hI _ hm).2
    simp only [List.all_eq_true, Bool.or_eq_true, Bool.not_eq_true', Bool.and_eq_true, decide_eq_true_eq] at h2
    simp only [Item.name] at hn
    rw [← hn]
    rcases h2 f hmem with h3 | h3
    · rw [hfl] at h3; cases h3
    · exact h3
  have halias : ∀ p n pub t, e.find p = some (.alias n pub t) → c (Scope.leaf t) < c p ∧ tyCost cf t < cf p := by
    intro p n pub t hf
    obtain ⟨hm, hn⟩ := env_find_spec hf
    have h2 := (hI _ hm).2
    simp only [Bool.and_eq_true, decide_eq_true_eq] at h2
    simp only [Item.name] at hn
    rw [← hn]
    exact h2
  refine ⟨fun p => ?_, fun p n pub t hf => ?_, fun p x hf hx => ?_, fun p n d sc fields hf f hmem hfl => ?_,
    fun p n pub t hf => (halias p n pub t hf).2, fun p n d sc fields hf f hmem hfl => (hstruct p n d sc fields hf f hmem hfl).2⟩
  · unfold clamp known
    cases hf : e.find p with
    | some it =>
      obtain ⟨hm, hn⟩ := env_find_spec hf
      have := (hI it hm).1
      simp only [Option.isSome_some, Bool.true_or, ↓reduceIte]
      rw [← hn]; exact this
    | none =>
      cases hx : e.externs.find? (·.1 == p) with
      | none => simp only [Option.isSome_none, Bool.or_self, Bool.false_eq_true, ↓reduceIte]; omega
      | some x =>
        have hm := List.mem_of_find?_eq_some hx
        have hn : x.1 = p := by simpa using List.find?_some hx
        have := (hX x hm).1
        simp only [Option.isSome_none, Option.isSome_some, Bool.or_true, ↓reduceIte]
        rw [← hn]; exact this
  · rw [hknown hf]
    exact Nat.lt_of_le_of_lt (clamp_le e c _) (halias p n pub t hf).1
  · have hm := List.mem_of_find?_eq_some hx
    have hn : x.1 = p := by simpa using List.find?_some hx
    have h2 := (hX x hm).2
    rw [hn, hf] at h2
    simp only [Option.isSome_none, Bool.false_or, decide_eq_true_eq] at h2
    have hk : clamp e c p = c p := by simp [clamp, known, hf, hx]
    rw [hk]
    exact Nat.lt_of_le_of_lt (clamp_le e c _) h2
  · rw [hknown hf]
    exact (hstruct p n d sc fields hf f hmem hfl).1

/-- a candidate `cf`: the longest chain of `deFlat` jumps (`Box`es included) from the named type `p`, explored to
    depth `fuel` -/
def costFl (e : Env) : Nat → String → Nat
  | 0, _ => 0
  | fuel+1, p =>
    match e.find p with
    | some (.alias _ _ t) => tyCost (costFl e fuel) t + 1
    | some (.struct _ _ _ fs) =>
      (fs.filter (·.flatten)).foldl (fun m f => max m (tyCost (costFl e fuel) f.ty + 1)) 0
    | _ => 0

/-- a candidate `c`: the longest chain of input-free jumps from the named type `p` read by `dePath` -/
def costP (e : Env) (cf : String → Nat) : Nat → String → Nat
  | 0, _ => 0
  | fuel+1, p =>
    match e.find p with
    | some (.alias _ _ t) => costP e cf fuel (Scope.leaf t) + 1
    | some (.struct _ _ _ fs) => (fs.filter (·.flatten)).foldl (fun m f => max m (tyCost cf f.ty + 1)) 0
    | some _ => 0
    | none => match e.externs.find? (·.1 == p) with
      | some x => costP e cf fuel (Scope.leaf x.2) + 1
      | none => 0

/-- exploration depth for the candidates: more than the number of names an acyclic chain can visit -/
def rankDepth (e : Env) : Nat := envWidth e

/-- **the decidable predicate**: the candidate ranks are a certificate within the per-level allowance of `deFuel` -/
def rankCheck (e : Env) : Bool :=
  let cf := costFl e (rankDepth e)
  rankCheckWith e (costP e cf (rankDepth e)) cf (deWidth e)

theorem envOK_of_check {e : Env} (h : rankCheck e = true) : EnvOK e :=
  ⟨_, _, _, ranked_of_check h, Nat.le_refl _⟩

/-- the same within the single width (`ser`, and the former `deFuel`) -/
def rankCheckS (e : Env) : Bool :=
  let cf := costFl e (rankDepth e)
  rankCheckWith e (costP e cf (rankDepth e)) cf (envWidth e)

theorem envOK_of_checkS {e : Env} (h : rankCheckS e = true) : EnvOK e ∧ EnvOKS e :=
  envOK_of_ranked (ranked_of_check h) (Nat.le_refl _)

/-- any certificate, for any `K`, gives a fuel that is never exhausted: `(jsonSize j + 1) * K` -/
theorem deTy_nf_of_check {e : Env} {c cf : String → Nat} {K : Nat} (h : rankCheckWith e c cf K = true) (b : Bool)
    (t : RTy) (j : Json) (fuel : Nat) (hf : (jsonSize j + 1) * K ≤ fuel) : deTy e b fuel t j ≠ .error (.unmodelled "fuel") := by
  have hr := ranked_of_check h
  exact deTy_nf hr b fuel t j (hr.need_le_succ_mul _ j hf)

/-- the 25-item module of `ComposedC14` (flatten members, tagged enums, aliases, extern scalars) fits the single width -/
theorem denyEnv_rankCheckS : rankCheckS denyEnv = true := by decide +kernel

end SerdeFuel
end GqlVerif
