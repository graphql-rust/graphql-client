import GqlVerif.Proofs.OutcomeLemmas
/-!
# The alias-or-struct decision of a variant struct follows `has_fields` (fields PUSHED, not rendered)

Rust `ExpandedSelection::render` (`codegen/selection.rs:587`): `has_fields = self.fields.iter().any(|f| f.struct_id == type_id)`
counts the `ExpandedField`s pushed by `calculate_selection`; the strategy `deny` acts only later
(`ExpandedField::render`, through `filter_map`).  The model's `calcVariants` decides with `pushedAny c.q vt mine`
(`Model/Codegen.lean`), not with the rendered fields `r.1` of `calcVariantSels`.

The two decisions agree wherever no field selected directly inside an inline fragment on the variant is denied
(`noDeniedV`, decidable; `decision_eq_old`) — in particular when the strategy is not `deny`, or no selected field is
deprecated.  In general the rendered fields are empty iff there is no spread and every pushing selection is a denied
field (`fields_nil_iff`).  The last section has a module on which the two differ: a second inline fragment with a lone
spread on one possible type, its sibling's only field deprecated under `deny`.
-/
namespace GqlVerif
namespace Pushed
open Codegen C02

/-! ## `renderField` keeps the field unless it is deprecated under `deny` -/

/-- is a field with this deprecation omitted by `ExpandedField::render`? -/
def denied (c : Ctx) (dep : Option (Option String)) : Bool := dep.isSome && c.o.deprecation == .deny

theorem renderField_isSome {c : Ctx} {g : Option String} {r ft : String} {quals : List Qual} {fl bx : Bool}
    {dep : Option (Option String)} {o : Option RField} (h : renderField c g r ft quals fl bx dep = .ok o) :
    o.isSome = !denied c dep := by
  unfold renderField at h
  obtain ⟨ty, _, h⟩ := bind_ok h
  simp only [] at h
  cases dep with
  | none =>
    cases hs : c.o.deprecation <;> simp only [pure, Except.pure, Except.ok.injEq] at h <;>
      (subst h; simp [denied])
  | some m =>
    cases hs : c.o.deprecation <;> simp only [hs, pure, Except.pure, Except.ok.injEq] at h <;>
      (subst h; simp [denied, hs])

theorem renderField_nodep_cons {c : Ctx} {g : Option String} {r ft : String} {quals : List Qual} {fl bx : Bool}
    {o : Option RField} (h : renderField c g r ft quals fl bx none = .ok o) : ∃ x, o.toList = [x] := by
  have := renderField_isSome h
  cases o with
  | none => simp [denied] at this
  | some x => exact ⟨x, rfl⟩

/-! ## the field loop -/

/-- is this selection a field that `ExpandedField::render` omits (deprecated, strategy `deny`)? -/
def selDenied (c : Ctx) : Sel → Bool
  | .field _ fid _ => (match c.s.fields[fid]? with | some sf => denied c sf.deprecation | none => false)
  | _ => false

theorem calcFields_field_head {c : Ctx} {f : Nat} {pfx : String} {ty : TypeId} {alias : Option String} {fid : Nat}
    {sub rest : List Sel} {r : List RField × List Item}
    (h : calcFields c (f + 1) pfx ty (.field alias fid sub :: rest) = .ok r) :
    ∃ (fld : Option RField) (r' : List RField × List Item), calcFields c f pfx ty rest = .ok r' ∧
      r.1 = fld.toList ++ r'.1 ∧ fld.isSome = !selDenied c (.field alias fid sub) := by
  rw [calcFields.eq_3] at h
  obtain ⟨sf, hsf, h⟩ := bind_ok h
  simp only [] at h
  have hsd : selDenied c (.field alias fid sub) = denied c sf.deprecation := by
    simp only [selDenied, getField_ok hsf]
  have fin : ∀ {fld : Option RField} {its : List Item},
      (do let x ← calcFields c f pfx ty rest
          (pure (fld.toList ++ x.fst, its ++ x.snd) : Outcome _)) = .ok r →
      ∃ r', calcFields c f pfx ty rest = .ok r' ∧ r.1 = fld.toList ++ r'.1 := by
    intro fld its h
    obtain ⟨r', hr, h⟩ := bind_ok h
    simp only [pure, Except.pure, Except.ok.injEq] at h
    subst h
    exact ⟨r', hr, rfl⟩
  split at h
  · obtain ⟨en, _, h⟩ := bind_ok h
    obtain ⟨fld, hfld, h⟩ := bind_ok h
    simp only [pure_bind] at h
    obtain ⟨r', hr, h1⟩ := fin h
    exact ⟨fld, r', hr, h1, by rw [hsd]; exact renderField_isSome hfld⟩
  · obtain ⟨sn, _, h⟩ := bind_ok h
    obtain ⟨fld, hfld, h⟩ := bind_ok h
    simp only [pure_bind] at h
    obtain ⟨r', hr, h1⟩ := fin h
    exact ⟨fld, r', hr, h1, by rw [hsd]; exact renderField_isSome hfld⟩
  · obtain ⟨x, hx, _⟩ := bind_ok h
    cases hx
  · obtain ⟨fld, hfld, h⟩ := bind_ok h
    obtain ⟨its, _, h⟩ := bind_ok h
    simp only [pure_bind] at h
    obtain ⟨r', hr, h1⟩ := fin h
    exact ⟨fld, r', hr, h1, by rw [hsd]; exact renderField_isSome hfld⟩

theorem calcFields_nil_iff {c : Ctx} : ∀ {sels : List Sel} {fuel : Nat} {pfx : String} {ty : TypeId}
    {r : List RField × List Item}, calcFields c fuel pfx ty sels = .ok r →
    (r.1 = [] ↔ ∀ x ∈ sels, selPushes c.q ty x = true → selDenied c x = true)
  | sels, 0, pfx, ty, r, h => by rw [calcFields.eq_1] at h; cases h
  | [], f + 1, pfx, ty, r, h => by
    rw [calcFields.eq_2 _ _ _ _ (by omega)] at h
    simp only [pure, Except.pure, Except.ok.injEq] at h
    subst h
    simp
  | .field a fid sub :: rest, f + 1, pfx, ty, r, h => by
    obtain ⟨fld, r', hr, h1, hs⟩ := calcFields_field_head h
    have ih := calcFields_nil_iff hr
    rw [h1, List.append_eq_nil_iff, ih]
    constructor
    · rintro ⟨hf, hrest⟩ x hx hp
      rcases List.mem_cons.mp hx with rfl | hx
      · cases fld with
        | none => simpa using hs
        | some y => simp at hf
      · exact hrest x hx hp
    · intro hall
      refine ⟨?_, fun x hx => hall x (List.mem_cons_of_mem _ hx)⟩
      have := hall _ List.mem_cons_self rfl
      rw [this] at hs
      cases fld with
      | none => rfl
      | some y => simp at hs
  | .spread g :: rest, f + 1, pfx, ty, r, h => by
    rw [calcFields.eq_4] at h
    obtain ⟨fr, hfr, h⟩ := bind_ok h
    obtain ⟨r', hr, h⟩ := bind_ok h
    have ih := calcFields_nil_iff hr
    have hp : selPushes c.q ty (.spread g) = (fr.on == ty) := by
      simp only [selPushes, getFragment_ok hfr]
    simp only [] at h
    split at h
    · rename_i hc
      simp only [pure, Except.pure, Except.ok.injEq] at h
      subst h
      have hc' : (fr.on == ty) = false := by simpa using hc
      rw [ih]
      constructor
      · intro hrest x hx hpx
        rcases List.mem_cons.mp hx with rfl | hx
        · rw [hp, hc'] at hpx; cases hpx
        · exact hrest x hx hpx
      · exact fun hall x hx => hall x (List.mem_cons_of_mem _ hx)
    · rename_i hc
      obtain ⟨fld, hfld, h⟩ := bind_ok h
      simp only [pure, Except.pure, Except.ok.injEq] at h
      subst h
      obtain ⟨y, hy⟩ := renderField_nodep_cons hfld
      have hc' : (fr.on == ty) = true := by simpa using hc
      constructor
      · intro hnil
        simp [hy] at hnil
      · intro hall
        have := hall _ List.mem_cons_self (by rw [hp, hc'])
        simp [selDenied] at this
  | .inline t sub :: rest, f + 1, pfx, ty, r, h => by
    rw [calcFields.eq_5 _ _ _ _ _ _ (by simp) (by simp)] at h
    rw [calcFields_nil_iff h]
    constructor
    · intro hrest x hx hpx
      rcases List.mem_cons.mp hx with rfl | hx
      · simp [selPushes] at hpx
      · exact hrest x hx hpx
    · exact fun hall x hx => hall x (List.mem_cons_of_mem _ hx)
  | .typename :: rest, f + 1, pfx, ty, r, h => by
    rw [calcFields.eq_5 _ _ _ _ _ _ (by simp) (by simp)] at h
    rw [calcFields_nil_iff h]
    constructor
    · intro hrest x hx hpx
      rcases List.mem_cons.mp hx with rfl | hx
      · simp [selPushes] at hpx
      · exact hrest x hx hpx
    · exact fun hall x hx => hall x (List.mem_cons_of_mem _ hx)

theorem calcFields_nil_of_not_pushed {c : Ctx} {sels : List Sel} {fuel : Nat} {pfx : String} {ty : TypeId}
    {r : List RField × List Item} (h : calcFields c fuel pfx ty sels = .ok r)
    (hp : sels.any (selPushes c.q ty) = false) : r.1 = [] := by
  rw [calcFields_nil_iff h]
  intro x hx hpx
  have : sels.any (selPushes c.q ty) = true := List.any_eq_true.mpr ⟨x, hx, hpx⟩
  rw [hp] at this; cases this

theorem calcFields_not_pushed_of_nil {c : Ctx} {sels : List Sel} {fuel : Nat} {pfx : String} {ty : TypeId}
    {r : List RField × List Item} (h : calcFields c fuel pfx ty sels = .ok r)
    (hd : sels.any (selDenied c) = false) (hnil : r.1 = []) : sels.any (selPushes c.q ty) = false := by
  cases hp : sels.any (selPushes c.q ty) with
  | false => rfl
  | true =>
    obtain ⟨x, hx, hpx⟩ := List.any_eq_true.mp hp
    have := (calcFields_nil_iff h).mp hnil x hx hpx
    have : sels.any (selDenied c) = true := List.any_eq_true.mpr ⟨x, hx, this⟩
    rw [hd] at this; cases this

/-! ## the selections on one variant -/

theorem pushedAny_inline_lone (q : Query) (vt t : TypeId) (g : Nat) (rest : List VariantSel) :
    pushedAny q vt (.inline t [.spread g] :: rest) = pushedAny q vt rest := by
  rw [pushedAny.eq_2]; rfl

theorem pushedAny_inline (q : Query) (vt t : TypeId) {sub : List Sel} (rest : List VariantSel)
    (h : ∀ g, sub ≠ [Sel.spread g]) :
    pushedAny q vt (.inline t sub :: rest) = (sub.any (selPushes q vt) || pushedAny q vt rest) :=
  pushedAny.eq_3 _ _ _ _ _ (fun g hg => h g hg)

theorem pushedAny_spread (q : Query) (vt : TypeId) (g : Nat) (fr : RFragment) (rest : List VariantSel) :
    pushedAny q vt (.spread g fr :: rest) = true := pushedAny.eq_4 ..

theorem pushedAny_cons (q : Query) (vt : TypeId) (v : VariantSel) (rest : List VariantSel) :
    pushedAny q vt (v :: rest) = (pushedAny q vt [v] || pushedAny q vt rest) := by
  cases v with
  | spread g fr => rw [pushedAny_spread, pushedAny_spread]; rfl
  | inline t sub =>
    by_cases h : ∃ g, sub = [Sel.spread g]
    · obtain ⟨g, rfl⟩ := h
      rw [pushedAny_inline_lone, pushedAny_inline_lone]; rfl
    · have h' : ∀ g, sub ≠ [Sel.spread g] := fun g hg => h ⟨g, hg⟩
      rw [pushedAny_inline _ _ _ _ h', pushedAny_inline _ _ _ _ h']
      simp [pushedAny]

theorem pushedAny_append (q : Query) (vt : TypeId) : ∀ (xs ys : List VariantSel),
    pushedAny q vt (xs ++ ys) = (pushedAny q vt xs || pushedAny q vt ys)
  | [], ys => rfl
  | x :: xs, ys => by
    rw [List.cons_append, pushedAny_cons, pushedAny_append q vt xs ys, pushedAny_cons q vt x xs, Bool.or_assoc]

/-- no field selected directly inside an inline fragment of `mine` is deprecated while the strategy is `deny`
    (the condition under which `has_fields` and "some field is rendered" coincide) -/
def noDeniedV (c : Ctx) (mine : List VariantSel) : Bool :=
  mine.all (fun v => match v with
    | .inline _ sub => !sub.any (selDenied c)
    | .spread _ _ => true)

/-- one-step decomposition of `calcVariantSels` at an inline fragment, first component only -/
theorem calcVariantSels_inline_fields {c : Ctx} {f : Nat} {sname pfx : String} {vt t : TypeId} {sub : List Sel}
    {rest : List VariantSel} {r : List RField × List Item × List Item}
    (h : calcVariantSels c (f + 1) sname pfx vt (.inline t sub :: rest) = .ok r) :
    ∃ (fs0 : List RField) (r' : List RField × List Item × List Item),
      calcVariantSels c f sname pfx vt rest = .ok r' ∧ r.1 = fs0 ++ r'.1 ∧
      ((∃ g, sub = [.spread g] ∧ fs0 = []) ∨
       ((∀ g, sub ≠ [Sel.spread g]) ∧ ∃ pfx' items0, calcFields c f pfx' vt sub = .ok (fs0, items0))) := by
  have fin : ∀ {fs0 : List RField} {items0 al0 : List Item},
      (do let x ← calcVariantSels c f sname pfx vt rest
          (pure (fs0 ++ x.fst, items0 ++ x.snd.fst, al0 ++ x.snd.snd) : Outcome _)) = .ok r →
      ∃ r', calcVariantSels c f sname pfx vt rest = .ok r' ∧ r.1 = fs0 ++ r'.1 := by
    intro fs0 items0 al0 h
    obtain ⟨r', hr, h⟩ := bind_ok h
    simp only [pure, Except.pure, Except.ok.injEq] at h
    subst h
    exact ⟨r', hr, rfl⟩
  by_cases hsp : ∃ g, sub = [Sel.spread g]
  · obtain ⟨g, rfl⟩ := hsp
    rw [calcVariantSels.eq_3] at h
    obtain ⟨tn, _, h⟩ := bind_ok h
    simp only [] at h
    obtain ⟨fr, _, h⟩ := bind_ok h
    simp only [pure_bind] at h
    obtain ⟨r', hr, h1⟩ := fin h
    exact ⟨[], r', hr, h1, .inl ⟨g, rfl, rfl⟩⟩
  · rw [calcVariantSels.eq_4 _ _ _ _ _ _ _ _ (fun g hg => hsp ⟨g, hg⟩)] at h
    obtain ⟨tn, _, h⟩ := bind_ok h
    simp only [] at h
    obtain ⟨⟨fs0, items0⟩, hfl, h⟩ := bind_ok h
    simp only [pure_bind] at h
    obtain ⟨r', hr, h1⟩ := fin h
    exact ⟨fs0, r', hr, h1, .inr ⟨fun g hg => hsp ⟨g, hg⟩, _, items0, hfl⟩⟩

theorem calcVariantSels_spread_fields {c : Ctx} {f : Nat} {sname pfx : String} {vt : TypeId} {g : Nat} {fr : RFragment}
    {rest : List VariantSel} {r : List RField × List Item × List Item}
    (h : calcVariantSels c (f + 1) sname pfx vt (.spread g fr :: rest) = .ok r) : ∃ y ys, r.1 = y :: ys := by
  rw [calcVariantSels.eq_5] at h
  obtain ⟨fld, hfld, h⟩ := bind_ok h
  obtain ⟨r', _, h⟩ := bind_ok h
  simp only [pure, Except.pure, Except.ok.injEq] at h
  subst h
  obtain ⟨y, hy⟩ := renderField_nodep_cons hfld
  exact ⟨y, r'.1, by simp [hy]⟩

/-- **(a) nothing pushed for the variant struct ⇒ no rendered field**: wherever the decision by `pushedAny` takes the
    alias, the one by the rendered fields does too -/
theorem pushedAny_false_fields {c : Ctx} : ∀ {mine : List VariantSel} {fuel : Nat} {sname pfx : String} {vt : TypeId}
    {r : List RField × List Item × List Item}, calcVariantSels c fuel sname pfx vt mine = .ok r →
    pushedAny c.q vt mine = false → r.1 = []
  | mine, 0, sname, pfx, vt, r, h, _ => by rw [calcVariantSels.eq_1] at h; cases h
  | [], f + 1, sname, pfx, vt, r, h, _ => by
    rw [calcVariantSels.eq_2 _ _ _ _ _ (by omega)] at h
    simp only [pure, Except.pure, Except.ok.injEq] at h
    subst h; rfl
  | .inline t sub :: rest, f + 1, sname, pfx, vt, r, h, hp => by
    obtain ⟨fs0, r', hr, h1, hstep⟩ := calcVariantSels_inline_fields h
    rcases hstep with ⟨g, rfl, rfl⟩ | ⟨hns, pfx', items0, hfl⟩
    · rw [pushedAny_inline_lone] at hp
      rw [h1, pushedAny_false_fields hr hp]; rfl
    · rw [pushedAny_inline _ _ _ _ hns, Bool.or_eq_false_iff] at hp
      have h0 : fs0 = [] := calcFields_nil_of_not_pushed hfl hp.1
      rw [h1, pushedAny_false_fields hr hp.2, h0]; rfl
  | .spread g fr :: rest, f + 1, sname, pfx, vt, r, h, hp => by
    rw [pushedAny_spread] at hp; cases hp

/-- **(b) no rendered field and nothing denied ⇒ nothing pushed**: on every class that excludes denied fields, wherever
    the decision by the rendered fields takes the alias, the one by `pushedAny` does too -/
theorem fields_nil_pushedAny_false {c : Ctx} : ∀ {mine : List VariantSel} {fuel : Nat} {sname pfx : String} {vt : TypeId}
    {r : List RField × List Item × List Item}, calcVariantSels c fuel sname pfx vt mine = .ok r →
    noDeniedV c mine = true → r.1 = [] → pushedAny c.q vt mine = false
  | mine, 0, sname, pfx, vt, r, h, _, _ => by rw [calcVariantSels.eq_1] at h; cases h
  | [], f + 1, sname, pfx, vt, r, h, _, _ => rfl
  | .inline t sub :: rest, f + 1, sname, pfx, vt, r, h, hd, hnil => by
    obtain ⟨fs0, r', hr, h1, hstep⟩ := calcVariantSels_inline_fields h
    rw [h1, List.append_eq_nil_iff] at hnil
    simp only [noDeniedV, List.all_cons, Bool.and_eq_true] at hd
    have ih := fields_nil_pushedAny_false hr hd.2 hnil.2
    rcases hstep with ⟨g, rfl, rfl⟩ | ⟨hns, pfx', items0, hfl⟩
    · rw [pushedAny_inline_lone]; exact ih
    · rw [pushedAny_inline _ _ _ _ hns, ih, Bool.or_false]
      exact calcFields_not_pushed_of_nil hfl (by simpa using hd.1) hnil.1
  | .spread g fr :: rest, f + 1, sname, pfx, vt, r, h, _, hnil => by
    obtain ⟨y, ys, hy⟩ := calcVariantSels_spread_fields h
    rw [hy] at hnil; cases hnil

/-- under `noDeniedV`: `has_fields` is "some field is rendered" -/
theorem pushedAny_eq_of_noDenied {c : Ctx} {mine : List VariantSel} {fuel : Nat} {sname pfx : String} {vt : TypeId}
    {r : List RField × List Item × List Item} (h : calcVariantSels c fuel sname pfx vt mine = .ok r)
    (hd : noDeniedV c mine = true) : pushedAny c.q vt mine = !r.1.isEmpty := by
  cases hr : r.1 with
  | nil => rw [fields_nil_pushedAny_false h hd hr]; rfl
  | cons y ys =>
    cases hp : pushedAny c.q vt mine with
    | true => rfl
    | false => rw [pushedAny_false_fields h hp] at hr; cases hr

/-- **the two decisions coincide** wherever nothing selected on the variant is denied: the `match` of `calcVariants` on
    `pushedAny c.q vt mine, r.2.2` gives what a `match` on `r.1, r.2.2` would -/
theorem decision_eq_old {c : Ctx} {mine : List VariantSel} {fuel : Nat} {sname pfx : String} {vt : TypeId}
    {r : List RField × List Item × List Item} (h : calcVariantSels c fuel sname pfx vt mine = .ok r)
    (hd : noDeniedV c mine = true) {β : Type} (alias : Item → β) (struct : List Item → β) :
    (match pushedAny c.q vt mine, r.2.2 with
     | false, [a] => alias a
     | _, als => struct als) =
    (match r.1, r.2.2 with
     | [], [a] => alias a
     | _, als => struct als) := by
  rw [pushedAny_eq_of_noDenied h hd]
  obtain ⟨r1, r2, r3⟩ := r
  cases r1 <;> cases r3 with
  | nil => rfl
  | cons a t => cases t <;> rfl

theorem noDeniedV_of_not_deny {c : Ctx} (h : c.o.deprecation ≠ .deny) (mine : List VariantSel) : noDeniedV c mine = true := by
  have hden : ∀ x, selDenied c x = false := by
    intro x
    cases x with
    | field a fid sub =>
      simp only [selDenied]
      cases c.s.fields[fid]? with
      | none => rfl
      | some sf => simp [denied, h]
    | _ => rfl
  simp only [noDeniedV, List.all_eq_true]
  intro v _
  cases v with
  | spread g fr => rfl
  | inline t sub =>
    simp only [Bool.not_eq_true', List.any_eq_false]
    intro x _
    simp [hden x]

theorem noDeniedV_of_fields {c : Ctx} {mine : List VariantSel}
    (h : ∀ t sub, VariantSel.inline t sub ∈ mine → ∀ a fid sub', Sel.field a fid sub' ∈ sub →
      ∀ sf, c.s.fields[fid]? = some sf → sf.deprecation = none) : noDeniedV c mine = true := by
  simp only [noDeniedV, List.all_eq_true]
  intro v hv
  cases v with
  | spread g fr => rfl
  | inline t sub =>
    simp only [Bool.not_eq_true', List.any_eq_false]
    intro x hx
    cases x with
    | field a fid sub' =>
      simp only [selDenied]
      cases hsf : c.s.fields[fid]? with
      | none => simp
      | some sf => simp [denied, h t sub hv a fid sub' hx sf hsf]
    | _ => simp [selDenied]

/-! ## the general picture (any strategy) -/

/-- **`has_fields` and the rendered fields in general**: the rendered fields of the variant struct are empty iff there is
    no spread among the selections and every pushing selection inside their (non-aliased) inline fragments is a denied
    field.  (`pushedAny = true` with `r.1 = []` — the case in which a decision by the rendered fields takes the alias and
    the generator does not — is: something pushed, all of it denied.) -/
theorem fields_nil_iff {c : Ctx} : ∀ {mine : List VariantSel} {fuel : Nat} {sname pfx : String} {vt : TypeId}
    {r : List RField × List Item × List Item}, calcVariantSels c fuel sname pfx vt mine = .ok r →
    (r.1 = [] ↔ ∀ v ∈ mine, match v with
      | .spread _ _ => False
      | .inline _ sub => (∃ g, sub = [Sel.spread g]) ∨ ∀ x ∈ sub, selPushes c.q vt x = true → selDenied c x = true)
  | mine, 0, sname, pfx, vt, r, h => by rw [calcVariantSels.eq_1] at h; cases h
  | [], f + 1, sname, pfx, vt, r, h => by
    rw [calcVariantSels.eq_2 _ _ _ _ _ (by omega)] at h
    simp only [pure, Except.pure, Except.ok.injEq] at h
    subst h; simp
  | .inline t sub :: rest, f + 1, sname, pfx, vt, r, h => by
    obtain ⟨fs0, r', hr, h1, hstep⟩ := calcVariantSels_inline_fields h
    rw [h1, List.append_eq_nil_iff, fields_nil_iff hr, List.forall_mem_cons]
    apply and_congr_left'
    rcases hstep with ⟨g, rfl, rfl⟩ | ⟨hns, pfx', items0, hfl⟩
    · exact ⟨fun _ => .inl ⟨g, rfl⟩, fun _ => rfl⟩
    · rw [calcFields_nil_iff hfl]
      exact ⟨fun h => .inr h, fun h => h.elim (fun ⟨g, hg⟩ => absurd hg (hns g)) id⟩
  | .spread g fr :: rest, f + 1, sname, pfx, vt, r, h => by
    obtain ⟨y, ys, hy⟩ := calcVariantSels_spread_fields h
    rw [hy, List.forall_mem_cons]
    simp

/-! ## a module on which the decision by pushed fields and the one by rendered fields differ

`interface I { x: String @deprecated }  type O implements I { x: String @deprecated }  type Query { i: I }`,
`fragment F on O { __typename }`, `query Q { i { __typename ... on O { x } ... on O { ...F } } }`. -/

def wCtx (strategy : DepStrategy) : Ctx :=
  { s := { objects := [{ name := "Query", fields := [0], implements := [] }, { name := "O", fields := [2], implements := [0] }],
           fields := [{ name := "i", ty := { id := .interface 0, quals := [] }, parent := .object 0, deprecation := none },
                      { name := "x", ty := { id := .scalar 1, quals := [] }, parent := .interface 0, deprecation := some none },
                      { name := "x", ty := { id := .scalar 1, quals := [] }, parent := .object 1, deprecation := some none }],
           interfaces := [{ name := "I", fields := [1] }],
           scalars := Schema.defaultScalars },
    q := { fragments := [{ name := "F", on := .object 1, sels := [.typename] }],
           operations := [{ name := "Q", kind := .query, objectId := 0,
                            sels := [.field none 0 [.typename, .inline (.object 1) [.field none 2 []],
                                                    .inline (.object 1) [.spread 0]]] }] },
    o := { deprecation := strategy },
    cs := ⟨fun s => if s = "F" then "f" else s, fun s => if s = "i" then "I" else s⟩ }

def wOp : ROperation :=
  { name := "Q", kind := .query, objectId := 0,
    sels := [.field none 0 [.typename, .inline (.object 1) [.field none 2 []], .inline (.object 1) [.spread 0]]] }

def fMember : RField := { rust := "f", ty := .path "F", flatten := true }

/-- **under `deny` the variant struct keeps the flattened fragment member** (the real generator:
    `pub struct QIOnO { #[serde(flatten)] pub f: F }`; a decision by the rendered fields gives `type QIOnO = F`) -/
theorem deny_variant_struct_keeps_flatten :
    (match responseItems (wCtx .deny) wOp with
     | .ok items => items ==
        [.struct "ResponseData" ["Deserialize"] (some "::serde") [{ rust := "i", ty := .opt (.path "QI") }],
         .tagged "QI" ["Deserialize"] (some "::serde") "__typename" [{ name := "O", payload := some (.path "QIOnO") }],
         .struct "QIOnO" ["Deserialize"] (some "::serde") [fMember]]
     | .error _ => false) = true := by
  decide +kernel

/-- under `allow`: the two-member struct (`x`, then the flattened member) -/
theorem allow_variant_struct_two_members :
    (match responseItems (wCtx .allow) wOp with
     | .ok items => items ==
        [.struct "ResponseData" ["Deserialize"] (some "::serde") [{ rust := "i", ty := .opt (.path "QI") }],
         .tagged "QI" ["Deserialize"] (some "::serde") "__typename" [{ name := "O", payload := some (.path "QIOnO") }],
         .struct "QIOnO" ["Deserialize"] (some "::serde") [{ rust := "x", ty := .opt (.path "String") }, fMember]]
     | .error _ => false) = true := by
  decide +kernel

/-- the selections on the variant `O` of the witness -/
def wMine : List VariantSel := [.inline (.object 1) [.field none 2 []], .inline (.object 1) [.spread 0]]

/-- on the witness under `deny`: a field is pushed, none is rendered, one alias is contributed — a decision by the
    rendered fields (`r.1 = []`, `r.2.2 = [a]`) takes the alias; `noDeniedV` fails, as it must -/
theorem old_decision_alias :
    pushedAny (wCtx .deny).q (.object 1) wMine = true ∧ noDeniedV (wCtx .deny) wMine = false ∧
    (match calcVariantSels (wCtx .deny) 8 "QIOnO" "QI" (.object 1) wMine with
     | .ok r => r.1.isEmpty && r.2.2 == [aliasItem "QIOnO" "F" false]
     | .error _ => false) = true := by
  refine ⟨?_, ?_, ?_⟩ <;> decide +kernel

end Pushed
end GqlVerif
