import GqlVerif.Model.Serde
/-!
# the serde model is monotone in its fuel (no hypothesis on the environment)

The fuel-indexed readers / writers of `Model/Serde.lean` (`dePath`, `deFlat`, `serPath`) return
`.error (.unmodelled "fuel")` (`fuelErr`) at fuel `0` and never catch an error.  Hence, for EVERY environment,
type and payload: a result that is not `fuelErr` is final — every larger fuel gives the same result
(`dePath_mono`, `deFlat_mono`, `deTy_mono`, `serPath_mono`, `serTy_mono`).

`Le r r'` (`r` is `fuelErr`, or `r' = r`) is the definedness order; every building block of the model (`deTyWith` …
`serFieldsWith`) is monotone in its `path` / `flat` parameter for it.
-/
namespace GqlVerif
namespace SerdeFuel
open Serde

/-- the error the model returns when its fuel is exhausted (`dePath` / `deFlat` / `serPath` at fuel `0`) -/
def fuelErr : DErr := .unmodelled "fuel"

def NF {α : Type} (r : D α) : Prop := r ≠ .error fuelErr

/-- definedness order: `r` is the fuel-exhaustion error, or `r'` is `r` -/
def Le {α : Type} (r r' : D α) : Prop := NF r → r' = r

theorem nf_ok {α : Type} (x : α) : NF (.ok x : D α) := by intro h; cases h
theorem nf_pure {α : Type} (x : α) : NF (pure x : D α) := nf_ok x
theorem nf_bad {α : Type} (w : String) : NF (bad w : D α) := by intro h; cases h

theorem nf_error {α : Type} {err : DErr} (h : err ≠ fuelErr) : NF (.error err : D α) := by
  intro h'; cases h'; exact h rfl

theorem nf_map {α β : Type} {g : α → β} {m : D α} : NF (g <$> m) ↔ NF m := by
  cases m with
  | error err =>
    constructor
    · intro h h'; cases h'; exact h rfl
    · intro h h'; cases h'; exact h rfl
  | ok x => exact ⟨fun _ => nf_ok x, fun _ => nf_ok (g x)⟩

theorem nf_of_bind {α β : Type} {m : D α} {f : α → D β} (h : NF (m >>= f)) : NF m := by
  cases m with
  | error err => intro h'; cases h'; exact h rfl
  | ok x => exact nf_ok x

theorem nf_bind {α β : Type} {m : D α} {f : α → D β} (hm : NF m) (hf : ∀ x, m = .ok x → NF (f x)) : NF (m >>= f) := by
  cases m with
  | error err => intro h'; cases h'; exact hm rfl
  | ok x => exact hf x rfl

theorem Le.rfl {α : Type} {r : D α} : Le r r := fun _ => Eq.refl r

theorem Le.of_eq {α : Type} {r r' : D α} (h : r' = r) : Le r r' := fun _ => h

theorem Le.fuelErr {α : Type} {r' : D α} : Le (.error fuelErr) r' := fun h => absurd (Eq.refl _) h

theorem Le.trans {α : Type} {a b c : D α} (h1 : Le a b) (h2 : Le b c) : Le a c := by
  intro ha
  have hb := h1 ha
  rw [← hb]
  exact h2 (hb ▸ ha)

theorem Le.bind {α β : Type} {m m' : D α} {f f' : α → D β} (hm : Le m m') (hf : ∀ x, m = .ok x → Le (f x) (f' x)) :
    Le (m >>= f) (m' >>= f') := by
  intro h
  have h1 := hm (nf_of_bind h)
  subst h1
  cases m' with
  | error err => rfl
  | ok x => exact hf x (Eq.refl _) h

theorem Le.map {α β : Type} (g : α → β) {m m' : D α} (hm : Le m m') : Le (g <$> m) (g <$> m') := by
  intro h
  rw [hm (nf_map.mp h)]

theorem Le.ite {α : Type} {c : Prop} [Decidable c] {a a' b b' : D α} (ha : c → Le a a') (hb : ¬ c → Le b b') :
    Le (if c then a else b) (if c then a' else b') := by
  by_cases hc : c
  · simp only [hc, ↓reduceIte]; exact ha hc
  · simp only [hc, ↓reduceIte]; exact hb hc

theorem Le.mapM {α β : Type} {f f' : α → D β} : ∀ (xs : List α), (∀ x ∈ xs, Le (f x) (f' x)) →
    Le (xs.mapM f) (xs.mapM f')
  | [], _ => Le.rfl
  | x :: xs, h => by
    rw [List.mapM_cons, List.mapM_cons]
    refine Le.bind (h x List.mem_cons_self) (fun y _ => ?_)
    exact Le.bind (Le.mapM xs (fun z hz => h z (List.mem_cons_of_mem _ hz))) (fun _ _ => Le.rfl)

/-! ## the building blocks are monotone -/

section With
variable {path path' : String → Json → D Val} (hp : ∀ p j, Le (path p j) (path' p j))
include hp

theorem deTyWith_le : ∀ (t : RTy) (j : Json), Le (deTyWith path t j) (deTyWith path' t j)
  | .path p, j => by simp only [deTyWith]; exact hp p j
  | .opt t, j => by
    simp only [deTyWith]
    exact Le.ite (fun _ => Le.rfl) (fun _ => Le.map _ (deTyWith_le t j))
  | .box t, j => by simp only [deTyWith]; exact deTyWith_le t j
  | .vec t, j => by
    cases j with
    | arr xs =>
      simp only [deTyWith]
      exact Le.map _ (Le.mapM xs (fun x _ => deTyWith_le t x))
    | _ => exact Le.rfl

theorem deFieldWith_le (f : RField) (j : Json) : Le (deFieldWith path f j) (deFieldWith path' f j) := by
  unfold deFieldWith
  cases f.deserWith with
  | some h => exact Le.rfl
  | none => exact deTyWith_le hp f.ty j

theorem deOwnWith_le : ∀ (fs : List RField) (kvs : List (String × Json)),
    Le (deOwnWith path fs kvs) (deOwnWith path' fs kvs)
  | [], _ => Le.rfl
  | f :: fs, kvs => by
    rw [deOwnWith.eq_2, deOwnWith.eq_2]
    refine Le.bind (deOwnWith_le fs kvs) (fun rest _ => ?_)
    refine Le.ite (fun _ => Le.rfl) (fun _ => Le.ite (fun _ => Le.rfl) (fun _ => ?_))
    cases Json.lookup f.wire kvs with
    | none => exact Le.rfl
    | some j => exact Le.bind (deFieldWith_le hp f j) (fun _ _ => Le.rfl)

theorem deTaggedWith_le (b : Bool) (tag : String) (vs : List RVariant) (kvs : List (String × Json)) :
    Le (deTaggedWith path b tag vs kvs) (deTaggedWith path' b tag vs kvs) := by
  have hpick : ∀ v : RVariant,
      Le (if v.other then (pure (.variant v.name none) : D Val) else
          match v.payload with
          | none => pure (.variant v.name none)
          | some t => (fun x => Val.variant v.name (some x)) <$> deTyWith path t (.obj (kvs.filter (·.1 != tag))))
         (if v.other then (pure (.variant v.name none) : D Val) else
          match v.payload with
          | none => pure (.variant v.name none)
          | some t => (fun x => Val.variant v.name (some x)) <$> deTyWith path' t (.obj (kvs.filter (·.1 != tag)))) := by
    intro v
    refine Le.ite (fun _ => Le.rfl) (fun _ => ?_)
    cases v.payload with
    | none => exact Le.rfl
    | some t => exact Le.map _ (deTyWith_le hp t _)
  unfold deTaggedWith
  split
  · exact Le.rfl
  · simp only []
    split
    · rename_i name _
      cases vs.find? (fun v => !v.other && v.wire == name) with
      | none => exact Le.rfl
      | some v => exact hpick v
    · rename_i n _
      refine Le.ite (fun _ => Le.rfl) (fun _ => Le.ite (fun _ => Le.rfl) (fun _ => ?_))
      cases vs[n.toNat]? with
      | none => exact Le.rfl
      | some v => exact hpick v
    · exact Le.rfl
  · exact Le.rfl

end With

theorem deFlatsWith_le {flat flat' : RTy → Buf → D (Val × Buf)} (hf : ∀ t buf, Le (flat t buf) (flat' t buf)) :
    ∀ (fs : List RField) (buf : Buf), Le (deFlatsWith flat fs buf) (deFlatsWith flat' fs buf)
  | [], _ => Le.rfl
  | f :: fs, buf => by
    rw [deFlatsWith.eq_2, deFlatsWith.eq_2]
    refine Le.ite (fun _ => deFlatsWith_le hf fs buf) (fun _ => ?_)
    refine Le.bind (hf f.ty buf) (fun r _ => ?_)
    exact Le.bind (deFlatsWith_le hf fs r.2) (fun _ _ => Le.rfl)

theorem deStructMapWith_le {path path' : String → Json → D Val} {flat flat' : RTy → Buf → D (Val × Buf)}
    (hp : ∀ p j, Le (path p j) (path' p j)) (hf : ∀ t buf, Le (flat t buf) (flat' t buf))
    (fields : List RField) (kvs : List (String × Json)) :
    Le (deStructMapWith path flat fields kvs) (deStructMapWith path' flat' fields kvs) := by
  unfold deStructMapWith
  refine Le.bind (deOwnWith_le hp fields kvs) (fun own _ => ?_)
  refine Le.ite (fun _ => ?_) (fun _ => Le.rfl)
  exact Le.bind (deFlatsWith_le hf fields _) (fun _ _ => Le.rfl)

theorem deStructWith_le {path path' : String → Json → D Val} {flat flat' : RTy → Buf → D (Val × Buf)}
    (hp : ∀ p j, Le (path p j) (path' p j)) (hf : ∀ t buf, Le (flat t buf) (flat' t buf))
    (fields : List RField) (j : Json) :
    Le (deStructWith path flat fields j) (deStructWith path' flat' fields j) := by
  unfold deStructWith
  cases j with
  | obj kvs => exact deStructMapWith_le hp hf fields kvs
  | arr xs =>
    simp only []
    refine Le.ite (fun _ => Le.rfl) (fun _ => Le.ite (fun _ => Le.rfl) (fun _ => ?_))
    refine Le.map _ (Le.mapM _ (fun fx _ => ?_))
    exact Le.bind (deFieldWith_le hp fx.1 fx.2) (fun _ _ => Le.rfl)
  | _ => exact Le.rfl

/-! ## `dePath` / `deFlat`: one more unit of fuel refines the result -/

theorem de_succ_le (e : Env) : ∀ (fuel : Nat),
    (∀ b p j, Le (dePath e b fuel p j) (dePath e b (fuel+1) p j)) ∧
    (∀ t buf, Le (deFlat e fuel t buf) (deFlat e (fuel+1) t buf)) := by
  intro fuel
  induction fuel with
  | zero =>
    refine ⟨fun b p j => ?_, fun t buf => ?_⟩
    · rw [dePath]; exact Le.fuelErr
    · rw [deFlat]; exact Le.fuelErr
  | succ n ih =>
    obtain ⟨ihP, ihF⟩ := ih
    refine ⟨fun b p j => ?_, fun t buf => ?_⟩
    · rw [dePath, dePath]
      split
      · exact Le.rfl
      · cases e.find p with
        | none =>
          simp only []
          cases e.externs.find? (·.1 == p) with
          | none => exact Le.rfl
          | some x => exact deTyWith_le (ihP b) x.2 j
        | some it =>
          cases it with
          | alias n' pub t => exact deTyWith_le (ihP b) t j
          | struct n' d sc fields => exact deStructWith_le (ihP b) ihF fields j
          | unitStruct n' d sc => exact Le.rfl
          | tagged n' d sc tag vs =>
            simp only []
            cases j with
            | obj kvs => exact deTaggedWith_le (ihP true) b tag vs kvs
            | _ => exact Le.rfl
          | gqlEnum n' d sp vs ser de => exact Le.rfl
          | oneOf n' d sc vs =>
            simp only []
            split
            · split
              · split
                · exact Le.map _ (deTyWith_le (ihP b) _ _)
                · exact Le.rfl
              · exact Le.rfl
            · exact Le.rfl
          | defaults fns => exact Le.rfl
    · cases t with
      | box t => rw [deFlat, deFlat]; exact ihF t buf
      | opt t => simp only [deFlat]; exact Le.rfl
      | vec t => simp only [deFlat]; exact Le.rfl
      | path p =>
        rw [deFlat, deFlat]
        cases e.find p with
        | none => exact Le.rfl
        | some it =>
          cases it with
          | alias n' pub t => exact ihF t buf
          | struct n' d sc fields =>
            simp only []
            refine Le.ite (fun _ => ?_) (fun _ => ?_)
            · exact Le.bind (deStructMapWith_le (ihP true) ihF fields _) (fun _ _ => Le.rfl)
            · exact Le.bind (deOwnWith_le (ihP true) fields _) (fun _ _ => Le.rfl)
          | tagged n' d sc tag vs =>
            exact Le.bind (deTaggedWith_le (ihP true) true tag vs _) (fun _ _ => Le.rfl)
          | unitStruct n' d sc => exact Le.rfl
          | gqlEnum n' d sp vs ser de => exact Le.rfl
          | oneOf n' d sc vs => exact Le.rfl
          | defaults fns => exact Le.rfl

/-! ## serialization -/

section SerWith
variable {path path' : String → Val → D Json} (hp : ∀ p v, Le (path p v) (path' p v))
include hp

theorem serTyWith_le : ∀ (t : RTy) (v : Val), Le (serTyWith path t v) (serTyWith path' t v)
  | .path p, v => by simp only [serTyWith]; exact hp p v
  | .box t, v => by simp only [serTyWith]; exact serTyWith_le t v
  | .opt t, v => by
    cases v with
    | some x => simp only [serTyWith]; exact serTyWith_le t x
    | _ => exact Le.rfl
  | .vec t, v => by
    cases v with
    | list xs =>
      simp only [serTyWith]
      exact Le.map _ (Le.mapM xs (fun x _ => serTyWith_le t x))
    | _ => exact Le.rfl

theorem serFieldsWith_le : ∀ (fs : List RField) (vals : List (String × Val)),
    Le (serFieldsWith path fs vals) (serFieldsWith path' fs vals)
  | [], _ => Le.rfl
  | f :: fs, vals => by
    rw [serFieldsWith.eq_2, serFieldsWith.eq_2]
    refine Le.bind (serFieldsWith_le fs vals) (fun rest _ => ?_)
    cases vals.find? (·.1 == f.rust) with
    | none => exact Le.rfl
    | some nv =>
      simp only []
      refine Le.ite (fun _ => ?_) (fun _ => Le.ite (fun _ => Le.rfl) (fun _ => ?_))
      · exact Le.bind (serTyWith_le hp f.ty nv.2) (fun _ _ => Le.rfl)
      · exact Le.bind (serTyWith_le hp f.ty nv.2) (fun _ _ => Le.rfl)

end SerWith

theorem ser_succ_le (e : Env) : ∀ (fuel : Nat) (p : String) (v : Val),
    Le (serPath e fuel p v) (serPath e (fuel+1) p v) := by
  intro fuel
  induction fuel with
  | zero => intro p v; rw [serPath]; exact Le.fuelErr
  | succ n ih =>
    intro p v
    rw [serPath, serPath]
    split
    · exact Le.rfl
    · cases e.find p with
      | none =>
        simp only []
        cases e.externs.find? (·.1 == p) with
        | none => exact Le.rfl
        | some x => exact serTyWith_le ih x.2 v
      | some it =>
        cases it with
        | alias n' pub t => exact serTyWith_le ih t v
        | struct n' d sc fields =>
          simp only []
          cases v with
          | record vals => exact Le.map _ (serFieldsWith_le ih fields vals)
          | _ => exact Le.rfl
        | unitStruct n' d sc => exact Le.rfl
        | tagged n' d sc tag vs =>
          simp only []
          cases v with
          | variant name payload =>
            simp only []
            split
            · exact Le.rfl
            · split
              · exact Le.bind (serTyWith_le ih _ _) (fun _ _ => Le.rfl)
              · exact Le.rfl
            · exact Le.rfl
          | _ => exact Le.rfl
        | gqlEnum n' d sp vs ser de => exact Le.rfl
        | oneOf n' d sc vs =>
          simp only []
          split
          · split
            · split
              · exact Le.bind (serTyWith_le ih _ _) (fun _ _ => Le.rfl)
              · exact Le.rfl
            · exact Le.rfl
          · exact Le.rfl
        | defaults fns => exact Le.rfl

/-! ## the monotonicity theorems -/

theorem le_of_succ_le {α : Type} (f : Nat → D α) (h : ∀ n, Le (f n) (f (n+1))) :
    ∀ {n m : Nat}, n ≤ m → Le (f n) (f m) := by
  intro n m hnm
  induction hnm with
  | refl => exact Le.rfl
  | step _ ih => exact Le.trans ih (h _)

theorem dePath_le (e : Env) (b : Bool) {fuel fuel' : Nat} (hle : fuel ≤ fuel') (p : String) (j : Json) :
    Le (dePath e b fuel p j) (dePath e b fuel' p j) :=
  le_of_succ_le (fun n => dePath e b n p j) (fun n => (de_succ_le e n).1 b p j) hle

theorem deFlat_le (e : Env) {fuel fuel' : Nat} (hle : fuel ≤ fuel') (t : RTy) (buf : Buf) :
    Le (deFlat e fuel t buf) (deFlat e fuel' t buf) :=
  le_of_succ_le (fun n => deFlat e n t buf) (fun n => (de_succ_le e n).2 t buf) hle

/-- **`dePath` is monotone in the fuel** — any environment, named type, payload: a result that is not the
    fuel-exhaustion error is the result at every larger fuel -/
theorem dePath_mono (e : Env) (b : Bool) {fuel fuel' : Nat} (hle : fuel ≤ fuel') (p : String) (j : Json)
    (h : dePath e b fuel p j ≠ .error fuelErr) : dePath e b fuel' p j = dePath e b fuel p j :=
  dePath_le e b hle p j h

theorem deFlat_mono (e : Env) {fuel fuel' : Nat} (hle : fuel ≤ fuel') (t : RTy) (buf : Buf)
    (h : deFlat e fuel t buf ≠ .error fuelErr) : deFlat e fuel' t buf = deFlat e fuel t buf :=
  deFlat_le e hle t buf h

theorem deTy_mono (e : Env) (b : Bool) {fuel fuel' : Nat} (hle : fuel ≤ fuel') (t : RTy) (j : Json)
    (h : deTy e b fuel t j ≠ .error fuelErr) : deTy e b fuel' t j = deTy e b fuel t j :=
  deTyWith_le (fun p j => dePath_le e b hle p j) t j h

theorem deStructWith_mono (e : Env) (b : Bool) {fuel fuel' : Nat} (hle : fuel ≤ fuel') (fields : List RField) (j : Json)
    (h : deStructWith (dePath e b fuel) (deFlat e fuel) fields j ≠ .error fuelErr) :
    deStructWith (dePath e b fuel') (deFlat e fuel') fields j = deStructWith (dePath e b fuel) (deFlat e fuel) fields j :=
  deStructWith_le (fun p j => dePath_le e b hle p j) (fun t buf => deFlat_le e hle t buf) fields j h

theorem serPath_le (e : Env) {fuel fuel' : Nat} (hle : fuel ≤ fuel') (p : String) (v : Val) :
    Le (serPath e fuel p v) (serPath e fuel' p v) :=
  le_of_succ_le (fun n => serPath e n p v) (fun n => ser_succ_le e n p v) hle

theorem serPath_mono (e : Env) {fuel fuel' : Nat} (hle : fuel ≤ fuel') (p : String) (v : Val)
    (h : serPath e fuel p v ≠ .error fuelErr) : serPath e fuel' p v = serPath e fuel p v :=
  serPath_le e hle p v h

theorem serTy_mono (e : Env) {fuel fuel' : Nat} (hle : fuel ≤ fuel') (t : RTy) (v : Val)
    (h : serTy e fuel t v ≠ .error fuelErr) : serTy e fuel' t v = serTy e fuel t v :=
  serTyWith_le (fun p v => serPath_le e hle p v) t v h

end SerdeFuel
end GqlVerif
