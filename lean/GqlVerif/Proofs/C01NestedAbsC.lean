import GqlVerif.Proofs.C01NestedAbsA
/-!
# `NestedAbsOp`: the acceptance predicate, the environment, the key condition

* `looseTagA` / `looseAbsA`: what the type(s) emitted at a field of abstract type of the new kind accept, exactly;
  `looseFieldA` / `looseOwnA` / `looseArrA`, `conformsLooseA`: the same for an object-level selection set of the class;
* `EnvAbsA`, `envSelA` / `envSelsA`: what the theorems need of the environment; `keysOkA`: `keysOkN`, and at a position of the
  new kind the keys read through one possible type pairwise distinct;
* `AccSelA`: the statement of exact acceptance for one selection (`accSelA`, in `C01NestedAbsE` from the class above).

The larger classes use at their positions: `accAliasA`, `accMembersA` (a struct of flattened fragment members accepts an
object iff every member does: `okB_deStructMapN` of `C01NestedG`), `accVariantA` (the payload of one variant).
-/

namespace GqlVerif
namespace C01NA
open Serde Spec C13 C03 Codegen C01 C01.E2E C01M C01N

/-! ## the exact acceptance predicate -/

/-- the members of the variant of `vt`, as the selection set `{ ...F1 ...F2 … }` on `vt` -/
def memSels (q : Query) (vt : TypeId) (sub : List Sel) : List Sel := (memFrags q vt sub).map Sel.spread

/-- what the variant of the possible type `vt` accepts (of the other entries): the struct of the fragment selected on `vt`
    accepts them — **every selected fragment's struct accepts the other entries**; a unit variant accepts anything -/
def payA (whole : Nat → Bool → Json → Bool) (q : Query) (sub : List Sel) (vt : TypeId) (rest : List (String × Json)) : Bool :=
  looseMemN whole (memSels q vt sub) rest

/-- what the tagged enum emitted for a selection set of the new kind on the abstract type `ty` accepts -/
def looseTagA (whole : Nat → Bool → Json → Bool) (s : Schema) (q : Query) (o : Options) (b : Bool) (ty : TypeId)
    (sub : List Sel) : Json → Bool
  | .obj kvs => tagOkV s o b (vtsOfTy s ty) (payA whole q sub) kvs
  | _ => false

/-- … and the field of abstract type -/
def looseAbsA (whole : Nat → Bool → Json → Bool) (s : Schema) (q : Query) (o : Options) (b : Bool) (sf : StoredField)
    (sub : List Sel) (v : Json) : Bool :=
  accepts (looseTagA whole s q o b sf.ty.id sub) (gtyOf sf.ty.quals) v

mutual
  def looseFieldA (whole : Nat → Bool → Json → Bool) (s : Schema) (q : Query) (o : Options) (b : Bool) : Sel → Json → Bool
    | .field a fid sub, v =>
      match s.fields[fid]? with
      | none => false
      | some sf =>
        match sf.ty.id with
        | .object i => (match s.objects[i]? with
          | some _ => accepts (fun j =>
              match sub with
              | [.spread g] => whole g b j      -- type alias of the fragment struct
              | _ => match j with
                | .obj kvs' => looseOwnA whole s q o b sub kvs' && looseMemN whole sub kvs'
                | .arr xs => !sub.any isSpread && looseArrA whole s q o b sub xs
                | _ => false) (gtyOf sf.ty.quals) v
          | none => false)
        | _ => if sSel s q o false (.field a fid sub) then looseFieldS s q o b (.field a fid sub) v
               else looseAbsA whole s q o b sf sub v
    | _, _ => true
  /-- the own fields of the struct (spreads contribute no own field) -/
  def looseOwnA (whole : Nat → Bool → Json → Bool) (s : Schema) (q : Query) (o : Options) (b : Bool) :
      List Sel → List (String × Json) → Bool
    | [], _ => true
    | .field a fid sub :: xs, kvs =>
      (match s.fields[fid]? with
       | none => false
       | some sf =>
         decide (countKey (a.getD sf.name) kvs ≤ 1) &&
         (match Json.lookup (a.getD sf.name) kvs with
          | none => nullableQ sf.ty.quals
          | some v => looseFieldA whole s q o b (.field a fid sub) v)) && looseOwnA whole s q o b xs kvs
    | _ :: xs, kvs => looseOwnA whole s q o b xs kvs
  def looseArrA (whole : Nat → Bool → Json → Bool) (s : Schema) (q : Query) (o : Options) (b : Bool) :
      List Sel → List Json → Bool
    | [], _ => true
    | .field a fid sub :: xs, vs =>
      (match vs with
       | [] => false
       | v :: vs' => looseFieldA whole s q o b (.field a fid sub) v && looseArrA whole s q o b xs vs')
    | _ :: xs, vs => looseArrA whole s q o b xs vs
end

/-- what the type emitted for an object-level selection set of `NestedAbsOp` accepts -/
def conformsLooseA (whole : Nat → Bool → Json → Bool) (s : Schema) (q : Query) (o : Options) (b : Bool) (sels : List Sel)
    (j : Json) : Bool :=
  match sels with
  | [.spread g] => whole g b j
  | _ => match j with
    | .obj kvs' => looseOwnA whole s q o b sels kvs' && looseMemN whole sels kvs'
    | .arr xs => !sels.any isSpread && looseArrA whole s q o b sels xs
    | _ => false

theorem looseLambdaA (whole : Nat → Bool → Json → Bool) (s : Schema) (q : Query) (o : Options) (b : Bool) (sub : List Sel) :
    (fun j =>
      match sub with
      | [.spread g] => whole g b j
      | _ => match j with
        | .obj kvs' => looseOwnA whole s q o b sub kvs' && looseMemN whole sub kvs'
        | .arr xs => !sub.any isSpread && looseArrA whole s q o b sub xs
        | _ => false) = conformsLooseA whole s q o b sub := by
  funext j; unfold conformsLooseA; rfl

theorem conformsLooseA_not_lone {whole : Nat → Bool → Json → Bool} {s : Schema} {q : Query} {o : Options} {b : Bool}
    {sels : List Sel} (h : ∀ g, sels ≠ [Sel.spread g]) (j : Json) :
    conformsLooseA whole s q o b sels j =
      (match j with
       | .obj kvs' => looseOwnA whole s q o b sels kvs' && looseMemN whole sels kvs'
       | .arr xs => !sels.any isSpread && looseArrA whole s q o b sels xs
       | _ => false) := by
  unfold conformsLooseA
  split
  · rename_i g; exact absurd rfl (h g)
  · rfl

/-! ## environment, keys -/

/-- the item of the variant of `vt`: nothing, the alias of the fragment struct, or the struct of flattened members -/
def VarEnvA (fenv : Nat → Prop) (e : Env) (c : Ctx) (name : String) (vt : TypeId) (sub : List Sel) : Prop :=
  match memFrags c.q vt sub with
  | [] => True
  | [g] => AliasEnv e (name ++ "On" ++ objName c.s vt) (fragName c g) ∧ fenv g
  | gs => StructEnv e (name ++ "On" ++ objName c.s vt) (gs.map (memField c)) ∧ ∀ g ∈ gs, fenv g

/-- the environment of a position of the new kind: the tagged enum, and per selected possible type the alias of the
    fragment struct / the variant struct -/
def EnvAbsA (fenv : Nat → Prop) (e : Env) (c : Ctx) (name : String) (ty : TypeId) (sub : List Sel) : Prop :=
  TaggedEnv e name (variantsV c name ty (marks c.q sub)) ∧
  ∀ vt ∈ vtsOfTy c.s ty, VarEnvA fenv e c name vt sub

/-- the response keys read through the members of the variant of `vt` -/
def memKeys (KN : String → List String) (c : Ctx) (vt : TypeId) (sub : List Sel) : List String :=
  (memFrags c.q vt sub).flatMap (fun g => KN (fragName c g))

mutual
  /-- **keys disjoint between a fragment and its siblings** at object level (as `keysOkN`), and **between the fragments
      selected on one possible type** at a position of the new kind -/
  def keysOkA (KN : String → List String) (c : Ctx) : Sel → Bool
    | .field a fid sub =>
      (match (c.s.fields[fid]?).map (fun sf => sf.ty.id) with
       | some (TypeId.object _) => EnumSpec.nodup (expKeysN KN c sub) && keysOksA KN c sub
       | some ty =>
         if sSel c.s c.q c.o false (.field a fid sub) then true
         else (vtsOfTy c.s ty).all (fun vt => EnumSpec.nodup (memKeys KN c vt sub))
       | none => true)
    | _ => true
  def keysOksA (KN : String → List String) (c : Ctx) : List Sel → Bool
    | [] => true
    | x :: xs => keysOkA KN c x && keysOksA KN c xs
end

mutual
  def envSelA (fenv : Nat → Prop) (e : Env) (c : Ctx) (pfx : String) : Sel → Prop
    | .field a fid sub =>
      match c.s.fields[fid]? with
      | none => True
      | some sf =>
        match sf.ty.id with
        | .object _ =>
          (match sub with
           | [.spread g] => AliasEnv e (pfx ++ c.cs.camel (a.getD sf.name)) (fragName c g) ∧ fenv g
           | _ => StructEnv e (pfx ++ c.cs.camel (a.getD sf.name)) (fieldsOfF c (pfx ++ c.cs.camel (a.getD sf.name)) sub) ∧
                  envSelsA fenv e c (pfx ++ c.cs.camel (a.getD sf.name)) sub)
        | ty => if sSel c.s c.q c.o false (.field a fid sub) = true then envSelS e c pfx (.field a fid sub)
                else EnvAbsA fenv e c (pfx ++ c.cs.camel (a.getD sf.name)) ty sub
    | .spread g => fenv g
    | _ => True
  def envSelsA (fenv : Nat → Prop) (e : Env) (c : Ctx) (pfx : String) : List Sel → Prop
    | [] => True
    | x :: xs => envSelA fenv e c pfx x ∧ envSelsA fenv e c pfx xs
end

/-- what the name of an object-level selection set resolves to -/
def BodyEnvA (fenv : Nat → Prop) (e : Env) (c : Ctx) (name pfx : String) (sels : List Sel) : Prop :=
  match sels with
  | [.spread g] => AliasEnv e name (fragName c g) ∧ fenv g
  | _ => StructEnv e name (fieldsOfF c pfx sels) ∧ envSelsA fenv e c pfx sels

/-! ## facts about the emitted fields -/

theorem envSelsA_mem {fenv : Nat → Prop} {e : Env} {c : Ctx} {pfx : String} : ∀ {sels : List Sel},
    envSelsA fenv e c pfx sels → ∀ x ∈ sels, envSelA fenv e c pfx x
  | [], _, _, hx => by simp at hx
  | y :: ys, h, x, hx => by
    rw [envSelsA] at h
    rcases List.mem_cons.mp hx with rfl | hx'
    · exact h.1
    · exact envSelsA_mem h.2 x hx'

theorem envSelA_spread {fenv : Nat → Prop} {e : Env} {c : Ctx} {pfx : String} {g : Nat} :
    envSelA fenv e c pfx (.spread g) = fenv g := by
  rw [envSelA]

theorem keysOkA_obj {KN : String → List String} {c : Ctx} {a : Option String} {fid : Nat} {sub : List Sel}
    {sf : StoredField} {i : Nat}
    (hsf : c.s.fields[fid]? = some sf) (hid : sf.ty.id = .object i) (h : keysOkA KN c (.field a fid sub) = true) :
    EnumSpec.nodup (expKeysN KN c sub) = true ∧ keysOksA KN c sub = true := by
  rw [keysOkA] at h
  simp only [hsf, hid, Option.map_some, Bool.and_eq_true] at h
  exact h

theorem keysOkA_new {KN : String → List String} {c : Ctx} {a : Option String} {fid : Nat} {sub : List Sel}
    {sf : StoredField} (hsf : c.s.fields[fid]? = some sf) (hno : ∀ i, sf.ty.id ≠ .object i)
    (hs : sSel c.s c.q c.o false (.field a fid sub) = false) (h : keysOkA KN c (.field a fid sub) = true) :
    ∀ vt ∈ vtsOfTy c.s sf.ty.id, (memKeys KN c vt sub).Nodup := by
  rw [keysOkA] at h
  simp only [hsf, Option.map_some] at h
  have h' : (vtsOfTy c.s sf.ty.id).all (fun vt => EnumSpec.nodup (memKeys KN c vt sub)) = true := by
    simpa only [hs, Bool.false_eq_true, if_false] using h
  intro vt hvt
  simp only [List.all_eq_true] at h'
  exact nodup_iff'.mp (h' vt hvt)

theorem envSelA_obj {fenv : Nat → Prop} {e : Env} {c : Ctx} {pfx : String} {a : Option String} {fid : Nat}
    {sub : List Sel} {sf : StoredField}
    {i : Nat} (hsf : c.s.fields[fid]? = some sf) (hid : sf.ty.id = .object i) (h : envSelA fenv e c pfx (.field a fid sub)) :
    BodyEnvA fenv e c (pfx ++ c.cs.camel (a.getD sf.name)) (pfx ++ c.cs.camel (a.getD sf.name)) sub := by
  rw [envSelA] at h
  simp only [hsf, hid] at h
  exact h

theorem envSelA_old {fenv : Nat → Prop} {e : Env} {c : Ctx} {pfx : String} {a : Option String} {fid : Nat}
    {sub : List Sel}
    {sf : StoredField} (hsf : c.s.fields[fid]? = some sf) (hno : ∀ i, sf.ty.id ≠ .object i)
    (hs : sSel c.s c.q c.o false (.field a fid sub) = true)
    (h : envSelA fenv e c pfx (.field a fid sub)) : envSelS e c pfx (.field a fid sub) := by
  rw [envSelA] at h
  simp only [hsf] at h
  simpa only [hs, if_true] using h

theorem envSelA_new {fenv : Nat → Prop} {e : Env} {c : Ctx} {pfx : String} {a : Option String} {fid : Nat}
    {sub : List Sel}
    {sf : StoredField} (hsf : c.s.fields[fid]? = some sf) (hno : ∀ i, sf.ty.id ≠ .object i)
    (hs : sSel c.s c.q c.o false (.field a fid sub) = false)
    (h : envSelA fenv e c pfx (.field a fid sub)) : EnvAbsA fenv e c (pfx ++ c.cs.camel (a.getD sf.name)) sf.ty.id sub := by
  rw [envSelA] at h
  simp only [hsf] at h
  simpa only [hs, Bool.false_eq_true, if_false] using h

theorem looseFieldA_old {whole : Nat → Bool → Json → Bool} {s : Schema} {q : Query} {o : Options} {b : Bool}
    {a : Option String} {fid : Nat}
    {sub : List Sel} {sf : StoredField} (hsf : s.fields[fid]? = some sf) (hno : ∀ i, sf.ty.id ≠ .object i)
    (hs : sSel s q o false (.field a fid sub) = true) (v : Json) :
    looseFieldA whole s q o b (.field a fid sub) v = looseFieldS s q o b (.field a fid sub) v := by
  rw [looseFieldA]
  simp only [hsf]
  simp only [hs, if_true]

theorem looseFieldA_new {whole : Nat → Bool → Json → Bool} {s : Schema} {q : Query} {o : Options} {b : Bool}
    {a : Option String} {fid : Nat}
    {sub : List Sel} {sf : StoredField} (hsf : s.fields[fid]? = some sf) (hno : ∀ i, sf.ty.id ≠ .object i)
    (hs : sSel s q o false (.field a fid sub) = false) (v : Json) :
    looseFieldA whole s q o b (.field a fid sub) v = looseAbsA whole s q o b sf sub v := by
  rw [looseFieldA]
  simp only [hsf]
  simp only [hs, Bool.false_eq_true, if_false]

theorem exists_uniform {α : Type} (P : α → Nat → Prop) (hmono : ∀ a n m, n ≤ m → P a n → P a m) :
    ∀ (l : List α), (∀ a ∈ l, ∃ n, P a n) → ∃ n, ∀ a ∈ l, P a n
  | [], _ => ⟨0, fun _ h => by simp at h⟩
  | x :: xs, h => by
    obtain ⟨n1, h1⟩ := h x (List.mem_cons_self)
    obtain ⟨n2, h2⟩ := exists_uniform P hmono xs (fun a ha => h a (List.mem_cons_of_mem _ ha))
    refine ⟨max n1 n2, fun a ha => ?_⟩
    rcases List.mem_cons.mp ha with rfl | ha'
    · exact hmono _ _ _ (Nat.le_max_left _ _) h1
    · exact hmono _ _ _ (Nat.le_max_right _ _) (h2 a ha')

/-! ## acceptance, exactly -/

section AccA
variable (e : Env) (c : Ctx) (ok : TypeId → Nat → Bool) (whole : Nat → Bool → Json → Bool) (KN : String → List String)
  (fenv : Nat → Prop) (hok : OkSpec c.q ok) (hfa : ∀ p g, ok p g = true → fenv g → FragAcc e c whole KN g)

def AccSelA (pfx : String) (x : Sel) : Prop :=
  ∀ p, aSel ok c.s c.q c.o p x = true → envSelA fenv e c pfx x → keysOkA KN c x = true →
    ∀ f, fieldOfSelV c pfx x = some f →
    ∃ N, ∀ b fd, N ≤ fd → ∀ v, okB (deFieldWith (dePath e b fd) f v) = looseFieldA whole c.s c.q c.o b x v

include hfa in
/-- a lone spread: the alias of the fragment struct accepts what the fragment struct accepts -/
theorem accAliasA (name : String) (p : TypeId) (g : Nat) (hokg : ok p g = true)
    (ha : AliasEnv e name (fragName c g)) (hf : fenv g) :
    ∃ N, ∀ b fd, N ≤ fd → ∀ j, okB (dePath e b fd name j) = whole g b j := by
  obtain ⟨Ng, hacc⟩ := (hfa p g hokg hf).acc
  obtain ⟨hp, _, n, pub, hfind⟩ := ha
  refine ⟨Ng + 1, fun b fd hfd j => ?_⟩
  obtain ⟨fd', rfl⟩ : ∃ k, fd = k + 1 := ⟨fd - 1, by omega⟩
  have : dePath e b (fd' + 1) name j = dePath e b fd' (fragName c g) j := by
    rw [dePath]; simp only [dePrim_none hp, hfind, deTyWith]
  rw [this]
  exact hacc fd' (by omega) b j

theorem pairwise_of_nodup_flatMap {α β : Type} (f : α → List β) : ∀ (l : List α), (l.flatMap f).Nodup →
    l.Pairwise (fun a b => ∀ k ∈ f b, k ∉ f a)
  | [], _ => List.Pairwise.nil
  | a :: l, h => by
    rw [List.flatMap_cons, List.nodup_append] at h
    obtain ⟨_, h2, h3⟩ := h
    rw [List.pairwise_cons]
    refine ⟨fun b hb k hk hka => h3 k hka k (List.mem_flatMap.mpr ⟨b, hb, hk⟩) rfl, pairwise_of_nodup_flatMap f l h2⟩

theorem looseMemN_spreads (whole : Nat → Bool → Json → Bool) (kvs : List (String × Json)) : ∀ (gs : List Nat),
    looseMemN whole (gs.map Sel.spread) kvs = gs.all (fun g => whole g true (.obj kvs))
  | [] => rfl
  | g :: gs => by rw [List.map_cons, looseMemN, looseMemN_spreads whole kvs gs, List.all_cons]

/-- **a struct that consists of flattened members for the structs of the fragments `gs`** (a variant struct) accepts an
    object iff every fragment's struct accepts it -/
theorem accMembersA (name : String) (gs : List Nat) (hne : gs ≠ []) (hs : StructEnv e name (gs.map (memField c)))
    (hfa' : ∀ g ∈ gs, FragAcc e c whole KN g) (hkeys : (gs.flatMap (fun g => KN (fragName c g))).Nodup) :
    ∃ N, ∀ b fd, N ≤ fd → ∀ kvs, okB (dePath e b fd name (.obj kvs)) = gs.all (fun g => whole g true (.obj kvs)) := by
  obtain ⟨hp, _, n, d, cr, hfind⟩ := hs
  -- what is known of each member
  have hmem : ∀ g ∈ gs, ∃ n' d' cr' G, notPrim (fragName c g) ∧
      e.find (fragName c g) = some (.struct n' d' cr' G) ∧ memberFields e (memField c g) = G ∧
      (∀ f ∈ G, f.flatten = false → f.wire ∈ KN (fragName c g)) := by
    intro g hg
    obtain ⟨n', d', cr', G, hnp, hf, hG⟩ := (hfa' g hg).str
    exact ⟨n', d', cr', G, hnp, hf, by simp [memberFields, memField, hf], hG⟩
  have hacc : ∃ N, ∀ g ∈ gs, ∀ fd, N ≤ fd → ∀ b j, okB (dePath e b fd (fragName c g) j) = whole g b j := by
    apply exists_uniform (fun g N => ∀ fd, N ≤ fd → ∀ b j, okB (dePath e b fd (fragName c g) j) = whole g b j)
    · intro g n m hnm h fd hfd; exact h fd (by omega)
    · intro g hg; exact (hfa' g hg).acc
  obtain ⟨N, hN⟩ := hacc
  refine ⟨N + 2, fun b fd hfd kvs => ?_⟩
  obtain ⟨fd', rfl⟩ : ∃ k, fd = k + 2 := ⟨fd - 2, by omega⟩
  have hmv : ∀ g ∈ gs, ∀ kvs', memberVal e fd' (memField c g) kvs' = dePath e true (fd' + 1) (fragName c g) (.obj kvs') := by
    intro g hg kvs'
    obtain ⟨n', d', cr', G, hnp, hf, hmf, _⟩ := hmem g hg
    exact memberVal_eq_dePath e fd' _ (fragName c g) n' d' cr' rfl hnp (by rw [hmf]; exact hf) kvs'
  have hany : (gs.map (memField c)).any (·.flatten) = true := by
    cases gs with
    | nil => exact absurd rfl hne
    | cons g gs' => simp [memField]
  have hown0 : (gs.map (memField c)).filter (fun f => !f.flatten) = [] := by
    rw [List.filter_eq_nil_iff]
    intro f hf
    obtain ⟨g, _, rfl⟩ := List.mem_map.mp hf
    simp [memField]
  have hfl0 : (gs.map (memField c)).filter (·.flatten) = gs.map (memField c) := by
    rw [List.filter_eq_self]
    intro f hf
    obtain ⟨g, _, rfl⟩ := List.mem_map.mp hf
    rfl
  rw [dePath_struct e b (fd' + 1) name n d cr _ hp hfind, deStruct_obj,
    okB_deStructMapN e fd' _ _ kvs (kOf KN) hany
      (fun f hf _ => by
        obtain ⟨g, hg, rfl⟩ := List.mem_map.mp hf
        obtain ⟨n', d', cr', G, hnp, hf', hmf, _⟩ := hmem g hg
        exact ⟨fragName c g, n', d', cr', rfl, hnp, by rw [hmf]; exact hf'⟩)
      (fun f hf _ => by
        obtain ⟨g, hg, rfl⟩ := List.mem_map.mp hf
        obtain ⟨n', d', cr', G, hnp, hf', hmf, hG⟩ := hmem g hg
        rw [hmf]; exact hG)
      (fun f hf _ k hk => by rw [hown0] at hk; simp at hk)
      (fun f hf _ _ L' hL' => by
        obtain ⟨g, hg, rfl⟩ := List.mem_map.mp hf
        rw [hmv g hg, hmv g hg, hN g hg (fd' + 1) (by omega), hN g hg (fd' + 1) (by omega)]
        exact (hfa' g hg).irr L' hL' true kvs)
      ((pairwise_of_nodup_flatMap _ gs hkeys).map (memField c) (fun a b h _ _ k hk => h k hk)),
    hown0, hfl0, List.all_map]
  have : okB (deOwnWith (dePath e b (fd' + 1)) [] kvs) = true := by
    rw [okB_deOwn' _ _ [] rfl]; rfl
  rw [this, Bool.true_and]
  apply C01AF.all_congr_mem
  intro g hg
  simp only [Function.comp]
  rw [hmv g hg, hN g hg (fd' + 1) (by omega)]

include hok hfa in
/-- **the payload of the variant of `vt`** accepts exactly `payA`: every selected fragment's struct accepts the entries -/
theorem accVariantA (name : String) (ty : TypeId) (sub : List Sel) (hsp : SpecialAbs ok c.s c.q c.o ty sub)
    (vt : TypeId) (hvt : vt ∈ vtsOfTy c.s ty) (hve : VarEnvA fenv e c name vt sub)
    (hkeys : (memKeys KN c vt sub).Nodup) :
    ∃ N, ∀ fd, N ≤ fd → ∀ rest,
      pickOk (dePath e true fd) (variantOf c name (marks c.q sub) vt) rest = payA whole c.q sub vt rest := by
  have hlen := memFrags_length hsp hok hvt
  have hmem : ∀ g ∈ memFrags c.q vt sub, ok vt g = true := fun g hg => (hsp.mem hok hvt hg).1
  unfold VarEnvA at hve
  cases hmf : memFrags c.q vt sub with
  | nil =>
    have hm : mineOf c.q vt sub = [] := by
      rw [hmf] at hlen
      cases hmm : mineOf c.q vt sub with
      | nil => rfl
      | cons _ _ => rw [hmm] at hlen; simp at hlen
    refine ⟨0, fun fd _ rest => ?_⟩
    unfold pickOk variantOf payA memSels
    rw [marks_contains, hmf]
    simp [hm, looseMemN]
  | cons g gs =>
    have hemp : (mineOf c.q vt sub).isEmpty = false := by
      rw [hmf] at hlen
      cases hmm : mineOf c.q vt sub with
      | nil => rw [hmm] at hlen; simp at hlen
      | cons _ _ => rfl
    cases gs with
    | nil =>
      rw [hmf] at hve
      simp only at hve
      obtain ⟨N, hN⟩ := accAliasA e c ok whole KN fenv hfa _ vt g (hmem g (by rw [hmf]; simp)) hve.1 hve.2
      refine ⟨N, fun fd hfd rest => ?_⟩
      unfold pickOk variantOf payA memSels
      rw [marks_contains, hmf]
      simp only [hemp, Bool.not_false, ↓reduceIte, Bool.false_eq_true, List.map_cons, List.map_nil, looseMemN, Bool.and_true]
      exact hN true fd hfd (.obj rest)
    | cons g' gs' =>
      rw [hmf] at hve
      simp only at hve
      obtain ⟨hs, hfenv⟩ := hve
      rw [hmf] at hmem
      unfold memKeys at hkeys
      rw [hmf] at hkeys
      obtain ⟨N, hN⟩ := accMembersA e c whole KN (name ++ "On" ++ objName c.s vt) (g :: g' :: gs') (by simp) hs
        (fun g0 hg0 => hfa vt g0 (hmem g0 hg0) (hfenv g0 hg0)) hkeys
      refine ⟨N, fun fd hfd rest => ?_⟩
      unfold pickOk variantOf payA memSels
      rw [marks_contains, hmf]
      simp only [hemp, Bool.not_false, ↓reduceIte, Bool.false_eq_true]
      rw [show deTyWith (dePath e true fd) (.path (name ++ "On" ++ objName c.s vt)) (.obj rest) =
        dePath e true fd (name ++ "On" ++ objName c.s vt) (.obj rest) from rfl, hN true fd hfd rest,
        looseMemN_spreads]

end AccA

theorem bodyEnvA_not_lone {fenv : Nat → Prop} {e : Env} {c : Ctx} {name pfx : String} {sels : List Sel}
    (hnl : ∀ g, sels ≠ [Sel.spread g]) (h : BodyEnvA fenv e c name pfx sels) :
    StructEnv e name (fieldsOfF c pfx sels) ∧ envSelsA fenv e c pfx sels := by
  unfold BodyEnvA at h
  revert h
  split
  · exact fun _ => absurd rfl (hnl _)
  · exact id

end C01NA
end GqlVerif
