import GqlVerif.Proofs.C04RustRename
import GqlVerif.Proofs.C01Rust
/-!
# C04 under `normalization = rust`: `variables_expressible_rust`, `variables_ser_valid_rust`

`C04Surjective*.lean` prove, for a context with `normalization = none`, that every valid assignment of the declared
variables is (in canonical form) the serialization of a value of the generated `Variables` type and is read back as it
(`variables_expressible`), and that every such value is written as a valid assignment (`variables_ser_valid`).  This
file transfers both to a context `c₁` with `normalization = rust`, as `C01Rust.lean` does for responses:

* the `none` theorems are applied to `c₀` (`c₀ = noNorm c₁` in the primed forms);
* `C09N.normalization_wire_invariant_of_names` relates the two generated modules (`EnvRen`, `Variables ↔ Variables`);
* `C04R.hasTy_rename` (`C04RustRename.lean`) moves the typed value across: the `Variables` value of `c₀`'s module has
  exactly one counterpart in `c₁`'s module (equal up to the identifiers of enum variants, `sort_order::desc` ↔
  `SortOrder::Desc`), it has type `Variables` there, and `ser_rename` / `de_rename` say it is written to / read from the
  same JSON.

**Environment.**  `C04S.moduleEnv c items` completes a module by `externsFor c`: `String` for every custom scalar under
`<scalars module>::<raw name>` and for every extern enum under its raw name.  A module generated under `rust` refers to
`<scalars module>::<CamelName>` and to the enum under `normalization.fieldType` of its name: `externsForN` /
`moduleEnvN` use these names (`externsForN_none`: under `none` nothing changes).

**Hypotheses** (`RustSideV c₀ c₁ op items₀ items₁` = `C01.E2E.WireSide` at `externsFor c₀` / `externsForN c₁`, i.e. exactly
the hypotheses of `normalization_wire_invariant_of_names`, all decidable on concrete data):
`NormAgree c₀ c₁`, `IdStable c₀ c₁`, both generations succeed, `NamesInjective`, `EnumIdentsInjective`, `FieldsWF` (the
shape condition on the externs is automatic: `RustSideV.mk'`); plus those of the `none` theorem about `c₀` / `items₀`
(`hnorm hkwI hkwS hkwE hwf hrel hvars hdef hmem hprim hfree`, `hint` resp. `hL hopen`).  No new side condition: `ValWF`
of the two modules, which `hasTy_rename` needs, is derived (`valWF_of_generated`) from `hmem` and the fact that string
enums only come from `enumItem` (`ModRel`).
-/
namespace GqlVerif
namespace C04R
open Serde Codegen C09N C04S
open C01.E2E (WireSide noNorm normAgree_noNorm)

/-! ## the environment of a module generated under any normalization -/

/-- what the consumer supplies, **under the names the module refers to** -/
def externsForN (c : Ctx) : List (String × RTy) :=
  (customScalars c.s).map (fun n =>
    ((c.o.scalarsModule.getD "super") ++ "::" ++ c.o.normalization.scalarName c.cs n, RTy.path "String")) ++
  c.o.externEnums.map (fun n => (c.o.normalization.fieldType c.cs n, RTy.path "String"))

/-- the environment in which the variables side of a module emitted under any normalization is read and written: the
    consumer supplies the custom scalars **and the extern enums** (`externsForN`).  `C01.E2E.moduleEnvN`, for responses,
    supplies the custom scalars only -/
def moduleEnvN (c : Ctx) (items : List Item) : Env := { items := items, externs := externsForN c }

theorem externsForN_none {c : Ctx} (h : c.o.normalization = .none) : externsForN c = externsFor c := by
  unfold externsForN externsFor scalarPath
  simp only [h, Normalization.scalarName, Normalization.fieldType, Normalization.camelCase, ite_self]

theorem moduleEnvN_none {c : Ctx} (h : c.o.normalization = .none) (items : List Item) :
    moduleEnvN c items = moduleEnv c items := by
  unfold moduleEnvN moduleEnv; rw [externsForN_none h]

theorem externs_sameShape {c₀ c₁ : Ctx} (hs : c₁.s = c₀.s) (hx : c₁.o.externEnums = c₀.o.externEnums) :
    (externsFor c₀).map (fun x => eraseTy x.2) = (externsForN c₁).map (fun x => eraseTy x.2) := by
  unfold externsFor externsForN
  simp only [hs, hx, List.map_append, List.map_map, Function.comp_def]

/-- the side conditions of `normalization_wire_invariant_of_names` for the two generated modules, read in
    `moduleEnv c₀ items₀` (the environment of the `none` theorems) and `moduleEnvN c₁ items₁` -/
abbrev RustSideV (c₀ c₁ : Ctx) (opIdx : Nat) (items₀ items₁ : List Item) : Prop :=
  WireSide c₀ c₁ opIdx items₀ items₁ (externsFor c₀) (externsForN c₁)

theorem RustSideV.mk' {c₀ c₁ : Ctx} {opIdx : Nat} {items₀ items₁ : List Item} (H : NormAgree c₀ c₁)
    (hid : IdStable c₀ c₁) (h₀ : responseForQuery c₀ opIdx = .ok items₀) (h₁ : responseForQuery c₁ opIdx = .ok items₁)
    (hn : NamesInjective (moduleEnv c₀ items₀) (moduleEnvN c₁ items₁)) (he : EnumIdentsInjective c₀ c₁)
    (hwf : FieldsWF (moduleEnv c₀ items₀)) : RustSideV c₀ c₁ opIdx items₀ items₁ :=
  { agree := H, idStable := hid, gen₀ := h₀, gen₁ := h₁, shape := externs_sameShape H.s H.externEnums, names := hn,
    enums := he, wf := hwf }

/-- the case `c₀ = { c₁ with o.normalization := none }` -/
theorem RustSideV.of_noNorm {c₁ : Ctx} {opIdx : Nat} {items₀ items₁ : List Item}
    (hid : IdStable (noNorm c₁) c₁) (h₀ : responseForQuery (noNorm c₁) opIdx = .ok items₀)
    (h₁ : responseForQuery c₁ opIdx = .ok items₁)
    (hn : NamesInjective (moduleEnv (noNorm c₁) items₀) (moduleEnvN c₁ items₁))
    (he : EnumIdentsInjective (noNorm c₁) c₁) (hwf : FieldsWF (moduleEnv (noNorm c₁) items₀)) :
    RustSideV (noNorm c₁) c₁ opIdx items₀ items₁ :=
  RustSideV.mk' (normAgree_noNorm c₁) hid h₀ h₁ hn he hwf

/-- the same for the two modules the generator returns, the side conditions as one decidable statement about `c₁` -/
theorem RustSideV.of_itemsOf {c₁ : Ctx}
    (h : IdStable (noNorm c₁) c₁ ∧ genOk (noNorm c₁) = true ∧ genOk c₁ = true ∧
      NamesInjective (moduleEnv (noNorm c₁) (itemsOf (noNorm c₁))) (moduleEnvN c₁ (itemsOf c₁)) ∧
      EnumIdentsInjective (noNorm c₁) c₁ ∧ FieldsWF (moduleEnv (noNorm c₁) (itemsOf (noNorm c₁)))) :
    RustSideV (noNorm c₁) c₁ 0 (itemsOf (noNorm c₁)) (itemsOf c₁) :=
  .of_noNorm h.1 (itemsOf_ok h.2.1) (itemsOf_ok h.2.2.1) h.2.2.2.1 h.2.2.2.2.1 h.2.2.2.2.2

/-! ## `ValWF` of two generated modules -/

theorem enumItem_ok (c : Ctx) (en : StoredEnum) : ItemOK (enumItem c en) := by
  simp only [enumItem, ItemOK, List.map_map, Function.comp_def]

theorem itemOK_of_memberIdents {it : Item} (h : (C02.memberIdents it).Nodup) (hne : isEnum it = false) : ItemOK it := by
  cases it <;> simp_all [ItemOK, C02.memberIdents, isEnum]

theorem itemOK_ren {R : String → String → Prop} {it it' : Item} (h : ItemRen R it it') (hne : isEnum it = false)
    (hok : ItemOK it) : ItemOK it' := by
  cases h with
  | struct hn hfs =>
    simp only [ItemOK] at hok ⊢
    rw [← All2.map_eq hfs (f := (·.rust)) (g := (·.rust)) (fun a b hab => hab.rust.symm)]
    exact hok
  | oneOf hn hvs =>
    simp only [ItemOK] at hok ⊢
    rw [← All2.map_eq hvs (f := (·.name)) (g := (·.name)) (fun a b hab => hab.name.symm)]
    exact hok
  | gqlEnum hn hen => simp [isEnum] at hne
  | unitStruct hn => trivial
  | tagged hn hvs => trivial
  | «alias» hn ht => trivial
  | defaults hn => trivial

/-- both generated modules satisfy `ValWF`: members are distinct in the first (`hmem`: it compiles) hence in the second
    (the renaming keeps member identifiers of structs and `@oneOf` enums); string enums are `enumItem`s -/
theorem valWF_of_generated {c₀ c₁ : Ctx} {items₀ items₁ : List Item} {x₀ x₁ : List (String × RTy)}
    {R : String → String → Prop} (henv : EnvRen R { items := items₀, externs := x₀ } { items := items₁, externs := x₁ })
    (hm : ModRel c₀ c₁ items₀ items₁) (hmem : ∀ it ∈ items₀, (C02.memberIdents it).Nodup) :
    ValWF { items := items₀, externs := x₀ } ∧ ValWF { items := items₁, externs := x₁ } := by
  obtain ⟨_, _, _, _, _, _, _, _, _, _, _, _, _, _, _, _, _, _, hef⟩ := hm
  have hpair : ∀ x ∈ items₀.zip items₁, ItemRen R x.1 x.2 → ItemOK x.1 ∧ ItemOK x.2 := by
    intro x hx hren
    rcases hef x hx with ⟨en, _, hxe⟩ | hne
    · rw [hxe]; exact ⟨enumItem_ok c₀ en, enumItem_ok c₁ en⟩
    · have hx' : (x.1, x.2) ∈ items₀.zip items₁ := hx
      have h1 := itemOK_of_memberIdents (hmem x.1 (List.of_mem_zip hx').1) hne
      exact ⟨h1, itemOK_ren hren hne h1⟩
  constructor
  · intro it hit
    obtain ⟨it', hz, hren⟩ := All2.partner_left henv.items it hit
    exact (hpair (it, it') hz hren).1
  · intro it' hit'
    obtain ⟨it, hz, _, hren⟩ := All2.partner_right henv.items it' hit'
    exact (hpair (it, it') hz hren).2

/-! ## the transfer -/

section Transfer
variable {c₀ c₁ : Ctx} {op : Nat} {items₀ items₁ : List Item} (W : RustSideV c₀ c₁ op items₀ items₁)
include W

/-- what `RustSideV` gives: the two environments are related by the renaming `Corr`, `Variables` corresponds to
    `Variables`, and (with `hmem`) both satisfy `ValWF` -/
theorem RustSideV.env (hmem : ∀ it ∈ items₀, (C02.memberIdents it).Nodup) :
    EnvRen (Corr (moduleEnv c₀ items₀) (moduleEnvN c₁ items₁)) (moduleEnv c₀ items₀) (moduleEnvN c₁ items₁) ∧
    Corr (moduleEnv c₀ items₀) (moduleEnvN c₁ items₁) "Variables" "Variables" ∧
    ValWF (moduleEnv c₀ items₀) ∧ ValWF (moduleEnvN c₁ items₁) := by
  have henv := (normalization_wire_invariant_of_names W.agree W.idStable op W.gen₀ W.gen₁ _ _ W.shape W.names W.enums
    W.wf).1
  have hm := normalization_modRel W.agree W.idStable op
  rw [W.gen₀, W.gen₁] at hm
  have hm' : ModRel c₀ c₁ items₀ items₁ := hm
  have hw := valWF_of_generated henv hm' hmem
  exact ⟨henv, (hm'.corr _ _).1, hw.1, hw.2⟩

/-- **`variables_expressible_rust`.**  `c₁` (normalization `rust`) and `c₀` (normalization `none`) agree otherwise;
    under the side conditions of the wire invariant and of `variables_expressible` for `c₀`: every valid assignment of
    the operation's variables is — in the same canonical form, a function of the schema, the query and `skipNone` only —
    the serialization of a value of the `Variables` type of `c₁`'s module, and is read back as that value. -/
theorem variables_expressible_rust (L : Leaves)
    (hnorm : c₀.o.normalization = .none)
    (hkwI : ∀ i ∈ c₀.s.inputs, keywordReplace i.name = i.name)
    (hkwS : ∀ n ∈ c₀.s.scalars, keywordReplace n = n)
    (hkwE : ∀ e ∈ c₀.s.enums, keywordReplace e.name = e.name)
    (hwf : C02.OutputOnly c₀.s c₀.q = true) (hrel : C02.InputFieldsRelevant c₀.s = true)
    (hvars : ∀ v ∈ c₀.q.opVariables op, C02.Relevant v.ty.id)
    (hdef : (Scope.defines items₀).Nodup) (hmem : ∀ it ∈ items₀, (C02.memberIdents it).Nodup)
    (hprim : ∀ it ∈ items₀, C01.notPrim it.name) (hfree : ExternsFree c₀ items₀)
    (hint : ∀ n, L.intOk n = true → inI64 n = true)
    (hne : c₀.q.opVariables op ≠ []) (kvs : List (String × Json))
    (hvalid : VarsValid L c₀ op kvs) :
    ∃ x, HasTy (moduleEnvN c₁ items₁) (.path "Variables") x ∧
      Serde.ser (moduleEnvN c₁ items₁) (.path "Variables") x = .ok (canonVars c₀ op kvs) ∧
      ((∀ n, L.idInt n = false) → Serde.de (moduleEnvN c₁ items₁) (.path "Variables") (.obj kvs) = .ok x) := by
  obtain ⟨x₀, hx₀, hs₀, hd₀⟩ := variables_expressible L c₀ op items₀ hnorm hkwI hkwS hkwE hwf hrel hvars hdef hmem hprim
    hfree hint W.gen₀ hne kvs hvalid
  obtain ⟨henv, hcorr, hw, hw'⟩ := W.env hmem
  obtain ⟨x₁, hc, hser⟩ := hasTy_rename_ser henv hw hw' (t := .path "Variables") (t' := .path "Variables") hcorr hx₀
  refine ⟨x₁, hc.2.1, (drel_eq_ok hser _).mp hs₀, fun hno => ?_⟩
  have hde := de_rename henv W.wf (t := .path "Variables") (t' := .path "Variables") hcorr (.obj kvs)
  rw [hd₀ hno] at hde
  cases h1 : Serde.de (moduleEnvN c₁ items₁) (.path "Variables") (.obj kvs) with
  | error err => rw [h1] at hde; exact hde.elim
  | ok x₁' => rw [h1] at hde; rw [hc.2.2 x₁' hde]

/-- **`variables_ser_valid_rust`.**  Every value of the `Variables` type of `c₁`'s module is written as a JSON object
    that is a valid variables assignment of the operation (for the wire leaves: `hL`, `hopen`). -/
theorem variables_ser_valid_rust (L : Leaves)
    (hnorm : c₀.o.normalization = .none)
    (hkwI : ∀ i ∈ c₀.s.inputs, keywordReplace i.name = i.name)
    (hkwS : ∀ n ∈ c₀.s.scalars, keywordReplace n = n)
    (hkwE : ∀ e ∈ c₀.s.enums, keywordReplace e.name = e.name)
    (hwf : C02.OutputOnly c₀.s c₀.q = true) (hrel : C02.InputFieldsRelevant c₀.s = true)
    (hvars : ∀ v ∈ c₀.q.opVariables op, C02.Relevant v.ty.id)
    (hdef : (Scope.defines items₀).Nodup) (hmem : ∀ it ∈ items₀, (C02.memberIdents it).Nodup)
    (hprim : ∀ it ∈ items₀, C01.notPrim it.name) (hfree : ExternsFree c₀ items₀)
    (hL : ∀ n, inI64 n = true → L.intOk n = true) (hopen : L.enumOpen = true)
    (hne : c₀.q.opVariables op ≠ [])
    (x : Val) (hx : HasTy (moduleEnvN c₁ items₁) (.path "Variables") x) (j : Json)
    (hs : Serde.ser (moduleEnvN c₁ items₁) (.path "Variables") x = .ok j) :
    ∃ kvs, j = .obj kvs ∧ VarsValid L c₀ op kvs := by
  obtain ⟨henv, hcorr, hw, hw'⟩ := W.env hmem
  obtain ⟨x₀, hx₀, hser⟩ := hasTy_rename_back henv hw hw' (t := .path "Variables") (t' := .path "Variables") hcorr hx
  exact variables_ser_valid L c₀ op items₀ hnorm hkwI hkwS hkwE hwf hrel hvars hdef hmem hprim hfree hL hopen W.gen₀ hne
    x₀ hx₀ j ((drel_eq_ok hser _).mpr hs)

/-- the operation without variables: `struct Variables;` in both modules, written as `null` -/
theorem no_variables_expressible_rust (hdef : (Scope.defines items₀).Nodup)
    (hmem : ∀ it ∈ items₀, (C02.memberIdents it).Nodup) (hnil : c₀.q.opVariables op = []) :
    HasTy (moduleEnvN c₁ items₁) (.path "Variables") .unit ∧
    Serde.ser (moduleEnvN c₁ items₁) (.path "Variables") .unit = .ok .null := by
  obtain ⟨hx₀, hs₀⟩ := no_variables_expressible c₀ op items₀ hdef W.gen₀ hnil
  obtain ⟨henv, hcorr, hw, hw'⟩ := W.env hmem
  obtain ⟨x₁, hc, hser⟩ := hasTy_rename_ser henv hw hw' (t := .path "Variables") (t' := .path "Variables") hcorr hx₀
  have : x₁ = .unit := (hc.2.2 .unit (.plain rfl)).symm
  subst this
  exact ⟨hc.2.1, (drel_eq_ok hser _).mp hs₀⟩

end Transfer

/-! ## the `none` context taken to be `noNorm c₁`

`(noNorm c₁).s`, `.q`, `.cs`, `.o.skipNone` … are definitionally `c₁`'s, so the only context the statements below mention
is `c₁`; they still take `items₀`, the module generated under `none`, and the compile-side hypotheses about it
(`hdef hmem hprim hfree`). -/

theorem variables_expressible_rust' (L : Leaves) (c₁ : Ctx) (op : Nat) (items₀ items₁ : List Item)
    (W : RustSideV (noNorm c₁) c₁ op items₀ items₁)
    (hkwI : ∀ i ∈ c₁.s.inputs, keywordReplace i.name = i.name)
    (hkwS : ∀ n ∈ c₁.s.scalars, keywordReplace n = n)
    (hkwE : ∀ e ∈ c₁.s.enums, keywordReplace e.name = e.name)
    (hwf : C02.OutputOnly c₁.s c₁.q = true) (hrel : C02.InputFieldsRelevant c₁.s = true)
    (hvars : ∀ v ∈ c₁.q.opVariables op, C02.Relevant v.ty.id)
    (hdef : (Scope.defines items₀).Nodup) (hmem : ∀ it ∈ items₀, (C02.memberIdents it).Nodup)
    (hprim : ∀ it ∈ items₀, C01.notPrim it.name) (hfree : ExternsFree (noNorm c₁) items₀)
    (hint : ∀ n, L.intOk n = true → inI64 n = true)
    (hne : c₁.q.opVariables op ≠ []) (kvs : List (String × Json))
    (hvalid : VarsValid L c₁ op kvs) :
    ∃ x, HasTy (moduleEnvN c₁ items₁) (.path "Variables") x ∧
      Serde.ser (moduleEnvN c₁ items₁) (.path "Variables") x = .ok (canonVars c₁ op kvs) ∧
      ((∀ n, L.idInt n = false) → Serde.de (moduleEnvN c₁ items₁) (.path "Variables") (.obj kvs) = .ok x) :=
  variables_expressible_rust W L rfl hkwI hkwS hkwE hwf hrel hvars hdef hmem hprim hfree hint hne kvs
    ⟨hvalid.nodup, hvalid.declared, hvalid.required, hvalid.valid⟩

theorem variables_ser_valid_rust' (L : Leaves) (c₁ : Ctx) (op : Nat) (items₀ items₁ : List Item)
    (W : RustSideV (noNorm c₁) c₁ op items₀ items₁)
    (hkwI : ∀ i ∈ c₁.s.inputs, keywordReplace i.name = i.name)
    (hkwS : ∀ n ∈ c₁.s.scalars, keywordReplace n = n)
    (hkwE : ∀ e ∈ c₁.s.enums, keywordReplace e.name = e.name)
    (hwf : C02.OutputOnly c₁.s c₁.q = true) (hrel : C02.InputFieldsRelevant c₁.s = true)
    (hvars : ∀ v ∈ c₁.q.opVariables op, C02.Relevant v.ty.id)
    (hdef : (Scope.defines items₀).Nodup) (hmem : ∀ it ∈ items₀, (C02.memberIdents it).Nodup)
    (hprim : ∀ it ∈ items₀, C01.notPrim it.name) (hfree : ExternsFree (noNorm c₁) items₀)
    (hL : ∀ n, inI64 n = true → L.intOk n = true) (hopen : L.enumOpen = true)
    (hne : c₁.q.opVariables op ≠ [])
    (x : Val) (hx : HasTy (moduleEnvN c₁ items₁) (.path "Variables") x) (j : Json)
    (hs : Serde.ser (moduleEnvN c₁ items₁) (.path "Variables") x = .ok j) :
    ∃ kvs, j = .obj kvs ∧ VarsValid L c₁ op kvs := by
  obtain ⟨kvs, hj, hv⟩ := variables_ser_valid_rust W L rfl hkwI hkwS hkwE hwf hrel hvars hdef hmem hprim hfree hL hopen
    hne x hx j hs
  exact ⟨kvs, hj, ⟨hv.nodup, hv.declared, hv.required, hv.valid⟩⟩

end C04R
end GqlVerif
