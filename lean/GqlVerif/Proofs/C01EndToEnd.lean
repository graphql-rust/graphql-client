import GqlVerif.Proofs.C01EndToEndC
import GqlVerif.Proofs.C01TopLevel
/-!
# C01 / C03 end to end, `TreeOp` 4/4: top level over `Codegen.responseForQuery`; what every class needs of an emitted module

**Scope** (see `C01EndToEndA`): selection trees made of `.field` (with or without alias) and `.typename` only,
sub-selections on object types only, scalar / enum leaves, normalization `none`, no denied deprecated
field.  **Fragments, inline fragments, interface / union positions and extern enums are out of scope.**

The environment is `moduleEnv c items`: the items `responseForQuery` emitted (built-in aliases, scalar
aliases, enums, `Variables`, response structs) + one extern per custom scalar, defined as `String`.

C01 for the class is `tree_accepts` and `tree_lossless` (`tree_roundtrip`: both in one statement about
`Serde.roundtrip`): a conforming response is read, and written back as `canonSel … j`, the explicit function of
`C01EndToEndC` (selection order, integer ID → decimal string, `__typename` and nothing else dropped, `null` → absent
exactly where `skip_serializing_none` applies).

C03 for the class is `tree_precise_iff` / `tree_precise`: `Serde.de env ResponseData j` succeeds **iff**
`conformsSelLoose c.s op.sels j` — so a missing key or `null` at a non-null position, a non-list at a
list position, a wrong scalar kind, a duplicated selected key are rejected at every depth of the tree.
Two liberties of serde that the statement of C03 does not list are part of `conformsSelLoose`: a JSON
array at an object position is read positionally (known finding `C03-struct-from-array`), an absent key at a
nullable position reads as `None`.  With a loose specification that only allows unknown keys the statement is
**false of the model**: `array_at_object_position_accepted`, `absent_nullable_key_accepted`,
`precise_literal_false_array`, `precise_literal_false_absent` in `C01EndToEndW`.

Hypotheses (all decidable, all evaluated on a concrete module in `C01EndToEndW`):
`TreeOp c op` (the class); `moduleOk c items` (item names pairwise distinct and not Rust primitives, no
item named like an extern path, enum tables well-formed, no extern enums); for `tree_lossless` also
`rustOkSels` / `rustNames` (Rust field names pairwise distinct within every selection set).
-/

namespace GqlVerif
namespace C01
namespace E2E
open Serde Spec C13 C03 Codegen

/-! ## `serde_json::to_value` normalisation leaves the canonical form alone -/

theorem normList_eq : ∀ xs : List Json, normList xs = xs.map normJson
  | [] => by simp [normList]
  | x :: xs => by simp [normList, normList_eq xs]

theorem normJson_obj_fixed (l : List (String × Json)) (hk : (l.map (·.1)).Nodup)
    (hv : ∀ kv ∈ l, normJson kv.2 = kv.2) : normJson (.obj l) = .obj l := by
  rw [normJson, SerdeFuel.normKvs_fixed l hv, normObj_of_nodup l hk]

theorem norm_canon (ok : Json → Bool) (lc : Json → Json) (hl : ∀ j, ok j = true → normJson (lc j) = lc j) :
    ∀ t : GTy, (∀ j, acceptsNN ok t j = true → normJson (canonNN lc t j) = canonNN lc t j) ∧
      (∀ j, accepts ok t j = true → normJson (canon lc t j) = canon lc t j) := by
  intro t
  have lift : ∀ (A : Json → Bool) (cn : Json → Json), (∀ j, A j = true → normJson (cn j) = cn j) →
      ∀ j, (j.isNull || A j) = true → normJson (if j.isNull then .null else cn j) = (if j.isNull then .null else cn j) := by
    intro A cn h j hj
    cases hn : j.isNull
    · simp only [Bool.false_eq_true, ↓reduceIte]; exact h j (by simpa [hn] using hj)
    · simp [normJson]
  induction t with
  | named n =>
    have hnn : ∀ j, acceptsNN ok (.named n) j = true → normJson (canonNN lc (.named n) j) = canonNN lc (.named n) j := by
      intro j hj; simp only [canonNN, acceptsNN] at hj ⊢; exact hl j hj
    exact ⟨hnn, fun j hj => by simp only [canon, accepts] at hj ⊢; exact lift _ _ hnn j hj⟩
  | list t ih =>
    have hnn : ∀ j, acceptsNN ok (.list t) j = true → normJson (canonNN lc (.list t) j) = canonNN lc (.list t) j := by
      intro j hj
      cases j with
      | arr xs =>
        simp only [acceptsNN, List.all_eq_true] at hj
        simp only [canonNN, normJson, normList_eq, List.map_map]
        congr 1
        apply List.map_congr_left
        intro x hx
        exact ih.2 x (hj x hx)
      | null => simp [acceptsNN] at hj
      | bool _ => simp [acceptsNN] at hj
      | int _ => simp [acceptsNN] at hj
      | num _ => simp [acceptsNN] at hj
      | str _ => simp [acceptsNN] at hj
      | obj _ => simp [acceptsNN] at hj
    exact ⟨hnn, fun j hj => by simp only [canon, accepts] at hj ⊢; exact lift _ _ hnn j hj⟩
  | nonNull t ih =>
    exact ⟨fun j hj => by simp only [canonNN, acceptsNN] at hj ⊢; exact ih.1 j hj,
           fun j hj => by simp only [canon, accepts] at hj ⊢; exact ih.1 j hj⟩

theorem norm_scalar (n : String) (j : Json) (h : scalarOk n j = true) : normJson j = j := by
  unfold scalarOk at h
  cases j <;> first | rfl | (exfalso; repeat (first | split at h | simp [intOk, floatOk, boolOk, idOk, stringOk] at h))

theorem norm_idCanon (j : Json) (h : idOk j = true) : normJson (idCanon j) = idCanon j := by
  cases j <;> simp [idOk] at h <;> rfl

theorem norm_string (j : Json) (h : stringOk j = true) : normJson j = j := by
  cases j <;> simp [stringOk] at h <;> rfl


theorem canonEntries_keys (s : Schema) (skip : Bool) (kvs : List (String × Json)) :
    ∀ sels : List Sel, ((canonEntries s skip sels kvs).map (·.1)).Sublist (respKeys s sels) := fun sels => by
  rw [canonEntries_flat]
  exact (fieldEntries_keys sels).trans (fieldKeys_sublist s sels)

mutual
  theorem normField (s : Schema) (o : Options) (skip : Bool) : ∀ (x : Sel) (v : Json), treeSel s o x = true →
      strictField s x v = true → normJson (canonField s skip x v) = canonField s skip x v
    | .field a fid sub, v => by
      intro ht hst
      have IH := normEntries s o skip sub
      obtain ⟨sf, hsf, _, _, hk⟩ := treeSel_kinds ht
      simp only [strictField] at hst
      rw [canonField]
      rcases hk with ⟨k, sn, hid, hk, _⟩ | ⟨k, en, hid, hk, _⟩ | ⟨i, ob, hid, hk, hsub, hkeys⟩
      · simp only [hsf, hid, hk] at hst ⊢
        by_cases hID : sn = "ID"
        · subst hID
          simp only [↓reduceIte]
          exact (norm_canon idOk idCanon norm_idCanon _).2 v (by simpa [scalarOk] using hst)
        · simp only [hID, ↓reduceIte]
          have := (norm_canon (scalarOk sn) id (norm_scalar sn) _).2 v hst
          rwa [(canon_id _).2 v] at this
      · simp only [hsf, hid, hk] at hst ⊢
        have := (norm_canon stringOk id norm_string _).2 v hst
        rwa [(canon_id _).2 v] at this
      · simp only [hsf, hid, hk] at hst ⊢
        rw [canonLambda]
        refine (norm_canon (conformsSel s ob.name sub) (canonSel s skip sub) ?_ _).2 v hst
        intro j hj
        cases j with
        | obj kvs =>
          simp only [conformsSel, Bool.and_eq_true] at hj
          rw [canonSel]
          exact normJson_obj_fixed _
            (List.Nodup.sublist (canonEntries_keys s skip kvs sub) (nodup_iff'.mp hkeys))
            (IH ob.name kvs hsub hj.2)
        | arr _ => simp [conformsSel] at hj
        | _ => rfl
    | .spread _, _ => by intro ht; simp [treeSel] at ht
    | .inline _ _, _ => by intro ht; simp [treeSel] at ht
    | .typename, _ => by intro _ h; simp [strictField] at h
  theorem normEntries (s : Schema) (o : Options) (skip : Bool) : ∀ (sels : List Sel) (tn : String)
      (kvs : List (String × Json)), treeSels s o sels = true → confSels s tn sels kvs = true →
      ∀ kv ∈ canonEntries s skip sels kvs, normJson kv.2 = kv.2
    | [], _, _, _, _ => by simp [canonEntries]
    | x :: xs, tn, kvs, ht, hc => by
      obtain ⟨hx, hxs⟩ := treeSels_cons ht
      rw [confSels, Bool.and_eq_true] at hc
      have ih := normEntries s o skip xs tn kvs hxs hc.2
      cases x with
      | field a fid sub =>
        have hcx := hc.1
        rw [confSel_field] at hcx
        rw [canonEntries]
        cases hsf : s.fields[fid]? with
        | none => simp [hsf] at hcx
        | some sf =>
          simp only [hsf] at hcx ⊢
          cases hl : Json.lookup (a.getD sf.name) kvs with
          | none => simp [hl] at hcx
          | some v =>
            simp only [hl] at hcx ⊢
            intro kv hkv
            rw [List.mem_append] at hkv
            rcases hkv with hkv | hkv
            · split at hkv
              · simp at hkv
              · simp only [List.mem_singleton] at hkv
                subst hkv
                exact normField s o skip _ v hx hcx
            · exact ih kv hkv
      | spread g => simp [treeSel] at hx
      | inline t sub => simp [treeSel] at hx
      | typename => simpa [canonEntries] using ih
end

theorem norm_canonSel (s : Schema) (o : Options) (skip : Bool) (tn : String) (sels : List Sel) (j : Json)
    (ht : treeSels s o sels = true) (hk : EnumSpec.nodup (respKeys s sels) = true)
    (hj : conformsSel s tn sels j = true) : normJson (canonSel s skip sels j) = canonSel s skip sels j := by
  cases j with
  | obj kvs =>
    simp only [conformsSel, Bool.and_eq_true] at hj
    rw [canonSel]
    exact normJson_obj_fixed _ (List.Nodup.sublist (canonEntries_keys s skip kvs sels) (nodup_iff'.mp hk))
      (normEntries s o skip sels tn kvs ht hj.2)
  | null => rfl
  | bool _ => rfl
  | int _ => rfl
  | num _ => rfl
  | str _ => rfl
  | arr _ => simp [conformsSel] at hj


/-! ## fuel: the depth of the selection tree is below the number of emitted items

Every nesting level contributes a struct item and `Serde.deFuel` / the fuel of `Serde.ser` grow with the number of
items (`Top.le_deFuel`, `Top.le_serFuel`): that is why the end-to-end theorems need no hypothesis on fuel. -/

mutual
  theorem depth_le_items_sel (c : Ctx) : ∀ (x : Sel) (pfx : String), treeSel c.s c.o x = true →
      selDepth x ≤ (itemsOfSel c pfx x).length + 1
    | .field a fid sub, pfx => by
      intro ht
      have IH := depth_le_items c sub
      obtain ⟨sf, hsf, _, _, hk⟩ := treeSel_kinds ht
      rw [selDepth, itemsOfSel]
      rcases hk with ⟨k, _, hid, _, rfl⟩ | ⟨k, _, hid, _, rfl⟩ | ⟨i, _, hid, _, hsub, _⟩
      · simp [hsf, hid, selsDepth]
      · simp [hsf, hid, selsDepth]
      · have := IH (pfx ++ c.cs.camel (a.getD sf.name)) hsub
        simp only [hsf, hid, List.length_cons]; omega
    | .spread _, _ => by intro ht; simp [treeSel] at ht
    | .inline _ _, _ => by intro ht; simp [treeSel] at ht
    | .typename, _ => by intro _; simp [selDepth]
  theorem depth_le_items (c : Ctx) : ∀ (sels : List Sel) (pfx : String), treeSels c.s c.o sels = true →
      selsDepth sels ≤ (itemsOfSels c pfx sels).length + 1
    | [], _ => by intro _; simp [selsDepth]
    | x :: xs, pfx => by
      intro ht
      obtain ⟨hx, hxs⟩ := treeSels_cons ht
      have h1 := depth_le_items_sel c x pfx hx
      have h2 := depth_le_items c xs pfx hxs
      rw [selsDepth, itemsOfSels, List.length_append]
      omega
end

/-! ## top level: `Serde.de` / `Serde.ser` at `ResponseData` -/

/-- what the end-to-end theorems need of the environment (discharged for the environment built from
    `responseForQuery` by `topEnv_of_module`) -/
structure TopEnv (e : Env) (c : Ctx) (op : ROperation) : Prop where
  root : StructEnv e "ResponseData" (fieldsOf c (c.cs.camel op.name) op.sels)
  sub : envSels e c (c.cs.camel op.name) op.sels
  size : (itemsOfSels c (c.cs.camel op.name) op.sels).length + 1 ≤ e.items.length

theorem treeOp_parts {c : Ctx} {op : ROperation} (h : TreeOp c op = true) :
    c.o.normalization = .none ∧ (c.s.objects[op.objectId]?).isSome = true ∧
      treeSels c.s c.o op.sels = true ∧ EnumSpec.nodup (respKeys c.s op.sels) = true := by
  simp only [TreeOp, Bool.and_eq_true, beq_iff_eq] at h
  exact ⟨h.1.1.1, h.1.1.2, h.1.2, h.2⟩

theorem de_top (e : Env) (j : Json) :
    Serde.de e (.path "ResponseData") j = dePath e false (deFuel e j) "ResponseData" j := rfl

theorem depth_le_env (e : Env) (c : Ctx) (op : ROperation) (ht : treeSels c.s c.o op.sels = true)
    (hsz : (itemsOfSels c (c.cs.camel op.name) op.sels).length + 1 ≤ e.items.length) :
    selsDepth op.sels ≤ e.items.length := by
  have := depth_le_items c op.sels (c.cs.camel op.name) ht
  omega

theorem top_accepts_iff (e : Env) (c : Ctx) (op : ROperation) (ht : TreeOp c op = true) (he : TopEnv e c op)
    (j : Json) : okB (Serde.de e (.path "ResponseData") j) = conformsSelLoose c.s op.sels j := by
  obtain ⟨_, _, hsels, _⟩ := treeOp_parts ht
  exact Top.de_iff (depth_le_env e c op hsels he.size)
    (fun fd hfd => struct_accepts_iff e c _ _ op.sels hsels he.sub he.root false fd (by omega)) j

theorem top_lossless (e : Env) (c : Ctx) (op : ROperation) (ht : TreeOp c op = true) (he : TopEnv e c op)
    (hro : rustOkSels c op.sels = true) (hrn : EnumSpec.nodup (rustNames c op.sels) = true)
    (tn : String) (j : Json) (v : Val) (hc : conformsSel c.s tn op.sels j = true)
    (hd : Serde.de e (.path "ResponseData") j = .ok v) :
    Serde.ser e (.path "ResponseData") v = .ok (canonSel c.s c.o.skipNone op.sels j) := by
  obtain ⟨_, _, hsels, hkeys⟩ := treeOp_parts ht
  exact Top.ser_fixed (depth_le_env e c op hsels he.size)
    (fun fd fs hfd hfs => struct_lossless e c _ "ResponseData" op.sels hsels he.sub hro hrn hkeys he.root false fd fs
      (by omega) (by omega) tn j v hc)
    (norm_canonSel c.s c.o c.o.skipNone tn op.sels j hsels hkeys hc) hd


/-! ## the environment of an emitted module -/

/-- externs: every custom scalar of the schema is supplied by the consumer as `String` (as the harness does), at the
    path the emitted alias refers to: `<custom_scalars_module>::<name>`, `super::<name>` without that option
    (`codegen.rs`, `generate_scalar_definitions`) -/
def customExterns (c : Ctx) : List (String × RTy) :=
  (c.s.scalars.filter (fun n => !Schema.defaultScalars.contains n)).map
    (fun n => ((c.o.scalarsModule.getD "super") ++ "::" ++ n, RTy.path "String"))

/-- the environment in which the emitted module is read: its items + the consumer's scalar types -/
def moduleEnv (c : Ctx) (items : List Item) : Env := { items := items, externs := customExterns c }

/-- side conditions on the emitted module (decidable; all are properties of the *output* that hold
    for any module that compiles as Rust; `moduleOk_iff_inputs` in `ModuleOkInputs` reduces them to a decidable
    condition on schema, query, options and case functions): item names pairwise distinct, none of them a Rust primitive the model reads natively,
    no item named like an extern path, the enum tables well-formed (`EnumSpec.tablesWf`, the check the
    harness evaluates on the emitted impls), no extern enums (their type is the consumer's, out of scope) -/
def moduleOk (c : Ctx) (items : List Item) : Bool :=
  EnumSpec.nodup (items.map (·.name)) &&
  items.all (fun it => decide (notPrim it.name)) &&
  (customExterns c).all (fun x => decide (notPrim x.1) && items.all (fun it => it.name != x.1)) &&
  items.all (fun it => match it with
    | .gqlEnum _ _ _ vs ser de => EnumSpec.tablesWf vs ser de
    | _ => true) &&
  c.o.externEnums.isEmpty

theorem find_of_mem (ex : List (String × RTy)) : ∀ {items : List Item}, (items.map (·.name)).Nodup → ∀ {it : Item},
    it ∈ items → ({ items := items, externs := ex } : Env).find it.name = some it
  | [], _, _, h => by simp at h
  | a :: rest, hnd, it, h => by
    simp only [List.map_cons, List.nodup_cons] at hnd
    unfold Env.find
    simp only [List.find?_cons]
    rcases List.mem_cons.mp h with rfl | h'
    · simp
    · have hne : (a.name == it.name) = false := by
        have : a.name ≠ it.name := fun heq => hnd.1 (heq ▸ List.mem_map_of_mem h')
        simpa using this
      simp only [hne]
      exact find_of_mem ex hnd.2 h'

theorem find_none_of (ex : List (String × RTy)) (items : List Item) (n : String) (h : ∀ it ∈ items, it.name ≠ n) :
    ({ items := items, externs := ex } : Env).find n = none := by
  unfold Env.find
  rw [List.find?_eq_none]
  intro it hit
  simpa using h it hit

theorem responseForQuery_parts_full {c : Ctx} {op : Nat} {items : List Item} (h : responseForQuery c op = .ok items) :
    ∃ u S E F I V o R, allUsedTypes c.s c.q op = .ok u ∧ scalarItems c u = .ok S ∧ enumItems c u = .ok E ∧
      (sortNat u.fragments).mapM (fragmentItems c) = .ok F ∧
      c.q.operations[op]? = some o ∧ responseItems c o = .ok R ∧
      items = builtinAliases ++ S ++ E ++ I ++ V ++ F.flatten ++ R :=
  let ⟨u, S, E, F, I, V, o, R, hu, hS, hE, hF, _, _, ho, hR, hitems⟩ := C02.responseForQuery_ok_full h
  ⟨u, S, E, F, I, V, o, R, hu, hS, hE, hF, ho, hR, hitems⟩

theorem responseForQuery_parts {c : Ctx} {opIdx : Nat} {items : List Item}
    (h : responseForQuery c opIdx = .ok items) :
    ∃ u S E I V F o resp, allUsedTypes c.s c.q opIdx = .ok u ∧ scalarItems c u = .ok S ∧
      enumItems c u = .ok E ∧ c.q.operations[opIdx]? = some o ∧ responseItems c o = .ok resp ∧
      items = builtinAliases ++ S ++ E ++ I ++ V ++ F ++ resp :=
  let ⟨u, S, E, F, I, V, o, R, hu, hS, hE, _, ho, hR, hitems⟩ := responseForQuery_parts_full h
  ⟨u, S, E, I, V, F.flatten, o, R, hu, hS, hE, ho, hR, hitems⟩

theorem enumItems_mem {c : Ctx} {u : UsedTypes} {E : List Item} (h : enumItems c u = .ok E)
    {k : Nat} {en : StoredEnum} (hk : .enum k ∈ u.types) (he : c.s.enums[k]? = some en)
    (hne : en.name ∉ c.o.externEnums) : enumItem c en ∈ E :=
  C02.enumItems_item_mem h hk he hne

theorem scalarItems_mem {c : Ctx} {u : UsedTypes} {S : List Item} (h : scalarItems c u = .ok S)
    {k : Nat} {n : String} (hk : .scalar k ∈ u.types) (hn : c.s.scalars[k]? = some n)
    (hnd : n ∉ Schema.defaultScalars) :
    Item.alias (c.o.normalization.scalarName c.cs n) false
      (.path ((c.o.scalarsModule.getD "super") ++ "::" ++ c.o.normalization.scalarName c.cs n)) ∈ S :=
  C02.scalarItems_alias_mem h hk hn hnd

/-- whatever is reachable from every selection list containing `x` is reachable from where `x` is -/
theorem reach_via {q : Query} {sels : List Sel} {x y : Sel} (h : C02.Reach q sels x)
    (hy : ∀ {l : List Sel}, x ∈ l → C02.Reach q l y) : C02.Reach q sels y := by
  induction h with
  | here hm => exact hy hm
  | field hm _ ih => exact .field hm (ih hy)
  | inline hm _ ih => exact .inline hm (ih hy)
  | spread hm hf _ ih => exact .spread hm hf (ih hy)

theorem reach_step {q : Query} {sels : List Sel} {a : Option String} {fid : Nat} {sub : List Sel} {y : Sel}
    (h : C02.Reach q sels (.field a fid sub)) (hy : y ∈ sub) : C02.Reach q sels y :=
  reach_via h (fun hm => .field hm (.here hy))

theorem reach_step_inline {q : Query} {sels : List Sel} {t : TypeId} {sub : List Sel} {y : Sel}
    (h : C02.Reach q sels (.inline t sub)) (hy : y ∈ sub) : C02.Reach q sels y :=
  reach_via h (fun hm => .inline hm (.here hy))

theorem reach_step_spread {q : Query} {sels : List Sel} {g : Nat} {f : RFragment} {y : Sel}
    (h : C02.Reach q sels (.spread g)) (hf : q.fragments[g]? = some f) (hy : y ∈ f.sels) : C02.Reach q sels y :=
  reach_via h (fun hm => .spread hm hf (.here hy))

theorem find_extern (l : List (String × RTy)) (X : String) (hall : ∀ x ∈ l, x.2 = RTy.path "String")
    (hex : ∃ x ∈ l, x.1 = X) : ∃ k, l.find? (·.1 == X) = some (k, RTy.path "String") := by
  cases hf : l.find? (·.1 == X) with
  | none =>
    rw [List.find?_eq_none] at hf
    obtain ⟨x, hx, hx1⟩ := hex
    exact absurd (by simpa using hx1) (hf x hx)
  | some kv =>
    have := hall kv (List.mem_of_find?_eq_some hf)
    exact ⟨kv.1, by rw [← this]⟩

/-- the facts about an emitted module that the environment hypotheses are derived from -/
structure ModFacts (c : Ctx) (items : List Item) (u : UsedTypes) (root : List Sel) : Prop where
  hn : c.o.normalization = .none
  nodup : (items.map (·.name)).Nodup
  np : ∀ it ∈ items, notPrim it.name
  ext : ∀ x ∈ customExterns c, notPrim x.1 ∧ ∀ it ∈ items, it.name ≠ x.1
  tables : ∀ n d sp vs ser de, Item.gqlEnum n d sp vs ser de ∈ items → EnumSpec.tablesWf vs ser de = true
  builtin : ∀ it ∈ builtinAliases, it ∈ items
  scalars : ∀ k n, TypeId.scalar k ∈ u.types → c.s.scalars[k]? = some n → n ∉ Schema.defaultScalars →
    Item.alias n false (.path ((c.o.scalarsModule.getD "super") ++ "::" ++ n)) ∈ items
  enums : ∀ k en, TypeId.enum k ∈ u.types → c.s.enums[k]? = some en → enumItem c en ∈ items
  used : ∀ x, C02.Reach c.q root x → C02.Direct c.s u x

/-- the built-in alias `ID` is in the module and names are pairwise distinct: no other item is called `ID` -/
theorem item_name_ne_ID (c : Ctx) {items : List Item} (hnd : (items.map (·.name)).Nodup)
    (hb : ∀ it ∈ builtinAliases, it ∈ items) {it : Item} (hmem : it ∈ items)
    (hne : it ≠ .alias "ID" false (.path "String")) : it.name ≠ "ID" := by
  intro h
  have h1 := find_of_mem (customExterns c) hnd hmem
  have h2 := find_of_mem (customExterns c) hnd (hb (.alias "ID" false (.path "String")) (by simp [builtinAliases]))
  have h4 : (Item.alias "ID" false (.path "String")).name = "ID" := rfl
  rw [h] at h1
  rw [h4, h1] at h2
  exact hne (Option.some.inj h2)

section EnvOf
variable {c : Ctx} {items : List Item} {u : UsedTypes} {root : List Sel} (M : ModFacts c items u root)
include M

theorem name_ne_ID {it : Item} (hit : it ∈ items) (hna : ∀ t, it ≠ Item.alias "ID" false t) : it.name ≠ "ID" :=
  item_name_ne_ID c M.nodup M.builtin hit (hna _)

theorem scalarEnv_of (k : Nat) (sn : String) (hk : c.s.scalars[k]? = some sn) (hu : TypeId.scalar k ∈ u.types) :
    ScalarEnv (moduleEnv c items) sn := by
  unfold ScalarEnv
  have hb := fun it h => find_of_mem (customExterns c) M.nodup (M.builtin it h)
  by_cases h1 : sn = "Int"
  · simp only [h1, ↓reduceIte]
    exact hb (.alias "Int" false (.path "i64")) (by simp [builtinAliases])
  by_cases h2 : sn = "Float"
  · simp only [h2, ↓reduceIte]
    exact hb (.alias "Float" false (.path "f64")) (by simp [builtinAliases])
  by_cases h3 : sn = "Boolean"
  · simp only [h3, ↓reduceIte]
    exact hb (.alias "Boolean" false (.path "bool")) (by simp [builtinAliases])
  by_cases h4 : sn = "ID"
  · simp [h4]
  by_cases h5 : sn = "String"
  · simp [h5]
  simp only [h1, h2, h3, h4, h5, ↓reduceIte]
  have hnd : sn ∉ Schema.defaultScalars := by simp [Schema.defaultScalars, h1, h2, h3, h4, h5]
  have hal := M.scalars k sn hu hk hnd
  have hX : ((c.o.scalarsModule.getD "super") ++ "::" ++ sn, RTy.path "String") ∈ customExterns c := by
    unfold customExterns
    exact List.mem_map.mpr ⟨sn, List.mem_filter.mpr ⟨List.mem_of_getElem? hk, by simpa using hnd⟩, rfl⟩
  obtain ⟨hXp, hXn⟩ := M.ext _ hX
  refine ⟨(c.o.scalarsModule.getD "super") ++ "::" ++ sn, M.np _ hal, hXp,
    find_of_mem (customExterns c) M.nodup hal, find_none_of _ _ _ hXn, ?_⟩
  apply find_extern
  · intro x hx
    unfold moduleEnv customExterns at hx
    obtain ⟨n, _, rfl⟩ := List.mem_map.mp hx
    rfl
  · exact ⟨_, hX, rfl⟩

theorem enumEnv_of (k : Nat) (en : StoredEnum) (hk : c.s.enums[k]? = some en) (hu : TypeId.enum k ∈ u.types) :
    EnumEnv (moduleEnv c items) en.name := by
  have hmem := M.enums k en hu hk
  have hname : (enumItem c en).name = en.name := by
    simp [enumItem, Item.name, M.hn, Normalization.enumName, Normalization.camelCase]
  have hfind := find_of_mem (customExterns c) M.nodup hmem
  rw [hname] at hfind
  refine ⟨hname ▸ M.np _ hmem, hname ▸ name_ne_ID M hmem (by intro t h; simp [enumItem] at h), ?_⟩
  unfold enumItem at hfind hmem
  exact ⟨_, _, _, _, _, _, hfind, M.tables _ _ _ _ _ _ hmem⟩

theorem structEnv_of (name : String) (fields : List RField)
    (hmem : Item.struct name c.respDerives c.serdeCrate fields ∈ items) :
    StructEnv (moduleEnv c items) name fields :=
  ⟨M.np _ hmem, name_ne_ID M hmem (by intro t h; cases h), _, _, _, find_of_mem (customExterns c) M.nodup hmem⟩

-- the list half uses the section variables only through the selection half
set_option linter.unusedSectionVars false
mutual
  theorem envSel_of : ∀ (x : Sel) (pfx : String), treeSel c.s c.o x = true →
      (∀ it ∈ itemsOfSel c pfx x, it ∈ items) → C02.Reach c.q root x → envSel (moduleEnv c items) c pfx x
    | .field a fid sub, pfx => by
      intro ht hit hr
      have IH := envSels_of sub
      have hdir := M.used _ hr
      obtain ⟨sf, hsf, _, _, hk⟩ := treeSel_kinds ht
      have hused : sf.ty.id ∈ u.types := hdir sf hsf
      rw [itemsOfSel] at hit
      rw [envSel]
      rcases hk with ⟨k, sn, hid, hk, _⟩ | ⟨k, en, hid, hk, _⟩ | ⟨i, _, hid, _, hsub, _⟩
      · simp only [hsf, hid, hk]
        exact scalarEnv_of M k sn hk (hid ▸ hused)
      · simp only [hsf, hid, hk]
        exact enumEnv_of M k en hk (hid ▸ hused)
      · simp only [hsf, hid] at hit ⊢
        refine ⟨structEnv_of M _ _ (hit _ (by simp)), ?_⟩
        exact IH _ hsub (fun it h => hit it (by simp [h])) (fun y hy => reach_step hr hy)
    | .spread _, _ => by intro ht; simp [treeSel] at ht
    | .inline _ _, _ => by intro ht; simp [treeSel] at ht
    | .typename, _ => by intro _ _ _; simp [envSel]
  theorem envSels_of : ∀ (sels : List Sel) (pfx : String), treeSels c.s c.o sels = true →
      (∀ it ∈ itemsOfSels c pfx sels, it ∈ items) → (∀ x ∈ sels, C02.Reach c.q root x) →
      envSels (moduleEnv c items) c pfx sels
    | [], _ => by intro _ _ _; simp [envSels]
    | x :: xs, pfx => by
      intro ht hit hr
      obtain ⟨hx, hxs⟩ := treeSels_cons ht
      rw [itemsOfSels] at hit
      rw [envSels]
      exact ⟨envSel_of x pfx hx (fun it h => hit it (by simp [h])) (hr x (by simp)),
        envSels_of xs pfx hxs (fun it h => hit it (by simp [h])) (fun y hy => hr y (by simp [hy]))⟩
end
set_option linter.unusedSectionVars true

end EnvOf


/-! ## from `Codegen.responseForQuery` to the environment hypotheses -/

/-- what every class needs of an emitted module: its decomposition into the chunks of `responseForQuery` and the
    facts `ModFacts` the environment hypotheses are derived from -/
theorem modFacts_of_module {c : Ctx} {opIdx : Nat} {op : ROperation} {items : List Item}
    (hop : c.q.operations[opIdx]? = some op) (hn : c.o.normalization = .none)
    (hgen : responseForQuery c opIdx = .ok items) (hok : moduleOk c items = true) :
    ∃ u S E F I V R, allUsedTypes c.s c.q opIdx = .ok u ∧ (sortNat u.fragments).mapM (fragmentItems c) = .ok F ∧
      responseItems c op = .ok R ∧
      items = builtinAliases ++ S ++ E ++ I ++ V ++ F.flatten ++ R ∧ ModFacts c items u op.sels := by
  obtain ⟨u, S, E, F, I, V, o, R, hu, hS, hE, hF, ho, hR, hitems⟩ := responseForQuery_parts_full hgen
  rw [hop] at ho; cases ho
  simp only [moduleOk, Bool.and_eq_true, List.all_eq_true, decide_eq_true_eq, List.isEmpty_iff] at hok
  obtain ⟨⟨⟨⟨hnd, hnp⟩, hext⟩, htab⟩, hnoext⟩ := hok
  exact ⟨u, S, E, F, I, V, R, hu, hF, hR, hitems, {
    hn := hn
    nodup := nodup_iff'.mp hnd
    np := hnp
    ext := fun x hx => ⟨(hext x hx).1, fun it hit => by simpa using (hext x hx).2 it hit⟩
    tables := fun n d sp vs ser de hm => by simpa using htab _ hm
    builtin := fun it h => by rw [hitems]; simp [h]
    scalars := fun k n hk hn' hnd' => by
      have := scalarItems_mem hS hk hn' hnd'
      simp only [hn, Normalization.scalarName, Normalization.camelCase] at this
      rw [hitems]; simp [this]
    enums := fun k en hk hen => by
      have := enumItems_mem hE hk hen (by simp [hnoext])
      rw [hitems]; simp [this]
    used := C02.selected_types_used c.s c.q opIdx u hu op hop }⟩

/-- the response items `R` of an operation inside the emitted module: they and the fragment chunk are parts of the module,
    which is longer than both by the four built-in aliases at least -/
theorem module_tail {c : Ctx} {opIdx : Nat} {op : ROperation} {items R : List Item}
    (hop : c.q.operations[opIdx]? = some op) (hn : c.o.normalization = .none)
    (hgen : responseForQuery c opIdx = .ok items) (hok : moduleOk c items = true)
    (hR : responseItems c op = .ok R) :
    ∃ u F, allUsedTypes c.s c.q opIdx = .ok u ∧ (sortNat u.fragments).mapM (fragmentItems c) = .ok F ∧
      ModFacts c items u op.sels ∧
      (∀ it ∈ R, it ∈ items) ∧ (∀ it ∈ F.flatten, it ∈ items) ∧
      R.length + F.flatten.length + 4 ≤ (moduleEnv c items).items.length := by
  obtain ⟨u, S, E, F, I, V, R', hu, hF, hresp, hitems, M⟩ := modFacts_of_module hop hn hgen hok
  rw [hR] at hresp
  cases hresp
  refine ⟨u, F, hu, hF, M, fun it h => by rw [hitems]; simp [h], fun it h => by rw [hitems]; simp [h], ?_⟩
  have h4 : builtinAliases.length = 4 := rfl
  rw [hitems]
  simp only [moduleEnv, List.length_append]
  omega

theorem topEnv_of_module {c : Ctx} {opIdx : Nat} {op : ROperation} {items : List Item}
    (hop : c.q.operations[opIdx]? = some op) (ht : TreeOp c op = true)
    (hgen : responseForQuery c opIdx = .ok items) (hok : moduleOk c items = true) :
    TopEnv (moduleEnv c items) c op := by
  obtain ⟨hn, _, hsels, _⟩ := treeOp_parts ht
  obtain ⟨u, F, _, _, M, hsub, _, hlen⟩ := module_tail hop hn hgen hok (tree_items_shape c op (List.mem_of_getElem? hop) ht)
  refine ⟨structEnv_of M _ _ (hsub _ (by simp [structItems])),
    envSels_of M op.sels _ hsels (fun it h => hsub it (by simp [structItems, h])) (fun x hx => .here hx), ?_⟩
  simp only [structItems, List.length_cons] at hlen
  omega

/-- the name of the operation's root object type (for `__typename` at the root) -/
def rootName (c : Ctx) (op : ROperation) : String :=
  match c.s.objects[op.objectId]? with
  | some o => o.name
  | none => ""

/-- a response conforms to the operation (GraphQL spec §6.4) -/
def conformsOp (c : Ctx) (op : ROperation) (j : Json) : Bool := conformsSel c.s (rootName c op) op.sels j

/-- **C01, acceptance.**  Every conforming response is accepted by the emitted `ResponseData`. -/
theorem tree_accepts (c : Ctx) (opIdx : Nat) (op : ROperation) (items : List Item)
    (hop : c.q.operations[opIdx]? = some op) (ht : TreeOp c op = true)
    (hgen : responseForQuery c opIdx = .ok items) (hok : moduleOk c items = true)
    (j : Json) (hc : conformsOp c op j = true) :
    ∃ v, Serde.de (moduleEnv c items) (.path "ResponseData") j = .ok v :=
  Top.accepts_of_iff (top_accepts_iff _ c op ht (topEnv_of_module hop ht hgen hok) j) (conforms_loose _ _ _ _ hc)

/-- **C01, losslessness.**  … and written back as `canonSel … j`. -/
theorem tree_lossless (c : Ctx) (opIdx : Nat) (op : ROperation) (items : List Item)
    (hop : c.q.operations[opIdx]? = some op) (ht : TreeOp c op = true)
    (hgen : responseForQuery c opIdx = .ok items) (hok : moduleOk c items = true)
    (hro : rustOkSels c op.sels = true) (hrn : EnumSpec.nodup (rustNames c op.sels) = true)
    (j : Json) (hc : conformsOp c op j = true) (v : Val)
    (hd : Serde.de (moduleEnv c items) (.path "ResponseData") j = .ok v) :
    Serde.ser (moduleEnv c items) (.path "ResponseData") v = .ok (canonSel c.s c.o.skipNone op.sels j) :=
  top_lossless (moduleEnv c items) c op ht (topEnv_of_module hop ht hgen hok) hro hrn _ j v hc hd

/-- `tree_accepts` and `tree_lossless` in one statement: `roundtrip j = canonSel j` -/
theorem tree_roundtrip (c : Ctx) (opIdx : Nat) (op : ROperation) (items : List Item)
    (hop : c.q.operations[opIdx]? = some op) (ht : TreeOp c op = true)
    (hgen : responseForQuery c opIdx = .ok items) (hok : moduleOk c items = true)
    (hro : rustOkSels c op.sels = true) (hrn : EnumSpec.nodup (rustNames c op.sels) = true)
    (j : Json) (hc : conformsOp c op j = true) :
    Serde.roundtrip (moduleEnv c items) (.path "ResponseData") j = .ok (canonSel c.s c.o.skipNone op.sels j) :=
  Top.roundtrip_of (tree_accepts c opIdx op items hop ht hgen hok j hc)
    (tree_lossless c opIdx op items hop ht hgen hok hro hrn j hc)

/-- **C03, as an equivalence.**  The emitted `ResponseData` accepts `j` **iff** `j` is loosely conforming
    (`tree_precise` is the direction C03 states). -/
theorem tree_precise_iff (c : Ctx) (opIdx : Nat) (op : ROperation) (items : List Item)
    (hop : c.q.operations[opIdx]? = some op) (ht : TreeOp c op = true)
    (hgen : responseForQuery c opIdx = .ok items) (hok : moduleOk c items = true) (j : Json) :
    okB (Serde.de (moduleEnv c items) (.path "ResponseData") j) = conformsSelLoose c.s op.sels j :=
  top_accepts_iff (moduleEnv c items) c op ht (topEnv_of_module hop ht hgen hok) j

theorem tree_precise (c : Ctx) (opIdx : Nat) (op : ROperation) (items : List Item)
    (hop : c.q.operations[opIdx]? = some op) (ht : TreeOp c op = true)
    (hgen : responseForQuery c opIdx = .ok items) (hok : moduleOk c items = true) (j : Json) (v : Val)
    (hd : Serde.de (moduleEnv c items) (.path "ResponseData") j = .ok v) :
    conformsSelLoose c.s op.sels j = true :=
  Top.precise_of_iff (tree_precise_iff c opIdx op items hop ht hgen hok j) hd


/-! ## shape of the emitted module and of its fields (`tree_items_shape`, continued) -/

/-- the response items are the tail of the emitted module -/
theorem tree_module_shape (c : Ctx) (opIdx : Nat) (op : ROperation) (items : List Item)
    (hop : c.q.operations[opIdx]? = some op) (ht : TreeOp c op = true)
    (hgen : responseForQuery c opIdx = .ok items) :
    ∃ pre, items = Codegen.builtinAliases ++ pre ++ structItems c "ResponseData" (c.cs.camel op.name) op.sels := by
  obtain ⟨u, S, E, I, V, F, o, resp, _, _, _, ho, hresp, hitems⟩ := responseForQuery_parts hgen
  rw [hop] at ho; cases ho
  rw [tree_items_shape c op (List.mem_of_getElem? hop) ht] at hresp
  cases hresp
  exact ⟨S ++ E ++ I ++ V ++ F, by rw [hitems]; simp⟩

/-- one emitted field: `wire` = response key, type = `rustOf` of the schema type over the leaf name,
    never flattened, an ID helper exactly when the leaf name is `ID` -/
theorem fieldOf_shape (c : Ctx) (g ft : String) (quals : List Qual) (dep : Option (Option String)) :
    (fieldOf c g ft quals dep).wire = g ∧
    (fieldOf c g ft quals dep).ty = rustOf (.path ft) (gtyOf quals) ∧
    (fieldOf c g ft quals dep).flatten = false ∧
    ((fieldOf c g ft quals dep).deserWith.isSome = true ↔ ft = "ID") := by
  refine ⟨fieldOf_wire c g ft quals dep, rfl, rfl, ?_⟩
  by_cases h : ft = "ID" <;> simp [fieldOf, h]

theorem kw_not {w : String} (h : w ∉ Gen.keywordTable) : keywordReplace w = w := by
  rw [C11.keywordReplace_spec, if_neg h]

end E2E
end C01
end GqlVerif
