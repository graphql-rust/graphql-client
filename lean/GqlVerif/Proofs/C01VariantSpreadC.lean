import GqlVerif.Proofs.C01VariantSpreadB
/-!
# C01 end to end: fragment spreads at abstract positions (`VariantSpreadOp`): the closed form `canonSelS` of the round trip

**Scope of this part: operations of the class without spreads of fragments on the abstract type itself** (`noBSels`,
decidable).  `canonSelS s q skip sels j` / `canonAbsS s q skip sub j` are the explicit functions
describing the differences C01 allows between a conforming response and `to_value (from_value j)`: as `canonSelV` /
`canonAbsV`; at an abstract position the interface-level entries in selection order, then `__typename` (kept), then — **in
selection order** — the entries of the inline fragment on the type `__typename` names and the entries of every spread
fragment on that type (`canonVarS`).  The entry lists are `flatMap`s of per-selection pieces (`canonEntriesS_flat`,
`canonVarS_flat`; `C01EntryLists`).

* `RTSelS` — the round trip of one field in this closed form; proved in `C01VariantSpreadE` (`rtSelS`), from the round trip for the
  whole class and `canonD_noB_sel`;
* the payload of one variant: `ownSels` (several inline fragments on one type), `rtMemberS` (one flattened member);
* `norm_canonSelS` — the canonical form is a `serde_json::to_value` normal form.

Additional decidable side condition: `rustOkSelsS` — within each struct the Rust field names are pairwise distinct (own
fields; at an abstract position also `on`; in a variant struct the inline fragment's fields and the members
`snake(F)`), and inside every spread fragment (`rustOkFrag`).
-/

namespace GqlVerif
namespace C01
namespace E2E
open Serde Spec Codegen

/-! ## the allowed differences, as an explicit function on the JSON value -/

mutual
  def canonFieldS (s : Schema) (q : Query) (skip : Bool) : Sel → Json → Json
    | .field _ fid sub, v =>
      match s.fields[fid]? with
      | none => v
      | some sf =>
        match sf.ty.id with
        | .scalar k => (match s.scalars[k]? with
          | some n => if n = "ID" then canon idCanon (gtyOf sf.ty.quals) v else v
          | none => v)
        | .enum _ => v
        | .input _ => v
        | .object _ => canon (fun j => match j with
            | .obj kvs => .obj (canonEntriesS s q skip sub kvs)
            | j => j) (gtyOf sf.ty.quals) v
        | _ =>
          canon (fun j => match j with
            | .obj kvs => .obj (canonEntriesS s q skip sub kvs ++
                (("__typename", Json.str (tagName kvs)) :: canonVarS s q skip (tagName kvs) sub kvs))
            | j => j) (gtyOf sf.ty.quals) v
    | _, v => v
  def canonEntriesS (s : Schema) (q : Query) (skip : Bool) : List Sel → List (String × Json) → List (String × Json)
    | [], _ => []
    | .field a fid sub :: xs, kvs =>
      (match s.fields[fid]? with
       | none => []
       | some sf =>
         match Json.lookup (a.getD sf.name) kvs with
         | some v =>
           if skip && skipQ sf.ty.quals && v.isNull then []
           else [(a.getD sf.name, canonFieldS s q skip (.field a fid sub) v)]
         | none => if skip && skipQ sf.ty.quals then [] else [(a.getD sf.name, Json.null)]) ++
        canonEntriesS s q skip xs kvs
    | _ :: xs, kvs => canonEntriesS s q skip xs kvs
  /-- the entries of the selections on the type named `n`: the inline fragment's and the spread fragments', in
      selection order -/
  def canonVarS (s : Schema) (q : Query) (skip : Bool) (n : String) : List Sel → List (String × Json) → List (String × Json)
    | [], _ => []
    | .inline t isub :: xs, kvs =>
      (if objName s t == n then canonEntriesS s q skip isub kvs else []) ++ canonVarS s q skip n xs kvs
    | .spread g :: xs, kvs =>
      (match q.fragments[g]? with
       | some f => if objName s f.on == n then canonEntriesV s skip f.sels kvs else []
       | none => []) ++ canonVarS s q skip n xs kvs
    | _ :: xs, kvs => canonVarS s q skip n xs kvs
end

theorem canonEntriesS_flat (s : Schema) (q : Query) (skip : Bool) (kvs : List (String × Json)) : ∀ (sels : List Sel),
    canonEntriesS s q skip sels kvs = sels.flatMap (fieldEntry s skip (canonFieldS s q skip) kvs)
  | [] => by simp [canonEntriesS]
  | x :: xs => by
    rw [List.flatMap_cons, ← canonEntriesS_flat s q skip kvs xs]
    cases x with
    | field a fid sub => rw [canonEntriesS.eq_2]; rfl
    | _ => rfl

theorem canonVarS_flat (s : Schema) (q : Query) (skip : Bool) (n : String) (kvs : List (String × Json)) :
    ∀ (sub : List Sel), canonVarS s q skip n sub kvs =
      sub.flatMap (fun x => inlEntries (objName s · == n) (canonEntriesS s q skip · kvs) x ++
        fragEntries q (fun f => if objName s f.on == n then canonEntriesV s skip f.sels kvs else []) x)
  | [] => by simp [canonVarS]
  | x :: xs => by
    rw [List.flatMap_cons, ← canonVarS_flat s q skip n kvs xs]
    cases x with
    | inline t isub => rw [canonVarS]; simp only [fragEntries, spreadEntries, List.append_nil]; rfl
    | spread g => rw [canonVarS]; rfl
    | _ => rfl

/-- **`canonSelS`**: the differences C01 allows between a conforming response `j` and `to_value (from_value j)` -/
def canonSelS (s : Schema) (q : Query) (skip : Bool) (sels : List Sel) : Json → Json
  | .obj kvs => .obj (canonEntriesS s q skip sels kvs)
  | j => j

/-- … and at an abstract position -/
def canonAbsS (s : Schema) (q : Query) (skip : Bool) (sub : List Sel) : Json → Json
  | .obj kvs => .obj (canonEntriesS s q skip sub kvs ++
      (("__typename", Json.str (tagName kvs)) :: canonVarS s q skip (tagName kvs) sub kvs))
  | j => j

theorem canonLambdaS (s : Schema) (q : Query) (skip : Bool) (sub : List Sel) :
    (fun j => match j with
      | Json.obj kvs => Json.obj (canonEntriesS s q skip sub kvs)
      | j => j) = canonSelS s q skip sub := by
  funext j; cases j <;> rfl

theorem canonLambdaAbsS (s : Schema) (q : Query) (skip : Bool) (sub : List Sel) :
    (fun j => match j with
      | Json.obj kvs => Json.obj (canonEntriesS s q skip sub kvs ++
          (("__typename", Json.str (tagName kvs)) :: canonVarS s q skip (tagName kvs) sub kvs))
      | j => j) = canonAbsS s q skip sub := by
  funext j; cases j <;> rfl

/-- the same, by type instead of by type name -/
def canonVarT (s : Schema) (q : Query) (skip : Bool) (vt : TypeId) (sub : List Sel) (kvs : List (String × Json)) :
    List (String × Json) :=
  sub.flatMap (entriesOn q vt (canonEntriesS s q skip · kvs) (fun f => canonEntriesV s skip f.sels kvs))

theorem objName_eq_iff (s : Schema) (names : List TypeId) (hnames : (names.map (objName s)).Nodup) {t vt : TypeId}
    (ht : t ∈ names) (hvt : vt ∈ names) : (objName s t == objName s vt) = (t == vt) := by
  by_cases htv : t = vt
  · subst htv; simp
  · have : objName s t ≠ objName s vt := by
      intro heq
      have h1 := find_by_name s names hnames t ht
      have h2 := find_by_name s names hnames vt hvt
      rw [heq, h2] at h1
      exact htv (Option.some.inj h1).symm
    have h3 : (objName s t == objName s vt) = false := by simpa using this
    have h4 : (t == vt) = false := by simpa using htv
    rw [h3, h4]

/-- with pairwise distinct type names, selecting by name is selecting by type -/
theorem canonVarS_eq (s : Schema) (q : Query) (skip : Bool) (vt : TypeId) (kvs : List (String × Json))
    (names : List TypeId) (hnames : (names.map (objName s)).Nodup) (hvt : vt ∈ names) (sub : List Sel)
    (hin : ∀ t ∈ sub.filterMap (selOn q), t ∈ names) :
    canonVarS s q skip (objName s vt) sub kvs = canonVarT s q skip vt sub kvs := by
  rw [canonVarS_flat, canonVarT]
  refine flatMap_congr_mem (fun x hx => append_congr (inlEntries_congr ?_) (fragEntries_congr ?_))
  · rintro t isub rfl
    exact ⟨objName_eq_iff s names hnames (hin t (List.mem_filterMap.mpr ⟨_, hx, rfl⟩)) hvt, fun _ => rfl⟩
  · rintro g f rfl hf
    simp only [objName_eq_iff s names hnames (hin f.on (List.mem_filterMap.mpr ⟨_, hx, by simp [selOn, hf]⟩)) hvt]

theorem expectOut_canonS (c : Ctx) (pfx : String) (abs : Bool) (fc : RField → Json → Json) (kvs : List (String × Json))
    (sels : List Sel) (ht : sSels c.s c.q c.o abs sels = true)
    (hfc : ∀ a fid sub, Sel.field a fid sub ∈ sels → ∀ f, fieldOfSelV c pfx (.field a fid sub) = some f →
      ∀ v, fc f v = canonFieldS c.s c.q c.o.skipNone (.field a fid sub) v) :
    expectOut fc (fieldsOfV c pfx sels) kvs = canonEntriesS c.s c.q c.o.skipNone sels kvs := by
  rw [canonEntriesS_flat]
  refine expectOut_fieldEntries c pfx _ fc kvs sels (fun a fid sub hm => ?_) hfc
  obtain ⟨sf, ft, hsf, _, hf, _⟩ := fieldOfSelV_s c pfx abs a fid sub (sSels_mem ht _ hm)
  exact ⟨sf, ft, hsf, hf⟩

/-- the Rust field names of the variant struct of `vt` -/
def varRust (c : Ctx) (vt : TypeId) : List Sel → List String
  | [] => []
  | .inline t isub :: xs => (if t == vt then rustNames c isub else []) ++ varRust c vt xs
  | .spread g :: xs =>
    (match c.q.fragments[g]? with
     | some f => if f.on == vt then [c.cs.snake f.name] else []
     | none => []) ++ varRust c vt xs
  | _ :: xs => varRust c vt xs

def vtsOfField (c : Ctx) (fid : Nat) : List TypeId :=
  match c.s.fields[fid]? with
  | some sf => vtsOfTy c.s sf.ty.id
  | none => []

mutual
  /-- within every struct the Rust field names are pairwise distinct: own fields (at an abstract position also `on`),
      the fields of every variant struct, the fields of every spread fragment -/
  def rustOkSelS (c : Ctx) : Sel → Bool
    | .field _ fid sub =>
      EnumSpec.nodup (rustNames c sub ++ (if isAbsField c fid then ["on"] else [])) && rustOkSelsS c sub &&
      (vtsOfField c fid).all (fun vt => EnumSpec.nodup (varRust c vt sub))
    | .inline _ isub => rustOkSelsS c isub
    | .spread g => rustOkFrag c g
    | .typename => true
  def rustOkSelsS (c : Ctx) : List Sel → Bool
    | [] => true
    | x :: xs => rustOkSelS c x && rustOkSelsS c xs
end

theorem rustOkSelsS_mem {c : Ctx} : ∀ {sels : List Sel}, rustOkSelsS c sels = true →
    ∀ x ∈ sels, rustOkSelS c x = true :=
  fun {sels} h => List.all_eq_true.mp (all_of_eqns (ps := rustOkSelsS c) (by rw [rustOkSelsS]) (fun _ _ => by rw [rustOkSelsS]) sels ▸ h)

theorem rust_fieldsOfS (c : Ctx) (pfx : String) (abs : Bool) : ∀ (sels : List Sel), sSels c.s c.q c.o abs sels = true →
    (fieldsOfV c pfx sels).map (·.rust) = rustNames c sels
  | [], _ => rfl
  | x :: xs, ht => by
    obtain ⟨hx, hxs⟩ := sSels_cons ht
    have ih := rust_fieldsOfS c pfx abs xs hxs
    cases x with
    | field a fid sub =>
      obtain ⟨sf, ft, hsf, _, hf, _⟩ := fieldOfSelV_s c pfx abs a fid sub hx
      rw [fieldsOfV_cons_field c pfx _ xs _ hf, List.map_cons, ih]
      simp [rustNames, rustName, hsf, fieldOf]
    | spread g =>
      rw [fieldsOfV_cons_none c pfx _ xs rfl, ih]; simp [rustNames, List.filterMap_cons, rustName]
    | inline t sub =>
      rw [fieldsOfV_cons_none c pfx _ xs rfl, ih]; simp [rustNames, List.filterMap_cons, rustName]
    | typename =>
      rw [fieldsOfV_cons_none c pfx _ xs rfl, ih]; simp [rustNames, List.filterMap_cons, rustName]

theorem rust_varFields (c : Ctx) (pfx : String) (vt : TypeId) : ∀ (sub : List Sel), sSels c.s c.q c.o true sub = true →
    (varFields c pfx vt sub).map (·.rust) = varRust c vt sub
  | [], _ => rfl
  | x :: xs, ht => by
    obtain ⟨hx, hxs⟩ := sSels_cons ht
    have ih := rust_varFields c pfx vt xs hxs
    cases x with
    | inline t isub =>
      simp only [sSel, Bool.and_eq_true] at hx
      rw [varFields, varRust, List.map_append, ih]
      split
      · rw [rust_fieldsOfS c _ false isub hx.1.2]
      · rfl
    | spread g =>
      rw [varFields, varRust, List.map_append, ih]
      cases hf : c.q.fragments[g]? with
      | none => rfl
      | some f => simp only []; split <;> simp [memberField]
    | field a fid sub => exact ih
    | typename => exact ih

theorem mem_fieldsOfV_fieldsS {c : Ctx} {pfx : String} {abs : Bool} {sels : List Sel} {f : RField}
    (hf : f ∈ fieldsOfV c pfx sels) (ht : FieldsS c abs sels) :
    ∃ a fid sub sf ft, Sel.field a fid sub ∈ sels ∧ c.s.fields[fid]? = some sf ∧
      fieldOfSelV c pfx (.field a fid sub) = some f ∧
      f = fieldOf c (a.getD sf.name) ft sf.ty.quals sf.deprecation ∧ wfQuals sf.ty.quals = true := by
  obtain ⟨x, hx, hfx⟩ := List.mem_filterMap.mp hf
  cases x with
  | field a fid sub =>
    obtain ⟨sf, ft, hsf, _, hf', hw⟩ := fieldOfSelV_s c pfx abs a fid sub (ht a fid sub hx)
    rw [hf'] at hfx
    exact ⟨a, fid, sub, sf, ft, hx, hsf, by rw [hf', hfx], (Option.some.inj hfx).symm, hw⟩
  | spread g => cases hfx
  | inline t sub => cases hfx
  | typename => cases hfx

theorem mem_fieldsOfS {c : Ctx} {pfx : String} {abs : Bool} {sels : List Sel} {f : RField}
    (hf : f ∈ fieldsOfV c pfx sels) (ht : sSels c.s c.q c.o abs sels = true) :
    ∃ a fid sub sf ft, Sel.field a fid sub ∈ sels ∧ c.s.fields[fid]? = some sf ∧
      fieldOfSelV c pfx (.field a fid sub) = some f ∧
      f = fieldOf c (a.getD sf.name) ft sf.ty.quals sf.deprecation ∧ wfQuals sf.ty.quals = true :=
  mem_fieldsOfV_fieldsS hf (fieldsS_of_sSels ht)

/-! ## no spread of a fragment on the abstract type itself (part (a) of the class) -/

/-- no spread of a fragment on `ty` itself in the selection set -/
def noBAt (q : Query) (ty : TypeId) (sub : List Sel) : Bool := !(sub.any (isBSpread q ty))

/-- a lone spread of a fragment on the abstract type itself is one -/
theorem noBAt_lone_false {s : Schema} {q : Query} {o : Options} {ty : TypeId} {g : Nat}
    (h : fragOkB s q o ty g = true) : noBAt q ty [Sel.spread g] = false := by
  obtain ⟨f, hf, hon, _⟩ := fragOkB_parts h
  simp [noBAt, isBSpread, hf, hon]

mutual
  /-- at no abstract position below is a fragment on the abstract type itself spread -/
  def noBSel (s : Schema) (q : Query) : Sel → Bool
    | .field _ fid sub =>
      (match s.fields[fid]? with
       | some sf => !sf.ty.id.isAbstract || noBAt q sf.ty.id sub
       | none => true) && noBSels s q sub
    | .inline _ isub => noBSels s q isub
    | _ => true
  def noBSels (s : Schema) (q : Query) : List Sel → Bool
    | [] => true
    | x :: xs => noBSel s q x && noBSels s q xs
end

theorem noBSels_mem {s : Schema} {q : Query} : ∀ {sels : List Sel}, noBSels s q sels = true →
    ∀ x ∈ sels, noBSel s q x = true :=
  fun {sels} h => List.all_eq_true.mp (all_of_eqns (ps := noBSels s q) (by rw [noBSels]) (fun _ _ => by rw [noBSels]) sels ▸ h)

theorem hasStruct_noB {q : Query} {ty : TypeId} {sub : List Sel} (h : noBAt q ty sub = true) :
    hasStruct q ty sub = sub.any isFieldSel := by
  simp only [noBAt, Bool.not_eq_true'] at h
  simp [hasStruct, h]

/-- without such spreads every spread is on a possible type -/
theorem spread_onA {s : Schema} {q : Query} {o : Options} {ty : TypeId} {sub : List Sel}
    (hok : absOkS s q o ty sub = true) (hnb : noBAt q ty sub = true) :
    ∀ g, Sel.spread g ∈ sub → ∃ vt f, vt ∈ vtsOfTy s ty ∧ fragOk s q o vt g = true ∧ q.fragments[g]? = some f ∧
      f.on = vt ∧ ∀ k ∈ fieldKeys s f.sels, k ∉ respKeys s sub := by
  intro g hg
  obtain ⟨_, hsp, _⟩ := absOkS_parts hok
  rcases hsp g hg with h | ⟨f, _, hf, hon, _⟩
  · exact h
  · exfalso
    simp only [noBAt, Bool.not_eq_true', List.any_eq_false] at hnb
    have := hnb _ hg
    simp [isBSpread, hf, hon] at this

def RTSelS (e : Env) (c : Ctx) (pfx : String) (x : Sel) : Prop :=
  ∀ abs, sSel c.s c.q c.o abs x = true → envSelS e c pfx x → rustOkSelS c x = true → noBSel c.s c.q x = true →
    ∀ f, fieldOfSelV c pfx x = some f →
    ∀ b fd fs, 2 * depthF c.q x + 1 ≤ fd → 2 * depthF c.q x ≤ fs → ∀ v y,
      strictFieldV c.s (expandSel c.q x) v = true → deFieldWith (dePath e b fd) f v = .ok y →
      serTyWith (serPath e fs) f.ty y = .ok (canonFieldS c.s c.q c.o.skipNone x v)

/-- under every selected field's key, a value conforming to the field (spreads below expanded) -/
def StrictAtS (s : Schema) (q : Query) (sels : List Sel) (kvs : List (String × Json)) : Prop :=
  ∀ a fid sub, Sel.field a fid sub ∈ sels → ∀ sf, s.fields[fid]? = some sf →
    ∀ v, Json.lookup (a.getD sf.name) kvs = some v → strictFieldV s (expandSel q (.field a fid sub)) v = true

theorem strictAtS_of_conf {s : Schema} {q : Query} {rt : Nat} {sels : List Sel} {kvs : List (String × Json)}
    (h : confSelsV s rt (expandSels q sels) kvs = true) : StrictAtS s q sels kvs := by
  intro a fid sub hm sf hsf v hl
  have := confSelsV_mem h _ (expandSels_mem q hm)
  rw [expandSel, confSelV_field] at this
  rw [expandSel]
  simpa [hsf, hl] using this

/-- what the round trip of a struct needs of the object it reads: pairwise distinct keys, and under every selected
    field's key a value conforming to the field (spreads below expanded; `StrictAtS`, written out) -/
def FieldsOkS (s : Schema) (q : Query) (sels : List Sel) (kvs : List (String × Json)) : Prop :=
  (kvs.map (·.1)).Nodup ∧
  ∀ a fid sub, Sel.field a fid sub ∈ sels → ∀ sf, s.fields[fid]? = some sf →
    ∀ v, Json.lookup (a.getD sf.name) kvs = some v → strictFieldV s (expandSel q (.field a fid sub)) v = true

theorem fieldsOkS_of_conf {s : Schema} {q : Query} {rt : Nat} {sels : List Sel} {kvs : List (String × Json)}
    (hnd : (kvs.map (·.1)).Nodup) (h : confSelsV s rt (expandSels q sels) kvs = true) : FieldsOkS s q sels kvs :=
  ⟨hnd, strictAtS_of_conf h⟩


/-! ## the payload of one variant -/

/-- the selections of the inline fragment(s) on `vt` -/
def ownSels (vt : TypeId) : List Sel → List Sel
  | [] => []
  | .inline t isub :: xs => (if t == vt then isub else []) ++ ownSels vt xs
  | _ :: xs => ownSels vt xs

theorem mem_ownSels {vt : TypeId} {x : Sel} : ∀ {sub : List Sel}, x ∈ ownSels vt sub →
    ∃ isub, Sel.inline vt isub ∈ sub ∧ x ∈ isub
  | [], h => by simp [ownSels] at h
  | y :: ys, h => by
    cases y with
    | inline t isub =>
      rw [ownSels, List.mem_append] at h
      rcases h with h | h
      · by_cases htv : t = vt
        · subst htv; simp only [beq_self_eq_true, ↓reduceIte] at h; exact ⟨isub, by simp, h⟩
        · have hne : (t == vt) = false := by simpa using htv
          simp [hne] at h
      · obtain ⟨isub', h1, h2⟩ := mem_ownSels h
        exact ⟨isub', List.mem_cons_of_mem _ h1, h2⟩
    | spread g =>
      have : ownSels vt (Sel.spread g :: ys) = ownSels vt ys := by simp [ownSels]
      rw [this] at h
      obtain ⟨isub', h1, h2⟩ := mem_ownSels h
      exact ⟨isub', List.mem_cons_of_mem _ h1, h2⟩
    | field a fid sub =>
      have : ownSels vt (Sel.field a fid sub :: ys) = ownSels vt ys := by simp [ownSels]
      rw [this] at h
      obtain ⟨isub', h1, h2⟩ := mem_ownSels h
      exact ⟨isub', List.mem_cons_of_mem _ h1, h2⟩
    | typename =>
      have : ownSels vt (Sel.typename :: ys) = ownSels vt ys := by simp [ownSels]
      rw [this] at h
      obtain ⟨isub', h1, h2⟩ := mem_ownSels h
      exact ⟨isub', List.mem_cons_of_mem _ h1, h2⟩

/-- with at most one inline fragment per type -/
theorem ownSels_spec (vt : TypeId) : ∀ (sub : List Sel), (sub.filterMap inlineTy).Nodup →
    (vt ∉ sub.filterMap inlineTy → ownSels vt sub = []) ∧
    (∀ isub, Sel.inline vt isub ∈ sub → ownSels vt sub = isub)
  | [], _ => by simp [ownSels]
  | x :: xs, hnd => by
    cases x with
    | inline t isub' =>
      simp only [List.filterMap_cons, inlineTy, List.nodup_cons] at hnd
      obtain ⟨ih1, ih2⟩ := ownSels_spec vt xs hnd.2
      rw [ownSels]
      by_cases htv : t = vt
      · subst htv
        refine ⟨fun hn => absurd (by simp [inlineTy]) hn, ?_⟩
        intro isub hm
        simp only [List.mem_cons, Sel.inline.injEq, true_and] at hm
        rcases hm with rfl | hm
        · simp [ih1 hnd.1]
        · exact absurd (List.mem_filterMap.mpr ⟨Sel.inline t isub, hm, rfl⟩ : t ∈ xs.filterMap inlineTy) hnd.1
      · have hne : (t == vt) = false := by simpa using htv
        simp only [hne, Bool.false_eq_true, ↓reduceIte, List.nil_append]
        refine ⟨fun hn => ih1 (fun hm => hn (by simp [inlineTy, hm])), ?_⟩
        intro isub hm
        simp only [List.mem_cons, Sel.inline.injEq] at hm
        rcases hm with ⟨h1, _⟩ | hm
        · exact absurd h1.symm htv
        · exact ih2 isub hm
    | field a fid sub' =>
      have e1 : (Sel.field a fid sub' :: xs).filterMap inlineTy = xs.filterMap inlineTy := by simp [List.filterMap_cons, inlineTy]
      have e2 : ownSels vt (Sel.field a fid sub' :: xs) = ownSels vt xs := by simp [ownSels]
      rw [e1] at hnd ⊢
      rw [e2]
      obtain ⟨ih1, ih2⟩ := ownSels_spec vt xs hnd
      exact ⟨ih1, fun isub hm => ih2 isub (by simpa using hm)⟩
    | spread g =>
      have e1 : (Sel.spread g :: xs).filterMap inlineTy = xs.filterMap inlineTy := by simp [List.filterMap_cons, inlineTy]
      have e2 : ownSels vt (Sel.spread g :: xs) = ownSels vt xs := by simp [ownSels]
      rw [e1] at hnd ⊢
      rw [e2]
      obtain ⟨ih1, ih2⟩ := ownSels_spec vt xs hnd
      exact ⟨ih1, fun isub hm => ih2 isub (by simpa using hm)⟩
    | typename =>
      have e1 : (Sel.typename :: xs).filterMap inlineTy = xs.filterMap inlineTy := by simp [List.filterMap_cons, inlineTy]
      have e2 : ownSels vt (Sel.typename :: xs) = ownSels vt xs := by simp [ownSels]
      rw [e1] at hnd ⊢
      rw [e2]
      obtain ⟨ih1, ih2⟩ := ownSels_spec vt xs hnd
      exact ⟨ih1, fun isub hm => ih2 isub (by simpa using hm)⟩

theorem fieldsOfV_append (c : Ctx) (pfx : String) (xs ys : List Sel) :
    fieldsOfV c pfx (xs ++ ys) = fieldsOfV c pfx xs ++ fieldsOfV c pfx ys := by
  simp [fieldsOfV]

theorem varOwn_ownSels (c : Ctx) (pfx : String) (vt : TypeId) : ∀ (sub : List Sel),
    varOwn c pfx vt sub = fieldsOfV c (pfx ++ "On" ++ c.cs.camel (objName c.s vt)) (ownSels vt sub)
  | [] => rfl
  | x :: xs => by
    have ih := varOwn_ownSels c pfx vt xs
    cases x with
    | inline t isub =>
      rw [varOwn, ownSels, fieldsOfV_append, ih]
      by_cases htv : t = vt
      · subst htv; simp
      · have hne : (t == vt) = false := by simpa using htv
        simp [hne, fieldsOfV]
    | spread g => exact ih
    | field a fid sub => exact ih
    | typename => exact ih

theorem mem_varFields_flatten {c : Ctx} {pfx : String} {vt : TypeId} {sub : List Sel} {g : RField}
    (hg : g ∈ varFields c pfx vt sub) (hfl : g.flatten = true) :
    ∃ gid fr, Sel.spread gid ∈ sub ∧ c.q.fragments[gid]? = some fr ∧ fr.on = vt ∧ g = memberField c fr := by
  rcases mem_varFields.mp hg with ⟨isub, _, h⟩ | ⟨gid, fr, hm, hf, hon, h⟩
  · rw [not_flatten_of_plain (plain_fieldsOfV c _ isub) h] at hfl; cases hfl
  · exact ⟨gid, fr, hm, hf, hon, List.mem_singleton.mp h⟩

theorem mem_varFields_of_spread {c : Ctx} {pfx : String} {vt : TypeId} {gid : Nat} {fr : RFragment}
    (hfr : c.q.fragments[gid]? = some fr) (hon : fr.on = vt) {sub : List Sel} (h : Sel.spread gid ∈ sub) :
    memberField c fr ∈ varFields c pfx vt sub :=
  mem_varFields.mpr (.inr ⟨gid, fr, h, hfr, hon, List.mem_singleton.mpr rfl⟩)


/-! ### several inline fragments on one type: the concatenation of their bodies -/

theorem mem_ownSels_of {vt : TypeId} {x : Sel} {isub : List Sel} : ∀ {sub : List Sel}, Sel.inline vt isub ∈ sub →
    x ∈ isub → x ∈ ownSels vt sub
  | [], h, _ => by simp at h
  | y :: ys, h, hx => by
    rcases List.mem_cons.mp h with heq | h'
    · subst heq
      rw [ownSels]
      simp [hx]
    · have ih := mem_ownSels_of h' hx
      cases y with
      | inline t isub' => rw [ownSels]; exact List.mem_append_right _ ih
      | spread g => exact ih
      | field a fid sub => exact ih
      | typename => exact ih

theorem ownSels_ind {P : List Sel → Prop} (vt : TypeId) (hnil : P [])
    (happ : ∀ xs ys, P xs → P ys → P (xs ++ ys)) : ∀ (sub : List Sel),
    (∀ isub, Sel.inline vt isub ∈ sub → P isub) → P (ownSels vt sub)
  | [], _ => hnil
  | y :: ys, h => by
    have ih := ownSels_ind vt hnil happ ys (fun isub hm => h isub (List.mem_cons_of_mem _ hm))
    cases y with
    | inline t isub =>
      rw [ownSels]
      by_cases htv : t = vt
      · subst htv
        simp only [beq_self_eq_true, ↓reduceIte]
        exact happ _ _ (h isub (by simp)) ih
      · have hne : (t == vt) = false := by simpa using htv
        simpa [hne] using ih
    | spread g => exact ih
    | field a fid sub => exact ih
    | typename => exact ih

theorem fieldKeys_append (s : Schema) (xs ys : List Sel) : fieldKeys s (xs ++ ys) = fieldKeys s xs ++ fieldKeys s ys := by
  simp [fieldKeys]

theorem fieldKeys_ownSels_sublist (s : Schema) (q : Query) (vt : TypeId) : ∀ (sub : List Sel),
    (fieldKeys s (ownSels vt sub)).Sublist (varKeys s q vt sub)
  | [] => by simp [ownSels, varKeys, fieldKeys]
  | y :: ys => by
    have ih := fieldKeys_ownSels_sublist s q vt ys
    cases y with
    | inline t isub =>
      rw [ownSels, varKeys, fieldKeys_append]
      refine List.Sublist.append ?_ ih
      split <;> simp [fieldKeys]
    | spread g =>
      have e1 : ownSels vt (Sel.spread g :: ys) = ownSels vt ys := by simp [ownSels]
      rw [e1, varKeys]
      exact ih.trans (List.sublist_append_right _ _)
    | field a fid sub => exact ih
    | typename => exact ih

theorem envSelsS_append {e : Env} {c : Ctx} {pfx : String} : ∀ {xs ys : List Sel},
    envSelsS e c pfx xs → envSelsS e c pfx ys → envSelsS e c pfx (xs ++ ys)
  | [], _, _, h => h
  | x :: xs, ys, h1, h2 => by
    rw [envSelsS] at h1
    rw [List.cons_append, envSelsS]
    exact ⟨h1.1, envSelsS_append h1.2 h2⟩

theorem depthsF_append (q : Query) : ∀ (xs ys : List Sel), depthsF q (xs ++ ys) = max (depthsF q xs) (depthsF q ys)
  | [], ys => by simp [depthsF]
  | x :: xs, ys => by
    rw [List.cons_append, depthsF, depthsF, depthsF_append q xs ys]; omega

/-- round trip of one flattened member (the struct of a spread fragment), read from the whole object (`rtMemberF` with
    the strictness hypothesis on the selected fields only: the payload of a variant does not see `__typename`) -/
theorem rtMemberS (e : Env) (c : Ctx) (i : Nat) (gid : Nat) (fr : RFragment) (hfr : c.q.fragments[gid]? = some fr)
    (hok : fragOk c.s c.q c.o (.object i) gid = true) (henv : FragEnv e c gid) (hro : rustOkFrag c gid = true)
    (fuel fs : Nat) (hfuel : 2 * selsDepth fr.sels + 1 ≤ fuel) (hfs : 2 * selsDepth fr.sels ≤ fs)
    (kvs : List (String × Json)) (hnd : (kvs.map (·.1)).Nodup) (hst : StrictAt c.s fr.sels kvs)
    (own : List (String × Val))
    (hown : deOwnWith (dePath e true fuel) (fieldsOfV c (c.cs.camel fr.name) fr.sels) kvs = .ok own) :
    serPath e (fs + 1) fr.name (.record own) = .ok (.obj (canonEntriesV c.s c.o.skipNone fr.sels kvs)) := by
  obtain ⟨fr', hfr', _, _, hv, hkeys⟩ := fragOk_parts hok
  rw [hfr] at hfr'; cases hfr'
  unfold FragEnv at henv
  rw [hfr] at henv
  have hsels : fragSels c.q gid = fr.sels := by simp [fragSels, hfr]
  simp only [rustOkFrag, hsels, Bool.and_eq_true] at hro
  obtain ⟨hp, _, n, d, cr, hfind⟩ := henv.1
  have hd : dePath e true (fuel + 1) fr.name (.obj kvs) = .ok (.record own) := by
    rw [dePath_struct e true fuel fr.name n d cr _ hp hfind, deStruct_obj,
      deStructMap_plain _ _ _ _ (plain_fieldsOfV c _ fr.sels), hown]; rfl
  exact rtStructV e c _ _ fr.sels (fun x hx => (rtSelsV e c fr.sels _ x hx).1) false hv henv.2 hro.2 hro.1 hkeys henv.1
    true (fuel + 1) (fs + 1) (by omega) (by omega) kvs ⟨hnd, hst⟩ _ hd

/-- no field key selected on a variant is an interface-level response key -/
theorem varKeys_excl {s : Schema} {q : Query} {o : Options} {ty vt : TypeId} {sub : List Sel}
    (hok : absOkS s q o ty sub = true) (hvne : vt ≠ ty) : ∀ k ∈ varKeys s q vt sub, k ∉ respKeys s sub := by
  obtain ⟨hok1, _, _⟩ := absOkS_parts hok
  obtain ⟨_, _, _, _, _, _, _, hexcl⟩ := absOk2_parts hok1
  intro k hk
  rcases mem_varKeys.mp hk with ⟨isub, h1, h2⟩ | ⟨g, f, h1, h2, h3, h4⟩
  · exact hexcl _ isub h1 k h2
  · obtain ⟨_, _, _, _, _, hkeys⟩ := absOkS_onA hok h1 h2 (by rw [h3]; exact hvne)
    exact hkeys k h4

theorem selOn_mem_vts {s : Schema} {q : Query} {o : Options} {ty : TypeId} {sub : List Sel}
    (hok : absOkS s q o ty sub = true) (hnb : noBAt q ty sub = true) :
    ∀ t ∈ sub.filterMap (selOn q), t ∈ vtsOfTy s ty := by
  obtain ⟨hok1, _, _⟩ := absOkS_parts hok
  have hsp := spread_onA hok hnb
  obtain ⟨_, _, _, _, _, hin, _, _⟩ := absOk2_parts hok1
  intro t ht
  obtain ⟨x, hx, hxt⟩ := List.mem_filterMap.mp ht
  cases x with
  | inline t' isub =>
    simp only [selOn, Option.some.injEq] at hxt
    subst hxt
    exact hin _ (List.mem_filterMap.mpr ⟨_, hx, rfl⟩)
  | spread g =>
    obtain ⟨vt, f, hvt, _, hf, hon, _⟩ := hsp g hx
    simp only [selOn, hf, Option.map_some, Option.some.injEq] at hxt
    rw [← hxt, hon]; exact hvt
  | field a fid sub' => cases hxt
  | typename => cases hxt

/-- what a response object conforming at an abstract position (spreads expanded) looks like -/
theorem abs_conf_factsD {s : Schema} {q : Query} {o : Options} {ty : TypeId} {sub : List Sel} {j : Json}
    (hty : absHyp s ty) (hok : absOk2 s o ty sub = true) (h : conformsAt s ty (expandSels q sub) j = true) :
    ∃ rt kvs, j = .obj kvs ∧ (kvs.map (·.1)).Nodup ∧ confSelsV s rt (expandSels q sub) kvs = true ∧
      Json.lookup "__typename" kvs = some (.str (rtName s rt)) ∧ TypeId.object rt ∈ vtsOfTy s ty ∧
      fragApplies s rt ty = true := by
  obtain ⟨htn, _, _, _, _, _, _, _⟩ := absOk2_parts hok
  simp only [conformsAt, List.any_eq_true, List.mem_range, Bool.and_eq_true] at h
  obtain ⟨rt, hrt, happ, hc⟩ := h
  obtain ⟨kvs, rfl, hnd, hconf⟩ := conformsV_obj hc
  refine ⟨rt, kvs, rfl, hnd, hconf, ?_, mem_vtsOfTy happ hty, happ⟩
  have := confSelsV_mem hconf _ (expandSels_typename q htn)
  simp only [confSelV] at this
  split at this
  · rename_i n hl; rw [hl]; simp only [beq_iff_eq] at this; rw [this]
  · cases this

theorem vtsOfField_of {c : Ctx} {fid : Nat} {sf : StoredField} (hsf : c.s.fields[fid]? = some sf) :
    vtsOfField c fid = vtsOfTy c.s sf.ty.id := by
  simp [vtsOfField, hsf]


/-! ## `serde_json::to_value` normalisation leaves the canonical form alone -/

theorem canonEntriesS_keys (s : Schema) (q : Query) (skip : Bool) (kvs : List (String × Json)) (sels : List Sel) :
    ((canonEntriesS s q skip sels kvs).map (·.1)).Sublist (fieldKeys s sels) := by
  rw [canonEntriesS_flat]; exact fieldEntries_keys sels

theorem canonVarT_keys (s : Schema) (q : Query) (skip : Bool) (vt : TypeId) (kvs : List (String × Json)) (sub : List Sel) :
    ((canonVarT s q skip vt sub kvs).map (·.1)).Sublist (varKeys s q vt sub) := by
  rw [varKeys_flat, canonVarT]
  refine flatMap_map_sublist _ (fun x _ => ?_)
  rw [entriesOn, entriesOn, List.map_append]
  refine List.Sublist.append ?_ ?_
  · cases x with
    | inline t isub =>
      simp only [inlEntries]
      split
      · exact canonEntriesS_keys s q skip kvs isub
      · exact List.Sublist.slnil
    | _ => exact List.Sublist.slnil
  · cases x with
    | spread g =>
      simp only [fragEntries, spreadEntries]
      cases q.fragments[g]? with
      | none => exact List.Sublist.slnil
      | some f =>
        simp only []
        split
        · exact canonEntriesV_keys s skip kvs f.sels
        · exact List.Sublist.slnil
    | _ => exact List.Sublist.slnil

section NormS
variable (s : Schema) (q : Query) (o : Options) (skip : Bool)

theorem canonVarT_norm (rt : Nat) (kvs : List (String × Json)) (sub : List Sel)
    (hi : ∀ t isub, Sel.inline t isub ∈ sub → t = .object rt →
      ∀ kv ∈ canonEntriesS s q skip isub kvs, normJson kv.2 = kv.2)
    (hs' : ∀ g f, Sel.spread g ∈ sub → q.fragments[g]? = some f → f.on = .object rt →
      ∀ kv ∈ canonEntriesV s skip f.sels kvs, normJson kv.2 = kv.2) :
    ∀ kv ∈ canonVarT s q skip (.object rt) sub kvs, normJson kv.2 = kv.2 := by
  intro kv hkv
  rcases mem_entriesOn.mp hkv with ⟨isub, hm, h⟩ | ⟨g, f, hm, hf, hon, h⟩
  · exact hi _ isub hm rfl kv h
  · exact hs' g f hm hf hon kv h

/-- the canonical form at an abstract position is a normal form, given that of its parts -/
theorem norm_absS (ty : TypeId) (sub : List Sel)
    (IHe : ∀ kvs, StrictAtS s q sub kvs → ∀ kv ∈ canonEntriesS s q skip sub kvs, normJson kv.2 = kv.2)
    (IHi : ∀ t isub, Sel.inline t isub ∈ sub → ∀ kvs, StrictAtS s q isub kvs →
      ∀ kv ∈ canonEntriesS s q skip isub kvs, normJson kv.2 = kv.2)
    (hty : absHyp s ty) (hok : absOkS s q o ty sub = true)
    (hnb : noBAt q ty sub = true) (j : Json)
    (hc : conformsAt s ty (expandSels q sub) j = true) : normJson (canonAbsS s q skip sub j) = canonAbsS s q skip sub j := by
  obtain ⟨hok1, _, hvk⟩ := absOkS_parts hok
  have hsp := spread_onA hok hnb
  obtain ⟨rt, kvs, rfl, hnd, hconf, htag, hmem, _⟩ := abs_conf_factsD hty hok1 hc
  obtain ⟨htn, hrk, _, _, hvn, hin, hind, hexcl⟩ := absOk2_parts hok1
  have htagName : tagName kvs = rtName s rt := by simp [tagName, htag]
  have hnames : ((vtsOfTy s ty).map (objName s)).Nodup := by
    unfold variantNames at hvn
    exact (List.nodup_append.mp hvn).1
  have hfk : (fieldKeys s sub).Nodup := (fieldKeys_sublist s sub).nodup (nodup_iff'.mp hrk)
  have hnf := typename_not_fieldKey s sub htn hrk
  have htyn : "__typename" ∈ respKeys s sub := List.mem_filterMap.mpr ⟨_, typename_mem htn, rfl⟩
  simp only [canonAbsS, htagName]
  rw [show rtName s rt = objName s (.object rt) from rfl,
    canonVarS_eq s q skip (.object rt) kvs _ hnames hmem sub (selOn_mem_vts hok hnb)]
  apply normJson_obj_fixed
  · have hsub : ((canonEntriesS s q skip sub kvs ++
        (("__typename", Json.str (objName s (.object rt))) :: canonVarT s q skip (.object rt) sub kvs)).map (·.1)).Sublist
        (fieldKeys s sub ++ ("__typename" :: varKeys s q (.object rt) sub)) := by
      simp only [List.map_append, List.map_cons]
      exact (canonEntriesS_keys s q skip kvs sub).append ((canonVarT_keys s q skip _ kvs sub).cons_cons _)
    refine hsub.nodup ?_
    rw [List.nodup_append]
    refine ⟨hfk, ?_, ?_⟩
    · rw [List.nodup_cons]
      exact ⟨fun hm => varKeys_excl hok (obj_ne_abs hty rt) _ hm htyn, hvk _ hmem⟩
    · intro a ha b hb hab
      subst hab
      simp only [List.mem_cons] at hb
      rcases hb with rfl | hb
      · exact hnf ha
      · exact varKeys_excl hok (obj_ne_abs hty rt) _ hb (fieldKeys_sub_respKeys s sub _ ha)
  · intro kv hkv
    simp only [List.mem_append, List.mem_cons] at hkv
    rcases hkv with hkv | rfl | hkv
    · exact IHe kvs (strictAtS_of_conf hconf) kv hkv
    · exact normJson_str _
    · refine canonVarT_norm s q skip rt kvs sub ?_ ?_ kv hkv
      · intro t isub hm htv
        have hconf_i : confSelsV s rt (expandSels q isub) kvs = true := by
          have := confSelsV_mem hconf _ (expandSels_mem q hm)
          simpa [expandSel, confSelV, htv, fragApplies] using this
        exact IHi t isub hm kvs (strictAtS_of_conf hconf_i)
      · intro g f hm hf hon
        obtain ⟨_, f', _, hfok, hf', _, _⟩ := hsp g hm
        rw [hf] at hf'; cases hf'
        obtain ⟨f', hf', _, _, hv, _⟩ := fragOk_parts hfok
        rw [hf] at hf'; cases hf'
        have hconf_g : confSelsV s rt f.sels kvs = true := by
          have := confSelsV_mem hconf _ (expandSels_mem q hm)
          simpa [expandSel, hf, confSelV, hon, fragApplies] using this
        exact normEntriesV s o skip f.sels false kvs hv (strictAt_of_conf hconf_g)

theorem normEntriesS_of (sels : List Sel)
    (H : ∀ x ∈ sels, ∀ (abs : Bool) (v : Json), sSel s q o abs x = true → noBSel s q x = true →
      strictFieldV s (expandSel q x) v = true → normJson (canonFieldS s q skip x v) = canonFieldS s q skip x v)
    (abs : Bool) (kvs : List (String × Json))
    (ht : sSels s q o abs sels = true) (hnbs : noBSels s q sels = true) (hc : StrictAtS s q sels kvs) :
    ∀ kv ∈ canonEntriesS s q skip sels kvs, normJson kv.2 = kv.2 := by
  rw [canonEntriesS_flat]
  refine forall_fieldEntries (P := fun w => normJson w = w) (by simp [normJson]) (fun a fid sub hm sf hsf v hl => ?_)
  exact H _ hm abs v (sSels_mem ht _ hm) (noBSels_mem hnbs _ hm) (hc a fid sub hm sf hsf v hl)

theorem normFieldS : ∀ (x : Sel) (abs : Bool) (v : Json), sSel s q o abs x = true → noBSel s q x = true →
    strictFieldV s (expandSel q x) v = true → normJson (canonFieldS s q skip x v) = canonFieldS s q skip x v := by
  intro x
  induction x using Sel.indInl with
  | spread g =>
    intro _ _ _ _ h
    simp only [expandSel] at h
    cases hf : q.fragments[g]? <;> simp [hf, strictFieldV] at h
  | inline _ _ _ => intro _ _ _ _ h; simp [expandSel, strictFieldV] at h
  | typename => intro _ _ _ _ h; simp [expandSel, strictFieldV] at h
  | field a fid sub IHs IHIs =>
    intro abs v ht hnbx hst
    rw [noBSel, Bool.and_eq_true] at hnbx
    have IHe := normEntriesS_of s q o skip sub IHs
    have IHi : sSels s q o true sub = true → noBSels s q sub = true → ∀ t isub, Sel.inline t isub ∈ sub →
        ∀ kvs, StrictAtS s q isub kvs → ∀ kv ∈ canonEntriesS s q skip isub kvs, normJson kv.2 = kv.2 := by
      intro h1 h2 t isub hm
      have hx := sSels_mem h1 _ hm
      have hn := noBSels_mem h2 _ hm
      simp only [sSel, Bool.and_eq_true] at hx
      rw [noBSel] at hn
      exact fun kvs h => normEntriesS_of s q o skip isub (IHIs t isub hm) false kvs hx.1.2 hn h
    obtain ⟨sf, hsf, _, _, hk⟩ := sSel_kinds ht
    simp only [expandSel, strictFieldV] at hst
    rw [canonFieldS]
    rcases hk with ⟨k, sn, hid, hk, _⟩ | ⟨k, en, hid, hk, _⟩ | ⟨i, ob, hid, hk, hsub, hkeys⟩ |
      ⟨k, hid, hty, hsub, hokL⟩ | ⟨k, hid, hty, hsub, hokL⟩
    · simp only [hsf, hid, hk] at hst ⊢
      by_cases hID : sn = "ID"
      · subst hID
        simp only [↓reduceIte]
        exact (norm_canon idOk idCanon norm_idCanon _).2 v (by simpa [scalarOk] using hst)
      · simp only [hID, ↓reduceIte]
        have := (norm_canon (scalarOk sn) id (norm_scalar sn) _).2 v hst
        rwa [(canon_id _).2 v] at this
    · simp only [hsf, hid, hk] at hst ⊢
      have := (norm_canon stringOk id norm_string _).2 v hst
      rwa [(canon_id _).2 v] at this
    · simp only [hsf, hid] at hst ⊢
      rw [canonLambdaS]
      refine (norm_canon (conformsAt s (.object i) (expandSels q sub)) (canonSelS s q skip sub) ?_ _).2 v hst
      intro j hj
      simp only [conformsAt, List.any_eq_true, List.mem_range, Bool.and_eq_true] at hj
      obtain ⟨rt, _, _, hcv⟩ := hj
      cases j with
      | obj kvs =>
        simp only [conformsV, Bool.and_eq_true] at hcv
        rw [canonSelS]
        exact normJson_obj_fixed _
          (((canonEntriesS_keys s q skip kvs sub).trans (fieldKeys_sublist s sub)).nodup (nodup_iff'.mp hkeys))
          (IHe false kvs hsub hnbx.2 (strictAtS_of_conf hcv.2))
      | null => rfl
      | bool _ => rfl
      | int _ => rfl
      | num _ => rfl
      | str _ => rfl
      | arr _ => simp [conformsV] at hcv
    all_goals
      simp only [hsf, hid, TypeId.isAbstract, Bool.not_true, Bool.false_or] at hst hnbx ⊢
      have hok := ((absOkL_cases hokL).resolve_right (fun ⟨g, hg, hokB⟩ => by
        subst hg
        rw [noBAt_lone_false hokB] at hnbx
        cases hnbx.1)).1
      rw [canonLambdaAbsS]
      exact (norm_canon (conformsAt s _ (expandSels q sub)) (canonAbsS s q skip sub)
        (norm_absS s q o skip _ sub (fun kvs h => IHe true kvs hsub hnbx.2 h) (IHi hsub hnbx.2) hty hok hnbx.1) _).2 v hst

theorem normEntriesS : ∀ (sels : List Sel) (abs : Bool) (kvs : List (String × Json)),
    sSels s q o abs sels = true → noBSels s q sels = true → StrictAtS s q sels kvs →
    ∀ kv ∈ canonEntriesS s q skip sels kvs, normJson kv.2 = kv.2 :=
  fun sels => normEntriesS_of s q o skip sels (fun x _ => normFieldS s q o skip x)

theorem normInlsS : ∀ (sels : List Sel), sSels s q o true sels = true → noBSels s q sels = true →
    ∀ t isub, Sel.inline t isub ∈ sels →
    ∀ kvs, StrictAtS s q isub kvs → ∀ kv ∈ canonEntriesS s q skip isub kvs, normJson kv.2 = kv.2 := by
  intro sels ht hnbs t isub hm
  have hx := sSels_mem ht _ hm
  have hn := noBSels_mem hnbs _ hm
  simp only [sSel, Bool.and_eq_true] at hx
  rw [noBSel] at hn
  exact fun kvs h => normEntriesS s q o skip isub false kvs hx.1.2 hn h

end NormS

/-- the canonical form of a conforming response is a `serde_json::to_value` normal form -/
theorem norm_canonSelS (s : Schema) (q : Query) (o : Options) (skip : Bool) (rt : Nat) (sels : List Sel) (j : Json)
    (ht : sSels s q o false sels = true) (hnbs : noBSels s q sels = true)
    (hk : EnumSpec.nodup (respKeys s sels) = true)
    (hj : conformsV s rt (expandSels q sels) j = true) : normJson (canonSelS s q skip sels j) = canonSelS s q skip sels j := by
  cases j with
  | obj kvs =>
    simp only [conformsV, Bool.and_eq_true] at hj
    rw [canonSelS]
    exact normJson_obj_fixed _
      (((canonEntriesS_keys s q skip kvs sels).trans (fieldKeys_sublist s sels)).nodup (nodup_iff'.mp hk))
      (normEntriesS s q o skip sels false kvs ht hnbs (strictAtS_of_conf hj.2))
  | null => rfl
  | bool _ => rfl
  | int _ => rfl
  | num _ => rfl
  | str _ => rfl
  | arr _ => simp [conformsV] at hj

end E2E
end C01
end GqlVerif
