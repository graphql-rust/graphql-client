import GqlVerif.Proofs.C01NestedW
import GqlVerif.Proofs.C01VariantSpreadEval
/-!
# `NestedOp` on a richer schema (docs/REVIEW_5.md, finding 3)

The instances of `C01NestedW` use a small schema with scalar leaves.  These two operations exercise, INSIDE nested
fragments: object-typed fields with fragments of their own, a list, `ID` leaves given as integers and as strings, nulls at
nullable positions, aliases, `skip_serializing_none`, three levels of nesting and one fragment spread at two places.  The
theorems below are kernel-checked evaluations (`decide +kernel`) of the HYPOTHESES of `nested_roundtrip` on these operations
(non-vacuity on a richer schema: in the class, outside the smaller one, names / keys / Rust names / `moduleOk` fine, the
generator succeeds).  That the payloads `j1`, `j1b`, `j2` conform, that the model's round trip equals the theorem's canonical
form on them, and that the compiled derive of the real crate accepts them and writes the same entries, was evaluated by the
reviewer (`#eval`, and a consumer crate built against the repository); the unbounded statement is `C01N.nested_roundtrip`.
-/
namespace GqlVerif.C01N.Rich
open GqlVerif GqlVerif.Serde GqlVerif.Spec GqlVerif.Codegen GqlVerif.C01 GqlVerif.C01.E2E GqlVerif.C01M GqlVerif.C01N

/-- Query{dog,animal,pet}  Dog{name! barks id! owner tags age} Cat{name! lives id!} Person{pname pid}  interface Animal{name}  union Pet = Dog|Cat -/
def S : Schema :=
  { objects := [{ name := "Query", fields := [0, 1, 11], implements := [] },
                { name := "Dog", fields := [2, 3, 5, 6, 7, 10], implements := [0] },
                { name := "Cat", fields := [2, 4, 5], implements := [0] },
                { name := "Person", fields := [8, 9], implements := [] }]
    fields := [{ name := "dog", ty := { id := .object 1, quals := [] }, parent := .object 0, deprecation := none },
               { name := "animal", ty := { id := .interface 0, quals := [] }, parent := .object 0, deprecation := none },
               { name := "name", ty := { id := .scalar 1, quals := [.required] }, parent := .interface 0, deprecation := none },
               { name := "barks", ty := { id := .scalar 4, quals := [] }, parent := .object 1, deprecation := none },
               { name := "lives", ty := { id := .scalar 2, quals := [] }, parent := .object 2, deprecation := none },
               { name := "id", ty := { id := .scalar 0, quals := [.required] }, parent := .interface 0, deprecation := none },
               { name := "owner", ty := { id := .object 3, quals := [] }, parent := .object 1, deprecation := none },
               { name := "tags", ty := { id := .scalar 1, quals := [.list, .required] }, parent := .object 1, deprecation := none },
               { name := "pname", ty := { id := .scalar 1, quals := [] }, parent := .object 3, deprecation := none },
               { name := "pid", ty := { id := .scalar 0, quals := [] }, parent := .object 3, deprecation := none },
               { name := "age", ty := { id := .scalar 2, quals := [] }, parent := .object 1, deprecation := none },
               { name := "pets", ty := { id := .interface 0, quals := [.list, .required] }, parent := .object 0, deprecation := none }]
    interfaces := [{ name := "Animal", fields := [2, 5] }]
    scalars := ["ID", "String", "Int", "Float", "Boolean"] }

def mkOp (sels : List Sel) : ROperation := { name := "Q", kind := .query, objectId := 0, sels := sels }
def mkCtx (frs : List RFragment) (sels : List Sel) (o : Options := {}) : Ctx :=
  { s := S, q := { operations := [mkOp sels], fragments := frs }, o := o, cs := ⟨id, id⟩ }
def itemsOf (c : Ctx) : List Item := okOr (responseForQuery c 0)
end GqlVerif.C01N.Rich
namespace GqlVerif.C01N.Rich
open GqlVerif GqlVerif.Serde GqlVerif.Spec GqlVerif.Codegen GqlVerif.C01 GqlVerif.C01.E2E GqlVerif.C01M GqlVerif.C01N

/- fragment PersonBits on Person { pid }            -- 0
   fragment PersonF on Person { pname ...PersonBits } -- 1
   fragment Inner on Dog { barks tags owner { ...PersonF } } -- 2
   fragment Outer on Dog { id name ...Inner }  -- 3
   query Q { dog { __typename ...Outer } animal { __typename name } } -/
def frs : List RFragment :=
  [{ name := "PersonBits", on := .object 3, sels := [.field none 9 []] },
   { name := "PersonF", on := .object 3, sels := [.field none 8 [], .spread 0] },
   { name := "Inner", on := .object 1, sels := [.field none 3 [], .field none 7 [], .field none 6 [.spread 1]] },
   { name := "Outer", on := .object 1, sels := [.field none 5 [], .field none 2 [], .spread 2] }]
def sels1 : List Sel := [.field none 0 [.typename, .spread 3], .field none 1 [.typename, .field none 2 []]]
def c1 : Ctx := mkCtx frs sels1
def j1 : Json :=
  .obj [("dog", .obj [("__typename", .str "Dog"), ("id", .int 7), ("name", .str "Rex"), ("barks", .null),
                       ("tags", .arr [.str "a", .str "b"]), ("owner", .obj [("pname", .null), ("pid", .int 3)])]),
        ("animal", .obj [("__typename", .str "Cat"), ("name", .str "Tom")])]
def j1b : Json :=
  .obj [("animal", .null),
        ("dog", .obj [("owner", .null), ("tags", .null), ("barks", .bool false), ("name", .str "Rex"), ("id", .str "x"), ("__typename", .str "Dog")])]

/- probe 2: skipNone, spread in a fragment below an object field with own fields; 3 levels; same fragment spread at two places -/
def frs2 : List RFragment :=
  [{ name := "PersonBits", on := .object 3, sels := [.field none 9 []] },
   { name := "PersonF", on := .object 3, sels := [.field none 8 [], .spread 0] },
   { name := "Inner", on := .object 1, sels := [.field none 3 [], .field (some "o2") 6 [.field (some "nm") 8 [], .spread 0]] },
   { name := "Outer", on := .object 1, sels := [.field none 5 [], .spread 2, .field none 6 [.spread 1]] },
   { name := "Top", on := .object 1, sels := [.field none 10 [], .spread 3] }]
def sels2 : List Sel := [.field none 0 [.spread 4]]
def c2 : Ctx := mkCtx frs2 sels2 { skipNone := true }
def j2 : Json :=
  .obj [("dog", .obj [("age", .null), ("id", .int (-2)), ("barks", .bool true),
      ("o2", .obj [("nm", .str "N"), ("pid", .null)]), ("owner", .obj [("pname", .str "P"), ("pid", .str "q")])])]
end GqlVerif.C01N.Rich

namespace GqlVerif.C01N.Rich
open GqlVerif GqlVerif.Serde GqlVerif.Spec GqlVerif.Codegen GqlVerif.C01 GqlVerif.C01.E2E GqlVerif.C01M GqlVerif.C01N

theorem rich1_hyps : NestedOp c1 (mkOp sels1) = true ∧ MixedOp c1 (mkOp sels1) = false ∧ fragNamesOk c1 = true ∧
    nestedKeysOk c1 (mkOp sels1) = true ∧ nestedRustOk c1 (mkOp sels1) = true ∧ moduleOk c1 (itemsOf c1) = true ∧
    (responseForQuery c1 0).toOption.isSome = true := by
  decide +kernel

theorem rich2_hyps : NestedOp c2 (mkOp sels2) = true ∧ NestedOp1 c2 (mkOp sels2) = false ∧ fragNamesOk c2 = true ∧
    nestedKeysOk c2 (mkOp sels2) = true ∧ nestedRustOk c2 (mkOp sels2) = true ∧ moduleOk c2 (itemsOf c2) = true ∧
    (responseForQuery c2 0).toOption.isSome = true := by
  decide +kernel

end GqlVerif.C01N.Rich
