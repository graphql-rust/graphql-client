import GqlVerif.Proofs.C01VariantSpreadH
/-!
# C01 / C03 end to end: `VariantSpreadOp2` — acceptance, precision, losslessness, through the normalized operation

The theorems of `VariantSpreadOp` for the class `VariantSpreadOp2` of `C01VariantSpreadF` (inline fragments `... on T { ...F }` next to other
selections on `T`, the shape of the defect repaired by fix 78c01b5).  The emitted items are those of the normalized operation
`normOp op` (`variantspread2_items_shape`), and the **specification is invariant under the normalization** (`conformsV_norm`): a
response conforms to the operation iff it conforms to the normalized operation (`... on T { ...F }` and `...F` collect the same
fields when `F` is on `T`; the order of the selections is irrelevant).  So `variantspread2_accepts`, `_precise_iff`, `_lossless`,
`_roundtrip`, `_content` are stated with the specification of the operation **as written**.

A generated module (`a2Sels`: `hero { __typename ... on Human { ...HF } ... on Human { h2: height } ...HG }`) with every
hypothesis evaluated, and the witnesses `variantspread2_alias_type_needed`, `variantspread2_edge_needed` for the side
conditions of the class: `C01VariantSpreadGW`.
-/

namespace GqlVerif
namespace C01
namespace E2E
open Serde C03 Codegen

/-! ## the specification is invariant under the normalization -/

theorem keysSelsV_append (s : Schema) (rt : Nat) : ∀ (xs ys : List Sel),
    keysSelsV s rt (xs ++ ys) = keysSelsV s rt xs ++ keysSelsV s rt ys
  | [], ys => by simp [keysSelsV]
  | x :: xs, ys => by rw [List.cons_append, keysSelsV, keysSelsV, keysSelsV_append s rt xs ys, List.append_assoc]

theorem contains_congr {l1 l2 : List String} (h : ∀ k, k ∈ l1 ↔ k ∈ l2) (k : String) : l1.contains k = l2.contains k := by
  rw [Bool.eq_iff_iff]; simp [h]

/-- two selection sets that collect the same keys and the same conditions, for every runtime type -/
def SameSpec (s : Schema) (A B : List Sel) : Prop :=
  ∀ rt, (∀ kvs, confSelsV s rt A kvs = confSelsV s rt B kvs) ∧ (∀ k, k ∈ keysSelsV s rt A ↔ k ∈ keysSelsV s rt B)

theorem confSelV_field_congr (s : Schema) {A B : List Sel} (h : SameSpec s A B) (rt : Nat) (a : Option String) (fid : Nat)
    (kvs : List (String × Json)) : confSelV s rt (.field a fid A) kvs = confSelV s rt (.field a fid B) kvs := by
  have h1 : ∀ rt' kvs', confSelsV s rt' A kvs' = confSelsV s rt' B kvs' := fun rt' => (h rt').1
  have h2 : ∀ rt' k, (keysSelsV s rt' A).contains k = (keysSelsV s rt' B).contains k :=
    fun rt' => contains_congr (h rt').2
  simp only [confSelV, h1, h2]

theorem conformsV_congr (s : Schema) {A B : List Sel} (h : SameSpec s A B) (rt : Nat) (j : Json) :
    conformsV s rt A j = conformsV s rt B j := by
  have h1 : ∀ kvs', confSelsV s rt A kvs' = confSelsV s rt B kvs' := (h rt).1
  have h2 : ∀ k, (keysSelsV s rt A).contains k = (keysSelsV s rt B).contains k := contains_congr (h rt).2
  cases j <;> simp only [conformsV, h1, h2]

theorem aliasWfSels_cons {q : Query} {x : Sel} {xs : List Sel} (h : aliasWfSels q (x :: xs) = true) :
    aliasWfSel q x = true ∧ aliasWfSels q xs = true := by
  simpa [aliasWfSels] using h

theorem aliasOn_spec {q : Query} {t : TypeId} {g : Nat} (h : aliasOn q t [.spread g] = true) :
    ∃ f, q.fragments[g]? = some f ∧ f.on = t := by
  simp only [aliasOn] at h
  cases hf : q.fragments[g]? with
  | none => simp [hf] at h
  | some f => simp only [hf, beq_iff_eq] at h; exact ⟨f, rfl, h⟩

mutual
  theorem norm_specSel (s : Schema) (q : Query) : ∀ (x : Sel), aliasWfSel q x = true → ∀ rt,
      (∀ kvs, confSelV s rt (expandSel q (normSel x)) kvs = confSelV s rt (expandSel q x) kvs) ∧
      (∀ k, k ∈ keysSelV s rt (expandSel q (normSel x)) ↔ k ∈ keysSelV s rt (expandSel q x))
    | .field a fid sub => by
      intro h rt
      rw [aliasWfSel] at h
      have IH := norm_specSels s q sub h
      rw [normSel_field, expandSel, expandSel]
      refine ⟨fun kvs => confSelV_field_congr s IH rt a fid kvs, fun k => ?_⟩
      simp only [keysSelV]
    | .inline t sub => by
      intro h rt
      rw [aliasWfSel, Bool.and_eq_true] at h
      have IH := norm_specSels s q sub h.2 rt
      rw [normSel_inline, expandSel, expandSel]
      refine ⟨fun kvs => ?_, fun k => ?_⟩
      · simp only [confSelV, IH.1]
      · simp only [keysSelV]
        split
        · exact IH.2 k
        · exact Iff.rfl
    | .spread g => by intro _ rt; rw [normSel]; exact ⟨fun _ => rfl, fun _ => Iff.rfl⟩
    | .typename => by intro _ rt; rw [normSel]; exact ⟨fun _ => rfl, fun _ => Iff.rfl⟩
  theorem norm_specSels (s : Schema) (q : Query) : ∀ (sels : List Sel), aliasWfSels q sels = true →
      SameSpec s (expandSels q (normSels sels)) (expandSels q sels)
    | [] => by intro _ rt; exact ⟨fun _ => rfl, fun _ => Iff.rfl⟩
    | x :: xs => by
      intro h rt
      obtain ⟨hx, hxs⟩ := aliasWfSels_cons h
      have IH := norm_specSels s q xs hxs rt
      have IHx := norm_specSel s q x hx rt
      unfold normSels at IH ⊢
      cases ha : aliasInl x with
      | none =>
        rw [keepN_cons_keep ha, movedN_cons_keep ha, List.cons_append, expandSels, expandSels]
        refine ⟨fun kvs => ?_, fun k => ?_⟩
        · rw [confSelsV, confSelsV, IHx.1, IH.1]
        · rw [keysSelsV, keysSelsV, List.mem_append, List.mem_append, IHx.2, IH.2]
      | some g =>
        obtain ⟨t, rfl⟩ := aliasInl_some ha
        rw [aliasWfSel, Bool.and_eq_true] at hx
        obtain ⟨f, hf, hon⟩ := aliasOn_spec hx.1
        rw [keepN_cons_alias ha, movedN_cons_alias ha, expandSels_append, expandSels, expandSels]
        rw [expandSels_append] at IH
        have e1 : expandSel q (.spread g) = .inline t f.sels := by rw [expandSel]; simp [hf, hon]
        have e2 : expandSel q (.inline t [.spread g]) = .inline t [.inline t f.sels] := by
          rw [expandSel, expandSels, expandSels, e1]
        rw [e1, e2]
        refine ⟨fun kvs => ?_, fun k => ?_⟩
        · rw [confSelsV_append, confSelsV, confSelsV, ← IH.1, confSelsV_append]
          simp only [confSelV, confSelsV]
          cases fragApplies s rt t <;> cases confSelsV s rt f.sels kvs <;>
            cases confSelsV s rt (expandSels q (keepN xs)) kvs <;> cases confSelsV s rt (expandSels q (movedN xs)) kvs <;> rfl
        · have hk := IH.2 k
          rw [keysSelsV_append, List.mem_append] at hk
          rw [keysSelsV_append, keysSelsV, keysSelsV]
          simp only [List.mem_append, ← hk, keysSelV, keysSelsV]
          cases fragApplies s rt t <;> simp <;>
            (constructor <;> (intro h'; rcases h' with h' | h' | h' <;> simp [h']))
end

theorem conformsV_norm (s : Schema) (q : Query) (sels : List Sel) (h : aliasWfSels q sels = true) (rt : Nat) (j : Json) :
    conformsV s rt (expandSels q (normSels sels)) j = conformsV s rt (expandSels q sels) j :=
  conformsV_congr s (norm_specSels s q sels h) rt j


/-! ## the environment of the emitted module, for the normalized operation -/

/-- everything reachable from the normalized selection set is (the normalization of) something reachable from the
    selection set itself -/
theorem reach_norm (q : Query) : ∀ {sels' : List Sel} {y : Sel}, C02.Reach q sels' y → ∀ sels, sels' = normSels sels →
    ∃ y0, C02.Reach q sels y0 ∧ (y = y0 ∨ y = normSel y0) := by
  intro sels' y h
  induction h with
  | @here sels' y hm =>
    intro sels he
    subst he
    rcases List.mem_append.mp hm with hk | hmv
    · obtain ⟨x, hx, _, rfl⟩ := mem_keepN hk
      exact ⟨x, .here hx, .inr rfl⟩
    · obtain ⟨t, g, hin, rfl⟩ := mem_movedN hmv
      exact ⟨.spread g, .inline hin (.here (by simp)), .inl rfl⟩
  | @field sels' a fid sub y hm _ ih =>
    intro sels he
    subst he
    rcases List.mem_append.mp hm with hk | hmv
    · obtain ⟨x, hx, _, hxe⟩ := mem_keepN hk
      cases x with
      | field a' fid' sub' =>
        rw [normSel_field] at hxe
        injection hxe with h1 h2 h3
        obtain ⟨y0, hr, hy⟩ := ih sub' h3
        exact ⟨y0, .field hx hr, hy⟩
      | inline t sub' => rw [normSel_inline] at hxe; cases hxe
      | spread g => rw [normSel] at hxe; cases hxe
      | typename => rw [normSel] at hxe; cases hxe
    · obtain ⟨t, g, _, he⟩ := mem_movedN hmv
      cases he
  | @inline sels' t sub y hm _ ih =>
    intro sels he
    subst he
    rcases List.mem_append.mp hm with hk | hmv
    · obtain ⟨x, hx, _, hxe⟩ := mem_keepN hk
      cases x with
      | field a' fid' sub' => rw [normSel_field] at hxe; cases hxe
      | inline t' sub' =>
        rw [normSel_inline] at hxe
        injection hxe with h1 h2
        obtain ⟨y0, hr, hy⟩ := ih sub' h2
        exact ⟨y0, .inline hx hr, hy⟩
      | spread g => rw [normSel] at hxe; cases hxe
      | typename => rw [normSel] at hxe; cases hxe
    · obtain ⟨t, g, _, he⟩ := mem_movedN hmv
      cases he
  | @spread sels' g f y hm hf hr _ =>
    intro sels he
    subst he
    rcases List.mem_append.mp hm with hk | hmv
    · obtain ⟨x, hx, _, hxe⟩ := mem_keepN hk
      cases x with
      | field a' fid' sub' => rw [normSel_field] at hxe; cases hxe
      | inline t' sub' => rw [normSel_inline] at hxe; cases hxe
      | spread g' =>
        rw [normSel] at hxe
        injection hxe with h1
        subst h1
        exact ⟨y, .spread hx hf hr, .inl rfl⟩
      | typename => rw [normSel] at hxe; cases hxe
    · obtain ⟨t, g', hin, he⟩ := mem_movedN hmv
      injection he with h1
      subst h1
      exact ⟨y, .inline hin (.spread (by simp) hf hr), .inl rfl⟩

theorem direct_normSel (s : Schema) (u : UsedTypes) : ∀ (x : Sel), C02.Direct s u x → C02.Direct s u (normSel x)
  | .field a fid sub, h => by rw [normSel_field]; exact h
  | .inline t sub, h => by rw [normSel_inline]; exact h
  | .spread g, h => by rw [normSel]; exact h
  | .typename, h => by rw [normSel]; exact h

theorem used_norm {s : Schema} {q : Query} {u : UsedTypes} {sels : List Sel}
    (h : ∀ x, C02.Reach q sels x → C02.Direct s u x) : ∀ x, C02.Reach q (normSels sels) x → C02.Direct s u x := by
  intro x hr
  obtain ⟨y0, hr0, hy⟩ := reach_norm q hr sels rfl
  rcases hy with rfl | rfl
  · exact h _ hr0
  · exact direct_normSel s u _ (h _ hr0)

theorem topEnvS2_of_module {c : Ctx} {opIdx : Nat} {op : ROperation} {items : List Item}
    (hop : c.q.operations[opIdx]? = some op) (ht : VariantSpreadOp2 c op = true)
    (hgen : responseForQuery c opIdx = .ok items) (hok : moduleOk c items = true) :
    TopEnvS (moduleEnv c items) c (normOp op) := by
  obtain ⟨_, _, ht'⟩ := variantSpreadOp2_parts ht
  obtain ⟨hn, _, hsels, _⟩ := variantSpreadOp_parts ht'
  obtain ⟨h1, h2, h3⟩ := topEnvS_of_shape (normSels op.sels) hop hn hsels
    (variantspread2_items_shape c op (List.mem_of_getElem? hop) ht) (fun _ h => used_norm h) hgen hok
  exact ⟨h1, h2, h3⟩

/-- **`variantspread2_accepts`.**  Every response that conforms to the operation (specification of the operation as written)
    is accepted by the emitted `ResponseData`. -/
theorem variantspread2_accepts (c : Ctx) (opIdx : Nat) (op : ROperation) (items : List Item)
    (hop : c.q.operations[opIdx]? = some op) (ht : VariantSpreadOp2 c op = true)
    (hgen : responseForQuery c opIdx = .ok items) (hok : moduleOk c items = true)
    (j : Json) (hc : conformsOpS c op j = true) :
    ∃ v, Serde.de (moduleEnv c items) (.path "ResponseData") j = .ok v := by
  obtain ⟨hwf, _, ht'⟩ := variantSpreadOp2_parts ht
  have he := topEnvS2_of_module hop ht hgen hok
  have := top_accepts_iffS (moduleEnv c items) c (normOp op) ht' he j
  have hc' : conformsV c.s op.objectId (expandSels c.q (normSels op.sels)) j = true := by
    rw [conformsV_norm c.s c.q op.sels hwf]; exact hc
  have hs : sSels c.s c.q c.o false (normSels op.sels) = true := (variantSpreadOp_parts ht').2.2.1
  rw [normOp_sels] at this
  exact Top.accepts_of_iff this (conformsS_loose c.s c.q c.o false _ _ _ hs hc')

/-- **`variantspread2_precise_iff` (C03).**  The emitted `ResponseData` accepts `j` **iff** `conformsLooseS … false` of the
    normalized selection set. -/
theorem variantspread2_precise_iff (c : Ctx) (opIdx : Nat) (op : ROperation) (items : List Item)
    (hop : c.q.operations[opIdx]? = some op) (ht : VariantSpreadOp2 c op = true)
    (hgen : responseForQuery c opIdx = .ok items) (hok : moduleOk c items = true) (j : Json) :
    okB (Serde.de (moduleEnv c items) (.path "ResponseData") j) =
      conformsLooseS c.s c.q c.o false (normSels op.sels) j :=
  top_accepts_iffS (moduleEnv c items) c (normOp op) (variantSpreadOp2_parts ht).2.2
    (topEnvS2_of_module hop ht hgen hok) j

theorem variantspread2_precise (c : Ctx) (opIdx : Nat) (op : ROperation) (items : List Item)
    (hop : c.q.operations[opIdx]? = some op) (ht : VariantSpreadOp2 c op = true)
    (hgen : responseForQuery c opIdx = .ok items) (hok : moduleOk c items = true) (j : Json) (v : Val)
    (hd : Serde.de (moduleEnv c items) (.path "ResponseData") j = .ok v) :
    conformsLooseS c.s c.q c.o false (normSels op.sels) j = true :=
  Top.precise_of_iff (variantspread2_precise_iff c opIdx op items hop ht hgen hok j) hd

/-- **`variantspread2_lossless`.**  A response that conforms to the operation (as written) and was read is written back as
    `normJson (canonSelD … (normSels op.sels) j)`: the entries of `... on T { ...F }` are written where the member
    `snake(F)` is — behind the other entries of the variant. -/
theorem variantspread2_lossless (c : Ctx) (opIdx : Nat) (op : ROperation) (items : List Item)
    (hop : c.q.operations[opIdx]? = some op) (ht : VariantSpreadOp2 c op = true)
    (hgen : responseForQuery c opIdx = .ok items) (hok : moduleOk c items = true)
    (hr : spreadRustOkD c (normOp op) = true)
    (j : Json) (hc : conformsOpS c op j = true) (v : Val)
    (hd : Serde.de (moduleEnv c items) (.path "ResponseData") j = .ok v) :
    Serde.ser (moduleEnv c items) (.path "ResponseData") v =
      .ok (normJson (canonSelD c.s c.q c.o.skipNone (normSels op.sels) j)) := by
  obtain ⟨hwf, _, ht'⟩ := variantSpreadOp2_parts ht
  simp only [spreadRustOkD, Bool.and_eq_true] at hr
  have hc' : conformsV c.s op.objectId (expandSels c.q (normSels op.sels)) j = true := by
    rw [conformsV_norm c.s c.q op.sels hwf]; exact hc
  exact top_losslessD (moduleEnv c items) c (normOp op) ht' (topEnvS2_of_module hop ht hgen hok) hr.1 hr.2 _ j v hc' hd

theorem variantspread2_roundtrip (c : Ctx) (opIdx : Nat) (op : ROperation) (items : List Item)
    (hop : c.q.operations[opIdx]? = some op) (ht : VariantSpreadOp2 c op = true)
    (hgen : responseForQuery c opIdx = .ok items) (hok : moduleOk c items = true)
    (hr : spreadRustOkD c (normOp op) = true)
    (j : Json) (hc : conformsOpS c op j = true) :
    Serde.roundtrip (moduleEnv c items) (.path "ResponseData") j =
      .ok (normJson (canonSelD c.s c.q c.o.skipNone (normSels op.sels) j)) :=
  Top.roundtrip_of (variantspread2_accepts c opIdx op items hop ht hgen hok j hc)
    (variantspread2_lossless c opIdx op items hop ht hgen hok hr j hc)

/-- **`variantspread2_content`**: the closed form of `variantspread2_lossless` / `variantspread2_roundtrip` has the content of
    the response (`SameContent` of `C01VariantSpreadH`) -/
theorem variantspread2_content (c : Ctx) (op : ROperation) (ht : VariantSpreadOp2 c op = true) (j : Json)
    (hc : conformsOpS c op j = true) :
    SameContent c.o.skipNone j (normJson (canonSelD c.s c.q c.o.skipNone (normSels op.sels) j)) := by
  obtain ⟨hwf, _, ht'⟩ := variantSpreadOp2_parts ht
  have hc' : conformsOpS c (normOp op) j = true := by
    unfold conformsOpS
    rw [normOp_sels, normOp_objectId, conformsV_norm c.s c.q op.sels hwf]; exact hc
  exact variantspread_content c (normOp op) ht' j hc'

/-- **`variantspread2_roundtrip_content`**: the round trip returns a response with the same content -/
theorem variantspread2_roundtrip_content (c : Ctx) (opIdx : Nat) (op : ROperation) (items : List Item)
    (hop : c.q.operations[opIdx]? = some op) (ht : VariantSpreadOp2 c op = true)
    (hgen : responseForQuery c opIdx = .ok items) (hok : moduleOk c items = true)
    (hr : spreadRustOkD c (normOp op) = true) (j : Json) (hc : conformsOpS c op j = true) :
    ∃ j', Serde.roundtrip (moduleEnv c items) (.path "ResponseData") j = .ok j' ∧ SameContent c.o.skipNone j j' :=
  ⟨_, variantspread2_roundtrip c opIdx op items hop ht hgen hok hr j hc, variantspread2_content c op ht j hc⟩

theorem normOp_of_variantSpreadOp {c : Ctx} {op : ROperation} (h : VariantSpreadOp c op = true) : normOp op = op := by
  obtain ⟨_, _, hsels, _⟩ := variantSpreadOp_parts h
  obtain ⟨h1, _⟩ := noAlias_sels c op.sels false hsels
  unfold normOp
  rw [h1]

/-- **the class only grows**: `VariantSpreadOp ⊆ VariantSpreadOp2`, with the same statements (`normSels op.sels = op.sels`) -/
theorem variantSpreadOp2_of_variantSpreadOp (c : Ctx) (op : ROperation) (h : VariantSpreadOp c op = true) :
    VariantSpreadOp2 c op = true ∧ normSels op.sels = op.sels := by
  obtain ⟨_, _, hsels, _⟩ := variantSpreadOp_parts h
  obtain ⟨h1, h2, h3, _⟩ := noAlias_sels c op.sels false hsels
  refine ⟨?_, h1⟩
  unfold VariantSpreadOp2
  rw [normOp_of_variantSpreadOp h, h, h2, h3]
  rfl

end E2E
end C01
end GqlVerif
