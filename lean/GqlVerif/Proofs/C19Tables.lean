import GqlVerif.Model.Cli
import GqlVerif.Model.Gen.Consts
import GqlVerif.Proofs.TableLookup

/-! ## the CLI's parser (`Model/Cli.lean`, property C19): the same table, without lower-casing (docs/REVIEW_4.md finding 2) -/
namespace GqlVerif
namespace C19T

/-- the variant of `DeprecationStrategy` named in the source, in the CLI model's type: `Model/Cli.lean` and
    `Model/Attr.lean` each have their own copy of the Rust enum (`Cli.DepStrategy`, `Attr.Deprecation`), hence this
    function and `C18T.depOfName` -/
def depStrategyOfName : String → Option DepStrategy
  | "Allow" => some .allow | "Deny" => some .deny | "Warn" => some .warn | _ => none

/-- `--deprecation-strategy` is parsed by `DeprecationStrategy::from_str` directly: the look-up of the TRIMMED text among the
    arms regenerated from `deprecation.rs` -/
theorem cli_parseDeprecation_is_table (s : String) :
    Cli.parseDeprecation s =
      (Gen.deprecationFromStr.2.find? (fun p => p.1.toList == Cli.trim s.toList)).bind (fun p => depStrategyOfName p.2) := by
  unfold Cli.parseDeprecation Gen.deprecationFromStr
  rw [find?_bind_cons _ Cli.allowWord _ _ _ _ (by decide), find?_bind_cons _ Cli.denyWord _ _ _ _ (by decide),
    find?_bind_cons _ Cli.warnWord _ _ _ _ (by decide)]
  rfl

end C19T
end GqlVerif
