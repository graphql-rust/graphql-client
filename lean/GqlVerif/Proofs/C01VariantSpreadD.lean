import GqlVerif.Proofs.C01VariantSpread
/-!
# C01 end to end: fragment spreads at abstract positions (`VariantSpreadOp`): the canonical form `canonSelD`, round trips of the emitted types

Part C gives the closed form `canonSelS` for operations without spreads of fragments on the abstract type itself
(`noBSels`).  This file and `C01VariantSpreadE` prove losslessness without that restriction.

* canonical form `canonSelD` / `canonAbsD`: as `canonSelS` / `canonAbsS`; at an abstract position the entries are, **in
  selection order**, the interface-level fields' entries and — at the position of every spread of a fragment on the abstract
  type itself — the entries that fragment's own type(s) write (`canonAbsV` of its body on the entries the own fields left:
  its fields, `__typename`, the entries of its inline fragment on the runtime type), then `__typename` and the entries of
  the selections on the runtime type (`canonVarD`).  With such spreads `__typename` (and possibly keys of the runtime type)
  occur several times in what the serializer writes; `serde_json::to_value` keeps one (`normJson`, `C01VariantSpreadE`).
  The entry lists are `flatMap`s of per-selection pieces (`canonEntriesD_flat`, `canonVarD_flat`, `canonEntriesBD_flat`;
  `C01EntryLists`).
* serde: `deStruct_borrow_finds` — what a struct all of whose flattened members borrow read, found again by Rust field name;
* `rtStructD` (struct of an object-level selection set), `rtVarStructD` / `rtVariantD` (payload of one variant: alias of a
  fragment struct, or struct with own fields and flattened members), `rtTaggedD`.

Side condition (decidable): `rustOkSelsD` — as `rustOkSelsS`, and: the Rust names of the members for fragments on the abstract
type itself (`keyword_replace(snake(F))`) are distinct from the own fields' and from `on`; inside such a fragment the Rust field
names and `on` are pairwise distinct.
-/

namespace GqlVerif
namespace C01
namespace E2E
open Serde Codegen

def absEntries : Json → List (String × Json)
  | .obj l => l
  | _ => []

/-- the type is the object type named `n` -/
def onNamed (s : Schema) (t : TypeId) (n : String) : Bool :=
  match t with
  | .object _ => objName s t == n
  | _ => false

theorem onNamed_of_absHyp {s : Schema} {ty : TypeId} (hty : absHyp s ty) (n : String) : onNamed s ty n = false :=
  match ty, hty with
  | .interface _, _ => rfl
  | .union _, _ => rfl
  | .object _, h => h.elim
  | .scalar _, h => h.elim
  | .enum _, h => h.elim
  | .input _, h => h.elim

mutual
  def canonFieldD (s : Schema) (q : Query) (skip : Bool) : Sel → Json → Json
    | .field _ fid sub, v =>
      match s.fields[fid]? with
      | none => v
      | some sf =>
        match sf.ty.id with
        | .scalar k => (match s.scalars[k]? with
          | some n => if n = "ID" then canon idCanon (gtyOf sf.ty.quals) v else v
          | none => v)
        | .enum _ => v
        | .input _ => v
        | .object _ => canon (fun j => match j with
            | .obj kvs => .obj (canonEntriesD s q skip sub kvs)
            | j => j) (gtyOf sf.ty.quals) v
        | ty =>
          match loneG sub with
          | some g =>
            -- a lone spread of a fragment on the abstract type itself: what the fragment's own type(s) write
            (match q.fragments[g]? with
             | some f => canon (canonAbsV s skip f.sels) (gtyOf sf.ty.quals) v
             | none => v)
          | none =>
          canon (fun j => match j with
            | .obj kvs => .obj (canonEntriesBD s q skip ty (absRest s q ty sub kvs) sub kvs ++
                (("__typename", Json.str (tagName kvs)) :: canonVarD s q skip (tagName kvs) sub kvs))
            | j => j) (gtyOf sf.ty.quals) v
    | _, v => v
  def canonEntriesD (s : Schema) (q : Query) (skip : Bool) : List Sel → List (String × Json) → List (String × Json)
    | [], _ => []
    | .field a fid sub :: xs, kvs =>
      (match s.fields[fid]? with
       | none => []
       | some sf =>
         match Json.lookup (a.getD sf.name) kvs with
         | some v =>
           if skip && skipQ sf.ty.quals && v.isNull then []
           else [(a.getD sf.name, canonFieldD s q skip (.field a fid sub) v)]
         | none => if skip && skipQ sf.ty.quals then [] else [(a.getD sf.name, Json.null)]) ++
        canonEntriesD s q skip xs kvs
    | _ :: xs, kvs => canonEntriesD s q skip xs kvs
  /-- the interface-level entries at a position of type `ty`: own fields and, at the position of each spread of a fragment
      on `ty` itself, what that fragment's type(s) write of `rest` (the entries the own fields left) -/
  def canonEntriesBD (s : Schema) (q : Query) (skip : Bool) (ty : TypeId) (rest : List (String × Json)) :
      List Sel → List (String × Json) → List (String × Json)
    | [], _ => []
    | .field a fid sub :: xs, kvs =>
      (match s.fields[fid]? with
       | none => []
       | some sf =>
         match Json.lookup (a.getD sf.name) kvs with
         | some v =>
           if skip && skipQ sf.ty.quals && v.isNull then []
           else [(a.getD sf.name, canonFieldD s q skip (.field a fid sub) v)]
         | none => if skip && skipQ sf.ty.quals then [] else [(a.getD sf.name, Json.null)]) ++
        canonEntriesBD s q skip ty rest xs kvs
    | .spread g :: xs, kvs =>
      (match q.fragments[g]? with
       | some f => if f.on == ty then absEntries (canonAbsV s skip f.sels (.obj rest)) else []
       | none => []) ++ canonEntriesBD s q skip ty rest xs kvs
    | _ :: xs, kvs => canonEntriesBD s q skip ty rest xs kvs
  /-- the entries of the selections on the object type named `n` -/
  def canonVarD (s : Schema) (q : Query) (skip : Bool) (n : String) : List Sel → List (String × Json) → List (String × Json)
    | [], _ => []
    | .inline t isub :: xs, kvs =>
      (if objName s t == n then canonEntriesD s q skip isub kvs else []) ++ canonVarD s q skip n xs kvs
    | .spread g :: xs, kvs =>
      (match q.fragments[g]? with
       | some f => if onNamed s f.on n then canonEntriesV s skip f.sels kvs else []
       | none => []) ++ canonVarD s q skip n xs kvs
    | _ :: xs, kvs => canonVarD s q skip n xs kvs
end

/-- **`canonSelD`**: what the serializer writes for a conforming response `j` (before `serde_json::to_value` merges
    repeated keys) -/
def canonSelD (s : Schema) (q : Query) (skip : Bool) (sels : List Sel) : Json → Json
  | .obj kvs => .obj (canonEntriesD s q skip sels kvs)
  | j => j

/-- … and at an abstract position of type `ty` -/
def canonAbsD (s : Schema) (q : Query) (skip : Bool) (ty : TypeId) (sub : List Sel) : Json → Json
  | .obj kvs => .obj (canonEntriesBD s q skip ty (absRest s q ty sub kvs) sub kvs ++
      (("__typename", Json.str (tagName kvs)) :: canonVarD s q skip (tagName kvs) sub kvs))
  | j => j

theorem canonLambdaD (s : Schema) (q : Query) (skip : Bool) (sub : List Sel) :
    (fun j => match j with
      | Json.obj kvs => Json.obj (canonEntriesD s q skip sub kvs)
      | j => j) = canonSelD s q skip sub := by
  funext j; cases j <;> rfl

theorem canonLambdaAbsD (s : Schema) (q : Query) (skip : Bool) (ty : TypeId) (sub : List Sel) :
    (fun j => match j with
      | Json.obj kvs => Json.obj (canonEntriesBD s q skip ty (absRest s q ty sub kvs) sub kvs ++
          (("__typename", Json.str (tagName kvs)) :: canonVarD s q skip (tagName kvs) sub kvs))
      | j => j) = canonAbsD s q skip ty sub := by
  funext j; cases j <;> rfl


theorem canonEntriesD_flat (s : Schema) (q : Query) (skip : Bool) (kvs : List (String × Json)) : ∀ (sels : List Sel),
    canonEntriesD s q skip sels kvs = sels.flatMap (fieldEntry s skip (canonFieldD s q skip) kvs)
  | [] => by simp [canonEntriesD]
  | x :: xs => by
    rw [List.flatMap_cons, ← canonEntriesD_flat s q skip kvs xs]
    cases x with
    | field a fid sub => rw [canonEntriesD.eq_2]; rfl
    | _ => rfl

theorem canonVarD_flat (s : Schema) (q : Query) (skip : Bool) (n : String) (kvs : List (String × Json)) :
    ∀ (sub : List Sel), canonVarD s q skip n sub kvs =
      sub.flatMap (fun x => inlEntries (objName s · == n) (canonEntriesD s q skip · kvs) x ++
        fragEntries q (fun f => if onNamed s f.on n then canonEntriesV s skip f.sels kvs else []) x)
  | [] => by simp [canonVarD]
  | x :: xs => by
    rw [List.flatMap_cons, ← canonVarD_flat s q skip n kvs xs]
    cases x with
    | inline t isub => rw [canonVarD]; simp only [fragEntries, spreadEntries, List.append_nil]; rfl
    | spread g => rw [canonVarD]; rfl
    | _ => rfl

theorem canonEntriesBD_flat (s : Schema) (q : Query) (skip : Bool) (ty : TypeId) (rest kvs : List (String × Json)) :
    ∀ (sels : List Sel), canonEntriesBD s q skip ty rest sels kvs =
      sels.flatMap (fun x => fieldEntry s skip (canonFieldD s q skip) kvs x ++
        fragEntries q (fun f => if f.on == ty then absEntries (canonAbsV s skip f.sels (.obj rest)) else []) x)
  | [] => by simp [canonEntriesBD]
  | x :: xs => by
    rw [List.flatMap_cons, ← canonEntriesBD_flat s q skip ty rest kvs xs]
    cases x with
    | field a fid sub => rw [canonEntriesBD.eq_2]; simp only [fragEntries, spreadEntries, List.append_nil]; rfl
    | spread g => rw [canonEntriesBD.eq_3]; rfl
    | _ => rfl

/-- the entries of the selections on the type `vt` -/
def canonVarTD (s : Schema) (q : Query) (skip : Bool) (vt : TypeId) (sub : List Sel) (kvs : List (String × Json)) :
    List (String × Json) :=
  sub.flatMap (entriesOn q vt (canonEntriesD s q skip · kvs) (fun f => canonEntriesV s skip f.sels kvs))

theorem canonVarTD_cons (s : Schema) (q : Query) (skip : Bool) (vt : TypeId) (x : Sel) (xs : List Sel)
    (kvs : List (String × Json)) : canonVarTD s q skip vt (x :: xs) kvs =
      entriesOn q vt (canonEntriesD s q skip · kvs) (fun f => canonEntriesV s skip f.sels kvs) x ++
        canonVarTD s q skip vt xs kvs :=
  List.flatMap_cons

/-- with pairwise distinct type names, selecting by name is selecting by type -/
theorem canonVarD_eq (s : Schema) (q : Query) (skip : Bool) (vt : TypeId) (kvs : List (String × Json))
    (names : List TypeId) (hnames : (names.map (objName s)).Nodup) (hvt : vt ∈ names) (hvo : ∃ i, vt = .object i)
    (sub : List Sel) (hin : ∀ t isub, Sel.inline t isub ∈ sub → t ∈ names)
    (hsp : ∀ g f i, Sel.spread g ∈ sub → q.fragments[g]? = some f → f.on = .object i → f.on ∈ names) :
    canonVarD s q skip (objName s vt) sub kvs = canonVarTD s q skip vt sub kvs := by
  rw [canonVarD_flat, canonVarTD]
  refine flatMap_congr_mem (fun x hx => append_congr (inlEntries_congr ?_) (fragEntries_congr ?_))
  · rintro t isub rfl
    exact ⟨by simp only [objName_eq_iff s names hnames (hin t isub hx) hvt], fun _ => rfl⟩
  · rintro g f rfl hf
    cases hon : f.on with
    | object i =>
      have ht : f.on ∈ names := hsp g f i hx hf hon
      rw [hon] at ht
      simp only [onNamed, objName_eq_iff s names hnames ht hvt]
    | _ =>
      obtain ⟨i, rfl⟩ := hvo
      simp [onNamed]

theorem canonVarTD_mineOf (s : Schema) (q : Query) (skip : Bool) (vt : TypeId) (kvs : List (String × Json)) (sub : List Sel) :
    canonVarTD s q skip vt (mineOf q vt sub) kvs = canonVarTD s q skip vt sub kvs :=
  flatMap_filter_of_nil _ _ sub (fun _ _ hp => entriesOn_eq_nil hp)

theorem canonEntriesD_filter (s : Schema) (q : Query) (skip : Bool) (p : String × Json → Bool)
    (kvs : List (String × Json)) (sels : List Sel) (h : ∀ k ∈ fieldKeys s sels, ∀ v, p (k, v) = true) :
    canonEntriesD s q skip sels (kvs.filter p) = canonEntriesD s q skip sels kvs := by
  rw [canonEntriesD_flat, canonEntriesD_flat]; exact fieldEntries_filter p h

/-- the entries of the variant only depend on the entries under its field keys -/
theorem canonVarTD_filter (s : Schema) (q : Query) (skip : Bool) (vt : TypeId) (p : String × Json → Bool)
    (kvs : List (String × Json)) (sub : List Sel) (h : ∀ k ∈ varKeys s q vt sub, ∀ v, p (k, v) = true) :
    canonVarTD s q skip vt sub (kvs.filter p) = canonVarTD s q skip vt sub kvs := by
  refine flatMap_congr_mem (fun x hx => append_congr (inlEntries_congr ?_) (fragEntries_congr ?_))
  · rintro t isub rfl
    refine ⟨rfl, fun ht => ?_⟩
    have ht' : t = vt := by simpa using ht
    subst ht'
    exact canonEntriesD_filter s q skip p kvs isub (fun k hk => h k (mem_varKeys.mpr (.inl ⟨isub, hx, hk⟩)))
  · rintro g f rfl hf
    by_cases hon : f.on = vt
    · simp only [hon, beq_self_eq_true, ↓reduceIte]
      exact canonEntriesV_filter s skip p kvs f.sels (fun k hk => h k (mem_varKeys.mpr (.inr ⟨g, f, hx, hf, hon, hk⟩)))
    · have : (f.on == vt) = false := by simpa using hon
      simp [this]

/-- the canonical form of the value of the field whose wire name is `f.wire` -/
def fcanonOfD (s : Schema) (q : Query) (skip : Bool) (sels : List Sel) (f : RField) (v : Json) : Json :=
  match sels.find? (fun x => respKey s x == some f.wire) with
  | some x => canonFieldD s q skip x v
  | none => v

theorem expectOut_canonD (c : Ctx) (pfx : String) (abs : Bool) (fc : RField → Json → Json) (kvs : List (String × Json))
    (sels : List Sel) (ht : sSels c.s c.q c.o abs sels = true)
    (hfc : ∀ a fid sub, Sel.field a fid sub ∈ sels → ∀ f, fieldOfSelV c pfx (.field a fid sub) = some f →
      ∀ v, fc f v = canonFieldD c.s c.q c.o.skipNone (.field a fid sub) v) :
    expectOut fc (fieldsOfV c pfx sels) kvs = canonEntriesD c.s c.q c.o.skipNone sels kvs := by
  rw [canonEntriesD_flat]
  refine expectOut_fieldEntries c pfx _ fc kvs sels (fun a fid sub hm => ?_) hfc
  obtain ⟨sf, ft, hsf, _, hf, _⟩ := fieldOfSelV_s c pfx abs a fid sub (sSels_mem ht _ hm)
  exact ⟨sf, ft, hsf, hf⟩


def fieldTy (c : Ctx) (fid : Nat) : TypeId :=
  match c.s.fields[fid]? with
  | some sf => sf.ty.id
  | none => .scalar 0

/-- Rust field names at a position of type `ty`: own fields and the members for fragments on `ty` itself -/
def rustNameB (c : Ctx) (ty : TypeId) : Sel → Option String
  | .spread g => (match c.q.fragments[g]? with
    | some f => if f.on == ty then some (keywordReplace (c.cs.snake f.name)) else none
    | none => none)
  | x => rustName c x

def rustNamesB (c : Ctx) (ty : TypeId) (sels : List Sel) : List String := sels.filterMap (rustNameB c ty)

/-- the body of a fragment on an abstract type: Rust field names and `on` pairwise distinct, at every level -/
def rustOkFragB (c : Ctx) (g : Nat) : Bool :=
  EnumSpec.nodup (rustNames c (fragSels c.q g) ++ ["on"]) && rustOkSelsV c (fragSels c.q g)

mutual
  /-- as `rustOkSelS`; at an abstract position the members for fragments on the abstract type itself count among the
      fields; a fragment on an abstract type: `rustOkFragB` -/
  def rustOkSelD (c : Ctx) : Sel → Bool
    | .field _ fid sub =>
      EnumSpec.nodup (rustNamesB c (fieldTy c fid) sub ++ (if isAbsField c fid then ["on"] else [])) &&
      rustOkSelsD c sub && (vtsOfField c fid).all (fun vt => EnumSpec.nodup (varRust c vt sub))
    | .inline _ isub => rustOkSelsD c isub
    | .spread g => (match c.q.fragments[g]? with
      | some f => if f.on.isAbstract then rustOkFragB c g else rustOkFrag c g
      | none => true)
    | .typename => true
  def rustOkSelsD (c : Ctx) : List Sel → Bool
    | [] => true
    | x :: xs => rustOkSelD c x && rustOkSelsD c xs
end

theorem rustOkSelsD_eq_all (c : Ctx) : ∀ sels, rustOkSelsD c sels = sels.all (rustOkSelD c) :=
  all_of_eqns (by rw [rustOkSelsD]) (fun x xs => by rw [rustOkSelsD])

theorem rustOkSelsD_mem {c : Ctx} : ∀ {sels : List Sel}, rustOkSelsD c sels = true →
    ∀ x ∈ sels, rustOkSelD c x = true :=
  fun {sels} h => List.all_eq_true.mp (rustOkSelsD_eq_all c sels ▸ h)

theorem rustOkSelsD_append {c : Ctx} {xs ys : List Sel} (h1 : rustOkSelsD c xs = true) (h2 : rustOkSelsD c ys = true) :
    rustOkSelsD c (xs ++ ys) = true := by
  rw [rustOkSelsD_eq_all] at h1 h2 ⊢
  rw [List.all_append, h1, h2]; rfl

def fcanonOfKD (s : Schema) (q : Query) (skip : Bool) (sels : List Sel) (f : RField) (v : Json) : Json :=
  match sels.find? (fun x => fieldKey s x == some f.wire) with
  | some x => canonFieldD s q skip x v
  | none => v

theorem rustOkFrag_of_D {c : Ctx} {g : Nat} {f : RFragment} {i : Nat} (h : rustOkSelD c (.spread g) = true)
    (hf : c.q.fragments[g]? = some f) (hon : f.on = .object i) : rustOkFrag c g = true := by
  simpa [rustOkSelD, hf, hon, TypeId.isAbstract] using h

section RTD
variable (e : Env) (c : Ctx)


def RTSelD (pfx : String) (x : Sel) : Prop :=
  ∀ abs, sSel c.s c.q c.o abs x = true → envSelS e c pfx x → rustOkSelD c x = true →
    ∀ f, fieldOfSelV c pfx x = some f →
    ∀ b fd fs, 2 * depthF c.q x + 1 ≤ fd → 2 * depthF c.q x ≤ fs → ∀ v y,
      strictFieldV c.s (expandSel c.q x) v = true → deFieldWith (dePath e b fd) f v = .ok y →
      serTyWith (serPath e fs) f.ty y = .ok (canonFieldD c.s c.q c.o.skipNone x v)


/-- round trip of the struct of an object-level selection set, from the round trips of its fields -/
theorem rtStructD (pfx name : String) (sels : List Sel) (H : ∀ x ∈ sels, RTSelD e c pfx x) (abs : Bool)
    (ht : sSels c.s c.q c.o abs sels = true) (henv : envSelsS e c pfx sels)
    (hro : rustOkSelsD c sels = true)
    (hrn : EnumSpec.nodup (rustNames c sels) = true)
    (hkeys : EnumSpec.nodup (respKeys c.s sels) = true)
    (hs : StructEnv e name (fieldsOfV c pfx sels)) (b : Bool) (fd fs : Nat)
    (hfd : 2 * depthsF c.q sels + 2 ≤ fd) (hfs : 2 * depthsF c.q sels + 1 ≤ fs) (kvs : List (String × Json))
    (hok : FieldsOkS c.s c.q sels kvs) (v : Val) (hd : dePath e b fd name (.obj kvs) = .ok v) :
    serPath e fs name v = .ok (.obj (canonEntriesD c.s c.q c.o.skipNone sels kvs)) := by
  obtain ⟨hp, _, n, d, cr, hfind⟩ := hs
  obtain ⟨hnd, hst⟩ := hok
  obtain ⟨fd', rfl⟩ : ∃ k, fd = k + 1 := ⟨fd - 1, by omega⟩
  obtain ⟨fs', rfl⟩ : ∃ k, fs = k + 1 := ⟨fs - 1, by omega⟩
  have hkn := nodup_iff'.mp hkeys
  have hfc : ∀ a fid sub, Sel.field a fid sub ∈ sels → ∀ sf, c.s.fields[fid]? = some sf → ∀ ft (j : Json),
      fcanonOfD c.s c.q c.o.skipNone sels (fieldOf c (a.getD sf.name) ft sf.ty.quals sf.deprecation) j =
        canonFieldD c.s c.q c.o.skipNone (.field a fid sub) j := by
    intro a fid sub hx sf hsf ft j
    unfold fcanonOfD
    rw [fieldOf_wire, find_respKey c.s _ sels hkn _ hx (by simp [respKey, hsf])]
  have key : ∀ f ∈ fieldsOfV c pfx sels, ∀ j, Json.lookup f.wire kvs = some j →
      ∃ a fid sub, Sel.field a fid sub ∈ sels ∧ fieldOfSelV c pfx (.field a fid sub) = some f ∧
        strictFieldV c.s (expandSel c.q (.field a fid sub)) j = true ∧
        fcanonOfD c.s c.q c.o.skipNone sels f j = canonFieldD c.s c.q c.o.skipNone (.field a fid sub) j := by
    intro f hf j hl
    obtain ⟨a, fid, sub, sf, ft, hx, hsf, hfx, rfl, _⟩ := mem_fieldsOfS hf ht
    rw [fieldOf_wire] at hl
    exact ⟨a, fid, sub, hx, hfx, hst a fid sub hx sf hsf j hl, hfc a fid sub hx sf hsf ft j⟩
  have hrt := struct_roundtrip_path e b fd' fs' name n d cr (fieldsOfV c pfx sels)
    (fcanonOfD c.s c.q c.o.skipNone sels) kvs hp hfind (plain_fieldsOfV c pfx sels)
    (by rw [rust_fieldsOfS c pfx abs sels ht]; exact nodup_iff'.mp hrn) hnd
    (by
      intro f hf j x hl hdx
      obtain ⟨a, fid, sub, hx, hfx, hst', hfc⟩ := key f hf j hl
      rw [hfc]
      have hdep := depthsF_mem c.q hx
      exact H _ hx abs (sSels_mem ht _ hx) (envSelsS_mem henv _ hx) (rustOkSelsD_mem hro _ hx) f hfx b fd' fs'
        (by omega) (by omega) j x hst' hdx)
    (optionAttrs_fieldsOfV c pfx sels).unit (optionAttrs_fieldsOfV c pfx sels).default v hd
  rw [hrt]
  congr 2
  apply expectOut_canonD c pfx abs _ kvs sels ht
  intro a fid sub hx f hfx v
  obtain ⟨sf, ft, hsf, _, hf', _⟩ := fieldOfSelV_s c pfx abs a fid sub (sSels_mem ht _ hx)
  rw [hf'] at hfx
  cases hfx
  exact hfc a fid sub hx sf hsf ft v


end RTD


/-- the entries the variant struct writes are `canonVarTD` -/
theorem flatMap_entriesF_varD (c : Ctx) (pfx : String) (vt : TypeId) (fc : RField → Json → Json)
    (mc : RField → List (String × Json)) (kvs : List (String × Json)) : ∀ (sub : List Sel),
    sSels c.s c.q c.o true sub = true →
    (∀ t isub, Sel.inline t isub ∈ sub → t = vt → ∀ a fid sub', Sel.field a fid sub' ∈ isub → ∀ f,
      fieldOfSelV c (pfx ++ "On" ++ c.cs.camel (objName c.s vt)) (.field a fid sub') = some f →
      ∀ v, fc f v = canonFieldD c.s c.q c.o.skipNone (.field a fid sub') v) →
    (∀ g fr, Sel.spread g ∈ sub → c.q.fragments[g]? = some fr → fr.on = vt →
      mc (memberField c fr) = canonEntriesV c.s c.o.skipNone fr.sels kvs) →
    (varFields c pfx vt sub).flatMap (entriesF fc mc kvs) = canonVarTD c.s c.q c.o.skipNone vt sub kvs
  | [], _, _, _ => rfl
  | x :: xs, ht, hfc, hmc => by
    obtain ⟨hx, hxs⟩ := sSels_cons ht
    have ih := flatMap_entriesF_varD c pfx vt fc mc kvs xs hxs
      (fun t isub hm => hfc t isub (List.mem_cons_of_mem _ hm))
      (fun g fr hm => hmc g fr (List.mem_cons_of_mem _ hm))
    rw [canonVarTD_cons, ← ih]
    cases x with
    | inline t isub =>
      rw [varFields, List.flatMap_append]
      simp only [entriesOn, inlEntries, fragEntries, spreadEntries, List.append_nil]
      by_cases htv : t = vt
      · subst htv
        simp only [sSel, Bool.and_eq_true] at hx
        simp only [beq_self_eq_true, ↓reduceIte]
        rw [flatMap_entriesF_plain fc mc kvs _ (plain_fieldsOfV c _ isub),
          expectOut_canonD c _ false fc kvs isub hx.1.2 (fun a fid sub' hm f hf v => hfc t isub (by simp) rfl a fid sub' hm f hf v)]
      · have hne : (t == vt) = false := by simpa using htv
        simp [hne]
    | spread g =>
      rw [varFields, List.flatMap_append]
      simp only [entriesOn, inlEntries, fragEntries, spreadEntries, List.nil_append]
      cases hf : c.q.fragments[g]? with
      | none => rfl
      | some fr =>
        simp only []
        by_cases htv : fr.on = vt
        · simp only [htv, beq_self_eq_true, ↓reduceIte, List.flatMap_cons, List.flatMap_nil, List.append_nil]
          simp only [entriesF, memberField, ↓reduceIte]
          have := hmc g fr (by simp) hf htv
          simp only [memberField] at this
          rw [this]
        · have hne : (fr.on == vt) = false := by simpa using htv
          simp [hne]
    | field a fid sub => rfl
    | typename => rfl


section RTD2
variable (e : Env) (c : Ctx)


/-- **round trip of the variant struct** (own fields of the inline fragment and flattened fragment members) -/
theorem rtVarStructD (pfx : String) (ty : TypeId) (rt : Nat) (sub : List Sel)
    (HI : ∀ x ∈ ownSels (.object rt) sub, RTSelD e c (pfx ++ "On" ++ c.cs.camel (objName c.s (.object rt))) x)
    (hty : absHyp c.s ty) (ht : sSels c.s c.q c.o true sub = true) (hok : absOkS c.s c.q c.o ty sub = true)
    (henv : envSelsS e c pfx sub) (hro : rustOkSelsD c sub = true)
    (hvt : TypeId.object rt ∈ vtsOfTy c.s ty)
    (hrn : (varRust c (.object rt) sub).Nodup)
    (hs : StructEnv e (pfx ++ "On" ++ objName c.s (.object rt)) (varFields c pfx (.object rt) sub))
    (fd fs : Nat) (hfd : 2 * depthsF c.q sub + 1 ≤ fd) (hfs : 2 * depthsF c.q sub ≤ fs) (hpos : 1 ≤ depthsF c.q sub)
    (kvs : List (String × Json)) (hownok : FieldsOkS c.s c.q (ownSels (.object rt) sub) kvs)
    (hmemok : ∀ g fr, Sel.spread g ∈ sub → c.q.fragments[g]? = some fr → fr.on = .object rt →
      StrictAt c.s fr.sels kvs)
    (x : Val) (hd : dePath e true fd (pfx ++ "On" ++ objName c.s (.object rt)) (.obj kvs) = .ok x) :
    serPath e fs (pfx ++ "On" ++ objName c.s (.object rt)) x =
      .ok (.obj (canonVarTD c.s c.q c.o.skipNone (.object rt) sub kvs)) := by
  obtain ⟨hp, _, n, d, cr, hfind⟩ := hs
  obtain ⟨hnd, hst⟩ := hownok
  have hsp := spreadsA_abs hty hok
  obtain ⟨hok1, _, hvk⟩ := absOkS_parts hok
  obtain ⟨fuel, rfl⟩ : ∃ k, fd = k + 2 := ⟨fd - 2, by omega⟩
  obtain ⟨fs', rfl⟩ : ∃ k, fs = k + 2 := ⟨fs - 2, by omega⟩
  have hcnt := countKey_le_one_of_nodup hnd
  have hvne : TypeId.object rt ≠ ty := obj_ne_abs hty rt
  obtain ⟨h1, _, h3, h4⟩ := var_flat_hyps e c pfx ty (.object rt) hvne ⟨rt, rfl⟩ sub ht hsp henv (hvk _ hvt)
  have hrust : ((varFields c pfx (.object rt) sub).map (·.rust)).Nodup := by
    rw [rust_varFields c pfx _ sub ht]; exact hrn
  rw [dePath_struct e true (fuel + 1) _ n d cr _ hp hfind, deStruct_obj] at hd
  obtain ⟨vals, rfl, hownf, hmemf⟩ := deStruct_flat_finds e fuel _ _ kvs hcnt hrust (fun g hg hf => (h1 g hg hf).1) h3 h4 x hd
  -- the own fields: those of the inline fragment on the type
  have hown_eq : (varFields c pfx (.object rt) sub).filter (fun f => !f.flatten) =
      fieldsOfV c (pfx ++ "On" ++ c.cs.camel (objName c.s (.object rt))) (ownSels (.object rt) sub) := by
    rw [varFields_own, varOwn_ownSels]
  have hinl : ∀ isub, Sel.inline (.object rt) isub ∈ sub →
      sSels c.s c.q c.o false isub = true ∧
      envSelsS e c (pfx ++ "On" ++ c.cs.camel (objName c.s (.object rt))) isub ∧
      rustOkSelsD c isub = true ∧
      depthsF c.q isub + 1 ≤ depthsF c.q sub := by
    intro isub hy
    have hvy := sSels_mem ht _ hy
    simp only [sSel, Bool.and_eq_true] at hvy
    have hey := envSelsS_mem henv _ hy
    rw [envSelS] at hey
    have hry := rustOkSelsD_mem hro _ hy
    rw [rustOkSelD] at hry
    have hdep := depthsF_mem c.q hy
    rw [depthF] at hdep
    exact ⟨hvy.1.2, hey, hry, by omega⟩
  have hownS := ownSels_ind (P := fun l => sSels c.s c.q c.o false l = true ∧
      envSelsS e c (pfx ++ "On" ++ c.cs.camel (objName c.s (.object rt))) l ∧
      rustOkSelsD c l = true ∧
      depthsF c.q l + 1 ≤ depthsF c.q sub) (.object rt)
    ⟨rfl, trivial, rfl, by simp only [depthsF]; omega⟩
    (fun xs ys hx hy => ⟨sSels_append hx.1 hy.1, envSelsS_append hx.2.1 hy.2.1, rustOkSelsD_append hx.2.2.1 hy.2.2.1,
      by rw [depthsF_append]; omega⟩) sub hinl
  obtain ⟨hoS, hoE, hoR, hoD⟩ := hownS
  have hkn : (fieldKeys c.s (ownSels (.object rt) sub)).Nodup :=
    (fieldKeys_ownSels_sublist c.s c.q (.object rt) sub).nodup (hvk _ hvt)
  -- the members
  have hmemrt : ∀ gid fr, Sel.spread gid ∈ sub → c.q.fragments[gid]? = some fr → fr.on = .object rt →
      ∃ y, vals.find? (·.1 == (memberField c fr).rust) = some ((memberField c fr).rust, y) ∧
        serTyWith (serPath e (fs' + 1)) (memberField c fr).ty y =
          .ok (.obj (canonEntriesV c.s c.o.skipNone fr.sels kvs)) := by
    intro gid fr hm hfr hon
    obtain ⟨fr', hokg, hfr', _⟩ := hsp.onVt hvne hm (by simp [selOn, hfr, hon])
    rw [hfr] at hfr'; cases hfr'
    have henvg : FragEnv e c gid := fragEnv_of_S (envSelsS_mem henv _ hm) hfr hon
    have hrog : rustOkFrag c gid = true := rustOkFrag_of_D (rustOkSelsD_mem hro _ hm) hfr hon
    have hgmem : memberField c fr ∈ varFields c pfx (.object rt) sub := mem_varFields_of_spread hfr hon hm
    obtain ⟨own, hown, hfindg⟩ := hmemf _ hgmem rfl
    rw [(memberFields_member e c gid fr hfr henvg).1] at hown
    refine ⟨_, hfindg, ?_⟩
    have hdep := depthsF_mem c.q hm
    rw [depthF] at hdep
    have hsels : fragSels c.q gid = fr.sels := by simp [fragSels, hfr]
    rw [hsels] at hdep
    exact rtMemberS e c rt gid fr hfr hokg henvg hrog fuel fs' (by omega) (by omega) kvs hnd
      (hmemok gid fr hm hfr hon) own hown
  let mc : RField → List (String × Json) := fun g =>
    match vals.find? (·.1 == g.rust) with
    | some (_, y) => (match serTyWith (serPath e (fs' + 1)) g.ty y with | .ok (.obj o) => o | _ => [])
    | none => []
  have hmc : ∀ gid fr, Sel.spread gid ∈ sub → c.q.fragments[gid]? = some fr → fr.on = .object rt →
      mc (memberField c fr) = canonEntriesV c.s c.o.skipNone fr.sels kvs := by
    intro gid fr hm hfr hon
    obtain ⟨y, hf, hser⟩ := hmemrt gid fr hm hfr hon
    simp only [mc, hf, hser]
  have hfcanon : ∀ a fid sub', Sel.field a fid sub' ∈ ownSels (.object rt) sub → ∀ f,
      fieldOfSelV c (pfx ++ "On" ++ c.cs.camel (objName c.s (.object rt))) (.field a fid sub') = some f →
      ∀ v, fcanonOfKD c.s c.q c.o.skipNone (ownSels (.object rt) sub) f v =
        canonFieldD c.s c.q c.o.skipNone (.field a fid sub') v := by
    intro a fid sub' hx f hfx v
    obtain ⟨sf, ft, hsf, _, hf', _⟩ := fieldOfSelV_s c _ false a fid sub' (sSels_mem hoS _ hx)
    rw [hf'] at hfx
    cases hfx
    unfold fcanonOfKD
    rw [fieldOf_wire, find_fieldKey c.s _ _ hkn _ hx (by simp [fieldKey, hsf])]
  have hnonfl : ∀ f ∈ varFields c pfx (.object rt) sub, f.flatten = false →
      f ∈ fieldsOfV c (pfx ++ "On" ++ c.cs.camel (objName c.s (.object rt))) (ownSels (.object rt) sub) := by
    intro f hf hfl
    rw [← hown_eq]; exact List.mem_filter.mpr ⟨hf, by simp [hfl]⟩
  rw [serPath_struct e (fs' + 1) _ n d cr _ hfind,
    ser_flat (dePath e true (fuel + 1)) (serPath e (fs' + 1)) (fcanonOfKD c.s c.q c.o.skipNone (ownSels (.object rt) sub))
      mc kvs vals (varFields c pfx (.object rt) sub) hownf ?_ ?_ ?_ ?_]
  · rw [flatMap_entriesF_varD c pfx (.object rt) _ mc kvs sub ht ?_ hmc]
    · rfl
    · intro t isub hm htv a fid sub' hx f hfx v
      subst htv
      exact hfcanon a fid sub' (mem_ownSels_of hm hx) f hfx v
  · intro f hf hfl j y hl hdx
    obtain ⟨a, fid, sub', sf, ft, hx, hsf, hfx, rfl, _⟩ := mem_fieldsOfS (hnonfl f hf hfl) hoS
    rw [fieldOf_wire] at hl
    rw [hfcanon a fid sub' hx _ hfx j]
    have hdep := depthsF_mem c.q hx
    exact HI _ hx false (sSels_mem hoS _ hx) (envSelsS_mem hoE _ hx) (rustOkSelsD_mem hoR _ hx) _ hfx
      true (fuel + 1) (fs' + 1) (by omega) (by omega) j y (hst a fid sub' hx sf hsf j hl) hdx
  · exact fun f hf hfl => (optionAttrs_fieldsOfV c _ _).unit f (hnonfl f hf hfl)
  · exact fun f hf hfl => (optionAttrs_fieldsOfV c _ _).default f (hnonfl f hf hfl)
  · intro g hg hfl
    obtain ⟨gid, fr, hm, hfr, hon, rfl⟩ := mem_varFields_flatten hg hfl
    obtain ⟨y, hf, hser⟩ := hmemrt gid fr hm hfr hon
    exact ⟨y, hf, by rw [hser, hmc gid fr hm hfr hon]⟩


/-- **round trip of the payload of the variant of the runtime type**: the alias of a fragment struct, or the variant
    struct — written back as `canonVarTD` of the entries it read -/
theorem rtVariantD (pfx : String) (ty : TypeId) (rt : Nat) (sub : List Sel)
    (HI : ∀ x ∈ ownSels (.object rt) sub, RTSelD e c (pfx ++ "On" ++ c.cs.camel (objName c.s (.object rt))) x)
    (hty : absHyp c.s ty) (ht : sSels c.s c.q c.o true sub = true) (hok : absOkS c.s c.q c.o ty sub = true)
    (henv : envSelsS e c pfx sub) (hve : VarEnv e c pfx (.object rt) sub) (hro : rustOkSelsD c sub = true)
    (hvt : TypeId.object rt ∈ vtsOfTy c.s ty) (hrn : (varRust c (.object rt) sub).Nodup)
    (fd fs : Nat) (hfd : 2 * depthsF c.q sub + 1 ≤ fd) (hfs : 2 * depthsF c.q sub ≤ fs)
    (kvs : List (String × Json)) (hownok : FieldsOkS c.s c.q (ownSels (.object rt) sub) kvs)
    (hmemok : ∀ g fr, Sel.spread g ∈ sub → c.q.fragments[g]? = some fr → fr.on = .object rt →
      StrictAt c.s fr.sels kvs)
    (hne : mineOf c.q (.object rt) sub ≠ [])
    (x : Val) (hd : dePath e true fd (pfx ++ "On" ++ objName c.s (.object rt)) (.obj kvs) = .ok x) :
    serPath e fs (pfx ++ "On" ++ objName c.s (.object rt)) x =
      .ok (.obj (canonVarTD c.s c.q c.o.skipNone (.object rt) sub kvs)) := by
  have hsp := spreadsA_abs hty hok
  have hmem : ∀ y ∈ mineOf c.q (.object rt) sub, y ∈ sub ∧ selOn c.q y = some (.object rt) := fun y hy => mem_mineOf hy
  have hpos : 1 ≤ depthsF c.q sub := by
    cases hmm : mineOf c.q (.object rt) sub with
    | nil => exact absurd hmm hne
    | cons y ys => exact depthsF_pos_of_mem c.q (hmem y (by rw [hmm]; simp)).1
  unfold VarEnv at hve
  by_cases hs : ∃ g, mineOf c.q (.object rt) sub = [Sel.spread g]
  · -- the alias of the fragment struct
    obtain ⟨g, hg⟩ := hs
    have hgm := hmem (.spread g) (by rw [hg]; simp)
    obtain ⟨fr, hfok, hfr, hon⟩ := hsp.onVt (obj_ne_abs hty rt) hgm.1 hgm.2
    rw [hg] at hve
    simp only at hve
    obtain ⟨hp, _, n, pub, hfinda⟩ := hve
    have hname : fragName c g = fr.name := by simp [fragName, hfr]
    rw [hname] at hfinda
    obtain ⟨fr', hfr', _, _, hv, hkeys⟩ := fragOk_parts hfok
    rw [hfr] at hfr'; cases hfr'
    have hfe : FragEnv e c g := fragEnv_of_S (envSelsS_mem henv _ hgm.1) hfr hon
    unfold FragEnv at hfe
    rw [hfr] at hfe
    have hrog : rustOkFrag c g = true := rustOkFrag_of_D (rustOkSelsD_mem hro _ hgm.1) hfr hon
    have hsels : fragSels c.q g = fr.sels := by simp [fragSels, hfr]
    simp only [rustOkFrag, hsels, Bool.and_eq_true] at hrog
    have hdep := depthsF_mem c.q hgm.1
    rw [depthF, hsels] at hdep
    obtain ⟨fd', rfl⟩ : ∃ k, fd = k + 1 := ⟨fd - 1, by omega⟩
    obtain ⟨fs', rfl⟩ : ∃ k, fs = k + 2 := ⟨fs - 2, by omega⟩
    have hda : dePath e true (fd' + 1) (pfx ++ "On" ++ objName c.s (.object rt)) (.obj kvs) =
        dePath e true fd' fr.name (.obj kvs) := by
      rw [dePath]; simp only [dePrim_none hp, hfinda, deTyWith]
    rw [hda] at hd
    rw [serPath_alias e _ _ n pub hfinda fs' x]
    rw [rtStructV e c _ _ fr.sels (fun y hy => (rtSelsV e c fr.sels _ y hy).1) false hv hfe.2 hrog.2 hrog.1 hkeys hfe.1
      true fd' (fs' + 1) (by omega) (by omega) kvs ⟨hownok.1, hmemok g fr hgm.1 hfr hon⟩ x hd]
    rw [← canonVarTD_mineOf, hg]
    simp [canonVarTD, entriesOn, inlEntries, fragEntries, spreadEntries, hfr, hon]
  · -- the variant struct
    have hs' : ∀ g, mineOf c.q (.object rt) sub ≠ [Sel.spread g] := fun g hg => hs ⟨g, hg⟩
    have hstruct : StructEnv e (pfx ++ "On" ++ objName c.s (.object rt)) (varFields c pfx (.object rt) sub) := by
      revert hve
      split
      · rename_i h; exact absurd h hne
      · rename_i g h; exact absurd h (hs' g)
      · exact id
    exact rtVarStructD e c pfx ty rt sub HI hty ht hok henv hro hvt hrn hstruct fd fs hfd hfs hpos kvs hownok hmemok x hd


/-- **round trip of the `__typename`-tagged enum** of an abstract position, read from the entries `kvs.filter q'` of a
    conforming response object (`q'` keeps the tag and every key that is no interface-level response key) -/
theorem rtTaggedD (pfx p : String) (ty : TypeId) (sub : List Sel)
    (HI : ∀ t isub, Sel.inline t isub ∈ sub → ∀ x ∈ isub, RTSelD e c (pfx ++ "On" ++ c.cs.camel (objName c.s t)) x)
    (hty : absHyp c.s ty) (ht : sSels c.s c.q c.o true sub = true) (hok : absOkS c.s c.q c.o ty sub = true)
    (henv : envSelsS e c pfx sub) (hve : ∀ vt ∈ vtsOfTy c.s ty, VarEnv e c pfx vt sub)
    (hro : rustOkSelsD c sub = true) (hrn : ∀ vt ∈ vtsOfTy c.s ty, (varRust c vt sub).Nodup)
    (hs : TaggedEnv e p (variantsV c pfx ty (marks c.q sub)))
    (rt : Nat) (kvs : List (String × Json)) (hnd : (kvs.map (·.1)).Nodup)
    (hconf : confSelsV c.s rt (expandSels c.q sub) kvs = true)
    (htag : Json.lookup "__typename" kvs = some (.str (rtName c.s rt))) (hmem : TypeId.object rt ∈ vtsOfTy c.s ty)
    (q' : String × Json → Bool) (hqt : ∀ v, q' ("__typename", v) = true)
    (hqi : ∀ k, k ∉ respKeys c.s sub → ∀ v, q' (k, v) = true)
    (buffered : Bool) (fd fs : Nat) (hfd : 2 * depthsF c.q sub + 1 ≤ fd) (hfs : 2 * depthsF c.q sub ≤ fs) (r : Val)
    (hd : deTaggedWith (dePath e true fd) buffered "__typename" (variantsV c pfx ty (marks c.q sub)) (kvs.filter q') = .ok r) :
    (∃ payload, r = .variant (rtName c.s rt) payload) ∧
    serPath e (fs + 1) p r = .ok (.obj (("__typename", .str (rtName c.s rt)) ::
      canonVarD c.s c.q c.o.skipNone (rtName c.s rt) sub kvs)) := by
  obtain ⟨hok1, hsp, _⟩ := absOkS_parts hok
  obtain ⟨htn, hrk, hobj, _, hvn, hin, hind, hexcl⟩ := absOk2_parts hok1
  obtain ⟨hp, _, n, d, cr, hfind⟩ := hs
  have hcnt := countKey_le_one_of_nodup hnd
  have hl2 : Json.lookup "__typename" (kvs.filter q') = some (.str (rtName c.s rt)) := by
    rw [lookup_filter q' _ hqt]; exact htag
  have hc2 : countKey "__typename" (kvs.filter q') = 1 := by
    rw [countKey_filter q' _ hqt]
    have := countKey_pos_of_lookup htag
    have := hcnt "__typename"
    omega
  obtain ⟨hw1, hw2, hw3⟩ := variantOf_wire c pfx (marks c.q sub) (.object rt)
  have hvmem : variantOf c pfx (marks c.q sub) (.object rt) ∈ variantsV c pfx ty (marks c.q sub) := by
    unfold variantsV
    exact List.mem_append_left _ (List.mem_map_of_mem hmem)
  have hnames : ((vtsOfTy c.s ty).map (objName c.s)).Nodup := by
    unfold variantNames at hvn
    exact (List.nodup_append.mp hvn).1
  have htyn : "__typename" ∈ respKeys c.s sub := List.mem_filterMap.mpr ⟨_, typename_mem htn, rfl⟩
  -- the filter of the payload keeps every key that is no interface-level response key
  have hrest_q : ∀ k, k ∉ respKeys c.s sub → ∀ v,
      ((fun kv : String × Json => kv.1 != "__typename") (k, v) && q' (k, v)) = true := by
    intro k hk v
    have h2 : k ≠ "__typename" := fun heq => hk (heq ▸ htyn)
    simp [hqi k hk v, h2]
  have hcv : canonVarD c.s c.q c.o.skipNone (rtName c.s rt) sub kvs =
      canonVarTD c.s c.q c.o.skipNone (.object rt) sub kvs :=
    canonVarD_eq c.s c.q c.o.skipNone (.object rt) kvs _ hnames hmem ⟨rt, rfl⟩ sub
      (fun t isub hm => hin t (List.mem_filterMap.mpr ⟨_, hm, rfl⟩))
      (fun g f i hg hf hon => by
        obtain ⟨_, hon', hvt, _⟩ := absOkS_onA hok hg hf (by rw [hon]; exact obj_ne_abs hty i)
        rw [hon']; exact hvt)
  have hrt := tagged_roundtrip e fd fs buffered p n d cr "__typename" (variantsV c pfx ty (marks c.q sub)) (kvs.filter q')
    (variantOf c pfx (marks c.q sub) (.object rt)) (fun _ => canonVarD c.s c.q c.o.skipNone (rtName c.s rt) sub kvs) hfind
    (by rw [(variantsV_wire c pfx ty _).1]; exact hvn) (by rw [(variantsV_wire c pfx ty _).2]; exact hvn)
    hvmem hw3 hc2 (by rw [hw1]; exact hl2)
    (by
      intro t hpl x hx
      unfold variantOf at hpl
      rw [marks_contains] at hpl
      split at hpl
      · rename_i hcont
        simp only [Option.some.injEq] at hpl
        subst hpl
        have hne : mineOf c.q (.object rt) sub ≠ [] := by
          intro h; rw [h] at hcont; simp at hcont
        rw [List.filter_filter] at hx
        have hkeep : ∀ k ∈ varKeys c.s c.q (.object rt) sub, ∀ v,
            ((fun kv : String × Json => kv.1 != "__typename") (k, v) && q' (k, v)) = true :=
          fun k hk v => hrest_q k (varKeys_excl hok (obj_ne_abs hty rt) k hk) v
        have hI := rtVariantD e c pfx ty rt sub
          (fun y hy => by obtain ⟨isub, h1, h2⟩ := mem_ownSels hy; exact HI _ isub h1 y h2)
          hty ht hok henv (hve _ hmem) hro hmem (hrn _ hmem) fd fs hfd hfs
          (kvs.filter (fun kv => (kv.1 != "__typename") && q' kv))
          ⟨(List.filter_sublist.map _).nodup hnd, by
            intro a fid sub' hmf sf hsf v hl
            obtain ⟨isub, hi1, hi2⟩ := mem_ownSels hmf
            have hk : ∀ v, (fun kv : String × Json => (kv.1 != "__typename") && q' kv) (a.getD sf.name, v) = true :=
              fun v => hrest_q _ (hexcl _ isub hi1 _ (List.mem_filterMap.mpr ⟨_, hi2, by simp [fieldKey, hsf]⟩)) v
            rw [lookup_filter _ _ hk] at hl
            have hconf_i : confSelsV c.s rt (expandSels c.q isub) kvs = true := by
              have := confSelsV_mem hconf _ (expandSels_mem c.q hi1)
              simpa [expandSel, confSelV, fragApplies] using this
            exact (fieldsOkS_of_conf hnd hconf_i).2 a fid sub' hi2 sf hsf v hl⟩
          (by
            intro g fr hg hfr hon a fid sub' hmf sf hsf v hl
            obtain ⟨_, _, _, _, _, hkeys⟩ := absOkS_onA hok hg hfr (by rw [hon]; exact obj_ne_abs hty rt)
            have hk : ∀ v, (fun kv : String × Json => (kv.1 != "__typename") && q' kv) (a.getD sf.name, v) = true :=
              fun v => hrest_q _ (hkeys _ (List.mem_filterMap.mpr ⟨_, hmf, by simp [fieldKey, hsf]⟩)) v
            rw [lookup_filter _ _ hk] at hl
            have hconf_g : confSelsV c.s rt fr.sels kvs = true := by
              have := confSelsV_mem hconf _ (expandSels_mem c.q hg)
              simpa [expandSel, hfr, confSelV, hon, fragApplies] using this
            exact strictAt_of_conf hconf_g a fid sub' hmf sf hsf v hl)
          hne x hx
        rw [show serTyWith (serPath e fs) (.path (pfx ++ "On" ++ objName c.s (.object rt))) x =
          serPath e fs (pfx ++ "On" ++ objName c.s (.object rt)) x from rfl, hI,
          canonVarTD_filter c.s c.q c.o.skipNone _ _ kvs sub hkeep, hcv]
      · cases hpl)
  obtain ⟨_, hval⟩ := hrt
  obtain ⟨⟨payload, hpv⟩, out, hser, hout, _⟩ := hval r hd
  rw [hw2] at hpv
  refine ⟨⟨payload, hpv⟩, ?_⟩
  rw [hser, hout, hw1]
  congr 3
  -- unit variant: nothing selected on `rt`
  unfold variantOf
  rw [marks_contains]
  split
  · rfl
  · rename_i hcont
    have hm : mineOf c.q (.object rt) sub = [] := by
      cases hmm : mineOf c.q (.object rt) sub with
      | nil => rfl
      | cons y ys => rw [hmm] at hcont; simp at hcont
    simp only [Option.isSome_none, Bool.false_eq_true, ↓reduceIte]
    rw [hcv, ← canonVarTD_mineOf, hm]; rfl


end RTD2

/-- **what a struct all of whose flattened members borrow read, found again by name**: the own fields from the object,
    every member what its type reads of the entries the own fields left -/
theorem deStruct_borrow_finds (e : Env) (fuel : Nat) (pathD : String → Json → D Val) (fields : List RField)
    (kvs : List (String × Json)) (hcnt : ∀ k, countKey k kvs ≤ 1) (hrust : (fields.map (·.rust)).Nodup)
    (hany : fields.any (·.flatten) = true) (hb : ∀ g ∈ fields, g.flatten = true → Borrows e g)
    (v : Val) (hd : deStructMapWith pathD (deFlat e (fuel + 1)) fields kvs = .ok v) :
    ∃ vals, v = .record vals ∧
      (∀ f ∈ fields, f.flatten = false → ∃ x, vals.find? (·.1 == f.rust) = some (f.rust, x) ∧
        readField pathD f kvs = .ok x) ∧
      (∀ g ∈ fields, g.flatten = true → ∃ x,
        readB e fuel g (kvs.filter (fun kv => !((fields.filter (fun f => !f.flatten)).map (·.wire)).contains kv.1)) = .ok x ∧
        vals.find? (·.1 == g.rust) = some (g.rust, x)) :=
  deStruct_finds_with _ _ pathD fields kvs hcnt hrust (fun _ => deStructMap_borrow e fuel pathD fields kvs hany hb) v hd

/-! ## the struct at an abstract position: fields, Rust names, entries -/

theorem mem_fieldsB_flatten {c : Ctx} {pfx : String} {ty : TypeId} : ∀ {sub : List Sel} {g : RField},
    g ∈ fieldsB c pfx ty sub → g.flatten = true →
    ∃ gid fr, Sel.spread gid ∈ sub ∧ c.q.fragments[gid]? = some fr ∧ fr.on = ty ∧ g = spreadField c fr
  | [], g, hg, _ => by simp [fieldsB] at hg
  | x :: xs, g, hg, hfl => by
    rw [fieldsB_cons, List.mem_append] at hg
    rcases hg with hg | hg
    · cases x with
      | field a fid sub =>
        simp only [fieldOfSelB, fieldOfSelV] at hg
        split at hg
        · simp at hg
        · split at hg
          · simp at hg
          · simp only [Option.toList, List.mem_singleton] at hg; subst hg; simp [fieldOf] at hfl
      | spread gid =>
        cases hf : c.q.fragments[gid]? with
        | none => simp [fieldOfSelB, hf] at hg
        | some fr =>
          simp only [fieldOfSelB, hf] at hg
          by_cases hon : fr.on = ty
          · simp only [hon, beq_self_eq_true, ↓reduceIte, Option.toList, List.mem_singleton] at hg
            exact ⟨gid, fr, by simp, hf, hon, hg⟩
          · have hne : (fr.on == ty) = false := by simpa using hon
            simp [hne] at hg
      | inline t sub => simp [fieldOfSelB, fieldOfSelV] at hg
      | typename => simp [fieldOfSelB, fieldOfSelV] at hg
    · obtain ⟨gid, fr, h1, h2⟩ := mem_fieldsB_flatten hg hfl
      exact ⟨gid, fr, List.mem_cons_of_mem _ h1, h2⟩

theorem rust_fieldsB_fieldsS (c : Ctx) (pfx : String) (ty : TypeId) : ∀ (sub : List Sel), FieldsS c true sub →
    (fieldsB c pfx ty sub).map (·.rust) = rustNamesB c ty sub
  | [], _ => rfl
  | x :: xs, ht => by
    have ih := rust_fieldsB_fieldsS c pfx ty xs ht.tail
    rw [fieldsB_cons, List.map_append, ih]
    cases x with
    | field a fid sub =>
      obtain ⟨sf, ft, hsf, _, hf, _⟩ := fieldOfSelV_s c pfx true a fid sub (ht a fid sub List.mem_cons_self)
      simp [fieldOfSelB, hf, rustNamesB, rustNameB, rustName, hsf, fieldOf]
    | spread g =>
      cases hf : c.q.fragments[g]? with
      | none => simp [fieldOfSelB, hf, rustNamesB, rustNameB]
      | some f =>
        by_cases hon : f.on = ty
        · simp [fieldOfSelB, hf, hon, rustNamesB, rustNameB, spreadField]
        · have hne : (f.on == ty) = false := by simpa using hon
          simp [fieldOfSelB, hf, hne, rustNamesB, rustNameB]
    | inline t sub => simp [fieldOfSelB, fieldOfSelV, rustNamesB, List.filterMap_cons, rustNameB, rustName]
    | typename => simp [fieldOfSelB, fieldOfSelV, rustNamesB, List.filterMap_cons, rustNameB, rustName]

theorem rust_fieldsB (c : Ctx) (pfx : String) (ty : TypeId) (sub : List Sel) (ht : sSels c.s c.q c.o true sub = true) :
    (fieldsB c pfx ty sub).map (·.rust) = rustNamesB c ty sub :=
  rust_fieldsB_fieldsS c pfx ty sub (fieldsS_of_sSels ht)

theorem rustNamesB_noB (c : Ctx) (ty : TypeId) : ∀ (sels : List Sel), noBAt c.q ty sels = true →
    rustNamesB c ty sels = rustNames c sels
  | [], _ => rfl
  | x :: xs, h => by
    simp only [noBAt, List.any_cons, Bool.not_or, Bool.and_eq_true, Bool.not_eq_true'] at h
    have ih := rustNamesB_noB c ty xs (by simp [noBAt, h.2])
    unfold rustNamesB rustNames at ih ⊢
    rw [List.filterMap_cons, List.filterMap_cons, ih]
    cases x with
    | spread g =>
      have h1 := h.1
      cases hf : c.q.fragments[g]? with
      | none => simp [rustNameB, hf, rustName]
      | some f =>
        simp only [isBSpread, hf] at h1
        simp [rustNameB, hf, h1, rustName]
    | field a fid sub => rfl
    | inline t sub => rfl
    | typename => rfl

theorem rustNamesB_noSpread (c : Ctx) (ty : TypeId) : ∀ (sels : List Sel), (∀ g, Sel.spread g ∉ sels) →
    rustNamesB c ty sels = rustNames c sels :=
  fun sels h => rustNamesB_noB c ty sels (by simp [noBAt, any_isBSpread_noSpread c.q ty h])

/-- the entries the struct at an abstract position writes for its own fields and the members for fragments on the abstract
    type itself are `canonEntriesBD` -/
theorem flatMap_entriesF_B_fieldsS (c : Ctx) (pfx : String) (ty : TypeId) (rest : List (String × Json))
    (fc : RField → Json → Json) (mc : RField → List (String × Json)) (kvs : List (String × Json)) : ∀ (sub : List Sel),
    FieldsS c true sub →
    (∀ a fid sub', Sel.field a fid sub' ∈ sub → ∀ f, fieldOfSelV c pfx (.field a fid sub') = some f →
      ∀ v, fc f v = canonFieldD c.s c.q c.o.skipNone (.field a fid sub') v) →
    (∀ g fr, Sel.spread g ∈ sub → c.q.fragments[g]? = some fr → fr.on = ty →
      mc (spreadField c fr) = absEntries (canonAbsV c.s c.o.skipNone fr.sels (.obj rest))) →
    (fieldsB c pfx ty sub).flatMap (entriesF fc mc kvs) = canonEntriesBD c.s c.q c.o.skipNone ty rest sub kvs
  | [], _, _, _ => by simp [fieldsB, canonEntriesBD]
  | x :: xs, ht, hfc, hmc => by
    have ih := flatMap_entriesF_B_fieldsS c pfx ty rest fc mc kvs xs ht.tail
      (fun a fid sub hm => hfc a fid sub (List.mem_cons_of_mem _ hm))
      (fun g fr hm => hmc g fr (List.mem_cons_of_mem _ hm))
    rw [fieldsB_cons, List.flatMap_append, ih]
    cases x with
    | field a fid sub =>
      obtain ⟨sf, ft, hsf, _, hf, _⟩ := fieldOfSelV_s c pfx true a fid sub (ht a fid sub List.mem_cons_self)
      rw [canonEntriesBD.eq_2]
      simp only [fieldOfSelB, hf, Option.toList, List.flatMap_cons, List.flatMap_nil, List.append_nil, entriesF, fieldOf,
        Bool.false_eq_true, ↓reduceIte]
      have := expectOut_cons fc (fieldOf c (a.getD sf.name) ft sf.ty.quals sf.deprecation) [] kvs
      simp only [fieldOf] at this
      rw [this]
      simp only [hsf, expectOut, List.filterMap_nil, List.append_nil]
      have hw := fieldOf_wire c (a.getD sf.name) ft sf.ty.quals sf.deprecation
      simp only [fieldOf] at hw
      simp only [hw, Bool.and_assoc]
      have hfc' := hfc a fid sub (by simp) _ hf
      simp only [fieldOf] at hfc'
      cases Json.lookup (a.getD sf.name) kvs with
      | none => rfl
      | some v => simp only [hfc' v]
    | spread g =>
      rw [canonEntriesBD.eq_3]
      cases hf : c.q.fragments[g]? with
      | none => simp [fieldOfSelB, hf]
      | some fr =>
        by_cases hon : fr.on = ty
        · have := hmc g fr (by simp) hf hon
          simp only [spreadField] at this
          simp [fieldOfSelB, hf, hon, entriesF, spreadField, this]
        · have hne : (fr.on == ty) = false := by simpa using hon
          simp [fieldOfSelB, hf, hne]
    | inline t sub => simp [fieldOfSelB, fieldOfSelV, canonEntriesBD]
    | typename => simp [fieldOfSelB, fieldOfSelV, canonEntriesBD]

theorem flatMap_entriesF_B (c : Ctx) (pfx : String) (ty : TypeId) (rest : List (String × Json))
    (fc : RField → Json → Json) (mc : RField → List (String × Json)) (kvs : List (String × Json)) (sub : List Sel)
    (ht : sSels c.s c.q c.o true sub = true) :
    (∀ a fid sub', Sel.field a fid sub' ∈ sub → ∀ f, fieldOfSelV c pfx (.field a fid sub') = some f →
      ∀ v, fc f v = canonFieldD c.s c.q c.o.skipNone (.field a fid sub') v) →
    (∀ g fr, Sel.spread g ∈ sub → c.q.fragments[g]? = some fr → fr.on = ty →
      mc (spreadField c fr) = absEntries (canonAbsV c.s c.o.skipNone fr.sels (.obj rest))) →
    (fieldsB c pfx ty sub).flatMap (entriesF fc mc kvs) = canonEntriesBD c.s c.q c.o.skipNone ty rest sub kvs :=
  flatMap_entriesF_B_fieldsS c pfx ty rest fc mc kvs sub (fieldsS_of_sSels ht)

theorem canonEntriesBD_nostruct (s : Schema) (q : Query) (skip : Bool) (ty : TypeId) (rest kvs : List (String × Json)) :
    ∀ (sub : List Sel), hasStruct q ty sub = false → canonEntriesBD s q skip ty rest sub kvs = []
  | [], _ => by simp [canonEntriesBD]
  | x :: xs, h => by
    simp only [hasStruct, List.any_cons, Bool.or_eq_false_iff] at h
    have ih := canonEntriesBD_nostruct s q skip ty rest kvs xs (by simp [hasStruct, h.1.2, h.2.2])
    cases x with
    | field a fid sub => simp [isFieldSel] at h
    | spread g =>
      have h1 := h.2.1
      rw [canonEntriesBD.eq_3, ih]
      cases hf : q.fragments[g]? with
      | none => rfl
      | some f =>
        simp only [isBSpread, hf] at h1
        simp [h1]
    | inline t sub => exact ih
    | typename => exact ih

end E2E
end C01
end GqlVerif
