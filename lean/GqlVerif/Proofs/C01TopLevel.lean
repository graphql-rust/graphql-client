import GqlVerif.Proofs.C01Layers

/-! The step from the struct emitted as `ResponseData` to `Serde.de` / `Serde.ser` / `Serde.roundtrip`, once for all classes.
A class supplies a number `n ≤ e.items.length` (its nesting depth) and its struct-level theorems from fuel `2 * n + 4` on. -/

namespace GqlVerif
namespace C01
namespace Top
open Serde C03

variable {e : Env} {n : Nat}

theorem le_deFuel (hn : n ≤ e.items.length) (j : Json) : 2 * n + 4 ≤ deFuel e j := by
  unfold deFuel
  have hj := jsonSize_pos j
  have h2 : 3 * (e.items.length + e.externs.length + 2) ≤
      (jsonSize j + 2) * (e.items.length + e.externs.length + 2) := Nat.mul_le_mul_right _ (by omega)
  omega

theorem le_serFuel (hn : n ≤ e.items.length) (v : Val) :
    2 * n + 4 ≤ (valSize v + 2) * (e.items.length + e.externs.length + 2) := by
  have h2 : 2 * (e.items.length + e.externs.length + 2) ≤
      (valSize v + 2) * (e.items.length + e.externs.length + 2) := Nat.mul_le_mul_right _ (by omega)
  omega

theorem de_iff {loose : Json → Bool} (hn : n ≤ e.items.length)
    (acc : ∀ fd, 2 * n + 4 ≤ fd → ∀ j, okB (dePath e false fd "ResponseData" j) = loose j) (j : Json) :
    okB (Serde.de e (.path "ResponseData") j) = loose j :=
  acc _ (le_deFuel hn j) j

/-- `Serde.ser` runs `serPath` with its own fuel and normalizes the result -/
theorem ser_of_serPath {p : String} {v : Val} {out : Json}
    (h : serPath e ((valSize v + 2) * (e.items.length + e.externs.length + 2)) p v = .ok out) :
    Serde.ser e (.path p) v = .ok (normJson out) := by
  unfold Serde.ser serTy
  rw [show serTyWith (serPath e ((valSize v + 2) * (e.items.length + e.externs.length + 2))) (.path p) v =
    serPath e ((valSize v + 2) * (e.items.length + e.externs.length + 2)) p v from rfl, h]
  rfl

theorem ser_norm {j out : Json} {v : Val} (hn : n ≤ e.items.length)
    (rt : ∀ fd fs, 2 * n + 4 ≤ fd → 2 * n + 4 ≤ fs → dePath e false fd "ResponseData" j = .ok v →
      serPath e fs "ResponseData" v = .ok out)
    (hd : Serde.de e (.path "ResponseData") j = .ok v) :
    Serde.ser e (.path "ResponseData") v = .ok (normJson out) :=
  ser_of_serPath (rt _ _ (le_deFuel hn j) (le_serFuel hn v) hd)

theorem ser_fixed {j out : Json} {v : Val} (hn : n ≤ e.items.length)
    (rt : ∀ fd fs, 2 * n + 4 ≤ fd → 2 * n + 4 ≤ fs → dePath e false fd "ResponseData" j = .ok v →
      serPath e fs "ResponseData" v = .ok out)
    (hnorm : normJson out = out) (hd : Serde.de e (.path "ResponseData") j = .ok v) :
    Serde.ser e (.path "ResponseData") v = .ok out := by
  rw [ser_norm hn rt hd, hnorm]

theorem accepts_of_iff {x : D Val} {b : Bool} (h : okB x = b) (hb : b = true) : ∃ v, x = .ok v :=
  (okB_iff _).mp (h.trans hb)

theorem precise_of_iff {x : D Val} {b : Bool} (h : okB x = b) {v : Val} (hd : x = .ok v) : b = true := by
  rw [← h, hd]; rfl

theorem roundtrip_of {t : RTy} {j out : Json} (ha : ∃ v, Serde.de e t j = .ok v)
    (hl : ∀ v, Serde.de e t j = .ok v → Serde.ser e t v = .ok out) : Serde.roundtrip e t j = .ok out := by
  obtain ⟨v, hv⟩ := ha
  unfold Serde.roundtrip
  rw [hv]
  exact hl v hv

end Top
end C01
end GqlVerif
