import GqlVerif.Proofs.C14GeneratedFragLink
/-!
# `FragOpD`: the denied keys erased at every depth, through flattened fragment structs

`FragKeysOkD c op` is the decidable side condition: at every object-level selection set of the operation the
**collected** kept keys (own kept keys and the kept keys of the bodies of the fragments spread there) are pairwise
distinct — every key has at most one reader (otherwise the generated struct and a flattened fragment struct compete for
the entry: the known finding `C01-overlap`).

`dropKeysF c sels` is the collected denied keys that are not collected kept keys; `eraseDeniedF c op j` is the payload
with, in the object of every selection set reached through kept object-typed fields — fields of the selection set itself
**or of a fragment spread in it** — every entry of a `dropKeysF` key removed (inside a fragment body by the tree eraser
`eraseEntry` of `C14GeneratedDeep`); it is defined on the schema / selection side only.

**`denied_field_payload_same_frag`**: `Serde.de (moduleEnv c items) ResponseData j =
Serde.de (moduleEnv c items) ResponseData (eraseDeniedF c op j)` for EVERY `j`, under `FragOpD`, `FragKeysOkD`,
`responseForQuery = .ok items`, item names distinct, `EnvOK (moduleEnv c items)` (decidable check `acyclicCheck`);
`…_dePath` for every fuel without `EnvOK`.  The descent into the value of an entry that a flattened fragment struct
reads is `Sim.buffered` (`swap_dePath`, in `C14GeneratedSwap`).
-/

namespace GqlVerif
namespace C14G
open Serde Composed SerdeFuel Codegen C01 C01.E2E

/-! ## the side condition and the eraser -/

mutual
  /-- below this selection: at every object-level selection set the collected kept keys are pairwise distinct -/
  def collOkSel (c : Ctx) : Sel → Bool
    | .field _ fid sub =>
      match c.s.fields[fid]? with
      | some sf => (match sf.ty.id with
        | .object _ => EnumSpec.nodup (collectedKept c sub) && collOkSels c sub
        | _ => true)
      | none => true
    | _ => true
  def collOkSels (c : Ctx) : List Sel → Bool
    | [] => true
    | x :: xs => collOkSel c x && collOkSels c xs
end

/-- **every key has at most one reader**, at every object-level selection set of the operation -/
def FragKeysOkD (c : Ctx) (op : ROperation) : Bool :=
  EnumSpec.nodup (collectedKept c op.sels) && collOkSels c op.sels

/-- the keys to erase in the object of the selection set `sels`: collected denied keys that no collected kept selection uses -/
def dropKeysF (c : Ctx) (sels : List Sel) : List String :=
  (collectedDenied c sels).filter (fun k => !(collectedKept c sels).contains k)

/-- the value of an entry read by a member of the struct of a spread fragment: the tree eraser of that fragment's body
    (every fragment in turn: with pairwise distinct collected keys at most one of them acts) -/
def eraseFragEntry (c : Ctx) : List RFragment → String → Json → Json
  | [], _, v => v
  | f :: fs, key, v => eraseFragEntry c fs key (eraseEntry c f.sels key v)

mutual
  def eraseInSelF (c : Ctx) : Sel → Json → Json
    | .field _ fid sub, v =>
      match c.s.fields[fid]? with
      | some sf => (match sf.ty.id with
        | .object _ => thruQuals (fun j => match j with
            | .obj kvs => .obj ((eraseKeys (dropKeysF c sub) kvs).map
                (fun kv => (kv.1, eraseEntryF c sub kv.1 (eraseFragEntry c (spreadFrags c sub) kv.1 kv.2))))
            | j => j) sf.ty.quals v
        | _ => v)
      | none => v
    | _, v => v
  def eraseEntryF (c : Ctx) : List Sel → String → Json → Json
    | [], _, v => v
    | x :: xs, key, v => if keptKey c x = some key then eraseInSelF c x v else eraseEntryF c xs key v
end

def eraseObjF (c : Ctx) (sels : List Sel) : Json → Json
  | .obj kvs => .obj ((eraseKeys (dropKeysF c sels) kvs).map
      (fun kv => (kv.1, eraseEntryF c sels kv.1 (eraseFragEntry c (spreadFrags c sels) kv.1 kv.2))))
  | j => j

/-- **the payload with the denied keys erased at every depth** (class `FragOpD`) -/
def eraseDeniedF (c : Ctx) (op : ROperation) (j : Json) : Json := eraseObjF c op.sels j

theorem eraseInSelF_object {c : Ctx} {a : Option String} {fid : Nat} {sub : List Sel} {sf : StoredField} {i : Nat}
    (hsf : c.s.fields[fid]? = some sf) (hid : sf.ty.id = .object i) (v : Json) :
    eraseInSelF c (.field a fid sub) v = thruQuals (eraseObjF c sub) sf.ty.quals v := by
  rw [eraseInSelF]
  simp only [hsf, hid]
  congr 1

theorem eraseInSelF_leaf {c : Ctx} {a : Option String} {fid : Nat} {sub : List Sel} {sf : StoredField}
    (hsf : c.s.fields[fid]? = some sf) (hid : ∀ i, sf.ty.id ≠ .object i) (v : Json) :
    eraseInSelF c (.field a fid sub) v = v := by
  cases h : sf.ty.id with
  | object i => exact absurd h (hid i)
  | _ => simp [eraseInSelF, hsf, h]

theorem firstKept_eraseEntryF (c : Ctx) : FirstKept c (eraseInSelF c) (eraseEntryF c) :=
  ⟨fun _ _ => by rw [eraseEntryF], fun _ _ _ _ => by rw [eraseEntryF]⟩

theorem eraseEntryF_not_kept (c : Ctx) : ∀ (xs : List Sel) (key : String) (v : Json), key ∉ keptKeys c xs →
    eraseEntryF c xs key v = v :=
  (firstKept_eraseEntryF c).not_kept

theorem eraseFragEntry_not_kept (c : Ctx) : ∀ (fs : List RFragment) (key : String) (v : Json),
    (∀ f ∈ fs, key ∉ keptKeys c f.sels) → eraseFragEntry c fs key v = v
  | [], _, _, _ => rfl
  | f :: fs, key, v, h => by
    rw [eraseFragEntry, (firstKept_eraseEntry c).not_kept f.sels key v (h f (by simp))]
    exact eraseFragEntry_not_kept c fs key v (fun f' hf' => h f' (by simp [hf']))

/-! ## the structure of `Reach` at a node -/

theorem reach_plain_struct {e : Env} {p n : String} {d : List String} {sc : Option String} {fs : List RField}
    (hfind : e.find p = some (.struct n d sc fs)) (hnf : ∀ f ∈ fs, f.flatten = false) {q : String}
    (h : Composed.Reach e p q) : q = p := by
  cases h with
  | refl => rfl
  | item hf hq _ =>
    rw [hfind] at hf
    cases hf
    simp only [sameLevel, List.mem_map, List.mem_filter] at hq
    obtain ⟨f, ⟨hm, hfl⟩, _⟩ := hq
    rw [hnf f hm] at hfl
    cases hfl
  | extern hn _ _ => rw [hfind] at hn; cases hn

theorem reach_node {e : Env} {c : Ctx} {name pfx : String} {i : Nat} {sels : List Sel}
    (henv : NodeEnv e c name pfx i sels) (hnl : ∀ g, sels ≠ [Sel.spread g]) {q : String}
    (h : Composed.Reach e name q) : q = name ∨ ∃ fr ∈ spreadFrags c sels, q = fr.name := by
  have hfind := henv.self hnl
  cases h with
  | refl => exact .inl rfl
  | item hf hq hr =>
    rw [hfind] at hf
    cases hf
    simp only [sameLevel, List.mem_map, List.mem_filter] at hq
    obtain ⟨f, ⟨hm, hfl⟩, rfl⟩ := hq
    rcases mem_fieldsOfFD hm with ⟨h1, _⟩ | ⟨_, fr, hfr, hty⟩
    · rw [hfl] at h1; cases h1
    · right
      refine ⟨fr, hfr, ?_⟩
      obtain ⟨_, _, _, hfindF, _⟩ := henv.frag fr hfr
      rw [hty] at hr
      exact reach_plain_struct hfindF (fun m hm' => (wire_mem_keptKeys hm').2) hr
  | extern hn _ _ => rw [hfind] at hn; cases hn

/-! ## one fragment-read entry at a time -/

/-- entries replaced one after the other, left to right -/
theorem sim_map_entries {e : Env} {p : String} (h : String → Json → Json)
    (hstep : ∀ (key : String) (v : Json) (pre post : List (String × Json)),
      Sim e (.named p) (.obj (pre ++ (key, v) :: post)) (.obj (pre ++ (key, h key v) :: post))) :
    ∀ (done rest : List (String × Json)),
      Sim e (.named p) (.obj (done ++ rest)) (.obj (done ++ rest.map (fun kv => (kv.1, h kv.1 kv.2))))
  | done, [] => by simpa using Sim.refl _ _
  | done, (key, v) :: rest => by
    have h1 := hstep key v done rest
    have h2 := sim_map_entries h hstep (done ++ [(key, h key v)]) rest
    simp only [List.append_assoc, List.singleton_append] at h2
    simp only [List.map_cons]
    exact .trans h1 h2

/-! ## at most one reader per key -/

theorem flatMap_unique {α : Type} (K : α → List String) : ∀ {fs : List α}, (fs.flatMap K).Nodup → ∀ {a b : α} {key : String},
    a ∈ fs → b ∈ fs → key ∈ K a → key ∈ K b → a = b
  | [], _, _, _, _, ha, _, _, _ => by simp at ha
  | f :: rest, hnd, a, b, key, ha, hb, hka, hkb => by
    simp only [List.flatMap_cons, List.nodup_append] at hnd
    obtain ⟨_, hr, hdis⟩ := hnd
    rcases List.mem_cons.mp ha with rfl | ha' <;> rcases List.mem_cons.mp hb with rfl | hb'
    · rfl
    · exact absurd rfl (hdis key hka key (List.mem_flatMap.mpr ⟨b, hb', hkb⟩))
    · exact absurd rfl (hdis key hkb key (List.mem_flatMap.mpr ⟨a, ha', hka⟩))
    · exact flatMap_unique K hr ha' hb' hka hkb

theorem eraseFragEntry_unique (c : Ctx) : ∀ {fs : List RFragment}, (fs.flatMap (fun f => keptKeys c f.sels)).Nodup →
    ∀ {fr : RFragment} {key : String} (v : Json), fr ∈ fs → key ∈ keptKeys c fr.sels →
      eraseFragEntry c fs key v = eraseEntry c fr.sels key v
  | [], _, _, _, _, h, _ => by simp at h
  | f :: rest, hnd, fr, key, v, hfr, hk => by
    simp only [List.flatMap_cons, List.nodup_append] at hnd
    obtain ⟨_, hr, hdis⟩ := hnd
    rw [eraseFragEntry]
    by_cases hkf : key ∈ keptKeys c f.sels
    · have hrest : ∀ f' ∈ rest, key ∉ keptKeys c f'.sels :=
        fun f' hf' h' => hdis key hkf key (List.mem_flatMap.mpr ⟨f', hf', h'⟩) rfl
      rw [eraseFragEntry_not_kept c rest key _ hrest]
      rcases List.mem_cons.mp hfr with rfl | hfr'
      · rfl
      · exact absurd hk (hrest fr hfr')
    · rw [(firstKept_eraseEntry c).not_kept f.sels key v hkf]
      rcases List.mem_cons.mp hfr with rfl | hfr'
      · exact absurd hk hkf
      · exact eraseFragEntry_unique c hr v hfr' hk

theorem collected_nodup_parts {c : Ctx} {sels : List Sel} (h : EnumSpec.nodup (collectedKept c sels) = true) :
    (keptKeys c sels).Nodup ∧ ((spreadFrags c sels).flatMap (fun f => keptKeys c f.sels)).Nodup ∧
    ∀ k ∈ keptKeys c sels, ∀ f ∈ spreadFrags c sels, k ∉ keptKeys c f.sels := by
  have := nodup_iff'.mp h
  simp only [collectedKept, List.nodup_append] at this
  obtain ⟨h1, h2, h3⟩ := this
  exact ⟨h1, h2, fun k hk f hf hkf => h3 k hk k (List.mem_flatMap.mpr ⟨f, hf, hkf⟩) rfl⟩

/-! ## one node -/

section Node
variable {c : Ctx} {items : List Item} (hnd : (items.map (·.name)).Nodup) (hbi : ∀ it ∈ builtinAliases, it ∈ items)
include hnd hbi

/-- the body of a fragment spread at a node: the tree theorems apply to it -/
theorem frag_entryOK {name pfx : String} {i : Nat} {sels : List Sel} (henv : NodeEnv (moduleEnv c items) c name pfx i sels)
    {fr : RFragment} (hfr : fr ∈ spreadFrags c sels) : EntryOK (moduleEnv c items) c (c.cs.camel fr.name) fr.sels := by
  obtain ⟨_, hv, _, _, hsub⟩ := henv.frag fr hfr
  exact simSels fr.sels _ hv (envSelsD_of (c := c) hnd hbi fr.sels _ hsub)

/-- **one entry read by a flattened fragment struct**, its value erased inside -/
theorem sim_frag_step {name pfx : String} {i : Nat} {sels : List Sel} (henv : NodeEnv (moduleEnv c items) c name pfx i sels)
    (hnl : ∀ g, sels ≠ [Sel.spread g]) (hcoll : EnumSpec.nodup (collectedKept c sels) = true)
    (key : String) (v : Json) (pre post : List (String × Json)) :
    Sim (moduleEnv c items) (.named name) (.obj (pre ++ (key, v) :: post))
      (.obj (pre ++ (key, eraseFragEntry c (spreadFrags c sels) key v) :: post)) := by
  obtain ⟨hown, hfl, hdis⟩ := collected_nodup_parts hcoll
  by_cases hex : ∃ fr ∈ spreadFrags c sels, key ∈ keptKeys c fr.sels
  · obtain ⟨fr, hfr, hk⟩ := hex
    rw [eraseFragEntry_unique c hfl v hfr hk]
    obtain ⟨_, hv, hkn, hfindF, _⟩ := henv.frag fr hfr
    rcases frag_entryOK hnd hbi henv hfr key v with h | ⟨f, hf, hw, hdw, hs⟩
    · rw [h]; exact .refl _ _
    · have hwires : ((fieldsOfD c (c.cs.camel fr.name) fr.sels).map (·.wire)).Nodup := by
        rw [fieldsOfD_wires c _ fr.sels hv]; exact nodup_iff'.mp hkn
      -- the readers of `key` among the structs that read this object: only `f` of the fragment struct
      have readers : ∀ q n d sc fs f', Composed.Reach (moduleEnv c items) name q →
          (moduleEnv c items).find q = some (.struct n d sc fs) → f' ∈ fs → f'.flatten = false → f'.wire = key → f' = f := by
        intro q n d sc fs f' hq hfq hm hfl' hw'
        rcases reach_node henv hnl hq with rfl | ⟨fr', hfr', rfl⟩
        · rw [henv.self hnl] at hfq
          cases hfq
          rcases mem_fieldsOfFD hm with ⟨_, h2⟩ | ⟨h1, _⟩
          · exact absurd hk (hdis key (hw' ▸ h2) fr hfr)
          · rw [hfl'] at h1; cases h1
        · obtain ⟨_, _, _, hfindF', _⟩ := henv.frag fr' hfr'
          rw [hfindF'] at hfq
          cases hfq
          have hk' : key ∈ keptKeys c fr'.sels := hw' ▸ (wire_mem_keptKeys hm).1
          have : fr' = fr := flatMap_unique (fun f => keptKeys c f.sels) hfl hfr' hfr hk' hk
          subst this
          exact eq_of_wire_eq hwires hf hm (hw'.trans hw.symm)
      refine .buffered (Swap.at pre post) (fun q it hq hfq => ?_) (fun q n d sc fs f' hq hfq hm hfl' hw' => ?_)
        (fun q n d sc fs f' hq hfq hm hfl' hw' => ?_)
      · rcases reach_node henv hnl hq with rfl | ⟨fr', hfr', rfl⟩
        · rw [henv.self hnl] at hfq; cases hfq; rfl
        · obtain ⟨_, _, _, hfindF', _⟩ := henv.frag fr' hfr'
          rw [hfindF'] at hfq; cases hfq; rfl
      · rw [readers q n d sc fs f' hq hfq hm hfl' hw']; exact hdw
      · rw [readers q n d sc fs f' hq hfq hm hfl' hw']; exact hs
  · have : ∀ fr ∈ spreadFrags c sels, key ∉ keptKeys c fr.sels := fun fr hfr h => hex ⟨fr, hfr, h⟩
    rw [eraseFragEntry_not_kept c _ key v this]
    exact .refl _ _

/-- what the descent needs to know about an own entry of a node -/
def EntryOKF (e : Env) (c : Ctx) (pfx : String) (sels : List Sel) : Prop :=
  ∀ key v, eraseEntryF c sels key v = v ∨
    ∃ f ∈ fieldsOfFD c pfx sels, f.flatten = false ∧ f.wire = key ∧ f.deserWith = none ∧
      Sim e (.ty f.ty) v (eraseEntryF c sels key v)

omit hnd hbi in
theorem sim_entriesF {e : Env} {pfx : String} {sels : List Sel} (hown : (keptKeys c sels).Nodup) (H : EntryOKF e c pfx sels) :
    ∀ kvs : List (String × Json), Sim e (.entries (fieldsOfFD c pfx sels)) (.obj kvs)
      (.obj (kvs.map (fun kv => (kv.1, eraseEntryF c sels kv.1 kv.2))))
  | [] => .refl _ _
  | (key, v) :: rest => by
    have ih := sim_entriesF hown H rest
    simp only [List.map_cons]
    rcases H key v with h | ⟨f, hf, hfl, hw, hdw, hs⟩
    · rw [h]; exact .keep ih
    · subst hw
      refine .field hf hfl hdw (fun g hg hgfl hgw => ?_) hs ih
      -- two own members with the same wire name: the same selection (kept keys pairwise distinct)
      obtain ⟨x, hx, hfx⟩ := List.mem_filterMap.mp hf
      obtain ⟨y, hy, hgy⟩ := List.mem_filterMap.mp hg
      rcases fieldOfSelFD_cases hfx with ⟨_, hkx⟩ | ⟨_, fr, _, _, rfl⟩
      · rcases fieldOfSelFD_cases hgy with ⟨_, hky⟩ | ⟨_, fr, _, _, rfl⟩
        · rw [hgw] at hky
          have : x = y := by
            clear ih H hs
            induction sels with
            | nil => simp at hx
            | cons z zs ihz =>
              simp only [keptKeys, List.filterMap_cons] at hown
              rcases List.mem_cons.mp hx with rfl | hx' <;> rcases List.mem_cons.mp hy with rfl | hy'
              · rfl
              · rw [hkx, List.nodup_cons] at hown
                exact absurd (List.mem_filterMap.mpr ⟨y, hy', hky⟩) hown.1
              · rw [hky, List.nodup_cons] at hown
                exact absurd (List.mem_filterMap.mpr ⟨x, hx', hkx⟩) hown.1
              · have hz : (List.filterMap (keptKey c) zs).Nodup := by
                  cases hkz : keptKey c z with
                  | none => simpa [hkz] using hown
                  | some k' => rw [hkz, List.nodup_cons] at hown; exact hown.2
                exact ihz hz (List.mem_filterMap.mpr ⟨x, hx', hfx⟩) (List.mem_filterMap.mpr ⟨y, hy', hgy⟩) hx' hy'
          subst this
          rw [hfx] at hgy
          exact (Option.some.inj hgy).symm
        · simp [spreadField] at hgfl
      · simp [spreadField] at hfl

/-- **one node**: the object read at the node's name — a struct with flattened fragment structs, or an alias to a
    fragment struct — with the `dropKeysF` entries removed and the other entries erased inside -/
theorem sim_eraseObjF {name pfx : String} {i : Nat} {sels : List Sel} (henv : NodeEnv (moduleEnv c items) c name pfx i sels)
    (hcoll : EnumSpec.nodup (collectedKept c sels) = true) (H : EntryOKF (moduleEnv c items) c pfx sels) :
    ∀ j, Sim (moduleEnv c items) (.named name) j (eraseObjF c sels j) := by
  intro j
  obtain ⟨hown, _, _⟩ := collected_nodup_parts hcoll
  have hkf : ∀ k ∈ dropKeysF c sels, KeyFree (moduleEnv c items) k name := by
    intro k hk
    simp only [dropKeysF, List.mem_filter, Bool.not_eq_true', List.contains_eq_mem, decide_eq_false_iff_not] at hk
    exact nodeEnv_keyFree henv hk.2
  cases j with
  | obj kvs =>
    rw [eraseObjF]
    by_cases hl : ∃ g, sels = [Sel.spread g]
    · -- a type alias to the fragment struct: everything happens there
      obtain ⟨g, hg⟩ := hl
      obtain ⟨fr, hfr⟩ := henv.known g (by rw [hg]; simp)
      have hmem : fr ∈ spreadFrags c sels := mem_spreadFrags.mpr ⟨g, by rw [hg]; simp, hfr⟩
      obtain ⟨_, hv, hkn, hfindF, _⟩ := henv.frag fr hmem
      have hfrags : spreadFrags c sels = [fr] := by rw [hg]; simp [spreadFrags, hfr]
      have hmap : ∀ kv : String × Json, (kv.1, eraseEntryF c sels kv.1 (eraseFragEntry c (spreadFrags c sels) kv.1 kv.2)) =
          (kv.1, eraseEntry c fr.sels kv.1 kv.2) := by
        intro kv
        rw [hfrags, (firstKept_eraseEntryF c).not_kept sels _ _ (by rw [hg]; simp [keptKeys, keptKey])]
        rfl
      simp only [hmap]
      refine .trans (Sim.eraseKeys (dropKeysF c sels) kvs hkf) (.alias (henv.lone g hg) ?_)
      simp only [fragName, hfr]
      exact .path (.struct hfindF (sim_entries hv hkn (frag_entryOK hnd hbi henv hmem) _))
    · have hnl : ∀ g, sels ≠ [Sel.spread g] := fun g h => hl ⟨g, h⟩
      have e1 : (eraseKeys (dropKeysF c sels) kvs).map
            (fun kv => (kv.1, eraseEntryF c sels kv.1 (eraseFragEntry c (spreadFrags c sels) kv.1 kv.2))) =
          ((eraseKeys (dropKeysF c sels) kvs).map (fun kv => (kv.1, eraseFragEntry c (spreadFrags c sels) kv.1 kv.2))).map
            (fun kv => (kv.1, eraseEntryF c sels kv.1 kv.2)) := by
        rw [List.map_map]; rfl
      rw [e1]
      refine .trans (Sim.eraseKeys (dropKeysF c sels) kvs hkf) (.trans ?_ (.struct (henv.self hnl) (sim_entriesF hown H _)))
      have := sim_map_entries (e := moduleEnv c items) (p := name) (fun key v => eraseFragEntry c (spreadFrags c sels) key v)
        (sim_frag_step hnd hbi henv hnl hcoll) [] (eraseKeys (dropKeysF c sels) kvs)
      simpa using this
  | null => exact .refl _ _
  | bool _ => exact .refl _ _
  | int _ => exact .refl _ _
  | num _ => exact .refl _ _
  | str _ => exact .refl _ _
  | arr _ => exact .refl _ _

end Node

/-! ## the whole tree -/

theorem fSelsD_of_fBodyD {c : Ctx} {p : TypeId} {sels : List Sel} (h : fBodyD c p sels = true) : fSelsD c p sels = true := by
  by_cases hl : ∃ g, sels = [Sel.spread g]
  · obtain ⟨g, rfl⟩ := hl
    have : fragOkD c p g = true := h
    simp [fSelsD, fSelD, this]
  · rw [fBodyD_not_lone (fun g hg => hl ⟨g, hg⟩), Bool.and_eq_true] at h
    exact h.1

/-- the nodes below every object-typed field of a selection list resolve in the module -/
def ChildEnv (c : Ctx) (items : List Item) (pfx : String) (xs : List Sel) : Prop :=
  ∀ (a : Option String) (fid : Nat) (sub : List Sel) (sf : StoredField) (j : Nat), Sel.field a fid sub ∈ xs →
    c.s.fields[fid]? = some sf → sf.ty.id = .object j →
    ∀ n' p' i' s', NodeF c (pfx ++ c.cs.camel (a.getD sf.name)) (pfx ++ c.cs.camel (a.getD sf.name)) j sub n' p' i' s' →
      NodeEnv (moduleEnv c items) c n' p' i' s'

section TreeF
variable {c : Ctx} {items : List Item} (hnd : (items.map (·.name)).Nodup) (hbi : ∀ it ∈ builtinAliases, it ∈ items)
include hnd hbi

theorem node_name_ne_ID {name pfx : String} {i : Nat} {sels : List Sel}
    (henv : NodeEnv (moduleEnv c items) c name pfx i sels) : name ≠ "ID" := by
  by_cases hl : ∃ g, sels = [Sel.spread g]
  · obtain ⟨g, hg⟩ := hl
    have := List.mem_of_find?_eq_some (henv.lone g hg)
    exact item_name_ne_ID c hnd hbi this (by simp [aliasItem])
  · have := List.mem_of_find?_eq_some (henv.self (fun g h => hl ⟨g, h⟩))
    exact struct_name_ne_ID c hnd hbi this

mutual
  theorem simSelF : ∀ (x : Sel) (pfx : String) (p : TypeId), fSelD c p x = true → collOkSel c x = true →
      ChildEnv c items pfx [x] → ∀ f, fieldOfSelD c pfx x = some f → ∀ v, Sim (moduleEnv c items) (.ty f.ty) v (eraseInSelF c x v)
    | .field a fid sub, pfx, p => by
      intro ht hco hC f hf v
      have IH := simSelsF sub
      obtain ⟨sf, hsf, _, hty⟩ := fSelD_field ht
      rcases hty with ⟨_, _, hid, _, _⟩ | ⟨_, _, hid, _, _⟩ | ⟨j, hid, hbody⟩
      · rw [eraseInSelF_leaf hsf (by simp [hid])]; exact .refl _ _
      · rw [eraseInSelF_leaf hsf (by simp [hid])]; exact .refl _ _
      · rw [collOkSel] at hco
        simp only [fieldOfSelD, hsf, hid, Bool.and_eq_true] at hf hco
        by_cases hd : isDenied c sf = true
        · simp [hd] at hf
        · simp only [hd, Bool.false_eq_true, ↓reduceIte, leafName, Option.some.injEq] at hf
          subst hf
          have henv' := hC a fid sub sf j (by simp) hsf hid _ _ _ _ (.here _ _ _ _)
          have hC' : ChildEnv c items (pfx ++ c.cs.camel (a.getD sf.name)) sub := by
            intro a' fid' sub' sf' j' hm' hsf' hid' n' p' i' s' hn'
            exact hC a fid sub sf j (by simp) hsf hid _ _ _ _ (.step hm' hsf' hid' hn')
          rw [eraseInSelF_object hsf hid]
          exact (sim_thruQuals (sim_eraseObjF hnd hbi henv' hco.1
            (IH _ (.object j) (fSelsD_of_fBodyD hbody) hco.2 hC')) sf.ty.quals v).1
    | .spread _, _, _ => by intro _ _ _ f hf; simp [fieldOfSelD] at hf
    | .inline _ _, _, _ => by intro ht; simp [fSelD] at ht
    | .typename, _, _ => by intro _ _ _ f hf; simp [fieldOfSelD] at hf
  theorem simSelsF : ∀ (xs : List Sel) (pfx : String) (p : TypeId), fSelsD c p xs = true → collOkSels c xs = true →
      ChildEnv c items pfx xs → EntryOKF (moduleEnv c items) c pfx xs
    | [], _, _ => by intro _ _ _ key v; exact .inl (by rw [eraseEntryF])
    | x :: xs, pfx, p => by
      intro ht hco hC key v
      obtain ⟨hx, hxs⟩ := fSelsD_cons ht
      rw [collOkSels, Bool.and_eq_true] at hco
      have hCx : ChildEnv c items pfx [x] := by
        intro a fid sub sf j hm
        simp only [List.mem_singleton] at hm
        exact hC a fid sub sf j (by simp [hm])
      have hCxs : ChildEnv c items pfx xs := fun a fid sub sf j hm => hC a fid sub sf j (by simp [hm])
      rw [eraseEntryF]
      by_cases hk : keptKey c x = some key
      · rw [if_pos hk]
        cases x with
        | field a fid sub =>
          obtain ⟨_, _, _, sf, hx', hsf, hd, rfl⟩ := keptKey_some hk
          cases hx'
          obtain ⟨sf', hsf', _, hty⟩ := fSelD_field hx
          rw [hsf] at hsf'
          cases hsf'
          rcases hty with ⟨_, _, hid, _, _⟩ | ⟨_, _, hid, _, _⟩ | ⟨j, hid, _⟩
          · exact .inl (eraseInSelF_leaf hsf (by simp [hid]) v)
          · exact .inl (eraseInSelF_leaf hsf (by simp [hid]) v)
          · right
            have hfx : fieldOfSelD c pfx (.field a fid sub) =
                some (fieldOf c (a.getD sf.name) (pfx ++ c.cs.camel (a.getD sf.name)) sf.ty.quals sf.deprecation) := by
              simp [fieldOfSelD, hsf, hd, hid, leafName]
            have henv' := hC a fid sub sf j (by simp) hsf hid _ _ _ _ (.here _ _ _ _)
            have hne := node_name_ne_ID hnd hbi henv'
            refine ⟨_, ?_, rfl, ?_, ?_, simSelF _ pfx p hx hco.1 hCx _ hfx v⟩
            · simp only [fieldsOfFD, List.filterMap_cons]
              have : fieldOfSelFD c pfx (.field a fid sub) = fieldOfSelD c pfx (.field a fid sub) := rfl
              rw [this, hfx]
              exact List.mem_cons_self
            · rw [fieldOf_wire]
            · simp [fieldOf, hne]
        | _ => simp [keptKey] at hk
      · rw [if_neg hk]
        rcases simSelsF xs pfx p hxs hco.2 hCxs key v with h | ⟨f, hf, h⟩
        · exact .inl h
        · refine .inr ⟨f, ?_, h⟩
          simp only [fieldsOfFD, List.filterMap_cons] at hf ⊢
          cases fieldOfSelFD c pfx x with
          | none => exact hf
          | some f' => exact List.mem_cons_of_mem _ hf
end

end TreeF

/-! ## end to end -/

theorem fragKeysOkD_parts {c : Ctx} {op : ROperation} (h : FragKeysOkD c op = true) :
    EnumSpec.nodup (collectedKept c op.sels) = true ∧ collOkSels c op.sels = true := by
  simpa [FragKeysOkD] using h

theorem eraseDeniedF_sim (c : Ctx) (opIdx : Nat) (op : ROperation) (items : List Item)
    (hop : c.q.operations[opIdx]? = some op) (ht : FragOpD c op = true) (hk : FragKeysOkD c op = true)
    (hgen : responseForQuery c opIdx = .ok items) (hnd : EnumSpec.nodup (items.map (·.name)) = true) (j : Json) :
    Sim (moduleEnv c items) (.named "ResponseData") j (eraseDeniedF c op j) := by
  obtain ⟨_, hbody⟩ := fragOpD_parts ht
  obtain ⟨hk1, hk2⟩ := fragKeysOkD_parts hk
  obtain ⟨u, S, E, F, I, V, o, resp, _, _, _, _, _, _, hitems⟩ := responseForQuery_parts_full hgen
  have hnd' := nodup_iff'.mp hnd
  have hbi : ∀ it ∈ builtinAliases, it ∈ items := fun it h => by rw [hitems]; simp [h]
  have hroot := (nodeF_env c opIdx op items hop ht hgen hnd (.here _ _ _ _)).1
  have hC : ChildEnv c items (c.cs.camel op.name) op.sels := by
    intro a fid sub sf j' hm hsf hid n' p' i' s' hn'
    exact (nodeF_env c opIdx op items hop ht hgen hnd (.step hm hsf hid hn')).1
  exact sim_eraseObjF hnd' hbi hroot hk1 (simSelsF hnd' hbi op.sels _ _ (fSelsD_of_fBodyD hbody) hk2 hC) j

/-- `dePath` form: any fuel, buffered or not, no `EnvOK` -/
theorem denied_field_payload_same_frag_dePath (c : Ctx) (opIdx : Nat) (op : ROperation) (items : List Item)
    (hop : c.q.operations[opIdx]? = some op) (ht : FragOpD c op = true) (hk : FragKeysOkD c op = true)
    (hgen : responseForQuery c opIdx = .ok items) (hnd : EnumSpec.nodup (items.map (·.name)) = true)
    (b : Bool) (fuel : Nat) (j : Json) :
    dePath (moduleEnv c items) b fuel "ResponseData" j = dePath (moduleEnv c items) b fuel "ResponseData" (eraseDeniedF c op j) :=
  sim_sound (eraseDeniedF_sim c opIdx op items hop ht hk hgen hnd j) b fuel

/-- **C14 end to end with flattened fragment structs**: for an emitted module of the class `FragOpD`, EVERY payload
    deserializes at `ResponseData` exactly as the payload with the denied keys erased at every depth — in the objects of
    the selection sets themselves and through the fragments spread in them — same value or same error -/
theorem denied_field_payload_same_frag (c : Ctx) (opIdx : Nat) (op : ROperation) (items : List Item)
    (hop : c.q.operations[opIdx]? = some op) (ht : FragOpD c op = true) (hk : FragKeysOkD c op = true)
    (hgen : responseForQuery c opIdx = .ok items) (hnd : EnumSpec.nodup (items.map (·.name)) = true)
    (hOK : EnvOK (moduleEnv c items)) (j : Json) :
    Serde.de (moduleEnv c items) (.path "ResponseData") j =
      Serde.de (moduleEnv c items) (.path "ResponseData") (eraseDeniedF c op j) :=
  sim_de_named hOK (eraseDeniedF_sim c opIdx op items hop ht hk hgen hnd j)

end C14G
end GqlVerif
