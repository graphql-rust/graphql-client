import GqlVerif.Proofs.C01Rust
/-!
# C01 / C03 end to end for `VariantSpreadOp` / `VariantSpreadOp2` under `normalization = rust`, by transfer

The end-to-end theorems of the classes `VariantSpreadOp` and `VariantSpreadOp2` require `c.o.normalization = none`
(the first conjunct of `VariantSpreadOp`).  As `C01Rust` does for `TreeOp`, `VariantOp`, `FragmentOp` and `RecFragmentOp`, this file
composes them with C09's `normalization_wire_invariant_of_names` (the `transfer_*` lemmas of `C01Rust`), for `c₀` the `none` context
(e.g. `noNorm c₁`), `c₁` any context with `NormAgree c₀ c₁` (e.g. `normalization = rust`), `items₀` / `items₁` the two
generated modules and `W : RustSide c₀ c₁ opIdx items₀ items₁`.  The hypotheses are the union of those of the two
theorems composed: those of the `none` theorem on `c₀` / `items₀`, and those of C09N packed in `RustSide`
(`RustSide.of_noNorm` builds it from the decidable parts).

`c₁`'s module is read in `moduleEnvN c₁ items₁` (externs under the names the module's aliases refer to, see `C01Rust`).
The right-hand sides — `normJson (canonSelD c₀.s c₀.q c₀.o.skipNone … j)`, `conformsLooseS c₀.s c₀.q c₀.o …`,
`SameContent c₀.o.skipNone` — are functions of the schema, the query and of options that `NormAgree` keeps; they do not
mention Rust names.  With `c₀ := noNorm c₁` every `c₀.s`, `c₀.q`, `c₀.o.skipNone` is definitionally `c₁`'s, and
the `c₀.o` of the acceptance statements is `c₁.o` with `normalization := none` (as in `C01Rust.lean`).
-/
namespace GqlVerif
namespace C01
namespace E2E
open Serde Spec C03 Codegen C09N

section SpreadClasses
variable {c₀ c₁ : Ctx} {opIdx : Nat} {op : ROperation} {items₀ items₁ : List Item}
  (W : RustSide c₀ c₁ opIdx items₀ items₁)
include W

/-! ## `VariantSpreadOp` -/

/-- every conforming response is accepted by `c₁`'s `ResponseData` … -/
theorem variantspread_accepts_rust (hop : c₀.q.operations[opIdx]? = some op) (ht : VariantSpreadOp c₀ op = true)
    (hok : moduleOk c₀ items₀ = true) (j : Json) (hc : conformsOpS c₀ op j = true) :
    ∃ v, Serde.de (moduleEnvN c₁ items₁) (.path "ResponseData") j = .ok v :=
  transfer_accepts W j (variantspread_accepts c₀ opIdx op items₀ hop ht W.gen₀ hok j hc)

/-- … and its round trip is the canonical form of the `none` context -/
theorem variantspread_roundtrip_rust (hop : c₀.q.operations[opIdx]? = some op) (ht : VariantSpreadOp c₀ op = true)
    (hok : moduleOk c₀ items₀ = true) (hr : spreadRustOkD c₀ op = true) (j : Json) (hc : conformsOpS c₀ op j = true) :
    Serde.roundtrip (moduleEnvN c₁ items₁) (.path "ResponseData") j =
      .ok (normJson (canonSelD c₀.s c₀.q c₀.o.skipNone op.sels j)) :=
  (transfer_roundtrip W j _).mp (variantspread_roundtrip c₀ opIdx op items₀ hop ht W.gen₀ hok hr j hc)

theorem variantspread_lossless_rust (hop : c₀.q.operations[opIdx]? = some op) (ht : VariantSpreadOp c₀ op = true)
    (hok : moduleOk c₀ items₀ = true) (hr : spreadRustOkD c₀ op = true) (j : Json) (hc : conformsOpS c₀ op j = true)
    (v : Val) (hd : Serde.de (moduleEnvN c₁ items₁) (.path "ResponseData") j = .ok v) :
    Serde.ser (moduleEnvN c₁ items₁) (.path "ResponseData") v =
      .ok (normJson (canonSelD c₀.s c₀.q c₀.o.skipNone op.sels j)) :=
  transfer_lossless W j _ (variantspread_roundtrip c₀ opIdx op items₀ hop ht W.gen₀ hok hr j hc) v hd

/-- for part (a) of the class (`noBSpreads`: no spread of a fragment on the abstract type itself) the closed form is
    `canonSelS … j` -/
theorem variantspread_roundtrip_noB_rust (hop : c₀.q.operations[opIdx]? = some op) (ht : VariantSpreadOp c₀ op = true)
    (hnb : noBSpreads c₀ op = true) (hok : moduleOk c₀ items₀ = true) (hr : spreadRustOkD c₀ op = true)
    (j : Json) (hc : conformsOpS c₀ op j = true) :
    Serde.roundtrip (moduleEnvN c₁ items₁) (.path "ResponseData") j =
      .ok (canonSelS c₀.s c₀.q c₀.o.skipNone op.sels j) :=
  (transfer_roundtrip W j _).mp (variantspread_roundtrip_noB c₀ opIdx op items₀ hop ht hnb W.gen₀ hok hr j hc)

/-- C03: `c₁`'s `ResponseData` accepts `j` iff `conformsLooseS … false … j` -/
theorem variantspread_precise_iff_rust (hop : c₀.q.operations[opIdx]? = some op) (ht : VariantSpreadOp c₀ op = true)
    (hok : moduleOk c₀ items₀ = true) (j : Json) :
    okB (Serde.de (moduleEnvN c₁ items₁) (.path "ResponseData") j) = conformsLooseS c₀.s c₀.q c₀.o false op.sels j :=
  (transfer_okB W j).trans (variantspread_precise_iff c₀ opIdx op items₀ hop ht W.gen₀ hok j)

/-- the round trip through `c₁`'s module returns a response with the same content -/
theorem variantspread_content_rust (hop : c₀.q.operations[opIdx]? = some op) (ht : VariantSpreadOp c₀ op = true)
    (hok : moduleOk c₀ items₀ = true) (hr : spreadRustOkD c₀ op = true) (j : Json) (hc : conformsOpS c₀ op j = true) :
    ∃ j', Serde.roundtrip (moduleEnvN c₁ items₁) (.path "ResponseData") j = .ok j' ∧ SameContent c₀.o.skipNone j j' :=
  let ⟨j', h, hs⟩ := variantspread_roundtrip_content c₀ opIdx op items₀ hop ht W.gen₀ hok hr j hc
  ⟨j', (transfer_roundtrip W j j').mp h, hs⟩

/-! ## `VariantSpreadOp2` -/

theorem variantspread2_accepts_rust (hop : c₀.q.operations[opIdx]? = some op) (ht : VariantSpreadOp2 c₀ op = true)
    (hok : moduleOk c₀ items₀ = true) (j : Json) (hc : conformsOpS c₀ op j = true) :
    ∃ v, Serde.de (moduleEnvN c₁ items₁) (.path "ResponseData") j = .ok v :=
  transfer_accepts W j (variantspread2_accepts c₀ opIdx op items₀ hop ht W.gen₀ hok j hc)

theorem variantspread2_roundtrip_rust (hop : c₀.q.operations[opIdx]? = some op) (ht : VariantSpreadOp2 c₀ op = true)
    (hok : moduleOk c₀ items₀ = true) (hr : spreadRustOkD c₀ (normOp op) = true) (j : Json)
    (hc : conformsOpS c₀ op j = true) :
    Serde.roundtrip (moduleEnvN c₁ items₁) (.path "ResponseData") j =
      .ok (normJson (canonSelD c₀.s c₀.q c₀.o.skipNone (normSels op.sels) j)) :=
  (transfer_roundtrip W j _).mp (variantspread2_roundtrip c₀ opIdx op items₀ hop ht W.gen₀ hok hr j hc)

theorem variantspread2_lossless_rust (hop : c₀.q.operations[opIdx]? = some op) (ht : VariantSpreadOp2 c₀ op = true)
    (hok : moduleOk c₀ items₀ = true) (hr : spreadRustOkD c₀ (normOp op) = true) (j : Json)
    (hc : conformsOpS c₀ op j = true) (v : Val)
    (hd : Serde.de (moduleEnvN c₁ items₁) (.path "ResponseData") j = .ok v) :
    Serde.ser (moduleEnvN c₁ items₁) (.path "ResponseData") v =
      .ok (normJson (canonSelD c₀.s c₀.q c₀.o.skipNone (normSels op.sels) j)) :=
  transfer_lossless W j _ (variantspread2_roundtrip c₀ opIdx op items₀ hop ht W.gen₀ hok hr j hc) v hd

theorem variantspread2_precise_iff_rust (hop : c₀.q.operations[opIdx]? = some op) (ht : VariantSpreadOp2 c₀ op = true)
    (hok : moduleOk c₀ items₀ = true) (j : Json) :
    okB (Serde.de (moduleEnvN c₁ items₁) (.path "ResponseData") j) =
      conformsLooseS c₀.s c₀.q c₀.o false (normSels op.sels) j :=
  (transfer_okB W j).trans (variantspread2_precise_iff c₀ opIdx op items₀ hop ht W.gen₀ hok j)

theorem variantspread2_content_rust (hop : c₀.q.operations[opIdx]? = some op) (ht : VariantSpreadOp2 c₀ op = true)
    (hok : moduleOk c₀ items₀ = true) (hr : spreadRustOkD c₀ (normOp op) = true) (j : Json)
    (hc : conformsOpS c₀ op j = true) :
    ∃ j', Serde.roundtrip (moduleEnvN c₁ items₁) (.path "ResponseData") j = .ok j' ∧ SameContent c₀.o.skipNone j j' :=
  let ⟨j', h, hs⟩ := variantspread2_roundtrip_content c₀ opIdx op items₀ hop ht W.gen₀ hok hr j hc
  ⟨j', (transfer_roundtrip W j j').mp h, hs⟩

end SpreadClasses

/-! ## concrete instances: every hypothesis holds, the two modules differ in names, the theorems apply

Schema `nxSchema` / contexts `nxCtx q` (`normalization = rust`) and `noNorm (nxCtx q)` of `C01Rust.lean`:
`interface Character { name: String! }`, `type Human implements Character { name born: date_time mood: mood_kind! friend }`,
`type Droid implements Character { name }`, `enum mood_kind { happy very_sad }`, `scalar date_time`,
`type Query { hero: Character, me: Human }`; under `rust`: `MoodKind { Happy, VerySad }`, `DateTime = super::DateTime`.
Fragments `HM on Human { born mood }`, `CN on Character { name __typename }`, `HN on Human { name }`.
Both modules are generated by the model (`C09N.itemsOf`); every hypothesis is evaluated (`decide +kernel`). -/

def nsFrags : List RFragment :=
  [{ name := "HM", on := .object 1, sels := [.field none 3 [], .field none 4 []] },
   { name := "CN", on := .interface 0, sels := [.field none 2 [], .typename] },
   { name := "HN", on := .object 1, sels := [.field none 2 []] }]

macro "ns_canonD_eval" : tactic => `(tactic|
  simp [canonSelD, canonEntriesD, canonFieldD, loneG, canonEntriesBD, canonVarD, onNamed, absEntries, absRest, hasStruct,
    isBSpread, isFieldSel, canonAbsV, canonEntriesV, canonFieldV, canonInlV, tagName, nsFrags,
    nxSchema, objName, rtName, fieldKeys, fieldKey, Json.lookup, canon, canonNN, gtyOf, Json.isNull, skipQ,
    normJson, normKvs, normList, Json.normObj, Json.insert])

macro "ns_looseS_eval" : tactic => `(tactic|
  simp [conformsLooseS, looseSelsS, looseArrS, looseFieldS, loneG, loosePayS, looseMemS, looseMemB, absRest, hasStruct,
    isBSpread, conformsLooseAbs, loosePayV, looseSelsV, looseFieldV, tagOkV, noNorm, nxCtx, nsFrags, nxSchema,
    vtsOfTy, Schema.implementors, objName, rtName, isFieldSel, fieldKeys, fieldKey,
    Json.lookup, accepts, acceptsNN, gtyOf, scalarOk, floatOk, stringOk, Json.isNull, nullableQ, countKey,
    List.zipIdx])

/-! ### `VariantSpreadOp`, parts (a) and (b): `query Q { hero { __typename ...CN ... on Human { b2: born } ...HM } }` -/

def nsOp : ROperation :=
  { name := "Q", kind := .query, objectId := 0,
    sels := [.field none 0 [.typename, .spread 1, .inline (.object 1) [.field (some "b2") 3 []], .spread 0]] }
def nsQuery : Query := { operations := [nsOp], fragments := nsFrags }

/-- `RustSide` (i.e. `IdStable`, both generations, `NamesInjective`, `EnumIdentsInjective`, `FieldsWF`; `NormAgree` and the
    shape of the externs by construction), `moduleOk` of the `none` module, and the two modules differ -/
theorem ns_ok : NxOk nsQuery :=
  NxOk.of_parts (by decide +kernel)

/-- the operation is in the class, spreads a fragment on the abstract type itself (`...CN`: part (b)) and one on a possible
    type (`...HM`: part (a)) -/
theorem ns_class : VariantSpreadOp (noNorm (nxCtx nsQuery)) nsOp = true ∧
    spreadRustOkD (noNorm (nxCtx nsQuery)) nsOp = true ∧ noBSpreads (noNorm (nxCtx nsQuery)) nsOp = false :=
  by decide +kernel

/-- **the two modules really differ in names**: the fragment struct `HM` refers to `date_time` / `mood_kind` in the `none`
    module and to `DateTime` / `MoodKind` in the `rust` module, whose alias `DateTime` points to the extern
    `super::DateTime` (`customExternsN`), not to `super::date_time` (`customExterns`) -/
theorem ns_items_differ :
    ((moduleEnv (noNorm (nxCtx nsQuery)) (itemsOf (noNorm (nxCtx nsQuery)))).find "HM" ==
      some (.struct "HM" ["Deserialize"] (some "::serde")
        [{ rust := "born", ty := .opt (.path "date_time") }, { rust := "mood", ty := .path "mood_kind" }])) = true ∧
    ((moduleEnvN (nxCtx nsQuery) (itemsOf (nxCtx nsQuery))).find "HM" ==
      some (.struct "HM" ["Deserialize"] (some "::serde")
        [{ rust := "born", ty := .opt (.path "DateTime") }, { rust := "mood", ty := .path "MoodKind" }])) = true ∧
    ((moduleEnvN (nxCtx nsQuery) (itemsOf (nxCtx nsQuery))).find "MoodKind" ==
      some (.gqlEnum "MoodKind" [] "::serde" ["Happy", "VerySad"] [("Happy", "happy"), ("VerySad", "very_sad")]
        [("happy", "Happy"), ("very_sad", "VerySad")])) = true ∧
    ((moduleEnvN (nxCtx nsQuery) (itemsOf (nxCtx nsQuery))).find "DateTime" ==
      some (.alias "DateTime" false (.path "super::DateTime"))) = true ∧
    customExternsN (nxCtx nsQuery) = [("super::DateTime", .path "String")] ∧
    customExterns (noNorm (nxCtx nsQuery)) = [("super::date_time", .path "String")] :=
  by decide +kernel

def nsJson : Json :=
  .obj [("hero", .obj [("mood", .str "very_sad"), ("b2", .str "1977"), ("__typename", .str "Human"), ("born", .str "1977"),
                       ("name", .str "Luke")])]
def nsCanon : Json :=
  .obj [("hero", .obj [("name", .str "Luke"), ("__typename", .str "Human"), ("b2", .str "1977"), ("born", .str "1977"),
                       ("mood", .str "very_sad")])]

theorem ns_conforms : conformsOpS (noNorm (nxCtx nsQuery)) nsOp nsJson = true := by
  rw [conformsOpS, conformsV_eq_K]
  decide +kernel

theorem ns_canon : normJson (canonSelD nxSchema nsQuery false nsOp.sels nsJson) = nsCanon := by
  simp only [nsOp, nsQuery, nsJson, nsCanon]; ns_canonD_eval

/-- the `rust` module (`MoodKind::VerySad` and `DateTime` inside the flattened fragment struct `HM` behind the `Human`
    variant; `CN` flattened at the interface level) reads the reply and writes the canonical form of the `none` context -/
theorem ns_roundtrip_rust :
    Serde.roundtrip (moduleEnvN (nxCtx nsQuery) (itemsOf (nxCtx nsQuery))) (.path "ResponseData") nsJson = .ok nsCanon := by
  rw [← ns_canon]
  exact variantspread_roundtrip_rust ns_ok.1 (op := nsOp) rfl ns_class.1 ns_ok.2.1 ns_class.2.1 nsJson ns_conforms

/-- `variantspread_accepts_rust` / `variantspread_lossless_rust` / `variantspread_content_rust` on the instance -/
example : ∃ v, Serde.de (moduleEnvN (nxCtx nsQuery) (itemsOf (nxCtx nsQuery))) (.path "ResponseData") nsJson = .ok v :=
  variantspread_accepts_rust ns_ok.1 (op := nsOp) rfl ns_class.1 ns_ok.2.1 nsJson ns_conforms

example (v : Val) (hd : Serde.de (moduleEnvN (nxCtx nsQuery) (itemsOf (nxCtx nsQuery))) (.path "ResponseData") nsJson = .ok v) :
    Serde.ser (moduleEnvN (nxCtx nsQuery) (itemsOf (nxCtx nsQuery))) (.path "ResponseData") v = .ok nsCanon := by
  rw [← ns_canon]
  exact variantspread_lossless_rust ns_ok.1 (op := nsOp) rfl ns_class.1 ns_ok.2.1 ns_class.2.1 nsJson ns_conforms v hd

example : ∃ j', Serde.roundtrip (moduleEnvN (nxCtx nsQuery) (itemsOf (nxCtx nsQuery))) (.path "ResponseData") nsJson = .ok j' ∧
    SameContent false nsJson j' :=
  variantspread_content_rust ns_ok.1 (op := nsOp) rfl ns_class.1 ns_ok.2.1 ns_class.2.1 nsJson ns_conforms

set_option maxRecDepth 8000 in
/-- … and rejects a wrong kind at the enum position selected through the spread `...HM` -/
example : okB (Serde.de (moduleEnvN (nxCtx nsQuery) (itemsOf (nxCtx nsQuery))) (.path "ResponseData")
    (.obj [("hero", .obj [("__typename", .str "Human"), ("name", .str "x"), ("mood", .int 3)])])) = false := by
  rw [variantspread_precise_iff_rust ns_ok.1 (op := nsOp) rfl ns_class.1 ns_ok.2.1]
  simp only [nsOp, nsQuery]; ns_looseS_eval

set_option maxRecDepth 8000 in
/-- … rejects a reply without the non-null `name` selected through `...CN` -/
example : okB (Serde.de (moduleEnvN (nxCtx nsQuery) (itemsOf (nxCtx nsQuery))) (.path "ResponseData")
    (.obj [("hero", .obj [("__typename", .str "Droid")])])) = false := by
  rw [variantspread_precise_iff_rust ns_ok.1 (op := nsOp) rfl ns_class.1 ns_ok.2.1]
  simp only [nsOp, nsQuery]; ns_looseS_eval

set_option maxRecDepth 8000 in
/-- … and accepts one in which the nullable keys of the variant are absent -/
example : okB (Serde.de (moduleEnvN (nxCtx nsQuery) (itemsOf (nxCtx nsQuery))) (.path "ResponseData")
    (.obj [("hero", .obj [("__typename", .str "Human"), ("name", .str "x"), ("mood", .str "happy")])])) = true := by
  rw [variantspread_precise_iff_rust ns_ok.1 (op := nsOp) rfl ns_class.1 ns_ok.2.1]
  simp only [nsOp, nsQuery]; ns_looseS_eval

/-! ### `VariantSpreadOp2`: `query Q { hero { __typename ... on Human { ...HN } ... on Human { b2: born } ...HM } }` -/

def ns2Op : ROperation :=
  { name := "Q", kind := .query, objectId := 0,
    sels := [.field none 0 [.typename, .inline (.object 1) [.spread 2], .inline (.object 1) [.field (some "b2") 3 []],
                            .spread 0]] }
def ns2Query : Query := { operations := [ns2Op], fragments := nsFrags }

theorem ns2_ok : NxOk ns2Query :=
  NxOk.of_parts (by decide +kernel)

/-- in `VariantSpreadOp2`, not in `VariantSpreadOp` -/
theorem ns2_class : VariantSpreadOp2 (noNorm (nxCtx ns2Query)) ns2Op = true ∧
    spreadRustOkD (noNorm (nxCtx ns2Query)) (normOp ns2Op) = true ∧
    VariantSpreadOp (noNorm (nxCtx ns2Query)) ns2Op = false :=
  by decide +kernel

theorem ns2_norm : normSels ns2Op.sels =
    [.field none 0 [.typename, .inline (.object 1) [.field (some "b2") 3 []], .spread 0, .spread 2]] := by
  simp [normSels, keepN, movedN, normSel, aliasInl, ns2Op]

/-- the variant struct of `Human` in the `rust` module: `b2: Option<DateTime>`, then the members for `...HM` and — last — for
    `... on Human { ...HN }`; in the `none` module `b2: Option<date_time>` -/
theorem ns2_items_differ :
    ((moduleEnvN (nxCtx ns2Query) (itemsOf (nxCtx ns2Query))).find "QheroOnHuman" ==
      some (.struct "QheroOnHuman" ["Deserialize"] (some "::serde")
        [{ rust := "b2", ty := .opt (.path "DateTime") },
         { rust := "HM", ty := .path "HM", flatten := true },
         { rust := "HN", ty := .path "HN", flatten := true }])) = true ∧
    ((moduleEnv (noNorm (nxCtx ns2Query)) (itemsOf (noNorm (nxCtx ns2Query)))).find "QheroOnHuman" ==
      some (.struct "QheroOnHuman" ["Deserialize"] (some "::serde")
        [{ rust := "b2", ty := .opt (.path "date_time") },
         { rust := "HM", ty := .path "HM", flatten := true },
         { rust := "HN", ty := .path "HN", flatten := true }])) = true :=
  by decide +kernel

def ns2Json : Json :=
  .obj [("hero", .obj [("mood", .str "very_sad"), ("name", .str "Luke"), ("__typename", .str "Human"), ("born", .null),
                       ("b2", .null)])]
def ns2Canon : Json :=
  .obj [("hero", .obj [("__typename", .str "Human"), ("b2", .null), ("born", .null), ("mood", .str "very_sad"),
                       ("name", .str "Luke")])]

theorem ns2_conforms : conformsOpS (noNorm (nxCtx ns2Query)) ns2Op ns2Json = true := by
  rw [conformsOpS, conformsV_eq_K]
  decide +kernel

theorem ns2_canon : normJson (canonSelD nxSchema ns2Query false (normSels ns2Op.sels) ns2Json) = ns2Canon := by
  rw [ns2_norm]
  simp only [ns2Query, ns2Json, ns2Canon]; ns_canonD_eval

/-- the `rust` module reads the reply and writes the canonical form of the `none` context: the entries of
    `... on Human { ...HN }` last -/
theorem ns2_roundtrip_rust :
    Serde.roundtrip (moduleEnvN (nxCtx ns2Query) (itemsOf (nxCtx ns2Query))) (.path "ResponseData") ns2Json = .ok ns2Canon := by
  rw [← ns2_canon]
  exact variantspread2_roundtrip_rust ns2_ok.1 (op := ns2Op) rfl ns2_class.1 ns2_ok.2.1 ns2_class.2.1 ns2Json ns2_conforms

example : ∃ v, Serde.de (moduleEnvN (nxCtx ns2Query) (itemsOf (nxCtx ns2Query))) (.path "ResponseData") ns2Json = .ok v :=
  variantspread2_accepts_rust ns2_ok.1 (op := ns2Op) rfl ns2_class.1 ns2_ok.2.1 ns2Json ns2_conforms

example (v : Val)
    (hd : Serde.de (moduleEnvN (nxCtx ns2Query) (itemsOf (nxCtx ns2Query))) (.path "ResponseData") ns2Json = .ok v) :
    Serde.ser (moduleEnvN (nxCtx ns2Query) (itemsOf (nxCtx ns2Query))) (.path "ResponseData") v = .ok ns2Canon := by
  rw [← ns2_canon]
  exact variantspread2_lossless_rust ns2_ok.1 (op := ns2Op) rfl ns2_class.1 ns2_ok.2.1 ns2_class.2.1 ns2Json ns2_conforms v hd

example : ∃ j', Serde.roundtrip (moduleEnvN (nxCtx ns2Query) (itemsOf (nxCtx ns2Query))) (.path "ResponseData") ns2Json = .ok j' ∧
    SameContent false ns2Json j' :=
  variantspread2_content_rust ns2_ok.1 (op := ns2Op) rfl ns2_class.1 ns2_ok.2.1 ns2_class.2.1 ns2Json ns2_conforms

set_option maxRecDepth 8000 in
/-- … and rejects a reply that misses the non-null `name` selected through `... on Human { ...HN }` -/
example : okB (Serde.de (moduleEnvN (nxCtx ns2Query) (itemsOf (nxCtx ns2Query))) (.path "ResponseData")
    (.obj [("hero", .obj [("__typename", .str "Human"), ("mood", .str "happy")])])) = false := by
  rw [variantspread2_precise_iff_rust ns2_ok.1 (op := ns2Op) rfl ns2_class.1 ns2_ok.2.1, ns2_norm]
  simp only [ns2Query]; ns_looseS_eval

end E2E
end C01
end GqlVerif
