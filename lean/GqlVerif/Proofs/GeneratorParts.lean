import GqlVerif.Proofs.OutcomeLemmas
/-!
What a successful call of `Codegen.responseForQuery` and of each of its parts returns (`inputItem`, `inputItems`, `variablesItems`,
`scalarItems`, `enumItems`, `fragmentItems`, `renderField`, `renderType`): the definition with its `>>=` inverted, so that a property of the items is
read off the constructor and the `mapM` equation instead of the unfolded function.
-/
namespace GqlVerif
namespace C02
open Codegen

/-- a `@oneOf` enum with one newtype variant per field (the member forced non-null), or a struct with one member per field -/
theorem inputItem_cases {c : Ctx} {i : StoredInput} {it : Item} (h : inputItem c i = .ok it) :
    (i.isOneOf = true ∧ ∃ vs,
      i.fields.mapM (fun p => do
        let t ← inputFieldType c p.2 (.required :: p.2.quals)
        pure ({ name := keywordReplace (c.cs.camel p.1), rename := fieldRename p.1 (keywordReplace (c.cs.camel p.1)),
                payload := some t } : RVariant)) = .ok vs ∧
      it = .oneOf (keywordReplace (c.o.normalization.inputName c.cs i.name)) (allVariableDerives c.o) c.serdeCrate vs) ∨
    (i.isOneOf = false ∧ ∃ fs,
      i.fields.mapM (fun p => do
        let t ← inputFieldType c p.2 p.2.quals
        pure ({ rust := keywordReplace (c.cs.snake p.1), rename := fieldRename p.1 (keywordReplace (c.cs.snake p.1)),
                ty := t, skipNone := c.o.skipNone && p.2.isOptional } : RField)) = .ok fs ∧
      it = .struct (keywordReplace (c.o.normalization.inputName c.cs i.name)) (allVariableDerives c.o) c.serdeCrate fs) := by
  unfold inputItem at h
  simp only [] at h
  split at h
  · rename_i ho
    obtain ⟨vs, hvs, h⟩ := bind_ok h
    simp only [pure, Except.pure, Except.ok.injEq] at h
    exact .inl ⟨ho, vs, hvs, h.symm⟩
  · rename_i ho
    obtain ⟨fs, hfs, h⟩ := bind_ok h
    simp only [pure, Except.pure, Except.ok.injEq] at h
    exact .inr ⟨by simpa using ho, fs, hfs, h.symm⟩

theorem inputItems_origin {c : Ctx} {u : UsedTypes} {I : List Item} (h : inputItems c u = .ok I) :
    ∀ it ∈ I, ∃ k i, .input k ∈ u.types ∧ c.s.inputs[k]? = some i ∧ inputItem c i = .ok it := by
  unfold inputItems at h
  intro it hit
  obtain ⟨⟨i, k⟩, hmem, hf⟩ := mapM_ok_mem h it hit
  rw [List.mem_filter, List.mem_zipIdx_iff_getElem?] at hmem
  exact ⟨k, i, by simpa using hmem.2, by simpa using hmem.1, hf⟩

/-- the unit struct when the operation declares no variable; otherwise the `Variables` struct, one member per declared
    variable, and the `default_*` functions of the variables that have a default value -/
theorem variablesItems_cases {c : Ctx} {op : Nat} {V : List Item} (h : variablesItems c op = .ok V) :
    (c.q.opVariables op = [] ∧ V = [.unitStruct "Variables" (allVariableDerives c.o) c.serdeCrate]) ∨
    (c.q.opVariables op ≠ [] ∧ ∃ fs dfl,
      (c.q.opVariables op).mapM (fun v => do
        let t ← variableType c v
        pure ({ rust := keywordReplace (c.cs.snake v.name), rename := fieldRename v.name (keywordReplace (c.cs.snake v.name)),
                ty := t, skipNone := c.o.skipNone && v.ty.quals.head? != some Qual.required } : RField)) = .ok fs ∧
      (c.q.opVariables op).filterMapM (fun v =>
        match v.default with
        | none => pure none
        | some d => do
          let t ← variableType c v
          literalOk c.s 64 d v.ty.id v.ty.quals
          pure (some ("default_" ++ v.name, t))) = .ok dfl ∧
      V = [.struct "Variables" (allVariableDerives c.o) c.serdeCrate fs, .defaults dfl]) := by
  unfold variablesItems at h
  simp only [] at h
  split at h
  · rename_i hemp
    simp only [pure, Except.pure, Except.ok.injEq] at h
    exact .inl ⟨by simpa using hemp, h.symm⟩
  · rename_i hemp
    obtain ⟨fs, hfs, h⟩ := bind_ok h
    obtain ⟨dfl, hdfl, h⟩ := bind_ok h
    simp only [pure, Except.pure, Except.ok.injEq] at h
    exact .inr ⟨by simpa using hemp, fs, dfl, hfs, hdfl, h.symm⟩

theorem variablesItems_default_mem {c : Ctx} {vars : List RVariable} {dfl : List (String × RTy)}
    (h : vars.filterMapM (fun v =>
        match v.default with
        | none => pure none
        | some d => do
          let t ← variableType c v
          literalOk c.s 64 d v.ty.id v.ty.quals
          pure (some ("default_" ++ v.name, t))) = .ok dfl) :
    ∀ p ∈ dfl, ∃ v ∈ vars, ∃ d t, v.default = some d ∧ variableType c v = .ok t ∧
      literalOk c.s 64 d v.ty.id v.ty.quals = .ok () ∧ p = ("default_" ++ v.name, t) := by
  intro p hp
  obtain ⟨v, hv, hfv⟩ := filterMapM_ok_mem h p hp
  cases hd : v.default with
  | none => simp [hd, pure, Except.pure] at hfv
  | some d =>
    simp only [hd] at hfv
    obtain ⟨t, ht, hfv⟩ := bind_ok hfv
    obtain ⟨_, hl, hfv⟩ := bind_ok hfv
    simp only [pure, Except.pure, Except.ok.injEq, Option.some.injEq] at hfv
    exact ⟨v, hv, d, t, hd, ht, hl, hfv.symm⟩

theorem scalarItems_cases {c : Ctx} {u : UsedTypes} {S : List Item} (h : scalarItems c u = .ok S) :
    ∃ names, (sortNat (u.types.filterMap TypeId.asScalar?)).mapM c.s.getScalar = .ok names ∧
      S = (names.filter (fun n => !Schema.defaultScalars.contains n)).map fun n =>
        .alias (c.o.normalization.scalarName c.cs n) false
          (.path ((c.o.scalarsModule.getD "super") ++ "::" ++ c.o.normalization.scalarName c.cs n)) := by
  unfold scalarItems at h
  obtain ⟨names, hn, h⟩ := bind_ok h
  simp only [pure, Except.pure, Except.ok.injEq] at h
  exact ⟨names, hn, h.symm⟩

theorem enumItems_cases {c : Ctx} {u : UsedTypes} {E : List Item} (h : enumItems c u = .ok E) :
    ∃ es, (sortNat (u.types.filterMap TypeId.asEnum?)).mapM c.s.getEnum = .ok es ∧
      E = (es.filter (fun e => !c.o.externEnums.contains e.name)).map (enumItem c) := by
  unfold enumItems at h
  obtain ⟨es, hes, h⟩ := bind_ok h
  simp only [pure, Except.pure, Except.ok.injEq] at h
  exact ⟨es, hes, h.symm⟩

theorem fragmentItems_ok {c : Ctx} {g : Nat} {its : List Item} (h : fragmentItems c g = .ok its) :
    ∃ fr, c.q.fragments[g]? = some fr ∧
      calcSelection c (calcFuel c.s c.q) fr.name (c.cs.camel fr.name) fr.on fr.sels = .ok its := by
  unfold fragmentItems at h
  obtain ⟨fr, hfr, h⟩ := bind_ok h
  exact ⟨fr, getFragment_ok hfr, h⟩

/-! ## the module -/

theorem responseForQuery_ok_full {c : Ctx} {op : Nat} {items : List Item} (h : responseForQuery c op = .ok items) :
    ∃ u S E F I V o R, allUsedTypes c.s c.q op = .ok u ∧ scalarItems c u = .ok S ∧ enumItems c u = .ok E ∧
      (sortNat u.fragments).mapM (fragmentItems c) = .ok F ∧
      inputItems c u = .ok I ∧ variablesItems c op = .ok V ∧
      c.q.operations[op]? = some o ∧ responseItems c o = .ok R ∧
      items = builtinAliases ++ S ++ E ++ I ++ V ++ F.flatten ++ R := by
  unfold responseForQuery at h
  obtain ⟨u, hu, h⟩ := bind_ok h
  obtain ⟨S, hS, h⟩ := bind_ok h
  obtain ⟨E, hE, h⟩ := bind_ok h
  obtain ⟨F, hF, h⟩ := bind_ok h
  obtain ⟨I, hI, h⟩ := bind_ok h
  obtain ⟨V, hV, h⟩ := bind_ok h
  obtain ⟨o, ho, h⟩ := bind_ok h
  obtain ⟨R, hR, h⟩ := bind_ok h
  simp only [pure, Except.pure, Except.ok.injEq] at h
  exact ⟨u, S, E, F, I, V, o, R, hu, hS, hE, hF, hI, hV, getOperation_ok ho, hR, h.symm⟩

/-! ## `renderField`, `renderType` -/

/-- `none` exactly for a deprecated field under `deny`; otherwise the member with the given Rust identifier and flatten
    flag, renamed to the GraphQL name it was given, of the decorated type (in a `Box` iff `bx`) -/
theorem renderField_cases {c : Ctx} {g : Option String} {r ft : String} {quals : List Qual} {fl bx : Bool}
    {dep : Option (Option String)} {o : Option RField} (h : renderField c g r ft quals fl bx dep = .ok o) :
    ∃ ty, decorateType (.path ft) quals = .ok ty ∧
      ((o = none ∧ dep.isSome = true ∧ c.o.deprecation = .deny) ∨
       (∃ f, o = some f ∧ ¬ (dep.isSome = true ∧ c.o.deprecation = .deny) ∧ f.rust = r ∧ f.flatten = fl ∧
         f.rename = g.bind (fun g => fieldRename g r) ∧ f.ty = if bx then .box ty else ty)) := by
  unfold renderField at h
  obtain ⟨ty, hty, h⟩ := bind_ok h
  refine ⟨ty, hty, ?_⟩
  simp only [] at h
  cases dep with
  | none =>
    cases hs : c.o.deprecation <;> simp only [pure, Except.pure, Except.ok.injEq] at h <;>
      exact .inr ⟨_, h.symm, by simp, rfl, rfl, rfl, rfl⟩
  | some m =>
    cases hs : c.o.deprecation <;> simp only [hs, pure, Except.pure, Except.ok.injEq] at h
    · exact .inr ⟨_, h.symm, by simp, rfl, rfl, rfl, rfl⟩
    · exact .inl ⟨h.symm, rfl, rfl⟩
    · exact .inr ⟨_, h.symm, by simp, rfl, rfl, rfl, rfl⟩

/-- the three shapes of the result: a tagged enum; a struct; the struct with the flattened member `on`, then its enum -/
theorem renderType_cases (c : Ctx) (name : String) (fields : List RField) (variants : List RVariant) :
    renderType c name fields variants = [.tagged name c.respDerives c.serdeCrate "__typename" variants] ∨
    renderType c name fields variants = [.struct name c.respDerives c.serdeCrate fields] ∨
    renderType c name fields variants =
      [.struct name c.respDerives c.serdeCrate (fields ++ [{ rust := "on", ty := .path (name ++ "On"), flatten := true }]),
       .tagged (name ++ "On") c.respDerives c.serdeCrate "__typename" variants] := by
  unfold renderType
  split
  · exact .inl rfl
  · split
    · exact .inr (.inl rfl)
    · exact .inr (.inr rfl)

end C02
end GqlVerif
