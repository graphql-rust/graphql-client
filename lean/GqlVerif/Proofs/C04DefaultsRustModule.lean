import GqlVerif.Proofs.C04DefaultsRustEval
/-!
# C04 under `normalization = rust` — the `default_*` bodies of the emitted module type-check and denote the default

`C04DefaultsModule.lean` proves `default_typechecks` / `default_value_correct` for the module generated under
normalization `none`.  This file transfers both to a context `c₁` with `normalization = rust` (any normalization, in
fact: `c₁` agrees with the `none` context `c₀` on everything else, `NormAgree c₀ c₁`; the primed forms take
`c₀ := noNorm c₁`), through the renaming of `C09`:

* the `none` theorem (`C04D.default_good`) gives the literal `lit₀`, its value `x₀`, and what it is written as;
* `valueToLiteral_rename` (`C04DefaultsRustLit.lean`): the literal `lit₁` rendered under `c₁` has the same shape, its
  struct / enum names and variant identifiers are those of `lit₀` mapped by the name correspondence `Corr` of the two
  modules (`name_facts`: read off the positions of the items the two generators emit — the input types of the used
  set, in schema order; the string enums, `EnumsFrom`);
* `evalLit_rename` (`C04DefaultsRustEval.lean`): `lit₁` type-checks at the renamed type (`variableType c₁ v`, related
  to `variableType c₀ v` as the two `Variables` structs are: `variableType_tyRen`) and denotes the counterpart of `x₀`;
* `C04R.hasTy_rename`: the counterpart is a value of the renamed type; `C09N.ser_rename`: it is written as the same
  JSON.

Hypotheses: those of the `none` theorems about `c₀` / `items₀`, plus `RustSideV c₀ c₁ op items₀ items₁` (exactly the side
conditions of `C04R.variables_expressible_rust`: `NormAgree`, `IdStable`, both generations succeed, `NamesInjective`,
`EnumIdentsInjective`, `FieldsWF`).  No new condition on the default: `enumOk` (what `valueToLiteral_rename` needs of
the enum literals) follows from `ValidC` + `kindOk` for closed enums (`enumOk_of_validC`).
-/
namespace GqlVerif
namespace C04DR
open Codegen Serde C04S C04R C04D C09 C09N
open C01.E2E (noNorm)

/-! ## 1. a valid default satisfies `enumOk` -/

theorem enumOkList_of {s : Schema} {id : TypeId} : ∀ {ds : List Value}, (∀ x ∈ ds, enumOk s id x = true) →
    enumOkList s id ds = true
  | [], _ => by rw [enumOkList]
  | x :: xs, h => by
    rw [enumOkList, h x (by simp), enumOkList_of (fun y hy => h y (by simp [hy]))]
    rfl

theorem enumOkKvs_of {s : Schema} {fields : List (String × FieldType)} : ∀ {dk : List (String × Value)},
    (∀ kv ∈ dk, ∀ p, fields.find? (·.1 == kv.1) = some p → enumOk s p.2.id kv.2 = true) → enumOkKvs s fields dk = true
  | [], _ => by rw [enumOkKvs]
  | (k, v) :: rest, h => by
    rw [enumOkKvs, enumOkKvs_of (fun kv hkv => h kv (by simp [hkv])), Bool.and_true]
    cases hf : fields.find? (·.1 == k) with
    | none => rfl
    | some p => exact h (k, v) (by simp) p hf

theorem keys_valueJsonKvs : ∀ dk : List (String × Value), keys (valueJsonKvs dk) = dk.map (·.1)
  | [] => by rw [valueJsonKvs]; rfl
  | (k, v) :: rest => by
    rw [valueJsonKvs]
    simp only [keys, List.map_cons, List.cons.injEq, true_and]
    exact keys_valueJsonKvs rest

/-- **a default that is valid (with closed enums) and satisfies `kindOk` satisfies `enumOk`** -/
theorem enumOk_of_validC {L : Leaves} {s : Schema} (U : TypeId → Prop)
    (hfn : ∀ k i, U (.input k) → s.inputs[k]? = some i → (i.fields.map (·.1)).Nodup ∧ ∀ p ∈ i.fields, U p.2.id)
    (hclosed : L.enumOpen = false) {id : TypeId} {b : Bool} {t : GTy} {j : Json} (h : ValidC L s id b t j) :
    U id → ∀ d : Value, valueJson d = j → kindOk s id d = true → enumOk s id d = true := by
  induction h with
  | null hn =>
    intro _ d hd hk
    cases d <;> simp [valueJson] at hd <;> simp [enumOk]
  | some hn hv ih => exact ih
  | bang hv ih => exact ih
  | @list id t xs hv ih =>
    intro hU d hd hk
    obtain ⟨ds, rfl, rfl⟩ := valueJson_arr hd
    rw [kindOk] at hk
    rw [enumOk]
    exact enumOkList_of (fun x hx => ih (valueJson x) (List.mem_map_of_mem hx) hU x rfl (kindOkList_mem hk hx))
  | wrap hna hnn hv ih => exact ih
  | @scalar k n nm j hn hok =>
    intro _ d hd hk
    subst hd
    cases d with
    | «enum» v => simp [kindOk, TypeId.asEnum?] at hk
    | list ds => rw [valueJson, scalarOk_arr] at hok; cases hok
    | obj dk => simp [enumOk, inputOf]
    | null => simp [enumOk]
    | var _ => simp [enumOk]
    | int _ => simp [enumOk]
    | float _ => simp [enumOk]
    | str _ => simp [enumOk]
    | bool _ => simp [enumOk]
  | @«enum» k en nm v hen hv =>
    intro _ d hd hk
    have hvm : v ∈ en.variants := by
      rcases hv with h | h
      · rw [hclosed] at h; cases h
      · exact h
    have hd' : d = .enum v := by
      cases d <;> simp [valueJson] at hd
      · simp [kindOk, TypeId.asEnum?] at hk
      · rw [hd]
    subst hd'
    simp [enumOk, TypeId.asEnum?, hen, hvm]
  | @object k i nm kvs hi hone hnd hsub habs hpres ih =>
    intro hU d hd hk
    obtain ⟨dk, rfl, rfl⟩ := valueJson_obj hd
    obtain ⟨hnames, hcl⟩ := hfn k i hU hi
    have hkk : kindOkKvs s i.fields dk = true := by
      rw [kindOk] at hk
      simpa [inputOf, hi] using hk
    rw [enumOk]
    simp only [inputOf, hi]
    refine enumOkKvs_of (fun kv hkv p hf => ?_)
    have hpm : p ∈ i.fields := List.mem_of_find?_eq_some hf
    have hpk : p.1 = kv.1 := by simpa using List.find?_some hf
    rw [keys_valueJsonKvs] at hnd
    have hfd : dk.find? (·.1 == p.1) = some kv := by
      rw [hpk]
      exact find_by_key (·.1) dk hnd kv hkv
    have hlk : Json.lookup p.1 (valueJsonKvs dk) = some (valueJson kv.2) := by
      rw [lookup_valueJsonKvs, hfd]; rfl
    exact ih p hpm (valueJson kv.2) hlk (hcl p hpm) kv.2 rfl (kindOkKvs_find hnames hpm hkk hfd)
  | @oneOf k i nm p v hi hone hpm hv ih =>
    intro hU d hd hk
    obtain ⟨dk, rfl, hkv⟩ := valueJson_obj hd
    obtain ⟨dv, rfl, rfl⟩ := valueJsonKvs_single hkv
    obtain ⟨hnames, hcl⟩ := hfn k i hU hi
    have hkd : kindOk s p.2.id dv = true := by
      rw [kindOk] at hk
      simp only [inputOf, hi, kindOkKvs, find_field hnames hpm, Bool.and_true] at hk
      exact hk
    rw [enumOk]
    simp only [inputOf, hi, enumOkKvs, find_field hnames hpm, Bool.and_true]
    exact ih (hcl p hpm) dv rfl hkd

/-! ## 2. positions -/

theorem mem_zip_append_left {α β} : ∀ {l : List α} {l' : List β} {x : α × β} (r : List α) (r' : List β),
    x ∈ l.zip l' → x ∈ (l ++ r).zip (l' ++ r')
  | [], _, _, _, _, h => by simp at h
  | _ :: _, [], _, _, _, h => by simp at h
  | a :: l, b :: l', x, r, r', h => by
    simp only [List.zip_cons_cons, List.mem_cons, List.cons_append] at h ⊢
    rcases h with h | h
    · exact Or.inl h
    · exact Or.inr (mem_zip_append_left r r' h)

theorem mem_zip_mid {α β} {a m r : List α} {a' m' r' : List β} (hl : a.length = a'.length) {x : α × β}
    (hx : x ∈ m.zip m') : x ∈ (a ++ m ++ r).zip (a' ++ m' ++ r') := by
  rw [List.append_assoc, List.append_assoc, List.zip_append hl]
  exact List.mem_append_right _ (mem_zip_append_left r r' hx)

theorem mapM_zip_mem {ε α β : Type} {f g : α → Except ε β} : ∀ {l : List α} {r r' : List β}, l.mapM f = .ok r →
    l.mapM g = .ok r' → ∀ a ∈ l, ∃ y y', f a = .ok y ∧ g a = .ok y' ∧ (y, y') ∈ r.zip r'
  | [], _, _, _, _, a, ha => by simp at ha
  | b :: l, r, r', h, h', a, ha => by
    rw [List.mapM_cons] at h h'
    obtain ⟨y, hy, h⟩ := C02.bind_ok h
    obtain ⟨ys, hys, h⟩ := C02.bind_ok h
    obtain ⟨y', hy', h'⟩ := C02.bind_ok h'
    obtain ⟨ys', hys', h'⟩ := C02.bind_ok h'
    simp only [pure, Except.pure, Except.ok.injEq] at h h'
    subst h h'
    rcases List.mem_cons.mp ha with rfl | ha
    · exact ⟨y, y', hy, hy', by simp⟩
    · obtain ⟨z, z', hz, hz', hm⟩ := mapM_zip_mem hys hys' a ha
      exact ⟨z, z', hz, hz', by simp [hm]⟩

/-- `Env.find` in two environments related by a renaming finds items at the same position -/
theorem find_zip {R : String → String → Prop} {e e' : Env} (H : EnvRen R e e') {p p' : String} (hr : R p p')
    {it : Item} (hf : e.find p = some it) : ∃ it', e'.find p' = some it' ∧ (it, it') ∈ e.items.zip e'.items := by
  unfold Env.find at hf ⊢
  refine All2.find_zip H.items (fun a b hab => ?_) hf
  have := H.bij a.name b.name p p' hab.name hr
  by_cases hq : a.name = p
  · rw [beq_iff_eq.mpr hq, beq_iff_eq.mpr (this.mp hq)]
  · have hq' : ¬ b.name = p' := fun hb => hq (this.mpr hb)
    rw [beq_eq_false_iff_ne.mpr hq, beq_eq_false_iff_ne.mpr hq']

theorem corr_of_pairs {e e' : Env} {it it' : Item} (h : (it, it') ∈ e.items.zip e'.items) {a b : String}
    (hab : (a, b) ∈ itemPairs it it') : Corr e e' a b :=
  List.mem_append_left _ (List.mem_flatMap.mpr ⟨(it, it'), h, hab⟩)

/-! ## 3. the names of two generated modules -/

theorem enumItem_inj {c : Ctx} (hnorm : c.o.normalization = .none) {e e' : StoredEnum}
    (h : enumItem c e = enumItem c e') : e = e' := by
  rw [enumItem_eq, enumItem_eq, hnorm] at h
  simp only [Item.gqlEnum.injEq] at h
  obtain ⟨hn, _, _, _, _, hde⟩ := h
  have hv := congrArg (List.map Prod.fst) hde
  simp only [List.map_map, Function.comp_def, List.map_id'] at hv
  cases e; cases e'
  simp only [Normalization.enumName, Normalization.camelCase] at hn
  simp only at hv
  rw [hn, hv]

/-- the relation `EV` of the application: the identifiers the two contexts give to a value of a used enum -/
def EVof (c₀ c₁ : Ctx) (U : TypeId → Prop) (en var var' : String) : Prop :=
  ∃ k e, U (.enum k) ∧ c₀.s.enums[k]? = some e ∧ en = c₀.o.normalization.enumName c₀.cs e.name ∧
    ∃ v ∈ e.variants, var = enumVariantIdent c₀.o.normalization c₀.cs v ∧
      var' = enumVariantIdent c₁.o.normalization c₁.cs v

theorem members_tyRen {R : String → String → Prop} {c₀ c₁ : Ctx} : ∀ {vars : List RVariable} {fs₀ fs₁ : List RField},
    C01.All2 (C04Keys.IsMember c₀) vars fs₀ → C01.All2 (C04Keys.IsMember c₁) vars fs₁ → All2 (FieldRen R) fs₀ fs₁ →
    ∀ v ∈ vars, ∃ t₀ t₁, variableType c₀ v = .ok t₀ ∧ variableType c₁ v = .ok t₁ ∧ TyRen R t₀ t₁
  | _, _, _, .nil, _, _, v, hv => by simp at hv
  | _, _, _, .cons h0 r0, h1, hf, v, hv => by
    cases h1 with
    | cons h1 r1 =>
      cases hf with
      | cons hf rf =>
        rcases List.mem_cons.mp hv with rfl | hv
        · obtain ⟨t₀, ht₀, rfl⟩ := h0
          obtain ⟨t₁, ht₁, rfl⟩ := h1
          exact ⟨t₀, t₁, ht₀, ht₁, hf.ty⟩
        · exact members_tyRen r0 r1 rf v hv

section Transfer
variable {c₀ c₁ : Ctx} {op : Nat} {items₀ items₁ : List Item} (W : RustSideV c₀ c₁ op items₀ items₁)
include W

/-- the two generated modules split into the same five chunks — the built-in aliases, scalar aliases and enums (`A`),
    input types (`I`), the `Variables` items (`V`), the rest (`T`) — with `A` and `I` of equal lengths on both sides -/
theorem decompose : ∃ u A₀ A₁ I₀ I₁ V₀ V₁ T₀ T₁, allUsedTypes c₀.s c₀.q op = .ok u ∧
    items₀ = builtinAliases ++ A₀ ++ I₀ ++ V₀ ++ T₀ ∧ items₁ = builtinAliases ++ A₁ ++ I₁ ++ V₁ ++ T₁ ∧
    A₀.length = A₁.length ∧ I₀.length = I₁.length ∧ inputItems c₀ u = .ok I₀ ∧ inputItems c₁ u = .ok I₁ ∧
    variablesItems c₀ op = .ok V₀ ∧ variablesItems c₁ op = .ok V₁ := by
  have H := W.agree
  obtain ⟨u, S₀, E₀, F₀, I₀, V₀, o, R₀, hu, hS₀, hE₀, hF₀, hI₀, hV₀, ho, hR₀, hit₀⟩ := C02.responseForQuery_ok_full W.gen₀
  obtain ⟨u', S₁, E₁, F₁, I₁, V₁, o', R₁, hu', hS₁, hE₁, hF₁, hI₁, hV₁, ho', hR₁, hit₁⟩ :=
    C02.responseForQuery_ok_full W.gen₁
  rw [H.s, H.q, hu] at hu'
  cases hu'
  have hS := scalarItems_erase H u
  rw [hS₀, hS₁] at hS
  have hE := enumItems_erase H u
  rw [hE₀, hE₁] at hE
  have hI : ORel EI (inputItems c₀ u) (inputItems c₁ u) := by
    unfold inputItems
    simp only [H.s]
    exact ORel.mapM eraseItem (fun (x : StoredInput × Nat) => inputItem_erase H x.1) _
  rw [hI₀, hI₁] at hI
  refine ⟨u, S₀ ++ E₀, S₁ ++ E₁, I₀, I₁, V₀, V₁, F₀.flatten ++ R₀, F₁.flatten ++ R₁, hu, ?_, ?_, ?_, ei_length hI,
    hI₀, hI₁, hV₀, hV₁⟩
  · rw [hit₀]; simp only [List.append_assoc]
  · rw [hit₁]; simp only [List.append_assoc]
  · simp only [List.length_append, ei_length hS, ei_length hE]

/-- `String` corresponds to `String` (the alias `ID = String` sits at the same place in both modules) -/
theorem string_corr : Corr (moduleEnv c₀ items₀) (moduleEnvN c₁ items₁) "String" "String" := by
  obtain ⟨u, A₀, A₁, I₀, I₁, V₀, V₁, T₀, T₁, _, h₀, h₁, _⟩ := decompose W
  have hz : ((Item.alias "ID" false (.path "String"), Item.alias "ID" false (.path "String")) : Item × Item) ∈
      items₀.zip items₁ := by
    rw [h₀, h₁]
    simp only [List.append_assoc]
    exact mem_zip_append_left _ _ (by simp [builtinAliases])
  exact corr_of_pairs (e := moduleEnv c₀ items₀) (e' := moduleEnvN c₁ items₁) hz (by simp [itemPairs, itemTys, tyLeaf])

/-- the items of a used input type sit at the same place in both modules -/
theorem input_zip {u : UsedTypes} (hu : allUsedTypes c₀.s c₀.q op = .ok u) {k : Nat} {i : StoredInput}
    (hk : .input k ∈ u.types) (hi : c₀.s.inputs[k]? = some i) :
    ∃ it₀ it₁, inputItem c₀ i = .ok it₀ ∧ inputItem c₁ i = .ok it₁ ∧ (it₀, it₁) ∈ items₀.zip items₁ := by
  have H := W.agree
  obtain ⟨u', A₀, A₁, I₀, I₁, V₀, V₁, T₀, T₁, hu', h₀, h₁, hA, _, hI₀, hI₁, _⟩ := decompose W
  rw [hu] at hu'
  cases hu'
  unfold inputItems at hI₀ hI₁
  rw [H.s] at hI₁
  have hmem : (i, k) ∈ c₀.s.inputs.zipIdx.filter (fun (x : StoredInput × Nat) => u.types.contains (.input x.2)) := by
    rw [List.mem_filter]
    refine ⟨?_, by simpa using hk⟩
    rw [List.mem_zipIdx_iff_getElem?]
    simpa using hi
  obtain ⟨it₀, it₁, h0, h1, hz⟩ := mapM_zip_mem hI₀ hI₁ (i, k) hmem
  refine ⟨it₀, it₁, h0, h1, ?_⟩
  rw [h₀, h₁]
  have hl : (builtinAliases ++ A₀).length = (builtinAliases ++ A₁).length := by
    simp only [List.length_append, hA]
  have := mem_zip_mid (r := V₀ ++ T₀) (r' := V₁ ++ T₁) hl hz
  simpa only [List.append_assoc] using this

/-- the `Variables` structs sit at the same place, their members are those of the declared variables -/
theorem variables_zip (hne : c₀.q.opVariables op ≠ []) : ∃ fs₀ fs₁,
    (Item.struct "Variables" (allVariableDerives c₀.o) c₀.serdeCrate fs₀,
      Item.struct "Variables" (allVariableDerives c₁.o) c₁.serdeCrate fs₁) ∈ items₀.zip items₁ ∧
    C01.All2 (C04Keys.IsMember c₀) (c₀.q.opVariables op) fs₀ ∧
    C01.All2 (C04Keys.IsMember c₁) (c₀.q.opVariables op) fs₁ := by
  have H := W.agree
  obtain ⟨u', A₀, A₁, I₀, I₁, V₀, V₁, T₀, T₁, hu', h₀, h₁, hA, hI, _, _, hV₀, hV₁⟩ := decompose W
  rcases C04Keys.variablesItems_inv c₀ op V₀ hV₀ with ⟨hnil, _⟩ | ⟨_, fs₀, dfl₀, rfl, hall₀⟩
  · exact absurd hnil hne
  rcases C04Keys.variablesItems_inv c₁ op V₁ hV₁ with ⟨hnil, _⟩ | ⟨_, fs₁, dfl₁, rfl, hall₁⟩
  · rw [H.q] at hnil; exact absurd hnil hne
  rw [H.q] at hall₁
  refine ⟨fs₀, fs₁, ?_, hall₀, hall₁⟩
  rw [h₀, h₁]
  have hl : (builtinAliases ++ A₀ ++ I₀).length = (builtinAliases ++ A₁ ++ I₁).length := by
    simp only [List.length_append, hA, hI]
  have := mem_zip_append (builtinAliases ++ A₀ ++ I₀) (builtinAliases ++ A₁ ++ I₁)
    (Item.struct "Variables" (allVariableDerives c₀.o) c₀.serdeCrate fs₀)
    (Item.struct "Variables" (allVariableDerives c₁.o) c₁.serdeCrate fs₁) (Item.defaults dfl₀ :: T₀) (Item.defaults dfl₁ :: T₁) hl
  simpa only [List.append_assoc, List.cons_append, List.nil_append] using this

local notation "E₀" => moduleEnv c₀ items₀
local notation "E₁" => moduleEnvN c₁ items₁

/-- the Rust types of a declared variable in the two modules correspond -/
theorem variableType_tyRen (hmem : ∀ it ∈ items₀, (C02.memberIdents it).Nodup) {v : RVariable}
    (hv : v ∈ c₀.q.opVariables op) :
    ∃ t₀ t₁, variableType c₀ v = .ok t₀ ∧ variableType c₁ v = .ok t₁ ∧ TyRen (Corr E₀ E₁) t₀ t₁ := by
  obtain ⟨henv, _, _, _⟩ := W.env hmem
  have hne : c₀.q.opVariables op ≠ [] := fun hnil => by rw [hnil] at hv; cases hv
  obtain ⟨fs₀, fs₁, hz, hall₀, hall₁⟩ := variables_zip W hne
  have hren := All2.forall_zip henv.items _ hz
  cases hren with
  | struct _ hfs => exact members_tyRen hall₀ hall₁ hfs v hv

/-- a string enum of the first module and the item at the same place of the second come from the same schema enum -/
theorem enum_partner (hnorm : c₀.o.normalization = .none) {en : StoredEnum} {it' : Item}
    (hz : (enumItem c₀ en, it') ∈ items₀.zip items₁) : it' = enumItem c₁ en := by
  have hm := normalization_modRel W.agree W.idStable op
  rw [W.gen₀, W.gen₁] at hm
  obtain ⟨_, _, _, _, _, _, _, _, _, _, _, _, _, _, _, _, _, _, hef⟩ := (show ModRel c₀ c₁ items₀ items₁ from hm)
  rcases hef _ hz with ⟨e2, _, hx⟩ | hne
  · simp only [Prod.mk.injEq] at hx
    have := enumItem_inj hnorm hx.1
    subst this
    exact hx.2
  · simp [enumItem, isEnum] at hne

/-- **the name correspondence of the two modules relates the names the two renderers write** -/
theorem name_facts (hnorm : c₀.o.normalization = .none) (hext : c₀.o.externEnums = [])
    (hmem : ∀ it ∈ items₀, (C02.memberIdents it).Nodup) {u : UsedTypes} (hu : allUsedTypes c₀.s c₀.q op = .ok u)
    (env : InputEnv c₀ E₀ (· ∈ u.types)) :
    NameFacts c₀ c₁ (· ∈ u.types) (Corr E₀ E₁) (EVof c₀ c₁ (· ∈ u.types)) where
  inputs := by
    intro k i hk hi
    obtain ⟨it₀, it₁, h0, h1, hz⟩ := input_zip W hu hk hi
    have := corr_of_zip (e := E₀) (e' := E₁) hz
    rwa [C02.inputItem_name h0, C02.inputItem_name h1] at this
  enums := by
    intro k en hk hen
    obtain ⟨henv, _, _, _⟩ := W.env hmem
    have hf := find_enumItem c₀ op items₀ hnorm hext W.gen₀ hu E₀ rfl env k en hk hen
    have hin : enumItem c₀ en ∈ items₀ := mem_of_find hf
    obtain ⟨it', hz⟩ := mem_zip_of_mem_left hin (All2.length_eq henv.items)
    have := enum_partner W hnorm hz
    subst this
    refine ⟨corr_of_zip (e := E₀) (e' := E₁) hz, fun v hv => ⟨k, en, hk, hen, rfl, v, hv, rfl, rfl⟩⟩
  closed := fun k i hk hi => ⟨env.fieldNames k i hk hi, fun p hp => (env.closed k i hk hi p hp).1⟩

/-- **… and the identifiers they write for the values of an enum sit at the same place of the two enums** -/
theorem enum_facts (hnorm : c₀.o.normalization = .none) (hext : c₀.o.externEnums = [])
    (hmem : ∀ it ∈ items₀, (C02.memberIdents it).Nodup) {u : UsedTypes} (hu : allUsedTypes c₀.s c₀.q op = .ok u)
    (env : InputEnv c₀ E₀ (· ∈ u.types)) :
    EnumFacts (Corr E₀ E₁) (EVof c₀ c₁ (· ∈ u.types)) E₀ E₁ := by
  obtain ⟨henv, _, _, _⟩ := W.env hmem
  rintro en var var' ⟨k, e, hk, hen, rfl, v, hv, rfl, rfl⟩ p p' n d sp ids ser de n' d' sp' ids' ser' de' hres hr hf hf' _
  have hfe := find_enumItem c₀ op items₀ hnorm hext W.gen₀ hu E₀ rfl env k e hk hen
  have hname : c₀.o.normalization.enumName c₀.cs e.name = e.name := by rw [hnorm]; rfl
  rw [hname] at hres
  have hp : p = e.name := by
    have := resolveTy_gqlEnum E₀ (env.enums k e hk hen).1 (by rw [enumItem_eq] at hfe; exact hfe)
    rw [this] at hres
    exact (RTy.path.inj hres).symm
  subst hp
  rw [hfe] at hf
  obtain ⟨it', hf2, hz⟩ := find_zip henv hr hfe
  rw [hf'] at hf2
  have hit' := enum_partner W hnorm hz
  rw [← Option.some.inj hf2] at hit'
  rw [enumItem_eq] at hf hit'
  simp only [Option.some.injEq, Item.gqlEnum.injEq] at hf hit'
  obtain ⟨_, _, _, _, _, hde⟩ := hf
  obtain ⟨_, _, _, _, _, hde'⟩ := hit'
  rw [← hde, hde']
  simp only [identPairs, List.map_map, Function.comp_def, List.zip_map']
  exact List.mem_map.mpr ⟨v, hv, rfl⟩

/-- **the core of the transfer**: the literal rendered under `c₁` has no `compile_error!`, type-checks at the variable's
    type in `c₁`'s module, denotes a value of that type, and the value is written as the coerced canonical default -/
theorem default_good_rust (L : Leaves)
    (hnorm : c₀.o.normalization = .none)
    (hkwI : ∀ i ∈ c₀.s.inputs, keywordReplace i.name = i.name)
    (hkwS : ∀ n ∈ c₀.s.scalars, keywordReplace n = n)
    (hkwE : ∀ e ∈ c₀.s.enums, keywordReplace e.name = e.name)
    (hwf : C02.OutputOnly c₀.s c₀.q = true) (hrel : C02.InputFieldsRelevant c₀.s = true)
    (hvars : ∀ v ∈ c₀.q.opVariables op, C02.Relevant v.ty.id)
    (hdef : (Scope.defines items₀).Nodup) (hmem : ∀ it ∈ items₀, (C02.memberIdents it).Nodup)
    (hprim : ∀ it ∈ items₀, C01.notPrim it.name) (hfree : ExternsFree c₀ items₀)
    (hint : ∀ n, L.intOk n = true → inI64 n = true) (hclosed : L.enumOpen = false) (hext : c₀.o.externEnums = [])
    (v : RVariable) (hv : v ∈ c₀.q.opVariables op) (d : Value)
    (hvalid : ValidC L c₀.s v.ty.id false (gty v.ty) (valueJson d))
    (hkind : kindOk c₀.s v.ty.id d = true) (hdepth : valueDepth d < 64) :
    ∃ lit t x, valueToLiteral c₁ 64 d v.ty.id v.ty.quals = .ok lit ∧ lit.hasCompileError = false ∧
      variableType c₁ v = .ok t ∧ evalLit E₁ lit t = some x ∧ HasTy E₁ t x ∧
      Serde.ser E₁ t x =
        .ok (canon c₀.s c₀.o.skipNone v.ty.id (gty v.ty) (coerce c₀.s v.ty.id (gty v.ty) (valueJson d))) := by
  obtain ⟨lit₀, t₀, x₀, hlit₀, ht₀, hg⟩ := default_good L c₀ op items₀ hnorm hkwI hkwS hkwE hwf hrel hvars hdef hmem hprim
    hfree hint hclosed hext W.gen₀ v hv d hvalid hkind hdepth
  obtain ⟨henv, _, hw, hw'⟩ := W.env hmem
  obtain ⟨u, hu, env⟩ := inputEnv_of_module c₀ op items₀ hnorm hkwI hwf hrel hdef hmem hprim hfree W.gen₀
  have hU : v.ty.id ∈ u.types := C02.variable_types_used c₀.s c₀.q op u hu v hv (hvars v hv)
  have F := name_facts W hnorm hext hmem hu env
  have hok : enumOk c₀.s v.ty.id d = true :=
    enumOk_of_validC (· ∈ u.types) F.closed hclosed hvalid hU d rfl hkind
  have hrel := valueToLiteral_rename W.agree.s W.agree.cs F 64 d v.ty.id v.ty.quals hU hok
  rw [hlit₀] at hrel
  cases hlit₁ : valueToLiteral c₁ 64 d v.ty.id v.ty.quals with
  | error err => rw [hlit₁] at hrel; exact hrel.elim
  | ok lit₁ =>
  rw [hlit₁] at hrel
  have hlr : LitRel (Corr E₀ E₁) (EVof c₀ c₁ (· ∈ u.types)) lit₀ lit₁ := hrel
  obtain ⟨t₀', t₁, ht₀', ht₁, htr⟩ := variableType_tyRen W hmem hv
  rw [ht₀] at ht₀'
  cases ht₀'
  obtain ⟨x₁, hx₁, hvr⟩ := evalLit_rename henv hw hw' (string_corr W) (enum_facts W hnorm hext hmem hu env) lit₀ lit₁ hlr
    t₀ t₁ htr x₀ hg.eval
  obtain ⟨x', hc⟩ := hasTy_rename henv hw hw' hg.ty t₁ htr
  have hxx : x₁ = x' := hc.2.2 x₁ hvr
  subst hxx
  refine ⟨lit₁, t₁, x₁, rfl, ?_, ht₁, hx₁, hc.2.1, ?_⟩
  · rw [← hasCompileError_rel lit₀ lit₁ hlr]; exact hg.noErr
  · exact (drel_eq_ok (ser_rename henv htr hvr) _).mp (good_top hg)

theorem default_typechecks_rust (L : Leaves)
    (hnorm : c₀.o.normalization = .none)
    (hkwI : ∀ i ∈ c₀.s.inputs, keywordReplace i.name = i.name)
    (hkwS : ∀ n ∈ c₀.s.scalars, keywordReplace n = n)
    (hkwE : ∀ e ∈ c₀.s.enums, keywordReplace e.name = e.name)
    (hwf : C02.OutputOnly c₀.s c₀.q = true) (hrel : C02.InputFieldsRelevant c₀.s = true)
    (hvars : ∀ v ∈ c₀.q.opVariables op, C02.Relevant v.ty.id)
    (hdef : (Scope.defines items₀).Nodup) (hmem : ∀ it ∈ items₀, (C02.memberIdents it).Nodup)
    (hprim : ∀ it ∈ items₀, C01.notPrim it.name) (hfree : ExternsFree c₀ items₀)
    (hint : ∀ n, L.intOk n = true → inI64 n = true) (hclosed : L.enumOpen = false) (hext : c₀.o.externEnums = [])
    (v : RVariable) (hv : v ∈ c₀.q.opVariables op) (d : Value)
    (hvalid : ValidC L c₀.s v.ty.id false (gty v.ty) (valueJson d))
    (hkind : kindOk c₀.s v.ty.id d = true) (hdepth : valueDepth d < 64) :
    ∃ lit t x, valueToLiteral c₁ 64 d v.ty.id v.ty.quals = .ok lit ∧ lit.hasCompileError = false ∧
      variableType c₁ v = .ok t ∧ evalLit (moduleEnvN c₁ items₁) lit t = some x ∧ HasTy (moduleEnvN c₁ items₁) t x := by
  obtain ⟨lit, t, x, h1, h2, h3, h4, h5, _⟩ := default_good_rust W L hnorm hkwI hkwS hkwE hwf hrel hvars hdef hmem hprim
    hfree hint hclosed hext v hv d hvalid hkind hdepth
  exact ⟨lit, t, x, h1, h2, h3, h4, h5⟩

theorem default_value_correct_rust (L : Leaves)
    (hnorm : c₀.o.normalization = .none)
    (hkwI : ∀ i ∈ c₀.s.inputs, keywordReplace i.name = i.name)
    (hkwS : ∀ n ∈ c₀.s.scalars, keywordReplace n = n)
    (hkwE : ∀ e ∈ c₀.s.enums, keywordReplace e.name = e.name)
    (hwf : C02.OutputOnly c₀.s c₀.q = true) (hrel : C02.InputFieldsRelevant c₀.s = true)
    (hvars : ∀ v ∈ c₀.q.opVariables op, C02.Relevant v.ty.id)
    (hdef : (Scope.defines items₀).Nodup) (hmem : ∀ it ∈ items₀, (C02.memberIdents it).Nodup)
    (hprim : ∀ it ∈ items₀, C01.notPrim it.name) (hfree : ExternsFree c₀ items₀)
    (hint : ∀ n, L.intOk n = true → inI64 n = true) (hclosed : L.enumOpen = false) (hext : c₀.o.externEnums = [])
    (v : RVariable) (hv : v ∈ c₀.q.opVariables op) (d : Value)
    (hvalid : ValidC L c₀.s v.ty.id false (gty v.ty) (valueJson d))
    (hkind : kindOk c₀.s v.ty.id d = true) (hdepth : valueDepth d < 64)
    (lit : LitExpr) (t : RTy) (x : Val) (hlit : valueToLiteral c₁ 64 d v.ty.id v.ty.quals = .ok lit)
    (ht : variableType c₁ v = .ok t) (hx : evalLit (moduleEnvN c₁ items₁) lit t = some x) :
    Serde.ser (moduleEnvN c₁ items₁) t x =
      .ok (canon c₀.s c₀.o.skipNone v.ty.id (gty v.ty) (coerce c₀.s v.ty.id (gty v.ty) (valueJson d))) := by
  obtain ⟨lit', t', x', hlit', _, ht', hx', _, hser⟩ := default_good_rust W L hnorm hkwI hkwS hkwE hwf hrel hvars hdef hmem
    hprim hfree hint hclosed hext v hv d hvalid hkind hdepth
  rw [hlit] at hlit'; cases hlit'
  rw [ht] at ht'; cases ht'
  rw [hx] at hx'; cases hx'
  exact hser

end Transfer

/-! ## stated over the `rust` context alone: `c₀ := noNorm c₁`

`(noNorm c₁).s`, `.q`, `.cs`, `.o.skipNone`, `.o.externEnums` are definitionally `c₁`'s: the statements only mention
`c₁` (and `items₀`, the module generated under `none`, in the compile-side hypotheses). -/

theorem default_typechecks_rust' (L : Leaves) (c₁ : Ctx) (op : Nat) (items₀ items₁ : List Item)
    (W : RustSideV (noNorm c₁) c₁ op items₀ items₁)
    (hkwI : ∀ i ∈ c₁.s.inputs, keywordReplace i.name = i.name)
    (hkwS : ∀ n ∈ c₁.s.scalars, keywordReplace n = n)
    (hkwE : ∀ e ∈ c₁.s.enums, keywordReplace e.name = e.name)
    (hwf : C02.OutputOnly c₁.s c₁.q = true) (hrel : C02.InputFieldsRelevant c₁.s = true)
    (hvars : ∀ v ∈ c₁.q.opVariables op, C02.Relevant v.ty.id)
    (hdef : (Scope.defines items₀).Nodup) (hmem : ∀ it ∈ items₀, (C02.memberIdents it).Nodup)
    (hprim : ∀ it ∈ items₀, C01.notPrim it.name) (hfree : ExternsFree (noNorm c₁) items₀)
    (hint : ∀ n, L.intOk n = true → inI64 n = true) (hclosed : L.enumOpen = false) (hext : c₁.o.externEnums = [])
    (v : RVariable) (hv : v ∈ c₁.q.opVariables op) (d : Value)
    (hvalid : ValidC L c₁.s v.ty.id false (gty v.ty) (valueJson d))
    (hkind : kindOk c₁.s v.ty.id d = true) (hdepth : valueDepth d < 64) :
    ∃ lit t x, valueToLiteral c₁ 64 d v.ty.id v.ty.quals = .ok lit ∧ lit.hasCompileError = false ∧
      variableType c₁ v = .ok t ∧ evalLit (moduleEnvN c₁ items₁) lit t = some x ∧ HasTy (moduleEnvN c₁ items₁) t x :=
  default_typechecks_rust W L rfl hkwI hkwS hkwE hwf hrel hvars hdef hmem hprim hfree hint hclosed hext v hv d hvalid
    hkind hdepth

theorem default_value_correct_rust' (L : Leaves) (c₁ : Ctx) (op : Nat) (items₀ items₁ : List Item)
    (W : RustSideV (noNorm c₁) c₁ op items₀ items₁)
    (hkwI : ∀ i ∈ c₁.s.inputs, keywordReplace i.name = i.name)
    (hkwS : ∀ n ∈ c₁.s.scalars, keywordReplace n = n)
    (hkwE : ∀ e ∈ c₁.s.enums, keywordReplace e.name = e.name)
    (hwf : C02.OutputOnly c₁.s c₁.q = true) (hrel : C02.InputFieldsRelevant c₁.s = true)
    (hvars : ∀ v ∈ c₁.q.opVariables op, C02.Relevant v.ty.id)
    (hdef : (Scope.defines items₀).Nodup) (hmem : ∀ it ∈ items₀, (C02.memberIdents it).Nodup)
    (hprim : ∀ it ∈ items₀, C01.notPrim it.name) (hfree : ExternsFree (noNorm c₁) items₀)
    (hint : ∀ n, L.intOk n = true → inI64 n = true) (hclosed : L.enumOpen = false) (hext : c₁.o.externEnums = [])
    (v : RVariable) (hv : v ∈ c₁.q.opVariables op) (d : Value)
    (hvalid : ValidC L c₁.s v.ty.id false (gty v.ty) (valueJson d))
    (hkind : kindOk c₁.s v.ty.id d = true) (hdepth : valueDepth d < 64)
    (lit : LitExpr) (t : RTy) (x : Val) (hlit : valueToLiteral c₁ 64 d v.ty.id v.ty.quals = .ok lit)
    (ht : variableType c₁ v = .ok t) (hx : evalLit (moduleEnvN c₁ items₁) lit t = some x) :
    Serde.ser (moduleEnvN c₁ items₁) t x =
      .ok (canon c₁.s c₁.o.skipNone v.ty.id (gty v.ty) (coerce c₁.s v.ty.id (gty v.ty) (valueJson d))) :=
  default_value_correct_rust W L rfl hkwI hkwS hkwE hwf hrel hvars hdef hmem hprim hfree hint hclosed hext v hv d hvalid
    hkind hdepth lit t x hlit ht hx

end C04DR
end GqlVerif
