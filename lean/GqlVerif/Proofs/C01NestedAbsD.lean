import GqlVerif.Proofs.C01NestedAbsC
/-!
# `NestedAbsOp`: spreads, key and tag conditions; the environment under a conjunction

* `aSpreads`: the spreads at object positions and the fragments selected at positions of the new kind (their inner key side
  conditions `fragSideN` are required); `nestedAbsKeysOk`;
* `envSelA_and`: the environment hypothesis with a further property of the spread fragments;
* `aPays`, `absTagOk` (decidable): no fragment selected at a position of the new kind reads a key its position consumes.

The larger classes use at their positions: `spreadIdss_special`, `expandSelsW_mem`, `looseMemN_spreads_of` and `wholeN_irr`
(entries whose key the fragment struct does not read do not matter to `wholeN`).
-/

namespace GqlVerif
namespace C01NA
open Serde Spec C13 C03 Codegen C01 C01.E2E C01M C01N

mutual
  /-- the spreads at object positions of a selection set (not through fragment bodies), and the fragments selected at
      abstract positions of the new kind -/
  def aSpreads (s : Schema) (q : Query) (o : Options) : Sel → List Nat
    | .field a fid sub =>
      match s.fields[fid]? with
      | none => []
      | some sf =>
        match sf.ty.id with
        | .object _ => aSpreadss s q o sub
        | _ => if sSel s q o false (.field a fid sub) then [] else sub.filterMap selFrag
    | .spread g => [g]
    | _ => []
  def aSpreadss (s : Schema) (q : Query) (o : Options) : List Sel → List Nat
    | [] => []
    | x :: xs => aSpreads s q o x ++ aSpreadss s q o xs
end

theorem varEnvA_and {fenv : Nat → Prop} {P : Nat → Prop} {e : Env} {c : Ctx} {name : String} {vt : TypeId} {sub : List Sel}
    (h : VarEnvA fenv e c name vt sub) (hP : ∀ g ∈ memFrags c.q vt sub, P g) :
    VarEnvA (fun g => fenv g ∧ P g) e c name vt sub := by
  unfold VarEnvA at h ⊢
  cases hmf : memFrags c.q vt sub with
  | nil => trivial
  | cons g gs =>
    rw [hmf] at h hP
    cases gs with
    | nil => exact ⟨h.1, h.2, hP g (by simp)⟩
    | cons g' gs' => exact ⟨h.1, fun g0 hg0 => ⟨h.2 g0 hg0, hP g0 hg0⟩⟩

theorem envAbsA_and {fenv : Nat → Prop} {P : Nat → Prop} {e : Env} {c : Ctx} {name : String} {ty : TypeId} {sub : List Sel}
    (h : EnvAbsA fenv e c name ty sub) (hP : ∀ g ∈ sub.filterMap selFrag, P g) :
    EnvAbsA (fun g => fenv g ∧ P g) e c name ty sub :=
  ⟨h.1, fun vt hvt => varEnvA_and (h.2 vt hvt) (fun g hg => hP g (memFrags_mem_selFrag hg))⟩

mutual
  theorem envSelA_and {fenv : Nat → Prop} {P : Nat → Prop} {e : Env} {c : Ctx} : ∀ (x : Sel) (pfx : String),
      envSelA fenv e c pfx x → (∀ g ∈ aSpreads c.s c.q c.o x, P g) → envSelA (fun g => fenv g ∧ P g) e c pfx x
    | .field a fid sub, pfx => by
      intro h hP
      have IH := @envSelsA_and fenv P e c sub
      rw [envSelA] at h ⊢
      rw [aSpreads] at hP
      cases hsf : c.s.fields[fid]? with
      | none => trivial
      | some sf =>
        simp only [hsf] at h hP ⊢
        by_cases hobj : ∃ i, sf.ty.id = .object i
        · obtain ⟨i, hid⟩ := hobj
          simp only [hid] at h hP ⊢
          by_cases hsp : ∃ g, sub = [Sel.spread g]
          · obtain ⟨g, rfl⟩ := hsp
            simp only at h ⊢
            exact ⟨h.1, h.2, hP g (by simp [aSpreadss, aSpreads])⟩
          · have hnl : ∀ g, sub ≠ [Sel.spread g] := fun g hg => hsp ⟨g, hg⟩
            have h' : StructEnv e (pfx ++ c.cs.camel (a.getD sf.name))
                (fieldsOfF c (pfx ++ c.cs.camel (a.getD sf.name)) sub) ∧
                envSelsA fenv e c (pfx ++ c.cs.camel (a.getD sf.name)) sub := by
              revert h; split
              · exact fun _ => absurd rfl (hnl _)
              · exact id
            split
            · exact absurd rfl (hnl _)
            · exact ⟨h'.1, IH _ h'.2 hP⟩
        · have hno : ∀ i, sf.ty.id ≠ .object i := fun i hi => hobj ⟨i, hi⟩
          cases hs : sSel c.s c.q c.o false (.field a fid sub) with
          | true => simpa only [hs, if_true] using h
          | false =>
            simp only [hs, Bool.false_eq_true, if_false] at h hP ⊢
            exact envAbsA_and h hP
    | .spread g, pfx => by
      intro h hP
      rw [envSelA] at h ⊢
      exact ⟨h, hP g (by simp [aSpreads])⟩
    | .inline _ _, _ => by intro _ _; simp [envSelA]
    | .typename, _ => by intro _ _; simp [envSelA]
  theorem envSelsA_and {fenv : Nat → Prop} {P : Nat → Prop} {e : Env} {c : Ctx} : ∀ (sels : List Sel) (pfx : String),
      envSelsA fenv e c pfx sels → (∀ g ∈ aSpreadss c.s c.q c.o sels, P g) → envSelsA (fun g => fenv g ∧ P g) e c pfx sels
    | [], _ => by intro _ _; simp [envSelsA]
    | x :: xs, pfx => by
      intro h hP
      rw [envSelsA] at h ⊢
      rw [aSpreadss] at hP
      exact ⟨envSelA_and x pfx h.1 (fun g hg => hP g (List.mem_append_left _ hg)),
        envSelsA_and xs pfx h.2 (fun g hg => hP g (List.mem_append_right _ hg))⟩
end

/-- keys disjoint between a spread at an object position and its siblings: at every object level of the operation, and
    inside the bodies of the spread fragments (decidable) -/
def nestedAbsKeysOk (c : Ctx) (op : ROperation) : Bool :=
  keysOksA (KNn c c.q.fragments.length) c op.sels &&
  EnumSpec.nodup (expKeysN (KNn c c.q.fragments.length) c op.sels) &&
  (aSpreadss c.s c.q c.o op.sels).all (fragSideN c c.q.fragments.length)

/-! ## the spreads below a position of the new kind -/

/-- every fragment spread below a selection set of the new kind is of the class, on a possible type -/
theorem spreadIdss_special {ok : TypeId → Nat → Bool} {s : Schema} {q : Query} {o : Options} {ty : TypeId}
    {sub : List Sel} (h : SpecialAbs ok s q o ty sub) : ∀ g ∈ spreadIdss sub, ∃ vt ∈ vtsOfTy s ty, ok vt g = true := by
  have key : ∀ (l : List Sel), (∀ x ∈ l, absSelA ok (vtsOfTy s ty) x = true) →
      ∀ g ∈ spreadIdss l, ∃ vt ∈ vtsOfTy s ty, ok vt g = true := by
    intro l
    induction l with
    | nil => intro _ g hg; simp [spreadIdss] at hg
    | cons x xs ih =>
      intro hl g hg
      rw [spreadIdss, List.mem_append] at hg
      rcases hg with hg | hg
      · have hx := hl x (by simp)
        cases x with
        | typename => simp [spreadIds] at hg
        | field a fid sub' => simp [absSelA] at hx
        | spread g' =>
          simp only [spreadIds, List.mem_singleton] at hg
          subst hg
          simpa [absSelA] using hx
        | inline t isub =>
          simp only [absSelA] at hx
          split at hx
          · rename_i g'
            simp only [spreadIds, spreadIdss, List.append_nil, List.mem_singleton] at hg
            subst hg
            simp only [Bool.and_eq_true, List.contains_iff_mem] at hx
            exact ⟨t, hx.1, hx.2⟩
          · cases hx
      · exact ih (fun y hy => hl y (List.mem_cons_of_mem _ hy)) g hg
  exact key sub h.sel

/-! ## the environment of one variant, from the emitted module -/

section EnvOfA
variable {c : Ctx} {items : List Item} {u : UsedTypes} {root : List Sel} (M : ModFacts c items u root)
  (hfr : FragsIn c items root)
include M hfr

omit hfr in
/-- the item of the variant of `vt` is in the module, and every member fragment has its environment -/
theorem varEnvA_of {fenv : Nat → Prop} (name : String) (vt : TypeId) (sub : List Sel)
    (hin : ∀ it ∈ variantHeadA c name vt sub, it ∈ items) (hfenv : ∀ g ∈ memFrags c.q vt sub, fenv g) :
    VarEnvA fenv (moduleEnv c items) c name vt sub := by
  unfold VarEnvA
  cases hmf : memFrags c.q vt sub with
  | nil => trivial
  | cons g gs =>
    cases gs with
    | nil =>
      rw [variantHeadA_alias hmf] at hin
      exact ⟨aliasEnv_of M _ _ (hin _ (by simp)), hfenv g (by rw [hmf]; simp)⟩
    | cons g' gs' =>
      have hl2 : 2 ≤ (memFrags c.q vt sub).length := by rw [hmf]; simp
      rw [variantHeadA_struct hl2, hmf] at hin
      exact ⟨structEnv_of M _ _ (hin _ (by simp)), fun g0 hg0 => hfenv g0 (by rw [hmf]; exact hg0)⟩

end EnvOfA

/-! ## the specification side -/

mutual
  /-- the fragments selected at the abstract positions of the new kind -/
  def aPays (s : Schema) (q : Query) (o : Options) : Sel → List Nat
    | .field a fid sub =>
      match s.fields[fid]? with
      | none => []
      | some sf =>
        match sf.ty.id with
        | .object _ => aPayss s q o sub
        | _ => if sSel s q o false (.field a fid sub) then [] else sub.filterMap selFrag
    | _ => []
  def aPayss (s : Schema) (q : Query) (o : Options) : List Sel → List Nat
    | [] => []
    | x :: xs => aPays s q o x ++ aPayss s q o xs
end

/-- the entry `__typename` does not matter to the struct of the fragment `g` -/
def IrrT (whole : Nat → Bool → Json → Bool) (g : Nat) : Prop :=
  ∀ kvs, whole g true (.obj (kvs.filter (fun kv => kv.1 != "__typename"))) = whole g true (.obj kvs)

theorem expandSelsW_mem (ex : Nat → Sel) : ∀ {sels : List Sel} {x : Sel}, x ∈ sels → expandSelW ex x ∈ expandSelsW ex sels :=
  C01N.expandSelsW_mem ex

theorem looseMemN_spreads_of {whole : Nat → Bool → Json → Bool} {rest : List (String × Json)} : ∀ {gs : List Nat},
    (∀ g ∈ gs, whole g true (.obj rest) = true) → looseMemN whole (gs.map Sel.spread) rest = true
  | [], _ => rfl
  | g :: gs, h => by
    rw [List.map_cons, looseMemN, h g (List.mem_cons_self),
      looseMemN_spreads_of (fun g' hg' => h g' (List.mem_cons_of_mem _ hg'))]; rfl

/-! ## entries with other keys do not matter to `wholeN` -/

theorem wholeN_irr (c : Ctx) (hnd : fragNamesOk c = true) : ∀ (r : Nat) (p : TypeId) (g : Nat),
    fragOkN c.s c.q c.o r p g = true → ∀ L : List String, (∀ k ∈ L, k ∉ KNn c r (fragName c g)) → ∀ b kvs,
    wholeN c r g b (.obj (kvs.filter (fun kv => !L.contains kv.1))) = wholeN c r g b (.obj kvs)
  | 0, p, g => by
    intro h L hL b kvs
    rw [fragOkN] at h
    obtain ⟨fr, hfr, hon, _, hv, _⟩ := fragOk_parts h
    have hname : fragName c g = fr.name := by simp [fragName, hfr]
    have hsels : fragSels c.q g = fr.sels := by simp [fragSels, hfr]
    have hid : idOf c.q fr.name = g := idOf_name hnd hfr
    have hKN : KNn c 0 fr.name = fieldKeys c.s fr.sels := by rw [KNn, hid, hsels]
    rw [hname, hKN] at hL
    simp only [wholeN, hsels, conformsLooseV]
    exact looseSelsV_filter c.s c.o b L kvs fr.sels (fun k hk hkL => hL k hkL hk)
  | r + 1, p, g => by
    intro h L hL b kvs
    have IH := wholeN_irr c hnd r
    by_cases hold : fragOkN c.s c.q c.o r p g = true
    · obtain ⟨fr, hfr, hon, _, _⟩ := fragOkN_spec c.s c.q c.o r p g hold
      have hfon : fragOn c.q g = p := by simp [fragOn, hfr, hon]
      have hname : fragName c g = fr.name := by simp [fragName, hfr]
      have hid : idOf c.q fr.name = g := idOf_name hnd hfr
      rw [hname, KNn, hid, hfon, if_pos hold] at hL
      have e : ∀ j, wholeN c (r + 1) g b j = wholeN c r g b j := by
        intro j; rw [wholeN, hfon, if_pos hold]
      rw [e, e]
      exact IH p g hold L (by rw [hname]; exact hL) b kvs
    · have holdf : fragOkN c.s c.q c.o r p g = false := by simpa using hold
      rw [fragOkN, holdf, Bool.false_or] at h
      obtain ⟨fr, hfr, hon, _, _, hnl, hb⟩ := fragNew_parts h
      have hfon : fragOn c.q g = p := by simp [fragOn, hfr, hon]
      have hname : fragName c g = fr.name := by simp [fragName, hfr]
      have hsels : fragSels c.q g = fr.sels := by simp [fragSels, hfr]
      have hid : idOf c.q fr.name = g := idOf_name hnd hfr
      have hKN : KNn c (r + 1) fr.name = expKeysN (KNn c r) c fr.sels := by
        rw [KNn, hid, hfon, if_neg hold, hsels]
      have hwh : ∀ b j, wholeN c (r + 1) g b j = conformsLooseN (wholeN c r) c.s c.q c.o b fr.sels j := by
        intro b j; rw [wholeN, hfon, if_neg hold, hsels]
      rw [hname, hKN] at hL
      rw [hwh, hwh, conformsLooseN_not_lone hnl, conformsLooseN_not_lone hnl]
      simp only
      rw [looseOwnN_filter _ _ _ _ _ L kvs fr.sels
          (fun k hk hkL => hL k hkL (fieldKeys_sub_expKeysN (KNn c r) c fr.sels k hk)),
        looseMemN_filter _ L kvs fr.sels (fun g' hg' => by
          have hokg' : fragOkN c.s c.q c.o r fr.on g' = true := by
            simpa [nSel] using nSels_mem hb _ hg'
          exact IH fr.on g' hokg' L
            (fun k hkL hk => hL k hkL (spreadKeys_sub_expKeysN (KNn c r) c fr.sels g' hg' k hk)) true kvs)]

/-- none of the fragments selected at abstract positions of the new kind reads the key `__typename` (decidable) -/
def absTagOk (c : Ctx) (op : ROperation) : Bool :=
  (aPayss c.s c.q c.o op.sels).all (fun g => !(KNn c c.q.fragments.length (fragName c g)).contains "__typename")

theorem bodyEnvA_and {fenv : Nat → Prop} {P : Nat → Prop} {e : Env} {c : Ctx} {name pfx : String} {sels : List Sel}
    (h : BodyEnvA fenv e c name pfx sels) (hP : ∀ g ∈ aSpreadss c.s c.q c.o sels, P g) :
    BodyEnvA (fun g => fenv g ∧ P g) e c name pfx sels := by
  by_cases hsp : ∃ g, sels = [Sel.spread g]
  · obtain ⟨g, rfl⟩ := hsp
    unfold BodyEnvA at h ⊢
    simp only at h ⊢
    exact ⟨h.1, h.2, hP g (by simp [aSpreadss, aSpreads])⟩
  · have hnl : ∀ g, sels ≠ [Sel.spread g] := fun g hg => hsp ⟨g, hg⟩
    have h' := bodyEnvA_not_lone hnl h
    unfold BodyEnvA
    split
    · exact absurd rfl (hnl _)
    · exact ⟨h'.1, envSelsA_and sels pfx h'.2 hP⟩

end C01NA
end GqlVerif
