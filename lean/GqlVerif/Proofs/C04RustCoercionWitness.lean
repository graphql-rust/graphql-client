import GqlVerif.Proofs.C04RustCoercion
import GqlVerif.Proofs.C04RustExamples
/-!
# C04 — list input coercion: the witness and a worked instance

* `validCB` / `varsValidCB` — an executable (sound) checker for the coercing validity `ValidC`, used for the examples.
* the instance: the schema of `C04RustExamples.lean` (`page_input`, `sort_order`, `date_time`) with
  `query Q($ids: [Int], $grid: [[Int!]], $page: page_input) { x }`, generated under `none` (`cxC₀ = noNorm cxC₁`) and
  under `rust` (`cxC₁`); all hypotheses evaluated (`cx_hyps`, `cx_side`).
* **`coerced_not_expressible`**: `{"ids": 7}` — valid with coercion, not valid without, not written by any `Variables`
  value, rejected by `from_value`; `coerceVars` of it is `{"ids": [7]}`, which is expressible and read back.
* `cx_expressible`, `cx_expressible_rust`: `valid_mod_coercion_expressible` (and its `rust` form) on an assignment with a
  bare value at a variable, inside a nested list and inside an input object.
-/
namespace GqlVerif
namespace C04R
open Codegen C09N C04S C13
open C01.E2E (noNorm)

/-! ## an executable checker for `ValidC` (sound) -/

def validCB (L : Leaves) (s : Schema) : Nat → TypeId → Bool → GTy → Json → Bool
  | 0, _, _, _, _ => false
  | f + 1, id, b, t, j =>
    match t with
    | .nonNull t' => validCB L s f id true t' j
    | .list t' =>
      (!b && j.isNull) || (match j with
        | .arr xs => xs.all (validCB L s f id false t')
        | .null => false
        | j' => validCB L s f id false t' j')
    | .named _ => (!b && j.isNull) || namedB L s (validCB L s f) id j

theorem validCB_sound (L : Leaves) (s : Schema) : ∀ (f : Nat) (id : TypeId) (b : Bool) (t : GTy) (j : Json),
    validCB L s f id b t j = true → ValidC L s id b t j := by
  intro f
  induction f with
  | zero => intro id b t j h; simp [validCB] at h
  | succ f ih =>
    intro id b t j h
    unfold validCB at h
    cases t with
    | nonNull t' => exact .bang (ih id true t' j h)
    | list t' =>
      simp only [Bool.or_eq_true, Bool.and_eq_true, Bool.not_eq_true'] at h
      have hlist : ValidC L s id true (.list t') j → ValidC L s id b (.list t') j := by
        intro hv
        cases b
        · exact .some rfl hv
        · exact hv
      rcases h with ⟨hb, hn⟩ | h
      · subst hb; rw [C01.isNull_eq j hn]; exact .null rfl
      · cases j with
        | arr xs =>
          simp only at h
          exact hlist (.list (fun x hx => ih id false t' x (List.all_eq_true.mp h x hx)))
        | null => simp at h
        | bool v => exact hlist (.wrap (by simp) (by simp) (ih _ _ _ _ h))
        | int v => exact hlist (.wrap (by simp) (by simp) (ih _ _ _ _ h))
        | num v => exact hlist (.wrap (by simp) (by simp) (ih _ _ _ _ h))
        | str v => exact hlist (.wrap (by simp) (by simp) (ih _ _ _ _ h))
        | obj v => exact hlist (.wrap (by simp) (by simp) (ih _ _ _ _ h))
    | named nm => exact named_sound ih .null .some .scalar .enum .object .oneOf h

def varsValidCB (L : Leaves) (c : Ctx) (op : Nat) (fuel : Nat) (kvs : List (String × Json)) : Bool :=
  EnumSpec.nodup (keys kvs) && (keys kvs).all (fun key => ((varFields c op).map (·.1)).contains key) &&
  (varFields c op).all (fun p => match Json.lookup p.1 kvs with
    | none => !isNN (gty p.2)
    | some v => validCB L c.s fuel p.2.id false (gty p.2) v)

theorem varsValidCB_sound (L : Leaves) (c : Ctx) (op : Nat) (fuel : Nat) (kvs : List (String × Json))
    (h : varsValidCB L c op fuel kvs = true) : VarsValidC L c op kvs := by
  simp only [varsValidCB, Bool.and_eq_true, List.all_eq_true, List.contains_iff_mem] at h
  obtain ⟨⟨h1, h2⟩, h3⟩ := h
  refine ⟨C01.nodup_iff'.mp h1, h2, ?_, ?_⟩
  · intro p hp hl
    have := h3 p hp
    simp only [hl, Bool.not_eq_true'] at this
    exact this
  · intro p hp v hl
    have := h3 p hp
    simp only [hl] at this
    exact validCB_sound L c.s _ _ _ _ _ this

/-! ## the instance -/

/-- `query Q($ids: [Int], $grid: [[Int!]], $page: page_input) { x }` -/
def cxQuery : Query :=
  { operations := [{ name := "Q", kind := .query, objectId := 0, sels := [.field none 0 []] }],
    variables := [{ opIdx := 0, name := "ids", default := none, ty := { id := .scalar 2, quals := [.list] } },
                  { opIdx := 0, name := "grid", default := none,
                    ty := { id := .scalar 2, quals := [.list, .list, .required] } },
                  { opIdx := 0, name := "page", default := none, ty := { id := .input 0, quals := [] } }] }

/-- `normalization = rust`; `cxC₀` is the same context with `normalization = none` -/
def cxC₁ : Ctx := { s := rxSchema, q := cxQuery, o := { normalization := .rust }, cs := { snake := id, camel := tblCamel rxTbl } }
def cxC₀ : Ctx := noNorm cxC₁

def cxItems₀ : List Item := itemsOf cxC₀
def cxItems₁ : List Item := itemsOf cxC₁

theorem cx_gen₀ : responseForQuery cxC₀ 0 = .ok cxItems₀ := itemsOf_ok (by decide +kernel)

theorem cx_side : RustSideV cxC₀ cxC₁ 0 cxItems₀ cxItems₁ :=
  RustSideV.of_itemsOf (by decide +kernel)

/-- the hypotheses of the `none` theorems hold of `cxC₀` and its module -/
theorem cx_hyps :
    cxC₀.o.normalization = .none ∧
    (∀ i ∈ cxC₀.s.inputs, keywordReplace i.name = i.name) ∧
    (∀ n ∈ cxC₀.s.scalars, keywordReplace n = n) ∧
    (∀ e ∈ cxC₀.s.enums, keywordReplace e.name = e.name) ∧
    C02.OutputOnly cxC₀.s cxC₀.q = true ∧ C02.InputFieldsRelevant cxC₀.s = true ∧
    (∀ v ∈ cxC₀.q.opVariables 0, C02.Relevant v.ty.id) ∧
    (Scope.defines cxItems₀).Nodup ∧ (∀ it ∈ cxItems₀, (C02.memberIdents it).Nodup) ∧
    (∀ it ∈ cxItems₀, C01.notPrim it.name) ∧ ExternsFree cxC₀ cxItems₀ ∧ cxC₀.q.opVariables 0 ≠ [] := by
  unfold ExternsFree
  decide +kernel

/-! ## the witness -/

/-- the declared variable `$ids: [Int]` -/
def cxIds : String × FieldType := ("ids", { id := .scalar 2, quals := [.list] })

theorem cxIds_mem : cxIds ∈ varFields cxC₀ 0 := by decide

/-- **`coerced_not_expressible`**.  For `query Q($ids: [Int], …)`, the bare spelling `{"ids": 7}` (a single value where a list is
    declared, which the specification coerces)
    1. is a valid assignment by the specification **with** list input coercion,
    2. is not valid without it,
    3. is not what `to_value` writes for any value of the generated `Variables` type (`ser_list_is_list`: a `Vec` is
       always written as an array),
    4. is rejected by `from_value` at `Variables`;
    5. `coerceVars` of it is the canonical spelling `{"ids": [7]}`,
    6. which is the serialization (explicit `null`s for the other two variables) of a `Variables` value, and is read
       back as that value. -/
theorem coerced_not_expressible :
    VarsValidC Leaves.graphql cxC₀ 0 [("ids", .int 7)] ∧
    ¬ VarsValid Leaves.graphql cxC₀ 0 [("ids", .int 7)] ∧
    (¬ ∃ x, HasTy (moduleEnv cxC₀ cxItems₀) (.path "Variables") x ∧
      Serde.ser (moduleEnv cxC₀ cxItems₀) (.path "Variables") x = .ok (.obj [("ids", .int 7)])) ∧
    (match Serde.de (moduleEnv cxC₀ cxItems₀) (.path "Variables") (.obj [("ids", .int 7)]) with
     | .ok _ => false
     | .error _ => true) = true ∧
    coerceVars cxC₀ 0 [("ids", .int 7)] = [("ids", .arr [.int 7])] ∧
    ∃ x, HasTy (moduleEnv cxC₀ cxItems₀) (.path "Variables") x ∧
      Serde.ser (moduleEnv cxC₀ cxItems₀) (.path "Variables") x =
        .ok (.obj [("ids", .arr [.int 7]), ("grid", .null), ("page", .null)]) ∧
      Serde.de (moduleEnv cxC₀ cxItems₀) (.path "Variables") (.obj [("ids", .arr [.int 7])]) = .ok x := by
  obtain ⟨h1, h2, h3, h4, h5, h6, h7, h8, h9, h10, h11, h12⟩ := cx_hyps
  have hC : VarsValidC Leaves.graphql cxC₀ 0 [("ids", .int 7)] := varsValidCB_sound _ _ _ 20 _ (by decide +kernel)
  have hco : coerceVars cxC₀ 0 [("ids", .int 7)] = [("ids", .arr [.int 7])] := by
    simp [coerceVars, coerceKvs, varFields, cxC₀, noNorm, cxC₁, cxQuery, Query.opVariables, coerce, wrapTy, gty, ofQuals]
  refine ⟨hC, ?_, ?_, by decide +kernel, hco, ?_⟩
  · intro hv
    rcases valid_list_shape (hv.valid cxIds cxIds_mem (.int 7) rfl) rfl with h0 | ⟨xs, h0⟩ <;> cases h0
  · exact bare_value_not_expressible cxC₀ 0 cxItems₀ h1 h2 h3 h4 h5 h6 h7 h8 h9 h10 h11 cx_gen₀ h12 _ cxIds cxIds_mem rfl
      (.int 7) rfl (by simp) (by simp)
  · obtain ⟨x, hx, hs, hd⟩ := valid_mod_coercion_expressible Leaves.graphqlStrIds cxC₀ 0 cxItems₀ h1 h2 h3 h4 h5 h6 h7 h8
      h9 h10 h11 int32_sub_i64 cx_gen₀ h12 [("ids", .int 7)] (varsValidCB_sound _ _ _ 20 _ (by decide +kernel))
    rw [hco] at hs hd
    exact ⟨x, hx, hs, hd (fun _ => rfl)⟩

/-! ## a larger assignment -/

/-- `{"grid": [1, [2, 3]], "ids": 7, "page": {"order": "asc", "ids": "a"}}`: a bare value at a variable, inside a
    nested list, and inside an input object -/
def cxKvs : List (String × Json) :=
  [("grid", .arr [.int 1, .arr [.int 2, .int 3]]), ("ids", .int 7),
   ("page", .obj [("order", .str "asc"), ("ids", .str "a")])]

/-- its coerced spelling `{"grid": [[1], [2, 3]], "ids": [7], "page": {"order": "asc", "ids": ["a"]}}` -/
def cxCoerced : List (String × Json) :=
  [("grid", .arr [.arr [.int 1], .arr [.int 2, .int 3]]), ("ids", .arr [.int 7]),
   ("page", .obj [("order", .str "asc"), ("ids", .arr [.str "a"])])]

theorem cx_coerced : coerceVars cxC₀ 0 cxKvs = cxCoerced := by
  simp [coerceVars, coerceKvs, coerceList, varFields, cxC₀, noNorm, cxC₁, cxQuery, cxKvs, cxCoerced, Query.opVariables,
    coerce, wrapTy, gty, ofQuals, elemTy, inputOf, rxSchema]

theorem cxKvs_validC : VarsValidC Leaves.graphqlStrIds cxC₀ 0 cxKvs ∧ ¬ VarsValid Leaves.graphqlStrIds cxC₀ 0 cxKvs := by
  refine ⟨varsValidCB_sound _ _ _ 20 _ (by decide +kernel), fun hv => ?_⟩
  rcases valid_list_shape (hv.valid cxIds cxIds_mem (.int 7) rfl) rfl with h0 | ⟨xs, h0⟩ <;> cases h0

/-- what the generated types write for it: declaration order, explicit `null`s -/
def cxCanon : Json :=
  .obj [("ids", .arr [.int 7]), ("grid", .arr [.arr [.int 1], .arr [.int 2, .int 3]]),
        ("page", .obj [("first", .null), ("after", .null), ("order", .str "asc"), ("since", .null),
                       ("ids", .arr [.str "a"]), ("next", .null)])]

theorem cx_canon : canonVars cxC₀ 0 cxCoerced = cxCanon := by rfl

/-- **`valid_mod_coercion_expressible` on the instance** (`none` module) -/
theorem cx_expressible : ∃ x, HasTy (moduleEnv cxC₀ cxItems₀) (.path "Variables") x ∧
    Serde.ser (moduleEnv cxC₀ cxItems₀) (.path "Variables") x = .ok cxCanon ∧
    Serde.de (moduleEnv cxC₀ cxItems₀) (.path "Variables") (.obj cxCoerced) = .ok x := by
  obtain ⟨h1, h2, h3, h4, h5, h6, h7, h8, h9, h10, h11, h12⟩ := cx_hyps
  obtain ⟨x, hx, hs, hd⟩ := valid_mod_coercion_expressible Leaves.graphqlStrIds cxC₀ 0 cxItems₀ h1 h2 h3 h4 h5 h6 h7 h8
    h9 h10 h11 int32_sub_i64 cx_gen₀ h12 cxKvs cxKvs_validC.1
  rw [cx_coerced] at hs hd
  rw [cx_canon] at hs
  exact ⟨x, hx, hs, hd (fun _ => rfl)⟩

/-- **`valid_mod_coercion_expressible_rust` on the instance** (`rust` module: `PageInput`, `SortOrder::Asc`) -/
theorem cx_expressible_rust : ∃ x, HasTy (moduleEnvN cxC₁ cxItems₁) (.path "Variables") x ∧
    Serde.ser (moduleEnvN cxC₁ cxItems₁) (.path "Variables") x = .ok cxCanon ∧
    Serde.de (moduleEnvN cxC₁ cxItems₁) (.path "Variables") (.obj cxCoerced) = .ok x := by
  obtain ⟨h1, h2, h3, h4, h5, h6, h7, h8, h9, h10, h11, h12⟩ := cx_hyps
  obtain ⟨x, hx, hs, hd⟩ := valid_mod_coercion_expressible_rust Leaves.graphqlStrIds cx_side h1 h2 h3 h4 h5 h6 h7 h8
    h9 h10 h11 int32_sub_i64 h12 cxKvs cxKvs_validC.1
  rw [cx_coerced] at hs hd
  rw [cx_canon] at hs
  exact ⟨x, hx, hs, hd (fun _ => rfl)⟩

set_option maxRecDepth 100000 in
/-- the model's own `from_value` / `to_value` agree, in both modules: the bare spelling is rejected, the coerced one is
    read and written back as the canonical object -/
example :
    (match Serde.de (moduleEnvN cxC₁ cxItems₁) (.path "Variables") (.obj cxKvs) with
     | .ok _ => false
     | .error _ => true) = true ∧
    (match Serde.de (moduleEnvN cxC₁ cxItems₁) (.path "Variables") (.obj cxCoerced) with
     | .ok x => (match Serde.ser (moduleEnvN cxC₁ cxItems₁) (.path "Variables") x with
       | .ok j => jsonEqB j cxCanon
       | .error _ => false)
     | .error _ => false) = true ∧
    (match Serde.de (moduleEnv cxC₀ cxItems₀) (.path "Variables") (.obj cxKvs) with
     | .ok _ => false
     | .error _ => true) = true := by decide +kernel

/-- `ValWF` (what `hasTy_rename` needs of the two modules) holds of the instance — derived, not assumed -/
example : ValWF (moduleEnv cxC₀ cxItems₀) ∧ ValWF (moduleEnvN cxC₁ cxItems₁) :=
  (cx_side.env cx_hyps.2.2.2.2.2.2.2.2.1).2.2

end C04R
end GqlVerif
