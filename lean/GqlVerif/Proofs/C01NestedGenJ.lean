import GqlVerif.Proofs.C01NestedGenH
/-!
# `NestedGenOp`: agreement with `C01NestedAbs*` on `NestedAbsOp`

On an operation of `NestedAbsOp` everything the theorems about `NestedGenOp` mention is what that class defines: the exact
acceptance predicate (`conformsLooseA_eq_A`), the environment (`envSelA_eq_A`), the canonical form (`canonSelA_eq_A`), the side
conditions (`nestedGenKeysOk_eq_A`, `nestedGenSideOk_eq_A`, `absTagOk_eq_A`); the specification `conformsOpN` does not depend
on the class.  `C01NestedAbsE` reads the results of the smaller class off those of the larger one through these.
-/

namespace GqlVerif
namespace C01NG
open Serde Spec C13 C03 Codegen C01 C01.E2E C01M C01N C01NA

section Agree
variable {ok : TypeId → Nat → Bool} {s : Schema} {q : Query} {o : Options}

/-! ## at a position of `NestedAbsOp` -/

theorem looseAbsG_eq_A {sf : StoredField} {sub : List Sel} (h : absFieldA ok s q o sf sub = true)
    (whole : Nat → Bool → Json → Bool) (b : Bool) (v : Json) :
    looseAbsG whole s q o b sf sub v = looseAbsA whole s q o b sf sub v := by
  have hnf := absSubA_nofield (C01NA.absFieldA_parts h).2.2.2
  unfold looseAbsG looseAbsA
  congr 1
  funext j
  cases j <;> simp [looseTagG, looseTagA, ownSels_nil hnf, strip_eq_self hnf]

theorem canonAbsG_eq_A {sf : StoredField} {sub : List Sel} (h : absFieldA ok s q o sf sub = true)
    (cent : Nat → List (String × Json) → List (String × Json)) (v : Json) :
    canonAbsG cent s q o sf sub v = canonAbsA cent s q sf sub v := by
  have hnf := absSubA_nofield (C01NA.absFieldA_parts h).2.2.2
  unfold canonAbsG canonAbsA
  congr 1
  funext j
  cases j with
  | obj kvs =>
    simp only [canonTagG, canonTagA, ownSels_nil hnf, strip_eq_self hnf, canonEntriesS, List.nil_append]
    cases hl : Json.lookup "__typename" kvs with
    | none => rfl
    | some jv =>
      cases jv with
      | str n =>
        simp only []
        cases hfd : List.find? (fun vt => objName s vt == n) (vtsOfTy s sf.ty.id) <;> rfl
      | _ => rfl
  | _ => rfl

/-! ## acceptance -/

mutual
  theorem looseFieldA_eq_A (whole : Nat → Bool → Json → Bool) (b : Bool) : ∀ (x : Sel) (p : TypeId) (v : Json),
      C01NA.aSel ok s q o p x = true → looseFieldA whole s q o b x v = C01NA.looseFieldA whole s q o b x v
    | .field a fid sub, p, v => by
      intro h
      have IH1 := looseOwnA_eq_A whole b sub
      have IH2 := looseArrA_eq_A whole b sub
      obtain ⟨sf, hsf⟩ := C01NA.aSel_field_some h
      by_cases hobj : ∃ i, sf.ty.id = .object i
      · obtain ⟨i, hid⟩ := hobj
        obtain ⟨_, _, _, hb⟩ := C01NA.aSel_obj hsf hid h
        rw [looseFieldA, C01NA.looseFieldA]
        simp only [hsf, hid]
        by_cases hsp : ∃ g, sub = [Sel.spread g]
        · obtain ⟨g, rfl⟩ := hsp; rfl
        · have hnl : ∀ g, sub ≠ [Sel.spread g] := fun g hg => hsp ⟨g, hg⟩
          rw [C01NA.aBody_not_lone hnl] at hb
          have e1 : ∀ kvs, looseOwnA whole s q o b sub kvs = C01NA.looseOwnA whole s q o b sub kvs :=
            fun kvs => IH1 (.object i) kvs hb
          have e2 : ∀ xs, looseArrA whole s q o b sub xs = C01NA.looseArrA whole s q o b sub xs :=
            fun xs => IH2 (.object i) xs hb
          cases s.objects[i]? with
          | none => rfl
          | some ob =>
            simp only []
            congr 1
            funext j
            cases j <;> simp only [e1, e2]
      · have hno : ∀ i, sf.ty.id ≠ .object i := fun i h => hobj ⟨i, h⟩
        rcases C01NA.aSel_nonobj hsf hno h with hs | ⟨hs, hnew⟩
        · rw [looseFieldA_old hsf hno hs, C01NA.looseFieldA_old hsf hno hs]
        · rw [looseFieldA_new hsf hno hs, C01NA.looseFieldA_new hsf hno hs, looseAbsG_eq_A hnew]
    | .spread g, _, _ => by intro _; simp [looseFieldA, C01NA.looseFieldA]
    | .inline _ _, _, _ => by intro _; simp [looseFieldA, C01NA.looseFieldA]
    | .typename, _, _ => by intro _; simp [looseFieldA, C01NA.looseFieldA]
  theorem looseOwnA_eq_A (whole : Nat → Bool → Json → Bool) (b : Bool) : ∀ (sels : List Sel) (p : TypeId)
      (kvs : List (String × Json)), C01NA.aSels ok s q o p sels = true →
      looseOwnA whole s q o b sels kvs = C01NA.looseOwnA whole s q o b sels kvs
    | [], _, _ => by intro _; simp [looseOwnA, C01NA.looseOwnA]
    | x :: xs, p, kvs => by
      intro h
      obtain ⟨hx, hxs⟩ := C01NA.aSels_cons h
      have ih := looseOwnA_eq_A whole b xs p kvs hxs
      cases x with
      | field a fid sub =>
        rw [looseOwnA.eq_2, C01NA.looseOwnA.eq_2, ih]
        cases hsf : s.fields[fid]? with
        | none => rfl
        | some sf =>
          simp only []
          cases Json.lookup (a.getD sf.name) kvs with
          | none => rfl
          | some v => simp only [looseFieldA_eq_A whole b (.field a fid sub) p v hx]
      | spread g => simpa [looseOwnA, C01NA.looseOwnA] using ih
      | inline t sub => simpa [looseOwnA, C01NA.looseOwnA] using ih
      | typename => simpa [looseOwnA, C01NA.looseOwnA] using ih
  theorem looseArrA_eq_A (whole : Nat → Bool → Json → Bool) (b : Bool) : ∀ (sels : List Sel) (p : TypeId)
      (vs : List Json), C01NA.aSels ok s q o p sels = true →
      looseArrA whole s q o b sels vs = C01NA.looseArrA whole s q o b sels vs
    | [], _, _ => by intro _; simp [looseArrA, C01NA.looseArrA]
    | x :: xs, p, vs => by
      intro h
      obtain ⟨hx, hxs⟩ := C01NA.aSels_cons h
      cases x with
      | field a fid sub =>
        cases vs with
        | nil => simp [looseArrA, C01NA.looseArrA]
        | cons v vs' =>
          rw [looseArrA.eq_3, C01NA.looseArrA.eq_3, looseFieldA_eq_A whole b (.field a fid sub) p v hx,
            looseArrA_eq_A whole b xs p vs' hxs]
      | spread g => simpa [looseArrA, C01NA.looseArrA] using looseArrA_eq_A whole b xs p vs hxs
      | inline t sub => simpa [looseArrA, C01NA.looseArrA] using looseArrA_eq_A whole b xs p vs hxs
      | typename => simpa [looseArrA, C01NA.looseArrA] using looseArrA_eq_A whole b xs p vs hxs
end

/-- **on `NestedAbsOp` the exact acceptance predicate is the one of `nestedabs_precise_iff`** -/
theorem conformsLooseA_eq_A (whole : Nat → Bool → Json → Bool) (b : Bool) (p : TypeId) (sels : List Sel) (j : Json)
    (h : C01NA.aBody ok s q o p sels = true) :
    conformsLooseA whole s q o b sels j = C01NA.conformsLooseA whole s q o b sels j := by
  by_cases hsp : ∃ g, sels = [Sel.spread g]
  · obtain ⟨g, rfl⟩ := hsp; rfl
  · have hnl : ∀ g, sels ≠ [Sel.spread g] := fun g hg => hsp ⟨g, hg⟩
    rw [C01NA.aBody_not_lone hnl] at h
    rw [conformsLooseA_not_lone hnl, C01NA.conformsLooseA_not_lone hnl]
    cases j <;> simp only [looseOwnA_eq_A whole b sels p _ h, looseArrA_eq_A whole b sels p _ h]

/-! ## canonical form -/

mutual
  theorem canonFieldA_eq_A (cent : Nat → List (String × Json) → List (String × Json)) : ∀ (x : Sel) (p : TypeId) (v : Json),
      C01NA.aSel ok s q o p x = true → canonFieldA cent s q o x v = C01NA.canonFieldA cent s q o x v
    | .field a fid sub, p, v => by
      intro h
      have IH := canonEntriesA_eq_A cent sub
      obtain ⟨sf, hsf⟩ := C01NA.aSel_field_some h
      by_cases hobj : ∃ i, sf.ty.id = .object i
      · obtain ⟨i, hid⟩ := hobj
        obtain ⟨_, _, _, hb⟩ := C01NA.aSel_obj hsf hid h
        rw [canonFieldA, C01NA.canonFieldA]
        simp only [hsf, hid]
        by_cases hsp : ∃ g, sub = [Sel.spread g]
        · obtain ⟨g, rfl⟩ := hsp; rfl
        · have hnl : ∀ g, sub ≠ [Sel.spread g] := fun g hg => hsp ⟨g, hg⟩
          rw [C01NA.aBody_not_lone hnl] at hb
          have e1 : ∀ kvs, canonEntriesA cent s q o sub kvs = C01NA.canonEntriesA cent s q o sub kvs :=
            fun kvs => IH (.object i) kvs hb
          rw [canonLambdaA, C01NA.canonLambdaA]
          congr 1
          funext j
          rw [canonSelA_not_lone hnl, C01NA.canonSelA_not_lone hnl]
          cases j <;> simp only [e1]
      · have hno : ∀ i, sf.ty.id ≠ .object i := fun i h => hobj ⟨i, h⟩
        rcases C01NA.aSel_nonobj hsf hno h with hs | ⟨hs, hnew⟩
        · rw [canonFieldA_old hsf hno hs, C01NA.canonFieldA_old hsf hno hs]
        · rw [canonFieldA_new hsf hno hs, C01NA.canonFieldA_new hsf hno hs, canonAbsG_eq_A hnew]
    | .spread g, _, _ => by intro _; simp [canonFieldA, C01NA.canonFieldA]
    | .inline _ _, _, _ => by intro _; simp [canonFieldA, C01NA.canonFieldA]
    | .typename, _, _ => by intro _; simp [canonFieldA, C01NA.canonFieldA]
  theorem canonEntriesA_eq_A (cent : Nat → List (String × Json) → List (String × Json)) : ∀ (sels : List Sel) (p : TypeId)
      (kvs : List (String × Json)), C01NA.aSels ok s q o p sels = true →
      canonEntriesA cent s q o sels kvs = C01NA.canonEntriesA cent s q o sels kvs
    | [], _, _ => by intro _; simp [canonEntriesA, C01NA.canonEntriesA]
    | x :: xs, p, kvs => by
      intro h
      obtain ⟨hx, hxs⟩ := C01NA.aSels_cons h
      have ih := canonEntriesA_eq_A cent xs p kvs hxs
      cases x with
      | field a fid sub =>
        rw [canonEntriesA.eq_2, C01NA.canonEntriesA.eq_2, ih]
        cases hsf : s.fields[fid]? with
        | none => rfl
        | some sf =>
          simp only []
          cases Json.lookup (a.getD sf.name) kvs with
          | none => rfl
          | some v => simp only [canonFieldA_eq_A cent (.field a fid sub) p v hx]
      | spread g => rw [canonEntriesA.eq_3, C01NA.canonEntriesA.eq_3, ih]
      | inline t sub => simpa [canonEntriesA, C01NA.canonEntriesA] using ih
      | typename => simpa [canonEntriesA, C01NA.canonEntriesA] using ih
end

/-- **on `NestedAbsOp` the canonical form is the one of `nestedabs_roundtrip`** -/
theorem canonSelA_eq_A (cent : Nat → List (String × Json) → List (String × Json)) (p : TypeId) (sels : List Sel) (j : Json)
    (h : C01NA.aBody ok s q o p sels = true) :
    canonSelA cent s q o sels j = C01NA.canonSelA cent s q o sels j := by
  by_cases hsp : ∃ g, sels = [Sel.spread g]
  · obtain ⟨g, rfl⟩ := hsp; rfl
  · have hnl : ∀ g, sels ≠ [Sel.spread g] := fun g hg => hsp ⟨g, hg⟩
    rw [C01NA.aBody_not_lone hnl] at h
    rw [canonSelA_not_lone hnl, C01NA.canonSelA_not_lone hnl]
    cases j <;> simp only [canonEntriesA_eq_A cent sels p _ h]

/-! ## side conditions -/

mutual
  /-- the spread fragments are the same list (unconditionally) -/
  theorem aSpreads_eq_A : ∀ (x : Sel), aSpreads s q o x = C01NA.aSpreads s q o x
    | .field a fid sub => by
      have IH := aSpreadss_eq_A sub
      rw [aSpreads, C01NA.aSpreads]
      cases s.fields[fid]? with
      | none => rfl
      | some sf =>
        simp only []
        cases sf.ty.id <;> simp only [IH]
    | .spread g => by simp [aSpreads, C01NA.aSpreads]
    | .inline _ _ => by simp [aSpreads, C01NA.aSpreads]
    | .typename => by simp [aSpreads, C01NA.aSpreads]
  theorem aSpreadss_eq_A : ∀ (sels : List Sel), aSpreadss s q o sels = C01NA.aSpreadss s q o sels
    | [] => rfl
    | x :: xs => by rw [aSpreadss, C01NA.aSpreadss, aSpreads_eq_A x, aSpreadss_eq_A xs]
end

mutual
  theorem aPays_eq_A : ∀ (x : Sel) (p : TypeId), C01NA.aSel ok s q o p x = true →
      aPays s q o x = (C01NA.aPays s q o x).map (fun g => (g, ["__typename"]))
    | .field a fid sub, p => by
      intro h
      have IH := aPayss_eq_A sub
      obtain ⟨sf, hsf⟩ := C01NA.aSel_field_some h
      rw [aPays, C01NA.aPays]
      simp only [hsf]
      by_cases hobj : ∃ i, sf.ty.id = .object i
      · obtain ⟨i, hid⟩ := hobj
        obtain ⟨_, _, _, hb⟩ := C01NA.aSel_obj hsf hid h
        simp only [hid]
        by_cases hsp : ∃ g, sub = [Sel.spread g]
        · obtain ⟨g, rfl⟩ := hsp; simp [aPayss, aPays, C01NA.aPayss, C01NA.aPays]
        · have hnl : ∀ g, sub ≠ [Sel.spread g] := fun g hg => hsp ⟨g, hg⟩
          rw [C01NA.aBody_not_lone hnl] at hb
          exact IH _ hb
      · have hno : ∀ i, sf.ty.id ≠ .object i := fun i h => hobj ⟨i, h⟩
        have hpk : ∀ (hnew : absFieldA ok s q o sf sub = true), posKeys s sub = ["__typename"] := by
          intro hnew
          have hnf := absSubA_nofield (C01NA.absFieldA_parts hnew).2.2.2
          simp [posKeys, ownSels_nil hnf, fieldKeys]
        rcases C01NA.aSel_nonobj hsf hno h with hs | ⟨hs, hnew⟩
        · simp [hs]
        · simp [hs, hpk hnew]
    | .spread g, _ => by intro _; simp [aPays, C01NA.aPays]
    | .inline _ _, _ => by intro _; simp [aPays, C01NA.aPays]
    | .typename, _ => by intro _; simp [aPays, C01NA.aPays]
  theorem aPayss_eq_A : ∀ (sels : List Sel) (p : TypeId), C01NA.aSels ok s q o p sels = true →
      aPayss s q o sels = (C01NA.aPayss s q o sels).map (fun g => (g, ["__typename"]))
    | [], _ => by intro _; rfl
    | x :: xs, p => by
      intro h
      obtain ⟨hx, hxs⟩ := C01NA.aSels_cons h
      rw [aPayss, C01NA.aPayss, aPays_eq_A x p hx, aPayss_eq_A xs p hxs, List.map_append]
end

end Agree

mutual
  theorem sideOkSelA_eq_A {ok : TypeId → Nat → Bool} (KN : String → List String) (c : Ctx) : ∀ (x : Sel) (p : TypeId),
      C01NA.aSel ok c.s c.q c.o p x = true → sideOkSelA KN c x = C01NA.sideOkSelA KN c x
    | .field a fid sub, p => by
      intro h
      have IH := sideOkSelsA_eq_A (ok := ok) KN c sub
      obtain ⟨sf, hsf⟩ := C01NA.aSel_field_some h
      unfold sideOkSelA C01NA.sideOkSelA
      simp only [hsf, Option.map_some]
      by_cases hobj : ∃ i, sf.ty.id = .object i
      · obtain ⟨i, hid⟩ := hobj
        obtain ⟨_, _, _, hb⟩ := C01NA.aSel_obj hsf hid h
        simp only [hid]
        by_cases hsp : ∃ g, sub = [Sel.spread g]
        · obtain ⟨g, rfl⟩ := hsp; rfl
        · have hnl : ∀ g, sub ≠ [Sel.spread g] := fun g hg => hsp ⟨g, hg⟩
          rw [C01NA.aBody_not_lone hnl] at hb
          have e1 := IH _ hb
          split
          · exact absurd rfl (hnl _)
          · split
            · exact absurd rfl (hnl _)
            · rw [e1]
      · have hno : ∀ i, sf.ty.id ≠ .object i := fun i h => hobj ⟨i, h⟩
        have hnewfacts : ∀ (hnew : absFieldA ok c.s c.q c.o sf sub = true),
            posKeys c.s sub = ["__typename"] ∧ ownSels sub = [] ∧ strip sub = sub := by
          intro hnew
          have hnf := absSubA_nofield (C01NA.absFieldA_parts hnew).2.2.2
          exact ⟨by simp [posKeys, ownSels_nil hnf, fieldKeys], ownSels_nil hnf, strip_eq_self hnf⟩
        have hon : EnumSpec.nodup (rustNames c [] ++ ["on"]) = true := by
          show EnumSpec.nodup ["on"] = true
          decide
        rcases C01NA.aSel_nonobj hsf hno h with hs | ⟨hs, hnew⟩
        · cases hid : sf.ty.id with
          | object i => exact absurd hid (hno i)
          | scalar k => simp [hs]
          | «enum» k => simp [hs]
          | interface k => simp [hs]
          | union k => simp [hs]
          | input k => simp [hs]
        · obtain ⟨h1, h2, h3⟩ := hnewfacts hnew
          cases hid : sf.ty.id with
          | object i => exact absurd hid (hno i)
          | scalar k => simp [hs, h1, h2, h3, hon]
          | «enum» k => simp [hs, h1, h2, h3, hon]
          | interface k => simp [hs, h1, h2, h3, hon]
          | union k => simp [hs, h1, h2, h3, hon]
          | input k => simp [hs, h1, h2, h3, hon]
    | .spread g, _ => by intro _; simp [sideOkSelA, C01NA.sideOkSelA]
    | .inline _ _, _ => by intro _; simp [sideOkSelA, C01NA.sideOkSelA]
    | .typename, _ => by intro _; simp [sideOkSelA, C01NA.sideOkSelA]
  theorem sideOkSelsA_eq_A {ok : TypeId → Nat → Bool} (KN : String → List String) (c : Ctx) : ∀ (sels : List Sel)
      (p : TypeId), C01NA.aSels ok c.s c.q c.o p sels = true → sideOkSelsA KN c sels = C01NA.sideOkSelsA KN c sels
    | [], _ => by intro _; rfl
    | x :: xs, p => by
      intro h
      obtain ⟨hx, hxs⟩ := C01NA.aSels_cons h
      rw [sideOkSelsA, C01NA.sideOkSelsA, sideOkSelA_eq_A KN c x p hx, sideOkSelsA_eq_A KN c xs p hxs]
end

mutual
  theorem keysOkA_eq_A {ok : TypeId → Nat → Bool} (KN : String → List String) (c : Ctx) : ∀ (x : Sel) (p : TypeId),
      C01NA.aSel ok c.s c.q c.o p x = true → keysOkA KN c x = C01NA.keysOkA KN c x
    | .field a fid sub, p => by
      intro h
      have IH := keysOksA_eq_A (ok := ok) KN c sub
      obtain ⟨sf, hsf⟩ := C01NA.aSel_field_some h
      rw [keysOkA, C01NA.keysOkA]
      simp only [hsf, Option.map_some]
      by_cases hobj : ∃ i, sf.ty.id = .object i
      · obtain ⟨i, hid⟩ := hobj
        obtain ⟨_, _, _, hb⟩ := C01NA.aSel_obj hsf hid h
        simp only [hid]
        by_cases hsp : ∃ g, sub = [Sel.spread g]
        · obtain ⟨g, rfl⟩ := hsp
          simp [keysOksA, keysOkA, C01NA.keysOksA, C01NA.keysOkA]
        · have hnl : ∀ g, sub ≠ [Sel.spread g] := fun g hg => hsp ⟨g, hg⟩
          rw [C01NA.aBody_not_lone hnl] at hb
          rw [IH _ hb]
      · have hno : ∀ i, sf.ty.id ≠ .object i := fun i h => hobj ⟨i, h⟩
        rcases C01NA.aSel_nonobj hsf hno h with hs | ⟨hs, hnew⟩
        · simp [hs]
        · have h3 : strip sub = sub := strip_eq_self (absSubA_nofield (C01NA.absFieldA_parts hnew).2.2.2)
          simp [hs, h3]
    | .spread g, _ => by intro _; simp [keysOkA, C01NA.keysOkA]
    | .inline _ _, _ => by intro _; simp [keysOkA, C01NA.keysOkA]
    | .typename, _ => by intro _; simp [keysOkA, C01NA.keysOkA]
  theorem keysOksA_eq_A {ok : TypeId → Nat → Bool} (KN : String → List String) (c : Ctx) : ∀ (sels : List Sel)
      (p : TypeId), C01NA.aSels ok c.s c.q c.o p sels = true → keysOksA KN c sels = C01NA.keysOksA KN c sels
    | [], _ => by intro _; rfl
    | x :: xs, p => by
      intro h
      obtain ⟨hx, hxs⟩ := C01NA.aSels_cons h
      rw [keysOksA, C01NA.keysOksA, keysOkA_eq_A KN c x p hx, keysOksA_eq_A KN c xs p hxs]
end


/-- without interface-level fields the environment of the position is the one of `NestedAbsOp` -/
theorem envAbsG_eq_A {ok : TypeId → Nat → Bool} {fenv : Nat → Prop} {e : Env} {c : Ctx} {name : String} {ty : TypeId}
    {sub : List Sel} (h : absSubA ok c.s c.q c.o ty sub = true) :
    EnvAbsG fenv e c name ty sub = EnvAbsA fenv e c name ty sub := by
  have hnf := absSubA_nofield h
  unfold EnvAbsG EnvAbsA
  rw [strip_eq_self hnf, fieldsOfV_nil hnf, ownSels_nil hnf]
  simp [AbsEnv, envSelsS]

mutual
  theorem envSelA_eq_A {ok : TypeId → Nat → Bool} (fenv : Nat → Prop) (e : Env) (c : Ctx) (hok : OkSpec c.q ok) :
      ∀ (x : Sel) (p : TypeId) (pfx : String),
      C01NA.aSel ok c.s c.q c.o p x = true → envSelA fenv e c pfx x = C01NA.envSelA fenv e c pfx x
    | .field a fid sub, p, pfx => by
      intro h
      have IH := envSelsA_eq_A (ok := ok) fenv e c hok sub
      obtain ⟨sf, hsf⟩ := C01NA.aSel_field_some h
      rw [envSelA, C01NA.envSelA]
      simp only [hsf]
      by_cases hobj : ∃ i, sf.ty.id = .object i
      · obtain ⟨i, hid⟩ := hobj
        obtain ⟨_, _, _, hb⟩ := C01NA.aSel_obj hsf hid h
        simp only [hid]
        by_cases hsp : ∃ g, sub = [Sel.spread g]
        · obtain ⟨g, rfl⟩ := hsp; rfl
        · have hnl : ∀ g, sub ≠ [Sel.spread g] := fun g hg => hsp ⟨g, hg⟩
          rw [C01NA.aBody_not_lone hnl] at hb
          split
          · exact absurd rfl (hnl _)
          · split
            · exact absurd rfl (hnl _)
            · rw [IH _ _ hb]
      · have hno : ∀ i, sf.ty.id ≠ .object i := fun i h => hobj ⟨i, h⟩
        rcases C01NA.aSel_nonobj hsf hno h with hs | ⟨hs, hnew⟩
        · split
          · exact absurd ‹_› (hno _)
          · simp [hs]
        · have hu := envAbsG_eq_A (fenv := fenv) (e := e) (c := c) (name := pfx ++ c.cs.camel (a.getD sf.name))
            (C01NA.absFieldA_parts hnew).2.2.2
          split
          · exact absurd ‹_› (hno _)
          · simp [hs, hu]
    | .spread g, _, _ => by intro _; simp [envSelA, C01NA.envSelA]
    | .inline _ _, _, _ => by intro _; simp [envSelA, C01NA.envSelA]
    | .typename, _, _ => by intro _; simp [envSelA, C01NA.envSelA]
  theorem envSelsA_eq_A {ok : TypeId → Nat → Bool} (fenv : Nat → Prop) (e : Env) (c : Ctx) (hok : OkSpec c.q ok) :
      ∀ (sels : List Sel) (p : TypeId) (pfx : String),
      C01NA.aSels ok c.s c.q c.o p sels = true → envSelsA fenv e c pfx sels = C01NA.envSelsA fenv e c pfx sels
    | [], _, _ => by intro _; simp [envSelsA, C01NA.envSelsA]
    | x :: xs, p, pfx => by
      intro h
      obtain ⟨hx, hxs⟩ := C01NA.aSels_cons h
      rw [envSelsA, C01NA.envSelsA, envSelA_eq_A fenv e c hok x p pfx hx, envSelsA_eq_A fenv e c hok xs p pfx hxs]
end

/-- a lone spread or not: the payload fragments / side conditions of a body of `NestedAbsOp` -/
theorem body_agree_A {c : Ctx} {op : ROperation} (h : NestedAbsOp c op = true) :
    aPayss c.s c.q c.o op.sels = (C01NA.aPayss c.s c.q c.o op.sels).map (fun g => (g, ["__typename"])) ∧
      (∀ KN, sideOkSelsA KN c op.sels = C01NA.sideOkSelsA KN c op.sels) ∧
      ∀ KN, keysOksA KN c op.sels = C01NA.keysOksA KN c op.sels := by
  obtain ⟨_, _, hb⟩ := nestedAbsOp_parts h
  by_cases hsp : ∃ g, op.sels = [Sel.spread g]
  · obtain ⟨g, hg⟩ := hsp
    rw [hg]
    refine ⟨by simp [aPayss, aPays, C01NA.aPayss, C01NA.aPays], fun KN => ?_, fun KN => ?_⟩
    · simp [sideOkSelsA, sideOkSelA, C01NA.sideOkSelsA, C01NA.sideOkSelA]
    · simp [keysOksA, keysOkA, C01NA.keysOksA, C01NA.keysOkA]
  · have hnl : ∀ g, op.sels ≠ [Sel.spread g] := fun g hg => hsp ⟨g, hg⟩
    rw [C01NA.aBody_not_lone hnl] at hb
    exact ⟨aPayss_eq_A _ _ hb, fun KN => sideOkSelsA_eq_A KN c _ _ hb, fun KN => keysOksA_eq_A KN c _ _ hb⟩

theorem nestedGenKeysOk_eq_A (c : Ctx) (op : ROperation) (h : NestedAbsOp c op = true) :
    nestedGenKeysOk c op = nestedAbsKeysOk c op := by
  unfold nestedGenKeysOk nestedAbsKeysOk
  rw [aSpreadss_eq_A, (body_agree_A h).2.2]

theorem nestedGenSideOk_eq_A (c : Ctx) (op : ROperation) (h : NestedAbsOp c op = true) :
    nestedGenSideOk c op = nestedAbsSideOk c op := by
  unfold nestedGenSideOk nestedAbsSideOk
  rw [aSpreadss_eq_A, (body_agree_A h).2.1]

theorem absTagOk_eq_A (c : Ctx) (op : ROperation) (h : NestedAbsOp c op = true) :
    absTagOk c op = C01NA.absTagOk c op := by
  unfold absTagOk C01NA.absTagOk
  rw [(body_agree_A h).1, List.all_map]
  congr 1
  funext g
  simp

/-- … and `nestedgen_precise_iff` is `nestedabs_precise_iff` there -/
theorem conformsLooseA_eq_A_op (c : Ctx) (op : ROperation) (ht : NestedAbsOp c op = true)
    (whole : Nat → Bool → Json → Bool) (b : Bool) (j : Json) :
    conformsLooseA whole c.s c.q c.o b op.sels j = C01NA.conformsLooseA whole c.s c.q c.o b op.sels j :=
  conformsLooseA_eq_A whole b _ _ j (nestedAbsOp_parts ht).2.2

end C01NG
end GqlVerif
