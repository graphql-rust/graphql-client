import GqlVerif.Proofs.C01AliasFragF
import GqlVerif.Proofs.C01AliasFragH
import GqlVerif.Proofs.C01NestedI
/-!
# `AliasFragOp`: the rank recursion for the round trip; `aliasfrag_lossless`, `aliasfrag_roundtrip`

* `centA c r g kvs` — the entries the type of the fragment `g` writes for the object `kvs`: rank `0` `canonEntriesV` of its
  (spread-free) body, a fragment new at rank `r + 1` `canonEntriesN (centA c r)` of its body — for a lone-spread body
  `...G` **the entries of `G`** (an alias writes what its target writes);
* `rustSideA c r g` — decidable side condition, the formula of `rustSideN`.

`fragRTA` gives `FragRT e c (exN c.q r') (centA c r) (KNa c r) g` for every `r' ≥ r`, by induction on the rank; the case of a
lone-spread body is the one `NestedOp` does not have: the alias reads and writes what its target reads and writes.
-/

namespace GqlVerif
namespace C01AF
open Serde Spec C13 C03 Codegen C01 C01.E2E C01M C01N

/-- **the entries the type of the fragment `g` writes** -/
def centA (c : Ctx) : Nat → Nat → List (String × Json) → List (String × Json)
  | 0, g, kvs => canonEntriesV c.s c.o.skipNone (fragSels c.q g) kvs
  | r + 1, g, kvs =>
    if fragOkA c.s c.q c.o r (fragOn c.q g) g then centA c r g kvs
    else canonEntriesN (centA c r) c.s c.q c.o.skipNone (fragSels c.q g) kvs

/-- **Rust field names pairwise distinct in the struct of the fragment `g`** and in the structs below (decidable) -/
def rustSideA (c : Ctx) : Nat → Nat → Bool
  | 0, g => rustOkFrag c g
  | r + 1, g =>
    if fragOkA c.s c.q c.o r (fragOn c.q g) g then rustSideA c r g
    else rustOkSelsN c (fragSels c.q g) && EnumSpec.nodup (rustNamesF c (fragSels c.q g)) &&
      (objSpreadss c.s (fragSels c.q g)).all (rustSideA c r)

theorem centA_zero (c : Ctx) : centA c 0 = centN c 0 := by
  funext g kvs; rw [centA, centN]

/-- a fragment admitted at rank `r0` writes the same entries at every later rank -/
theorem centA_of_le (c : Ctx) {r0 g : Nat} (h : fragOkA c.s c.q c.o r0 (fragOn c.q g) g = true) :
    ∀ r, r0 ≤ r → ∀ kvs, centA c r g kvs = centA c r0 g kvs := by
  intro r hr
  induction hr with
  | refl => intro kvs; rfl
  | step hle ih =>
    intro kvs
    rw [centA, if_pos (fragOkA_le hle h)]
    exact ih kvs

/-- **round trip of the type of a fragment of rank `r`** (by induction on the rank) -/
theorem fragRTA (e : Env) (c : Ctx) (hnd : fragNamesOk c = true) : ∀ (r : Nat) (p : TypeId) (g : Nat),
    fragOkA c.s c.q c.o r p g = true → FragEnvA e c r g → fragSideA c r g = true → rustSideA c r g = true →
    ∀ r', r ≤ r' → FragRT e c (exN c.q r') (centA c r) (KNa c r) g
  | 0, p, g => by
    intro h henv _ hro r' hr'
    rw [fragOkA] at h
    rw [FragEnvA] at henv
    rw [rustSideA] at hro
    rw [centA_zero, KNa_zero]
    exact fragRTN e c hnd 0 p g (by rw [fragOkN]; exact h) (by rw [FragEnvN]; exact henv) (by rw [fragSideN])
      (by rw [rustSideN]; exact hro) r' hr'
  | r + 1, p, g => by
    intro h henv hside hro r' hr'
    have IH := fragRTA e c hnd r
    by_cases hold : fragOkA c.s c.q c.o r p g = true
    · obtain ⟨fr, hfr, hon, _, _⟩ := fragOkA_spec c.s c.q c.o r p g hold
      have hfon : fragOn c.q g = p := by simp [fragOn, hfr, hon]
      have hname : fragName c g = fr.name := by simp [fragName, hfr]
      have hid : idOf c.q fr.name = g := idOf_name hnd hfr
      rw [FragEnvA, hfon, if_pos hold] at henv
      rw [fragSideA, hfon, if_pos hold] at hside
      rw [rustSideA, hfon, if_pos hold] at hro
      refine (IH p g hold henv hside hro r' (by omega)).congr (fun kvs => ?_) ?_
      · rw [centA, hfon, if_pos hold]
      · rw [hname, KNa, hid, hfon, if_pos hold]
    · have holdf : fragOkA c.s c.q c.o r p g = false := by simpa using hold
      rw [fragOkA, holdf, Bool.false_or] at h
      obtain ⟨fr, hfr, hon, _, _, hb⟩ := fragNewA_parts h
      have hfon : fragOn c.q g = p := by simp [fragOn, hfr, hon]
      have hname : fragName c g = fr.name := by simp [fragName, hfr]
      have hsels : fragSels c.q g = fr.sels := by simp [fragSels, hfr]
      have hid : idOf c.q fr.name = g := idOf_name hnd hfr
      have hKN : KNa c (r + 1) fr.name = expKeysN (KNa c r) c fr.sels := by
        rw [KNa, hid, hfon, if_neg hold, hsels]
      have hce : ∀ kvs, centA c (r + 1) g kvs = canonEntriesN (centA c r) c.s c.q c.o.skipNone fr.sels kvs := by
        intro kvs; rw [centA, hfon, if_neg hold, hsels]
      by_cases hpo : ∃ i, p = .object i
      · obtain ⟨i, rfl⟩ := hpo
        obtain ⟨r'', rfl⟩ : ∃ k, r' = k + 1 := ⟨r' - 1, by omega⟩
        have hex : exN c.q (r'' + 1) g = .inline (.object i) (expandSelsW (exN c.q r'') fr.sels) := by
          simp [exN, hfr, hon]
        rw [FragEnvA, hfon, if_neg hold] at henv
        simp only [hfr] at henv
        rw [fragSideA, hfon] at hside
        simp only [holdf, Bool.false_eq_true, ↓reduceIte, hsels, Bool.and_eq_true, List.all_eq_true] at hside
        rw [rustSideA, hfon] at hro
        simp only [holdf, Bool.false_eq_true, ↓reduceIte, hsels, Bool.and_eq_true, List.all_eq_true] at hro
        obtain ⟨⟨hko, hkeys⟩, hsub⟩ := hside
        obtain ⟨⟨hros, hrn⟩, hrsub⟩ := hro
        have hok := fragOkA_spec c.s c.q c.o r
        have hfa : ∀ p' g', fragOkA c.s c.q c.o r p' g' = true →
            (FragEnvA e c r g' ∧ (fragSideA c r g' = true ∧ rustSideA c r g' = true)) →
            FragAccA e c (wholeA c r) (KNa c r) g' :=
          fun p' g' h1 h2 => fragAccA e c hnd r p' g' h1 h2.1 h2.2.1
        have hfrt : ∀ p' g', fragOkA c.s c.q c.o r p' g' = true →
            (FragEnvA e c r g' ∧ (fragSideA c r g' = true ∧ rustSideA c r g' = true)) →
            FragRT e c (exN c.q r'') (centA c r) (KNa c r) g' :=
          fun p' g' h1 h2 => IH p' g' h1 h2.1 h2.2.1 h2.2.2 r'' (by omega)
        have hexA : ∀ g', FragOkAny c.s c.q c.o g' → exN c.q r'' g' = expandSel c.q (.spread g') :=
          fun g' hg' => exN_fragOkAny hg' r''
        rw [hon] at hb
        rcases lone_or_not fr.sels with hsp | hnl
        · -- **a lone spread: the alias reads and writes what its target reads and writes**
          obtain ⟨g', hg'⟩ := hsp
          rw [hg'] at hb henv hsub hrsub hKN hce hex
          have hokg' : fragOkA c.s c.q c.o r (.object i) g' = true := hb
          obtain ⟨fr', hfr', hon', _, _⟩ := hok _ _ hokg'
          have hfon' : fragOn c.q g' = .object i := by simp [fragOn, hfr', hon']
          unfold BodyEnvN at henv
          simp only at henv
          obtain ⟨⟨hp, _, n, pub, hfind⟩, henv'⟩ := henv
          have hmemg' : g' ∈ objSpreadss c.s [Sel.spread g'] := by simp [objSpreadss, objSpreads]
          obtain ⟨N, hN⟩ := (hfrt _ g' hokg' ⟨henv', hsub g' hmemg', hrsub g' hmemg'⟩).rt
          have hKN' : KNa c (r + 1) fr.name = KNa c r (fragName c g') := by rw [hKN]; simp [expKeysN]
          have hce' : ∀ kvs, centA c (r + 1) g kvs = centA c r g' kvs := by
            intro kvs; rw [hce]; simp [canonEntriesN]
          refine ⟨⟨N + 2, fun fd fs hfd hfs b i' kvs L v hfon'' hndk hL hcf hd => ?_⟩⟩
          have hi : i' = i := by
            rw [hfon] at hfon''; injection hfon'' with h; exact h.symm
          subst hi
          rw [hname] at hL hd ⊢
          rw [hKN'] at hL
          obtain ⟨fd', rfl⟩ : ∃ k, fd = k + 1 := ⟨fd - 1, by omega⟩
          obtain ⟨fs', rfl⟩ : ∃ k, fs = k + 2 := ⟨fs - 2, by omega⟩
          have hd' : dePath e b fd' (fragName c g') (.obj (kvs.filter (fun kv => !L.contains kv.1))) = .ok v := by
            rw [dePath] at hd; simpa only [dePrim_none hp, hfind, deTyWith] using hd
          rw [hex] at hcf
          simp only [expandSelsW, expandSelW, confSelV, fragApplies, beq_self_eq_true, Bool.not_true, Bool.false_or,
            confSelsV, Bool.and_true] at hcf
          rw [serPath_alias e fr.name (fragName c g') n pub hfind, hce']
          exact hN fd' (fs' + 1) (by omega) (by omega) b i' kvs L v hfon' hndk hL hcf hd'
        · rw [nBody_not_lone hnl] at hb
          obtain ⟨hs, henvs⟩ := bodyEnvN_not_lone hnl henv
          have henvs' := envSelsN_and (P := fun g' => fragSideA c r g' = true ∧ rustSideA c r g' = true) fr.sels _ henvs
            (fun g' hg' => ⟨hsub g' hg', hrsub g' hg'⟩)
          obtain ⟨N, hN⟩ := rtStructA e c _ (wholeA c r) (KNa c r) _ (exN c.q r'') (centA c r) hok hfa hfrt
            (c.cs.camel fr.name) fr.name i fr.sels
            (rtSelsA e c _ (wholeA c r) (KNa c r) _ (exN c.q r'') (centA c r) fr.sels _ hok hfa hfrt hexA) hb henvs' hko
            hkeys hros hrn hs
          refine ⟨⟨N, fun fd fs hfd hfs b i' kvs L v hfon' hndk hL hcf hd => ?_⟩⟩
          have hi : i' = i := by
            rw [hfon] at hfon'; injection hfon' with h; exact h.symm
          subst hi
          rw [hname] at hL hd ⊢
          rw [hKN] at hL
          rw [hex] at hcf
          simp only [confSelV, fragApplies, beq_self_eq_true, Bool.not_true, Bool.false_or] at hcf
          rw [hce]
          exact hN b fd fs hfd hfs kvs L v hndk hL hcf hd
      · refine ⟨⟨0, fun fd fs _ _ b i kvs L v hfon' => ?_⟩⟩
        exact absurd ⟨i, hfon.symm.trans hfon'⟩ hpo

/-- Rust field names pairwise distinct in every struct at an object position of the operation and in the structs of the
    spread fragments, recursively (decidable) -/
def aliasRustOk (c : Ctx) (op : ROperation) : Bool :=
  rustOkSelsN c op.sels && EnumSpec.nodup (rustNamesF c op.sels) &&
  (objSpreadss c.s op.sels).all (rustSideA c c.q.fragments.length)

theorem top_losslessA (e : Env) (c : Ctx) (op : ROperation) (ht : AliasFragOp c op = true) (hnd : fragNamesOk c = true)
    (hk : aliasKeysOk c op = true) (hr : aliasRustOk c op = true) (he : TopEnvA e c op) (hS : SerdeFuel.EnvOKS e)
    (j : Json) (v : Val) (hc : conformsOpN c op j = true) (hd : Serde.de e (.path "ResponseData") j = .ok v) :
    Serde.ser e (.path "ResponseData") v =
      .ok (normJson (canonSelN (centA c c.q.fragments.length) c.s c.q c.o.skipNone op.sels j)) := by
  obtain ⟨_, _, hsels⟩ := aliasFragOp_parts ht
  simp only [aliasKeysOk, Bool.and_eq_true, List.all_eq_true] at hk
  simp only [aliasRustOk, Bool.and_eq_true, List.all_eq_true] at hr
  obtain ⟨⟨hko, hkeys⟩, hsub⟩ := hk
  obtain ⟨⟨hros, hrn⟩, hrsub⟩ := hr
  have hfa : ∀ p' g', fragOkA c.s c.q c.o c.q.fragments.length p' g' = true →
      (FragEnvA e c c.q.fragments.length g' ∧
        (fragSideA c c.q.fragments.length g' = true ∧ rustSideA c c.q.fragments.length g' = true)) →
      FragAccA e c (wholeA c c.q.fragments.length) (KNa c c.q.fragments.length) g' :=
    fun p' g' h1 h2 => fragAccA e c hnd _ p' g' h1 h2.1 h2.2.1
  have hfrt : ∀ p' g', fragOkA c.s c.q c.o c.q.fragments.length p' g' = true →
      (FragEnvA e c c.q.fragments.length g' ∧
        (fragSideA c c.q.fragments.length g' = true ∧ rustSideA c c.q.fragments.length g' = true)) →
      FragRT e c (exN c.q c.q.fragments.length) (centA c c.q.fragments.length) (KNa c c.q.fragments.length) g' :=
    fun p' g' h1 h2 => fragRTA e c hnd _ p' g' h1 h2.1 h2.2.1 h2.2.2 _ (Nat.le_refl _)
  exact Top.ser_norm_ok (spec := fun j => conformsOpN c op j = true) he.ok hS
    (bodyA_lossless e c _ (wholeA c c.q.fragments.length) (KNa c c.q.fragments.length) _
      (exN c.q c.q.fragments.length) (centA c c.q.fragments.length) (fragOkA_spec c.s c.q c.o _) hfa hfrt
      (fun g hg => exN_fragOkAny hg _) (c.cs.camel op.name) "ResponseData" op.objectId op.sels hsels
      (bodyEnvN_and (P := fun g' => fragSideA c c.q.fragments.length g' = true ∧
          rustSideA c c.q.fragments.length g' = true) he.root (fun g' hg' => ⟨hsub g' hg', hrsub g' hg'⟩))
      hko hkeys hros hrn) hc hd

/-- **`aliasfrag_lossless`.**  A conforming response that was read is written back as `normJson (canonSelN … j)`. -/
theorem aliasfrag_lossless (c : Ctx) (opIdx : Nat) (op : ROperation) (items : List Item)
    (hop : c.q.operations[opIdx]? = some op) (ht : AliasFragOp c op = true) (hnd : fragNamesOk c = true)
    (hk : aliasKeysOk c op = true) (hr : aliasRustOk c op = true)
    (hgen : responseForQuery c opIdx = .ok items) (hok : moduleOk c items = true)
    (j : Json) (hc : conformsOpN c op j = true) (v : Val)
    (hd : Serde.de (moduleEnv c items) (.path "ResponseData") j = .ok v) :
    Serde.ser (moduleEnv c items) (.path "ResponseData") v =
      .ok (normJson (canonSelN (centA c c.q.fragments.length) c.s c.q c.o.skipNone op.sels j)) :=
  top_losslessA (moduleEnv c items) c op ht hnd hk hr
    (topEnvA_of_module hop ht hgen hok) (aliasfrag_module_envOK hop ht hgen hok).2 j v hc hd

theorem aliasfrag_roundtrip (c : Ctx) (opIdx : Nat) (op : ROperation) (items : List Item)
    (hop : c.q.operations[opIdx]? = some op) (ht : AliasFragOp c op = true) (hnd : fragNamesOk c = true)
    (hk : aliasKeysOk c op = true) (hr : aliasRustOk c op = true)
    (hgen : responseForQuery c opIdx = .ok items) (hok : moduleOk c items = true)
    (j : Json) (hc : conformsOpN c op j = true) :
    Serde.roundtrip (moduleEnv c items) (.path "ResponseData") j =
      .ok (normJson (canonSelN (centA c c.q.fragments.length) c.s c.q c.o.skipNone op.sels j)) :=
  Top.roundtrip_of (aliasfrag_accepts c opIdx op items hop ht hnd hk hgen hok j hc)
    (aliasfrag_lossless c opIdx op items hop ht hnd hk hr hgen hok j hc)

end C01AF
end GqlVerif
