import GqlVerif.Proofs.C04DefaultsCore
/-!
# C04 — the `default_*` bodies of an emitted module: they type-check and denote the declared default

For the module `responseForQuery c op` emits (hypotheses of `C04S.variables_expressible`: normalization `none`, no
keyword clash in type names, input types only in input positions, the module compiles — no duplicate definition /
member — and shadows neither the four leaf names nor the consumer's paths), no extern enums (`hext`: an extern enum is
the consumer's type, of which the model knows nothing), closed enums (`L.enumOpen = false`: the specification), and
for a declared variable `v` whose default `d`
* is valid for the declared type under the specification's rule **with list input coercion** (`C04R.ValidC` of the
  JSON spelling `valueJson d`),
* satisfies `kindOk` (what JSON cannot say: no variable inside — the generator panics on it, see
  `null_default_panics` —, string literals not at enum positions and enum literals only at enum positions, float
  tokens are not integer tokens; `null` is allowed wherever `ValidC` allows it: at nullable positions, where the
  generator writes `None`),
* nests fewer than 64 levels (the fuel `variablesItems` gives `literalOk`; beyond it the model answers `unmodelled`):

* **`default_typechecks`**: `valueToLiteral` succeeds (it is the body `defaultBodies` lists under `default_<name>`:
  `default_body_mem`), contains no `compile_error!`, and `evalLit` gives a value `x` of the variable's Rust type
  (`variableType`, `C04S.HasTy`);
* **`default_value_correct`**: `serde_json::to_value(Variables::default_<name>())` is the canonical form of the
  coerced spelling of the declared default: `Serde.ser env t x = canon (coerce (valueJson d))`.
-/
namespace GqlVerif
namespace C04D
open Codegen Serde C04S C04R

/-- from the fuel-indexed statement to `serde_json::to_value` -/
theorem good_top {e : Env} {lit : LitExpr} {r : RTy} {out : Json} {x : Val} (h : Good e lit r out x) :
    Serde.ser e r x = .ok out := by
  unfold Serde.ser serTy
  rw [h.ser _ (Nat.le_trans (by omega : valSize x ≤ valSize x + 2) (Nat.le_mul_of_pos_right _ (by omega)))]
  show Except.ok (normJson out) = _
  rw [h.norm]

/-- an enum that is not extern is defined by the module -/
theorem find_enumItem (c : Ctx) (op : Nat) (items : List Item) (hnorm : c.o.normalization = .none)
    (hext : c.o.externEnums = []) (h : responseForQuery c op = .ok items) {u : UsedTypes}
    (hu : allUsedTypes c.s c.q op = .ok u) (e : Env) (he : e.items = items) (env : InputEnv c e (· ∈ u.types))
    (k : Nat) (en : StoredEnum) (hk : TypeId.enum k ∈ u.types) (hen : c.s.enums[k]? = some en) :
    e.find en.name = some (enumItem c en) := by
  rcases (env.enums k en hk hen).2 with ⟨h1, _⟩ | ⟨h1, _⟩
  · exact h1
  · exfalso
    obtain ⟨u', S, E, F, I, V, o, R', hu', hS, hE, hF, hI, hV, ho, hR, hitems⟩ := C02.responseForQuery_ok_full h
    rw [hu] at hu'
    cases hu'
    have hin : enumItem c en ∈ items := by
      rw [hitems]
      have := enumItem_mem hE hk hen (by simp [hext])
      simp [this]
    have hname : (enumItem c en).name = en.name := by rw [enumItem_eq, hnorm]; rfl
    unfold Env.find at h1
    rw [he, List.find?_eq_none] at h1
    exact h1 _ hin (by simp [hname])

/-- **the core, at module level**: the literal of a valid default is `Good` at the variable's Rust type -/
theorem default_good (L : Leaves) (c : Ctx) (op : Nat) (items : List Item)
    (hnorm : c.o.normalization = .none)
    (hkwI : ∀ i ∈ c.s.inputs, keywordReplace i.name = i.name)
    (hkwS : ∀ n ∈ c.s.scalars, keywordReplace n = n)
    (hkwE : ∀ e ∈ c.s.enums, keywordReplace e.name = e.name)
    (hwf : C02.OutputOnly c.s c.q = true) (hrel : C02.InputFieldsRelevant c.s = true)
    (hvars : ∀ v ∈ c.q.opVariables op, C02.Relevant v.ty.id)
    (hdef : (Scope.defines items).Nodup) (hmem : ∀ it ∈ items, (C02.memberIdents it).Nodup)
    (hprim : ∀ it ∈ items, C01.notPrim it.name) (hfree : ExternsFree c items)
    (hint : ∀ n, L.intOk n = true → inI64 n = true) (hclosed : L.enumOpen = false) (hext : c.o.externEnums = [])
    (h : responseForQuery c op = .ok items)
    (v : RVariable) (hv : v ∈ c.q.opVariables op) (d : Value)
    (hvalid : ValidC L c.s v.ty.id false (gty v.ty) (valueJson d))
    (hkind : kindOk c.s v.ty.id d = true) (hdepth : valueDepth d < 64) :
    ∃ lit t x, valueToLiteral c 64 d v.ty.id v.ty.quals = .ok lit ∧ variableType c v = .ok t ∧
      Good (moduleEnv c items) lit t
        (canon c.s c.o.skipNone v.ty.id (gty v.ty) (coerce c.s v.ty.id (gty v.ty) (valueJson d))) x := by
  obtain ⟨u, hu, env⟩ := inputEnv_of_module c op items hnorm hkwI hwf hrel hdef hmem hprim hfree h
  obtain ⟨_, _, _, _, _, V, _, _, _, _, _, _, _, hV, _, _, _⟩ := C02.responseForQuery_ok_full h
  have hne : c.q.opVariables op ≠ [] := fun hnil => by rw [hnil] at hv; cases hv
  obtain ⟨fs, _, hall⟩ := C04Keys.variables_struct c op V hV hne
  obtain ⟨f, t, ht, _⟩ := all2_left_mem hall v hv
  obtain ⟨hw, rfl⟩ := variableType_inv hnorm (fun tn htn => kw_typeName hkwI hkwS hkwE (hvars v hv) htn) ht
  have hU : v.ty.id ∈ u.types := C02.variable_types_used c.s c.q op u hu v hv (hvars v hv)
  obtain ⟨lit, x, hlit, hg⟩ := (literal_core L c (moduleEnv c items) (· ∈ u.types) env hnorm
    (fun k i _ hi => hkwI i (List.mem_of_getElem? hi))
    (fun k en hk hen => find_enumItem c op items hnorm hext h hu _ rfl env k en hk hen)
    hint hclosed hvalid hU hw d rfl hkind 64 hdepth).1 rfl
  refine ⟨lit, _, x, ?_, ht, hg⟩
  rw [gty, quals_ofQuals] at hlit
  exact hlit

theorem default_typechecks (L : Leaves) (c : Ctx) (op : Nat) (items : List Item)
    (hnorm : c.o.normalization = .none)
    (hkwI : ∀ i ∈ c.s.inputs, keywordReplace i.name = i.name)
    (hkwS : ∀ n ∈ c.s.scalars, keywordReplace n = n)
    (hkwE : ∀ e ∈ c.s.enums, keywordReplace e.name = e.name)
    (hwf : C02.OutputOnly c.s c.q = true) (hrel : C02.InputFieldsRelevant c.s = true)
    (hvars : ∀ v ∈ c.q.opVariables op, C02.Relevant v.ty.id)
    (hdef : (Scope.defines items).Nodup) (hmem : ∀ it ∈ items, (C02.memberIdents it).Nodup)
    (hprim : ∀ it ∈ items, C01.notPrim it.name) (hfree : ExternsFree c items)
    (hint : ∀ n, L.intOk n = true → inI64 n = true) (hclosed : L.enumOpen = false) (hext : c.o.externEnums = [])
    (h : responseForQuery c op = .ok items)
    (v : RVariable) (hv : v ∈ c.q.opVariables op) (d : Value)
    (hvalid : ValidC L c.s v.ty.id false (gty v.ty) (valueJson d))
    (hkind : kindOk c.s v.ty.id d = true) (hdepth : valueDepth d < 64) :
    ∃ lit t x, valueToLiteral c 64 d v.ty.id v.ty.quals = .ok lit ∧ lit.hasCompileError = false ∧
      variableType c v = .ok t ∧ evalLit (moduleEnv c items) lit t = some x ∧ HasTy (moduleEnv c items) t x := by
  obtain ⟨lit, t, x, hlit, ht, hg⟩ := default_good L c op items hnorm hkwI hkwS hkwE hwf hrel hvars hdef hmem hprim
    hfree hint hclosed hext h v hv d hvalid hkind hdepth
  exact ⟨lit, t, x, hlit, hg.noErr, ht, hg.eval, hg.ty⟩

theorem default_value_correct (L : Leaves) (c : Ctx) (op : Nat) (items : List Item)
    (hnorm : c.o.normalization = .none)
    (hkwI : ∀ i ∈ c.s.inputs, keywordReplace i.name = i.name)
    (hkwS : ∀ n ∈ c.s.scalars, keywordReplace n = n)
    (hkwE : ∀ e ∈ c.s.enums, keywordReplace e.name = e.name)
    (hwf : C02.OutputOnly c.s c.q = true) (hrel : C02.InputFieldsRelevant c.s = true)
    (hvars : ∀ v ∈ c.q.opVariables op, C02.Relevant v.ty.id)
    (hdef : (Scope.defines items).Nodup) (hmem : ∀ it ∈ items, (C02.memberIdents it).Nodup)
    (hprim : ∀ it ∈ items, C01.notPrim it.name) (hfree : ExternsFree c items)
    (hint : ∀ n, L.intOk n = true → inI64 n = true) (hclosed : L.enumOpen = false) (hext : c.o.externEnums = [])
    (h : responseForQuery c op = .ok items)
    (v : RVariable) (hv : v ∈ c.q.opVariables op) (d : Value)
    (hvalid : ValidC L c.s v.ty.id false (gty v.ty) (valueJson d))
    (hkind : kindOk c.s v.ty.id d = true) (hdepth : valueDepth d < 64)
    (lit : LitExpr) (t : RTy) (x : Val) (hlit : valueToLiteral c 64 d v.ty.id v.ty.quals = .ok lit)
    (ht : variableType c v = .ok t) (hx : evalLit (moduleEnv c items) lit t = some x) :
    Serde.ser (moduleEnv c items) t x =
      .ok (canon c.s c.o.skipNone v.ty.id (gty v.ty) (coerce c.s v.ty.id (gty v.ty) (valueJson d))) := by
  obtain ⟨lit', t', x', hlit', ht', hg⟩ := default_good L c op items hnorm hkwI hkwS hkwE hwf hrel hvars hdef hmem hprim
    hfree hint hclosed hext h v hv d hvalid hkind hdepth
  rw [hlit] at hlit'; cases hlit'
  rw [ht] at ht'; cases ht'
  have := hg.eval
  rw [hx] at this; cases this
  exact good_top hg

/-- the literal is the body `defaultBodies` lists under `default_<name>` -/
theorem default_body_mem (c : Ctx) (op : Nat) (bodies : List (String × LitExpr))
    (hb : defaultBodies c op = .ok bodies) (v : RVariable) (hv : v ∈ c.q.opVariables op) (d : Value)
    (hd : v.default = some d) :
    ∃ lit, valueToLiteral c 64 d v.ty.id v.ty.quals = .ok lit ∧ ("default_" ++ v.name, lit) ∈ bodies := by
  unfold defaultBodies at hb
  generalize c.q.opVariables op = vars at hb hv
  induction vars generalizing bodies with
  | nil => cases hv
  | cons a rest ih =>
    rw [List.filterMapM_cons] at hb
    obtain ⟨o, ho, hb⟩ := C02.bind_ok hb
    have hrest : ∃ r, rest.filterMapM (fun v =>
        match v.default with
        | none => pure none
        | some d => do
          let e ← valueToLiteral c 64 d v.ty.id v.ty.quals
          pure (some ("default_" ++ v.name, e))) = .ok r ∧ ∀ y ∈ r, y ∈ bodies := by
      cases o with
      | none => exact ⟨bodies, hb, fun _ h => h⟩
      | some b =>
        simp only [] at hb
        obtain ⟨bs, hbs, hb⟩ := C02.bind_ok hb
        simp only [pure, Except.pure, Except.ok.injEq] at hb
        subst hb
        exact ⟨bs, hbs, fun y hy => by simp [hy]⟩
    obtain ⟨r, hr, hsub⟩ := hrest
    rcases List.mem_cons.mp hv with rfl | hv'
    · rw [hd] at ho
      simp only [] at ho
      obtain ⟨lit, hlit, ho⟩ := C02.bind_ok ho
      simp only [pure, Except.pure, Except.ok.injEq] at ho
      subst ho
      simp only [] at hb
      obtain ⟨bs, _, hb⟩ := C02.bind_ok hb
      simp only [pure, Except.pure, Except.ok.injEq] at hb
      subst hb
      exact ⟨lit, hlit, by simp⟩
    · obtain ⟨lit, hlit, hm⟩ := ih r hr hv'
      exact ⟨lit, hlit, hsub _ hm⟩

end C04D
end GqlVerif
