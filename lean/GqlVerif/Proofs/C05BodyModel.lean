import GqlVerif.Proofs.C05Body
import GqlVerif.Model.Serde
/-!
# C05 — `build_query`, as an item of the emitted module

`Proofs/C05Body.lean` proves `body_members` / `body_keys` by `rfl` over `C05Body.buildQuery`, a function written in that
proof file: the model's `Module` has the two constants (`operationName`, `query`) but no representation of the
`impl GraphQLQuery for … { fn build_query … }` block that uses them.  This file gives it one and evaluates it.

**The representation** (defined here, not in `Model/`):

* `ImplQuery` — IR of the emitted impl block (`generated_module.rs:103-115`): the type it is for, the two associated
  types, and the `QueryBody { … }` struct literal of `build_query` as a list *Rust member name ↦ expression*, an
  expression being the function parameter or a path `module::CONST`;
* `Module.consts` — the `pub const`s of the module (`generated_module.rs:95-96`), from the `Module` fields the model
  already has;
* `Module.implQuery` — the impl block `GeneratedModule::to_token_stream` emits next to the module, as a function of the
  `Module` record (`modName`, `implFor`);
* `ImplQuery.buildQuery` — the value of the struct literal: each member expression is **looked up** (parameter by
  name, constant by module path and name in `Module.consts`); `none` = rustc would reject the literal (unknown
  path, a member missing, a string where the variables belong).

The theorems are about `Envelope.serQueryBody` (model) applied to what `generatedModule` / `generate` (model) emit:
evaluating the emitted block gives `C05Body.buildQuery M v` (`buildQuery_of_module`: the hand-written function is the
evaluation of the emitted item), so `body_members` / `body_keys` hold through the IR, up to `Serde.ser` of the module's
own `Variables` item (`wire_body_of_generate`).  The evaluation is not vacuous: another module name, or a literal
without `operation_name`, has no value.
-/
namespace GqlVerif

/-! ## the emitted impl block and its evaluation -/

/-- a path `module::NAME` in the emitted token stream -/
structure ConstRef where
  module : String
  name : String
  deriving Repr, DecidableEq, Inhabited

/-- the right-hand side of one member of the `QueryBody { … }` literal -/
inductive BodyExpr where
  /-- a local of `build_query` (the shorthand member `variables` is `variables: variables`) -/
  | local (name : String)
  /-- `#module_name::QUERY`, `#module_name::OPERATION_NAME` -/
  | const (r : ConstRef)
  deriving Repr, DecidableEq, Inhabited

/-- `impl graphql_client::GraphQLQuery for #operation_name_ident { … }` (`generated_module.rs:103-115`) -/
structure ImplQuery where
  /-- `#operation_name_ident` -/
  implFor : String
  /-- `type Variables = #module_name::Variables;` -/
  variablesTy : ConstRef
  /-- `type ResponseData = #module_name::ResponseData;` -/
  responseTy : ConstRef
  /-- the parameters of `fn build_query` -/
  params : List String
  /-- the members of the returned `graphql_client::QueryBody { … }` literal, Rust member name ↦ expression, in
  the order written -/
  body : List (String × BodyExpr)
  deriving Repr, DecidableEq, Inhabited

namespace ConstRef
def toSexp (r : ConstRef) : Sexp := .list [.str r.module, .str r.name]
end ConstRef

namespace BodyExpr
def toSexp : BodyExpr → Sexp
  | .local n => .list [.atom "local", .str n]
  | .const r => .list [.atom "const", r.toSexp]
end BodyExpr

namespace ImplQuery
/-- comparison format, in the style of `Module.toSexp` (for the harness, which can read the same IR off the real
token stream with `syn`) -/
def toSexp (i : ImplQuery) : Sexp :=
  .list [.atom "impl-query", .str i.implFor, i.variablesTy.toSexp, i.responseTy.toSexp, strsSexp i.params,
         .list (i.body.map fun (n, e) => .list [.str n, e.toSexp])]
end ImplQuery

namespace Module

/-- `pub const OPERATION_NAME: &str = #operation_name; pub const QUERY: &str = #query_string;`
(`generated_module.rs:95-96`), name ↦ value.  (`__QUERY_WORKAROUND`, present in derive mode, is private and its
value is the file content `include_str!` finds at compile time: not a `Module` field, not used by `build_query`.) -/
def consts (M : Module) : List (String × String) :=
  [("OPERATION_NAME", M.operationName), ("QUERY", M.query)]

/-- the impl block emitted after the module (`generated_module.rs:103-115`) -/
def implQuery (M : Module) : ImplQuery :=
  { implFor := M.implFor,
    variablesTy := ⟨M.modName, "Variables"⟩,
    responseTy := ⟨M.modName, "ResponseData"⟩,
    params := ["variables"],
    body := [("variables", .local "variables"),
             ("query", .const ⟨M.modName, "QUERY"⟩),
             ("operation_name", .const ⟨M.modName, "OPERATION_NAME"⟩)] }

/-- name resolution of `module::NAME` against the one module the token stream declares next to the impl -/
def resolveConst (M : Module) (r : ConstRef) : Option String :=
  if r.module = M.modName then M.consts.lookup r.name else none

end Module

namespace ImplQuery

/-- a member expression of type `&'static str` -/
def evalStr (M : Module) : BodyExpr → Option String
  | .const r => M.resolveConst r
  | .local _ => none

/-- a member expression of type `Self::Variables`; `vars` is what the argument serialises to -/
def evalVars (I : ImplQuery) (vars : Json) : BodyExpr → Option Json
  | .local n => if n ∈ I.params then some vars else none
  | .const _ => none

/-- **the value `build_query(variables)` returns**: the struct literal, member by member -/
def buildQuery (I : ImplQuery) (M : Module) (vars : Json) : Option Envelope.QueryBody := do
  let v ← (I.body.lookup "variables").bind (I.evalVars vars)
  let q ← (I.body.lookup "query").bind (evalStr M)
  let n ← (I.body.lookup "operation_name").bind (evalStr M)
  pure { variables := v, query := q, operationName := n }

end ImplQuery

/-- **`to_value(Q::build_query(variables))`** for a generated module: the module's own impl block, evaluated against
the module's own constants, serialised by the derive of `QueryBody` (`Envelope.serQueryBody`, with its
`rename = "operationName"`) -/
def Module.requestBody (M : Module) (vars : Json) : Option Json :=
  (M.implQuery.buildQuery M vars).map Envelope.serQueryBody

namespace C05BodyModel
open Codegen

/-- evaluating the emitted impl block against the module it is emitted with: the variables, the module's `QUERY`,
the module's `OPERATION_NAME` — i.e. the hand-written `C05Body.buildQuery` **is** the emitted item's value -/
theorem buildQuery_of_module (M : Module) (v : Json) :
    M.implQuery.buildQuery M v = some { variables := v, query := M.query, operationName := M.operationName } ∧
    M.implQuery.buildQuery M v = some (C05Body.buildQuery M v) := by
  have h : M.implQuery.buildQuery M v = some { variables := v, query := M.query, operationName := M.operationName } := by
    simp [ImplQuery.buildQuery, Module.implQuery, ImplQuery.evalVars, ImplQuery.evalStr, Module.resolveConst,
      Module.consts, List.lookup, bind, Option.bind]
  exact ⟨h, h⟩

/-- **the body, exactly** (through the emitted impl block): an object with the three members `variables`, `query`,
`operationName`, in this order, holding the variables, the module's `QUERY` and the module's `OPERATION_NAME` -/
theorem body_members (M : Module) (v : Json) :
    M.requestBody v = some (.obj [("variables", v), ("query", .str M.query), ("operationName", .str M.operationName)]) := by
  unfold Module.requestBody
  rw [(buildQuery_of_module M v).1]
  rfl

theorem body_keys (M : Module) (v : Json) :
    ∃ kvs, M.requestBody v = some (.obj kvs) ∧
      kvs.map (·.1) = ["variables", "query", "operationName"] ∧
      Json.lookup "variables" kvs = some v ∧
      Json.lookup "query" kvs = some (.str M.query) ∧
      Json.lookup "operationName" kvs = some (.str M.operationName) ∧
      ∀ k, k ≠ "variables" → k ≠ "query" → k ≠ "operationName" → Json.lookup k kvs = none := by
  obtain ⟨kvs, h, rest⟩ := C05Body.body_keys M v
  cases h
  exact ⟨_, body_members M v, rest⟩

/-- the fields of a module `generatedModule` returns, all of them -/
theorem generatedModule_fields (c : Ctx) (text operation : String) (M : Module)
    (h : generatedModule c text operation = .ok M) :
    M.modName = c.cs.snake operation ∧ M.implFor = c.o.normalization.operation c.cs operation ∧
      M.operationName = operation ∧ M.query = text ∧ M.vis = c.o.visibility ∧ M.queryInclude = c.o.queryFile ∧
      M.useSerde = c.o.serdePath ∧
      M.structDecl = (if c.o.mode == .cli then some (c.o.normalization.operation c.cs operation) else none) := by
  obtain ⟨_, _, _, _, rfl⟩ := C05.generatedModule_inv h
  exact ⟨rfl, rfl, rfl, rfl, rfl, rfl, rfl, rfl⟩

/-- **the impl block `generatedModule` emits for `operation`**: for the (normalized) operation identifier; the
associated types and both constants are taken from the module `to_snake_case(operation)`; `build_query` fills the
three members of `QueryBody` from its parameter and from that module's `QUERY` and `OPERATION_NAME` -/
theorem impl_of_generatedModule (c : Ctx) (text operation : String) (M : Module)
    (h : generatedModule c text operation = .ok M) :
    M.implQuery =
      { implFor := c.o.normalization.operation c.cs operation,
        variablesTy := ⟨c.cs.snake operation, "Variables"⟩,
        responseTy := ⟨c.cs.snake operation, "ResponseData"⟩,
        params := ["variables"],
        body := [("variables", .local "variables"),
                 ("query", .const ⟨c.cs.snake operation, "QUERY"⟩),
                 ("operation_name", .const ⟨c.cs.snake operation, "OPERATION_NAME"⟩)] } ∧
    M.consts = [("OPERATION_NAME", operation), ("QUERY", text)] := by
  obtain ⟨h1, h2, h3, h4, _⟩ := generatedModule_fields c text operation M h
  simp only [Module.implQuery, Module.consts, h1, h2, h3, h4, and_self]

/-- **`generatedModule` to the wire**: the request body of the module generated for `operation` from the document
`text` has the three members, the text verbatim and the operation name as passed in (not normalized) -/
theorem body_of_generatedModule (c : Ctx) (text operation : String) (M : Module) (v : Json)
    (h : generatedModule c text operation = .ok M) :
    M.requestBody v = some (.obj [("variables", v), ("query", .str text), ("operationName", .str operation)]) := by
  obtain ⟨_, _, h3, h4, _⟩ := generatedModule_fields c text operation M h
  rw [body_members, h3, h4]

/-- **end to end**: what a caller of `build_query` puts on the wire for a module produced by `generate` -/
theorem request_body_of_generate (s : Schema) (cs : CaseFns) (o : Options) (text : String) (doc : QDoc)
    (ms : List Module) (M : Module) (v : Json) (h : generate s cs o text doc = .ok ms) (hM : M ∈ ms) :
    ∃ n, n ∈ Valid.opNames doc ∧ M.operationName = n ∧
      (∃ kind vars sels, QDef.op kind (some n) vars sels ∈ doc) ∧
      M.requestBody v = some (.obj [("variables", v), ("query", .str text), ("operationName", .str n)]) := by
  obtain ⟨htext, _, i, _, _, _, _, hith, hdef, _⟩ := C05Body.body_of_generate s cs o text doc ms M h hM
  exact ⟨M.operationName, List.mem_of_getElem? hith, rfl, hdef, by rw [body_members, htext]⟩

/-- the full request of a generated module for a value `val` of its own `Variables` type: serialise the value with
the serde model in the environment of the module's items, then `build_query`, then the derive of `QueryBody` -/
def wireBody (M : Module) (val : Val) : Serde.D (Option Json) := do
  let j ← Serde.ser { items := M.items } (.path "Variables") val
  pure (M.requestBody j)

/-- **the whole request, composed**: for a module of `generate` and a `Variables` value that serialises to `j`, the
body is `{variables: j, query: <the document, verbatim>, operationName: <an operation the document defines>}` — what
`j` is (its key list) is the subject of `C04Keys.variables_keys*`, which apply to the same `Serde.ser` call -/
theorem wire_body_of_generate (s : Schema) (cs : CaseFns) (o : Options) (text : String) (doc : QDoc)
    (ms : List Module) (M : Module) (val : Val) (j : Json)
    (h : generate s cs o text doc = .ok ms) (hM : M ∈ ms)
    (hj : Serde.ser { items := M.items } (.path "Variables") val = .ok j) :
    ∃ n, n ∈ Valid.opNames doc ∧
      wireBody M val = .ok (some (.obj [("variables", j), ("query", .str text), ("operationName", .str n)])) := by
  obtain ⟨n, hn, _, _, hb⟩ := request_body_of_generate s cs o text doc ms M j h hM
  exact ⟨n, hn, by simp [wireBody, hj, hb, bind, Except.bind, pure, Except.pure]⟩

/-! ### the evaluation is not vacuous -/

/-- the constants are looked up in the module: the same impl block next to a module with another name does not
compile (no value) -/
theorem buildQuery_needs_consts (M : Module) (v : Json) (other : String) (h : other ≠ M.modName) :
    M.implQuery.buildQuery { M with modName := other } v = none := by
  have h' : ¬ M.modName = other := fun e => h e.symm
  simp [ImplQuery.buildQuery, Module.implQuery, ImplQuery.evalVars, ImplQuery.evalStr, Module.resolveConst,
    List.lookup, bind, Option.bind, h']

/-- … and every member of `QueryBody` has to be written -/
theorem buildQuery_needs_member (M : Module) (v : Json) :
    ({ M.implQuery with body := M.implQuery.body.take 2 } : ImplQuery).buildQuery M v = none := by
  simp [ImplQuery.buildQuery, Module.implQuery, ImplQuery.evalVars, ImplQuery.evalStr, Module.resolveConst,
    Module.consts, List.lookup, bind, Option.bind]

/-- on a module the model generates (the `getA` / `GetA` document of `C05Body.clash_witness`, default options):
the emitted impl block and the constants it refers to, computed (the body then follows by `body_members`) -/
example :
    (match Sdl.fromSdl C05Body.clashSdl with
     | .ok s =>
       match generate s C05Body.clashCs {} "TEXT" C05Body.clashDoc with
       | .ok [m0, _] =>
         decide (m0.implQuery =
           { implFor := "getA", variablesTy := ⟨"get_a", "Variables"⟩, responseTy := ⟨"get_a", "ResponseData"⟩,
             params := ["variables"],
             body := [("variables", .local "variables"), ("query", .const ⟨"get_a", "QUERY"⟩),
                      ("operation_name", .const ⟨"get_a", "OPERATION_NAME"⟩)] }) &&
         decide (m0.consts = [("OPERATION_NAME", "getA"), ("QUERY", "TEXT")])
       | _ => false
     | .error _ => false) = true := by decide +kernel

end C05BodyModel
end GqlVerif
