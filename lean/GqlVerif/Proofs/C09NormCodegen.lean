import GqlVerif.Proofs.C09Options
/-!
# C09 — codegen half of the `normalization` wire theorem

`normalization` only changes *names*: with every type name (item names, `RTy.path` leaves), every Rust identifier
of a string-enum variant, the derive lists, the serde path and the `pub` flag of aliases erased (`eraseItem`),
two contexts that agree on the schema, the query, the case functions and on `deprecation`, `otherVariant`,
`skipNone`, `externEnums` — but not necessarily on `normalization` (nor on the derive / placement options of
`C09Options`) — generate the same list of items, in the same order, or fail with the same error
(`normalization_only_renames`; core: `calc_erase`, from `CalcNorm.sim`: the two contexts stand in `C09.CalcSim` with
the views `eraseField` / `eraseItem` as relations).  `normalization_modRel` is the structured form: the modules are
equal up to names chunk by chunk, `Variables` / `ResponseData` sit at the same positions, and string enums at the same position are
`enumItem c e` / `enumItem c' e` for the same schema enum `e` (`calc_noEnum`: the `calc*` block emits no string
enum; the diagonal instance `noEnum_sim` of `C09.calc_sim`).  The one side condition, `IdStable`: no enum / scalar name
is turned into, or away from, the special name `ID` (the generator tests the *normalized* name against `"ID"` to decide whether a
field gets the `deserialize_with` ID helpers).
-/
namespace GqlVerif
namespace C09N
open Codegen C09

/-! ## erasing names -/

def eraseTy : RTy → RTy
  | .path _ => .path ""
  | .opt t => .opt (eraseTy t)
  | .vec t => .vec (eraseTy t)
  | .box t => .box (eraseTy t)

/-- the named type at the bottom of a type expression -/
def tyLeaf : RTy → String
  | .path p => p
  | .opt t => tyLeaf t
  | .vec t => tyLeaf t
  | .box t => tyLeaf t

def eraseField (f : RField) : RField := { f with ty := eraseTy f.ty, deprecated := none }

def eraseVariant (v : RVariant) : RVariant := { v with payload := v.payload.map eraseTy }

/-- erase item names, the leaves of all types, the Rust identifiers of string-enum variants, derives, serde
    path, alias visibility.  Field / variant names, wire names, serde attributes, tags and the wire strings of
    the enum tables are kept. -/
def eraseItem : Item → Item
  | .struct _ _ _ fs => .struct "" [] none (fs.map eraseField)
  | .unitStruct _ _ _ => .unitStruct "" [] none
  | .tagged _ _ _ tag vs => .tagged "" [] none tag (vs.map eraseVariant)
  | .alias _ _ t => .alias "" false (eraseTy t)
  | .gqlEnum _ _ _ _ ser de => .gqlEnum "" [] "" [] (ser.map fun x => ("", x.2)) (de.map fun x => (x.1, ""))
  | .oneOf _ _ _ vs => .oneOf "" [] none (vs.map eraseVariant)
  | .defaults _ => .defaults []

/-! ## `decorate_type` -/

theorem decorateStep_erase {st st' : RTy × Bool} (h : eraseTy st.1 = eraseTy st'.1 ∧ st.2 = st'.2) (q : Qual) :
    ORel (fun a b : RTy × Bool => eraseTy a.1 = eraseTy b.1 ∧ a.2 = b.2) (decorateStep st q) (decorateStep st' q) := by
  obtain ⟨t, nn⟩ := st
  obtain ⟨t', nn'⟩ := st'
  obtain ⟨h1, h2⟩ := h
  simp only at h1 h2
  subst h2
  cases nn <;> cases q <;> simp only [decorateStep] <;>
    first | exact rfl | exact ORel.pure ⟨h1, rfl⟩ | exact ORel.pure ⟨by simp only [eraseTy, h1], rfl⟩

theorem foldlM_decorate_erase : ∀ (qs : List Qual) {st st' : RTy × Bool},
    (eraseTy st.1 = eraseTy st'.1 ∧ st.2 = st'.2) →
    ORel (fun a b : RTy × Bool => eraseTy a.1 = eraseTy b.1 ∧ a.2 = b.2) (qs.foldlM decorateStep st) (qs.foldlM decorateStep st')
  | [], _, _, h => by simp only [List.foldlM_nil]; exact ORel.pure h
  | q :: qs, _, _, h => by
    simp only [List.foldlM_cons]
    exact ORel.bind (decorateStep_erase h q) (fun a b hab => foldlM_decorate_erase qs hab)

theorem decorateType_erase {b b' : RTy} (h : eraseTy b = eraseTy b') (quals : List Qual) :
    ORel (fun t t' => eraseTy t = eraseTy t') (decorateType b quals) (decorateType b' quals) := by
  unfold decorateType
  apply ORel.bind (foldlM_decorate_erase quals.reverse (st := (b, false)) (st' := (b', false)) ⟨h, rfl⟩)
  intro a a' ha
  obtain ⟨t, nn⟩ := a
  obtain ⟨t', nn'⟩ := a'
  obtain ⟨h1, h2⟩ := ha
  simp only at h1 h2
  subst h2
  apply ORel.pure
  cases nn <;> simp [eraseTy, h1]

/-! ## fields and expanded types -/

/-- everything the `calc*` block reads, except `normalization` -/
structure CalcNorm (c c' : Ctx) : Prop where
  s : c'.s = c.s
  q : c'.q = c.q
  cs : c'.cs = c.cs
  otherVariant : c'.o.otherVariant = c.o.otherVariant
  skipNone : c'.o.skipNone = c.o.skipNone
  deprecation : c'.o.deprecation = c.o.deprecation

/-- the two normalizations agree on which enum / scalar names are (turned into) the special name `ID` -/
def IdStable (c c' : Ctx) : Prop :=
  ∀ n ∈ c.s.enums.map (·.name) ++ c.s.scalars,
    (c'.o.normalization.fieldType c'.cs n == "ID") = (c.o.normalization.fieldType c.cs n == "ID")

instance (c c' : Ctx) : Decidable (IdStable c c') := by unfold IdStable; infer_instance

theorem renderField_erase {c c' : Ctx} (h1 : c'.o.skipNone = c.o.skipNone) (h2 : c'.o.deprecation = c.o.deprecation)
    (g : Option String) (r ft ft' : String) (hid : (ft' == "ID") = (ft == "ID")) (quals : List Qual) (fl bx : Bool)
    (dep : Option (Option String)) :
    ORel (fun a b : Option RField => a.map eraseField = b.map eraseField)
      (renderField c g r ft quals fl bx dep) (renderField c' g r ft' quals fl bx dep) := by
  unfold renderField
  rw [h1, h2, hid]
  apply ORel.bind (decorateType_erase (b := .path ft) (b' := .path ft') rfl quals); intro t t' ht
  simp only
  split
  · exact ORel.pure rfl
  · apply ORel.pure
    simp only [Option.map_some, eraseField, Option.some.injEq, RField.mk.injEq, and_true, true_and]
    cases bx <;> simp [eraseTy, ht]

theorem renderType_erase (c c' : Ctx) (n : String) {fs fs' : List RField} (h : fs.map eraseField = fs'.map eraseField)
    (vs : List RVariant) : (renderType c n fs vs).map eraseItem = (renderType c' n fs' vs).map eraseItem := by
  have he : fs'.isEmpty = fs.isEmpty := by
    have := congrArg List.length h
    simp only [List.length_map] at this
    cases fs <;> cases fs' <;> simp_all
  unfold renderType
  rw [he]
  split
  · rfl
  · split
    · simp only [List.map_cons, List.map_nil, eraseItem, h]
    · simp only [List.map_cons, List.map_nil, eraseItem, List.map_append, h]

/-! ## the `calc*` block -/

theorem ORel.bind_same' {α β} {S : β → β → Prop} {x : Outcome α} {f g : α → Outcome β}
    (hfg : ∀ a, x = .ok a → ORel S (f a) (g a)) : ORel S (x >>= f) (x >>= g) :=
  C09.ORel.bind_same' hfg

/-- item lists equal up to names (`eraseItem`) -/
abbrev EI (a b : List Item) : Prop := a.map eraseItem = b.map eraseItem
/-- member lists equal up to the leaf type names (`eraseField`) -/
abbrev EF (a b : List RField) : Prop := a.map eraseField = b.map eraseField

theorem CalcNorm.sim {c c' : Ctx} (H : CalcNorm c c') (hid : IdStable c c') :
    CalcSim .strict SelMap.one EF Eq (SameOrder SelMap.one) EI c c' :=
  .same H.s H.q H.cs H.otherVariant (renderField_congr H.skipNone H.deprecation)
    (fun _ => rfl) (fun h1 h2 => by simp only [EF, List.map_append, h1, h2]) rfl (fun _ _ _ => rfl)
    (fun h1 h2 => by simp only [EI, List.map_append, h1, h2])
    (fun n _ _ vs h => renderType_erase c c' n h vs)
    (fun n hn g r quals fl bx dep => by
      have := hid n hn
      rw [H.cs] at this
      exact (renderField_erase H.skipNone H.deprecation g r _ _ this quals fl bx dep).mono
        fun _ _ => optToList_view eraseField)

theorem calc_erase {c c' : Ctx} (H : CalcNorm c c') (hid : IdStable c c') (fuel : Nat) (name pfx : String)
    (t : TypeId) (sels : List Sel) :
    ORel EI (calcSelection c fuel name pfx t sels) (calcSelection c' fuel name pfx t sels) :=
  calcSelection_same (H.sim hid) fuel name pfx t sels

/-! ## the module level -/

/-- `c` and `c'` have the same schema, query and case functions and agree on `deprecation`, `otherVariant`,
    `skipNone`, `externEnums`; they may differ in **`normalization`** and in `responseDerives`,
    `variablesDerives`, `serdePath`, `visibility`, `queryFile`, `mode`, `operationName`, `structIdent`,
    `scalarsModule` -/
structure NormAgree (c c' : Ctx) : Prop extends CalcNorm c c' where
  externEnums : c'.o.externEnums = c.o.externEnums

/-- the hypothesis is satisfiable with the normalization (and the neutral options) changed -/
example (c : Ctx) (nz : Normalization) (rd vd sm : Option String) (sp : String) :
    NormAgree c { c with o := { c.o with normalization := nz, responseDerives := rd, variablesDerives := vd,
                                         scalarsModule := sm, serdePath := sp } } :=
  { s := rfl, q := rfl, cs := rfl, otherVariant := rfl, skipNone := rfl, deprecation := rfl, externEnums := rfl }

theorem scalarItems_erase {c c' : Ctx} (H : NormAgree c c') (u : UsedTypes) :
    ORel EI (scalarItems c u) (scalarItems c' u) := by
  unfold scalarItems
  simp only [H.s]
  apply ORel.bind_same; intro names
  apply ORel.pure
  simp only [EI, List.map_map]
  apply List.map_congr_left
  intro n _
  rfl

theorem enumItem_erase (c c' : Ctx) (e : StoredEnum) : eraseItem (enumItem c e) = eraseItem (enumItem c' e) := by
  simp only [enumItem, eraseItem, List.map_map, Function.comp_def]

theorem enumItems_erase {c c' : Ctx} (H : NormAgree c c') (u : UsedTypes) :
    ORel EI (enumItems c u) (enumItems c' u) := by
  unfold enumItems
  simp only [H.s, H.externEnums]
  apply ORel.bind_same; intro es
  apply ORel.pure
  simp only [EI, List.map_map]
  apply List.map_congr_left
  intro e _
  exact enumItem_erase c c' e

theorem decorateType_erase_path (a b : String) (quals : List Qual) :
    ORel (fun t t' => eraseTy t = eraseTy t') (decorateType (.path a) quals) (decorateType (.path b) quals) :=
  decorateType_erase (b := .path a) (b' := .path b) rfl quals

theorem inputFieldType_erase {c c' : Ctx} (H : NormAgree c c') (ty : FieldType) (quals : List Qual) :
    ORel (fun t t' => eraseTy t = eraseTy t') (inputFieldType c ty quals) (inputFieldType c' ty quals) := by
  unfold inputFieldType
  simp only [H.s, H.cs]
  apply ORel.bind_same; intro tn
  apply ORel.bind (decorateType_erase_path _ _ quals); intro t t' ht
  apply ORel.pure
  show eraseTy _ = eraseTy _
  repeat' split
  all_goals first | exact ht | simp only [eraseTy, ht]

theorem inputItem_erase {c c' : Ctx} (H : NormAgree c c') (i : StoredInput) :
    ORel (fun a b => eraseItem a = eraseItem b) (inputItem c i) (inputItem c' i) := by
  unfold inputItem
  simp only [H.cs, H.skipNone]
  split
  · refine ORel.bind (ORel.mapM eraseVariant (fun x => ?_) i.fields) (fun a b hab => ORel.pure (by simp only [eraseItem, hab]))
    apply ORel.bind (inputFieldType_erase H _ _); intro t t' ht
    exact ORel.pure (by simp only [eraseVariant, Option.map_some, ht])
  · refine ORel.bind (ORel.mapM eraseField (fun x => ?_) i.fields) (fun a b hab => ORel.pure (by simp only [eraseItem, hab]))
    apply ORel.bind (inputFieldType_erase H _ _); intro t t' ht
    exact ORel.pure (by simp only [eraseField, ht])

theorem variableType_erase {c c' : Ctx} (H : NormAgree c c') (v : RVariable) :
    ORel (fun t t' => eraseTy t = eraseTy t') (variableType c v) (variableType c' v) := by
  unfold variableType
  simp only [H.s, H.cs]
  apply ORel.bind_same; intro tn
  exact decorateType_erase_path _ _ _

theorem ORel.true_right {α} {x y : Outcome α} (h : ORel (fun _ _ => True) x y) (f : α → α) :
    ORel (fun _ _ => True) x (y >>= fun r => pure (f r)) := by
  cases x <;> cases y <;> simp_all [ORel, bind, Except.bind, pure, Except.pure]

theorem ORel.true_left {α} {x y : Outcome α} (h : ORel (fun _ _ => True) x y) (f : α → α) :
    ORel (fun _ _ => True) (x >>= fun r => pure (f r)) y := by
  cases x <;> cases y <;> simp_all [ORel, bind, Except.bind, pure, Except.pure]

theorem ORel.filterMapM_true {α β} {g g' : α → Outcome (Option β)} (h : ∀ x, ORel (fun _ _ => True) (g x) (g' x)) :
    ∀ xs : List α, ORel (fun _ _ => True) (xs.filterMapM g) (xs.filterMapM g')
  | [] => by simp only [List.filterMapM_nil]; exact ORel.pure trivial
  | x :: xs => by
    simp only [List.filterMapM_cons]
    apply ORel.bind (h x); intro a b _
    have ih := ORel.filterMapM_true h xs
    cases a <;> cases b <;> simp only
    · exact ih
    · exact ORel.true_right ih _
    · exact ORel.true_left ih _
    · exact ORel.true_left (ORel.true_right ih _) _

theorem variablesItems_erase {c c' : Ctx} (H : NormAgree c c') (op : Nat) :
    ORel EI (variablesItems c op) (variablesItems c' op) := by
  unfold variablesItems
  simp only [H.s, H.q, H.cs, H.skipNone]
  split
  · exact ORel.pure rfl
  · refine ORel.bind (ORel.mapM eraseField (fun v => ?_) _) (fun fs fs' hfs => ?_)
    · apply ORel.bind (variableType_erase H v); intro t t' ht
      exact ORel.pure (by simp only [eraseField, ht])
    · refine ORel.bind (R := fun _ _ => True) (ORel.filterMapM_true (fun v => ?_) _) (fun d d' _ => ?_)
      · cases v.default with
        | none => exact ORel.pure trivial
        | some dv =>
          simp only
          apply ORel.bind (variableType_erase H v); intro t t' _
          apply ORel.bind_same; intro _
          exact ORel.pure trivial
      · exact ORel.pure (by simp only [EI, List.map_cons, List.map_nil, eraseItem, hfs])

/-! ## string enums come only from `enumItem` -/

def isEnum : Item → Bool
  | .gqlEnum .. => true
  | _ => false

def NoEnum (l : List Item) : Prop := ∀ it ∈ l, isEnum it = false

theorem NoEnum.nil : NoEnum [] := fun _ h => by cases h

theorem NoEnum.append {a b : List Item} (ha : NoEnum a) (hb : NoEnum b) : NoEnum (a ++ b) := by
  intro it h
  rcases List.mem_append.mp h with h | h
  · exact ha it h
  · exact hb it h

theorem NoEnum.cons {a : Item} {b : List Item} (ha : isEnum a = false) (hb : NoEnum b) : NoEnum (a :: b) := by
  intro it h
  rcases List.mem_cons.mp h with rfl | h
  · exact ha
  · exact hb it h

/-- a property of the result, if there is one -/
def OAll {α} (P : α → Prop) : Outcome α → Prop
  | .ok a => P a
  | .error _ => True

theorem OAll.pure {α} {P : α → Prop} {a : α} (h : P a) : OAll P (Pure.pure a : Outcome α) := h

theorem OAll.bind {α β} {P : α → Prop} {Q : β → Prop} {x : Outcome α} {f : α → Outcome β}
    (hx : OAll P x) (hf : ∀ a, P a → OAll Q (f a)) : OAll Q (x >>= f) := by
  cases x
  · exact trivial
  · exact hf _ hx

theorem OAll.bind_any {α β} {Q : β → Prop} {x : Outcome α} {f : α → Outcome β}
    (hf : ∀ a, OAll Q (f a)) : OAll Q (x >>= f) := by
  cases x
  · exact trivial
  · exact hf _

theorem OAll.error {α} {P : α → Prop} (e : Err) : OAll P (.error e : Outcome α) := trivial

theorem OAll.of_ok {α} {P : α → Prop} {x : Outcome α} {a : α} (h : OAll P x) (hx : x = .ok a) : P a := by
  subst hx; exact h

theorem OAll.mapM {α β} {P : β → Prop} {g : α → Outcome β} (h : ∀ x, OAll P (g x)) :
    ∀ xs : List α, OAll (fun ys => ∀ y ∈ ys, P y) (xs.mapM g)
  | [] => by simp only [List.mapM_nil]; exact OAll.pure (fun _ h => by cases h)
  | x :: xs => by
    simp only [List.mapM_cons]
    apply OAll.bind (h x); intro a ha
    apply OAll.bind (OAll.mapM h xs); intro as has
    apply OAll.pure
    intro y hy
    rcases List.mem_cons.mp hy with rfl | hy
    · exact ha
    · exact has y hy

theorem renderType_noEnum (c : Ctx) (n : String) (fs : List RField) (vs : List RVariant) : NoEnum (renderType c n fs vs) := by
  unfold renderType
  split
  · exact NoEnum.cons rfl NoEnum.nil
  · split
    · exact NoEnum.cons rfl NoEnum.nil
    · exact NoEnum.cons rfl (NoEnum.cons rfl NoEnum.nil)

theorem OAll.of_loose {α : Type} {P : α → Prop} {x : Outcome α} (h : GRel .loose (fun a _ => P a) x x) : OAll P x := by
  cases x
  · trivial
  · exact h

/-- the diagonal case of `calc_sim`: one context, and `RI a _` says that `a` holds no enum item -/
theorem noEnum_sim (c : Ctx) :
    CalcSim .loose SelMap.one (fun _ _ => True) Eq (SameOrder SelMap.one) (fun a _ => NoEnum a) c c :=
  .same rfl rfl rfl rfl rfl (fun _ => trivial) (fun _ _ => trivial) NoEnum.nil
    (fun _ _ _ => NoEnum.cons rfl NoEnum.nil) (fun ha hb => ha.append hb)
    (fun n fs _ vs _ => renderType_noEnum c n fs vs)
    (fun _ _ _ _ _ _ _ _ => ORel.refl (R := fun _ _ : Option RField => True) (fun _ => trivial) _)

theorem calc_noEnum (c : Ctx) (fuel : Nat) (name pfx : String) (t : TypeId) (sels : List Sel) :
    OAll NoEnum (calcSelection c fuel name pfx t sels) := by
  have := (calc_sim (noEnum_sim c) fuel fuel trivial).1 name pfx t sels
  rw [SelMap.one_ty] at this
  exact OAll.of_loose this

theorem scalarItems_noEnum (c : Ctx) (u : UsedTypes) : OAll NoEnum (scalarItems c u) := by
  unfold scalarItems
  simp only []
  apply OAll.bind_any; intro names
  apply OAll.pure
  intro it h
  obtain ⟨n, _, rfl⟩ := List.mem_map.mp h
  rfl

theorem inputItems_noEnum (c : Ctx) (u : UsedTypes) : OAll NoEnum (inputItems c u) := by
  unfold inputItems
  refine OAll.mapM (P := fun it => isEnum it = false) (fun x => ?_) _
  unfold inputItem
  simp only []
  split
  · apply OAll.bind_any; intro vs; exact OAll.pure rfl
  · apply OAll.bind_any; intro fs; exact OAll.pure rfl

theorem variablesItems_noEnum (c : Ctx) (op : Nat) : OAll NoEnum (variablesItems c op) := by
  unfold variablesItems
  simp only []
  split
  · exact OAll.pure (NoEnum.cons rfl NoEnum.nil)
  · apply OAll.bind_any; intro fs
    apply OAll.bind_any; intro dfl
    exact OAll.pure (NoEnum.cons rfl (NoEnum.cons rfl NoEnum.nil))

theorem fragmentItems_noEnum (c : Ctx) (fid : Nat) : OAll NoEnum (fragmentItems c fid) := by
  unfold fragmentItems
  apply OAll.bind_any; intro fr
  exact calc_noEnum c _ _ _ _ _

theorem responseItems_noEnum (c : Ctx) (o : ROperation) : OAll NoEnum (responseItems c o) := by
  unfold responseItems
  exact calc_noEnum c _ _ _ _ _

theorem noEnum_flatten {ls : List (List Item)} (h : ∀ l ∈ ls, NoEnum l) : NoEnum ls.flatten := by
  intro it hit
  obtain ⟨l, hl, hi⟩ := List.mem_flatten.mp hit
  exact h l hl it hi

theorem getEnum_mem (s : Schema) (i : Nat) : OAll (· ∈ s.enums) (s.getEnum i) := by
  cases h : s.getEnum i with
  | error e => trivial
  | ok en => exact List.mem_of_getElem? (C02.getEnum_ok h)

/-- the enum items of the two modules are `enumItem c e` / `enumItem c' e` for the same enums `e` -/
theorem enumItems_from {c c' : Ctx} (hs : c'.s = c.s) (hx : c'.o.externEnums = c.o.externEnums) (u : UsedTypes)
    (en : List Item) (h : enumItems c u = .ok en) :
    ∃ es : List StoredEnum, (∀ e ∈ es, e ∈ c.s.enums) ∧ en = es.map (enumItem c) ∧
      enumItems c' u = .ok (es.map (enumItem c')) := by
  unfold enumItems at h ⊢
  simp only [hs, hx]
  obtain ⟨es, hes, h⟩ := C02.bind_ok h
  cases h
  have hmem := (OAll.mapM (getEnum_mem c.s) _).of_ok hes
  refine ⟨es.filter (fun e => !c.o.externEnums.contains e.name), fun e he => hmem e (List.mem_filter.mp he).1, rfl, ?_⟩
  rw [hes]; rfl

/-- at every position the two items are the enum items of the same enum, or the first one is not an enum -/
def EnumsFrom (c c' : Ctx) (a b : List Item) : Prop :=
  ∀ x ∈ a.zip b, (∃ e ∈ c.s.enums, x = (enumItem c e, enumItem c' e)) ∨ isEnum x.1 = false

theorem enumsFrom_append {c c' : Ctx} {a a' b b' : List Item} (hl : a.length = a'.length)
    (ha : EnumsFrom c c' a a') (hb : EnumsFrom c c' b b') : EnumsFrom c c' (a ++ b) (a' ++ b') := by
  intro x hx
  rw [List.zip_append hl] at hx
  rcases List.mem_append.mp hx with h | h
  · exact ha x h
  · exact hb x h

theorem enumsFrom_of_noEnum {c c' : Ctx} {a b : List Item} (ha : NoEnum a) : EnumsFrom c c' a b := by
  intro x hx
  obtain ⟨x1, x2⟩ := x
  exact Or.inr (ha x1 (List.of_mem_zip hx).1)

theorem enumsFrom_map {c c' : Ctx} {es : List StoredEnum} (h : ∀ e ∈ es, e ∈ c.s.enums) :
    EnumsFrom c c' (es.map (enumItem c)) (es.map (enumItem c')) := by
  intro x hx
  rw [List.zip_map'] at hx
  obtain ⟨e, he, rfl⟩ := List.mem_map.mp hx
  exact Or.inl ⟨e, h e he, rfl⟩

theorem ei_length {a b : List Item} (h : EI a b) : a.length = b.length := by
  simpa using congrArg List.length h

/-! ## where `Variables` and `ResponseData` sit -/

/-- the first item is named `n` -/
def HeadNamed (n : String) (l : List Item) : Prop := ∃ it rest, l = it :: rest ∧ it.name = n

theorem HeadNamed.append {n : String} {l : List Item} (h : HeadNamed n l) (l' : List Item) : HeadNamed n (l ++ l') := by
  obtain ⟨it, rest, rfl, hn⟩ := h
  exact ⟨it, rest ++ l', rfl, hn⟩

theorem renderType_head (c : Ctx) (n : String) (fs : List RField) (vs : List RVariant) : HeadNamed n (renderType c n fs vs) := by
  unfold renderType
  split
  · exact ⟨_, _, rfl, rfl⟩
  · split <;> exact ⟨_, _, rfl, rfl⟩

theorem calcSelection_head (c : Ctx) (fuel : Nat) (name pfx : String) (t : TypeId) (sels : List Sel) (items : List Item)
    (h : calcSelection c fuel name pfx t sels = .ok items) : HeadNamed name items := by
  cases fuel with
  | zero => unfold calcSelection at h; cases h
  | succ n =>
    unfold calcSelection at h
    simp only at h
    split at h
    · obtain ⟨f, _, h⟩ := C02.bind_ok h
      cases h
      exact ⟨_, _, rfl, rfl⟩
    · obtain ⟨variants, _, h⟩ := C02.bind_ok h
      cases variants with
      | none =>
        simp only [pure_bind] at h
        obtain ⟨rf, _, h⟩ := C02.bind_ok h
        cases h
        exact ((renderType_head c name _ _).append _).append _
      | some vts =>
        simp only at h
        obtain ⟨vsels, _, h⟩ := C02.bind_ok h
        obtain ⟨r, _, h⟩ := C02.bind_ok h
        simp only [pure_bind] at h
        obtain ⟨rf, _, h⟩ := C02.bind_ok h
        cases h
        exact ((renderType_head c name _ _).append _).append _

theorem variablesItems_head (c : Ctx) (op : Nat) (items : List Item) (h : variablesItems c op = .ok items) :
    HeadNamed "Variables" items := by
  rcases C02.variablesItems_cases h with ⟨_, rfl⟩ | ⟨_, fs, dfl, _, _, rfl⟩ <;> exact ⟨_, _, rfl, rfl⟩

theorem ORel.bind' {α β} {R : α → α → Prop} {S : β → β → Prop} {x y : Outcome α} {f g : α → Outcome β}
    (hxy : ORel R x y) (hfg : ∀ a b, x = .ok a → y = .ok b → R a b → ORel S (f a) (g b)) : ORel S (x >>= f) (y >>= g) := by
  cases x <;> cases y <;> simp only [ORel] at hxy
  · subst hxy; exact rfl
  · exact hfg _ _ rfl rfl hxy

/-- the two modules are equal up to names chunk by chunk; the chunk of the variables starts with `Variables`,
    the last chunk with `ResponseData`; string enums at the same position come from the same schema enum -/
def ModRel (c c' : Ctx) (a b : List Item) : Prop :=
  ∃ pre pre' vars vars' mid mid' resp resp',
    a = pre ++ vars ++ mid ++ resp ∧ b = pre' ++ vars' ++ mid' ++ resp' ∧
    EI pre pre' ∧ EI vars vars' ∧ EI mid mid' ∧ EI resp resp' ∧
    HeadNamed "Variables" vars ∧ HeadNamed "Variables" vars' ∧
    HeadNamed "ResponseData" resp ∧ HeadNamed "ResponseData" resp' ∧ EnumsFrom c c' a b

theorem ModRel.ei {c c' : Ctx} {a b : List Item} (h : ModRel c c' a b) : EI a b := by
  obtain ⟨pre, pre', vars, vars', mid, mid', resp, resp', rfl, rfl, h1, h2, h3, h4, _⟩ := h
  simp only [EI, List.map_append] at *
  rw [h1, h2, h3, h4]

theorem normalization_modRel {c c' : Ctx} (H : NormAgree c c') (hid : IdStable c c') (op : Nat) :
    ORel (ModRel c c') (responseForQuery c op) (responseForQuery c' op) := by
  have hfrag : ∀ fid, ORel (fun a b : List Item => a.map eraseItem = b.map eraseItem) (fragmentItems c fid) (fragmentItems c' fid) := by
    intro fid
    unfold fragmentItems
    simp only [H.s, H.q, H.cs]
    apply ORel.bind_same; intro fr
    exact calc_erase H.toCalcNorm hid _ _ _ _ _
  have hinput : ∀ u, ORel EI (inputItems c u) (inputItems c' u) := by
    intro u
    unfold inputItems
    simp only [H.s]
    exact ORel.mapM eraseItem (fun (x : StoredInput × Nat) => inputItem_erase H x.1) _
  have hresp : ∀ o, ORel EI (responseItems c o) (responseItems c' o) := by
    intro o
    unfold responseItems
    simp only [H.s, H.q, H.cs]
    exact calc_erase H.toCalcNorm hid _ _ _ _ _
  unfold responseForQuery
  simp only [H.s, H.q]
  apply ORel.bind_same; intro u
  apply ORel.bind' (scalarItems_erase H u); intro sc sc' hsc0 _ hsc
  apply ORel.bind' (enumItems_erase H u); intro en en' hen0 hen0' hen
  apply ORel.bind' (ORel.mapM (List.map eraseItem) hfrag _); intro fr fr' hfr0 _ hfr
  apply ORel.bind' (hinput u); intro inp inp' hinp0 _ hinp
  apply ORel.bind' (variablesItems_erase H op); intro vs vs' hv hv' hvs
  apply ORel.bind_same; intro o
  apply ORel.bind' (hresp o); intro r r' hr hr' hrr
  apply ORel.pure
  have hpre : EI (builtinAliases ++ sc ++ en ++ inp) (builtinAliases ++ sc' ++ en' ++ inp') := by
    simp only [EI, List.map_append, hsc, hen, hinp]
  have hmid : EI fr.flatten fr'.flatten := by simp only [EI, List.map_flatten, hfr]
  refine ⟨builtinAliases ++ sc ++ en ++ inp, builtinAliases ++ sc' ++ en' ++ inp', vs, vs', fr.flatten, fr'.flatten, r, r',
    rfl, rfl, hpre, hvs, hmid, hrr, variablesItems_head c op vs hv, variablesItems_head c' op vs' hv', ?_, ?_, ?_⟩
  · unfold responseItems at hr; exact calcSelection_head _ _ _ _ _ _ _ hr
  · unfold responseItems at hr'; exact calcSelection_head _ _ _ _ _ _ _ hr'
  · obtain ⟨es, hes, rfl, hen'⟩ := enumItems_from H.s H.externEnums u en hen0
    rw [hen'] at hen0'
    cases hen0'
    have nsc : NoEnum sc := (scalarItems_noEnum c u).of_ok hsc0
    have ninp : NoEnum inp := (inputItems_noEnum c u).of_ok hinp0
    have nvs : NoEnum vs := (variablesItems_noEnum c op).of_ok hv
    have nfr : NoEnum fr.flatten :=
      noEnum_flatten ((OAll.mapM (fragmentItems_noEnum c) _).of_ok hfr0)
    have nr : NoEnum r := (responseItems_noEnum c o).of_ok hr
    have nb : NoEnum builtinAliases := by intro it h; simp only [builtinAliases, List.mem_cons, List.not_mem_nil, or_false] at h; rcases h with rfl | rfl | rfl | rfl <;> rfl
    have e1 : EnumsFrom c c' (builtinAliases ++ sc) (builtinAliases ++ sc') :=
      enumsFrom_of_noEnum (nb.append nsc)
    have l1 : (builtinAliases ++ sc).length = (builtinAliases ++ sc').length := by
      simp only [List.length_append, ei_length hsc]
    have e2 := enumsFrom_append l1 e1 (enumsFrom_map (c' := c') hes)
    have l2 : (builtinAliases ++ sc ++ es.map (enumItem c)).length = (builtinAliases ++ sc' ++ es.map (enumItem c')).length := by
      simp only [List.length_append, ei_length hsc, List.length_map]
    have e3 := enumsFrom_append l2 e2 (enumsFrom_of_noEnum (c := c) (c' := c') (b := inp') ninp)
    have e4 := enumsFrom_append (ei_length hpre) e3 (enumsFrom_of_noEnum (c := c) (c' := c') (b := vs') nvs)
    have l4 : (builtinAliases ++ sc ++ es.map (enumItem c) ++ inp ++ vs).length =
        (builtinAliases ++ sc' ++ es.map (enumItem c') ++ inp' ++ vs').length := by
      rw [List.length_append, List.length_append (bs := vs'), ei_length hpre, ei_length hvs]
    have e5 := enumsFrom_append l4 e4 (enumsFrom_of_noEnum (c := c) (c' := c') (b := fr'.flatten) nfr)
    have l5 : (builtinAliases ++ sc ++ es.map (enumItem c) ++ inp ++ vs ++ fr.flatten).length =
        (builtinAliases ++ sc' ++ es.map (enumItem c') ++ inp' ++ vs' ++ fr'.flatten).length := by
      rw [List.length_append, List.length_append (bs := fr'.flatten), l4, ei_length hmid]
    exact enumsFrom_append l5 e5 (enumsFrom_of_noEnum (c := c) (c' := c') (b := r') nr)

/-- **`normalization` only renames**: the two contexts generate the same items up to names (or fail with the
    same error) -/
theorem normalization_only_renames {c c' : Ctx} (H : NormAgree c c') (hid : IdStable c c') (op : Nat) :
    ORel EI (responseForQuery c op) (responseForQuery c' op) :=
  ORel.mono (fun _ _ h => h.ei) (normalization_modRel H hid op)

/-- spelled out: generation succeeds under `c` iff it does under `c'`, with items that are equal up to names -/
theorem normalization_only_renames_ok {c c' : Ctx} (H : NormAgree c c') (hid : IdStable c c') (op : Nat)
    (items : List Item) (h : responseForQuery c op = .ok items) :
    ∃ items', responseForQuery c' op = .ok items' ∧ items.map eraseItem = items'.map eraseItem := by
  have := normalization_only_renames H hid op
  rw [h] at this
  cases h' : responseForQuery c' op with
  | error err => rw [h'] at this; exact this.elim
  | ok items' => rw [h'] at this; exact ⟨items', rfl, this⟩

theorem normalization_same_error {c c' : Ctx} (H : NormAgree c c') (hid : IdStable c c') (op : Nat) (err : Err) :
    responseForQuery c op = .error err ↔ responseForQuery c' op = .error err := by
  have := normalization_only_renames H hid op
  cases h1 : responseForQuery c op <;> cases h2 : responseForQuery c' op <;> simp [h1, h2, ORel] at this ⊢
  rw [this]

end C09N
end GqlVerif
