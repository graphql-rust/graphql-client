import GqlVerif.Proofs.C14GeneratedAcyclic
/-!
# C14: a non-vacuous instance, and the side condition is needed

A module generated under `deny` where the payload WITH the denied keys is read **successfully** at the very structs the
fields were denied from — at the root, one level down, two levels down and inside list elements — and equals the read
without them.

```graphql
type Query  { animal: Animal   when: String @deprecated }
type Animal { name: String   when: Date @deprecated(reason: "use since")   owner: Person   friends: [Animal!] }
type Person { id: ID!   since: String @deprecated }
query Q { animal { __typename name when owner { id since } friends { name when } } when }
```

* `w_class`, `w_gen`, `w_names`, `w_envOK` — every hypothesis of `denied_field_payload_same` holds on the module
  `responseForQuery` emits (10 items; `ResponseData { animal }`, `Qanimal { name, owner, friends }`,
  `Qanimalowner { id }`, `Qanimalfriends { name }`: no member `when` / `since` anywhere);
* **`w_instance`** — the payload `wWith` (denied keys `when` at the root, in `animal`, in every element of `friends`,
  `since` in `owner`; one of them twice, one with a value of the wrong type) is read successfully, `eraseDenied` removes
  exactly those entries (`wWithout`, by evaluation), and the two reads are equal (by the theorem);
  `w_keyFree_*` — `denied_field_keyFree` at the root, at `animal`, at `animal.owner`, at `animal.friends`;
  `w_warn_member` — under `warn` the same selection has the members (so the keys are *not* ignored there);
* **`sibling_key_matters`** — the side condition of `denied_field_keyFree` is needed: in
  `query Q { animal { when: name  when } }` the key `when` of the denied field is also the key of a kept sibling
  (an alias): the operation is in the class, the module is generated, `when` is **not** `KeyFree` at `Qanimal`, the
  payloads with and without it are read differently — and `eraseDenied` rightly leaves the entry alone.
-/
namespace GqlVerif
namespace C14G
namespace Witness
open Composed SerdeFuel Codegen C01.E2E

theorem except_ok_of_isSome {ε α : Type} {r : Except ε α} {d : α} (h : r.toOption.isSome = true) :
    r = .ok (r.toOption.getD d) := by
  cases r with
  | error e => simp [Except.toOption] at h
  | ok a => simp [Except.toOption]

mutual
  /-- a printable digest of a value (for evaluation only) -/
  def showVal : Val → String
    | .unit => "()"
    | .some v => "Some(" ++ showVal v ++ ")"
    | .str s => "\"" ++ s ++ "\""
    | .int n => toString n
    | .float _ => "<float>"
    | .bool b => toString b
    | .list vs => "[" ++ showVals vs ++ "]"
    | .record fs => "{" ++ showFields fs ++ "}"
    | .variant n none => n
    | .variant n (some v) => n ++ "(" ++ showVal v ++ ")"
    | .enumOther s => "Other(" ++ s ++ ")"
  def showVals : List Val → String
    | [] => ""
    | v :: vs => showVal v ++ "," ++ showVals vs
  def showFields : List (String × Val) → String
    | [] => ""
    | (n, v) :: fs => n ++ ":" ++ showVal v ++ "," ++ showFields fs
end

def wSchema : Schema :=
  { objects := [{ name := "Query", fields := [0, 6], implements := [] },
                { name := "Animal", fields := [1, 2, 3, 5], implements := [] },
                { name := "Person", fields := [4, 7], implements := [] }],
    fields := [{ name := "animal", ty := { id := .object 1, quals := [] }, parent := .object 0, deprecation := none },
               { name := "name", ty := { id := .scalar 1, quals := [] }, parent := .object 1, deprecation := none },
               { name := "when", ty := { id := .scalar 5, quals := [] }, parent := .object 1, deprecation := some (some "use since") },
               { name := "owner", ty := { id := .object 2, quals := [] }, parent := .object 1, deprecation := none },
               { name := "id", ty := { id := .scalar 0, quals := [.required] }, parent := .object 2, deprecation := none },
               { name := "friends", ty := { id := .object 1, quals := [.list, .required] }, parent := .object 1, deprecation := none },
               { name := "when", ty := { id := .scalar 1, quals := [] }, parent := .object 0, deprecation := some none },
               { name := "since", ty := { id := .scalar 1, quals := [] }, parent := .object 2, deprecation := some none }],
    scalars := Schema.defaultScalars ++ ["Date"] }

def wOp : ROperation :=
  { name := "Q", kind := .query, objectId := 0,
    sels := [.field none 0 [.typename, .field none 1 [], .field none 2 [],
                            .field none 3 [.field none 4 [], .field none 7 []],
                            .field none 5 [.field none 1 [], .field none 2 []]],
             .field none 6 []] }

def wQuery : Query := { operations := [wOp] }

def wCtx : Ctx := { s := wSchema, q := wQuery, o := { deprecation := .deny }, cs := ⟨id, id⟩ }

/-- the module the generator emits under `deny` -/
def wItems : List Item := (responseForQuery wCtx 0).toOption.getD []

def wEnv : Env := moduleEnv wCtx wItems

theorem w_class : TreeOpD wCtx wOp = true := by decide +kernel

/-- not in the class `TreeOp` of the C01 end-to-end theorem (which excludes denied fields) -/
example : TreeOp wCtx wOp = false := by decide +kernel

theorem w_gen : responseForQuery wCtx 0 = .ok wItems := except_ok_of_isSome (by decide +kernel)

theorem w_names : EnumSpec.nodup (wItems.map (·.name)) = true := by decide +kernel

/-- the decidable side condition of the end-to-end theorems -/
theorem w_moduleOk : moduleOk wCtx wItems = true := by decide +kernel

/-- `EnvOK`: by the theorem for the class (`tree_module_envOK`) — and by evaluation of the executable check -/
theorem w_envOK : EnvOK wEnv := (tree_module_envOK wCtx 0 wOp wItems rfl w_class w_gen w_moduleOk).1

example : rankCheck wEnv = true ∧ acyclicCheck wEnv = true := by decide +kernel

/-- the emitted structs: no member for `when` / `since`; the members that are there -/
example : wItems.length = 10 ∧
    wItems.filterMap (fun | .struct n _ _ fs => some (n, fs.map (·.wire)) | _ => none) =
      [("ResponseData", ["animal"]), ("Qanimal", ["name", "owner", "friends"]), ("Qanimalowner", ["id"]),
       ("Qanimalfriends", ["name"])] := by decide +kernel

/-- under `warn` the same selection has the members `when` / `since` (the keys are read there) -/
theorem w_warn_member :
    ((responseForQuery { wCtx with o := { deprecation := .warn } } 0).toOption.getD []).filterMap
        (fun | .struct n _ _ fs => some (n, fs.map (·.wire)) | _ => none) =
      [("ResponseData", ["animal", "when"]), ("Qanimal", ["name", "when", "owner", "friends"]),
       ("Qanimalowner", ["id", "since"]), ("Qanimalfriends", ["name", "when"])] := by decide +kernel

/-- a payload that still carries every denied field: `when` at the root (twice), in `animal` (of the wrong type), in
    each element of `friends`; `since` in `owner` -/
def wWith : Json :=
  .obj [("when", .str "root"),
        ("animal", .obj [("__typename", .str "Animal"), ("when", .arr [.int 1]), ("name", .str "Rex"),
                         ("owner", .obj [("since", .str "2019"), ("id", .int 7)]),
                         ("friends", .arr [.obj [("name", .str "Tom"), ("when", .str "2020")],
                                           .obj [("when", .null), ("name", .null)]])]),
        ("when", .null)]

/-- the same payload without them -/
def wWithout : Json :=
  .obj [("animal", .obj [("__typename", .str "Animal"), ("name", .str "Rex"),
                         ("owner", .obj [("id", .int 7)]),
                         ("friends", .arr [.obj [("name", .str "Tom")], .obj [("name", .null)]])])]

/-- the eraser removes exactly the denied entries, at every depth (evaluation) -/
theorem w_erase : eraseDenied wCtx wOp wWith = wWithout := by
  simp [eraseDenied, eraseObj, eraseInSel, eraseEntry, thruQuals, eraseKeys, dropKeys, deniedKeys, keptKeys, deniedKey,
    keptKey, isDenied, wCtx, wOp, wSchema, wWith, wWithout, Schema.defaultScalars]

/-- **the instance**: with the denied keys present the payload is read SUCCESSFULLY at `ResponseData` (the struct the
    root `when` was denied from; its nested structs are the ones `when` / `since` were denied from), and the result is
    the one of the payload without them -/
theorem w_instance :
    (Serde.de wEnv (.path "ResponseData") wWith).toOption.isSome = true ∧
    Serde.de wEnv (.path "ResponseData") wWith = Serde.de wEnv (.path "ResponseData") wWithout := by
  refine ⟨by decide +kernel, ?_⟩
  rw [← w_erase]
  exact denied_field_payload_same' wCtx 0 wOp wItems rfl w_class w_gen w_moduleOk wWith

/-- what is read (both payloads), in a printable form (`Val` has no `DecidableEq`) -/
example : (Serde.de wEnv (.path "ResponseData") wWith).toOption.map showVal =
      some "{animal:Some({name:Some(\"Rex\"),owner:Some({id:\"7\",}),friends:Some([{name:Some(\"Tom\"),},{name:(),},]),}),}" ∧
    (Serde.de wEnv (.path "ResponseData") wWithout).toOption.map showVal =
      some "{animal:Some({name:Some(\"Rex\"),owner:Some({id:\"7\",}),friends:Some([{name:Some(\"Tom\"),},{name:(),},]),}),}" := by
  decide +kernel

/-! ### `denied_field_keyFree` at the four structs -/

theorem w_keyFree_root : KeyFree wEnv "when" "ResponseData" :=
  (denied_field_keyFree wCtx 0 wOp wItems rfl w_class w_gen w_names (.here _ _ _)
    (a := none) (fid := 6) (sub := []) (sf := wSchema.fields[6]) (by simp [wOp]) rfl rfl rfl (by decide +kernel)).2

theorem w_node_animal : Node wCtx "ResponseData" "Q" wOp.sels "Qanimal" "Qanimal"
    [.typename, .field none 1 [], .field none 2 [], .field none 3 [.field none 4 [], .field none 7 []],
     .field none 5 [.field none 1 [], .field none 2 []]] :=
  .step (a := none) (fid := 0) (sf := wSchema.fields[0]) (i := 1) (by simp [wOp]) rfl rfl (.here _ _ _)

theorem w_keyFree_animal : KeyFree wEnv "when" "Qanimal" :=
  (denied_field_keyFree wCtx 0 wOp wItems rfl w_class w_gen w_names w_node_animal
    (a := none) (fid := 2) (sub := []) (sf := wSchema.fields[2]) (by simp) rfl rfl rfl (by decide +kernel)).2

theorem w_node_owner : Node wCtx "ResponseData" "Q" wOp.sels "Qanimalowner" "Qanimalowner"
    [.field none 4 [], .field none 7 []] :=
  .step (a := none) (fid := 0) (sf := wSchema.fields[0]) (i := 1)
    (sub := [.typename, .field none 1 [], .field none 2 [], .field none 3 [.field none 4 [], .field none 7 []],
      .field none 5 [.field none 1 [], .field none 2 []]]) (by simp [wOp]) rfl rfl
    (.step (a := none) (fid := 3) (sub := [.field none 4 [], .field none 7 []]) (sf := wSchema.fields[3]) (i := 2)
      (by simp) rfl rfl (.here _ _ _))

theorem w_keyFree_owner : KeyFree wEnv "since" "Qanimalowner" :=
  (denied_field_keyFree wCtx 0 wOp wItems rfl w_class w_gen w_names w_node_owner
    (a := none) (fid := 7) (sub := []) (sf := wSchema.fields[7]) (by simp) rfl rfl rfl (by decide +kernel)).2

theorem w_node_friends : Node wCtx "ResponseData" "Q" wOp.sels "Qanimalfriends" "Qanimalfriends"
    [.field none 1 [], .field none 2 []] :=
  .step (a := none) (fid := 0) (sf := wSchema.fields[0]) (i := 1)
    (sub := [.typename, .field none 1 [], .field none 2 [], .field none 3 [.field none 4 [], .field none 7 []],
      .field none 5 [.field none 1 [], .field none 2 []]]) (by simp [wOp]) rfl rfl
    (.step (a := none) (fid := 5) (sub := [.field none 1 [], .field none 2 []]) (sf := wSchema.fields[5]) (i := 1)
      (by simp) rfl rfl (.here _ _ _))

theorem w_keyFree_friends : KeyFree wEnv "when" "Qanimalfriends" :=
  (denied_field_keyFree wCtx 0 wOp wItems rfl w_class w_gen w_names w_node_friends
    (a := none) (fid := 2) (sub := []) (sf := wSchema.fields[2]) (by simp) rfl rfl rfl (by decide +kernel)).2

/-- the decidable checker agrees (and the global sufficient condition fails for `name` / `id`, which `ResponseData`
    does not read) -/
example : keyFreeCheck wEnv "when" "ResponseData" = true ∧ keyFreeCheck wEnv "when" "Qanimal" = true ∧
    keyFreeCheck wEnv "since" "Qanimalowner" = true ∧ keyFreeCheck wEnv "name" "ResponseData" = true ∧
    keyFreeCheck wEnv "name" "Qanimal" = false ∧ wItems.all (itemOK "name") = false := by decide +kernel

/-! ### the side condition "not the key of a kept sibling" is needed -/

/-- `query Q { animal { when: name  when } }` -/
def sOp : ROperation :=
  { name := "Q", kind := .query, objectId := 0,
    sels := [.field none 0 [.field (some "when") 1 [], .field none 2 []]] }

def sCtx : Ctx := { s := wSchema, q := { operations := [sOp] }, o := { deprecation := .deny }, cs := ⟨id, id⟩ }

def sItems : List Item := (responseForQuery sCtx 0).toOption.getD []

def sEnv : Env := moduleEnv sCtx sItems

theorem sibling_key_matters :
    TreeOpD sCtx sOp = true ∧ responseForQuery sCtx 0 = .ok sItems ∧ EnumSpec.nodup (sItems.map (·.name)) = true ∧
    -- the denied key is the key of a kept sibling
    "when" ∈ deniedKeys sCtx [.field (some "when") 1 [], .field none 2 []] ∧
    "when" ∈ keptKeys sCtx [.field (some "when") 1 [], .field none 2 []] ∧
    -- it is read
    ¬ KeyFree sEnv "when" "Qanimal" ∧
    (Serde.de sEnv (.path "ResponseData") (.obj [("animal", .obj [("when", .str "Rex")])])).toOption.map showVal =
      some "{animal:Some({when:Some(\"Rex\"),}),}" ∧
    (Serde.de sEnv (.path "ResponseData") (.obj [("animal", .obj [])])).toOption.map showVal =
      some "{animal:Some({when:(),}),}" ∧
    Serde.de sEnv (.path "ResponseData") (.obj [("animal", .obj [("when", .str "Rex")])]) ≠
      Serde.de sEnv (.path "ResponseData") (.obj [("animal", .obj [])]) ∧
    -- and the eraser leaves it alone
    eraseDenied sCtx sOp (.obj [("animal", .obj [("when", .str "Rex")])]) = .obj [("animal", .obj [("when", .str "Rex")])] := by
  refine ⟨by decide +kernel, except_ok_of_isSome (by decide +kernel), by decide +kernel, by decide +kernel, by decide +kernel,
    ?_, by decide +kernel, by decide +kernel, ?_, ?_⟩
  · intro h
    have := (keyFreeCheck_iff sEnv "when" "Qanimal").mpr h
    exact absurd this (by decide +kernel)
  · intro h
    have := congrArg (fun r => r.toOption.map showVal) h
    exact absurd this (by decide +kernel)
  · simp [eraseDenied, eraseObj, eraseInSel, eraseEntry, thruQuals, eraseKeys, dropKeys, deniedKeys, keptKeys, deniedKey,
      keptKey, isDenied, sCtx, sOp, wSchema, Schema.defaultScalars]

/-! ### model behaviour worth knowing: the struct of a denied object-typed field is still emitted -/

/-- `type Query { old: Person @deprecated  me: Person }  type Person { id: ID! }`, `query Q { old { id } me { id } }` -/
def dSchema : Schema :=
  { objects := [{ name := "Query", fields := [0, 2], implements := [] }, { name := "Person", fields := [1], implements := [] }],
    fields := [{ name := "old", ty := { id := .object 1, quals := [] }, parent := .object 0, deprecation := some none },
               { name := "id", ty := { id := .scalar 0, quals := [.required] }, parent := .object 1, deprecation := none },
               { name := "me", ty := { id := .object 1, quals := [] }, parent := .object 0, deprecation := none }],
    scalars := Schema.defaultScalars }

def dOp : ROperation :=
  { name := "Q", kind := .query, objectId := 0, sels := [.field none 0 [.field none 1 []], .field none 2 [.field none 1 []]] }

def dCtx : Ctx := { s := dSchema, q := { operations := [dOp] }, o := { deprecation := .deny }, cs := ⟨id, id⟩ }

/-- under `deny` the member `old` is gone from `ResponseData`, but the struct `Qold` of its sub-selection is emitted all the
    same (`calculate_selection` pushes the nested type before `ExpandedField::render` drops the field): dead code in the
    generated module.  `structItemsD` / `tree_items_shapeD` describe exactly this. -/
theorem dead_struct_emitted :
    TreeOpD dCtx dOp = true ∧
    ((responseForQuery dCtx 0).toOption.getD []).filterMap
        (fun | .struct n _ _ fs => some (n, fs.map (·.wire)) | _ => none) =
      [("ResponseData", ["me"]), ("Qold", ["id"]), ("Qme", ["id"])] ∧
    (Scope.mentions ((responseForQuery dCtx 0).toOption.getD [])).contains "Qold" = false ∧
    (Scope.mentions ((responseForQuery dCtx 0).toOption.getD [])).contains "Qme" = true := by
  decide +kernel

end Witness
end C14G
end GqlVerif
