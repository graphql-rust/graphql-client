import GqlVerif.Proofs.C01AbstractC
import GqlVerif.Proofs.SpecEval
/-!
# C01 / C03 end to end, `VariantOp` 4/4: top level over `Codegen.responseForQuery`

**Scope** (`C01AbstractA`): selection trees made of `.field` (with or without alias), `.typename`, and — in selection
sets on interface / union typed fields — inline fragments on object types; at such an abstract position:
`__typename` selected, every inline fragment on a possible type, at most one per type, and no response key
both at the interface level and inside an inline fragment (`absOk`; the exclusion is necessary:
`C01.overlap_loses_key`, known finding `C01-overlap`).  Normalization `none`, no denied deprecated field.
**Named fragment spreads are out of scope of this file** (see `C01AbstractF`).

C01: `variant_accepts`, `variant_lossless` / `variant_roundtrip` (written back as `canonSelV … j`: `__typename` is kept
at abstract positions and dropped on object selections).  C03: `variant_precise_iff`, and what `conformsLooseAbs` means
at an abstract position, spelled out in the `abs_tag_*` theorems; among them the known finding `C03-typename-index`
(`abs_tag_int`, `abs_tag_int_direct_rejected`): an integer `__typename` can only be accepted where the tagged enum is
read from buffered content, i.e. at an abstract position with interface-level fields (flattened `on`) or below another
abstract position, never at one without interface-level fields that is reached from `ResponseData` through object
positions only; witnesses `int_tag_flattened_accepted`, `int_tag_nested_accepted`, `int_tag_direct_rejected` in
`C01AbstractW`.

Hypotheses (all decidable, all evaluated on a concrete module in `C01AbstractW`): `VariantOp c op`;
`moduleOk c items` (of `C01EndToEnd`); for losslessness also `rustOkSelsV` / `rustNames`.  That the module
`responseForQuery` emits satisfies the environment hypotheses of `C01AbstractB` / `C` is proved here (`envSelsV_of`,
`topEnvV_of_module`); the class inclusion `variantOp_of_treeOp` is in `C01AbstractH`.
-/

namespace GqlVerif
namespace C01
namespace E2E
open Serde Spec C03 Codegen

/-! ## fuel: the depth of the selection tree is below the number of emitted items -/

theorem length_flatMap_ge {α β} (f : α → List β) : ∀ (l : List α) (a : α), a ∈ l → (f a).length ≤ (l.flatMap f).length :=
  fun _ _ h => (List.sublist_flatten_of_mem (List.mem_map_of_mem h)).length_le

theorem length_inlItems_ge (c : Ctx) (pfx : String) (vt : TypeId) : ∀ (sels : List Sel) (x : Sel), x ∈ sels →
    (inlItem c pfx vt x).length ≤ (inlItems c pfx vt sels).length
  | [], x, h => by simp at h
  | y :: ys, x, h => by
    rw [inlItems, List.length_append]
    rcases List.mem_cons.mp h with rfl | h'
    · omega
    · have := length_inlItems_ge c pfx vt ys x h'; omega

theorem renderType_length_pos (c : Ctx) (n : String) (fs : List RField) (vs : List RVariant) :
    1 ≤ (renderType c n fs vs).length := by
  unfold renderType
  split
  · simp
  · split <;> simp

theorem length_flatMap_mono {α β} (f g : α → List β) (h : ∀ a, (f a).length ≤ (g a).length) :
    ∀ (l : List α), (l.flatMap f).length ≤ (l.flatMap g).length
  | [] => by simp
  | x :: xs => by
    have := length_flatMap_mono f g h xs
    have := h x
    simp only [List.flatMap_cons, List.length_append]; omega

/-- the items emitted for the selection `x` of a selection set with prefix `pfx`; for an inline fragment:
    its variant struct and nested items -/
def allItems (c : Ctx) (pfx : String) : Sel → List Item
  | .inline t isub => inlItem c pfx t (.inline t isub)
  | x => itemsV c pfx x

theorem mem_itemsVs {c : Ctx} {pfx : String} {it : Item} : ∀ {sels : List Sel} {x : Sel}, x ∈ sels →
    it ∈ itemsV c pfx x → it ∈ itemsVs c pfx sels
  | [], _, h, _ => by simp at h
  | y :: ys, x, h, hit => by
    rw [itemsVs, List.mem_append]
    rcases List.mem_cons.mp h with rfl | h'
    · exact .inl hit
    · exact .inr (mem_itemsVs h' hit)

theorem mem_inlItems {c : Ctx} {pfx : String} {vt : TypeId} {it : Item} : ∀ {sels : List Sel} {x : Sel}, x ∈ sels →
    it ∈ inlItem c pfx vt x → it ∈ inlItems c pfx vt sels
  | [], _, h, _ => by simp at h
  | y :: ys, x, h, hit => by
    rw [inlItems, List.mem_append]
    rcases List.mem_cons.mp h with rfl | h'
    · exact .inl hit
    · exact .inr (mem_inlItems h' hit)

mutual
  theorem depthV_sel (c : Ctx) : ∀ (x : Sel) (pfx : String) (abs : Bool), vSel c.s c.o abs x = true →
      selDepth x ≤ (allItems c pfx x).length + 1
    | .field a fid sub, pfx, abs => by
      intro ht
      have IH := depthV_sels c sub
      obtain ⟨sf, hsf, _, _, hk⟩ := vSel_kinds ht
      simp only [allItems]
      rw [selDepth, itemsV]
      rcases hk with ⟨k, _, hid, _, rfl⟩ | ⟨k, _, hid, _, rfl⟩ | ⟨i, _, hid, _, hsub, _⟩ |
        ⟨k, hid, _, hsub, hok⟩ | ⟨k, hid, _, hsub, hok⟩
      · simp [hsf, hid, selsDepth]
      · simp [hsf, hid, selsDepth]
      · have := (IH (pfx ++ c.cs.camel (a.getD sf.name)) false hsub).1 rfl
        simp only [hsf, hid, List.length_cons]; omega
      all_goals
        obtain ⟨_, _, _, _, _, hin, _, _⟩ := absOk_parts hok
        have := (IH (pfx ++ c.cs.camel (a.getD sf.name)) true hsub).2 _ hin
        have := renderType_length_pos c (pfx ++ c.cs.camel (a.getD sf.name))
          (fieldsOfV c (pfx ++ c.cs.camel (a.getD sf.name)) sub)
          (variantsV c (pfx ++ c.cs.camel (a.getD sf.name)) sf.ty.id sub)
        rw [hid] at this
        simp only [hsf, hid, List.length_append]; omega
    | .spread _, _, _ => by intro ht; simp [vSel] at ht
    | .inline t isub, pfx, abs => by
      intro ht
      simp only [vSel, Bool.and_eq_true] at ht
      have := (depthV_sels c isub (pfx ++ "On" ++ c.cs.camel (objName c.s t)) false ht.1.2).1 rfl
      simp only [allItems, inlItem, beq_self_eq_true, ↓reduceIte, List.length_cons]
      rw [selDepth]; omega
    | .typename, _, _ => by intro _; simp [selDepth]
  /-- object level: the nested items; abstract level (all inline fragments on listed variants): also the
      variant structs -/
  theorem depthV_sels (c : Ctx) : ∀ (sels : List Sel) (pfx : String) (abs : Bool), vSels c.s c.o abs sels = true →
      (abs = false → selsDepth sels ≤ (itemsVs c pfx sels).length + 1) ∧
      (∀ vts : List TypeId, (∀ t ∈ sels.filterMap inlineTy, t ∈ vts) →
        selsDepth sels ≤ (vts.flatMap (fun vt => inlItems c pfx vt sels)).length + (itemsVs c pfx sels).length + 1)
    | [], _, _ => by intro _; simp [selsDepth]
    | x :: xs, pfx, abs => by
      intro ht
      obtain ⟨hx, hxs⟩ := vSels_cons ht
      have h1 := depthV_sel c x pfx abs hx
      obtain ⟨h2, h3⟩ := depthV_sels c xs pfx abs hxs
      constructor
      · intro habs
        subst habs
        have h2' := h2 rfl
        rw [selsDepth, itemsVs, List.length_append]
        cases x with
        | inline t isub => simp [vSel] at hx
        | field a fid sub => simp only [allItems] at h1; omega
        | spread g => simp [vSel] at hx
        | typename => simp only [allItems] at h1; omega
      · intro vts hin
        have h3' := h3 vts (fun t h' => hin t (by
          cases x <;> simp [List.filterMap_cons, inlineTy, h']))
        have hmono : (vts.flatMap (fun vt => inlItems c pfx vt xs)).length ≤
            (vts.flatMap (fun vt => inlItems c pfx vt (x :: xs))).length := by
          apply length_flatMap_mono
          intro vt
          rw [inlItems.eq_2, List.length_append]; omega
        rw [selsDepth, itemsVs, List.length_append]
        cases x with
        | inline t isub =>
          have ht' : t ∈ vts := hin t (by simp [inlineTy])
          have hge := length_flatMap_ge (fun vt => inlItems c pfx vt (Sel.inline t isub :: xs)) vts t ht'
          have hge2 := length_inlItems_ge c pfx t (Sel.inline t isub :: xs) _ (List.mem_cons_self)
          simp only [allItems] at h1
          omega
        | field a fid sub => simp only [allItems] at h1; omega
        | spread g => simp [vSel] at hx
        | typename => simp only [allItems] at h1; omega
end


/-! ## the environment of an emitted module -/

theorem variantsV_ne_nil {ty : TypeId} (c : Ctx) (pfx : String) (sub : List Sel)
    (h : variantNames c.s c.o ty ≠ []) : variantsV c pfx ty sub ≠ [] := by
  intro hnil
  have := (variantsV_wire c pfx ty sub).1
  rw [hnil] at this
  exact h this.symm

theorem allItems_obj {c : Ctx} {pfx : String} {x : Sel} (h : vSel c.s c.o false x = true) :
    allItems c pfx x = itemsV c pfx x := by
  cases x <;> first | rfl | (simp [vSel] at h)

section EnvOfV
variable {c : Ctx} {items : List Item} {u : UsedTypes} {root : List Sel} (M : ModFacts c items u root)
include M

theorem taggedEnv_of (name : String) (vs : List RVariant)
    (hmem : Item.tagged name c.respDerives c.serdeCrate "__typename" vs ∈ items) :
    TaggedEnv (moduleEnv c items) name vs :=
  ⟨M.np _ hmem, name_ne_ID M hmem (by intro t h; cases h), _, _, _, find_of_mem (customExterns c) M.nodup hmem⟩

theorem absEnv_of (name : String) (fields : List RField) (vs : List RVariant) (hvs : vs ≠ [])
    (hmem : ∀ it ∈ renderType c name fields vs, it ∈ items) :
    AbsEnv (moduleEnv c items) name fields vs := by
  unfold AbsEnv
  have hve : vs.isEmpty = false := by cases vs <;> simp_all
  unfold renderType at hmem
  cases hf : fields.isEmpty
  · simp only [hf, hve, Bool.false_and, Bool.false_eq_true, ↓reduceIte] at hmem ⊢
    exact ⟨structEnv_of M _ _ (hmem (.struct name c.respDerives c.serdeCrate (fields ++ [onField name])) (by simp [onField])), taggedEnv_of M _ _ (hmem _ (by simp))⟩
  · simp only [hf, hve, Bool.not_false, Bool.and_self, ↓reduceIte] at hmem ⊢
    exact taggedEnv_of M _ _ (hmem _ (by simp))

-- the list half uses the section variables only through the selection half
set_option linter.unusedSectionVars false
mutual
  theorem envSelV_of : ∀ (x : Sel) (pfx : String) (abs : Bool), vSel c.s c.o abs x = true →
      (∀ it ∈ allItems c pfx x, it ∈ items) → C02.Reach c.q root x → envSelV (moduleEnv c items) c pfx x
    | .field a fid sub, pfx, abs => by
      intro ht hit hr
      have IH := envSelsV_of sub
      have hdir := M.used _ hr
      obtain ⟨sf, hsf, _, _, hk⟩ := vSel_kinds ht
      have hused : sf.ty.id ∈ u.types := hdir sf hsf
      simp only [allItems] at hit
      rw [itemsV] at hit
      rw [envSelV]
      rcases hk with ⟨k, sn, hid, hk, _⟩ | ⟨k, en, hid, hk, _⟩ | ⟨i, _, hid, _, hsub, _⟩ |
        ⟨k, hid, _, hsub, hok⟩ | ⟨k, hid, _, hsub, hok⟩
      · simp only [hsf, hid, hk]
        exact scalarEnv_of M k sn hk (hid ▸ hused)
      · simp only [hsf, hid, hk]
        exact enumEnv_of M k en hk (hid ▸ hused)
      · simp only [hsf, hid] at hit ⊢
        refine ⟨structEnv_of M _ _ (hit _ (by simp)), ?_⟩
        exact IH _ false hsub (fun x hx it h => hit it (by
          have : it ∈ itemsVs c (pfx ++ c.cs.camel (a.getD sf.name)) sub := mem_itemsVs hx (by
            rw [← allItems_obj (vSels_mem hsub _ hx)]; exact h)
          simp [this])) (fun y hy => reach_step hr hy)
      all_goals
        simp only [hsf, hid] at hit ⊢
        obtain ⟨_, _, _, hne, _, hin, _, _⟩ := absOk_parts hok
        refine ⟨absEnv_of M _ _ _ (variantsV_ne_nil c _ sub hne) (fun it h => hit it (by simp [h])), ?_⟩
        exact IH _ true hsub (fun x hx it h => hit it (by
          cases x with
          | inline t isub =>
            have ht' := hin t (List.mem_filterMap.mpr ⟨_, hx, rfl⟩)
            have : it ∈ (vtsOfTy c.s _).flatMap
                (fun vt => inlItems c (pfx ++ c.cs.camel (a.getD sf.name)) vt sub) :=
              List.mem_flatMap.mpr ⟨t, ht', mem_inlItems hx h⟩
            simp [this]
          | _ => simp [mem_itemsVs hx h])) (fun y hy => reach_step hr hy)
    | .spread _, _, _ => by intro ht; simp [vSel] at ht
    | .inline t isub, pfx, abs => by
      intro ht hit hr
      have IH := envSelsV_of isub
      simp only [vSel, Bool.and_eq_true] at ht
      simp only [allItems, inlItem, beq_self_eq_true, ↓reduceIte] at hit
      rw [envSelV]
      refine ⟨structEnv_of M _ _ (hit _ (by simp)), ?_⟩
      exact IH _ false ht.1.2 (fun x hx it h => hit it (by
        have : it ∈ itemsVs c (pfx ++ "On" ++ c.cs.camel (objName c.s t)) isub := mem_itemsVs hx (by
          rw [← allItems_obj (vSels_mem ht.1.2 _ hx)]; exact h)
        simp [this])) (fun y hy => reach_step_inline hr hy)
    | .typename, _, _ => by intro _ _ _; simp [envSelV]
  theorem envSelsV_of : ∀ (sels : List Sel) (pfx : String) (abs : Bool), vSels c.s c.o abs sels = true →
      (∀ x ∈ sels, ∀ it ∈ allItems c pfx x, it ∈ items) → (∀ x ∈ sels, C02.Reach c.q root x) →
      envSelsV (moduleEnv c items) c pfx sels
    | [], _, _ => by intro _ _ _; simp [envSelsV]
    | x :: xs, pfx, abs => by
      intro ht hit hr
      obtain ⟨hx, hxs⟩ := vSels_cons ht
      rw [envSelsV]
      exact ⟨envSelV_of x pfx abs hx (hit x (by simp)) (hr x (by simp)),
        envSelsV_of xs pfx abs hxs (fun y hy => hit y (by simp [hy])) (fun y hy => hr y (by simp [hy]))⟩
end
set_option linter.unusedSectionVars true

end EnvOfV


/-! ## `serde_json::to_value` normalisation leaves the canonical form alone -/

theorem canonEntriesV_keys (s : Schema) (skip : Bool) (kvs : List (String × Json)) (sels : List Sel) :
    ((canonEntriesV s skip sels kvs).map (·.1)).Sublist (fieldKeys s sels) := by
  rw [canonEntriesV_flat]; exact fieldEntries_keys sels

theorem normJson_str (n : String) : normJson (.str n) = .str n := by simp [normJson]

section NormV
variable (s : Schema) (o : Options) (skip : Bool)

theorem norm_abs (ty : TypeId) (sub : List Sel)
    (IHe : ∀ kvs, StrictAt s sub kvs → ∀ kv ∈ canonEntriesV s skip sub kvs, normJson kv.2 = kv.2)
    (IHi : ∀ t isub, Sel.inline t isub ∈ sub → ∀ kvs, StrictAt s isub kvs →
      ∀ kv ∈ canonEntriesV s skip isub kvs, normJson kv.2 = kv.2)
    (hty : absHyp s ty) (ht : vSels s o true sub = true) (hok : absOk s o ty sub = true) (j : Json)
    (hc : conformsAt s ty sub j = true) : normJson (canonAbsV s skip sub j) = canonAbsV s skip sub j := by
  obtain ⟨rt, kvs, rfl, hnd, hconf, htag, hmem⟩ := abs_conf_facts hty hok hc
  obtain ⟨htn, hrk, _, _, hvn, hin, hind, hexcl⟩ := absOk_parts hok
  have htagName : tagName kvs = rtName s rt := by simp [tagName, htag]
  have hnames : ((vtsOfTy s ty).map (objName s)).Nodup := by
    unfold variantNames at hvn
    exact (List.nodup_append.mp hvn).1
  obtain ⟨hu1, hu2⟩ := canonInlV_unique s skip (.object rt) kvs _ hnames hmem sub hind hin
  have hfk : (fieldKeys s sub).Nodup := (fieldKeys_sublist s sub).nodup (nodup_iff'.mp hrk)
  have hnf := typename_not_fieldKey s sub htn hrk
  simp only [canonAbsV, htagName]
  rw [show rtName s rt = objName s (.object rt) from rfl]
  by_cases hm : TypeId.object rt ∈ sub.filterMap inlineTy
  · obtain ⟨y, hy, hyt⟩ := List.mem_filterMap.mp hm
    cases y with
    | inline t' isub =>
      simp only [inlineTy, Option.some.injEq] at hyt
      subst hyt
      rw [hu2 isub hy]
      have hvy := vSels_mem ht _ hy
      simp only [vSel, Bool.and_eq_true] at hvy
      have hconf_i : confSelsV s rt isub kvs = true := by
        have := confSelsV_mem hconf _ hy
        simpa [confSelV, fragApplies] using this
      have hfki : (fieldKeys s isub).Nodup := (fieldKeys_sublist s isub).nodup (nodup_iff'.mp hvy.2)
      apply normJson_obj_fixed
      · have hsub : ((canonEntriesV s skip sub kvs ++
            (("__typename", Json.str (objName s (.object rt))) :: canonEntriesV s skip isub kvs)).map (·.1)).Sublist
            (fieldKeys s sub ++ ("__typename" :: fieldKeys s isub)) := by
          simp only [List.map_append, List.map_cons]
          exact (canonEntriesV_keys s skip kvs sub).append ((canonEntriesV_keys s skip kvs isub).cons_cons _)
        refine hsub.nodup ?_
        rw [List.nodup_append]
        refine ⟨hfk, ?_, ?_⟩
        · rw [List.nodup_cons]
          refine ⟨?_, hfki⟩
          intro hmem'
          exact hexcl _ isub hy _ hmem' (List.mem_filterMap.mpr ⟨_, typename_mem htn, rfl⟩)
        · intro a ha b hb hab
          subst hab
          simp only [List.mem_cons] at hb
          rcases hb with rfl | hb
          · exact hnf ha
          · exact hexcl _ isub hy _ hb (fieldKeys_sub_respKeys s sub _ ha)
      · intro kv hkv
        simp only [List.mem_append, List.mem_cons] at hkv
        rcases hkv with hkv | rfl | hkv
        · exact IHe kvs (strictAt_of_conf hconf) kv hkv
        · exact normJson_str _
        · exact IHi _ isub hy kvs (strictAt_of_conf hconf_i) kv hkv
    | field a fid sub' => cases hyt
    | spread g => cases hyt
    | typename => cases hyt
  · rw [hu1 hm]
    apply normJson_obj_fixed
    · have hsub : ((canonEntriesV s skip sub kvs ++
          [("__typename", Json.str (objName s (.object rt)))]).map (·.1)).Sublist
          (fieldKeys s sub ++ ["__typename"]) := by
        simp only [List.map_append, List.map_cons, List.map_nil]
        exact (canonEntriesV_keys s skip kvs sub).append (List.Sublist.refl _)
      refine hsub.nodup ?_
      rw [List.nodup_append]
      refine ⟨hfk, by simp, ?_⟩
      intro a ha b hb hab
      subst hab
      simp only [List.mem_singleton] at hb
      subst hb
      exact hnf ha
    · intro kv hkv
      simp only [List.mem_append, List.mem_singleton] at hkv
      rcases hkv with hkv | rfl
      · exact IHe kvs (strictAt_of_conf hconf) kv hkv
      · exact normJson_str _

mutual
  theorem normFieldV : ∀ (x : Sel) (abs : Bool) (v : Json), vSel s o abs x = true →
      strictFieldV s x v = true → normJson (canonFieldV s skip x v) = canonFieldV s skip x v
    | .field a fid sub, abs, v => by
      intro ht hst
      have IHe := normEntriesV sub
      have IHi := normInlsV sub
      obtain ⟨sf, hsf, _, _, hk⟩ := vSel_kinds ht
      simp only [strictFieldV] at hst
      rw [canonFieldV]
      rcases hk with ⟨k, sn, hid, hk, _⟩ | ⟨k, en, hid, hk, _⟩ | ⟨i, _, hid, _, hsub, hkeys⟩ |
        ⟨k, hid, hty, hsub, hok⟩ | ⟨k, hid, hty, hsub, hok⟩
      · simp only [hsf, hid, hk] at hst ⊢
        by_cases hID : sn = "ID"
        · subst hID
          simp only [↓reduceIte]
          exact (norm_canon idOk idCanon norm_idCanon _).2 v (by simpa [scalarOk] using hst)
        · simp only [hID, ↓reduceIte]
          have := (norm_canon (scalarOk sn) id (norm_scalar sn) _).2 v hst
          rwa [(canon_id _).2 v] at this
      · simp only [hsf, hid, hk] at hst ⊢
        have := (norm_canon stringOk id norm_string _).2 v hst
        rwa [(canon_id _).2 v] at this
      · simp only [hsf, hid] at hst ⊢
        rw [canonLambdaV]
        refine (norm_canon (conformsAt s (.object i) sub) (canonSelV s skip sub) ?_ _).2 v hst
        intro j hj
        simp only [conformsAt, List.any_eq_true, List.mem_range, Bool.and_eq_true] at hj
        obtain ⟨rt, _, _, hcv⟩ := hj
        cases j with
        | obj kvs =>
          simp only [conformsV, Bool.and_eq_true] at hcv
          rw [canonSelV]
          exact normJson_obj_fixed _
            (((canonEntriesV_keys s skip kvs sub).trans (fieldKeys_sublist s sub)).nodup (nodup_iff'.mp hkeys))
            (IHe false kvs hsub (strictAt_of_conf hcv.2))
        | arr _ => simp [conformsV] at hcv
        | _ => rfl
      all_goals
        simp only [hsf, hid] at hst ⊢
        rw [canonLambdaAbs]
        exact (norm_canon (conformsAt s _ sub) (canonAbsV s skip sub)
          (norm_abs s o skip _ sub (fun kvs h => IHe true kvs hsub h) (IHi hsub) hty hsub hok) _).2 v hst
    | .spread _, _, _ => by intro ht; simp [vSel] at ht
    | .inline _ _, _, _ => by intro _ h; simp [strictFieldV] at h
    | .typename, _, _ => by intro _ h; simp [strictFieldV] at h
  theorem normEntriesV : ∀ (sels : List Sel) (abs : Bool) (kvs : List (String × Json)),
      vSels s o abs sels = true → StrictAt s sels kvs → ∀ kv ∈ canonEntriesV s skip sels kvs, normJson kv.2 = kv.2
    | [], _, _, _, _ => by simp [canonEntriesV]
    | x :: xs, abs, kvs, ht, hc => by
      obtain ⟨hx, hxs⟩ := vSels_cons ht
      have ih := normEntriesV xs abs kvs hxs (fun a fid sub hm => hc a fid sub (List.mem_cons_of_mem _ hm))
      cases x with
      | field a fid sub =>
        rw [canonEntriesV]
        cases hsf : s.fields[fid]? with
        | none => simpa using ih
        | some sf =>
          simp only []
          cases hl : Json.lookup (a.getD sf.name) kvs with
          | none =>
            simp only []
            intro kv hkv
            rw [List.mem_append] at hkv
            rcases hkv with hkv | hkv
            · split at hkv
              · simp at hkv
              · simp only [List.mem_singleton] at hkv; subst hkv; rfl
            · exact ih kv hkv
          | some v =>
            simp only []
            intro kv hkv
            rw [List.mem_append] at hkv
            rcases hkv with hkv | hkv
            · split at hkv
              · simp at hkv
              · simp only [List.mem_singleton] at hkv
                subst hkv
                exact normFieldV _ abs v hx (hc a fid sub (by simp) sf hsf v hl)
            · exact ih kv hkv
      | spread g => simp [vSel] at hx
      | inline t sub => simpa [canonEntriesV] using ih
      | typename => simpa [canonEntriesV] using ih
  theorem normInlsV : ∀ (sels : List Sel), vSels s o true sels = true → ∀ t isub, Sel.inline t isub ∈ sels →
      ∀ kvs, StrictAt s isub kvs → ∀ kv ∈ canonEntriesV s skip isub kvs, normJson kv.2 = kv.2
    | [], _, _, _, h => by simp at h
    | x :: xs, ht, t, isub, hm => by
      obtain ⟨hx, hxs⟩ := vSels_cons ht
      rcases List.mem_cons.mp hm with heq | hm'
      · cases x with
        | inline t' isub' =>
          -- the hypothesis for `isub'` is taken before `isub` is identified with it
          have IH := normEntriesV isub' false
          cases heq
          simp only [vSel, Bool.and_eq_true] at hx
          exact fun kvs h => IH kvs hx.1.2 h
        | field a fid sub => cases heq
        | spread g => cases heq
        | typename => cases heq
      · exact normInlsV xs hxs t isub hm'
end

end NormV

theorem norm_canonSelV (s : Schema) (o : Options) (skip : Bool) (rt : Nat) (sels : List Sel) (j : Json)
    (ht : vSels s o false sels = true) (hk : EnumSpec.nodup (respKeys s sels) = true)
    (hj : conformsV s rt sels j = true) : normJson (canonSelV s skip sels j) = canonSelV s skip sels j := by
  cases j with
  | obj kvs =>
    simp only [conformsV, Bool.and_eq_true] at hj
    rw [canonSelV]
    exact normJson_obj_fixed _
      (((canonEntriesV_keys s skip kvs sels).trans (fieldKeys_sublist s sels)).nodup (nodup_iff'.mp hk))
      (normEntriesV s o skip sels false kvs ht (strictAt_of_conf hj.2))
  | null => rfl
  | bool _ => rfl
  | int _ => rfl
  | num _ => rfl
  | str _ => rfl
  | arr _ => simp [conformsV] at hj


/-! ## top level: `Serde.de` / `Serde.ser` at `ResponseData` -/

/-- what the end-to-end theorems need of the environment (discharged for the environment built from
    `responseForQuery` by `topEnvV_of_module`) -/
structure TopEnvV (e : Env) (c : Ctx) (op : ROperation) : Prop where
  root : StructEnv e "ResponseData" (fieldsOfV c (c.cs.camel op.name) op.sels)
  sub : envSelsV e c (c.cs.camel op.name) op.sels
  size : (itemsVs c (c.cs.camel op.name) op.sels).length + 1 ≤ e.items.length

theorem depth_le_envV (e : Env) (c : Ctx) (op : ROperation) (ht : vSels c.s c.o false op.sels = true)
    (hsz : (itemsVs c (c.cs.camel op.name) op.sels).length + 1 ≤ e.items.length) :
    selsDepth op.sels ≤ e.items.length := by
  have := (depthV_sels c op.sels (c.cs.camel op.name) false ht).1 rfl
  omega

theorem top_accepts_iffV (e : Env) (c : Ctx) (op : ROperation) (ht : VariantOp c op = true) (he : TopEnvV e c op)
    (j : Json) : okB (Serde.de e (.path "ResponseData") j) = conformsLooseV c.s c.o false op.sels j := by
  obtain ⟨_, _, hsels, _⟩ := variantOp_parts ht
  exact Top.de_iff (depth_le_envV e c op hsels he.size)
    (fun fd hfd => structV_accepts_iff e c _ _ op.sels false hsels he.sub he.root false fd (by omega)) j

theorem top_losslessV (e : Env) (c : Ctx) (op : ROperation) (ht : VariantOp c op = true) (he : TopEnvV e c op)
    (hro : rustOkSelsV c op.sels = true) (hrn : EnumSpec.nodup (rustNames c op.sels) = true)
    (rt : Nat) (j : Json) (v : Val) (hc : conformsV c.s rt op.sels j = true)
    (hd : Serde.de e (.path "ResponseData") j = .ok v) :
    Serde.ser e (.path "ResponseData") v = .ok (canonSelV c.s c.o.skipNone op.sels j) := by
  obtain ⟨_, _, hsels, hkeys⟩ := variantOp_parts ht
  exact Top.ser_fixed (depth_le_envV e c op hsels he.size)
    (fun fd fs hfd hfs => structV_lossless e c _ "ResponseData" op.sels hsels he.sub hro hrn hkeys he.root false fd fs
      (by omega) (by omega) rt j v hc)
    (norm_canonSelV c.s c.o c.o.skipNone rt op.sels j hsels hkeys hc) hd

/-! ## from `Codegen.responseForQuery` to the environment hypotheses -/

theorem topEnvV_of_module {c : Ctx} {opIdx : Nat} {op : ROperation} {items : List Item}
    (hop : c.q.operations[opIdx]? = some op) (ht : VariantOp c op = true)
    (hgen : responseForQuery c opIdx = .ok items) (hok : moduleOk c items = true) :
    TopEnvV (moduleEnv c items) c op := by
  obtain ⟨hn, _, hsels, _⟩ := variantOp_parts ht
  obtain ⟨u, F, _, _, M, hsub, _, hlen⟩ :=
    module_tail hop hn hgen hok (variant_items_shape c op (List.mem_of_getElem? hop) ht)
  refine ⟨structEnv_of M _ _ (hsub _ (by simp [structItemsV])),
    envSelsV_of M op.sels _ false hsels
      (fun x hx it h => hsub it (by
        rw [allItems_obj (vSels_mem hsels _ hx)] at h
        simp [structItemsV, mem_itemsVs hx h])) (fun x hx => .here hx), ?_⟩
  simp only [structItemsV, List.length_cons] at hlen
  omega

/-- a response conforms to the operation (GraphQL spec §6.4): the response object of the root selection set
    executed on the root object type -/
def conformsOpV (c : Ctx) (op : ROperation) (j : Json) : Bool := conformsV c.s op.objectId op.sels j

/-- C01 for `VariantOp`: every conforming response is accepted by the emitted `ResponseData` … -/
theorem variant_accepts (c : Ctx) (opIdx : Nat) (op : ROperation) (items : List Item)
    (hop : c.q.operations[opIdx]? = some op) (ht : VariantOp c op = true)
    (hgen : responseForQuery c opIdx = .ok items) (hok : moduleOk c items = true)
    (j : Json) (hc : conformsOpV c op j = true) :
    ∃ v, Serde.de (moduleEnv c items) (.path "ResponseData") j = .ok v :=
  Top.accepts_of_iff (top_accepts_iffV _ c op ht (topEnvV_of_module hop ht hgen hok) j)
    (conformsV_loose c.s c.o false _ _ _ (variantOp_parts ht).2.2.1 hc)

/-- … and written back as `canonSelV … j` (`__typename` kept at abstract positions) -/
theorem variant_lossless (c : Ctx) (opIdx : Nat) (op : ROperation) (items : List Item)
    (hop : c.q.operations[opIdx]? = some op) (ht : VariantOp c op = true)
    (hgen : responseForQuery c opIdx = .ok items) (hok : moduleOk c items = true)
    (hro : rustOkSelsV c op.sels = true) (hrn : EnumSpec.nodup (rustNames c op.sels) = true)
    (j : Json) (hc : conformsOpV c op j = true) (v : Val)
    (hd : Serde.de (moduleEnv c items) (.path "ResponseData") j = .ok v) :
    Serde.ser (moduleEnv c items) (.path "ResponseData") v = .ok (canonSelV c.s c.o.skipNone op.sels j) :=
  top_losslessV (moduleEnv c items) c op ht (topEnvV_of_module hop ht hgen hok) hro hrn _ j v hc hd

/-- both in one statement: `roundtrip j = canonSelV j` -/
theorem variant_roundtrip (c : Ctx) (opIdx : Nat) (op : ROperation) (items : List Item)
    (hop : c.q.operations[opIdx]? = some op) (ht : VariantOp c op = true)
    (hgen : responseForQuery c opIdx = .ok items) (hok : moduleOk c items = true)
    (hro : rustOkSelsV c op.sels = true) (hrn : EnumSpec.nodup (rustNames c op.sels) = true)
    (j : Json) (hc : conformsOpV c op j = true) :
    Serde.roundtrip (moduleEnv c items) (.path "ResponseData") j = .ok (canonSelV c.s c.o.skipNone op.sels j) :=
  Top.roundtrip_of (variant_accepts c opIdx op items hop ht hgen hok j hc)
    (variant_lossless c opIdx op items hop ht hgen hok hro hrn j hc)

/-- C03 for `VariantOp`, as an equivalence: the emitted `ResponseData` accepts `j` **iff**
    `conformsLooseV … false … j` -/
theorem variant_precise_iff (c : Ctx) (opIdx : Nat) (op : ROperation) (items : List Item)
    (hop : c.q.operations[opIdx]? = some op) (ht : VariantOp c op = true)
    (hgen : responseForQuery c opIdx = .ok items) (hok : moduleOk c items = true) (j : Json) :
    okB (Serde.de (moduleEnv c items) (.path "ResponseData") j) = conformsLooseV c.s c.o false op.sels j :=
  top_accepts_iffV (moduleEnv c items) c op ht (topEnvV_of_module hop ht hgen hok) j

theorem variant_precise (c : Ctx) (opIdx : Nat) (op : ROperation) (items : List Item)
    (hop : c.q.operations[opIdx]? = some op) (ht : VariantOp c op = true)
    (hgen : responseForQuery c opIdx = .ok items) (hok : moduleOk c items = true) (j : Json) (v : Val)
    (hd : Serde.de (moduleEnv c items) (.path "ResponseData") j = .ok v) :
    conformsLooseV c.s c.o false op.sels j = true :=
  Top.precise_of_iff (variant_precise_iff c opIdx op items hop ht hgen hok j) hd

/-- the response items are the tail of the emitted module -/
theorem variant_module_shape (c : Ctx) (opIdx : Nat) (op : ROperation) (items : List Item)
    (hop : c.q.operations[opIdx]? = some op) (ht : VariantOp c op = true)
    (hgen : responseForQuery c opIdx = .ok items) :
    ∃ pre, items = Codegen.builtinAliases ++ pre ++ structItemsV c "ResponseData" (c.cs.camel op.name) op.sels := by
  obtain ⟨u, S, E, I, V, F, o, resp, _, _, _, ho, hresp, hitems⟩ := responseForQuery_parts hgen
  rw [hop] at ho; cases ho
  rw [variant_items_shape c op (List.mem_of_getElem? hop) ht] at hresp
  cases hresp
  exact ⟨S ++ E ++ I ++ V ++ F, by rw [hitems]; simp⟩

/-! ## C03 at an abstract position, spelled out -/

/-- the entries the tagged enum of an abstract position sees -/
def tagEntries (s : Schema) (sub : List Sel) (kvs : List (String × Json)) : List (String × Json) :=
  if sub.any isFieldSel then kvs.filter (fun kv => !(fieldKeys s sub).contains kv.1) else kvs

theorem tagEntries_tag (s : Schema) (o : Options) (ty : TypeId) (sub : List Sel) (hok : absOk s o ty sub = true)
    (kvs : List (String × Json)) :
    countKey "__typename" (tagEntries s sub kvs) = countKey "__typename" kvs ∧
    Json.lookup "__typename" (tagEntries s sub kvs) = Json.lookup "__typename" kvs := by
  obtain ⟨htn, hrk, _⟩ := absOk_parts hok
  have hnf := typename_not_fieldKey s sub htn hrk
  unfold tagEntries
  split
  · have hq : ∀ v : Json, (fun kv : String × Json => !(fieldKeys s sub).contains kv.1) ("__typename", v) = true := by
      intro v; simpa using hnf
    exact ⟨countKey_filter _ _ hq kvs, lookup_filter _ _ hq kvs⟩
  · exact ⟨rfl, rfl⟩

theorem conformsLooseAbs_obj (s : Schema) (o : Options) (b : Bool) (ty : TypeId) (sub : List Sel)
    (kvs : List (String × Json)) :
    conformsLooseAbs s o b ty sub (.obj kvs) =
      (looseSelsV s o b sub kvs &&
        tagOkV s o (sub.any isFieldSel || b) (vtsOfTy s ty) (fun vt rest => loosePayV s o vt sub rest)
          (tagEntries s sub kvs)) := rfl

/-- **missing or duplicated `__typename`: rejected** -/
theorem abs_tag_count (s : Schema) (o : Options) (b : Bool) (ty : TypeId) (sub : List Sel)
    (hok : absOk s o ty sub = true) (kvs : List (String × Json)) (h : countKey "__typename" kvs ≠ 1) :
    conformsLooseAbs s o b ty sub (.obj kvs) = false := by
  rw [conformsLooseAbs_obj]
  have := (tagEntries_tag s o ty sub hok kvs).1
  unfold tagOkV
  rw [this]
  match hc : countKey "__typename" kvs with
  | 0 => simp
  | 1 => exact absurd hc h
  | k + 2 => simp

/-- **`__typename` that is neither a string nor an integer: rejected** -/
theorem abs_tag_kind (s : Schema) (o : Options) (b : Bool) (ty : TypeId) (sub : List Sel)
    (hok : absOk s o ty sub = true) (kvs : List (String × Json)) (v : Json)
    (hl : Json.lookup "__typename" kvs = some v) (h1 : ∀ n, v ≠ .str n) (h2 : ∀ n, v ≠ .int n) :
    conformsLooseAbs s o b ty sub (.obj kvs) = false := by
  rw [conformsLooseAbs_obj]
  obtain ⟨_, e2⟩ := tagEntries_tag s o ty sub hok kvs
  unfold tagOkV
  rw [e2, hl]
  split
  · cases v <;> simp_all
  · simp

/-- **an integer `__typename` is accepted only from buffered content** (known finding `C03-typename-index`):
    only if the position has interface-level fields (the enum is then the flattened `on`), or the position
    itself is read from buffered content (`b`: it lies below another abstract position) -/
theorem abs_tag_int (s : Schema) (o : Options) (b : Bool) (ty : TypeId) (sub : List Sel)
    (hok : absOk s o ty sub = true) (kvs : List (String × Json)) (n : Int)
    (hl : Json.lookup "__typename" kvs = some (.int n))
    (h : conformsLooseAbs s o b ty sub (.obj kvs) = true) : (sub.any isFieldSel || b) = true := by
  rw [conformsLooseAbs_obj] at h
  obtain ⟨_, e2⟩ := tagEntries_tag s o ty sub hok kvs
  unfold tagOkV at h
  rw [e2, hl] at h
  split at h
  · simp only [Bool.and_eq_true] at h; exact h.2.1.1
  · simp at h

/-- … in particular never directly below `ResponseData` through object positions when the abstract position has
    no interface-level field -/
theorem abs_tag_int_direct_rejected (s : Schema) (o : Options) (ty : TypeId) (sub : List Sel)
    (hok : absOk s o ty sub = true) (hnf : sub.any isFieldSel = false) (kvs : List (String × Json)) (n : Int)
    (hl : Json.lookup "__typename" kvs = some (.int n)) :
    conformsLooseAbs s o false ty sub (.obj kvs) = false := by
  cases h : conformsLooseAbs s o false ty sub (.obj kvs)
  · rfl
  · have := abs_tag_int s o false ty sub hok kvs n hl h
    simp [hnf] at this

/-- **an unknown `__typename` string is rejected unless `fragmentsOtherVariant`** -/
theorem abs_tag_unknown (s : Schema) (o : Options) (b : Bool) (ty : TypeId) (sub : List Sel)
    (hok : absOk s o ty sub = true) (kvs : List (String × Json)) (n : String)
    (hl : Json.lookup "__typename" kvs = some (.str n)) (hun : ∀ vt ∈ vtsOfTy s ty, objName s vt ≠ n)
    (h : conformsLooseAbs s o b ty sub (.obj kvs) = true) : o.otherVariant = true := by
  rw [conformsLooseAbs_obj] at h
  obtain ⟨_, e2⟩ := tagEntries_tag s o ty sub hok kvs
  unfold tagOkV at h
  rw [e2, hl] at h
  have hf : (vtsOfTy s ty).find? (fun vt => objName s vt == n) = none := by
    rw [List.find?_eq_none]; intro vt hvt; simpa using hun vt hvt
  split at h
  · simp only [hf, Bool.and_eq_true] at h; exact h.2
  · simp at h

/-- **a known `__typename` is accepted iff the interface-level fields and its own variant's payload accept** -/
theorem abs_tag_known (s : Schema) (o : Options) (b : Bool) (ty : TypeId) (sub : List Sel)
    (hok : absOk s o ty sub = true) (kvs : List (String × Json)) (vt : TypeId) (hvt : vt ∈ vtsOfTy s ty)
    (hc : countKey "__typename" kvs = 1) (hl : Json.lookup "__typename" kvs = some (.str (objName s vt))) :
    conformsLooseAbs s o b ty sub (.obj kvs) =
      (looseSelsV s o b sub kvs &&
        loosePayV s o vt sub ((tagEntries s sub kvs).filter (·.1 != "__typename"))) := by
  rw [conformsLooseAbs_obj]
  obtain ⟨e1, e2⟩ := tagEntries_tag s o ty sub hok kvs
  obtain ⟨_, _, _, _, hvn, _⟩ := absOk_parts hok
  have hnames : ((vtsOfTy s ty).map (objName s)).Nodup := by
    unfold variantNames at hvn
    exact (List.nodup_append.mp hvn).1
  unfold tagOkV
  rw [e1, e2, hc, hl]
  simp only [find_by_name s _ hnames vt hvt]

/-- the value of the tagged enum: **a known tag selects its own variant, an unknown one `Unknown`** -/
theorem tagged_value (c : Ctx) (pfx : String) (ty : TypeId) (sub : List Sel) (pathB : String → Json → D Val)
    (b : Bool) (kvs : List (String × Json)) (tv : Val) (n : String)
    (hd : deTaggedWith pathB b "__typename" (variantsV c pfx ty sub) kvs = .ok tv)
    (hl : Json.lookup "__typename" kvs = some (.str n)) :
    (∀ vt, (vtsOfTy c.s ty).find? (fun vt => objName c.s vt == n) = some vt →
      ∃ payload, tv = .variant (objName c.s vt) payload) ∧
    ((vtsOfTy c.s ty).find? (fun vt => objName c.s vt == n) = none →
      tv = .variant "Unknown" none ∧ c.o.otherVariant = true) := by
  have hoth : ∀ v ∈ otherVariants c.o, v.other = true := by
    intro v hv; unfold otherVariants at hv; split at hv <;> simp at hv; subst hv; rfl
  have hcnt : countKey "__typename" kvs = 1 := by
    unfold deTaggedWith at hd
    split at hd
    · simp [bad] at hd
    · assumption
    · simp [bad] at hd
  have hw : (variantsV c pfx ty sub).find? (fun v => !v.other && v.wire == n) =
      ((vtsOfTy c.s ty).find? (fun vt => objName c.s vt == n)).map (variantOf c pfx sub) :=
    find_wire_variantsV c pfx sub n _ hoth _
  constructor
  · intro vt hf
    rw [hf] at hw
    obtain ⟨payload, hp⟩ := known_tag_own_variant pathB b "__typename" _ kvs n _ hcnt hl hw tv hd
    rw [(variantOf_wire c pfx sub vt).2.1] at hp
    exact ⟨payload, hp⟩
  · intro hf
    rw [hf] at hw
    have ho : (variantsV c pfx ty sub).find? (·.other) =
        if c.o.otherVariant then some { name := "Unknown", other := true } else none := by
      unfold variantsV
      rw [find_other_variantsV, find_other_otherVariants]
    cases hov : c.o.otherVariant
    · rw [hov] at ho
      have := unknown_tag_rejected pathB b "__typename" _ kvs n hcnt hl hw ho
      rw [hd] at this; cases this
    · rw [hov] at ho
      have := unknown_tag_other pathB b "__typename" _ kvs n _ hcnt hl hw ho
      rw [hd] at this
      exact ⟨by cases this; rfl, rfl⟩


/-- the value read at an abstract position: the tagged enum's value `tv`, alone or as the `on` member -/
theorem abs_read_value (e : Env) (c : Ctx) (pfx name : String) (ty : TypeId) (sub : List Sel)
    (ht : vSels c.s c.o true sub = true)
    (hs : AbsEnv e name (fieldsOfV c pfx sub) (variantsV c pfx ty sub))
    (hrn : EnumSpec.nodup (rustNames c sub ++ ["on"]) = true) (b : Bool) (fd : Nat) (hfd : 2 ≤ fd)
    (kvs : List (String × Json)) (hnd : ∀ k, countKey k kvs ≤ 1) (w : Val)
    (hd : dePath e b fd name (.obj kvs) = .ok w) :
    ∃ tv, (w = tv ∨ ∃ own, w = .record (own ++ [("on", tv)])) ∧
      ∃ pathB b', deTaggedWith pathB b' "__typename" (variantsV c pfx ty sub) (tagEntries c.s sub kvs) = .ok tv := by
  have hemp := isEmpty_fieldsOfV c pfx true sub ht
  unfold AbsEnv at hs
  unfold tagEntries
  cases hF : sub.any isFieldSel
  · rw [hF] at hemp
    simp only [hemp, Bool.not_false, ↓reduceIte] at hs
    obtain ⟨hp, _, n, d, cr, hfind⟩ := hs
    obtain ⟨fd', rfl⟩ : ∃ k, fd = k + 1 := ⟨fd - 1, by omega⟩
    rw [dePath_tagged e b fd' name n d cr _ _ hp hfind] at hd
    exact ⟨w, .inl rfl, _, _, hd⟩
  · rw [hF] at hemp
    simp only [hemp, Bool.not_true, Bool.false_eq_true, ↓reduceIte] at hs
    obtain ⟨⟨hp, _, n, d, cr, hfind⟩, ⟨_, _, n', d', cr', hfind'⟩⟩ := hs
    obtain ⟨fd', rfl⟩ : ∃ k, fd = k + 2 := ⟨fd - 2, by omega⟩
    have hpl := plain_fieldsOfV c pfx sub
    rw [dePath_struct e b (fd' + 1) name n d cr _ hp hfind, deStruct_obj,
      deStructMap_on e fd' _ _ (onField name) (name ++ "On") n' d' cr' "__typename" _ kvs hpl rfl rfl hfind'] at hd
    obtain ⟨own, hown, hd⟩ := C02.bind_ok hd
    obtain ⟨r, hr, hd⟩ := C02.bind_ok hd
    simp only [pure, Except.pure, Except.ok.injEq] at hd
    have hall := (deOwn_ok_iff _ kvs hnd _ own hpl).mp hown
    have hrust : ((fieldsOfV c pfx sub ++ [onField name]).map (·.rust)).Nodup := by
      rw [List.map_append, rust_fieldsOfV c pfx true sub ht]
      exact nodup_iff'.mp hrn
    rw [assemble_on _ (onField name) own r (hall.imp (fun _ _ hh => hh.1)) hrust] at hd
    rw [wire_fieldsOfV c pfx true sub ht] at hr
    exact ⟨r, .inr ⟨own, hd.symm⟩, _, _, hr⟩

/-- **C03 at an abstract position, on the value**: a known `__typename` selects its own variant (never
    another one); an unknown one yields `Unknown` (and `fragmentsOtherVariant` is on) -/
theorem abs_tag_selects (e : Env) (c : Ctx) (pfx name : String) (ty : TypeId) (sub : List Sel)
    (ht : vSels c.s c.o true sub = true) (hok : absOk c.s c.o ty sub = true)
    (hs : AbsEnv e name (fieldsOfV c pfx sub) (variantsV c pfx ty sub))
    (hrn : EnumSpec.nodup (rustNames c sub ++ ["on"]) = true) (b : Bool) (fd : Nat) (hfd : 2 ≤ fd)
    (kvs : List (String × Json)) (hnd : ∀ k, countKey k kvs ≤ 1) (w : Val)
    (hd : dePath e b fd name (.obj kvs) = .ok w) (n : String)
    (hl : Json.lookup "__typename" kvs = some (.str n)) :
    ∃ tv, (w = tv ∨ ∃ own, w = .record (own ++ [("on", tv)])) ∧
      (∀ vt ∈ vtsOfTy c.s ty, objName c.s vt = n → ∃ payload, tv = .variant n payload) ∧
      ((∀ vt ∈ vtsOfTy c.s ty, objName c.s vt ≠ n) → tv = .variant "Unknown" none ∧ c.o.otherVariant = true) := by
  obtain ⟨tv, hw, pathB, b', htv⟩ := abs_read_value e c pfx name ty sub ht hs hrn b fd hfd kvs hnd w hd
  have hl' := (tagEntries_tag c.s c.o ty sub hok kvs).2
  rw [hl] at hl'
  obtain ⟨h1, h2⟩ := tagged_value c pfx ty sub pathB b' _ tv n htv hl'
  obtain ⟨_, _, _, _, hvn, _⟩ := absOk_parts hok
  have hnames : ((vtsOfTy c.s ty).map (objName c.s)).Nodup := by
    unfold variantNames at hvn
    exact (List.nodup_append.mp hvn).1
  refine ⟨tv, hw, ?_, ?_⟩
  · intro vt hvt hname
    have := find_by_name c.s _ hnames vt hvt
    rw [hname] at this
    obtain ⟨payload, hp⟩ := h1 vt this
    rw [hname] at hp
    exact ⟨payload, hp⟩
  · intro hun
    apply h2
    rw [List.find?_eq_none]; intro vt hvt; simpa using hun vt hvt


end E2E
end C01
end GqlVerif
