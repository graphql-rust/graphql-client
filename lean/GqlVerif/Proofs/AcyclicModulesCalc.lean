import GqlVerif.Proofs.SerdeFuelCodegen
/-!
# where the input-free jumps of the `calc*` items lead

`Acyclic e d` (`SerdeFuelAcyclic`) asks for a rank decreasing along alias → target and struct → flattened member.  This
file proves, class-free, by induction on the derivation of a `calcSelection` call (`C02.CalcSel`), what those jumps
are for every item the block emits:

* an alias is `pub` and its target is the name of a fragment spread in the selections at hand (`Used`);
* a flattened member of a struct `n` is the name of such a fragment, or `n ++ "On"` with a `tagged` item of that name
  emitted next to the struct (`renderType`);
* the FIRST item of a `calcSelection` call (the one that carries the name the caller asked for — the only kind of item a
  jump can lead to) jumps only to fragments spread at the TOP level of its selection set, with the type condition of
  the struct — or, for a lone spread, to that fragment (`HeadOK`).

The same-level spread relation on the resolved query is defined here too.
-/
namespace GqlVerif
namespace AcyclicM
open Codegen

/-! ## the same-level spread relation of a resolved query -/

/-- fragments spread at the top level of a selection set (not below a field, not inside an inline fragment) -/
def topSpreads : List Sel → List Nat
  | [] => []
  | .spread g :: rest => g :: topSpreads rest
  | .field _ _ _ :: rest => topSpreads rest
  | .inline _ _ :: rest => topSpreads rest
  | .typename :: rest => topSpreads rest

/-- fragments spread at the SAME LEVEL: at the top level of the selection set, or at the top level of one of its
    (top-level) inline fragments — never below a field -/
def sameLevel : List Sel → List Nat
  | [] => []
  | .spread g :: rest => g :: sameLevel rest
  | .inline _ sub :: rest => topSpreads sub ++ sameLevel rest
  | .field _ _ _ :: rest => sameLevel rest
  | .typename :: rest => sameLevel rest

theorem mem_topSpreads {g : Nat} : ∀ {sels : List Sel}, g ∈ topSpreads sels ↔ Sel.spread g ∈ sels
  | [] => by simp [topSpreads]
  | x :: rest => by
    cases x <;> simp [topSpreads, mem_topSpreads (sels := rest)]

theorem topSpreads_sub_sameLevel {g : Nat} : ∀ {sels : List Sel}, g ∈ topSpreads sels → g ∈ sameLevel sels
  | [], h => by simp [topSpreads] at h
  | x :: rest, h => by
    cases x with
    | spread g' =>
      simp only [topSpreads, List.mem_cons] at h
      simp only [sameLevel, List.mem_cons]
      exact h.imp id topSpreads_sub_sameLevel
    | field a b c =>
      simp only [topSpreads] at h
      simp only [sameLevel]; exact topSpreads_sub_sameLevel h
    | inline t sub =>
      simp only [topSpreads] at h
      simp only [sameLevel, List.mem_append]; exact .inr (topSpreads_sub_sameLevel h)
    | typename =>
      simp only [topSpreads] at h
      simp only [sameLevel]; exact topSpreads_sub_sameLevel h

/-- the fragments the FIRST item emitted for fragment `f` jumps to: a lone spread makes `f` a type alias of it; otherwise
    the struct `f` has one flattened member per top-level spread whose fragment has the type condition of `f`
    (`calcFields` skips the others, `calcSelection` turns them into variants) -/
def jumpSpreads (q : Query) (f : RFragment) : List Nat :=
  match f.sels with
  | [.spread g] => [g]
  | sels => (topSpreads sels).filter (fun g => match q.fragments[g]? with
      | some fg => decide (fg.on = f.on)
      | none => false)

theorem jumpSpreads_sub_top (q : Query) (f : RFragment) : ∀ g ∈ jumpSpreads q f, g ∈ topSpreads f.sels := by
  intro g hg
  unfold jumpSpreads at hg
  split at hg
  · rename_i g' heq
    simp only [List.mem_singleton] at hg
    subst hg
    rw [heq]; simp [topSpreads]
  · exact (List.mem_filter.mp hg).1

/-- `r` decreases along the jumps of the first items: the weakest rank condition the proof needs -/
def SpreadRanked (q : Query) (r : Nat → Nat) : Prop :=
  ∀ g f, q.fragments[g]? = some f → ∀ h ∈ jumpSpreads q f, r h < r g

/-- `r` decreases along every same-level spread `F → G` (`G` spread at the top level of `F`'s body or at the top level
    of an inline fragment of its body) -/
def SameLevelRanked (q : Query) (r : Nat → Nat) : Prop :=
  ∀ g f, q.fragments[g]? = some f → ∀ h ∈ sameLevel f.sels, r h < r g

theorem SameLevelRanked.spreadRanked {q : Query} {r : Nat → Nat} (h : SameLevelRanked q r) : SpreadRanked q r :=
  fun g f hf x hx => h g f hf x (topSpreads_sub_sameLevel (jumpSpreads_sub_top q f x hx))

/-! ## what an emitted item jumps to -/

def isTagged : Item → Bool
  | .tagged .. => true
  | _ => false

def FragTarget (q : Query) (Used : Nat → Prop) (p : String) : Prop :=
  ∃ g fg, q.fragments[g]? = some fg ∧ Used g ∧ fg.name = p

/-- the `tagged` partner of a struct with variants -/
def OnPartner (L : List Item) (n p : String) : Prop :=
  p = n ++ "On" ∧ ∃ it' ∈ L, it'.name = n ++ "On" ∧ isTagged it' = true

/-- the jumps of one item (`L`: the items emitted with it) -/
def ItemOK (q : Query) (Used : Nat → Prop) (L : List Item) : Item → Prop
  | .alias _ pub t => pub = true ∧ FragTarget q Used (Scope.leaf t)
  | .struct n _ _ fs => ∀ f ∈ fs, f.flatten = true →
      FragTarget q Used (Scope.leaf f.ty) ∨ OnPartner L n (Scope.leaf f.ty)
  | _ => True

def LocalOK (q : Query) (Used : Nat → Prop) (L : List Item) : Prop := ∀ it ∈ L, ItemOK q Used L it

def TopTarget (q : Query) (ty : TypeId) (sels : List Sel) (p : String) : Prop :=
  ∃ g fg, Sel.spread g ∈ sels ∧ q.fragments[g]? = some fg ∧ fg.on = ty ∧ fg.name = p

/-- the jumps of the first item of `calcSelection … ty sels` -/
def HeadOK (q : Query) (L : List Item) (ty : TypeId) (sels : List Sel) : Item → Prop
  | .alias _ pub t => pub = true ∧ ∃ g fg, sels = [.spread g] ∧ q.fragments[g]? = some fg ∧ fg.name = Scope.leaf t
  | .struct n _ _ fs => (∀ g, sels ≠ [Sel.spread g]) ∧ ∀ f ∈ fs, f.flatten = true →
      TopTarget q ty sels (Scope.leaf f.ty) ∨ OnPartner L n (Scope.leaf f.ty)
  | _ => True

theorem OnPartner.mono {L L' : List Item} {n p : String} (hs : ∀ x ∈ L, x ∈ L') (h : OnPartner L n p) :
    OnPartner L' n p := by
  obtain ⟨h1, it', h2, h3⟩ := h
  exact ⟨h1, it', hs _ h2, h3⟩

theorem ItemOK.mono {q : Query} {Used : Nat → Prop} {L L' : List Item} (hs : ∀ x ∈ L, x ∈ L') :
    ∀ {it : Item}, ItemOK q Used L it → ItemOK q Used L' it
  | .alias .., h => h
  | .struct .., h => fun f hf hfl => (h f hf hfl).imp id (OnPartner.mono hs)
  | .unitStruct .., _ => trivial
  | .tagged .., _ => trivial
  | .gqlEnum .., _ => trivial
  | .oneOf .., _ => trivial
  | .defaults .., _ => trivial

theorem HeadOK.mono {q : Query} {L L' : List Item} {ty : TypeId} {sels : List Sel} (hs : ∀ x ∈ L, x ∈ L') :
    ∀ {it : Item}, HeadOK q L ty sels it → HeadOK q L' ty sels it
  | .alias .., h => h
  | .struct .., h => ⟨h.1, fun f hf hfl => (h.2 f hf hfl).imp id (OnPartner.mono hs)⟩
  | .unitStruct .., _ => trivial
  | .tagged .., _ => trivial
  | .gqlEnum .., _ => trivial
  | .oneOf .., _ => trivial
  | .defaults .., _ => trivial

theorem LocalOK.nil {q : Query} {Used : Nat → Prop} : LocalOK q Used [] := fun _ h => by cases h

theorem LocalOK.append {q : Query} {Used : Nat → Prop} {A B : List Item} (ha : LocalOK q Used A)
    (hb : LocalOK q Used B) : LocalOK q Used (A ++ B) := by
  intro it hit
  rcases List.mem_append.mp hit with h | h
  · exact (ha it h).mono (fun x hx => List.mem_append_left _ hx)
  · exact (hb it h).mono (fun x hx => List.mem_append_right _ hx)

theorem aliasItem_itemOK {q : Query} {Used : Nat → Prop} (L : List Item) (n : String) (b : Bool) {g : Nat}
    {fg : RFragment} (hf : q.fragments[g]? = some fg) (hu : Used g) : ItemOK q Used L (aliasItem n fg.name b) := by
  cases b <;> exact ⟨rfl, g, fg, hf, hu, rfl⟩

theorem localOK_alias {q : Query} {Used : Nat → Prop} (n : String) (b : Bool) {g : Nat}
    {fg : RFragment} (hf : q.fragments[g]? = some fg) (hu : Used g) : LocalOK q Used [aliasItem n fg.name b] := by
  intro it hit
  simp only [List.mem_singleton] at hit
  subst hit
  exact aliasItem_itemOK _ n b hf hu

theorem renderField_flat {c : Ctx} {g : Option String} {r ft : String} {quals : List Qual} {fl bx : Bool}
    {dep : Option (Option String)} {o : Option RField}
    (h : renderField c g r ft quals fl bx dep = .ok o) : ∀ f ∈ o.toList, f.flatten = fl ∧ Scope.leaf f.ty = ft := by
  intro f hf
  refine ⟨?_, C02.renderField_leaf h f hf⟩
  obtain ⟨_, _, ⟨rfl, _⟩ | ⟨f', rfl, _, _, hfl, _⟩⟩ := C02.renderField_cases h
  · simp at hf
  · simp only [Option.toList_some, List.mem_singleton] at hf
    subst hf
    exact hfl

/-- `renderType`: the first item carries the name, the struct's extra flattened member is `name ++ "On"` with its
    `tagged` partner next to it -/
theorem renderType_spec (c : Ctx) (name : String) (fields : List RField) (variants : List RVariant) :
    ∃ hd tl, renderType c name fields variants = hd :: tl ∧ hd.name = name ∧
      (∀ it ∈ hd :: tl, ∀ n d sc fs, it = .struct n d sc fs → it = hd ∧ n = name ∧ ∀ f ∈ fs, f ∈ fields ∨
          OnPartner (hd :: tl) n (Scope.leaf f.ty)) ∧
      (∀ it ∈ hd :: tl, ∀ n pub t, it ≠ .alias n pub t) := by
  rcases C02.renderType_cases c name fields variants with e | e | e <;> rw [e]
  · refine ⟨_, [], rfl, rfl, ?_, ?_⟩
    · intro it hit n d sc fs he
      simp only [List.mem_singleton] at hit
      subst hit; cases he
    · intro it hit n pub t he
      simp only [List.mem_singleton] at hit
      subst hit; cases he
  · refine ⟨_, [], rfl, rfl, ?_, ?_⟩
    · intro it hit n d sc fs he
      simp only [List.mem_singleton] at hit
      subst hit
      cases he
      exact ⟨rfl, rfl, fun f hf => .inl hf⟩
    · intro it hit n pub t he
      simp only [List.mem_singleton] at hit
      subst hit; cases he
  · refine ⟨_, [_], rfl, rfl, ?_, ?_⟩
    · intro it hit n d sc fs he
      simp only [List.mem_cons, List.not_mem_nil, or_false] at hit
      rcases hit with rfl | rfl
      · cases he
        refine ⟨rfl, rfl, fun f hf => ?_⟩
        rcases List.mem_append.mp hf with hf | hf
        · exact .inl hf
        · simp only [List.mem_singleton] at hf
          subst hf
          exact .inr ⟨rfl, _, List.mem_cons_of_mem _ List.mem_cons_self, rfl, rfl⟩
      · cases he
    · intro it hit n pub t he
      simp only [List.mem_cons, List.not_mem_nil, or_false] at hit
      rcases hit with rfl | rfl <;> cases he

theorem renderType_localOK {q : Query} {Used : Nat → Prop} (c : Ctx) (name : String) (fields : List RField)
    (variants : List RVariant) (hf : ∀ f ∈ fields, f.flatten = true → FragTarget q Used (Scope.leaf f.ty)) :
    LocalOK q Used (renderType c name fields variants) := by
  obtain ⟨hd, tl, heq, _, hst, hal⟩ := renderType_spec c name fields variants
  rw [heq]
  intro it hit
  cases it with
  | «alias» n pub t => exact absurd rfl (hal _ hit n pub t)
  | struct n d sc fs =>
    obtain ⟨_, _, hfs⟩ := hst _ hit n d sc fs rfl
    intro f hfm hfl
    rcases hfs f hfm with h | h
    · exact .inl (hf f h hfl)
    · exact .inr h
  | _ => trivial

theorem renderType_headOK {q : Query} (c : Ctx) (name : String) (fields : List RField) (variants : List RVariant)
    (ty : TypeId) (sels : List Sel) (hsp : ∀ g, sels ≠ [Sel.spread g])
    (hf : ∀ f ∈ fields, f.flatten = true → TopTarget q ty sels (Scope.leaf f.ty)) :
    ∃ hd tl, renderType c name fields variants = hd :: tl ∧ hd.name = name ∧ HeadOK q (hd :: tl) ty sels hd := by
  obtain ⟨hd, tl, heq, hn, hst, hal⟩ := renderType_spec c name fields variants
  refine ⟨hd, tl, heq, hn, ?_⟩
  cases hd with
  | «alias» n pub t => exact absurd rfl (hal _ List.mem_cons_self n pub t)
  | struct n d sc fs =>
    obtain ⟨_, _, hfs⟩ := hst _ List.mem_cons_self n d sc fs rfl
    refine ⟨hsp, fun f hfm hfl => ?_⟩
    rcases hfs f hfm with h | h
    · exact .inl (hf f h hfl)
    · exact .inr h
  | _ => trivial

/-! ## the variant selections -/

/-- the spreads of a variant selection are `Used` -/
def VOK (q : Query) (Used : Nat → Prop) : VariantSel → Prop
  | .inline _ sub => ∀ g, C02.Reach q sub (.spread g) → Used g
  | .spread g fg => q.fragments[g]? = some fg ∧ Used g

theorem reach_mono {q : Query} {a b : List Sel} (hs : ∀ x ∈ a, x ∈ b) {x : Sel} (h : C02.Reach q a x) :
    C02.Reach q b x := by
  cases h with
  | here hm => exact .here (hs _ hm)
  | field hm hr => exact .field (hs _ hm) hr
  | inline hm hr => exact .inline (hs _ hm) hr
  | spread hm hf hr => exact .spread (hs _ hm) hf hr

theorem variantSels_vok {c : Ctx} (Used : Nat → Prop) (ty : TypeId) (sels : List Sel) (vsels : List VariantSel)
    (h : sels.filterMapM (variantSelOf c.q ty) = .ok vsels) (hU : ∀ g, C02.Reach c.q sels (.spread g) → Used g) :
    ∀ v ∈ vsels, VOK c.q Used v := by
  have ⟨h1, h2⟩ := C02.variantSels_origin h
  intro v hv
  cases v with
  | inline t sub => exact fun g hg => hU g (.inline (h1 t sub hv) hg)
  | spread g fr => exact ⟨(h2 g fr hv).2.1, hU g (.here (h2 g fr hv).1)⟩

/-! ## the `calc*` block -/

section Calc
variable {c : Ctx} {Used : Nat → Prop}

theorem TopTarget.cons {q : Query} {ty : TypeId} {x : Sel} {sels : List Sel} {p : String}
    (h : TopTarget q ty sels p) : TopTarget q ty (x :: sels) p := by
  obtain ⟨g, fg, h1, h2⟩ := h
  exact ⟨g, fg, List.mem_cons_of_mem _ h1, h2⟩

theorem fragTarget_of_top {q : Query} {ty : TypeId} {sels : List Sel} {p : String}
    (hU : ∀ g, C02.Reach q sels (.spread g) → Used g) (h : TopTarget q ty sels p) : FragTarget q Used p := by
  obtain ⟨g, fg, h1, h2, _, h4⟩ := h
  exact ⟨g, fg, h2, hU g (.here h1), h4⟩

/-- **the jumps of every item of a `calcSelection` call** whose spreads, at any depth, are `Used`: every item is
    `ItemOK` among the items emitted with it, and the first item is the one named `name`, with the jumps of `HeadOK` -/
theorem _root_.GqlVerif.C02.CalcSel.jumps {name pfx : String} {ty : TypeId} {sels : List Sel} {items : List Item}
    (h : C02.CalcSel c name pfx ty sels items) : (∀ g, C02.Reach c.q sels (.spread g) → Used g) →
    LocalOK c.q Used items ∧ ∃ hd tl, items = hd :: tl ∧ hd.name = name ∧ HeadOK c.q items ty sels hd := by
  induction h using C02.CalcSel.rec
    (motive_2 := fun _ _ vsels _ _ items _ => (∀ v ∈ vsels, VOK c.q Used v) → LocalOK c.q Used items)
    (motive_3 := fun sname _ _ mine fs items al _ => (∀ v ∈ mine, VOK c.q Used v) →
      (∀ f ∈ fs, f.flatten = true → FragTarget c.q Used (Scope.leaf f.ty)) ∧ LocalOK c.q Used items ∧
      ∀ a ∈ al, ∃ tgt b, a = aliasItem sname tgt b ∧ FragTarget c.q Used tgt)
    (motive_4 := fun _ ty sels fs items _ => (∀ g, C02.Reach c.q sels (.spread g) → Used g) →
      (∀ f ∈ fs, f.flatten = true → TopTarget c.q ty sels (Scope.leaf f.ty)) ∧ LocalOK c.q Used items) with
  | @«alias» name pfx ty g fr hfr =>
    intro hU
    have hfr := C02.getFragment_ok hfr
    refine ⟨localOK_alias _ _ hfr (hU g (.here List.mem_cons_self)), _, [], rfl, ?_, ?_⟩
    · cases fragmentIsRecursive c.q g <;> rfl
    · cases fragmentIsRecursive c.q g <;> exact ⟨rfl, g, fr, rfl, hfr, rfl⟩
  | @concrete name pfx ty sels fs fitems hsp _ _ ih =>
    intro hU
    have ⟨f1, f2⟩ := ih hU
    refine ⟨(renderType_localOK c name fs [] (fun f hf hfl => fragTarget_of_top hU (f1 f hf hfl))).append f2, ?_⟩
    obtain ⟨hd, tl, heq, hn, hh⟩ := renderType_headOK (q := c.q) c name fs [] ty sels hsp f1
    rw [heq]
    exact ⟨hd, tl ++ fitems, rfl, hn, hh.mono (fun x hx => List.mem_append_left _ hx)⟩
  | @abstract name pfx ty sels vts vsels vs vitems fs fitems hsp _ hvs _ _ ihv ihf =>
    intro hU
    have ⟨f1, f2⟩ := ihf hU
    have hv := ihv (variantSels_vok Used ty sels vsels hvs hU)
    refine ⟨((renderType_localOK c name fs _ (fun f hf hfl => fragTarget_of_top hU (f1 f hf hfl))).append hv).append f2,
      ?_⟩
    obtain ⟨hd, tl, heq, hn, hh⟩ := renderType_headOK (q := c.q) c name fs
      (vs ++ if c.o.otherVariant then [{ name := "Unknown", other := true }] else []) ty sels hsp f1
    rw [heq]
    exact ⟨hd, tl ++ vitems ++ fitems, by simp, hn,
      hh.mono (fun x hx => List.mem_append_left _ (List.mem_append_left _ hx))⟩
  | vnil => exact LocalOK.nil
  | bare _ _ _ ih => rename_i hV; exact ih hV
  | @lone name pfx vsels vt rest vname g fr vs items _ hm _ ih =>
    rename_i hV
    have hg : c.q.fragments[g]? = some fr ∧ Used g :=
      hV (.spread g fr) (List.mem_filter.mp (hm ▸ List.mem_cons_self : VariantSel.spread g fr ∈ _)).1
    exact (localOK_alias _ _ hg.1 hg.2).append (ih hV)
  | aliasOnly _ hm _ _ _ _ _ ihs ih =>
    rename_i hV
    obtain ⟨_, r2, r3⟩ := ihs (fun v hv => hV v (List.mem_filter.mp (hm ▸ hv)).1)
    obtain ⟨tgt, b, rfl, g, fg, hfg, hu, rfl⟩ := r3 _ List.mem_cons_self
    exact ((localOK_alias _ b hfg hu).append r2).append (ih hV)
  | struct _ hm _ _ _ _ hex _ ihs ih =>
    rename_i hV
    obtain ⟨r1, r2, r3⟩ := ihs (fun v hv => hV v (List.mem_filter.mp (hm ▸ hv)).1)
    refine ((renderType_localOK c _ _ _ (fun f hf hfl => ?_)).append r2).append (ih hV)
    rcases List.mem_append.mp hf with hf | hf
    · exact r1 f hf hfl
    · exact C02.aliasMembers_leaf hex (P := FragTarget c.q Used) r3 f hf
  | snil => exact ⟨fun f hf => (nomatch hf), LocalOK.nil, fun a ha => (nomatch ha)⟩
  | @inlineLone sname pfx vt t tn g fr rest fs items al _ hfr _ ih =>
    rename_i hV
    have ⟨ih1, ih2, ih3⟩ := ih (fun v hv => hV v (List.mem_cons_of_mem _ hv))
    have hsub : ∀ g', C02.Reach c.q [Sel.spread g] (.spread g') → Used g' := hV _ List.mem_cons_self
    refine ⟨ih1, ih2, fun a ha => ?_⟩
    rcases List.mem_cons.mp ha with rfl | ha
    · exact ⟨fr.name, _, rfl, g, fr, C02.getFragment_ok hfr, hsub g (.here List.mem_cons_self), rfl⟩
    · exact ih3 a ha
  | inlineFields _ _ _ _ ihf ih =>
    rename_i hV
    have ⟨ih1, ih2, ih3⟩ := ih (fun v hv => hV v (List.mem_cons_of_mem _ hv))
    have hsub := hV _ List.mem_cons_self
    have ⟨k1, k2⟩ := ihf hsub
    exact ⟨fun f hf => (List.mem_append.mp hf).elim (fun hf hfl => fragTarget_of_top hsub (k1 f hf hfl)) (ih1 f),
      k2.append ih2, ih3⟩
  | @spreadMember sname pfx vt g fr fld rest fs items al hfld _ ih =>
    rename_i hV
    have ⟨ih1, ih2, ih3⟩ := ih (fun v hv => hV v (List.mem_cons_of_mem _ hv))
    have hg : c.q.fragments[g]? = some fr ∧ Used g := hV _ List.mem_cons_self
    refine ⟨fun f hf hfl => ?_, ih2, ih3⟩
    rcases List.mem_append.mp hf with hf | hf
    · exact ⟨g, fr, hg.1, hg.2, ((renderField_flat hfld f hf).2).symm⟩
    · exact ih1 f hf hfl
  | nil => exact ⟨fun f hf => (nomatch hf), LocalOK.nil⟩
  | enum _ _ _ hfld _ ih =>
    rename_i hU
    have ⟨ih1, ih2⟩ := ih (fun g hg => hU g (reach_mono (fun y hy => List.mem_cons_of_mem _ hy) hg))
    refine ⟨fun f hf hfl => ?_, ih2⟩
    rcases List.mem_append.mp hf with hf | hf
    · rw [(renderField_flat hfld f hf).1] at hfl; cases hfl
    · exact (ih1 f hf hfl).cons
  | scalar _ _ _ hfld _ ih =>
    rename_i hU
    have ⟨ih1, ih2⟩ := ih (fun g hg => hU g (reach_mono (fun y hy => List.mem_cons_of_mem _ hy) hg))
    refine ⟨fun f hf hfl => ?_, ih2⟩
    rcases List.mem_append.mp hf with hf | hf
    · rw [(renderField_flat hfld f hf).1] at hfl; cases hfl
    · exact (ih1 f hf hfl).cons
  | nested _ _ _ _ hfld _ _ ihs ih =>
    rename_i hU
    have ⟨ih1, ih2⟩ := ih (fun g hg => hU g (reach_mono (fun y hy => List.mem_cons_of_mem _ hy) hg))
    refine ⟨fun f hf hfl => ?_, (ihs (fun g hg => hU g (.field List.mem_cons_self hg))).1.append ih2⟩
    rcases List.mem_append.mp hf with hf | hf
    · rw [(renderField_flat hfld f hf).1] at hfl; cases hfl
    · exact (ih1 f hf hfl).cons
  | spreadOther _ _ _ ih =>
    rename_i hU
    have ⟨ih1, ih2⟩ := ih (fun g hg => hU g (reach_mono (fun y hy => List.mem_cons_of_mem _ hy) hg))
    exact ⟨fun f hf hfl => (ih1 f hf hfl).cons, ih2⟩
  | @spreadHere pfx ty g fr fld rest fs items hfr hon hfld _ ih =>
    rename_i hU
    have ⟨ih1, ih2⟩ := ih (fun g hg => hU g (reach_mono (fun y hy => List.mem_cons_of_mem _ hy) hg))
    refine ⟨fun f hf hfl => ?_, ih2⟩
    rcases List.mem_append.mp hf with hf | hf
    · exact ⟨g, fr, List.mem_cons_self, C02.getFragment_ok hfr, by simpa using hon,
        ((renderField_flat hfld f hf).2).symm⟩
    · exact (ih1 f hf hfl).cons
  | typename _ ih =>
    rename_i hU
    have ⟨ih1, ih2⟩ := ih (fun g hg => hU g (reach_mono (fun y hy => List.mem_cons_of_mem _ hy) hg))
    exact ⟨fun f hf hfl => (ih1 f hf hfl).cons, ih2⟩
  | inline _ ih =>
    rename_i hU
    have ⟨ih1, ih2⟩ := ih (fun g hg => hU g (reach_mono (fun y hy => List.mem_cons_of_mem _ hy) hg))
    exact ⟨fun f hf hfl => (ih1 f hf hfl).cons, ih2⟩

/-- `CalcSel.jumps` about a run -/
theorem calc_jumps {fuel : Nat} {name pfx : String} {ty : TypeId} {sels : List Sel} {items : List Item}
    (h : calcSelection c fuel name pfx ty sels = .ok items) (hU : ∀ g, C02.Reach c.q sels (.spread g) → Used g) :
    LocalOK c.q Used items ∧ ∃ hd tl, items = hd :: tl ∧ hd.name = name ∧ HeadOK c.q items ty sels hd :=
  (C02.CalcSel.of_ok h).jumps hU

end Calc

end AcyclicM
end GqlVerif
