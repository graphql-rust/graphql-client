import GqlVerif.Proofs.C04Keys
import GqlVerif.Proofs.C02Response

/-!
# C04 (second half) — every valid variables assignment is expressible; what is written is valid

This file: the specification, the canonical form, the typing of `Val`, what the theorems need of a module.

## Specification (GraphQL spec §3.10 Input Objects, §3.5 Scalars, §3.9 Enums, §3.12 wrapping types, §5.6 values)

`Valid L s id b t j`: the JSON value `j` is valid at a position whose type expression is `t` (only the `[ ]` / `!`
structure of `t` matters) over the named type `id`; `b = true`: non-null context.
* `null` exactly at nullable positions; lists (JSON arrays, element-wise) at list positions — the specification's
  coercion of a single value to a one-element list is **not** included;
* input object: a JSON object without repeated keys, all keys declared fields, every absent field nullable
  (defaults are ignored, as the generator does: every non-null field is required), every present value valid for the
  field's type — recursive input types need no special treatment: the recursion is on the derivation, i.e. on the
  JSON value;
* `@oneOf`: an object with exactly one member, a declared field, whose value is valid at the field's type made
  non-null;
* enum: a string; with `L.enumOpen = false` one of the schema's value names (**closed**, the specification), with
  `true` any string (**open world**, what the generated `Other(String)` variant accepts);
* scalars by name: `Int` an integer with `L.intOk` (`int32Ok`: the specification; `inI64`: the generated `i64`),
  `Float` any JSON number, `Boolean`, `String`, `ID` a string or an integer with `L.idInt`, every custom scalar a
  string (the consumer's type is taken to be `String`).
`Leaves.graphql` is the specification, `Leaves.wire` what the generated types can write.

`canon s skip id t j`: the **canonical form** the generated types write: members of every input object in declaration
order, every absent nullable member an explicit `null` (`skip = false`) / every `null` member dropped (`skip = true`:
`skip_serializing_none`), an integer at an `ID` position as its decimal string; nothing else changes
(`assemble_keys`, `assemble_lookup` in the examples file make this precise).

`HasTy e r x`: `x` is a value of the Rust type `r` in the module `e` ("a `Val` of the generated type").  The four
leaf names `String`/`i64`/`f64`/`bool` are resolved first, as `Serde.dePath` does.

`InputEnv c e U`: what the theorems need of the module `e`: the names of the used (`U`) scalars, enums, input types
resolve to the items the generator emits for them (closed forms `inputItemSpec`, `enumItem`), custom scalars / extern
enums to a consumer type `String`; distinct member identifiers.  `inputEnv_of_module` proves it for the module
`responseForQuery` emits.
-/
namespace GqlVerif
namespace C04S
open Codegen Serde C13

/-! ## specification -/

/-- the leaf conventions the specification is parametric in -/
structure Leaves where
  /-- integers allowed at `Int` positions -/
  intOk : Int → Bool
  /-- integers allowed at `ID` positions (strings always are) -/
  idInt : Int → Bool
  /-- `true`: any string at an enum position; `false`: only the schema's value names -/
  enumOpen : Bool

/-- GraphQL `Int`: signed 32 bits (spec §3.5.1) -/
def int32Ok (n : Int) : Bool := -2147483648 ≤ n && n ≤ 2147483647

/-- the GraphQL specification: 32-bit `Int`, `ID` from a string or any integer, closed enums -/
def Leaves.graphql : Leaves := { intOk := int32Ok, idInt := fun _ => true, enumOpen := false }
/-- what the generated types write: 64-bit `Int` (`i64`), `ID` only as a string, open-world enums -/
def Leaves.wire : Leaves := { intOk := inI64, idInt := fun _ => false, enumOpen := true }

/-- a scalar value, by the *name* of the scalar; a custom scalar is whatever the consumer's type accepts: `String` -/
def scalarOk (L : Leaves) (n : String) (j : Json) : Bool :=
  if n == "Int" then (match j with | .int k => L.intOk k | _ => false)
  else if n == "Float" then Spec.floatOk j
  else if n == "Boolean" then Spec.boolOk j
  else if n == "ID" then (match j with | .str _ => true | .int k => L.idInt k | _ => false)
  else Spec.stringOk j

/-- what `scalarOk` accepts, by the name of the scalar -/
inductive ScalarShape (L : Leaves) : String → Json → Prop
  | int {m : Int} : L.intOk m = true → ScalarShape L "Int" (.int m)
  | floatInt (m : Int) : ScalarShape L "Float" (.int m)
  | floatNum (t : String) : ScalarShape L "Float" (.num t)
  | bool (b : Bool) : ScalarShape L "Boolean" (.bool b)
  | idStr (t : String) : ScalarShape L "ID" (.str t)
  | idInt {m : Int} : L.idInt m = true → ScalarShape L "ID" (.int m)
  | other {n : String} (t : String) : n ≠ "Int" → n ≠ "Float" → n ≠ "Boolean" → n ≠ "ID" → ScalarShape L n (.str t)

theorem scalarShape_of_ok {L : Leaves} {n : String} {j : Json} (h : scalarOk L n j = true) : ScalarShape L n j := by
  unfold scalarOk at h
  by_cases h1 : n = "Int"
  · subst h1
    cases j <;> simp at h
    exact .int h
  have e1 : (n == "Int") = false := by simpa using h1
  by_cases h2 : n = "Float"
  · subst h2
    cases j <;> simp [Spec.floatOk] at h
    · exact .floatInt _
    · exact .floatNum _
  have e2 : (n == "Float") = false := by simpa using h2
  by_cases h3 : n = "Boolean"
  · subst h3
    cases j <;> simp [Spec.boolOk] at h
    exact .bool _
  have e3 : (n == "Boolean") = false := by simpa using h3
  by_cases h4 : n = "ID"
  · subst h4
    cases j <;> simp at h
    · exact .idInt h
    · exact .idStr _
  have e4 : (n == "ID") = false := by simpa using h4
  simp only [e1, e2, e3, e4, Bool.false_eq_true, ↓reduceIte] at h
  cases j <;> simp [Spec.stringOk] at h
  exact .other _ h1 h2 h3 h4

/-- the type expression with qualifier list `qs` (outer to inner) over the name `n` -/
def ofQuals (n : String) : List Qual → GTy
  | [] => .named n
  | .list :: qs => .list (ofQuals n qs)
  | .required :: qs => .nonNull (ofQuals n qs)

theorem quals_ofQuals (n : String) : ∀ qs : List Qual, (ofQuals n qs).quals = qs
  | [] => rfl
  | .list :: qs => by simp [ofQuals, GTy.quals, quals_ofQuals n qs]
  | .required :: qs => by simp [ofQuals, GTy.quals, quals_ofQuals n qs]

/-- the type expression of a resolved type; the named type is carried separately as a `TypeId`, the base name of
    the expression is immaterial -/
def gty (ft : FieldType) : GTy := ofQuals "" ft.quals

abbrev keys (kvs : List (String × Json)) : List String := kvs.map (·.1)

/-- `j` is a valid input value at a position of type `t` over the named type `id` (`b = true`: in non-null context);
    the rules are those of the header -/
inductive Valid (L : Leaves) (s : Schema) : TypeId → Bool → GTy → Json → Prop
  | null {id t} : isNN t = false → Valid L s id false t .null
  | some {id t j} : isNN t = false → Valid L s id true t j → Valid L s id false t j
  | bang {id b t j} : Valid L s id true t j → Valid L s id b (.nonNull t) j
  | list {id t xs} : (∀ x ∈ xs, Valid L s id false t x) → Valid L s id true (.list t) (.arr xs)
  | scalar {k n nm j} : s.scalars[k]? = some n → scalarOk L n j = true → Valid L s (.scalar k) true (.named nm) j
  | enum {k en nm v} : s.enums[k]? = some en → (L.enumOpen = true ∨ v ∈ en.variants) →
      Valid L s (.enum k) true (.named nm) (.str v)
  | object {k i nm kvs} : s.inputs[k]? = some i → i.isOneOf = false → (keys kvs).Nodup →
      (∀ key ∈ keys kvs, key ∈ i.fields.map (·.1)) →
      (∀ p ∈ i.fields, Json.lookup p.1 kvs = none → isNN (gty p.2) = false) →
      (∀ p ∈ i.fields, ∀ v, Json.lookup p.1 kvs = some v → Valid L s p.2.id false (gty p.2) v) →
      Valid L s (.input k) true (.named nm) (.obj kvs)
  | oneOf {k i nm p v} : s.inputs[k]? = some i → i.isOneOf = true → p ∈ i.fields →
      Valid L s p.2.id false (.nonNull (gty p.2)) v →
      Valid L s (.input k) true (.named nm) (.obj [(p.1, v)])

/-- element type of a list type (through `!`) -/
def elemTy : GTy → GTy
  | .nonNull t => elemTy t
  | .list t => t
  | .named n => .named n

/-- the named type is the scalar `ID` -/
def isID (s : Schema) : TypeId → Bool
  | .scalar k => s.scalars[k]? == some "ID"
  | _ => false

/-- the members of an input object in declaration order: absent = `null`; with `skip` the `null`s are dropped -/
def assemble (skip : Bool) (fields : List (String × FieldType)) (kvs : List (String × Json)) : List (String × Json) :=
  fields.filterMap fun p =>
    let v := (Json.lookup p.1 kvs).getD .null
    if skip && v.isNull then none else some (p.1, v)

/-- the input type behind an id -/
def inputOf (s : Schema) : TypeId → Option StoredInput
  | .input k => s.inputs[k]?
  | _ => none

mutual
  /-- the spelling `Serialize` produces for a valid value: members of a plain input object in declaration order with the
      absent ones filled in (`assemble`), integer IDs as strings.  A valid `@oneOf` object has exactly one member, so there
      is nothing to order or fill in and it is not assembled.  Structural recursion on the JSON value; the type is only
      used to find the field lists of nested input objects and the `ID` positions -/
  def canon (s : Schema) (skip : Bool) : TypeId → GTy → Json → Json
    | id, t, .arr xs => .arr (canonList s skip id (elemTy t) xs)
    | id, _, .obj kvs =>
      match inputOf s id with
      | some i => if i.isOneOf then .obj (canonKvs s skip i.fields kvs)
                  else .obj (assemble skip i.fields (canonKvs s skip i.fields kvs))
      | none => .obj kvs
    | id, _, .int n => if isID s id then .str (toString n) else .int n
    | _, _, .null => .null
    | _, _, .bool b => .bool b
    | _, _, .num t => .num t
    | _, _, .str v => .str v
  def canonList (s : Schema) (skip : Bool) : TypeId → GTy → List Json → List Json
    | _, _, [] => []
    | id, t, x :: xs => canon s skip id t x :: canonList s skip id t xs
  def canonKvs (s : Schema) (skip : Bool) : List (String × FieldType) → List (String × Json) → List (String × Json)
    | _, [] => []
    | fields, (k, v) :: rest =>
      (k, match fields.find? (·.1 == k) with
          | some p => canon s skip p.2.id (gty p.2) v
          | none => v) :: canonKvs s skip fields rest
end


/-! ### unfolding `canon` -/

theorem canon_arr (s skip id t xs) : canon s skip id t (.arr xs) = .arr (canonList s skip id (elemTy t) xs) := by
  rw [canon]
theorem canon_null (s skip id t) : canon s skip id t .null = .null := by
  rw [canon]
theorem canon_str (s skip id t v) : canon s skip id t (.str v) = .str v := by
  rw [canon]
theorem canon_bool (s skip id t v) : canon s skip id t (.bool v) = .bool v := by
  rw [canon]
theorem canon_num (s skip id t v) : canon s skip id t (.num v) = .num v := by
  rw [canon]
theorem canon_int (s skip id t n) : canon s skip id t (.int n) = if isID s id then .str (toString n) else .int n := by
  rw [canon]
theorem canonList_eq_map (s skip id t) : ∀ xs, canonList s skip id t xs = xs.map (canon s skip id t)
  | [] => by rw [canonList]; rfl
  | x :: xs => by rw [canonList, canonList_eq_map s skip id t xs]; rfl

theorem canon_obj_input (s skip k t kvs i) (hi : s.inputs[k]? = some i) :
    canon s skip (.input k) t (.obj kvs) =
      if i.isOneOf then .obj (canonKvs s skip i.fields kvs)
      else .obj (assemble skip i.fields (canonKvs s skip i.fields kvs)) := by
  rw [canon]; simp only [inputOf, hi]

theorem canon_isNull (s skip id t) (j : Json) : (canon s skip id t j).isNull = j.isNull := by
  cases j with
  | null => rw [canon_null]
  | bool b => rw [canon_bool]
  | num v => rw [canon_num]
  | str v => rw [canon_str]
  | int n => rw [canon_int]; split <;> rfl
  | arr xs => rw [canon_arr]; rfl
  | obj kvs =>
    rw [canon]
    cases inputOf s id with
    | none => rfl
    | some i => simp only; split <;> rfl

/-- `!` is immaterial for the canonical form (it never changes a value, only forbids `null`) -/
theorem canon_nonNull (s skip id t) (j : Json) : canon s skip id (.nonNull t) j = canon s skip id t j := by
  cases j with
  | arr xs => rw [canon_arr, canon_arr]; rfl
  | obj kvs => rw [canon, canon]
  | null => rw [canon_null, canon_null]
  | bool b => rw [canon_bool, canon_bool]
  | num v => rw [canon_num, canon_num]
  | str v => rw [canon_str, canon_str]
  | int n => rw [canon_int, canon_int]

/-! ## the values of the generated types (`Val` typing) -/

/-- `x` is a value of the Rust type `t` in the module `e` (the four built-in leaf names are resolved first, as in
    `Serde.dePath`) -/
inductive HasTy (e : Env) : RTy → Val → Prop
  | none {t} : HasTy e (.opt t) .unit
  | some {t x} : HasTy e t x → HasTy e (.opt t) (.some x)
  | vec {t xs} : (∀ x ∈ xs, HasTy e t x) → HasTy e (.vec t) (.list xs)
  | box {t x} : HasTy e t x → HasTy e (.box t) x
  | string {v} : HasTy e (.path "String") (.str v)
  | i64 {n} : inI64 n = true → HasTy e (.path "i64") (.int n)
  | f64 {j} : Spec.floatOk j = true → HasTy e (.path "f64") (.float j)
  | bool {b} : HasTy e (.path "bool") (.bool b)
  | alias {p n pub t x} : C01.notPrim p → e.find p = some (.alias n pub t) → HasTy e t x → HasTy e (.path p) x
  | extern {p q t x} : C01.notPrim p → e.find p = none → e.externs.find? (·.1 == p) = some (q, t) → HasTy e t x →
      HasTy e (.path p) x
  | struct {p n d sc fs vals} : C01.notPrim p → e.find p = some (.struct n d sc fs) →
      vals.map (·.1) = fs.map (·.rust) → (∀ f ∈ fs, HasTy e f.ty (C01.valOf vals f.rust)) →
      HasTy e (.path p) (.record vals)
  | unitStruct {p n d sc} : C01.notPrim p → e.find p = some (.unitStruct n d sc) → HasTy e (.path p) .unit
  | enumVariant {p n d sp vs ser de name} : C01.notPrim p → e.find p = some (.gqlEnum n d sp vs ser de) → name ∈ vs →
      HasTy e (.path p) (.variant name Option.none)
  | enumOther {p n d sp vs ser de v} : C01.notPrim p → e.find p = some (.gqlEnum n d sp vs ser de) →
      HasTy e (.path p) (.enumOther v)
  | oneOf {p n d sc vs var t x} : C01.notPrim p → e.find p = some (.oneOf n d sc vs) → var ∈ vs →
      var.payload = Option.some t → HasTy e t x → HasTy e (.path p) (.variant var.name (Option.some x))

/-! ## closed form of the emitted input items (normalization `none`) -/

/-- `Box` is put on fields whose *target* is an input type on a cycle without indirection -/
def boxed (c : Ctx) (id : TypeId) : Bool :=
  match id.asInput? with
  | some iid => inputIsRecursive c.s iid
  | none => false

/-- the Rust type of a position of type `t` over the named type `id` -/
def fieldRTy (c : Ctx) (id : TypeId) (t : GTy) : RTy :=
  if boxed c id then .box (rustOf (.path (C02.tnOf c id)) t) else rustOf (.path (C02.tnOf c id)) t

def inputField (c : Ctx) (p : String × FieldType) : RField :=
  { rust := keywordReplace (c.cs.snake p.1), rename := fieldRename p.1 (keywordReplace (c.cs.snake p.1)),
    ty := fieldRTy c p.2.id (gty p.2), skipNone := c.o.skipNone && p.2.isOptional }

def inputVariant (c : Ctx) (p : String × FieldType) : RVariant :=
  { name := keywordReplace (c.cs.camel p.1), rename := fieldRename p.1 (keywordReplace (c.cs.camel p.1)),
    payload := some (fieldRTy c p.2.id (.nonNull (gty p.2))) }

def inputItemSpec (c : Ctx) (i : StoredInput) : Item :=
  if i.isOneOf then .oneOf i.name (allVariableDerives c.o) c.serdeCrate (i.fields.map (inputVariant c))
  else .struct i.name (allVariableDerives c.o) c.serdeCrate (i.fields.map (inputField c))

theorem isNN_ofQuals (n : String) (qs : List Qual) : isNN (ofQuals n qs) = (qs.head? == some .required) := by
  cases qs with
  | nil => rfl
  | cons q qs => cases q <;> rfl

theorem isOptional_eq (ft : FieldType) : ft.isOptional = !isNN (gty ft) := by
  unfold gty FieldType.isOptional
  rw [isNN_ofQuals]
  cases ft.quals with
  | nil => rfl
  | cons q qs => cases q <;> rfl

theorem inputField_wire (c : Ctx) (p : String × FieldType) : (inputField c p).wire = p.1 :=
  C11.input_wire_is_graphql_name _ _ _ _

theorem inputVariant_wire (c : Ctx) (p : String × FieldType) : (inputVariant c p).wire = p.1 :=
  C11.oneof_wire_is_graphql_name _ _ _

/-! ## what the theorems need of the module (`InputEnv`) -/

/-- the Rust identifier of an enum value -/
def variantIdent (c : Ctx) (v : String) : String := enumVariantIdent c.o.normalization c.cs v

/-- the module `e` resolves the names of the used (`U`) scalars, enums and input types to the items the generator
    emits for them; custom scalars and extern enums are supplied by the consumer as `String` -/
structure InputEnv (c : Ctx) (e : Env) (U : TypeId → Prop) : Prop where
  int : e.find "Int" = some (.alias "Int" false (.path "i64"))
  float : e.find "Float" = some (.alias "Float" false (.path "f64"))
  boolean : e.find "Boolean" = some (.alias "Boolean" false (.path "bool"))
  id : e.find "ID" = some (.alias "ID" false (.path "String"))
  custom : ∀ k n, U (.scalar k) → c.s.scalars[k]? = some n → n ∉ Schema.defaultScalars →
    C01.notPrim n ∧ ∃ q, C01.notPrim q ∧ e.find n = some (.alias n false (.path q)) ∧ e.find q = none ∧
      e.externs.find? (·.1 == q) = some (q, .path "String")
  enums : ∀ k en, U (.enum k) → c.s.enums[k]? = some en → C01.notPrim en.name ∧
    ((e.find en.name = some (enumItem c en) ∧ (en.variants.map (variantIdent c)).Nodup) ∨
     (e.find en.name = none ∧ e.externs.find? (·.1 == en.name) = some (en.name, .path "String")))
  inputs : ∀ k i, U (.input k) → c.s.inputs[k]? = some i →
    C01.notPrim i.name ∧ e.find i.name = some (inputItemSpec c i)
  closed : ∀ k i, U (.input k) → c.s.inputs[k]? = some i → ∀ p ∈ i.fields,
    U p.2.id ∧ C02.Relevant p.2.id ∧ wf (gty p.2) = true ∧ (i.isOneOf = true → isNN (gty p.2) = false) ∧
    ∃ tn, c.s.typeName p.2.id = .ok tn
  fieldNames : ∀ k i, U (.input k) → c.s.inputs[k]? = some i → (i.fields.map (·.1)).Nodup
  members : ∀ k i, U (.input k) → c.s.inputs[k]? = some i →
    (i.isOneOf = false → (i.fields.map (fun p => (inputField c p).rust)).Nodup) ∧
    (i.isOneOf = true → (i.fields.map (fun p => (inputVariant c p).name)).Nodup)

end C04S
end GqlVerif
