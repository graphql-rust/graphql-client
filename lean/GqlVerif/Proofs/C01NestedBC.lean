import GqlVerif.Proofs.C01NestedBA
/-!
# `NestedBOp`: exact acceptance (parametric in the fragments' acceptance)

The object level is the one of `AliasFragOp`: `accStructA` is `C01AF.accStructA_of` with the class's own-field facts.  What
is new is `looseTagB` / `accAbsB`: at a position with (b)-spreads the struct (own fields + one flattened member per
(b)-spread + flattened `on`) accepts an object iff the own fields accept it, **every (b)-fragment's own type accepts the
entries they left** (`looseMemB` of `VariantSpreadOp`: all flattened members *borrow*, each reads all those entries — the shared
`__typename` is read by each of them and by the tagged enum) and the tagged enum `…On` accepts those entries, its payloads being
those of `NestedGen2Op` (`accVariantX`) on the selection set without its (b)-spreads.
-/

namespace GqlVerif
namespace C01NB
open Serde Spec C13 C03 Codegen C01 C01.E2E C01N C01NA C01NG C01NX

/-! ## the exact acceptance predicate -/

/-- what the type(s) emitted for a selection set of the class on the abstract type `ty` accept -/
def looseTagB (whole : Nat → Bool → Json → Bool) (s : Schema) (q : Query) (o : Options) (b : Bool) (ty : TypeId)
    (sub : List Sel) : Json → Bool
  | .obj kvs =>
    if (C01NG.ownSels sub).isEmpty && (bSels q ty sub).isEmpty then
      tagOkV s o b (vtsOfTy s ty) (payX whole s q o (unB q ty sub)) kvs
    else looseSelsS s q o b (C01NG.ownSels sub) kvs &&
      (looseMemB s q o ty (bSels q ty sub) (restG s sub kvs) &&
        tagOkV s o true (vtsOfTy s ty) (payX whole s q o (unB q ty sub)) (restG s sub kvs))
  | _ => false

/-- … and the field of abstract type -/
def looseAbsB (whole : Nat → Bool → Json → Bool) (s : Schema) (q : Query) (o : Options) (b : Bool) (sf : StoredField)
    (sub : List Sel) (v : Json) : Bool :=
  accepts (looseTagB whole s q o b sf.ty.id sub) (gtyOf sf.ty.quals) v

mutual
  def looseFieldA (whole : Nat → Bool → Json → Bool) (s : Schema) (q : Query) (o : Options) (b : Bool) : Sel → Json → Bool
    | .field a fid sub, v =>
      match s.fields[fid]? with
      | none => false
      | some sf =>
        match sf.ty.id with
        | .object i => (match s.objects[i]? with
          | some _ => accepts (fun j =>
              match sub with
              | [.spread g] => whole g b j      -- type alias of the fragment struct
              | _ => match j with
                | .obj kvs' => looseOwnA whole s q o b sub kvs' && looseMemN whole sub kvs'
                | .arr xs => !sub.any isSpread && looseArrA whole s q o b sub xs
                | _ => false) (gtyOf sf.ty.quals) v
          | none => false)
        | _ => if sSel s q o false (.field a fid sub) then looseFieldS s q o b (.field a fid sub) v
               else looseAbsB whole s q o b sf sub v
    | _, _ => true
  /-- the own fields of the struct (spreads contribute no own field) -/
  def looseOwnA (whole : Nat → Bool → Json → Bool) (s : Schema) (q : Query) (o : Options) (b : Bool) :
      List Sel → List (String × Json) → Bool
    | [], _ => true
    | .field a fid sub :: xs, kvs =>
      (match s.fields[fid]? with
       | none => false
       | some sf =>
         decide (countKey (a.getD sf.name) kvs ≤ 1) &&
         (match Json.lookup (a.getD sf.name) kvs with
          | none => nullableQ sf.ty.quals
          | some v => looseFieldA whole s q o b (.field a fid sub) v)) && looseOwnA whole s q o b xs kvs
    | _ :: xs, kvs => looseOwnA whole s q o b xs kvs
  def looseArrA (whole : Nat → Bool → Json → Bool) (s : Schema) (q : Query) (o : Options) (b : Bool) :
      List Sel → List Json → Bool
    | [], _ => true
    | .field a fid sub :: xs, vs =>
      (match vs with
       | [] => false
       | v :: vs' => looseFieldA whole s q o b (.field a fid sub) v && looseArrA whole s q o b xs vs')
    | _ :: xs, vs => looseArrA whole s q o b xs vs
end

/-- what the type emitted for an object-level selection set of `NestedBOp` accepts -/
def conformsLooseA (whole : Nat → Bool → Json → Bool) (s : Schema) (q : Query) (o : Options) (b : Bool) (sels : List Sel)
    (j : Json) : Bool :=
  match sels with
  | [.spread g] => whole g b j
  | _ => match j with
    | .obj kvs' => looseOwnA whole s q o b sels kvs' && looseMemN whole sels kvs'
    | .arr xs => !sels.any isSpread && looseArrA whole s q o b sels xs
    | _ => false

theorem looseLambdaA (whole : Nat → Bool → Json → Bool) (s : Schema) (q : Query) (o : Options) (b : Bool) (sub : List Sel) :
    (fun j =>
      match sub with
      | [.spread g] => whole g b j
      | _ => match j with
        | .obj kvs' => looseOwnA whole s q o b sub kvs' && looseMemN whole sub kvs'
        | .arr xs => !sub.any isSpread && looseArrA whole s q o b sub xs
        | _ => false) = conformsLooseA whole s q o b sub := by
  funext j; unfold conformsLooseA; rfl

theorem conformsLooseA_not_lone {whole : Nat → Bool → Json → Bool} {s : Schema} {q : Query} {o : Options} {b : Bool}
    {sels : List Sel} (h : ∀ g, sels ≠ [Sel.spread g]) (j : Json) :
    conformsLooseA whole s q o b sels j =
      (match j with
       | .obj kvs' => looseOwnA whole s q o b sels kvs' && looseMemN whole sels kvs'
       | .arr xs => !sels.any isSpread && looseArrA whole s q o b sels xs
       | _ => false) := by
  unfold conformsLooseA
  split
  · rename_i g; exact absurd rfl (h g)
  · rfl


/-- the environment of a position of the class -/
def EnvAbsB (fenv : Nat → Prop) (e : Env) (c : Ctx) (name : String) (ty : TypeId) (sub : List Sel) : Prop :=
  AbsEnv e name (fieldsB c name ty sub) (variantsV c name ty (marks c.q (unB c.q ty sub))) ∧
  envSelsS e c name (C01NG.ownSels sub) ∧
  envSelsS e c name (bSels c.q ty sub) ∧
  ∀ vt ∈ vtsOfTy c.s ty, VarEnvX fenv e c name vt (unB c.q ty sub)

mutual
  /-- keys disjoint between a fragment and its siblings at object level, and between the fragments
      selected on one possible type at an abstract position -/
  def keysOkA (KN : String → List String) (c : Ctx) : Sel → Bool
    | .field a fid sub =>
      (match (c.s.fields[fid]?).map (fun sf => sf.ty.id) with
       | some (TypeId.object _) => EnumSpec.nodup (expKeysN KN c sub) && keysOksA KN c sub
       | some ty =>
         if sSel c.s c.q c.o false (.field a fid sub) then true
         else (vtsOfTy c.s ty).all (fun vt => varKeysOk KN c vt (unB c.q ty sub))
       | none => true)
    | _ => true
  def keysOksA (KN : String → List String) (c : Ctx) : List Sel → Bool
    | [] => true
    | x :: xs => keysOkA KN c x && keysOksA KN c xs
end

mutual
  def envSelA (fenv : Nat → Prop) (e : Env) (c : Ctx) (pfx : String) : Sel → Prop
    | .field a fid sub =>
      match c.s.fields[fid]? with
      | none => True
      | some sf =>
        match sf.ty.id with
        | .object _ =>
          (match sub with
           | [.spread g] => AliasEnv e (pfx ++ c.cs.camel (a.getD sf.name)) (fragName c g) ∧ fenv g
           | _ => StructEnv e (pfx ++ c.cs.camel (a.getD sf.name)) (fieldsOfF c (pfx ++ c.cs.camel (a.getD sf.name)) sub) ∧
                  envSelsA fenv e c (pfx ++ c.cs.camel (a.getD sf.name)) sub)
        | ty => if sSel c.s c.q c.o false (.field a fid sub) = true then envSelS e c pfx (.field a fid sub)
                else EnvAbsB fenv e c (pfx ++ c.cs.camel (a.getD sf.name)) ty sub
    | .spread g => fenv g
    | _ => True
  def envSelsA (fenv : Nat → Prop) (e : Env) (c : Ctx) (pfx : String) : List Sel → Prop
    | [] => True
    | x :: xs => envSelA fenv e c pfx x ∧ envSelsA fenv e c pfx xs
end

/-- what the name of an object-level selection set resolves to -/
def BodyEnvA (fenv : Nat → Prop) (e : Env) (c : Ctx) (name pfx : String) (sels : List Sel) : Prop :=
  match sels with
  | [.spread g] => AliasEnv e name (fragName c g) ∧ fenv g
  | _ => StructEnv e name (fieldsOfF c pfx sels) ∧ envSelsA fenv e c pfx sels

/-! ## facts about the emitted fields -/

section Fields
variable {ok : TypeId → Nat → Bool} {c : Ctx} (hok : OkSpec c.q ok)

theorem fieldOfSelV_a (pfx : String) (p : TypeId) (a : Option String) (fid : Nat) (sub : List Sel)
    (ht : aSel ok c.s c.q c.o p (.field a fid sub) = true) :
    ∃ sf ft, c.s.fields[fid]? = some sf ∧ leafNameV c pfx (a.getD sf.name) sf.ty.id = some ft ∧
      fieldOfSelV c pfx (.field a fid sub) = some (fieldOf c (a.getD sf.name) ft sf.ty.quals sf.deprecation) ∧
      wfQuals sf.ty.quals = true := by
  obtain ⟨sf, hsf⟩ := aSel_field_some ht
  by_cases hobj : ∃ i, sf.ty.id = .object i
  · obtain ⟨i, hid⟩ := hobj
    obtain ⟨hw, _, _, _⟩ := aSel_obj hsf hid ht
    exact ⟨sf, pfx ++ c.cs.camel (a.getD sf.name), hsf, by simp [leafNameV, hid], by simp [fieldOfSelV, hsf, leafNameV, hid], hw⟩
  · have hno : ∀ i, sf.ty.id ≠ .object i := fun i h => hobj ⟨i, h⟩
    rcases aSel_nonobj hsf hno ht with hs | ⟨_, hnew⟩
    · exact fieldOfSelV_s c pfx false a fid sub hs
    · obtain ⟨hw, _, hty, _⟩ := absFieldB_parts hnew
      exact ⟨sf, pfx ++ c.cs.camel (a.getD sf.name), hsf, leafNameV_abs hty _ _,
        by simp [fieldOfSelV, hsf, leafNameV_abs hty], hw⟩

include hok in
theorem resolves_of_aSels {pfx : String} {p : TypeId} {sels : List Sel} (ht : aSels ok c.s c.q c.o p sels = true) :
    Resolves c pfx sels := by
  refine ⟨fun a fid sub hx => ?_, fun g hx => ?_⟩
  · obtain ⟨sf, ft, hsf, _, hf, hw⟩ := fieldOfSelV_a pfx p a fid sub (aSels_mem ht _ hx)
    exact ⟨sf, ft, hsf, hf, hw⟩
  · have hokg : ok p g = true := by simpa [aSel] using aSels_mem ht _ hx
    obtain ⟨fr, hfr, _⟩ := hok _ _ hokg
    exact ⟨fr, hfr⟩

theorem own_fieldsOfA (_hok : OkSpec c.q ok) (pfx : String) (p : TypeId) : ∀ (sels : List Sel), aSels ok c.s c.q c.o p sels = true →
    (fieldsOfF c pfx sels).filter (fun f => !f.flatten) = fieldsOfV c pfx sels :=
  fun sels _ => filter_fieldsOfF c pfx sels

include hok in
/-- from "the keys of the selection set (through spreads) are pairwise distinct" to the hypotheses of `okB_deStructMapA` -/
theorem flat_hypsA (KN : String → List String) (pfx : String) (p : TypeId) : ∀ (sels : List Sel),
    aSels ok c.s c.q c.o p sels = true → (expKeysN KN c sels).Nodup →
    (∀ g ∈ fieldsOfF c pfx sels, g.flatten = true → ∀ k ∈ kOf KN g, k ∈ expKeysN KN c sels) ∧
    (∀ f ∈ fieldsOfF c pfx sels, f.flatten = false → f.wire ∈ expKeysN KN c sels) ∧
    (∀ g ∈ fieldsOfF c pfx sels, g.flatten = true → ∀ k ∈ kOf KN g,
      k ∉ ((fieldsOfF c pfx sels).filter (fun f => !f.flatten)).map (·.wire)) ∧
    (fieldsOfF c pfx sels).Pairwise (fun g g' => g.flatten = true → g'.flatten = true →
      ∀ k ∈ kOf KN g', k ∉ kOf KN g) :=
  fun sels ht hnd =>
    have ⟨h1, h2, h3, h4⟩ := flat_hyps_of_readKeys (P := fun _ => True) (readKeys_fieldsOfF_kOf KN pfx sels (resolves_of_aSels hok ht))
      (fun _ _ _ => trivial) hnd
    ⟨fun g hg hfl => (h1 g hg hfl).2, h2, h3, h4⟩

end Fields

theorem envSelsA_mem {fenv : Nat → Prop} {e : Env} {c : Ctx} {pfx : String} : ∀ {sels : List Sel},
    envSelsA fenv e c pfx sels → ∀ x ∈ sels, envSelA fenv e c pfx x :=
  fun {sels} => (forall_mem_of_eqns (by rw [envSelsA]; trivial) (fun _ _ => by rw [envSelsA]) sels).mp

theorem envSelA_spread {fenv : Nat → Prop} {e : Env} {c : Ctx} {pfx : String} {g : Nat} :
    envSelA fenv e c pfx (.spread g) = fenv g := by
  rw [envSelA]

/-- what the member level needs of the spreads of a selection set of the class: admitted, and with their environment -/
theorem spreads_of_aSels {ok : TypeId → Nat → Bool} {fenv : Nat → Prop} {e : Env} {c : Ctx} {pfx : String} {p : TypeId}
    {sels : List Sel} (ht : aSels ok c.s c.q c.o p sels = true) (henv : envSelsA fenv e c pfx sels) (g : Nat)
    (hg : Sel.spread g ∈ sels) : ok p g = true ∧ fenv g :=
  ⟨by simpa [aSel] using aSels_mem ht _ hg, by have := envSelsA_mem henv _ hg; rwa [envSelA_spread] at this⟩

theorem bodyEnvA_not_lone {fenv : Nat → Prop} {e : Env} {c : Ctx} {name pfx : String} {sels : List Sel}
    (hnl : ∀ g, sels ≠ [Sel.spread g]) (h : BodyEnvA fenv e c name pfx sels) :
    StructEnv e name (fieldsOfF c pfx sels) ∧ envSelsA fenv e c pfx sels := by
  unfold BodyEnvA at h
  revert h
  split
  · exact fun _ => absurd rfl (hnl _)
  · exact id

theorem keysOkA_obj {KN : String → List String} {c : Ctx} {a : Option String} {fid : Nat} {sub : List Sel}
    {sf : StoredField} {i : Nat}
    (hsf : c.s.fields[fid]? = some sf) (hid : sf.ty.id = .object i) (h : keysOkA KN c (.field a fid sub) = true) :
    EnumSpec.nodup (expKeysN KN c sub) = true ∧ keysOksA KN c sub = true := by
  rw [keysOkA] at h
  simp only [hsf, hid, Option.map_some, Bool.and_eq_true] at h
  exact h

theorem keysOkA_new {KN : String → List String} {c : Ctx} {a : Option String} {fid : Nat} {sub : List Sel}
    {sf : StoredField} (hsf : c.s.fields[fid]? = some sf) (hno : ∀ i, sf.ty.id ≠ .object i)
    (hs : sSel c.s c.q c.o false (.field a fid sub) = false) (h : keysOkA KN c (.field a fid sub) = true) :
    ∀ vt ∈ vtsOfTy c.s sf.ty.id, varKeysOk KN c vt (unB c.q sf.ty.id sub) = true := by
  rw [keysOkA] at h
  simp only [hsf, Option.map_some] at h
  have h' : (vtsOfTy c.s sf.ty.id).all (fun vt => varKeysOk KN c vt (unB c.q sf.ty.id sub)) = true := by
    simpa only [hs, Bool.false_eq_true, if_false] using h
  intro vt hvt
  simp only [List.all_eq_true] at h'
  exact h' vt hvt

theorem envSelA_obj {fenv : Nat → Prop} {e : Env} {c : Ctx} {pfx : String} {a : Option String} {fid : Nat}
    {sub : List Sel} {sf : StoredField}
    {i : Nat} (hsf : c.s.fields[fid]? = some sf) (hid : sf.ty.id = .object i) (h : envSelA fenv e c pfx (.field a fid sub)) :
    BodyEnvA fenv e c (pfx ++ c.cs.camel (a.getD sf.name)) (pfx ++ c.cs.camel (a.getD sf.name)) sub := by
  rw [envSelA] at h
  simp only [hsf, hid] at h
  exact h

theorem envSelA_old {fenv : Nat → Prop} {e : Env} {c : Ctx} {pfx : String} {a : Option String} {fid : Nat}
    {sub : List Sel}
    {sf : StoredField} (hsf : c.s.fields[fid]? = some sf) (hno : ∀ i, sf.ty.id ≠ .object i)
    (hs : sSel c.s c.q c.o false (.field a fid sub) = true)
    (h : envSelA fenv e c pfx (.field a fid sub)) : envSelS e c pfx (.field a fid sub) := by
  rw [envSelA] at h
  simp only [hsf] at h
  simpa only [hs, if_true] using h

theorem envSelA_new {fenv : Nat → Prop} {e : Env} {c : Ctx} {pfx : String} {a : Option String} {fid : Nat}
    {sub : List Sel}
    {sf : StoredField} (hsf : c.s.fields[fid]? = some sf) (hno : ∀ i, sf.ty.id ≠ .object i)
    (hs : sSel c.s c.q c.o false (.field a fid sub) = false)
    (h : envSelA fenv e c pfx (.field a fid sub)) : EnvAbsB fenv e c (pfx ++ c.cs.camel (a.getD sf.name)) sf.ty.id sub := by
  rw [envSelA] at h
  simp only [hsf] at h
  simpa only [hs, Bool.false_eq_true, if_false] using h

theorem looseFieldA_old {whole : Nat → Bool → Json → Bool} {s : Schema} {q : Query} {o : Options} {b : Bool}
    {a : Option String} {fid : Nat}
    {sub : List Sel} {sf : StoredField} (hsf : s.fields[fid]? = some sf) (hno : ∀ i, sf.ty.id ≠ .object i)
    (hs : sSel s q o false (.field a fid sub) = true) (v : Json) :
    looseFieldA whole s q o b (.field a fid sub) v = looseFieldS s q o b (.field a fid sub) v := by
  rw [looseFieldA]
  simp only [hsf]
  simp only [hs, if_true]

theorem looseFieldA_new {whole : Nat → Bool → Json → Bool} {s : Schema} {q : Query} {o : Options} {b : Bool}
    {a : Option String} {fid : Nat}
    {sub : List Sel} {sf : StoredField} (hsf : s.fields[fid]? = some sf) (hno : ∀ i, sf.ty.id ≠ .object i)
    (hs : sSel s q o false (.field a fid sub) = false) (v : Json) :
    looseFieldA whole s q o b (.field a fid sub) v = looseAbsB whole s q o b sf sub v := by
  rw [looseFieldA]
  simp only [hsf]
  simp only [hs, Bool.false_eq_true, if_false]

theorem exists_uniform {α : Type} (P : α → Nat → Prop) (hmono : ∀ a n m, n ≤ m → P a n → P a m) :
    ∀ (l : List α), (∀ a ∈ l, ∃ n, P a n) → ∃ n, ∀ a ∈ l, P a n :=
  C01NA.exists_uniform P hmono

theorem pairwise_of_nodup_flatMap {α β : Type} (f : α → List β) : ∀ (l : List α), (l.flatMap f).Nodup →
    l.Pairwise (fun a b => ∀ k ∈ f b, k ∉ f a) :=
  C01NA.pairwise_of_nodup_flatMap f

theorem ownSels_cons_field (a : Option String) (fid : Nat) (sub' : List Sel) (xs : List Sel) :
    C01NG.ownSels (Sel.field a fid sub' :: xs) = Sel.field a fid sub' :: C01NG.ownSels xs :=
  C01NG.ownSels_cons_field a fid sub' xs

theorem ownSels_cons_other {x : Sel} (h : isFieldSel x = false) (xs : List Sel) : C01NG.ownSels (x :: xs) = C01NG.ownSels xs :=
  C01NG.ownSels_cons_other h xs

theorem fieldsOfV_ownSels (c : Ctx) (pfx : String) : ∀ (sub : List Sel), fieldsOfV c pfx (C01NG.ownSels sub) = fieldsOfV c pfx sub :=
  C01NG.fieldsOfV_ownSels c pfx

theorem sSels_ownSels {s : Schema} {q : Query} {o : Options} : ∀ (sub : List Sel),
    (∀ x ∈ sub, leafSel s q o x = true) → sSels s q o true (C01NG.ownSels sub) = true :=
  C01NG.sSels_ownSels

/-! ## acceptance, exactly

First what the proofs at an abstract position need of its parts (section `AbsParts`): a selection set all of whose
members satisfy a predicate, leaf fields, the fields of the variant structs (`fieldsOfF_varParts`, `fieldsOfF_aliases`). -/

section AbsParts
variable {e : Env} {c : Ctx} {ok : TypeId → Nat → Bool} {whole : Nat → Bool → Json → Bool} {KN : String → List String}
  {fenv : Nat → Prop}

theorem mem_varSelsOf {ms : List Sel} {x : Sel} (h : x ∈ varSelsOf ms) :
    (∃ g, x = Sel.spread g ∧ g ∈ ms.filterMap spreadId ++ ms.filterMap aliasInl) ∨
      (∃ t isub, Sel.inline t isub ∈ ms ∧ isBody (.inline t isub) = true ∧ x ∈ isub) := by
  unfold varSelsOf at h
  rcases List.mem_append.mp h with h | h
  · obtain ⟨y, hy, hx⟩ := List.mem_flatMap.mp h
    cases y with
    | spread g =>
      simp only [varPartS, List.mem_singleton] at hx
      subst hx
      exact .inl ⟨g, rfl, List.mem_append_left _ (List.mem_filterMap.mpr ⟨_, hy, rfl⟩)⟩
    | inline t isub =>
      simp only [varPartS] at hx
      split at hx
      · rename_i hb; exact .inr ⟨t, isub, hy, hb, hx⟩
      · simp at hx
    | field a fid sub' => simp [varPartS] at hx
    | typename => simp [varPartS] at hx
  · obtain ⟨g, hg, rfl⟩ := List.mem_map.mp h
    exact .inl ⟨g, rfl, List.mem_append_right _ hg⟩

theorem aSels_of_mem {s : Schema} {q : Query} {o : Options} {p : TypeId} : ∀ {sels : List Sel},
    (∀ x ∈ sels, aSel ok s q o p x = true) → aSels ok s q o p sels = true :=
  fun {sels} h => all_of_eqns (ps := aSels ok s q o p) rfl (fun _ _ => rfl) sels ▸ List.all_eq_true.mpr h

theorem envSelsA_of_mem {pfx : String} : ∀ {sels : List Sel},
    (∀ x ∈ sels, envSelA fenv e c pfx x) → envSelsA fenv e c pfx sels :=
  fun {sels} => (forall_mem_of_eqns (by rw [envSelsA]; trivial) (fun _ _ => by rw [envSelsA]) sels).mpr

theorem keysOksA_of_mem : ∀ {sels : List Sel}, (∀ x ∈ sels, keysOkA KN c x = true) → keysOksA KN c sels = true :=
  fun {sels} h => all_of_eqns (ps := keysOksA KN c) rfl (fun _ _ => rfl) sels ▸ List.all_eq_true.mpr h

/-- what is known of a leaf field -/
theorem leaf_facts {s : Schema} {q : Query} {o : Options} {a : Option String} {fid : Nat} {sub' : List Sel}
    (h : leafSel s q o (.field a fid sub') = true) :
    ∃ sf, s.fields[fid]? = some sf ∧ (∀ i, sf.ty.id ≠ .object i) ∧ sSel s q o false (.field a fid sub') = true := by
  obtain ⟨sf, hsf, _, _, _, hty⟩ := leafSel_field h
  refine ⟨sf, hsf, ?_, ?_⟩
  · intro i hi
    rcases hty with ⟨k, sn, hid, _⟩ | ⟨k, en, hid, _⟩ <;> rw [hid] at hi <;> cases hi
  · simp only [leafSel, Bool.and_eq_true] at h
    have h1 := h.1
    rw [sSel] at h1 ⊢
    exact h1

theorem aSel_leaf {s : Schema} {q : Query} {o : Options} {p : TypeId} {a : Option String} {fid : Nat} {sub' : List Sel}
    (h : leafSel s q o (.field a fid sub') = true) : aSel ok s q o p (.field a fid sub') = true := by
  obtain ⟨sf, hsf, hno, hs⟩ := leaf_facts h
  rw [aSel]
  simp only [hsf]
  simp [hs]

theorem envSelA_leaf {pfx : String} {a : Option String} {fid : Nat} {sub' : List Sel}
    (h : leafSel c.s c.q c.o (.field a fid sub') = true) (henv : envSelS e c pfx (.field a fid sub')) :
    envSelA fenv e c pfx (.field a fid sub') := by
  obtain ⟨sf, hsf, hno, hs⟩ := leaf_facts h
  rw [envSelA]
  simp only [hsf]
  simpa only [hs, if_true] using henv

theorem keysOkA_leaf {a : Option String} {fid : Nat} {sub' : List Sel}
    (h : leafSel c.s c.q c.o (.field a fid sub') = true) : keysOkA KN c (.field a fid sub') = true := by
  obtain ⟨sf, hsf, hno, hs⟩ := leaf_facts h
  rw [keysOkA]
  simp only [hsf, Option.map_some]
  simp [hs]

/-- on a selection set whose fields are leaves, the own fields are those of `VariantSpreadOp` -/
theorem looseOwnA_leaf {s : Schema} {q : Query} {o : Options} (b : Bool) (kvs : List (String × Json)) :
    ∀ (sels : List Sel), (∀ x ∈ sels, leafSel s q o x = true) →
    looseOwnA whole s q o b sels kvs = looseSelsS s q o b (C01NG.ownSels sels) kvs
  | [], _ => by simp [C01NG.ownSels, looseOwnA, looseSelsS]
  | x :: xs, h => by
    have ih := looseOwnA_leaf b kvs xs (fun y hy => h y (List.mem_cons_of_mem _ hy))
    cases x with
    | field a fid sub' =>
      obtain ⟨sf, hsf, hno, hs⟩ := leaf_facts (h _ (List.mem_cons_self))
      rw [C01NG.ownSels_cons_field, looseOwnA.eq_2, looseSelsS.eq_2, ih]
      simp only [hsf]
      cases Json.lookup (a.getD sf.name) kvs with
      | none => rfl
      | some v => simp only [looseFieldA_old hsf hno hs]
    | spread g => rw [C01NG.ownSels_cons_other rfl, ← ih]; simp [looseOwnA]
    | inline t sub' => rw [C01NG.ownSels_cons_other rfl, ← ih]; simp [looseOwnA]
    | typename => rw [C01NG.ownSels_cons_other rfl, ← ih]; simp [looseOwnA]

theorem looseArrA_leaf {s : Schema} {q : Query} {o : Options} (b : Bool) :
    ∀ (sels : List Sel) (vs : List Json), (∀ x ∈ sels, leafSel s q o x = true) →
    looseArrA whole s q o b sels vs = looseArrS s q o b (C01NG.ownSels sels) vs
  | [], _, _ => by simp [C01NG.ownSels, looseArrA, looseArrS]
  | x :: xs, vs, h => by
    have ih := fun vs' => looseArrA_leaf b xs vs' (fun y hy => h y (List.mem_cons_of_mem _ hy))
    cases x with
    | field a fid sub' =>
      obtain ⟨sf, hsf, hno, hs⟩ := leaf_facts (h _ (List.mem_cons_self))
      rw [C01NG.ownSels_cons_field]
      cases vs with
      | nil => simp [looseArrA, looseArrS]
      | cons v vs' => rw [looseArrA.eq_3, looseArrS.eq_3, ih vs', looseFieldA_old hsf hno hs]
    | spread g => rw [C01NG.ownSels_cons_other rfl, ← ih]; simp [looseArrA]
    | inline t sub' => rw [C01NG.ownSels_cons_other rfl, ← ih]; simp [looseArrA]
    | typename => rw [C01NG.ownSels_cons_other rfl, ← ih]; simp [looseArrA]

/-- the fields of a list of leaf fields do not depend on the prefix -/
theorem fieldsOfF_leafs (pfx pfx' : String) : ∀ (isub : List Sel), (∀ y ∈ isub, isFieldSel y = true) →
    (∀ y ∈ isub, leafSel c.s c.q c.o y = true) → fieldsOfF c pfx isub = fieldsOfV c pfx' isub
  | [], _, _ => rfl
  | y :: ys, hf, hl => by
    have ih := fieldsOfF_leafs pfx pfx' ys (fun z hz => hf z (List.mem_cons_of_mem _ hz))
      (fun z hz => hl z (List.mem_cons_of_mem _ hz))
    cases y with
    | field a fid sub' =>
      obtain ⟨sf, hsf, _, _, _, hty⟩ := leafSel_field (hl _ (List.mem_cons_self))
      rw [fieldsOfF_cons, fieldOfSelF_field, ih]
      unfold fieldsOfV
      rw [List.filterMap_cons]
      rcases hty with ⟨k, sn, hid, hk⟩ | ⟨k, en, hid, hk⟩ <;> simp [fieldOfSelV, hsf, hid, leafNameV, hk]
    | spread g => have := hf _ (List.mem_cons_self); simp [isFieldSel] at this
    | inline t sub' => have := hf _ (List.mem_cons_self); simp [isFieldSel] at this
    | typename => have := hf _ (List.mem_cons_self); simp [isFieldSel] at this

theorem fieldsOfF_spread_kw {g : Nat} {fr : RFragment} (pfx : String) (hfr : c.q.fragments[g]? = some fr)
    (hkw : kwOk c g = true) : fieldsOfF c pfx [Sel.spread g] = [memField c g] := by
  have hname : fragName c g = fr.name := by simp [fragName, hfr]
  simp only [kwOk, beq_iff_eq, hname] at hkw
  simp [fieldsOfF, fieldOfSelF, hfr, spreadField, memField, hname, hkw]

theorem fieldsOfF_varParts (hok : OkSpec c.q ok) (pfx name : String) (i : Nat) : ∀ (ms : List Sel),
    (∀ x ∈ ms, IsMemX ok c.s c.q c.o (.object i) x) → (∀ g ∈ ms.filterMap spreadId, kwOk c g = true) →
    fieldsOfF c pfx (ms.flatMap varPartS) = ms.flatMap (varPartF c name)
  | [], _, _ => rfl
  | x :: rest, hms, hkw => by
    have ih := fieldsOfF_varParts hok pfx name i rest (fun y hy => hms y (List.mem_cons_of_mem _ hy))
      (fun g hg => hkw g (by
        obtain ⟨y, hy, hyg⟩ := List.mem_filterMap.mp hg
        exact List.mem_filterMap.mpr ⟨y, List.mem_cons_of_mem _ hy, hyg⟩))
    rw [List.flatMap_cons, List.flatMap_cons, fieldsOfF_append c, ih]
    congr 1
    rcases hms x (List.mem_cons_self) with (⟨g, rfl, hokg⟩ | ⟨g, rfl, hokg⟩) | ⟨isub, rfl, hb, hlf⟩
    · obtain ⟨fr, hfr, _⟩ := hok _ _ hokg
      simp only [varPartS, varPartF]
      exact fieldsOfF_spread_kw pfx hfr (hkw g (by simp [spreadId]))
    · simp [varPartS, varPartF, isBody, isFieldSel, fieldsOfF]
    · obtain ⟨_, _, hx', _, hall⟩ := isBody_inline hb
      cases hx'
      simp only [varPartS, varPartF, hb, if_true]
      exact fieldsOfF_leafs pfx _ isub hall hlf

theorem fieldsOfF_aliases (hok : OkSpec c.q ok) (pfx : String) (vt : TypeId) : ∀ (gs : List Nat), (∀ g ∈ gs, ok vt g = true) →
    (∀ g ∈ gs, kwOk c g = true) → fieldsOfF c pfx (gs.map Sel.spread) = gs.map (memField c)
  | [], _, _ => rfl
  | g :: gs, h1, h2 => by
    obtain ⟨fr, hfr, _⟩ := hok _ _ (h1 g (List.mem_cons_self))
    have ih := fieldsOfF_aliases hok pfx vt gs (fun g' hg' => h1 g' (List.mem_cons_of_mem _ hg'))
      (fun g' hg' => h2 g' (List.mem_cons_of_mem _ hg'))
    have h0 := fieldsOfF_spread_kw pfx hfr (h2 g (List.mem_cons_self))
    rw [List.map_cons, List.map_cons, ← ih]
    show fieldsOfF c pfx ([Sel.spread g] ++ gs.map Sel.spread) = _
    rw [fieldsOfF_append c, h0]
    rfl

/-- the fragments selected on a variant are of the class -/
theorem memFrags_okX {s : Schema} {q : Query} {o : Options} {i : Nat} {ms : List Sel}
    (hms : ∀ x ∈ ms, IsMemX ok s q o (.object i) x) {g : Nat}
    (hg : g ∈ ms.filterMap spreadId ++ ms.filterMap aliasInl) : ok (.object i) g = true := by
  rcases List.mem_append.mp hg with hg | hg
  · obtain ⟨x, hx, hxg⟩ := List.mem_filterMap.mp hg
    rcases hms x hx with (⟨g', rfl, hokg⟩ | ⟨g', rfl, hokg⟩) | ⟨isub, rfl, hb, _⟩
    · simp only [spreadId, Option.some.injEq] at hxg; subst hxg; exact hokg
    · simp [spreadId] at hxg
    · simp [spreadId] at hxg
  · obtain ⟨x, hx, hxg⟩ := List.mem_filterMap.mp hg
    rcases hms x hx with (⟨g', rfl, hokg⟩ | ⟨g', rfl, hokg⟩) | ⟨isub, rfl, hb, _⟩
    · simp [aliasInl] at hxg
    · simp only [aliasInl, Option.some.injEq] at hxg; subst hxg; exact hokg
    · obtain ⟨t', hx'⟩ := aliasInl_some hxg
      cases hx'
      simp [isBody, isFieldSel] at hb


end AbsParts

section AccA
variable (e : Env) (c : Ctx) (ok : TypeId → Nat → Bool) (whole : Nat → Bool → Json → Bool) (KN : String → List String)
  (fenv : Nat → Prop) (hok : OkSpec c.q ok) (hfa : ∀ p g, ok p g = true → fenv g → FragAcc e c whole KN g)

include hok hfa in
/-- the flattened members: struct items, keys, irrelevance of other keys, and what they accept -/
theorem accMemA (pfx : String) (p : TypeId) (sels : List Sel) (ht : aSels ok c.s c.q c.o p sels = true)
    (henv : envSelsA fenv e c pfx sels) : ∃ N, ∀ fuel, N ≤ fuel →
    (∀ g ∈ fieldsOfF c pfx sels, g.flatten = true → MemberOkN e g ∧
      (∀ f ∈ memberFields e g, f.flatten = false → f.wire ∈ kOf KN g) ∧
      (∀ L' : List String, (∀ k ∈ L', k ∉ kOf KN g) → ∀ kvs,
        okB (memberVal e fuel g (kvs.filter (fun kv => !L'.contains kv.1))) = okB (memberVal e fuel g kvs))) ∧
    (∀ kvs, ((fieldsOfF c pfx sels).filter (·.flatten)).all (fun g => okB (memberVal e fuel g kvs)) =
      looseMemN whole sels kvs) :=
  accMemN_of e c ok whole KN fenv hok hfa pfx p sels (resolves_of_aSels hok ht) (spreads_of_aSels ht henv)

def AccSelA (pfx : String) (x : Sel) : Prop :=
  ∀ p, aSel ok c.s c.q c.o p x = true → envSelA fenv e c pfx x → keysOkA KN c x = true →
    ∀ f, fieldOfSelV c pfx x = some f →
    ∃ N, ∀ b fd, N ≤ fd → ∀ v, okB (deFieldWith (dePath e b fd) f v) = looseFieldA whole c.s c.q c.o b x v

def AccSelsA (pfx : String) (sels : List Sel) : Prop :=
  ∀ p, aSels ok c.s c.q c.o p sels = true → envSelsA fenv e c pfx sels → keysOksA KN c sels = true →
    ∃ N, ∀ b fd, N ≤ fd →
    (∀ kvs, (fieldsOfV c pfx sels).all (fun f => decide (countKey f.wire kvs ≤ 1) &&
        okB (readField (dePath e b fd) f kvs)) = looseOwnA whole c.s c.q c.o b sels kvs) ∧
    (∀ xs, (decide ((fieldsOfV c pfx sels).length ≤ xs.length) &&
        ((fieldsOfV c pfx sels).zip xs).all (fun p => okB (deFieldWith (dePath e b fd) p.1 p.2))) =
          looseArrA whole c.s c.q c.o b sels xs)

include hok hfa in
/-- the struct of an object-level selection set (not a lone spread) accepts exactly `conformsLooseA` -/
theorem accStructA (pfx name : String) (p : TypeId) (sels : List Sel) (H : AccSelsA e c ok whole KN fenv pfx sels)
    (hnl : ∀ g, sels ≠ [Sel.spread g])
    (ht : aSels ok c.s c.q c.o p sels = true) (henv : envSelsA fenv e c pfx sels) (hko : keysOksA KN c sels = true)
    (hkeys : EnumSpec.nodup (expKeysN KN c sels) = true)
    (hs : StructEnv e name (fieldsOfF c pfx sels)) :
    ∃ N, ∀ b fd, N ≤ fd → ∀ j, okB (dePath e b fd name j) = conformsLooseA whole c.s c.q c.o b sels j := by
  simp only [conformsLooseA_not_lone hnl]
  exact C01AF.accStructA_of e c ok whole KN fenv hok (fun p g h1 h2 => C01AF.FragAccA.of_fragAcc (hfa p g h1 h2))
    pfx name p sels (resolves_of_aSels hok ht) (spreads_of_aSels ht henv) _ _ (H p ht henv hko) hkeys hs

theorem looseMemN_spreads (whole : Nat → Bool → Json → Bool) (kvs : List (String × Json)) : ∀ (gs : List Nat),
    looseMemN whole (gs.map Sel.spread) kvs = gs.all (fun g => whole g true (.obj kvs)) :=
  C01NA.looseMemN_spreads whole kvs

/-- **a struct that consists of flattened members for the structs of the fragments `gs`** (a variant struct) accepts an
    object iff every fragment's struct accepts it -/
theorem accMembersA (name : String) (gs : List Nat) (hne : gs ≠ []) (hs : StructEnv e name (gs.map (memField c)))
    (hfa' : ∀ g ∈ gs, FragAcc e c whole KN g) (hkeys : (gs.flatMap (fun g => KN (fragName c g))).Nodup) :
    ∃ N, ∀ b fd, N ≤ fd → ∀ kvs, okB (dePath e b fd name (.obj kvs)) = gs.all (fun g => whole g true (.obj kvs)) :=
  C01NA.accMembersA e c whole KN name gs hne hs hfa' hkeys

/-- acceptance of the own fields of a selection set whose fields are leaves -/
theorem accSelsLeafA (pfx : String) (sels : List Sel) (hl : ∀ x ∈ sels, leafSel c.s c.q c.o x = true)
    (henv : envSelsS e c pfx (C01NG.ownSels sels)) : AccSelsA e c ok whole KN fenv pfx sels := by
  intro p _ _ _
  refine ⟨2 * depthsF c.q (C01NG.ownSels sels) + 1, fun b fd hfd => ?_⟩
  obtain ⟨H1, H2⟩ := accSelsS e c (C01NG.ownSels sels) pfx true (sSels_ownSels sels hl) henv b fd hfd
  refine ⟨fun kvs => ?_, fun xs => ?_⟩
  · rw [looseOwnA_leaf b kvs sels hl, ← H1 kvs, fieldsOfV_ownSels]
  · rw [looseArrA_leaf b sels xs hl, ← H2 xs, fieldsOfV_ownSels]

include hok in
/-- the variant struct of a possible type with an inline fragment with fields, as the struct of the object-level selection
    set `varSels` -/
theorem varSels_facts (name : String) (ty : TypeId) (sub : List Sel) (hsx : SpecialX ok c.s c.q c.o ty sub)
    (i : Nat) (hvt : TypeId.object i ∈ vtsOfTy c.s ty) (hbody : (mineOf c.q (.object i) sub).any isBody = true)
    (hs : StructEnv e (name ++ "On" ++ objName c.s (.object i)) (varFieldsX c name (mineOf c.q (.object i) sub)))
    (henvF : envSelsS e c name (C01NG.ownSels (varSels c.q (.object i) sub)))
    (hfenv : ∀ g ∈ memFrags c.q (.object i) sub, fenv g)
    (hkw : ∀ g ∈ memFrags c.q (.object i) sub, kwOk c g = true) :
    (∀ x ∈ varSels c.q (.object i) sub, leafSel c.s c.q c.o x = true) ∧
      aSels ok c.s c.q c.o (.object i) (varSels c.q (.object i) sub) = true ∧
      envSelsA fenv e c name (varSels c.q (.object i) sub) ∧ keysOksA KN c (varSels c.q (.object i) sub) = true ∧
      (∀ g, varSels c.q (.object i) sub ≠ [Sel.spread g]) ∧
      StructEnv e (name ++ "On" ++ objName c.s (.object i)) (fieldsOfF c name (varSels c.q (.object i) sub)) ∧
      (∀ g ∈ memFrags c.q (.object i) sub, ok (.object i) g = true) ∧
      (∀ x ∈ varSels c.q (.object i) sub, (∃ g, x = Sel.spread g ∧ g ∈ memFrags c.q (.object i) sub) ∨
        (isFieldSel x = true ∧ ∃ t isub, Sel.inline t isub ∈ mineOf c.q (.object i) sub ∧ x ∈ isub)) := by
    have hmineX := hsx.mine hok hvt
    have hmemS : ∀ x ∈ varSels c.q (.object i) sub,
        (∃ g, x = Sel.spread g ∧ g ∈ memFrags c.q (.object i) sub) ∨
          (isFieldSel x = true ∧ leafSel c.s c.q c.o x = true) := by
      intro x hx
      rcases mem_varSelsOf hx with ⟨g, rfl, hg⟩ | ⟨t, isub, hm, hb, hxi⟩
      · exact .inl ⟨g, rfl, hg⟩
      · rcases hmineX _ hm with (⟨g, h0, _⟩ | ⟨g, h0, _⟩) | ⟨isub', h0, _, hlf⟩
        · cases h0
        · cases h0; simp [isBody, isFieldSel] at hb
        · cases h0
          obtain ⟨_, _, hx', _, hall⟩ := isBody_inline hb
          cases hx'
          exact .inr ⟨hall x hxi, hlf x hxi⟩
    have hokm : ∀ g ∈ memFrags c.q (.object i) sub, ok (.object i) g = true :=
      fun g hg => memFrags_okX hmineX hg
    have hleafall : ∀ x ∈ varSels c.q (.object i) sub, leafSel c.s c.q c.o x = true := by
      intro x hx
      rcases hmemS x hx with ⟨g, rfl, _⟩ | ⟨_, hl⟩
      · rfl
      · exact hl
    have ht : aSels ok c.s c.q c.o (.object i) (varSels c.q (.object i) sub) = true := by
      apply aSels_of_mem
      intro x hx
      rcases hmemS x hx with ⟨g, rfl, hg⟩ | ⟨hf, hl⟩
      · simpa [aSel] using hokm g hg
      · cases x with
        | field a fid sub' => exact aSel_leaf hl
        | spread g => simp [isFieldSel] at hf
        | inline t sub' => simp [isFieldSel] at hf
        | typename => simp [isFieldSel] at hf
    have henvA : envSelsA fenv e c name (varSels c.q (.object i) sub) := by
      apply envSelsA_of_mem
      intro x hx
      rcases hmemS x hx with ⟨g, rfl, hg⟩ | ⟨hf, hl⟩
      · rw [envSelA]; exact hfenv g hg
      · cases x with
        | field a fid sub' =>
          exact envSelA_leaf hl
            (envSelsS_mem henvF _ (List.mem_filter.mpr ⟨hx, hf⟩))
        | spread g => simp [isFieldSel] at hf
        | inline t sub' => simp [isFieldSel] at hf
        | typename => simp [isFieldSel] at hf
    have hko : keysOksA KN c (varSels c.q (.object i) sub) = true := by
      apply keysOksA_of_mem
      intro x hx
      rcases hmemS x hx with ⟨g, rfl, hg⟩ | ⟨hf, hl⟩
      · simp [keysOkA]
      · cases x with
        | field a fid sub' => exact keysOkA_leaf hl
        | spread g => simp [isFieldSel] at hf
        | inline t sub' => simp [isFieldSel] at hf
        | typename => simp [isFieldSel] at hf
    -- the struct has an own field
    obtain ⟨y, hyv, hyf⟩ : ∃ y ∈ varSels c.q (.object i) sub, isFieldSel y = true := by
      have hb' := hbody
      simp only [List.any_eq_true] at hb'
      obtain ⟨z, hz, hzb⟩ := hb'
      obtain ⟨t, isub, rfl, hne0, hall⟩ := isBody_inline hzb
      cases isub with
      | nil => exact absurd rfl hne0
      | cons y ys =>
        refine ⟨y, ?_, hall y (by simp)⟩
        unfold varSels varSelsOf
        apply List.mem_append_left
        exact List.mem_flatMap.mpr ⟨_, hz, by simp [varPartS, hzb]⟩
    have hnl : ∀ g, varSels c.q (.object i) sub ≠ [Sel.spread g] := by
      intro g hg
      rw [hg] at hyv
      simp only [List.mem_singleton] at hyv
      subst hyv
      simp [isFieldSel] at hyf
    have hF : fieldsOfF c name (varSels c.q (.object i) sub) = varFieldsX c name (mineOf c.q (.object i) sub) := by
      unfold varSels varSelsOf varFieldsX
      rw [fieldsOfF_append c, fieldsOfF_varParts hok name name i _ hmineX
        (fun g hg => hkw g (List.mem_append_left _ hg)),
        fieldsOfF_aliases hok name (.object i) _
          (fun g hg => hokm g (List.mem_append_right _ hg)) (fun g hg => hkw g (List.mem_append_right _ hg))]
    refine ⟨hleafall, ht, henvA, hko, hnl, by rw [hF]; exact hs, hokm, ?_⟩
    intro x hx
    rcases mem_varSelsOf hx with ⟨g, rfl, hg⟩ | ⟨t, isub, hm, hb, hxi⟩
    · exact .inl ⟨g, rfl, hg⟩
    · obtain ⟨_, _, hx', _, hall⟩ := isBody_inline hb
      cases hx'
      exact .inr ⟨hall x hxi, t, isub, hm, hxi⟩

include hok hfa in
/-- **the payload of the variant of `vt`** accepts exactly `payX` -/
theorem accVariantX (name : String) (ty : TypeId) (sub : List Sel) (hsx : SpecialX ok c.s c.q c.o ty sub)
    (vt : TypeId) (hvt : vt ∈ vtsOfTy c.s ty) (hve : VarEnvX fenv e c name vt sub)
    (hkeys : varKeysOk KN c vt sub = true) :
    ∃ N, ∀ fd, N ≤ fd → ∀ rest,
      pickOk (dePath e true fd) (variantOf c name (marks c.q sub) vt) rest = payX whole c.s c.q c.o sub vt rest := by
  have hsp := hsx.gen.abs
  cases hbody : (mineOf c.q vt sub).any isBody with
  | false =>
    have hmeq := mineOf_unbody hbody
    unfold VarEnvX at hve
    rw [hbody] at hve
    simp only [Bool.false_eq_true, if_false] at hve
    unfold varKeysOk at hkeys
    rw [hbody] at hkeys
    simp only [Bool.false_eq_true, if_false] at hkeys
    obtain ⟨N, hN⟩ := C01NA.accVariantA e c ok whole KN fenv hok hfa name ty (strip (unbody sub)) hsp vt hvt hve
      (nodup_iff'.mp hkeys)
    refine ⟨N, fun fd hfd rest => ?_⟩
    rw [← marks_variantOf_congr c name vt hmeq, hN fd hfd rest]
    unfold payX
    rw [hbody]
    rfl
  | true =>
    obtain ⟨i, rfl, hi⟩ := hsp.obj vt hvt
    unfold VarEnvX at hve
    simp only [hbody, if_true] at hve
    obtain ⟨hs, henvF, hfenv⟩ := hve
    unfold varKeysOk at hkeys
    simp only [hbody, if_true, Bool.and_eq_true, List.all_eq_true] at hkeys
    obtain ⟨hkn, hkw⟩ := hkeys
    obtain ⟨hleafall, ht, henvA, hko, hnl, hsF, hokm, _⟩ := varSels_facts e c ok KN fenv hok name ty sub hsx i hvt hbody hs henvF
      hfenv hkw
    obtain ⟨N, hN⟩ := accStructA e c ok whole KN fenv hok hfa name (name ++ "On" ++ objName c.s (.object i)) (.object i)
      (varSels c.q (.object i) sub) (accSelsLeafA e c ok whole KN fenv name _ hleafall henvF) hnl ht henvA hko hkn
      hsF
    refine ⟨N, fun fd hfd rest => ?_⟩
    have hemp : (mineOf c.q (.object i) sub).isEmpty = false := by
      cases hmm : mineOf c.q (.object i) sub with
      | nil => rw [hmm] at hbody; simp at hbody
      | cons _ _ => rfl
    unfold pickOk variantOf payX
    rw [marks_contains]
    simp only [hemp, Bool.not_false, ↓reduceIte, hbody, Bool.false_eq_true]
    rw [show deTyWith (dePath e true fd) (.path (name ++ "On" ++ objName c.s (.object i))) (.obj rest) =
      dePath e true fd (name ++ "On" ++ objName c.s (.object i)) (.obj rest) from rfl, hN true fd hfd (.obj rest),
      conformsLooseA_not_lone hnl]
    simp only [looseOwnA_leaf true rest _ hleafall]


/-! ## the struct at a position with (b)-spreads -/

theorem fieldOfSelB_field (c : Ctx) (pfx : String) (ty : TypeId) (a : Option String) (fid : Nat) (sub' : List Sel) :
    fieldOfSelB c pfx ty (.field a fid sub') = fieldOfSelV c pfx (.field a fid sub') := rfl

/-- the own (non-flattened) fields of the struct: the interface-level fields -/
theorem fieldsB_filter_own (c : Ctx) (pfx : String) (ty : TypeId) (sub : List Sel) :
    (fieldsB c pfx ty sub).filter (fun f => !f.flatten) = fieldsOfV c pfx sub :=
  own_fieldsB c pfx ty sub

/-- the flattened members of the struct: one per (b)-spread -/
theorem fieldsB_filter_fl (c : Ctx) (pfx : String) (ty : TypeId) : ∀ (sub : List Sel),
    (fieldsB c pfx ty sub).filter (·.flatten) = fieldsB c pfx ty (bSels c.q ty sub)
  | [] => rfl
  | x :: xs => by
    have ih := fieldsB_filter_fl c pfx ty xs
    have hpl := plain_fieldsOfV c pfx [x]
    unfold bSels at ih ⊢
    rw [fieldsB_cons, List.filter_append, ih, List.filter_cons]
    cases x with
    | field a fid sub' =>
      rw [fieldOfSelB_field]
      unfold fieldsOfV at hpl
      cases hfo : fieldOfSelV c pfx (.field a fid sub') with
      | none => simp [isBSpread]
      | some f =>
        simp only [List.filterMap_cons, hfo, List.filterMap_nil, plain, List.all_cons, List.all_nil, Bool.and_true] at hpl
        have : f.flatten = false := by simpa using hpl
        simp [isBSpread, this]
    | spread g =>
      cases hf : c.q.fragments[g]? with
      | none => simp [fieldOfSelB, isBSpread, hf]
      | some f =>
        by_cases hon : f.on = ty
        · simp [fieldOfSelB, isBSpread, hf, hon, spreadField, fieldsB_cons]
        · simp [fieldOfSelB, isBSpread, hf, hon]
    | inline t sub' => simp [fieldOfSelB, fieldOfSelV, isBSpread]
    | typename => simp [fieldOfSelB, fieldOfSelV, isBSpread]

theorem isEmpty_of_filters {α : Type} (p : α → Bool) : ∀ (l : List α),
    l.isEmpty = ((l.filter (fun x => !p x)).isEmpty && (l.filter p).isEmpty)
  | [] => rfl
  | x :: xs => by cases hp : p x <;> simp [hp]

theorem fieldsB_bSels_isEmpty (c : Ctx) (pfx : String) (ty : TypeId) (sub : List Sel) :
    (fieldsB c pfx ty (bSels c.q ty sub)).isEmpty = (bSels c.q ty sub).isEmpty := by
  cases hl : bSels c.q ty sub with
  | nil => rfl
  | cons x xs =>
    have hx : x ∈ bSels c.q ty sub := by rw [hl]; simp
    obtain ⟨g, f, rfl, hf, hon⟩ := isBSpread_spread (mem_bSels.mp hx).2
    rw [fieldsB_cons]
    simp [fieldOfSelB, hf, hon]

theorem fieldsB_isEmpty {c : Ctx} (pfx : String) (ty : TypeId) {sub : List Sel}
    (h : ∀ x ∈ sub, leafSel c.s c.q c.o x = true) :
    (fieldsB c pfx ty sub).isEmpty = ((C01NG.ownSels sub).isEmpty && (bSels c.q ty sub).isEmpty) := by
  rw [isEmpty_of_filters (·.flatten), fieldsB_filter_own, fieldsB_filter_fl, C01NG.fieldsOfV_isEmpty pfx h, fieldsB_bSels_isEmpty]

/-- the (b)-spreads are spreads of `VariantSpreadOp` -/
theorem spreadsA_bSels {ok : TypeId → Nat → Bool} {c : Ctx} {ty : TypeId} {sub : List Sel}
    (h : SpecialB ok c.s c.q c.o ty sub) : SpreadsA c ty (bSels c.q ty sub) := by
  intro g hg
  obtain ⟨hm, hb⟩ := mem_bSels.mp hg
  have hbf := h.b g hm hb
  obtain ⟨f, hf, hon, _⟩ := fragOkB_parts hbf.okB
  exact .inr ⟨f, hbf.okB, hf, hon⟩

include hok hfa in
/-- **a field of abstract type of the class**: the tagged enum alone, or the struct (own fields + flattened members of the
    (b)-spreads + flattened `on`) and the tagged enum `…On`, accept exactly `looseTagB` -/
theorem accAbsB (pfx : String) (a : Option String) (sub : List Sel) (sf : StoredField)
    (hnew : absFieldB ok c.s c.q c.o sf sub = true)
    (henv : EnvAbsB fenv e c (pfx ++ c.cs.camel (a.getD sf.name)) sf.ty.id sub)
    (hkeys : ∀ vt ∈ vtsOfTy c.s sf.ty.id, varKeysOk KN c vt (unB c.q sf.ty.id sub) = true) :
    ∃ N, ∀ b fd, N ≤ fd → ∀ v,
      okB (deFieldWith (dePath e b fd)
        (fieldOf c (a.getD sf.name) (pfx ++ c.cs.camel (a.getD sf.name)) sf.ty.quals sf.deprecation) v) =
        looseAbsB whole c.s c.q c.o b sf sub v := by
  obtain ⟨hw, _, hty, hsubG⟩ := absFieldB_parts hnew
  have hsb := absSubB_parts hsubG
  have hsg := hsb.x
  have hwf : wf (gtyOf sf.ty.quals) = true := by rw [wf_gtyOf]; exact hw
  obtain ⟨habs, henvF, henvB, hvar⟩ := henv
  generalize hname : pfx ++ c.cs.camel (a.getD sf.name) = name at *
  -- the payloads, uniformly in the fuel
  have hpay : ∃ N, ∀ vt ∈ vtsOfTy c.s sf.ty.id, ∀ fd, N ≤ fd → ∀ rest,
      pickOk (dePath e true fd) (variantOf c name (marks c.q (unB c.q sf.ty.id sub)) vt) rest =
        payX whole c.s c.q c.o (unB c.q sf.ty.id sub) vt rest := by
    apply exists_uniform (fun vt N => ∀ fd, N ≤ fd → ∀ rest,
      pickOk (dePath e true fd) (variantOf c name (marks c.q (unB c.q sf.ty.id sub)) vt) rest =
        payX whole c.s c.q c.o (unB c.q sf.ty.id sub) vt rest)
    · intro vt n m hnm h fd hfd rest
      exact h fd (by omega) rest
    · intro vt hvt
      exact accVariantX e c ok whole KN fenv hok hfa _ sf.ty.id _ hsg vt hvt (hvar vt hvt) (hkeys vt hvt)
  obtain ⟨N, hN⟩ := hpay
  have hsS := sSels_ownSels sub hsb.leaf
  have hID : name ≠ "ID" := by
    unfold AbsEnv at habs; split at habs
    · exact habs.2.1
    · exact habs.1.2.1
  refine ⟨max (max N (2 * depthsF c.q (C01NG.ownSels sub) + 1)) (2 * depthsF c.q (bSels c.q sf.ty.id sub) + 1) + 2,
    fun b fd hfd v => ?_⟩
  obtain ⟨fd', rfl⟩ : ∃ k, fd = k + 2 := ⟨fd - 2, by omega⟩
  obtain ⟨H1, _⟩ := accSelsS e c (C01NG.ownSels sub) name true hsS henvF b (fd' + 1) (by omega)
  have hmem := accMemB e c name sf.ty.id hty (bSels c.q sf.ty.id sub) (spreadsA_bSels hsb) henvB fd' (by omega)
  have hflB := fieldsB_filter_fl c name sf.ty.id sub
  have hflB2 : (fieldsB c name sf.ty.id (bSels c.q sf.ty.id sub)).filter (·.flatten) =
      fieldsB c name sf.ty.id (bSels c.q sf.ty.id sub) := by
    rw [← hflB, List.filter_filter]; simp
  have hleaf : ∀ j, okB (dePath e b (fd' + 2) name j) = looseTagB whole c.s c.q c.o b sf.ty.id sub j := by
    intro j
    rw [okB_absEnv habs
      (fun g hg hfl => (hmem []).1 g (by rw [← hflB]; exact List.mem_filter.mpr ⟨hg, hfl⟩) hfl)
      (fun b' kvs => tagOkV c.s c.o b' (vtsOfTy c.s sf.ty.id) (payX whole c.s c.q c.o (unB c.q sf.ty.id sub)) kvs) fd'
      (fun fd'' _ b' kvs => okB_tagged c _ sf.ty.id (marks c.q (unB c.q sf.ty.id sub)) _ b' _ kvs
        (fun vt hvt => hN vt hvt fd'' (by omega) _)) b j]
    cases j with
    | obj kvs =>
      have h2 := (hmem (restG c.s sub kvs)).2
      rw [hflB2] at h2
      dsimp only [leftBy]
      rw [fieldsB_filter_own, hflB, ← fieldsOfV_ownSels, H1 kvs, wire_fieldsOfS c name true _ hsS,
        fieldsB_isEmpty name sf.ty.id hsb.leaf,
        show kvs.filter (fun kv => !(fieldKeys c.s (C01NG.ownSels sub)).contains kv.1) = restG c.s sub kvs from rfl, h2]
      simp only [looseTagB]
      cases hown : ((C01NG.ownSels sub).isEmpty && (bSels c.q sf.ty.id sub).isEmpty)
      · simp
      · simp only [Bool.and_eq_true, List.isEmpty_iff] at hown
        simp [restG, hown.1, hown.2, looseSelsS, looseMemB, fieldKeys, List.filter_eq_self.mpr]
    | _ => rfl
  rw [deField_plain _ _ _ _ hID]
  exact (ok_iff_accepts _ _ (looseTagB whole c.s c.q c.o b sf.ty.id sub) hleaf _ hwf).2 v

mutual
  theorem accSelA : ∀ (x : Sel) (pfx : String), OkSpec c.q ok →
      (∀ p g, ok p g = true → fenv g → FragAcc e c whole KN g) → AccSelA e c ok whole KN fenv pfx x
    | .field a fid sub, pfx => by
      intro hok hfa p ht henv hko f hf
      have IH := accSelsA sub
      obtain ⟨sf, ft, hsf, hleaf, hf', hw⟩ := fieldOfSelV_a pfx p a fid sub ht
      by_cases hobj : ∃ i, sf.ty.id = .object i
      · obtain ⟨i, hid⟩ := hobj
        have hwf : wf (gtyOf sf.ty.quals) = true := by rw [wf_gtyOf]; exact hw
        obtain ⟨_, _, hobjs, hbody⟩ := aSel_obj hsf hid ht
        have henv := envSelA_obj hsf hid henv
        have hko := keysOkA_obj hsf hid hko
        simp only [fieldOfSelV, hsf, leafNameV, hid, Option.some.injEq] at hf
        subst hf
        have hleaf : ∃ N, ∀ b fd, N ≤ fd → ∀ j, okB (dePath e b fd (pfx ++ c.cs.camel (a.getD sf.name)) j) =
            conformsLooseA whole c.s c.q c.o b sub j := by
          rcases lone_or_not sub with ⟨g, rfl⟩ | hnl
          · unfold BodyEnvA at henv
            simp only at henv
            exact accAliasA e c ok whole KN fenv hfa _ (.object i) g hbody henv.1 henv.2
          · have henv' := bodyEnvA_not_lone hnl henv
            rw [aBody_not_lone hnl] at hbody
            exact accStructA e c ok whole KN fenv hok hfa _ _ (.object i) sub (IH _ hok hfa) hnl hbody henv'.2 hko.2
              hko.1 henv'.1
        have hID : pfx ++ c.cs.camel (a.getD sf.name) ≠ "ID" := by
          unfold BodyEnvA at henv
          split at henv
          · exact henv.1.2.1
          · exact henv.1.2.1
        obtain ⟨N, hN⟩ := hleaf
        refine ⟨N, fun b fd hfd v => ?_⟩
        rw [looseFieldA]
        simp only [hsf, hid]
        cases hk : c.s.objects[i]? with
        | none => simp [hk] at hobjs
        | some ob =>
          simp only []
          rw [looseLambdaA, deField_plain _ _ _ _ hID]
          exact (ok_iff_accepts _ _ (conformsLooseA whole c.s c.q c.o b sub) (hN b fd hfd) _ hwf).2 v
      · -- scalar / enum / abstract as in `VariantSpreadOp` (`accSelS`), or an abstract position of the new kind (`accAbsB`)
        have hno : ∀ i, sf.ty.id ≠ .object i := fun i h => hobj ⟨i, h⟩
        rcases aSel_nonobj hsf hno ht with hs | ⟨hs, hnew⟩
        · refine ⟨2 * depthF c.q (.field a fid sub) + 1, fun b fd hfd v => ?_⟩
          rw [looseFieldA_old hsf hno hs]
          exact accSelS e c _ pfx false hs (envSelA_old hsf hno hs henv) f hf b fd hfd v
        · have hf'' := hf'
          rw [hf] at hf''
          simp only [Option.some.injEq] at hf''
          subst hf''
          have hft : ft = pfx ++ c.cs.camel (a.getD sf.name) := by
            rw [leafNameV_abs (absFieldB_parts hnew).2.2.1] at hleaf
            exact (Option.some.inj hleaf).symm
          subst hft
          obtain ⟨N, hN⟩ := accAbsB e c ok whole KN fenv hok hfa pfx a sub sf hnew (envSelA_new hsf hno hs henv)
            (keysOkA_new hsf hno hs hko)
          exact ⟨N, fun b fd hfd v => by rw [looseFieldA_new hsf hno hs]; exact hN b fd hfd v⟩
    | .spread g, pfx => by intro _ _ _ _ _ _ f hf; cases hf
    | .inline t sub, pfx => by intro _ _ _ _ _ _ f hf; cases hf
    | .typename, pfx => by intro _ _ _ _ _ _ f hf; cases hf
  theorem accSelsA : ∀ (sels : List Sel) (pfx : String), OkSpec c.q ok →
      (∀ p g, ok p g = true → fenv g → FragAcc e c whole KN g) → AccSelsA e c ok whole KN fenv pfx sels
    | [], pfx => by
      intro _ _ _ _ _ _
      exact ⟨0, fun b fd _ => ⟨fun kvs => by simp [fieldsOfV, looseOwnA], fun xs => by simp [fieldsOfV, looseArrA]⟩⟩
    | x :: xs, pfx => by
      intro hok hfa p ht henv hko
      obtain ⟨hx, hxs⟩ := aSels_cons ht
      rw [envSelsA] at henv
      rw [keysOksA, Bool.and_eq_true] at hko
      obtain ⟨N2, I⟩ := accSelsA xs pfx hok hfa p hxs henv.2 hko.2
      have IX := accSelA x pfx hok hfa p hx henv.1 hko.1
      cases x with
      | field a fid sub =>
        obtain ⟨sf, ft, hsf, _, hf, hw⟩ := fieldOfSelV_a pfx p a fid sub hx
        obtain ⟨N1, IXf⟩ := IX _ hf
        have hfs := fieldsOfV_cons_field c pfx _ xs _ hf
        refine ⟨max N1 N2, fun b fd hfd => ?_⟩
        obtain ⟨I1, I2⟩ := I b fd (by omega)
        have IXf := IXf b fd (by omega)
        refine ⟨fun kvs => ?_, fun vs => ?_⟩
        · rw [hfs, List.all_cons, I1 kvs, looseOwnA.eq_2]
          simp only [hsf, fieldOf_wire, readField]
          cases hl : Json.lookup (a.getD sf.name) kvs with
          | none => simp only [missing_fieldOf]
          | some v => simp only [IXf v]
        · rw [hfs]
          cases vs with
          | nil => rw [looseArrA.eq_2]; simp
          | cons v vs' =>
            rw [looseArrA.eq_3]
            simp only [List.length_cons, List.zip_cons_cons, List.all_cons, IXf v, ← I2 vs',
              Nat.add_le_add_iff_right]
            cases looseFieldA whole c.s c.q c.o b (.field a fid sub) v <;> simp
      | spread g =>
        have hfs := fieldsOfV_cons_none c pfx (.spread g) xs rfl
        refine ⟨N2, fun b fd hfd => ?_⟩
        obtain ⟨I1, I2⟩ := I b fd hfd
        refine ⟨fun kvs => ?_, fun vs => ?_⟩
        · rw [hfs, I1 kvs]; simp [looseOwnA]
        · rw [hfs, I2 vs]; simp [looseArrA]
      | inline t sub => simp [aSel] at hx
      | typename =>
        have hfs := fieldsOfV_cons_none c pfx .typename xs rfl
        refine ⟨N2, fun b fd hfd => ?_⟩
        obtain ⟨I1, I2⟩ := I b fd hfd
        refine ⟨fun kvs => ?_, fun vs => ?_⟩
        · rw [hfs, I1 kvs]; simp [looseOwnA]
        · rw [hfs, I2 vs]; simp [looseArrA]
end

include hok hfa in
/-- **the type emitted for an object-level selection set accepts exactly `conformsLooseA`** (from some fuel on) -/
theorem bodyA_accepts_iff (pfx name : String) (p : TypeId) (sels : List Sel)
    (ht : aBody ok c.s c.q c.o p sels = true) (henv : BodyEnvA fenv e c name pfx sels)
    (hko : keysOksA KN c sels = true) (hkeys : EnumSpec.nodup (expKeysN KN c sels) = true) :
    ∃ N, ∀ b fd, N ≤ fd → ∀ j, okB (dePath e b fd name j) = conformsLooseA whole c.s c.q c.o b sels j := by
  rcases lone_or_not sels with ⟨g, rfl⟩ | hnl
  · unfold BodyEnvA at henv
    simp only at henv
    exact accAliasA e c ok whole KN fenv hfa _ p g ht henv.1 henv.2
  · have henv' := bodyEnvA_not_lone hnl henv
    rw [aBody_not_lone hnl] at ht
    exact accStructA e c ok whole KN fenv hok hfa pfx name p sels (accSelsA e c ok whole KN fenv sels pfx hok hfa) hnl ht
      henv'.2 hko hkeys henv'.1

end AccA

end C01NB
end GqlVerif