import GqlVerif.Proofs.C01MixedG
import GqlVerif.Proofs.C01MixedSchema
import GqlVerif.Proofs.C01VariantSpreadEval
import GqlVerif.Proofs.SpecEval

/-!
# C01 end to end (`MixedOp`, `MixedOp2`): evaluated instances on the schema `mxSchema` (`C01MixedSchema`)

Imported only by `C01MixedContentW` and the audits.  Three generated modules with every hypothesis of `mixed_roundtrip` /
`mixed2_roundtrip` checked by evaluation and the round trip computed: `mx…` (`MixedOp`, in neither `FragmentOp` nor
`VariantSpreadOp`), `mx2…` (the same with a flattened member at the object position), `ex…` (`MixedOp2`, in none of the other
classes).  Then one module per side condition where only that condition fails and the round trip loses a value or fails:
`mixed_keys_needed`, `mixed2_oi_needed`, `mixed_rust_needed`.
-/

namespace GqlVerif
namespace C01M
open Serde Spec C13 C03 Codegen C01 C01.E2E

/-! ## a generated module in neither class -/

def mxOp (dog animal : List Sel) : ROperation :=
  { name := "Q", kind := .query, objectId := 0, sels := [.field none 0 dog, .field none 1 animal] }

def mxQuery (dog animal : List Sel) : Query :=
  { operations := [mxOp dog animal]
    fragments := [{ name := "DogFields", on := .object 1, sels := [.field none 3 []] },
                  { name := "AnimalName", on := .interface 0, sels := [.typename, .field none 2 []] }] }

def mxCtx (dog animal : List Sel) : Ctx := { s := mxSchema, q := mxQuery dog animal, o := {}, cs := ⟨id, id⟩ }

/-- `dog { ...DogFields }` -/
def mxDog : List Sel := [.spread 0]
/-- `animal { __typename ...AnimalName ...DogFields }` -/
def mxAnimal : List Sel := [.typename, .spread 1, .spread 0]

def mxItems : List Item := okOr (responseForQuery (mxCtx mxDog mxAnimal) 0)

theorem mx_gen : responseForQuery (mxCtx mxDog mxAnimal) 0 = .ok mxItems := gen_of_isOk (by decide +kernel)
theorem mx_class : MixedOp (mxCtx mxDog mxAnimal) (mxOp mxDog mxAnimal) = true := by decide +kernel
/-- the operation is not in `FragmentOp` (a spread at an abstract position) … -/
theorem mx_not_F : FragmentOp (mxCtx mxDog mxAnimal) (mxOp mxDog mxAnimal) = false := by decide +kernel
/-- … and not in `VariantSpreadOp` (a spread at an object position) -/
theorem mx_not_S : VariantSpreadOp (mxCtx mxDog mxAnimal) (mxOp mxDog mxAnimal) = false := by decide +kernel
theorem mx_keys : mixedKeysOk (mxCtx mxDog mxAnimal) (mxOp mxDog mxAnimal) = true := by decide +kernel
theorem mx_rust : mixedRustOk (mxCtx mxDog mxAnimal) (mxOp mxDog mxAnimal) = true := by decide +kernel
theorem mx_ok : moduleOk (mxCtx mxDog mxAnimal) mxItems = true := by decide +kernel

/-- the emitted types: `Qdog` is the alias of the fragment struct; `Qanimal` has the flattened member for `AnimalName` and the
    flattened `on`; the variant `Dog` is the alias of the fragment struct `DogFields` -/
theorem mx_items_shape :
    ((moduleEnv (mxCtx mxDog mxAnimal) mxItems).find "Qdog" == some (.alias "Qdog" true (.path "DogFields"))) &&
    ((moduleEnv (mxCtx mxDog mxAnimal) mxItems).find "Qanimal" ==
      some (.struct "Qanimal" ["Deserialize"] (some "::serde")
        [{ rust := "AnimalName", ty := .path "AnimalName", flatten := true },
         { rust := "on", ty := .path "QanimalOn", flatten := true }])) &&
    ((moduleEnv (mxCtx mxDog mxAnimal) mxItems).find "QanimalOnDog" ==
      some (.alias "QanimalOnDog" true (.path "DogFields"))) = true := by
  decide +kernel

def mxJson : Json :=
  .obj [("dog", .obj [("barks", .bool true)]),
        ("animal", .obj [("__typename", .str "Dog"), ("name", .str "Rex"), ("barks", .bool false)])]

def mxJsonCat : Json :=
  .obj [("dog", .null), ("animal", .obj [("name", .str "Tom"), ("__typename", .str "Cat")])]

theorem mx_conforms : conformsOpM (mxCtx mxDog mxAnimal) (mxOp mxDog mxAnimal) mxJson = true := by
  rw [conformsOpM, conformsV_eq_K]
  decide +kernel
theorem mx_conformsCat : conformsOpM (mxCtx mxDog mxAnimal) (mxOp mxDog mxAnimal) mxJsonCat = true := by
  rw [conformsOpM, conformsV_eq_K]
  decide +kernel

macro "canonM_eval" : tactic => `(tactic|
  simp [canonSelM, canonEntriesM, canonFieldM, canonSelV, canonSelD, canonEntriesD, canonFieldD, loneG, canonEntriesBD,
    canonVarD, onNamed, absEntries, absRest, hasStruct, isBSpread, isFieldSel, canonAbsV, canonEntriesV, canonFieldV,
    canonInlV, tagName, fragSels, mxOp, mxQuery, mxSchema, objName, rtName, fieldKeys, fieldKey, Json.lookup, canon, canonNN,
    gtyOf, Json.isNull, skipQ, normJson, normKvs, normList, Json.normObj, Json.insert])

set_option maxRecDepth 8000 in
theorem mx_canon :
    normJson (canonSelM mxSchema (mxQuery mxDog mxAnimal) false (mxOp mxDog mxAnimal).sels mxJson) =
      .obj [("dog", .obj [("barks", .bool true)]),
            ("animal", .obj [("name", .str "Rex"), ("__typename", .str "Dog"), ("barks", .bool false)])] := by
  simp only [mxDog, mxAnimal, mxJson]; canonM_eval

/-- **`mixed_roundtrip` on the generated module**: the payload is accepted and written back (the entries of `AnimalName` —
    `name`, `__typename` — first, `__typename` once, then the entry of the variant's fragment `DogFields`) -/
theorem mx_roundtrip :
    Serde.roundtrip (moduleEnv (mxCtx mxDog mxAnimal) mxItems) (.path "ResponseData") mxJson =
      .ok (.obj [("dog", .obj [("barks", .bool true)]),
                 ("animal", .obj [("name", .str "Rex"), ("__typename", .str "Dog"), ("barks", .bool false)])]) := by
  rw [mixed_roundtrip (mxCtx mxDog mxAnimal) 0 (mxOp mxDog mxAnimal) mxItems rfl mx_class mx_keys mx_rust mx_gen mx_ok mxJson
    mx_conforms]
  exact congrArg Except.ok mx_canon

/-- … and a `Cat` (unit variant; `dog` null) is accepted -/
theorem mx_acceptsCat :
    ∃ v, Serde.de (moduleEnv (mxCtx mxDog mxAnimal) mxItems) (.path "ResponseData") mxJsonCat = .ok v :=
  mixed_accepts (mxCtx mxDog mxAnimal) 0 (mxOp mxDog mxAnimal) mxItems rfl mx_class mx_keys mx_gen mx_ok mxJsonCat
    mx_conformsCat

/-- C03 on the module: what `ResponseData` accepts, exactly -/
theorem mx_precise (j : Json) :
    okB (Serde.de (moduleEnv (mxCtx mxDog mxAnimal) mxItems) (.path "ResponseData") j) =
      conformsLooseM mxSchema (mxQuery mxDog mxAnimal) {} false (mxOp mxDog mxAnimal).sels j :=
  mixed_precise_iff (mxCtx mxDog mxAnimal) 0 (mxOp mxDog mxAnimal) mxItems rfl mx_class mx_keys mx_gen mx_ok j

/-! ### the same with a struct with a flattened member at the object position: `dog { name ...DogFields }` -/

def mx2Dog : List Sel := [.field none 2 [], .spread 0]

def mx2Items : List Item := okOr (responseForQuery (mxCtx mx2Dog mxAnimal) 0)

theorem mx2_gen : responseForQuery (mxCtx mx2Dog mxAnimal) 0 = .ok mx2Items := gen_of_isOk (by decide +kernel)
theorem mx2_class : MixedOp (mxCtx mx2Dog mxAnimal) (mxOp mx2Dog mxAnimal) = true := by decide +kernel
theorem mx2_not_F : FragmentOp (mxCtx mx2Dog mxAnimal) (mxOp mx2Dog mxAnimal) = false := by decide +kernel
theorem mx2_not_S : VariantSpreadOp (mxCtx mx2Dog mxAnimal) (mxOp mx2Dog mxAnimal) = false := by decide +kernel
theorem mx2_keys : mixedKeysOk (mxCtx mx2Dog mxAnimal) (mxOp mx2Dog mxAnimal) = true := by decide +kernel
theorem mx2_rust : mixedRustOk (mxCtx mx2Dog mxAnimal) (mxOp mx2Dog mxAnimal) = true := by decide +kernel
theorem mx2_ok : moduleOk (mxCtx mx2Dog mxAnimal) mx2Items = true := by decide +kernel

theorem mx2_items_shape :
    ((moduleEnv (mxCtx mx2Dog mxAnimal) mx2Items).find "Qdog" ==
      some (.struct "Qdog" ["Deserialize"] (some "::serde")
        [{ rust := "name", ty := .path "String" },
         { rust := "DogFields", ty := .path "DogFields", flatten := true }])) = true := by
  decide +kernel

def mx2Json : Json :=
  .obj [("dog", .obj [("barks", .null), ("name", .str "Rex")]),
        ("animal", .obj [("__typename", .str "Dog"), ("name", .str "Rex"), ("barks", .bool false)])]

theorem mx2_conforms : conformsOpM (mxCtx mx2Dog mxAnimal) (mxOp mx2Dog mxAnimal) mx2Json = true := by
  rw [conformsOpM, conformsV_eq_K]
  decide +kernel

set_option maxRecDepth 8000 in
theorem mx2_canon :
    normJson (canonSelM mxSchema (mxQuery mx2Dog mxAnimal) false (mxOp mx2Dog mxAnimal).sels mx2Json) =
      .obj [("dog", .obj [("name", .str "Rex"), ("barks", .null)]),
            ("animal", .obj [("name", .str "Rex"), ("__typename", .str "Dog"), ("barks", .bool false)])] := by
  simp only [mx2Dog, mxAnimal, mx2Json]; canonM_eval

theorem mx2_roundtrip :
    Serde.roundtrip (moduleEnv (mxCtx mx2Dog mxAnimal) mx2Items) (.path "ResponseData") mx2Json =
      .ok (.obj [("dog", .obj [("name", .str "Rex"), ("barks", .null)]),
                 ("animal", .obj [("name", .str "Rex"), ("__typename", .str "Dog"), ("barks", .bool false)])]) := by
  rw [mixed_roundtrip (mxCtx mx2Dog mxAnimal) 0 (mxOp mx2Dog mxAnimal) mx2Items rfl mx2_class mx2_keys mx2_rust mx2_gen mx2_ok
    mx2Json mx2_conforms]
  exact congrArg Except.ok mx2_canon

/-! ## `MixedOp2`: a generated module in none of the other classes

`query Q { dog { ...DogFields } animal { __typename ...AnimalName ... on Dog { ...DogFields } } }` on the schema `mxSchema`
of `C01MixedSchema` (`interface Animal { name }`, `Dog`, `Cat`). -/

/-- `animal { __typename ...AnimalName ... on Dog { ...DogFields } }` -/
def exAnimal : List Sel := [.typename, .spread 1, .inline (.object 1) [.spread 0]]

def exItems : List Item := okOr (responseForQuery (mxCtx mxDog exAnimal) 0)

theorem ex_gen : responseForQuery (mxCtx mxDog exAnimal) 0 = .ok exItems := gen_of_isOk (by decide +kernel)
theorem ex_class : MixedOp2 (mxCtx mxDog exAnimal) (mxOp mxDog exAnimal) = true := by decide +kernel
/-- the operation is in none of `FragmentOp`, `VariantSpreadOp`, `VariantSpreadOp2`, `MixedOp` -/
theorem ex_not_F : FragmentOp (mxCtx mxDog exAnimal) (mxOp mxDog exAnimal) = false := by decide +kernel
theorem ex_not_S : VariantSpreadOp (mxCtx mxDog exAnimal) (mxOp mxDog exAnimal) = false := by decide +kernel
theorem ex_not_S2 : VariantSpreadOp2 (mxCtx mxDog exAnimal) (mxOp mxDog exAnimal) = false := by decide +kernel
theorem ex_not_M : MixedOp (mxCtx mxDog exAnimal) (mxOp mxDog exAnimal) = false := by decide +kernel
theorem ex_keys : mixedKeysOk (mxCtx mxDog exAnimal) (normOp (mxOp mxDog exAnimal)) = true := by decide +kernel
theorem ex_rust : mixedRustOk (mxCtx mxDog exAnimal) (normOp (mxOp mxDog exAnimal)) = true := by decide +kernel
theorem ex_ok : moduleOk (mxCtx mxDog exAnimal) exItems = true := by decide +kernel

theorem ex_norm : normSels (mxOp mxDog exAnimal).sels = (mxOp mxDog mxAnimal).sels := by
  simp [normSels, keepN, movedN, normSel, aliasInl, mxOp, mxDog, exAnimal, mxAnimal]

theorem ex_items_shape :
    ((moduleEnv (mxCtx mxDog exAnimal) exItems).find "Qdog" == some (.alias "Qdog" true (.path "DogFields"))) &&
    ((moduleEnv (mxCtx mxDog exAnimal) exItems).find "Qanimal" ==
      some (.struct "Qanimal" ["Deserialize"] (some "::serde")
        [{ rust := "AnimalName", ty := .path "AnimalName", flatten := true },
         { rust := "on", ty := .path "QanimalOn", flatten := true }])) &&
    ((moduleEnv (mxCtx mxDog exAnimal) exItems).find "QanimalOnDog" ==
      some (.alias "QanimalOnDog" true (.path "DogFields"))) = true := by
  decide +kernel

theorem ex_conforms : conformsOpM (mxCtx mxDog exAnimal) (mxOp mxDog exAnimal) mxJson = true := by
  rw [conformsOpM, conformsV_eq_K]
  decide +kernel

set_option maxRecDepth 8000 in
theorem ex_canon :
    normJson (canonSelM mxSchema (mxQuery mxDog exAnimal) false (normSels (mxOp mxDog exAnimal).sels) mxJson) =
      .obj [("dog", .obj [("barks", .bool true)]),
            ("animal", .obj [("name", .str "Rex"), ("__typename", .str "Dog"), ("barks", .bool false)])] := by
  rw [ex_norm]
  simp only [mxDog, mxAnimal, exAnimal, mxJson]; canonM_eval

/-- **`mixed2_roundtrip` on the generated module of the example** -/
theorem ex_roundtrip :
    Serde.roundtrip (moduleEnv (mxCtx mxDog exAnimal) exItems) (.path "ResponseData") mxJson =
      .ok (.obj [("dog", .obj [("barks", .bool true)]),
                 ("animal", .obj [("name", .str "Rex"), ("__typename", .str "Dog"), ("barks", .bool false)])]) := by
  rw [mixed2_roundtrip (mxCtx mxDog exAnimal) 0 (mxOp mxDog exAnimal) exItems rfl ex_class ex_keys ex_rust ex_gen ex_ok mxJson
    ex_conforms]
  exact congrArg Except.ok ex_canon

/-! ## the side conditions are needed (generated modules on `mxSchema`)

`mixedKeysOk` in `mixed_roundtrip`: `mixed_keys_needed` below (the round trip succeeds and a value is lost).  `mixedKeysOk` in
`mixed_accepts`: `fragment_overlap_loses_key` (`C01AbstractHW`) is a `FragmentOp` — hence `MixedOp` — operation where a
fragment spread at an object position shares a key with a sibling and the generated `ResponseData` rejects a conforming
response.  `oiSels` in `mixed2_roundtrip`: `mixed2_oi_needed`; `mixedRustOk`: `mixed_rust_needed`.  The conditions at abstract
positions are part of the class (`absOkS`); their necessity: `variantspread_overlap_*`, `variantspread_b_overlap_loses_key`,
`variantspread_b_merge_loses_fields` (`C01VariantSpreadW`, `C01VariantSpreadEW`). -/

/-- `dog { barks ...DogFields }`: `barks` is selected directly and through the fragment -/
def kDog : List Sel := [.field none 3 [], .spread 0]

def kJson : Json :=
  .obj [("dog", .obj [("barks", .bool true)]), ("animal", .obj [("__typename", .str "Cat"), ("name", .str "Tom")])]

/-- **`mixedKeysOk` is needed**: the operation is in `MixedOp`, the module is generated and `moduleOk`, `mixedRustOk` holds,
    the response conforms; only `mixedKeysOk` fails — and the round trip turns `barks: true` into `barks: null` (the own
    field consumed the key before the flattened member `DogFields` saw the buffer; known finding `C01-overlap`) -/
theorem mixed_keys_needed :
    MixedOp (mxCtx kDog mxAnimal) (mxOp kDog mxAnimal) = true ∧
    mixedKeysOk (mxCtx kDog mxAnimal) (mxOp kDog mxAnimal) = false ∧
    mixedRustOk (mxCtx kDog mxAnimal) (mxOp kDog mxAnimal) = true ∧
    isOkO (responseForQuery (mxCtx kDog mxAnimal) 0) = true ∧
    moduleOk (mxCtx kDog mxAnimal) (okOr (responseForQuery (mxCtx kDog mxAnimal) 0)) = true ∧
    conformsOpM (mxCtx kDog mxAnimal) (mxOp kDog mxAnimal) kJson = true ∧
    (match Serde.roundtrip (moduleEnv (mxCtx kDog mxAnimal) (okOr (responseForQuery (mxCtx kDog mxAnimal) 0)))
        (.path "ResponseData") kJson with
     | .ok (.obj [("dog", .obj [("barks", .null)]), ("animal", .obj [("name", .str "Tom"), ("__typename", .str "Cat")])]) =>
       true
     | _ => false) = true := by
  refine ⟨by decide +kernel, by decide +kernel, by decide +kernel, by decide +kernel, by decide +kernel, ?_,
    by decide +kernel⟩
  rw [conformsOpM, conformsV_eq_K]
  decide +kernel

/-- `dog { ... on Dog { ...DogFields } }`: an aliased inline fragment in an object-level selection set -/
def oDog : List Sel := [.inline (.object 1) [.spread 0]]

/-- **`oiSels` is needed in `MixedOp2`**: every other part of the class and every other hypothesis of `mixed2_roundtrip`
    holds, the response conforms (as written: `barks` is selected) — and `barks` is lost: the generator ignores inline
    fragments in object-level selection sets, `Qdog` is a struct without fields -/
theorem mixed2_oi_needed :
    aliasWfSels (mxCtx oDog mxAnimal).q (mxOp oDog mxAnimal).sels = true ∧
    aliasOkSels (mxCtx oDog mxAnimal) (mxOp oDog mxAnimal).sels = true ∧
    noAliasHere (mxOp oDog mxAnimal).sels = true ∧
    MixedOp (mxCtx oDog mxAnimal) (normOp (mxOp oDog mxAnimal)) = true ∧
    oiSels mxSchema (mxOp oDog mxAnimal).sels = false ∧
    mixedKeysOk (mxCtx oDog mxAnimal) (normOp (mxOp oDog mxAnimal)) = true ∧
    mixedRustOk (mxCtx oDog mxAnimal) (normOp (mxOp oDog mxAnimal)) = true ∧
    isOkO (responseForQuery (mxCtx oDog mxAnimal) 0) = true ∧
    moduleOk (mxCtx oDog mxAnimal) (okOr (responseForQuery (mxCtx oDog mxAnimal) 0)) = true ∧
    conformsOpM (mxCtx oDog mxAnimal) (mxOp oDog mxAnimal) kJson = true ∧
    (match Serde.roundtrip (moduleEnv (mxCtx oDog mxAnimal) (okOr (responseForQuery (mxCtx oDog mxAnimal) 0)))
        (.path "ResponseData") kJson with
     | .ok (.obj [("dog", .obj []), ("animal", .obj [("name", .str "Tom"), ("__typename", .str "Cat")])]) => true
     | _ => false) = true := by
  refine ⟨by decide +kernel, by decide +kernel, by decide +kernel, by decide +kernel, by decide +kernel, by decide +kernel,
    by decide +kernel, by decide +kernel, by decide +kernel, ?_, by decide +kernel⟩
  rw [conformsOpM, conformsV_eq_K]
  decide +kernel

/-! ### `mixedRustOk`: `fragment name on Dog { barks }`, `query Q { dog { name ...name } animal { __typename } }` -/

def rnOp : ROperation :=
  { name := "Q", kind := .query, objectId := 0,
    sels := [.field none 0 [.field none 2 [], .spread 0], .field none 1 [.typename]] }

def rnCtx : Ctx :=
  { s := mxSchema
    q := { operations := [rnOp], fragments := [{ name := "name", on := .object 1, sels := [.field none 3 []] }] }
    o := {}, cs := ⟨id, id⟩ }

def rnJson : Json :=
  .obj [("dog", .obj [("name", .str "Rex"), ("barks", .bool true)]), ("animal", .obj [("__typename", .str "Cat")])]

/-- **`mixedRustOk` is needed**: the struct `Qdog { name: String, name: name (flatten) }` (which does not compile as Rust)
    is emitted by a module that is `moduleOk` for an operation of `MixedOp` with `mixedKeysOk`; the conforming response is
    accepted (`mixed_accepts`) but cannot be written back in the model (the value found under the Rust name `name` for the
    flattened member is the own field's: "can only flatten structs and maps") -/
theorem mixed_rust_needed :
    MixedOp rnCtx rnOp = true ∧ mixedKeysOk rnCtx rnOp = true ∧ mixedRustOk rnCtx rnOp = false ∧
    isOkO (responseForQuery rnCtx 0) = true ∧ moduleOk rnCtx (okOr (responseForQuery rnCtx 0)) = true ∧
    conformsOpM rnCtx rnOp rnJson = true ∧
    okB (Serde.roundtrip (moduleEnv rnCtx (okOr (responseForQuery rnCtx 0))) (.path "ResponseData") rnJson) = false := by
  refine ⟨by decide +kernel, by decide +kernel, by decide +kernel, by decide +kernel, by decide +kernel, ?_,
    by decide +kernel⟩
  rw [conformsOpM, conformsV_eq_K]
  decide +kernel

end C01M
end GqlVerif
