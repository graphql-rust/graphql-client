import GqlVerif.Proofs.C01VariantSpreadA
/-!
# C01 / C03 end to end: `VariantSpreadOp2` — inline fragments whose body is a lone spread, next to other selections; the emitted items of `VariantSpreadOp` and `VariantSpreadOp2`

The shape of the defect repaired by fix 78c01b5: at an abstract position, `... on T { ...F }` next to other selections on `T`.
`calcVariants` makes the variant an alias of `F` only if that inline fragment is the sole contribution; otherwise `F` becomes one
more `#[serde(flatten)]` member of the variant struct, **after** the fields and members of the other selections
(`aliasMember`).  So the emitted items are those of the *normalized* selection set `normSels`: every such inline fragment is
replaced by the spread `...F`, moved behind the other selections of its selection set.

`VariantSpreadOp2 c op` (decidable): the normalized operation is in `VariantSpreadOp`, every aliased inline fragment
`... on T { ...F }` has `F` a `fragOk` fragment on `T` itself, and the edge case "one aliased inline fragment next to
selections that contribute no field" is excluded (`edgeOk`; there the generator still emits the alias).

`variantspread2_items_shape`: `responseItems c op = .ok (structItemsS … (normSels op.sels))`, proved by building a derivation of
`C02.CalcSel` along the selection tree (`calc_variantspread2`, `calc_variantspread2_abs`).  A selection set of `VariantSpreadOp`
has nothing to normalize (`noAlias_sels`): `calc_variantspread`, `variantspread_items_shape`.
-/

namespace GqlVerif
namespace C01
namespace E2E
open Codegen

/-- an inline fragment whose body is a lone spread -/
def aliasInl : Sel → Option Nat
  | .inline _ [.spread g] => some g
  | _ => none

/-- the spreads that replace the aliased inline fragments of a selection set -/
def movedN (sels : List Sel) : List Sel := sels.filterMap (fun x => (aliasInl x).map Sel.spread)

mutual
  def normSel : Sel → Sel
    | .field a fid sub => .field a fid (keepN sub ++ movedN sub)
    | .inline t sub => .inline t (keepN sub ++ movedN sub)
    | .spread g => .spread g
    | .typename => .typename
  /-- the other selections, normalized below -/
  def keepN : List Sel → List Sel
    | [] => []
    | x :: xs => if (aliasInl x).isSome then keepN xs else normSel x :: keepN xs
end

/-- **the normalized selection set**: aliased inline fragments become spreads behind the other selections -/
def normSels (sels : List Sel) : List Sel := keepN sels ++ movedN sels

theorem normSel_field (a : Option String) (fid : Nat) (sub : List Sel) :
    normSel (.field a fid sub) = .field a fid (normSels sub) := by rw [normSel]; rfl

theorem normSel_inline (t : TypeId) (sub : List Sel) : normSel (.inline t sub) = .inline t (normSels sub) := by
  rw [normSel]; rfl

theorem keepN_cons_alias {x : Sel} {xs : List Sel} {g : Nat} (h : aliasInl x = some g) : keepN (x :: xs) = keepN xs := by
  rw [keepN]; simp [h]

theorem keepN_cons_keep {x : Sel} {xs : List Sel} (h : aliasInl x = none) : keepN (x :: xs) = normSel x :: keepN xs := by
  rw [keepN]; simp [h]

theorem movedN_cons_alias {x : Sel} {xs : List Sel} {g : Nat} (h : aliasInl x = some g) :
    movedN (x :: xs) = .spread g :: movedN xs := by
  simp [movedN, h]

theorem movedN_cons_keep {x : Sel} {xs : List Sel} (h : aliasInl x = none) : movedN (x :: xs) = movedN xs := by
  simp [movedN, h]

theorem aliasInl_some {x : Sel} {g : Nat} (h : aliasInl x = some g) : ∃ t, x = .inline t [.spread g] := by
  cases x with
  | inline t sub =>
    cases sub with
    | nil => simp [aliasInl] at h
    | cons y ys =>
      cases ys with
      | nil =>
        cases y with
        | spread g' => simp only [aliasInl, Option.some.injEq] at h; subst h; exact ⟨t, rfl⟩
        | _ => simp [aliasInl] at h
      | cons z zs => simp [aliasInl] at h
  | _ => simp [aliasInl] at h

theorem mem_movedN {sels : List Sel} {y : Sel} (h : y ∈ movedN sels) :
    ∃ t g, Sel.inline t [.spread g] ∈ sels ∧ y = .spread g := by
  unfold movedN at h
  obtain ⟨x, hx, hxy⟩ := List.mem_filterMap.mp h
  cases ha : aliasInl x with
  | none => simp [ha] at hxy
  | some g =>
    obtain ⟨t, rfl⟩ := aliasInl_some ha
    simp only [ha, Option.map_some, Option.some.injEq] at hxy
    exact ⟨t, g, hx, hxy.symm⟩

theorem mem_keepN : ∀ {sels : List Sel} {y : Sel}, y ∈ keepN sels → ∃ x ∈ sels, aliasInl x = none ∧ y = normSel x
  | [], y, h => by simp [keepN] at h
  | x :: xs, y, h => by
    cases ha : aliasInl x with
    | some g =>
      rw [keepN_cons_alias ha] at h
      obtain ⟨x', hx', h'⟩ := mem_keepN h
      exact ⟨x', List.mem_cons_of_mem _ hx', h'⟩
    | none =>
      rw [keepN_cons_keep ha] at h
      rcases List.mem_cons.mp h with rfl | h
      · exact ⟨x, by simp, ha, rfl⟩
      · obtain ⟨x', hx', h'⟩ := mem_keepN h
        exact ⟨x', List.mem_cons_of_mem _ hx', h'⟩

theorem movedN_no_alias : ∀ (sels : List Sel), (∀ x ∈ sels, aliasInl x = none) → movedN sels = []
  | [], _ => rfl
  | x :: xs, h => by
    rw [movedN_cons_keep (h x (by simp))]
    exact movedN_no_alias xs (fun y hy => h y (List.mem_cons_of_mem _ hy))

/-- an object-level selection set of the class (normalized) has no aliased inline fragment: nothing is moved -/
theorem movedN_nil_of_obj {s : Schema} {q : Query} {o : Options} {sels : List Sel}
    (h : sSels s q o false (normSels sels) = true) : movedN sels = [] := by
  cases hm : movedN sels with
  | nil => rfl
  | cons y ys =>
    have hy : y ∈ movedN sels := by rw [hm]; simp
    obtain ⟨t, g, _, rfl⟩ := mem_movedN hy
    have : Sel.spread g ∈ normSels sels := List.mem_append_right _ hy
    exact absurd this (no_spread_of_sSels h g)

theorem sSels_of_append {s : Schema} {q : Query} {o : Options} {abs : Bool} : ∀ {xs ys : List Sel},
    sSels s q o abs (xs ++ ys) = true → sSels s q o abs xs = true ∧ sSels s q o abs ys = true
  | [], _, h => ⟨rfl, h⟩
  | x :: xs, ys, h => by
    rw [List.cons_append] at h
    obtain ⟨hx, hxs⟩ := sSels_cons h
    obtain ⟨h1, h2⟩ := sSels_of_append hxs
    exact ⟨by rw [sSels, hx, h1]; rfl, h2⟩


/-- the items of the aliased inline fragments of the selections on one variant -/
def alItems (c : Ctx) (sname : String) (ms : List Sel) : List Item :=
  ms.filterMap (fun x => (aliasInl x).map (fun g => aliasItem sname (fragName c g) false))

/-- not the edge case: exactly one aliased inline fragment on the variant, next to other selections none of which
    contributes a field or member (there the generator still emits the type alias) -/
def edgeOk (c : Ctx) (vt : TypeId) (sub : List Sel) : Bool :=
  !((varFields c "" vt (keepN (mineOf c.q vt sub))).isEmpty && (movedN (mineOf c.q vt sub)).length == 1 &&
    decide (2 ≤ (mineOf c.q vt sub).length))

/-- every aliased inline fragment `... on T { ...F }` of the selection set: `F` is a `fragOk` fragment on `T` itself -/
def aliasFrOk (c : Ctx) (sub : List Sel) : Bool :=
  sub.all (fun x => match x with
    | .inline (.object i) [.spread g] => fragOk c.s c.q c.o (.object i) g
    | .inline _ [.spread _] => false
    | _ => true)

def aliasAt (c : Ctx) (vts : List TypeId) (sub : List Sel) : Bool :=
  aliasFrOk c sub && vts.all (fun vt => edgeOk c vt sub)

mutual
  def aliasOkSel (c : Ctx) : Sel → Bool
    | .field _ fid sub =>
      (match c.s.fields[fid]? with
       | some sf => aliasAt c (vtsOfTy c.s sf.ty.id) sub
       | none => true) && aliasOkSels c sub
    | .inline _ sub => aliasOkSels c sub
    | _ => true
  def aliasOkSels (c : Ctx) : List Sel → Bool
    | [] => true
    | x :: xs => aliasOkSel c x && aliasOkSels c xs
end

/-- the type condition of an aliased inline fragment `... on T { ...F }` is the type `F` is on -/
def aliasOn (q : Query) (t : TypeId) : List Sel → Bool
  | [.spread g] => (match q.fragments[g]? with | some f => f.on == t | none => false)
  | _ => true

mutual
  /-- every aliased inline fragment of the tree, at any level, is `... on T { ...F }` with `F` a fragment on `T` -/
  def aliasWfSel (q : Query) : Sel → Bool
    | .field _ _ sub => aliasWfSels q sub
    | .inline t sub => aliasOn q t sub && aliasWfSels q sub
    | _ => true
  def aliasWfSels (q : Query) : List Sel → Bool
    | [] => true
    | x :: xs => aliasWfSel q x && aliasWfSels q xs
end

def normOp (op : ROperation) : ROperation := { op with sels := normSels op.sels }

/-- **the class `VariantSpreadOp2`** (decidable): the normalized operation is in `VariantSpreadOp`; the aliased inline
    fragments are well-formed (`aliasWfSels`: on the type of their fragment; `aliasOkSels`: at an abstract position the
    fragment is `fragOk`, and not the edge case `edgeOk`) -/
def VariantSpreadOp2 (c : Ctx) (op : ROperation) : Bool :=
  aliasWfSels c.q op.sels && aliasOkSels c op.sels && VariantSpreadOp c (normOp op)

theorem normOp_sels (op : ROperation) : (normOp op).sels = normSels op.sels := rfl
theorem normOp_objectId (op : ROperation) : (normOp op).objectId = op.objectId := rfl

theorem aliasOkSels_cons {c : Ctx} {x : Sel} {xs : List Sel} (h : aliasOkSels c (x :: xs) = true) :
    aliasOkSel c x = true ∧ aliasOkSels c xs = true := by
  simpa [aliasOkSels] using h

theorem aliasOkSels_mem {c : Ctx} : ∀ {sels : List Sel}, aliasOkSels c sels = true → ∀ x ∈ sels, aliasOkSel c x = true :=
  fun {sels} h => List.all_eq_true.mp (all_of_eqns (ps := aliasOkSels c) (by rw [aliasOkSels]) (fun _ _ => by rw [aliasOkSels]) sels ▸ h)

theorem aliasFrOk_mem {c : Ctx} {sub : List Sel} (h : aliasFrOk c sub = true) {t : TypeId} {g : Nat}
    (hm : Sel.inline t [.spread g] ∈ sub) : (∃ i, t = .object i) ∧ fragOk c.s c.q c.o t g = true := by
  simp only [aliasFrOk, List.all_eq_true] at h
  have := h _ hm
  cases t with
  | object i => exact ⟨⟨i, rfl⟩, this⟩
  | _ => simp at this

theorem aliasFrOk_tail {c : Ctx} {x : Sel} {xs : List Sel} (h : aliasFrOk c (x :: xs) = true) : aliasFrOk c xs = true := by
  simp only [aliasFrOk, List.all_cons, Bool.and_eq_true] at h ⊢
  exact h.2

theorem aliasInl_none_not_lone {x : Sel} (h : aliasInl x = none) : ∀ t g, x ≠ .inline t [.spread g] := by
  intro t g heq; subst heq; simp [aliasInl] at h

/-! ## the emitted items of `VariantSpreadOp2` (`variantspread2_items_shape`) -/

theorem fieldsB_append (c : Ctx) (pfx : String) (ty : TypeId) (xs ys : List Sel) :
    fieldsB c pfx ty (xs ++ ys) = fieldsB c pfx ty xs ++ fieldsB c pfx ty ys := by
  simp [fieldsB]

theorem itemsSs_append (c : Ctx) (pfx : String) : ∀ (xs ys : List Sel),
    itemsSs c pfx (xs ++ ys) = itemsSs c pfx xs ++ itemsSs c pfx ys
  | [], ys => by simp [itemsSs]
  | x :: xs, ys => by rw [List.cons_append, itemsSs, itemsSs, itemsSs_append c pfx xs ys, List.append_assoc]

theorem itemsSs_movedN (c : Ctx) (pfx : String) : ∀ (sels : List Sel), itemsSs c pfx (movedN sels) = []
  | [] => rfl
  | x :: xs => by
    cases ha : aliasInl x with
    | none => rw [movedN_cons_keep ha]; exact itemsSs_movedN c pfx xs
    | some g => rw [movedN_cons_alias ha, itemsSs, itemsSs_movedN c pfx xs]; simp [itemsS]

/-- the moved spreads are on possible types, not on the abstract type itself: they add no interface-level member -/
theorem fieldsB_movedN (c : Ctx) (pfx : String) (ty : TypeId) : ∀ (sels : List Sel),
    (∀ t g, Sel.inline t [.spread g] ∈ sels → ∃ f, c.q.fragments[g]? = some f ∧ f.on ≠ ty) →
    fieldsB c pfx ty (movedN sels) = []
  | [], _ => rfl
  | x :: xs, h => by
    have ih := fieldsB_movedN c pfx ty xs (fun t g hm => h t g (List.mem_cons_of_mem _ hm))
    cases ha : aliasInl x with
    | none => rw [movedN_cons_keep ha]; exact ih
    | some g =>
      obtain ⟨t, rfl⟩ := aliasInl_some ha
      obtain ⟨f, hf, hne⟩ := h t g (by simp)
      have hne' : (f.on == ty) = false := by simpa using hne
      rw [movedN_cons_alias ha]
      simp only [fieldsB, List.filterMap_cons, fieldOfSelB, hf, hne', Bool.false_eq_true, ↓reduceIte]
      exact ih

/-! ### normalization at the level of one variant -/

theorem selOn_normSel (q : Query) (x : Sel) : selOn q (normSel x) = selOn q x := by
  cases x with
  | field a fid sub => rw [normSel_field]; rfl
  | inline t sub => rw [normSel_inline]; rfl
  | spread g => rw [normSel]
  | typename => rw [normSel]

/-- the aliased inline fragments of a selection set are on the type of their fragment -/
def AliasOn (q : Query) (sels : List Sel) : Prop :=
  ∀ t g, Sel.inline t [.spread g] ∈ sels → ∃ f, q.fragments[g]? = some f ∧ f.on = t

theorem aliasOn_of {c : Ctx} {sels : List Sel} (h : aliasFrOk c sels = true) : AliasOn c.q sels := by
  intro t g hm
  obtain ⟨_, hok⟩ := aliasFrOk_mem h hm
  obtain ⟨f, hf, hon, _⟩ := fragOk_parts hok
  exact ⟨f, hf, hon⟩

theorem AliasOn.tail {q : Query} {x : Sel} {xs : List Sel} (h : AliasOn q (x :: xs)) : AliasOn q xs :=
  fun t g hm => h t g (List.mem_cons_of_mem _ hm)

theorem keepN_filter_onVt (q : Query) (vt : TypeId) : ∀ (sels : List Sel),
    (keepN sels).filter (onVt q vt) = keepN (sels.filter (onVt q vt))
  | [] => rfl
  | x :: xs => by
    have ih := keepN_filter_onVt q vt xs
    cases ha : aliasInl x with
    | some g =>
      rw [keepN_cons_alias ha, ih, List.filter_cons]
      split
      · rw [keepN_cons_alias ha]
      · rfl
    | none =>
      rw [keepN_cons_keep ha, List.filter_cons, List.filter_cons]
      have : onVt q vt (normSel x) = onVt q vt x := by simp [onVt, selOn_normSel]
      rw [this]
      split
      · rw [keepN_cons_keep ha, ih]
      · exact ih

theorem movedN_filter_onVt (q : Query) (vt : TypeId) : ∀ (sels : List Sel), AliasOn q sels →
    (movedN sels).filter (onVt q vt) = movedN (sels.filter (onVt q vt))
  | [], _ => rfl
  | x :: xs, hal => by
    have ih := movedN_filter_onVt q vt xs hal.tail
    cases ha : aliasInl x with
    | some g =>
      obtain ⟨t, rfl⟩ := aliasInl_some ha
      obtain ⟨f, hf, hon⟩ := hal t g (by simp)
      have : onVt q vt (.spread g) = onVt q vt (.inline t [.spread g]) := by simp [onVt, selOn, hf, hon]
      rw [movedN_cons_alias ha, List.filter_cons, List.filter_cons, this]
      split
      · rw [movedN_cons_alias ha, ih]
      · exact ih
    | none =>
      rw [movedN_cons_keep ha, ih, List.filter_cons]
      split
      · rw [movedN_cons_keep ha]
      · rfl

/-- the selections on a variant of the normalized selection set: the normalized selections on the variant -/
theorem mineOf_normSels (q : Query) (vt : TypeId) (sels : List Sel) (hal : AliasOn q sels) :
    mineOf q vt (normSels sels) = normSels (mineOf q vt sels) := by
  unfold mineOf normSels
  rw [List.filter_append, keepN_filter_onVt, movedN_filter_onVt q vt sels hal]

theorem length_normSels : ∀ (sels : List Sel), (normSels sels).length = sels.length
  | [] => rfl
  | x :: xs => by
    have ih := length_normSels xs
    unfold normSels at ih ⊢
    cases ha : aliasInl x with
    | some g => rw [keepN_cons_alias ha, movedN_cons_alias ha]; simp only [List.length_append, List.length_cons] at ih ⊢; omega
    | none => rw [keepN_cons_keep ha, movedN_cons_keep ha]; simp only [List.length_append, List.length_cons] at ih ⊢; omega

theorem normSels_eq_nil {sels : List Sel} : normSels sels = [] ↔ sels = [] := by
  constructor
  · intro h
    have := length_normSels sels
    rw [h] at this
    exact List.length_eq_zero_iff.mp this.symm
  · intro h; subst h; rfl

theorem varFields_append (c : Ctx) (pfx : String) (vt : TypeId) : ∀ (xs ys : List Sel),
    varFields c pfx vt (xs ++ ys) = varFields c pfx vt xs ++ varFields c pfx vt ys
  | [], ys => by simp [varFields]
  | x :: xs, ys => by
    have ih := varFields_append c pfx vt xs ys
    cases x with
    | inline t isub => rw [List.cons_append, varFields, varFields, ih, List.append_assoc]
    | spread g => rw [List.cons_append, varFields, varFields, ih, List.append_assoc]
    | field a fid sub => exact ih
    | typename => exact ih

theorem varItems_append (c : Ctx) (pfx : String) (vt : TypeId) : ∀ (xs ys : List Sel),
    varItems c pfx vt (xs ++ ys) = varItems c pfx vt xs ++ varItems c pfx vt ys
  | [], ys => by simp [varItems]
  | x :: xs, ys => by rw [List.cons_append, varItems, varItems, varItems_append c pfx vt xs ys, List.append_assoc]

theorem varItems_movedN (c : Ctx) (pfx : String) (vt : TypeId) : ∀ (sels : List Sel), varItems c pfx vt (movedN sels) = []
  | [] => rfl
  | x :: xs => by
    cases ha : aliasInl x with
    | none => rw [movedN_cons_keep ha]; exact varItems_movedN c pfx vt xs
    | some g => rw [movedN_cons_alias ha, varItems, varItems_movedN c pfx vt xs]; simp [varItem]

/-- the aliased inline fragments of the selections on a variant, rendered as flattened members -/
theorem aliasMembers (c : Ctx) (sname pfx : String) (vt : TypeId) : ∀ (ms : List Sel), aliasFrOk c ms = true →
    (∀ x ∈ ms, selOn c.q x = some vt) →
    ∃ L, (alItems c sname ms).mapM (aliasMember c) = .ok L ∧ L.flatten = varFields c pfx vt (movedN ms)
  | [], _, _ => ⟨[], rfl, rfl⟩
  | x :: xs, hal, hon => by
    obtain ⟨L, hL, hLf⟩ := aliasMembers c sname pfx vt xs (aliasFrOk_tail hal) (fun y hy => hon y (List.mem_cons_of_mem _ hy))
    cases ha : aliasInl x with
    | none =>
      refine ⟨L, ?_, ?_⟩
      · simpa [alItems, List.filterMap_cons, ha] using hL
      · rw [movedN_cons_keep ha]; exact hLf
    | some g =>
      obtain ⟨t, rfl⟩ := aliasInl_some ha
      obtain ⟨_, hok⟩ := aliasFrOk_mem hal (List.mem_cons_self)
      obtain ⟨fr, hfr, hfon, hname, _, _⟩ := fragOk_parts hok
      have htv : t = vt := by simpa [selOn] using hon _ (List.mem_cons_self)
      have hal1 : alItems c sname (Sel.inline t [.spread g] :: xs) =
          aliasItem sname fr.name false :: alItems c sname xs := by
        simp [alItems, ha, fragName, hfr]
      refine ⟨[memberField c fr] :: L, ?_, ?_⟩
      · rw [hal1, List.mapM_cons]
        have hL' : (alItems c sname xs).mapM (aliasMember c) = .ok L := hL
        simp only [aliasItem, Bool.false_eq_true, ↓reduceIte, aliasMember, renderField_member c fr hname, hL', bind,
          Except.bind, pure, Except.pure, Option.toList]
      · rw [movedN_cons_alias ha, varFields]
        simp [hfr, hfon, htv, hLf]

theorem isEmpty_append {α} (xs ys : List α) : (xs ++ ys).isEmpty = (xs.isEmpty && ys.isEmpty) := by
  cases xs <;> simp

theorem fieldOfSelV_isSome_pfx (c : Ctx) (p p' : String) (x : Sel) :
    (fieldOfSelV c p x).isSome = (fieldOfSelV c p' x).isSome := by
  cases x with
  | field a fid sub =>
    simp only [fieldOfSelV]
    cases hsf : c.s.fields[fid]? with
    | none => rfl
    | some sf =>
      simp only []
      cases hid : sf.ty.id <;> simp [leafNameV] <;> (split <;> simp_all)
  | _ => rfl

theorem fieldsOfV_isEmpty_pfx (c : Ctx) (p p' : String) : ∀ (sels : List Sel),
    (fieldsOfV c p sels).isEmpty = (fieldsOfV c p' sels).isEmpty
  | [] => rfl
  | x :: xs => by
    have ih := fieldsOfV_isEmpty_pfx c p p' xs
    have hx := fieldOfSelV_isSome_pfx c p p' x
    unfold fieldsOfV at ih ⊢
    rw [List.filterMap_cons, List.filterMap_cons]
    cases h1 : fieldOfSelV c p x <;> cases h2 : fieldOfSelV c p' x <;> simp_all

theorem varFields_isEmpty_pfx (c : Ctx) (p p' : String) (vt : TypeId) : ∀ (sels : List Sel),
    (varFields c p vt sels).isEmpty = (varFields c p' vt sels).isEmpty
  | [] => rfl
  | x :: xs => by
    have ih := varFields_isEmpty_pfx c p p' vt xs
    cases x with
    | inline t isub =>
      rw [varFields, varFields]
      simp only [isEmpty_append, ih]
      split
      · rw [fieldsOfV_isEmpty_pfx c (p ++ "On" ++ c.cs.camel (objName c.s t)) (p' ++ "On" ++ c.cs.camel (objName c.s t)) isub]
      · rfl
    | spread g => rw [varFields, varFields]; simp only [isEmpty_append, ih]
    | field a fid sub => exact ih
    | typename => exact ih

theorem length_alItems (c : Ctx) (sname : String) : ∀ (ms : List Sel), (alItems c sname ms).length = (movedN ms).length
  | [] => rfl
  | x :: xs => by
    have ih := length_alItems c sname xs
    cases ha : aliasInl x with
    | none => simpa [alItems, movedN, List.filterMap_cons, ha] using ih
    | some g => simpa [alItems, movedN, List.filterMap_cons, ha] using ih

theorem mem_keepN_spread {sels : List Sel} {g : Nat} (h : Sel.spread g ∈ sels) : Sel.spread g ∈ keepN sels := by
  induction sels with
  | nil => simp at h
  | cons x xs ih =>
    cases ha : aliasInl x with
    | some g' =>
      rw [keepN_cons_alias ha]
      rcases List.mem_cons.mp h with heq | h'
      · subst heq; simp [aliasInl] at ha
      · exact ih h'
    | none =>
      rw [keepN_cons_keep ha]
      rcases List.mem_cons.mp h with heq | h'
      · subst heq; rw [normSel]; simp
      · exact List.mem_cons_of_mem _ (ih h')

theorem mem_keepN_of {sels : List Sel} {x : Sel} (h : x ∈ sels) (ha : aliasInl x = none) : normSel x ∈ keepN sels := by
  induction sels with
  | nil => simp at h
  | cons y ys ih =>
    rcases List.mem_cons.mp h with heq | h'
    · subst heq; rw [keepN_cons_keep ha]; simp
    · cases hy : aliasInl y with
      | some g' => rw [keepN_cons_alias hy]; exact ih h'
      | none => rw [keepN_cons_keep hy]; exact List.mem_cons_of_mem _ (ih h')

theorem normSels_single_spread {ms : List Sel} {g : Nat} (h : normSels ms = [Sel.spread g]) :
    ms = [Sel.spread g] ∨ ∃ t, ms = [Sel.inline t [.spread g]] := by
  have hlen := length_normSels ms
  rw [h] at hlen
  cases ms with
  | nil => simp at hlen
  | cons x xs =>
    cases xs with
    | cons y ys => simp at hlen
    | nil =>
      cases ha : aliasInl x with
      | some g' =>
        obtain ⟨t, rfl⟩ := aliasInl_some ha
        have e1 : normSels [Sel.inline t [.spread g']] = [.spread g'] := by
          unfold normSels; rw [keepN_cons_alias ha, movedN_cons_alias ha]; rfl
        rw [e1] at h
        cases h
        exact .inr ⟨t, rfl⟩
      | none =>
        have e1 : normSels [x] = [normSel x] := by
          unfold normSels; rw [keepN_cons_keep ha, movedN_cons_keep ha]; rfl
        rw [e1] at h
        cases x with
        | spread g' => rw [normSel] at h; exact .inl h
        | field a fid sub => rw [normSel_field] at h; cases h
        | inline t sub => rw [normSel_inline] at h; cases h
        | typename => rw [normSel] at h; cases h

/-! ### the derivation of `C02.CalcSel`, along the selection tree -/

section CalcR
variable (c : Ctx) (hn : c.o.normalization = .none)

/-- a selection that is no aliased inline fragment is one step of the field loop; it contributes what its normalization
    contributes to the closed form -/
def StepS (x : Sel) : Prop := ∀ (abs : Bool) (pfx : String) (ty : TypeId) (rest : List Sel) (fs : List RField)
  (items : List Item), sSel c.s c.q c.o abs (normSel x) = true → SpreadsA c ty [normSel x] → aliasOkSel c x = true →
  C02.CalcFields c pfx ty rest fs items →
  C02.CalcFields c pfx ty (x :: rest) ((fieldOfSelB c pfx ty (normSel x)).toList ++ fs)
    (itemsS c pfx (normSel x) ++ items)

/-- the field loop skips the aliased inline fragments -/
theorem calcFieldsS {sels : List Sel} (H : ∀ y ∈ sels, StepS c y) (abs : Bool) (pfx : String) (ty : TypeId)
    (ht : sSels c.s c.q c.o abs (keepN sels) = true) (hsp : SpreadsA c ty (keepN sels))
    (hal : aliasOkSels c sels = true) :
    C02.CalcFields c pfx ty sels (fieldsB c pfx ty (keepN sels)) (itemsSs c pfx (keepN sels)) := by
  induction sels with
  | nil => exact .nil
  | cons x rest ih =>
    obtain ⟨halx, halr⟩ := aliasOkSels_cons hal
    have H' : ∀ y ∈ rest, StepS c y := fun y hy => H y (List.mem_cons_of_mem _ hy)
    cases ha : aliasInl x with
    | some g =>
      obtain ⟨t, rfl⟩ := aliasInl_some ha
      rw [keepN_cons_alias ha] at ht hsp ⊢
      exact .inline (ih H' ht hsp halr)
    | none =>
      rw [keepN_cons_keep ha] at ht hsp ⊢
      obtain ⟨hx, hrest⟩ := sSels_cons ht
      have := H x List.mem_cons_self abs pfx ty rest _ _ hx
        (fun g hg => hsp g (List.mem_cons.mpr (.inl (List.mem_singleton.mp hg)))) halx (ih H' hrest hsp.tail halr)
      rw [itemsSs, fieldsB, List.filterMap_cons]
      cases h : fieldOfSelB c pfx ty (normSel x) <;> simpa [h, fieldsB] using this

/-- the selections on the variant `.object i`: own fields of the inline fragments, a member per spread, an alias item per
    aliased inline fragment -/
theorem calcVSelsS (sname pfx : String) (ty : TypeId) (hty : absHyp c.s ty) (i : Nat)
    (hi : (c.s.objects[i]?).isSome = true) : ∀ (ms : List Sel),
    (∀ t isub, Sel.inline t isub ∈ ms → ∀ y ∈ isub, StepS c y) →
    sSels c.s c.q c.o true (normSels ms) = true → SpreadsA c ty (normSels ms) → aliasFrOk c ms = true →
    aliasOkSels c ms = true → (∀ x ∈ ms, selOn c.q x = some (.object i)) →
    C02.CalcVSels c sname pfx (.object i) (vselsOfS c.q ty ms) (varFields c pfx (.object i) (keepN ms))
      (varItems c pfx (.object i) (keepN ms)) (alItems c sname ms)
  | [], _, _, _, _, _, _ => .snil
  | x :: rest, Hin, ht, hsp, hal, halo, hon => by
    obtain ⟨halox, halor⟩ := aliasOkSels_cons halo
    have hvne : TypeId.object i ≠ ty := obj_ne_abs hty i
    have honx := hon x (by simp)
    have Hin' : ∀ t isub, Sel.inline t isub ∈ rest → ∀ y ∈ isub, StepS c y :=
      fun t isub hm => Hin t isub (List.mem_cons_of_mem _ hm)
    have hon' : ∀ y ∈ rest, selOn c.q y = some (.object i) := fun y hy => hon y (List.mem_cons_of_mem _ hy)
    cases ha : aliasInl x with
    | some g =>
      obtain ⟨t, rfl⟩ := aliasInl_some ha
      have htv : t = .object i := by simpa [selOn] using honx
      subst htv
      have hnr : normSels (Sel.inline (.object i) [.spread g] :: rest) = keepN rest ++ (.spread g :: movedN rest) := by
        simp [normSels, keepN_cons_alias ha, movedN_cons_alias ha]
      have htr : sSels c.s c.q c.o true (normSels rest) = true := by
        rw [hnr] at ht
        obtain ⟨h1, h2⟩ := sSels_of_append ht
        exact sSels_append h1 (sSels_cons h2).2
      have hspr : SpreadsA c ty (normSels rest) := by
        intro g' hg'
        apply hsp g'
        rw [hnr]
        rcases List.mem_append.mp hg' with h | h
        · exact List.mem_append_left _ h
        · exact List.mem_append_right _ (List.mem_cons_of_mem _ h)
      have hR := calcVSelsS sname pfx ty hty i hi rest Hin' htr hspr (aliasFrOk_tail hal) halor hon'
      obtain ⟨_, hok⟩ := aliasFrOk_mem hal (List.mem_cons_self)
      obtain ⟨fr, hfr, _, _, _, _⟩ := fragOk_parts hok
      have := C02.CalcVSels.inlineLone (sname := sname) (typeName_obj hi) (getFragment_of hfr) hR
      rw [show vselsOfS c.q ty (Sel.inline (.object i) [.spread g] :: rest) =
        .inline (.object i) [.spread g] :: vselsOfS c.q ty rest from rfl, keepN_cons_alias ha]
      simpa [alItems, ha, fragName, hfr, not_recursive_of_fragOk hok] using this
    | none =>
      have hnr : normSels (x :: rest) = normSel x :: normSels rest := by
        simp [normSels, keepN_cons_keep ha, movedN_cons_keep ha]
      rw [hnr] at ht hsp
      obtain ⟨hx, hrest⟩ := sSels_cons ht
      have hR := calcVSelsS sname pfx ty hty i hi rest Hin' hrest hsp.tail (aliasFrOk_tail hal) halor hon'
      have hal0 : alItems c sname (x :: rest) = alItems c sname rest := by simp [alItems, ha]
      rw [keepN_cons_keep ha, hal0]
      cases x with
      | inline t isub =>
        simp only [selOn, Option.some.injEq] at honx
        subst honx
        rw [normSel_inline] at hx ⊢
        simp only [sSel, Bool.and_eq_true] at hx
        have hsubN := hx.1.2
        have hns : normSels isub = keepN isub := by simp [normSels, movedN_nil_of_obj hsubN]
        rw [hns] at hsubN
        rw [aliasOkSel] at halox
        have hF := calcFieldsS c (Hin _ _ List.mem_cons_self) false
          (pfx ++ "On" ++ c.cs.camel (objName c.s (.object i))) (.object i) hsubN (spreadsA_obj hsubN) halox
        rw [fieldsB_noSpread c _ _ (keepN isub) (no_spread_of_sSels hsubN)] at hF
        have := C02.CalcVSels.inlineFields (sname := sname) (pfx := pfx) (vt := .object i) (t := .object i)
          (typeName_obj hi) (fun g h => by subst h; simp [aliasInl] at ha) hF hR
        rw [show vselsOfS c.q ty (Sel.inline (.object i) isub :: rest) =
          .inline (.object i) isub :: vselsOfS c.q ty rest from rfl]
        simpa [varFields, varItems, varItem, hns] using this
      | spread g =>
        have hns : normSel (.spread g) = .spread g := by rw [normSel]
        rw [hns] at hsp ⊢
        obtain ⟨fr, hok, hfr, hfon⟩ := hsp.onVt hvne (List.mem_cons_self) honx
        obtain ⟨fr', hfr', _, hname, _, _⟩ := fragOk_parts hok
        rw [hfr] at hfr'; cases hfr'
        have hne2 : (fr.on == ty) = false := by rw [hfon]; simpa using hvne
        have := C02.CalcVSels.spreadMember (sname := sname) (pfx := pfx) (vt := .object i) (g := g) (fr := fr)
          (by rw [not_recursive_of_fragOk hok]; exact renderField_member c fr hname) hR
        rw [show vselsOfS c.q ty (Sel.spread g :: rest) = .spread g fr :: vselsOfS c.q ty rest from by
          simp [vselsOfS, vselOfS, hfr, hne2]]
        simpa [varFields, varItems, varItem, hfr, hfon] using this
      | field a fid sub => simp [selOn] at honx
      | typename => simp [selOn] at honx

/-- the per-variant loop: unit variant, type alias (a lone spread, direct or as aliased inline fragment), or the variant
    struct with the aliased inline fragments as last members -/
theorem calcVarsS (name pfx : String) (ty : TypeId) {sels : List Sel}
    (Hin : ∀ t isub, Sel.inline t isub ∈ sels → ∀ y ∈ isub, StepS c y) (hty : absHyp c.s ty)
    (ht : sSels c.s c.q c.o true (normSels sels) = true) (hsp : SpreadsA c ty (normSels sels))
    (hal : aliasFrOk c sels = true) (halo : aliasOkSels c sels = true) :
    ∀ vts : List TypeId, (∀ vt ∈ vts, edgeOk c vt sels = true) →
    (∀ t ∈ vts, ∃ i, t = .object i ∧ (c.s.objects[i]?).isSome = true) →
    C02.CalcVars c name pfx (vselsOfS c.q ty sels) vts (vts.map (variantOf c pfx (marks c.q (normSels sels))))
      (vts.flatMap (fun vt => variantHead c pfx vt (normSels sels) ++ varItems c pfx vt (normSels sels)))
  | [], _, _ => .vnil
  | vt :: rest, hedge, hobj => by
    have hR := calcVarsS name pfx ty Hin hty ht hsp hal halo rest (fun t h => hedge t (List.mem_cons_of_mem _ h))
      (fun t h => hobj t (List.mem_cons_of_mem _ h))
    obtain ⟨i, rfl, hi⟩ := hobj vt (by simp)
    have hvne : TypeId.object i ≠ ty := obj_ne_abs hty i
    have hfil := filter_vselsOfS c.q ty _ hvne sels
    have hmem : ∀ x ∈ mineOf c.q (.object i) sels, x ∈ sels ∧ selOn c.q x = some (.object i) := fun x hx => mem_mineOf hx
    have hmine := mineOf_normSels c.q (.object i) sels (aliasOn_of hal)
    have hemp : (mineOf c.q (.object i) (normSels sels)).isEmpty = (mineOf c.q (.object i) sels).isEmpty := by
      rw [hmine]
      cases hm : mineOf c.q (.object i) sels with
      | nil => rfl
      | cons y ys =>
        cases hn' : normSels (y :: ys) with
        | nil => have := normSels_eq_nil.mp hn'; cases this
        | cons _ _ => rfl
    have hvo : variantOf c pfx (marks c.q (normSels sels)) (.object i) =
        if (mineOf c.q (.object i) sels).isEmpty then { name := objName c.s (.object i) }
        else { name := objName c.s (.object i), payload := some (.path (pfx ++ "On" ++ objName c.s (.object i))) } := by
      unfold variantOf; rw [marks_contains, hemp]; cases (mineOf c.q (.object i) sels).isEmpty <;> rfl
    have hvit : varItems c pfx (.object i) (normSels sels) = varItems c pfx (.object i) (keepN (mineOf c.q (.object i) sels)) := by
      rw [← varItems_mineOf c pfx (.object i) (normSels sels), hmine, normSels, varItems_append, varItems_movedN, List.append_nil]
    have hvfl : varFields c pfx (.object i) (normSels sels) =
        varFields c pfx (.object i) (keepN (mineOf c.q (.object i) sels)) ++
          varFields c pfx (.object i) (movedN (mineOf c.q (.object i) sels)) := by
      rw [← varFields_mineOf c pfx (.object i) (normSels sels), hmine, normSels, varFields_append]
    rw [List.map_cons, List.flatMap_cons, hvo, hvit]
    by_cases hm : mineOf c.q (.object i) sels = []
    · -- unit variant
      have hh : variantHead c pfx (.object i) (normSels sels) = [] := variantHead_nil (by rw [hmine, hm]; rfl)
      have := C02.CalcVars.bare (name := name) (pfx := pfx) (typeName_obj hi) (by rw [hfil, hm]; rfl) hR
      simpa [hm, hh, keepN, varItems] using this
    · by_cases hs : ∃ g, mineOf c.q (.object i) sels = [Sel.spread g]
      · -- a lone (direct) spread: the type alias
        obtain ⟨g, hg⟩ := hs
        have hgm := hmem (.spread g) (by rw [hg]; simp)
        have hgk : Sel.spread g ∈ normSels sels := List.mem_append_left _ (mem_keepN_spread hgm.1)
        obtain ⟨fr, hok, hfr, hfon⟩ := hsp.onVt hvne hgk hgm.2
        have hne2 : (fr.on == ty) = false := by rw [hfon]; simpa using hvne
        have hv : vselsOfS c.q ty [Sel.spread g] = [.spread g fr] := by simp [vselsOfS, vselOfS, hfr, hne2]
        have hnsg : normSels [Sel.spread g] = [Sel.spread g] := by
          simp [normSels, keepN, movedN, aliasInl, normSel]
        have hh := variantHead_alias (c := c) (pfx := pfx) (vt := .object i) (sub := normSels sels) (g := g)
          (by rw [hmine, hg, hnsg])
        have := C02.CalcVars.lone (name := name) (pfx := pfx) (typeName_obj hi) (by rw [hfil, hg, hv]) hR
        simpa [hg, hh, not_recursive_of_fragOk hok, keepN, aliasInl, normSel, varItems, varItem, fragName, hfr]
          using this
      · -- the selections on the variant contribute to one struct (or: a lone aliased inline fragment)
        have hs' : ∀ g, mineOf c.q (.object i) sels ≠ [Sel.spread g] := fun g hg => hs ⟨g, hg⟩
        have hfrs : ∀ g, Sel.spread g ∈ mineOf c.q (.object i) sels → ∃ f, c.q.fragments[g]? = some f :=
          fun g hg => hsp.frag g (List.mem_append_left _ (mem_keepN_spread (hmem _ hg).1))
        obtain ⟨v, vs, hvs, hnot⟩ := vselsOfS_shape c.q ty (.object i) hvne _ hfrs (fun x hx => (hmem x hx).2) hm hs'
        have halm : aliasFrOk c (mineOf c.q (.object i) sels) = true := by
          simp only [aliasFrOk, List.all_eq_true] at hal ⊢
          exact fun x hx => hal x (hmem x hx).1
        have htm : sSels c.s c.q c.o true (normSels (mineOf c.q (.object i) sels)) = true := by
          rw [← hmine]; exact sSels_filter _ ht
        have hspm : SpreadsA c ty (normSels (mineOf c.q (.object i) sels)) := by
          intro g hg
          rw [← hmine] at hg
          exact hsp g (mem_mineOf hg).1
        have halom : aliasOkSels c (mineOf c.q (.object i) sels) = true := by
          have : ∀ (l : List Sel), (∀ x ∈ l, aliasOkSel c x = true) → aliasOkSels c l = true := by
            intro l
            induction l with
            | nil => intro _; rfl
            | cons y ys ih => intro h; rw [aliasOkSels, h y (by simp), ih (fun x hx => h x (List.mem_cons_of_mem _ hx))]; rfl
          exact this _ (fun x hx => aliasOkSels_mem halo x (hmem x hx).1)
        have h3 := calcVSelsS c (pfx ++ "On" ++ objName c.s (.object i)) pfx ty hty i hi (mineOf c.q (.object i) sels)
          (fun t isub hmm => Hin t isub (hmem _ hmm).1) htm hspm halm halom (fun x hx => (hmem x hx).2)
        have hne : vselsOfS c.q ty (mineOf c.q (.object i) sels) ≠ [] := by rw [hvs]; simp
        have hemp' : (mineOf c.q (.object i) sels).isEmpty = false := by simpa using hm
        by_cases hA : ∃ t g, mineOf c.q (.object i) sels = [Sel.inline t [.spread g]]
        · -- a lone aliased inline fragment: the type alias
          obtain ⟨t, g, hg⟩ := hA
          obtain ⟨_, hok⟩ := aliasFrOk_mem halm (t := t) (g := g) (by rw [hg]; simp)
          obtain ⟨fr, hfr, _, _, _, _⟩ := fragOk_parts hok
          have ha : aliasInl (Sel.inline t [.spread g]) = some g := rfl
          have hk : keepN [Sel.inline t [.spread g]] = [] := by rw [keepN_cons_alias ha]; rfl
          have hmv : movedN [Sel.inline t [.spread g]] = [.spread g] := by rw [movedN_cons_alias ha]; rfl
          have hali : alItems c (pfx ++ "On" ++ objName c.s (.object i)) [Sel.inline t [.spread g]] =
              [aliasItem (pfx ++ "On" ++ objName c.s (.object i)) fr.name false] := by
            simp [alItems, aliasInl, fragName, hfr]
          have hh := variantHead_alias (c := c) (pfx := pfx) (vt := .object i) (sub := normSels sels) (g := g)
            (by rw [hmine, hg]; unfold normSels; rw [hk, hmv]; rfl)
          have h3' : C02.CalcVSels c (pfx ++ "On" ++ objName c.s (.object i)) pfx (.object i)
              (vselsOfS c.q ty (mineOf c.q (.object i) sels)) [] []
              [aliasItem (pfx ++ "On" ++ objName c.s (.object i)) fr.name false] := by
            rw [hg, hk, hali] at h3
            rw [hg]; exact h3
          have := C02.CalcVars.aliasOnly (name := name) (typeName_obj hi) hfil hne
            (fun g' fr' h => hnot g' fr' (by rw [← hvs]; exact h)) h3' (by rw [hg]; rfl) hR
          simpa [hemp', hg, hk, hh, varItems, fragName, hfr] using this
        · -- the variant struct
          have hnA : ∀ t g, mineOf c.q (.object i) sels ≠ [Sel.inline t [.spread g]] := fun t g h => hA ⟨t, g, h⟩
          obtain ⟨L, hL, hLf⟩ := aliasMembers c (pfx ++ "On" ++ objName c.s (.object i)) pfx (.object i) _ halm
            (fun x hx => (hmem x hx).2)
          have hstruct := variantHead_struct (c := c) (pfx := pfx) (vt := .object i) (sub := normSels sels)
            (by rw [hmine]; exact fun h => hm (normSels_eq_nil.mp h))
            (by
              intro g h
              rw [hmine] at h
              rcases normSels_single_spread h with h' | ⟨t, h'⟩
              · exact hs' g h'
              · exact hnA t g h')
          have hedge1 : pushedAny c.q (.object i) (vselsOfS c.q ty (mineOf c.q (.object i) sels)) = false →
              ∀ a, alItems c (pfx ++ "On" ++ objName c.s (.object i)) (mineOf c.q (.object i) sels) ≠ [a] := by
            -- nothing pushed and one alias: the edge case `edgeOk` excludes
            intro hp a h2
            have h1 := h3.nil_of_not_pushed hp
            have he := hedge (.object i) (by simp)
            simp only [edgeOk, Bool.not_eq_true', Bool.and_eq_false_iff, decide_eq_false_iff_not] at he
            have hlen1 : (movedN (mineOf c.q (.object i) sels)).length = 1 := by
              rw [← length_alItems c (pfx ++ "On" ++ objName c.s (.object i)), h2]; rfl
            have hfe : (varFields c "" (.object i) (keepN (mineOf c.q (.object i) sels))).isEmpty = true := by
              rw [varFields_isEmpty_pfx c "" pfx, h1]; rfl
            have hle : (mineOf c.q (.object i) sels).length ≤ 1 := by
              rcases he with (he | he) | he
              · rw [hfe] at he; cases he
              · simp [hlen1] at he
              · omega
            cases hmm : mineOf c.q (.object i) sels with
            | nil => exact hm hmm
            | cons y ys =>
              cases ys with
              | cons z zs => rw [hmm] at hle; simp at hle
              | nil =>
                cases hy : aliasInl y with
                | some g =>
                  obtain ⟨t, rfl⟩ := aliasInl_some hy
                  exact hnA t g hmm
                | none =>
                  rw [hmm, movedN_cons_keep hy] at hlen1
                  simp [movedN] at hlen1
          have := C02.CalcVars.struct (name := name) (typeName_obj hi) hfil hne
            (fun g' fr' h => hnot g' fr' (by rw [← hvs]; exact h)) h3 hedge1 hL hR
          simpa [hemp', hstruct, hLf, ← hvfl, renderType] using this

/-- an abstract position: the type alias of a lone spread of a fragment on the type itself; else the variants, then the
    interface-level fields and members -/
theorem calcAbsS (name pfx : String) (ty : TypeId) {sels : List Sel} (H : ∀ y ∈ sels, StepS c y)
    (Hin : ∀ t isub, Sel.inline t isub ∈ sels → ∀ y ∈ isub, StepS c y) (hty : absHyp c.s ty)
    (ht : sSels c.s c.q c.o true (normSels sels) = true) (hokL : absOkL c.s c.q c.o ty (normSels sels) = true)
    (hat : aliasAt c (vtsOfTy c.s ty) sels = true) (halo : aliasOkSels c sels = true) :
    C02.CalcSel c name pfx ty sels (absItemsL c name pfx ty (normSels sels)) := by
  simp only [aliasAt, Bool.and_eq_true, List.all_eq_true] at hat
  obtain ⟨hal, hedge⟩ := hat
  rcases absOkL_cases hokL with ⟨hok, hlg⟩ | ⟨g, hng, hokB⟩
  rotate_left
  · obtain ⟨fr, hfr, hon, _, _, _⟩ := fragOkB_parts hokB
    have hs : sels = [Sel.spread g] := by
      rcases normSels_single_spread hng with h | ⟨t, h⟩
      · exact h
      · subst h
        obtain ⟨⟨i, rfl⟩, hokg⟩ := aliasFrOk_mem hal (t := t) (g := g) (by simp)
        obtain ⟨fr', hfr', hon', _⟩ := fragOk_parts hokg
        rw [hfr] at hfr'; cases hfr'
        exact absurd (hon'.symm.trans hon) (obj_ne_abs hty i)
    subst hs
    have := C02.CalcSel.alias (name := name) (pfx := pfx) (ty := ty) (getFragment_of hfr)
    simpa [absItemsL, hng, loneG, fragName, hfr, not_recursive_of_fragOkB hokB] using this
  obtain ⟨hok1, _, _⟩ := absOkS_parts hok
  obtain ⟨htn, _, hobj, _, _, _, _, _⟩ := absOk2_parts hok1
  have hns : ∀ g, sels ≠ [Sel.spread g] := by
    intro g hg
    subst hg
    simp [normSels, keepN, movedN, aliasInl, normSel, isTypename] at htn
  have hv : variantsOf c.s ty = .ok (some (vtsOfTy c.s ty)) := by
    apply variantsOf_abs
    cases ty <;> simp only [absHyp] at hty ⊢ <;> first | trivial | exact hty
  have hspA := spreadsA_abs hty hok
  obtain ⟨htk, _⟩ := sSels_of_append (show sSels c.s c.q c.o true (keepN sels ++ movedN sels) = true from ht)
  have hfb : fieldsB c pfx ty (normSels sels) = fieldsB c pfx ty (keepN sels) := by
    rw [normSels, fieldsB_append, fieldsB_movedN c pfx ty sels (fun t g hm => by
      obtain ⟨⟨i, rfl⟩, hokg⟩ := aliasFrOk_mem hal hm
      obtain ⟨fr, hfr, hon, _⟩ := fragOk_parts hokg
      exact ⟨fr, hfr, by rw [hon]; exact obj_ne_abs hty i⟩), List.append_nil]
  have hib : itemsSs c pfx (normSels sels) = itemsSs c pfx (keepN sels) := by
    rw [normSels, itemsSs_append, itemsSs_movedN, List.append_nil]
  have := C02.CalcSel.abstract (name := name) hns hv
    (filterMapM_variantSelS c.q ty sels (fun g hg => hspA.frag g (List.mem_append_left _ (mem_keepN_spread hg))))
    (calcVarsS c name pfx ty Hin hty ht hspA hal halo _ hedge hobj)
    (calcFieldsS c H true pfx ty htk (fun g hg => hspA g (List.mem_append_left _ hg)) halo)
  simpa [absItemsL, hlg, absItemsS, variantsV, otherVariants, hfb, hib] using this

/-- an object-level selection set: one struct -/
theorem calcObjS (name pfx : String) (i : Nat) {sels : List Sel} (H : ∀ y ∈ sels, StepS c y)
    (ht : sSels c.s c.q c.o false (normSels sels) = true) (hal : aliasOkSels c sels = true) :
    C02.CalcSel c name pfx (.object i) sels (structItemsS c name pfx (normSels sels)) := by
  have hns : normSels sels = keepN sels := by simp [normSels, movedN_nil_of_obj ht]
  rw [hns] at ht ⊢
  have := C02.CalcSel.object (name := name) (i := i)
    (fun g hg => by subst hg; simp [keepN, aliasInl, normSel, sSels, sSel] at ht)
    (calcFieldsS c H false pfx (.object i) ht (spreadsA_obj ht) hal)
  rwa [fieldsB_noSpread c pfx _ (keepN sels) (no_spread_of_sSels ht)] at this

include hn in
theorem stepS_all : ∀ x, StepS c x := by
  apply Sel.indInl
  · intro a fid sub IH IHin abs pfx ty rest fs items hx _ halx hR
    rw [normSel_field] at hx ⊢
    obtain ⟨sf, hsf, hw, hdep, hk⟩ := sSel_kinds hx
    rw [aliasOkSel, Bool.and_eq_true] at halx
    simp only [hsf] at halx
    have hfld := fun ft => renderField_tree c (a.getD sf.name) ft _ _ hw hdep
    rcases hk with ⟨k, sn, hid, hk, _⟩ | ⟨k, en, hid, hk, _⟩ | ⟨i, _, hid, _, hsub, _⟩ |
      ⟨k, hid, hty, hsub, hokL⟩ | ⟨k, hid, hty, hsub, hokL⟩
    · have := C02.CalcFields.scalar (sub := sub) (getField_of hsf) hid (getScalar_of hk) (hfld _) hR
      simpa [hn, C02.fieldType_none, itemsS, fieldOfSelB, fieldOfSelV, hsf, hid, leafNameV, hk] using this
    · have := C02.CalcFields.enum (sub := sub) (getField_of hsf) hid (getEnum_of hk) (hfld _) hR
      simpa [hn, C02.fieldType_none, itemsS, fieldOfSelB, fieldOfSelV, hsf, hid, leafNameV, hk] using this
    · have hS := calcObjS c (pfx ++ c.cs.camel (a.getD sf.name)) (pfx ++ c.cs.camel (a.getD sf.name)) i IH hsub halx.2
      have := C02.CalcFields.nested (getField_of hsf) (by simp [hid]) (by simp [hid]) (by simp [hid]) (hfld _)
        (hid ▸ hS) hR
      simpa [itemsS, fieldOfSelB, fieldOfSelV, hsf, hid, leafNameV, structItemsS, normSels] using this
    all_goals
      simp only [hid] at halx
      have hS := calcAbsS c (pfx ++ c.cs.camel (a.getD sf.name)) (pfx ++ c.cs.camel (a.getD sf.name)) _ IH IHin hty
        hsub hokL halx.1 halx.2
      have := C02.CalcFields.nested (getField_of hsf) (by simp [hid]) (by simp [hid]) (by simp [hid]) (hfld _)
        (hid ▸ hS) hR
      simpa [itemsS, fieldOfSelB, fieldOfSelV, hsf, hid, leafNameV, absItemsS, absItemsL, normSels] using this
  · intro t sub _ abs pfx ty rest fs items _ _ _ hR
    rw [normSel_inline]
    have h1 : fieldOfSelB c pfx ty (.inline t (normSels sub)) = none := rfl
    simpa [itemsS, h1] using C02.CalcFields.inline (t := t) (sub := sub) hR
  · intro g abs pfx ty rest fs items _ hsp _ hR
    have hns : normSel (.spread g) = .spread g := by rw [normSel]
    rw [hns] at hsp ⊢
    have h2 : itemsS c pfx (.spread g) = [] := by simp [itemsS]
    rcases hsp g (by simp) with ⟨vt, fr, _, hfr, hon, hne⟩ | ⟨fr, hokB, hfr, hon⟩
    · have hne' : (fr.on != ty) = true := by rw [hon]; simpa using hne
      have hne2 : (fr.on == ty) = false := by rw [hon]; simpa using hne
      simpa [fieldOfSelB, hfr, hne2, h2] using C02.CalcFields.spreadOther (getFragment_of hfr) hne' hR
    · obtain ⟨fr', hfr', _, hname, _, _⟩ := fragOkB_parts hokB
      rw [hfr] at hfr'; cases hfr'
      have := C02.CalcFields.spreadHere (getFragment_of hfr) (by simp [hon])
        (by rw [not_recursive_of_fragOkB hokB]; exact renderField_spread c fr hname) hR
      simpa [fieldOfSelB, hfr, hon, h2] using this
  · intro abs pfx ty rest fs items _ _ _ hR
    have hns : normSel .typename = .typename := by rw [normSel]
    have h1 : fieldOfSelB c pfx ty .typename = none := rfl
    simpa [hns, itemsS, h1] using C02.CalcFields.typename hR

include hn in
theorem calc_variantspread2_abs (name pfx : String) (ty : TypeId) {sels : List Sel} (hty : absHyp c.s ty)
    (ht : sSels c.s c.q c.o true (normSels sels) = true) (hokL : absOkL c.s c.q c.o ty (normSels sels) = true)
    (hat : aliasAt c (vtsOfTy c.s ty) sels = true) (halo : aliasOkSels c sels = true) :
    C02.CalcSel c name pfx ty sels (absItemsL c name pfx ty (normSels sels)) :=
  calcAbsS c name pfx ty (fun y _ => stepS_all c hn y) (fun _ _ _ y _ => stepS_all c hn y) hty ht hokL hat halo

include hn in
theorem calc_variantspread2 (name pfx : String) (i : Nat) {sels : List Sel}
    (ht : sSels c.s c.q c.o false (normSels sels) = true) (hal : aliasOkSels c sels = true) :
    C02.CalcSel c name pfx (.object i) sels (structItemsS c name pfx (normSels sels)) :=
  calcObjS c name pfx i (fun y _ => stepS_all c hn y) ht hal

end CalcR

theorem variantSpreadOp2_parts {c : Ctx} {op : ROperation} (h : VariantSpreadOp2 c op = true) :
    aliasWfSels c.q op.sels = true ∧ aliasOkSels c op.sels = true ∧ VariantSpreadOp c (normOp op) = true := by
  simpa [VariantSpreadOp2, and_assoc] using h

/-- **`variantspread2_items_shape`.**  For an operation of the class `VariantSpreadOp2` the response items are those
    of `variantspread_items_shape` for the normalized selection set: an inline fragment `... on T { ...F }` next to other
    selections on `T` is one more flattened member `snake(F): F` of the variant struct, behind the others. -/
theorem variantspread2_items_shape (c : Ctx) (op : ROperation) (hop : op ∈ c.q.operations)
    (ht : VariantSpreadOp2 c op = true) :
    responseItems c op = .ok (structItemsS c "ResponseData" (c.cs.camel op.name) (normSels op.sels)) := by
  obtain ⟨_, hal, ht'⟩ := variantSpreadOp2_parts ht
  obtain ⟨hn, _, hsels, _⟩ := variantSpreadOp_parts ht'
  exact (calc_variantspread2 c hn _ _ _ hsels hal).responseItems_eq hop

/-! ## a selection set of `VariantSpreadOp` has nothing to normalize -/

theorem aliasFrOk_of_noAlias (c : Ctx) : ∀ (sels : List Sel), (∀ x ∈ sels, aliasInl x = none) → aliasFrOk c sels = true := by
  intro sels h
  simp only [aliasFrOk, List.all_eq_true]
  intro x hx
  have := h x hx
  split
  · simp [aliasInl] at this
  · simp [aliasInl] at this
  · rfl

theorem keepN_of_noAlias : ∀ (sels : List Sel), (∀ x ∈ sels, aliasInl x = none) → (∀ x ∈ sels, normSel x = x) →
    keepN sels = sels
  | [], _, _ => rfl
  | x :: xs, h, hn => by
    rw [keepN_cons_keep (h x (by simp)), hn x (by simp),
      keepN_of_noAlias xs (fun y hy => h y (List.mem_cons_of_mem _ hy)) (fun y hy => hn y (List.mem_cons_of_mem _ hy))]

theorem edgeOk_of_noAlias (c : Ctx) (vt : TypeId) (sels : List Sel) (h : ∀ x ∈ sels, aliasInl x = none) :
    edgeOk c vt sels = true := by
  have : movedN (mineOf c.q vt sels) = [] :=
    movedN_no_alias _ (fun x hx => h x (List.mem_filter.mp hx).1)
  simp [edgeOk, this]

theorem aliasAt_of_noAlias (c : Ctx) (vts : List TypeId) (sels : List Sel) (h : ∀ x ∈ sels, aliasInl x = none) :
    aliasAt c vts sels = true := by
  simp only [aliasAt, Bool.and_eq_true, List.all_eq_true]
  exact ⟨aliasFrOk_of_noAlias c sels h, fun vt _ => edgeOk_of_noAlias c vt sels h⟩

/-- the conjunction proved along the tree of an operation of `VariantSpreadOp`: nothing to normalize -/
def NoAliasAt (c : Ctx) (sels : List Sel) : Prop :=
  normSels sels = sels ∧ aliasOkSels c sels = true ∧ aliasWfSels c.q sels = true ∧ ∀ x ∈ sels, aliasInl x = none

theorem aliasInl_inline_obj {s : Schema} {q : Query} {o : Options} {t : TypeId} {sub : List Sel}
    (h : sSels s q o false sub = true) : aliasInl (.inline t sub) = none := by
  cases hg : aliasInl (.inline t sub) with
  | none => rfl
  | some g =>
    obtain ⟨t', he⟩ := aliasInl_some hg
    injection he with _ h2
    subst h2
    exact absurd (List.mem_singleton.mpr rfl) (no_spread_of_sSels h g)

theorem aliasOn_obj {s : Schema} {q : Query} {o : Options} {t : TypeId} {sub : List Sel}
    (h : sSels s q o false sub = true) : aliasOn q t sub = true := by
  unfold aliasOn
  split
  · rename_i g
    exact absurd (List.mem_singleton.mpr rfl) (no_spread_of_sSels h g)
  · rfl

mutual
  theorem noAlias_sel (c : Ctx) : ∀ (x : Sel) (abs : Bool), sSel c.s c.q c.o abs x = true →
      normSel x = x ∧ aliasOkSel c x = true ∧ aliasWfSel c.q x = true ∧ aliasInl x = none
    | .field a fid sub, abs => by
      intro ht
      have IH := noAlias_sels c sub
      obtain ⟨sf, hsf, _, _, hk⟩ := sSel_kinds ht
      have key : ∀ abs', sSels c.s c.q c.o abs' sub = true →
          normSel (.field a fid sub) = .field a fid sub ∧ aliasOkSel c (.field a fid sub) = true ∧
            aliasWfSel c.q (.field a fid sub) = true ∧ aliasInl (.field a fid sub) = none := by
        intro abs' hs
        obtain ⟨h1, h2, h3, h4⟩ := IH abs' hs
        refine ⟨by rw [normSel_field, h1], ?_, by rw [aliasWfSel]; exact h3, rfl⟩
        rw [aliasOkSel]
        simp only [hsf, Bool.and_eq_true]
        exact ⟨aliasAt_of_noAlias c _ sub h4, h2⟩
      rcases hk with ⟨_, _, _, _, rfl⟩ | ⟨_, _, _, _, rfl⟩ | ⟨_, _, _, _, hsub, _⟩ | ⟨_, _, _, hsub, _⟩ | ⟨_, _, _, hsub, _⟩
      · exact key false rfl
      · exact key false rfl
      · exact key false hsub
      · exact key true hsub
      · exact key true hsub
    | .inline t sub, abs => by
      intro ht
      simp only [sSel, Bool.and_eq_true] at ht
      obtain ⟨h1, h2, h3, h4⟩ := noAlias_sels c sub false ht.1.2
      refine ⟨by rw [normSel_inline, h1], by rw [aliasOkSel]; exact h2, ?_, aliasInl_inline_obj ht.1.2⟩
      rw [aliasWfSel, Bool.and_eq_true]
      exact ⟨aliasOn_obj ht.1.2, h3⟩
    | .spread g, _ => by intro _; exact ⟨by rw [normSel], by simp [aliasOkSel], by simp [aliasWfSel], rfl⟩
    | .typename, _ => by intro _; exact ⟨by rw [normSel], by simp [aliasOkSel], by simp [aliasWfSel], rfl⟩
  theorem noAlias_sels (c : Ctx) : ∀ (sels : List Sel) (abs : Bool), sSels c.s c.q c.o abs sels = true →
      NoAliasAt c sels
    | [], _ => by intro _; exact ⟨rfl, rfl, rfl, fun x hx => by simp at hx⟩
    | x :: xs, abs => by
      intro ht
      obtain ⟨hx, hxs⟩ := sSels_cons ht
      obtain ⟨a1, a2, a3, a4⟩ := noAlias_sel c x abs hx
      obtain ⟨b1, b2, b3, b4⟩ := noAlias_sels c xs abs hxs
      have hall : ∀ y ∈ x :: xs, aliasInl y = none := by
        intro y hy
        rcases List.mem_cons.mp hy with h | h
        · rw [h]; exact a4
        · exact b4 y h
      refine ⟨?_, by rw [aliasOkSels, a2, b2]; rfl, by rw [aliasWfSels, a3, b3]; rfl, hall⟩
      unfold normSels at b1 ⊢
      rw [movedN_no_alias _ hall, List.append_nil, keepN_cons_keep a4, a1]
      rw [movedN_no_alias _ b4, List.append_nil] at b1
      rw [b1]
end

/-! ## the emitted items of `VariantSpreadOp` (`variantspread_items_shape`): `calc_variantspread2` at `normSels sels = sels` -/

section CalcS
variable (c : Ctx) (hn : c.o.normalization = .none)

include hn in
theorem calc_variantspread_abs (name pfx : String) (ty : TypeId) {sels : List Sel} (hty : absHyp c.s ty)
    (ht : sSels c.s c.q c.o true sels = true) (hokL : absOkL c.s c.q c.o ty sels = true) :
    C02.CalcSel c name pfx ty sels (absItemsL c name pfx ty sels) := by
  have hna := noAlias_sels c sels true ht
  have := calc_variantspread2_abs c hn name pfx ty (sels := sels) hty (by rw [hna.1]; exact ht)
    (by rw [hna.1]; exact hokL) (aliasAt_of_noAlias c _ sels hna.2.2.2) hna.2.1
  rwa [hna.1] at this

include hn in
theorem calc_variantspread (name pfx : String) (i : Nat) {sels : List Sel}
    (ht : sSels c.s c.q c.o false sels = true) :
    C02.CalcSel c name pfx (.object i) sels (structItemsS c name pfx sels) := by
  have hna := noAlias_sels c sels false ht
  have := calc_variantspread2 c hn name pfx i (sels := sels) (by rw [hna.1]; exact ht) hna.2.1
  rwa [hna.1] at this

end CalcS

/-- **`variantspread_items_shape`.**  For an operation of the class `VariantSpreadOp` the response items are,
    in closed form: as `variant_items_shape`, and at an abstract position, per possible type `T`: no item (unit variant,
    nothing selected on `T`), the type alias `…On<T> = F` (a lone spread of `F`), or the struct `…On<T>` with the own
    fields of the inline fragment on `T` and one `#[serde(flatten)]` member per spread of a fragment on `T`. -/
theorem variantspread_items_shape (c : Ctx) (op : ROperation) (hop : op ∈ c.q.operations)
    (ht : VariantSpreadOp c op = true) :
    responseItems c op = .ok (structItemsS c "ResponseData" (c.cs.camel op.name) op.sels) := by
  obtain ⟨hn, _, hsels, _⟩ := variantSpreadOp_parts ht
  exact (calc_variantspread c hn _ _ _ hsels).responseItems_eq hop

end E2E
end C01
end GqlVerif
