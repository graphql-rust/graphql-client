import GqlVerif.Model.DefaultLit
import GqlVerif.Proofs.ComposedC11
/-!
# C04 — the `default_*` bodies: the literal model agrees with `literalOk` and with the `.defaults` item

* **`valueToLiteral_literalOk`**: forgetting the expression, `valueToLiteral` *is* `literalOk` — same success, same
  panic, same fuel exhaustion — for every fuel, value, type and qualifier list (`null` at a nullable position is
  `None`: success; at a non-null position both panic).
  Hypothesis `IdsInRange`: the scalar / enum ids met are indices of the schema (`scalar_value_to_literal` calls
  `get_scalar` / `get_enum`, which `literalOk` does not model; ids produced by the schema's own name table are in
  range).  **`valueToLiteral_ok_iff_literalOk`** is the corollary on success.
* **`defaultBodies_names`**: when `variablesItems` succeeds, `defaultBodies` succeeds (`IdsInRange`) and lists the names
  of the `.defaults` item, in order (nothing for `struct Variables;`); `defaultBodies_names_of_ok`: the names agree
  whenever both succeed (no hypothesis).
-/
namespace GqlVerif
namespace C04D
open Codegen

/-- the id is an index of the schema's scalar / enum table (`get_scalar` / `get_enum` do not panic) -/
def idInRange (s : Schema) : TypeId → Bool
  | .scalar k => decide (k < s.scalars.length)
  | .enum k => decide (k < s.enums.length)
  | _ => true

/-- every field of every input type names a scalar / enum of the schema -/
def IdsInRange (s : Schema) : Prop := ∀ i ∈ s.inputs, ∀ p ∈ i.fields, idInRange s p.2.id = true

instance (s : Schema) : Decidable (IdsInRange s) := by unfold IdsInRange; infer_instance

abbrev forget {α} (x : Outcome α) : Outcome Unit := x.map (fun _ => ())

theorem forget_map {α β} (f : α → β) (x : Outcome α) : forget (f <$> x) = forget x := by
  cases x <;> rfl

theorem forget_bind {α β} (x : Outcome α) (f : α → Outcome β) :
    forget (x >>= f) = (forget x >>= fun _ => match x with | .ok a => forget (f a) | .error e => .error e) := by
  cases x <;> rfl

theorem getScalar_inRange {s : Schema} {k : Nat} (h : idInRange s (.scalar k) = true) :
    ∃ n, s.getScalar k = .ok n := by
  simp only [idInRange, decide_eq_true_eq] at h
  exact ⟨_, C02.getScalar_some h⟩

theorem getEnum_inRange {s : Schema} {k : Nat} (h : idInRange s (.enum k) = true) :
    ∃ n, s.getEnum k = .ok n := by
  simp only [idInRange, decide_eq_true_eq] at h
  exact ⟨_, C02.getEnum_some h⟩

theorem forM_cons' {α} (g : α → Outcome Unit) (x : α) (xs : List α) :
    (x :: xs).forM g = (do g x; xs.forM g) := rfl

/-- elements of a list value -/
theorem forget_mapM {α β} (f : α → Outcome β) (g : α → Outcome Unit) :
    ∀ xs : List α, (∀ x ∈ xs, forget (f x) = g x) → forget (xs.mapM f) = xs.forM g
  | [], _ => rfl
  | x :: xs, h => by
    rw [List.mapM_cons, forM_cons', ← h x (by simp), ← forget_mapM f g xs (fun y hy => h y (by simp [hy]))]
    cases f x with
    | error e => rfl
    | ok b => cases xs.mapM f <;> rfl

section
variable (c : Ctx) (lit : Value → TypeId → List Qual → Outcome LitExpr) (ok : Value → TypeId → List Qual → Outcome Unit)

/-- what `literalOk` does with one member of an object value (`q`: the qualifiers a member is rendered at) -/
abbrev memberOk (q : FieldType → List Qual) (kvs : List (String × Value)) : String × FieldType → Outcome Unit :=
  fun (fname, fty) =>
    match kvs.find? (·.1 == fname) with
    | some (_, v) => ok v fty.id (q fty)
    | none => pure ()

theorem forget_oneOfVariants (ctor : String) (kvs : List (String × Value)) :
    ∀ fields : List (String × FieldType), (∀ p ∈ fields, ∀ v qs, forget (lit v p.2.id qs) = ok v p.2.id qs) →
      forget (oneOfVariants c lit ctor kvs fields) = fields.forM (memberOk ok (fun fty => .required :: fty.quals) kvs)
  | [], _ => rfl
  | (name, ty) :: rest, h => by
    have ih := forget_oneOfVariants ctor kvs rest (fun p hp => h p (by simp [hp]))
    rw [forM_cons', oneOfVariants]
    cases hf : kvs.find? (·.1 == name) with
    | none => simpa [memberOk, hf] using ih
    | some kv =>
      obtain ⟨k, v⟩ := kv
      simp only [memberOk, hf]
      rw [← h (name, ty) (by simp) v (.required :: ty.quals), ← ih]
      cases lit v ty.id (.required :: ty.quals) with
      | error e => rfl
      | ok e => cases oneOfVariants c lit ctor kvs rest <;> rfl

theorem forget_structFields (kvs : List (String × Value)) :
    ∀ fields : List (String × FieldType), (∀ p ∈ fields, ∀ v qs, forget (lit v p.2.id qs) = ok v p.2.id qs) →
      forget (structFields c lit kvs fields) = fields.forM (memberOk ok (fun fty => fty.quals) kvs)
  | [], _ => rfl
  | (name, ty) :: rest, h => by
    have ih := forget_structFields kvs rest (fun p hp => h p (by simp [hp]))
    rw [forM_cons', structFields]
    cases hf : kvs.find? (·.1 == name) with
    | none =>
      simp only [memberOk, hf]
      rw [← ih]
      cases structFields c lit kvs rest <;> rfl
    | some kv =>
      obtain ⟨k, v⟩ := kv
      simp only [memberOk, hf]
      rw [← h (name, ty) (by simp) v ty.quals, ← ih]
      cases lit v ty.id ty.quals with
      | error e => rfl
      | ok e => cases structFields c lit kvs rest <;> rfl

/-- `render_object_literal`, forgetting the expression: the members of a `@oneOf` input are rendered non-null -/
theorem forget_objectLiteralWith (kvs : List (String × Value)) (iid : Nat)
    (h : ∀ i, c.s.inputs[iid]? = some i → ∀ p ∈ i.fields, ∀ v qs, forget (lit v p.2.id qs) = ok v p.2.id qs) :
    forget (objectLiteralWith c lit kvs iid) = (do
      let i ← c.s.getInput iid
      i.fields.forM (memberOk ok (fun fty => if i.isOneOf then .required :: fty.quals else fty.quals) kvs)) := by
  unfold objectLiteralWith
  cases hi : c.s.inputs[iid]? with
  | none => simp [Schema.getInput, hi, panic', bind, Except.bind, forget, Except.map]
  | some i =>
    have hg : c.s.getInput iid = .ok i := by simp [Schema.getInput, hi, pure, Except.pure]
    simp only [hg, bind, Except.bind]
    split
    · rename_i hone
      rw [← forget_oneOfVariants c lit ok _ kvs i.fields (h i hi)]
      cases oneOfVariants c lit (keywordReplace (c.o.normalization.inputName c.cs i.name)) kvs i.fields with
      | error e => rfl
      | ok vs =>
        cases vs with
        | nil => rfl
        | cons a t => cases t <;> rfl
    · rename_i hone
      rw [← forget_structFields c lit ok kvs i.fields (h i hi)]
      cases structFields c lit kvs i.fields <;> rfl

end

/-! ## unfolding `literalInner` (the three groups of arms of the Rust `match`) -/

theorem literalInner_zero (c : Ctx) (v : Value) (ty : TypeId) (quals : List Qual) :
    literalInner c 0 v ty quals = .error (.unmodelled "literal fuel") := by
  rw [literalInner]

/-- `(Some(List), Value::List(elements))` -/
theorem literalInner_list_list (c : Ctx) (f : Nat) (xs : List Value) (ty : TypeId) (rest : List Qual) :
    literalInner c (f+1) (.list xs) ty (.list :: rest) =
      LitExpr.vec <$> xs.mapM (fun x => valueToLiteral c f x ty rest) := by
  rw [literalInner]; rfl

/-- `(_, Value::List(elements))` -/
theorem literalInner_list_other (c : Ctx) (f : Nat) (xs : List Value) (ty : TypeId) (quals : List Qual)
    (h : ∀ rest, quals ≠ .list :: rest) :
    literalInner c (f+1) (.list xs) ty quals =
      LitExpr.vec <$> xs.mapM (fun x => valueToLiteral c f x ty []) := by
  rw [literalInner]
  · rfl
  · intro rest hq; exact h rest hq

/-- `(Some(List), single)` as often as there are list levels, then `(_, value)` -/
theorem literalInner_single (c : Ctx) (f : Nat) (v : Value) (ty : TypeId) (quals : List Qual)
    (h : ∀ xs, v ≠ .list xs) :
    literalInner c (f+1) v ty quals = (fun e => singleInner e quals) <$> scalarToLiteral c f v ty := by
  rw [literalInner]
  · rfl
  · intro els hv; exact h els hv
  · intro _ els _ hv; exact h els hv

theorem scalarNameOf_inRange {c : Ctx} {ty : TypeId} (h : idInRange c.s ty = true) :
    ∃ o, scalarNameOf c ty = .ok o := by
  cases ty with
  | scalar k =>
    obtain ⟨n, hn⟩ := getScalar_inRange h
    exact ⟨some n, by simp [scalarNameOf, TypeId.asScalar?, hn, bind, Except.bind, pure, Except.pure]⟩
  | _ => exact ⟨none, rfl⟩

theorem elemQuals_other {q : List Qual} (h : ∀ rest, q ≠ .list :: rest) : elemQuals q = [] := by
  cases q with
  | nil => rfl
  | cons a q =>
    cases a with
    | required => rfl
    | list => exact absurd rfl (h q)

/-- `valueToLiteral` after the `null` test -/
theorem valueToLiteral_of_not_null (c : Ctx) (fuel : Nat) (v : Value) (ty : TypeId) (quals : List Qual)
    (h : ((stripRequired quals).1 && valueIsNull v) = false) :
    valueToLiteral c fuel v ty quals =
      (optWrap (stripRequired quals).1) <$> literalInner c fuel v ty (stripRequired quals).2 := by
  unfold valueToLiteral
  simp only [h, Bool.false_eq_true, ↓reduceIte]

/-- `null` at a nullable position: `None`, before anything else -/
theorem valueToLiteral_null (c : Ctx) (fuel : Nat) (ty : TypeId) (quals : List Qual)
    (h : (stripRequired quals).1 = true) : valueToLiteral c fuel .null ty quals = .ok .none := by
  unfold valueToLiteral
  simp only [h, valueIsNull, Bool.and_self, ↓reduceIte]
  rfl

/-- **`valueToLiteral` forgets to `literalOk`**: same success, same panic, same fuel exhaustion — `null` at a nullable
    position succeeds, at a non-null position panics -/
theorem valueToLiteral_literalOk (c : Ctx) (hs : IdsInRange c.s) : ∀ (fuel : Nat) (v : Value) (ty : TypeId)
    (quals : List Qual), idInRange c.s ty = true →
      forget (valueToLiteral c fuel v ty quals) = literalOk c.s fuel v ty quals := by
  intro fuel
  induction fuel with
  | zero =>
    intro v ty quals _
    unfold valueToLiteral
    simp only [literalOk]
    split
    · rfl
    · rw [forget_map, literalInner_zero]; rfl
  | succ fuel ih =>
    intro v ty quals hty
    cases hc : ((stripRequired quals).1 && valueIsNull v)
    case true =>
      rw [Bool.and_eq_true] at hc
      cases v <;> simp only [valueIsNull, Bool.false_eq_true, and_false] at hc
      rw [valueToLiteral_null c _ ty quals hc.1]
      simp only [literalOk, hc.1, ↓reduceIte]
      rfl
    case false =>
    rw [valueToLiteral_of_not_null c _ v ty quals hc, forget_map]
    obtain ⟨o, ho⟩ := scalarNameOf_inRange (c := c) hty
    by_cases hl : ∃ xs, v = .list xs
    · obtain ⟨xs, rfl⟩ := hl
      rw [literalOk]
      by_cases hq : ∃ rest, (stripRequired quals).2 = .list :: rest
      · obtain ⟨rest, hq⟩ := hq
        rw [hq, literalInner_list_list, forget_map]
        exact forget_mapM _ _ _ (fun x _ => ih x ty rest hty)
      · rw [literalInner_list_other c fuel xs ty _ (fun rest h => hq ⟨rest, h⟩), forget_map,
          elemQuals_other (fun rest h => hq ⟨rest, h⟩)]
        exact forget_mapM _ _ _ (fun x _ => ih x ty [] hty)
    · rw [literalInner_single c fuel v ty _ (fun xs h => hl ⟨xs, h⟩), forget_map]
      unfold scalarToLiteral scalarToLiteralWith
      simp only [ho, bind, Except.bind]
      cases v with
      | list xs => exact absurd ⟨xs, rfl⟩ hl
      | obj kvs =>
        rw [literalOk]
        cases hin : ty.asInput? with
        | none => rfl
        | some iid =>
          simp only []
          unfold objectLiteral
          rw [forget_objectLiteralWith c _ (fun v t qs => literalOk c.s fuel v t qs) kvs iid]
          · rfl
          · intro i hi p hp v qs
            exact ih v p.2.id qs (hs i (List.mem_of_getElem? hi) p hp)
      | «enum» en =>
        rw [show literalOk c.s (fuel+1) (Value.enum en) ty quals = pure () by simp [literalOk]]
        cases ty with
        | «enum» k =>
          obtain ⟨e, he⟩ := getEnum_inRange hty
          simp [TypeId.asEnum?, he, forget, Except.map, pure, Except.pure]
        | _ => rfl
      | int n =>
        rw [show literalOk c.s (fuel+1) (Value.int n) ty quals = pure () by simp [literalOk]]
        simp only []
        split
        · rfl
        · split <;> rfl
      | var n => rw [literalOk]; rfl
      | null =>
        simp only [valueIsNull, Bool.and_true] at hc
        simp only [literalOk, hc, Bool.false_eq_true, ↓reduceIte]
        rfl
      | float t => rw [show literalOk c.s (fuel+1) (Value.float t) ty quals = pure () by simp [literalOk]]; rfl
      | str t => rw [show literalOk c.s (fuel+1) (Value.str t) ty quals = pure () by simp [literalOk]]; rfl
      | bool t => rw [show literalOk c.s (fuel+1) (Value.bool t) ty quals = pure () by simp [literalOk]]; rfl

theorem valueToLiteral_ok_iff_literalOk (c : Ctx) (hs : IdsInRange c.s) (fuel : Nat) (v : Value) (ty : TypeId)
    (quals : List Qual) (hty : idInRange c.s ty = true) :
    (∃ e, valueToLiteral c fuel v ty quals = .ok e) ↔ literalOk c.s fuel v ty quals = .ok () := by
  rw [← valueToLiteral_literalOk c hs fuel v ty quals hty]
  cases valueToLiteral c fuel v ty quals with
  | error e => simp [forget, Except.map]
  | ok e => simp [forget, Except.map]

/-- … and the failures are the same -/
theorem valueToLiteral_error_iff_literalOk (c : Ctx) (hs : IdsInRange c.s) (fuel : Nat) (v : Value) (ty : TypeId)
    (quals : List Qual) (hty : idInRange c.s ty = true) (err : Err) :
    valueToLiteral c fuel v ty quals = .error err ↔ literalOk c.s fuel v ty quals = .error err := by
  rw [← valueToLiteral_literalOk c hs fuel v ty quals hty]
  cases valueToLiteral c fuel v ty quals with
  | error e => simp [forget, Except.map]
  | ok e => simp [forget, Except.map]

/-! ## `defaultBodies` and the `.defaults` item -/

theorem filterMapM_rel {ε α β γ : Type} (f : α → Except ε (Option β)) (g : α → Except ε (Option γ))
    (nf : β → String) (ng : γ → String) :
    ∀ (l : List α) (r : List β), l.filterMapM f = .ok r →
      (∀ a ∈ l, ∀ o, f a = .ok o → ∃ o', g a = .ok o' ∧ o'.map ng = o.map nf) →
      ∃ r', l.filterMapM g = .ok r' ∧ r'.map ng = r.map nf := by
  intro l
  induction l with
  | nil => intro r hr _; simp [pure, Except.pure] at hr; subst hr; exact ⟨[], rfl, rfl⟩
  | cons a l ih =>
    intro r hr h
    rw [List.filterMapM_cons] at hr
    obtain ⟨o, ho, hr⟩ := C02.bind_ok hr
    obtain ⟨o', ho', hoo⟩ := h a (by simp) o ho
    rw [List.filterMapM_cons, ho']
    cases o with
    | none =>
      cases o' with
      | some _ => simp at hoo
      | none =>
        simp only [] at hr
        obtain ⟨r', hr', hn⟩ := ih r hr (fun b hb => h b (by simp [hb]))
        exact ⟨r', by simpa [bind, Except.bind] using hr', hn⟩
    | some b =>
      cases o' with
      | none => simp at hoo
      | some b' =>
        simp only [] at hr
        obtain ⟨bs, hbs, hr⟩ := C02.bind_ok hr
        simp only [pure, Except.pure, Except.ok.injEq] at hr
        subst hr
        obtain ⟨r', hr', hn⟩ := ih bs hbs (fun b hb => h b (by simp [hb]))
        refine ⟨b' :: r', by simp [bind, Except.bind, hr', pure, Except.pure], ?_⟩
        simp only [Option.map_some, Option.some.injEq] at hoo
        simp [hoo, hn]

/-- a successful `typeName` names a scalar / enum of the schema -/
theorem idInRange_of_typeName {s : Schema} {ty : TypeId} {tn : String} (h : s.typeName ty = .ok tn) :
    idInRange s ty = true := by
  cases ty with
  | scalar k =>
    simp only [idInRange, decide_eq_true_eq]
    exact (List.getElem?_eq_some_iff.mp (C02.getScalar_ok h)).1
  | «enum» k =>
    obtain ⟨en, hen, _⟩ := C02.map_ok h
    simp only [idInRange, decide_eq_true_eq]
    exact (List.getElem?_eq_some_iff.mp (C02.getEnum_ok hen)).1
  | _ => rfl

theorem idInRange_of_variableType {c : Ctx} {v : RVariable} {t : RTy} (h : variableType c v = .ok t) :
    idInRange c.s v.ty.id = true := by
  unfold variableType at h
  obtain ⟨tn, htn, _⟩ := C02.bind_ok h
  exact idInRange_of_typeName htn

/-- **`defaultBodies_names`**: for an operation whose `Variables` items are generated, `defaultBodies` succeeds and
    lists exactly the names of the `.defaults` item, in order; nothing for `struct Variables;` -/
theorem defaultBodies_names (c : Ctx) (hs : IdsInRange c.s) (op : Nat) (items : List Item)
    (h : variablesItems c op = .ok items) :
    ∃ bodies, defaultBodies c op = .ok bodies ∧
      (∀ dfl, Item.defaults dfl ∈ items → bodies.map (·.1) = dfl.map (·.1)) ∧
      ((∀ dfl, Item.defaults dfl ∉ items) → bodies = []) := by
  rcases C02.variablesItems_cases h with ⟨hnil, rfl⟩ | ⟨_, fs, dfl, _, hdfl, rfl⟩
  · refine ⟨[], by simp [defaultBodies, hnil, pure, Except.pure], ?_, fun _ => rfl⟩
    intro dfl hmem; simp at hmem
  · obtain ⟨bodies, hb, hn⟩ := filterMapM_rel _ (fun v =>
        match v.default with
        | none => pure none
        | some d => do
          let e ← valueToLiteral c 64 d v.ty.id v.ty.quals
          pure (some ("default_" ++ v.name, e))) (·.1) (·.1) _ _ hdfl (by
      intro v _ o ho
      cases hd : v.default with
      | none =>
        simp only [hd, pure, Except.pure, Except.ok.injEq] at ho
        subst ho
        exact ⟨none, rfl, rfl⟩
      | some d =>
        simp only [hd] at ho
        obtain ⟨t, ht, ho⟩ := C02.bind_ok ho
        obtain ⟨u, hu, ho⟩ := C02.bind_ok ho
        simp only [pure, Except.pure, Except.ok.injEq] at ho
        subst ho
        obtain ⟨e, he⟩ := (valueToLiteral_ok_iff_literalOk c hs 64 d v.ty.id v.ty.quals
          (idInRange_of_variableType ht)).mpr hu
        exact ⟨some ("default_" ++ v.name, e), by simp [he, bind, Except.bind, pure, Except.pure], rfl⟩)
    refine ⟨bodies, hb, ?_, ?_⟩
    · intro dfl' hmem
      simp only [List.mem_cons, List.not_mem_nil, or_false, reduceCtorEq, false_or, Item.defaults.injEq] at hmem
      subst hmem
      exact hn
    · intro hno
      exact absurd (by simp) (hno dfl)

/-- the names agree whenever both computations succeed (no hypothesis on the schema) -/
theorem defaultBodies_names_of_ok (c : Ctx) (op : Nat) (items : List Item) (bodies : List (String × LitExpr))
    (h : variablesItems c op = .ok items) (hb : defaultBodies c op = .ok bodies) :
    (∀ dfl, Item.defaults dfl ∈ items → bodies.map (·.1) = dfl.map (·.1)) ∧
    bodies.map (·.1) = ((c.q.opVariables op).filter (·.default.isSome)).map (fun v => "default_" ++ v.name) := by
  have hnames : bodies.map (·.1) =
      ((c.q.opVariables op).filter (·.default.isSome)).map (fun v => "default_" ++ v.name) := by
    refine Composed.filterMapM_spec _ _ _ _ ?_ ?_ _ _ hb
    · intro v hv
      cases hd : v.default with
      | none => rfl
      | some d =>
        simp only [hd] at hv
        obtain ⟨_, _, hv⟩ := C02.bind_ok hv
        simp [pure, Except.pure] at hv
    · intro v b hv
      cases hd : v.default with
      | none => simp [hd, pure, Except.pure] at hv
      | some d =>
        simp only [hd] at hv
        obtain ⟨_, _, hv⟩ := C02.bind_ok hv
        simp only [pure, Except.pure, Except.ok.injEq, Option.some.injEq] at hv
        subst hv
        exact ⟨rfl, rfl⟩
  refine ⟨?_, hnames⟩
  intro dfl hmem
  rcases Composed.variablesItems_shape c op items h with ⟨_, rfl⟩ | ⟨_, fs, dfl', rfl, _, _, hd, _⟩
  · simp at hmem
  · simp only [List.mem_cons, List.not_mem_nil, or_false, reduceCtorEq, false_or, Item.defaults.injEq] at hmem
    subst hmem
    rw [hnames, hd]

end C04D
end GqlVerif
