import GqlVerif.Proofs.C01VariantSpreadT
import GqlVerif.Proofs.C01VariantSpreadC
/-!
# C01 / C03 end to end: fragment spreads at abstract positions (`VariantSpreadOp`): what is proved for the class; `VariantOp` inside it

In a selection set on an interface / union typed field, besides `__typename`, interface-level fields and inline fragments on
possible types (any number per type), the class allows
 (a) **spreads of named fragments on a possible (object) type** — a variant selection like an inline fragment;
 (b) **spreads of named fragments on the abstract type itself** — a flattened member of the interface-level struct;
 (c) a selection set that is a lone spread of a fragment on the abstract type itself (`loneB`): a type alias.
`VariantSpreadOp2` (`C01VariantSpreadF` / `G`) adds inline fragments `... on T { ...F }` next to other selections.

For the whole class, (a) **and** (b): `variantspread_items_shape`, `variantspread_accepts`, `variantspread_precise_iff`, and
`variantspread_lossless` / `variantspread_roundtrip`: for a conforming response `j` (specification `conformsV` on the selection
set with every spread expanded to the inline fragment `... on T { body }`),
`Serde.roundtrip (moduleEnv c items) ResponseData j = .ok (normJson (canonSelD … j))`.  For operations **without spreads of
fragments on the abstract type itself** (`noBSpreads`, decidable; part (a)) the closed form is `.ok (canonSelS … j)`: at an
abstract position the interface-level entries, `__typename`, then the entries of the selections on the runtime type **in
selection order** (`variantspread_roundtrip_partial`).  `variantspread_content` (`C01VariantSpreadH`): the closed form has the
content of the response.

The key-disjointness conditions of `absOkS` are necessary (`C01VariantSpreadW`: `variantspread_overlap_interface_loses_key`,
`variantspread_overlap_variant_loses_key`, `variantspread_b_overlap_loses_key`): in each case the emitted types **reject a
conforming response** (same mechanism as the known finding `C01-overlap`).

This file: the side conditions of the round trip (`spreadRustOk`, `noBSpreads`); `VariantOp ⊆ VariantSpreadOp`
(`variantSpreadOp_of_variantOp`); on `VariantOp` the acceptance predicate and the environment hypotheses of the class are those
of `VariantOp` (`looseFieldS_eq_V`, `envSelS_of_V`).
-/

namespace GqlVerif
namespace C01
namespace E2E
open Codegen

/-- Rust field names pairwise distinct in every emitted struct (decidable) -/
def spreadRustOk (c : Ctx) (op : ROperation) : Bool :=
  rustOkSelsS c op.sels && EnumSpec.nodup (rustNames c op.sels)

/-- at no abstract position of the operation is a fragment on the abstract type itself spread (decidable): part (a) -/
def noBSpreads (c : Ctx) (op : ROperation) : Bool := noBSels c.s c.q op.sels

/-- the response items are the tail of the emitted module -/
theorem variantspread_module_shape (c : Ctx) (opIdx : Nat) (op : ROperation) (items : List Item)
    (hop : c.q.operations[opIdx]? = some op) (ht : VariantSpreadOp c op = true)
    (hgen : responseForQuery c opIdx = .ok items) :
    ∃ pre, items = Codegen.builtinAliases ++ pre ++ structItemsS c "ResponseData" (c.cs.camel op.name) op.sels := by
  obtain ⟨u, S, E, I, V, F, o, resp, _, _, _, ho, hresp, hitems⟩ := responseForQuery_parts hgen
  rw [hop] at ho; cases ho
  rw [variantspread_items_shape c op (List.mem_of_getElem? hop) ht] at hresp
  cases hresp
  exact ⟨S ++ E ++ I ++ V ++ F, by rw [hitems]; simp⟩


/-! ## the classes are nested: `VariantOp ⊆ VariantSpreadOp` -/

theorem varKeys_noSpread (s : Schema) (q : Query) (vt : TypeId) : ∀ (sub : List Sel), (∀ g, Sel.spread g ∉ sub) →
    (sub.filterMap inlineTy).Nodup →
    (vt ∉ sub.filterMap inlineTy → varKeys s q vt sub = []) ∧
    (∀ isub, Sel.inline vt isub ∈ sub → varKeys s q vt sub = fieldKeys s isub)
  | [], _, _ => by simp [varKeys]
  | x :: xs, hns, hnd => by
    have hns' : ∀ g, Sel.spread g ∉ xs := fun g hg => hns g (List.mem_cons_of_mem _ hg)
    cases x with
    | inline t isub' =>
      simp only [List.filterMap_cons, inlineTy, List.nodup_cons] at hnd
      obtain ⟨ih1, ih2⟩ := varKeys_noSpread s q vt xs hns' hnd.2
      rw [varKeys]
      by_cases htv : t = vt
      · subst htv
        refine ⟨fun hn => absurd (by simp [inlineTy]) hn, ?_⟩
        intro isub hm
        simp only [List.mem_cons, Sel.inline.injEq, true_and] at hm
        rcases hm with rfl | hm
        · simp [ih1 hnd.1]
        · exact absurd (List.mem_filterMap.mpr ⟨Sel.inline t isub, hm, rfl⟩ : t ∈ xs.filterMap inlineTy) hnd.1
      · have hne : (t == vt) = false := by simpa using htv
        simp only [hne, Bool.false_eq_true, ↓reduceIte, List.nil_append]
        refine ⟨fun hn => ih1 (fun hm => hn (by simp [inlineTy, hm])), ?_⟩
        intro isub hm
        simp only [List.mem_cons, Sel.inline.injEq] at hm
        rcases hm with ⟨h1, _⟩ | hm
        · exact absurd h1.symm htv
        · exact ih2 isub hm
    | spread g => exact absurd (List.mem_cons_self) (hns g)
    | field a fid sub' =>
      have e1 : (Sel.field a fid sub' :: xs).filterMap inlineTy = xs.filterMap inlineTy := by simp [List.filterMap_cons, inlineTy]
      have e2 : varKeys s q vt (Sel.field a fid sub' :: xs) = varKeys s q vt xs := by simp [varKeys]
      rw [e1] at hnd ⊢
      rw [e2]
      obtain ⟨ih1, ih2⟩ := varKeys_noSpread s q vt xs hns' hnd
      exact ⟨ih1, fun isub hm => ih2 isub (by simpa using hm)⟩
    | typename =>
      have e1 : (Sel.typename :: xs).filterMap inlineTy = xs.filterMap inlineTy := by simp [List.filterMap_cons, inlineTy]
      have e2 : varKeys s q vt (Sel.typename :: xs) = varKeys s q vt xs := by simp [varKeys]
      rw [e1] at hnd ⊢
      rw [e2]
      obtain ⟨ih1, ih2⟩ := varKeys_noSpread s q vt xs hns' hnd
      exact ⟨ih1, fun isub hm => ih2 isub (by simpa using hm)⟩

theorem bKeys_noSpread (s : Schema) (q : Query) (ty vt : TypeId) : ∀ (sub : List Sel), (∀ g, Sel.spread g ∉ sub) →
    bKeys s q ty vt sub = []
  | [], _ => rfl
  | x :: xs, h => by
    have ih := bKeys_noSpread s q ty vt xs (fun g hg => h g (List.mem_cons_of_mem _ hg))
    cases x with
    | spread g => exact absurd (List.mem_cons_self) (h g)
    | field a fid sub => exact ih
    | inline t sub => exact ih
    | typename => exact ih

theorem absOkS_of_absOk (s : Schema) (q : Query) (o : Options) (ty : TypeId) (sub : List Sel)
    (hv : vSels s o true sub = true) (hok : absOk s o ty sub = true) : absOkS s q o ty sub = true := by
  obtain ⟨_, _, _, _, _, _, hnd, _⟩ := absOk_parts hok
  have hns := no_spread_of_vSels hv
  have hvk : ∀ vt, (varKeys s q vt sub).Nodup := by
    intro vt
    obtain ⟨h1, h2⟩ := varKeys_noSpread s q vt sub hns hnd
    by_cases hm : vt ∈ sub.filterMap inlineTy
    · obtain ⟨y, hy, hyt⟩ := List.mem_filterMap.mp hm
      cases y with
      | inline t' isub =>
        simp only [inlineTy, Option.some.injEq] at hyt
        subst hyt
        rw [h2 isub hy]
        have := vSels_mem hv _ hy
        simp only [vSel, Bool.and_eq_true] at this
        exact (fieldKeys_sublist s isub).nodup (nodup_iff'.mp this.2)
      | field a fid sub' => cases hyt
      | spread g => cases hyt
      | typename => cases hyt
    · rw [h1 hm]; exact List.nodup_nil
  simp only [absOkS, absOk2_of_absOk hok, Bool.true_and, Bool.and_eq_true, List.all_eq_true]
  refine ⟨⟨?_, ?_⟩, ?_⟩
  rotate_left 2
  · intro vt _
    rw [bKeys_noSpread s q ty vt sub hns, List.nil_append]
    exact nodup_iff'.mpr (hvk vt)
  · intro x hx
    cases x with
    | spread g => exact absurd hx (hns g)
    | _ => rfl
  · exact fun vt _ => nodup_iff'.mpr (hvk vt)

mutual
  theorem sSel_of_vSel (s : Schema) (q : Query) (o : Options) : ∀ (x : Sel) (abs : Bool), vSel s o abs x = true →
      sSel s q o abs x = true
    | .field a fid sub, abs => by
      intro h
      have IH := sSels_of_vSels s q o sub
      obtain ⟨sf, hsf, hw, hdep, hk⟩ := vSel_kinds h
      rw [sSel]
      simp only [hsf, hw, hdep, Bool.not_false, Bool.and_self, Bool.true_and]
      rcases hk with ⟨k, sn, hid, hk, rfl⟩ | ⟨k, en, hid, hk, rfl⟩ | ⟨i, ob, hid, hk, hsub, hkeys⟩ |
        ⟨k, hid, hty, hsub, hok⟩ | ⟨k, hid, hty, hsub, hok⟩
      · simp [hid, hk]
      · simp [hid, hk]
      · simp only [hid, hk, Option.isSome_some, IH false hsub, hkeys, Bool.and_self]
      all_goals
        simp only [absHyp] at hty
        simp only [hid]
        simp only [hty, IH true hsub, absOkL_of_absOkS (absOkS_of_absOk s q o _ sub hsub hok), Bool.and_self]
    | .spread _, _ => by intro h; simp [vSel] at h
    | .inline t isub, abs => by
      intro h
      simp only [vSel, Bool.and_eq_true] at h
      simp only [sSel, Bool.and_eq_true]
      exact ⟨⟨h.1.1, sSels_of_vSels s q o isub false h.1.2⟩, h.2⟩
    | .typename, _ => by intro _; simp [sSel]
  theorem sSels_of_vSels (s : Schema) (q : Query) (o : Options) : ∀ (sels : List Sel) (abs : Bool),
      vSels s o abs sels = true → sSels s q o abs sels = true
    | [], _ => by intro _; simp [sSels]
    | x :: xs, abs => by
      intro h
      obtain ⟨hx, hxs⟩ := vSels_cons h
      rw [sSels, sSel_of_vSel s q o x abs hx, sSels_of_vSels s q o xs abs hxs]; rfl
end

theorem variantSpreadOp_of_variantOp (c : Ctx) (op : ROperation) (h : VariantOp c op = true) :
    VariantSpreadOp c op = true := by
  obtain ⟨h1, h2, h3, h4⟩ := variantOp_parts h
  simp only [VariantSpreadOp, Bool.and_eq_true, beq_iff_eq]
  exact ⟨⟨⟨h1, h2⟩, sSels_of_vSels c.s c.q c.o op.sels false h3⟩, h4⟩

/-! ## on `VariantOp` the acceptance predicate and the environment hypotheses are those of `VariantOp` -/

theorem loneG_noSpread {sub : List Sel} (h : ∀ g, Sel.spread g ∉ sub) : loneG sub = none := by
  cases hl : loneG sub with
  | none => rfl
  | some g => exact absurd (by rw [loneG_some hl]; simp) (h g)

theorem any_isBSpread_noSpread (q : Query) (ty : TypeId) {sub : List Sel} (h : ∀ g, Sel.spread g ∉ sub) :
    sub.any (isBSpread q ty) = false := by
  rw [List.any_eq_false]
  intro x hx
  cases x with
  | spread g => exact absurd hx (h g)
  | _ => simp [isBSpread]

theorem looseMemS_noSpread (s : Schema) (q : Query) (o : Options) (vt : TypeId) (rest : List (String × Json)) :
    ∀ (sub : List Sel), (∀ g, Sel.spread g ∉ sub) → looseMemS s q o vt sub rest = true
  | [], _ => rfl
  | x :: xs, h => by
    have ih := looseMemS_noSpread s q o vt rest xs (fun g hg => h g (List.mem_cons_of_mem _ hg))
    cases x with
    | spread g => exact absurd List.mem_cons_self (h g)
    | _ => simpa [looseMemS] using ih

/-- at an abstract position without spreads: no flattened member, the struct is there iff a field is selected -/
theorem conformsLooseAbsS_noSpread (s : Schema) (q : Query) (o : Options) (b : Bool) (ty : TypeId) {sub : List Sel}
    (hns : ∀ g, Sel.spread g ∉ sub) (hS : ∀ kvs, looseSelsS s q o b sub kvs = looseSelsV s o b sub kvs)
    (hP : ∀ vt rest, loosePayS s q o vt sub rest = loosePayV s o vt sub rest) (j : Json) :
    conformsLooseAbsS s q o b ty sub j = conformsLooseAbs s o b ty sub j := by
  cases j with
  | obj kvs =>
    have hb := any_isBSpread_noSpread q ty hns
    simp only [conformsLooseAbsS, conformsLooseAbs, hS, hP, absRest, hasStruct, hb, Bool.or_false,
      looseMemB_noB s q o ty _ sub hb, looseMemS_noSpread s q o _ _ sub hns, Bool.and_true]
  | _ => rfl

mutual
  theorem looseFieldS_eq_V (s : Schema) (q : Query) (o : Options) (b : Bool) : ∀ (x : Sel) (abs : Bool),
      vSel s o abs x = true → ∀ v, looseFieldS s q o b x v = looseFieldV s o b x v
    | .field a fid sub, abs => by
      intro h v
      obtain ⟨sf, hsf, _, _, hk⟩ := vSel_kinds h
      rw [looseFieldS, looseFieldV]
      simp only [hsf]
      rcases hk with ⟨k, sn, hid, hk, _⟩ | ⟨k, en, hid, hk, _⟩ | ⟨i, ob, hid, hk, hsub, _⟩ |
        ⟨k, hid, _, hsub, _⟩ | ⟨k, hid, _, hsub, _⟩
      · simp only [hid, hk]
      · simp only [hid, hk]
      · have h1 := looseSelsS_eq_V s q o b sub false hsub
        have h2 := looseArrS_eq_V s q o b sub false hsub
        simp only [hid, hk, h1, h2]
        rfl
      all_goals
        have hns := no_spread_of_vSels hsub
        simp only [hid, loneG_noSpread hns, looseLambdaAbsS, looseLambdaAbs]
        congr 1
        funext j
        exact conformsLooseAbsS_noSpread s q o b _ hns (looseSelsS_eq_V s q o b sub true hsub)
          (fun vt rest => loosePayS_eq_V s q o vt sub hsub rest) j
    | .spread _, _ => by intro _ _; simp [looseFieldS, looseFieldV]
    | .inline _ _, _ => by intro _ _; simp [looseFieldS, looseFieldV]
    | .typename, _ => by intro _ _; simp [looseFieldS, looseFieldV]
  theorem looseSelsS_eq_V (s : Schema) (q : Query) (o : Options) (b : Bool) : ∀ (sels : List Sel) (abs : Bool),
      vSels s o abs sels = true → ∀ kvs, looseSelsS s q o b sels kvs = looseSelsV s o b sels kvs
    | [], _ => by intro _ _; simp [looseSelsS, looseSelsV]
    | x :: xs, abs => by
      intro h kvs
      obtain ⟨hx, hxs⟩ := vSels_cons h
      have ih := looseSelsS_eq_V s q o b xs abs hxs kvs
      cases x with
      | field a fid sub =>
        rw [looseSelsS, looseSelsV, ih]
        cases hsf : s.fields[fid]? with
        | none => rfl
        | some sf =>
          simp only []
          cases Json.lookup (a.getD sf.name) kvs with
          | none => rfl
          | some v => simp only [looseFieldS_eq_V s q o b _ abs hx v]
      | spread g => simp [vSel] at hx
      | inline t sub => simpa [looseSelsS, looseSelsV] using ih
      | typename => simpa [looseSelsS, looseSelsV] using ih
  theorem looseArrS_eq_V (s : Schema) (q : Query) (o : Options) (b : Bool) : ∀ (sels : List Sel) (abs : Bool),
      vSels s o abs sels = true → ∀ vs, looseArrS s q o b sels vs = looseArrV s o b sels vs
    | [], _ => by intro _ _; simp [looseArrS, looseArrV]
    | x :: xs, abs => by
      intro h vs
      obtain ⟨hx, hxs⟩ := vSels_cons h
      cases x with
      | field a fid sub =>
        cases vs with
        | nil => simp [looseArrS, looseArrV]
        | cons v vs' =>
          simp only [looseArrS, looseArrV, looseFieldS_eq_V s q o b _ abs hx v, looseArrS_eq_V s q o b xs abs hxs vs']
      | spread g => simp [vSel] at hx
      | inline t sub => simpa [looseArrS, looseArrV] using looseArrS_eq_V s q o b xs abs hxs vs
      | typename => simpa [looseArrS, looseArrV] using looseArrS_eq_V s q o b xs abs hxs vs
  theorem loosePayS_eq_V (s : Schema) (q : Query) (o : Options) (vt : TypeId) : ∀ (sels : List Sel),
      vSels s o true sels = true → ∀ rest, loosePayS s q o vt sels rest = loosePayV s o vt sels rest
    | [] => by intro _ _; simp [loosePayS, loosePayV]
    | x :: xs => by
      intro h rest
      obtain ⟨hx, hxs⟩ := vSels_cons h
      have ih := loosePayS_eq_V s q o vt xs hxs rest
      cases x with
      | inline t sub =>
        simp only [vSel, Bool.and_eq_true] at hx
        simp only [loosePayS, loosePayV, ih, looseSelsS_eq_V s q o true sub false hx.1.2 rest]
      | field a fid sub => simpa [loosePayS, loosePayV] using ih
      | spread g => simpa [loosePayS, loosePayV] using ih
      | typename => simpa [loosePayS, loosePayV] using ih
end

theorem marks_noSpread (q : Query) {sub : List Sel} (h : ∀ g, Sel.spread g ∉ sub) : marks q sub = sub := by
  unfold marks
  rw [List.map_congr_left (g := id) (fun x hx => by
    cases x with
    | spread g => exact absurd hx (h g)
    | _ => rfl), List.map_id]

/-- without spreads and with at most one inline fragment per type, the selections on a variant are that inline fragment -/
theorem mineOf_noSpread (q : Query) (vt : TypeId) : ∀ (sub : List Sel), (∀ g, Sel.spread g ∉ sub) →
    (sub.filterMap inlineTy).Nodup →
    mineOf q vt sub = [] ∨ ∃ isub, Sel.inline vt isub ∈ sub ∧ mineOf q vt sub = [.inline vt isub]
  | [], _, _ => .inl rfl
  | x :: xs, hns, hnd => by
    have hns' : ∀ g, Sel.spread g ∉ xs := fun g hg => hns g (List.mem_cons_of_mem _ hg)
    cases x with
    | inline t isub =>
      simp only [List.filterMap_cons, inlineTy, List.nodup_cons] at hnd
      by_cases htv : t = vt
      · subst htv
        have hnil : mineOf q t xs = [] := by
          rcases mineOf_noSpread q t xs hns' hnd.2 with h | ⟨isub', hm, _⟩
          · exact h
          · exact absurd (List.mem_filterMap.mpr ⟨Sel.inline t isub', hm, rfl⟩ : t ∈ xs.filterMap inlineTy) hnd.1
        have e2 : mineOf q t (Sel.inline t isub :: xs) = Sel.inline t isub :: mineOf q t xs := by
          simp [mineOf, onVt, selOn]
        exact .inr ⟨isub, by simp, by rw [e2, hnil]⟩
      · have e2 : mineOf q vt (Sel.inline t isub :: xs) = mineOf q vt xs := by
          simp [mineOf, onVt, selOn, htv]
        rw [e2]
        rcases mineOf_noSpread q vt xs hns' hnd.2 with h | ⟨isub', hm, h⟩
        · exact .inl h
        · exact .inr ⟨isub', List.mem_cons_of_mem _ hm, h⟩
    | spread g => exact absurd List.mem_cons_self (hns g)
    | field a fid sub' =>
      have e2 : mineOf q vt (Sel.field a fid sub' :: xs) = mineOf q vt xs := by simp [mineOf, onVt, selOn]
      rw [e2]
      rcases mineOf_noSpread q vt xs hns' (by simpa [List.filterMap_cons, inlineTy] using hnd) with h | ⟨isub', hm, h⟩
      · exact .inl h
      · exact .inr ⟨isub', List.mem_cons_of_mem _ hm, h⟩
    | typename =>
      have e2 : mineOf q vt (Sel.typename :: xs) = mineOf q vt xs := by simp [mineOf, onVt, selOn]
      rw [e2]
      rcases mineOf_noSpread q vt xs hns' (by simpa [List.filterMap_cons, inlineTy] using hnd) with h | ⟨isub', hm, h⟩
      · exact .inl h
      · exact .inr ⟨isub', List.mem_cons_of_mem _ hm, h⟩

/-- the variant struct of `VariantSpreadOp` is the one `VariantOp` emits for the inline fragment -/
theorem varEnv_of_V {e : Env} {c : Ctx} {pfx : String} {sub : List Sel} (hv : vSels c.s c.o true sub = true)
    (hnd : (sub.filterMap inlineTy).Nodup) (henv : envSelsV e c pfx sub) (vt : TypeId) : VarEnv e c pfx vt sub := by
  unfold VarEnv
  rcases mineOf_noSpread c.q vt sub (no_spread_of_vSels hv) hnd with h | ⟨isub, hm, h⟩
  · rw [h]; trivial
  · have := envSelsV_mem henv _ hm
    rw [envSelV] at this
    rw [h, ← varFields_mineOf, h]
    simpa [varFields] using this.1

mutual
  theorem envSelS_of_V (e : Env) (c : Ctx) : ∀ (x : Sel) (pfx : String) (abs : Bool), vSel c.s c.o abs x = true →
      envSelV e c pfx x → envSelS e c pfx x
    | .field a fid sub, pfx, abs => by
      intro h henv
      obtain ⟨sf, hsf, _, _, hk⟩ := vSel_kinds h
      rw [envSelV] at henv
      rw [envSelS]
      simp only [hsf] at henv ⊢
      rcases hk with ⟨k, sn, hid, hk, _⟩ | ⟨k, en, hid, hk, _⟩ | ⟨i, ob, hid, _, hsub, _⟩ |
        ⟨k, hid, _, hsub, hok⟩ | ⟨k, hid, _, hsub, hok⟩
      · simp only [hid, hk] at henv ⊢; exact henv
      · simp only [hid, hk] at henv ⊢; exact henv
      · simp only [hid] at henv ⊢
        exact ⟨henv.1, envSelsS_of_V e c sub _ false hsub henv.2⟩
      all_goals
        have hns := no_spread_of_vSels hsub
        obtain ⟨_, _, _, _, _, _, hnd, _⟩ := absOk_parts hok
        simp only [hid, loneG_noSpread hns, fieldsB_noSpread c _ _ sub hns, marks_noSpread c.q hns] at henv ⊢
        exact ⟨henv.1, fun vt _ => varEnv_of_V hsub hnd henv.2 vt, envSelsS_of_V e c sub _ true hsub henv.2⟩
    | .inline t isub, pfx, abs => by
      intro h henv
      simp only [vSel, Bool.and_eq_true] at h
      rw [envSelV] at henv
      rw [envSelS]
      exact envSelsS_of_V e c isub _ false h.1.2 henv.2
    | .spread g, _, _ => by intro h; simp [vSel] at h
    | .typename, _, _ => by intro _ _; simp [envSelS]
  theorem envSelsS_of_V (e : Env) (c : Ctx) : ∀ (sels : List Sel) (pfx : String) (abs : Bool),
      vSels c.s c.o abs sels = true → envSelsV e c pfx sels → envSelsS e c pfx sels
    | [], _, _ => by intro _ _; simp [envSelsS]
    | x :: xs, pfx, abs => by
      intro h henv
      obtain ⟨hx, hxs⟩ := vSels_cons h
      rw [envSelsV] at henv
      rw [envSelsS]
      exact ⟨envSelS_of_V e c x pfx abs hx henv.1, envSelsS_of_V e c xs pfx abs hxs henv.2⟩
end


end E2E
end C01
end GqlVerif
