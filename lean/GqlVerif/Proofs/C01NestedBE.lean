import GqlVerif.Proofs.C01NestedBD
/-!
# `NestedBOp`: acyclicity from the class; the emitted module; `nestedb_precise_iff`

As `C01NestedK`, the ranks of the class make the reachable spread graph acyclic, so the module is `EnvOK` / `EnvOKS` (fuel
independence) with no hypothesis on the document (`nestedb_module_envOK`); the environment hypotheses of `C01NestedBC` /
`C01NestedBD` hold for the emitted module (`envSelA_of`, `topEnvA_of_module`); **`nestedb_precise_iff`** (C03):
`Serde.de (moduleEnv c items) ResponseData j` succeeds **iff** `conformsLooseA …`.

What is particular to `NestedBOp`: a (b)-spread is a spread-free fragment on the abstract type
(`FragOkAny`, second alternative: `mem_spreadIdss_unB`), its items are in the module (`FragsInB`, `fragEnvS_of_B` of
`C01VariantSpreadT`), which gives the new component of `EnvAbsB` (`envSelsS_of_spreads`).
-/

namespace GqlVerif
namespace C01NB
open Serde Spec C13 C03 Codegen C01 C01.E2E C01M C01N C01NA C01NG C01NX

theorem spreadIdss_leafs {s : Schema} {q : Query} {o : Options} : ∀ {isub : List Sel}, (∀ y ∈ isub, isFieldSel y = true) →
    (∀ y ∈ isub, leafSel s q o y = true) → spreadIdss isub = []
  | [], _, _ => rfl
  | y :: ys, hf, hl => by
    have ih := spreadIdss_leafs (fun z hz => hf z (List.mem_cons_of_mem _ hz)) (fun z hz => hl z (List.mem_cons_of_mem _ hz))
    cases y with
    | field a fid sub' =>
      obtain ⟨_, _, _, _, hnil, _⟩ := leafSel_field (hl _ (List.mem_cons_self))
      subst hnil
      rw [spreadIdss, ih]; simp [spreadIds, spreadIdss]
    | spread g => have := hf _ (List.mem_cons_self); simp [isFieldSel] at this
    | inline t sub' => have := hf _ (List.mem_cons_self); simp [isFieldSel] at this
    | typename => have := hf _ (List.mem_cons_self); simp [isFieldSel] at this

/-- the interface-level fields and the inline fragments with (leaf) fields spread nothing -/
theorem mem_spreadIdss_unbody {s : Schema} {q : Query} {o : Options} {vts : List TypeId} {sub0 : List Sel} : ∀ {sub : List Sel},
    (∀ x ∈ sub, leafSel s q o x = true) → (∀ x ∈ sub, isBody x = true → bodyOk s q o vts sub0 x = true) →
    ∀ g ∈ spreadIdss sub, g ∈ spreadIdss (strip (unbody sub))
  | [], _, _, g, hg => by simp [spreadIdss] at hg
  | x :: xs, hl, hb, g, hg => by
    have ih := mem_spreadIdss_unbody (fun y hy => hl y (List.mem_cons_of_mem _ hy))
      (fun y hy => hb y (List.mem_cons_of_mem _ hy))
    rw [spreadIdss, List.mem_append] at hg
    by_cases hk : isBody x = false ∧ isFieldSel x = false
    · have hs : strip (unbody (x :: xs)) = x :: strip (unbody xs) := by
        simp [strip, unbody, hk.1, hk.2]
      rw [hs, spreadIdss, List.mem_append]
      exact hg.imp id (ih g)
    · have hs : strip (unbody (x :: xs)) = strip (unbody xs) := by
        by_cases h1 : isBody x = true
        · simp [strip, unbody, h1]
        · have h1' : isBody x = false := by simpa using h1
          have h2 : isFieldSel x = true := by
            cases h2 : isFieldSel x with
            | true => rfl
            | false => exact absurd ⟨h1', h2⟩ hk
          simp [strip, unbody, h1', h2]
      rw [hs]
      rcases hg with hg | hg
      · exfalso
        by_cases h1 : isBody x = true
        · obtain ⟨t, isub, rfl, _, hall⟩ := isBody_inline h1
          have := hb _ (List.mem_cons_self) h1
          simp only [bodyOk, Bool.and_eq_true, List.all_eq_true] at this
          rw [spreadIds, spreadIdss_leafs hall this.1.2] at hg
          cases hg
        · have h1' : isBody x = false := by simpa using h1
          cases x with
          | field a fid sub' =>
            obtain ⟨_, _, _, _, hnil, _⟩ := leafSel_field (hl _ (List.mem_cons_self))
            subst hnil
            simp [spreadIds, spreadIdss] at hg
          | spread g' => exact hk ⟨h1', rfl⟩
          | inline t sub' => exact hk ⟨h1', rfl⟩
          | typename => exact hk ⟨h1', rfl⟩
      · exact ih g hg

theorem memFrags_src {q : Query} {vt : TypeId} {sub : List Sel} {g : Nat} (hg : g ∈ memFrags q vt sub) :
    Sel.spread g ∈ sub ∨ ∃ t, Sel.inline t [Sel.spread g] ∈ sub := by
  unfold memFrags at hg
  rcases List.mem_append.mp hg with hg | hg
  · obtain ⟨x, hx, hxg⟩ := List.mem_filterMap.mp hg
    cases x with
    | spread g' => simp only [spreadId, Option.some.injEq] at hxg; subst hxg; exact .inl (mem_mineOf hx).1
    | field a fid sub' => simp [spreadId] at hxg
    | inline t sub' => simp [spreadId] at hxg
    | typename => simp [spreadId] at hxg
  · obtain ⟨x, hx, hxg⟩ := List.mem_filterMap.mp hg
    obtain ⟨t, rfl⟩ := aliasInl_some hxg
    exact .inr ⟨t, (mem_mineOf hx).1⟩

theorem mem_itemsAs {c : Ctx} {pfx : String} {it : Item} : ∀ {sels : List Sel} {x : Sel}, x ∈ sels →
    it ∈ itemsA c pfx x → it ∈ itemsAs c pfx sels
  | [], _, h, _ => by simp at h
  | y :: ys, x, h, hit => by
    rw [itemsAs, List.mem_append]
    rcases List.mem_cons.mp h with rfl | h'
    · exact .inl hit
    · exact .inr (mem_itemsAs h' hit)

/-- a spread reachable in a selection set with (b)-spreads: reachable without them, or a (b)-spread -/
theorem mem_spreadIdss_unB (q : Query) (ty : TypeId) : ∀ (sub : List Sel), ∀ g ∈ spreadIdss sub,
    g ∈ spreadIdss (unB q ty sub) ∨ (Sel.spread g ∈ sub ∧ isBSpread q ty (.spread g) = true)
  | [], g, hg => by simp [spreadIdss] at hg
  | x :: xs, g, hg => by
    rw [spreadIdss, List.mem_append] at hg
    have ih := mem_spreadIdss_unB q ty xs g
    cases hb : isBSpread q ty x with
    | true =>
      obtain ⟨g', f, rfl, hf, hon⟩ := isBSpread_spread hb
      rcases hg with hg | hg
      · simp only [spreadIds, List.mem_singleton] at hg
        subst hg
        exact .inr ⟨by simp, hb⟩
      · rcases ih hg with h | ⟨h1, h2⟩
        · left
          have : unB q ty (Sel.spread g' :: xs) = unB q ty xs := by simp [unB, hb]
          rw [this]; exact h
        · exact .inr ⟨List.mem_cons_of_mem _ h1, h2⟩
    | false =>
      have : unB q ty (x :: xs) = x :: unB q ty xs := by simp [unB, hb]
      rw [this, spreadIdss, List.mem_append]
      rcases hg with hg | hg
      · exact .inl (.inl hg)
      · rcases ih hg with h | ⟨h1, h2⟩
        · exact .inl (.inr h)
        · exact .inr ⟨List.mem_cons_of_mem _ h1, h2⟩

theorem envSelsS_of_spreads {e : Env} {c : Ctx} {pfx : String} : ∀ (l : List Sel),
    (∀ x ∈ l, ∃ g, x = Sel.spread g ∧ FragEnvS e c g) → envSelsS e c pfx l
  | [], _ => by simp [envSelsS]
  | x :: xs, h => by
    rw [envSelsS]
    refine ⟨?_, envSelsS_of_spreads xs (fun y hy => h y (List.mem_cons_of_mem _ hy))⟩
    obtain ⟨g, rfl, hg⟩ := h x (by simp)
    rw [envSelS]; exact hg

mutual
  theorem spreadIds_classA (ok : TypeId → Nat → Bool) (s : Schema) (q : Query) (o : Options) : ∀ (x : Sel) (p : Nat),
      aSel ok s q o (.object p) x = true → ∀ g ∈ spreadIds x, FragOkAny s q o g ∨ ∃ p', ok (.object p') g = true
    | .field a fid sub, p => by
      intro ht g hg
      have IH := spreadIdss_classA ok s q o sub
      obtain ⟨sf, hsf⟩ := aSel_field_some ht
      by_cases hobj : ∃ i, sf.ty.id = .object i
      · obtain ⟨i, hid⟩ := hobj
        obtain ⟨_, _, _, hbody⟩ := aSel_obj hsf hid ht
        rw [spreadIds] at hg
        by_cases hsp : ∃ g', sub = [Sel.spread g']
        · obtain ⟨g', rfl⟩ := hsp
          simp only [spreadIdss, spreadIds, List.append_nil, List.mem_singleton] at hg
          subst hg
          exact .inr ⟨i, hbody⟩
        · have hnl : ∀ g, sub ≠ [Sel.spread g] := fun g hg => hsp ⟨g, hg⟩
          rw [aBody_not_lone hnl] at hbody
          exact IH i hbody g hg
      · have hno : ∀ i, sf.ty.id ≠ .object i := fun i h => hobj ⟨i, h⟩
        rcases aSel_nonobj hsf hno ht with hs | ⟨_, hnew⟩
        · exact .inl (fragOk_of_spreadIdS s q o _ false hs g hg (by simp))
        · obtain ⟨_, _, hty, hsubA⟩ := absFieldB_parts hnew
          have hsb := absSubB_parts hsubA
          have hsg := hsb.x
          have hsp := hsg.gen.abs
          rw [spreadIds] at hg
          rcases mem_spreadIdss_unB q sf.ty.id sub g hg with hg' | ⟨hm, hb⟩
          · obtain ⟨vt, hvt, hokg⟩ := spreadIdss_special hsp g (mem_spreadIdss_unbody hsg.leaf hsg.body g hg')
            obtain ⟨i, rfl, _⟩ := hsp.obj vt hvt
            exact .inr ⟨i, hokg⟩
          · exact .inl (.inr ⟨sf.ty.id, hty, (hsb.b g hm hb).okB⟩)
    | .spread g', p => by
      intro ht g hg
      simp only [spreadIds, List.mem_singleton] at hg
      subst hg
      exact .inr ⟨p, by simpa [aSel] using ht⟩
    | .inline _ _, _ => by intro ht; simp [aSel] at ht
    | .typename, _ => by intro _ g hg; simp [spreadIds] at hg
  theorem spreadIdss_classA (ok : TypeId → Nat → Bool) (s : Schema) (q : Query) (o : Options) :
      ∀ (sels : List Sel) (p : Nat), aSels ok s q o (.object p) sels = true →
      ∀ g ∈ spreadIdss sels, FragOkAny s q o g ∨ ∃ p', ok (.object p') g = true
    | [], _ => by intro _ g hg; simp [spreadIdss] at hg
    | x :: xs, p => by
      intro ht g hg
      obtain ⟨hx, hxs⟩ := aSels_cons ht
      rw [spreadIdss, List.mem_append] at hg
      rcases hg with hg | hg
      · exact spreadIds_classA ok s q o x p hx g hg
      · exact spreadIdss_classA ok s q o xs p hxs g hg
end

theorem spreadIdss_class_bodyA {ok : TypeId → Nat → Bool} {s : Schema} {q : Query} {o : Options} {p : Nat}
    {sels : List Sel} (h : aBody ok s q o (.object p) sels = true) :
    ∀ g ∈ spreadIdss sels, FragOkAny s q o g ∨ ∃ p', ok (.object p') g = true := by
  by_cases hsp : ∃ g', sels = [Sel.spread g']
  · obtain ⟨g', rfl⟩ := hsp
    intro g hg
    simp only [spreadIdss, spreadIds, List.append_nil, List.mem_singleton] at hg
    subst hg
    exact .inr ⟨p, h⟩
  · have hnl : ∀ g, sels ≠ [Sel.spread g] := fun g hg => hsp ⟨g, hg⟩
    rw [aBody_not_lone hnl] at h
    exact spreadIdss_classA ok s q o sels p h


/-- **the reachable fragments of an operation of `NestedBOp` are ranked along same-type spreads** -/
theorem nestedb_reachRanked (c : Ctx) (op : ROperation) (ht : NestedBOp c op = true) :
    AcyclicM.ReachRanked c.q op.sels (rhoN c) :=
  reachRanked_fragOkN c op.sels (spreadIdss_class_bodyA (nestedBOp_parts ht).2.2)

/-- **the module of an operation of `NestedBOp` is `EnvOK` and `EnvOKS`** (no fuel exhaustion, fuel independence), with no
    acyclicity hypothesis on the document -/
theorem nestedb_module_envOK {c : Ctx} {opIdx : Nat} {op : ROperation} {items : List Item}
    (hop : c.q.operations[opIdx]? = some op) (ht : NestedBOp c op = true)
    (hgen : responseForQuery c opIdx = .ok items) (hok : moduleOk c items = true) :
    SerdeFuel.EnvOK (moduleEnv c items) ∧ SerdeFuel.EnvOKS (moduleEnv c items) :=
  AcyclicM.module_envOK_of_reachRanked hop (nestedb_reachRanked c op ht) hgen hok


theorem bodyEnvA_mk {fenv : Nat → Prop} {e : Env} {c : Ctx} {name pfx : String} {sels : List Sel}
    (hnl : ∀ g, sels ≠ [Sel.spread g])
    (h : StructEnv e name (fieldsOfF c pfx sels) ∧ envSelsA fenv e c pfx sels) : BodyEnvA fenv e c name pfx sels := by
  unfold BodyEnvA
  split
  · exact absurd rfl (hnl _)
  · exact h

section EnvOfA
variable {c : Ctx} {items : List Item} {u : UsedTypes} {root : List Sel} (M : ModFacts c items u root)
  (hfr : FragsIn c items root) (hfrB : FragsInB c items root)
include M hfr hfrB

/-- the interface-level fields of a selection set of leaf fields have their environment in the module -/
theorem envSelsS_ownSels_of (name : String) (L : List Sel) (hl : ∀ x ∈ L, leafSel c.s c.q c.o x = true)
    (hr : ∀ x ∈ L, isFieldSel x = true → C02.Reach c.q root x) :
    envSelsS (moduleEnv c items) c name (C01NG.ownSels L) := by
  apply envSelsS_of M hfr hfrB (C01NG.ownSels L) _ true (sSels_ownSels L hl)
  · intro x hx it hit'
    obtain ⟨hxs, hxf⟩ := List.mem_filter.mp hx
    cases x with
    | field a' fid' sub' =>
      obtain ⟨sf', hsf', _, _, _, hty'⟩ := leafSel_field (hl _ hxs)
      rcases hty' with ⟨k, sn, hid, hk⟩ | ⟨k, en, hid, hk⟩
      · simp [allItemsS, itemsS, hsf', hid] at hit'
      · simp [allItemsS, itemsS, hsf', hid] at hit'
    | spread g => simp [isFieldSel] at hxf
    | inline t sub' => simp [isFieldSel] at hxf
    | typename => simp [isFieldSel] at hxf
  · intro x hx
    exact hr x (List.mem_filter.mp hx).1 (List.mem_filter.mp hx).2
  · intro g hg
    have := (List.mem_filter.mp hg).2
    simp [isFieldSel] at this

/-- **the environment of an abstract position of the class, from the emitted module**: the struct / tagged enum of the position,
    the interface-level fields, the fragments spread on the abstract type itself, and per possible type its variant -/
theorem envAbsB_of {ok : TypeId → Nat → Bool} {fenv : Nat → Prop} (hok : OkSpec c.q ok)
    (hfenv : ∀ p g, ok (.object p) g = true → C02.Reach c.q root (.spread g) → fenv g)
    {a : Option String} {fid : Nat} {sub : List Sel} {sf : StoredField} (name : String)
    (hnew : absFieldB ok c.s c.q c.o sf sub = true) (hr : C02.Reach c.q root (.field a fid sub))
    (hit : ∀ it ∈ absItemsB c name name sf.ty.id sub, it ∈ items) :
    EnvAbsB fenv (moduleEnv c items) c name sf.ty.id sub := by
  obtain ⟨_, _, hty, hsubA⟩ := absFieldB_parts hnew
  have hsb := absSubB_parts hsubA
  have hsg := hsb.x
  have hsp := hsg.gen.abs
  have hrU : ∀ {y : Sel}, y ∈ unB c.q sf.ty.id sub → C02.Reach c.q root y :=
    fun hy => reach_step hr (mem_unB.mp hy).1
  refine ⟨?_, ?_, ?_, fun vt hvt => ?_⟩
  · have hvs := variantsV_ne_nil c name (marks c.q (unB c.q sf.ty.id sub)) hsp.ne
    apply absEnv_of M _ _ _ hvs
    intro it hit'
    apply hit
    unfold absItemsB
    exact List.mem_append_left _ hit'
  · exact envSelsS_ownSels_of M hfr hfrB name sub hsb.leaf (fun x hx _ => reach_step hr hx)
  · apply envSelsS_of_spreads
    intro x hx
    obtain ⟨hm, hb⟩ := mem_bSels.mp hx
    obtain ⟨g, f, rfl, _, _⟩ := isBSpread_spread hb
    exact ⟨g, rfl, fragEnvS_of_B M hfr hfrB g sf.ty.id hty (reach_step hr hm) (hsb.b g hm hb).okB⟩
  · obtain ⟨i, rfl, _⟩ := hsp.obj vt hvt
    have hmineX := hsg.mine hok hvt
    have hin : ∀ it ∈ variantHeadX c name (.object i) (unB c.q sf.ty.id sub), it ∈ items := by
      intro it hit'
      apply hit
      unfold absItemsB
      apply List.mem_append_right
      exact List.mem_flatMap.mpr ⟨_, hvt, hit'⟩
    unfold VarEnvX
    split
    · rename_i hbody
      rw [variantHeadX_body hbody] at hin
      have hreachX : ∀ g ∈ memFrags c.q (.object i) (unB c.q sf.ty.id sub),
          ok (.object i) g = true ∧ C02.Reach c.q root (.spread g) := by
        intro g hg
        refine ⟨memFrags_okX hmineX hg, ?_⟩
        rcases memFrags_src hg with hm | ⟨t, hm⟩
        · exact hrU hm
        · exact reach_step_inline (hrU hm) (by simp)
      refine ⟨structEnv_of M _ _ (hin _ (by simp)), ?_, fun g hg => hfenv i g (hreachX g hg).1 (hreachX g hg).2⟩
      -- a member of the variant struct: a spread, or a leaf field of an inline fragment with fields of its own
      have hmem : ∀ x ∈ varSels c.q (.object i) (unB c.q sf.ty.id sub), leafSel c.s c.q c.o x = true ∧
          (isFieldSel x = true → C02.Reach c.q root x) := by
        intro x hx
        rcases mem_varSelsOf hx with ⟨g, rfl, _⟩ | ⟨t, isub, hm, hb, hxi⟩
        · exact ⟨rfl, fun h => by simp [isFieldSel] at h⟩
        · rcases hmineX _ hm with (⟨g, h0, _⟩ | ⟨g, h0, _⟩) | ⟨isub', h0, _, hlf⟩
          · cases h0
          · cases h0; simp [isBody, isFieldSel] at hb
          · cases h0
            exact ⟨hlf x hxi, fun _ => reach_step_inline (hrU (mem_mineOf hm).1) hxi⟩
      exact envSelsS_ownSels_of M hfr hfrB name _ (fun x hx => (hmem x hx).1) (fun x hx hf => (hmem x hx).2 hf)
    · rename_i hbody
      have hbody' : (mineOf c.q (.object i) (unB c.q sf.ty.id sub)).any isBody = false := by simpa using hbody
      rw [variantHeadX_nobody hbody'] at hin
      refine C01NA.varEnvA_of M name (.object i) _ hin (fun g hg => ?_)
      obtain ⟨hokg, hm⟩ := hsp.mem hok hvt hg
      refine hfenv i g hokg ?_
      rcases hm with hm | hm
      · exact hrU (mem_unbody.mp (mem_strip.mp hm).1).1
      · exact reach_step_inline (hrU (mem_unbody.mp (mem_strip.mp hm).1).1) (by simp)

set_option linter.unusedSectionVars false
mutual
  theorem envSelA_of {ok : TypeId → Nat → Bool} {fenv : Nat → Prop} (hok : OkSpec c.q ok)
      (hfenv : ∀ p g, ok (.object p) g = true → C02.Reach c.q root (.spread g) → fenv g) :
      ∀ (x : Sel) (pfx : String) (p : Nat), aSel ok c.s c.q c.o (.object p) x = true →
      (∀ it ∈ itemsA c pfx x, it ∈ items) → C02.Reach c.q root x → envSelA fenv (moduleEnv c items) c pfx x
    | .field a fid sub, pfx, p => by
      intro ht hit hr
      have IH := envSelsA_of hok hfenv sub
      obtain ⟨sf, hsf⟩ := aSel_field_some ht
      by_cases hobj : ∃ i, sf.ty.id = .object i
      · obtain ⟨i, hid⟩ := hobj
        obtain ⟨_, _, _, hbody⟩ := aSel_obj hsf hid ht
        rw [itemsA] at hit
        rw [envSelA]
        simp only [hsf, hid] at hit ⊢
        by_cases hsp : ∃ g, sub = [Sel.spread g]
        · obtain ⟨g, rfl⟩ := hsp
          simp only at hit ⊢
          have hokg : ok (.object i) g = true := hbody
          exact ⟨aliasEnv_of M _ _ (hit _ (by simp)), hfenv i g hokg (reach_step hr (by simp))⟩
        · have hnl : ∀ g, sub ≠ [Sel.spread g] := fun g hg => hsp ⟨g, hg⟩
          rw [aBody_not_lone hnl] at hbody
          have hit' : ∀ it ∈ (Item.struct (pfx ++ c.cs.camel (a.getD sf.name)) c.respDerives c.serdeCrate
              (fieldsOfF c (pfx ++ c.cs.camel (a.getD sf.name)) sub) ::
              itemsAs c (pfx ++ c.cs.camel (a.getD sf.name)) sub), it ∈ items := by
            revert hit
            split
            · exact absurd rfl (hnl _)
            · exact id
          split
          · exact absurd rfl (hnl _)
          · exact ⟨structEnv_of M _ _ (hit' _ (by simp)),
              IH _ i hbody (fun x hx it h => hit' it (by simp [mem_itemsAs hx h]))
                (fun y hy => reach_step hr hy)⟩
      · have hno : ∀ i, sf.ty.id ≠ .object i := fun i h => hobj ⟨i, h⟩
        rcases aSel_nonobj hsf hno ht with hs | ⟨hs, hnew⟩
        · rw [itemsA_old c pfx a fid sub sf hsf hno hs] at hit
          have := envSelS_of M hfr hfrB _ pfx false hs (by simpa [allItemsS] using hit) hr (fun g hg => by cases hg)
          rw [envSelA]
          simp only [hsf]
          simpa only [hs, if_true] using this
        · rw [itemsA_new c pfx a fid sub sf hsf hno hs] at hit
          have hE := envAbsB_of M hfr hfrB hok hfenv (pfx ++ c.cs.camel (a.getD sf.name)) hnew hr hit
          rw [envSelA]
          simp only [hsf]
          simpa only [hs, Bool.false_eq_true, if_false] using hE
    | .spread g, pfx, p => by
      intro ht _ hr
      have hokg : ok (.object p) g = true := by simpa [aSel] using ht
      rw [envSelA]
      exact hfenv p g hokg hr
    | .inline _ _, _, _ => by intro ht; simp [aSel] at ht
    | .typename, _, _ => by intro _ _ _; simp [envSelA]
  theorem envSelsA_of {ok : TypeId → Nat → Bool} {fenv : Nat → Prop} (hok : OkSpec c.q ok)
      (hfenv : ∀ p g, ok (.object p) g = true → C02.Reach c.q root (.spread g) → fenv g) :
      ∀ (sels : List Sel) (pfx : String) (p : Nat), aSels ok c.s c.q c.o (.object p) sels = true →
      (∀ x ∈ sels, ∀ it ∈ itemsA c pfx x, it ∈ items) → (∀ x ∈ sels, C02.Reach c.q root x) →
      envSelsA fenv (moduleEnv c items) c pfx sels
    | [], _, _ => by intro _ _ _; simp [envSelsA]
    | x :: xs, pfx, p => by
      intro ht hit hr
      obtain ⟨hx, hxs⟩ := aSels_cons ht
      rw [envSelsA]
      exact ⟨envSelA_of hok hfenv x pfx p hx (hit x (by simp)) (hr x (by simp)),
        envSelsA_of hok hfenv xs pfx p hxs (fun y hy => hit y (by simp [hy])) (fun y hy => hr y (by simp [hy]))⟩
end
set_option linter.unusedSectionVars true

end EnvOfA

theorem topEnvA_of_module {c : Ctx} {opIdx : Nat} {op : ROperation} {items : List Item}
    (hop : c.q.operations[opIdx]? = some op) (ht : NestedBOp c op = true)
    (hgen : responseForQuery c opIdx = .ok items) (hok : moduleOk c items = true) :
    TopEnvA (moduleEnv c items) c op := by
  obtain ⟨hn, _, hsels⟩ := nestedBOp_parts ht
  refine ⟨?_, (nestedb_module_envOK hop ht hgen hok).1⟩
  obtain ⟨u, F, _, hF, M, hsub, hsubF, _⟩ :=
    module_tail hop hn hgen hok (nestedb_items_shape c op (List.mem_of_getElem? hop) ht)
  obtain ⟨hfr, hfrB⟩ := fragsIn_of_module M hF hsubF
  have hfenv : ∀ p g, fragOkN c.s c.q c.o c.q.fragments.length (.object p) g = true →
      C02.Reach c.q op.sels (.spread g) → FragEnvN (moduleEnv c items) c c.q.fragments.length g :=
    fragEnvN_of M hfr hfrB (fun g i r hr hokg f hf => by
      obtain ⟨f', hf', _, hshape⟩ := nested_fragment_shape c hn r i g hokg
      rw [hf] at hf'; cases hf'
      exact fragmentItems_mem M hF hsubF hr hshape) _
  by_cases hsp : ∃ g, op.sels = [Sel.spread g]
  · obtain ⟨g, hg⟩ := hsp
    have hokg : fragOkN c.s c.q c.o c.q.fragments.length (.object op.objectId) g = true := by
      rw [hg] at hsels; exact hsels
    have hr : C02.Reach c.q op.sels (.spread g) := .here (by rw [hg]; simp)
    unfold BodyEnvA
    rw [hg]
    simp only
    exact ⟨aliasEnv_of M _ _ (hsub _ (by rw [hg]; simp [bodyItemsA])), hfenv _ g hokg hr⟩
  · have hnl : ∀ g, op.sels ≠ [Sel.spread g] := fun g hg => hsp ⟨g, hg⟩
    have hsels' := hsels
    rw [aBody_not_lone hnl] at hsels'
    have hbody := bodyItemsA_not_lone c "ResponseData" (c.cs.camel op.name) hnl
    rw [hbody] at hsub
    exact bodyEnvA_mk hnl ⟨structEnv_of M _ _ (hsub _ (by simp)),
        envSelsA_of M hfr hfrB (fragOkN_spec c.s c.q c.o _) hfenv op.sels _ op.objectId hsels'
          (fun x hx it h => hsub it (by simp [mem_itemsAs hx h])) (fun x hx => .here hx)⟩

/-- **`nestedb_precise_iff` (C03), as an equivalence**: on the module `responseForQuery` emits for an operation of
    `NestedBOp`, `ResponseData` accepts exactly `conformsLooseA (wholeN c R)`, `R` the number of fragments -/
theorem nestedb_precise_iff (c : Ctx) (opIdx : Nat) (op : ROperation) (items : List Item)
    (hop : c.q.operations[opIdx]? = some op) (ht : NestedBOp c op = true) (hnd : fragNamesOk c = true)
    (hk : nestedBKeysOk c op = true)
    (hgen : responseForQuery c opIdx = .ok items) (hok : moduleOk c items = true) (j : Json) :
    okB (Serde.de (moduleEnv c items) (.path "ResponseData") j) =
      conformsLooseA (wholeN c c.q.fragments.length) c.s c.q c.o false op.sels j :=
  top_accepts_iffA (moduleEnv c items) c op ht hnd hk
    (topEnvA_of_module hop ht hgen hok) j

theorem nestedb_precise (c : Ctx) (opIdx : Nat) (op : ROperation) (items : List Item)
    (hop : c.q.operations[opIdx]? = some op) (ht : NestedBOp c op = true) (hnd : fragNamesOk c = true)
    (hk : nestedBKeysOk c op = true)
    (hgen : responseForQuery c opIdx = .ok items) (hok : moduleOk c items = true) (j : Json) (v : Val)
    (hd : Serde.de (moduleEnv c items) (.path "ResponseData") j = .ok v) :
    conformsLooseA (wholeN c c.q.fragments.length) c.s c.q c.o false op.sels j = true :=
  Top.precise_of_iff (nestedb_precise_iff c opIdx op items hop ht hnd hk hgen hok j) hd

end C01NB
end GqlVerif
