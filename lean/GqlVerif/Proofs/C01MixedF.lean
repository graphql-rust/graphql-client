import GqlVerif.Proofs.C01MixedE
import GqlVerif.Proofs.C01VariantSpreadG
/-!
# C01 end to end: `MixedOp2` — `MixedOp` with inline fragments `... on T { ...F }` at abstract positions

`VariantSpreadOp2` (`C01VariantSpreadF` / `G`) extends `VariantSpreadOp` by inline fragments whose body is a lone spread, next
to other selections (`animal { __typename ... on Dog { ...DogFields } }`): the emitted items are those of the *normalized*
selection set `normSels` (every such inline fragment replaced by the spread `...F`, moved behind the other selections), and
the specification is invariant under the normalization (`conformsV_norm`).  `MixedOp2` (`C01MixedA`) does the same for `MixedOp`.

The theorems are stated with the specification of the operation **as written** (`conformsOpM c op`).  The class contains
`VariantSpreadOp2` (`mixedOp2_of_variantSpreadOp2`) and `MixedOp`, hence `FragmentOp` and `VariantSpreadOp`.  A generated module
in none of the four (`ex…`, `query Q { dog { ...DogFields } animal { __typename ...AnimalName ... on Dog { ...DogFields } } }`):
`C01MixedW`.
-/

namespace GqlVerif
namespace C01M
open Serde C03 Codegen C01 C01.E2E

/-! ## the environment of the emitted module, for the normalized operation -/

theorem topEnvM2_of_module {c : Ctx} {opIdx : Nat} {op : ROperation} {items : List Item}
    (hop : c.q.operations[opIdx]? = some op) (ht : MixedOp2 c op = true)
    (hgen : responseForQuery c opIdx = .ok items) (hok : moduleOk c items = true) :
    TopEnvM (moduleEnv c items) c (normOp op) := by
  obtain ⟨_, _, _, _, ht'⟩ := mixedOp2_parts ht
  obtain ⟨hn, _, hsels⟩ := mixedOp_parts ht'
  obtain ⟨h1, h2⟩ := topEnvM_of_closedForm (normSels op.sels) hop hn hsels
    (mixed2_items_shape c op (List.mem_of_getElem? hop) ht)
    (fun _ _ h => used_norm h) hgen hok
  exact ⟨h1, h2⟩

theorem conformsOpM_norm {c : Ctx} {op : ROperation} (hwf : aliasWfSels c.q op.sels = true) (j : Json) :
    conformsOpM c (normOp op) j = conformsOpM c op j := by
  unfold conformsOpM
  rw [normOp_sels, normOp_objectId, conformsV_norm c.s c.q op.sels hwf]

/-- **`mixed2_accepts`.**  Every response that conforms to the operation (specification of the operation as written) is
    accepted by the emitted `ResponseData`. -/
theorem mixed2_accepts (c : Ctx) (opIdx : Nat) (op : ROperation) (items : List Item)
    (hop : c.q.operations[opIdx]? = some op) (ht : MixedOp2 c op = true) (hk : mixedKeysOk c (normOp op) = true)
    (hgen : responseForQuery c opIdx = .ok items) (hok : moduleOk c items = true)
    (j : Json) (hc : conformsOpM c op j = true) :
    ∃ v, Serde.de (moduleEnv c items) (.path "ResponseData") j = .ok v := by
  obtain ⟨hwf, _, _, _, ht'⟩ := mixedOp2_parts ht
  have he := topEnvM2_of_module hop ht hgen hok
  have := top_accepts_iffM (moduleEnv c items) c (normOp op) ht' hk he j
  have hc' : conformsOpM c (normOp op) j = true := by rw [conformsOpM_norm hwf]; exact hc
  exact Top.accepts_of_iff this (conformsM_loose c.s c.q c.o false _ _ _ (mixedOp_parts ht').2.2 hc')

/-- **`mixed2_precise_iff` (C03).** -/
theorem mixed2_precise_iff (c : Ctx) (opIdx : Nat) (op : ROperation) (items : List Item)
    (hop : c.q.operations[opIdx]? = some op) (ht : MixedOp2 c op = true) (hk : mixedKeysOk c (normOp op) = true)
    (hgen : responseForQuery c opIdx = .ok items) (hok : moduleOk c items = true) (j : Json) :
    okB (Serde.de (moduleEnv c items) (.path "ResponseData") j) =
      conformsLooseM c.s c.q c.o false (normSels op.sels) j :=
  top_accepts_iffM (moduleEnv c items) c (normOp op) (mixedOp2_parts ht).2.2.2.2 hk (topEnvM2_of_module hop ht hgen hok) j

/-- **`mixed2_lossless`.**  A response that conforms to the operation (as written) and was read is written back as
    `normJson (canonSelM … (normSels op.sels) j)`: the entries of `... on T { ...F }` are written where the member
    `snake(F)` is — behind the other entries of the variant. -/
theorem mixed2_lossless (c : Ctx) (opIdx : Nat) (op : ROperation) (items : List Item)
    (hop : c.q.operations[opIdx]? = some op) (ht : MixedOp2 c op = true) (hk : mixedKeysOk c (normOp op) = true)
    (hr : mixedRustOk c (normOp op) = true)
    (hgen : responseForQuery c opIdx = .ok items) (hok : moduleOk c items = true)
    (j : Json) (hc : conformsOpM c op j = true) (v : Val)
    (hd : Serde.de (moduleEnv c items) (.path "ResponseData") j = .ok v) :
    Serde.ser (moduleEnv c items) (.path "ResponseData") v =
      .ok (normJson (canonSelM c.s c.q c.o.skipNone (normSels op.sels) j)) := by
  obtain ⟨hwf, _, _, _, ht'⟩ := mixedOp2_parts ht
  have hc' : conformsOpM c (normOp op) j = true := by rw [conformsOpM_norm hwf]; exact hc
  exact top_losslessM (moduleEnv c items) c (normOp op) ht' hk hr (topEnvM2_of_module hop ht hgen hok) j v hc' hd

theorem mixed2_roundtrip (c : Ctx) (opIdx : Nat) (op : ROperation) (items : List Item)
    (hop : c.q.operations[opIdx]? = some op) (ht : MixedOp2 c op = true) (hk : mixedKeysOk c (normOp op) = true)
    (hr : mixedRustOk c (normOp op) = true)
    (hgen : responseForQuery c opIdx = .ok items) (hok : moduleOk c items = true)
    (j : Json) (hc : conformsOpM c op j = true) :
    Serde.roundtrip (moduleEnv c items) (.path "ResponseData") j =
      .ok (normJson (canonSelM c.s c.q c.o.skipNone (normSels op.sels) j)) :=
  Top.roundtrip_of (mixed2_accepts c opIdx op items hop ht hk hgen hok j hc)
    (mixed2_lossless c opIdx op items hop ht hk hr hgen hok j hc)

/-! ## the class contains `VariantSpreadOp2` -/

mutual
  /-- below an operation whose normalization is in `VariantSpreadOp`, no object-level selection set has an aliased inline
      fragment -/
  theorem oiSel_of_norm (s : Schema) (q : Query) (o : Options) : ∀ (x : Sel) (abs : Bool),
      sSel s q o abs (normSel x) = true → oiSel s x = true
    | .field a fid sub, abs => by
      intro h
      have IH := oiSels_of_norm s q o sub
      rw [normSel_field, sSel] at h
      rw [oiSel]
      cases hsf : s.fields[fid]? with
      | none => rfl
      | some sf =>
        simp only [Option.map_some]
        cases hid : sf.ty.id with
        | object i =>
          simp only [hsf, hid, Bool.and_eq_true] at h ⊢
          have hs : sSels s q o false (normSels sub) = true := h.2.1.2
          have hmv := movedN_nil_of_obj hs
          refine ⟨?_, IH false (by simpa [normSels, hmv] using hs)⟩
          apply noAliasHere_of
          intro x hx
          cases ha : aliasInl x with
          | none => rfl
          | some g =>
            have : Sel.spread g ∈ movedN sub := by
              unfold movedN
              exact List.mem_filterMap.mpr ⟨x, hx, by simp [ha]⟩
            rw [hmv] at this; simp at this
        | scalar k => rfl
        | «enum» k => rfl
        | interface k => rfl
        | union k => rfl
        | input k => rfl
    | .spread _, _ => by intro _; simp [oiSel]
    | .inline _ _, _ => by intro _; simp [oiSel]
    | .typename, _ => by intro _; simp [oiSel]
  theorem oiSels_of_norm (s : Schema) (q : Query) (o : Options) : ∀ (sels : List Sel) (abs : Bool),
      sSels s q o abs (keepN sels) = true → oiSels s sels = true
    | [], _ => by intro _; rfl
    | x :: xs, abs => by
      intro h
      cases ha : aliasInl x with
      | some g =>
        obtain ⟨t, rfl⟩ := aliasInl_some ha
        rw [keepN_cons_alias ha] at h
        rw [oiSels, oiSels_of_norm s q o xs abs h]; simp [oiSel]
      | none =>
        rw [keepN_cons_keep ha] at h
        obtain ⟨hx, hxs⟩ := sSels_cons h
        rw [oiSels, oiSel_of_norm s q o x abs hx, oiSels_of_norm s q o xs abs hxs]; rfl
end

theorem mixedOp2_of_variantSpreadOp2 (c : Ctx) (op : ROperation) (h : VariantSpreadOp2 c op = true) :
    MixedOp2 c op = true := by
  obtain ⟨hwf, hal, ht⟩ := variantSpreadOp2_parts h
  obtain ⟨_, _, hsels, _⟩ := variantSpreadOp_parts ht
  rw [normOp_sels] at hsels
  have hmv := movedN_nil_of_obj hsels
  have hna : noAliasHere op.sels = true := by
    apply noAliasHere_of
    intro x hx
    cases ha : aliasInl x with
    | none => rfl
    | some g =>
      have : Sel.spread g ∈ movedN op.sels := by
        unfold movedN
        exact List.mem_filterMap.mpr ⟨x, hx, by simp [ha]⟩
      rw [hmv] at this; simp at this
  have hoi : oiSels c.s op.sels = true := oiSels_of_norm c.s c.q c.o op.sels false (by simpa [normSels, hmv] using hsels)
  unfold MixedOp2
  rw [hwf, hal, hna, hoi, mixedOp_of_variantSpreadOp c _ ht]
  rfl

end C01M
end GqlVerif
