import GqlVerif.Props.C07
import GqlVerif.Proofs.OutcomeLemmas
/-!
# C07 — whole-schema agreement of the two schema front-ends

`Props/C07.lean` proves the per-construct facts.  This file proves the assembly: for every
well-formed *abstract schema* `a : AS`, the SDL front-end applied to an SDL rendering of `a` and the
introspection front-end applied to an introspection rendering of `a` return **literally the same**
`Outcome Schema`, namely `.ok a.toSchema` (a closed form given below).  Everything after the
front-ends is a function of that `Schema` value, hence identical generated code.

Scope: abstract schemas have no `extend type`; only the closed form of the SDL front-end is proved at once for
documents with `extend type` blocks (`ASX`, `sdl_spec_ext`), `sdl_spec` being the case without blocks.  What the
blocks do to the comparison with the introspection front-end is `Proofs/C07Extensions.lean`.
The renderings are taken in two generalities:

* `IsSdlOf a doc` / `IsIntroOf a ts`: *any* SDL document / introspection type list whose per-kind
  projections are the renderings of `a`'s scalars, enums, … in `a`'s order.  Definitions of different
  kinds may be interleaved arbitrarily, the `schema { … }` block may be anywhere (or absent if the roots
  are the default ones), the introspection list may contain built-in scalars, `null` entries and
  entries of unknown kinds anywhere.
* `sdlOf ex a` / `introOf bs a`: one concrete rendering each (definitions grouped by kind), with the
  parameters `ex` (explicit `schema` block or not) and `bs` (which built-in scalars are listed).

All statements are about the model's own `Sdl.fromSdl`, `Intro.fromIntro`, `Intro.fromJson`.

Proof structure: (1) the name table — `namesInsert` commutes for distinct keys (`namesInsert_comm`), so a
fold of insertions only depends on the entries up to permutation (`insAll_perm`); both pipelines insert a
permutation of `a.pairs` (`sdl_names`, `intro_names`), and every lookup happens after the table is complete;
(2) each pass has a closed form (`sdl_*`, `intro_*`), ids being positions within the kind and field ids
being assigned interfaces-first in both pipelines; (3) assembly.
-/
namespace GqlVerif
namespace C07

/-! ## abstract schemas -/

structure AField where
  name : String
  ty : GTy
  /-- `none` = not deprecated, `some none` = deprecated without reason -/
  dep : Option (Option String)
  deriving Repr, DecidableEq, Inhabited

structure AEnum where
  name : String
  values : List String
  deriving Repr, DecidableEq, Inhabited

structure AIface where
  name : String
  fields : List AField
  deriving Repr, DecidableEq, Inhabited

structure AObj where
  name : String
  implements : List String
  fields : List AField
  deriving Repr, DecidableEq, Inhabited

structure AUnion where
  name : String
  members : List String
  deriving Repr, DecidableEq, Inhabited

structure AInput where
  name : String
  isOneOf : Bool
  fields : List (String × GTy)
  deriving Repr, DecidableEq, Inhabited

/-- abstract schema (no type extensions) -/
structure AS where
  scalars : List String := []
  enums : List AEnum := []
  interfaces : List AIface := []
  objects : List AObj := []
  unions : List AUnion := []
  inputs : List AInput := []
  query : Option String := none
  mutation : Option String := none
  subscription : Option String := none
  deriving Repr, DecidableEq, Inhabited

namespace AS
def enumNames (a : AS) : List String := a.enums.map (·.name)
def ifaceNames (a : AS) : List String := a.interfaces.map (·.name)
def objNames (a : AS) : List String := a.objects.map (·.name)
def unionNames (a : AS) : List String := a.unions.map (·.name)
def inputNames (a : AS) : List String := a.inputs.map (·.name)

/-- every type name that can be referred to: the five built-in scalars, then the defined types -/
def known (a : AS) : List String :=
  Schema.defaultScalars ++ a.scalars ++ a.enumNames ++ a.ifaceNames ++ a.objNames ++ a.unionNames ++ a.inputNames

/-- the `__TypeKind` of a named type, as an introspection response reports it -/
def kindOf (a : AS) (n : String) : String :=
  if n ∈ a.enumNames then "ENUM" else if n ∈ a.ifaceNames then "INTERFACE"
  else if n ∈ a.objNames then "OBJECT" else if n ∈ a.unionNames then "UNION"
  else if n ∈ a.inputNames then "INPUT_OBJECT" else "SCALAR"

theorem kindOf_ne (a : AS) (n : String) : a.kindOf n ≠ "NON_NULL" ∧ a.kindOf n ≠ "LIST" := by
  unfold kindOf; repeat' split
  all_goals decide
end AS

/-- well-formedness: exactly what the equality needs.
* type names pairwise distinct and distinct from the built-in scalars (the two front-ends insert the
  kinds into the name table in different orders, and the JSON path drops `SCALAR`s with built-in names);
* every named type of a field / input field / union member is defined (the two paths fail with
  *different* panic messages on an unknown name);
* `implements` lists name interfaces (same reason). -/
def WfAS (a : AS) : Prop :=
  a.known.Nodup ∧
  (∀ i ∈ a.interfaces, ∀ f ∈ i.fields, f.ty.base ∈ a.known) ∧
  (∀ o ∈ a.objects, ∀ f ∈ o.fields, f.ty.base ∈ a.known) ∧
  (∀ o ∈ a.objects, ∀ n ∈ o.implements, n ∈ a.ifaceNames) ∧
  (∀ u ∈ a.unions, ∀ m ∈ u.members, m ∈ a.known) ∧
  (∀ i ∈ a.inputs, ∀ f ∈ i.fields, f.2.base ∈ a.known)

instance (a : AS) : Decidable (WfAS a) := by unfold WfAS; infer_instance

/-! ## the name table -/

/-- `(name, mk position)` for the names of one kind, positions starting at `k` -/
def pairsFrom (mk : Nat → TypeId) (ns : List String) (k : Nat) : List (String × TypeId) :=
  (ns.zipIdx k).map fun p => (p.1, mk p.2)

/-- successive `BTreeMap::insert`s -/
def insAll (ps : List (String × TypeId)) (names : List (String × TypeId)) : List (String × TypeId) :=
  ps.foldl (fun acc p => namesInsert p.1 p.2 acc) names

namespace AS
/-- all `(name, id)` entries of the name table, in a reference order (custom scalars are numbered after the
`Schema.defaultScalars.length = 5` built-in ones) -/
def pairs (a : AS) : List (String × TypeId) :=
  pairsFrom .scalar Schema.defaultScalars 0 ++ pairsFrom .scalar a.scalars 5 ++
  pairsFrom .enum a.enumNames 0 ++ pairsFrom .interface a.ifaceNames 0 ++ pairsFrom .object a.objNames 0 ++
  pairsFrom .union a.unionNames 0 ++ pairsFrom .input a.inputNames 0

/-- the name table of the abstract schema -/
def names (a : AS) : List (String × TypeId) := insAll a.pairs []
end AS

@[simp] theorem pairsFrom_nil (mk : Nat → TypeId) (k : Nat) : pairsFrom mk [] k = [] := rfl
@[simp] theorem pairsFrom_cons (mk : Nat → TypeId) (n : String) (ns : List String) (k : Nat) :
    pairsFrom mk (n :: ns) k = (n, mk k) :: pairsFrom mk ns (k + 1) := by
  simp [pairsFrom, List.zipIdx_cons]

theorem pairsFrom_keys (mk : Nat → TypeId) (ns : List String) (k : Nat) :
    (pairsFrom mk ns k).map Prod.fst = ns := by
  induction ns generalizing k with
  | nil => rfl
  | cons n ns ih => simp [ih]

theorem pairsFrom_map {α} (mk : Nat → TypeId) (f : α → String) (l : List α) (k : Nat) :
    pairsFrom mk (l.map f) k = (l.zipIdx k).map fun p => (f p.1, mk p.2) := by
  induction l generalizing k with
  | nil => rfl
  | cons x l ih => simp [ih, List.zipIdx_cons]

theorem mem_pairsFrom_of_mem (mk : Nat → TypeId) (ns : List String) (k : Nat) (n : String) (h : n ∈ ns) :
    ∃ i, (n, mk i) ∈ pairsFrom mk ns k := by
  induction ns generalizing k with
  | nil => cases h
  | cons m ns ih =>
    rcases List.mem_cons.1 h with rfl | h
    · exact ⟨k, by simp⟩
    · obtain ⟨i, hi⟩ := ih (k + 1) h
      exact ⟨i, by simp [hi]⟩

@[simp] theorem insAll_nil (l : List (String × TypeId)) : insAll [] l = l := rfl
@[simp] theorem insAll_cons (p : String × TypeId) (ps l : List (String × TypeId)) :
    insAll (p :: ps) l = insAll ps (namesInsert p.1 p.2 l) := rfl
theorem insAll_append (ps qs l : List (String × TypeId)) : insAll (ps ++ qs) l = insAll qs (insAll ps l) := by
  simp [insAll, List.foldl_append]

/-- the loop of `populateNames` / `buildNames` -/
theorem zipIdx_foldl_eq (mk : Nat → TypeId) (ns : List String) (l : List (String × TypeId)) :
    ns.zipIdx.foldl (fun acc (x : String × Nat) => namesInsert x.1 (mk x.2) acc) l = insAll (pairsFrom mk ns 0) l := by
  simp [insAll, pairsFrom, List.foldl_map]

/-- sorted insertion commutes for distinct keys (on every list: no sortedness hypothesis needed) -/
theorem namesInsert_comm (a b : String) (va vb : TypeId) (h : a ≠ b) (l : List (String × TypeId)) :
    namesInsert a va (namesInsert b vb l) = namesInsert b vb (namesInsert a va l) := by
  -- Each insertion looks at the head key `k` only: it goes in front, replaces the head, or moves on to the tail.
  -- So both sides are decided by how `a`, `b` and `k` compare (`a ≠ b`); where both move on, `ih` applies.
  induction l with
  | nil => simp [namesInsert]; grind
  | cons p rest ih =>
    obtain ⟨k, v⟩ := p
    simp only [namesInsert]
    grind [namesInsert]

theorem namesGet_insert (k k' : String) (v : TypeId) (l : List (String × TypeId)) :
    namesGet k (namesInsert k' v l) = if k = k' then some v else namesGet k l := by
  induction l with
  | nil => simp [namesInsert, namesGet]
  | cons p rest ih =>
    obtain ⟨k'', v''⟩ := p
    simp only [namesInsert]
    grind [namesGet]

theorem nodup_map_inj {α β} (f : α → β) (l : List α) (h : (l.map f).Nodup) :
    ∀ x ∈ l, ∀ y ∈ l, f x = f y → x = y :=
  C02.nodup_map_inj f l h

/-- the table does not depend on the order in which entries with distinct keys are inserted -/
theorem insAll_perm (ps qs : List (String × TypeId)) (hp : ps.Perm qs) (hk : (ps.map Prod.fst).Nodup)
    (l : List (String × TypeId)) : insAll ps l = insAll qs l := by
  unfold insAll
  refine hp.foldl_eq' ?_ l
  intro x hx y hy z
  by_cases hxy : x = y
  · subst hxy; rfl
  · have : x.1 ≠ y.1 := fun h => hxy (nodup_map_inj Prod.fst ps hk x hx y hy h)
    exact namesInsert_comm _ _ _ _ (Ne.symm this) _

theorem namesGet_insAll_not_mem (k : String) (ps l : List (String × TypeId)) (h : k ∉ ps.map Prod.fst) :
    namesGet k (insAll ps l) = namesGet k l := by
  induction ps generalizing l with
  | nil => rfl
  | cons p ps ih =>
    simp only [List.map_cons, List.mem_cons, not_or] at h
    rw [insAll_cons, ih _ h.2, namesGet_insert, if_neg h.1]

theorem namesGet_insAll_mem (k : String) (v : TypeId) (ps l : List (String × TypeId))
    (hk : (ps.map Prod.fst).Nodup) (h : (k, v) ∈ ps) : namesGet k (insAll ps l) = some v := by
  induction ps generalizing l with
  | nil => cases h
  | cons p ps ih =>
    simp only [List.map_cons, List.nodup_cons] at hk
    rcases List.mem_cons.1 h with rfl | h
    · rw [insAll_cons, namesGet_insAll_not_mem _ _ _ hk.1, namesGet_insert, if_pos rfl]
    · exact ih _ hk.2 h

theorem namesGet_insAll_inv (k : String) (v : TypeId) (ps l : List (String × TypeId))
    (h : namesGet k (insAll ps l) = some v) : (k, v) ∈ ps ∨ namesGet k l = some v := by
  induction ps generalizing l with
  | nil => exact .inr h
  | cons p ps ih =>
    rcases ih _ h with h | h
    · exact .inl (List.mem_cons_of_mem _ h)
    · rw [namesGet_insert] at h
      split at h
      · next hk => cases h; subst hk; exact .inl (by simp)
      · exact .inr h

namespace AS
theorem pairs_keys (a : AS) : a.pairs.map Prod.fst = a.known := by
  simp [pairs, known, pairsFrom_keys]

theorem get_of_mem_pairs (a : AS) (hn : a.known.Nodup) {n : String} {id : TypeId} (h : (n, id) ∈ a.pairs) :
    namesGet n a.names = some id :=
  namesGet_insAll_mem n id a.pairs [] (by rw [pairs_keys]; exact hn) h

theorem get_of_known (a : AS) (hn : a.known.Nodup) {n : String} (h : n ∈ a.known) :
    ∃ id, namesGet n a.names = some id := by
  rw [← pairs_keys, List.mem_map] at h
  obtain ⟨⟨n', id⟩, hm, rfl⟩ := h
  exact ⟨id, get_of_mem_pairs a hn hm⟩

theorem mem_pairs_of_get (a : AS) {n : String} {id : TypeId} (h : namesGet n a.names = some id) :
    (n, id) ∈ a.pairs := by
  rcases namesGet_insAll_inv n id a.pairs [] h with h | h
  · exact h
  · cases h
end AS

/-! ## the closed form of the result -/

/-- id of a defined type name.  The defaults of `tyId`, `ifaceId` and `objIdx` are never reached in the statements
below: under `WfAS` every name they are applied to is bound in the table (`lookups`). -/
def tyId (N : List (String × TypeId)) (n : String) : TypeId := (namesGet n N).getD (.scalar 0)
/-- `resolve_field_type` / `from_json_type` on a defined name -/
def ftOf (N : List (String × TypeId)) (t : GTy) : FieldType := { id := tyId N t.base, quals := t.quals }
def ifaceId (N : List (String × TypeId)) (n : String) : Nat := ((namesGet n N).bind TypeId.asInterface?).getD 0

def storedField (N : List (String × TypeId)) (parent : FieldParent) (f : AField) : StoredField :=
  { name := f.name, ty := ftOf N f.ty, parent := parent, deprecation := f.dep }

/-- fields of the interfaces number `k, k+1, …` -/
def ifaceFields (N : List (String × TypeId)) : Nat → List AIface → List StoredField
  | _, [] => []
  | k, i :: is => i.fields.map (storedField N (.interface k)) ++ ifaceFields N (k + 1) is

/-- stored interfaces, the first field id being `start` -/
def ifaceStored : Nat → List AIface → List StoredInterface
  | _, [] => []
  | start, i :: is =>
    { name := i.name, fields := List.range' start i.fields.length } :: ifaceStored (start + i.fields.length) is

def objFields (N : List (String × TypeId)) : Nat → List AObj → List StoredField
  | _, [] => []
  | k, o :: os => o.fields.map (storedField N (.object k)) ++ objFields N (k + 1) os

def objStored (N : List (String × TypeId)) : Nat → List AObj → List StoredObject
  | _, [] => []
  | start, o :: os =>
    { name := o.name, fields := List.range' start o.fields.length, implements := o.implements.map (ifaceId N) } ::
      objStored N (start + o.fields.length) os

def storedEnum (e : AEnum) : StoredEnum := { name := e.name, variants := e.values }
def storedUnion (N : List (String × TypeId)) (u : AUnion) : StoredUnion :=
  { name := u.name, variants := u.members.map (tyId N) }
def storedInput (N : List (String × TypeId)) (i : AInput) : StoredInput :=
  { name := i.name, fields := i.fields.map fun p => (p.1, ftOf N p.2), isOneOf := i.isOneOf }

def rootId (N : List (String × TypeId)) (r : Option String) : Option Nat :=
  (r.bind fun n => namesGet n N).bind TypeId.asObject?

/-- **the `Schema` both front-ends build for `a`** (ids are positions within the kind; field ids
number the interface fields first, then the object fields, in definition order) -/
def AS.toSchema (a : AS) : Schema :=
  { objects := objStored a.names (ifaceFields a.names 0 a.interfaces).length a.objects
    fields := ifaceFields a.names 0 a.interfaces ++ objFields a.names 0 a.objects
    interfaces := ifaceStored 0 a.interfaces
    unions := a.unions.map (storedUnion a.names)
    scalars := Schema.defaultScalars ++ a.scalars
    enums := a.enums.map storedEnum
    inputs := a.inputs.map (storedInput a.names)
    names := a.names
    queryType := rootId a.names a.query
    mutationType := rootId a.names a.mutation
    subscriptionType := rootId a.names a.subscription }

@[simp] theorem ifaceFields_length (N : List (String × TypeId)) (k : Nat) (is : List AIface) :
    (ifaceFields N k is).length = (is.map (·.fields.length)).sum := by
  induction is generalizing k with
  | nil => rfl
  | cons i is ih => simp [ifaceFields, ih]

/-! ## renderings -/

def sdlField (f : AField) : SdlField := { name := f.name, ty := f.ty, directives := depDirectives f.dep }
def sdlEnum (e : AEnum) : SdlDef := .enum e.name e.values
def sdlUnion (u : AUnion) : SdlDef := .union u.name u.members
def sdlIface (i : AIface) : SdlDef := .interface i.name (i.fields.map sdlField)
def sdlObj (o : AObj) : SdlDef := .object o.name o.implements (o.fields.map sdlField)
def sdlInput (i : AInput) : SdlDef := .input i.name (if i.isOneOf then ["oneOf"] else []) i.fields

/-- the pass of `build_schema` that looks at a definition -/
def passOf : SdlDef → Option Nat
  | .scalar _ => some 0
  | .enum _ _ => some 1
  | .union _ _ => some 2
  | .interface _ _ => some 3
  | .object _ _ _ => some 4
  | .extObject _ _ _ => some 5
  | .input _ _ _ => some 6
  | _ => none

/-- definitions of one pass, in document order -/
def ofPass (doc : SdlDoc) (p : Nat) : SdlDoc := doc.filter fun d => passOf d == some p

/-- the first `schema { … }` block -/
def schemaBlock (doc : SdlDoc) : Option (Option String × Option String × Option String) :=
  doc.findSome? (fun | .schemaDef q m sub => some (q, m, sub) | _ => none)

/-- the root a schema without `schema { … }` block has under the default name `n` -/
def AS.defaultRoot (a : AS) (n : String) : Option String := if n ∈ a.objNames then some n else none

/-- the roots are the default ones (so that the `schema` block may be omitted) -/
def AS.DefaultRoots (a : AS) : Prop :=
  a.query = a.defaultRoot "Query" ∧ a.mutation = a.defaultRoot "Mutation" ∧
  a.subscription = a.defaultRoot "Subscription"

instance (a : AS) : Decidable a.DefaultRoots := by unfold AS.DefaultRoots; infer_instance

/-- `doc` is an SDL rendering of `a`: per kind, the definitions are the renderings of `a`'s, in `a`'s
order (kinds may be interleaved in any way); no `extend type`; the first `schema` block names `a`'s roots,
or there is none and the roots are the default ones. -/
structure IsSdlOf (a : AS) (doc : SdlDoc) : Prop where
  scalars : ofPass doc 0 = a.scalars.map .scalar
  enums : ofPass doc 1 = a.enums.map sdlEnum
  unions : ofPass doc 2 = a.unions.map sdlUnion
  ifaces : ofPass doc 3 = a.interfaces.map sdlIface
  objects : ofPass doc 4 = a.objects.map sdlObj
  noExt : ofPass doc 5 = []
  inputs : ofPass doc 6 = a.inputs.map sdlInput
  roots : schemaBlock doc = some (a.query, a.mutation, a.subscription) ∨ (schemaBlock doc = none ∧ a.DefaultRoots)

/-- a reference to a named type, with its kind -/
def namedRef (a : AS) (n : String) : TypeRef := .mk (some (a.kindOf n)) (some n) none
/-- a type expression as an `ofType` chain ending in `namedRef` -/
def typeRefOf (a : AS) (t : GTy) : TypeRef := C13.toTypeRef (a.kindOf t.base) t

def introField (a : AS) (f : AField) : IntroField :=
  { name := some f.name, ty := some (typeRefOf a f.ty),
    isDeprecated := (depJson f.dep).1, deprecationReason := (depJson f.dep).2 }

def introScalar (n : String) : FullType :=
  { kind := some "SCALAR", name := some n, fields := none, inputFields := none, interfaces := none,
    enumValues := none, possibleTypes := none, isOneOf := none }
def introEnum (e : AEnum) : FullType :=
  { kind := some "ENUM", name := some e.name, fields := none, inputFields := none, interfaces := none,
    enumValues := some (e.values.map fun v => { name := some v }), possibleTypes := none, isOneOf := none }
def introIface (a : AS) (i : AIface) : FullType :=
  { kind := some "INTERFACE", name := some i.name, fields := some (i.fields.map (introField a)),
    inputFields := none, interfaces := some [], enumValues := none,
    possibleTypes := some ((a.objects.filter fun o => i.name ∈ o.implements).map fun o => namedRef a o.name),
    isOneOf := none }
def introObj (a : AS) (o : AObj) : FullType :=
  { kind := some "OBJECT", name := some o.name, fields := some (o.fields.map (introField a)),
    inputFields := none, interfaces := some (o.implements.map (namedRef a)), enumValues := none,
    possibleTypes := none, isOneOf := none }
def introUnion (a : AS) (u : AUnion) : FullType :=
  { kind := some "UNION", name := some u.name, fields := none, inputFields := none, interfaces := none,
    enumValues := none, possibleTypes := some (u.members.map (namedRef a)), isOneOf := none }
def introInput (a : AS) (i : AInput) : FullType :=
  { kind := some "INPUT_OBJECT", name := some i.name, fields := none,
    inputFields := some (i.fields.map fun p => { name := p.1, ty := typeRefOf a p.2 }),
    interfaces := none, enumValues := none, possibleTypes := none, isOneOf := some i.isOneOf }

/-- `ts` (the non-null entries of `__schema.types`) is an introspection rendering of `a`: per kind, the
entries are the renderings of `a`'s definitions in `a`'s order; the `SCALAR` entries whose name is not
built-in are `a`'s custom scalars (built-in ones may be listed or not, anywhere). -/
structure IsIntroOf (a : AS) (ts : List FullType) : Prop where
  scalars : ts.filterM Intro.isCustomScalar = .ok (a.scalars.map introScalar)
  enums : Intro.ofKind ts "ENUM" = a.enums.map introEnum
  ifaces : Intro.ofKind ts "INTERFACE" = a.interfaces.map (introIface a)
  objects : Intro.ofKind ts "OBJECT" = a.objects.map (introObj a)
  unions : Intro.ofKind ts "UNION" = a.unions.map (introUnion a)
  inputs : Intro.ofKind ts "INPUT_OBJECT" = a.inputs.map (introInput a)

theorem mapM_ok {α β γ} (l : List α) (h : α → β) (f : β → Outcome γ) (g : α → γ)
    (hf : ∀ x ∈ l, f (h x) = .ok (g x)) : (l.map h).mapM f = .ok (l.map g) := by
  induction l with
  | nil => rfl
  | cons x l ih =>
    have hx := hf x (by simp)
    have hl := ih fun y hy => hf y (by simp [hy])
    simp [List.mapM_cons, hx, hl, bind, Except.bind, pure, Except.pure]

theorem foldlM_filter {α σ} (f : σ → α → Outcome σ) (p : α → Bool) (l : List α) (s : σ)
    (h : ∀ s x, p x = false → f s x = pure s) : l.foldlM f s = (l.filter p).foldlM f s := by
  induction l generalizing s with
  | nil => rfl
  | cons x l ih =>
    cases hp : p x
    · simp [hp, h s x hp, ih]
    · simp only [List.filter_cons, hp, if_true, List.foldlM_cons]
      cases f s x with
      | error e => rfl
      | ok s' => exact ih s'

theorem filterAuxM_ok {α} (f : α → Outcome Bool) (g : α → Bool) (l acc : List α)
    (h : ∀ x ∈ l, f x = .ok (g x)) : List.filterAuxM f l acc = .ok ((l.filter g).reverse ++ acc) := by
  induction l generalizing acc with
  | nil => rfl
  | cons x l ih =>
    have hx := h x (by simp)
    have hl := fun acc => ih acc fun y hy => h y (by simp [hy])
    simp only [List.filterAuxM, hx, bind, Except.bind, hl]
    cases hg : g x <;> simp [hg]

theorem filterM_ok {α} (f : α → Outcome Bool) (g : α → Bool) (l : List α)
    (h : ∀ x ∈ l, f x = .ok (g x)) : l.filterM f = .ok (l.filter g) := by
  simp [List.filterM, filterAuxM_ok f g l [] h, bind, Except.bind, pure, Except.pure]

theorem mapM_ok' {α γ} (l : List α) (f : α → Outcome γ) (g : α → γ)
    (hf : ∀ x ∈ l, f x = .ok (g x)) : l.mapM f = .ok (l.map g) := by
  simpa using mapM_ok l id f g hf

/-! ## lookups in a complete name table -/

theorem findTypeId_ok (s : Schema) (n : String) (h : ∃ id, namesGet n s.names = some id) :
    s.findTypeId n = .ok (tyId s.names n) := by
  obtain ⟨id, h⟩ := h
  simp [Schema.findTypeId, Schema.findType, tyId, h, pure, Except.pure]

theorem resolve_ok (s : Schema) (t : GTy) (h : ∃ id, namesGet t.base s.names = some id) :
    resolveFieldType s t = .ok (ftOf s.names t) := by
  simp [resolveFieldType, findTypeId_ok s _ h, ftOf, bind, Except.bind, pure, Except.pure]

theorem fromJsonType_ok (a : AS) (s : Schema) (t : GTy) (h : ∃ id, namesGet t.base s.names = some id) :
    Intro.fromJsonType s (typeRefOf a t) = .ok (ftOf s.names t) := by
  obtain ⟨id, h⟩ := h
  rw [typeRefOf, (C13.quals_json_eq_sdl s _ t id (a.kindOf_ne _) h).1]
  simp [ftOf, tyId, h]

/-! ## the SDL front-end, pass by pass -/

theorem sdl_noop (p : Nat) (s : Schema) (d : SdlDef) (h : (passOf d == some p) = false) :
    Sdl.ingestDef p s d = pure s := by
  unfold Sdl.ingestDef
  split <;> simp_all [passOf]

theorem sdl_pass (p : Nat) (s : Schema) (doc : SdlDoc) :
    Sdl.ingestPass p s doc = (ofPass doc p).foldlM (Sdl.ingestDef p) s :=
  foldlM_filter _ _ doc s (fun s x h => sdl_noop p s x h)

theorem sdl_scalars (ns : List String) (s : Schema) :
    (ns.map SdlDef.scalar).foldlM (Sdl.ingestDef 0) s =
      .ok { s with scalars := s.scalars ++ ns,
                   names := insAll (pairsFrom .scalar ns s.scalars.length) s.names } := by
  induction ns generalizing s with
  | nil => simp [pure, Except.pure]
  | cons n ns ih =>
    simp only [List.map_cons, List.foldlM_cons, Sdl.ingestDef, Sdl.ingestScalar, Schema.pushScalar,
      bind, Except.bind, pure, Except.pure]
    rw [ih]
    simp

theorem sdl_enums (es : List AEnum) (s : Schema) :
    (es.map sdlEnum).foldlM (Sdl.ingestDef 1) s = .ok { s with enums := s.enums ++ es.map storedEnum } := by
  induction es generalizing s with
  | nil => simp [pure, Except.pure]
  | cons e es ih =>
    simp only [List.map_cons, List.foldlM_cons, sdlEnum, Sdl.ingestDef, bind, Except.bind, pure, Except.pure]
    rw [ih]
    simp [storedEnum]

theorem sdl_unions (us : List AUnion) (s : Schema)
    (h : ∀ u ∈ us, ∀ m ∈ u.members, ∃ id, namesGet m s.names = some id) :
    (us.map sdlUnion).foldlM (Sdl.ingestDef 2) s =
      .ok { s with unions := s.unions ++ us.map (storedUnion s.names) } := by
  induction us generalizing s with
  | nil => simp [pure, Except.pure]
  | cons u us ih =>
    have hu := mapM_ok' u.members s.findTypeId (tyId s.names) fun m hm => findTypeId_ok s m (h u (by simp) m hm)
    simp only [List.map_cons, List.foldlM_cons, sdlUnion, Sdl.ingestDef, hu, bind, Except.bind, pure, Except.pure]
    rw [ih]
    · simp [storedUnion]
    · exact fun u' hu' => h u' (by simp [hu'])

theorem sdl_fields (fs : List AField) (s : Schema) (parent : FieldParent)
    (h : ∀ f ∈ fs, ∃ id, namesGet f.ty.base s.names = some id) :
    Sdl.ingestFields s parent (fs.map sdlField) =
      .ok ({ s with fields := s.fields ++ fs.map (storedField s.names parent) },
           List.range' s.fields.length fs.length) := by
  induction fs generalizing s with
  | nil => simp [Sdl.ingestFields, pure, Except.pure]
  | cons f fs ih =>
    have hf := resolve_ok s f.ty (h f (by simp))
    simp only [List.map_cons, Sdl.ingestFields, sdlField, hf, Schema.pushField, bind, Except.bind, pure, Except.pure]
    rw [ih]
    · simp [storedField, (deprecation_agree f.dep).1, List.range'_succ]
    · exact fun f' hf' => h f' (by simp [hf'])

theorem sdl_ifaces (is : List AIface) (k : Nat) (s : Schema)
    (hid : ∀ p ∈ is.zipIdx k, namesGet p.1.name s.names = some (.interface p.2))
    (hf : ∀ i ∈ is, ∀ f ∈ i.fields, ∃ id, namesGet f.ty.base s.names = some id) :
    (is.map sdlIface).foldlM (Sdl.ingestDef 3) s =
      .ok { s with fields := s.fields ++ ifaceFields s.names k is,
                   interfaces := s.interfaces ++ ifaceStored s.fields.length is } := by
  induction is generalizing s k with
  | nil => simp [ifaceFields, ifaceStored, pure, Except.pure]
  | cons i is ih =>
    have hi : namesGet i.name s.names = some (.interface k) := hid (i, k) (by simp [List.zipIdx_cons])
    have hfs := sdl_fields i.fields s (.interface k) (hf i (by simp))
    simp only [List.map_cons, List.foldlM_cons, sdlIface, Sdl.ingestDef, Schema.findTypeId, Schema.findType, hi,
      TypeId.asInterface?, hfs, bind, Except.bind, pure, Except.pure]
    rw [ih (k + 1)]
    · simp [ifaceFields, ifaceStored]
    · intro p hp; exact hid p (by simp [List.zipIdx_cons, hp])
    · exact fun i' hi' => hf i' (by simp [hi'])

theorem findInterface_ok (s : Schema) (n : String) (h : ∃ i, namesGet n s.names = some (.interface i)) :
    s.findInterface n = .ok (ifaceId s.names n) := by
  obtain ⟨i, h⟩ := h
  simp [Schema.findInterface, Schema.findTypeId, Schema.findType, ifaceId, h, TypeId.asInterface?,
    bind, Except.bind, pure, Except.pure]

theorem sdl_objs (os : List AObj) (k : Nat) (s : Schema)
    (hid : ∀ p ∈ os.zipIdx k, namesGet p.1.name s.names = some (.object p.2))
    (hf : ∀ o ∈ os, ∀ f ∈ o.fields, ∃ id, namesGet f.ty.base s.names = some id)
    (him : ∀ o ∈ os, ∀ n ∈ o.implements, ∃ i, namesGet n s.names = some (.interface i)) :
    (os.map sdlObj).foldlM (Sdl.ingestDef 4) s =
      .ok { s with fields := s.fields ++ objFields s.names k os,
                   objects := s.objects ++ objStored s.names s.fields.length os } := by
  induction os generalizing s k with
  | nil => simp [objFields, objStored, pure, Except.pure]
  | cons o os ih =>
    have ho : namesGet o.name s.names = some (.object k) := hid (o, k) (by simp [List.zipIdx_cons])
    have hfs := sdl_fields o.fields s (.object k) (hf o (by simp))
    have him' := mapM_ok' o.implements
      (Schema.findInterface { s with fields := s.fields ++ o.fields.map (storedField s.names (.object k)) })
      (ifaceId s.names) fun n hn => findInterface_ok _ n (him o (by simp) n hn)
    simp only [List.map_cons, List.foldlM_cons, sdlObj, Sdl.ingestDef, Schema.findTypeId, Schema.findType, ho,
      TypeId.asObject?, hfs, him', bind, Except.bind, pure, Except.pure]
    rw [ih (k + 1)]
    · simp [objFields, objStored]
    · intro p hp; exact hid p (by simp [List.zipIdx_cons, hp])
    · exact fun o' ho' => hf o' (by simp [ho'])
    · exact fun o' ho' => him o' (by simp [ho'])

theorem sdl_inputs (is : List AInput) (s : Schema)
    (hf : ∀ i ∈ is, ∀ f ∈ i.fields, ∃ id, namesGet f.2.base s.names = some id) :
    (is.map sdlInput).foldlM (Sdl.ingestDef 6) s =
      .ok { s with inputs := s.inputs ++ is.map (storedInput s.names) } := by
  induction is generalizing s with
  | nil => simp [pure, Except.pure]
  | cons i is ih =>
    have hfs := mapM_ok' i.fields
      (fun (x : String × GTy) => do let ty ← resolveFieldType s x.2; pure (x.1, ty))
      (fun p => (p.1, ftOf s.names p.2))
      fun p hp => by simp [resolve_ok s p.2 (hf i (by simp) p hp), bind, Except.bind, pure, Except.pure]
    have hone : (if i.isOneOf then ["oneOf"] else []).any (· == "oneOf") = i.isOneOf := by
      cases i.isOneOf <;> simp
    simp only [List.map_cons, List.foldlM_cons, sdlInput, Sdl.ingestDef, hone]
    simp only [bind, Except.bind, pure, Except.pure] at hfs ⊢
    rw [hfs]
    simp only []
    rw [ih]
    · simp [storedInput]
    · exact fun i' hi' => hf i' (by simp [hi'])

theorem filterMap_filter_of {α β} (l : List α) (p : α → Bool) (pick : α → Option β)
    (h : ∀ x, p x = false → pick x = none) : l.filterMap pick = (l.filter p).filterMap pick := by
  induction l with
  | nil => rfl
  | cons x l ih =>
    cases hp : p x
    · simp [h x hp, hp, ih]
    · simp [List.filterMap_cons, hp, ih]

theorem filterMap_pick {β} (doc : SdlDoc) (pick : SdlDef → Option String) (p : Nat) (l : List β)
    (r : β → SdlDef) (nm : β → String)
    (hp : ∀ d, (passOf d == some p) = false → pick d = none)
    (hf : ofPass doc p = l.map r) (hr : ∀ x, pick (r x) = some (nm x)) :
    Sdl.namesOfKind doc pick = l.map nm := by
  unfold Sdl.namesOfKind
  rw [filterMap_filter_of doc _ pick hp]
  unfold ofPass at hf
  rw [hf, List.filterMap_map]
  clear hf
  induction l with
  | nil => rfl
  | cons x l ih => simp [hr x]; simpa using ih

theorem zipIdx_foldl_eq' (mk : Nat → TypeId) (ns : List String) (l : List (String × TypeId)) :
    ns.zipIdx.foldl (fun acc (x : String × Nat) => match x with | (n, i) => namesInsert n (mk i) acc) l =
      insAll (pairsFrom mk ns 0) l := zipIdx_foldl_eq mk ns l

theorem sdl_populate (a : AS) (doc : SdlDoc) (henums : ofPass doc 1 = a.enums.map sdlEnum)
    (hobjects : ofPass doc 4 = a.objects.map sdlObj) (hifaces : ofPass doc 3 = a.interfaces.map sdlIface)
    (hunions : ofPass doc 2 = a.unions.map sdlUnion) (hinputs : ofPass doc 6 = a.inputs.map sdlInput) (s : Schema) :
    Sdl.populateNames s doc =
      { s with names := insAll (pairsFrom .enum a.enumNames 0 ++ pairsFrom .object a.objNames 0 ++
          pairsFrom .interface a.ifaceNames 0 ++ pairsFrom .union a.unionNames 0 ++
          pairsFrom .input a.inputNames 0) s.names } := by
  have e1 : Sdl.namesOfKind doc (fun | .enum n _ => some n | _ => none) = a.enumNames :=
    filterMap_pick doc _ 1 a.enums sdlEnum (·.name) (by intro d; cases d <;> simp [passOf]) henums (fun _ => rfl)
  have e2 : Sdl.namesOfKind doc (fun | .object n _ _ => some n | _ => none) = a.objNames :=
    filterMap_pick doc _ 4 a.objects sdlObj (·.name) (by intro d; cases d <;> simp [passOf]) hobjects (fun _ => rfl)
  have e3 : Sdl.namesOfKind doc (fun | .interface n _ => some n | _ => none) = a.ifaceNames :=
    filterMap_pick doc _ 3 a.interfaces sdlIface (·.name) (by intro d; cases d <;> simp [passOf]) hifaces (fun _ => rfl)
  have e4 : Sdl.namesOfKind doc (fun | .union n _ => some n | _ => none) = a.unionNames :=
    filterMap_pick doc _ 2 a.unions sdlUnion (·.name) (by intro d; cases d <;> simp [passOf]) hunions (fun _ => rfl)
  have e5 : Sdl.namesOfKind doc (fun | .input n _ _ => some n | _ => none) = a.inputNames :=
    filterMap_pick doc _ 6 a.inputs sdlInput (·.name) (by intro d; cases d <;> simp [passOf]) hinputs (fun _ => rfl)
  unfold Sdl.populateNames
  simp only [zipIdx_foldl_eq', insAll_append]
  rw [← e1, ← e2, ← e3, ← e4, ← e5]
  rfl

/-! ## the name tables of the two front-ends are `a.names` -/

theorem schema_new :
    Schema.new = { scalars := Schema.defaultScalars, names := insAll (pairsFrom .scalar Schema.defaultScalars 0) [] } := by
  decide

/-- inserting the entries of `a` in any order gives the name table of `a` -/
theorem AS.insAll_of_perm (a : AS) (hn : a.known.Nodup) {ps : List (String × TypeId)} (h : ps.Perm a.pairs) :
    insAll ps [] = a.names :=
  (insAll_perm _ _ h.symm (by rw [AS.pairs_keys]; exact hn) []).symm

/-- SDL order: built-ins, enums, objects, interfaces, unions, inputs, custom scalars -/
theorem sdl_names (a : AS) (hn : a.known.Nodup) :
    insAll (pairsFrom .scalar a.scalars 5)
      (insAll (pairsFrom .enum a.enumNames 0 ++ pairsFrom .object a.objNames 0 ++ pairsFrom .interface a.ifaceNames 0 ++
          pairsFrom .union a.unionNames 0 ++ pairsFrom .input a.inputNames 0)
        (insAll (pairsFrom .scalar Schema.defaultScalars 0) [])) = a.names := by
  rw [← insAll_append, ← insAll_append]
  apply a.insAll_of_perm hn
  -- the same seven blocks as in `AS.pairs`, in another order: every entry is counted equally often
  rw [List.perm_iff_count]
  intro x
  simp only [AS.pairs, List.count_append]
  omega

/-- introspection order: built-ins, unions, interfaces, objects, inputs, custom scalars, enums -/
theorem intro_names (a : AS) (hn : a.known.Nodup) :
    insAll (pairsFrom .enum a.enumNames 0) (insAll (pairsFrom .scalar a.scalars 5)
      (insAll (pairsFrom .input a.inputNames 0) (insAll (pairsFrom .object a.objNames 0)
        (insAll (pairsFrom .interface a.ifaceNames 0) (insAll (pairsFrom .union a.unionNames 0)
          (insAll (pairsFrom .scalar Schema.defaultScalars 0) [])))))) = a.names := by
  simp only [← insAll_append]
  apply a.insAll_of_perm hn
  rw [List.perm_iff_count]
  intro x
  simp only [AS.pairs, List.count_append]
  omega

theorem mem_pairsFrom (mk : Nat → TypeId) (ns : List String) (k : Nat) (n : String) (id : TypeId)
    (h : (n, id) ∈ pairsFrom mk ns k) : n ∈ ns ∧ ∃ i, id = mk i := by
  induction ns generalizing k with
  | nil => cases h
  | cons m ns ih =>
    rw [pairsFrom_cons, List.mem_cons] at h
    rcases h with h | h
    · cases h; exact ⟨by simp, k, rfl⟩
    · obtain ⟨h1, h2⟩ := ih _ h
      exact ⟨by simp [h1], h2⟩

/-- what the passes look up in the complete name table -/
structure Lookups (a : AS) (N : List (String × TypeId)) : Prop where
  known : ∀ n ∈ a.known, ∃ id, namesGet n N = some id
  iface : ∀ p ∈ a.interfaces.zipIdx 0, namesGet p.1.name N = some (.interface p.2)
  obj : ∀ p ∈ a.objects.zipIdx 0, namesGet p.1.name N = some (.object p.2)
  impl : ∀ n ∈ a.ifaceNames, ∃ i, namesGet n N = some (.interface i)
  objOnly : ∀ n i, namesGet n N = some (.object i) → n ∈ a.objNames

theorem lookups (a : AS) (hn : a.known.Nodup) : Lookups a a.names where
  known := fun _ h => a.get_of_known hn h
  iface := by
    intro p hp
    apply a.get_of_mem_pairs hn
    have : (p.1.name, TypeId.interface p.2) ∈ pairsFrom .interface a.ifaceNames 0 := by
      rw [AS.ifaceNames, pairsFrom_map]; exact List.mem_map.2 ⟨p, hp, rfl⟩
    simp [AS.pairs, this]
  obj := by
    intro p hp
    apply a.get_of_mem_pairs hn
    have : (p.1.name, TypeId.object p.2) ∈ pairsFrom .object a.objNames 0 := by
      rw [AS.objNames, pairsFrom_map]; exact List.mem_map.2 ⟨p, hp, rfl⟩
    simp [AS.pairs, this]
  impl := by
    intro n h
    obtain ⟨i, hi⟩ := mem_pairsFrom_of_mem .interface _ 0 n h
    exact ⟨i, a.get_of_mem_pairs hn (by simp [AS.pairs, hi])⟩
  objOnly := by
    intro n i h
    have := a.mem_pairs_of_get h
    simp only [AS.pairs, List.mem_append] at this
    rcases this with (((((h | h) | h) | h) | h) | h) | h <;> have h' := mem_pairsFrom _ _ _ _ _ h
    all_goals first
      | exact h'.1
      | (obtain ⟨_, j, hj⟩ := h'; cases hj)

theorem default_root (a : AS) (N : List (String × TypeId)) (L : Lookups a N) (n : String) :
    rootId N (some n) = rootId N (a.defaultRoot n) := by
  unfold AS.defaultRoot
  split
  · rfl
  · next hno =>
    simp only [rootId, Option.bind]
    cases hg : namesGet n N with
    | none => rfl
    | some id =>
      cases id <;> simp [TypeId.asObject?]
      exact absurd (L.objOnly _ _ hg) hno

/-! ## assembly, SDL side

The SDL front-end is treated once, for documents with `extend type` blocks (`ASX`); a schema without blocks is the
case `exts = []`. -/

theorem sdl_rootOf (s : Schema) (r : Option String) : Sdl.rootOf s r = rootId s.names r := rfl

/-- one `extend type name [implements …] { fields }` block -/
structure AExt where
  name : String
  implements : List String
  fields : List AField
  deriving Repr, DecidableEq, Inhabited

/-- abstract schema with `extend type` blocks: `exts` in document order (blocks of different objects may be
interleaved, an object may have several blocks or none) -/
structure ASX where
  base : AS
  exts : List AExt := []
  deriving Repr, DecidableEq, Inhabited

/-- SDL rendering of a block -/
def sdlExt (e : AExt) : SdlDef := .extObject e.name e.implements (e.fields.map sdlField)

/-- `find_type_id(name).as_object_id()` -/
def objIdx (N : List (String × TypeId)) (n : String) : Nat := ((namesGet n N).bind TypeId.asObject?).getD 0

/-- the stored fields pass 5 appends to the field table, in block order -/
def extFields (N : List (String × TypeId)) : List AExt → List StoredField
  | [] => []
  | e :: es => e.fields.map (storedField N (.object (objIdx N e.name))) ++ extFields N es

/-- what pass 5 does to the extended object (`start` = id of the block's first field) -/
def extApply (N : List (String × TypeId)) (start : Nat) (e : AExt) (o : StoredObject) : StoredObject :=
  { o with implements := o.implements ++ e.implements.map (ifaceId N)
           fields := o.fields ++ List.range' start e.fields.length }

/-- the object table after pass 5 -/
def extObjs (N : List (String × TypeId)) : Nat → List AExt → List StoredObject → List StoredObject
  | _, [], os => os
  | start, e :: es, os => extObjs N (start + e.fields.length) es (os.modify (objIdx N e.name) (extApply N start e))

theorem set_eq_modify {α} (l : List α) (i : Nat) (f : α → α) (x : α) (h : l[i]? = some x) :
    l.set i (f x) = l.modify i f := by
  apply List.ext_getElem?
  intro j
  rw [List.getElem?_modify, List.getElem?_set]
  by_cases hij : i = j
  · subst hij
    have : i < l.length := by
      rcases Nat.lt_or_ge i l.length with h' | h'
      · exact h'
      · rw [List.getElem?_eq_none h'] at h; cases h
    have hx : l[i] = x := by
      have := List.getElem?_eq_getElem this
      rw [h] at this; exact (Option.some.inj this).symm
    simp [this, hx]
  · simp [hij]

/-- pass 5 of `build_schema`, closed form -/
theorem sdl_exts (es : List AExt) (s : Schema)
    (hid : ∀ e ∈ es, ∃ k, namesGet e.name s.names = some (.object k) ∧ k < s.objects.length)
    (hf : ∀ e ∈ es, ∀ f ∈ e.fields, ∃ id, namesGet f.ty.base s.names = some id)
    (him : ∀ e ∈ es, ∀ n ∈ e.implements, ∃ i, namesGet n s.names = some (.interface i)) :
    (es.map sdlExt).foldlM (Sdl.ingestDef 5) s =
      .ok { s with fields := s.fields ++ extFields s.names es,
                   objects := extObjs s.names s.fields.length es s.objects } := by
  induction es generalizing s with
  | nil => simp [extFields, extObjs, pure, Except.pure]
  | cons e es ih =>
    obtain ⟨k, hk, hlt⟩ := hid e (by simp)
    have hk' : objIdx s.names e.name = k := by simp [objIdx, hk, TypeId.asObject?]
    have hfs := sdl_fields e.fields s (.object k) (hf e (by simp))
    have him' := mapM_ok' e.implements
      (Schema.findInterface { s with fields := s.fields ++ e.fields.map (storedField s.names (.object k)) })
      (ifaceId s.names) fun n hn => findInterface_ok _ n (him e (by simp) n hn)
    have hget : s.objects[k]? = some s.objects[k] := List.getElem?_eq_getElem hlt
    simp only [List.map_cons, List.foldlM_cons, sdlExt, Sdl.ingestDef, Schema.findTypeId, Schema.findType, hk,
      TypeId.asObject?, hfs, him', hget, bind, Except.bind, pure, Except.pure]
    rw [ih]
    · simp only [extFields, extObjs, hk', List.length_append, List.length_map, List.append_assoc]
      rw [← set_eq_modify _ _ (extApply s.names s.fields.length e) _ hget]
      rfl
    · intro e' he'
      obtain ⟨k', h1, h2⟩ := hid e' (by simp [he'])
      exact ⟨k', h1, by simpa using h2⟩
    · exact fun e' he' => hf e' (by simp [he'])
    · exact fun e' he' => him e' (by simp [he'])


/-- `doc` is an SDL rendering of `x`: as `IsSdlOf`, with the `extend type` definitions (pass 5) being the
renderings of `x.exts` in order — wherever they stand in the document -/
structure IsSdlOfX (x : ASX) (doc : SdlDoc) : Prop where
  scalars : ofPass doc 0 = x.base.scalars.map .scalar
  enums : ofPass doc 1 = x.base.enums.map sdlEnum
  unions : ofPass doc 2 = x.base.unions.map sdlUnion
  ifaces : ofPass doc 3 = x.base.interfaces.map sdlIface
  objects : ofPass doc 4 = x.base.objects.map sdlObj
  exts : ofPass doc 5 = x.exts.map sdlExt
  inputs : ofPass doc 6 = x.base.inputs.map sdlInput
  roots : schemaBlock doc = some (x.base.query, x.base.mutation, x.base.subscription) ∨
    (schemaBlock doc = none ∧ x.base.DefaultRoots)

/-- **the `Schema` the SDL front-end builds for `x`**: that of the base schema, with the extension fields appended
to the field table (after *all* ordinary fields) and the objects patched -/
def ASX.sdlSchema (x : ASX) : Schema :=
  let b := x.base.toSchema
  { b with fields := b.fields ++ extFields b.names x.exts
           objects := extObjs b.names b.fields.length x.exts b.objects }

/-- well-formedness: the base schema is well-formed; every block names a defined *object* (otherwise the SDL
front-end panics, while the folded schema silently drops the block); block fields / interfaces are defined -/
def WfASX (x : ASX) : Prop :=
  WfAS x.base ∧ (∀ e ∈ x.exts, e.name ∈ x.base.objNames) ∧
  (∀ e ∈ x.exts, ∀ f ∈ e.fields, f.ty.base ∈ x.base.known) ∧
  (∀ e ∈ x.exts, ∀ n ∈ e.implements, n ∈ x.base.ifaceNames)

instance (x : ASX) : Decidable (WfASX x) := by unfold WfASX; infer_instance

@[simp] theorem objStored_length (N : List (String × TypeId)) (start : Nat) (os : List AObj) :
    (objStored N start os).length = os.length := by
  induction os generalizing start with
  | nil => rfl
  | cons o os ih => simp [objStored, ih]

@[simp] theorem objFields_length (N : List (String × TypeId)) (k : Nat) (os : List AObj) :
    (objFields N k os).length = (os.map (·.fields.length)).sum := by
  induction os generalizing k with
  | nil => rfl
  | cons o os ih => simp [objFields, ih]


/-- a name of an object is bound to the object's position -/
theorem obj_index (a : AS) (N : List (String × TypeId)) (L : Lookups a N) (n : String) (h : n ∈ a.objNames) :
    ∃ p ∈ a.objects.zipIdx 0, p.1.name = n ∧ namesGet n N = some (.object p.2) ∧ p.2 < a.objects.length := by
  simp only [AS.objNames, List.mem_map] at h
  obtain ⟨o, ho, hon⟩ := h
  obtain ⟨k, hk⟩ := List.mem_iff_getElem?.1 ho
  have hk' : (o, k) ∈ a.objects.zipIdx 0 := by
    rw [List.mem_zipIdx_iff_getElem?]; simpa using hk
  refine ⟨(o, k), hk', hon, by rw [← hon]; exact L.obj (o, k) hk', ?_⟩
  rcases Nat.lt_or_ge k a.objects.length with h | h
  · exact h
  · rw [List.getElem?_eq_none h] at hk; cases hk

/-- **the SDL front-end computes `x.sdlSchema`** on every SDL rendering of a well-formed `x` -/
theorem sdl_spec_ext (x : ASX) (doc : SdlDoc) (hw : WfASX x) (hd : IsSdlOfX x doc) :
    Sdl.fromSdl doc = .ok x.sdlSchema := by
  obtain ⟨⟨hn, hif, hof, him, hun, hinp⟩, hen, hef, hei⟩ := hw
  have L := lookups x.base hn
  unfold Sdl.fromSdl
  generalize hblk : List.findSome? _ doc = blk
  replace hblk : blk = schemaBlock doc := hblk.symm.trans rfl
  simp only [sdl_pass, hd.scalars, hd.enums, hd.unions, hd.ifaces, hd.objects, hd.exts, hd.inputs,
    sdl_populate x.base doc hd.enums hd.objects hd.ifaces hd.unions hd.inputs, bind, Except.bind, pure, Except.pure]
  rw [sdl_scalars, schema_new]
  simp only [List.length_cons, List.length_nil, Schema.defaultScalars, Nat.zero_add, Nat.reduceAdd]
  rw [← Schema.defaultScalars.eq_def, sdl_names x.base hn]
  simp only [ASX.sdlSchema, AS.toSchema]
  -- The name table is complete here, and the remaining passes only look names up (`Lookups`): they are run for
  -- an arbitrary table `N` with these look-ups.  (With `x.base.names` left in place, every comparison of two
  -- tables would unfold it into insertions of the built-in scalar names.)
  generalize x.base.names = N at L ⊢
  have hfld : ∀ t : GTy, t.base ∈ x.base.known → ∃ id, namesGet t.base N = some id := fun t h => L.known _ h
  rw [sdl_enums]; simp only []
  rw [sdl_unions _ _ ?hu]; simp only []
  rw [sdl_ifaces _ 0 _ ?hi1 ?hi2]; simp only []
  rw [sdl_objs _ 0 _ ?ho1 ?ho2 ?ho3]; simp only []
  rw [sdl_exts _ _ ?he1 ?he2 ?he3]; simp only []
  rw [sdl_inputs _ _ ?hin]; simp only []
  case hu => exact fun u hu m hm => L.known m (hun u hu m hm)
  case hi1 => exact L.iface
  case hi2 => exact fun i hi f hf => hfld _ (hif i hi f hf)
  case ho1 => exact L.obj
  case ho2 => exact fun o ho f hf => hfld _ (hof o ho f hf)
  case ho3 => exact fun o ho n hn' => L.impl n (him o ho n hn')
  case he1 =>
    intro e he
    obtain ⟨p, _, _, hp, hlt⟩ := obj_index x.base N L e.name (hen e he)
    exact ⟨p.2, hp, by simpa using hlt⟩
  case he2 => exact fun e he f hf => hfld _ (hef e he f hf)
  case he3 => exact fun e he n hn' => L.impl n (hei e he n hn')
  case hin => exact fun i hi f hf => hfld _ (hinp i hi f hf)
  simp only [sdl_rootOf, List.nil_append, List.length_nil]
  rcases hd.roots with hr | ⟨hr, hq, hm, hs⟩
  · rw [hblk, hr]
  · rw [hblk, hr]
    simp only [default_root x.base N L, ← hq, ← hm, ← hs]

theorem IsSdlOf.toX {a : AS} {doc : SdlDoc} (h : IsSdlOf a doc) : IsSdlOfX { base := a } doc :=
  ⟨h.scalars, h.enums, h.unions, h.ifaces, h.objects, h.noExt, h.inputs, h.roots⟩

/-- **the SDL front-end computes `a.toSchema`** on every SDL rendering of a well-formed `a` -/
theorem sdl_spec (a : AS) (doc : SdlDoc) (hw : WfAS a) (hd : IsSdlOf a doc) :
    Sdl.fromSdl doc = .ok a.toSchema := by
  rw [sdl_spec_ext { base := a } doc ⟨hw, nofun, nofun, nofun⟩ hd.toX]
  simp [ASX.sdlSchema, extFields, extObjs]

/-! ## the introspection front-end, step by step -/

theorem intro_expectNames {α} (l : List α) (r : α → FullType) (nm : α → String) (what : String)
    (h : ∀ x, (r x).name = some (nm x)) : (l.map r).mapM (Intro.expectName what) = .ok (l.map nm) :=
  mapM_ok l r _ nm fun x _ => by simp [Intro.expectName, h x, pure, Except.pure]

theorem intro_buildNames (a : AS) (ts : List FullType) (h : IsIntroOf a ts) (s : Schema) :
    Intro.buildNames s ts =
      .ok { s with names := insAll (pairsFrom .input a.inputNames 0) (insAll (pairsFrom .object a.objNames 0)
        (insAll (pairsFrom .interface a.ifaceNames 0) (insAll (pairsFrom .union a.unionNames 0) s.names))) } := by
  unfold Intro.buildNames
  simp only [h.unions, h.ifaces, h.objects, h.inputs,
    intro_expectNames a.unions (introUnion a) (·.name) _ (fun _ => rfl),
    intro_expectNames a.interfaces (introIface a) (·.name) _ (fun _ => rfl),
    intro_expectNames a.objects (introObj a) (·.name) _ (fun _ => rfl),
    intro_expectNames a.inputs (introInput a) (·.name) _ (fun _ => rfl),
    zipIdx_foldl_eq', bind, Except.bind, pure, Except.pure]
  rfl

theorem intro_scalars (ns : List String) (s : Schema) :
    (ns.map introScalar).foldlM Intro.ingestScalar s =
      .ok { s with scalars := s.scalars ++ ns,
                   names := insAll (pairsFrom .scalar ns s.scalars.length) s.names } := by
  induction ns generalizing s with
  | nil => simp [pure, Except.pure]
  | cons n ns ih =>
    simp only [List.map_cons, List.foldlM_cons, Intro.ingestScalar, Intro.expectName, introScalar,
      Schema.pushScalar, bind, Except.bind, pure, Except.pure]
    rw [ih]
    simp

theorem intro_enums (es : List AEnum) (s : Schema) :
    (es.map introEnum).foldlM Intro.ingestEnum s =
      .ok { s with enums := s.enums ++ es.map storedEnum,
                   names := insAll (pairsFrom .enum (es.map (·.name)) s.enums.length) s.names } := by
  induction es generalizing s with
  | nil => simp [pure, Except.pure]
  | cons e es ih =>
    simp only [List.map_cons, List.foldlM_cons, Intro.ingestEnum, Intro.expectName, introEnum,
      bind, Except.bind, pure, Except.pure]
    rw [mapM_ok e.values _ _ id ?hv]
    case hv => exact fun _ _ => rfl
    simp only [List.map_id]
    rw [ih]
    simp [storedEnum]

theorem intro_fields (a : AS) (fs : List AField) (s : Schema) (parent : FieldParent)
    (h : ∀ f ∈ fs, ∃ id, namesGet f.ty.base s.names = some id) :
    Intro.ingestFields s parent (fs.map (introField a)) =
      .ok ({ s with fields := s.fields ++ fs.map (storedField s.names parent) },
           List.range' s.fields.length fs.length) := by
  induction fs generalizing s with
  | nil => simp [Intro.ingestFields, pure, Except.pure]
  | cons f fs ih =>
    have hf := fromJsonType_ok a s f.ty (h f (by simp))
    simp only [List.map_cons, Intro.ingestFields, introField, hf, Schema.pushField, bind, Except.bind, pure,
      Except.pure, (deprecation_agree f.dep).2]
    rw [ih]
    · simp [storedField, List.range'_succ]
    · exact fun f' hf' => h f' (by simp [hf'])

theorem intro_ifaces (a : AS) (is : List AIface) (k : Nat) (s : Schema)
    (hid : ∀ p ∈ is.zipIdx k, namesGet p.1.name s.names = some (.interface p.2))
    (hf : ∀ i ∈ is, ∀ f ∈ i.fields, ∃ id, namesGet f.ty.base s.names = some id) :
    (is.map (introIface a)).foldlM Intro.ingestInterface s =
      .ok { s with fields := s.fields ++ ifaceFields s.names k is,
                   interfaces := s.interfaces ++ ifaceStored s.fields.length is } := by
  induction is generalizing s k with
  | nil => simp [ifaceFields, ifaceStored, pure, Except.pure]
  | cons i is ih =>
    have hi : namesGet i.name s.names = some (.interface k) := hid (i, k) (by simp [List.zipIdx_cons])
    have hfs := intro_fields a i.fields s (.interface k) (hf i (by simp))
    simp only [List.map_cons, List.foldlM_cons, introIface, Intro.ingestInterface, Intro.expectName,
      Schema.findTypeId, Schema.findType, hi, TypeId.asInterface?, hfs, bind, Except.bind, pure, Except.pure]
    rw [ih (k + 1)]
    · simp [ifaceFields, ifaceStored]
    · intro p hp; exact hid p (by simp [List.zipIdx_cons, hp])
    · exact fun i' hi' => hf i' (by simp [hi'])

theorem intro_objs (a : AS) (os : List AObj) (k : Nat) (s : Schema)
    (hid : ∀ p ∈ os.zipIdx k, namesGet p.1.name s.names = some (.object p.2))
    (hf : ∀ o ∈ os, ∀ f ∈ o.fields, ∃ id, namesGet f.ty.base s.names = some id)
    (him : ∀ o ∈ os, ∀ n ∈ o.implements, ∃ i, namesGet n s.names = some (.interface i)) :
    (os.map (introObj a)).foldlM Intro.ingestObject s =
      .ok { s with fields := s.fields ++ objFields s.names k os,
                   objects := s.objects ++ objStored s.names s.fields.length os } := by
  induction os generalizing s k with
  | nil => simp [objFields, objStored, pure, Except.pure]
  | cons o os ih =>
    have ho : namesGet o.name s.names = some (.object k) := hid (o, k) (by simp [List.zipIdx_cons])
    have hfs := intro_fields a o.fields s (.object k) (hf o (by simp))
    simp only [List.map_cons, List.foldlM_cons, introObj, Intro.ingestObject, Intro.expectName,
      Schema.findTypeId, Schema.findType, ho, TypeId.asObject?, hfs, bind, Except.bind, pure, Except.pure]
    rw [mapM_ok o.implements _ _ (ifaceId s.names) ?him']
    case him' =>
      intro n hn
      obtain ⟨i, hi⟩ := him o (by simp) n hn
      simp [namedRef, TypeRef.name, ifaceId, hi, TypeId.asInterface?]
    simp only []
    rw [ih (k + 1)]
    · simp [objFields, objStored]
    · intro p hp; exact hid p (by simp [List.zipIdx_cons, hp])
    · exact fun o' ho' => hf o' (by simp [ho'])
    · exact fun o' ho' => him o' (by simp [ho'])

theorem intro_unions (a : AS) (us : List AUnion) (s : Schema)
    (h : ∀ u ∈ us, ∀ m ∈ u.members, ∃ id, namesGet m s.names = some id) :
    (us.map (introUnion a)).foldlM Intro.ingestUnion s =
      .ok { s with unions := s.unions ++ us.map (storedUnion s.names) } := by
  induction us generalizing s with
  | nil => simp [pure, Except.pure]
  | cons u us ih =>
    simp only [List.map_cons, List.foldlM_cons, introUnion, Intro.ingestUnion, Intro.expectName,
      bind, Except.bind, pure, Except.pure]
    rw [mapM_ok u.members _ _ (tyId s.names) ?hu]
    case hu =>
      intro m hm
      simp [namedRef, TypeRef.name, findTypeId_ok s m (h u (by simp) m hm)]
    simp only []
    rw [ih]
    · simp [storedUnion]
    · exact fun u' hu' => h u' (by simp [hu'])

theorem intro_inputs (a : AS) (is : List AInput) (s : Schema)
    (hf : ∀ i ∈ is, ∀ f ∈ i.fields, ∃ id, namesGet f.2.base s.names = some id) :
    (is.map (introInput a)).foldlM (Intro.ingestInput true) s =
      .ok { s with inputs := s.inputs ++ is.map (storedInput s.names) } := by
  induction is generalizing s with
  | nil => simp [pure, Except.pure]
  | cons i is ih =>
    have hfs := mapM_ok i.fields (fun p => ({ name := p.1, ty := typeRefOf a p.2 } : IntroInputValue))
      (fun (f : IntroInputValue) => do let ty ← Intro.fromJsonType s f.ty; pure (f.name, ty))
      (fun p => (p.1, ftOf s.names p.2))
      fun p hp => by simp [fromJsonType_ok a s p.2 (hf i (by simp) p hp), bind, Except.bind, pure, Except.pure]
    simp only [List.map_cons, List.foldlM_cons, introInput, Intro.ingestInput, Intro.expectName]
    simp only [bind, Except.bind, pure, Except.pure] at hfs ⊢
    rw [hfs]
    simp only []
    rw [ih]
    · cases hone : i.isOneOf <;> simp [storedInput, hone]
    · exact fun i' hi' => hf i' (by simp [hi'])

/-! ## assembly, introspection side -/

theorem intro_rootOf (s : Schema) (r : Option String) : Intro.rootOf s (r.map some) = rootId s.names r := by
  cases r <;> rfl

/-- the `__schema` value with the given `types` array and `a`'s roots -/
def introSchemaOf (a : AS) (l : List (Option FullType)) : IntroSchema :=
  { queryType := a.query.map some, mutationType := a.mutation.map some,
    subscriptionType := a.subscription.map some, types := some l }

/-- **the introspection front-end computes `a.toSchema`** on every introspection rendering of a
well-formed `a` (`l` may contain `null` entries) -/
theorem intro_spec (a : AS) (l : List (Option FullType)) (hw : WfAS a) (hi : IsIntroOf a (l.filterMap id)) :
    Intro.fromIntro true (some (introSchemaOf a l)) = .ok a.toSchema := by
  obtain ⟨hn, hif, hof, him, hun, hinp⟩ := hw
  have L := lookups a hn
  unfold Intro.fromIntro
  simp only [introSchemaOf, Intro.typesOf, intro_buildNames a _ hi, hi.scalars, hi.enums, hi.ifaces, hi.objects,
    hi.unions, hi.inputs, bind, Except.bind, pure, Except.pure]
  rw [intro_scalars, schema_new]
  simp only [List.length_cons, List.length_nil, Schema.defaultScalars, Nat.zero_add, Nat.reduceAdd]
  rw [← Schema.defaultScalars.eq_def, intro_enums]
  simp only [List.length_nil]
  rw [← AS.enumNames.eq_def, intro_names a hn]
  simp only [AS.toSchema]
  -- as in `sdl_spec_ext`: the remaining steps are run for an arbitrary table `N` with the look-ups `L`
  generalize a.names = N at L ⊢
  have hfld : ∀ t : GTy, t.base ∈ a.known → ∃ id, namesGet t.base N = some id := fun t h => L.known _ h
  rw [intro_ifaces a _ 0 _ ?hi1 ?hi2]; simp only []
  rw [intro_objs a _ 0 _ ?ho1 ?ho2 ?ho3]; simp only []
  rw [intro_unions a _ _ ?hu]; simp only []
  rw [intro_inputs a _ _ ?hin]; simp only []
  case hu => exact fun u hu m hm => L.known m (hun u hu m hm)
  case hi1 => exact L.iface
  case hi2 => exact fun i hi f hf => hfld _ (hif i hi f hf)
  case ho1 => exact L.obj
  case ho2 => exact fun o ho f hf => hfld _ (hof o ho f hf)
  case ho3 => exact fun o ho n hn' => L.impl n (him o ho n hn')
  case hin => exact fun i hi f hf => hfld _ (hinp i hi f hf)
  simp only [intro_rootOf, List.nil_append, List.length_nil]

/-! ## whole-schema agreement -/

/-- **C07, general form.**  For every well-formed abstract schema, *every* SDL rendering and *every*
introspection rendering (kinds interleaved in any way) are converted to literally the same value. -/
theorem frontends_equal_of_renderings (a : AS) (doc : SdlDoc) (l : List (Option FullType))
    (hw : WfAS a) (hd : IsSdlOf a doc) (hi : IsIntroOf a (l.filterMap id)) :
    Sdl.fromSdl doc = Intro.fromIntro true (some (introSchemaOf a l)) :=
  (sdl_spec a doc hw hd).trans (intro_spec a l hw hi).symm

/-! ### one concrete rendering each -/

/-- SDL rendering: optional `schema` block, then scalars, enums, unions, interfaces, objects, inputs -/
def sdlOf (explicitRoots : Bool) (a : AS) : SdlDoc :=
  (if explicitRoots then [SdlDef.schemaDef a.query a.mutation a.subscription] else []) ++
  a.scalars.map .scalar ++ a.enums.map sdlEnum ++ a.unions.map sdlUnion ++ a.interfaces.map sdlIface ++
  a.objects.map sdlObj ++ a.inputs.map sdlInput

/-- `__schema.types`: the listed built-in scalars `bs`, then custom scalars, enums, interfaces, objects,
unions, inputs -/
def introTypes (bs : List String) (a : AS) : List FullType :=
  bs.map introScalar ++ a.scalars.map introScalar ++ a.enums.map introEnum ++ a.interfaces.map (introIface a) ++
  a.objects.map (introObj a) ++ a.unions.map (introUnion a) ++ a.inputs.map (introInput a)

/-- introspection rendering (`bs` = the built-in scalars the server lists) -/
def introOf (bs : List String) (a : AS) : IntroSchema := introSchemaOf a ((introTypes bs a).map some)

theorem filter_map_const {α β} (l : List α) (r : α → β) (P : β → Bool) (b : Bool) (h : ∀ x ∈ l, P (r x) = b) :
    (l.map r).filter P = if b then l.map r else [] := by
  cases b
  · simp only [Bool.false_eq_true, if_false, List.filter_eq_nil_iff, List.mem_map]
    rintro _ ⟨x, hx, rfl⟩; simp [h x hx]
  · simp only [if_true, List.filter_eq_self, List.mem_map]
    rintro _ ⟨x, hx, rfl⟩; exact h x hx

theorem isSdlOf_sdlOf (a : AS) (ex : Bool) (hex : ex = true ∨ a.DefaultRoots) : IsSdlOf a (sdlOf ex a) := by
  have hpass : ∀ p, ofPass (sdlOf ex a) p =
      (if (0 == p) = true then a.scalars.map .scalar else []) ++ (if (1 == p) = true then a.enums.map sdlEnum else []) ++
      (if (2 == p) = true then a.unions.map sdlUnion else []) ++ (if (3 == p) = true then a.interfaces.map sdlIface else []) ++
      (if (4 == p) = true then a.objects.map sdlObj else []) ++ (if (6 == p) = true then a.inputs.map sdlInput else []) := by
    intro p
    have h0 : ofPass (if ex then [SdlDef.schemaDef a.query a.mutation a.subscription] else []) p = [] := by
      cases ex <;> simp [ofPass, passOf]
    simp only [ofPass, sdlOf, List.filter_append] at h0 ⊢
    rw [h0, filter_map_const _ _ _ (0 == p) (fun _ _ => by simp [passOf]),
      filter_map_const _ sdlEnum _ (1 == p) (fun _ _ => by simp [passOf, sdlEnum]),
      filter_map_const _ sdlUnion _ (2 == p) (fun _ _ => by simp [passOf, sdlUnion]),
      filter_map_const _ sdlIface _ (3 == p) (fun _ _ => by simp [passOf, sdlIface]),
      filter_map_const _ sdlObj _ (4 == p) (fun _ _ => by simp [passOf, sdlObj]),
      filter_map_const _ sdlInput _ (6 == p) (fun _ _ => by simp [passOf, sdlInput])]
    simp
  refine ⟨by simp [hpass], by simp [hpass], by simp [hpass], by simp [hpass], by simp [hpass], by simp [hpass],
    by simp [hpass], ?_⟩
  cases ex
  · right
    refine ⟨?_, by simpa using hex⟩
    simp only [schemaBlock, List.findSome?_eq_none_iff, sdlOf, Bool.false_eq_true, if_false, List.nil_append,
      List.mem_append, List.mem_map]
    rintro d (((((⟨x, _, rfl⟩ | ⟨x, _, rfl⟩) | ⟨x, _, rfl⟩) | ⟨x, _, rfl⟩) | ⟨x, _, rfl⟩) | ⟨x, _, rfl⟩) <;> rfl
  · left; simp [schemaBlock, sdlOf]

/-- the pure form of `isCustomScalar` on entries that have a name -/
def customScalar (t : FullType) : Bool :=
  t.kind == some "SCALAR" && match t.name with
    | some n => !Schema.defaultScalars.contains n
    | none => false

theorem isCustomScalar_ok (t : FullType) (n : String) (h : t.name = some n) :
    Intro.isCustomScalar t = .ok (customScalar t) := by
  unfold Intro.isCustomScalar customScalar
  split <;> simp_all [pure, Except.pure]

theorem filterMap_id_map_some {α} (l : List α) : (l.map some).filterMap id = l := by
  induction l with
  | nil => rfl
  | cons x l ih => simp

theorem isIntroOf_introTypes (a : AS) (bs : List String) (hn : a.known.Nodup)
    (hbs : ∀ b ∈ bs, b ∈ Schema.defaultScalars) : IsIntroOf a (introTypes bs a) := by
  have hcustom : ∀ n ∈ a.scalars, n ∉ Schema.defaultScalars := by
    intro n hn' hd
    simp only [AS.known, List.append_assoc] at hn
    exact (List.nodup_append.1 hn).2.2 n hd n (by simp [hn']) rfl
  have hkind : ∀ k, Intro.ofKind (introTypes bs a) k =
      (if ("SCALAR" == k) = true then bs.map introScalar ++ a.scalars.map introScalar else []) ++
      (if ("ENUM" == k) = true then a.enums.map introEnum else []) ++
      (if ("INTERFACE" == k) = true then a.interfaces.map (introIface a) else []) ++
      (if ("OBJECT" == k) = true then a.objects.map (introObj a) else []) ++
      (if ("UNION" == k) = true then a.unions.map (introUnion a) else []) ++
      (if ("INPUT_OBJECT" == k) = true then a.inputs.map (introInput a) else []) := by
    intro k
    simp only [Intro.ofKind, introTypes, List.filter_append]
    rw [filter_map_const bs introScalar _ ("SCALAR" == k) (fun _ _ => by simp [introScalar]),
      filter_map_const a.scalars introScalar _ ("SCALAR" == k) (fun _ _ => by simp [introScalar]),
      filter_map_const _ introEnum _ ("ENUM" == k) (fun _ _ => by simp [introEnum]),
      filter_map_const _ (introIface a) _ ("INTERFACE" == k) (fun _ _ => by simp [introIface]),
      filter_map_const _ (introObj a) _ ("OBJECT" == k) (fun _ _ => by simp [introObj]),
      filter_map_const _ (introUnion a) _ ("UNION" == k) (fun _ _ => by simp [introUnion]),
      filter_map_const _ (introInput a) _ ("INPUT_OBJECT" == k) (fun _ _ => by simp [introInput])]
    cases "SCALAR" == k <;> simp
  refine ⟨?_, by simp [hkind], by simp [hkind], by simp [hkind], by simp [hkind], by simp [hkind]⟩
  have hname : ∀ t ∈ introTypes bs a, Intro.isCustomScalar t = .ok (customScalar t) := by
    intro t ht
    simp only [introTypes, List.mem_append, List.mem_map] at ht
    rcases ht with (((((⟨x, _, rfl⟩ | ⟨x, _, rfl⟩) | ⟨x, _, rfl⟩) | ⟨x, _, rfl⟩) | ⟨x, _, rfl⟩) | ⟨x, _, rfl⟩) |
      ⟨x, _, rfl⟩ <;> exact isCustomScalar_ok _ _ rfl
  rw [filterM_ok _ _ _ hname]
  simp only [introTypes, List.filter_append]
  rw [filter_map_const bs introScalar _ false (fun b hb => by
        have := hbs b hb
        simp [customScalar, introScalar, this]),
    filter_map_const a.scalars introScalar _ true (fun n hn' => by
        have := hcustom n hn'
        simp [customScalar, introScalar, this]),
    filter_map_const _ introEnum _ false (fun _ _ => by simp [customScalar, introEnum]),
    filter_map_const _ (introIface a) _ false (fun _ _ => by simp [customScalar, introIface]),
    filter_map_const _ (introObj a) _ false (fun _ _ => by simp [customScalar, introObj]),
    filter_map_const _ (introUnion a) _ false (fun _ _ => by simp [customScalar, introUnion]),
    filter_map_const _ (introInput a) _ false (fun _ _ => by simp [customScalar, introInput])]
  simp

/-- **C07, whole-schema agreement** (`frontends_equal`).  For every well-formed abstract schema `a`
(without `extend type`), the SDL front-end on the SDL rendering and the introspection front-end on the
introspection rendering return literally the same `Outcome Schema`.
Parameters of the renderings: `ex` — the SDL has an explicit `schema { … }` block (it may be omitted when the
roots are the default ones); `bs` — the built-in scalars listed among `__schema.types`. -/
theorem frontends_equal (a : AS) (ex : Bool) (bs : List String) (hw : WfAS a)
    (hex : ex = true ∨ a.DefaultRoots) (hbs : ∀ b ∈ bs, b ∈ Schema.defaultScalars) :
    Sdl.fromSdl (sdlOf ex a) = Intro.fromIntro true (some (introOf bs a)) :=
  frontends_equal_of_renderings a _ _ hw (isSdlOf_sdlOf a ex hex)
    (by rw [filterMap_id_map_some]; exact isIntroOf_introTypes a bs hw.1 hbs)

/-- the closed form of that common value -/
theorem frontends_value (a : AS) (ex : Bool) (bs : List String) (hw : WfAS a)
    (hex : ex = true ∨ a.DefaultRoots) (hbs : ∀ b ∈ bs, b ∈ Schema.defaultScalars) :
    Sdl.fromSdl (sdlOf ex a) = .ok a.toSchema ∧ Intro.fromIntro true (some (introOf bs a)) = .ok a.toSchema :=
  ⟨sdl_spec a _ hw (isSdlOf_sdlOf a ex hex),
   intro_spec a _ hw (by rw [filterMap_id_map_some]; exact isIntroOf_introTypes a bs hw.1 hbs)⟩

/-- the statement in its plainest form: explicit `schema` block, all five built-in scalars listed -/
theorem frontends_equal' (a : AS) (hw : WfAS a) :
    Sdl.fromSdl (sdlOf true a) = Intro.fromIntro true (some (introOf Schema.defaultScalars a)) :=
  frontends_equal a true _ hw (.inl rfl) (fun _ h => h)

/-! ## a concrete instance

An interface with two implementors, a union, an enum, a custom scalar, a `@oneOf` input, a recursive
input, deprecated fields (with and without reason), explicit non-default roots. -/

def exCharacterFields : List AField :=
  [⟨"id", .nonNull (.named "ID"), none⟩, ⟨"name", .named "String", none⟩,
   ⟨"friends", .list (.named "Character"), some (some "use friendsConnection")⟩]

def exAS : AS :=
  { scalars := ["DateTime"]
    enums := [⟨"Episode", ["NEWHOPE", "EMPIRE", "JEDI"]⟩]
    interfaces := [⟨"Character", exCharacterFields⟩]
    objects :=
      [⟨"Human", ["Character"],
          exCharacterFields ++ [⟨"height", .named "Float", some none⟩, ⟨"born", .named "DateTime", none⟩]⟩,
       ⟨"Droid", ["Character"],
          exCharacterFields ++ [⟨"appearsIn", .nonNull (.list (.nonNull (.named "Episode"))), none⟩]⟩,
       ⟨"QueryRoot", [], [⟨"hero", .named "Character", none⟩,
                          ⟨"search", .nonNull (.list (.nonNull (.named "SearchResult"))), none⟩]⟩,
       ⟨"MutationRoot", [], [⟨"rate", .named "Episode", none⟩]⟩]
    unions := [⟨"SearchResult", ["Human", "Droid"]⟩]
    inputs := [⟨"ById", true, [("id", .named "ID"), ("name", .named "String")]⟩,
               ⟨"ReviewInput", false, [("stars", .nonNull (.named "Int")), ("episode", .named "Episode"),
                                       ("by", .named "ById"), ("more", .list (.nonNull (.named "ReviewInput")))]⟩]
    query := some "QueryRoot", mutation := some "MutationRoot", subscription := none }

/-- the value both front-ends must produce for `exAS`, written out -/
def exSchema : Schema :=
  { objects := [{ name := "Human", fields := [3, 4, 5, 6, 7], implements := [0] },
                { name := "Droid", fields := [8, 9, 10, 11], implements := [0] },
                { name := "QueryRoot", fields := [12, 13], implements := [] },
                { name := "MutationRoot", fields := [14], implements := [] }],
    fields := [{ name := "id", ty := { id := .scalar 0, quals := [.required] }, parent := .interface 0, deprecation := none },
               { name := "name", ty := { id := .scalar 1, quals := [] }, parent := .interface 0, deprecation := none },
               { name := "friends", ty := { id := .interface 0, quals := [.list] }, parent := .interface 0,
                 deprecation := some (some "use friendsConnection") },
               { name := "id", ty := { id := .scalar 0, quals := [.required] }, parent := .object 0, deprecation := none },
               { name := "name", ty := { id := .scalar 1, quals := [] }, parent := .object 0, deprecation := none },
               { name := "friends", ty := { id := .interface 0, quals := [.list] }, parent := .object 0,
                 deprecation := some (some "use friendsConnection") },
               { name := "height", ty := { id := .scalar 3, quals := [] }, parent := .object 0, deprecation := some none },
               { name := "born", ty := { id := .scalar 5, quals := [] }, parent := .object 0, deprecation := none },
               { name := "id", ty := { id := .scalar 0, quals := [.required] }, parent := .object 1, deprecation := none },
               { name := "name", ty := { id := .scalar 1, quals := [] }, parent := .object 1, deprecation := none },
               { name := "friends", ty := { id := .interface 0, quals := [.list] }, parent := .object 1,
                 deprecation := some (some "use friendsConnection") },
               { name := "appearsIn", ty := { id := .enum 0, quals := [.required, .list, .required] },
                 parent := .object 1, deprecation := none },
               { name := "hero", ty := { id := .interface 0, quals := [] }, parent := .object 2, deprecation := none },
               { name := "search", ty := { id := .union 0, quals := [.required, .list, .required] },
                 parent := .object 2, deprecation := none },
               { name := "rate", ty := { id := .enum 0, quals := [] }, parent := .object 3, deprecation := none }],
    interfaces := [{ name := "Character", fields := [0, 1, 2] }],
    unions := [{ name := "SearchResult", variants := [.object 0, .object 1] }],
    scalars := ["ID", "String", "Int", "Float", "Boolean", "DateTime"],
    enums := [{ name := "Episode", variants := ["NEWHOPE", "EMPIRE", "JEDI"] }],
    inputs := [{ name := "ById",
                 fields := [("id", { id := .scalar 0, quals := [] }), ("name", { id := .scalar 1, quals := [] })],
                 isOneOf := true },
               { name := "ReviewInput",
                 fields := [("stars", { id := .scalar 2, quals := [.required] }),
                            ("episode", { id := .enum 0, quals := [] }), ("by", { id := .input 0, quals := [] }),
                            ("more", { id := .input 1, quals := [.list, .required] })],
                 isOneOf := false }],
    names := [("Boolean", .scalar 4), ("ById", .input 0), ("Character", .interface 0), ("DateTime", .scalar 5),
              ("Droid", .object 1), ("Episode", .enum 0), ("Float", .scalar 3), ("Human", .object 0),
              ("ID", .scalar 0), ("Int", .scalar 2), ("MutationRoot", .object 3), ("QueryRoot", .object 2),
              ("ReviewInput", .input 1), ("SearchResult", .union 0), ("String", .scalar 1)],
    queryType := some 2, mutationType := some 3, subscriptionType := none }

example : WfAS exAS := by decide +kernel
/-- both sides *evaluate* (kernel computation, independent of the theorems) to the same value … -/
example : (Sdl.fromSdl (sdlOf true exAS)).toOption = some exSchema := by decide +kernel
example : (Intro.fromIntro true (some (introOf ["ID", "Int"] exAS))).toOption = some exSchema := by decide +kernel
/-- … which is the closed form, and the theorem applies -/
example : exAS.toSchema = exSchema := by decide +kernel
example : Sdl.fromSdl (sdlOf true exAS) = Intro.fromIntro true (some (introOf ["ID", "Int"] exAS)) :=
  frontends_equal exAS true _ (by decide +kernel) (.inl rfl) (by decide +kernel)

/-- the same abstract schema rendered with the kinds interleaved: the objects first, the `schema` block in
the middle, a directive definition (`other`) in between; and an introspection list in yet another order,
with built-in scalars, a `null` entry and an entry of unknown kind in between -/
def exDocShuffled : SdlDoc :=
  (exAS.objects.map sdlObj).take 2 ++ [.other] ++ exAS.inputs.map sdlInput ++
  [SdlDef.schemaDef (some "QueryRoot") (some "MutationRoot") none] ++ exAS.interfaces.map sdlIface ++
  (exAS.objects.map sdlObj).drop 2 ++ exAS.unions.map sdlUnion ++ exAS.scalars.map .scalar ++
  exAS.enums.map sdlEnum

def exTypesShuffled : List (Option FullType) :=
  (exAS.inputs.map (fun i => some (introInput exAS i))) ++ [some (introScalar "Boolean"), none] ++
  (exAS.objects.map (fun o => some (introObj exAS o))).take 3 ++ exAS.enums.map (fun e => some (introEnum e)) ++
  [some { introScalar "__Directive" with kind := some "FUTURE_KIND" }] ++
  exAS.unions.map (fun u => some (introUnion exAS u)) ++ exAS.scalars.map (fun n => some (introScalar n)) ++
  (exAS.objects.map (fun o => some (introObj exAS o))).drop 3 ++
  exAS.interfaces.map (fun i => some (introIface exAS i)) ++ [some (introScalar "String")]

example : IsSdlOf exAS exDocShuffled :=
  ⟨by decide +kernel, by decide +kernel, by decide +kernel, by decide +kernel, by decide +kernel, by decide +kernel, by decide +kernel, .inl (by decide +kernel)⟩
example : IsIntroOf exAS (exTypesShuffled.filterMap id) := ⟨by rfl, by rfl, by rfl, by rfl, by rfl, by rfl⟩
example : (Sdl.fromSdl exDocShuffled).toOption = some exSchema := by decide +kernel
example : (Intro.fromIntro true (some (introSchemaOf exAS exTypesShuffled))).toOption = some exSchema := by decide +kernel

/-! ## the hypotheses cannot be dropped

None of these is a defect of the code: each abstract schema below is ill-formed GraphQL (or, for the third,
the two renderings do not describe the same schema).  They show that `WfAS` is not stronger than needed. -/

/-- a custom scalar with a built-in name: the SDL path pushes a sixth scalar and re-binds the name, the
JSON path drops every `SCALAR` entry with a built-in name -/
example : ¬ WfAS { scalars := ["Int"] } ∧
    (Sdl.fromSdl (sdlOf true { scalars := ["Int"] })).toOption.map (·.scalars.length) = some 6 ∧
    (Intro.fromIntro true (some (introOf [] { scalars := ["Int"] }))).toOption.map (·.scalars.length) = some 5 := by
  decide +kernel

/-- the same name for an enum and an object: the SDL path inserts enum names *before* object names, the
JSON path *after*; the last insertion wins, and the JSON path then panics in `ingest_object` -/
example : ¬ WfAS { enums := [⟨"E", ["A"]⟩], objects := [⟨"E", [], []⟩] } ∧
    (Sdl.fromSdl (sdlOf true { enums := [⟨"E", ["A"]⟩], objects := [⟨"E", [], []⟩] })).toOption.isSome = true ∧
    (Intro.fromIntro true (some (introOf [] { enums := [⟨"E", ["A"]⟩], objects := [⟨"E", [], []⟩] }))).toOption =
      none := by
  decide +kernel

/-- no `schema` block but roots that are not the default ones: SDL falls back to the name `Query` -/
example : WfAS { objects := [⟨"Query", [], []⟩] } ∧ ¬ AS.DefaultRoots { objects := [⟨"Query", [], []⟩] } ∧
    (Sdl.fromSdl (sdlOf false { objects := [⟨"Query", [], []⟩] })).toOption.map (·.queryType) = some (some 0) ∧
    (Intro.fromIntro true (some (introOf [] { objects := [⟨"Query", [], []⟩] }))).toOption.map (·.queryType) =
      some none := by
  decide +kernel

/-- a field of an undefined type: both paths panic, with different messages -/
example :
    Sdl.fromSdl (sdlOf true { objects := [⟨"O", [], [⟨"f", .named "Nope", none⟩]⟩] }) =
      .error (.panic "failed to resolve TypeId for `Nope`") ∧
    Intro.fromIntro true (some (introOf [] { objects := [⟨"O", [], [⟨"f", .named "Nope", none⟩]⟩] })) =
      .error (.panic "schema.names.get(name)") := ⟨by rfl, by rfl⟩

/-! ## from the JSON text

`Intro.fromJson` = serde decoding (`parseIntro`) followed by `fromIntro`.  The decoder is the identity on the
JSON text of an introspection value, up to the recursion limit on `ofType` chains. -/

section JsonText
open Intro


def jOptStr : Option String → Json | none => .null | some s => .str s
def jOptBool : Option Bool → Json | none => .null | some b => .bool b
def jOpt {α} (r : α → Json) : Option α → Json | none => .null | some v => r v
def jArr {α} (r : α → Json) (l : List α) : Json := .arr (l.map r)

def jsonTypeRef : TypeRef → Json
  | .mk k n none => .obj [("kind", jOptStr k), ("name", jOptStr n), ("ofType", .null)]
  | .mk k n (some t) => .obj [("kind", jOptStr k), ("name", jOptStr n), ("ofType", jsonTypeRef t)]

def jsonField (f : IntroField) : Json :=
  .obj [("name", jOptStr f.name), ("type", jOpt jsonTypeRef f.ty), ("isDeprecated", jOptBool f.isDeprecated),
        ("deprecationReason", jOptStr f.deprecationReason)]
def jsonInputValue (v : IntroInputValue) : Json := .obj [("name", .str v.name), ("type", jsonTypeRef v.ty)]
def jsonEnumValue (v : IntroEnumValue) : Json := .obj [("name", jOptStr v.name)]
def jsonFullType (t : FullType) : Json :=
  .obj [("kind", jOptStr t.kind), ("name", jOptStr t.name), ("fields", jOpt (jArr jsonField) t.fields),
        ("inputFields", jOpt (jArr jsonInputValue) t.inputFields),
        ("interfaces", jOpt (jArr jsonTypeRef) t.interfaces),
        ("enumValues", jOpt (jArr jsonEnumValue) t.enumValues),
        ("possibleTypes", jOpt (jArr jsonTypeRef) t.possibleTypes), ("isOneOf", jOptBool t.isOneOf)]
def jsonRoot (n : Option String) : Json := .obj [("name", jOptStr n)]
def jsonSchema (x : IntroSchema) : Json :=
  .obj [("queryType", jOpt jsonRoot x.queryType), ("mutationType", jOpt jsonRoot x.mutationType),
        ("subscriptionType", jOpt jsonRoot x.subscriptionType),
        ("types", jOpt (jArr (jOpt jsonFullType)) x.types)]
/-- the response text: bare `{"__schema": …}` or wrapped in `{"data": …}` -/
def jsonResponse (wrapped : Bool) (x : IntroSchema) : Json :=
  if wrapped then .obj [("data", .obj [("__schema", jsonSchema x)])] else .obj [("__schema", jsonSchema x)]

def refDepth : TypeRef → Nat
  | .mk _ _ none => 1
  | .mk _ _ (some t) => refDepth t + 1

def fullTypeRefs (t : FullType) : List TypeRef :=
  (t.fields.getD []).filterMap (·.ty) ++ (t.inputFields.getD []).map (·.ty) ++ t.interfaces.getD [] ++
  t.possibleTypes.getD []
def schemaRefs (x : IntroSchema) : List TypeRef := ((x.types.getD []).filterMap id).flatMap fullTypeRefs
/-- no `ofType` chain is longer than the decoder's recursion limit -/
def DepthOk (x : IntroSchema) : Prop := ∀ r ∈ schemaRefs x, refDepth r ≤ typeRefFuel
instance (x : IntroSchema) : Decidable (DepthOk x) := by unfold DepthOk; infer_instance

theorem optMember_str (kvs : List (String × Json)) (k : String) (x : Option String)
    (h : Json.lookup k kvs = some (jOptStr x)) : optMember kvs k decStr = some x := by
  cases x <;> simp [optMember, h, jOptStr, decStr]

theorem optMember_bool (kvs : List (String × Json)) (k : String) (x : Option Bool)
    (h : Json.lookup k kvs = some (jOptBool x)) : optMember kvs k decBool = some x := by
  cases x <;> simp [optMember, h, jOptBool, decBool]

theorem optMember_absent {α} (kvs : List (String × Json)) (k : String) (dec : Json → Dec α)
    (h : Json.lookup k kvs = none) : optMember kvs k dec = some none := by
  simp [optMember, h]

theorem optMember_jOpt {α} (kvs : List (String × Json)) (k : String) (dec : Json → Dec α) (r : α → Json)
    (x : Option α) (h : Json.lookup k kvs = some (jOpt r x)) (hr : ∀ v, (r v).isNull = false)
    (hd : ∀ v, x = some v → dec (r v) = some v) : optMember kvs k dec = some x := by
  cases x with
  | none => simp [optMember, h, jOpt]
  | some v =>
    have h1 := hr v
    have h2 := hd v rfl
    simp only [optMember, h, jOpt]
    cases hj : r v <;> simp_all [Json.isNull]

theorem decList_jArr {α} (dec : Json → Dec α) (r : α → Json) (l : List α) (h : ∀ x ∈ l, dec (r x) = some x) :
    decList dec (jArr r l) = some l := by
  simp only [decList, jArr]
  induction l with
  | nil => rfl
  | cons x l ih =>
    have hx := h x (by simp)
    have hl := ih fun y hy => h y (by simp [hy])
    simp [List.mapM_cons, hx, hl]

theorem decOpt_jOpt {α} (dec : Json → Dec α) (r : α → Json) (x : Option α) (hr : ∀ v, (r v).isNull = false)
    (hd : ∀ v, x = some v → dec (r v) = some v) : decOpt dec (jOpt r x) = some x := by
  cases x with
  | none => rfl
  | some v =>
    have h1 := hr v
    have h2 := hd v rfl
    simp only [jOpt]
    cases hj : r v <;> simp_all [Json.isNull, decOpt]

theorem jsonTypeRef_notNull (r : TypeRef) : (jsonTypeRef r).isNull = false := by
  cases r with
  | mk k n o => cases o <;> rfl

theorem decTypeRef_json (r : TypeRef) (fuel : Nat) (h : refDepth r ≤ fuel) :
    decTypeRef fuel (jsonTypeRef r) = some r := by
  fun_induction jsonTypeRef r generalizing fuel with
  | case1 k n =>
    cases fuel with
    | zero => simp [refDepth] at h
    | succ fuel =>
      simp only [decTypeRef, asObj, bind, Option.bind]
      rw [optMember_str _ "kind" k rfl, optMember_str _ "name" n rfl]
      rfl
  | case2 k n t ih =>
    cases fuel with
    | zero => simp [refDepth] at h
    | succ fuel =>
      have := ih fuel (by simp [refDepth] at h; omega)
      simp only [decTypeRef, asObj, bind, Option.bind]
      rw [optMember_str _ "kind" k rfl, optMember_str _ "name" n rfl,
        optMember_jOpt _ "ofType" _ jsonTypeRef (some t) rfl jsonTypeRef_notNull
          (fun v hv => by cases hv; exact this)]
      rfl

theorem decField_json (f : IntroField) (h : ∀ r, f.ty = some r → refDepth r ≤ typeRefFuel) :
    decField (jsonField f) = some f := by
  obtain ⟨name, ty, isDep, reason⟩ := f
  simp only [decField, jsonField, asObj, bind, Option.bind]
  rw [optMember_str _ "name" name rfl, optMember_absent _ "description" _ rfl, optMember_absent _ "args" _ rfl,
    optMember_jOpt _ "type" _ jsonTypeRef ty rfl jsonTypeRef_notNull (fun v hv => decTypeRef_json v _ (h v hv)),
    optMember_bool _ "isDeprecated" isDep rfl, optMember_str _ "deprecationReason" reason rfl]
  rfl

theorem decInputValue_json (v : IntroInputValue) (h : refDepth v.ty ≤ typeRefFuel) :
    decInputValue (jsonInputValue v) = some v := by
  obtain ⟨name, ty⟩ := v
  simp only [decInputValue, jsonInputValue, asObj, bind, Option.bind, reqMember, Json.lookup]
  rw [optMember_absent _ "description" _ rfl, optMember_absent _ "defaultValue" _ rfl]
  simp [decStr, decTypeRef_json ty _ h]

theorem decEnumValue_json (v : IntroEnumValue) : decEnumValue (jsonEnumValue v) = some v := by
  obtain ⟨name⟩ := v
  simp only [decEnumValue, jsonEnumValue, asObj, bind, Option.bind]
  rw [optMember_str _ "name" name rfl, optMember_absent _ "description" _ rfl,
    optMember_absent _ "isDeprecated" _ rfl, optMember_absent _ "deprecationReason" _ rfl]
  rfl

theorem jArr_notNull {α} (r : α → Json) (l : List α) : (jArr r l).isNull = false := rfl

theorem decFullType_json (t : FullType) (h : ∀ r ∈ fullTypeRefs t, refDepth r ≤ typeRefFuel) :
    decFullType true (jsonFullType t) = some t := by
  obtain ⟨kind, name, fields, inputFields, interfaces, enumValues, possibleTypes, isOneOf⟩ := t
  simp only [fullTypeRefs, List.mem_append, List.mem_filterMap, List.mem_map] at h
  simp only [decFullType, jsonFullType, asObj, bind, Option.bind, if_true]
  rw [optMember_str _ "kind" kind rfl, optMember_str _ "name" name rfl, optMember_absent _ "description" _ rfl,
    optMember_jOpt _ "fields" _ (jArr jsonField) fields rfl (jArr_notNull _)
      (fun l hl => decList_jArr _ _ l fun f hf => decField_json f fun r hr =>
        h r (.inl (.inl (.inl ⟨f, by simp [hl, hf], hr⟩)))),
    optMember_jOpt _ "inputFields" _ (jArr jsonInputValue) inputFields rfl (jArr_notNull _)
      (fun l hl => decList_jArr _ _ l fun v hv => decInputValue_json v
        (h _ (.inl (.inl (.inr ⟨v, by simp [hl, hv], rfl⟩))))),
    optMember_jOpt _ "interfaces" _ (jArr jsonTypeRef) interfaces rfl (jArr_notNull _)
      (fun l hl => decList_jArr _ _ l fun r hr => decTypeRef_json r _ (h r (.inl (.inr (by simp [hl, hr]))))),
    optMember_jOpt _ "enumValues" _ (jArr jsonEnumValue) enumValues rfl (jArr_notNull _)
      (fun l _ => decList_jArr _ _ l fun v _ => decEnumValue_json v),
    optMember_jOpt _ "possibleTypes" _ (jArr jsonTypeRef) possibleTypes rfl (jArr_notNull _)
      (fun l hl => decList_jArr _ _ l fun r hr => decTypeRef_json r _ (h r (.inr (by simp [hl, hr])))),
    optMember_bool _ "isOneOf" isOneOf rfl]
  rfl

theorem decNameOnly_json (n : Option String) : decNameOnly (jsonRoot n) = some n := by
  simp only [decNameOnly, jsonRoot, asObj, bind, Option.bind]
  exact optMember_str _ "name" n rfl

theorem jsonFullType_notNull (t : FullType) : (jsonFullType t).isNull = false := rfl

theorem decSchema_json (x : IntroSchema) (h : DepthOk x) : decSchema true (jsonSchema x) = some x := by
  obtain ⟨q, m, s, types⟩ := x
  simp only [DepthOk, schemaRefs, List.mem_flatMap, List.mem_filterMap] at h
  simp only [decSchema, jsonSchema, asObj, bind, Option.bind]
  rw [optMember_jOpt _ "queryType" _ jsonRoot q rfl (fun _ => rfl) (fun v _ => decNameOnly_json v),
    optMember_jOpt _ "mutationType" _ jsonRoot m rfl (fun _ => rfl) (fun v _ => decNameOnly_json v),
    optMember_jOpt _ "subscriptionType" _ jsonRoot s rfl (fun _ => rfl) (fun v _ => decNameOnly_json v),
    optMember_jOpt _ "types" _ (jArr (jOpt jsonFullType)) types rfl (jArr_notNull _)
      (fun l hl => decList_jArr _ _ l fun t ht => decOpt_jOpt _ _ t jsonFullType_notNull fun t' ht' =>
        decFullType_json t' fun r hr => h r ⟨t', ⟨some t', by simp [hl, ← ht', ht], rfl⟩, hr⟩),
    optMember_absent _ "directives" _ rfl]
  rfl

/-- **serde round trip of the introspection shape**: the JSON text of an introspection value (bare or
wrapped in `data`, absent members written as `null`) is decoded back to that value -/
theorem parseIntro_json (wrapped : Bool) (x : IntroSchema) (h : DepthOk x) :
    parseIntro true (jsonResponse wrapped x) = some (some x) := by
  have hc : decContainer true (.obj [("__schema", jsonSchema x)]) = some (some x) := by
    simp only [decContainer, asObj, bind, Option.bind]
    exact optMember_jOpt _ "__schema" _ jsonSchema (some x) rfl (fun _ => rfl)
      (fun v hv => by cases hv; exact decSchema_json x h)
  cases wrapped
  · simp only [parseIntro, jsonResponse, Bool.false_eq_true, if_false, asObj, bind, Option.bind, reqMember]
    simp [Json.lookup, hc]
  · simp only [parseIntro, jsonResponse, if_true, asObj, bind, Option.bind, reqMember]
    simp [Json.lookup, hc]

/-- nesting depth of a type expression (= length of its `ofType` chain) -/
def gDepth : GTy → Nat
  | .named _ => 1
  | .list t => gDepth t + 1
  | .nonNull t => gDepth t + 1

theorem refDepth_toTypeRef (k : String) (t : GTy) : refDepth (C13.toTypeRef k t) = gDepth t := by
  induction t <;> simp_all [C13.toTypeRef, refDepth, gDepth]

/-- every type expression of the schema is at most 128 levels deep (list / non-null wrappers + 1) -/
def AS.DepthOk (a : AS) : Prop :=
  (∀ i ∈ a.interfaces, ∀ f ∈ i.fields, gDepth f.ty ≤ 128) ∧
  (∀ o ∈ a.objects, ∀ f ∈ o.fields, gDepth f.ty ≤ 128) ∧
  (∀ i ∈ a.inputs, ∀ f ∈ i.fields, gDepth f.2 ≤ 128)
instance (a : AS) : Decidable a.DepthOk := by unfold AS.DepthOk; infer_instance

theorem depthOk_introOf (a : AS) (bs : List String) (h : a.DepthOk) : DepthOk (introOf bs a) := by
  obtain ⟨h1, h2, h3⟩ := h
  intro r hr
  simp only [schemaRefs, introOf, introSchemaOf, Option.getD_some, filterMap_id_map_some, introTypes,
    List.flatMap_append, List.mem_append, List.mem_flatMap, List.mem_map] at hr
  have hnamed : ∀ n, refDepth (namedRef a n) ≤ typeRefFuel := fun n => by simp [namedRef, refDepth, typeRefFuel]
  have hfield : ∀ fs : List AField, (∀ f ∈ fs, gDepth f.ty ≤ 128) →
      r ∈ (fs.map (introField a)).filterMap (·.ty) → refDepth r ≤ typeRefFuel := by
    intro fs hfs hm
    simp only [List.mem_filterMap, List.mem_map] at hm
    obtain ⟨_, ⟨f, hf, rfl⟩, hty⟩ := hm
    simp only [introField, Option.some.injEq] at hty
    subst hty
    rw [typeRefOf, refDepth_toTypeRef]; exact hfs f hf
  rcases hr with (((((⟨_, ⟨x, _, rfl⟩, hr⟩ | ⟨_, ⟨x, _, rfl⟩, hr⟩) | ⟨_, ⟨x, _, rfl⟩, hr⟩) |
    ⟨_, ⟨x, hx, rfl⟩, hr⟩) | ⟨_, ⟨x, hx, rfl⟩, hr⟩) | ⟨_, ⟨x, _, rfl⟩, hr⟩) | ⟨_, ⟨x, hx, rfl⟩, hr⟩
  · simp [fullTypeRefs, introScalar] at hr
  · simp [fullTypeRefs, introScalar] at hr
  · simp [fullTypeRefs, introEnum] at hr
  · simp only [fullTypeRefs, introIface, Option.getD_some, Option.getD_none, List.map_nil, List.append_nil,
      List.mem_append, List.mem_map] at hr
    rcases hr with hr | ⟨o, _, rfl⟩
    · exact hfield _ (h1 x hx) hr
    · exact hnamed _
  · simp only [fullTypeRefs, introObj, Option.getD_some, Option.getD_none, List.map_nil, List.append_nil,
      List.mem_append, List.mem_map] at hr
    rcases hr with hr | ⟨n, _, rfl⟩
    · exact hfield _ (h2 x hx) hr
    · exact hnamed _
  · simp only [fullTypeRefs, introUnion, Option.getD_some, Option.getD_none, List.map_nil, List.filterMap_nil,
      List.nil_append, List.mem_map] at hr
    obtain ⟨n, _, rfl⟩ := hr
    exact hnamed _
  · simp only [fullTypeRefs, introInput, Option.getD_some, Option.getD_none, List.filterMap_nil,
      List.nil_append, List.append_nil, List.map_map, List.mem_map] at hr
    obtain ⟨f, hf, rfl⟩ := hr
    simp only [Function.comp]
    rw [typeRefOf, refDepth_toTypeRef]; exact h3 x hx f hf

/-- **C07 at the level of the schema files** (`.graphql` text after parsing vs `.json` text after
`serde_json::from_str`): same `Outcome Schema`, bare or `data`-wrapped response. -/
theorem frontends_equal_json (a : AS) (ex wrapped : Bool) (bs : List String) (hw : WfAS a)
    (hex : ex = true ∨ a.DefaultRoots) (hbs : ∀ b ∈ bs, b ∈ Schema.defaultScalars) (hd : a.DepthOk) :
    Sdl.fromSdl (sdlOf ex a) = Intro.fromJson true (jsonResponse wrapped (introOf bs a)) := by
  rw [Intro.fromJson, parseIntro_json wrapped _ (depthOk_introOf a bs hd)]
  exact frontends_equal a ex bs hw hex hbs

example : exAS.DepthOk := by decide +kernel

/-- the depth bound is needed *in the model* (`typeRefFuel` mirrors serde_json's recursion limit): a field of
type `[[…[Int]…]]` with 128 list wrappers is accepted from SDL and rejected from JSON.  (The SDL side of the
model starts from the parsed document; any limit of `graphql_parser` itself is outside it.) -/
def deepList : Nat → GTy
  | 0 => .named "Int"
  | n + 1 => .list (deepList n)

set_option maxRecDepth 10000 in
example :
    let a : AS := { objects := [⟨"O", [], [⟨"f", deepList 128, none⟩]⟩] }
    WfAS a ∧ ¬ a.DepthOk ∧ (Sdl.fromSdl (sdlOf true a)).toOption.isSome = true ∧
    Intro.fromJson true (jsonResponse false (introOf [] a)) = .error (.panic "serde_json::from_str(..).unwrap()") :=
  ⟨by decide +kernel, by decide +kernel, by decide +kernel, by rfl⟩
example : (Intro.fromJson true (jsonResponse true (introOf Schema.defaultScalars exAS))).toOption = some exSchema := by
  decide +kernel

end JsonText

end C07
end GqlVerif
