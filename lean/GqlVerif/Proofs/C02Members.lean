import GqlVerif.Proofs.C02Response
/-!
# C02 — the member identifiers of the response items, computed from the selection tree

`Proofs/C02Response.lean` characterises `Scope.wellScoped` on the emitted module as `NoClash` (a decidable
predicate on schema + query) **and** "no emitted item has two members of one identifier" — the latter still
stated on the OUTPUT.  This file reduces it to the input for the `calc*` block (`Model/Codegen.lean`):

* `selectionMembers c ty sels` — the list of member-identifier lists (one entry per emitted item, in emission
  order) of the items `calcSelection c _ name pfx ty sels` emits, computed from the schema, the resolved
  selection tree, the options and the case functions only (it does not depend on `name` / `pfx`); the selections
  attached to a variant are read off `C02M.toVsel`, which stands in `Proofs/C02Closure.lean`;
* `calc_members` — for every fuel, name, prefix, type and selection list for which `calcSelection` succeeds,
  `items.map C02.memberIdents = selectionMembers c ty sels` (list equality: same order, same multiplicity; no
  hypothesis).  By induction on the derivation of the call (`C02.CalcSel.members`).

Per selection set the entry is: `keywordReplace (snake (alias-or-name))` of every kept (not denied) field
selection and `keywordReplace (snake F)` of every spread of a fragment on the same type, in order, followed by
`on` when the type has both members and variants; the entry of the variant enum is the type names of the possible
types (plus `Unknown` under `fragments_other_variant`); per variant struct: the members of every inline fragment
on the variant (all of them contribute), `snake F` (not keyword-escaped) of every spread of a fragment on the
variant, then `snake F` of every inline fragment that is a lone spread.
-/
namespace GqlVerif
namespace C02M
open Codegen C02

/-! ## 1. the member lists, computed from the selection tree -/

/-- is the field selection kept (`deny` omits deprecated fields)? -/
def kept (c : Ctx) (sf : StoredField) : Bool := !(sf.deprecation.isSome && c.o.deprecation == .deny)

/-- the member a selection contributes to the struct of type `ty` (field loop of `calculate_selection`) -/
def selIdent (c : Ctx) (ty : TypeId) : Sel → List String
  | .field a fid _ =>
    match c.s.fields[fid]? with
    | some sf => if kept c sf then [keywordReplace (c.cs.snake (a.getD sf.name))] else []
    | none => []
  | .spread g =>
    match c.q.fragments[g]? with
    | some fr => if fr.on == ty then [keywordReplace (c.cs.snake fr.name)] else []
    | none => []
  | _ => []

/-- Rust identifiers of the members the field loop emits for the struct of type `ty`, in order -/
def fieldIdents (c : Ctx) (ty : TypeId) (sels : List Sel) : List String := sels.flatMap (selIdent c ty)

/-- identifiers of the variants of the tagged enum emitted for an abstract type (`[]` for a concrete type) -/
def variantIdents (c : Ctx) (ty : TypeId) : List String :=
  match variantsOf c.s ty with
  | .ok (some vts) => vts.map (tnOf c) ++ (if c.o.otherVariant then ["Unknown"] else [])
  | _ => []

/-- the member lists of the items `renderType` emits: the variant enum alone, the struct alone, or the struct
    with the flattened `on` member followed by the variant enum -/
def headMembers (fs vs : List String) : List (List String) :=
  if fs.isEmpty && !vs.isEmpty then [vs]
  else if vs.isEmpty then [fs]
  else [fs ++ ["on"], vs]

/-- the selections of a selection set on the abstract type `ty` that are attached to the variant `vt` -/
def mineOf (c : Ctx) (ty vt : TypeId) (sels : List Sel) : List VariantSel :=
  (sels.filterMap (toVsel c ty)).filter (fun v => v.typeId == vt)

def loneSpread? : List Sel → Option Nat
  | [.spread g] => some g
  | _ => none

def isSingleSpread : List VariantSel → Bool
  | [.spread _ _] => true
  | _ => false

/-- members a selection on the variant `vt` contributes to the variant struct directly -/
def vselF (c : Ctx) (vt : TypeId) : VariantSel → List String
  | .inline _ sub => if isLoneSpread sub then [] else fieldIdents c vt sub
  | .spread _ fr => [c.cs.snake fr.name]

def vselFs (c : Ctx) (vt : TypeId) (mine : List VariantSel) : List String := mine.flatMap (vselF c vt)

/-- the aliased fragments (`... on T { ...F }`): fragment name and boxing, in order -/
def vselA (c : Ctx) : VariantSel → List (String × Bool)
  | .inline _ sub =>
    match loneSpread? sub with
    | some g =>
      (match c.q.fragments[g]? with
       | some fr => [(fr.name, fragmentIsRecursive c.q g)]
       | none => [])
    | none => []
  | .spread _ _ => []

def vselAl (c : Ctx) (mine : List VariantSel) : List (String × Bool) := mine.flatMap (vselA c)

/-- the member list of the item emitted under the variant's struct name: nothing for a type alias (a single
    spread, or nothing but one aliased fragment — "nothing but": no field was *pushed* for the struct,
    `pushedAny`, the generator's `has_fields`; a field pushed and then omitted under `deny` still makes it a struct),
    otherwise the members of all selections on the variant followed by one flattened member per aliased fragment -/
def stepHead (c : Ctx) (vt : TypeId) (mine : List VariantSel) : List String :=
  if isSingleSpread mine then []
  else if !pushedAny c.q vt mine && (vselAl c mine).length == 1 then []
  else vselFs c vt mine ++ (vselAl c mine).map (fun p => c.cs.snake p.1)

mutual
  /-- member lists of the items the field loop emits for one selection -/
  def selMembers (c : Ctx) : Sel → List (List String)
    | .field _ fid sub =>
      match c.s.fields[fid]? with
      | none => []
      | some sf =>
        match sf.ty.id with
        | .enum _ => []
        | .scalar _ => []
        | .input _ => []
        | t =>
          if isLoneSpread sub then [[]] else
          headMembers (fieldIdents c t sub) (variantIdents c t) ++
          (vtsOf c t).flatMap (fun vt =>
            if (mineOf c t vt sub).isEmpty then [] else stepHead c vt (mineOf c t vt sub) :: inlsMembers c vt sub) ++
          selsMembers c sub
    | _ => []
  def selsMembers (c : Ctx) : List Sel → List (List String)
    | [] => []
    | x :: xs => selMembers c x ++ selsMembers c xs
  /-- member lists of the nested items emitted for an inline fragment on the variant `vt` -/
  def inlMembers (c : Ctx) (vt : TypeId) : Sel → List (List String)
    | .inline t sub =>
      if t == vt then (if isLoneSpread sub then [] else selsMembers c sub) else []
    | _ => []
  def inlsMembers (c : Ctx) (vt : TypeId) : List Sel → List (List String)
    | [] => []
    | x :: xs => inlMembers c vt x ++ inlsMembers c vt xs
end

/-- **member lists of the items `calcSelection c _ name pfx ty sels` emits**, computed from the selection tree
    (one entry per item, in emission order; independent of `name` and `pfx`) -/
def selectionMembers (c : Ctx) (ty : TypeId) (sels : List Sel) : List (List String) :=
  if isLoneSpread sels then [[]] else
  headMembers (fieldIdents c ty sels) (variantIdents c ty) ++
  (vtsOf c ty).flatMap (fun vt =>
    if (mineOf c ty vt sels).isEmpty then [] else stepHead c vt (mineOf c ty vt sels) :: inlsMembers c vt sels) ++
  selsMembers c sels

/-- member lists of the nested items of one selection on a variant -/
def vselMembers (c : Ctx) : VariantSel → List (List String)
  | .inline _ sub => if isLoneSpread sub then [] else selsMembers c sub
  | .spread _ _ => []

def vselsMembers (c : Ctx) (mine : List VariantSel) : List (List String) := mine.flatMap (vselMembers c)

/-- member lists of the items the per-variant loop emits -/
def variantsMembers (c : Ctx) (vsels : List VariantSel) (vts : List TypeId) : List (List String) :=
  vts.flatMap (fun vt =>
    if (vsels.filter (fun v => v.typeId == vt)).isEmpty then []
    else stepHead c vt (vsels.filter (fun v => v.typeId == vt)) ::
      vselsMembers c (vsels.filter (fun v => v.typeId == vt)))

/-! ## 2. auxiliary facts -/

theorem memberIdents_aliasItem (n t : String) (b : Bool) : memberIdents (aliasItem n t b) = [] := rfl

theorem members_renderType (c : Ctx) (name : String) (fs : List RField) (vs : List RVariant) :
    (renderType c name fs vs).map memberIdents = headMembers (fs.map (·.rust)) (vs.map (·.name)) := by
  unfold renderType headMembers
  cases fs <;> cases vs <;> simp [memberIdents]

theorem headMembers_nil_right (fs : List String) : headMembers fs [] = [fs] := by
  unfold headMembers
  cases fs <;> simp

/-- the Rust identifier `renderField` gives the member, when it emits one -/
theorem renderField_rust {c : Ctx} {g : Option String} {r ft : String} {quals : List Qual} {fl bx : Bool}
    {dep : Option (Option String)} {o : Option RField}
    (h : renderField c g r ft quals fl bx dep = .ok o) :
    o.toList.map (·.rust) = if !(dep.isSome && c.o.deprecation == .deny) then [r] else [] := by
  obtain ⟨_, _, hc⟩ := renderField_cases h
  rcases hc with ⟨rfl, h1, h2⟩ | ⟨f, rfl, hn, hr, _, _, _⟩
  · simp [h1, h2]
  · have : (!(dep.isSome && c.o.deprecation == .deny)) = true := by
      cases h1 : dep.isSome
      · rfl
      · by_cases h2 : c.o.deprecation = .deny
        · exact absurd ⟨h1, h2⟩ hn
        · simp [h2]
    rw [this]
    simp [hr]

theorem renderField_rust_nodep {c : Ctx} {g : Option String} {r ft : String} {quals : List Qual} {fl bx : Bool}
    {o : Option RField} (h : renderField c g r ft quals fl bx none = .ok o) :
    o.toList.map (·.rust) = [r] := by
  rw [renderField_rust h]; rfl

theorem loneSpread?_none {sub : List Sel} (h : ∀ g, sub ≠ [Sel.spread g]) : loneSpread? sub = none := by
  unfold loneSpread?
  split
  · rename_i g; exact absurd rfl (h g)
  · rfl

/-- the nested member lists of the selections attached to a variant, seen from the selection set -/
theorem vselsMembers_mineOf (c : Ctx) (ty vt : TypeId) : ∀ sels : List Sel,
    vselsMembers c (mineOf c ty vt sels) = inlsMembers c vt sels
  | [] => by simp [vselsMembers, mineOf, inlsMembers]
  | x :: xs => by
    have ih := vselsMembers_mineOf c ty vt xs
    unfold mineOf vselsMembers at ih ⊢
    rw [inlsMembers.eq_2, List.filterMap_cons]
    cases x with
    | inline t sub =>
      simp only [toVsel]
      rw [filter_typeId_inline, inlMembers.eq_1]
      cases htv : (t == vt)
      · simpa using ih
      · simp only [if_true, List.flatMap_cons, vselMembers, ih]
    | spread g =>
      rw [inlMembers.eq_2 _ _ _ (by simp)]
      simp only [toVsel]
      cases hfr : c.q.fragments[g]? with
      | none => simpa using ih
      | some fr =>
        simp only []
        cases hon : (fr.on == ty)
        · simp only [Bool.false_eq_true, if_false]
          rw [filter_typeId_spread]
          cases (fr.on == vt)
          · simpa using ih
          · simpa [List.flatMap_cons, vselMembers] using ih
        · simpa using ih
    | field a b c' =>
      rw [inlMembers.eq_2 _ _ _ (by simp)]
      simpa [toVsel] using ih
    | typename =>
      rw [inlMembers.eq_2 _ _ _ (by simp)]
      simpa [toVsel] using ih

theorem selMembers_composite {c : Ctx} {a : Option String} {fid : Nat} {sub : List Sel}
    {sf : StoredField} (hsf : c.s.fields[fid]? = some sf)
    (h1 : ∀ e, sf.ty.id ≠ .enum e) (h2 : ∀ k, sf.ty.id ≠ .scalar k) (h3 : ∀ i, sf.ty.id ≠ .input i) :
    selMembers c (.field a fid sub) = selectionMembers c sf.ty.id sub := by
  rw [selMembers.eq_1]
  simp only [hsf]
  rfl

/-- the aliased fragments rendered as flattened members: `snake F` each -/
theorem aliasMembers_rust {c : Ctx} {sname : String} : ∀ {specs : List (String × Bool)} {extra : List (List RField)},
    (specs.map (fun p => aliasItem sname p.1 p.2)).mapM (aliasMember c) = .ok extra →
    extra.flatten.map (·.rust) = specs.map (fun p => c.cs.snake p.1)
  | [], extra, h => by
    simp only [List.map_nil, List.mapM_nil, pure, Except.pure, Except.ok.injEq] at h
    subst h; rfl
  | p :: ps, extra, h => by
    rw [List.map_cons, List.mapM_cons] at h
    obtain ⟨fs, hfs, h⟩ := bind_ok h
    obtain ⟨rest, hrest, h⟩ := bind_ok h
    simp only [pure, Except.pure, Except.ok.injEq] at h
    subst h
    rw [aliasMember_aliasItem] at hfs
    obtain ⟨fld, hfld, hfs⟩ := bind_ok hfs
    simp only [pure, Except.pure, Except.ok.injEq] at hfs
    subst hfs
    rw [List.flatten_cons, List.map_append, renderField_rust_nodep hfld, aliasMembers_rust hrest]
    rfl

theorem isSingleSpread_false {mine : List VariantSel} (h : ∀ fid fr, mine ≠ [.spread fid fr]) :
    isSingleSpread mine = false := by
  unfold isSingleSpread
  split
  · rename_i fid fr; exact absurd rfl (h fid fr)
  · rfl

/-! ## 3. the induction on the derivation -/

section Members
variable {c : Ctx}

theorem renderField_selIdent {ty : TypeId} {a : Option String} {fid : Nat} {sub : List Sel} {sf : StoredField}
    {ft : String} {o : Option RField} (hsf : c.s.fields[fid]? = some sf)
    (ho : renderField c (some (a.getD sf.name)) (keywordReplace (c.cs.snake (a.getD sf.name))) ft sf.ty.quals false false
      sf.deprecation = .ok o) : o.toList.map (·.rust) = selIdent c ty (.field a fid sub) := by
  rw [renderField_rust ho]
  simp only [selIdent, hsf, kept]
  rfl

/-- one more variant: its items in front of those of the remaining variants -/
theorem variantsMembers_cons {vsels : List VariantSel} {vt : TypeId} {rest : List TypeId} {thisItems items : List Item}
    (hthis : thisItems.map memberIdents =
      if (vsels.filter (fun v => v.typeId == vt)).isEmpty then []
      else stepHead c vt (vsels.filter (fun v => v.typeId == vt)) ::
        vselsMembers c (vsels.filter (fun v => v.typeId == vt)))
    (ih : items.map memberIdents = variantsMembers c vsels rest) :
    (thisItems ++ items).map memberIdents = variantsMembers c vsels (vt :: rest) := by
  rw [List.map_append, hthis, ih]
  unfold variantsMembers
  rw [List.flatMap_cons]

/-- **the member identifiers of the items of a `calcSelection` call** are the lists computed from the selection tree
    (one per item, same order) -/
theorem _root_.GqlVerif.C02.CalcSel.members {name pfx : String} {ty : TypeId} {sels : List Sel} {items : List Item}
    (h : CalcSel c name pfx ty sels items) : items.map memberIdents = selectionMembers c ty sels := by
  induction h using CalcSel.rec
    (motive_2 := fun _ _ vsels vts vs items _ =>
      items.map memberIdents = variantsMembers c vsels vts ∧ vs.map (·.name) = vts.map (tnOf c))
    (motive_3 := fun sname _ vt mine fs items al _ =>
      fs.map (·.rust) = vselFs c vt mine ∧ items.map memberIdents = vselsMembers c mine ∧
      al = (vselAl c mine).map (fun p => aliasItem sname p.1 p.2))
    (motive_4 := fun _ ty sels fs items _ =>
      fs.map (·.rust) = fieldIdents c ty sels ∧ items.map memberIdents = selsMembers c sels) with
  | alias _ => simp [memberIdents_aliasItem, selectionMembers, isLoneSpread]
  | concrete hsp hv _ ih =>
    unfold selectionMembers
    rw [isLoneSpread_false hsp]
    simp only [Bool.false_eq_true, if_false]
    rw [List.map_append, members_renderType, ih.1, ih.2]
    simp [variantIdents, vtsOf, hv]
  | @abstract name pfx ty sels vts vsels vs vitems fs fitems hsp hv hvs _ _ ihv ihf =>
    unfold selectionMembers
    rw [isLoneSpread_false hsp]
    simp only [Bool.false_eq_true, if_false]
    rw [List.map_append, List.map_append, members_renderType, ihf.1, ihf.2]
    have hV : (vs ++ if c.o.otherVariant = true then [({ name := "Unknown", other := true } : RVariant)] else []).map
        (·.name) = variantIdents c ty := by
      simp only [variantIdents, hv, List.map_append, ihv.2]
      cases c.o.otherVariant <;> rfl
    rw [hV, ihv.1]
    congr 2
    unfold variantsMembers
    simp only [vtsOf, hv]
    congr 1
    funext vt
    have hmine : vsels.filter (fun v => v.typeId == vt) = mineOf c ty vt sels := by
      rw [vsels_eq hvs]; rfl
    rw [hmine, vselsMembers_mineOf]
  | vnil => exact ⟨rfl, rfl⟩
  | bare hn hm _ ih =>
    exact ⟨variantsMembers_cons (thisItems := []) (by simp [hm]) ih.1, by simp only [List.map_cons, ih.2, tnOf_ok hn]⟩
  | lone hn hm _ ih =>
    refine ⟨variantsMembers_cons (thisItems := [_]) ?_ ih.1, by simp only [List.map_cons, ih.2, tnOf_ok hn]⟩
    rw [hm]
    simp [memberIdents_aliasItem, stepHead, isSingleSpread, vselsMembers, vselMembers]
  | @aliasOnly name pfx vsels vt rest vname mine fs its a vs items hn hm hne hns _ hp _ ihs ih =>
    subst hm
    obtain ⟨_, r2, r3⟩ := ihs
    refine ⟨variantsMembers_cons (thisItems := a :: its) ?_ ih.1, by simp only [List.map_cons, ih.2, tnOf_ok hn]⟩
    have hL : (vselAl c (vsels.filter (fun v => v.typeId == vt))).length = 1 := by
      simpa using (congrArg List.length r3).symm
    have ha : memberIdents a = [] := by
      have : a ∈ [a] := List.mem_cons_self
      rw [r3] at this
      obtain ⟨p, _, rfl⟩ := List.mem_map.mp this
      rfl
    rw [List.isEmpty_eq_false_iff.mpr hne]
    unfold stepHead
    rw [isSingleSpread_false hns, hp, hL, List.map_cons, ha, r2]
    simp
  | @struct name pfx vsels vt rest vname mine fs its als extra vs items hn hm hne hns _ hp hex _ ihs ih =>
    subst hm
    obtain ⟨r1, r2, r3⟩ := ihs
    refine ⟨variantsMembers_cons (thisItems := renderType c _ (fs ++ extra.flatten) [] ++ its) ?_ ih.1,
      by simp only [List.map_cons, ih.2, tnOf_ok hn]⟩
    have hcond : ((!pushedAny c.q vt (vsels.filter (fun v => v.typeId == vt))) &&
        (vselAl c (vsels.filter (fun v => v.typeId == vt))).length == 1) = false := by
      rw [Bool.and_eq_false_iff]
      cases hF : pushedAny c.q vt (vsels.filter (fun v => v.typeId == vt)) with
      | false =>
        right
        cases hL : (vselAl c (vsels.filter (fun v => v.typeId == vt))) with
        | nil => rfl
        | cons p ps =>
          cases ps with
          | cons _ _ => rfl
          | nil =>
            exfalso
            rw [hL] at r3
            exact hp hF _ r3
      | true => left; rfl
    rw [List.isEmpty_eq_false_iff.mpr hne]
    unfold stepHead
    rw [isSingleSpread_false hns, hcond]
    simp only [Bool.false_eq_true, if_false]
    rw [List.map_append, members_renderType, List.map_nil, headMembers_nil_right, List.map_append, r1, r2]
    rw [r3] at hex
    rw [aliasMembers_rust hex]
    rfl
  | snil => exact ⟨rfl, rfl, rfl⟩
  | inlineLone _ hfr _ ih =>
    have hfr := getFragment_ok hfr
    obtain ⟨ih1, ih2, ih3⟩ := ih
    unfold vselFs at ih1
    unfold vselsMembers at ih2
    unfold vselAl at ih3
    unfold vselFs vselsMembers vselAl
    rw [List.flatMap_cons, List.flatMap_cons, List.flatMap_cons, ← ih1, ← ih2, ih3]
    exact ⟨by simp [vselF, isLoneSpread], by simp [vselMembers, isLoneSpread], by simp [vselA, loneSpread?, hfr]⟩
  | inlineFields _ hns _ _ ihf ih =>
    obtain ⟨ih1, ih2, ih3⟩ := ih
    unfold vselFs at ih1
    unfold vselsMembers at ih2
    unfold vselAl at ih3
    unfold vselFs vselsMembers vselAl
    rw [List.flatMap_cons, List.flatMap_cons, List.flatMap_cons, List.map_append, List.map_append, ih1, ih2, ih3,
      ihf.1, ihf.2]
    exact ⟨by simp [vselF, isLoneSpread_false hns], by simp [vselMembers, isLoneSpread_false hns],
      by simp [vselA, loneSpread?_none hns]⟩
  | spreadMember hfld _ ih =>
    obtain ⟨ih1, ih2, ih3⟩ := ih
    unfold vselFs at ih1
    unfold vselsMembers at ih2
    unfold vselAl at ih3
    unfold vselFs vselsMembers vselAl
    rw [List.flatMap_cons, List.flatMap_cons, List.flatMap_cons]
    refine ⟨?_, ?_, ?_⟩
    · rw [List.map_append, renderField_rust_nodep hfld, ih1]; rfl
    · rw [ih2]; rfl
    · rw [ih3]; rfl
  | nil => simp [selsMembers, fieldIdents]
  | @enum pfx ty a fid sub rest sf e en fld fs items hsf he _ hfld _ ih =>
    have hsf := getField_ok hsf
    obtain ⟨ih1, ih2⟩ := ih
    unfold fieldIdents at ih1 ⊢
    rw [selsMembers.eq_2, List.flatMap_cons, List.map_append, ih1, ih2, renderField_selIdent (ty := ty) (sub := sub) hsf hfld, selMembers.eq_1]
    simp [hsf, he]
  | @scalar pfx ty a fid sub rest sf k sn fld fs items hsf hk _ hfld _ ih =>
    have hsf := getField_ok hsf
    obtain ⟨ih1, ih2⟩ := ih
    unfold fieldIdents at ih1 ⊢
    rw [selsMembers.eq_2, List.flatMap_cons, List.map_append, ih1, ih2, renderField_selIdent (ty := ty) (sub := sub) hsf hfld, selMembers.eq_1]
    simp [hsf, hk]
  | @nested pfx ty a fid sub rest sf fld its fs items hsf h1 h2 h3 hfld _ _ ihs ih =>
    have hsf := getField_ok hsf
    obtain ⟨ih1, ih2⟩ := ih
    unfold fieldIdents at ih1 ⊢
    rw [selsMembers.eq_2, List.flatMap_cons, List.map_append, List.map_append, ih1, ih2,
      renderField_selIdent (ty := ty) (sub := sub) hsf hfld, selMembers_composite hsf h1 h2 h3, ihs]
    exact ⟨rfl, rfl⟩
  | @spreadOther pfx ty g fr rest fs items hfr hc _ ih =>
    have hfr := getFragment_ok hfr
    obtain ⟨ih1, ih2⟩ := ih
    unfold fieldIdents at ih1 ⊢
    have : (fr.on == ty) = false := by simpa using hc
    rw [selsMembers.eq_2, List.flatMap_cons, ih1, ih2, selMembers.eq_2 _ _ (by simp)]
    exact ⟨by simp [selIdent, hfr, this], by simp⟩
  | @spreadHere pfx ty g fr fld rest fs items hfr hc hfld _ ih =>
    have hfr := getFragment_ok hfr
    obtain ⟨ih1, ih2⟩ := ih
    unfold fieldIdents at ih1 ⊢
    have : (fr.on == ty) = true := by simpa using hc
    rw [selsMembers.eq_2, List.flatMap_cons, List.map_append, renderField_rust_nodep hfld, ih1, ih2,
      selMembers.eq_2 _ _ (by simp)]
    exact ⟨by simp [selIdent, hfr, this], by simp⟩
  | typename _ ih =>
    obtain ⟨ih1, ih2⟩ := ih
    unfold fieldIdents at ih1 ⊢
    rw [selsMembers.eq_2, List.flatMap_cons, ih1, ih2, selMembers.eq_2 _ _ (by simp)]
    simp [selIdent]
  | inline _ ih =>
    obtain ⟨ih1, ih2⟩ := ih
    unfold fieldIdents at ih1 ⊢
    rw [selsMembers.eq_2, List.flatMap_cons, ih1, ih2, selMembers.eq_2 _ _ (by simp)]
    simp [selIdent]

/-- `CalcSel.members` about a run — for every context, fuel, name, prefix, type and selection list -/
theorem calc_members {fuel : Nat} {name pfx : String} {ty : TypeId} {sels : List Sel} {items : List Item}
    (h : calcSelection c fuel name pfx ty sels = .ok items) : items.map memberIdents = selectionMembers c ty sels :=
  (CalcSel.of_ok h).members

end Members

end C02M
end GqlVerif
