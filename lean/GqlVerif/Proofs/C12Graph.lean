import GqlVerif.Proofs.GeneratorParts
import Mathlib.Logic.Relation
import GqlVerif.Proofs.SerdeBasics
/-!
# C12 — recursive input types and fragments get finite-size Rust types

An indirection (`Box`) is inserted on every cycle that does not already pass through a list.
All statements are about the model's own functions (`Codegen.containsWithoutIndirection`,
`inputIsRecursive`, `inputFieldType`, `reachesFragment`, `fragmentIsRecursive`, `renderField`,
`Serde.deTyWith` / `serTyWith` / `deFlat`), for every schema / query, no size bound.

Input types: the graph is `direct s a b` (input `a` has a non-list field of input type `b`).  A flagged type lies on a
`direct` cycle; under `InputsWf s` every type on a cycle is flagged, with fuel `#inputs + 1` — of `InputsWf` only
`NamesDistinct s` is used (the visited set is keyed by name; `exDup` shows it is needed).  Hence the edges left
by-value after boxing form no cycle (`boxed_acyclic`), `inputFieldType` puts `Box` exactly at recursive targets, and
`Box` is invisible to (de)serialization (`box_transparent`).

Fragments: the graph is `spreadsTo q a b` (`...b` occurs at any depth in fragment `a`).  The same facts, with no
hypothesis; `walkFuel q` is enough (`rf_complete_of_fuel`, `walkFuel_sufficient`).
-/
namespace GqlVerif
namespace C12Graph
open Codegen
open Relation (TransGen)

/-! ## input types: the graph -/

/-- input `a` has a field of input type `b` that is not behind a list -/
def direct (s : Schema) (a b : Nat) : Prop :=
  ∃ inp, s.inputs[a]? = some inp ∧ ∃ f ∈ inp.fields, f.2.id = .input b ∧ f.2.isIndirected = false

def OnDirectCycle (s : Schema) (t : Nat) : Prop := TransGen (direct s) t t

/-- the edges that stay by-value after boxing -/
def byValue (s : Schema) (a b : Nat) : Prop := direct s a b ∧ inputIsRecursive s b = false

def inputsWf (s : Schema) : Bool :=
  decide ((s.inputs.map (·.name)).Nodup) &&
  s.inputs.all (fun inp => inp.fields.all (fun f =>
    match f.2.id.asInput? with
    | some i => decide (i < s.inputs.length)
    | none => true))

/-- input type names are pairwise distinct and every `TypeId.input i` in a field is in range -/
def InputsWf (s : Schema) : Prop := inputsWf s = true
instance (s : Schema) : Decidable (InputsWf s) := inferInstanceAs (Decidable (_ = true))

theorem asInput?_eq_some {t : TypeId} {i : Nat} : t.asInput? = some i ↔ t = .input i := by
  cases t <;> simp [TypeId.asInput?]

/-- the part of `InputsWf` that completeness really needs: the visited set is keyed by *name* -/
def NamesDistinct (s : Schema) : Prop := (s.inputs.map (·.name)).Nodup
instance (s : Schema) : Decidable (NamesDistinct s) := inferInstanceAs (Decidable (List.Nodup _))

theorem InputsWf.nodup {s : Schema} (h : InputsWf s) : NamesDistinct s := by
  simp only [InputsWf, inputsWf, Bool.and_eq_true, decide_eq_true_eq] at h
  exact h.1

theorem InputsWf.range {s : Schema} (h : InputsWf s) {a : Nat} {inp : StoredInput}
    (ha : s.inputs[a]? = some inp) {f : String × FieldType} (hf : f ∈ inp.fields) {b : Nat}
    (hb : f.2.id = .input b) : b < s.inputs.length := by
  simp only [InputsWf, inputsWf, Bool.and_eq_true, List.all_eq_true] at h
  have := h.2 inp (List.mem_of_getElem? ha) f hf
  rw [asInput?_eq_some.mpr hb] at this
  simpa using this

theorem NamesDistinct.name_inj {s : Schema} (hnd : NamesDistinct s) {x y : Nat} {ix iy : StoredInput}
    (hx : s.inputs[x]? = some ix) (hy : s.inputs[y]? = some iy) (hn : ix.name = iy.name) : x = y := by
  unfold NamesDistinct at hnd
  rw [List.nodup_iff_pairwise_ne, List.pairwise_iff_getElem] at hnd
  obtain ⟨hxl, hxe⟩ := List.getElem?_eq_some_iff.mp hx
  obtain ⟨hyl, hye⟩ := List.getElem?_eq_some_iff.mp hy
  rcases Nat.lt_trichotomy x y with hlt | heq | hgt
  · exact (hnd x y (by simpa using hxl) (by simpa using hyl) hlt (by simp [hxe, hye, hn])).elim
  · exact heq
  · exact (hnd y x (by simpa using hyl) (by simpa using hxl) hgt (by simp [hxe, hye, hn])).elim

/-! ## the model function as a fold of a named step -/

def cwiStep (s : Schema) (target fuel : Nat) (acc : Bool × List String) (f : String × FieldType) :
    Bool × List String :=
  if acc.1 then acc else
  if f.2.isIndirected then acc else
  match f.2.id.asInput? with
  | none => acc
  | some fid =>
    if fid == target then (true, acc.2) else
    match s.inputs[fid]? with
    | none => acc
    | some i =>
      if acc.2.contains i.name then acc
      else containsWithoutIndirection s target fuel acc.2 i

theorem cwi_succ (s : Schema) (target fuel : Nat) (visited : List String) (input : StoredInput) :
    containsWithoutIndirection s target (fuel+1) visited input
      = input.fields.foldl (cwiStep s target fuel) (false, input.name :: visited) := by
  rw [containsWithoutIndirection]
  rfl

/-! ## soundness -/

theorem cwiStep_sound (s : Schema) (target fuel a : Nat) (inp : StoredInput)
    (ha : s.inputs[a]? = some inp)
    (ih : ∀ visited b i, s.inputs[b]? = some i →
      (containsWithoutIndirection s target fuel visited i).1 = true → TransGen (direct s) b target)
    (acc : Bool × List String) (f : String × FieldType) (hf : f ∈ inp.fields)
    (h : (cwiStep s target fuel acc f).1 = true) :
    acc.1 = true ∨ TransGen (direct s) a target := by
  unfold cwiStep at h
  split at h
  · left; assumption
  · split at h
    · left; exact h
    · rename_i hind
      split at h
      · left; exact h
      · rename_i fid hfid
        have hid := asInput?_eq_some.mp hfid
        have hdir : direct s a fid := ⟨inp, ha, f, hf, hid, by simpa using hind⟩
        split at h
        · rename_i heq
          have : fid = target := by simpa using heq
          right; exact this ▸ TransGen.single hdir
        · split at h
          · left; exact h
          · rename_i i hi
            split at h
            · left; exact h
            · right; exact TransGen.head hdir (ih _ fid i hi h)

theorem cwiFold_sound (s : Schema) (target fuel a : Nat) (inp : StoredInput)
    (ha : s.inputs[a]? = some inp)
    (ih : ∀ visited b i, s.inputs[b]? = some i →
      (containsWithoutIndirection s target fuel visited i).1 = true → TransGen (direct s) b target) :
    ∀ (fs : List (String × FieldType)) (acc : Bool × List String), (∀ f ∈ fs, f ∈ inp.fields) →
      (fs.foldl (cwiStep s target fuel) acc).1 = true → acc.1 = true ∨ TransGen (direct s) a target := by
  intro fs
  induction fs with
  | nil => intro acc _ h; left; simpa using h
  | cons f fs ihfs =>
    intro acc hsub h
    simp only [List.foldl_cons] at h
    rcases ihfs _ (fun g hg => hsub g (by simp [hg])) h with h1 | h2
    · exact cwiStep_sound s target fuel a inp ha ih acc f (hsub f (by simp)) h1
    · right; exact h2

theorem cwi_sound (s : Schema) (target : Nat) :
    ∀ (fuel : Nat) (visited : List String) (a : Nat) (inp : StoredInput), s.inputs[a]? = some inp →
      (containsWithoutIndirection s target fuel visited inp).1 = true → TransGen (direct s) a target := by
  intro fuel
  induction fuel with
  | zero => intro visited a inp _ h; simp [containsWithoutIndirection] at h
  | succ n ih =>
    intro visited a inp ha h
    rw [cwi_succ] at h
    rcases cwiFold_sound s target n a inp ha ih inp.fields _ (fun _ h => h) h with h1 | h2
    · simp at h1
    · exact h2

/-- a type flagged recursive lies on a cycle of non-list input-object fields -/
theorem inputIsRecursive_sound (s : Schema) (t : Nat) (h : inputIsRecursive s t = true) :
    OnDirectCycle s t := by
  unfold inputIsRecursive at h
  split at h
  · simp at h
  · rename_i i hi
    exact cwi_sound s t _ [] t i hi h

/-! ## completeness -/

/-- input types whose name has not been visited yet -/
def remaining (s : Schema) (visited : List String) : Nat :=
  s.inputs.countP (fun i => !visited.contains i.name)

theorem remaining_mono (s : Schema) {v v' : List String} (h : ∀ n ∈ v, n ∈ v') :
    remaining s v' ≤ remaining s v := by
  unfold remaining
  apply List.countP_mono_left
  intro x _ hx
  simp only [Bool.not_eq_true', List.contains_eq_mem, decide_eq_false_iff_not] at hx ⊢
  exact fun hm => hx (h _ hm)

theorem remaining_decreases (s : Schema) (visited : List String) (a : Nat) (inp : StoredInput)
    (ha : s.inputs[a]? = some inp) (hv : inp.name ∉ visited) :
    remaining s (inp.name :: visited) < remaining s visited := by
  unfold remaining
  apply C17.countP_lt _ _ _ inp (List.mem_of_getElem? ha)
  · simpa using hv
  · simp
  · intro y hy
    simp only [List.contains_cons, Bool.not_eq_true', Bool.or_eq_false_iff] at hy
    simpa using hy.2

theorem remaining_nil (s : Schema) : remaining s [] = s.inputs.length := by
  unfold remaining
  simp

/-- every direct successor of `x` is not the target and has been visited -/
def Closed (s : Schema) (target : Nat) (V : List String) (x : Nat) : Prop :=
  ∀ y, direct s x y → y ≠ target ∧ ∀ iy, s.inputs[y]? = some iy → iy.name ∈ V

theorem Closed.mono {s : Schema} {target : Nat} {V V' : List String} {x : Nat}
    (h : Closed s target V x) (hsub : ∀ n ∈ V, n ∈ V') : Closed s target V' x := by
  intro y hy
  obtain ⟨h1, h2⟩ := h y hy
  exact ⟨h1, fun iy hiy => hsub _ (h2 iy hiy)⟩

/-- what one call of the DFS guarantees -/
def CwiSpec (s : Schema) (target fuel : Nat) : Prop :=
  ∀ (visited : List String) (a : Nat) (inp : StoredInput), s.inputs[a]? = some inp →
    inp.name ∉ visited → remaining s visited < fuel →
    (∀ n ∈ visited, n ∈ (containsWithoutIndirection s target fuel visited inp).2) ∧
    inp.name ∈ (containsWithoutIndirection s target fuel visited inp).2 ∧
    ((containsWithoutIndirection s target fuel visited inp).1 = false →
      ∀ x ix, s.inputs[x]? = some ix →
        ix.name ∈ (containsWithoutIndirection s target fuel visited inp).2 → ix.name ∉ visited →
        Closed s target (containsWithoutIndirection s target fuel visited inp).2 x)

/-- what one step of the field loop guarantees -/
structure StepSpec (s : Schema) (target : Nat) (acc acc' : Bool × List String) (f : String × FieldType) :
    Prop where
  sub : ∀ n ∈ acc.2, n ∈ acc'.2
  ok : acc'.1 = false → acc.1 = false ∧
    (f.2.isIndirected = false → ∀ y, f.2.id = .input y →
      y ≠ target ∧ ∀ iy, s.inputs[y]? = some iy → iy.name ∈ acc'.2) ∧
    (∀ x ix, s.inputs[x]? = some ix → ix.name ∈ acc'.2 → ix.name ∉ acc.2 → Closed s target acc'.2 x)

theorem cwiStep_spec (s : Schema) (target fuel : Nat) (ih : CwiSpec s target fuel)
    (acc : Bool × List String) (f : String × FieldType)
    (hfuel : remaining s acc.2 < fuel) :
    StepSpec s target acc (cwiStep s target fuel acc f) f := by
  have triv : (acc.1 = false → (f.2.isIndirected = false → ∀ y, f.2.id = .input y →
      y ≠ target ∧ ∀ iy, s.inputs[y]? = some iy → iy.name ∈ acc.2)) →
      StepSpec s target acc acc f := by
    intro h
    exact ⟨fun _ h => h, fun h1 => ⟨h1, h h1, fun x ix _ h2 h3 => absurd h2 h3⟩⟩
  unfold cwiStep
  split
  · rename_i h1
    exact triv (fun h => by simp [h] at h1)
  · rename_i hacc0
    split
    · rename_i hind
      exact triv (fun _ h => by simp [h] at hind)
    · split
      · rename_i hnone
        refine triv (fun _ _ y hy => ?_)
        rw [asInput?_eq_some.mpr hy] at hnone
        simp at hnone
      · rename_i fid hfid
        have hid := asInput?_eq_some.mp hfid
        split
        · exact ⟨fun _ h => h, fun h => by simp at h⟩
        · rename_i hne
          have hne' : fid ≠ target := by simpa using hne
          split
          · rename_i hnone
            refine triv (fun _ _ y hy => ?_)
            have : y = fid := by rw [hid] at hy; injection hy with hy; exact hy.symm
            subst this
            exact ⟨hne', fun iy hiy => by rw [hnone] at hiy; cases hiy⟩
          · rename_i i hi
            split
            · rename_i hc
              refine triv (fun _ _ y hy => ?_)
              have : y = fid := by rw [hid] at hy; injection hy with hy; exact hy.symm
              subst this
              refine ⟨hne', fun iy hiy => ?_⟩
              rw [hi] at hiy; injection hiy with hiy; subst hiy
              simpa using hc
            · rename_i hc
              have hc' : i.name ∉ acc.2 := by simpa using hc
              obtain ⟨h1, h2, h3⟩ := ih acc.2 fid i hi hc' hfuel
              refine ⟨h1, fun hfalse => ⟨?_, ?_, h3 hfalse⟩⟩
              · simpa using hacc0
              · intro _ y hy
                have : y = fid := by rw [hid] at hy; injection hy with hy; exact hy.symm
                subst this
                refine ⟨hne', fun iy hiy => ?_⟩
                rw [hi] at hiy; injection hiy with hiy; subst hiy
                exact h2

theorem cwiFold_spec (s : Schema) (target fuel : Nat) (ih : CwiSpec s target fuel) :
    ∀ (fs : List (String × FieldType)) (acc : Bool × List String),
      remaining s acc.2 < fuel →
      (∀ n ∈ acc.2, n ∈ (fs.foldl (cwiStep s target fuel) acc).2) ∧
      ((fs.foldl (cwiStep s target fuel) acc).1 = false → acc.1 = false ∧
        (∀ f ∈ fs, f.2.isIndirected = false → ∀ y, f.2.id = .input y →
          y ≠ target ∧ ∀ iy, s.inputs[y]? = some iy → iy.name ∈ (fs.foldl (cwiStep s target fuel) acc).2) ∧
        (∀ x ix, s.inputs[x]? = some ix → ix.name ∈ (fs.foldl (cwiStep s target fuel) acc).2 →
          ix.name ∉ acc.2 → Closed s target (fs.foldl (cwiStep s target fuel) acc).2 x)) := by
  intro fs
  induction fs with
  | nil =>
    intro acc _
    simp only [List.foldl_nil]
    exact ⟨fun _ h => h, fun h => ⟨h, by simp, fun x ix _ h2 h3 => absurd h2 h3⟩⟩
  | cons f fs ihfs =>
    intro acc hfuel
    simp only [List.foldl_cons]
    have hstep := cwiStep_spec s target fuel ih acc f hfuel
    have hfuel' : remaining s (cwiStep s target fuel acc f).2 < fuel :=
      Nat.lt_of_le_of_lt (remaining_mono s hstep.sub) hfuel
    obtain ⟨hsub, hrest⟩ := ihfs (cwiStep s target fuel acc f) hfuel'
    refine ⟨fun n hn => hsub n (hstep.sub n hn), fun hfalse => ?_⟩
    obtain ⟨h1, h2, h3⟩ := hrest hfalse
    obtain ⟨s1, s2, s3⟩ := hstep.ok h1
    refine ⟨s1, ?_, ?_⟩
    · intro g hg hind y hy
      rcases List.mem_cons.mp hg with rfl | hg
      · obtain ⟨a1, a2⟩ := s2 hind y hy
        exact ⟨a1, fun iy hiy => hsub _ (a2 iy hiy)⟩
      · exact h2 g hg hind y hy
    · intro x ix hx hin hnot
      by_cases hmid : ix.name ∈ (cwiStep s target fuel acc f).2
      · exact (s3 x ix hx hmid hnot).mono hsub
      · exact h3 x ix hx hin hmid

theorem cwi_spec (s : Schema) (hwf : NamesDistinct s) (target : Nat) : ∀ fuel, CwiSpec s target fuel := by
  intro fuel
  induction fuel with
  | zero => intro _ _ _ _ _ h; omega
  | succ n ih =>
    intro visited a inp ha hv hfuel
    rw [cwi_succ]
    have hdec := remaining_decreases s visited a inp ha hv
    obtain ⟨hsub, hrest⟩ := cwiFold_spec s target n ih inp.fields (false, inp.name :: visited)
      (by show remaining s (inp.name :: visited) < n; omega)
    refine ⟨fun m hm => hsub m (by simp [hm]), hsub _ (by simp), fun hfalse => ?_⟩
    obtain ⟨_, h2, h3⟩ := hrest hfalse
    intro x ix hx hin hnot
    by_cases hname : ix.name = inp.name
    · have hxa : x = a := hwf.name_inj hx ha hname
      subst hxa
      intro y ⟨inp', hinp', f, hf, hid, hind⟩
      have : inp' = inp := by rw [ha] at hinp'; injection hinp' with h; exact h.symm
      subst this
      exact h2 f hf hind y hid
    · exact h3 x ix hx hin (by simp [hname, hnot])

/-- only distinctness of the names is needed; dangling ids cannot lie on a cycle -/
theorem inputIsRecursive_complete' (s : Schema) (t : Nat) (hwf : NamesDistinct s) (h : OnDirectCycle s t) :
    inputIsRecursive s t = true := by
  unfold inputIsRecursive
  split
  · rename_i hnone
    have : ∃ y, direct s t y := by
      unfold OnDirectCycle at h
      rcases TransGen.head'_iff.mp h with ⟨y, hy, _⟩
      exact ⟨y, hy⟩
    obtain ⟨y, inp, hinp, _⟩ := this
    rw [hnone] at hinp; simp at hinp
  · rename_i i hi
    cases hres : (containsWithoutIndirection s t (s.inputs.length + 1) [] i).1
    · exfalso
      obtain ⟨_, hmem, hclosed⟩ := cwi_spec s hwf t (s.inputs.length + 1) [] t i hi (by simp)
        (by rw [remaining_nil]; omega)
      have hcl := hclosed hres
      have key : ∀ y, TransGen (direct s) t y → y ≠ t ∧ ∀ iy, s.inputs[y]? = some iy →
          iy.name ∈ (containsWithoutIndirection s t (s.inputs.length + 1) [] i).2 := by
        intro y hy
        induction hy with
        | single hd => exact hcl t i hi hmem (by simp) _ hd
        | tail _ hd ihy =>
          have ⟨ib, hb1, _⟩ := hd
          exact hcl _ ib hb1 (ihy.2 ib hb1) (by simp) _ hd
      exact (key t h).1 rfl
    · rfl

/-- the DFS with the shared visited set finds every cycle; fuel `#inputs + 1` suffices -/
theorem inputIsRecursive_complete (s : Schema) (t : Nat) (hwf : InputsWf s) (h : OnDirectCycle s t) :
    inputIsRecursive s t = true :=
  inputIsRecursive_complete' s t hwf.nodup h

theorem inputIsRecursive_iff (s : Schema) (t : Nat) (hwf : InputsWf s) :
    inputIsRecursive s t = true ↔ OnDirectCycle s t :=
  ⟨inputIsRecursive_sound s t, inputIsRecursive_complete s t hwf⟩

/-- `boxed_acyclic` under the part of `InputsWf` it uses: the names are pairwise distinct -/
theorem boxed_acyclic' (s : Schema) (hwf : NamesDistinct s) : ¬ ∃ t, TransGen (byValue s) t t := by
  rintro ⟨t, h⟩
  have hcyc : OnDirectCycle s t := TransGen.mono (fun _ _ h => h.1) _ _ h
  have hrec := inputIsRecursive_complete' s t hwf hcyc
  rcases TransGen.tail'_iff.mp h with ⟨c, _, hc⟩
  rw [hc.2] at hrec
  simp at hrec

/-- after boxing, no by-value cycle remains -/
theorem boxed_acyclic (s : Schema) (hwf : InputsWf s) : ¬ ∃ t, TransGen (byValue s) t t :=
  boxed_acyclic' s hwf.nodup

/-! ## where the `Box` goes -/

def isBox : RTy → Bool
  | .box _ => true
  | _ => false

theorem isBox_iff (r : RTy) : isBox r = true ↔ ∃ t, r = .box t := by
  cases r <;> simp [isBox]

theorem decorateStep_not_box (st st' : RTy × Bool) (q : Qual) (h : decorateStep st q = .ok st')
    (hb : isBox st.1 = false) : isBox st'.1 = false := by
  obtain ⟨t, nn⟩ := st
  cases nn <;> cases q <;> simp [decorateStep, pure, Except.pure, panic'] at h <;> subst h <;> simp_all [isBox]

theorem decorateFold_not_box (l : List Qual) (st st' : RTy × Bool)
    (h : l.foldlM decorateStep st = .ok st') (hb : isBox st.1 = false) : isBox st'.1 = false := by
  have := C02.sat_foldlM (E := fun _ => True) (P := fun st : RTy × Bool => isBox st.1 = false) decorateStep l st
    (fun b x _ hb => by
      cases hq : decorateStep b x with
      | ok b' => exact decorateStep_not_box b b' x hq hb
      | error _ => trivial) hb
  rwa [h] at this

/-- `decorate_type` never produces a `Box` at the top -/
theorem decorateType_not_box (base : RTy) (quals : List Qual) (t : RTy)
    (h : decorateType base quals = .ok t) (hb : isBox base = false) : isBox t = false := by
  unfold decorateType at h
  obtain ⟨⟨t', nn⟩, hf, h⟩ := C02.bind_ok h
  have := decorateFold_not_box _ _ _ hf hb
  simp only [pure, Except.pure, Except.ok.injEq] at h
  subst h
  cases nn <;> simp_all [isBox]

/-- is the target of this field a recursive input type? -/
def targetRecursive (s : Schema) (ty : FieldType) : Bool :=
  match ty.id.asInput? with
  | some iid => inputIsRecursive s iid
  | none => false

theorem targetRecursive_iff (s : Schema) (ty : FieldType) :
    targetRecursive s ty = true ↔ ∃ iid, ty.id = .input iid ∧ inputIsRecursive s iid = true := by
  unfold targetRecursive
  split
  · rename_i iid h
    have := asInput?_eq_some.mp h
    constructor
    · intro hr; exact ⟨iid, this, hr⟩
    · rintro ⟨j, hj, hr⟩
      rw [this] at hj; injection hj with hj; subst hj; exact hr
  · rename_i h
    constructor
    · intro h; simp at h
    · rintro ⟨j, hj, _⟩
      rw [asInput?_eq_some.mpr hj] at h; simp at h

/-- the exact shape of `inputFieldType`'s result: the decorated type, boxed iff the target recurses -/
theorem inputFieldType_shape (c : Ctx) (ty : FieldType) (quals : List Qual) (r : RTy)
    (h : inputFieldType c ty quals = .ok r) :
    ∃ tn t, c.s.typeName ty.id = .ok tn ∧
      decorateType (.path (c.o.normalization.fieldType c.cs tn)) quals = .ok t ∧ isBox t = false ∧
      r = if targetRecursive c.s ty then .box t else t := by
  unfold inputFieldType at h
  obtain ⟨tn, htn, h⟩ := C02.bind_ok h
  obtain ⟨t, hd, h⟩ := C02.bind_ok h
  simp only [pure, Except.pure, Except.ok.injEq] at h
  exact ⟨tn, t, htn, hd, decorateType_not_box _ _ _ hd rfl, h.symm⟩

/-- `inputFieldType` returns `Box<…>` exactly when the target is a recursive input type -/
theorem box_iff_target_recursive (c : Ctx) (ty : FieldType) (quals : List Qual) (r : RTy)
    (h : inputFieldType c ty quals = .ok r) :
    (∃ t, r = .box t) ↔ ∃ iid, ty.id = .input iid ∧ inputIsRecursive c.s iid = true := by
  obtain ⟨tn, t, _, _, hnb, hr⟩ := inputFieldType_shape c ty quals r h
  rw [← targetRecursive_iff, ← isBox_iff, hr]
  cases targetRecursive c.s ty
  · simp [hnb]
  · simp [isBox]

/-- … and, under well-formedness, exactly when the target lies on a cycle of non-list fields -/
theorem box_iff_on_cycle (c : Ctx) (hwf : InputsWf c.s) (ty : FieldType) (quals : List Qual) (r : RTy)
    (h : inputFieldType c ty quals = .ok r) :
    (∃ t, r = .box t) ↔ ∃ iid, ty.id = .input iid ∧ OnDirectCycle c.s iid := by
  rw [box_iff_target_recursive c ty quals r h]
  constructor
  · rintro ⟨i, h1, h2⟩; exact ⟨i, h1, inputIsRecursive_sound _ _ h2⟩
  · rintro ⟨i, h1, h2⟩; exact ⟨i, h1, inputIsRecursive_complete _ _ hwf h2⟩

/-! ## the indirection is invisible in JSON -/

theorem box_transparent_de (path : String → Json → Serde.D Val) (t : RTy) (j : Json) :
    Serde.deTyWith path (.box t) j = Serde.deTyWith path t j := by
  rw [Serde.deTyWith]

theorem box_transparent_ser (path : String → Val → Serde.D Json) (t : RTy) (v : Val) :
    Serde.serTyWith path (.box t) v = Serde.serTyWith path t v := by
  rw [Serde.serTyWith]

theorem box_transparent (pathD : String → Json → Serde.D Val) (pathS : String → Val → Serde.D Json)
    (e : Env) (fuel : Nat) (t : RTy) (j : Json) (v : Val) (buf : Serde.Buf) :
    Serde.deTyWith pathD (.box t) j = Serde.deTyWith pathD t j ∧
    Serde.serTyWith pathS (.box t) v = Serde.serTyWith pathS t v ∧
    Serde.deFlat e (fuel+1) (.box t) buf = Serde.deFlat e fuel t buf :=
  ⟨box_transparent_de _ _ _, box_transparent_ser _ _ _, SerdeFuel.deFlat_box _ _ _ _⟩


/-! ## examples (inputs) -/

/-- `A { b: B! }`, `B { c: [C!] }`, `C { a: A }`: the 3-cycle passes through a list -/
def ex3 : Schema :=
  { inputs := [ { name := "A", fields := [("b", { id := .input 1, quals := [.required] })], isOneOf := false },
                { name := "B", fields := [("c", { id := .input 2, quals := [.list, .required] })], isOneOf := false },
                { name := "C", fields := [("a", { id := .input 0, quals := [] })], isOneOf := false } ] }

example : InputsWf ex3 := by decide
example : inputIsRecursive ex3 0 = false ∧ inputIsRecursive ex3 1 = false ∧ inputIsRecursive ex3 2 = false := by
  decide

/-- `A { b: B! }`, `B { a: A, n: Int }`: a 2-cycle of plain edges -/
def ex2 : Schema :=
  { scalars := ["Int"],
    inputs := [ { name := "A", fields := [("b", { id := .input 1, quals := [.required] })], isOneOf := false },
                { name := "B", fields := [("a", { id := .input 0, quals := [] }),
                                          ("n", { id := .scalar 0, quals := [] })], isOneOf := false } ] }

example : InputsWf ex2 := by decide
example : inputIsRecursive ex2 0 = true ∧ inputIsRecursive ex2 1 = true := by decide
example : OnDirectCycle ex2 0 := inputIsRecursive_sound ex2 0 (by decide)
example : ¬ OnDirectCycle ex3 0 := fun h => by
  have := inputIsRecursive_complete ex3 0 (by decide) h
  revert this; decide

/-- a type *below* a cycle is not boxed, a type *on* it is: `R { a: A! }` only points into the cycle -/
def ex2' : Schema := { ex2 with inputs := ex2.inputs ++
  [{ name := "R", fields := [("a", { id := .input 0, quals := [.required] })], isOneOf := false }] }

example : InputsWf ex2' := by decide
example : inputIsRecursive ex2' 2 = false ∧ inputIsRecursive ex2' 0 = true := by decide

/-- the well-formedness hypothesis is needed: the visited set is keyed by name, so with two input
    types of the same name the DFS misses the cycle `0 → 1 → 0` -/
def exDup : Schema :=
  { inputs := [ { name := "A", fields := [("x", { id := .input 1, quals := [] })], isOneOf := false },
                { name := "A", fields := [("y", { id := .input 0, quals := [] })], isOneOf := false } ] }

example : ¬ NamesDistinct exDup := by decide
example : inputIsRecursive exDup 0 = false := by decide
example : OnDirectCycle exDup 0 :=
  TransGen.tail
    (TransGen.single ⟨_, rfl, ("x", { id := .input 1, quals := [] }), List.mem_singleton.mpr rfl, rfl, rfl⟩)
    ⟨_, rfl, ("y", { id := .input 0, quals := [] }), List.mem_singleton.mpr rfl, rfl, rfl⟩

/-- a context over a given schema (identity case functions, default options) -/
def exCtx (s : Schema) : Ctx := { s := s, q := {}, o := {}, cs := { snake := id, camel := id } }

example : inputFieldType (exCtx ex2) { id := .input 1, quals := [.required] } [.required]
    = .ok (.box (.path "B")) := rfl
example : inputFieldType (exCtx ex3) { id := .input 1, quals := [.required] } [.required]
    = .ok (.path "B") := rfl
example : inputFieldType (exCtx ex3) { id := .input 2, quals := [.list, .required] } [.list, .required]
    = .ok (.opt (.vec (.path "C"))) := rfl

/-! ## fragments -/

/-- a `...b` spread occurs somewhere (any depth, under fields and inline fragments) in the selection set -/
inductive SpreadsIn : List Sel → Nat → Prop
  | here {sels : List Sel} {b : Nat} : Sel.spread b ∈ sels → SpreadsIn sels b
  | field {sels : List Sel} {al : Option String} {fid : Nat} {sub : List Sel} {b : Nat} :
      Sel.field al fid sub ∈ sels → SpreadsIn sub b → SpreadsIn sels b
  | inline {sels : List Sel} {t : TypeId} {sub : List Sel} {b : Nat} :
      Sel.inline t sub ∈ sels → SpreadsIn sub b → SpreadsIn sels b

/-- fragment `a`'s selection set contains a spread of fragment `b` -/
def spreadsTo (q : Query) (a b : Nat) : Prop := ∃ f, q.fragments[a]? = some f ∧ SpreadsIn f.sels b

def OnSpreadCycle (q : Query) (f : Nat) : Prop := TransGen (spreadsTo q) f f

theorem SpreadsIn.of_mem {sel : Sel} {sels : List Sel} {b : Nat} (hm : sel ∈ sels)
    (h : SpreadsIn [sel] b) : SpreadsIn sels b := by
  cases h with
  | here h => rw [List.mem_singleton] at h; exact .here (h ▸ hm)
  | field h hs => rw [List.mem_singleton] at h; exact .field (h ▸ hm) hs
  | inline h hs => rw [List.mem_singleton] at h; exact .inline (h ▸ hm) hs

theorem SpreadsIn.exists_mem {sels : List Sel} {b : Nat} (h : SpreadsIn sels b) :
    ∃ sel ∈ sels, SpreadsIn [sel] b := by
  cases h with
  | here h => exact ⟨_, h, .here (List.mem_singleton.mpr rfl)⟩
  | field h hs => exact ⟨_, h, .field (List.mem_singleton.mpr rfl) hs⟩
  | inline h hs => exact ⟨_, h, .inline (List.mem_singleton.mpr rfl) hs⟩

theorem spreadsIn_spread {fid b : Nat} (h : SpreadsIn [Sel.spread fid] b) : b = fid := by
  cases h with
  | here h => rw [List.mem_singleton] at h; injection h
  | field h _ => rw [List.mem_singleton] at h; cases h
  | inline h _ => rw [List.mem_singleton] at h; cases h

theorem spreadsIn_field {al : Option String} {fid : Nat} {sub : List Sel} {b : Nat}
    (h : SpreadsIn [Sel.field al fid sub] b) : SpreadsIn sub b := by
  cases h with
  | here h => rw [List.mem_singleton] at h; cases h
  | field h hs => rw [List.mem_singleton] at h; injection h with _ _ h3; exact h3 ▸ hs
  | inline h _ => rw [List.mem_singleton] at h; cases h

theorem spreadsIn_inline {t : TypeId} {sub : List Sel} {b : Nat}
    (h : SpreadsIn [Sel.inline t sub] b) : SpreadsIn sub b := by
  cases h with
  | here h => rw [List.mem_singleton] at h; cases h
  | field h _ => rw [List.mem_singleton] at h; cases h
  | inline h hs => rw [List.mem_singleton] at h; injection h with _ h2; exact h2 ▸ hs

theorem spreadsIn_typename {b : Nat} (h : SpreadsIn [Sel.typename] b) : False := by
  cases h with
  | here h => rw [List.mem_singleton] at h; cases h
  | field h _ => rw [List.mem_singleton] at h; cases h
  | inline h _ => rw [List.mem_singleton] at h; cases h

/-! ### the model function as a fold of a named step -/

def rfStep (q : Query) (target fuel : Nat) (acc : Bool × List Nat) (sel : Sel) : Bool × List Nat :=
  if acc.1 then acc else
  match sel with
  | .spread fid =>
    if fid == target then (true, acc.2)
    else if acc.2.contains fid then acc
    else match q.fragments[fid]? with
      | none => acc
      | some f => reachesFragment q target fuel (fid :: acc.2) f.sels
  | .field _ _ sub => reachesFragment q target fuel acc.2 sub
  | .inline _ sub => reachesFragment q target fuel acc.2 sub
  | .typename => acc

theorem rf_succ (q : Query) (target fuel : Nat) (visited : List Nat) (sels : List Sel) :
    reachesFragment q target (fuel+1) visited sels
      = sels.foldl (rfStep q target fuel) (false, visited) := by
  rw [reachesFragment]
  rfl

/-! ### soundness -/

/-- some spread below `sels` is, or transitively reaches, `target` -/
def Reach (q : Query) (sels : List Sel) (target : Nat) : Prop :=
  ∃ y, SpreadsIn sels y ∧ (y = target ∨ TransGen (spreadsTo q) y target)

theorem rfStep_sound (q : Query) (target fuel : Nat)
    (ih : ∀ visited sels, (reachesFragment q target fuel visited sels).1 = true → Reach q sels target)
    (acc : Bool × List Nat) (sel : Sel) (h : (rfStep q target fuel acc sel).1 = true) :
    acc.1 = true ∨ Reach q [sel] target := by
  unfold rfStep at h
  split at h
  · left; assumption
  · split at h
    · rename_i fid
      split at h
      · rename_i heq
        have : fid = target := by simpa using heq
        right; exact ⟨fid, .here (List.mem_singleton.mpr rfl), Or.inl this⟩
      · split at h
        · left; exact h
        · split at h
          · left; exact h
          · rename_i f hf
            right
            obtain ⟨y, hy, hyt⟩ := ih _ _ h
            have hst : spreadsTo q fid y := ⟨f, hf, hy⟩
            refine ⟨fid, .here (List.mem_singleton.mpr rfl), Or.inr ?_⟩
            rcases hyt with rfl | hyt
            · exact TransGen.single hst
            · exact TransGen.head hst hyt
    · right
      obtain ⟨y, hy, hyt⟩ := ih _ _ h
      exact ⟨y, .field (List.mem_singleton.mpr rfl) hy, hyt⟩
    · right
      obtain ⟨y, hy, hyt⟩ := ih _ _ h
      exact ⟨y, .inline (List.mem_singleton.mpr rfl) hy, hyt⟩
    · left; exact h

theorem rfFold_sound (q : Query) (target fuel : Nat)
    (ih : ∀ visited sels, (reachesFragment q target fuel visited sels).1 = true → Reach q sels target) :
    ∀ (l : List Sel) (acc : Bool × List Nat), (l.foldl (rfStep q target fuel) acc).1 = true →
      acc.1 = true ∨ ∃ sel ∈ l, Reach q [sel] target := by
  intro l
  induction l with
  | nil => intro acc h; left; simpa using h
  | cons x l ihl =>
    intro acc h
    simp only [List.foldl_cons] at h
    rcases ihl _ h with h1 | ⟨sel, hm, hr⟩
    · rcases rfStep_sound q target fuel ih acc x h1 with h2 | h2
      · left; exact h2
      · right; exact ⟨x, by simp, h2⟩
    · right; exact ⟨sel, by simp [hm], hr⟩

theorem rf_sound (q : Query) (target : Nat) :
    ∀ (fuel : Nat) (visited : List Nat) (sels : List Sel),
      (reachesFragment q target fuel visited sels).1 = true → Reach q sels target := by
  intro fuel
  induction fuel with
  | zero => intro visited sels h; simp [reachesFragment] at h
  | succ n ih =>
    intro visited sels h
    rw [rf_succ] at h
    rcases rfFold_sound q target n ih sels _ h with h1 | ⟨sel, hm, y, hy, hyt⟩
    · simp at h1
    · exact ⟨y, hy.of_mem hm, hyt⟩

/-- a fragment flagged recursive reaches itself through spreads -/
theorem fragmentIsRecursive_sound (q : Query) (f : Nat) (h : fragmentIsRecursive q f = true) :
    OnSpreadCycle q f := by
  unfold fragmentIsRecursive at h
  split at h
  · simp at h
  · rename_i fr hfr
    obtain ⟨y, hy, hyt⟩ := rf_sound q f _ _ _ h
    have hst : spreadsTo q f y := ⟨fr, hfr, hy⟩
    rcases hyt with rfl | hyt
    · exact TransGen.single hst
    · exact TransGen.head hst hyt

/-! ### completeness -/

/-- fragments not yet visited -/
def remainingF (q : Query) (visited : List Nat) : Nat := C02.unseen q.fragments.length (visited.contains ·)

theorem remainingF_mono (q : Query) {v v' : List Nat} (h : ∀ n ∈ v, n ∈ v') :
    remainingF q v' ≤ remainingF q v :=
  C02.unseen_le fun i hi => by simpa using h i (by simpa using hi)

theorem remainingF_decreases (q : Query) (visited : List Nat) (fid : Nat)
    (hf : fid < q.fragments.length) (hv : fid ∉ visited) :
    remainingF q (fid :: visited) < remainingF q visited :=
  C02.unseen_lt fid hf (by simpa using hv) (by simp) fun i hi => by simp [List.mem_of_elem_eq_true hi]

theorem remainingF_nil (q : Query) : remainingF q [] = q.fragments.length := by
  unfold remainingF C02.unseen
  simp

/-- every spread below `sels` is not the target and (if it names a fragment) has been visited -/
def Covers (q : Query) (target : Nat) (V : List Nat) (sels : List Sel) : Prop :=
  ∀ y, SpreadsIn sels y → y ≠ target ∧ (y < q.fragments.length → y ∈ V)

def ClosedF (q : Query) (target : Nat) (V : List Nat) (x : Nat) : Prop :=
  ∀ y, spreadsTo q x y → y ≠ target ∧ (y < q.fragments.length → y ∈ V)

theorem Covers.mono {q : Query} {target : Nat} {V V' : List Nat} {sels : List Sel}
    (h : Covers q target V sels) (hsub : ∀ n ∈ V, n ∈ V') : Covers q target V' sels :=
  fun y hy => ⟨(h y hy).1, fun hl => hsub _ ((h y hy).2 hl)⟩

theorem ClosedF.mono {q : Query} {target : Nat} {V V' : List Nat} {x : Nat}
    (h : ClosedF q target V x) (hsub : ∀ n ∈ V, n ∈ V') : ClosedF q target V' x :=
  fun y hy => ⟨(h y hy).1, fun hl => hsub _ ((h y hy).2 hl)⟩

/-- what one call of the walk guarantees, when `D` bounds the depth of every fragment body -/
def RfSpec (q : Query) (target D fuel : Nat) : Prop :=
  ∀ (visited : List Nat) (sels : List Sel), remainingF q visited * (D + 1) + selsDepth sels < fuel →
    (∀ n ∈ visited, n ∈ (reachesFragment q target fuel visited sels).2) ∧
    ((reachesFragment q target fuel visited sels).1 = false →
      Covers q target (reachesFragment q target fuel visited sels).2 sels ∧
      ∀ x ∈ (reachesFragment q target fuel visited sels).2, x ∉ visited →
        ClosedF q target (reachesFragment q target fuel visited sels).2 x)

structure RfStepSpec (q : Query) (target : Nat) (acc acc' : Bool × List Nat) (sel : Sel) : Prop where
  sub : ∀ n ∈ acc.2, n ∈ acc'.2
  ok : acc'.1 = false → acc.1 = false ∧ Covers q target acc'.2 [sel] ∧
    ∀ x ∈ acc'.2, x ∉ acc.2 → ClosedF q target acc'.2 x

theorem rfStep_spec (q : Query) (target D fuel : Nat)
    (hD : ∀ f ∈ q.fragments, selsDepth f.sels ≤ D) (ih : RfSpec q target D fuel)
    (acc : Bool × List Nat) (sel : Sel)
    (hfuel : remainingF q acc.2 * (D + 1) + selDepth sel ≤ fuel) :
    RfStepSpec q target acc (rfStep q target fuel acc sel) sel := by
  have triv : (acc.1 = false → Covers q target acc.2 [sel]) → RfStepSpec q target acc acc sel :=
    fun h => ⟨fun _ h => h, fun h1 => ⟨h1, h h1, fun x h2 h3 => absurd h2 h3⟩⟩
  unfold rfStep
  split
  · rename_i h1
    exact triv (fun h => by simp [h] at h1)
  · rename_i hacc0
    have hacc : acc.1 = false := by simpa using hacc0
    split
    · rename_i fid
      split
      · exact ⟨fun _ h => h, fun h => by simp at h⟩
      · rename_i hne
        have hne' : fid ≠ target := by simpa using hne
        split
        · rename_i hc
          refine triv (fun _ y hy => ?_)
          rw [spreadsIn_spread hy]
          exact ⟨hne', fun _ => by simpa using hc⟩
        · rename_i hc
          have hc' : fid ∉ acc.2 := by simpa using hc
          split
          · rename_i hnone
            refine triv (fun _ y hy => ?_)
            rw [spreadsIn_spread hy]
            refine ⟨hne', fun hl => ?_⟩
            rw [List.getElem?_eq_none_iff] at hnone
            omega
          · rename_i f hf
            have hlen : fid < q.fragments.length := (List.getElem?_eq_some_iff.mp hf).1
            have hdec := remainingF_decreases q acc.2 fid hlen hc'
            have hDf := hD f (List.mem_of_getElem? hf)
            have hfuel' : remainingF q (fid :: acc.2) * (D + 1) + selsDepth f.sels < fuel := by
              have h1 : (remainingF q (fid :: acc.2) + 1) * (D + 1) ≤ remainingF q acc.2 * (D + 1) :=
                Nat.mul_le_mul_right _ hdec
              rw [Nat.add_mul] at h1
              simp only [selDepth] at hfuel
              omega
            obtain ⟨h1, h2⟩ := ih (fid :: acc.2) f.sels hfuel'
            refine ⟨fun n hn => h1 n (by simp [hn]), fun hfalse => ?_⟩
            obtain ⟨hcov, hcl⟩ := h2 hfalse
            refine ⟨hacc, ?_, ?_⟩
            · intro y hy
              rw [spreadsIn_spread hy]
              exact ⟨hne', fun _ => h1 fid (by simp)⟩
            · intro x hx hnx
              by_cases hxf : x = fid
              · subst hxf
                intro y ⟨f', hf', hy⟩
                have : f' = f := by rw [hf] at hf'; injection hf' with h; exact h.symm
                subst this
                exact hcov y hy
              · exact hcl x hx (by simp [hxf, hnx])
    · rename_i al fi sub
      have hfuel' : remainingF q acc.2 * (D + 1) + selsDepth sub < fuel := by
        simp only [selDepth] at hfuel; omega
      obtain ⟨h1, h2⟩ := ih acc.2 sub hfuel'
      refine ⟨h1, fun hfalse => ?_⟩
      obtain ⟨hcov, hcl⟩ := h2 hfalse
      exact ⟨hacc, fun y hy => hcov y (spreadsIn_field hy), hcl⟩
    · rename_i t sub
      have hfuel' : remainingF q acc.2 * (D + 1) + selsDepth sub < fuel := by
        simp only [selDepth] at hfuel; omega
      obtain ⟨h1, h2⟩ := ih acc.2 sub hfuel'
      refine ⟨h1, fun hfalse => ?_⟩
      obtain ⟨hcov, hcl⟩ := h2 hfalse
      exact ⟨hacc, fun y hy => hcov y (spreadsIn_inline hy), hcl⟩
    · exact triv (fun _ y hy => (spreadsIn_typename hy).elim)

theorem rfFold_spec (q : Query) (target D fuel : Nat)
    (hD : ∀ f ∈ q.fragments, selsDepth f.sels ≤ D) (ih : RfSpec q target D fuel) (d : Nat) :
    ∀ (l : List Sel) (acc : Bool × List Nat), (∀ sel ∈ l, selDepth sel ≤ d) →
      remainingF q acc.2 * (D + 1) + d ≤ fuel →
      (∀ n ∈ acc.2, n ∈ (l.foldl (rfStep q target fuel) acc).2) ∧
      ((l.foldl (rfStep q target fuel) acc).1 = false → acc.1 = false ∧
        (∀ sel ∈ l, Covers q target (l.foldl (rfStep q target fuel) acc).2 [sel]) ∧
        (∀ x ∈ (l.foldl (rfStep q target fuel) acc).2, x ∉ acc.2 →
          ClosedF q target (l.foldl (rfStep q target fuel) acc).2 x)) := by
  intro l
  induction l with
  | nil =>
    intro acc _ _
    simp only [List.foldl_nil]
    exact ⟨fun _ h => h, fun h => ⟨h, by simp, fun x h2 h3 => absurd h2 h3⟩⟩
  | cons a l ihl =>
    intro acc hd hfuel
    simp only [List.foldl_cons]
    have hda := hd a (by simp)
    have hstep := rfStep_spec q target D fuel hD ih acc a (by omega)
    have hfuel' : remainingF q (rfStep q target fuel acc a).2 * (D + 1) + d ≤ fuel := by
      have := Nat.mul_le_mul_right (D + 1) (remainingF_mono q hstep.sub)
      omega
    obtain ⟨hsub, hrest⟩ := ihl (rfStep q target fuel acc a) (fun g hg => hd g (by simp [hg])) hfuel'
    refine ⟨fun n hn => hsub n (hstep.sub n hn), fun hfalse => ?_⟩
    obtain ⟨h1, h2, h3⟩ := hrest hfalse
    obtain ⟨s1, s2, s3⟩ := hstep.ok h1
    refine ⟨s1, ?_, ?_⟩
    · intro g hg
      rcases List.mem_cons.mp hg with rfl | hg
      · exact s2.mono hsub
      · exact h2 g hg
    · intro x hin hnot
      by_cases hmid : x ∈ (rfStep q target fuel acc a).2
      · exact (s3 x hmid hnot).mono hsub
      · exact h3 x hin hmid

theorem rf_spec (q : Query) (target D : Nat) (hD : ∀ f ∈ q.fragments, selsDepth f.sels ≤ D) :
    ∀ fuel, RfSpec q target D fuel := by
  intro fuel
  induction fuel with
  | zero => intro _ _ h; omega
  | succ n ih =>
    intro visited sels hfuel
    rw [rf_succ]
    obtain ⟨hsub, hrest⟩ := rfFold_spec q target D n hD ih (selsDepth sels) sels (false, visited)
      (fun sel hs => C02.selDepth_le_of_mem hs)
      (by show remainingF q visited * (D + 1) + selsDepth sels ≤ n; omega)
    refine ⟨hsub, fun hfalse => ?_⟩
    obtain ⟨_, h2, h3⟩ := hrest hfalse
    refine ⟨fun y hy => ?_, h3⟩
    obtain ⟨sel, hm, hs⟩ := hy.exists_mem
    exact h2 sel hm y hs

/-- completeness of the walk for **any** fuel above `#fragments * (D+1) + D`, `D` a bound on the
    nesting depth of every fragment body -/
theorem rf_complete_of_fuel (q : Query) (f D fuel : Nat) (fr : RFragment)
    (hD : ∀ g ∈ q.fragments, selsDepth g.sels ≤ D) (hfr : q.fragments[f]? = some fr)
    (hfuel : q.fragments.length * (D + 1) + D < fuel) (h : OnSpreadCycle q f) :
    (reachesFragment q f fuel [] fr.sels).1 = true := by
  cases hres : (reachesFragment q f fuel [] fr.sels).1
  · exfalso
    have hDf := hD fr (List.mem_of_getElem? hfr)
    obtain ⟨_, hok⟩ := rf_spec q f D hD fuel [] fr.sels (by rw [remainingF_nil]; omega)
    obtain ⟨hcov, hcl⟩ := hok hres
    have key : ∀ y, TransGen (spreadsTo q) f y → y ≠ f ∧ (y < q.fragments.length →
        y ∈ (reachesFragment q f fuel [] fr.sels).2) := by
      intro y hy
      induction hy with
      | single hd =>
        obtain ⟨fr', hfr', hs⟩ := hd
        have : fr' = fr := by rw [hfr] at hfr'; injection hfr' with h; exact h.symm
        subst this
        exact hcov _ hs
      | tail _ hd ihy =>
        have ⟨fb, hfb, _⟩ := hd
        have hlen := (List.getElem?_eq_some_iff.mp hfb).1
        exact hcl _ (ihy.2 hlen) (by simp) _ hd
    exact (key f h).1 rfl
  · rfl

/-- the depth bound used by `walkFuel` -/
def walkDepth (q : Query) : Nat :=
  (q.fragments.map (fun f => selsDepth f.sels) ++ q.operations.map (fun o => selsDepth o.sels)).foldl max 0

theorem walkFuel_eq (q : Query) : walkFuel q = (q.fragments.length + 1) * (walkDepth q + 2) + 1 := rfl

theorem walkDepth_bound (q : Query) : ∀ f ∈ q.fragments, selsDepth f.sels ≤ walkDepth q := by
  intro f hf
  apply C02.le_foldl_max
  left
  simp only [List.mem_append, List.mem_map]
  exact Or.inl ⟨f, hf, rfl⟩

/-- `walkFuel q` meets the bound of `rf_complete_of_fuel` -/
theorem walkFuel_sufficient (q : Query) :
    q.fragments.length * (walkDepth q + 1) + walkDepth q < walkFuel q := by
  rw [walkFuel_eq]
  generalize q.fragments.length = F
  generalize walkDepth q = d
  simp only [Nat.add_mul, Nat.mul_add]
  omega

/-- the walk finds every spread cycle; fuel `walkFuel q` suffices.  (No range hypothesis on
    the spread indices is needed: a dangling spread cannot lie on a cycle.) -/
theorem fragmentIsRecursive_complete (q : Query) (f : Nat) (h : OnSpreadCycle q f) :
    fragmentIsRecursive q f = true := by
  unfold fragmentIsRecursive
  split
  · rename_i hnone
    obtain ⟨y, ⟨fr, hfr, _⟩, _⟩ := TransGen.head'_iff.mp h
    rw [hnone] at hfr; cases hfr
  · rename_i fr hfr
    exact rf_complete_of_fuel q f (walkDepth q) (walkFuel q) fr (walkDepth_bound q) hfr
      (walkFuel_sufficient q) h

theorem fragmentIsRecursive_iff (q : Query) (f : Nat) :
    fragmentIsRecursive q f = true ↔ OnSpreadCycle q f :=
  ⟨fragmentIsRecursive_sound q f, fragmentIsRecursive_complete q f⟩

/-- the spread edges that stay by-value after boxing -/
def byValueF (q : Query) (a b : Nat) : Prop := spreadsTo q a b ∧ fragmentIsRecursive q b = false

/-- a spread edge `a → b` whose target is not flagged (hence not boxed) lies on no cycle -/
theorem fragment_boxed_acyclic (q : Query) (a b : Nat) (hab : spreadsTo q a b)
    (hb : fragmentIsRecursive q b = false) : ¬ (b = a ∨ TransGen (spreadsTo q) b a) := by
  intro h
  have : OnSpreadCycle q b := by
    rcases h with rfl | h
    · exact TransGen.single hab
    · exact TransGen.tail h hab
  rw [fragmentIsRecursive_complete q b this] at hb
  cases hb

/-- … in particular the by-value spread edges form an acyclic graph.  This, not the edge-wise `fragment_boxed_acyclic`
    above, is the statement `C12.fragment_boxed_acyclic` of `Props/C12.lean` restates. -/
theorem fragment_boxed_acyclic' (q : Query) : ¬ ∃ t, TransGen (byValueF q) t t := by
  rintro ⟨t, h⟩
  have hcyc : OnSpreadCycle q t := TransGen.mono (fun _ _ h => h.1) _ _ h
  have hrec := fragmentIsRecursive_complete q t hcyc
  rcases TransGen.tail'_iff.mp h with ⟨c, _, hc⟩
  rw [hc.2] at hrec
  simp at hrec


/-- the rendered field type is a `Box` exactly when `renderField` is called with `boxed = true`
    (as `calcFields` / `calcVariantSels` do with `fragmentIsRecursive` for every spread) -/
theorem renderField_box_iff (c : Ctx) (g : Option String) (rn ft : String) (quals : List Qual)
    (fl boxed : Bool) (dep : Option (Option String)) (fld : RField)
    (h : renderField c g rn ft quals fl boxed dep = .ok (some fld)) : isBox fld.ty = boxed := by
  obtain ⟨t, hd, ⟨ho, _⟩ | ⟨f', ho, _, _, _, _, hfty⟩⟩ := C02.renderField_cases h <;> cases ho
  have hnb := decorateType_not_box _ _ _ hd rfl
  rw [hfty]
  cases boxed
  · simpa using hnb
  · simp [isBox]

/-- an alias to a fragment is a `Box` exactly when `aliasItem` is called with `boxed = true` -/
theorem aliasItem_box_iff (name target : String) (boxed : Bool) :
    aliasItem name target boxed = .alias name true (if boxed then .box (.path target) else .path target) := rfl

/-! ### examples (fragments) -/

/-- `F0 { f { ...F1 } }`, `F1 { ... on T { ...F0 } }`, `F2 { ...F0 }`, `F3 { __typename }` -/
def exQ : Query :=
  { fragments := [ { name := "F0", on := .object 0, sels := [.field none 0 [.spread 1]] },
                   { name := "F1", on := .object 0, sels := [.typename, .inline (.object 0) [.spread 0]] },
                   { name := "F2", on := .object 0, sels := [.spread 0] },
                   { name := "F3", on := .object 0, sels := [.typename] } ] }

example : fragmentIsRecursive exQ 0 = true ∧ fragmentIsRecursive exQ 1 = true ∧
    fragmentIsRecursive exQ 2 = false ∧ fragmentIsRecursive exQ 3 = false := by decide
example : OnSpreadCycle exQ 0 := fragmentIsRecursive_sound exQ 0 (by decide)
example : ¬ OnSpreadCycle exQ 2 := fun h => by
  have := fragmentIsRecursive_complete exQ 2 h
  revert this; decide

end C12Graph
end GqlVerif
