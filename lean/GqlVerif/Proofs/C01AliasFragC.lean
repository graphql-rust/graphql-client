import GqlVerif.Proofs.C01NestedC
import GqlVerif.Proofs.C01AliasFragS
/-!
# `AliasFragOp` (and `NestedOp`, `NestedBOp` through it): what the emitted types accept, exactly

The acceptance predicate `conformsLooseN`, the environment predicates `envSelN` / `BodyEnvN` and the key side conditions
`expKeysN` / `keysOkN` are those of `C01NestedC`.  What is needed of a spread fragment is `FragAccA`: where `FragAcc.str`
says "the fragment's name resolves to a STRUCT item", `FragAccA.mem` says that, read as a flattened member, the name
satisfies `MemSpec` (`C01AliasFragS`) — true of a struct item (`FragAccA.of_fragAcc`) and of an alias chain to one.

The member and struct level is stated without the class: `accMemA_of`, `accStructA_of` ask for `Resolves` (the field list),
for each spread to be admitted and to have its environment, and take what the own fields accept as a hypothesis (`own`,
`arr`); `accStructA` and the struct of `NestedBOp` (`C01NB.accStructA`) are instances.

**`bodyA_accepts_iff`** — for every large enough fuel, `dePath` on the emitted name succeeds iff `conformsLooseN`
(`accSelA` / `accSelsA` by mutual induction; fields of scalar / enum / interface / union type by `accSelS` of
`C01VariantSpreadB`).  No depth function: the statements are "for all fuel from some `N` on", and `Top.de_iff_ok`
(`C01TopLevelFuel`, from `SerdeFuel.dePath_fuel_indep`) turns that into a statement about `Serde.de` (`C01AliasFragD`).
-/

namespace GqlVerif
namespace C01AF
open Serde C13 C03 Codegen C01 C01.E2E C01N

/-- **what the theorems need of a spread fragment**: read as a flattened member its name satisfies `MemSpec` from some
    fuel on (a struct item, or an alias chain to one); `dePath` accepts exactly `whole g` from some fuel on; entries with
    keys outside `KN` do not matter -/
structure FragAccA (e : Env) (c : Ctx) (whole : Nat → Bool → Json → Bool) (KN : String → List String) (g : Nat) : Prop where
  mem : ∃ N, ∀ fuel, N ≤ fuel → MemSpec e fuel (fragName c g) (KN (fragName c g))
  acc : ∃ N, ∀ fd, N ≤ fd → ∀ b j, okB (dePath e b fd (fragName c g) j) = whole g b j
  irr : ∀ L : List String, (∀ k ∈ L, k ∉ KN (fragName c g)) → ∀ b kvs,
    whole g b (.obj (kvs.filter (fun kv => !L.contains kv.1))) = whole g b (.obj kvs)

/-- a struct item gives `FragAccA` -/
theorem FragAccA.of_fragAcc {e : Env} {c : Ctx} {whole : Nat → Bool → Json → Bool} {KN : String → List String} {g : Nat}
    (fa : FragAcc e c whole KN g) : FragAccA e c whole KN g := by
  obtain ⟨n, d, cr, G, hnp, hfind, hG⟩ := fa.str
  exact ⟨⟨0, fun fuel _ => memSpec_struct e fuel _ n d cr G _ hnp hfind hG⟩, fa.acc, fa.irr⟩

/-! ## acceptance, exactly -/

section AccA
variable (e : Env) (c : Ctx) (ok : TypeId → Nat → Bool) (whole : Nat → Bool → Json → Bool) (KN : String → List String)
  (fenv : Nat → Prop) (hok : OkSpec c.q ok) (hfa : ∀ p g, ok p g = true → fenv g → FragAccA e c whole KN g)

include hok hfa in
/-- the flattened members: they satisfy `MemSpec`, irrelevance of other keys, and what they accept -/
theorem accMemA_of (pfx : String) (p : TypeId) : ∀ (sels : List Sel), Resolves c pfx sels →
    (∀ g, Sel.spread g ∈ sels → ok p g = true ∧ fenv g) → ∃ N, ∀ fuel, N ≤ fuel →
    (∀ g ∈ fieldsOfF c pfx sels, g.flatten = true → MemberOkA e fuel (kOf KN g) g ∧
      (∀ L' : List String, (∀ k ∈ L', k ∉ kOf KN g) → ∀ kvs,
        okB (memV e fuel g (kvs.filter (fun kv => !L'.contains kv.1))) = okB (memV e fuel g kvs))) ∧
    (∀ kvs, ((fieldsOfF c pfx sels).filter (·.flatten)).all (fun g => okB (memV e fuel g kvs)) =
      looseMemN whole sels kvs)
  | [], _, _ => ⟨0, fun _ _ => ⟨by simp [fieldsOfF], fun _ => rfl⟩⟩
  | x :: xs, R, hsp => by
    obtain ⟨N, ih⟩ := accMemA_of pfx p xs R.tail (fun g hg => hsp g (List.mem_cons_of_mem _ hg))
    cases x with
    | field a fid sub =>
      obtain ⟨sf, ft, _, hf, _⟩ := R.field a fid sub List.mem_cons_self
      refine ⟨N, fun fuel hfuel => ?_⟩
      obtain ⟨i1, i2⟩ := ih fuel hfuel
      have hfs : fieldsOfF c pfx (.field a fid sub :: xs) =
          fieldOf c (a.getD sf.name) ft sf.ty.quals sf.deprecation :: fieldsOfF c pfx xs := by
        rw [fieldsOfF_cons, fieldOfSelF_field, hf]; rfl
      have hnf : (fieldOf c (a.getD sf.name) ft sf.ty.quals sf.deprecation).flatten = false := rfl
      rw [hfs]
      refine ⟨?_, fun kvs => ?_⟩
      · intro g hg hfl
        rcases List.mem_cons.mp hg with rfl | hg'
        · rw [hnf] at hfl; cases hfl
        · exact i1 g hg' hfl
      · simp only [List.filter_cons, hnf, Bool.false_eq_true, ↓reduceIte, i2 kvs, looseMemN]
    | spread g =>
      obtain ⟨hokg, hfg⟩ := hsp g List.mem_cons_self
      obtain ⟨fr, hfr, _⟩ := hok _ _ hokg
      have hname : fragName c g = fr.name := by simp [fragName, hfr]
      have fa := hfa p g hokg hfg
      obtain ⟨Nm, hmem⟩ := fa.mem
      obtain ⟨Ng, hacc⟩ := fa.acc
      rw [hname] at hmem hacc
      have hirr := fa.irr
      rw [hname] at hirr
      have hfs : fieldsOfF c pfx (.spread g :: xs) = spreadField c fr :: fieldsOfF c pfx xs := by
        rw [fieldsOfF_cons]; simp [fieldOfSelF, hfr]
      have hfl' : (spreadField c fr).flatten = true := rfl
      have hmv : ∀ fuel kvs, memV e fuel (spreadField c fr) kvs = dePath e true (fuel + 1) fr.name (.obj kvs) :=
        fun fuel kvs => rfl
      refine ⟨max N (max Ng Nm), fun fuel hfuel => ?_⟩
      obtain ⟨i1, i2⟩ := ih fuel (by omega)
      rw [hfs]
      refine ⟨?_, fun kvs => ?_⟩
      · intro g' hg hfl
        rcases List.mem_cons.mp hg with rfl | hg'
        · refine ⟨⟨fr.name, rfl, hmem fuel (by omega)⟩, ?_⟩
          intro L' hL' kvs
          rw [hmv, hmv, hacc (fuel + 1) (by omega), hacc (fuel + 1) (by omega)]
          exact hirr L' hL' true kvs
        · exact i1 g' hg' hfl
      · simp only [List.filter_cons, hfl', ↓reduceIte, List.all_cons, i2 kvs, looseMemN, hmv,
          hacc (fuel + 1) (by omega)]
    | inline t sub =>
      refine ⟨N, fun fuel hfuel => ?_⟩
      have hfs : fieldsOfF c pfx (.inline t sub :: xs) = fieldsOfF c pfx xs := by
        rw [fieldsOfF_cons]; simp [fieldOfSelF, fieldOfSelV]
      rw [hfs]
      exact ⟨(ih fuel hfuel).1, fun kvs => by rw [(ih fuel hfuel).2 kvs]; rfl⟩
    | typename =>
      refine ⟨N, fun fuel hfuel => ?_⟩
      have hfs : fieldsOfF c pfx (.typename :: xs) = fieldsOfF c pfx xs := by
        rw [fieldsOfF_cons]; simp [fieldOfSelF, fieldOfSelV]
      rw [hfs]
      exact ⟨(ih fuel hfuel).1, fun kvs => by rw [(ih fuel hfuel).2 kvs]; rfl⟩


include hok hfa in
theorem accMemA (pfx : String) (p : TypeId) (sels : List Sel) (ht : nSels ok c.s c.q c.o p sels = true)
    (henv : envSelsN fenv e c pfx sels) : ∃ N, ∀ fuel, N ≤ fuel →
    (∀ g ∈ fieldsOfF c pfx sels, g.flatten = true → MemberOkA e fuel (kOf KN g) g ∧
      (∀ L' : List String, (∀ k ∈ L', k ∉ kOf KN g) → ∀ kvs,
        okB (memV e fuel g (kvs.filter (fun kv => !L'.contains kv.1))) = okB (memV e fuel g kvs))) ∧
    (∀ kvs, ((fieldsOfF c pfx sels).filter (·.flatten)).all (fun g => okB (memV e fuel g kvs)) =
      looseMemN whole sels kvs) :=
  accMemA_of e c ok whole KN fenv hok hfa pfx p sels (resolves_of_nSels hok ht) (spreads_of_nSels ht henv)

def AccSelA (pfx : String) (x : Sel) : Prop :=
  ∀ p, nSel ok c.s c.q c.o p x = true → envSelN fenv e c pfx x → keysOkN KN c x = true →
    ∀ f, fieldOfSelV c pfx x = some f →
    ∃ N, ∀ b fd, N ≤ fd → ∀ v, okB (deFieldWith (dePath e b fd) f v) = looseFieldN whole c.s c.q c.o b x v

def AccSelsA (pfx : String) (sels : List Sel) : Prop :=
  ∀ p, nSels ok c.s c.q c.o p sels = true → envSelsN fenv e c pfx sels → keysOksN KN c sels = true →
    ∃ N, ∀ b fd, N ≤ fd →
    (∀ kvs, (fieldsOfV c pfx sels).all (fun f => decide (countKey f.wire kvs ≤ 1) &&
        okB (readField (dePath e b fd) f kvs)) = looseOwnN whole c.s c.q c.o b sels kvs) ∧
    (∀ xs, (decide ((fieldsOfV c pfx sels).length ≤ xs.length) &&
        ((fieldsOfV c pfx sels).zip xs).all (fun p => okB (deFieldWith (dePath e b fd) p.1 p.2))) =
          looseArrN whole c.s c.q c.o b sels xs)

include hok hfa in
/-- the struct of a selection set at an object position, given what its own fields accept (`own`, `arr`) -/
theorem accStructA_of (pfx name : String) (p : TypeId) (sels : List Sel) (R : Resolves c pfx sels)
    (hsp : ∀ g, Sel.spread g ∈ sels → ok p g = true ∧ fenv g)
    (own : Bool → List (String × Json) → Bool) (arr : Bool → List Json → Bool)
    (H : ∃ N, ∀ b fd, N ≤ fd →
      (∀ kvs, (fieldsOfV c pfx sels).all (fun f => decide (countKey f.wire kvs ≤ 1) &&
        okB (readField (dePath e b fd) f kvs)) = own b kvs) ∧
      (∀ xs, (decide ((fieldsOfV c pfx sels).length ≤ xs.length) &&
        ((fieldsOfV c pfx sels).zip xs).all (fun p => okB (deFieldWith (dePath e b fd) p.1 p.2))) = arr b xs))
    (hkeys : EnumSpec.nodup (expKeysN KN c sels) = true) (hs : StructEnv e name (fieldsOfF c pfx sels)) :
    ∃ N, ∀ b fd, N ≤ fd → ∀ j, okB (dePath e b fd name j) =
      (match j with
       | .obj kvs => own b kvs && looseMemN whole sels kvs
       | .arr xs => !sels.any isSpread && arr b xs
       | _ => false) := by
  obtain ⟨hp, _, n, d, cr, hfind⟩ := hs
  obtain ⟨N0, H0⟩ := H
  obtain ⟨N1, H1⟩ := accMemA_of e c ok whole KN fenv hok hfa pfx p sels R hsp
  refine ⟨max N0 N1 + 2, fun b fd hfd j => ?_⟩
  obtain ⟨fd', rfl⟩ : ∃ k, fd = k + 2 := ⟨fd - 2, by omega⟩
  have hown := filter_fieldsOfF c pfx sels
  have hany := any_flatten_fieldsOfF R
  have hpl := plain_fieldsOfV c pfx sels
  obtain ⟨A1, A2⟩ := H0 b (fd' + 1) (by omega)
  cases hsp : sels.any isSpread
  · -- no spread: a plain struct
    have hplain : fieldsOfF c pfx sels = fieldsOfV c pfx sels := by
      rw [← hown, List.filter_eq_self.mpr]
      intro f hf
      rw [hsp] at hany
      simpa using List.any_eq_false.mp hany f hf
    rw [hplain] at hfind
    rw [okB_dePath_plain e b (fd' + 1) name n d cr _ hp hfind hpl]
    cases j <;> simp [A1, A2, looseMemN_nospread whole _ sels hsp]
  · -- flattened members
    rw [hsp] at hany
    obtain ⟨M1, M2⟩ := H1 fd' (by omega)
    obtain ⟨_, _, h3, h4⟩ := flat_hyps_kOf KN R (nodup_iff'.mp hkeys)
    cases j with
    | obj kvs =>
      rw [dePath_struct e b (fd' + 1) name n d cr _ hp hfind, deStruct_obj,
        okB_deStructMapA e fd' _ _ kvs (kOf KN) hany (fun g hg hf => (M1 g hg hf).1)
        (fun g hg hf k hk hkK => h3 g hg hf k hkK hk)
        (fun g hg hf L' hL' => (M1 g hg hf).2 L' hL' kvs) h4, hown, okB_deOwn' _ _ _ hpl, A1 kvs, M2 kvs]
    | _ => exact okB_dePath_flat_nonobj e b (fd' + 1) name n d cr _ hp hfind hany _ (fun _ h => by cases h)

include hok hfa in
/-- the struct of an object-level selection set (not a lone spread) accepts exactly `conformsLooseN` -/
theorem accStructA (pfx name : String) (p : TypeId) (sels : List Sel) (H : AccSelsA e c ok whole KN fenv pfx sels)
    (hnl : ∀ g, sels ≠ [Sel.spread g])
    (ht : nSels ok c.s c.q c.o p sels = true) (henv : envSelsN fenv e c pfx sels) (hko : keysOksN KN c sels = true)
    (hkeys : EnumSpec.nodup (expKeysN KN c sels) = true)
    (hs : StructEnv e name (fieldsOfF c pfx sels)) :
    ∃ N, ∀ b fd, N ≤ fd → ∀ j, okB (dePath e b fd name j) = conformsLooseN whole c.s c.q c.o b sels j := by
  simp only [conformsLooseN_not_lone hnl]
  exact accStructA_of e c ok whole KN fenv hok hfa pfx name p sels (resolves_of_nSels hok ht)
    (spreads_of_nSels ht henv) _ _ (H p ht henv hko) hkeys hs

include hfa in
/-- a lone spread: the alias of the fragment struct accepts what the fragment struct accepts -/
theorem accAliasA (name : String) (p : TypeId) (g : Nat) (hokg : ok p g = true)
    (ha : AliasEnv e name (fragName c g)) (hf : fenv g) :
    ∃ N, ∀ b fd, N ≤ fd → ∀ j, okB (dePath e b fd name j) = whole g b j := by
  obtain ⟨Ng, hacc⟩ := (hfa p g hokg hf).acc
  obtain ⟨hp, _, n, pub, hfind⟩ := ha
  refine ⟨Ng + 1, fun b fd hfd j => ?_⟩
  obtain ⟨fd', rfl⟩ : ∃ k, fd = k + 1 := ⟨fd - 1, by omega⟩
  have : dePath e b (fd' + 1) name j = dePath e b fd' (fragName c g) j := by
    rw [dePath]; simp only [dePrim_none hp, hfind, deTyWith]
  rw [this]
  exact hacc fd' (by omega) b j

mutual
  theorem accSelA : ∀ (x : Sel) (pfx : String), OkSpec c.q ok →
      (∀ p g, ok p g = true → fenv g → FragAccA e c whole KN g) → AccSelA e c ok whole KN fenv pfx x
    | .field a fid sub, pfx => by
      intro hok hfa p ht henv hko f hf
      have IH := accSelsA sub
      obtain ⟨sf, ft, hsf, _, hf', hw⟩ := fieldOfSelV_n pfx p a fid sub ht
      by_cases hobj : ∃ i, sf.ty.id = .object i
      · obtain ⟨i, hid⟩ := hobj
        have hwf : wf (gtyOf sf.ty.quals) = true := by rw [wf_gtyOf]; exact hw
        obtain ⟨_, _, hobjs, hbody⟩ := nSel_obj hsf hid ht
        have henv := envSelN_obj hsf hid henv
        have hko := keysOkN_obj hsf hid hko
        simp only [fieldOfSelV, hsf, leafNameV, hid, Option.some.injEq] at hf
        subst hf
        have hleaf : ∃ N, ∀ b fd, N ≤ fd → ∀ j, okB (dePath e b fd (pfx ++ c.cs.camel (a.getD sf.name)) j) =
            conformsLooseN whole c.s c.q c.o b sub j := by
          rcases lone_or_not sub with hsp | hnl
          · obtain ⟨g, rfl⟩ := hsp
            unfold BodyEnvN at henv
            simp only at henv
            exact accAliasA e c ok whole KN fenv hfa _ (.object i) g hbody henv.1 henv.2
          · have henv' := bodyEnvN_not_lone hnl henv
            rw [nBody_not_lone hnl] at hbody
            exact accStructA e c ok whole KN fenv hok hfa _ _ (.object i) sub (IH _ hok hfa) hnl hbody henv'.2 hko.2
              hko.1 henv'.1
        have hID : pfx ++ c.cs.camel (a.getD sf.name) ≠ "ID" := by
          unfold BodyEnvN at henv
          split at henv
          · exact henv.1.2.1
          · exact henv.1.2.1
        obtain ⟨N, hN⟩ := hleaf
        refine ⟨N, fun b fd hfd v => ?_⟩
        rw [looseFieldN]
        simp only [hsf, hid]
        cases hk : c.s.objects[i]? with
        | none => simp [hk] at hobjs
        | some ob =>
          simp only []
          rw [looseLambdaN, deField_plain _ _ _ _ hID]
          exact (ok_iff_accepts _ _ (conformsLooseN whole c.s c.q c.o b sub) (hN b fd hfd) _ hwf).2 v
      · -- scalar / enum / abstract: as in `VariantSpreadOp`
        have hno : ∀ i, sf.ty.id ≠ .object i := fun i h => hobj ⟨i, h⟩
        refine ⟨2 * depthF c.q (.field a fid sub) + 1, fun b fd hfd v => ?_⟩
        rw [looseFieldN_nonobj hsf hno]
        exact accSelS e c _ pfx false (nSel_nonobj hsf hno ht) (envSelN_nonobj hsf hno henv) f hf b fd hfd v
    | .spread g, pfx => by intro _ _ _ _ _ _ f hf; cases hf
    | .inline t sub, pfx => by intro _ _ _ _ _ _ f hf; cases hf
    | .typename, pfx => by intro _ _ _ _ _ _ f hf; cases hf
  theorem accSelsA : ∀ (sels : List Sel) (pfx : String), OkSpec c.q ok →
      (∀ p g, ok p g = true → fenv g → FragAccA e c whole KN g) → AccSelsA e c ok whole KN fenv pfx sels
    | [], pfx => by
      intro _ _ _ _ _ _
      exact ⟨0, fun b fd _ => ⟨fun kvs => by simp [fieldsOfV, looseOwnN], fun xs => by simp [fieldsOfV, looseArrN]⟩⟩
    | x :: xs, pfx => by
      intro hok hfa p ht henv hko
      obtain ⟨hx, hxs⟩ := nSels_cons ht
      rw [envSelsN] at henv
      rw [keysOksN, Bool.and_eq_true] at hko
      obtain ⟨N2, I⟩ := accSelsA xs pfx hok hfa p hxs henv.2 hko.2
      have IX := accSelA x pfx hok hfa p hx henv.1 hko.1
      cases x with
      | field a fid sub =>
        obtain ⟨sf, ft, hsf, _, hf, hw⟩ := fieldOfSelV_n pfx p a fid sub hx
        obtain ⟨N1, IXf⟩ := IX _ hf
        have hfs := fieldsOfV_cons_field c pfx _ xs _ hf
        refine ⟨max N1 N2, fun b fd hfd => ?_⟩
        obtain ⟨I1, I2⟩ := I b fd (by omega)
        have IXf := IXf b fd (by omega)
        refine ⟨fun kvs => ?_, fun vs => ?_⟩
        · rw [hfs, List.all_cons, I1 kvs, looseOwnN.eq_2]
          simp only [hsf, fieldOf_wire, readField]
          cases hl : Json.lookup (a.getD sf.name) kvs with
          | none => simp only [missing_fieldOf]
          | some v => simp only [IXf v]
        · rw [hfs]
          cases vs with
          | nil => rw [looseArrN.eq_2]; simp
          | cons v vs' =>
            rw [looseArrN.eq_3]
            simp only [List.length_cons, List.zip_cons_cons, List.all_cons, IXf v, ← I2 vs',
              Nat.add_le_add_iff_right]
            cases looseFieldN whole c.s c.q c.o b (.field a fid sub) v <;> simp
      | spread g =>
        have hfs := fieldsOfV_cons_none c pfx (.spread g) xs rfl
        refine ⟨N2, fun b fd hfd => ?_⟩
        obtain ⟨I1, I2⟩ := I b fd hfd
        refine ⟨fun kvs => ?_, fun vs => ?_⟩
        · rw [hfs, I1 kvs]; simp [looseOwnN]
        · rw [hfs, I2 vs]; simp [looseArrN]
      | inline t sub => simp [nSel] at hx
      | typename =>
        have hfs := fieldsOfV_cons_none c pfx .typename xs rfl
        refine ⟨N2, fun b fd hfd => ?_⟩
        obtain ⟨I1, I2⟩ := I b fd hfd
        refine ⟨fun kvs => ?_, fun vs => ?_⟩
        · rw [hfs, I1 kvs]; simp [looseOwnN]
        · rw [hfs, I2 vs]; simp [looseArrN]
end

include hok hfa in
/-- **the type emitted for an object-level selection set accepts exactly `conformsLooseN`** (from some fuel on) -/
theorem bodyA_accepts_iff (pfx name : String) (p : TypeId) (sels : List Sel)
    (ht : nBody ok c.s c.q c.o p sels = true) (henv : BodyEnvN fenv e c name pfx sels)
    (hko : keysOksN KN c sels = true) (hkeys : EnumSpec.nodup (expKeysN KN c sels) = true) :
    ∃ N, ∀ b fd, N ≤ fd → ∀ j, okB (dePath e b fd name j) = conformsLooseN whole c.s c.q c.o b sels j := by
  rcases lone_or_not sels with hsp | hnl
  · obtain ⟨g, rfl⟩ := hsp
    unfold BodyEnvN at henv
    simp only at henv
    exact accAliasA e c ok whole KN fenv hfa _ p g ht henv.1 henv.2
  · have henv' := bodyEnvN_not_lone hnl henv
    rw [nBody_not_lone hnl] at ht
    exact accStructA e c ok whole KN fenv hok hfa pfx name p sels (accSelsA e c ok whole KN fenv sels pfx hok hfa) hnl ht
      henv'.2 hko hkeys henv'.1

end AccA

end C01AF
end GqlVerif
