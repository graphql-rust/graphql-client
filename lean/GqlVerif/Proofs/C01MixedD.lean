import GqlVerif.Proofs.C01MixedC
/-!
# C01 end to end (`MixedOp`): losslessness

`canonSelM s q skip sels j` — the allowed differences: at object positions as `canonSelF` (own entries and, **at the position of
each spread**, the entries of the fragment; a lone spread: the fragment's own canonical form), a field of scalar / enum /
interface / union type as `canonFieldD` (`VariantSpreadOp`: at an abstract position the interface-level entries and the entries
of the fragments on the abstract type itself in selection order, then `__typename`, then the entries of the selections on the
runtime type).  `canonEntriesM` is the `flatMap` of what each selection writes (`canonEntriesM_flat`, `C01EntryLists`).

**`mixed_lossless`** / **`mixed_roundtrip`** — over `moduleEnv c items` for the module `responseForQuery` emits:
`Serde.roundtrip … j = .ok (normJson (canonSelM … j))` (`normJson`: `serde_json::to_value` keeps one entry per key — with
spreads of fragments on an abstract type itself `__typename` is written several times, as for `VariantSpreadOp`).  Round trip of
the emitted types by induction over the selection tree: object positions by `deStruct_flat_finds`, `rtMemberF`, `rtAliasF`
(`C01AbstractI`) and `ser_flat` (`C01Layers`), all other fields by `rtSelD` of `C01VariantSpreadE`.

Additional decidable side condition: `mixedRustOk` (Rust field names — own fields, flattened members, `on` — pairwise
distinct in every struct, and inside every spread fragment): `rustOkSelF` at object positions, `rustOkSelD` elsewhere.
-/

namespace GqlVerif
namespace C01M
open Serde C13 Codegen C01 C01.E2E

/-! ## the allowed differences -/

mutual
  def canonFieldM (s : Schema) (q : Query) (skip : Bool) : Sel → Json → Json
    | .field a fid sub, v =>
      match s.fields[fid]? with
      | none => v
      | some sf =>
        match sf.ty.id with
        | .object _ => canon (fun j =>
            match sub with
            | [.spread g] => canonSelV s skip (fragSels q g) j
            | _ => match j with
              | .obj kvs => .obj (canonEntriesM s q skip sub kvs)
              | j => j) (gtyOf sf.ty.quals) v
        | _ => canonFieldD s q skip (.field a fid sub) v
    | _, v => v
  /-- own entries and, **at the position of each spread**, the entries of the fragment, in selection order -/
  def canonEntriesM (s : Schema) (q : Query) (skip : Bool) : List Sel → List (String × Json) → List (String × Json)
    | [], _ => []
    | .field a fid sub :: xs, kvs =>
      (match s.fields[fid]? with
       | none => []
       | some sf =>
         match Json.lookup (a.getD sf.name) kvs with
         | some v =>
           if skip && skipQ sf.ty.quals && v.isNull then []
           else [(a.getD sf.name, canonFieldM s q skip (.field a fid sub) v)]
         | none => if skip && skipQ sf.ty.quals then [] else [(a.getD sf.name, Json.null)]) ++
        canonEntriesM s q skip xs kvs
    | .spread g :: xs, kvs => canonEntriesV s skip (fragSels q g) kvs ++ canonEntriesM s q skip xs kvs
    | _ :: xs, kvs => canonEntriesM s q skip xs kvs
end

theorem canonEntriesM_flat (s : Schema) (q : Query) (skip : Bool) (kvs : List (String × Json)) : ∀ (sels : List Sel),
    canonEntriesM s q skip sels kvs = sels.flatMap (fun x => fieldEntry s skip (canonFieldM s q skip) kvs x ++
      spreadEntries (fun g => canonEntriesV s skip (fragSels q g) kvs) x)
  | [] => by simp [canonEntriesM]
  | x :: xs => by
    rw [List.flatMap_cons, ← canonEntriesM_flat s q skip kvs xs]
    cases x with
    | field a fid sub => rw [canonEntriesM.eq_2]; simp only [spreadEntries, List.append_nil]; rfl
    | spread g => rw [canonEntriesM.eq_3]; rfl
    | _ => rfl

/-- **`canonSelM`**: what the serializer writes for a conforming response `j` (before `serde_json::to_value` merges
    repeated keys) -/
def canonSelM (s : Schema) (q : Query) (skip : Bool) (sels : List Sel) (j : Json) : Json :=
  match sels with
  | [.spread g] => canonSelV s skip (fragSels q g) j
  | _ => match j with
    | .obj kvs => .obj (canonEntriesM s q skip sels kvs)
    | j => j

theorem canonLambdaM (s : Schema) (q : Query) (skip : Bool) (sub : List Sel) :
    (fun j =>
      match sub with
      | [.spread g] => canonSelV s skip (fragSels q g) j
      | _ => match j with
        | .obj kvs => .obj (canonEntriesM s q skip sub kvs)
        | j => j) = canonSelM s q skip sub := by
  funext j; unfold canonSelM; rfl

theorem canonSelM_not_lone {s : Schema} {q : Query} {skip : Bool} {sels : List Sel}
    (h : ∀ g, sels ≠ [Sel.spread g]) (j : Json) :
    canonSelM s q skip sels j = (match j with | .obj kvs => .obj (canonEntriesM s q skip sels kvs) | j => j) := by
  unfold canonSelM
  split
  · exact absurd rfl (h _)
  · rfl

theorem canonFieldM_nonobj {s : Schema} {q : Query} {skip : Bool} {a : Option String} {fid : Nat}
    {sub : List Sel} {sf : StoredField} (hsf : s.fields[fid]? = some sf) (hno : ∀ i, sf.ty.id ≠ .object i) (v : Json) :
    canonFieldM s q skip (.field a fid sub) v = canonFieldD s q skip (.field a fid sub) v := by
  rw [canonFieldM]
  simp only [hsf]

mutual
  def rustOkSelM (c : Ctx) : Sel → Bool
    | .field a fid sub =>
      (match (c.s.fields[fid]?).map (fun sf => sf.ty.id) with
       | some (TypeId.object _) =>
         (match sub with
          | [.spread g] => rustOkFrag c g
          | _ => EnumSpec.nodup (rustNamesF c sub) && rustOkSelsM c sub)
       | _ => rustOkSelD c (.field a fid sub))
    | .spread g => rustOkFrag c g
    | _ => true
  def rustOkSelsM (c : Ctx) : List Sel → Bool
    | [] => true
    | x :: xs => rustOkSelM c x && rustOkSelsM c xs
end

theorem rustOkSelsM_mem {c : Ctx} : ∀ {sels : List Sel}, rustOkSelsM c sels = true →
    ∀ x ∈ sels, rustOkSelM c x = true :=
  fun {sels} h => List.all_eq_true.mp (all_of_eqns (ps := rustOkSelsM c) (by rw [rustOkSelsM]) (fun _ _ => by rw [rustOkSelsM]) sels ▸ h)

theorem keysOksM_mem {s : Schema} {q : Query} : ∀ {sels : List Sel}, keysOksM s q sels = true →
    ∀ x ∈ sels, keysOkM s q x = true :=
  fun {sels} h => List.all_eq_true.mp (all_of_eqns (ps := keysOksM s q) (by rw [keysOksM]) (fun _ _ => by rw [keysOksM]) sels ▸ h)

/-- the entries the struct writes are `canonEntriesM` -/
theorem flatMap_entriesM_canon (c : Ctx) (pfx : String) (p : TypeId) (fc : RField → Json → Json)
    (mc : RField → List (String × Json)) (kvs : List (String × Json)) : ∀ (sels : List Sel),
    mSels c.s c.q c.o p sels = true →
    (∀ a fid sub, Sel.field a fid sub ∈ sels → ∀ f, fieldOfSelV c pfx (.field a fid sub) = some f →
      ∀ v, fc f v = canonFieldM c.s c.q c.o.skipNone (.field a fid sub) v) →
    (∀ g fr, Sel.spread g ∈ sels → c.q.fragments[g]? = some fr →
      mc (spreadField c fr) = canonEntriesV c.s c.o.skipNone fr.sels kvs) →
    (fieldsOfF c pfx sels).flatMap (entriesF fc mc kvs) = canonEntriesM c.s c.q c.o.skipNone sels kvs
  | [], _, _, _ => by simp [fieldsOfF, canonEntriesM]
  | x :: xs, ht, hfc, hmc => by
    obtain ⟨hx, hxs⟩ := mSels_cons ht
    have ih := flatMap_entriesM_canon c pfx p fc mc kvs xs hxs
      (fun a fid sub hm => hfc a fid sub (List.mem_cons_of_mem _ hm))
      (fun g fr hm => hmc g fr (List.mem_cons_of_mem _ hm))
    rw [fieldsOfF_cons, List.flatMap_append, ih]
    cases x with
    | field a fid sub =>
      obtain ⟨sf, ft, hsf, _, hf, _⟩ := fieldOfSelV_m c pfx p a fid sub hx
      rw [fieldOfSelF_field, hf, canonEntriesM.eq_2]
      simp only [Option.toList, List.flatMap_cons, List.flatMap_nil, List.append_nil, entriesF, fieldOf,
        Bool.false_eq_true, ↓reduceIte]
      have := expectOut_cons fc (fieldOf c (a.getD sf.name) ft sf.ty.quals sf.deprecation) [] kvs
      simp only [fieldOf] at this
      rw [this]
      simp only [hsf, expectOut, List.filterMap_nil, List.append_nil]
      have hw := fieldOf_wire c (a.getD sf.name) ft sf.ty.quals sf.deprecation
      simp only [fieldOf] at hw
      simp only [hw, Bool.and_assoc]
      have hfc' := hfc a fid sub (by simp) _ hf
      simp only [fieldOf] at hfc'
      cases Json.lookup (a.getD sf.name) kvs with
      | none => rfl
      | some v => simp only [hfc' v]
    | spread g =>
      have hok : fragOk c.s c.q c.o p g = true := by simpa [mSel] using hx
      obtain ⟨fr, hfr, _⟩ := fragOk_parts hok
      have hsels : fragSels c.q g = fr.sels := by simp [fragSels, hfr]
      rw [canonEntriesM.eq_3, hsels]
      simp [fieldOfSelF, hfr, entriesF, spreadField]
      rw [← hmc g fr (by simp) hfr]; rfl
    | inline t sub => simp [mSel] at hx
    | typename => simp [fieldOfSelF, fieldOfSelV, canonEntriesM]

/-- the canonical form of the value of the own field whose wire name is `f.wire` -/
def fcanonOfM (s : Schema) (q : Query) (skip : Bool) (sels : List Sel) (f : RField) (v : Json) : Json :=
  match sels.find? (fun x => fieldKey s x == some f.wire) with
  | some x => canonFieldM s q skip x v
  | none => v

/-! ## round trip of the struct of an object-level selection set with spreads -/

section RTM
variable (e : Env) (c : Ctx)

def RTSelM (pfx : String) (x : Sel) : Prop :=
  ∀ p, mSel c.s c.q c.o p x = true → envSelM e c pfx x → keysOkM c.s c.q x = true → rustOkSelM c x = true →
    ∀ f, fieldOfSelV c pfx x = some f → ∀ b fd fs, 2 * depthF c.q x + 1 ≤ fd → 2 * depthF c.q x ≤ fs →
      ∀ v y, strictFieldV c.s (expandSel c.q x) v = true → deFieldWith (dePath e b fd) f v = .ok y →
        serTyWith (serPath e fs) f.ty y = .ok (canonFieldM c.s c.q c.o.skipNone x v)

theorem rtStructM (pfx name : String) (i : Nat) (sels : List Sel) (H : ∀ x ∈ sels, RTSelM e c pfx x)
    (ht : mSels c.s c.q c.o (.object i) sels = true) (henv : envSelsM e c pfx sels)
    (hko : keysOksM c.s c.q sels = true) (hkeys : EnumSpec.nodup (expKeys c.s c.q sels) = true)
    (hro : rustOkSelsM c sels = true) (hrn : EnumSpec.nodup (rustNamesF c sels) = true)
    (hs : StructEnv e name (fieldsOfF c pfx sels)) (b : Bool) (fd fs : Nat)
    (hfd : 2 * depthsF c.q sels + 2 ≤ fd) (hfs : 2 * depthsF c.q sels + 2 ≤ fs) (kvs : List (String × Json))
    (hnd : (kvs.map (·.1)).Nodup) (hconf : confSelsV c.s i (expandSels c.q sels) kvs = true)
    (v : Val) (hd : dePath e b fd name (.obj kvs) = .ok v) :
    serPath e fs name v = .ok (.obj (canonEntriesM c.s c.q c.o.skipNone sels kvs)) := by
  obtain ⟨hp, _, n, d, cr, hfind⟩ := hs
  obtain ⟨fuel, rfl⟩ : ∃ k, fd = k + 2 := ⟨fd - 2, by omega⟩
  obtain ⟨fs', rfl⟩ : ∃ k, fs = k + 2 := ⟨fs - 2, by omega⟩
  have hcnt := countKey_le_one_of_nodup hnd
  obtain ⟨h1, _, h3, h4⟩ := flat_hypsM e c pfx (.object i) sels ht henv (nodup_iff'.mp hkeys)
  have hrust : ((fieldsOfF c pfx sels).map (·.rust)).Nodup := by
    rw [rust_fieldsOfF c pfx sels (resolves_of_mSels ht)]; exact nodup_iff'.mp hrn
  rw [dePath_struct e b (fuel + 1) name n d cr _ hp hfind, deStruct_obj] at hd
  obtain ⟨vals, rfl, hownf, hmemf⟩ := deStruct_flat_finds e fuel _ _ kvs hcnt hrust (fun g hg hf => (h1 g hg hf).1) h3 h4 v hd
  have hfk : (fieldKeys c.s sels).Nodup := (fieldKeys_sublist_expKeys c.s c.q sels).nodup (nodup_iff'.mp hkeys)
  -- the members
  have hmemrt : ∀ gid fr, Sel.spread gid ∈ sels → c.q.fragments[gid]? = some fr →
      ∃ x, vals.find? (·.1 == (spreadField c fr).rust) = some ((spreadField c fr).rust, x) ∧
        serTyWith (serPath e (fs' + 1)) (spreadField c fr).ty x =
          .ok (.obj (canonEntriesV c.s c.o.skipNone fr.sels kvs)) := by
    intro gid fr hm hfr
    have hx := mSels_mem ht _ hm
    have hokg : fragOk c.s c.q c.o (.object i) gid = true := by simpa [mSel] using hx
    obtain ⟨fr', hfr', hon, _, hv, _⟩ := fragOk_parts hokg
    rw [hfr] at hfr'; cases hfr'
    have henvg : FragEnv e c gid := by have := envSelsM_mem henv _ hm; simpa [envSelM] using this
    have hrog : rustOkFrag c gid = true := by have := rustOkSelsM_mem hro _ hm; simpa [rustOkSelM] using this
    have hgmem : spreadField c fr ∈ fieldsOfF c pfx sels :=
      List.mem_filterMap.mpr ⟨_, hm, by simp [fieldOfSelF, hfr]⟩
    obtain ⟨own, hown, hfindg⟩ := hmemf _ hgmem rfl
    rw [(memberFields_spread e c gid fr hfr henvg).1] at hown
    refine ⟨_, hfindg, ?_⟩
    have hdep := depthsF_mem c.q hm
    rw [depthF] at hdep
    have hsels : fragSels c.q gid = fr.sels := by simp [fragSels, hfr]
    rw [hsels] at hdep
    have hconfg : confSelsV c.s i fr.sels kvs = true := by
      have := confSelsV_mem hconf _ (expandSels_mem c.q hm)
      simpa [expandSel, hfr, confSelV, hon, fragApplies] using this
    exact rtMemberF e c i gid fr hfr hokg henvg hrog fuel fs' (by omega) (by omega) kvs hnd hconfg own hown
  -- the entries a member writes, as a function of the member
  let mc : RField → List (String × Json) := fun g =>
    match vals.find? (·.1 == g.rust) with
    | some (_, x) => (match serTyWith (serPath e (fs' + 1)) g.ty x with | .ok (.obj o) => o | _ => [])
    | none => []
  have hmc : ∀ gid fr, Sel.spread gid ∈ sels → c.q.fragments[gid]? = some fr →
      mc (spreadField c fr) = canonEntriesV c.s c.o.skipNone fr.sels kvs := by
    intro gid fr hm hfr
    obtain ⟨x, hf, hser⟩ := hmemrt gid fr hm hfr
    simp only [mc, hf, hser]
  have hopt := optionAttrs_fieldsOfF c pfx sels
  rw [serPath_struct e (fs' + 1) name n d cr _ hfind,
    ser_flat (dePath e b (fuel + 1)) (serPath e (fs' + 1)) (fcanonOfM c.s c.q c.o.skipNone sels) mc kvs vals
      (fieldsOfF c pfx sels) hownf ?_ (fun f hf _ => hopt.unit f hf) (fun f hf _ => hopt.default f hf) ?_]
  · rw [flatMap_entriesM_canon c pfx (.object i) _ mc kvs sels ht ?_ hmc]
    · rfl
    · intro a fid sub hx f hfx v
      obtain ⟨sf, ft, hsf, _, hf', _⟩ := fieldOfSelV_m c pfx _ a fid sub (mSels_mem ht _ hx)
      rw [hf'] at hfx
      cases hfx
      unfold fcanonOfM
      rw [fieldOf_wire, find_fieldKey c.s _ sels hfk _ hx (by simp [fieldKey, hsf])]
  · intro f hf hfl j x hl hdx
    have hfV : f ∈ fieldsOfV c pfx sels := by
      rw [← filter_fieldsOfF c pfx sels]; exact List.mem_filter.mpr ⟨hf, by simp [hfl]⟩
    obtain ⟨a, fid, sub, sf, ft, hx, hsf, hfx, rfl, _⟩ := mem_fieldsOfV_of (resolves_of_mSels ht) hfV
    rw [fieldOf_wire] at hl
    have hst : strictFieldV c.s (expandSel c.q (.field a fid sub)) j = true := by
      have := confSelsV_mem hconf _ (expandSels_mem c.q hx)
      rw [expandSel, confSelV_field] at this
      rw [expandSel]
      simpa [hsf, hl] using this
    have hfc : fcanonOfM c.s c.q c.o.skipNone sels (fieldOf c (a.getD sf.name) ft sf.ty.quals sf.deprecation) j =
        canonFieldM c.s c.q c.o.skipNone (.field a fid sub) j := by
      unfold fcanonOfM
      rw [fieldOf_wire, find_fieldKey c.s _ sels hfk _ hx (by simp [fieldKey, hsf])]
    rw [hfc]
    have hdep := depthsF_mem c.q hx
    exact H _ hx _ (mSels_mem ht _ hx) (envSelsM_mem henv _ hx) (keysOksM_mem hko _ hx) (rustOkSelsM_mem hro _ hx) _ hfx
      b (fuel + 1) (fs' + 1) (by omega) (by omega) j x hst hdx
  · intro g hg hfl
    obtain ⟨gid, fr, hm, hfr, rfl⟩ := mem_fieldsOfF_flatten hg hfl
    obtain ⟨x, hf, hser⟩ := hmemrt gid fr hm hfr
    exact ⟨x, hf, by rw [hser, hmc gid fr hm hfr]⟩


/-- round trip of the type emitted for an object-level selection set, from the round trips of its fields -/
theorem rtBodyM (pfx name : String) (i : Nat) (sels : List Sel) (H : ∀ x ∈ sels, RTSelM e c pfx x)
    (ht : mBody c.s c.q c.o (.object i) sels = true) (henv : BodyEnvM e c name pfx sels)
    (hko : keysOksM c.s c.q sels = true) (hkeys : EnumSpec.nodup (expKeys c.s c.q sels) = true)
    (hro : rustOkSelsM c sels = true) (hrn : EnumSpec.nodup (rustNamesF c sels) = true) (b : Bool) (fd fs : Nat)
    (hfd : 2 * depthsF c.q sels + 2 ≤ fd) (hfs : 2 * depthsF c.q sels + 2 ≤ fs) (j : Json) (v : Val)
    (hc : conformsV c.s i (expandSels c.q sels) j = true) (hd : dePath e b fd name j = .ok v) :
    serPath e fs name v = .ok (canonSelM c.s c.q c.o.skipNone sels j) := by
  by_cases hsp : ∃ g, sels = [Sel.spread g]
  · obtain ⟨g, rfl⟩ := hsp
    unfold BodyEnvM at henv
    simp only at henv
    have hdep : depthsF c.q [Sel.spread g] = selsDepth (fragSels c.q g) + 1 := by simp [depthsF, depthF]
    rw [hdep] at hfd hfs
    have hrog : rustOkFrag c g = true := by simpa [rustOkSelsM, rustOkSelM] using hro
    exact rtAliasF e c name i g ht henv.1 henv.2 hrog b fd fs (by omega) (by omega) j v hc hd
  · have hnl : ∀ g, sels ≠ [Sel.spread g] := fun g hg => hsp ⟨g, hg⟩
    have henv' := bodyEnvM_not_lone hnl henv
    rw [mBody_not_lone hnl] at ht
    rw [canonSelM_not_lone hnl]
    obtain ⟨kvs, rfl, hnd, hconf⟩ := conformsV_obj hc
    exact rtStructM e c pfx name i sels H ht henv'.2 hko hkeys hro hrn henv'.1 b fd fs hfd hfs kvs hnd hconf v hd

theorem rustOkSelM_obj {c : Ctx} {a : Option String} {fid : Nat} {sub : List Sel} {sf : StoredField} {i : Nat}
    (hsf : c.s.fields[fid]? = some sf) (hid : sf.ty.id = .object i) (h : rustOkSelM c (.field a fid sub) = true) :
    rustOkSelsM c sub = true ∧ EnumSpec.nodup (rustNamesF c sub) = true := by
  unfold rustOkSelM at h
  simp only [hsf, hid, Option.map_some] at h
  by_cases hsp : ∃ g, sub = [Sel.spread g]
  · obtain ⟨g, rfl⟩ := hsp
    have hro' : rustOkFrag c g = true := h
    exact ⟨by simpa [rustOkSelsM, rustOkSelM] using hro', by simp [rustNamesF, rustNameF, EnumSpec.nodup]⟩
  · have hnl : ∀ g, sub ≠ [Sel.spread g] := fun g hg => hsp ⟨g, hg⟩
    have : (EnumSpec.nodup (rustNamesF c sub) && rustOkSelsM c sub) = true := by
      revert h
      split
      · exact fun _ => absurd rfl (hnl _)
      · exact id
    rw [Bool.and_eq_true] at this
    exact ⟨this.2, this.1⟩

theorem rustOkSelM_nonobj {c : Ctx} {a : Option String} {fid : Nat} {sub : List Sel} {sf : StoredField}
    (hsf : c.s.fields[fid]? = some sf) (hno : ∀ i, sf.ty.id ≠ .object i) (h : rustOkSelM c (.field a fid sub) = true) :
    rustOkSelD c (.field a fid sub) = true := by
  unfold rustOkSelM at h
  simp only [hsf, Option.map_some] at h
  cases hid : sf.ty.id with
  | object i => exact absurd hid (hno i)
  | scalar k => simpa only [hid] using h
  | «enum» k => simpa only [hid] using h
  | interface k => simpa only [hid] using h
  | union k => simpa only [hid] using h
  | input k => simpa only [hid] using h

mutual
  theorem rtSelM : ∀ (x : Sel) (pfx : String), RTSelM e c pfx x
    | .field a fid sub, pfx => by
      intro p ht henv hko hro f hf b fd fs hfd hfs v y hst hd
      have IH := rtSelsM sub
      obtain ⟨sf, hsf, hk⟩ := mSel_kinds ht
      rcases hk with ⟨i, hid, hw, _, _, hbody⟩ | ⟨hno, hs⟩
      · rw [depthF] at hfd hfs
        have hwf : wf (gtyOf sf.ty.quals) = true := by rw [wf_gtyOf]; exact hw
        have henvB := envSelM_obj hsf hid henv
        have hko := keysOkM_obj hsf hid hko
        have hroB := rustOkSelM_obj hsf hid hro
        simp only [expandSel, strictFieldV] at hst
        rw [canonFieldM]
        simp only [hsf, hid] at hst ⊢
        simp only [fieldOfSelV, hsf, leafNameV, hid, Option.some.injEq] at hf
        subst hf
        rw [canonLambdaM]
        have hID : pfx ++ c.cs.camel (a.getD sf.name) ≠ "ID" := by
          unfold BodyEnvM at henvB
          split at henvB
          · exact henvB.1.2.1
          · exact henvB.1.2.1
        rw [deField_plain _ _ _ _ hID] at hd
        refine (leaf_roundtrip_on (dePath e b fd) (serPath e fs) _
          (conformsAt c.s (.object i) (expandSels c.q sub)) (canonSelM c.s c.q c.o.skipNone sub) ?_ _ hwf).2 v y hst hd
        intro j w hc hdw
        simp only [conformsAt, List.any_eq_true, List.mem_range, Bool.and_eq_true, fragApplies, beq_iff_eq] at hc
        obtain ⟨rt, _, hrt, hcv⟩ := hc
        subst hrt
        exact rtBodyM e c _ _ i sub (IH _) hbody henvB hko.2 hko.1 hroB.1 hroB.2 b fd fs (by omega) (by omega) j w hcv hdw
      · rw [canonFieldM_nonobj hsf hno]
        exact rtSelD e c _ pfx false hs (envSelM_nonobj hsf hno henv)
          (rustOkSelM_nonobj hsf hno hro) f hf b fd fs hfd hfs v y hst hd
    | .spread g, pfx => by intro _ _ _ _ _ f hf; cases hf
    | .inline t sub, pfx => by intro _ _ _ _ _ f hf; cases hf
    | .typename, pfx => by intro _ _ _ _ _ f hf; cases hf
  theorem rtSelsM : ∀ (sels : List Sel) (pfx : String), ∀ x ∈ sels, RTSelM e c pfx x
    | [], _, x, hx => by simp at hx
    | y :: ys, pfx, x, hx => by
      rcases List.mem_cons.mp hx with h | hx'
      · rw [h]; exact rtSelM y pfx
      · exact rtSelsM ys pfx x hx'
end

/-- **round trip of the type emitted for an object-level selection set of `MixedOp`** -/
theorem bodyM_lossless (pfx name : String) (i : Nat) (sels : List Sel)
    (ht : mBody c.s c.q c.o (.object i) sels = true) (henv : BodyEnvM e c name pfx sels)
    (hko : keysOksM c.s c.q sels = true) (hkeys : EnumSpec.nodup (expKeys c.s c.q sels) = true)
    (hro : rustOkSelsM c sels = true) (hrn : EnumSpec.nodup (rustNamesF c sels) = true) (b : Bool) (fd fs : Nat)
    (hfd : 2 * depthsF c.q sels + 2 ≤ fd) (hfs : 2 * depthsF c.q sels + 2 ≤ fs) (j : Json) (v : Val)
    (hc : conformsV c.s i (expandSels c.q sels) j = true) (hd : dePath e b fd name j = .ok v) :
    serPath e fs name v = .ok (canonSelM c.s c.q c.o.skipNone sels j) :=
  rtBodyM e c pfx name i sels (rtSelsM e c sels pfx) ht henv hko hkeys hro hrn b fd fs hfd hfs j v hc hd

end RTM

/-- Rust field names pairwise distinct in every struct (decidable) -/
def mixedRustOk (c : Ctx) (op : ROperation) : Bool :=
  rustOkSelsM c op.sels && EnumSpec.nodup (rustNamesF c op.sels)

/-- **losslessness at the top level** (generic environment) -/
theorem top_losslessM (e : Env) (c : Ctx) (op : ROperation) (ht : MixedOp c op = true)
    (hk : mixedKeysOk c op = true) (hr : mixedRustOk c op = true) (he : TopEnvM e c op)
    (j : Json) (v : Val) (hc : conformsOpM c op j = true) (hd : Serde.de e (.path "ResponseData") j = .ok v) :
    Serde.ser e (.path "ResponseData") v = .ok (normJson (canonSelM c.s c.q c.o.skipNone op.sels j)) := by
  obtain ⟨_, _, hsels⟩ := mixedOp_parts ht
  simp only [mixedKeysOk, Bool.and_eq_true] at hk
  simp only [mixedRustOk, Bool.and_eq_true] at hr
  exact Top.ser_norm he.size
    (fun fd fs hfd hfs => bodyM_lossless e c _ "ResponseData" op.objectId op.sels hsels he.root hk.1 hk.2 hr.1 hr.2 false
      fd fs (by omega) (by omega) j v hc) hd

/-- **`mixed_lossless`.**  A conforming response that was read is written back as `normJson (canonSelM … j)`:
    `canonSelM` is what the serializer writes — at object positions the entries of a spread fragment at the position of the
    spread (`canonSelF`), at abstract positions as `canonSelD` of `VariantSpreadOp` —, `normJson` is
    `serde_json::to_value`'s "a repeated key keeps its first position and its last value". -/
theorem mixed_lossless (c : Ctx) (opIdx : Nat) (op : ROperation) (items : List Item)
    (hop : c.q.operations[opIdx]? = some op) (ht : MixedOp c op = true) (hk : mixedKeysOk c op = true)
    (hr : mixedRustOk c op = true)
    (hgen : responseForQuery c opIdx = .ok items) (hok : moduleOk c items = true)
    (j : Json) (hc : conformsOpM c op j = true) (v : Val)
    (hd : Serde.de (moduleEnv c items) (.path "ResponseData") j = .ok v) :
    Serde.ser (moduleEnv c items) (.path "ResponseData") v =
      .ok (normJson (canonSelM c.s c.q c.o.skipNone op.sels j)) :=
  top_losslessM (moduleEnv c items) c op ht hk hr (topEnvM_of_module hop ht hgen hok) j v hc hd

theorem mixed_roundtrip (c : Ctx) (opIdx : Nat) (op : ROperation) (items : List Item)
    (hop : c.q.operations[opIdx]? = some op) (ht : MixedOp c op = true) (hk : mixedKeysOk c op = true)
    (hr : mixedRustOk c op = true)
    (hgen : responseForQuery c opIdx = .ok items) (hok : moduleOk c items = true)
    (j : Json) (hc : conformsOpM c op j = true) :
    Serde.roundtrip (moduleEnv c items) (.path "ResponseData") j =
      .ok (normJson (canonSelM c.s c.q c.o.skipNone op.sels j)) :=
  Top.roundtrip_of (mixed_accepts c opIdx op items hop ht hk hgen hok j hc)
    (mixed_lossless c opIdx op items hop ht hk hr hgen hok j hc)

end C01M
end GqlVerif
