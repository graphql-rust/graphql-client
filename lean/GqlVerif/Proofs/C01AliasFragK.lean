import GqlVerif.Proofs.C01AliasFragD
import GqlVerif.Proofs.C01NestedK
/-!
# `AliasFragOp`: the class makes the spread graph of the reachable fragments acyclic

`reachRanked_of_ranks` of `C01NestedK` for the ranks of `fragOkA` (an alias hop `fragment A on T { ...B }` descends in
rank like any other same-type spread): `aliasfrag_module_envOK` — no acyclicity hypothesis on the document.
-/

namespace GqlVerif
namespace C01AF
open Serde Spec C13 C03 Codegen C01 C01.E2E C01M C01N

/-- the first rank at which the fragment `g` is in the class -/
def rhoA (c : Ctx) (g : Nat) : Nat :=
  firstOk (fun r => fragOkA c.s c.q c.o r (fragOn c.q g) g) (c.q.fragments.length + 1)

/-- **the reachable fragments of an operation of `AliasFragOp` are ranked along same-type spreads** -/
theorem aliasfrag_reachRanked (c : Ctx) (op : ROperation) (ht : AliasFragOp c op = true) :
    AcyclicM.ReachRanked c.q op.sels (rhoA c) :=
  reachRanked_of_ranks c (fragOkA c.s c.q c.o) _ op.sels (fragOkA_spec c.s c.q c.o)
    (fun p g h => by rw [fragOkA] at h; exact h) (fun _ _ _ => fragOkA_succ)
    (fun r p g hno hyes => by
      rw [fragOkA, hno, Bool.false_or] at hyes
      obtain ⟨f, hf, hon, _, _, hb⟩ := fragNewA_parts hyes
      exact ⟨f, hf, hon, hb⟩)
    (spreadIdss_class_body (aliasFragOp_parts ht).2.2)

/-- **the module of an operation of `AliasFragOp` is `EnvOK` and `EnvOKS`** (no fuel exhaustion, fuel independence), with no
    acyclicity hypothesis on the document -/
theorem aliasfrag_module_envOK {c : Ctx} {opIdx : Nat} {op : ROperation} {items : List Item}
    (hop : c.q.operations[opIdx]? = some op) (ht : AliasFragOp c op = true)
    (hgen : responseForQuery c opIdx = .ok items) (hok : moduleOk c items = true) :
    SerdeFuel.EnvOK (moduleEnv c items) ∧ SerdeFuel.EnvOKS (moduleEnv c items) :=
  AcyclicM.module_envOK_of_reachRanked hop (aliasfrag_reachRanked c op ht) hgen hok

end C01AF
end GqlVerif
