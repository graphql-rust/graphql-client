import GqlVerif.Model.Schema

/-! The example schema of the `MixedOp` / `NestedOp` / `AliasFragOp` / `NestedAbsOp` instances: `dog : Dog`,
`animal : Animal` (interface, implemented by `Dog`, `Cat`). -/

namespace GqlVerif
namespace C01M

def mxSchema : Schema :=
  { objects := [{ name := "Query", fields := [0, 1], implements := [] },
                { name := "Dog", fields := [2, 3], implements := [0] },
                { name := "Cat", fields := [2, 4], implements := [0] }]
    fields := [{ name := "dog", ty := { id := .object 1, quals := [] }, parent := .object 0, deprecation := none },
               { name := "animal", ty := { id := .interface 0, quals := [] }, parent := .object 0, deprecation := none },
               { name := "name", ty := { id := .scalar 1, quals := [.required] }, parent := .interface 0, deprecation := none },
               { name := "barks", ty := { id := .scalar 4, quals := [] }, parent := .object 1, deprecation := none },
               { name := "lives", ty := { id := .scalar 2, quals := [] }, parent := .object 2, deprecation := none }]
    interfaces := [{ name := "Animal", fields := [2] }]
    scalars := ["ID", "String", "Int", "Float", "Boolean"] }

end C01M
end GqlVerif
