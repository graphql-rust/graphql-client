import GqlVerif.Proofs.C01EndToEnd

/-! `TreeOp` end to end on a concrete module (`exCtx`): the class and every side condition are satisfiable, the theorems
apply; witnesses for the liberties of serde in `tree_precise_iff`. -/

namespace GqlVerif
namespace C01
namespace E2E
open Serde Spec C13 C03 Codegen

/-! ## the module

Two-level operation with `__typename` at both levels, an alias, an `ID!`, a nullable `String`, a
deprecated non-null enum (one of whose values is a Rust keyword), a nullable custom scalar, and a
non-null list of non-null objects. -/

def exSchema : Schema :=
  { objects := [{ name := "Query", fields := [0, 5], implements := [] },
                { name := "Hero", fields := [1, 2, 3, 4], implements := [] }]
    fields := [{ name := "hero", ty := { id := .object 1, quals := [] }, parent := .object 0, deprecation := none },
               { name := "id", ty := { id := .scalar 0, quals := [.required] }, parent := .object 1, deprecation := none },
               { name := "name", ty := { id := .scalar 1, quals := [] }, parent := .object 1, deprecation := none },
               { name := "episode", ty := { id := .enum 0, quals := [.required] }, parent := .object 1, deprecation := some none },
               { name := "born", ty := { id := .scalar 5, quals := [] }, parent := .object 1, deprecation := none },
               { name := "friends", ty := { id := .object 1, quals := [.required, .list, .required] }, parent := .object 0, deprecation := none }]
    scalars := ["ID", "String", "Int", "Float", "Boolean", "Date"]
    enums := [{ name := "Episode", variants := ["NEWHOPE", "EMPIRE", "type"] }] }

def exOp : ROperation :=
  { name := "Q", kind := .query, objectId := 0,
    sels := [.typename,
             .field none 0 [.field none 1 [], .field (some "n") 2 [], .field none 3 [], .field none 4 [], .typename],
             .field (some "others") 5 [.field none 1 []]] }

def exQuery : Query := { operations := [exOp] }

def exCtx : Ctx := { s := exSchema, q := exQuery, o := {}, cs := ⟨id, id⟩ }

example : TreeOp exCtx exOp = true := by decide +kernel


def exUsed : UsedTypes := { types := [.scalar 5, .enum 0, .scalar 1, .scalar 0, .object 1], fragments := [] }

theorem ex_used : allUsedTypes exSchema exQuery 0 = .ok exUsed := by rfl

def exEpisode : StoredEnum := { name := "Episode", variants := ["NEWHOPE", "EMPIRE", "type"] }

/-- the emitted module, in closed form (the response part by `tree_items_shape`) -/
def exItems : List Item :=
  builtinAliases ++ [.alias "Date" false (.path "super::Date")] ++ [enumItem exCtx exEpisode] ++ [] ++
    [.unitStruct "Variables" ["Serialize"] (some "::serde")] ++ [] ++
    structItems exCtx "ResponseData" "Q" exOp.sels

theorem ex_scalars : scalarItems exCtx exUsed = .ok [.alias "Date" false (.path "super::Date")] := by rfl
theorem ex_enums : enumItems exCtx exUsed = .ok [enumItem exCtx exEpisode] := by rfl
theorem ex_inputs : inputItems exCtx exUsed = .ok [] := by rfl
theorem ex_vars : variablesItems exCtx 0 = .ok [.unitStruct "Variables" ["Serialize"] (some "::serde")] := by rfl
theorem ex_frags : (sortNat exUsed.fragments).mapM (fragmentItems exCtx) = .ok [] := by rfl
theorem ex_tree : TreeOp exCtx exOp = true := by decide +kernel

theorem ex_gen : responseForQuery exCtx 0 = .ok exItems := by
  have hresp := tree_items_shape exCtx exOp (by simp [exCtx, exQuery]) ex_tree
  have hop : exCtx.q.getOperation 0 = .ok exOp := rfl
  unfold responseForQuery
  simp only [show exCtx.s = exSchema from rfl, show exCtx.q = exQuery from rfl, ex_used, ex_scalars, ex_enums,
    ex_inputs, ex_vars, ex_frags, bind, Except.bind]
  rw [show exQuery.getOperation 0 = .ok exOp from rfl]
  simp only [hresp]
  rfl

theorem ex_ok : moduleOk exCtx exItems = true := by decide +kernel

theorem ex_rust : rustOkSels exCtx exOp.sels = true ∧ EnumSpec.nodup (rustNames exCtx exOp.sels) = true := by
  decide +kernel

def exJson : Json :=
  .obj [("others", .arr [.obj [("id", .str "a")], .obj [("id", .int 12)]]),
        ("__typename", .str "Query"),
        ("hero", .obj [("__typename", .str "Hero"), ("id", .int 7), ("n", .str "Luke"), ("episode", .str "JEDI"),
                       ("born", .null)])]

def exCanon : Json :=
  .obj [("hero", .obj [("id", .str "7"), ("n", .str "Luke"), ("episode", .str "JEDI"), ("born", .null)]),
        ("others", .arr [.obj [("id", .str "a")], .obj [("id", .str "12")]])]

theorem ex_conforms : conformsOp exCtx exOp exJson = true := by
  simp [conformsOp, rootName, conformsSel, confSels, confSel, exCtx, exSchema, exOp, exJson, Json.lookup, accepts,
    acceptsNN, gtyOf, scalarOk, idOk, stringOk, i64Ok, Json.isNull, EnumSpec.nodup, respKeys, respKey]


theorem ex_canon : canonSel exCtx.s exCtx.o.skipNone exOp.sels exJson = exCanon := by
  simp [canonSel, canonEntries, canonField, canon, canonNN, idCanon, gtyOf, exCtx, exSchema, exOp, exJson, exCanon,
    Json.lookup, skipQ, Json.isNull]
  decide

/-- `tree_roundtrip` on the concrete module: `to_value (from_value exJson) = exCanon` -/
example : Serde.roundtrip (moduleEnv exCtx exItems) (.path "ResponseData") exJson = .ok exCanon := by
  rw [← ex_canon]
  exact tree_roundtrip exCtx 0 exOp exItems rfl ex_tree ex_gen ex_ok ex_rust.1 ex_rust.2 exJson ex_conforms

theorem ex_precise (j : Json) :
    okB (Serde.de (moduleEnv exCtx exItems) (.path "ResponseData") j) = conformsSelLoose exSchema exOp.sels j :=
  tree_precise_iff exCtx 0 exOp exItems rfl ex_tree ex_gen ex_ok j

macro "loose_eval" : tactic => `(tactic|
  simp [conformsSelLoose, looseSels, looseArr, looseField, exSchema, exOp, Json.lookup, accepts, acceptsNN, gtyOf,
    scalarOk, idOk, stringOk, i64Ok, Json.isNull, nullableQ, countKey])

/-- **witness 1** (known finding `C03-struct-from-array`; a liberty of serde the statement of C03 does not list):
    a JSON *array* at an object position is read positionally by the derived `Deserialize` (`visit_seq`) -/
theorem array_at_object_position_accepted :
    okB (Serde.de (moduleEnv exCtx exItems) (.path "ResponseData") (.arr [.null, .arr []])) = true := by
  rw [ex_precise]; loose_eval

/-- **witness 2**: an absent key at a *nullable* position reads as `None` -/
theorem absent_nullable_key_accepted :
    okB (Serde.de (moduleEnv exCtx exItems) (.path "ResponseData") (.obj [("others", .arr [])])) = true := by
  rw [ex_precise]; loose_eval

/-- rejected: a missing key at a non-null position -/
example : okB (Serde.de (moduleEnv exCtx exItems) (.path "ResponseData") (.obj [("hero", .null)])) = false := by
  rw [ex_precise]; loose_eval
/-- rejected: `null` at a non-null position -/
example : okB (Serde.de (moduleEnv exCtx exItems) (.path "ResponseData")
    (.obj [("hero", .null), ("others", .null)])) = false := by
  rw [ex_precise]; loose_eval
/-- rejected: a non-list at a list position -/
example : okB (Serde.de (moduleEnv exCtx exItems) (.path "ResponseData")
    (.obj [("hero", .null), ("others", .obj [("id", .str "a")])])) = false := by
  rw [ex_precise]; loose_eval
/-- rejected: a wrong scalar kind at depth 2 (inside a list of objects) -/
example : okB (Serde.de (moduleEnv exCtx exItems) (.path "ResponseData")
    (.obj [("hero", .null), ("others", .arr [.obj [("id", .bool true)]])])) = false := by
  rw [ex_precise]; loose_eval
/-- rejected: a missing non-null key at depth 2 -/
example : okB (Serde.de (moduleEnv exCtx exItems) (.path "ResponseData")
    (.obj [("hero", .obj [("n", .str "x")]), ("others", .arr [])])) = false := by
  rw [ex_precise]; loose_eval
/-- rejected: a selected key twice -/
example : okB (Serde.de (moduleEnv exCtx exItems) (.path "ResponseData")
    (.obj [("hero", .null), ("hero", .null), ("others", .arr [])])) = false := by
  rw [ex_precise]; loose_eval
/-- accepted: unknown keys, `__typename` absent or anything -/
example : okB (Serde.de (moduleEnv exCtx exItems) (.path "ResponseData")
    (.obj [("zzz", .int 1), ("hero", .null), ("__typename", .int 3), ("others", .arr [])])) = true := by
  rw [ex_precise]; loose_eval


/-- the statement of C03 with a loose specification that *only* allows unknown keys is **false** of
    the model: serde accepts a value that is not an object … -/
theorem precise_literal_false_array :
    ∃ j, okB (Serde.de (moduleEnv exCtx exItems) (.path "ResponseData") j) = true ∧ ∀ kvs, j ≠ .obj kvs :=
  ⟨_, array_at_object_position_accepted, fun _ h => by cases h⟩

/-- … and an object in which a selected (nullable) key is absent -/
theorem precise_literal_false_absent :
    ∃ kvs, okB (Serde.de (moduleEnv exCtx exItems) (.path "ResponseData") (.obj kvs)) = true ∧
      Json.lookup "hero" kvs = none :=
  ⟨_, absent_nullable_key_accepted, by simp [Json.lookup]⟩

end E2E
end C01
end GqlVerif
