import GqlVerif.Proofs.C01NestedK
/-!
# `NestedOp`: the emitted module; `nested_precise_iff`

The environment hypotheses of `C01NestedC` / `C01NestedD` hold for the module `responseForQuery` emits: the items of every
reachable spread fragment of any rank are in the module (`nested_fragment_shape`, `C02.selected_types_used`), by induction on
the rank (`fragEnvN_of`, `topEnvN_of_module`); `EnvOK` (no fuel exhaustion, fuel independence) comes from
`nested_module_envOK` (`C01NestedK`: the ranks of the class make the reachable spread graph acyclic).

**`nested_precise_iff`** (C03): `Serde.de (moduleEnv c items) ResponseData j` succeeds **iff**
`conformsLooseN (wholeN c R) … false op.sels j`.
-/

namespace GqlVerif
namespace C01N
open Serde Spec C13 C03 Codegen C01 C01.E2E C01M

theorem bodyEnvN_mk {fenv : Nat → Prop} {e : Env} {c : Ctx} {name pfx : String} {sels : List Sel}
    (hnl : ∀ g, sels ≠ [Sel.spread g])
    (h : StructEnv e name (fieldsOfF c pfx sels) ∧ envSelsN fenv e c pfx sels) : BodyEnvN fenv e c name pfx sels := by
  unfold BodyEnvN
  split
  · exact absurd rfl (hnl _)
  · exact h

section EnvOfN
variable {c : Ctx} {items : List Item} {u : UsedTypes} {root : List Sel} (M : ModFacts c items u root)
  (hfr : FragsIn c items root) (hfrB : FragsInB c items root)
include M hfr hfrB

set_option linter.unusedSectionVars false in
mutual
  theorem envSelN_of {ok : TypeId → Nat → Bool} {fenv : Nat → Prop}
      (hfenv : ∀ p g, ok (.object p) g = true → C02.Reach c.q root (.spread g) → fenv g) :
      ∀ (x : Sel) (pfx : String) (p : Nat), nSel ok c.s c.q c.o (.object p) x = true →
      (∀ it ∈ itemsM c pfx x, it ∈ items) → C02.Reach c.q root x → envSelN fenv (moduleEnv c items) c pfx x
    | .field a fid sub, pfx, p => by
      intro ht hit hr
      have IH := envSelsN_of hfenv sub
      obtain ⟨sf, hsf⟩ := nSel_field_some ht
      by_cases hobj : ∃ i, sf.ty.id = .object i
      · obtain ⟨i, hid⟩ := hobj
        obtain ⟨_, _, _, hbody⟩ := nSel_obj hsf hid ht
        rw [itemsM] at hit
        rw [envSelN]
        simp only [hsf, hid] at hit ⊢
        rcases lone_or_not sub with hsp | hnl
        · obtain ⟨g, rfl⟩ := hsp
          simp only at hit ⊢
          have hokg : ok (.object i) g = true := hbody
          exact ⟨aliasEnv_of M _ _ (hit _ (by simp)), hfenv i g hokg (reach_step hr (by simp))⟩
        · rw [nBody_not_lone hnl] at hbody
          have hit' : ∀ it ∈ (Item.struct (pfx ++ c.cs.camel (a.getD sf.name)) c.respDerives c.serdeCrate
              (fieldsOfF c (pfx ++ c.cs.camel (a.getD sf.name)) sub) ::
              itemsMs c (pfx ++ c.cs.camel (a.getD sf.name)) sub), it ∈ items := by
            revert hit
            split
            · exact absurd rfl (hnl _)
            · exact id
          split
          · exact absurd rfl (hnl _)
          · exact ⟨structEnv_of M _ _ (hit' _ (by simp)),
              IH _ i hbody (fun x hx it h => hit' it (by simp [mem_itemsMs hx h]))
                (fun y hy => reach_step hr hy)⟩
      · have hno : ∀ i, sf.ty.id ≠ .object i := fun i h => hobj ⟨i, h⟩
        have hs := nSel_nonobj hsf hno ht
        rw [itemsM_nonobj c pfx a fid sub sf hsf hno] at hit
        have := envSelS_of M hfr hfrB _ pfx false hs (by simpa [allItemsS] using hit) hr (fun g hg => by cases hg)
        rw [envSelN]
        simp only [hsf]
        cases hid : sf.ty.id with
        | object i => exact absurd hid (hno i)
        | scalar k => simpa only [hid] using this
        | «enum» k => simpa only [hid] using this
        | interface k => simpa only [hid] using this
        | union k => simpa only [hid] using this
        | input k => simpa only [hid] using this
    | .spread g, pfx, p => by
      intro ht _ hr
      have hokg : ok (.object p) g = true := by simpa [nSel] using ht
      rw [envSelN]
      exact hfenv p g hokg hr
    | .inline _ _, _, _ => by intro ht; simp [nSel] at ht
    | .typename, _, _ => by intro _ _ _; simp [envSelN]
  theorem envSelsN_of {ok : TypeId → Nat → Bool} {fenv : Nat → Prop}
      (hfenv : ∀ p g, ok (.object p) g = true → C02.Reach c.q root (.spread g) → fenv g) :
      ∀ (sels : List Sel) (pfx : String) (p : Nat), nSels ok c.s c.q c.o (.object p) sels = true →
      (∀ x ∈ sels, ∀ it ∈ itemsM c pfx x, it ∈ items) → (∀ x ∈ sels, C02.Reach c.q root x) →
      envSelsN fenv (moduleEnv c items) c pfx sels
    | [], _, _ => by intro _ _ _; simp [envSelsN]
    | x :: xs, pfx, p => by
      intro ht hit hr
      obtain ⟨hx, hxs⟩ := nSels_cons ht
      rw [envSelsN]
      exact ⟨envSelN_of hfenv x pfx p hx (hit x (by simp)) (hr x (by simp)),
        envSelsN_of hfenv xs pfx p hxs (fun y hy => hit y (by simp [hy])) (fun y hy => hr y (by simp [hy]))⟩
end

/-- … and of the type emitted for an object-level selection set: an alias item for a lone spread, a struct item otherwise -/
theorem bodyEnvN_of {ok : TypeId → Nat → Bool} {fenv : Nat → Prop}
    (hfenv : ∀ p g, ok (.object p) g = true → C02.Reach c.q root (.spread g) → fenv g)
    (sels : List Sel) (name pfx : String) (p : Nat) (ht : nBody ok c.s c.q c.o (.object p) sels = true)
    (hit : ∀ it ∈ bodyItemsM c name pfx sels, it ∈ items) (hr : ∀ x ∈ sels, C02.Reach c.q root x) :
    BodyEnvN fenv (moduleEnv c items) c name pfx sels := by
  rcases lone_or_not sels with ⟨g, rfl⟩ | hnl
  · exact ⟨aliasEnv_of M _ _ (hit _ (by simp [bodyItemsM])), hfenv p g ht (hr _ (by simp))⟩
  · rw [nBody_not_lone hnl] at ht
    rw [bodyItemsM_not_lone c name pfx hnl] at hit
    exact bodyEnvN_mk hnl ⟨structEnv_of M _ _ (hit _ (by simp)),
      envSelsN_of M hfr hfrB hfenv sels pfx p ht (fun x hx it h => hit it (by simp [mem_itemsMs hx h])) hr⟩

/-- the environment of a reachable spread fragment of rank `r`, by induction on the rank -/
theorem fragEnvN_of
    (hmemN : ∀ g i r, C02.Reach c.q root (.spread g) → fragOkN c.s c.q c.o r (.object i) g = true →
      ∀ f, c.q.fragments[g]? = some f → ∀ it ∈ bodyItemsM c f.name (c.cs.camel f.name) f.sels, it ∈ items) :
    ∀ (r : Nat) (i g : Nat), fragOkN c.s c.q c.o r (.object i) g = true → C02.Reach c.q root (.spread g) →
      FragEnvN (moduleEnv c items) c r g
  | 0, i, g => by
    intro h hr
    rw [FragEnvN]
    rw [fragOkN] at h
    exact fragEnv_of M hfr g i hr h
  | r + 1, i, g => by
    intro h hr
    by_cases hold : fragOkN c.s c.q c.o r (.object i) g = true
    · obtain ⟨f, hf, hon, _, _⟩ := fragOkN_spec c.s c.q c.o r _ g hold
      have hfon : fragOn c.q g = .object i := by simp [fragOn, hf, hon]
      rw [FragEnvN, hfon, if_pos hold]
      exact fragEnvN_of hmemN r i g hold hr
    · have holdf : fragOkN c.s c.q c.o r (.object i) g = false := by simpa using hold
      have hnew := h
      rw [fragOkN, holdf, Bool.false_or] at hnew
      obtain ⟨f, hf, hon, _, _, hnl, hb⟩ := fragNew_parts hnew
      have hfon : fragOn c.q g = .object i := by simp [fragOn, hf, hon]
      rw [FragEnvN, hfon, if_neg hold]
      simp only [hf]
      have hin := hmemN g i (r + 1) hr h f hf
      rw [bodyItemsM_not_lone c _ _ hnl] at hin
      rw [hon] at hb
      exact ⟨structEnv_of M _ _ (hin _ (by simp)),
        envSelsN_of M hfr hfrB (fun p g' h' hr' => fragEnvN_of hmemN r p g' h' hr') f.sels _ i hb
          (fun x hx it h => hin it (by simp [mem_itemsMs hx h])) (fun x hx => reach_step_spread hr hf hx)⟩

end EnvOfN

theorem topEnvN_of_module {c : Ctx} {opIdx : Nat} {op : ROperation} {items : List Item}
    (hop : c.q.operations[opIdx]? = some op) (ht : NestedOp c op = true)
    (hgen : responseForQuery c opIdx = .ok items) (hok : moduleOk c items = true) :
    TopEnvN (moduleEnv c items) c op := by
  obtain ⟨hn, _, hsels⟩ := nestedOp_parts ht
  refine ⟨?_, (nested_module_envOK hop ht hgen hok).1⟩
  obtain ⟨u, F, _, hF, M, hsub, hsubF, _⟩ := module_tail hop hn hgen hok (nested_items_shape c op (List.mem_of_getElem? hop) ht)
  obtain ⟨hfr, hfrB⟩ := fragsIn_of_module M hF hsubF
  have hfenv : ∀ p g, fragOkN c.s c.q c.o c.q.fragments.length (.object p) g = true →
      C02.Reach c.q op.sels (.spread g) → FragEnvN (moduleEnv c items) c c.q.fragments.length g :=
    fragEnvN_of M hfr hfrB (fun g i r hr hokg f hf => by
      obtain ⟨f', hf', _, hshape⟩ := nested_fragment_shape c hn r i g hokg
      rw [hf] at hf'; cases hf'
      exact fragmentItems_mem M hF hsubF hr hshape) _
  exact bodyEnvN_of M hfr hfrB hfenv op.sels _ _ _ hsels hsub (fun x hx => .here hx)

/-- **`nested_precise_iff` (C03), as an equivalence**: on the module `responseForQuery` emits for an operation of
    `NestedOp`, `ResponseData` accepts exactly `conformsLooseN (wholeN c R)`, `R` the number of fragments -/
theorem nested_precise_iff (c : Ctx) (opIdx : Nat) (op : ROperation) (items : List Item)
    (hop : c.q.operations[opIdx]? = some op) (ht : NestedOp c op = true) (hnd : fragNamesOk c = true)
    (hk : nestedKeysOk c op = true)
    (hgen : responseForQuery c opIdx = .ok items) (hok : moduleOk c items = true) (j : Json) :
    okB (Serde.de (moduleEnv c items) (.path "ResponseData") j) =
      conformsLooseN (wholeN c c.q.fragments.length) c.s c.q c.o false op.sels j :=
  top_accepts_iffN (moduleEnv c items) c op ht hnd hk
    (topEnvN_of_module hop ht hgen hok) j

theorem nested_precise (c : Ctx) (opIdx : Nat) (op : ROperation) (items : List Item)
    (hop : c.q.operations[opIdx]? = some op) (ht : NestedOp c op = true) (hnd : fragNamesOk c = true)
    (hk : nestedKeysOk c op = true)
    (hgen : responseForQuery c opIdx = .ok items) (hok : moduleOk c items = true) (j : Json) (v : Val)
    (hd : Serde.de (moduleEnv c items) (.path "ResponseData") j = .ok v) :
    conformsLooseN (wholeN c c.q.fragments.length) c.s c.q c.o false op.sels j = true :=
  Top.precise_of_iff (nested_precise_iff c opIdx op items hop ht hnd hk hgen hok j) hd

end C01N
end GqlVerif
