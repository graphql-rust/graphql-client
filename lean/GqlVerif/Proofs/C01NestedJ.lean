import GqlVerif.Proofs.C01NestedI
/-!
# `NestedOp`: on `MixedOp` everything is what `C01Mixed*` proves

Suffix `_eq_M`: "on `MixedOp`, equal to the function of `C01Mixed*`" — the specification (`conformsOpN_eq_M`: the one of
`mixed_accepts`), the acceptance predicate (`conformsLooseN_eq_M`), the canonical form (`canonSelN_eq_M`).  They rest on the
unconditional equalities of the `Mixed` functions with the `Nested` ones at the rank-`0` parameters.  The side conditions are
transferred in `C01NestedL`.
-/

namespace GqlVerif
namespace C01N
open Serde Spec C13 C03 Codegen C01 C01.E2E C01M

/-- a spread-free fragment keeps its rank-`0` values at every rank -/
theorem rank0_stable (c : Ctx) {p : TypeId} {g : Nat} (h : fragOk c.s c.q c.o p g = true) : ∀ r,
    (∀ b j, wholeN c r g b j = conformsLooseV c.s c.o b (fragSels c.q g) j) ∧
    (∀ kvs, centN c r g kvs = canonEntriesV c.s c.o.skipNone (fragSels c.q g) kvs)
  | 0 => ⟨fun b j => by rw [wholeN], fun kvs => by rw [centN]⟩
  | r + 1 => by
    obtain ⟨f, hf, hon, _⟩ := fragOk_parts h
    have hfon : fragOn c.q g = p := by simp [fragOn, hf, hon]
    have hr : fragOkN c.s c.q c.o r p g = true := fragOkN_zero h
    obtain ⟨i1, i2⟩ := rank0_stable c h r
    exact ⟨fun b j => by rw [wholeN, hfon, if_pos hr, i1], fun kvs => by rw [centN, hfon, if_pos hr, i2]⟩

theorem exN_fragOk (c : Ctx) {p : TypeId} {g : Nat} (h : fragOk c.s c.q c.o p g = true) (r : Nat) :
    exN c.q r g = expandSel c.q (.spread g) := by
  obtain ⟨f, hf, _, _, hv, _⟩ := fragOk_parts h
  rw [exN_spreadfree c.q r g f hf (noSpreads_of_vSels c.s c.o f.sels false hv)]
  simp [expandSel, hf]

theorem conformsOpN_eq_M (c : Ctx) (op : ROperation) (h : MixedOp c op = true) (j : Json) :
    conformsOpN c op j = conformsOpM c op j := by
  obtain ⟨_, _, hb⟩ := mixedOp_parts h
  unfold conformsOpN conformsOpM
  congr 1
  apply expandSelsW_congr
  intro g hg
  rcases lone_or_not op.sels with hsp | hnl
  · obtain ⟨g', hg'⟩ := hsp
    rw [hg'] at hg hb
    simp only [spreadIdss, spreadIds, List.append_nil, List.mem_singleton] at hg
    subst hg
    exact exN_fragOk c (p := .object op.objectId) hb _
  · rw [mBody_not_lone hnl] at hb
    exact exN_fragOkAny (fragOk_of_spreadIdsM c.s c.q c.o op.sels _ hb g hg) _

/-! ## the functions of `C01Mixed*` are those of this class, for the rank-`0` values of the parameters -/

section Rank0
variable (s : Schema) (q : Query) (o : Options)

theorem looseMemF_eq_N (kvs : List (String × Json)) : ∀ (sels : List Sel),
    looseMemF s q o sels kvs = looseMemN (fun g b j => conformsLooseV s o b (fragSels q g) j) sels kvs
  | [] => rfl
  | x :: xs => by
    have ih := looseMemF_eq_N kvs xs
    cases x with
    | spread g => rw [looseMemN, looseMemF.eq_2, ih]; rfl
    | field a fid sub => simpa [looseMemN, looseMemF] using ih
    | inline t sub => simpa [looseMemN, looseMemF] using ih
    | typename => simpa [looseMemN, looseMemF] using ih

mutual
  theorem looseFieldM_eq_N (b : Bool) : ∀ (x : Sel) (v : Json),
      looseFieldM s q o b x v = looseFieldN (fun g b j => conformsLooseV s o b (fragSels q g) j) s q o b x v
    | .field a fid sub, v => by
      rw [looseFieldM, looseFieldN]
      simp only [looseOwnM_eq_N b sub, looseArrM_eq_N b sub, looseMemF_eq_N s q o _ sub]
      rfl
    | .spread g, _ => by simp [looseFieldN, looseFieldM]
    | .inline t sub, _ => by simp [looseFieldN, looseFieldM]
    | .typename, _ => by simp [looseFieldN, looseFieldM]
  theorem looseOwnM_eq_N (b : Bool) : ∀ (sels : List Sel) (kvs : List (String × Json)),
      looseOwnM s q o b sels kvs = looseOwnN (fun g b j => conformsLooseV s o b (fragSels q g) j) s q o b sels kvs
    | [], _ => by rw [looseOwnM, looseOwnN]
    | x :: xs, kvs => by
      have ih := looseOwnM_eq_N b xs kvs
      cases x with
      | field a fid sub =>
        rw [looseOwnM.eq_2, looseOwnN.eq_2, ih]
        simp only [looseFieldM_eq_N b (.field a fid sub)]
        rfl
      | spread g => simpa [looseOwnN, looseOwnM] using ih
      | inline t sub => simpa [looseOwnN, looseOwnM] using ih
      | typename => simpa [looseOwnN, looseOwnM] using ih
  theorem looseArrM_eq_N (b : Bool) : ∀ (sels : List Sel) (vs : List Json),
      looseArrM s q o b sels vs = looseArrN (fun g b j => conformsLooseV s o b (fragSels q g) j) s q o b sels vs
    | [], _ => by rw [looseArrM, looseArrN]
    | x :: xs, vs => by
      cases x with
      | field a fid sub =>
        cases vs with
        | nil => rw [looseArrM.eq_2, looseArrN.eq_2]
        | cons v vs' =>
          rw [looseArrM.eq_3, looseArrN.eq_3, looseFieldM_eq_N b (.field a fid sub) v, looseArrM_eq_N b xs vs']
      | spread g => simpa [looseArrN, looseArrM] using looseArrM_eq_N b xs vs
      | inline t sub => simpa [looseArrN, looseArrM] using looseArrM_eq_N b xs vs
      | typename => simpa [looseArrN, looseArrM] using looseArrM_eq_N b xs vs
end

theorem conformsLooseM_eq_N (b : Bool) (sels : List Sel) (j : Json) :
    conformsLooseM s q o b sels j = conformsLooseN (fun g b j => conformsLooseV s o b (fragSels q g) j) s q o b sels j := by
  unfold conformsLooseM conformsLooseN
  simp only [looseOwnM_eq_N s q o b sels, looseArrM_eq_N s q o b sels, looseMemF_eq_N s q o _ sels]
  rfl

theorem cwhole_V (skip : Bool) (g : Nat) (j : Json) :
    cwhole (fun g kvs => canonEntriesV s skip (fragSels q g) kvs) g j = canonSelV s skip (fragSels q g) j := by
  cases j <;> rfl

mutual
  theorem canonFieldM_eq_N (skip : Bool) : ∀ (x : Sel) (v : Json),
      canonFieldM s q skip x v = canonFieldN (fun g kvs => canonEntriesV s skip (fragSels q g) kvs) s q skip x v
    | .field a fid sub, v => by
      rw [canonFieldM, canonFieldN]
      simp only [canonEntriesM_eq_N skip sub, cwhole_V]
      rfl
    | .spread g, _ => by simp [canonFieldN, canonFieldM]
    | .inline t sub, _ => by simp [canonFieldN, canonFieldM]
    | .typename, _ => by simp [canonFieldN, canonFieldM]
  theorem canonEntriesM_eq_N (skip : Bool) : ∀ (sels : List Sel) (kvs : List (String × Json)),
      canonEntriesM s q skip sels kvs =
        canonEntriesN (fun g kvs => canonEntriesV s skip (fragSels q g) kvs) s q skip sels kvs
    | [], _ => by rw [canonEntriesM, canonEntriesN]
    | x :: xs, kvs => by
      have ih := canonEntriesM_eq_N skip xs kvs
      cases x with
      | field a fid sub =>
        rw [canonEntriesM.eq_2, canonEntriesN.eq_2, ih]
        simp only [canonFieldM_eq_N skip (.field a fid sub)]
        rfl
      | spread g => rw [canonEntriesM.eq_3, canonEntriesN.eq_3, ih]
      | inline t sub => simpa [canonEntriesN, canonEntriesM] using ih
      | typename => simpa [canonEntriesN, canonEntriesM] using ih
end

theorem canonSelM_eq_N (skip : Bool) (sels : List Sel) (j : Json) :
    canonSelM s q skip sels j = canonSelN (fun g kvs => canonEntriesV s skip (fragSels q g) kvs) s q skip sels j := by
  unfold canonSelM canonSelN
  simp only [canonEntriesM_eq_N s q skip sels, cwhole_V]
  rfl

end Rank0

/-! ## on `MixedOp` -/

section EqM
variable (c : Ctx) (whole : Nat → Bool → Json → Bool) (cent : Nat → List (String × Json) → List (String × Json))

theorem looseFieldN_eq_M : ∀ (x : Sel) (p : TypeId) (b : Bool) (v : Json),
      (∀ p g, fragOk c.s c.q c.o p g = true → ∀ b j, whole g b j = conformsLooseV c.s c.o b (fragSels c.q g) j) →
      mSel c.s c.q c.o p x = true → looseFieldN whole c.s c.q c.o b x v = looseFieldM c.s c.q c.o b x v :=
  fun x p b v hw ht => by
    rw [looseFieldM_eq_N]
    exact C01AF.looseFieldN_congr c.s c.q c.o (fragOk c.s c.q c.o) whole _ x p b v hw (by rw [nSel_fragOk]; exact ht)

theorem canonFieldN_eq_M : ∀ (x : Sel) (p : TypeId) (v : Json),
      (∀ p g, fragOk c.s c.q c.o p g = true → ∀ kvs,
        cent g kvs = canonEntriesV c.s c.o.skipNone (fragSels c.q g) kvs) →
      mSel c.s c.q c.o p x = true →
      canonFieldN cent c.s c.q c.o.skipNone x v = canonFieldM c.s c.q c.o.skipNone x v :=
  fun x p v hc ht => by
    rw [canonFieldM_eq_N]
    exact C01AF.canonFieldN_congr c.s c.q c.o (fragOk c.s c.q c.o) cent _ c.o.skipNone x p v hc
      (by rw [nSel_fragOk]; exact ht)

end EqM

theorem conformsLooseN_eq_M (c : Ctx) (op : ROperation) (h : MixedOp c op = true) (b : Bool) (j : Json) :
    conformsLooseN (wholeN c c.q.fragments.length) c.s c.q c.o b op.sels j = conformsLooseM c.s c.q c.o b op.sels j := by
  obtain ⟨_, _, hb⟩ := mixedOp_parts h
  rw [conformsLooseM_eq_N]
  exact C01AF.conformsLooseN_congr c.s c.q c.o (fragOk c.s c.q c.o) _ _ (fun p g hg => (rank0_stable c hg _).1) _ op.sels
    (by rw [nBody_fragOk]; exact hb) b j

theorem canonSelN_eq_M (c : Ctx) (op : ROperation) (h : MixedOp c op = true) (j : Json) :
    canonSelN (centN c c.q.fragments.length) c.s c.q c.o.skipNone op.sels j =
      canonSelM c.s c.q c.o.skipNone op.sels j := by
  obtain ⟨_, _, hb⟩ := mixedOp_parts h
  rw [canonSelM_eq_N]
  exact C01AF.canonSelN_congr c.s c.q c.o (fragOk c.s c.q c.o) _ _ (fun p g hg => (rank0_stable c hg _).2) _ _ op.sels
    (by rw [nBody_fragOk]; exact hb) j

end C01N
end GqlVerif
