import GqlVerif.Proofs.C01AbstractA
/-!
# The specification predicates, in a form the kernel evaluates

`Spec.accepts` / `Spec.acceptsNN` call each other on the same type expression (`accepts (.named n)` is
`acceptsNN (.named n)` or null), so Lean compiles them by well-founded recursion and the kernel does not unfold
them.  A concrete test vector is a finite fact and should be checked by evaluation: `accK` is the same function as
one structural recursion (the flag says "non-null context"), `confSelK` / `confSelsK` / `conformsK` are
`confSelV` / `confSelsV` / `conformsV` over it.  A witness `conformsV s rt sels j = true` with closed arguments is
`by rw [conformsV_eq_K]; decide +kernel`.
-/
namespace GqlVerif
namespace C01
namespace E2E
open Spec

/-- `accepts leafOk t j` is `accK leafOk false t j`, `acceptsNN leafOk t j` is `accK leafOk true t j` -/
def accK (leafOk : Json → Bool) : Bool → GTy → Json → Bool
  | nn, .named _, j => (!nn && j.isNull) || leafOk j
  | nn, .list t, j => (!nn && j.isNull) ||
      (match j with | .arr xs => xs.all (accK leafOk false t) | _ => false)
  | _, .nonNull t, j => accK leafOk true t j

theorem accK_eq (leafOk : Json → Bool) : ∀ t j,
    acceptsNN leafOk t j = accK leafOk true t j ∧ accepts leafOk t j = accK leafOk false t j
  | .named n, j => by simp [acceptsNN, accepts, accK]
  | .list t, j => by
    have : accepts leafOk t = accK leafOk false t := funext fun j => (accK_eq leafOk t j).2
    cases j <;> simp [acceptsNN, accepts, accK, this]
  | .nonNull t, j => by simp [acceptsNN, accepts, accK, (accK_eq leafOk t j).1]

theorem accepts_eq_K (leafOk : Json → Bool) (t : GTy) (j : Json) : accepts leafOk t j = accK leafOk false t j :=
  (accK_eq leafOk t j).2

mutual
  def confSelK (s : Schema) (rt : Nat) : Sel → List (String × Json) → Bool
    | .field a fid sub, kvs =>
      match s.fields[fid]? with
      | none => false
      | some sf =>
        match Json.lookup (a.getD sf.name) kvs with
        | none => false
        | some v =>
          match sf.ty.id with
          | .scalar k => (match s.scalars[k]? with
            | some n => accK (scalarOk n) false (gtyOf sf.ty.quals) v
            | none => false)
          | .enum k => (match s.enums[k]? with
            | some _ => accK stringOk false (gtyOf sf.ty.quals) v
            | none => false)
          | .input _ => false
          | t =>
            accK (fun j => match j with
              | .obj kvs' => (List.range s.objects.length).any (fun rt' => fragApplies s rt' t &&
                  EnumSpec.nodup (kvs'.map (·.1)) && kvs'.all (fun kv => (keysSelsV s rt' sub).contains kv.1) &&
                  confSelsK s rt' sub kvs')
              | _ => false) false (gtyOf sf.ty.quals) v
    | .typename, kvs => (match Json.lookup "__typename" kvs with | some (.str n) => n == rtName s rt | _ => false)
    | .inline t sub, kvs => !fragApplies s rt t || confSelsK s rt sub kvs
    | .spread _, _ => false
  def confSelsK (s : Schema) (rt : Nat) : List Sel → List (String × Json) → Bool
    | [], _ => true
    | x :: xs, kvs => confSelK s rt x kvs && confSelsK s rt xs kvs
end

def conformsK (s : Schema) (rt : Nat) (sels : List Sel) : Json → Bool
  | .obj kvs => EnumSpec.nodup (kvs.map (·.1)) && kvs.all (fun kv => (keysSelsV s rt sels).contains kv.1) &&
      confSelsK s rt sels kvs
  | _ => false

mutual
  theorem confSelV_eq_K (s : Schema) : ∀ (x : Sel) (rt : Nat) (kvs : List (String × Json)),
      confSelV s rt x kvs = confSelK s rt x kvs
    | .field a fid sub, rt, kvs => by
      have ih : ∀ rt', confSelsV s rt' sub = confSelsK s rt' sub := fun rt' => funext (confSelsV_eq_K s sub rt')
      rw [confSelV, confSelK]
      simp only [accepts_eq_K, ih]
      rfl
    | .typename, _, _ => by
      rw [confSelV, confSelK]
      rfl
    | .inline t sub, rt, kvs => by rw [confSelV, confSelK, confSelsV_eq_K s sub rt kvs]
    | .spread _, _, _ => by rw [confSelV, confSelK]
  theorem confSelsV_eq_K (s : Schema) : ∀ (sels : List Sel) (rt : Nat) (kvs : List (String × Json)),
      confSelsV s rt sels kvs = confSelsK s rt sels kvs
    | [], _, _ => by rw [confSelsV, confSelsK]
    | x :: xs, rt, kvs => by rw [confSelsV, confSelsK, confSelV_eq_K s x rt kvs, confSelsV_eq_K s xs rt kvs]
end

theorem conformsV_eq_K (s : Schema) (rt : Nat) (sels : List Sel) (j : Json) :
    conformsV s rt sels j = conformsK s rt sels j := by
  cases j <;> simp only [conformsV, conformsK, confSelsV_eq_K]

end E2E
end C01
end GqlVerif
