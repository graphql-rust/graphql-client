import GqlVerif.Proofs.C01NestedB
/-!
# `NestedOp`: what the emitted types accept — the predicate, the environment, the keys

The definitions the exact-acceptance theorem speaks of; the theorem itself, `bodyA_accepts_iff`, is in `C01AliasFragC`.
Everything here is parametric in

* `ok parent g` — which fragments may be spread (`OkSpec`: they exist, are on the parent type, …),
* `whole g b j` — what the struct of the fragment `g` accepts (`b`: buffered content),
* `KN name` — the response keys the struct named `name` reads at its own object level (through its flattened members),
* `fenv g` — what is known of the environment about the fragment `g`,

tied together by `FragAcc e c whole KN g`: the fragment's name resolves to a struct item whose own keys are in `KN`, read by
`dePath` (for every large enough fuel) exactly when `whole g` holds, and `whole g` ignores entries whose key is outside `KN`.
`C01NestedD` instantiates them by recursion on the rank.  `bodyA_accepts_iff` asks less of a spread fragment (`FragAccA`: its
name resolves to a struct item OR to an alias chain to one; `FragAccA.of_fragAcc`).

* `conformsLooseN whole s q o b sels j` — the exact acceptance predicate of the type emitted for an object-level selection
  set: the own fields (`looseOwnN`), and **every spread fragment accepts the whole object** (`looseMemN`); a lone spread is
  the fragment struct itself;
* `expKeysN`, `keysOkN` — side condition: the keys of a fragment (`KN`) are disjoint from those of its siblings.

Of the class, the struct and member level needs only `Resolves` (every field emits a field, every spread names a fragment:
`resolves_of_nSels`) and that each spread is admitted and has its environment (`spreads_of_nSels`).
-/

namespace GqlVerif
namespace C01N
open Serde Spec C03 Codegen C01 C01.E2E

/-! ## the exact acceptance predicate -/

/-- every spread fragment accepts the whole object -/
def looseMemN (whole : Nat → Bool → Json → Bool) : List Sel → List (String × Json) → Bool
  | [], _ => true
  | .spread g :: xs, kvs => whole g true (.obj kvs) && looseMemN whole xs kvs
  | _ :: xs, kvs => looseMemN whole xs kvs

mutual
  def looseFieldN (whole : Nat → Bool → Json → Bool) (s : Schema) (q : Query) (o : Options) (b : Bool) : Sel → Json → Bool
    | .field a fid sub, v =>
      match s.fields[fid]? with
      | none => false
      | some sf =>
        match sf.ty.id with
        | .object i => (match s.objects[i]? with
          | some _ => accepts (fun j =>
              match sub with
              | [.spread g] => whole g b j      -- type alias of the fragment struct
              | _ => match j with
                | .obj kvs' => looseOwnN whole s q o b sub kvs' && looseMemN whole sub kvs'
                | .arr xs => !sub.any isSpread && looseArrN whole s q o b sub xs
                | _ => false) (gtyOf sf.ty.quals) v
          | none => false)
        | _ => looseFieldS s q o b (.field a fid sub) v
    | _, _ => true
  /-- the own fields of the struct (spreads contribute no own field) -/
  def looseOwnN (whole : Nat → Bool → Json → Bool) (s : Schema) (q : Query) (o : Options) (b : Bool) :
      List Sel → List (String × Json) → Bool
    | [], _ => true
    | .field a fid sub :: xs, kvs =>
      (match s.fields[fid]? with
       | none => false
       | some sf =>
         decide (countKey (a.getD sf.name) kvs ≤ 1) &&
         (match Json.lookup (a.getD sf.name) kvs with
          | none => nullableQ sf.ty.quals
          | some v => looseFieldN whole s q o b (.field a fid sub) v)) && looseOwnN whole s q o b xs kvs
    | _ :: xs, kvs => looseOwnN whole s q o b xs kvs
  def looseArrN (whole : Nat → Bool → Json → Bool) (s : Schema) (q : Query) (o : Options) (b : Bool) :
      List Sel → List Json → Bool
    | [], _ => true
    | .field a fid sub :: xs, vs =>
      (match vs with
       | [] => false
       | v :: vs' => looseFieldN whole s q o b (.field a fid sub) v && looseArrN whole s q o b xs vs')
    | _ :: xs, vs => looseArrN whole s q o b xs vs
end

/-- what the type emitted for an object-level selection set of `NestedOp` accepts -/
def conformsLooseN (whole : Nat → Bool → Json → Bool) (s : Schema) (q : Query) (o : Options) (b : Bool) (sels : List Sel)
    (j : Json) : Bool :=
  match sels with
  | [.spread g] => whole g b j
  | _ => match j with
    | .obj kvs' => looseOwnN whole s q o b sels kvs' && looseMemN whole sels kvs'
    | .arr xs => !sels.any isSpread && looseArrN whole s q o b sels xs
    | _ => false

theorem looseLambdaN (whole : Nat → Bool → Json → Bool) (s : Schema) (q : Query) (o : Options) (b : Bool) (sub : List Sel) :
    (fun j =>
      match sub with
      | [.spread g] => whole g b j
      | _ => match j with
        | .obj kvs' => looseOwnN whole s q o b sub kvs' && looseMemN whole sub kvs'
        | .arr xs => !sub.any isSpread && looseArrN whole s q o b sub xs
        | _ => false) = conformsLooseN whole s q o b sub := by
  funext j; unfold conformsLooseN; rfl

theorem conformsLooseN_not_lone {whole : Nat → Bool → Json → Bool} {s : Schema} {q : Query} {o : Options} {b : Bool}
    {sels : List Sel} (h : ∀ g, sels ≠ [Sel.spread g]) (j : Json) :
    conformsLooseN whole s q o b sels j =
      (match j with
       | .obj kvs' => looseOwnN whole s q o b sels kvs' && looseMemN whole sels kvs'
       | .arr xs => !sels.any isSpread && looseArrN whole s q o b sels xs
       | _ => false) := by
  unfold conformsLooseN
  split
  · rename_i g; exact absurd rfl (h g)
  · rfl

theorem looseMemN_nospread (whole : Nat → Bool → Json → Bool) (kvs : List (String × Json)) :
    ∀ (sels : List Sel), sels.any isSpread = false → looseMemN whole sels kvs = true
  | [], _ => rfl
  | x :: xs, h => by
    simp only [List.any_cons, Bool.or_eq_false_iff] at h
    have ih := looseMemN_nospread whole kvs xs h.2
    cases x with
    | spread g => have := h.1; simp [isSpread] at this
    | field a fid sub => simpa [looseMemN] using ih
    | inline t sub => simpa [looseMemN] using ih
    | typename => simpa [looseMemN] using ih

/-! ## environment, keys -/

mutual
  def envSelN (fenv : Nat → Prop) (e : Env) (c : Ctx) (pfx : String) : Sel → Prop
    | .field a fid sub =>
      match c.s.fields[fid]? with
      | none => True
      | some sf =>
        match sf.ty.id with
        | .object _ =>
          (match sub with
           | [.spread g] => AliasEnv e (pfx ++ c.cs.camel (a.getD sf.name)) (fragName c g) ∧ fenv g
           | _ => StructEnv e (pfx ++ c.cs.camel (a.getD sf.name)) (fieldsOfF c (pfx ++ c.cs.camel (a.getD sf.name)) sub) ∧
                  envSelsN fenv e c (pfx ++ c.cs.camel (a.getD sf.name)) sub)
        | _ => envSelS e c pfx (.field a fid sub)
    | .spread g => fenv g
    | _ => True
  def envSelsN (fenv : Nat → Prop) (e : Env) (c : Ctx) (pfx : String) : List Sel → Prop
    | [] => True
    | x :: xs => envSelN fenv e c pfx x ∧ envSelsN fenv e c pfx xs
end

/-- what the name of an object-level selection set resolves to -/
def BodyEnvN (fenv : Nat → Prop) (e : Env) (c : Ctx) (name pfx : String) (sels : List Sel) : Prop :=
  match sels with
  | [.spread g] => AliasEnv e name (fragName c g) ∧ fenv g
  | _ => StructEnv e name (fieldsOfF c pfx sels) ∧ envSelsN fenv e c pfx sels

/-- the response keys read at the object level of a selection set: its own keys and, for a spread, the keys of the
    fragment struct (`KN`, by name) -/
def expKeysN (KN : String → List String) (c : Ctx) : List Sel → List String
  | [] => []
  | .field a fid _ :: xs => (match c.s.fields[fid]? with | some sf => [a.getD sf.name] | none => []) ++ expKeysN KN c xs
  | .spread g :: xs => KN (fragName c g) ++ expKeysN KN c xs
  | _ :: xs => expKeysN KN c xs

mutual
  /-- **keys disjoint between a fragment and its siblings** (and between fragments), in every object-level selection set -/
  def keysOkN (KN : String → List String) (c : Ctx) : Sel → Bool
    | .field _ fid sub =>
      (match (c.s.fields[fid]?).map (fun sf => sf.ty.id) with
       | some (TypeId.object _) => EnumSpec.nodup (expKeysN KN c sub) && keysOksN KN c sub
       | _ => true)
    | _ => true
  def keysOksN (KN : String → List String) (c : Ctx) : List Sel → Bool
    | [] => true
    | x :: xs => keysOkN KN c x && keysOksN KN c xs
end

/-- the keys of the struct a member points to -/
def kOf (KN : String → List String) (g : RField) : List String :=
  match g.ty with
  | .path q => KN q
  | _ => []

/-- **what the theorems need of a spread fragment**: its name resolves to a struct item, own keys inside `KN`; `dePath`
    accepts exactly `whole g` from some fuel on; entries with keys outside `KN` do not matter -/
structure FragAcc (e : Env) (c : Ctx) (whole : Nat → Bool → Json → Bool) (KN : String → List String) (g : Nat) : Prop where
  str : ∃ n d cr G, notPrim (fragName c g) ∧ e.find (fragName c g) = some (.struct n d cr G) ∧
    ∀ f ∈ G, f.flatten = false → f.wire ∈ KN (fragName c g)
  acc : ∃ N, ∀ fd, N ≤ fd → ∀ b j, okB (dePath e b fd (fragName c g) j) = whole g b j
  irr : ∀ L : List String, (∀ k ∈ L, k ∉ KN (fragName c g)) → ∀ b kvs,
    whole g b (.obj (kvs.filter (fun kv => !L.contains kv.1))) = whole g b (.obj kvs)

/-! ## facts about the emitted fields -/

section Fields
variable {ok : TypeId → Nat → Bool} {c : Ctx} (hok : OkSpec c.q ok)

theorem fieldOfSelV_n (pfx : String) (p : TypeId) (a : Option String) (fid : Nat) (sub : List Sel)
    (ht : nSel ok c.s c.q c.o p (.field a fid sub) = true) :
    ∃ sf ft, c.s.fields[fid]? = some sf ∧ leafNameV c pfx (a.getD sf.name) sf.ty.id = some ft ∧
      fieldOfSelV c pfx (.field a fid sub) = some (fieldOf c (a.getD sf.name) ft sf.ty.quals sf.deprecation) ∧
      wfQuals sf.ty.quals = true := by
  obtain ⟨sf, hsf⟩ := nSel_field_some ht
  by_cases hobj : ∃ i, sf.ty.id = .object i
  · obtain ⟨i, hid⟩ := hobj
    obtain ⟨hw, _, _, _⟩ := nSel_obj hsf hid ht
    exact ⟨sf, pfx ++ c.cs.camel (a.getD sf.name), hsf, by simp [leafNameV, hid], by simp [fieldOfSelV, hsf, leafNameV, hid], hw⟩
  · have hno : ∀ i, sf.ty.id ≠ .object i := fun i h => hobj ⟨i, h⟩
    exact fieldOfSelV_s c pfx false a fid sub (nSel_nonobj hsf hno ht)

include hok in
theorem resolves_of_nSels {pfx : String} {p : TypeId} {sels : List Sel} (ht : nSels ok c.s c.q c.o p sels = true) :
    Resolves c pfx sels := by
  refine ⟨fun a fid sub hx => ?_, fun g hx => ?_⟩
  · obtain ⟨sf, ft, hsf, _, hf, hw⟩ := fieldOfSelV_n pfx p a fid sub (nSels_mem ht _ hx)
    exact ⟨sf, ft, hsf, hf, hw⟩
  · have hokg : ok p g = true := by simpa [nSel] using nSels_mem ht _ hx
    obtain ⟨fr, hfr, _⟩ := hok _ _ hokg
    exact ⟨fr, hfr⟩

theorem own_fieldsOfN (_hok : OkSpec c.q ok) (pfx : String) (p : TypeId) : ∀ (sels : List Sel), nSels ok c.s c.q c.o p sels = true →
    (fieldsOfF c pfx sels).filter (fun f => !f.flatten) = fieldsOfV c pfx sels :=
  fun sels _ => filter_fieldsOfF c pfx sels

include hok in
theorem any_flatten_fieldsOfN (pfx : String) (p : TypeId) : ∀ (sels : List Sel), nSels ok c.s c.q c.o p sels = true →
    (fieldsOfF c pfx sels).any (·.flatten) = sels.any isSpread :=
  fun _ ht => any_flatten_fieldsOfF (resolves_of_nSels hok ht)

/-- the struct of a selection set reads exactly the keys of the selection set (through spreads) -/
theorem readKeys_fieldsOfF_kOf (KN : String → List String) (pfx : String) : ∀ (sels : List Sel), Resolves c pfx sels →
    (fieldsOfF c pfx sels).flatMap (readKeys (kOf KN)) = expKeysN KN c sels
  | [], _ => by simp [fieldsOfF, expKeysN]
  | x :: xs, R => by
    rw [fieldsOfF_cons, List.flatMap_append, readKeys_fieldsOfF_kOf KN pfx xs R.tail]
    cases x with
    | field a fid sub =>
      obtain ⟨sf, ft, hsf, hf, _⟩ := R.field a fid sub (by simp)
      have hnf : (fieldOf c (a.getD sf.name) ft sf.ty.quals sf.deprecation).flatten = false := rfl
      rw [fieldOfSelF_field, hf]
      simp [expKeysN, hsf, readKeys, hnf, fieldOf_wire]
    | spread g =>
      obtain ⟨fr, hfr⟩ := R.spread g (by simp)
      have hmk : kOf KN (spreadField c fr) = KN fr.name := rfl
      have hfl' : (spreadField c fr).flatten = true := rfl
      simp [fieldOfSelF, hfr, expKeysN, fragName, readKeys, hfl', hmk]
    | inline t sub => simp [fieldOfSelF, fieldOfSelV, expKeysN]
    | typename => simp [fieldOfSelF, fieldOfSelV, expKeysN]

/-- from "the keys of the selection set (through spreads) are pairwise distinct" to the hypotheses of `okB_deStructMapA` -/
theorem flat_hyps_kOf (KN : String → List String) {pfx : String} {sels : List Sel} (R : Resolves c pfx sels)
    (hnd : (expKeysN KN c sels).Nodup) :
    (∀ g ∈ fieldsOfF c pfx sels, g.flatten = true → ∀ k ∈ kOf KN g, k ∈ expKeysN KN c sels) ∧
    (∀ f ∈ fieldsOfF c pfx sels, f.flatten = false → f.wire ∈ expKeysN KN c sels) ∧
    (∀ g ∈ fieldsOfF c pfx sels, g.flatten = true → ∀ k ∈ kOf KN g,
      k ∉ ((fieldsOfF c pfx sels).filter (fun f => !f.flatten)).map (·.wire)) ∧
    (fieldsOfF c pfx sels).Pairwise (fun g g' => g.flatten = true → g'.flatten = true →
      ∀ k ∈ kOf KN g', k ∉ kOf KN g) :=
  have ⟨h1, h2, h3, h4⟩ := flat_hyps_of_readKeys (P := fun _ => True) (readKeys_fieldsOfF_kOf KN pfx sels R)
    (fun _ _ _ => trivial) hnd
  ⟨fun g hg hfl => (h1 g hg hfl).2, h2, h3, h4⟩

include hok in
theorem flat_hypsN (KN : String → List String) (pfx : String) (p : TypeId) : ∀ (sels : List Sel),
    nSels ok c.s c.q c.o p sels = true → (expKeysN KN c sels).Nodup →
    (∀ g ∈ fieldsOfF c pfx sels, g.flatten = true → ∀ k ∈ kOf KN g, k ∈ expKeysN KN c sels) ∧
    (∀ f ∈ fieldsOfF c pfx sels, f.flatten = false → f.wire ∈ expKeysN KN c sels) ∧
    (∀ g ∈ fieldsOfF c pfx sels, g.flatten = true → ∀ k ∈ kOf KN g,
      k ∉ ((fieldsOfF c pfx sels).filter (fun f => !f.flatten)).map (·.wire)) ∧
    (fieldsOfF c pfx sels).Pairwise (fun g g' => g.flatten = true → g'.flatten = true →
      ∀ k ∈ kOf KN g', k ∉ kOf KN g) :=
  fun _ ht hnd => flat_hyps_kOf KN (resolves_of_nSels hok ht) hnd

end Fields

theorem envSelsN_mem {fenv : Nat → Prop} {e : Env} {c : Ctx} {pfx : String} : ∀ {sels : List Sel},
    envSelsN fenv e c pfx sels → ∀ x ∈ sels, envSelN fenv e c pfx x :=
  fun {sels} => (forall_mem_of_eqns (by rw [envSelsN]; trivial) (fun _ _ => by rw [envSelsN]) sels).mp

theorem envSelN_spread {fenv : Nat → Prop} {e : Env} {c : Ctx} {pfx : String} {g : Nat} :
    envSelN fenv e c pfx (.spread g) = fenv g := by
  rw [envSelN]

/-- what the member level needs of the spreads of a selection set of the class: admitted, and with their environment -/
theorem spreads_of_nSels {ok : TypeId → Nat → Bool} {fenv : Nat → Prop} {e : Env} {c : Ctx} {pfx : String} {p : TypeId}
    {sels : List Sel} (ht : nSels ok c.s c.q c.o p sels = true) (henv : envSelsN fenv e c pfx sels) (g : Nat)
    (hg : Sel.spread g ∈ sels) : ok p g = true ∧ fenv g :=
  ⟨by simpa [nSel] using nSels_mem ht _ hg, by have := envSelsN_mem henv _ hg; rwa [envSelN_spread] at this⟩

theorem bodyEnvN_not_lone {fenv : Nat → Prop} {e : Env} {c : Ctx} {name pfx : String} {sels : List Sel}
    (hnl : ∀ g, sels ≠ [Sel.spread g]) (h : BodyEnvN fenv e c name pfx sels) :
    StructEnv e name (fieldsOfF c pfx sels) ∧ envSelsN fenv e c pfx sels := by
  unfold BodyEnvN at h
  revert h
  split
  · exact fun _ => absurd rfl (hnl _)
  · exact id

theorem keysOkN_obj {KN : String → List String} {c : Ctx} {a : Option String} {fid : Nat} {sub : List Sel}
    {sf : StoredField} {i : Nat}
    (hsf : c.s.fields[fid]? = some sf) (hid : sf.ty.id = .object i) (h : keysOkN KN c (.field a fid sub) = true) :
    EnumSpec.nodup (expKeysN KN c sub) = true ∧ keysOksN KN c sub = true := by
  rw [keysOkN] at h
  simp only [hsf, hid, Option.map_some, Bool.and_eq_true] at h
  exact h

theorem envSelN_obj {fenv : Nat → Prop} {e : Env} {c : Ctx} {pfx : String} {a : Option String} {fid : Nat}
    {sub : List Sel} {sf : StoredField}
    {i : Nat} (hsf : c.s.fields[fid]? = some sf) (hid : sf.ty.id = .object i) (h : envSelN fenv e c pfx (.field a fid sub)) :
    BodyEnvN fenv e c (pfx ++ c.cs.camel (a.getD sf.name)) (pfx ++ c.cs.camel (a.getD sf.name)) sub := by
  rw [envSelN] at h
  simp only [hsf, hid] at h
  exact h

theorem envSelN_nonobj {fenv : Nat → Prop} {e : Env} {c : Ctx} {pfx : String} {a : Option String} {fid : Nat}
    {sub : List Sel}
    {sf : StoredField} (hsf : c.s.fields[fid]? = some sf) (hno : ∀ i, sf.ty.id ≠ .object i)
    (h : envSelN fenv e c pfx (.field a fid sub)) : envSelS e c pfx (.field a fid sub) := by
  rw [envSelN] at h
  simp only [hsf] at h
  cases hid : sf.ty.id with
  | object i => exact absurd hid (hno i)
  | scalar k => simpa only [hid] using h
  | «enum» k => simpa only [hid] using h
  | interface k => simpa only [hid] using h
  | union k => simpa only [hid] using h
  | input k => simpa only [hid] using h

theorem looseFieldN_nonobj {whole : Nat → Bool → Json → Bool} {s : Schema} {q : Query} {o : Options} {b : Bool}
    {a : Option String} {fid : Nat}
    {sub : List Sel} {sf : StoredField} (hsf : s.fields[fid]? = some sf) (hno : ∀ i, sf.ty.id ≠ .object i) (v : Json) :
    looseFieldN whole s q o b (.field a fid sub) v = looseFieldS s q o b (.field a fid sub) v := by
  rw [looseFieldN]
  simp only [hsf]

/-! ## acceptance, exactly: the statement about one selection (set), and the flattened members

`AccSelN` / `AccSelsN` say `∃ N, ∀ fd ≥ N`: "for every large enough fuel", without the explicit bound in the depth of the
selection the earlier classes carry — the fuel a spread fragment needs depends on its rank, and
`SerdeFuel.dePath_fuel_indep` turns "from some fuel on" into a statement about `Serde.de` all the same
(`top_accepts_iffN`).  They are proved for both classes at once in `C01AliasFragC` (`C01AF.accSelA`); `accSelN` of
`C01NestedD` is that theorem under this class's name.  `accMemN_of` is the part about the flattened members, for any
selection set whose spreads resolve (`Resolves`); `NestedBOp` uses it too (`C01NB.accMemA`). -/

section AccN
variable (e : Env) (c : Ctx) (ok : TypeId → Nat → Bool) (whole : Nat → Bool → Json → Bool) (KN : String → List String)
  (fenv : Nat → Prop)

def AccSelN (pfx : String) (x : Sel) : Prop :=
  ∀ p, nSel ok c.s c.q c.o p x = true → envSelN fenv e c pfx x → keysOkN KN c x = true →
    ∀ f, fieldOfSelV c pfx x = some f →
    ∃ N, ∀ b fd, N ≤ fd → ∀ v, okB (deFieldWith (dePath e b fd) f v) = looseFieldN whole c.s c.q c.o b x v

def AccSelsN (pfx : String) (sels : List Sel) : Prop :=
  ∀ p, nSels ok c.s c.q c.o p sels = true → envSelsN fenv e c pfx sels → keysOksN KN c sels = true →
    ∃ N, ∀ b fd, N ≤ fd →
    (∀ kvs, (fieldsOfV c pfx sels).all (fun f => decide (countKey f.wire kvs ≤ 1) &&
        okB (readField (dePath e b fd) f kvs)) = looseOwnN whole c.s c.q c.o b sels kvs) ∧
    (∀ xs, (decide ((fieldsOfV c pfx sels).length ≤ xs.length) &&
        ((fieldsOfV c pfx sels).zip xs).all (fun p => okB (deFieldWith (dePath e b fd) p.1 p.2))) =
          looseArrN whole c.s c.q c.o b sels xs)

variable (hok : OkSpec c.q ok) (hfa : ∀ p g, ok p g = true → fenv g → FragAcc e c whole KN g)

include hok hfa in
/-- the flattened members: struct items, keys, irrelevance of other keys, and what they accept -/
theorem accMemN_of (pfx : String) (p : TypeId) : ∀ (sels : List Sel), Resolves c pfx sels →
    (∀ g, Sel.spread g ∈ sels → ok p g = true ∧ fenv g) → ∃ N, ∀ fuel, N ≤ fuel →
    (∀ g ∈ fieldsOfF c pfx sels, g.flatten = true → MemberOkN e g ∧
      (∀ f ∈ memberFields e g, f.flatten = false → f.wire ∈ kOf KN g) ∧
      (∀ L' : List String, (∀ k ∈ L', k ∉ kOf KN g) → ∀ kvs,
        okB (memberVal e fuel g (kvs.filter (fun kv => !L'.contains kv.1))) = okB (memberVal e fuel g kvs))) ∧
    (∀ kvs, ((fieldsOfF c pfx sels).filter (·.flatten)).all (fun g => okB (memberVal e fuel g kvs)) =
      looseMemN whole sels kvs)
  | [], _, _ => ⟨0, fun _ _ => ⟨by simp [fieldsOfF], fun _ => rfl⟩⟩
  | x :: xs, R, hsp => by
    obtain ⟨N, ih⟩ := accMemN_of pfx p xs R.tail (fun g hg => hsp g (List.mem_cons_of_mem _ hg))
    cases x with
    | field a fid sub =>
      obtain ⟨sf, ft, _, hf, _⟩ := R.field a fid sub List.mem_cons_self
      refine ⟨N, fun fuel hfuel => ?_⟩
      obtain ⟨i1, i2⟩ := ih fuel hfuel
      have hfs : fieldsOfF c pfx (.field a fid sub :: xs) =
          fieldOf c (a.getD sf.name) ft sf.ty.quals sf.deprecation :: fieldsOfF c pfx xs := by
        rw [fieldsOfF_cons, fieldOfSelF_field, hf]; rfl
      have hnf : (fieldOf c (a.getD sf.name) ft sf.ty.quals sf.deprecation).flatten = false := rfl
      rw [hfs]
      refine ⟨?_, fun kvs => ?_⟩
      · intro g hg hfl
        rcases List.mem_cons.mp hg with rfl | hg'
        · rw [hnf] at hfl; cases hfl
        · exact i1 g hg' hfl
      · simp only [List.filter_cons, hnf, Bool.false_eq_true, ↓reduceIte, i2 kvs, looseMemN]
    | spread g =>
      obtain ⟨hokg, hfg⟩ := hsp g List.mem_cons_self
      obtain ⟨fr, hfr, _⟩ := hok _ _ hokg
      have hname : fragName c g = fr.name := by simp [fragName, hfr]
      have fa := hfa p g hokg hfg
      obtain ⟨n, d, cr, G, hnp, hfind, hG⟩ := fa.str
      obtain ⟨Ng, hacc⟩ := fa.acc
      rw [hname] at hnp hfind hG hacc
      have hirr := fa.irr
      rw [hname] at hirr
      have hfs : fieldsOfF c pfx (.spread g :: xs) = spreadField c fr :: fieldsOfF c pfx xs := by
        rw [fieldsOfF_cons]; simp [fieldOfSelF, hfr]
      have hfl' : (spreadField c fr).flatten = true := rfl
      have hmf : memberFields e (spreadField c fr) = G := by
        simp [memberFields, spreadField, hfind]
      have hmv : ∀ fuel kvs, memberVal e fuel (spreadField c fr) kvs = dePath e true (fuel + 1) fr.name (.obj kvs) :=
        fun fuel kvs => memberVal_eq_dePath e fuel _ fr.name n d cr rfl hnp (by rw [hmf]; exact hfind) kvs
      refine ⟨max N Ng, fun fuel hfuel => ?_⟩
      obtain ⟨i1, i2⟩ := ih fuel (by omega)
      rw [hfs]
      refine ⟨?_, fun kvs => ?_⟩
      · intro g' hg hfl
        rcases List.mem_cons.mp hg with rfl | hg'
        · refine ⟨⟨fr.name, n, d, cr, rfl, hnp, by rw [hmf]; exact hfind⟩, ?_, ?_⟩
          · rw [hmf]; exact hG
          · intro L' hL' kvs
            rw [hmv, hmv, hacc (fuel + 1) (by omega), hacc (fuel + 1) (by omega)]
            exact hirr L' hL' true kvs
        · exact i1 g' hg' hfl
      · simp only [List.filter_cons, hfl', ↓reduceIte, List.all_cons, i2 kvs, looseMemN, hmv,
          hacc (fuel + 1) (by omega)]
    | inline t sub =>
      refine ⟨N, fun fuel hfuel => ?_⟩
      have hfs : fieldsOfF c pfx (.inline t sub :: xs) = fieldsOfF c pfx xs := by
        rw [fieldsOfF_cons]; simp [fieldOfSelF, fieldOfSelV]
      rw [hfs]
      exact ⟨(ih fuel hfuel).1, fun kvs => by rw [(ih fuel hfuel).2 kvs]; rfl⟩
    | typename =>
      refine ⟨N, fun fuel hfuel => ?_⟩
      have hfs : fieldsOfF c pfx (.typename :: xs) = fieldsOfF c pfx xs := by
        rw [fieldsOfF_cons]; simp [fieldOfSelF, fieldOfSelV]
      rw [hfs]
      exact ⟨(ih fuel hfuel).1, fun kvs => by rw [(ih fuel hfuel).2 kvs]; rfl⟩

include hok hfa in
theorem accMemN (pfx : String) (p : TypeId) (sels : List Sel) (ht : nSels ok c.s c.q c.o p sels = true)
    (henv : envSelsN fenv e c pfx sels) : ∃ N, ∀ fuel, N ≤ fuel →
    (∀ g ∈ fieldsOfF c pfx sels, g.flatten = true → MemberOkN e g ∧
      (∀ f ∈ memberFields e g, f.flatten = false → f.wire ∈ kOf KN g) ∧
      (∀ L' : List String, (∀ k ∈ L', k ∉ kOf KN g) → ∀ kvs,
        okB (memberVal e fuel g (kvs.filter (fun kv => !L'.contains kv.1))) = okB (memberVal e fuel g kvs))) ∧
    (∀ kvs, ((fieldsOfF c pfx sels).filter (·.flatten)).all (fun g => okB (memberVal e fuel g kvs)) =
      looseMemN whole sels kvs) :=
  accMemN_of e c ok whole KN fenv hok hfa pfx p sels (resolves_of_nSels hok ht) (spreads_of_nSels ht henv)

end AccN

end C01N
end GqlVerif
