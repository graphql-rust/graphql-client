import GqlVerif.Proofs.C01MixedContent
import GqlVerif.Proofs.C01MixedW
/-!
# C01 end to end (`MixedOp`, `MixedOp2`), `SameContent`: instances on generated modules, and the relation does tell a loss

`mixed_roundtrip_content` / `mixed2_roundtrip_content` on the generated modules of `C01MixedW`: the result of the round trip,
written out, is `SameContent` to the payload (keys come back in another order).

**Negative witnesses**: `SameContent` sees a lost field.  On `mixed_keys_needed`'s operation (`dog { barks ...DogFields }`, every
hypothesis of `mixed_roundtrip_content` but `mixedKeysOk`) the round trip returns `barks: null` for `barks: true`, and that is
**not** `SameContent`; likewise for `mixed2_oi_needed` (`barks` is absent from the output).  So neither side condition can be
dropped from the content theorems.  The closed form `normJson (canonSelM …)` still is `SameContent` there (`mixed_content` has no
side condition): what fails without the side condition is "the closed form is the round trip".
-/

namespace GqlVerif
namespace C01M
open Serde Spec C13 C03 Codegen C01 C01.E2E

/-! ## `mixed_roundtrip_content` on the generated module of `C01MixedW` -/

theorem mx_roundtrip_content :
    ∃ out, Serde.roundtrip (moduleEnv (mxCtx mxDog mxAnimal) mxItems) (.path "ResponseData") mxJson = .ok out ∧
      SameContent false mxJson out :=
  mixed_roundtrip_content (mxCtx mxDog mxAnimal) 0 (mxOp mxDog mxAnimal) mxItems rfl mx_class mx_keys mx_rust mx_gen mx_ok
    mxJson mx_conforms

/-- written out: the value `mx_roundtrip` computes has the content of the payload (`animal`: `__typename name barks` comes
    back as `name __typename barks`) -/
theorem mx_content :
    SameContent false
      (.obj [("dog", .obj [("barks", .bool true)]),
             ("animal", .obj [("__typename", .str "Dog"), ("name", .str "Rex"), ("barks", .bool false)])])
      (.obj [("dog", .obj [("barks", .bool true)]),
             ("animal", .obj [("name", .str "Rex"), ("__typename", .str "Dog"), ("barks", .bool false)])]) := by
  have h : SameContent false mxJson
      (normJson (canonSelM mxSchema (mxQuery mxDog mxAnimal) false (mxOp mxDog mxAnimal).sels mxJson)) :=
    mixed_content (mxCtx mxDog mxAnimal) (mxOp mxDog mxAnimal) mx_class mxJson mx_conforms
  rw [mx_canon] at h
  exact h

theorem mx2_roundtrip_content :
    ∃ out, Serde.roundtrip (moduleEnv (mxCtx mx2Dog mxAnimal) mx2Items) (.path "ResponseData") mx2Json = .ok out ∧
      SameContent false mx2Json out :=
  mixed_roundtrip_content (mxCtx mx2Dog mxAnimal) 0 (mxOp mx2Dog mxAnimal) mx2Items rfl mx2_class mx2_keys mx2_rust mx2_gen
    mx2_ok mx2Json mx2_conforms

/-- `dog { name ...DogFields }`: `barks name` comes back as `name barks` (the own field, then the flattened member); the `null`
    stays (no skip-none) -/
theorem mx2_content :
    SameContent false
      (.obj [("dog", .obj [("barks", .null), ("name", .str "Rex")]),
             ("animal", .obj [("__typename", .str "Dog"), ("name", .str "Rex"), ("barks", .bool false)])])
      (.obj [("dog", .obj [("name", .str "Rex"), ("barks", .null)]),
             ("animal", .obj [("name", .str "Rex"), ("__typename", .str "Dog"), ("barks", .bool false)])]) := by
  have h : SameContent false mx2Json
      (normJson (canonSelM mxSchema (mxQuery mx2Dog mxAnimal) false (mxOp mx2Dog mxAnimal).sels mx2Json)) :=
    mixed_content (mxCtx mx2Dog mxAnimal) (mxOp mx2Dog mxAnimal) mx2_class mx2Json mx2_conforms
  rw [mx2_canon] at h
  exact h

/-! ## `mixed2_roundtrip_content` on the `MixedOp2` module of `C01MixedW` -/

theorem ex_roundtrip_content :
    ∃ out, Serde.roundtrip (moduleEnv (mxCtx mxDog exAnimal) exItems) (.path "ResponseData") mxJson = .ok out ∧
      SameContent false mxJson out :=
  mixed2_roundtrip_content (mxCtx mxDog exAnimal) 0 (mxOp mxDog exAnimal) exItems rfl ex_class ex_keys ex_rust ex_gen ex_ok
    mxJson ex_conforms

theorem ex_content :
    SameContent false mxJson
      (.obj [("dog", .obj [("barks", .bool true)]),
             ("animal", .obj [("name", .str "Rex"), ("__typename", .str "Dog"), ("barks", .bool false)])]) := by
  have h : SameContent false mxJson
      (normJson (canonSelM mxSchema (mxQuery mxDog exAnimal) false (normSels (mxOp mxDog exAnimal).sels) mxJson)) :=
    mixed2_content (mxCtx mxDog exAnimal) (mxOp mxDog exAnimal) ex_class mxJson ex_conforms
  rw [ex_canon] at h
  exact h

/-! ## what the relation gives on such an instance (it is not vacuous) -/

/-- inversion: what `SameContent` says of an output for an input object (whatever the output is) -/
theorem SameContent.obj_inv {skip : Bool} {kvs : List (String × Json)} {out : Json}
    (h : SameContent skip (.obj kvs) out) :
    ∃ kvs', out = .obj kvs' ∧ ∀ k v, Json.lookup k kvs = some v →
      k = "__typename" ∨ (skip = true ∧ v = .null) ∨ ∃ v', (k, v') ∈ kvs' ∧ SameContent skip v v' := by
  cases h with
  | refl => exact ⟨kvs, rfl, fun k v hl => .inr (.inr ⟨v, jlookup_mem hl, .refl _⟩)⟩
  | obj _ kvs' hnd hfrom hsame hcov =>
    refine ⟨kvs', rfl, fun k v hl => ?_⟩
    rcases hcov k v hl with h | h | h
    · exact .inl h
    · exact .inr (.inl h)
    · obtain ⟨kv, hkv, hk⟩ := List.mem_map.mp h
      obtain ⟨k', v'⟩ := kv
      simp only at hk
      subst hk
      exact .inr (.inr ⟨v', hkv, hsame k' v v' hkv hl⟩)

/-- **whatever** `out` is `SameContent` to the payload `mxJson` has an entry `dog` whose value has the entry `barks: true` of the
    payload — in particular (`mx_roundtrip_content`) the result of the round trip through the type alias `Qdog = DogFields` -/
theorem sameContent_mx_barks (out : Json) (h : SameContent false mxJson out) :
    ∃ kvs d, out = .obj kvs ∧ ("dog", Json.obj d) ∈ kvs ∧ ("barks", Json.bool true) ∈ d := by
  simp only [mxJson] at h
  obtain ⟨kvs, rfl, H⟩ := SameContent.obj_inv h
  rcases H "dog" (.obj [("barks", .bool true)]) (by simp [Json.lookup]) with h1 | h1 | ⟨v', hm, hs⟩
  · simp at h1
  · simp at h1
  · obtain ⟨d, rfl, H2⟩ := SameContent.obj_inv hs
    rcases H2 "barks" (.bool true) (by simp [Json.lookup]) with h2 | h2 | ⟨v2, hm2, hs2⟩
    · simp at h2
    · simp at h2
    · cases hs2
      exact ⟨kvs, d, rfl, hm, hm2⟩

theorem mx_barks_survives :
    ∃ out, Serde.roundtrip (moduleEnv (mxCtx mxDog mxAnimal) mxItems) (.path "ResponseData") mxJson = .ok out ∧
      ∃ kvs d, out = .obj kvs ∧ ("dog", Json.obj d) ∈ kvs ∧ ("barks", Json.bool true) ∈ d := by
  obtain ⟨out, hrt, hsc⟩ := mx_roundtrip_content
  exact ⟨out, hrt, sameContent_mx_barks out hsc⟩

/-! ## negative witnesses: `SameContent` sees a lost field -/

/-- what the round trip of `mixed_keys_needed` returns for `kJson` -/
def kOut : Json :=
  .obj [("dog", .obj [("barks", .null)]), ("animal", .obj [("name", .str "Tom"), ("__typename", .str "Cat")])]

/-- `barks: true` coming back as `barks: null` is **not** `SameContent` -/
theorem keys_loss_not_sameContent : ¬ SameContent false kJson kOut := by
  intro h
  simp only [kJson, kOut] at h
  obtain ⟨v1, hl1, h1⟩ := SameContent.entry (by simp) h "dog" (.obj [("barks", .null)]) (by simp)
  simp only [Json.lookup, beq_self_eq_true, ↓reduceIte, Option.some.injEq] at hl1
  subst hl1
  obtain ⟨v2, hl2, h2⟩ := SameContent.entry (by simp) h1 "barks" .null (by simp)
  simp only [Json.lookup, beq_self_eq_true, ↓reduceIte, Option.some.injEq] at hl2
  subst hl2
  cases h2

theorem k_roundtrip :
    Serde.roundtrip (moduleEnv (mxCtx kDog mxAnimal) (okOr (responseForQuery (mxCtx kDog mxAnimal) 0)))
      (.path "ResponseData") kJson = .ok kOut := by
  have h := mixed_keys_needed.2.2.2.2.2.2
  split at h
  · rename_i heq; exact heq
  · cases h

/-- **`mixedKeysOk` cannot be dropped from `mixed_roundtrip_content`**: on `mixed_keys_needed`'s operation
    (`dog { barks ...DogFields }`) every other hypothesis holds and the result of the round trip is not `SameContent` to the
    conforming payload (`barks` comes back `null`) — while the closed form `normJson (canonSelM …)` is (`mixed_content` needs no
    side condition): without `mixedKeysOk` the closed form is not what the round trip returns. -/
theorem mixed_keys_needed_content :
    MixedOp (mxCtx kDog mxAnimal) (mxOp kDog mxAnimal) = true ∧
    mixedKeysOk (mxCtx kDog mxAnimal) (mxOp kDog mxAnimal) = false ∧
    mixedRustOk (mxCtx kDog mxAnimal) (mxOp kDog mxAnimal) = true ∧
    isOkO (responseForQuery (mxCtx kDog mxAnimal) 0) = true ∧
    moduleOk (mxCtx kDog mxAnimal) (okOr (responseForQuery (mxCtx kDog mxAnimal) 0)) = true ∧
    conformsOpM (mxCtx kDog mxAnimal) (mxOp kDog mxAnimal) kJson = true ∧
    (∃ out, Serde.roundtrip (moduleEnv (mxCtx kDog mxAnimal) (okOr (responseForQuery (mxCtx kDog mxAnimal) 0)))
        (.path "ResponseData") kJson = .ok out ∧ ¬ SameContent false kJson out) ∧
    SameContent false kJson
      (normJson (canonSelM mxSchema (mxQuery kDog mxAnimal) false (mxOp kDog mxAnimal).sels kJson)) := by
  obtain ⟨h1, h2, h3, h4, h5, h6, _⟩ := mixed_keys_needed
  exact ⟨h1, h2, h3, h4, h5, h6, ⟨kOut, k_roundtrip, keys_loss_not_sameContent⟩,
    mixed_content (mxCtx kDog mxAnimal) (mxOp kDog mxAnimal) h1 kJson h6⟩

/-- what the round trip of `mixed2_oi_needed` returns for `kJson` -/
def oOut : Json :=
  .obj [("dog", .obj []), ("animal", .obj [("name", .str "Tom"), ("__typename", .str "Cat")])]

/-- the selected `barks` missing from the output is **not** `SameContent` -/
theorem oi_loss_not_sameContent : ¬ SameContent false kJson oOut := by
  intro h
  simp only [kJson, oOut] at h
  obtain ⟨v1, hl1, h1⟩ := SameContent.entry (by simp) h "dog" (.obj []) (by simp)
  simp only [Json.lookup, beq_self_eq_true, ↓reduceIte, Option.some.injEq] at hl1
  subst hl1
  have := SameContent.no_loss h1 "barks" (.bool true) (by simp [Json.lookup])
  simp at this

theorem o_roundtrip :
    Serde.roundtrip (moduleEnv (mxCtx oDog mxAnimal) (okOr (responseForQuery (mxCtx oDog mxAnimal) 0)))
      (.path "ResponseData") kJson = .ok oOut := by
  have h := mixed2_oi_needed.2.2.2.2.2.2.2.2.2.2
  split at h
  · rename_i heq; exact heq
  · cases h

/-- **`oiSels` cannot be dropped from `MixedOp2` for `mixed2_roundtrip_content`**: on `mixed2_oi_needed`'s operation
    (`dog { ... on Dog { ...DogFields } }`) every other part of the class and every other hypothesis holds, and the result of
    the round trip is not `SameContent` to the conforming payload (`barks` is gone) -/
theorem mixed2_oi_needed_content :
    aliasWfSels (mxCtx oDog mxAnimal).q (mxOp oDog mxAnimal).sels = true ∧
    aliasOkSels (mxCtx oDog mxAnimal) (mxOp oDog mxAnimal).sels = true ∧
    noAliasHere (mxOp oDog mxAnimal).sels = true ∧
    MixedOp (mxCtx oDog mxAnimal) (normOp (mxOp oDog mxAnimal)) = true ∧
    oiSels mxSchema (mxOp oDog mxAnimal).sels = false ∧
    mixedKeysOk (mxCtx oDog mxAnimal) (normOp (mxOp oDog mxAnimal)) = true ∧
    mixedRustOk (mxCtx oDog mxAnimal) (normOp (mxOp oDog mxAnimal)) = true ∧
    isOkO (responseForQuery (mxCtx oDog mxAnimal) 0) = true ∧
    moduleOk (mxCtx oDog mxAnimal) (okOr (responseForQuery (mxCtx oDog mxAnimal) 0)) = true ∧
    conformsOpM (mxCtx oDog mxAnimal) (mxOp oDog mxAnimal) kJson = true ∧
    ∃ out, Serde.roundtrip (moduleEnv (mxCtx oDog mxAnimal) (okOr (responseForQuery (mxCtx oDog mxAnimal) 0)))
        (.path "ResponseData") kJson = .ok out ∧ ¬ SameContent false kJson out := by
  obtain ⟨h1, h2, h3, h4, h5, h6, h7, h8, h9, h10, _⟩ := mixed2_oi_needed
  exact ⟨h1, h2, h3, h4, h5, h6, h7, h8, h9, h10, oOut, o_roundtrip, oi_loss_not_sameContent⟩

end C01M
end GqlVerif
