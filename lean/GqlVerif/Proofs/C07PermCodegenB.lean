import GqlVerif.Proofs.C07PermCodegenA
import GqlVerif.Proofs.C02Closure
/-!
# C07, type-order permutations (part B) — `ItemsPerm`, and the order-insensitive parts of code generation under a type renumbering

* `ItemsPerm` — two item lists are equal up to the order of the items and, inside every tagged enum, the order of
  its variants (inductive closure; `itemsPerm_iff_itemsEqv`: it is the relation `C07.ItemsEqv` in which
  `C07.CodegenIsoPermStatement` is phrased);
* `ResF R x y` — "if `x` succeeds then `y` runs out of fuel or succeeds with an `R`-related result", the shape in which
  the fuel-indexed `calc*` block is compared (`ResF.bind`), `Res0` — the same without the fuel escape;
* the used-types walk commutes with the renumbering (`allUsedTypes_tiso`, an equality, errors included);
* `scalarItems_tiso`, `enumItems_tiso`, `inputItems_tiso` — the emitted scalar aliases / enums / input types are
  permutations of each other (they are emitted in id order, resp. table order); `variablesItems_tiso` — equal.
-/

namespace GqlVerif
namespace C07P
open Codegen C07

theorem itemEqv_symm {x y : Item} (h : ItemEqv x y) : ItemEqv y x := by
  cases h with
  | refl => exact .refl _
  | tagged n d c tag hp => exact .tagged n d c tag hp.symm

theorem itemEqv_trans {x y z : Item} (h1 : ItemEqv x y) (h2 : ItemEqv y z) : ItemEqv x z := by
  cases h1 with
  | refl => exact h2
  | tagged n d c tag hp =>
    generalize hy : Item.tagged n d c tag _ = y at h2
    cases h2 with
    | refl => subst hy; exact .tagged n d c tag hp
    | tagged n' d' c' tag' hp' =>
      cases hy
      exact .tagged n d c tag (hp.trans hp')

/-- equal up to the order of the items and of the variants of each tagged enum -/
inductive ItemsPerm : List Item → List Item → Prop
  | nil : ItemsPerm [] []
  | cons {x y : Item} {l l' : List Item} : ItemEqv x y → ItemsPerm l l' → ItemsPerm (x :: l) (y :: l')
  | swap (x y : Item) (l : List Item) : ItemsPerm (y :: x :: l) (x :: y :: l)
  | trans {a b c : List Item} : ItemsPerm a b → ItemsPerm b c → ItemsPerm a c

namespace ItemsPerm

theorem refl : ∀ l : List Item, ItemsPerm l l
  | [] => .nil
  | x :: l => .cons (.refl x) (refl l)

theorem of_eq {l l' : List Item} (h : l = l') : ItemsPerm l l' := h ▸ refl l

theorem of_perm {l l' : List Item} (h : l.Perm l') : ItemsPerm l l' := by
  induction h with
  | nil => exact .nil
  | cons x _ ih => exact .cons (.refl x) ih
  | swap x y l => exact .swap x y l
  | trans _ _ ih1 ih2 => exact .trans ih1 ih2

theorem symm {l l' : List Item} (h : ItemsPerm l l') : ItemsPerm l' l := by
  induction h with
  | nil => exact .nil
  | cons hx _ ih => exact .cons (itemEqv_symm hx) ih
  | swap x y l => exact .swap y x l
  | trans _ _ ih1 ih2 => exact .trans ih2 ih1

theorem append_right {l l' : List Item} (h : ItemsPerm l l') (m : List Item) : ItemsPerm (l ++ m) (l' ++ m) := by
  induction h with
  | nil => exact refl m
  | cons hx _ ih => exact .cons hx ih
  | swap x y l => exact .swap x y (l ++ m)
  | trans _ _ ih1 ih2 => exact .trans ih1 ih2

theorem append_left (m : List Item) {l l' : List Item} (h : ItemsPerm l l') : ItemsPerm (m ++ l) (m ++ l') := by
  induction m with
  | nil => exact h
  | cons x m ih => exact .cons (.refl x) ih

theorem append {a a' b b' : List Item} (h1 : ItemsPerm a a') (h2 : ItemsPerm b b') : ItemsPerm (a ++ b) (a' ++ b') :=
  .trans (append_right h1 b) (append_left a' h2)

theorem length_eq {l l' : List Item} (h : ItemsPerm l l') : l.length = l'.length := by
  induction h with
  | nil => rfl
  | cons _ _ ih => simp [ih]
  | swap => simp
  | trans _ _ ih1 ih2 => exact ih1.trans ih2

end ItemsPerm

theorem allRel_refl : ∀ l : List Item, AllRel ItemEqv l l
  | [] => .nil
  | x :: l => .cons (.refl x) (allRel_refl l)

theorem allRel_trans {a b c : List Item} (h1 : AllRel ItemEqv a b) : AllRel ItemEqv b c → AllRel ItemEqv a c := by
  induction h1 generalizing c with
  | nil => intro h2; cases h2; exact .nil
  | cons hx _ ih =>
    intro h2
    cases h2 with
    | cons hy h2 => exact .cons (itemEqv_trans hx hy) (ih h2)

/-- a permutation followed by an elementwise change is an elementwise change followed by a permutation -/
theorem perm_allRel_comm {m b : List Item} (hp : m.Perm b) :
    ∀ {n : List Item}, AllRel ItemEqv b n → ∃ m', AllRel ItemEqv m m' ∧ m'.Perm n := by
  induction hp with
  | nil => intro n hn; cases hn; exact ⟨[], .nil, .nil⟩
  | cons x _ ih =>
    intro n hn
    cases hn with
    | cons hx hn =>
      obtain ⟨m', h1, h2⟩ := ih hn
      exact ⟨_ :: m', .cons hx h1, h2.cons _⟩
  | swap x y l =>
    intro n hn
    cases hn with
    | cons hx hn =>
      cases hn with
      | cons hy hn => exact ⟨_ :: _ :: _, .cons hy (.cons hx hn), .swap _ _ _⟩
  | trans _ _ ih1 ih2 =>
    intro n hn
    obtain ⟨m2, h1, h2⟩ := ih2 hn
    obtain ⟨m1, h3, h4⟩ := ih1 h1
    exact ⟨m1, h3, h4.trans h2⟩

theorem itemsPerm_of_allRel {l m : List Item} (h : AllRel ItemEqv l m) : ItemsPerm l m := by
  induction h with
  | nil => exact .nil
  | cons hx _ ih => exact .cons hx ih

/-- `ItemsPerm` is the relation `C07.ItemsEqv` of `C07.CodegenIsoPermStatement` -/
theorem itemsPerm_iff_itemsEqv (l l' : List Item) : ItemsPerm l l' ↔ ItemsEqv l l' := by
  constructor
  · intro h
    induction h with
    | nil => exact ⟨[], .nil, .nil⟩
    | cons hx _ ih =>
      obtain ⟨m, h1, h2⟩ := ih
      exact ⟨_ :: m, .cons hx h1, h2.cons _⟩
    | swap x y l => exact ⟨y :: x :: l, allRel_refl _, .swap _ _ _⟩
    | trans _ _ ih1 ih2 =>
      obtain ⟨m1, h1, h2⟩ := ih1
      obtain ⟨m2, h3, h4⟩ := ih2
      obtain ⟨m', h5, h6⟩ := perm_allRel_comm h2 h3
      exact ⟨m', allRel_trans h1 h5, h6.trans h4⟩
  · rintro ⟨m, h1, h2⟩
    exact .trans (itemsPerm_of_allRel h1) (.of_perm h2)

theorem itemsPerm_flatten {α} (l : List α) (f g : α → List Item) (h : ∀ x ∈ l, ItemsPerm (f x) (g x)) :
    ItemsPerm (l.map f).flatten (l.map g).flatten := by
  induction l with
  | nil => exact .nil
  | cons x l ih =>
    simp only [List.map_cons, List.flatten_cons]
    exact ItemsPerm.append (h x (by simp)) (ih fun y hy => h y (by simp [hy]))

/-! ## comparing outcomes -/

/-- out of fuel (any of the model's `unmodelled` errors) -/
def OOF {α} (y : Outcome α) : Prop := ∃ w, y = .error (.unmodelled w)

/-- if `x` succeeds then `y` runs out of fuel or succeeds with a related result -/
def ResF {α β} (Rel : α → β → Prop) (x : Outcome α) (y : Outcome β) : Prop :=
  ∀ a, x = .ok a → OOF y ∨ ∃ b, y = .ok b ∧ Rel a b

/-- if `x` succeeds then `y` succeeds with a related result -/
def Res0 {α β} (Rel : α → β → Prop) (x : Outcome α) (y : Outcome β) : Prop :=
  ∀ a, x = .ok a → ∃ b, y = .ok b ∧ Rel a b

theorem Res0.resF {α β} {Rel : α → β → Prop} {x : Outcome α} {y : Outcome β} (h : Res0 Rel x y) : ResF Rel x y :=
  fun a ha => .inr (h a ha)

theorem ResF.res0 {α β} {Rel : α → β → Prop} {x : Outcome α} {y : Outcome β} (h : ResF Rel x y)
    (hc : ∀ w, y ≠ .error (.unmodelled w)) : Res0 Rel x y := by
  intro a ha
  rcases h a ha with ⟨w, hw⟩ | hb
  · exact absurd hw (hc w)
  · exact hb

theorem ResF.bind {α β α' β'} {Rel : α → β → Prop} {S : α' → β' → Prop} {x : Outcome α} {y : Outcome β}
    {f : α → Outcome α'} {g : β → Outcome β'} (hxy : ResF Rel x y) (hfg : ∀ a b, Rel a b → ResF S (f a) (g b)) :
    ResF S (x >>= f) (y >>= g) := by
  intro c hc
  obtain ⟨a, ha, hfa⟩ := C02.bind_ok hc
  rcases hxy a ha with ⟨w, hw⟩ | ⟨b, hb, hab⟩
  · left; exact ⟨w, by rw [hw]; rfl⟩
  · rw [hb]
    exact hfg a b hab c hfa

theorem Res0.bind {α β α' β'} {Rel : α → β → Prop} {S : α' → β' → Prop} {x : Outcome α} {y : Outcome β}
    {f : α → Outcome α'} {g : β → Outcome β'} (hxy : Res0 Rel x y) (hfg : ∀ a b, Rel a b → Res0 S (f a) (g b)) :
    Res0 S (x >>= f) (y >>= g) := by
  intro c hc
  obtain ⟨a, ha, hfa⟩ := C02.bind_ok hc
  obtain ⟨b, hb, hab⟩ := hxy a ha
  rw [hb]
  exact hfg a b hab c hfa

theorem ResF.pure {α β} {Rel : α → β → Prop} {a : α} {b : β} (h : Rel a b) :
    ResF Rel (Pure.pure a : Outcome α) (Pure.pure b) := by
  intro a' ha'
  cases ha'
  exact .inr ⟨b, rfl, h⟩

theorem Res0.pure {α β} {Rel : α → β → Prop} {a : α} {b : β} (h : Rel a b) :
    Res0 Rel (Pure.pure a : Outcome α) (Pure.pure b) := by
  intro a' ha'
  cases ha'
  exact ⟨b, rfl, h⟩

theorem Res0.of_map {α β} {x : Outcome α} {y : Outcome β} (φ : α → β) (h : y = x.map φ) :
    Res0 (fun a b => b = φ a) x y := by
  intro a ha
  subst ha
  exact ⟨φ a, h, rfl⟩

theorem Res0.of_eq {α} {x y : Outcome α} (h : y = x) : Res0 (fun a b => b = a) x y := by
  intro a ha
  subst ha
  exact ⟨a, h, rfl⟩

theorem ResF.of_map {α β} {x : Outcome α} {y : Outcome β} (φ : α → β) (h : y = x.map φ) :
    ResF (fun a b => b = φ a) x y := (Res0.of_map φ h).resF

theorem ResF.of_eq {α} {x y : Outcome α} (h : y = x) : ResF (fun a b => b = a) x y := (Res0.of_eq h).resF

theorem ResF.error {α β} {Rel : α → β → Prop} (e : Err) (y : Outcome β) : ResF Rel (.error e : Outcome α) y := by
  intro a ha; cases ha

theorem ResF.mono {α β} {Rel S : α → β → Prop} {x : Outcome α} {y : Outcome β} (h : ResF Rel x y)
    (hi : ∀ a b, Rel a b → S a b) : ResF S x y := by
  intro a ha
  rcases h a ha with hw | ⟨b, hb, hab⟩
  · exact .inl hw
  · exact .inr ⟨b, hb, hi a b hab⟩

theorem Res0.mono {α β} {Rel S : α → β → Prop} {x : Outcome α} {y : Outcome β} (h : Res0 Rel x y)
    (hi : ∀ a b, Rel a b → S a b) : Res0 S x y := by
  intro a ha
  obtain ⟨b, hb, hab⟩ := h a ha
  exact ⟨b, hb, hi a b hab⟩

theorem foldlM_map_comm {α α' β β' : Type} (φ : β → β') (ψ : α → α') (f : β → α → Outcome β)
    (f' : β' → α' → Outcome β') (l : List α) (hf : ∀ b, ∀ x ∈ l, f' (φ b) (ψ x) = (f b x).map φ) :
    ∀ b, (l.map ψ).foldlM f' (φ b) = (l.foldlM f b).map φ := by
  induction l with
  | nil => intro b; rfl
  | cons x l ih =>
    intro b
    simp only [List.map_cons, List.foldlM_cons, hf b x (by simp)]
    cases f b x with
    | error e => rfl
    | ok b1 => exact ih (fun b y hy => hf b y (by simp [hy])) b1

theorem mapM_perm_ok {α β : Type} (f : α → Outcome β) {l l' : List α} (hp : l'.Perm l) :
    ∀ {r : List β}, l.mapM f = .ok r → ∃ r', l'.mapM f = .ok r' ∧ r'.Perm r := by
  induction hp with
  | nil => intro r h; exact ⟨r, h, .refl _⟩
  | cons x _ ih =>
    intro r h
    rw [List.mapM_cons] at h
    obtain ⟨y, hy, h⟩ := C02.bind_ok h
    obtain ⟨ys, hys, h⟩ := C02.bind_ok h
    cases h
    obtain ⟨r', h1, h2⟩ := ih hys
    refine ⟨y :: r', ?_, h2.cons y⟩
    rw [List.mapM_cons, hy, h1]; rfl
  | swap x y l =>
    intro r h
    rw [List.mapM_cons, List.mapM_cons] at h
    obtain ⟨a, ha, h⟩ := C02.bind_ok h
    obtain ⟨bs, hbs, h⟩ := C02.bind_ok h
    cases h
    obtain ⟨b, hb, hbs⟩ := C02.bind_ok hbs
    obtain ⟨cs, hcs, hbs⟩ := C02.bind_ok hbs
    cases hbs
    refine ⟨b :: a :: cs, ?_, .swap _ _ _⟩
    rw [List.mapM_cons, List.mapM_cons, hb, ha, hcs]; rfl
  | trans _ _ ih1 ih2 =>
    intro r h
    obtain ⟨r1, h1, h2⟩ := ih2 h
    obtain ⟨r2, h3, h4⟩ := ih1 h1
    exact ⟨r2, h3, h4.trans h2⟩

theorem mapM_map_eq {α α' β : Type} (ψ : α → α') (f : α → Outcome β) (f' : α' → Outcome β) (l : List α)
    (hf : ∀ x ∈ l, f' (ψ x) = f x) : (l.map ψ).mapM f' = l.mapM f := by
  induction l with
  | nil => rfl
  | cons x l ih =>
    rw [List.map_cons, List.mapM_cons, List.mapM_cons, hf x (by simp), ih fun y hy => hf y (by simp [hy])]

theorem ins_sorted (x : Nat) : ∀ l : List Nat, l.Pairwise (· < ·) → (sortNat.ins x l).Pairwise (· < ·)
  | [], _ => by simp [sortNat.ins]
  | y :: ys, h => by
    unfold sortNat.ins
    rw [List.pairwise_cons] at h
    split
    · rename_i hxy
      rw [List.pairwise_cons]
      refine ⟨?_, List.pairwise_cons.2 h⟩
      intro a ha
      simp only [List.mem_cons] at ha
      rcases ha with rfl | ha
      · exact hxy
      · exact Nat.lt_trans hxy (h.1 a ha)
    · split
      · exact List.pairwise_cons.2 h
      · rename_i h1 h2
        rw [List.pairwise_cons]
        refine ⟨?_, ins_sorted x ys h.2⟩
        intro a ha
        rcases (C02.mem_ins x a ys).1 ha with rfl | ha
        · have : ¬ a = y := by simpa using h2
          omega
        · exact h.1 a ha

theorem sortNat_sorted (xs : List Nat) : (sortNat xs).Pairwise (· < ·) := by
  unfold sortNat
  suffices ∀ acc : List Nat, acc.Pairwise (· < ·) →
      (xs.foldl (fun acc x => sortNat.ins x acc) acc).Pairwise (· < ·) from this [] .nil
  induction xs with
  | nil => intro acc h; exact h
  | cons x xs ih => intro acc h; exact ih _ (ins_sorted x acc h)

theorem sortNat_nodup (xs : List Nat) : (sortNat xs).Nodup :=
  (sortNat_sorted xs).imp (fun h => Nat.ne_of_lt h)

theorem sortNat_map_perm (f : Nat → Nat) (hf : ∀ i j, f i = f j → i = j) (xs : List Nat) :
    (sortNat (xs.map f)).Perm ((sortNat xs).map f) := by
  rw [List.perm_ext_iff_of_nodup (sortNat_nodup _)]
  · intro a
    simp only [C02.mem_sortNat, List.mem_map]
  · rw [List.Nodup, List.pairwise_map]
    exact (sortNat_nodup xs).imp (fun h e => h (hf _ _ e))

/-! ## the renumbered context, the used types -/

def tC (R : Ren) (t : Schema) (c : Ctx) : Ctx := { c with s := t, q := tQ R c.q }

@[simp] theorem tC_s (R : Ren) (t : Schema) (c : Ctx) : (tC R t c).s = t := rfl
@[simp] theorem tC_q (R : Ren) (t : Schema) (c : Ctx) : (tC R t c).q = tQ R c.q := rfl
@[simp] theorem tC_o (R : Ren) (t : Schema) (c : Ctx) : (tC R t c).o = c.o := rfl
@[simp] theorem tC_cs (R : Ren) (t : Schema) (c : Ctx) : (tC R t c).cs = c.cs := rfl

theorem renderField_tC (R : Ren) (t : Schema) (c : Ctx) : renderField (tC R t c) = renderField c := rfl
theorem renderType_tC (R : Ren) (t : Schema) (c : Ctx) : renderType (tC R t c) = renderType c := rfl
theorem aliasMember_tC (R : Ren) (t : Schema) (c : Ctx) : aliasMember (tC R t c) = aliasMember c := rfl
theorem enumItem_tC (R : Ren) (t : Schema) (c : Ctx) : enumItem (tC R t c) = enumItem c := rfl

def tU (R : Ren) (u : UsedTypes) : UsedTypes := { types := u.types.map R.tid, fragments := u.fragments }

@[simp] theorem tU_types (R : Ren) (u : UsedTypes) : (tU R u).types = u.types.map R.tid := rfl
@[simp] theorem tU_fragments (R : Ren) (u : UsedTypes) : (tU R u).fragments = u.fragments := rfl

theorem insertType_t {R : Ren} (hR : R.Inj) (u : UsedTypes) (x : TypeId) :
    (tU R u).insertType (R.tid x) = tU R (u.insertType x) := by
  simp only [UsedTypes.insertType, tU_types, hR.contains_tid]
  split <;> rfl

theorem insertType_input {R : Ren} (hR : R.Inj) (u : UsedTypes) (i : Nat) :
    (tU R u).insertType (.input (R.inp i)) = tU R (u.insertType (.input i)) := insertType_t hR u (.input i)
theorem insertType_enum {R : Ren} (hR : R.Inj) (u : UsedTypes) (i : Nat) :
    (tU R u).insertType (.enum (R.en i)) = tU R (u.insertType (.enum i)) := insertType_t hR u (.enum i)
theorem insertType_scalar {R : Ren} (hR : R.Inj) (u : UsedTypes) (i : Nat) :
    (tU R u).insertType (.scalar (R.sc i)) = tU R (u.insertType (.scalar i)) := insertType_t hR u (.scalar i)
theorem contains_input {R : Ren} (hR : R.Inj) (u : UsedTypes) (i : Nat) :
    (tU R u).types.contains (.input (R.inp i)) = u.types.contains (.input i) := hR.contains_tid u.types (.input i)

section
variable {R : Ren} {s t : Schema} (h : TypeIso R s t)
include h

theorem usedInputIds_tiso (fuel : Nat) : ∀ (u : UsedTypes) (i : StoredInput),
    usedInputIds t fuel (tU R u) (R.input i) = (usedInputIds s fuel u i).map (tU R) := by
  induction fuel with
  | zero => intro _ _; rfl
  | succ fuel ih =>
    intro u i
    simp only [usedInputIds, Ren.input_fields]
    apply foldlM_map_comm (tU R) (fun p : String × FieldType => (p.1, R.ft p.2))
    intro b p _
    obtain ⟨n, ⟨id, quals⟩⟩ := p
    simp only [Ren.ft_id]
    cases id with
    | input iid =>
      simp only [Ren.tid_input, contains_input h.inj, insertType_input h.inj]
      split
      · rfl
      · simp only [h.getInput]
        cases s.getInput iid with
        | error e => rfl
        | ok i' =>
          simp only [Except.map, bind, Except.bind, ih]
    | «enum» e =>
      simp only [Ren.tid_enum, insertType_enum h.inj]; rfl
    | scalar e =>
      simp only [Ren.tid_scalar, insertType_scalar h.inj]; rfl
    | object _ => rfl
    | interface _ => rfl
    | union _ => rfl

theorem collectVar_tiso (u : UsedTypes) (v : RVariable) :
    collectVar t (tU R u) (tVar R v) = (collectVar s u v).map (tU R) := by
  obtain ⟨oi, vn, vd, ⟨id, quals⟩⟩ := v
  simp only [collectVar, tVar_ty, Ren.ft_id, h.inputs_length]
  cases id with
  | input iid =>
    simp only [Ren.tid_input, h.getInput, insertType_input h.inj]
    cases s.getInput iid with
    | error e => rfl
    | ok i' =>
      simp only [Except.map, bind, Except.bind, usedInputIds_tiso h]
  | «enum» e =>
    simp only [Ren.tid_enum, insertType_enum h.inj]; rfl
  | scalar e =>
    simp only [Ren.tid_scalar, insertType_scalar h.inj]; rfl
  | object _ => rfl
  | interface _ => rfl
  | union _ => rfl

theorem collectSel_tiso (q : Query) (fuel : Nat) : ∀ (u : UsedTypes) (x : Sel),
    collectSel t (tQ R q) fuel (tU R u) (tSel R x) = (collectSel s q fuel u x).map (tU R) := by
  induction fuel with
  | zero => intro _ _; rfl
  | succ fuel ih =>
    intro u x
    cases x with
    | field a fid sub =>
      simp only [tSel, collectSel, h.getField]
      cases s.getField fid with
      | error e => rfl
      | ok f =>
        simp only [Except.map, bind, Except.bind, Ren.field_ty, Ren.ft_id, insertType_t h.inj, tSels_eq_map]
        exact foldlM_map_comm (tU R) (tSel R) _ _ sub (fun b y _ => ih b y) _
    | inline ty sub =>
      simp only [tSel, collectSel, insertType_t h.inj, tSels_eq_map]
      exact foldlM_map_comm (tU R) (tSel R) _ _ sub (fun b y _ => ih b y) _
    | spread fid =>
      simp only [tSel, collectSel, getFragment_t, tU_fragments]
      split
      · rfl
      · cases q.getFragment fid with
        | error e => rfl
        | ok f =>
          simp only [Except.map, bind, Except.bind, tFrag_sels, tSels_eq_map]
          exact foldlM_map_comm (tU R) (tSel R) _ _ f.sels (fun b y _ => ih b y)
            { u with fragments := fid :: u.fragments }
    | typename => rfl

theorem allUsedTypes_tiso (q : Query) (op : Nat) :
    allUsedTypes t (tQ R q) op = (allUsedTypes s q op).map (tU R) := by
  simp only [allUsedTypes, getOperation_t, walkFuel_t, opVariables_t]
  cases q.getOperation op with
  | error e => rfl
  | ok o =>
    simp only [Except.map, bind, Except.bind, tOp_sels, tSels_eq_map]
    have h1 := foldlM_map_comm (tU R) (tSel R) (collectSel s q (walkFuel q)) (collectSel t (tQ R q) (walkFuel q))
      o.sels (fun b y _ => collectSel_tiso h q _ b y) {}
    rw [show tU R ({} : UsedTypes) = {} from rfl] at h1
    rw [h1]
    cases List.foldlM (collectSel s q (walkFuel q)) {} o.sels with
    | error e => rfl
    | ok u =>
      simp only [Except.map]
      exact foldlM_map_comm (tU R) (tVar R) (collectVar s) (collectVar t) _ (fun b v _ => collectVar_tiso h b v) u

/-! ## recursion tests on input types -/

theorem containsWithoutIndirection_tiso (target fuel : Nat) : ∀ (visited : List String) (i : StoredInput),
    containsWithoutIndirection t (R.inp target) fuel visited (R.input i) =
      containsWithoutIndirection s target fuel visited i := by
  induction fuel with
  | zero => intro _ _; rfl
  | succ fuel ih =>
    intro visited i
    simp only [containsWithoutIndirection, Ren.input_fields, Ren.input_name, List.foldl_map]
    congr 1
    funext acc p
    obtain ⟨n, ⟨id, quals⟩⟩ := p
    simp only [FieldType.isIndirected, Ren.ft_quals, Ren.ft_id]
    cases id with
    | input fid =>
      simp only [Ren.tid_input, TypeId.asInput?, h.inpAt]
      have e : (R.inp fid == R.inp target) = (fid == target) := by
        by_cases hft : fid = target
        · subst hft; simp
        · rw [beq_false_of_ne hft, beq_false_of_ne (fun e => hft (h.inj.inp _ _ e))]
      rw [e]
      cases s.inputs[fid]? with
      | none => rfl
      | some i' => simp only [Option.map_some, Ren.input_name, ih]
    | object _ => rfl
    | scalar _ => rfl
    | interface _ => rfl
    | union _ => rfl
    | «enum» _ => rfl

theorem inputIsRecursive_tiso (iid : Nat) : inputIsRecursive t (R.inp iid) = inputIsRecursive s iid := by
  simp only [inputIsRecursive, h.inpAt, h.inputs_length]
  cases s.inputs[iid]? with
  | none => rfl
  | some i => simp only [Option.map_some, containsWithoutIndirection_tiso h]

end

/-! ## scalar aliases, enums, input types, variables -/

theorem filterMapM_map_eq {α α' β : Type} (ψ : α → α') (f : α → Outcome (Option β)) (f' : α' → Outcome (Option β))
    (l : List α) (hf : ∀ x ∈ l, f' (ψ x) = f x) : (l.map ψ).filterMapM f' = l.filterMapM f := by
  induction l with
  | nil => rfl
  | cons x l ih =>
    rw [List.map_cons, List.filterMapM_cons, List.filterMapM_cons, hf x (by simp),
      ih fun y hy => hf y (by simp [hy])]

theorem filterMapM_map {α α' β : Type} (ψ : α → α') (f' : α' → Outcome (Option β)) (l : List α) :
    (l.map ψ).filterMapM f' = l.filterMapM (fun x => f' (ψ x)) :=
  filterMapM_map_eq ψ _ f' l (fun _ _ => rfl)

theorem forM_map_eq {α α' : Type} (ψ : α → α') (f : α → Outcome PUnit) (f' : α' → Outcome PUnit)
    (l : List α) (hf : ∀ x ∈ l, f' (ψ x) = f x) : (l.map ψ).forM f' = l.forM f := by
  induction l with
  | nil => rfl
  | cons x l ih =>
    have e1 : (ψ x :: l.map ψ).forM f' = (do f' (ψ x); (l.map ψ).forM f') := List.forM_cons ..
    have e2 : (x :: l).forM f = (do f x; l.forM f) := List.forM_cons ..
    rw [List.map_cons, e1, e2, hf x (by simp), ih fun y hy => hf y (by simp [hy])]

theorem filterMap_asScalar_t (R : Ren) (l : List TypeId) :
    (l.map R.tid).filterMap TypeId.asScalar? = (l.filterMap TypeId.asScalar?).map R.sc := by
  induction l with
  | nil => rfl
  | cons x l ih =>
    cases x <;> simp only [List.map_cons, List.filterMap_cons, TypeId.asScalar?, Ren.tid, ih]

theorem filterMap_asEnum_t (R : Ren) (l : List TypeId) :
    (l.map R.tid).filterMap TypeId.asEnum? = (l.filterMap TypeId.asEnum?).map R.en := by
  induction l with
  | nil => rfl
  | cons x l ih =>
    cases x <;> simp only [List.map_cons, List.filterMap_cons, TypeId.asEnum?, Ren.tid, ih]

section
variable {R : Ren} {t : Schema} (c : Ctx) (h : TypeIso R c.s t)
include h

theorem scalarItems_tiso (u : UsedTypes) :
    Res0 (fun a b => b.Perm a) (scalarItems c u) (scalarItems (tC R t c) (tU R u)) := by
  intro a ha
  unfold scalarItems at ha ⊢
  obtain ⟨names, hn, ha⟩ := C02.bind_ok ha
  cases ha
  simp only [tC_s, tC_o, tC_cs, tU_types, filterMap_asScalar_t]
  have h1 : ((sortNat (u.types.filterMap TypeId.asScalar?)).map R.sc).mapM t.getScalar = .ok names := by
    rw [mapM_map_eq R.sc c.s.getScalar t.getScalar _ (fun x _ => h.getScalar x)]; exact hn
  obtain ⟨names', h2, h3⟩ := mapM_perm_ok t.getScalar (sortNat_map_perm R.sc h.inj.sc _) h1
  rw [h2]
  exact ⟨_, rfl, (h3.filter _).map _⟩

theorem enumItems_tiso (u : UsedTypes) :
    Res0 (fun a b => b.Perm a) (enumItems c u) (enumItems (tC R t c) (tU R u)) := by
  intro a ha
  unfold enumItems at ha ⊢
  obtain ⟨es, hn, ha⟩ := C02.bind_ok ha
  cases ha
  simp only [tC_s, tC_o, tU_types, filterMap_asEnum_t, enumItem_tC]
  have h1 : ((sortNat (u.types.filterMap TypeId.asEnum?)).map R.en).mapM t.getEnum = .ok es := by
    rw [mapM_map_eq R.en c.s.getEnum t.getEnum _ (fun x _ => h.getEnum x)]; exact hn
  obtain ⟨es', h2, h3⟩ := mapM_perm_ok t.getEnum (sortNat_map_perm R.en h.inj.en _) h1
  rw [h2]
  exact ⟨_, rfl, (h3.filter _).map _⟩

theorem inputFieldType_tiso (ty : FieldType) (quals : List Qual) :
    inputFieldType (tC R t c) (R.ft ty) quals = inputFieldType c ty quals := by
  obtain ⟨id, q⟩ := ty
  simp only [inputFieldType, tC_s, tC_o, tC_cs, Ren.ft_id, h.typeName]
  cases id <;> simp only [Ren.tid_object, Ren.tid_scalar, Ren.tid_interface, Ren.tid_union, Ren.tid_enum,
    Ren.tid_input, TypeId.asInput?, inputIsRecursive_tiso h] <;> rfl

theorem inputItem_tiso (i : StoredInput) : inputItem (tC R t c) (R.input i) = inputItem c i := by
  simp only [inputItem, tC_o, tC_cs, Ren.input_name, Ren.input_isOneOf, Ren.input_fields]
  have e1 := mapM_map_eq (fun p : String × FieldType => (p.1, R.ft p.2))
    (fun (x : String × FieldType) => do
      let t ← inputFieldType c x.2 (.required :: x.2.quals)
      pure ({ name := keywordReplace (c.cs.camel x.1), rename := fieldRename x.1 (keywordReplace (c.cs.camel x.1)),
              payload := some t } : RVariant))
    (fun (x : String × FieldType) => do
      let t' ← inputFieldType (tC R t c) x.2 (.required :: x.2.quals)
      pure ({ name := keywordReplace (c.cs.camel x.1), rename := fieldRename x.1 (keywordReplace (c.cs.camel x.1)),
              payload := some t' } : RVariant))
    i.fields (fun x _ => by simp only [inputFieldType_tiso c h, Ren.ft_quals])
  have e2 := mapM_map_eq (fun p : String × FieldType => (p.1, R.ft p.2))
    (fun (x : String × FieldType) => do
      let t ← inputFieldType c x.2 x.2.quals
      pure ({ rust := keywordReplace (c.cs.snake x.1), rename := fieldRename x.1 (keywordReplace (c.cs.snake x.1)),
              ty := t, skipNone := c.o.skipNone && x.2.isOptional } : RField))
    (fun (x : String × FieldType) => do
      let t' ← inputFieldType (tC R t c) x.2 x.2.quals
      pure ({ rust := keywordReplace (c.cs.snake x.1), rename := fieldRename x.1 (keywordReplace (c.cs.snake x.1)),
              ty := t', skipNone := c.o.skipNone && x.2.isOptional } : RField))
    i.fields (fun x _ => by simp only [inputFieldType_tiso c h, Ren.ft_quals, FieldType.isOptional])
  rw [e1, e2]
  rfl

theorem inputItems_tiso (u : UsedTypes) :
    Res0 (fun a b => b.Perm a) (inputItems c u) (inputItems (tC R t c) (tU R u)) := by
  intro a ha
  unfold inputItems at ha ⊢
  simp only [tC_s]
  have hp := (h.inpsPerm.filter (fun x => (tU R u).types.contains (.input x.2)))
  rw [List.filter_map] at hp
  have e : ((fun x : StoredInput × Nat => (tU R u).types.contains (TypeId.input x.2)) ∘
      fun p : StoredInput × Nat => (R.input p.1, R.inp p.2)) =
      fun x : StoredInput × Nat => u.types.contains (TypeId.input x.2) := by
    funext p; exact contains_input h.inj u p.2
  rw [e] at hp
  have h1 : ((c.s.inputs.zipIdx.filter (fun x => u.types.contains (TypeId.input x.2))).map
      (fun p : StoredInput × Nat => (R.input p.1, R.inp p.2))).mapM
      (fun x : StoredInput × Nat => inputItem (tC R t c) x.1) = .ok a := by
    rw [mapM_map_eq (fun p : StoredInput × Nat => (R.input p.1, R.inp p.2))
      (fun x : StoredInput × Nat => inputItem c x.1) (fun x : StoredInput × Nat => inputItem (tC R t c) x.1) _
      (fun x _ => inputItem_tiso c h x.1)]
    exact ha
  obtain ⟨r', h2, h3⟩ := mapM_perm_ok _ hp h1
  exact ⟨r', h2, h3⟩

theorem variableType_tiso (v : RVariable) : variableType (tC R t c) (tVar R v) = variableType c v := by
  simp only [variableType, tC_s, tC_o, tC_cs, tVar_ty, Ren.ft_id, Ren.ft_quals, h.typeName]

theorem literalOk_tiso (fuel : Nat) : ∀ (v : Value) (ty : TypeId) (quals : List Qual),
    literalOk t fuel v (R.tid ty) quals = literalOk c.s fuel v ty quals := by
  induction fuel with
  | zero => intro _ _ _; rfl
  | succ fuel ih =>
    intro v ty quals
    cases v with
    | list xs => simp only [literalOk, ih]
    | obj kvs =>
      cases ty <;> simp only [literalOk, Ren.tid_object, Ren.tid_scalar, Ren.tid_interface, Ren.tid_union,
        Ren.tid_enum, Ren.tid_input, TypeId.asInput?]
      rename_i iid
      rw [h.getInput]
      cases c.s.getInput iid with
      | error e => rfl
      | ok i =>
        simp only [Except.map, bind, Except.bind, Ren.input_fields, Ren.input_isOneOf]
        apply forM_map_eq
        intro p _
        obtain ⟨fname, fty⟩ := p
        simp only [Ren.ft_id, Ren.ft_quals]
        cases kvs.find? (·.1 == fname) with
        | none => rfl
        | some kv => simp only [ih]; rfl
    | int _ => rfl
    | float _ => rfl
    | str _ => rfl
    | bool _ => rfl
    | null => rfl
    | «enum» _ => rfl
    | var _ => rfl

theorem variablesItems_tiso (op : Nat) : variablesItems (tC R t c) op = variablesItems c op := by
  simp only [variablesItems, tC_s, tC_q, tC_o, tC_cs, opVariables_t, List.isEmpty_map]
  split
  · rfl
  · have e1 := mapM_map_eq (tVar R)
      (fun v : RVariable => do
        let ty ← variableType c v
        pure ({ rust := keywordReplace (c.cs.snake v.name), rename := fieldRename v.name (keywordReplace (c.cs.snake v.name)),
                ty := ty, skipNone := c.o.skipNone && v.ty.quals.head? != some .required } : RField))
      (fun v : RVariable => do
        let ty ← variableType (tC R t c) v
        pure ({ rust := keywordReplace (c.cs.snake v.name), rename := fieldRename v.name (keywordReplace (c.cs.snake v.name)),
                ty := ty, skipNone := c.o.skipNone && v.ty.quals.head? != some .required } : RField))
      (c.q.opVariables op) (fun v _ => by simp only [variableType_tiso c h, tVar_name, tVar_ty, Ren.ft_quals])
    rw [e1, filterMapM_map]
    simp only [tVar_default, tVar_ty, tVar_name, Ren.ft_id, Ren.ft_quals, variableType_tiso c h, literalOk_tiso c h]
    rfl

end

end C07P
end GqlVerif
