import GqlVerif.Proofs.C04DefaultsLit
import GqlVerif.Proofs.C04RustCoercion
import Std.Data.String.ToInt
/-!
# C04 — what a `default_*` body denotes: `evalLit`

* `valueJson` — the JSON spelling of a GraphQL constant (`Value`): enum values as strings, float tokens as opaque
  JSON numbers; (a variable — which the generator panics on — as `null`).
* `evalLit e lit ty` — the `Serde.Val` the Rust expression `lit` denotes at the Rust type `ty` in the module `e`,
  `none` = "does not type-check": `Some(..)` / `None` only at `Option<_>`, `vec![..]` at `Vec<_>`, `Box::new(..)` at
  `Box<_>`, `true` at `bool`, `"s".to_string()` at `String`, an integer literal at `i64` (in range), a float literal at
  `f64`, `Name { .. }` at a struct item of that name whose members are exactly the listed ones (in declaration order,
  as the generator writes them; each at the member's type), `Enum::Variant` at a string enum that has the variant,
  `Enum::Variant(e)` at a `@oneOf` enum (payload at the variant's type; `Enum::Other(s)` of a string enum), and
  nothing for `compile_error!` / an enum literal at a non-enum type.  Type aliases and the consumer's types
  (`externs`) are unfolded at the head (`resolveTy`), the four leaf names `String`/`i64`/`f64`/`bool` first, as in
  `Serde.dePath` / `C04S.HasTy`.
* an `f64` value is a `Val.float j` carrying the JSON number it is written as (the project's convention): for the
  literal token `tok` that is `floatJson tok` — the integer `n` when `tok` is the decimal of `n` (the generator writes
  the integer default `7` of a `Float` variable as the float literal of `7`), the opaque number `tok` otherwise.
* `kindOk` — the side condition of the theorems on a default value that JSON cannot express: no variable inside (the
  generator panics; its JSON spelling is taken to be `null`), string literals not at enum positions, enum literals only
  at enum positions, float tokens are not integer tokens (the GraphQL grammar guarantees it: a float has a fraction or
  an exponent).  `null` is not restricted: `ValidC` accepts it exactly at nullable positions, where the (repaired)
  generator writes `None`; at a non-null position it is invalid, and the generator panics.
* `Good e lit r out x` — what the main induction (`C04DefaultsCore.lean`) shows of a literal.
-/
namespace GqlVerif
namespace C04D
open Serde C04S

/-! ## the JSON spelling of a constant -/

mutual
  def valueJson : Value → Json
    | .int n => .int n
    | .float tok => .num tok
    | .str s => .str s
    | .bool b => .bool b
    | .null => .null
    | .enum e => .str e
    | .var _ => .null
    | .list xs => .arr (valueJsonList xs)
    | .obj kvs => .obj (valueJsonKvs kvs)
  def valueJsonList : List Value → List Json
    | [] => []
    | x :: xs => valueJson x :: valueJsonList xs
  def valueJsonKvs : List (String × Value) → List (String × Json)
    | [] => []
    | (k, v) :: rest => (k, valueJson v) :: valueJsonKvs rest
end

theorem valueJsonList_eq_map : ∀ xs, valueJsonList xs = xs.map valueJson
  | [] => by rw [valueJsonList]; rfl
  | x :: xs => by rw [valueJsonList, valueJsonList_eq_map xs]; rfl

mutual
  /-- nesting depth of a constant (what the fuel of `literalOk` / `valueToLiteral` counts) -/
  def valueDepth : Value → Nat
    | .list xs => valueDepthList xs + 1
    | .obj kvs => valueDepthKvs kvs + 1
    | _ => 0
  def valueDepthList : List Value → Nat
    | [] => 0
    | x :: xs => max (valueDepth x) (valueDepthList xs)
  def valueDepthKvs : List (String × Value) → Nat
    | [] => 0
    | (_, v) :: rest => max (valueDepth v) (valueDepthKvs rest)
end

mutual
  /-- what JSON cannot say of a constant at a position over the named type `id`: no variable inside, a string literal
      not at an enum position, an enum literal only at an enum position, a float token that is not an integer token;
      `null` is not restricted -/
  def kindOk (s : Schema) : TypeId → Value → Bool
    | _, .null => true      -- whether `null` is allowed at the position is `ValidC`'s business
    | _, .var _ => false
    | id, .str _ => id.asEnum?.isNone
    | id, .enum _ => id.asEnum?.isSome
    | _, .float tok => tok.toInt?.isNone
    | _, .int _ => true
    | _, .bool _ => true
    | id, .list xs => kindOkList s id xs
    | id, .obj kvs =>
      match inputOf s id with
      | some i => kindOkKvs s i.fields kvs
      | none => true
  def kindOkList (s : Schema) : TypeId → List Value → Bool
    | _, [] => true
    | id, x :: xs => kindOk s id x && kindOkList s id xs
  def kindOkKvs (s : Schema) : List (String × FieldType) → List (String × Value) → Bool
    | _, [] => true
    | fields, (k, v) :: rest =>
      (match fields.find? (·.1 == k) with
       | some p => kindOk s p.2.id v
       | none => true) && kindOkKvs s fields rest
end

/-! ## evaluation -/

/-- the JSON number the `f64` literal `tok` is written as -/
def floatJson (tok : String) : Json :=
  match tok.toInt? with
  | some n => .int n
  | none => .num tok

theorem floatJson_int (n : Int) : floatJson (toString n) = .int n := by
  show floatJson n.repr = _
  simp [floatJson]

theorem floatJson_ok (tok : String) : Spec.floatOk (floatJson tok) = true := by
  unfold floatJson; split <;> rfl

/-- the four leaf names `Serde.dePath` resolves before it looks at the module; `= false` is `C01.notPrim`
    (`isPrimName_false`, `notPrim_of`).  `C09.isPrimName` has the same body, and `C04DR.resolveTyN_ren` passes from one to
    the other by unfolding -/
def isPrimName (p : String) : Bool := p == "String" || p == "i64" || p == "f64" || p == "bool"

theorem isPrimName_false {p : String} (h : C01.notPrim p) : isPrimName p = false := by
  simp [isPrimName, h.1, h.2.1, h.2.2.1, h.2.2.2]

theorem notPrim_of {p : String} (h : isPrimName p = false) : C01.notPrim p := by
  simpa [isPrimName, C01.notPrim, and_assoc] using h

/-- unfold type aliases and the consumer's types at the head of a type expression (at most `n` hops) -/
def resolveTyN (e : Env) : Nat → RTy → RTy
  | n+1, .path p =>
    if isPrimName p then .path p else
    match e.find p with
    | some (.alias _ _ t) => resolveTyN e n t
    | some _ => .path p
    | none =>
      match e.externs.find? (·.1 == p) with
      | some (_, t) => resolveTyN e n t
      | none => .path p
  | _, t => t

/-- no chain of distinct names is longer than the module and the consumer's table together -/
def resolveTy (e : Env) (t : RTy) : RTy := resolveTyN e (e.items.length + e.externs.length + 2) t

mutual
  /-- the value of the Rust expression at the Rust type; `none`: it does not type-check (see the header) -/
  def evalLit (e : Env) : LitExpr → RTy → Option Val
    | .some l, ty =>
      match resolveTy e ty with
      | .opt t => (evalLit e l t).map Val.some
      | _ => none
    | .none, ty =>
      match resolveTy e ty with
      | .opt _ => some .unit
      | _ => none
    | .vec ls, ty =>
      match resolveTy e ty with
      | .vec t => (evalList e ls t).map Val.list
      | _ => none
    | .box l, ty =>
      match resolveTy e ty with
      | .box t => evalLit e l t
      | _ => none
    | .bool b, ty => if resolveTy e ty = .path "bool" then some (.bool b) else none
    | .str s, ty => if resolveTy e ty = .path "String" then some (.str s) else none
    | .int n, ty => if resolveTy e ty = .path "i64" ∧ inI64 n = true then some (.int n) else none
    | .float tok, ty => if resolveTy e ty = .path "f64" then some (.float (floatJson tok)) else none
    | .struct name fields, ty =>
      match resolveTy e ty with
      | .path p =>
        if isPrimName p = false ∧ resolveTy e (.path name) = .path p then
          match e.find p with
          | some (.struct _ _ _ fs) => (evalFields e fs fields).map Val.record
          | _ => none
        else none
      | _ => none
    | .path en var, ty =>
      match resolveTy e ty with
      | .path p =>
        if isPrimName p = false ∧ resolveTy e (.path en) = .path p then
          match e.find p with
          | some (.gqlEnum _ _ _ vs _ _) => if var ∈ vs then some (.variant var none) else none
          | _ => none
        else none
      | _ => none
    | .variant en var l, ty =>
      match resolveTy e ty with
      | .path p =>
        if isPrimName p = false ∧ resolveTy e (.path en) = .path p then
          match e.find p with
          | some (.oneOf _ _ _ vs) =>
            (match vs.find? (·.name == var) with
             | some v =>
               (match v.payload with
                | some t => (evalLit e l t).map (fun x => Val.variant var (some x))
                | none => none)
             | none => none)
          | some (.gqlEnum ..) =>
            -- `Enum::Other("..".to_string())`
            if var = "Other" then (evalLit e l (.path "String")).bind (fun x =>
              match x with
              | .str s => some (.enumOther s)
              | _ => none)
            else none
          | _ => none
        else none
      | _ => none
    | .ident _, _ => none
    | .compileError _, _ => none
  def evalList (e : Env) : List LitExpr → RTy → Option (List Val)
    | [], _ => some []
    | l :: ls, t => do
      let x ← evalLit e l t
      let xs ← evalList e ls t
      pure (x :: xs)
  /-- the members of a struct literal against the members of the struct, in declaration order -/
  def evalFields (e : Env) : List RField → List (String × LitExpr) → Option (List (String × Val))
    | [], [] => some []
    | f :: fs, (n, l) :: rest =>
      if n = f.rust then do
        let x ← evalLit e l f.ty
        let xs ← evalFields e fs rest
        pure ((f.rust, x) :: xs)
      else none
    | _, _ => none
end

/-! ## what is shown of a literal -/

/-- the literal `lit` has no `compile_error!`, type-checks at `r` in `e` where it denotes `x : r`, which is written as
    `out` (at every sufficient fuel; `out` in `serde_json::Value` normal form) -/
structure Good (e : Env) (lit : LitExpr) (r : RTy) (out : Json) (x : Val) : Prop where
  noErr : lit.hasCompileError = false
  eval : evalLit e lit r = some x
  ty : HasTy e r x
  unit : x.isUnit = out.isNull
  ser : ∀ fuel, valSize x ≤ fuel → serTyWith (serPath e fuel) r x = .ok out
  norm : normJson out = out

/-! ## what `evalLit` accepts, by the form of the literal -/

variable {e : Env} {t : RTy} {x : Val}

theorem evalLit_none : evalLit e .none t = some x ↔ ∃ u, resolveTy e t = .opt u ∧ x = .unit := by
  simp only [evalLit]
  cases resolveTy e t <;> simp [eq_comm (a := x)]

theorem evalLit_some {l : LitExpr} :
    evalLit e (.some l) t = some x ↔ ∃ u y, resolveTy e t = .opt u ∧ evalLit e l u = some y ∧ x = .some y := by
  simp only [evalLit]
  cases resolveTy e t <;> simp [Option.map_eq_some_iff, eq_comm (a := x)]

theorem evalLit_vec {ls : List LitExpr} :
    evalLit e (.vec ls) t = some x ↔ ∃ u ys, resolveTy e t = .vec u ∧ evalList e ls u = some ys ∧ x = .list ys := by
  simp only [evalLit]
  cases resolveTy e t <;> simp [Option.map_eq_some_iff, eq_comm (a := x)]

theorem evalLit_box {l : LitExpr} :
    evalLit e (.box l) t = some x ↔ ∃ u, resolveTy e t = .box u ∧ evalLit e l u = some x := by
  simp only [evalLit]
  cases resolveTy e t <;> simp

theorem evalLit_bool {b : Bool} : evalLit e (.bool b) t = some x ↔ resolveTy e t = .path "bool" ∧ x = .bool b := by
  simp only [evalLit]
  split <;> simp [*, eq_comm (a := x)]

theorem evalLit_str {s : String} : evalLit e (.str s) t = some x ↔ resolveTy e t = .path "String" ∧ x = .str s := by
  simp only [evalLit]
  split <;> simp [*, eq_comm (a := x)]

theorem evalLit_int {n : Int} :
    evalLit e (.int n) t = some x ↔ resolveTy e t = .path "i64" ∧ inI64 n = true ∧ x = .int n := by
  simp only [evalLit]
  split <;> simp_all [eq_comm (a := x)]

theorem evalLit_float {tok : String} :
    evalLit e (.float tok) t = some x ↔ resolveTy e t = .path "f64" ∧ x = .float (floatJson tok) := by
  simp only [evalLit]
  split <;> simp [*, eq_comm (a := x)]

/-- `Names e name t p it`: at a position of type `t`, a literal that writes `name` (`Name { .. }`, `Enum::Variant`,
    `Enum::Variant(e)`) is evaluated against the item `it`: the type of the position and the name written both resolve to
    the path `p`, which is not a prelude name and under which the module has `it` -/
structure Names (e : Env) (name : String) (t : RTy) (p : String) (it : Item) : Prop where
  ty : resolveTy e t = .path p
  notPrim : isPrimName p = false
  name : resolveTy e (.path name) = .path p
  find : e.find p = some it

theorem evalLit_struct {name : String} {fields : List (String × LitExpr)} :
    evalLit e (.struct name fields) t = some x ↔ ∃ p n d sc fs vals, Names e name t p (.struct n d sc fs) ∧
      evalFields e fs fields = some vals ∧ x = .record vals := by
  simp only [evalLit]
  constructor
  · intro h
    split at h
    · rename_i p hr
      split at h
      · rename_i hc
        split at h
        · rename_i n d sc fs hf
          obtain ⟨vals, hv, rfl⟩ := Option.map_eq_some_iff.mp h
          exact ⟨p, n, d, sc, fs, vals, ⟨hr, hc.1, hc.2, hf⟩, hv, rfl⟩
        · cases h
      · cases h
    · cases h
  · rintro ⟨p, n, d, sc, fs, vals, ⟨hr, hp, hn, hf⟩, hv, rfl⟩
    simp [hr, hp, hn, hf, hv]

theorem evalLit_path {en var : String} :
    evalLit e (.path en var) t = some x ↔ ∃ p n d sp vs ser de, Names e en t p (.gqlEnum n d sp vs ser de) ∧
      var ∈ vs ∧ x = .variant var none := by
  simp only [evalLit]
  constructor
  · intro h
    split at h
    · rename_i p hr
      split at h
      · rename_i hc
        split at h
        · rename_i n d sp vs ser de hf
          split at h
          · cases h
            exact ⟨p, n, d, sp, vs, ser, de, ⟨hr, hc.1, hc.2, hf⟩, by assumption, rfl⟩
          · cases h
        · cases h
      · cases h
    · cases h
  · rintro ⟨p, n, d, sp, vs, ser, de, ⟨hr, hp, hn, hf⟩, hv, rfl⟩
    simp [hr, hp, hn, hf, hv]

theorem evalLit_variant {en var : String} {l : LitExpr} :
    evalLit e (.variant en var l) t = some x ↔
      (∃ p n d sc vs v u y, Names e en t p (.oneOf n d sc vs) ∧ vs.find? (·.name == var) = some v ∧
        v.payload = some u ∧ evalLit e l u = some y ∧ x = .variant var (some y)) ∨
      (∃ p n d sp vs ser de s, Names e en t p (.gqlEnum n d sp vs ser de) ∧ var = "Other" ∧
        evalLit e l (.path "String") = some (.str s) ∧ x = .enumOther s) := by
  simp only [evalLit]
  constructor
  · intro h
    split at h
    · rename_i p hr
      split at h
      · rename_i hc
        split at h
        · rename_i n d sc vs hf
          split at h
          · rename_i v hv
            split at h
            · rename_i u hu
              obtain ⟨y, hy, rfl⟩ := Option.map_eq_some_iff.mp h
              exact .inl ⟨p, n, d, sc, vs, v, u, y, ⟨hr, hc.1, hc.2, hf⟩, hv, hu, hy, rfl⟩
            · cases h
          · cases h
        · rename_i n d sp vs ser de hf
          split at h
          · rename_i hvar
            obtain ⟨y, hy, h⟩ := Option.bind_eq_some_iff.mp h
            cases y <;> simp only [reduceCtorEq, Option.some.injEq] at h
            subst h
            exact .inr ⟨p, n, d, sp, vs, ser, de, _, ⟨hr, hc.1, hc.2, hf⟩, hvar, hy, rfl⟩
          · cases h
        · cases h
      · cases h
    · cases h
  · rintro (⟨p, n, d, sc, vs, v, u, y, ⟨hr, hp, hn, hf⟩, hv, hu, hy, rfl⟩ |
      ⟨p, n, d, sp, vs, ser, de, s, ⟨hr, hp, hn, hf⟩, rfl, hy, rfl⟩)
    · simp [hr, hp, hn, hf, hv, hu, hy]
    · simp [hr, hp, hn, hf, hy]

end C04D
end GqlVerif
