import GqlVerif.Proofs.C01AbstractG
/-!
# C01 / C03 end to end, `FragmentOp` 3/5: the environment of an emitted module; the classes are nested

* `depthF_sels` — fuel: the depth of the selection tree *through spreads* is below the number of items of the
  module (the response items plus the items of the spread fragments);
* `envSelF_of` / `fragEnv_of` / `topEnvF_of_module` — the environment hypotheses hold for the module
  `responseForQuery` emits (the struct of every spread fragment is in the module: `FragsIn`, from
  `C02.selected_types_used` and `fragment_struct_shape`);
* **`fragment_accepts`**, **`fragment_precise_iff` / `fragment_precise`** (C03): `C01AbstractM`; `conformsOpF` is the
  specification `conformsV` on the selection set with every spread replaced by the inline fragment `... on T { body }`
  (`expandSels`);
* `fragment_overlap_loses_key` (`C01AbstractHW`) — the side condition `fragKeysOk` (keys disjoint between a fragment and its siblings)
  is needed (witness on the model, same mechanism as the known finding `C01-overlap`).

Hypotheses (decidable, evaluated on a concrete module in `C01AbstractHW`): `FragmentOp c op`, `fragKeysOk c op`,
`moduleOk c items`.  `variantOp_of_treeOp`, `fragmentOp_of_variantOp`: the classes are nested
(`TreeOp ⊆ VariantOp ⊆ FragmentOp`).

Losslessness for `FragmentOp` (`fragment_lossless`) is in `C01AbstractM`.  Out of scope: recursive fragments
(`Box`), spreads inside abstract positions / inline fragments, spreads inside fragment bodies, spreads of
fragments on a *different* type than the parent (they become variants).
-/
namespace GqlVerif
namespace C01
namespace E2E
open Codegen

/-! ## fuel: depth (through spreads) vs. number of emitted items -/

mutual
  /-- the fragments spread anywhere in an object-level selection tree of the class -/
  def spreadIds : Sel → List Nat
    | .field _ _ sub => spreadIdss sub
    | .inline _ sub => spreadIdss sub
    | .spread g => [g]
    | .typename => []
  def spreadIdss : List Sel → List Nat
    | [] => []
    | x :: xs => spreadIds x ++ spreadIdss xs
end

mutual
  theorem reach_spreadIds (q : Query) : ∀ (x : Sel) (root : List Sel), C02.Reach q root x →
      ∀ g ∈ spreadIds x, C02.Reach q root (.spread g)
    | .field a fid sub, root => by
      intro hr g hg
      rw [spreadIds] at hg
      exact reach_spreadIdss q sub root (fun y hy => reach_step hr hy) g hg
    | .inline t sub, root => by
      intro hr g hg
      rw [spreadIds] at hg
      exact reach_spreadIdss q sub root (fun y hy => reach_step_inline hr hy) g hg
    | .spread g', root => by
      intro hr g hg
      simp only [spreadIds, List.mem_singleton] at hg
      subst hg; exact hr
    | .typename, root => by intro _ g hg; simp [spreadIds] at hg
  theorem reach_spreadIdss (q : Query) : ∀ (sels : List Sel) (root : List Sel), (∀ y ∈ sels, C02.Reach q root y) →
      ∀ g ∈ spreadIdss sels, C02.Reach q root (.spread g)
    | [], _ => by intro _ g hg; simp [spreadIdss] at hg
    | x :: xs, root => by
      intro hr g hg
      rw [spreadIdss, List.mem_append] at hg
      rcases hg with hg | hg
      · exact reach_spreadIds q x root (hr x (by simp)) g hg
      · exact reach_spreadIdss q xs root (fun y hy => hr y (by simp [hy])) g hg
end

mutual
  theorem spreadIds_noSpread : ∀ (x : Sel), noSpread x = true → spreadIds x = []
    | .field a fid sub => by intro h; rw [noSpread] at h; rw [spreadIds, spreadIdss_noSpreads sub h]
    | .inline t sub => by intro h; rw [noSpread] at h; rw [spreadIds, spreadIdss_noSpreads sub h]
    | .spread g => by intro h; simp [noSpread] at h
    | .typename => by intro _; rfl
  theorem spreadIdss_noSpreads : ∀ (sels : List Sel), noSpreads sels = true → spreadIdss sels = []
    | [] => by intro _; rfl
    | x :: xs => by
      intro h
      rw [noSpreads, Bool.and_eq_true] at h
      rw [spreadIdss, spreadIds_noSpread x h.1, spreadIdss_noSpreads xs h.2]; rfl
end

mutual
  /-- every spread of the tree is on its (object) parent and satisfies `fragOk` -/
  theorem fragOk_of_spreadIds (s : Schema) (q : Query) (o : Options) : ∀ (x : Sel) (p : Nat),
      fSel s q o (.object p) x = true → ∀ g ∈ spreadIds x, ∃ i, fragOk s q o (.object i) g = true
    | .field a fid sub, p => by
      intro ht g hg
      have IH := fragOk_of_spreadIdss s q o sub
      rw [spreadIds] at hg
      cases hsf : s.fields[fid]? with
      | none => rw [fSel] at ht; simp [hsf] at ht
      | some sf =>
        by_cases hobj : ∃ i, sf.ty.id = .object i
        · obtain ⟨i, hid⟩ := hobj
          rw [fSel] at ht
          simp only [hsf, hid, Bool.and_eq_true] at ht
          have hbody : fBody s q o (.object i) sub = true := ht.2.2
          by_cases hsp : ∃ g', sub = [Sel.spread g']
          · obtain ⟨g', rfl⟩ := hsp
            simp only [spreadIdss, spreadIds, List.append_nil, List.mem_singleton] at hg
            subst hg
            exact ⟨i, hbody⟩
          · rw [fBody_not_lone (fun g' hg' => hsp ⟨g', hg'⟩)] at hbody
            exact IH i hbody g hg
        · have hv := vSel_of_fSel_nonobj ht hsf (fun i h => hobj ⟨i, h⟩)
          have := spreadIds_noSpread _ (noSpread_of_vSel s o _ false hv)
          rw [spreadIds] at this
          rw [this] at hg; simp at hg
    | .spread g', p => by
      intro ht g hg
      simp only [spreadIds, List.mem_singleton] at hg
      subst hg
      exact ⟨p, by simpa [fSel] using ht⟩
    | .inline _ _, _ => by intro ht; simp [fSel] at ht
    | .typename, _ => by intro _ g hg; simp [spreadIds] at hg
  theorem fragOk_of_spreadIdss (s : Schema) (q : Query) (o : Options) : ∀ (sels : List Sel) (p : Nat),
      fSels s q o (.object p) sels = true → ∀ g ∈ spreadIdss sels, ∃ i, fragOk s q o (.object i) g = true
    | [], _ => by intro _ g hg; simp [spreadIdss] at hg
    | x :: xs, p => by
      intro ht g hg
      obtain ⟨hx, hxs⟩ := fSels_cons ht
      rw [spreadIdss, List.mem_append] at hg
      rcases hg with hg | hg
      · exact fragOk_of_spreadIds s q o x p hx g hg
      · exact fragOk_of_spreadIdss s q o xs p hxs g hg
end

theorem mem_itemsFs {c : Ctx} {pfx : String} {it : Item} : ∀ {sels : List Sel} {x : Sel}, x ∈ sels →
    it ∈ itemsF c pfx x → it ∈ itemsFs c pfx sels
  | [], _, h, _ => by simp at h
  | y :: ys, x, h, hit => by
    rw [itemsFs, List.mem_append]
    rcases List.mem_cons.mp h with rfl | h'
    · exact .inl hit
    · exact .inr (mem_itemsFs h' hit)

mutual
  theorem depthF_sel (c : Ctx) (K : Nat) : ∀ (x : Sel) (pfx : String) (p : TypeId), fSel c.s c.q c.o p x = true →
      (∀ g ∈ spreadIds x, selsDepth (fragSels c.q g) ≤ K) → depthF c.q x ≤ (itemsF c pfx x).length + K + 1
    | .field a fid sub, pfx, p => by
      intro ht hK
      have IH := depthF_sels c K sub
      obtain ⟨sf, ft, hsf, _, _, _⟩ := fieldOfSelV_f c pfx p a fid sub ht
      rw [spreadIds] at hK
      by_cases hobj : ∃ i, sf.ty.id = .object i
      · obtain ⟨i, hid⟩ := hobj
        rw [fSel] at ht
        simp only [hsf, hid, Bool.and_eq_true] at ht
        rw [depthF, itemsF]
        simp only [hsf, hid]
        by_cases hsp : ∃ g, sub = [Sel.spread g]
        · obtain ⟨g, rfl⟩ := hsp
          have := hK g (by simp [spreadIdss, spreadIds])
          simp only [depthsF, depthF, List.length_cons, List.length_nil]
          omega
        · have hnl : ∀ g, sub ≠ [Sel.spread g] := fun g hg => hsp ⟨g, hg⟩
          have hbody : fBody c.s c.q c.o (.object i) sub = true := ht.2.2
          rw [fBody_not_lone hnl] at hbody
          have := IH (pfx ++ c.cs.camel (a.getD sf.name)) (.object i) hbody hK
          split
          · exact absurd rfl (hnl _)
          · simp only [List.length_cons]; omega
      · have hno : ∀ i, sf.ty.id ≠ .object i := fun i h => hobj ⟨i, h⟩
        have hv := vSel_of_fSel_nonobj ht hsf hno
        rw [itemsF_nonobj c pfx a fid sub sf hsf hno, depthF_noSpread c.q _ (noSpread_of_vSel c.s c.o _ false hv)]
        have := depthV_sel c _ pfx false hv
        simp only [allItems] at this
        omega
    | .spread g, pfx, p => by
      intro _ hK
      have := hK g (by simp [spreadIds])
      rw [depthF]; omega
    | .inline t sub, _, _ => by intro ht; simp [fSel] at ht
    | .typename, _, _ => by intro _ _; simp [depthF]
  theorem depthF_sels (c : Ctx) (K : Nat) : ∀ (sels : List Sel) (pfx : String) (p : TypeId),
      fSels c.s c.q c.o p sels = true → (∀ g ∈ spreadIdss sels, selsDepth (fragSels c.q g) ≤ K) →
      depthsF c.q sels ≤ (itemsFs c pfx sels).length + K + 1
    | [], _, _ => by intro _ _; simp [depthsF]
    | x :: xs, pfx, p => by
      intro ht hK
      obtain ⟨hx, hxs⟩ := fSels_cons ht
      rw [spreadIdss] at hK
      have h1 := depthF_sel c K x pfx p hx (fun g hg => hK g (by simp [hg]))
      have h2 := depthF_sels c K xs pfx p hxs (fun g hg => hK g (by simp [hg]))
      rw [depthsF, itemsFs, List.length_append]
      omega
end


/-! ## the environment of an emitted module -/

/-- the items of every fragment spread in the operation are in the module -/
def FragsIn (c : Ctx) (items : List Item) (root : List Sel) : Prop :=
  ∀ g i, C02.Reach c.q root (.spread g) → fragOk c.s c.q c.o (.object i) g = true → ∀ f, c.q.fragments[g]? = some f →
    ∀ it ∈ structItemsV c f.name (c.cs.camel f.name) f.sels, it ∈ items

section EnvOfF
variable {c : Ctx} {items : List Item} {u : UsedTypes} {root : List Sel} (M : ModFacts c items u root)
  (hfr : FragsIn c items root)
include M hfr

theorem fragEnv_of (g : Nat) (i : Nat) (hr : C02.Reach c.q root (.spread g))
    (hok : fragOk c.s c.q c.o (.object i) g = true) : FragEnv (moduleEnv c items) c g := by
  obtain ⟨f, hf, _, _, hv, _⟩ := fragOk_parts hok
  unfold FragEnv
  rw [hf]
  have hin := hfr g i hr hok f hf
  refine ⟨structEnv_of M _ _ (hin _ (by simp [structItemsV])), ?_⟩
  exact envSelsV_of M f.sels _ false hv
    (fun x hx it h => hin it (by
      rw [allItems_obj (vSels_mem hv _ hx)] at h
      simp [structItemsV, mem_itemsVs hx h]))
    (fun x hx => reach_step_spread hr hf hx)

omit hfr in
theorem aliasEnv_of (name target : String) (hmem : aliasItem name target false ∈ items) :
    AliasEnv (moduleEnv c items) name target := by
  have hn : (aliasItem name target false).name = name := rfl
  have h1 := M.np _ hmem
  have h2 := find_of_mem (customExterns c) M.nodup hmem
  rw [hn] at h1 h2
  refine ⟨h1, ?_, name, true, h2⟩
  have := name_ne_ID M hmem (by intro t h; simp [aliasItem] at h)
  rwa [hn] at this

-- the list half uses the section variables only through the selection half
set_option linter.unusedSectionVars false
mutual
  theorem envSelF_of : ∀ (x : Sel) (pfx : String) (p : Nat), fSel c.s c.q c.o (.object p) x = true →
      (∀ it ∈ itemsF c pfx x, it ∈ items) → C02.Reach c.q root x → envSelF (moduleEnv c items) c pfx x
    | .field a fid sub, pfx, p => by
      intro ht hit hr
      have IH := envSelsF_of sub
      obtain ⟨sf, ft, hsf, _, _, _⟩ := fieldOfSelV_f c pfx (.object p) a fid sub ht
      by_cases hobj : ∃ i, sf.ty.id = .object i
      · obtain ⟨i, hid⟩ := hobj
        rw [fSel] at ht
        simp only [hsf, hid, Bool.and_eq_true] at ht
        rw [itemsF] at hit
        rw [envSelF]
        simp only [hsf, hid] at hit ⊢
        by_cases hsp : ∃ g, sub = [Sel.spread g]
        · obtain ⟨g, rfl⟩ := hsp
          simp only at hit ⊢
          have hok : fragOk c.s c.q c.o (.object i) g = true := ht.2.2
          exact ⟨aliasEnv_of M _ _ (hit _ (by simp)),
            fragEnv_of M hfr g i (reach_step hr (by simp)) hok⟩
        · have hnl : ∀ g, sub ≠ [Sel.spread g] := fun g hg => hsp ⟨g, hg⟩
          have hbody : fBody c.s c.q c.o (.object i) sub = true := ht.2.2
          rw [fBody_not_lone hnl] at hbody
          have hit' : ∀ it ∈ (Item.struct (pfx ++ c.cs.camel (a.getD sf.name)) c.respDerives c.serdeCrate
              (fieldsOfF c (pfx ++ c.cs.camel (a.getD sf.name)) sub) ::
              itemsFs c (pfx ++ c.cs.camel (a.getD sf.name)) sub), it ∈ items := by
            revert hit
            split
            · exact absurd rfl (hnl _)
            · exact id
          split
          · exact absurd rfl (hnl _)
          · exact ⟨structEnv_of M _ _ (hit' _ (by simp)),
              IH _ i hbody (fun x hx it h => hit' it (by simp [mem_itemsFs hx h]))
                (fun y hy => reach_step hr hy)⟩
      · have hno : ∀ i, sf.ty.id ≠ .object i := fun i h => hobj ⟨i, h⟩
        have hv := vSel_of_fSel_nonobj ht hsf hno
        rw [itemsF_nonobj c pfx a fid sub sf hsf hno] at hit
        have := envSelV_of M _ pfx false hv (by simpa [allItems] using hit) hr
        rw [envSelF]
        simpa only [hsf] using this
    | .spread g, pfx, p => by
      intro ht _ hr
      have hok : fragOk c.s c.q c.o (.object p) g = true := by simpa [fSel] using ht
      rw [envSelF]
      exact fragEnv_of M hfr g p hr hok
    | .inline _ _, _, _ => by intro ht; simp [fSel] at ht
    | .typename, _, _ => by intro _ _ _; simp [envSelF]
  theorem envSelsF_of : ∀ (sels : List Sel) (pfx : String) (p : Nat), fSels c.s c.q c.o (.object p) sels = true →
      (∀ x ∈ sels, ∀ it ∈ itemsF c pfx x, it ∈ items) → (∀ x ∈ sels, C02.Reach c.q root x) →
      envSelsF (moduleEnv c items) c pfx sels
    | [], _, _ => by intro _ _ _; simp [envSelsF]
    | x :: xs, pfx, p => by
      intro ht hit hr
      obtain ⟨hx, hxs⟩ := fSels_cons ht
      rw [envSelsF]
      exact ⟨envSelF_of x pfx p hx (hit x (by simp)) (hr x (by simp)),
        envSelsF_of xs pfx p hxs (fun y hy => hit y (by simp [hy])) (fun y hy => hr y (by simp [hy]))⟩
end
set_option linter.unusedSectionVars true

end EnvOfF


/-! ## top level -/

/-- keys disjoint between every fragment and its siblings, at every level (decidable) -/
def fragKeysOk (c : Ctx) (op : ROperation) : Bool :=
  keysOksF c.s c.q op.sels && EnumSpec.nodup (expKeys c.s c.q op.sels)

structure TopEnvF (e : Env) (c : Ctx) (op : ROperation) : Prop where
  root : BodyEnv e c "ResponseData" (c.cs.camel op.name) op.sels
  size : depthsF c.q op.sels ≤ e.items.length

theorem length_le_flatten {α} {l : List α} {L : List (List α)} (h : l ∈ L) : l.length ≤ L.flatten.length :=
  (List.sublist_flatten_of_mem h).length_le

theorem topEnvF_of_module {c : Ctx} {opIdx : Nat} {op : ROperation} {items : List Item}
    (hop : c.q.operations[opIdx]? = some op) (ht : FragmentOp c op = true)
    (hgen : responseForQuery c opIdx = .ok items) (hok : moduleOk c items = true) :
    TopEnvF (moduleEnv c items) c op := by
  obtain ⟨hn, _, hsels⟩ := fragmentOp_parts ht
  obtain ⟨u, F, _, hF, M, hsub, hsubF, hlen⟩ :=
    module_tail hop hn hgen hok (fragment_items_shape c op (List.mem_of_getElem? hop) ht)
  -- the items of every spread fragment are in the module
  have hfragmem : ∀ g i, C02.Reach c.q op.sels (.spread g) → fragOk c.s c.q c.o (.object i) g = true →
      ∀ f, c.q.fragments[g]? = some f → structItemsV c f.name (c.cs.camel f.name) f.sels ∈ F := by
    intro g i hr hokg f hf
    have hused : g ∈ u.fragments := M.used _ hr
    obtain ⟨its, hits, hfi⟩ := C02.mapM_ok_of_mem hF g ((C02.mem_sortNat _ _).mpr hused)
    obtain ⟨f', hf', hshape⟩ := fragment_struct_shape c hn (.object i) g i rfl hokg
    rw [hf] at hf'; cases hf'
    rw [hshape] at hfi; cases hfi
    exact hits
  have hfr : FragsIn c items op.sels := fun g i hr hokg f hf it hit =>
    hsubF it (List.mem_flatten.mpr ⟨_, hfragmem g i hr hokg f hf, hit⟩)
  have hK : ∀ g i, C02.Reach c.q op.sels (.spread g) → fragOk c.s c.q c.o (.object i) g = true →
      selsDepth (fragSels c.q g) ≤ F.flatten.length := by
    intro g i hr hokg
    obtain ⟨f, hf, _, _, hv, _⟩ := fragOk_parts hokg
    have h1 := length_le_flatten (hfragmem g i hr hokg f hf)
    have h2 := (depthV_sels c f.sels (c.cs.camel f.name) false hv).1 rfl
    have : fragSels c.q g = f.sels := by simp [fragSels, hf]
    rw [this]
    simp only [structItemsV, List.length_cons] at h1
    omega
  by_cases hsp : ∃ g, op.sels = [Sel.spread g]
  · obtain ⟨g, hg⟩ := hsp
    have hokg : fragOk c.s c.q c.o (.object op.objectId) g = true := by rw [hg] at hsels; exact hsels
    have hr : C02.Reach c.q op.sels (.spread g) := .here (by rw [hg]; simp)
    refine ⟨?_, ?_⟩
    · unfold BodyEnv
      rw [hg]
      simp only
      refine ⟨aliasEnv_of M _ _ (hsub _ (by rw [hg]; simp [bodyItemsF])), fragEnv_of M hfr g _ hr hokg⟩
    · have := hK g _ hr hokg
      rw [hg]
      simp only [depthsF, depthF]
      omega
  · have hnl : ∀ g, op.sels ≠ [Sel.spread g] := fun g hg => hsp ⟨g, hg⟩
    have hsels' := hsels
    rw [fBody_not_lone hnl] at hsels'
    have hbody := bodyItemsF_not_lone c "ResponseData" (c.cs.camel op.name) hnl
    rw [hbody] at hsub hlen
    refine ⟨?_, ?_⟩
    · unfold BodyEnv
      split
      · exact absurd (by assumption) (hnl _)
      · exact ⟨structEnv_of M _ _ (hsub _ (by simp)),
          envSelsF_of M hfr op.sels _ op.objectId hsels' (fun x hx it h => hsub it (by simp [mem_itemsFs hx h]))
            (fun x hx => .here hx)⟩
    · have hd := depthF_sels c F.flatten.length op.sels (c.cs.camel op.name) _ hsels' (by
        intro g hg
        have hr := reach_spreadIdss c.q op.sels op.sels (fun y hy => .here hy) g hg
        obtain ⟨i, hokg⟩ := fragOk_of_spreadIdss c.s c.q c.o op.sels _ hsels' g hg
        exact hK g i hr hokg)
      simp only [List.length_cons] at hlen
      omega


/-- a response conforms to the operation: the response object of the root selection set, every spread read as
    the inline fragment `... on T { body }` (GraphQL §6.4.3), executed on the root object type -/
def conformsOpF (c : Ctx) (op : ROperation) (j : Json) : Bool :=
  conformsV c.s op.objectId (expandSels c.q op.sels) j

/-! ## the classes are nested: `TreeOp ⊆ VariantOp ⊆ FragmentOp` -/

theorem vSel_of_treeSel (s : Schema) (o : Options) : ∀ (x : Sel) (abs : Bool), treeSel s o x = true → vSel s o abs x = true := by
  intro x
  induction x using Sel.ind with
  | field a fid sub IH =>
    intro abs h
    have IHs : ∀ abs', treeSels s o sub = true → vSels s o abs' sub = true := fun abs' hs => by
      rw [vSels_eq_all, List.all_eq_true]
      exact fun y hy => IH y hy abs' (treeSels_mem hs y hy)
    obtain ⟨sf, hsf, hw, hdep, hk⟩ := treeSel_kinds h
    rw [vSel]
    rcases hk with ⟨k, _, hid, hk, rfl⟩ | ⟨k, _, hid, hk, rfl⟩ | ⟨i, _, hid, hk, hsub, hkeys⟩
    · simp [hsf, hw, hdep, hid, hk]
    · simp [hsf, hw, hdep, hid, hk]
    · simp [hsf, hw, hdep, hid, hk, IHs false hsub, hkeys]
  | spread _ => intro _ h; simp [treeSel] at h
  | inline _ _ _ => intro _ h; simp [treeSel] at h
  | typename => intro _ _; simp [vSel]

theorem vSels_of_treeSels (s : Schema) (o : Options) : ∀ (sels : List Sel) (abs : Bool), treeSels s o sels = true →
    vSels s o abs sels = true := by
  intro sels abs h
  rw [vSels_eq_all, List.all_eq_true]
  exact fun y hy => vSel_of_treeSel s o y abs (treeSels_mem h y hy)

theorem variantOp_of_treeOp (c : Ctx) (op : ROperation) (h : TreeOp c op = true) : VariantOp c op = true := by
  obtain ⟨h1, h2, h3, h4⟩ := treeOp_parts h
  simp only [VariantOp, Bool.and_eq_true, beq_iff_eq]
  exact ⟨⟨⟨h1, h2⟩, vSels_of_treeSels c.s c.o op.sels false h3⟩, h4⟩

theorem fSel_of_vSel (s : Schema) (q : Query) (o : Options) : ∀ (x : Sel) (p : TypeId), vSel s o false x = true →
    fSel s q o p x = true := by
  intro x
  induction x using Sel.ind with
  | field a fid sub IH =>
    intro p h
    have IHs : ∀ p', vSels s o false sub = true → fSels s q o p' sub = true := fun p' hs => by
      rw [fSels_eq_all, List.all_eq_true]
      exact fun y hy => IH y hy p' (vSels_mem hs y hy)
    obtain ⟨sf, hsf, hw, hdep, hk⟩ := vSel_kinds h
    rw [fSel]
    rcases hk with ⟨k, _, hid, hk, rfl⟩ | ⟨k, _, hid, hk, rfl⟩ | ⟨i, _, hid, hk, hsub, _⟩ |
      ⟨k, hid, hty, hsub, hok⟩ | ⟨k, hid, hty, hsub, hok⟩
    · simp [hsf, hw, hdep, hid, hk]
    · simp [hsf, hw, hdep, hid, hk]
    · have hns := noSpreads_of_vSels s o sub false hsub
      simp only [hsf, hw, hdep, hid, hk, Bool.not_false, Bool.and_self, Option.isSome_some, Bool.true_and]
      split
      · simp [noSpreads, noSpread] at hns
      · exact IHs (.object i) hsub
    · simpa [hsf, hw, hdep, hid, hsub, hok, absHyp] using hty
    · simpa [hsf, hw, hdep, hid, hsub, hok, absHyp] using hty
  | spread _ => intro _ h; simp [vSel] at h
  | inline _ _ _ => intro _ h; simp [vSel] at h
  | typename => intro _ _; simp [fSel]

theorem fSels_of_vSels (s : Schema) (q : Query) (o : Options) : ∀ (sels : List Sel) (p : TypeId),
    vSels s o false sels = true → fSels s q o p sels = true := by
  intro sels p h
  rw [fSels_eq_all, List.all_eq_true]
  exact fun y hy => fSel_of_vSel s q o y p (vSels_mem h y hy)

theorem fragmentOp_of_variantOp (c : Ctx) (op : ROperation) (h : VariantOp c op = true) : FragmentOp c op = true := by
  obtain ⟨h1, h2, h3, _⟩ := variantOp_parts h
  simp only [FragmentOp, Bool.and_eq_true, beq_iff_eq]
  refine ⟨⟨h1, h2⟩, ?_⟩
  have hns := noSpreads_of_vSels c.s c.o op.sels false h3
  rw [fBody_not_lone (fun g hg => by rw [hg] at hns; simp [noSpreads, noSpread] at hns)]
  exact fSels_of_vSels c.s c.q c.o op.sels _ h3

end E2E
end C01
end GqlVerif
