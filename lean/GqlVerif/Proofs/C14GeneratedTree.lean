import GqlVerif.Proofs.C14GeneratedNested
import GqlVerif.Proofs.C01EndToEnd
/-!
# C14: the generator link for object-tree operations WITH denied fields

`C01.E2E.TreeOp` excludes every selection of a deprecated field under `deny` (its closed form has a member per
selected field).  Here the class **`TreeOpD`**: the same selection trees (`.field` with or without alias over object
types at any depth, scalar / enum leaves, `.typename`; no fragment, no flatten) *including* deprecated fields under any
strategy; key distinctness is required of the **kept** keys only (the response keys of the selections that are not
omitted), so "the denied key is not also the key of a kept sibling" is a separate, explicit side condition.

In the closed form of the emitted items (`structItemsD`, `tree_items_shapeD`) a denied field contributes **no member**,
but — in the model as in `selection.rs` — the struct of its sub-selection **is still emitted** (dead code).  At every
node of the selection tree (`Node`) the struct's name resolves in `moduleEnv c items` to the struct with members
`fieldsOfD c pfx sels`, whose wire names are exactly `keptKeys c sels`; hence, item names being distinct, every key that is
not a kept key of the selection set — in particular the response key of a denied field that is not also the key of a kept
sibling — is `KeyFree` at that struct (`unselected_key_keyFree`, `denied_field_keyFree`).  Necessity of the side condition:
`C14G.Witness.sibling_key_matters` (`C14GeneratedWitness`).
-/

namespace GqlVerif
namespace C14G
open Composed Codegen C13 C01 C01.E2E

/-! ## denied / kept selections -/

/-- the field is omitted: deprecated, and the strategy is `deny` -/
def isDenied (c : Ctx) (sf : StoredField) : Bool := sf.deprecation.isSome && c.o.deprecation == .deny

/-- response key of a field selection that is **not** omitted -/
def keptKey (c : Ctx) : Sel → Option String
  | .field a fid _ => match c.s.fields[fid]? with
    | some sf => if isDenied c sf then none else some (a.getD sf.name)
    | none => none
  | _ => none

/-- response key of a field selection that is omitted -/
def deniedKey (c : Ctx) : Sel → Option String
  | .field a fid _ => match c.s.fields[fid]? with
    | some sf => if isDenied c sf then some (a.getD sf.name) else none
    | none => none
  | _ => none

def keptKeys (c : Ctx) (sels : List Sel) : List String := sels.filterMap (keptKey c)
def deniedKeys (c : Ctx) (sels : List Sel) : List String := sels.filterMap (deniedKey c)

theorem keptKey_some {c : Ctx} {x : Sel} {k : String} (h : keptKey c x = some k) :
    ∃ a fid sub sf, x = .field a fid sub ∧ c.s.fields[fid]? = some sf ∧ isDenied c sf = false ∧ k = a.getD sf.name := by
  cases x with
  | field a fid sub =>
    simp only [keptKey] at h
    cases hsf : c.s.fields[fid]? with
    | none => simp [hsf] at h
    | some sf =>
      simp only [hsf] at h
      by_cases hd : isDenied c sf = true
      · simp [hd] at h
      · simp only [hd, Bool.false_eq_true, ↓reduceIte, Option.some.injEq] at h
        exact ⟨a, fid, sub, sf, rfl, hsf, by simpa using hd, h.symm⟩
  | inline t sub => simp [keptKey] at h
  | spread g => simp [keptKey] at h
  | typename => simp [keptKey] at h

theorem keptKey_of {c : Ctx} {a : Option String} {fid : Nat} {sub : List Sel} {sf : StoredField}
    (hsf : c.s.fields[fid]? = some sf) (hd : isDenied c sf = false) :
    keptKey c (.field a fid sub) = some (a.getD sf.name) := by
  simp [keptKey, hsf, hd]

/-! ## closed form of the emitted items -/

def fieldOfSelD (c : Ctx) (pfx : String) : Sel → Option RField
  | .field a fid _ =>
    match c.s.fields[fid]? with
    | none => none
    | some sf =>
      if isDenied c sf then none else
      match leafName c pfx (a.getD sf.name) sf.ty.id with
      | none => none
      | some ft => some (fieldOf c (a.getD sf.name) ft sf.ty.quals sf.deprecation)
  | _ => none

def fieldsOfD (c : Ctx) (pfx : String) (sels : List Sel) : List RField := sels.filterMap (fieldOfSelD c pfx)

mutual
  /-- the struct of the sub-selection is emitted whether or not the field itself is omitted -/
  def itemsOfSelD (c : Ctx) (pfx : String) : Sel → List Item
    | .field a fid sub =>
      match c.s.fields[fid]? with
      | none => []
      | some sf =>
        match sf.ty.id with
        | .object _ =>
          .struct (pfx ++ c.cs.camel (a.getD sf.name)) c.respDerives c.serdeCrate
              (fieldsOfD c (pfx ++ c.cs.camel (a.getD sf.name)) sub) ::
            itemsOfSelsD c (pfx ++ c.cs.camel (a.getD sf.name)) sub
        | _ => []
    | _ => []
  def itemsOfSelsD (c : Ctx) (pfx : String) : List Sel → List Item
    | [] => []
    | x :: xs => itemsOfSelD c pfx x ++ itemsOfSelsD c pfx xs
end

def structItemsD (c : Ctx) (name pfx : String) (sels : List Sel) : List Item :=
  .struct name c.respDerives c.serdeCrate (fieldsOfD c pfx sels) :: itemsOfSelsD c pfx sels

/-! ## the class -/

mutual
  /-- one selection of the class: a field that exists, without `!!`; of scalar / enum type without sub-selection, or of
      object type with a sub-selection of the class whose **kept** keys are pairwise distinct; or `__typename`.
      Deprecated fields are allowed under every strategy. -/
  def treeSelD (c : Ctx) : Sel → Bool
    | .field _ fid sub =>
      match c.s.fields[fid]? with
      | none => false
      | some sf =>
        wfQuals sf.ty.quals &&
        (match sf.ty.id with
         | .scalar k => (c.s.scalars[k]?).isSome && sub.isEmpty
         | .enum k => (c.s.enums[k]?).isSome && sub.isEmpty
         | .object i => (c.s.objects[i]?).isSome && treeSelsD c sub && EnumSpec.nodup (keptKeys c sub)
         | _ => false)
    | .typename => true
    | _ => false
  def treeSelsD (c : Ctx) : List Sel → Bool
    | [] => true
    | x :: xs => treeSelD c x && treeSelsD c xs
end

def TreeOpD (c : Ctx) (op : ROperation) : Bool :=
  c.o.normalization == .none && (c.s.objects[op.objectId]?).isSome &&
  treeSelsD c op.sels && EnumSpec.nodup (keptKeys c op.sels)

theorem treeSelsD_cons {c : Ctx} {x : Sel} {xs : List Sel} (h : treeSelsD c (x :: xs) = true) :
    treeSelD c x = true ∧ treeSelsD c xs = true := by
  simpa [treeSelsD] using h

theorem treeSelD_of_mem {c : Ctx} {x : Sel} : ∀ {xs : List Sel}, treeSelsD c xs = true → x ∈ xs → treeSelD c x = true :=
  fun {xs} h hx => List.all_eq_true.mp (all_of_eqns (ps := treeSelsD c) rfl (fun _ _ => rfl) xs ▸ h) x hx

theorem treeSelD_field {c : Ctx} {a : Option String} {fid : Nat} {sub : List Sel}
    (h : treeSelD c (.field a fid sub) = true) :
    ∃ sf, c.s.fields[fid]? = some sf ∧ wfQuals sf.ty.quals = true ∧
      ((∃ k n, sf.ty.id = .scalar k ∧ c.s.scalars[k]? = some n ∧ sub = []) ∨
       (∃ k en, sf.ty.id = .enum k ∧ c.s.enums[k]? = some en ∧ sub = []) ∨
       (∃ i o, sf.ty.id = .object i ∧ c.s.objects[i]? = some o ∧ treeSelsD c sub = true ∧
          EnumSpec.nodup (keptKeys c sub) = true)) := by
  rw [treeSelD] at h
  cases hsf : c.s.fields[fid]? with
  | none => simp [hsf] at h
  | some sf =>
    simp only [hsf, Bool.and_eq_true] at h
    refine ⟨sf, rfl, h.1, ?_⟩
    have hty := h.2
    cases hid : sf.ty.id with
    | scalar k =>
      simp only [hid, Bool.and_eq_true, List.isEmpty_iff, Option.isSome_iff_exists] at hty
      obtain ⟨⟨n, hn⟩, hs⟩ := hty
      exact .inl ⟨k, n, rfl, hn, hs⟩
    | «enum» k =>
      simp only [hid, Bool.and_eq_true, List.isEmpty_iff, Option.isSome_iff_exists] at hty
      obtain ⟨⟨en, hn⟩, hs⟩ := hty
      exact .inr (.inl ⟨k, en, rfl, hn, hs⟩)
    | object i =>
      simp only [hid, Bool.and_eq_true, Option.isSome_iff_exists] at hty
      obtain ⟨⟨⟨o, ho⟩, hs⟩, hk⟩ := hty
      exact .inr (.inr ⟨i, o, rfl, ho, hs, hk⟩)
    | _ => simp [hid] at hty

theorem treeSelD_cases {c : Ctx} {x : Sel} (h : treeSelD c x = true) :
    (∃ a fid sub, x = .field a fid sub) ∨ x = .typename := by
  cases x with
  | field a fid sub => exact .inl ⟨a, fid, sub, rfl⟩
  | typename => exact .inr rfl
  | spread g => simp [treeSelD] at h
  | inline t sub => simp [treeSelD] at h

theorem treeOpD_parts {c : Ctx} {op : ROperation} (h : TreeOpD c op = true) :
    c.o.normalization = .none ∧ treeSelsD c op.sels = true ∧ EnumSpec.nodup (keptKeys c op.sels) = true := by
  simp only [TreeOpD, Bool.and_eq_true, beq_iff_eq] at h
  exact ⟨h.1.1.1, h.1.2, h.2⟩

/-! ## the class contains `TreeOp` (where nothing is denied the two closed forms coincide) -/

theorem keptKeys_sublist_respKeys (c : Ctx) : ∀ sels : List Sel, (keptKeys c sels).Sublist (respKeys c.s sels)
  | [] => by simp [keptKeys, respKeys]
  | x :: xs => by
    have ih := keptKeys_sublist_respKeys c xs
    simp only [keptKeys, respKeys, List.filterMap_cons] at ih ⊢
    cases x with
    | field a fid sub =>
      simp only [keptKey, respKey]
      cases hsf : c.s.fields[fid]? with
      | none => simpa using ih
      | some sf =>
        simp only [Option.map_some]
        by_cases hd : isDenied c sf = true
        · simp only [hd, ↓reduceIte]; exact List.Sublist.cons _ ih
        · simp only [hd, Bool.false_eq_true, ↓reduceIte]; exact List.Sublist.cons_cons _ ih
    | spread g => simpa [keptKey, respKey] using ih
    | inline t sub => simpa [keptKey, respKey] using ih
    | typename =>
      simp only [keptKey, respKey]
      exact List.Sublist.cons _ ih

theorem nodup_kept_of_resp (c : Ctx) (sels : List Sel) (h : EnumSpec.nodup (respKeys c.s sels) = true) :
    EnumSpec.nodup (keptKeys c sels) = true :=
  nodup_iff'.mpr (List.Nodup.sublist (keptKeys_sublist_respKeys c sels) (nodup_iff'.mp h))

mutual
  theorem treeSelD_of_treeSel (c : Ctx) : ∀ x : Sel, treeSel c.s c.o x = true → treeSelD c x = true
    | .field a fid sub => by
      intro h
      have IH := treeSelsD_of_treeSels c sub
      obtain ⟨sf, hsf, hw, _, hty⟩ := treeSel_kinds h
      rw [treeSelD]
      simp only [hsf, hw, Bool.true_and]
      rcases hty with ⟨k, n, hid, hn, rfl⟩ | ⟨k, en, hid, hn, rfl⟩ | ⟨i, ob, hid, ho, hsub, hk⟩
      · simp [hid, hn]
      · simp [hid, hn]
      · simp [hid, ho, IH hsub, nodup_kept_of_resp c sub hk]
    | .spread _ => by intro h; simp [treeSel] at h
    | .inline _ _ => by intro h; simp [treeSel] at h
    | .typename => by intro _; simp [treeSelD]
  theorem treeSelsD_of_treeSels (c : Ctx) : ∀ xs : List Sel, treeSels c.s c.o xs = true → treeSelsD c xs = true
    | [] => by intro _; simp [treeSelsD]
    | x :: xs => by
      intro h
      obtain ⟨hx, hxs⟩ := treeSels_cons h
      rw [treeSelsD, treeSelD_of_treeSel c x hx, treeSelsD_of_treeSels c xs hxs]
      rfl
end

theorem treeOpD_of_treeOp {c : Ctx} {op : ROperation} (h : TreeOp c op = true) : TreeOpD c op = true := by
  obtain ⟨hn, ho, hs, hk⟩ := treeOp_parts h
  simp only [TreeOpD, Bool.and_eq_true, beq_iff_eq]
  exact ⟨⟨⟨hn, ho⟩, treeSelsD_of_treeSels c _ hs⟩, nodup_kept_of_resp c _ hk⟩

/-! ## the closed form of the items for the class -/

theorem renderField_denied (c : Ctx) (g ft : String) (quals : List Qual) (dep : Option (Option String))
    (hw : wfQuals quals = true) (hdep : (dep.isSome && c.o.deprecation == .deny) = true) :
    renderField c (some g) (keywordReplace (c.cs.snake g)) ft quals false false dep = .ok none := by
  unfold renderField
  have hd := decorate_spec (.path ft) (gtyOf quals) (by rw [wf_gtyOf]; exact hw)
  rw [quals_gtyOf] at hd
  rw [hd]
  simp only [Bool.and_eq_true, beq_iff_eq] at hdep
  obtain ⟨h1, h2⟩ := hdep
  cases dep with
  | none => simp at h1
  | some m => simp [bind, Except.bind, h2, pure, Except.pure]

theorem renderField_D (c : Ctx) (sf : StoredField) (g ft : String) (hw : wfQuals sf.ty.quals = true) :
    renderField c (some g) (keywordReplace (c.cs.snake g)) ft sf.ty.quals false false sf.deprecation =
      .ok (if isDenied c sf then none else some (fieldOf c g ft sf.ty.quals sf.deprecation)) := by
  by_cases hd : isDenied c sf = true
  · rw [if_pos hd]; exact renderField_denied c g ft _ _ hw hd
  · rw [if_neg hd]
    exact renderField_tree c g ft _ _ hw (by simpa [isDenied] using hd)

section Calc
variable (c : Ctx) (hn : c.o.normalization = .none)

theorem treeSelsD_not_spread {sels : List Sel} (ht : treeSelsD c sels = true) (g : Nat) : sels ≠ [Sel.spread g] := by
  rintro rfl; simp [treeSelsD, treeSelD] at ht

/-- one selection of the class is one step of the field loop -/
def TreeStepD (x : Sel) : Prop := ∀ (pfx : String) (ty : TypeId) (rest : List Sel) (fs : List RField)
  (items : List Item), treeSelD c x = true → C02.CalcFields c pfx ty rest fs items →
  C02.CalcFields c pfx ty (x :: rest) ((fieldOfSelD c pfx x).toList ++ fs) (itemsOfSelD c pfx x ++ items)

theorem calcFields_treeD {sels : List Sel} (H : ∀ y ∈ sels, TreeStepD c y) (pfx : String) (ty : TypeId)
    (ht : treeSelsD c sels = true) :
    C02.CalcFields c pfx ty sels (fieldsOfD c pfx sels) (itemsOfSelsD c pfx sels) := by
  induction sels with
  | nil => exact .nil
  | cons x rest ih =>
    have := H x List.mem_cons_self pfx ty rest _ _ (treeSelsD_cons ht).1
      (ih (fun y hy => H y (List.mem_cons_of_mem _ hy)) (treeSelsD_cons ht).2)
    rw [itemsOfSelsD, fieldsOfD, List.filterMap_cons]
    cases h : fieldOfSelD c pfx x <;> simpa [h, fieldsOfD] using this

include hn in
theorem treeStepD : ∀ x, TreeStepD c x := by
  apply Sel.ind
  · intro a fid sub IH pfx ty rest fs items hx hR
    obtain ⟨sf, hsf, hw, hty⟩ := treeSelD_field hx
    have hfld := fun ft => renderField_D c sf (a.getD sf.name) ft hw
    rcases hty with ⟨k, sn, hid, hk, _⟩ | ⟨k, en, hid, hk, _⟩ | ⟨i, o, hid, _, hsub, _⟩
    · have := C02.CalcFields.scalar (sub := sub) (getField_of hsf) hid (getScalar_of hk) (hfld _) hR
      by_cases hd : isDenied c sf = true <;>
        simpa [hn, C02.fieldType_none, itemsOfSelD, fieldOfSelD, hsf, hid, leafName, hk, hd] using this
    · have := C02.CalcFields.enum (sub := sub) (getField_of hsf) hid (getEnum_of hk) (hfld _) hR
      by_cases hd : isDenied c sf = true <;>
        simpa [hn, C02.fieldType_none, itemsOfSelD, fieldOfSelD, hsf, hid, leafName, hk, hd] using this
    · have hS := C02.CalcSel.object (name := pfx ++ c.cs.camel (a.getD sf.name)) (treeSelsD_not_spread c hsub)
        (calcFields_treeD c IH (pfx ++ c.cs.camel (a.getD sf.name)) (.object i) hsub)
      have := C02.CalcFields.nested (getField_of hsf) (by simp [hid]) (by simp [hid]) (by simp [hid]) (hfld _)
        (hid ▸ hS) hR
      by_cases hd : isDenied c sf = true <;>
        simpa [itemsOfSelD, fieldOfSelD, hsf, hid, leafName, hd] using this
  · intro t sub _ pfx ty rest fs items hx _
    simp [treeSelD] at hx
  · intro g pfx ty rest fs items hx _
    simp [treeSelD] at hx
  · intro pfx ty rest fs items _ hR
    have h1 : fieldOfSelD c pfx .typename = none := rfl
    simpa [itemsOfSelD, h1] using C02.CalcFields.typename hR

include hn in
theorem calc_treeD (name pfx : String) (i : Nat) {sels : List Sel} (ht : treeSelsD c sels = true) :
    C02.CalcSel c name pfx (.object i) sels (structItemsD c name pfx sels) :=
  .object (treeSelsD_not_spread c ht) (calcFields_treeD c (fun y _ => treeStepD c hn y) pfx (.object i) ht)

end Calc

/-- **the closed form of the items for `TreeOpD`**: a denied field has no member, the struct of its sub-selection is there
    all the same -/
theorem tree_items_shapeD (c : Ctx) (op : ROperation) (hop : op ∈ c.q.operations) (ht : TreeOpD c op = true) :
    responseItems c op = .ok (structItemsD c "ResponseData" (c.cs.camel op.name) op.sels) := by
  obtain ⟨hn, hsels, _⟩ := treeOpD_parts ht
  exact (calc_treeD c hn _ _ _ hsels).responseItems_eq hop

/-- the response structs are the tail of the emitted module -/
theorem tree_module_shapeD (c : Ctx) (opIdx : Nat) (op : ROperation) (items : List Item)
    (hop : c.q.operations[opIdx]? = some op) (ht : TreeOpD c op = true)
    (hgen : responseForQuery c opIdx = .ok items) :
    ∃ pre, items = Codegen.builtinAliases ++ pre ++ structItemsD c "ResponseData" (c.cs.camel op.name) op.sels := by
  obtain ⟨u, S, E, I, V, F, o, resp, _, _, _, ho, hresp, hitems⟩ := responseForQuery_parts hgen
  rw [hop] at ho; cases ho
  rw [tree_items_shapeD c op (List.mem_of_getElem? hop) ht] at hresp
  cases hresp
  exact ⟨S ++ E ++ I ++ V ++ F, by rw [hitems]; simp⟩

/-! ## members of the emitted structs -/

theorem fieldOfSelD_wire {c : Ctx} {pfx : String} {x : Sel} {f : RField} (h : fieldOfSelD c pfx x = some f) :
    keptKey c x = some f.wire ∧ f.flatten = false := by
  cases x with
  | field a fid sub =>
    simp only [fieldOfSelD, keptKey] at h ⊢
    cases hsf : c.s.fields[fid]? with
    | none => simp [hsf] at h
    | some sf =>
      simp only [hsf] at h ⊢
      by_cases hd : isDenied c sf = true
      · simp [hd] at h
      · simp only [hd, Bool.false_eq_true, ↓reduceIte] at h ⊢
        cases hl : leafName c pfx (a.getD sf.name) sf.ty.id with
        | none => simp [hl] at h
        | some ft =>
          simp only [hl, Option.some.injEq] at h
          subst h
          exact ⟨by rw [fieldOf_wire], rfl⟩
  | spread g => simp [fieldOfSelD] at h
  | inline t sub => simp [fieldOfSelD] at h
  | typename => simp [fieldOfSelD] at h

theorem wire_mem_keptKeys {c : Ctx} {pfx : String} {sels : List Sel} {f : RField} (h : f ∈ fieldsOfD c pfx sels) :
    f.wire ∈ keptKeys c sels ∧ f.flatten = false := by
  obtain ⟨x, hx, hfx⟩ := List.mem_filterMap.mp h
  obtain ⟨h1, h2⟩ := fieldOfSelD_wire hfx
  exact ⟨List.mem_filterMap.mpr ⟨x, hx, h1⟩, h2⟩

/-- a selection of the class has a member exactly when it is kept, under its key -/
theorem fieldOfSelD_wire_eq {c : Ctx} {pfx : String} {x : Sel} (h : treeSelD c x = true) :
    (fieldOfSelD c pfx x).map (·.wire) = keptKey c x := by
  rcases treeSelD_cases h with ⟨a, fid, sub, rfl⟩ | rfl
  · obtain ⟨sf, hsf, _, hty⟩ := treeSelD_field h
    simp only [fieldOfSelD, keptKey, hsf]
    by_cases hd : isDenied c sf = true
    · simp [hd]
    · rcases hty with ⟨k, n, hid, hn, _⟩ | ⟨k, en, hid, hn, _⟩ | ⟨i, o, hid, _, _, _⟩
      · simp [hd, leafName, hid, hn, fieldOf_wire]
      · simp [hd, leafName, hid, hn, fieldOf_wire]
      · simp [hd, leafName, hid, fieldOf_wire]
  · rfl

theorem fieldsOfD_wires (c : Ctx) (pfx : String) : ∀ sels : List Sel, treeSelsD c sels = true →
    (fieldsOfD c pfx sels).map (·.wire) = keptKeys c sels := by
  intro sels ht
  rw [fieldsOfD, keptKeys, List.map_filterMap]
  exact C02.filterMap_congr' (fun x hx => fieldOfSelD_wire_eq (treeSelD_of_mem ht hx))

/-! ## the nodes of the selection tree and their structs -/

/-- `name` / `pfx` / `sels`: the struct name, path prefix and selection set of a node of the selection tree below the
    node `root` / `pfx₀` / `sels₀` (through object-typed field selections — omitted ones included: their struct is emitted) -/
inductive Node (c : Ctx) : String → String → List Sel → String → String → List Sel → Prop
  | here (name pfx : String) (sels : List Sel) : Node c name pfx sels name pfx sels
  | step {root pfx₀ : String} {sels₀ : List Sel} {a : Option String} {fid : Nat} {sub : List Sel} {sf : StoredField} {i : Nat}
      {name pfx : String} {sels : List Sel} :
      Sel.field a fid sub ∈ sels₀ → c.s.fields[fid]? = some sf → sf.ty.id = .object i →
      Node c (pfx₀ ++ c.cs.camel (a.getD sf.name)) (pfx₀ ++ c.cs.camel (a.getD sf.name)) sub name pfx sels →
      Node c root pfx₀ sels₀ name pfx sels

theorem itemsOfSelsD_mem {c : Ctx} {pfx : String} {x : Sel} {it : Item} : ∀ {xs : List Sel}, x ∈ xs →
    it ∈ itemsOfSelD c pfx x → it ∈ itemsOfSelsD c pfx xs
  | [], h, _ => by simp at h
  | y :: ys, h, hit => by
    rw [itemsOfSelsD]
    rcases List.mem_cons.mp h with rfl | h
    · exact List.mem_append_left _ hit
    · exact List.mem_append_right _ (itemsOfSelsD_mem h hit)

theorem node_item {c : Ctx} {root pfx₀ name pfx : String} {sels₀ sels : List Sel}
    (h : Node c root pfx₀ sels₀ name pfx sels) (ht : treeSelsD c sels₀ = true)
    (hk : EnumSpec.nodup (keptKeys c sels₀) = true) :
    Item.struct name c.respDerives c.serdeCrate (fieldsOfD c pfx sels) ∈ structItemsD c root pfx₀ sels₀ ∧
    treeSelsD c sels = true ∧ EnumSpec.nodup (keptKeys c sels) = true := by
  induction h with
  | here name pfx sels => exact ⟨by simp [structItemsD], ht, hk⟩
  | @step root pfx₀ sels₀ a fid sub sf i name pfx sels hmem hsf hid _ ih =>
    have hx := treeSelD_of_mem ht hmem
    rw [treeSelD] at hx
    simp only [hsf, hid, Bool.and_eq_true] at hx
    obtain ⟨h1, h2, h3⟩ := ih hx.2.1.2 hx.2.2
    refine ⟨?_, h2, h3⟩
    simp only [structItemsD, List.mem_cons]
    right
    apply itemsOfSelsD_mem hmem
    rw [itemsOfSelD]
    simp only [hsf, hid]
    simpa [structItemsD] using h1

/-! ## the structs in the environment of the emitted module, and `KeyFree` -/

theorem keyFree_of_struct_flat {e : Env} {k p n : String} {d : List String} {sc : Option String} {fs : List RField}
    (hfind : e.find p = some (.struct n d sc fs)) (hown : ∀ f ∈ fs, f.flatten = false → f.wire ≠ k)
    (hflat : ∀ f ∈ fs, f.flatten = true → KeyFree e k (Scope.leaf f.ty)) : KeyFree e k p := by
  intro q hq it hf
  cases hq with
  | refl =>
    rw [hfind] at hf
    cases hf
    simp only [itemOK, List.all_eq_true, Bool.or_eq_true, bne_iff_ne, ne_eq]
    intro f hf'
    cases hfl : f.flatten
    · exact .inr (hown f hf' hfl)
    · exact .inl rfl
  | item hf' hq' hr =>
    rw [hfind] at hf'
    cases hf'
    simp only [sameLevel, List.mem_map, List.mem_filter] at hq'
    obtain ⟨f, ⟨hm, hfl⟩, rfl⟩ := hq'
    exact hflat f hm hfl q hr it hf
  | extern hn _ _ => rw [hfind] at hn; cases hn

/-- at a struct without flatten members `KeyFree` is just "no member has wire name `k`" (nothing else reads the object) -/
theorem keyFree_of_struct {e : Env} {k p n : String} {d : List String} {sc : Option String} {fs : List RField}
    (hfind : e.find p = some (.struct n d sc fs)) (hnf : ∀ f ∈ fs, f.flatten = false) (hk : ∀ f ∈ fs, f.wire ≠ k) :
    KeyFree e k p :=
  keyFree_of_struct_flat hfind (fun f hf _ => hk f hf) (fun f hf hfl => by rw [hnf f hf] at hfl; cases hfl)

theorem not_keyFree_of_member {e : Env} {k p n : String} {d : List String} {sc : Option String} {fs : List RField}
    (hfind : e.find p = some (.struct n d sc fs)) {f : RField} (hm : f ∈ fs) (hfl : f.flatten = false) (hw : f.wire = k) :
    ¬ KeyFree e k p := by
  intro h
  have := h.ok hfind
  simp only [itemOK, List.all_eq_true, Bool.or_eq_true, bne_iff_ne, ne_eq] at this
  rcases this f hm with h1 | h1
  · rw [hfl] at h1; cases h1
  · exact h1 hw

/-- **the struct of every node of the selection tree is what its name resolves to in the emitted module**, with
    exactly the members `fieldsOfD` -/
theorem node_struct (c : Ctx) (opIdx : Nat) (op : ROperation) (items : List Item)
    (hop : c.q.operations[opIdx]? = some op) (ht : TreeOpD c op = true)
    (hgen : responseForQuery c opIdx = .ok items) (hnd : EnumSpec.nodup (items.map (·.name)) = true)
    {name pfx : String} {sels : List Sel} (hnode : Node c "ResponseData" (c.cs.camel op.name) op.sels name pfx sels) :
    (moduleEnv c items).find name = some (.struct name c.respDerives c.serdeCrate (fieldsOfD c pfx sels)) ∧
    treeSelsD c sels = true ∧ EnumSpec.nodup (keptKeys c sels) = true := by
  obtain ⟨_, hsels, hkeys⟩ := treeOpD_parts ht
  obtain ⟨pre, hitems⟩ := tree_module_shapeD c opIdx op items hop ht hgen
  obtain ⟨hmem, h2, h3⟩ := node_item hnode hsels hkeys
  refine ⟨?_, h2, h3⟩
  have hin : Item.struct name c.respDerives c.serdeCrate (fieldsOfD c pfx sels) ∈ items := by
    rw [hitems]; exact List.mem_append_right _ hmem
  exact find_of_mem (customExterns c) (nodup_iff'.mp hnd) hin

/-- **every key that is not a kept key of the selection set is `KeyFree` at its struct** -/
theorem unselected_key_keyFree (c : Ctx) (opIdx : Nat) (op : ROperation) (items : List Item)
    (hop : c.q.operations[opIdx]? = some op) (ht : TreeOpD c op = true)
    (hgen : responseForQuery c opIdx = .ok items) (hnd : EnumSpec.nodup (items.map (·.name)) = true)
    {name pfx : String} {sels : List Sel} (hnode : Node c "ResponseData" (c.cs.camel op.name) op.sels name pfx sels)
    {k : String} (hk : k ∉ keptKeys c sels) : KeyFree (moduleEnv c items) k name := by
  obtain ⟨hfind, _, _⟩ := node_struct c opIdx op items hop ht hgen hnd hnode
  exact keyFree_of_struct hfind (fun f hf => (wire_mem_keptKeys hf).2)
    (fun f hf hw => hk (hw ▸ (wire_mem_keptKeys hf).1))

/-- … and only those: a kept key is read -/
theorem kept_key_not_keyFree (c : Ctx) (opIdx : Nat) (op : ROperation) (items : List Item)
    (hop : c.q.operations[opIdx]? = some op) (ht : TreeOpD c op = true)
    (hgen : responseForQuery c opIdx = .ok items) (hnd : EnumSpec.nodup (items.map (·.name)) = true)
    {name pfx : String} {sels : List Sel} (hnode : Node c "ResponseData" (c.cs.camel op.name) op.sels name pfx sels)
    {k : String} (hk : k ∈ keptKeys c sels) : ¬ KeyFree (moduleEnv c items) k name := by
  obtain ⟨hfind, hsels, _⟩ := node_struct c opIdx op items hop ht hgen hnd hnode
  rw [← fieldsOfD_wires c pfx sels hsels] at hk
  obtain ⟨f, hf, hw⟩ := List.mem_map.mp hk
  exact not_keyFree_of_member hfind hf (wire_mem_keptKeys hf).2 hw

/-- **the generator link**: for an emitted module of the class and the struct of a selection set at the root or at
    any depth, a key `k` that is not a kept key of that selection set is the wire name of no member, and `KeyFree` there.
    The statement is `unselected_key_keyFree` specialised to the response key of a selected field; that the field is
    deprecated and the strategy `deny` (the four unused hypotheses) is what makes `k` one of `deniedKeys`
    (`denied_mem_deniedKeys`), which is how the callers obtain `hsib` -/
theorem denied_field_keyFree (c : Ctx) (opIdx : Nat) (op : ROperation) (items : List Item)
    (hop : c.q.operations[opIdx]? = some op) (ht : TreeOpD c op = true)
    (hgen : responseForQuery c opIdx = .ok items) (hnd : EnumSpec.nodup (items.map (·.name)) = true)
    {name pfx : String} {sels : List Sel} (hnode : Node c "ResponseData" (c.cs.camel op.name) op.sels name pfx sels)
    {a : Option String} {fid : Nat} {sub : List Sel} {sf : StoredField}
    (_hsel : Sel.field a fid sub ∈ sels) (_hsf : c.s.fields[fid]? = some sf)
    (_hdep : sf.deprecation.isSome = true) (_hdeny : c.o.deprecation = .deny)
    (hsib : a.getD sf.name ∉ keptKeys c sels) :
    (∃ fs, (moduleEnv c items).find name = some (.struct name c.respDerives c.serdeCrate fs) ∧
      ∀ f ∈ fs, f.wire ≠ a.getD sf.name) ∧
    KeyFree (moduleEnv c items) (a.getD sf.name) name := by
  obtain ⟨hfind, _, _⟩ := node_struct c opIdx op items hop ht hgen hnd hnode
  exact ⟨⟨_, hfind, fun f hf hw => hsib (hw ▸ (wire_mem_keptKeys hf).1)⟩,
    unselected_key_keyFree c opIdx op items hop ht hgen hnd hnode hsib⟩

/-- the denied key is a denied key (so that the list `deniedKeys` of the eraser covers it) -/
theorem denied_mem_deniedKeys {c : Ctx} {sels : List Sel} {a : Option String} {fid : Nat} {sub : List Sel} {sf : StoredField}
    (hsel : Sel.field a fid sub ∈ sels) (hsf : c.s.fields[fid]? = some sf)
    (hdep : sf.deprecation.isSome = true) (hdeny : c.o.deprecation = .deny) :
    a.getD sf.name ∈ deniedKeys c sels :=
  List.mem_filterMap.mpr ⟨_, hsel, by simp [deniedKey, hsf, isDenied, hdep, hdeny]⟩

/-- with pairwise distinct response keys (the hypothesis of `TreeOp`) the side condition holds by itself -/
theorem not_kept_of_nodup_respKeys {c : Ctx} {sels : List Sel} (hnd : EnumSpec.nodup (respKeys c.s sels) = true)
    {k : String} (hk : k ∈ deniedKeys c sels) : k ∉ keptKeys c sels := by
  have hnd' := nodup_iff'.mp hnd
  clear hnd
  induction sels with
  | nil => simp [deniedKeys] at hk
  | cons x xs ih =>
    simp only [respKeys, List.filterMap_cons] at hnd'
    simp only [deniedKeys, keptKeys, List.filterMap_cons] at hk ih ⊢
    have hsub : ∀ y, y ∈ List.filterMap (keptKey c) xs → y ∈ List.filterMap (respKey c.s) xs :=
      fun y hy => (keptKeys_sublist_respKeys c xs).subset hy
    have hsubD : ∀ y, y ∈ List.filterMap (deniedKey c) xs → y ∈ List.filterMap (respKey c.s) xs := by
      intro y hy
      obtain ⟨z, hz, hzy⟩ := List.mem_filterMap.mp hy
      refine List.mem_filterMap.mpr ⟨z, hz, ?_⟩
      cases z with
      | field a fid sub =>
        simp only [deniedKey, respKey] at hzy ⊢
        cases hsf : c.s.fields[fid]? with
        | none => simp [hsf] at hzy
        | some sf =>
          simp only [hsf] at hzy ⊢
          split at hzy
          · simpa using hzy
          · cases hzy
      | spread g => simp [deniedKey] at hzy
      | inline t sub => simp [deniedKey] at hzy
      | typename => simp [deniedKey] at hzy
    cases x with
    | field a fid sub =>
      simp only [deniedKey, keptKey, respKey] at hk hnd' ⊢
      cases hsf : c.s.fields[fid]? with
      | none =>
        simp only [hsf, Option.map_none] at hk hnd' ⊢
        exact ih hk hnd'
      | some sf =>
        simp only [hsf, Option.map_some, List.nodup_cons] at hk hnd' ⊢
        by_cases hd : isDenied c sf = true
        · simp only [hd, ↓reduceIte, List.mem_cons] at hk ⊢
          rcases hk with rfl | hk
          · exact fun h => hnd'.1 (hsub _ h)
          · exact ih hk hnd'.2
        · simp only [hd, Bool.false_eq_true, ↓reduceIte, List.mem_cons, not_or] at hk ⊢
          exact ⟨fun h => hnd'.1 (h ▸ hsubD _ hk), ih hk hnd'.2⟩
    | spread g =>
      simp only [deniedKey, keptKey, respKey] at hk hnd' ⊢
      exact ih hk hnd'
    | inline t sub =>
      simp only [deniedKey, keptKey, respKey] at hk hnd' ⊢
      exact ih hk hnd'
    | typename =>
      simp only [deniedKey, keptKey, respKey, List.nodup_cons] at hk hnd' ⊢
      exact ih hk hnd'.2

end C14G
end GqlVerif
