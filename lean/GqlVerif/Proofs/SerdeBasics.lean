import GqlVerif.Model.Serde
/-!
Facts about the model's `Json` / `Val` sizes, `Json.lookup`, flatten buffers, `normKvs`, `deFlat` on `Box` and `Env.find` that the
fuel bounds and the size inductions of the C01 and C04 chains share.
-/
namespace GqlVerif
namespace SerdeFuel
open Serde

/-! ## `jsonSize` -/

theorem jsonSize_pos (j : Json) : 1 ≤ jsonSize j := by
  cases j <;> simp only [jsonSize] <;> omega

theorem jsonSize_le_of_mem : ∀ {xs : List Json} {x : Json}, x ∈ xs → jsonSize x ≤ jsonsSize xs
  | y :: ys, x, h => by
    rw [jsonsSize]
    rcases List.mem_cons.mp h with rfl | h'
    · omega
    · have := jsonSize_le_of_mem h'; omega

theorem jsonSize_le_of_mem_kvs : ∀ {kvs : List (String × Json)} {kv : String × Json}, kv ∈ kvs → jsonSize kv.2 ≤ kvsSize kvs
  | (k, v) :: rest, kv, h => by
    rw [kvsSize]
    rcases List.mem_cons.mp h with rfl | h'
    · simp only; omega
    · have := jsonSize_le_of_mem_kvs h'; omega

theorem lookup_size : ∀ {kvs : List (String × Json)} {w : String} {j : Json}, Json.lookup w kvs = some j →
    jsonSize j ≤ kvsSize kvs
  | (k, v) :: rest, w, j, h => by
    rw [kvsSize]
    rw [Json.lookup] at h
    split at h
    · cases h; omega
    · have := lookup_size h; omega

theorem lookup_mem : ∀ {kvs : List (String × Json)} {k : String} {v : Json}, Json.lookup k kvs = some v → (k, v) ∈ kvs
  | (k', v') :: rest, k, v, h => by
    rw [Json.lookup] at h
    split at h
    · rename_i hk
      simp only [Option.some.injEq] at h
      simp only [beq_iff_eq] at hk
      rw [hk, h]; simp
    · exact List.mem_cons_of_mem _ (lookup_mem h)

/-! ## `valSize` -/

theorem valSize_pos (v : Val) : 1 ≤ valSize v := by
  cases v with
  | variant n pl => cases pl <;> simp only [valSize] <;> omega
  | _ => simp only [valSize] <;> omega

theorem valSize_le_of_mem : ∀ {xs : List Val} {x : Val}, x ∈ xs → valSize x ≤ valsSize xs
  | y :: ys, x, h => by
    rw [valsSize]
    rcases List.mem_cons.mp h with rfl | h'
    · omega
    · have := valSize_le_of_mem h'; omega

theorem valSize_le_of_field : ∀ {vals : List (String × Val)} {n : String} {v : Val}, (n, v) ∈ vals →
    valSize v ≤ fieldsSize vals
  | (m, w) :: rest, n, v, h => by
    rw [fieldsSize]
    rcases List.mem_cons.mp h with h | h
    · cases h; omega
    · have := valSize_le_of_field h; omega

/-! ## flatten buffers, `normKvs` -/

theorem present_map_some (l : List (String × Json)) : present (l.map some) = l := by
  unfold present
  induction l with
  | nil => rfl
  | cons a l ih => simp only [List.map_cons, List.filterMap_cons, id_eq, ih]

theorem normKvs_fixed : ∀ l : List (String × Json), (∀ kv ∈ l, normJson kv.2 = kv.2) → normKvs l = l
  | [], _ => by rw [normKvs]
  | (k, v) :: rest, h => by
    rw [normKvs, h (k, v) (by simp), normKvs_fixed rest (fun kv hkv => h kv (by simp [hkv]))]

/-! ## `serde_json::Map` collapsing (`Json.normObj`): keys and entries -/

theorem keys_insert (k : String) (v : Json) : ∀ acc : List (String × Json),
    (Json.insert k v acc).map (·.1) = if k ∈ acc.map (·.1) then acc.map (·.1) else acc.map (·.1) ++ [k]
  | [] => by simp [Json.insert]
  | (k', v') :: acc => by
    by_cases hk : k' = k
    · subst hk; simp [Json.insert]
    · have hne : (k' == k) = false := by simpa using hk
      have hne' : ¬ k = k' := fun h => hk h.symm
      simp only [Json.insert, hne, Bool.false_eq_true, ↓reduceIte, List.map_cons, List.mem_cons, hne', false_or]
      rw [keys_insert k v acc]
      split <;> simp

theorem mem_insert {k : String} {v : Json} : ∀ {acc : List (String × Json)} {x : String × Json},
    x ∈ Json.insert k v acc → x = (k, v) ∨ x ∈ acc
  | [], x, h => by simp only [Json.insert, List.mem_singleton] at h; exact .inl h
  | (k', v') :: rest, x, h => by
    rw [Json.insert] at h
    split at h
    · rcases List.mem_cons.mp h with h | h
      · exact .inl h
      · exact .inr (List.mem_cons_of_mem _ h)
    · rcases List.mem_cons.mp h with h | h
      · exact .inr (by rw [h]; simp)
      · rcases mem_insert h with h | h
        · exact .inl h
        · exact .inr (List.mem_cons_of_mem _ h)

theorem foldl_insert_keys : ∀ (kvs acc : List (String × Json)), (acc.map (·.1)).Nodup →
    ((kvs.foldl (fun acc (kv : String × Json) => Json.insert kv.1 kv.2 acc) acc).map (·.1)).Nodup ∧
    ∀ k, k ∈ (kvs.foldl (fun acc (kv : String × Json) => Json.insert kv.1 kv.2 acc) acc).map (·.1) ↔
      k ∈ acc.map (·.1) ∨ k ∈ kvs.map (·.1)
  | [], acc, h => by simp [h]
  | (k, v) :: kvs, acc, h => by
    have hstep : ((Json.insert k v acc).map (·.1)).Nodup ∧
        ∀ x, x ∈ (Json.insert k v acc).map (·.1) ↔ x ∈ acc.map (·.1) ∨ x = k := by
      rw [keys_insert]
      split
      · rename_i hm
        refine ⟨h, fun x => ⟨Or.inl, ?_⟩⟩
        rintro (hx | rfl)
        · exact hx
        · exact hm
      · rename_i hm
        refine ⟨?_, fun x => by simp⟩
        rw [List.nodup_append]
        refine ⟨h, by simp, ?_⟩
        intro a ha b hb
        simp only [List.mem_singleton] at hb
        subst hb
        intro hab
        exact hm (hab ▸ ha)
    obtain ⟨ih1, ih2⟩ := foldl_insert_keys kvs (Json.insert k v acc) hstep.1
    refine ⟨ih1, fun x => ?_⟩
    rw [List.foldl_cons, ih2 x, hstep.2 x]
    simp only [List.map_cons, List.mem_cons]
    constructor
    · rintro ((h | h) | h)
      · exact Or.inl h
      · exact Or.inr (Or.inl h)
      · exact Or.inr (Or.inr h)
    · rintro (h | h | h)
      · exact Or.inl (Or.inl h)
      · exact Or.inl (Or.inr h)
      · exact Or.inr h

theorem mem_foldl_insert : ∀ (kvs acc : List (String × Json)) (x : String × Json),
    x ∈ kvs.foldl (fun acc (kv : String × Json) => Json.insert kv.1 kv.2 acc) acc → x ∈ kvs ∨ x ∈ acc
  | [], _, _, h => .inr h
  | kv :: kvs, acc, x, h => by
    rcases mem_foldl_insert kvs _ x h with h | h
    · exact .inl (List.mem_cons_of_mem _ h)
    · rcases mem_insert h with h | h
      · exact .inl (by rw [h]; simp)
      · exact .inr h

/-- a `serde_json::Map` never holds a key twice … -/
theorem normObj_keys_nodup (kvs : List (String × Json)) : ((Json.normObj kvs).map (·.1)).Nodup :=
  (foldl_insert_keys kvs [] List.nodup_nil).1

/-- … holds exactly the keys that were inserted … -/
theorem mem_normObj_keys (kvs : List (String × Json)) (k : String) :
    k ∈ (Json.normObj kvs).map (·.1) ↔ k ∈ kvs.map (·.1) := by
  have := (foldl_insert_keys kvs [] List.nodup_nil).2 k
  simpa [Json.normObj] using this

/-- … and only entries that were inserted -/
theorem mem_normObj {kvs : List (String × Json)} {x : String × Json} (h : x ∈ Json.normObj kvs) : x ∈ kvs := by
  rcases mem_foldl_insert kvs [] x h with h | h
  · exact h
  · simp at h

theorem insert_of_not_mem (k : String) (v : Json) :
    ∀ (acc : List (String × Json)), k ∉ acc.map (·.1) → Json.insert k v acc = acc ++ [(k, v)]
  | [], _ => rfl
  | (k', v') :: acc, h => by
    simp only [List.map_cons, List.mem_cons, not_or] at h
    have hne : (k' == k) = false := by simpa using fun heq => h.1 heq.symm
    simp only [Json.insert, hne, Bool.false_eq_true, ↓reduceIte, List.cons_append, insert_of_not_mem k v acc h.2]

theorem foldl_insert_of_nodup :
    ∀ (kvs acc : List (String × Json)), ((acc ++ kvs).map (·.1)).Nodup →
      kvs.foldl (fun acc (kv : String × Json) => Json.insert kv.1 kv.2 acc) acc = acc ++ kvs
  | [], acc, _ => by simp
  | (k, v) :: kvs, acc, h => by
    have hk : k ∉ acc.map (·.1) := by
      simp only [List.map_append, List.map_cons, List.nodup_append, List.nodup_cons, List.mem_cons] at h
      intro hmem
      exact h.2.2 k hmem k (Or.inl rfl) rfl
    rw [List.foldl_cons, insert_of_not_mem k v acc hk,
      foldl_insert_of_nodup kvs (acc ++ [(k, v)]) (by simpa [List.append_assoc] using h)]
    simp [List.append_assoc]

/-- `serde_json::Map` collapsing is the identity on entries with pairwise distinct keys -/
theorem normObj_of_nodup (kvs : List (String × Json)) (h : (kvs.map (·.1)).Nodup) : Json.normObj kvs = kvs := by
  have := foldl_insert_of_nodup kvs [] (by simpa using h)
  simpa [Json.normObj] using this

theorem keys_normKvs : ∀ kvs : List (String × Json), (normKvs kvs).map (·.1) = kvs.map (·.1)
  | [] => rfl
  | (k, v) :: rest => by rw [normKvs, List.map_cons, List.map_cons, keys_normKvs rest]

theorem mem_normKvs : ∀ {L : List (String × Json)} {k : String} {v' : Json}, (k, v') ∈ normKvs L →
    ∃ w, (k, w) ∈ L ∧ v' = normJson w
  | [], _, _, h => by simp [normKvs] at h
  | (k1, w1) :: rest, k, v', h => by
    rw [normKvs] at h
    rcases List.mem_cons.mp h with h | h
    · simp only [Prod.mk.injEq] at h
      exact ⟨w1, by rw [h.1]; simp, h.2⟩
    · obtain ⟨w, hw, hv⟩ := mem_normKvs h
      exact ⟨w, List.mem_cons_of_mem _ hw, hv⟩

/-! ## `deFlat`, `Env.find` -/

/-- `Box` costs the reader of a flattened member one unit of fuel and nothing else -/
theorem deFlat_box (e : Env) (fuel : Nat) (t : RTy) (buf : Buf) :
    deFlat e (fuel + 1) (.box t) buf = deFlat e fuel t buf := by
  rw [deFlat]

theorem env_find_spec {e : Env} {p : String} {it : Item} (h : e.find p = some it) : it ∈ e.items ∧ it.name = p := by
  unfold Env.find at h
  exact ⟨List.mem_of_find?_eq_some h, by simpa using List.find?_some h⟩

end SerdeFuel
end GqlVerif
