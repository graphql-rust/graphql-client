import GqlVerif.Proofs.C01NestedAbsE
import GqlVerif.Proofs.C01NestedGenSchema
import GqlVerif.Proofs.C01VariantSpreadEval
import GqlVerif.Proofs.SpecEval
/-!
# `NestedGenOp`: the instance, all hypotheses evaluated; a necessity witness

Schema `ngSchema` (`interface Animal { name }`, `type Dog implements Animal { name barks age tricks }`, `type Cat implements
Animal { name lives }`, `type Query { animal }`);

    fragment Inner on Dog { tricks }
    fragment Outer on Dog { age ...Inner }
    query Q { animal { __typename name ...Outer } }

* the operation is in `NestedGenOp` and not in `NestedAbsOp` (an interface-level field next to the nested spread), nor in
  `VariantSpreadOp` / `MixedOp2` / `NestedOp`;
* the emitted types: `struct Qanimal { name, #[serde(flatten)] on: QanimalOn }`, `enum QanimalOn { Dog(QanimalOnDog), Cat }`
  tagged by `__typename`, `type QanimalOnDog = Outer`, `struct Outer { age, #[serde(flatten)] Inner }`, `struct Inner { tricks }`;
* every hypothesis of `nestedgen_roundtrip` by `decide +kernel`; the concrete round trip;
* `nestedgen_poskeys_needed`: the new part of `absTagOk` (no selected fragment reads the key of an interface-level field of
  its position) is necessary — a conforming response the emitted types reject.
-/

namespace GqlVerif
namespace C01NG
open Serde Spec C13 C03 Codegen C01 C01.E2E C01M C01N C01NA

/-- `animal { __typename name ...Outer }` -/
def ngAnimal : List Sel := [.typename, .field none 1 [], .spread 1]

abbrev CG : Ctx := ngCtx ngAge ngAnimal
abbrev OG : ROperation := ngOp ngAnimal

def ngItems : List Item := okOr (responseForQuery CG 0)

theorem ng_gen : responseForQuery CG 0 = .ok ngItems := gen_of_isOk (by decide +kernel)
theorem ng_class : NestedGenOp CG OG = true := by decide +kernel
/-- not in `NestedAbsOp`, nor in the earlier classes -/
theorem ng_not_A : NestedAbsOp CG OG = false := by decide +kernel
theorem ng_not_N : NestedOp CG OG = false := by decide +kernel
theorem ng_not_M2 : MixedOp2 CG OG = false := by decide +kernel
theorem ng_not_S : VariantSpreadOp CG OG = false := by decide +kernel

theorem ng_names : fragNamesOk CG = true := by decide +kernel
theorem ng_keys : nestedGenKeysOk CG OG = true := by decide +kernel
theorem ng_tag : absTagOk CG OG = true := by decide +kernel
theorem ng_side : nestedGenSideOk CG OG = true := by decide +kernel
theorem ng_ok : moduleOk CG ngItems = true := by decide +kernel

/-- `nestedgen_items_shape` on the instance -/
theorem ng_items : responseItems CG OG = .ok (bodyItemsA CG "ResponseData" "Q" OG.sels) :=
  nestedgen_items_shape _ _ (by simp [ngCtx, ngQuery]) ng_class

/-- the emitted types -/
theorem ng_items_shape :
    ((moduleEnv CG ngItems).find "Qanimal" ==
      some (.struct "Qanimal" ["Deserialize"] (some "::serde")
        [{ rust := "name", ty := .path "String" },
         { rust := "on", ty := .path "QanimalOn", flatten := true }])) &&
    ((moduleEnv CG ngItems).find "QanimalOn" ==
      some (.tagged "QanimalOn" ["Deserialize"] (some "::serde") "__typename"
        [{ name := "Dog", payload := some (.path "QanimalOnDog") }, { name := "Cat" }])) &&
    ((moduleEnv CG ngItems).find "QanimalOnDog" == some (.alias "QanimalOnDog" true (.path "Outer"))) &&
    ((moduleEnv CG ngItems).find "Outer" ==
      some (.struct "Outer" ["Deserialize"] (some "::serde")
        [{ rust := "age", ty := .opt (.path "Int") },
         { rust := "Inner", ty := .path "Inner", flatten := true }])) &&
    ((moduleEnv CG ngItems).find "Inner" ==
      some (.struct "Inner" ["Deserialize"] (some "::serde")
        [{ rust := "tricks", ty := .opt (.path "Int") }])) = true := by
  decide +kernel

def ngJson : Json :=
  .obj [("animal", .obj [("tricks", .int 3), ("__typename", .str "Dog"), ("name", .str "Rex"), ("age", .int 7)])]

def ngJsonCat : Json :=
  .obj [("animal", .obj [("name", .str "Tom"), ("__typename", .str "Cat")])]

theorem ng_conforms : conformsOpN CG OG ngJson = true := by
  rw [conformsOpN, conformsV_eq_K]
  decide +kernel
theorem ng_conforms_cat : conformsOpN CG OG ngJsonCat = true := by
  rw [conformsOpN, conformsV_eq_K]
  decide +kernel

/-- C03 on the module: what `ResponseData` accepts, exactly -/
theorem ng_precise (j : Json) :
    okB (Serde.de (moduleEnv CG ngItems) (.path "ResponseData") j) =
      conformsLooseA (wholeN CG 2) ngSchema (ngQuery ngAge ngAnimal) {} false OG.sels j :=
  nestedgen_precise_iff CG 0 OG ngItems rfl ng_class ng_names ng_keys ng_gen ng_ok j

/-- `nestedgen_accepts` on the instance -/
theorem ng_accepts : ∃ v, Serde.de (moduleEnv CG ngItems) (.path "ResponseData") ngJson = .ok v :=
  nestedgen_accepts CG 0 OG ngItems rfl ng_class ng_names ng_keys ng_tag ng_gen ng_ok ngJson ng_conforms

/-- `nestedgen_roundtrip` on the instance, the canonical form still symbolic -/
theorem ng_roundtrip_canon :
    Serde.roundtrip (moduleEnv CG ngItems) (.path "ResponseData") ngJson =
      .ok (normJson (canonSelA (centN CG 2) ngSchema (ngQuery ngAge ngAnimal) {} OG.sels ngJson)) :=
  nestedgen_roundtrip CG 0 OG ngItems rfl ng_class ng_names ng_keys ng_tag ng_side ng_gen ng_ok ngJson ng_conforms

/-- **the concrete round trip**, by evaluation of the model: the struct writes the interface-level field `name`, the
    flattened tagged enum the tag entry, then `Outer`'s own entry `age`, then the entry `tricks` of the fragment `Inner`
    spread in `Outer`'s body -/
theorem ng_roundtrip_eval :
    (match Serde.roundtrip (moduleEnv CG ngItems) (.path "ResponseData") ngJson with
     | .ok (.obj [("animal", .obj [("name", .str "Rex"), ("__typename", .str "Dog"), ("age", .int 7), ("tricks", .int 3)])]) =>
       true
     | _ => false) = true := by decide +kernel

theorem ng_roundtrip_cat_eval :
    (match Serde.roundtrip (moduleEnv CG ngItems) (.path "ResponseData") ngJsonCat with
     | .ok (.obj [("animal", .obj [("name", .str "Tom"), ("__typename", .str "Cat")])]) => true
     | _ => false) = true := by decide +kernel

/-- … hence the canonical form of `nestedgen_roundtrip` is that value -/
theorem ng_canon_value :
    (match (Except.ok (normJson (canonSelA (centN CG 2) ngSchema (ngQuery ngAge ngAnimal) {} OG.sels ngJson)) : D Json) with
     | .ok (.obj [("animal", .obj [("name", .str "Rex"), ("__typename", .str "Dog"), ("age", .int 7), ("tricks", .int 3)])]) =>
       true
     | _ => false) = true := by
  rw [← ng_roundtrip_canon]; exact ng_roundtrip_eval

/-! ## necessity of the new part of `absTagOk`

    fragment Outer on Dog { name ...Inner }        -- reads the key of the interface-level field `name`
    query Q { animal { __typename name ...Outer } }

`Qanimal` consumes the entry `name`; the flattened `on` (and so `Outer`) never sees it. -/

/-- `name` -/
def ngName : Sel := .field none 1 []
abbrev CK : Ctx := ngCtx ngName ngAnimal
def nkItems : List Item := okOr (responseForQuery CK 0)
theorem nk_gen : responseForQuery CK 0 = .ok nkItems := gen_of_isOk (by decide +kernel)
theorem nk_class : NestedGenOp CK OG = true := by decide +kernel
theorem nk_names : fragNamesOk CK = true := by decide +kernel
theorem nk_keys : nestedGenKeysOk CK OG = true := by decide +kernel
theorem nk_ok : moduleOk CK nkItems = true := by decide +kernel
theorem nk_tag : absTagOk CK OG = false := by decide +kernel

def nkJson : Json :=
  .obj [("animal", .obj [("tricks", .int 3), ("__typename", .str "Dog"), ("name", .str "Rex")])]

theorem nk_conforms : conformsOpN CK OG nkJson = true := by
  rw [conformsOpN, conformsV_eq_K]
  decide +kernel

/-- **`absTagOk` is necessary**: every other hypothesis of `nestedgen_accepts` holds, the response conforms, and the emitted
    `ResponseData` rejects it -/
theorem nestedgen_poskeys_needed :
    NestedGenOp CK OG = true ∧ fragNamesOk CK = true ∧ nestedGenKeysOk CK OG = true ∧
      moduleOk CK nkItems = true ∧ conformsOpN CK OG nkJson = true ∧
      okB (Serde.de (moduleEnv CK nkItems) (.path "ResponseData") nkJson) = false :=
  ⟨nk_class, nk_names, nk_keys, nk_ok, nk_conforms, by decide +kernel⟩

end C01NG
end GqlVerif
