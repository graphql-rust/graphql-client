import GqlVerif.Proofs.C02CompleteFrontends
import GqlVerif.Proofs.C12Items
/-!
# C12 — the standing hypotheses `InputsWf`, `MentionsFaithful` discharged from the front-ends

`C12I.input_items_acyclic` / `C12.dfs_complete` assume `InputsWf c.s` (input type names pairwise distinct, `TypeId.input`
ids of input fields in range) and `MentionsFaithful c`.  Here, for ARBITRARY documents (no rendering hypothesis; type
extensions, duplicate names of other kinds, unknown definitions … allowed):

* `Sdl.fromSdl doc = .ok s → (sdlInputNames doc).Nodup → InputsWf s` (`fromSdl_inputsWf`), from the closed forms
  `s.inputs.map (·.name) = sdlInputNames doc` and "every other type name of `s` is a built-in scalar or the name of a
  scalar / enum / union / interface / object definition of `doc`"; the same for `Intro.fromIntro` / `Intro.fromJson`
  (`introInputNames`: the names of the `INPUT_OBJECT` entries, in order);
* `MentionsFaithful c` from the decidable name-level `noCollision`: after normalization (`fieldType`) no other type name,
  and no other input's name, is mentioned under the item name (`keywordReplace ∘ inputName`) of an input
  (`mentionsFaithful_of_noCollision`);
* so `input_items_acyclic_of_sdl` and its siblings have hypotheses on the document (and the options) only.

Both hypotheses are needed: `dup_input_not_wf`, `dup_input_intro_not_wf` (a duplicate `input B`: the front-end succeeds,
`InputsWf` is false), `kw_collision` (`noCollision` false on the document of `C12I.mentionsFaithful_needed`).
-/
namespace GqlVerif
namespace C12FE
open Codegen C12Graph C12I C07 C02Frontends

/-! ## the invariant of both front-ends -/

/-- the names of the non-input types of a schema -/
def otherNames (s : Schema) : List String :=
  s.scalars ++ s.enums.map (·.name) ++ s.objects.map (·.name) ++ s.interfaces.map (·.name) ++ s.unions.map (·.name)

/-- `K` bounds every input id of the name table and of the fields of the stored inputs; `A` contains every non-input
    type name -/
structure Inv (K : Nat) (A : List String) (s : Schema) : Prop where
  names : ∀ x ∈ s.names, ∀ i, x.2 = .input i → i < K
  fields : ∀ inp ∈ s.inputs, ∀ f ∈ inp.fields, ∀ i, f.2.id = .input i → i < K
  other : ∀ n ∈ otherNames s, n ∈ A

/-- `s'` differs from `s` at most in its `fields` and roots -/
def Same (s s' : Schema) : Prop :=
  s'.names = s.names ∧ s'.inputs = s.inputs ∧ s'.scalars = s.scalars ∧ s'.enums = s.enums ∧
  s'.objects = s.objects ∧ s'.interfaces = s.interfaces ∧ s'.unions = s.unions

theorem Same.refl (s : Schema) : Same s s := ⟨rfl, rfl, rfl, rfl, rfl, rfl, rfl⟩

theorem Same.trans {a b c : Schema} (h1 : Same a b) (h2 : Same b c) : Same a c := by
  obtain ⟨a1, a2, a3, a4, a5, a6, a7⟩ := h1
  obtain ⟨b1, b2, b3, b4, b5, b6, b7⟩ := h2
  exact ⟨b1.trans a1, b2.trans a2, b3.trans a3, b4.trans a4, b5.trans a5, b6.trans a6, b7.trans a7⟩

theorem Same.pushField (s : Schema) (f : StoredField) : Same s (s.pushField f).1 := ⟨rfl, rfl, rfl, rfl, rfl, rfl, rfl⟩

theorem Same.otherNames {s s' : Schema} (h : Same s s') : otherNames s' = otherNames s := by
  obtain ⟨_, _, a3, a4, a5, a6, a7⟩ := h
  simp only [C12FE.otherNames, a3, a4, a5, a6, a7]

/-- the invariant survives a step that keeps the name table and the inputs and adds only names of `A` -/
theorem Inv.step {K : Nat} {A : List String} {s s' : Schema} (hI : Inv K A s) (hn : s'.names = s.names)
    (hi : s'.inputs = s.inputs) (ho : ∀ n ∈ otherNames s', n ∈ otherNames s ∨ n ∈ A) : Inv K A s' :=
  ⟨hn ▸ hI.names, hi ▸ hI.fields, fun n hn' => (ho n hn').elim (hI.other n) id⟩

theorem Inv.same {K : Nat} {A : List String} {s s' : Schema} (hI : Inv K A s) (h : Same s s') : Inv K A s' :=
  hI.step h.1 h.2.1 (fun _ hn => .inl (h.otherNames ▸ hn))

theorem findTypeId_bound {K : Nat} {A : List String} {s : Schema} (hI : Inv K A s) {n : String} {t : TypeId}
    (h : s.findTypeId n = .ok t) {i : Nat} (ht : t = .input i) : i < K := by
  unfold Schema.findTypeId Schema.findType at h
  split at h
  · rename_i t' hg
    simp only [pure, Except.pure, Except.ok.injEq] at h
    subst h
    exact hI.names _ (C02Complete.namesGet_mem hg) i ht
  · cases h

theorem resolveFieldType_bound {K : Nat} {A : List String} {s : Schema} (hI : Inv K A s) {t : GTy} {ft : FieldType}
    (h : resolveFieldType s t = .ok ft) {i : Nat} (ht : ft.id = .input i) : i < K := by
  unfold resolveFieldType at h
  obtain ⟨id, hid, h⟩ := C02.bind_ok h
  simp only [pure, Except.pure, Except.ok.injEq] at h
  subst h
  exact findTypeId_bound hI hid ht

/-- inserting a non-input entry keeps the bound -/
theorem names_insert_bound {K : Nat} {l : List (String × TypeId)} (h : ∀ x ∈ l, ∀ i, x.2 = .input i → i < K)
    (k : String) (v : TypeId) (hv : ∀ i, v = .input i → i < K) :
    ∀ x ∈ namesInsert k v l, ∀ i, x.2 = .input i → i < K := by
  intro x hx i hi
  rcases mem_namesInsert hx with rfl | hx
  · exact hv i hi
  · exact h x hx i hi

theorem insAll_bound {K : Nat} {ps l : List (String × TypeId)} (h : ∀ x ∈ l, ∀ i, x.2 = .input i → i < K)
    (hp : ∀ x ∈ ps, ∀ i, x.2 = .input i → i < K) : ∀ x ∈ insAll ps l, ∀ i, x.2 = .input i → i < K := by
  intro x hx
  rcases mem_insAll hx with hx | hx
  · exact hp x hx
  · exact h x hx

theorem pairsFrom_bound (mk : Nat → TypeId) (ns : List String) (K : Nat)
    (hmk : ∀ j i, j < ns.length → mk j = .input i → i < K) :
    ∀ x ∈ pairsFrom mk ns 0, ∀ i, x.2 = .input i → i < K := by
  intro x hx i hi
  obtain ⟨j, _, hj, hid⟩ := mem_pairsFrom_range mk ns 0 x.1 x.2 hx
  exact hmk j i (by omega) (hid ▸ hi)

theorem schema_new_inv (K : Nat) (A : List String) (hA : ∀ n ∈ Schema.defaultScalars, n ∈ A) : Inv K A Schema.new := by
  rw [schema_new]
  refine ⟨?_, fun inp h => (by cases h), ?_⟩
  · exact insAll_bound (fun x h => (by cases h)) (pairsFrom_bound _ _ _ (fun j i _ h => (by cases h)))
  · intro n hn
    simp only [otherNames, List.map_nil, List.append_nil] at hn
    exact hA n hn

/-! ## SDL -/

def sdlInputPick : SdlDef → Option String
  | .input n _ _ => some n
  | _ => none

def sdlOtherPick : SdlDef → Option String
  | .scalar n => some n
  | .enum n _ => some n
  | .union n _ => some n
  | .interface n _ => some n
  | .object n _ _ => some n
  | _ => none

/-- the names of the `input` definitions of the document, in order -/
def sdlInputNames (doc : SdlDoc) : List String := doc.filterMap sdlInputPick

/-- the built-in scalars and the names of the scalar / enum / union / interface / object definitions -/
def sdlOtherNames (doc : SdlDoc) : List String := Schema.defaultScalars ++ doc.filterMap sdlOtherPick

theorem sdlInputNames_eq (doc : SdlDoc) :
    Sdl.namesOfKind doc (fun | .input n _ _ => some n | _ => none) = sdlInputNames doc := by
  unfold Sdl.namesOfKind sdlInputNames
  congr 1

theorem sdl_ingestFields_same (parent : FieldParent) : ∀ (fs : List SdlField) (s s' : Schema) (ids : List Nat),
    Sdl.ingestFields s parent fs = .ok (s', ids) → Same s s'
  | [], s, s', ids, h => by
    simp only [Sdl.ingestFields, pure, Except.pure, Except.ok.injEq, Prod.mk.injEq] at h
    rw [← h.1]; exact Same.refl s
  | f :: fs, s, s', ids, h => by
    rw [Sdl.ingestFields] at h
    obtain ⟨ty, _, h⟩ := C02.bind_ok h
    obtain ⟨⟨s2, ids2⟩, hr, h⟩ := C02.bind_ok h
    simp only [pure, Except.pure, Except.ok.injEq, Prod.mk.injEq] at h
    rw [← h.1]
    exact (Same.pushField s _).trans (sdl_ingestFields_same parent fs _ _ _ hr)

theorem mem_otherNames {s : Schema} {n : String} : n ∈ otherNames s ↔
    n ∈ s.scalars ∨ (∃ e ∈ s.enums, e.name = n) ∨ (∃ o ∈ s.objects, o.name = n) ∨
    (∃ i ∈ s.interfaces, i.name = n) ∨ (∃ u ∈ s.unions, u.name = n) := by
  simp only [otherNames, List.mem_append, List.mem_map, or_assoc]

/-- a step that adds at most the name `n0 ∈ A` to the non-input names -/
theorem other_step {s s' : Schema} {A : List String} {n0 : String} (hn0 : n0 ∈ A)
    (h1 : ∀ m ∈ s'.scalars, m ∈ s.scalars ∨ m = n0)
    (h2 : ∀ m ∈ s'.enums.map (·.name), m ∈ s.enums.map (·.name) ∨ m = n0)
    (h3 : ∀ m ∈ s'.objects.map (·.name), m ∈ s.objects.map (·.name) ∨ m = n0)
    (h4 : ∀ m ∈ s'.interfaces.map (·.name), m ∈ s.interfaces.map (·.name) ∨ m = n0)
    (h5 : ∀ m ∈ s'.unions.map (·.name), m ∈ s.unions.map (·.name) ∨ m = n0) :
    ∀ n ∈ otherNames s', n ∈ otherNames s ∨ n ∈ A := by
  intro n hn
  simp only [otherNames, List.mem_append] at hn ⊢
  rcases hn with (((hn | hn) | hn) | hn) | hn
  · rcases h1 n hn with h | rfl
    · exact .inl (.inl (.inl (.inl (.inl h))))
    · exact .inr hn0
  · rcases h2 n hn with h | rfl
    · exact .inl (.inl (.inl (.inl (.inr h))))
    · exact .inr hn0
  · rcases h3 n hn with h | rfl
    · exact .inl (.inl (.inl (.inr h)))
    · exact .inr hn0
  · rcases h4 n hn with h | rfl
    · exact .inl (.inl (.inr h))
    · exact .inr hn0
  · rcases h5 n hn with h | rfl
    · exact .inl (.inr h)
    · exact .inr hn0

theorem mem_map_snoc {α : Type} (f : α → String) (l : List α) (x : α) (m : String)
    (h : m ∈ (l ++ [x]).map f) : m ∈ l.map f ∨ m = f x := by
  simp only [List.map_append, List.mem_append, List.map_cons, List.map_nil, List.mem_singleton] at h
  exact h

theorem scalar_other {s : Schema} {A : List String} {name : String} (names' : List (String × TypeId)) (hn : name ∈ A)
    (hI : ∀ n ∈ otherNames s, n ∈ A) :
    ∀ m ∈ otherNames { s with scalars := s.scalars ++ [name], names := names' }, m ∈ A := by
  intro m hm
  exact (other_step (s := s) (s' := { s with scalars := s.scalars ++ [name], names := names' }) hn
    (fun m h => by simp only [List.mem_append, List.mem_singleton] at h; exact h)
    (fun _ h => .inl h) (fun _ h => .inl h) (fun _ h => .inl h) (fun _ h => .inl h) m hm).elim (hI m) id

/-- an enum is added (the name table may change) -/
theorem enum_other {s : Schema} {A : List String} (e : StoredEnum) (names' : List (String × TypeId)) (hn : e.name ∈ A)
    (hI : ∀ n ∈ otherNames s, n ∈ A) :
    ∀ m ∈ otherNames { s with enums := s.enums ++ [e], names := names' }, m ∈ A := by
  intro m hm
  exact (other_step (s := s) (s' := { s with enums := s.enums ++ [e], names := names' }) hn
    (fun _ h => .inl h) (fun m h => mem_map_snoc _ _ _ m h)
    (fun _ h => .inl h) (fun _ h => .inl h) (fun _ h => .inl h) m hm).elim (hI m) id

/-- `match o with | some x => pure x | none => panic' _` followed by a continuation: the `none` branch fails -/
macro "kill_panic" h:ident : tactic =>
  `(tactic| cases $h:ident)

/-- **one `ingestDef` step** keeps the invariant; only pass 6 on an `input` definition touches the inputs: it appends one
    input with that name -/
theorem sdl_step {K : Nat} {A : List String} {p : Nat} {s s' : Schema} {d : SdlDef}
    (h : Sdl.ingestDef p s d = .ok s') (hA : ∀ n, sdlOtherPick d = some n → n ∈ A) (hI : Inv K A s) :
    Inv K A s' ∧
    s'.inputs.map (·.name) = s.inputs.map (·.name) ++ (if p = 6 then (sdlInputPick d).toList else []) := by
  unfold Sdl.ingestDef at h
  split at h
  · -- pass 0, scalar
    rename_i n
    simp only [pure, Except.pure, Except.ok.injEq] at h
    subst h
    refine ⟨⟨?_, hI.fields, ?_⟩, by simp [Sdl.ingestScalar, Schema.pushScalar]⟩
    · exact names_insert_bound hI.names _ _ (fun i hi => by cases hi)
    · exact scalar_other _ (hA n rfl) hI.other
  · -- pass 1, enum
    rename_i n vs
    simp only [pure, Except.pure, Except.ok.injEq] at h
    subst h
    exact ⟨hI.step rfl rfl (other_step (hA n rfl) (fun _ h => .inl h) (fun m h => mem_map_snoc _ _ _ m h)
      (fun _ h => .inl h) (fun _ h => .inl h) (fun _ h => .inl h)), by simp⟩
  · -- pass 2, union
    rename_i n ts
    obtain ⟨vs, _, h⟩ := C02.bind_ok h
    simp only [pure, Except.pure, Except.ok.injEq] at h
    subst h
    exact ⟨hI.step rfl rfl (other_step (hA n rfl) (fun _ h => .inl h) (fun _ h => .inl h)
      (fun _ h => .inl h) (fun _ h => .inl h) (fun m h => mem_map_snoc _ _ _ m h)), by simp⟩
  · -- pass 3, interface
    rename_i n fs
    obtain ⟨x, _, h⟩ := C02.bind_ok h
    split at h
    · obtain ⟨id, _, h⟩ := C02.bind_ok h
      obtain ⟨⟨s1, ids⟩, hf, h⟩ := C02.bind_ok h
      simp only [pure, Except.pure, Except.ok.injEq] at h
      subst h
      have hs := sdl_ingestFields_same _ _ _ _ _ hf
      exact ⟨(hI.same hs).step rfl rfl (other_step (hA n rfl) (fun _ h => .inl h) (fun _ h => .inl h)
        (fun _ h => .inl h) (fun m h => mem_map_snoc _ _ _ m h) (fun _ h => .inl h)), by simp [hs.2.1]⟩
    · kill_panic h
  · -- pass 4, object
    rename_i n impls fs
    obtain ⟨x, _, h⟩ := C02.bind_ok h
    split at h
    · obtain ⟨id, _, h⟩ := C02.bind_ok h
      obtain ⟨⟨s1, ids⟩, hf, h⟩ := C02.bind_ok h
      obtain ⟨ifs, _, h⟩ := C02.bind_ok h
      simp only [pure, Except.pure, Except.ok.injEq] at h
      subst h
      have hs := sdl_ingestFields_same _ _ _ _ _ hf
      exact ⟨(hI.same hs).step rfl rfl (other_step (hA n rfl) (fun _ h => .inl h) (fun _ h => .inl h)
        (fun m h => mem_map_snoc _ _ _ m h) (fun _ h => .inl h) (fun _ h => .inl h)), by simp [hs.2.1]⟩
    · kill_panic h
  · -- pass 5, type extension
    rename_i n impls fs
    obtain ⟨x, _, h⟩ := C02.bind_ok h
    split at h
    · obtain ⟨id, _, h⟩ := C02.bind_ok h
      obtain ⟨⟨s1, ids⟩, hf, h⟩ := C02.bind_ok h
      obtain ⟨ifs, _, h⟩ := C02.bind_ok h
      have hs := sdl_ingestFields_same _ _ _ _ _ hf
      split at h
      · cases h
      · rename_i o ho
        simp only [pure, Except.pure, Except.ok.injEq] at h
        subst h
        refine ⟨(hI.same hs).step rfl rfl (fun m hm => .inl ?_), by simp [hs.2.1]⟩
        rw [mem_otherNames] at hm ⊢
        rcases hm with hm | hm | ⟨u, hu, rfl⟩ | hm | hm
        · exact .inl hm
        · exact .inr (.inl hm)
        · refine .inr (.inr (.inl ?_))
          rcases List.mem_or_eq_of_mem_set hu with hu | rfl
          · exact ⟨u, hu, rfl⟩
          · exact ⟨o, List.mem_of_getElem? ho, rfl⟩
        · exact .inr (.inr (.inr (.inl hm)))
        · exact .inr (.inr (.inr (.inr hm)))
    · kill_panic h
  · -- pass 6, input
    rename_i n dirs fs
    obtain ⟨fields, hfs, h⟩ := C02.bind_ok h
    simp only [pure, Except.pure, Except.ok.injEq] at h
    subst h
    refine ⟨⟨hI.names, ?_, hI.other⟩, by simp [sdlInputPick]⟩
    intro inp hinp f hf i hi
    rcases List.mem_append.mp hinp with hinp | hinp
    · exact hI.fields inp hinp f hf i hi
    · simp only [List.mem_singleton] at hinp
      subst hinp
      obtain ⟨x, _, ty, hty, rfl⟩ := C02.mapM_bind_pure_mem hfs f hf
      exact resolveFieldType_bound hI hty hi
  · -- every other combination: nothing happens
    rename_i hne
    simp only [pure, Except.pure, Except.ok.injEq] at h
    subst h
    refine ⟨hI, ?_⟩
    split
    · rename_i hp
      subst hp
      cases d <;> first | exact (hne _ _ _ rfl rfl).elim | simp [sdlInputPick]
    · simp

theorem sdl_pass {K : Nat} {A : List String} (p : Nat) : ∀ (l : SdlDoc) (s s' : Schema),
    Sdl.ingestPass p s l = .ok s' → (∀ d ∈ l, ∀ n, sdlOtherPick d = some n → n ∈ A) → Inv K A s →
    Inv K A s' ∧ s'.inputs.map (·.name) = s.inputs.map (·.name) ++ (if p = 6 then sdlInputNames l else [])
  | [], s, s', h, _, hI => by
    simp only [Sdl.ingestPass, List.foldlM_nil, pure, Except.pure, Except.ok.injEq] at h
    subst h
    refine ⟨hI, ?_⟩
    split <;> simp [sdlInputNames]
  | d :: l, s, s', h, hA, hI => by
    simp only [Sdl.ingestPass, List.foldlM_cons] at h
    obtain ⟨s1, h1, h⟩ := C02.bind_ok h
    obtain ⟨hI1, e1⟩ := sdl_step h1 (hA d List.mem_cons_self) hI
    obtain ⟨hI2, e2⟩ := sdl_pass p l s1 s' h (fun d' hd' => hA d' (List.mem_cons_of_mem _ hd')) hI1
    refine ⟨hI2, ?_⟩
    rw [e2, e1]
    split
    · simp only [sdlInputNames, List.filterMap_cons, List.append_assoc]
      cases sdlInputPick d <;> simp
    · simp

/-- **the closed form of what `Sdl.fromSdl` returns about inputs and names**, for ANY document -/
theorem fromSdl_facts {doc : SdlDoc} {s : Schema} (h : Sdl.fromSdl doc = .ok s) :
    Inv (sdlInputNames doc).length (sdlOtherNames doc) s ∧ s.inputs.map (·.name) = sdlInputNames doc := by
  unfold Sdl.fromSdl at h
  have hA : ∀ d ∈ doc, ∀ n, sdlOtherPick d = some n → n ∈ sdlOtherNames doc := by
    intro d hd n hn
    unfold sdlOtherNames
    exact List.mem_append_right _ (List.mem_filterMap.mpr ⟨d, hd, hn⟩)
  have h0 : Inv (sdlInputNames doc).length (sdlOtherNames doc) (Sdl.populateNames Schema.new doc) ∧
      (Sdl.populateNames Schema.new doc).inputs = [] := by
    have hnew := schema_new_inv (sdlInputNames doc).length (sdlOtherNames doc)
      (fun n hn => List.mem_append_left _ hn)
    refine ⟨⟨?_, ?_, ?_⟩, ?_⟩
    · unfold Sdl.populateNames
      simp only [zipIdx_foldl_eq']
      refine insAll_bound (insAll_bound (insAll_bound (insAll_bound (insAll_bound hnew.names ?_) ?_) ?_) ?_) ?_
      · exact pairsFrom_bound _ _ _ (fun j i _ h => by cases h)
      · exact pairsFrom_bound _ _ _ (fun j i _ h => by cases h)
      · exact pairsFrom_bound _ _ _ (fun j i _ h => by cases h)
      · exact pairsFrom_bound _ _ _ (fun j i _ h => by cases h)
      · exact pairsFrom_bound _ _ _ (fun j i hj h => by cases h; exact hj)
    · exact hnew.fields
    · exact hnew.other
    · rw [show (Sdl.populateNames Schema.new doc).inputs = Schema.new.inputs from rfl, schema_new]
  obtain ⟨hI, hin⟩ := h0
  obtain ⟨s0, hp0, h⟩ := C02.bind_ok h
  obtain ⟨s1, hp1, h⟩ := C02.bind_ok h
  obtain ⟨s2, hp2, h⟩ := C02.bind_ok h
  obtain ⟨s3, hp3, h⟩ := C02.bind_ok h
  obtain ⟨s4, hp4, h⟩ := C02.bind_ok h
  obtain ⟨s5, hp5, h⟩ := C02.bind_ok h
  obtain ⟨s6, hp6, h⟩ := C02.bind_ok h
  obtain ⟨hI0, e0⟩ := sdl_pass 0 doc _ _ hp0 hA hI
  obtain ⟨hI1, e1⟩ := sdl_pass 1 doc _ _ hp1 hA hI0
  obtain ⟨hI2, e2⟩ := sdl_pass 2 doc _ _ hp2 hA hI1
  obtain ⟨hI3, e3⟩ := sdl_pass 3 doc _ _ hp3 hA hI2
  obtain ⟨hI4, e4⟩ := sdl_pass 4 doc _ _ hp4 hA hI3
  obtain ⟨hI5, e5⟩ := sdl_pass 5 doc _ _ hp5 hA hI4
  obtain ⟨hI6, e6⟩ := sdl_pass 6 doc _ _ hp6 hA hI5
  have hnames : s6.inputs.map (·.name) = sdlInputNames doc := by
    rw [e6, e5, e4, e3, e2, e1, e0, hin]
    simp
  have hfin : ∀ q m sub, Inv (sdlInputNames doc).length (sdlOtherNames doc)
      { s6 with queryType := q, mutationType := m, subscriptionType := sub } ∧
      ({ s6 with queryType := q, mutationType := m, subscriptionType := sub } : Schema).inputs.map (·.name) =
        sdlInputNames doc :=
    fun q m sub => ⟨hI6.same ⟨rfl, rfl, rfl, rfl, rfl, rfl, rfl⟩, hnames⟩
  split at h
  · simp only [pure, Except.pure, Except.ok.injEq] at h
    subst h
    exact hfin _ _ _
  · simp only [pure, Except.pure, Except.ok.injEq] at h
    subst h
    exact hfin _ _ _

theorem inputsWf_of_inv {K : Nat} {A : List String} {s : Schema} (hI : Inv K A s) (hK : K = s.inputs.length)
    (hnd : (s.inputs.map (·.name)).Nodup) : InputsWf s := by
  simp only [InputsWf, inputsWf, Bool.and_eq_true, decide_eq_true_eq, List.all_eq_true]
  refine ⟨hnd, fun inp hinp f hf => ?_⟩
  cases hfi : f.2.id.asInput? with
  | none => rfl
  | some i =>
    have := hI.fields inp hinp f hf i (asInput?_eq_some.mp hfi)
    simp only [decide_eq_true_eq]
    omega

theorem fromSdl_inputs_names {doc : SdlDoc} {s : Schema} (h : Sdl.fromSdl doc = .ok s) :
    s.inputs.map (·.name) = sdlInputNames doc := (fromSdl_facts h).2

theorem fromSdl_otherNames {doc : SdlDoc} {s : Schema} (h : Sdl.fromSdl doc = .ok s) :
    ∀ n ∈ otherNames s, n ∈ sdlOtherNames doc := (fromSdl_facts h).1.other

/-- **SDL** — for ANY document the SDL front-end accepts: if its `input` definitions have pairwise distinct
    names, the schema satisfies `InputsWf` -/
theorem fromSdl_inputsWf {doc : SdlDoc} {s : Schema} (h : Sdl.fromSdl doc = .ok s)
    (hnd : (sdlInputNames doc).Nodup) : InputsWf s := by
  obtain ⟨hI, hn⟩ := fromSdl_facts h
  refine inputsWf_of_inv hI ?_ (hn ▸ hnd)
  rw [← hn, List.length_map]

/-- … and conversely `InputsWf` of the result forces distinct names: the hypothesis is exactly what is needed -/
theorem fromSdl_inputsWf_iff {doc : SdlDoc} {s : Schema} (h : Sdl.fromSdl doc = .ok s) :
    InputsWf s ↔ (sdlInputNames doc).Nodup :=
  ⟨fun hw => fromSdl_inputs_names h ▸ hw.nodup, fromSdl_inputsWf h⟩

/-! ## introspection -/

/-- the names of the `INPUT_OBJECT` entries, in order -/
def introInputNames (ts : List FullType) : List String := (Intro.ofKind ts "INPUT_OBJECT").filterMap (·.name)

/-- the built-in scalars and the names of all entries that are not `INPUT_OBJECT`s -/
def introOtherNames (ts : List FullType) : List String :=
  Schema.defaultScalars ++ (ts.filter (fun t => t.kind != some "INPUT_OBJECT")).filterMap (·.name)

/-- the entries `fromIntro` works on -/
def introTypesOf (src : Option IntroSchema) : List FullType :=
  match src with
  | some x => (x.types.getD []).filterMap id
  | none => []

theorem expectName_ok {what : String} {t : FullType} {n : String} (h : Intro.expectName what t = .ok n) :
    t.name = some n := by
  unfold Intro.expectName at h
  split at h
  · rename_i m hm
    simp only [pure, Except.pure, Except.ok.injEq] at h
    rw [hm, h]
  · cases h

theorem expectNames_eq {what : String} : ∀ (l : List FullType) (ns : List String),
    l.mapM (Intro.expectName what) = .ok ns → ns = l.filterMap (·.name)
  | [], ns, h => by
    simp only [List.mapM_nil, pure, Except.pure, Except.ok.injEq] at h
    subst h; rfl
  | t :: l, ns, h => by
    rw [List.mapM_cons] at h
    obtain ⟨n, hn, h⟩ := C02.bind_ok h
    obtain ⟨ns', hns, h⟩ := C02.bind_ok h
    simp only [pure, Except.pure, Except.ok.injEq] at h
    subst h
    rw [List.filterMap_cons, expectName_ok hn, expectNames_eq l ns' hns]

theorem fromJsonType_bound {K : Nat} {A : List String} {s : Schema} (hI : Inv K A s) (r : TypeRef) :
    ∀ (ft : FieldType), Intro.fromJsonType s r = .ok ft → ∀ i, ft.id = .input i → i < K := by
  fun_induction Intro.fromJsonType s r with
  | case1 x inner ih =>
    intro ft h i hi
    obtain ⟨r', hr', h⟩ := C02.bind_ok h
    simp only [pure, Except.pure, Except.ok.injEq] at h
    subst h
    exact ih r' hr' i hi
  | case2 x inner ih =>
    intro ft h i hi
    obtain ⟨r', hr', h⟩ := C02.bind_ok h
    simp only [pure, Except.pure, Except.ok.injEq] at h
    subst h
    exact ih r' hr' i hi
  | case3 k name id hg =>
    intro ft h i hi
    simp only [pure, Except.pure, Except.ok.injEq] at h
    subst h
    exact hI.names _ (C02Complete.namesGet_mem hg) i hi
  | case4 => intro ft h; cases h
  | case5 => intro ft h; cases h

theorem intro_ingestFields_same (parent : FieldParent) : ∀ (fs : List IntroField) (s s' : Schema) (ids : List Nat),
    Intro.ingestFields s parent fs = .ok (s', ids) → Same s s'
  | [], s, s', ids, h => by
    simp only [Intro.ingestFields, pure, Except.pure, Except.ok.injEq, Prod.mk.injEq] at h
    rw [← h.1]; exact Same.refl s
  | f :: fs, s, s', ids, h => by
    rw [Intro.ingestFields] at h
    split at h
    · try simp only [pure_bind] at h
      split at h
      · obtain ⟨ty, _, h⟩ := C02.bind_ok h
        obtain ⟨⟨s2, ids2⟩, hr, h⟩ := C02.bind_ok h
        simp only [pure, Except.pure, Except.ok.injEq, Prod.mk.injEq] at h
        rw [← h.1]
        exact (Same.pushField s _).trans (intro_ingestFields_same parent fs _ _ _ hr)
      · kill_panic h
    · kill_panic h

theorem intro_scalar_step {K : Nat} {A : List String} {s s' : Schema} {t : FullType}
    (h : Intro.ingestScalar s t = .ok s') (hA : ∀ n, t.name = some n → n ∈ A) (hI : Inv K A s) :
    Inv K A s' ∧ s'.inputs = s.inputs := by
  unfold Intro.ingestScalar at h
  obtain ⟨name, hn, h⟩ := C02.bind_ok h
  simp only [pure, Except.pure, Except.ok.injEq] at h
  subst h
  refine ⟨⟨?_, hI.fields, ?_⟩, rfl⟩
  · exact names_insert_bound hI.names _ _ (fun i hi => by cases hi)
  · exact scalar_other _ (hA name (expectName_ok hn)) hI.other

theorem intro_enum_step {K : Nat} {A : List String} {s s' : Schema} {t : FullType}
    (h : Intro.ingestEnum s t = .ok s') (hA : ∀ n, t.name = some n → n ∈ A) (hI : Inv K A s) :
    Inv K A s' ∧ s'.inputs = s.inputs := by
  unfold Intro.ingestEnum at h
  obtain ⟨name, hn, h⟩ := C02.bind_ok h
  split at h
  · try simp only [pure_bind] at h
    obtain ⟨variants, _, h⟩ := C02.bind_ok h
    simp only [pure, Except.pure, Except.ok.injEq] at h
    subst h
    refine ⟨⟨?_, hI.fields, ?_⟩, rfl⟩
    · exact names_insert_bound hI.names _ _ (fun i hi => by cases hi)
    · exact enum_other _ _ (hA name (expectName_ok hn)) hI.other
  · kill_panic h

theorem intro_iface_step {K : Nat} {A : List String} {s s' : Schema} {t : FullType}
    (h : Intro.ingestInterface s t = .ok s') (hA : ∀ n, t.name = some n → n ∈ A) (hI : Inv K A s) :
    Inv K A s' ∧ s'.inputs = s.inputs := by
  unfold Intro.ingestInterface at h
  obtain ⟨name, hn, h⟩ := C02.bind_ok h
  obtain ⟨x, _, h⟩ := C02.bind_ok h
  simp only [] at h
  split at h
  · try simp only [pure_bind] at h
    split at h
    · obtain ⟨⟨s1, ids⟩, hf, h⟩ := C02.bind_ok h
      simp only [pure, Except.pure, Except.ok.injEq] at h
      subst h
      have hs := intro_ingestFields_same _ _ _ _ _ hf
      exact ⟨(hI.same hs).step rfl rfl (other_step (hA name (expectName_ok hn)) (fun _ h => .inl h)
        (fun _ h => .inl h) (fun _ h => .inl h) (fun m h => mem_map_snoc _ _ _ m h) (fun _ h => .inl h)), hs.2.1⟩
    · kill_panic h
  · kill_panic h

theorem intro_object_step {K : Nat} {A : List String} {s s' : Schema} {t : FullType}
    (h : Intro.ingestObject s t = .ok s') (hA : ∀ n, t.name = some n → n ∈ A) (hI : Inv K A s) :
    Inv K A s' ∧ s'.inputs = s.inputs := by
  unfold Intro.ingestObject at h
  obtain ⟨name, hn, h⟩ := C02.bind_ok h
  obtain ⟨x, _, h⟩ := C02.bind_ok h
  simp only [] at h
  split at h
  · try simp only [pure_bind] at h
    split at h
    · obtain ⟨⟨s1, ids⟩, hf, h⟩ := C02.bind_ok h
      simp only [] at h
      have hs := intro_ingestFields_same _ _ _ _ _ hf
      have fin : ∀ impls : List Nat, Inv K A { s1 with objects := s1.objects ++ [{ name := name, fields := ids, implements := impls }] } ∧
          ({ s1 with objects := s1.objects ++ [{ name := name, fields := ids, implements := impls }] } : Schema).inputs = s.inputs :=
        fun impls => ⟨(hI.same hs).step rfl rfl (other_step (hA name (expectName_ok hn)) (fun _ h => .inl h)
          (fun _ h => .inl h) (fun m h => mem_map_snoc _ _ _ m h) (fun _ h => .inl h) (fun _ h => .inl h)), hs.2.1⟩
      split at h
      · simp only [pure, Except.pure, Except.ok.injEq] at h
        subst h
        exact fin _
      · obtain ⟨impls, _, h⟩ := C02.bind_ok h
        simp only [pure, Except.pure, Except.ok.injEq] at h
        subst h
        exact fin _
    · kill_panic h
  · kill_panic h

theorem intro_union_step {K : Nat} {A : List String} {s s' : Schema} {t : FullType}
    (h : Intro.ingestUnion s t = .ok s') (hA : ∀ n, t.name = some n → n ∈ A) (hI : Inv K A s) :
    Inv K A s' ∧ s'.inputs = s.inputs := by
  unfold Intro.ingestUnion at h
  split at h
  · try simp only [pure_bind] at h
    obtain ⟨variants, _, h⟩ := C02.bind_ok h
    obtain ⟨name, hn, h⟩ := C02.bind_ok h
    simp only [pure, Except.pure, Except.ok.injEq] at h
    subst h
    exact ⟨hI.step rfl rfl (other_step (hA name (expectName_ok hn)) (fun _ h => .inl h) (fun _ h => .inl h)
      (fun _ h => .inl h) (fun _ h => .inl h) (fun m h => mem_map_snoc _ _ _ m h)), rfl⟩
  · kill_panic h

theorem intro_input_step {K : Nat} {A : List String} {ro : Bool} {s s' : Schema} {t : FullType}
    (h : Intro.ingestInput ro s t = .ok s') (hI : Inv K A s) :
    Inv K A s' ∧ s'.inputs.map (·.name) = s.inputs.map (·.name) ++ t.name.toList := by
  unfold Intro.ingestInput at h
  split at h
  · try simp only [pure_bind] at h
    obtain ⟨fields, hfs, h⟩ := C02.bind_ok h
    obtain ⟨name, hn, h⟩ := C02.bind_ok h
    simp only [pure, Except.pure, Except.ok.injEq] at h
    subst h
    refine ⟨⟨hI.names, ?_, hI.other⟩, by simp [expectName_ok hn]⟩
    intro inp hinp f hf i hi
    rcases List.mem_append.mp hinp with hinp | hinp
    · exact hI.fields inp hinp f hf i hi
    · simp only [List.mem_singleton] at hinp
      subst hinp
      obtain ⟨x, _, ty, hty, rfl⟩ := C02.mapM_bind_pure_mem hfs f hf
      exact fromJsonType_bound hI _ _ hty i hi
  · kill_panic h

/-- a fold of steps that keep the invariant and the inputs -/
theorem fold_keep {K : Nat} {A : List String} (f : Schema → FullType → Outcome Schema) : ∀ (l : List FullType)
    (_ : ∀ t ∈ l, ∀ s s', f s t = .ok s' → Inv K A s → Inv K A s' ∧ s'.inputs = s.inputs) (s s' : Schema),
    l.foldlM f s = .ok s' → Inv K A s → Inv K A s' ∧ s'.inputs = s.inputs
  | [], _, s, s', h, hI => by
    simp only [List.foldlM_nil, pure, Except.pure, Except.ok.injEq] at h
    subst h; exact ⟨hI, rfl⟩
  | t :: l, hstep, s, s', h, hI => by
    rw [List.foldlM_cons] at h
    obtain ⟨s1, h1, h⟩ := C02.bind_ok h
    obtain ⟨hI1, e1⟩ := hstep t List.mem_cons_self s s1 h1 hI
    obtain ⟨hI2, e2⟩ := fold_keep f l (fun t' ht' => hstep t' (List.mem_cons_of_mem _ ht')) s1 s' h hI1
    exact ⟨hI2, e2.trans e1⟩

theorem fold_inputs {K : Nat} {A : List String} (ro : Bool) : ∀ (l : List FullType) (s s' : Schema),
    l.foldlM (Intro.ingestInput ro) s = .ok s' → Inv K A s →
    Inv K A s' ∧ s'.inputs.map (·.name) = s.inputs.map (·.name) ++ l.filterMap (·.name)
  | [], s, s', h, hI => by
    simp only [List.foldlM_nil, pure, Except.pure, Except.ok.injEq] at h
    subst h; exact ⟨hI, by simp⟩
  | t :: l, s, s', h, hI => by
    rw [List.foldlM_cons] at h
    obtain ⟨s1, h1, h⟩ := C02.bind_ok h
    obtain ⟨hI1, e1⟩ := intro_input_step h1 hI
    obtain ⟨hI2, e2⟩ := fold_inputs ro l s1 s' h hI1
    refine ⟨hI2, ?_⟩
    rw [e2, e1, List.filterMap_cons]
    cases t.name <;> simp

theorem filterAuxM_mem {α : Type} (f : α → Outcome Bool) : ∀ (l acc r : List α), List.filterAuxM f l acc = .ok r →
    ∀ x ∈ r, x ∈ acc ∨ (x ∈ l ∧ f x = .ok true)
  | [], acc, r, h, x, hx => by
    simp only [List.filterAuxM, pure, Except.pure, Except.ok.injEq] at h
    subst h; exact .inl hx
  | a :: l, acc, r, h, x, hx => by
    simp only [List.filterAuxM] at h
    obtain ⟨b, hb, h⟩ := C02.bind_ok h
    rcases filterAuxM_mem f l _ r h x hx with hx | ⟨hx, hfx⟩
    · cases b with
      | false => exact .inl hx
      | true =>
        rcases List.mem_cons.mp hx with rfl | hx
        · exact .inr ⟨List.mem_cons_self, hb⟩
        · exact .inl hx
    · exact .inr ⟨List.mem_cons_of_mem _ hx, hfx⟩

theorem filterM_mem {α : Type} (f : α → Outcome Bool) (l r : List α) (h : l.filterM f = .ok r) :
    ∀ x ∈ r, x ∈ l ∧ f x = .ok true := by
  unfold List.filterM at h
  obtain ⟨r', hr', h⟩ := C02.bind_ok h
  simp only [pure, Except.pure, Except.ok.injEq] at h
  subst h
  intro x hx
  rcases filterAuxM_mem f l [] r' hr' x (List.mem_reverse.mp hx) with h | h
  · cases h
  · exact h

theorem isCustomScalar_true {t : FullType} (h : Intro.isCustomScalar t = .ok true) : t.kind = some "SCALAR" := by
  unfold Intro.isCustomScalar at h
  split at h
  · rename_i hk
    simpa using hk
  · cases h

theorem mem_introOther {ts : List FullType} {t : FullType} {n : String} (ht : t ∈ ts)
    (hk : t.kind ≠ some "INPUT_OBJECT") (hn : t.name = some n) : n ∈ introOtherNames ts := by
  unfold introOtherNames
  refine List.mem_append_right _ (List.mem_filterMap.mpr ⟨t, List.mem_filter.mpr ⟨ht, ?_⟩, hn⟩)
  simpa using hk

theorem mem_ofKind {ts : List FullType} {k : String} {t : FullType} (h : t ∈ Intro.ofKind ts k) :
    t ∈ ts ∧ t.kind = some k := by
  unfold Intro.ofKind at h
  obtain ⟨h1, h2⟩ := List.mem_filter.mp h
  exact ⟨h1, by simpa using h2⟩

/-- **the closed form of what `Intro.fromIntro` returns about inputs and names**, for ANY introspection value -/
theorem fromIntro_facts {ro : Bool} {src : Option IntroSchema} {s : Schema} (h : Intro.fromIntro ro src = .ok s) :
    Inv (introInputNames (introTypesOf src)).length (introOtherNames (introTypesOf src)) s ∧
    s.inputs.map (·.name) = introInputNames (introTypesOf src) := by
  unfold Intro.fromIntro at h
  cases src with
  | none => kill_panic h
  | some x0 =>
  simp only [pure_bind] at h
  obtain ⟨ts, hts, h⟩ := C02.bind_ok h
  have hts' : introTypesOf (some x0) = ts := by
    unfold Intro.typesOf at hts
    split at hts
    · cases hts
    · rename_i l hl
      simp only [pure, Except.pure, Except.ok.injEq] at hts
      simp [introTypesOf, hl, hts]
  rw [hts']
  obtain ⟨s0, hb, h⟩ := C02.bind_ok h
  obtain ⟨scalars, hsc, h⟩ := C02.bind_ok h
  obtain ⟨s1, h1, h⟩ := C02.bind_ok h
  obtain ⟨s2, h2, h⟩ := C02.bind_ok h
  obtain ⟨s3, h3, h⟩ := C02.bind_ok h
  obtain ⟨s4, h4, h⟩ := C02.bind_ok h
  obtain ⟨s5, h5, h⟩ := C02.bind_ok h
  obtain ⟨s6, h6, h⟩ := C02.bind_ok h
  simp only [pure, Except.pure, Except.ok.injEq] at h
  have hI0 : Inv (introInputNames ts).length (introOtherNames ts) s0 ∧ s0.inputs = [] := by
    have hnew := schema_new_inv (introInputNames ts).length (introOtherNames ts)
      (fun n hn => List.mem_append_left _ hn)
    unfold Intro.buildNames at hb
    obtain ⟨n1, hn1, hb⟩ := C02.bind_ok hb
    obtain ⟨n2, hn2, hb⟩ := C02.bind_ok hb
    obtain ⟨n3, hn3, hb⟩ := C02.bind_ok hb
    obtain ⟨n4, hn4, hb⟩ := C02.bind_ok hb
    simp only [pure, Except.pure, Except.ok.injEq] at hb
    subst hb
    obtain ⟨ns1, _, hn1⟩ := C02.bind_ok hn1
    obtain ⟨ns2, _, hn2⟩ := C02.bind_ok hn2
    obtain ⟨ns3, _, hn3⟩ := C02.bind_ok hn3
    obtain ⟨ns4, hm4, hn4⟩ := C02.bind_ok hn4
    simp only [pure, Except.pure, Except.ok.injEq, zipIdx_foldl_eq'] at hn1 hn2 hn3 hn4
    subst hn1 hn2 hn3 hn4
    have hlen : ns4.length = (introInputNames ts).length := by
      rw [expectNames_eq _ _ hm4]; rfl
    refine ⟨⟨?_, hnew.fields, hnew.other⟩, by rw [schema_new]⟩
    refine insAll_bound (insAll_bound (insAll_bound (insAll_bound hnew.names ?_) ?_) ?_) ?_
    · exact pairsFrom_bound _ _ _ (fun j i _ h => by cases h)
    · exact pairsFrom_bound _ _ _ (fun j i _ h => by cases h)
    · exact pairsFrom_bound _ _ _ (fun j i _ h => by cases h)
    · exact pairsFrom_bound _ _ _ (fun j i hj h => by cases h; omega)
  obtain ⟨hI0, hin0⟩ := hI0
  have hA : ∀ k, k ≠ "INPUT_OBJECT" → ∀ t ∈ Intro.ofKind ts k, ∀ n, t.name = some n → n ∈ introOtherNames ts := by
    intro k hk t ht n hn
    obtain ⟨h1, h2⟩ := mem_ofKind ht
    exact mem_introOther h1 (by rw [h2]; simpa using hk) hn
  obtain ⟨hI1, e1⟩ := fold_keep Intro.ingestScalar scalars (fun t ht s s' hst hI =>
    intro_scalar_step hst (fun n hn => by
      obtain ⟨h1, h2⟩ := filterM_mem _ _ _ hsc t ht
      exact mem_introOther h1 (by rw [isCustomScalar_true h2]; decide) hn) hI) _ _ h1 hI0
  obtain ⟨hI2, e2⟩ := fold_keep Intro.ingestEnum _ (fun t ht s s' hst hI =>
    intro_enum_step hst (hA "ENUM" (by decide) t ht) hI) _ _ h2 hI1
  obtain ⟨hI3, e3⟩ := fold_keep Intro.ingestInterface _ (fun t ht s s' hst hI =>
    intro_iface_step hst (hA "INTERFACE" (by decide) t ht) hI) _ _ h3 hI2
  obtain ⟨hI4, e4⟩ := fold_keep Intro.ingestObject _ (fun t ht s s' hst hI =>
    intro_object_step hst (hA "OBJECT" (by decide) t ht) hI) _ _ h4 hI3
  obtain ⟨hI5, e5⟩ := fold_keep Intro.ingestUnion _ (fun t ht s s' hst hI =>
    intro_union_step hst (hA "UNION" (by decide) t ht) hI) _ _ h5 hI4
  obtain ⟨hI6, e6⟩ := fold_inputs ro _ _ _ h6 hI5
  subst h
  refine ⟨hI6.same ⟨rfl, rfl, rfl, rfl, rfl, rfl, rfl⟩, ?_⟩
  show s6.inputs.map (·.name) = _
  rw [e6, e5, e4, e3, e2, e1, hin0]
  rfl

/-- **introspection** — for ANY introspection value `fromIntro` accepts: if the `INPUT_OBJECT` entries have
    pairwise distinct names, the schema satisfies `InputsWf` -/
theorem fromIntro_inputsWf {ro : Bool} {src : Option IntroSchema} {s : Schema} (h : Intro.fromIntro ro src = .ok s)
    (hnd : (introInputNames (introTypesOf src)).Nodup) : InputsWf s := by
  obtain ⟨hI, hn⟩ := fromIntro_facts h
  refine inputsWf_of_inv hI ?_ (hn ▸ hnd)
  rw [← hn, List.length_map]

theorem fromIntro_inputsWf_iff {ro : Bool} {src : Option IntroSchema} {s : Schema}
    (h : Intro.fromIntro ro src = .ok s) : InputsWf s ↔ (introInputNames (introTypesOf src)).Nodup :=
  ⟨fun hw => (fromIntro_facts h).2 ▸ hw.nodup, fromIntro_inputsWf h⟩

/-- the entries of the JSON text of an introspection response -/
def jsonTypesOf (ro : Bool) (j : Json) : List FullType :=
  match Intro.parseIntro ro j with
  | some c => introTypesOf c
  | none => []

theorem fromJson_facts {ro : Bool} {j : Json} {s : Schema} (h : Intro.fromJson ro j = .ok s) :
    Inv (introInputNames (jsonTypesOf ro j)).length (introOtherNames (jsonTypesOf ro j)) s ∧
    s.inputs.map (·.name) = introInputNames (jsonTypesOf ro j) := by
  unfold Intro.fromJson at h
  unfold jsonTypesOf
  split at h
  · cases h
  · rename_i c hc
    rw [hc]
    exact fromIntro_facts h

/-- the same for `Intro.fromJson` (serde decoding, then `fromIntro`) -/
theorem fromJson_inputsWf {ro : Bool} {j : Json} {s : Schema} (h : Intro.fromJson ro j = .ok s)
    (hnd : (introInputNames (jsonTypesOf ro j)).Nodup) : InputsWf s := by
  obtain ⟨hI, hn⟩ := fromJson_facts h
  refine inputsWf_of_inv hI ?_ (hn ▸ hnd)
  rw [← hn, List.length_map]

/-! ## rendering-based forms (as `C02Frontends.schemaWf_fromSdl`) -/

/-- the schema both front-ends build for a well-formed abstract schema satisfies `InputsWf` -/
theorem inputsWf_toSchema (a : AS) (hw : WfAS a) : InputsWf a.toSchema := by
  have hspec := sdl_spec a (sdlOf true a) hw (isSdlOf_sdlOf a true (.inl rfl))
  refine fromSdl_inputsWf hspec ?_
  rw [← fromSdl_inputs_names hspec]
  have : a.toSchema.inputs.map (·.name) = a.inputNames := by
    simp [AS.toSchema, AS.inputNames, storedInput]
  rw [this]
  exact hw.1.sublist (List.sublist_append_right _ _)

theorem inputsWf_of_sdl_rendering (a : AS) (doc : SdlDoc) (hw : WfAS a) (hd : IsSdlOf a doc) :
    ∃ s, Sdl.fromSdl doc = .ok s ∧ InputsWf s :=
  ⟨a.toSchema, sdl_spec a doc hw hd, inputsWf_toSchema a hw⟩

theorem inputsWf_of_intro_rendering (a : AS) (l : List (Option FullType)) (hw : WfAS a)
    (hi : IsIntroOf a (l.filterMap id)) :
    ∃ s, Intro.fromIntro true (some (introSchemaOf a l)) = .ok s ∧ InputsWf s :=
  ⟨a.toSchema, intro_spec a l hw hi, inputsWf_toSchema a hw⟩

/-! ## `MentionsFaithful` from a name-level condition -/

/-- the name under which a type named `tn` is mentioned by a field (`Normalization.fieldType`): `C12I.mention c tn` with
    the context unpacked (definitionally, which `mentionsFaithful_of_noCollision` relies on) -/
def mentionN (o : Options) (cs : CaseFns) (tn : String) : String := o.normalization.fieldType cs tn

/-- the name of the item emitted for the input type named `n` (normalization, then keyword escaping): `C12I.itemName`
    on the name alone -/
def itemNameN (o : Options) (cs : CaseFns) (n : String) : String := keywordReplace (o.normalization.inputName cs n)

/-- **no collision after normalization and keyword escaping** (decidable, on names only): the mention of the `i`-th input
    name is the item name of the `j`-th input only if `i = j`; the mention of any other type name (scalar, enum, object,
    interface, union) is the item name of no input -/
def noCollision (o : Options) (cs : CaseFns) (inputs others : List String) : Bool :=
  inputs.zipIdx.all (fun p => inputs.zipIdx.all (fun q =>
    mentionN o cs p.1 != itemNameN o cs q.1 || p.2 == q.2)) &&
  others.all (fun tn => inputs.all (fun n => mentionN o cs tn != itemNameN o cs n))

theorem typeName_other {s : Schema} {t : TypeId} {tn : String} (h : s.typeName t = .ok tn)
    (ht : ∀ k, t ≠ .input k) : tn ∈ otherNames s := by
  rw [mem_otherNames]
  cases t with
  | object i =>
    obtain ⟨a, ha, hn⟩ := C02.map_ok h
    exact .inr (.inr (.inl ⟨a, List.mem_of_getElem? (C02.getObject_ok ha), hn.symm⟩))
  | scalar i => exact .inl (List.mem_of_getElem? (C02.getScalar_ok h))
  | interface i =>
    obtain ⟨a, ha, hn⟩ := C02.map_ok h
    exact .inr (.inr (.inr (.inl ⟨a, List.mem_of_getElem? (C02.getInterface_ok ha), hn.symm⟩)))
  | union i =>
    obtain ⟨a, ha, hn⟩ := C02.map_ok h
    exact .inr (.inr (.inr (.inr ⟨a, List.mem_of_getElem? (C02.getUnion_ok ha), hn.symm⟩)))
  | enum i =>
    obtain ⟨a, ha, hn⟩ := C02.map_ok h
    exact .inr (.inl ⟨a, List.mem_of_getElem? (C02.getEnum_ok ha), hn.symm⟩)
  | input i => exact absurd rfl (ht i)

/-- `MentionsFaithful c` from the name-level `noCollision` (`ins`: the input names in order, `A`: any list
    containing the other type names of the schema) -/
theorem mentionsFaithful_of_noCollision {c : Ctx} {ins A : List String} (hin : c.s.inputs.map (·.name) = ins)
    (hA : ∀ n ∈ otherNames c.s, n ∈ A) (h : noCollision c.o c.cs ins A = true) : MentionsFaithful c := by
  simp only [noCollision, Bool.and_eq_true, List.all_eq_true, Bool.or_eq_true, bne_iff_ne, ne_eq, beq_iff_eq] at h
  obtain ⟨h1, h2⟩ := h
  unfold MentionsFaithful mentionsFaithful
  simp only [List.all_eq_true]
  intro i _ f _
  split
  · rename_i tn htn
    simp only [List.all_eq_true, Bool.or_eq_true, bne_iff_ne, ne_eq, decide_eq_true_eq]
    rintro ⟨ij, j⟩ hp
    have hj : c.s.inputs[j]? = some ij := by
      rw [List.mem_zipIdx_iff_getElem?] at hp
      simpa using hp
    by_cases hm : mention c tn = itemName c ij
    · refine .inr ?_
      have hjm : (ij.name, j) ∈ ins.zipIdx := by
        rw [List.mem_zipIdx_iff_getElem?, ← hin]
        simp [hj]
      by_cases hk : ∃ k, f.2.id = .input k
      · obtain ⟨k, hk⟩ := hk
        rw [hk] at htn
        obtain ⟨ik, hik, rfl⟩ := C02.typeName_input htn
        have hkm : (ik.name, k) ∈ ins.zipIdx := by
          rw [List.mem_zipIdx_iff_getElem?, ← hin]
          simp [hik]
        rcases h1 _ hkm _ hjm with h | h
        · exact absurd hm h
        · simp only at h
          rw [hk, h]
      · have hto := hA tn (typeName_other htn (fun k hk' => hk ⟨k, hk'⟩))
        have hjn : ij.name ∈ ins := by
          rw [← hin]; exact List.mem_map_of_mem (List.mem_of_getElem? hj)
        exact absurd hm (h2 tn hto ij.name hjn)
    · exact .inl hm
  · rfl

/-! ## end to end: hypotheses on the document only -/

/-- **end to end, SDL** — the input items emitted for ANY document the SDL front-end accepts contain each other by value
    without cycle, provided the `input` definitions have pairwise distinct names and no name collides after normalization
    and keyword escaping.  All hypotheses are about the document (and the options). -/
theorem input_items_acyclic_of_sdl {doc : SdlDoc} {s : Schema} (o : Options) (cs : CaseFns)
    (h : Sdl.fromSdl doc = .ok s) (hnd : (sdlInputNames doc).Nodup)
    (hnc : noCollision o cs (sdlInputNames doc) (sdlOtherNames doc) = true)
    (q : Query) (u : UsedTypes) (items : List Item) (hi : inputItems { s := s, q := q, o := o, cs := cs } u = .ok items) :
    ¬ ∃ a, Relation.TransGen (containsByValue items) a a :=
  input_items_acyclic { s := s, q := q, o := o, cs := cs } u items (fromSdl_inputsWf h hnd)
    (mentionsFaithful_of_noCollision (c := { s := s, q := q, o := o, cs := cs }) (fromSdl_inputs_names h)
      (fromSdl_otherNames h) hnc) hi

/-- the same on the module `responseForQuery` emits -/
theorem module_input_items_acyclic_of_sdl {doc : SdlDoc} {s : Schema} (o : Options) (cs : CaseFns)
    (h : Sdl.fromSdl doc = .ok s) (hnd : (sdlInputNames doc).Nodup)
    (hnc : noCollision o cs (sdlInputNames doc) (sdlOtherNames doc) = true)
    (q : Query) (op : Nat) (items : List Item)
    (hgen : responseForQuery { s := s, q := q, o := o, cs := cs } op = .ok items) :
    ∃ (u : UsedTypes) (pre I post : List Item), allUsedTypes s q op = .ok u ∧
      inputItems { s := s, q := q, o := o, cs := cs } u = .ok I ∧ items = pre ++ I ++ post ∧
      ¬ ∃ a, Relation.TransGen (containsByValue I) a a :=
  responseForQuery_input_items_acyclic { s := s, q := q, o := o, cs := cs } op items (fromSdl_inputsWf h hnd)
    (mentionsFaithful_of_noCollision (c := { s := s, q := q, o := o, cs := cs }) (fromSdl_inputs_names h)
      (fromSdl_otherNames h) hnc) hgen

/-- the same through the introspection front-end -/
theorem input_items_acyclic_of_intro {ro : Bool} {src : Option IntroSchema} {s : Schema} (o : Options) (cs : CaseFns)
    (h : Intro.fromIntro ro src = .ok s) (hnd : (introInputNames (introTypesOf src)).Nodup)
    (hnc : noCollision o cs (introInputNames (introTypesOf src)) (introOtherNames (introTypesOf src)) = true)
    (q : Query) (u : UsedTypes) (items : List Item) (hi : inputItems { s := s, q := q, o := o, cs := cs } u = .ok items) :
    ¬ ∃ a, Relation.TransGen (containsByValue items) a a :=
  input_items_acyclic { s := s, q := q, o := o, cs := cs } u items (fromIntro_inputsWf h hnd)
    (mentionsFaithful_of_noCollision (c := { s := s, q := q, o := o, cs := cs }) (fromIntro_facts h).2
      (fromIntro_facts h).1.other hnc) hi

/-- … and through `Intro.fromJson` -/
theorem input_items_acyclic_of_json {ro : Bool} {j : Json} {s : Schema} (o : Options) (cs : CaseFns)
    (h : Intro.fromJson ro j = .ok s) (hnd : (introInputNames (jsonTypesOf ro j)).Nodup)
    (hnc : noCollision o cs (introInputNames (jsonTypesOf ro j)) (introOtherNames (jsonTypesOf ro j)) = true)
    (q : Query) (u : UsedTypes) (items : List Item) (hi : inputItems { s := s, q := q, o := o, cs := cs } u = .ok items) :
    ¬ ∃ a, Relation.TransGen (containsByValue items) a a :=
  input_items_acyclic { s := s, q := q, o := o, cs := cs } u items (fromJson_inputsWf h hnd)
    (mentionsFaithful_of_noCollision (c := { s := s, q := q, o := o, cs := cs }) (fromJson_facts h).2
      (fromJson_facts h).1.other hnc) hi

/-! ## witnesses -/

/-- `input B { x: Int }  input B { y: B }` -/
def dupDoc : SdlDoc := [.input "B" [] [("x", .named "Int")], .input "B" [] [("y", .named "B")]]

/-- **distinct input names are needed**: the SDL front-end accepts a duplicate `input B`; the schema has two inputs named
    `B` and is not `InputsWf` -/
theorem dup_input_not_wf :
    ∃ s, Sdl.fromSdl dupDoc = .ok s ∧ s.inputs.map (·.name) = ["B", "B"] ∧ ¬ (sdlInputNames dupDoc).Nodup ∧ ¬ InputsWf s := by
  have h : ∃ s, Sdl.fromSdl dupDoc = .ok s := by
    cases hs : Sdl.fromSdl dupDoc with
    | ok s => exact ⟨s, rfl⟩
    | error e =>
      have : (Sdl.fromSdl dupDoc).toOption.isSome = true := by decide +kernel
      rw [hs] at this; cases this
  obtain ⟨s, hs⟩ := h
  have hnd : ¬ (sdlInputNames dupDoc).Nodup := by decide
  exact ⟨s, hs, fromSdl_inputs_names hs, hnd, fun hw => hnd ((fromSdl_inputsWf_iff hs).mp hw)⟩

/-- the same through the introspection front-end -/
def dupIntro : IntroSchema :=
  { queryType := none, mutationType := none, subscriptionType := none,
    types := some [some { kind := some "INPUT_OBJECT", name := some "B", fields := none, inputFields := some [],
                          interfaces := none, enumValues := none, possibleTypes := none },
                   some { kind := some "INPUT_OBJECT", name := some "B", fields := none, inputFields := some [],
                          interfaces := none, enumValues := none, possibleTypes := none }] }

theorem dup_input_intro_not_wf :
    ∃ s, Intro.fromIntro true (some dupIntro) = .ok s ∧ ¬ InputsWf s := by
  have h : ∃ s, Intro.fromIntro true (some dupIntro) = .ok s := by
    cases hs : Intro.fromIntro true (some dupIntro) with
    | ok s => exact ⟨s, rfl⟩
    | error e =>
      have : (Intro.fromIntro true (some dupIntro)).toOption.isSome = true := by decide +kernel
      rw [hs] at this; cases this
  obtain ⟨s, hs⟩ := h
  have hnd : ¬ (introInputNames (introTypesOf (some dupIntro))).Nodup := by decide
  exact ⟨s, hs, fun hw => hnd ((fromIntro_inputsWf_iff hs).mp hw)⟩

/-- `input type { a: A! }  input type_ { }  input A { t: type_! }` (the document of `C12I.mentionsFaithful_needed`) -/
def kwDoc : SdlDoc :=
  [.input "type" [] [("a", .nonNull (.named "A"))], .input "type_" [] [], .input "A" [] [("t", .nonNull (.named "type_"))]]

/-- **`noCollision` is needed**: names pairwise distinct, the front-end succeeds, `InputsWf` holds, `noCollision` fails
    (keyword escaping moves `type` onto `type_`), and the emitted input items contain each other by value in a cycle -/
theorem kw_collision :
    ∃ s, Sdl.fromSdl kwDoc = .ok s ∧ (sdlInputNames kwDoc).Nodup ∧ InputsWf s ∧
      noCollision {} ⟨id, id⟩ (sdlInputNames kwDoc) (sdlOtherNames kwDoc) = false ∧
      ∃ items, inputItems { s := s, q := {}, o := {}, cs := ⟨id, id⟩ } { types := [.input 0, .input 1, .input 2] } = .ok items ∧
        Relation.TransGen (containsByValue items) "type_" "type_" := by
  have hnd : (sdlInputNames kwDoc).Nodup := by decide
  have key : (match Sdl.fromSdl kwDoc with
      | .ok s => (match inputItems { s := s, q := {}, o := {}, cs := ⟨id, id⟩ } { types := [.input 0, .input 1, .input 2] } with
          | .ok items => hasTwoCycle items "type_" "A"
          | .error _ => false)
      | .error _ => false) = true := by decide +kernel
  split at key
  · rename_i s hs
    split at key
    · rename_i items hi
      exact ⟨s, hs, hnd, fromSdl_inputsWf hs hnd, by decide +kernel, items, hi, twoCycle_cycle key⟩
    · cases key
  · cases key

/-- non-vacuity: a document with a recursive input, an `@oneOf` input, an enum, a custom scalar and objects satisfies
    all hypotheses of `input_items_acyclic_of_sdl` (default options, identity case functions, and `normalization = rust`
    with the identity) -/
def okDoc : SdlDoc :=
  [.scalar "Date", .enum "Color" ["RED"], .object "Query" [] [{ name := "x", ty := .named "Int", directives := [] }],
   .input "A" [] [("a", .named "A"), ("l", .list (.named "B")), ("c", .named "Color"), ("d", .named "Date")],
   .input "B" ["oneOf"] [("a", .named "A"), ("n", .named "Int")]]

example : (Sdl.fromSdl okDoc).toOption.isSome = true ∧ (sdlInputNames okDoc).Nodup ∧
    noCollision {} ⟨id, id⟩ (sdlInputNames okDoc) (sdlOtherNames okDoc) = true ∧
    noCollision { normalization := .rust } ⟨id, id⟩ (sdlInputNames okDoc) (sdlOtherNames okDoc) = true := by
  refine ⟨by decide +kernel, by decide, by decide +kernel, by decide +kernel⟩

end C12FE
end GqlVerif
