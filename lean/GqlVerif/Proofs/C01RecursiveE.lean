import GqlVerif.Proofs.C01RecursiveD
/-!
# C01 / C03 end to end, `RecFragmentOp`: a concrete module with a recursive fragment

The hypotheses of `recfragment_items_shape`, `recfragment_accepts`, `recfragment_precise_iff`, `recfragment_lossless`
evaluated on a concrete module: a self-recursive fragment (`Box` on the alias of the lone spread inside its body and
on the flattened members), a non-recursive wrapper reaching it, payloads nested through the recursion.
-/
namespace GqlVerif
namespace C01
namespace E2E
open Serde Spec C03 Codegen

/-! ## a concrete module

`fragment F on Human { name friend { ...F } }` (recursive), `fragment W on Human { friend { ...F height } }` (a
non-recursive wrapper reaching `F`), `query Q { me { ...F height } w: me { ...W } }` -/

def rxSchema : Schema :=
  { objects := [{ name := "Query", fields := [0], implements := [] },
                { name := "Human", fields := [1, 2, 3], implements := [] }]
    fields := [{ name := "me", ty := { id := .object 1, quals := [] }, parent := .object 0, deprecation := none },
               { name := "name", ty := { id := .scalar 1, quals := [.required] }, parent := .object 1, deprecation := none },
               { name := "height", ty := { id := .scalar 3, quals := [] }, parent := .object 1, deprecation := none },
               { name := "friend", ty := { id := .object 1, quals := [] }, parent := .object 1, deprecation := none }]
    scalars := ["ID", "String", "Int", "Float", "Boolean"] }

def rxOp : ROperation :=
  { name := "Q", kind := .query, objectId := 0,
    sels := [.field none 0 [.spread 0, .field none 2 []], .field (some "w") 0 [.spread 1]] }

def rxQuery : Query :=
  { operations := [rxOp]
    fragments := [{ name := "F", on := .object 1, sels := [.field none 1 [], .field none 3 [.spread 0]] },
                  { name := "W", on := .object 1, sels := [.field none 3 [.spread 0, .field none 2 []]] }] }

def rxCtx : Ctx := { s := rxSchema, q := rxQuery, o := {}, cs := ⟨id, id⟩ }

theorem rx_class : RecFragmentOp rxCtx rxOp = true := by decide +kernel
theorem rx_keys : recKeysOk rxCtx rxOp = true := by decide +kernel
theorem rx_rec : fragmentIsRecursive rxQuery 0 = true ∧ fragmentIsRecursive rxQuery 1 = false := by decide +kernel


def rxUsed : UsedTypes := { types := [.scalar 3, .scalar 1, .object 1], fragments := [1, 0] }

theorem rx_used : allUsedTypes rxSchema rxQuery 0 = .ok rxUsed := by rfl

def rxF : RFragment := { name := "F", on := .object 1, sels := [.field none 1 [], .field none 3 [.spread 0]] }
def rxW : RFragment := { name := "W", on := .object 1, sels := [.field none 3 [.spread 0, .field none 2 []]] }

def rxFItems : List Item :=
  .struct "F" rxCtx.respDerives rxCtx.serdeCrate (fieldsOfR rxCtx "F" rxF.sels) :: itemsRs rxCtx "F" rxF.sels
def rxWItems : List Item :=
  .struct "W" rxCtx.respDerives rxCtx.serdeCrate (fieldsOfR rxCtx "W" rxW.sels) :: itemsRs rxCtx "W" rxW.sels

def rxItems : List Item :=
  builtinAliases ++ [] ++ [] ++ [] ++ [.unitStruct "Variables" ["Serialize"] (some "::serde")] ++
    [rxFItems, rxWItems].flatten ++ bodyItemsR rxCtx "ResponseData" "Q" rxOp.sels

theorem rx_frags : (sortNat rxUsed.fragments).mapM (fragmentItems rxCtx) = .ok [rxFItems, rxWItems] := by
  obtain ⟨f0, hf0, e0⟩ := recfragment_struct_shape rxCtx rfl 0 (by decide +kernel)
  obtain ⟨f1, hf1, e1⟩ := recfragment_struct_shape rxCtx rfl 1 (by decide +kernel)
  have : f0 = rxF := by
    have : rxCtx.q.fragments[0]? = some rxF := rfl
    rw [this] at hf0; exact (Option.some.inj hf0).symm
  subst this
  have : f1 = rxW := by
    have : rxCtx.q.fragments[1]? = some rxW := rfl
    rw [this] at hf1; exact (Option.some.inj hf1).symm
  subst this
  have hs : sortNat rxUsed.fragments = [0, 1] := by decide +kernel
  rw [hs]
  simp only [List.mapM_cons, List.mapM_nil, e0, e1, bind, Except.bind, pure, Except.pure]
  rfl

theorem rx_gen : responseForQuery rxCtx 0 = .ok rxItems := by
  have hresp := recfragment_items_shape rxCtx rxOp (by simp [rxCtx, rxQuery]) rx_class
  unfold responseForQuery
  simp only [show rxCtx.s = rxSchema from rfl, show rxCtx.q = rxQuery from rfl, rx_used, bind, Except.bind]
  rw [show scalarItems rxCtx rxUsed = .ok [] from rfl, show enumItems rxCtx rxUsed = .ok [] from rfl]
  simp only [rx_frags]
  rw [show inputItems rxCtx rxUsed = .ok [] from rfl,
    show variablesItems rxCtx 0 = .ok [.unitStruct "Variables" ["Serialize"] (some "::serde")] from rfl]
  simp only []
  rw [show rxQuery.getOperation 0 = .ok rxOp from rfl]
  simp only [hresp]
  rfl

theorem rx_ok : moduleOk rxCtx rxItems = true := by decide +kernel

/-- the emitted module (`#eval rxItems`): `F { name: String, friend: Option<Ffriend> }`, `type Ffriend = Box<F>`,
    `W { friend: Option<Wfriend> }`, `Wfriend { #[serde(flatten)] F: Box<F>, height: Option<Float> }`,
    `ResponseData { me: Option<Qme>, w: Option<Qw> }`, `Qme { #[serde(flatten)] F: Box<F>, height: Option<Float> }`,
    `type Qw = W`.  The alias of the lone recursive spread is boxed … -/
example : (match (moduleEnv rxCtx rxItems).find "Ffriend" with
    | some (.alias _ _ (.box (.path "F"))) => true | _ => false) = true := by decide +kernel
/-- … the flattened member of the recursive fragment is boxed (in the operation and in the wrapper) … -/
example : (match (moduleEnv rxCtx rxItems).find "Qme", (moduleEnv rxCtx rxItems).find "Wfriend" with
    | some (.struct _ _ _ [f, _]), some (.struct _ _ _ [g, _]) =>
      f.flatten && g.flatten && f.ty == .box (.path "F") && g.ty == .box (.path "F")
    | _, _ => false) = true := by decide +kernel
/-- … the alias of the non-recursive wrapper is not -/
example : (match (moduleEnv rxCtx rxItems).find "Qw" with
    | some (.alias _ _ (.path "W")) => true | _ => false) = true := by decide +kernel

/-- two levels of `friend` below `me`, one below `w` -/
def rxJson : Json :=
  .obj [("me", .obj [("name", .str "Luke"), ("height", .num "1.7"),
                     ("friend", .obj [("name", .str "Han"), ("friend", .null)])]),
        ("w", .obj [("friend", .obj [("name", .str "R2"), ("friend", .null), ("height", .null)])])]

theorem rx_size : jsonSize rxJson = 12 := by
  simp [rxJson, jsonSize, kvsSize]

theorem rx_conforms : conformsOpR rxCtx rxOp (2 * jsonSize rxJson) rxJson = true := by
  rw [conformsOpR, conformsV_eq_K]
  decide +kernel

example : ∃ v, Serde.de (moduleEnv rxCtx rxItems) (.path "ResponseData") rxJson = .ok v :=
  recfragment_accepts rxCtx 0 rxOp rxItems rfl rx_class rx_keys rx_gen rx_ok rxJson _ (Nat.le_refl _) rx_conforms

theorem rx_precise (j : Json) :
    okB (Serde.de (moduleEnv rxCtx rxItems) (.path "ResponseData") j) =
      conformsLooseR rxSchema rxQuery {} (jsonSize j) false rxOp.sels j :=
  recfragment_precise_iff rxCtx 0 rxOp rxItems rfl rx_class rx_keys rx_gen rx_ok j

macro "looseR_eval" : tactic => `(tactic|
  simp [conformsLooseR, looseBodyP, looseStructP, looseOwnP, looseMemP, looseArrP, looseFieldP, looseFieldV,
    fragSels, isSpread, rxSchema, rxOp, rxQuery, Json.lookup, accepts, acceptsNN, gtyOf, scalarOk,
    floatOk, stringOk, Json.isNull, nullableQ, countKey, jsonSize, kvsSize])

/-- rejected: the recursive fragment's non-null `name` is missing two levels down -/
example : okB (Serde.de (moduleEnv rxCtx rxItems) (.path "ResponseData")
    (.obj [("me", .obj [("name", .str "a"), ("friend", .obj [("name", .str "b"), ("friend", .obj [("friend", .null)])])])])) = false := by
  rw [rx_precise]; looseR_eval
/-- rejected: a wrong scalar kind behind the boxed flattened member of the wrapper (`w { friend { ...F height } }`) -/
example : okB (Serde.de (moduleEnv rxCtx rxItems) (.path "ResponseData")
    (.obj [("w", .obj [("friend", .obj [("name", .int 3)])])])) = false := by
  rw [rx_precise]; looseR_eval
/-- accepted: `null` ends the recursion anywhere -/
example : okB (Serde.de (moduleEnv rxCtx rxItems) (.path "ResponseData")
    (.obj [("me", .null), ("w", .obj [("friend", .null)])])) = true := by
  rw [rx_precise]; looseR_eval

theorem rx_rust : recRustOk rxCtx rxOp = true := by decide +kernel

/-- the fragment's entries at the position of the spread, at both levels of the recursion; `height` (selected after
    `...F`) last; the absent nullable `friend` of the innermost level is written as `null` -/
def rxCanon : Json :=
  .obj [("me", .obj [("name", .str "Luke"), ("friend", .obj [("name", .str "Han"), ("friend", .null)]),
                     ("height", .num "1.7")]),
        ("w", .obj [("friend", .obj [("name", .str "R2"), ("friend", .null), ("height", .null)])])]

theorem rx_canon : canonR rxCtx.s rxCtx.q rxCtx.o.skipNone (jsonSize rxJson) rxOp.sels rxJson = rxCanon := by
  rw [rx_size]
  simp [canonR, canonBodyP, canonStructP, canonEntriesP, canonOwnP, canonEntryP, canonFieldP, canonFieldV, canon,
    canonNN, gtyOf, fragSels, rxCtx, rxSchema, rxOp, rxQuery, rxJson, rxCanon, Json.lookup, skipQ, Json.isNull]

example : Serde.roundtrip (moduleEnv rxCtx rxItems) (.path "ResponseData") rxJson = .ok rxCanon := by
  rw [← rx_canon]
  exact recfragment_roundtrip rxCtx 0 rxOp rxItems rfl rx_class rx_keys rx_rust rx_gen rx_ok rxJson _ (Nat.le_refl _)
    rx_conforms

/-- **the disjointness hypothesis `recKeysOk` is needed inside fragment bodies too**: with
    `fragment F on Human { name friend { name ...F } }` the key `name` is selected both directly and through the
    recursive fragment one level down; the class side condition fails (the mechanism is `fragment_overlap_loses_key`
    of `C01AbstractHW`: the own field consumes the key before the flattened `Box<F>` sees the buffer) -/
example : recKeysOk
    { rxCtx with q := { rxQuery with fragments :=
        [{ name := "F", on := .object 1, sels := [.field none 1 [], .field none 3 [.field none 1 [], .spread 0]] }] } }
    { rxOp with sels := [.field none 0 [.spread 0]] } = false := by decide +kernel

/-! ## why a fragment body must not spread (transitively) into itself *at the same level*

`fragment F on Human { name ...F }` (no field between the fragment and its own spread) is outside the class
(`fragBodyOk`: no spread at the top level of a fragment body).  The generator accepts it and emits
`struct F { name: String, #[serde(flatten)] F: Box<F> }`; that type rejects the response object `{ "name": … }` a
server executing `CollectFields` (which visits a fragment once) would produce: the outer `F` consumes `name`, the
flattened inner `F` then misses it.  (`null` is still accepted.) -/

def cyQuery : Query :=
  { operations := [{ name := "Q", kind := .query, objectId := 0, sels := [.field none 0 [.spread 0]] }]
    fragments := [{ name := "F", on := .object 1, sels := [.field none 1 [], .spread 0] }] }

def cyCtx : Ctx := { s := rxSchema, q := cyQuery, o := {}, cs := ⟨id, id⟩ }

theorem cy_not_in_class : RecFragmentOp cyCtx { name := "Q", kind := .query, objectId := 0, sels := [.field none 0 [.spread 0]] } = false := by
  decide +kernel

/-- the module `responseForQuery` emits for it rejects `{ "me": { "name": "x" } }` with `missing field name` -/
theorem self_spread_rejects_conforming :
    (match responseForQuery cyCtx 0 with
     | .ok items =>
       (match Serde.de (moduleEnv cyCtx items) (.path "ResponseData") (.obj [("me", .obj [("name", .str "x")])]) with
        | .error (.mismatch "missing field name") => true
        | _ => false)
     | .error _ => false) = true := by decide +kernel

/-! ## mutual recursion is in the class

`fragment A on Human { name friend { ...B } }`, `fragment B on Human { height friend { ...A h: height } }`,
`query Q { me { ...A } }`: both fragments are recursive for the generator (boxed), the operation is in the class and
satisfies the side conditions of all four theorems. -/

def muQuery : Query :=
  { operations := [{ name := "Q", kind := .query, objectId := 0, sels := [.field none 0 [.spread 0]] }]
    fragments := [{ name := "A", on := .object 1, sels := [.field none 1 [], .field none 3 [.spread 1]] },
                  { name := "B", on := .object 1, sels := [.field none 2 [], .field none 3 [.spread 0, .field (some "h") 2 []]] }] }

def muCtx : Ctx := { s := rxSchema, q := muQuery, o := {}, cs := ⟨id, id⟩ }

example : RecFragmentOp muCtx { name := "Q", kind := .query, objectId := 0, sels := [.field none 0 [.spread 0]] } = true ∧
    recKeysOk muCtx { name := "Q", kind := .query, objectId := 0, sels := [.field none 0 [.spread 0]] } = true ∧
    recRustOk muCtx { name := "Q", kind := .query, objectId := 0, sels := [.field none 0 [.spread 0]] } = true ∧
    fragmentIsRecursive muQuery 0 = true ∧ fragmentIsRecursive muQuery 1 = true ∧
    usedFrags muQuery [.field none 0 [.spread 0]] = [0, 1] := by decide +kernel

end E2E
end C01
end GqlVerif
