import GqlVerif.Proofs.C01NestedBI
/-!
# `NestedBOp`: `NestedGen2Op ⊆ NestedBOp`; agreement with `C01NestedGenX*` on `NestedGen2Op`

At a position of `NestedGen2Op` there is no (b)-spread (`noB_of_absSubX`: every spread there is of a fragment on a possible type),
so `unB sub = sub`, `bSels sub = []` and everything `nestedb_roundtrip` mentions is what `nestedgen2_roundtrip` mentions: the closed
form of the items (`bodyItemsA_eq_X`), the exact acceptance predicate (`conformsLooseA_eq_X`), the canonical form
(`canonSelA_eq_X`), the side conditions (`nestedBKeysOk_eq_X`, `absTagOk_eq_X`, `nestedBSideOk_eq_X`).
-/

namespace GqlVerif
namespace C01NB
open Serde Spec C13 C03 Codegen C01 C01.E2E C01M C01N C01NA C01NG C01NX

/-! ## a position of `NestedGen2Op` has no (b)-spread -/

section Core
variable {ok : TypeId → Nat → Bool} {s : Schema} {q : Query} {o : Options}

theorem noB_of_absSubX (hok : OkSpec q ok) {ty : TypeId} (hty : absHyp s ty) {sub : List Sel}
    (h : absSubX ok s q o ty sub = true) : ∀ x ∈ sub, isBSpread q ty x = false := by
  intro x hx
  cases hb : isBSpread q ty x with
  | false => rfl
  | true =>
    obtain ⟨g, f, rfl, hf, hon⟩ := isBSpread_spread hb
    obtain ⟨f', hf', hne⟩ := (absSubX_parts h).spread hok hty hx
    rw [hf] at hf'; cases hf'
    exact absurd hon hne

theorem noB_of_absFieldX (hok : OkSpec q ok) {sf : StoredField} {sub : List Sel}
    (h : absFieldX ok s q o sf sub = true) : ∀ x ∈ sub, isBSpread q sf.ty.id x = false := by
  obtain ⟨_, _, hty, hsub⟩ := absFieldX_parts h
  exact noB_of_absSubX hok hty hsub

theorem bSels_eq_nil {ty : TypeId} {sub : List Sel} (hnb : ∀ x ∈ sub, isBSpread q ty x = false) : bSels q ty sub = [] := by
  unfold bSels
  rw [List.filter_eq_nil_iff]
  intro x hx
  simp [hnb x hx]

theorem absSubB_of_absSubX (hok : OkSpec q ok) {ty : TypeId} (hty : absHyp s ty) {sub : List Sel}
    (h : absSubX ok s q o ty sub = true) : absSubB ok s q o ty sub = true := by
  have hnb := noB_of_absSubX hok hty h
  simp only [absSubB, Bool.and_eq_true, List.all_eq_true]
  refine ⟨by rw [unB_eq_self hnb]; exact h, fun x hx => ?_⟩
  cases x with
  | spread g => simp [bOk, hnb _ hx]
  | field a fid sub' => rfl
  | inline t sub' => rfl
  | typename => rfl

theorem absFieldB_of_absFieldX (hok : OkSpec q ok) {sf : StoredField} {sub : List Sel}
    (h : absFieldX ok s q o sf sub = true) : absFieldB ok s q o sf sub = true := by
  simp only [absFieldX, Bool.and_eq_true] at h
  simp only [absFieldB, Bool.and_eq_true]
  exact ⟨h.1, absSubB_of_absSubX hok (absTyOk_absHyp h.1.2) h.2⟩

theorem fieldsB_eq_fieldsOfV (c : Ctx) (pfx : String) {ty : TypeId} : ∀ {sub : List Sel},
    (∀ x ∈ sub, isBSpread c.q ty x = false) → fieldsB c pfx ty sub = fieldsOfV c pfx sub
  | [], _ => rfl
  | x :: xs, hnb => by
    have ih := fieldsB_eq_fieldsOfV c pfx (ty := ty) (fun y hy => hnb y (List.mem_cons_of_mem _ hy))
    have hx : fieldOfSelB c pfx ty x = fieldOfSelV c pfx x := by
      cases x with
      | spread g =>
        have := hnb _ (List.mem_cons_self)
        cases hf : c.q.fragments[g]? with
        | none => simp [fieldOfSelB, fieldOfSelV, hf]
        | some f =>
          simp only [isBSpread, hf] at this
          simp [fieldOfSelB, fieldOfSelV, hf, this]
      | field a fid sub' => rfl
      | inline t sub' => rfl
      | typename => rfl
    unfold fieldsB fieldsOfV at ih ⊢
    rw [List.filterMap_cons, List.filterMap_cons, ih, hx]

theorem absItemsB_eq_X {c : Ctx} {ty : TypeId} {sub : List Sel} (hnb : ∀ x ∈ sub, isBSpread c.q ty x = false)
    (name pfx : String) : absItemsB c name pfx ty sub = absItemsX c name pfx ty sub := by
  unfold absItemsB absItemsX
  rw [unB_eq_self hnb, fieldsB_eq_fieldsOfV c pfx hnb]

theorem looseAbsB_eq_X {sf : StoredField} {sub : List Sel} (hnb : ∀ x ∈ sub, isBSpread q sf.ty.id x = false)
    (whole : Nat → Bool → Json → Bool) (b : Bool) (v : Json) :
    looseAbsB whole s q o b sf sub v = looseAbsX whole s q o b sf sub v := by
  unfold looseAbsB looseAbsX
  congr 1
  funext j
  cases j <;> simp [looseTagB, looseTagX, bSels_eq_nil hnb, unB_eq_self hnb, looseMemB]

theorem canonEntriesS_ownSels (skip : Bool) (kvs : List (String × Json)) : ∀ (sub : List Sel),
    canonEntriesS s q skip (C01NG.ownSels sub) kvs = canonEntriesS s q skip sub kvs
  | [] => rfl
  | x :: xs => by
    have ih := canonEntriesS_ownSels skip kvs xs
    cases x with
    | field a fid sub' => rw [C01NG.ownSels_cons_field, canonEntriesS.eq_2, canonEntriesS.eq_2, ih]
    | spread g => rw [C01NG.ownSels_cons_other rfl, ih]; simp [canonEntriesS]
    | inline t sub' => rw [C01NG.ownSels_cons_other rfl, ih]; simp [canonEntriesS]
    | typename => rw [C01NG.ownSels_cons_other rfl, ih]; simp [canonEntriesS]

theorem canonEntriesBD_eq_X {ty : TypeId} {sub : List Sel} (hnb : ∀ x ∈ sub, isBSpread q ty x = false)
    (hl : ∀ x ∈ sub, leafSel s q o x = true) (skip : Bool) (rest kvs : List (String × Json)) :
    canonEntriesBD s q skip ty rest sub kvs = canonEntriesS s q skip (C01NG.ownSels sub) kvs := by
  rw [canonEntriesS_ownSels]
  apply canonEntriesBD_eq
  · simp only [noBAt, Bool.not_eq_true', List.any_eq_false]
    intro x hx
    simp [hnb x hx]
  · intro a fid sub' hx v
    have hlf := hl _ hx
    obtain ⟨_, _, _, _, hnil, _⟩ := leafSel_field hlf
    subst hnil
    have hs : sSel s q o true (.field a fid []) = true := by
      simp only [leafSel, Bool.and_eq_true] at hlf
      exact hlf.1
    exact (canonD_noB_sel s q o skip _ true hs (noBSel_leaf hlf)).1 v

theorem canonAbsB_eq_X {sf : StoredField} {sub : List Sel} (hnb : ∀ x ∈ sub, isBSpread q sf.ty.id x = false)
    (hl : ∀ x ∈ sub, leafSel s q o x = true)
    (cent : Nat → List (String × Json) → List (String × Json)) (v : Json) :
    canonAbsB cent s q o sf sub v = canonAbsX cent s q o sf sub v := by
  unfold canonAbsB canonAbsX
  congr 1
  funext j
  cases j with
  | obj kvs =>
    simp only [canonTagB, canonTagX, unB_eq_self hnb, canonEntriesBD_eq_X hnb hl]
    rfl
  | _ => rfl

end Core

mutual
  theorem aSel_of_X {ok : TypeId → Nat → Bool} (s : Schema) (q : Query) (o : Options) (hok : OkSpec q ok) : ∀ (x : Sel) (p : TypeId),
      C01NX.aSel ok s q o p x = true → aSel ok s q o p x = true
    | .field a fid sub, p => by
      intro h
      have IH := aSels_of_X (ok := ok) s q o hok sub
      obtain ⟨sf, hsf⟩ := C01NX.aSel_field_some h
      by_cases hobj : ∃ i, sf.ty.id = .object i
      · obtain ⟨i, hid⟩ := hobj
        obtain ⟨hw, hdep, ho, hb⟩ := C01NX.aSel_obj hsf hid h
        rw [aSel]
        simp only [hsf, hid, hw, hdep, ho, Bool.not_false, Bool.and_self, Bool.true_and]
        by_cases hsp : ∃ g, sub = [Sel.spread g]
        · obtain ⟨g, rfl⟩ := hsp; exact hb
        · have hnl : ∀ g, sub ≠ [Sel.spread g] := fun g hg => hsp ⟨g, hg⟩
          rw [C01NX.aBody_not_lone hnl] at hb
          split
          · exact absurd rfl (hnl _)
          · exact IH _ hb
      · have hno : ∀ i, sf.ty.id ≠ .object i := fun i h => hobj ⟨i, h⟩
        have hs : (sSel s q o false (.field a fid sub) || absFieldB ok s q o sf sub) = true := by
          rcases C01NX.aSel_nonobj hsf hno h with hs | ⟨_, hnew⟩
          · rw [hs]; rfl
          · rw [absFieldB_of_absFieldX hok hnew]; simp
        rw [aSel]
        simp only [hsf]
        simpa using hs
    | .spread g, p => by intro h; rw [C01NX.aSel] at h; rw [aSel]; exact h
    | .inline _ _, _ => by intro h; simp [C01NX.aSel] at h
    | .typename, _ => by intro _; simp [aSel]
  theorem aSels_of_X {ok : TypeId → Nat → Bool} (s : Schema) (q : Query) (o : Options) (hok : OkSpec q ok) : ∀ (sels : List Sel) (p : TypeId),
      C01NX.aSels ok s q o p sels = true → aSels ok s q o p sels = true
    | [], _ => by intro _; rfl
    | x :: xs, p => by
      intro h
      obtain ⟨hx, hxs⟩ := C01NX.aSels_cons h
      rw [aSels, aSel_of_X s q o hok x p hx, aSels_of_X s q o hok xs p hxs]; rfl
end

theorem aBody_of_X {ok : TypeId → Nat → Bool} {s : Schema} {q : Query} {o : Options} {p : TypeId} {sels : List Sel}
    (hok : OkSpec q ok) (h : C01NX.aBody ok s q o p sels = true) : aBody ok s q o p sels = true := by
  by_cases hsp : ∃ g, sels = [Sel.spread g]
  · obtain ⟨g, rfl⟩ := hsp; exact h
  · have hnl : ∀ g, sels ≠ [Sel.spread g] := fun g hg => hsp ⟨g, hg⟩
    rw [C01NX.aBody_not_lone hnl] at h
    rw [aBody_not_lone hnl]
    exact aSels_of_X s q o hok sels p h

/-- **`NestedGen2Op ⊆ NestedBOp`** -/
theorem nestedBOp_of_nestedGen2Op (c : Ctx) (op : ROperation) (h : NestedGen2Op c op = true) : NestedBOp c op = true := by
  obtain ⟨hn, ho, hb⟩ := nestedGen2Op_parts h
  simp only [NestedBOp, Bool.and_eq_true, beq_iff_eq]
  exact ⟨⟨hn, ho⟩, aBody_of_X (fragOkN_spec c.s c.q c.o _) hb⟩

mutual
  theorem itemsA_eq_X {ok : TypeId → Nat → Bool} (c : Ctx) (hok : OkSpec c.q ok) : ∀ (x : Sel) (p : TypeId) (pfx : String),
      C01NX.aSel ok c.s c.q c.o p x = true → itemsA c pfx x = C01NX.itemsA c pfx x
    | .field a fid sub, p, pfx => by
      intro h
      have IH := itemsAs_eq_X (ok := ok) c hok sub
      obtain ⟨sf, hsf⟩ := C01NX.aSel_field_some h
      by_cases hobj : ∃ i, sf.ty.id = .object i
      · obtain ⟨i, hid⟩ := hobj
        obtain ⟨_, _, _, hb⟩ := C01NX.aSel_obj hsf hid h
        rw [itemsA, C01NX.itemsA]
        simp only [hsf, hid]
        by_cases hsp : ∃ g, sub = [Sel.spread g]
        · obtain ⟨g, rfl⟩ := hsp; rfl
        · have hnl : ∀ g, sub ≠ [Sel.spread g] := fun g hg => hsp ⟨g, hg⟩
          rw [C01NX.aBody_not_lone hnl] at hb
          have e1 := IH (.object i) (pfx ++ c.cs.camel (a.getD sf.name)) hb
          split
          · exact absurd rfl (hnl _)
          · split
            · exact absurd rfl (hnl _)
            · rw [e1]
      · have hno : ∀ i, sf.ty.id ≠ .object i := fun i h => hobj ⟨i, h⟩
        rcases C01NX.aSel_nonobj hsf hno h with hs | ⟨hs, hnew⟩
        · rw [itemsA_old c pfx a fid sub sf hsf hno hs, C01NX.itemsA_old c pfx a fid sub sf hsf hno hs]
        · rw [itemsA_new c pfx a fid sub sf hsf hno hs, C01NX.itemsA_new c pfx a fid sub sf hsf hno hs]
          exact absItemsB_eq_X (noB_of_absFieldX hok hnew) _ _
    | .spread g, _, _ => by intro _; simp [itemsA, C01NX.itemsA]
    | .inline _ _, _, _ => by intro _; simp [itemsA, C01NX.itemsA]
    | .typename, _, _ => by intro _; simp [itemsA, C01NX.itemsA]
  theorem itemsAs_eq_X {ok : TypeId → Nat → Bool} (c : Ctx) (hok : OkSpec c.q ok) : ∀ (sels : List Sel) (p : TypeId) (pfx : String),
      C01NX.aSels ok c.s c.q c.o p sels = true → itemsAs c pfx sels = C01NX.itemsAs c pfx sels
    | [], _, _ => by intro _; rfl
    | x :: xs, p, pfx => by
      intro h
      obtain ⟨hx, hxs⟩ := C01NX.aSels_cons h
      rw [itemsAs, C01NX.itemsAs, itemsA_eq_X c hok x p pfx hx, itemsAs_eq_X c hok xs p pfx hxs]
end

/-- on `NestedGen2Op` the closed form is the one of `nestedgen2_items_shape` -/
theorem bodyItemsA_eq_X (c : Ctx) (op : ROperation) (h : NestedGen2Op c op = true) (name pfx : String) :
    bodyItemsA c name pfx op.sels = C01NX.bodyItemsA c name pfx op.sels := by
  obtain ⟨_, _, hb⟩ := nestedGen2Op_parts h
  by_cases hsp : ∃ g, op.sels = [Sel.spread g]
  · obtain ⟨g, hg⟩ := hsp; rw [hg]; rfl
  · have hnl : ∀ g, op.sels ≠ [Sel.spread g] := fun g hg => hsp ⟨g, hg⟩
    rw [C01NX.aBody_not_lone hnl] at hb
    rw [bodyItemsA_not_lone c name pfx hnl, C01NX.bodyItemsA_not_lone c name pfx hnl, itemsAs_eq_X c (fragOkN_spec c.s c.q c.o _) op.sels _ pfx hb]


section Agree
variable {ok : TypeId → Nat → Bool} {s : Schema} {q : Query} {o : Options} (hok : OkSpec q ok)
include hok

/-! ## acceptance -/

set_option linter.unusedSectionVars false
mutual
  theorem looseFieldA_eq_X (whole : Nat → Bool → Json → Bool) (b : Bool) : ∀ (x : Sel) (p : TypeId) (v : Json),
      C01NX.aSel ok s q o p x = true → looseFieldA whole s q o b x v = C01NX.looseFieldA whole s q o b x v
    | .field a fid sub, p, v => by
      intro h
      have IH1 := looseOwnA_eq_X whole b sub
      have IH2 := looseArrA_eq_X whole b sub
      obtain ⟨sf, hsf⟩ := C01NX.aSel_field_some h
      by_cases hobj : ∃ i, sf.ty.id = .object i
      · obtain ⟨i, hid⟩ := hobj
        obtain ⟨_, _, _, hb⟩ := C01NX.aSel_obj hsf hid h
        rw [looseFieldA, C01NX.looseFieldA]
        simp only [hsf, hid]
        by_cases hsp : ∃ g, sub = [Sel.spread g]
        · obtain ⟨g, rfl⟩ := hsp; rfl
        · have hnl : ∀ g, sub ≠ [Sel.spread g] := fun g hg => hsp ⟨g, hg⟩
          rw [C01NX.aBody_not_lone hnl] at hb
          have e1 : ∀ kvs, looseOwnA whole s q o b sub kvs = C01NX.looseOwnA whole s q o b sub kvs :=
            fun kvs => IH1 (.object i) kvs hb
          have e2 : ∀ xs, looseArrA whole s q o b sub xs = C01NX.looseArrA whole s q o b sub xs :=
            fun xs => IH2 (.object i) xs hb
          cases s.objects[i]? with
          | none => rfl
          | some ob =>
            simp only []
            congr 1
            funext j
            cases j <;> simp only [e1, e2]
      · have hno : ∀ i, sf.ty.id ≠ .object i := fun i h => hobj ⟨i, h⟩
        rcases C01NX.aSel_nonobj hsf hno h with hs | ⟨hs, hnew⟩
        · rw [looseFieldA_old hsf hno hs, C01NX.looseFieldA_old hsf hno hs]
        · rw [looseFieldA_new hsf hno hs, C01NX.looseFieldA_new hsf hno hs, looseAbsB_eq_X (noB_of_absFieldX hok hnew)]
    | .spread g, _, _ => by intro _; simp [looseFieldA, C01NX.looseFieldA]
    | .inline _ _, _, _ => by intro _; simp [looseFieldA, C01NX.looseFieldA]
    | .typename, _, _ => by intro _; simp [looseFieldA, C01NX.looseFieldA]
  theorem looseOwnA_eq_X (whole : Nat → Bool → Json → Bool) (b : Bool) : ∀ (sels : List Sel) (p : TypeId)
      (kvs : List (String × Json)), C01NX.aSels ok s q o p sels = true →
      looseOwnA whole s q o b sels kvs = C01NX.looseOwnA whole s q o b sels kvs
    | [], _, _ => by intro _; simp [looseOwnA, C01NX.looseOwnA]
    | x :: xs, p, kvs => by
      intro h
      obtain ⟨hx, hxs⟩ := C01NX.aSels_cons h
      have ih := looseOwnA_eq_X whole b xs p kvs hxs
      cases x with
      | field a fid sub =>
        rw [looseOwnA.eq_2, C01NX.looseOwnA.eq_2, ih]
        cases hsf : s.fields[fid]? with
        | none => rfl
        | some sf =>
          simp only []
          cases Json.lookup (a.getD sf.name) kvs with
          | none => rfl
          | some v => simp only [looseFieldA_eq_X whole b (.field a fid sub) p v hx]
      | spread g => simpa [looseOwnA, C01NX.looseOwnA] using ih
      | inline t sub => simpa [looseOwnA, C01NX.looseOwnA] using ih
      | typename => simpa [looseOwnA, C01NX.looseOwnA] using ih
  theorem looseArrA_eq_X (whole : Nat → Bool → Json → Bool) (b : Bool) : ∀ (sels : List Sel) (p : TypeId)
      (vs : List Json), C01NX.aSels ok s q o p sels = true →
      looseArrA whole s q o b sels vs = C01NX.looseArrA whole s q o b sels vs
    | [], _, _ => by intro _; simp [looseArrA, C01NX.looseArrA]
    | x :: xs, p, vs => by
      intro h
      obtain ⟨hx, hxs⟩ := C01NX.aSels_cons h
      cases x with
      | field a fid sub =>
        cases vs with
        | nil => simp [looseArrA, C01NX.looseArrA]
        | cons v vs' =>
          rw [looseArrA.eq_3, C01NX.looseArrA.eq_3, looseFieldA_eq_X whole b (.field a fid sub) p v hx,
            looseArrA_eq_X whole b xs p vs' hxs]
      | spread g => simpa [looseArrA, C01NX.looseArrA] using looseArrA_eq_X whole b xs p vs hxs
      | inline t sub => simpa [looseArrA, C01NX.looseArrA] using looseArrA_eq_X whole b xs p vs hxs
      | typename => simpa [looseArrA, C01NX.looseArrA] using looseArrA_eq_X whole b xs p vs hxs
end
set_option linter.unusedSectionVars true

/-- **on `NestedGen2Op` the exact acceptance predicate is the one of `nestedgen2_precise_iff`** -/
theorem conformsLooseA_eq_X (whole : Nat → Bool → Json → Bool) (b : Bool) (p : TypeId) (sels : List Sel) (j : Json)
    (h : C01NX.aBody ok s q o p sels = true) :
    conformsLooseA whole s q o b sels j = C01NX.conformsLooseA whole s q o b sels j := by
  by_cases hsp : ∃ g, sels = [Sel.spread g]
  · obtain ⟨g, rfl⟩ := hsp; rfl
  · have hnl : ∀ g, sels ≠ [Sel.spread g] := fun g hg => hsp ⟨g, hg⟩
    rw [C01NX.aBody_not_lone hnl] at h
    rw [conformsLooseA_not_lone hnl, C01NX.conformsLooseA_not_lone hnl]
    cases j <;> simp only [looseOwnA_eq_X hok whole b sels p _ h, looseArrA_eq_X hok whole b sels p _ h]

/-! ## canonical form -/

set_option linter.unusedSectionVars false
mutual
  theorem canonFieldA_eq_X (cent : Nat → List (String × Json) → List (String × Json)) : ∀ (x : Sel) (p : TypeId) (v : Json),
      C01NX.aSel ok s q o p x = true → canonFieldA cent s q o x v = C01NX.canonFieldA cent s q o x v
    | .field a fid sub, p, v => by
      intro h
      have IH := canonEntriesA_eq_X cent sub
      obtain ⟨sf, hsf⟩ := C01NX.aSel_field_some h
      by_cases hobj : ∃ i, sf.ty.id = .object i
      · obtain ⟨i, hid⟩ := hobj
        obtain ⟨_, _, _, hb⟩ := C01NX.aSel_obj hsf hid h
        rw [canonFieldA, C01NX.canonFieldA]
        simp only [hsf, hid]
        by_cases hsp : ∃ g, sub = [Sel.spread g]
        · obtain ⟨g, rfl⟩ := hsp; rfl
        · have hnl : ∀ g, sub ≠ [Sel.spread g] := fun g hg => hsp ⟨g, hg⟩
          rw [C01NX.aBody_not_lone hnl] at hb
          have e1 : ∀ kvs, canonEntriesA cent s q o sub kvs = C01NX.canonEntriesA cent s q o sub kvs :=
            fun kvs => IH (.object i) kvs hb
          rw [canonLambdaA, C01NX.canonLambdaA]
          congr 1
          funext j
          rw [canonSelA_not_lone hnl, C01NX.canonSelA_not_lone hnl]
          cases j <;> simp only [e1]
      · have hno : ∀ i, sf.ty.id ≠ .object i := fun i h => hobj ⟨i, h⟩
        rcases C01NX.aSel_nonobj hsf hno h with hs | ⟨hs, hnew⟩
        · rw [canonFieldA_old hsf hno hs, C01NX.canonFieldA_old hsf hno hs]
        · rw [canonFieldA_new hsf hno hs, C01NX.canonFieldA_new hsf hno hs,
            canonAbsB_eq_X (noB_of_absFieldX hok hnew) (absSubX_parts (absFieldX_parts hnew).2.2.2).leaf]
    | .spread g, _, _ => by intro _; simp [canonFieldA, C01NX.canonFieldA]
    | .inline _ _, _, _ => by intro _; simp [canonFieldA, C01NX.canonFieldA]
    | .typename, _, _ => by intro _; simp [canonFieldA, C01NX.canonFieldA]
  theorem canonEntriesA_eq_X (cent : Nat → List (String × Json) → List (String × Json)) : ∀ (sels : List Sel) (p : TypeId)
      (kvs : List (String × Json)), C01NX.aSels ok s q o p sels = true →
      canonEntriesA cent s q o sels kvs = C01NX.canonEntriesA cent s q o sels kvs
    | [], _, _ => by intro _; simp [canonEntriesA, C01NX.canonEntriesA]
    | x :: xs, p, kvs => by
      intro h
      obtain ⟨hx, hxs⟩ := C01NX.aSels_cons h
      have ih := canonEntriesA_eq_X cent xs p kvs hxs
      cases x with
      | field a fid sub =>
        rw [canonEntriesA.eq_2, C01NX.canonEntriesA.eq_2, ih]
        cases hsf : s.fields[fid]? with
        | none => rfl
        | some sf =>
          simp only []
          cases Json.lookup (a.getD sf.name) kvs with
          | none => rfl
          | some v => simp only [canonFieldA_eq_X cent (.field a fid sub) p v hx]
      | spread g => rw [canonEntriesA.eq_3, C01NX.canonEntriesA.eq_3, ih]
      | inline t sub => simpa [canonEntriesA, C01NX.canonEntriesA] using ih
      | typename => simpa [canonEntriesA, C01NX.canonEntriesA] using ih
end
set_option linter.unusedSectionVars true

/-- **on `NestedGen2Op` the canonical form is the one of `nestedgen2_roundtrip`** -/
theorem canonSelA_eq_X (cent : Nat → List (String × Json) → List (String × Json)) (p : TypeId) (sels : List Sel) (j : Json)
    (h : C01NX.aBody ok s q o p sels = true) :
    canonSelA cent s q o sels j = C01NX.canonSelA cent s q o sels j := by
  by_cases hsp : ∃ g, sels = [Sel.spread g]
  · obtain ⟨g, rfl⟩ := hsp; rfl
  · have hnl : ∀ g, sels ≠ [Sel.spread g] := fun g hg => hsp ⟨g, hg⟩
    rw [C01NX.aBody_not_lone hnl] at h
    rw [canonSelA_not_lone hnl, C01NX.canonSelA_not_lone hnl]
    cases j <;> simp only [canonEntriesA_eq_X hok cent sels p _ h]


/-! ## the lists of spread fragments (`aSpreads`, `aPays`) -/

set_option linter.unusedSectionVars false
mutual
  /-- the spread fragments are the same list -/
  theorem aSpreads_eq_X : ∀ (x : Sel) (p : TypeId), C01NX.aSel ok s q o p x = true →
      aSpreads s q o x = C01NX.aSpreads s q o x
    | .field a fid sub, p => by
      intro h
      have IH := aSpreadss_eq_X sub
      obtain ⟨sf, hsf⟩ := C01NX.aSel_field_some h
      rw [aSpreads, C01NX.aSpreads]
      simp only [hsf]
      by_cases hobj : ∃ i, sf.ty.id = .object i
      · obtain ⟨i, hid⟩ := hobj
        obtain ⟨_, _, _, hb⟩ := C01NX.aSel_obj hsf hid h
        simp only [hid]
        by_cases hsp : ∃ g, sub = [Sel.spread g]
        · obtain ⟨g, rfl⟩ := hsp
          simp [aSpreadss, aSpreads, C01NX.aSpreadss, C01NX.aSpreads]
        · have hnl : ∀ g, sub ≠ [Sel.spread g] := fun g hg => hsp ⟨g, hg⟩
          rw [C01NX.aBody_not_lone hnl] at hb
          exact IH _ hb
      · have hno : ∀ i, sf.ty.id ≠ .object i := fun i h => hobj ⟨i, h⟩
        rcases C01NX.aSel_nonobj hsf hno h with hs | ⟨hs, hnew⟩
        · simp [hs]
        · have hu := unB_eq_self (noB_of_absFieldX hok hnew)
          simp [hs, hu]
    | .spread g, _ => by intro _; simp [aSpreads, C01NX.aSpreads]
    | .inline _ _, _ => by intro _; simp [aSpreads, C01NX.aSpreads]
    | .typename, _ => by intro _; simp [aSpreads, C01NX.aSpreads]
  theorem aSpreadss_eq_X : ∀ (sels : List Sel) (p : TypeId), C01NX.aSels ok s q o p sels = true →
      aSpreadss s q o sels = C01NX.aSpreadss s q o sels
    | [], _ => by intro _; rfl
    | x :: xs, p => by
      intro h
      obtain ⟨hx, hxs⟩ := C01NX.aSels_cons h
      rw [aSpreadss, C01NX.aSpreadss, aSpreads_eq_X x p hx, aSpreadss_eq_X xs p hxs]
end
set_option linter.unusedSectionVars true

set_option linter.unusedSectionVars false
mutual
  /-- the fragments selected at abstract positions, with the keys consumed there, are the same list -/
  theorem aPays_eq_X : ∀ (x : Sel) (p : TypeId), C01NX.aSel ok s q o p x = true →
      aPays s q o x = C01NX.aPays s q o x
    | .field a fid sub, p => by
      intro h
      have IH := aPayss_eq_X sub
      obtain ⟨sf, hsf⟩ := C01NX.aSel_field_some h
      rw [aPays, C01NX.aPays]
      simp only [hsf]
      by_cases hobj : ∃ i, sf.ty.id = .object i
      · obtain ⟨i, hid⟩ := hobj
        obtain ⟨_, _, _, hb⟩ := C01NX.aSel_obj hsf hid h
        simp only [hid]
        by_cases hsp : ∃ g, sub = [Sel.spread g]
        · obtain ⟨g, rfl⟩ := hsp
          simp [aPayss, aPays, C01NX.aPayss, C01NX.aPays]
        · have hnl : ∀ g, sub ≠ [Sel.spread g] := fun g hg => hsp ⟨g, hg⟩
          rw [C01NX.aBody_not_lone hnl] at hb
          exact IH _ hb
      · have hno : ∀ i, sf.ty.id ≠ .object i := fun i h => hobj ⟨i, h⟩
        rcases C01NX.aSel_nonobj hsf hno h with hs | ⟨hs, hnew⟩
        · simp [hs]
        · have hu := unB_eq_self (noB_of_absFieldX hok hnew)
          simp [hs, hu]
    | .spread g, _ => by intro _; simp [aPays, C01NX.aPays]
    | .inline _ _, _ => by intro _; simp [aPays, C01NX.aPays]
    | .typename, _ => by intro _; simp [aPays, C01NX.aPays]
  theorem aPayss_eq_X : ∀ (sels : List Sel) (p : TypeId), C01NX.aSels ok s q o p sels = true →
      aPayss s q o sels = C01NX.aPayss s q o sels
    | [], _ => by intro _; rfl
    | x :: xs, p => by
      intro h
      obtain ⟨hx, hxs⟩ := C01NX.aSels_cons h
      rw [aPayss, C01NX.aPayss, aPays_eq_X x p hx, aPayss_eq_X xs p hxs]
end
set_option linter.unusedSectionVars true

end Agree

/-! ## side conditions and key conditions -/

theorem rustNamesB_noB (c : Ctx) {ty : TypeId} : ∀ {sub : List Sel}, (∀ x ∈ sub, isBSpread c.q ty x = false) →
    rustNamesB c ty sub = rustNames c (C01NG.ownSels sub)
  | [], _ => rfl
  | x :: xs, hnb => by
    have ih := rustNamesB_noB c (ty := ty) (fun y hy => hnb y (List.mem_cons_of_mem _ hy))
    unfold rustNamesB rustNames at ih ⊢
    rw [List.filterMap_cons]
    cases x with
    | field a fid sub' =>
      rw [C01NG.ownSels_cons_field, List.filterMap_cons, ih]; rfl
    | spread g =>
      have := hnb _ (List.mem_cons_self)
      rw [C01NG.ownSels_cons_other rfl, ih]
      cases hf : c.q.fragments[g]? with
      | none => simp [rustNameB, hf]
      | some f =>
        simp only [isBSpread, hf] at this
        simp [rustNameB, hf, this]
    | inline t sub' => rw [C01NG.ownSels_cons_other rfl, ih]; rfl
    | typename => rw [C01NG.ownSels_cons_other rfl, ih]; rfl

mutual
  theorem sideOkSelA_eq_X {ok : TypeId → Nat → Bool} (KN : String → List String) (c : Ctx) (hok : OkSpec c.q ok) :
      ∀ (x : Sel) (p : TypeId),
      C01NX.aSel ok c.s c.q c.o p x = true → sideOkSelA KN c x = C01NX.sideOkSelA KN c x
    | .field a fid sub, p => by
      intro h
      have IH := sideOkSelsA_eq_X (ok := ok) KN c hok sub
      obtain ⟨sf, hsf⟩ := C01NX.aSel_field_some h
      unfold sideOkSelA C01NX.sideOkSelA
      simp only [hsf, Option.map_some]
      by_cases hobj : ∃ i, sf.ty.id = .object i
      · obtain ⟨i, hid⟩ := hobj
        obtain ⟨_, _, _, hb⟩ := C01NX.aSel_obj hsf hid h
        simp only [hid]
        by_cases hsp : ∃ g, sub = [Sel.spread g]
        · obtain ⟨g, rfl⟩ := hsp; rfl
        · have hnl : ∀ g, sub ≠ [Sel.spread g] := fun g hg => hsp ⟨g, hg⟩
          rw [C01NX.aBody_not_lone hnl] at hb
          have e1 := IH _ hb
          split
          · exact absurd rfl (hnl _)
          · split
            · exact absurd rfl (hnl _)
            · rw [e1]
      · have hno : ∀ i, sf.ty.id ≠ .object i := fun i h => hobj ⟨i, h⟩
        rcases C01NX.aSel_nonobj hsf hno h with hs | ⟨hs, hnew⟩
        · cases hid : sf.ty.id with
          | object i => exact absurd hid (hno i)
          | scalar k => simp [hs]
          | «enum» k => simp [hs]
          | interface k => simp [hs]
          | union k => simp [hs]
          | input k => simp [hs]
        · have hnb := noB_of_absFieldX hok hnew
          have hu := unB_eq_self hnb
          have hbn := bSels_eq_nil hnb
          have hrn := rustNamesB_noB c hnb
          cases hid : sf.ty.id with
          | object i => exact absurd hid (hno i)
          | scalar k => rw [hid] at hu hbn hrn; simp [hs, hu, hbn, hrn]
          | «enum» k => rw [hid] at hu hbn hrn; simp [hs, hu, hbn, hrn]
          | interface k => rw [hid] at hu hbn hrn; simp [hs, hu, hbn, hrn]
          | union k => rw [hid] at hu hbn hrn; simp [hs, hu, hbn, hrn]
          | input k => rw [hid] at hu hbn hrn; simp [hs, hu, hbn, hrn]
    | .spread g, _ => by intro _; simp [sideOkSelA, C01NX.sideOkSelA]
    | .inline _ _, _ => by intro _; simp [sideOkSelA, C01NX.sideOkSelA]
    | .typename, _ => by intro _; simp [sideOkSelA, C01NX.sideOkSelA]
  theorem sideOkSelsA_eq_X {ok : TypeId → Nat → Bool} (KN : String → List String) (c : Ctx) (hok : OkSpec c.q ok) :
      ∀ (sels : List Sel)
      (p : TypeId), C01NX.aSels ok c.s c.q c.o p sels = true → sideOkSelsA KN c sels = C01NX.sideOkSelsA KN c sels
    | [], _ => by intro _; rfl
    | x :: xs, p => by
      intro h
      obtain ⟨hx, hxs⟩ := C01NX.aSels_cons h
      rw [sideOkSelsA, C01NX.sideOkSelsA, sideOkSelA_eq_X KN c hok x p hx, sideOkSelsA_eq_X KN c hok xs p hxs]
end

mutual
  theorem keysOkA_eq_X {ok : TypeId → Nat → Bool} (KN : String → List String) (c : Ctx) (hok : OkSpec c.q ok) :
      ∀ (x : Sel) (p : TypeId),
      C01NX.aSel ok c.s c.q c.o p x = true → keysOkA KN c x = C01NX.keysOkA KN c x
    | .field a fid sub, p => by
      intro h
      have IH := keysOksA_eq_X (ok := ok) KN c hok sub
      obtain ⟨sf, hsf⟩ := C01NX.aSel_field_some h
      rw [keysOkA, C01NX.keysOkA]
      simp only [hsf, Option.map_some]
      by_cases hobj : ∃ i, sf.ty.id = .object i
      · obtain ⟨i, hid⟩ := hobj
        obtain ⟨_, _, _, hb⟩ := C01NX.aSel_obj hsf hid h
        simp only [hid]
        by_cases hsp : ∃ g, sub = [Sel.spread g]
        · obtain ⟨g, rfl⟩ := hsp
          simp [keysOksA, keysOkA, C01NX.keysOksA, C01NX.keysOkA]
        · have hnl : ∀ g, sub ≠ [Sel.spread g] := fun g hg => hsp ⟨g, hg⟩
          rw [C01NX.aBody_not_lone hnl] at hb
          rw [IH _ hb]
      · have hno : ∀ i, sf.ty.id ≠ .object i := fun i h => hobj ⟨i, h⟩
        rcases C01NX.aSel_nonobj hsf hno h with hs | ⟨hs, hnew⟩
        · simp [hs]
        · have hu := unB_eq_self (noB_of_absFieldX hok hnew)
          simp [hs, hu]
    | .spread g, _ => by intro _; simp [keysOkA, C01NX.keysOkA]
    | .inline _ _, _ => by intro _; simp [keysOkA, C01NX.keysOkA]
    | .typename, _ => by intro _; simp [keysOkA, C01NX.keysOkA]
  theorem keysOksA_eq_X {ok : TypeId → Nat → Bool} (KN : String → List String) (c : Ctx) (hok : OkSpec c.q ok) :
      ∀ (sels : List Sel)
      (p : TypeId), C01NX.aSels ok c.s c.q c.o p sels = true → keysOksA KN c sels = C01NX.keysOksA KN c sels
    | [], _ => by intro _; rfl
    | x :: xs, p => by
      intro h
      obtain ⟨hx, hxs⟩ := C01NX.aSels_cons h
      rw [keysOksA, C01NX.keysOksA, keysOkA_eq_X KN c hok x p hx, keysOksA_eq_X KN c hok xs p hxs]
end


/-! ## the environment hypothesis -/

/-- without spreads of fragments on the abstract type itself the environment of the position is the one of `NestedGen2Op` -/
theorem envAbsB_eq_X {fenv : Nat → Prop} {e : Env} {c : Ctx} {name : String} {ty : TypeId} {sub : List Sel}
    (hnb : ∀ x ∈ sub, isBSpread c.q ty x = false) :
    EnvAbsB fenv e c name ty sub = EnvAbsX fenv e c name ty sub := by
  unfold EnvAbsB EnvAbsX
  rw [unB_eq_self hnb, fieldsB_eq_fieldsOfV c name hnb, bSels_eq_nil hnb]
  simp [envSelsS]

mutual
  theorem envSelA_eq_X {ok : TypeId → Nat → Bool} (fenv : Nat → Prop) (e : Env) (c : Ctx) (hok : OkSpec c.q ok) :
      ∀ (x : Sel) (p : TypeId) (pfx : String),
      C01NX.aSel ok c.s c.q c.o p x = true → envSelA fenv e c pfx x = C01NX.envSelA fenv e c pfx x
    | .field a fid sub, p, pfx => by
      intro h
      have IH := envSelsA_eq_X (ok := ok) fenv e c hok sub
      obtain ⟨sf, hsf⟩ := C01NX.aSel_field_some h
      rw [envSelA, C01NX.envSelA]
      simp only [hsf]
      by_cases hobj : ∃ i, sf.ty.id = .object i
      · obtain ⟨i, hid⟩ := hobj
        obtain ⟨_, _, _, hb⟩ := C01NX.aSel_obj hsf hid h
        simp only [hid]
        by_cases hsp : ∃ g, sub = [Sel.spread g]
        · obtain ⟨g, rfl⟩ := hsp; rfl
        · have hnl : ∀ g, sub ≠ [Sel.spread g] := fun g hg => hsp ⟨g, hg⟩
          rw [C01NX.aBody_not_lone hnl] at hb
          split
          · exact absurd rfl (hnl _)
          · split
            · exact absurd rfl (hnl _)
            · rw [IH _ _ hb]
      · have hno : ∀ i, sf.ty.id ≠ .object i := fun i h => hobj ⟨i, h⟩
        rcases C01NX.aSel_nonobj hsf hno h with hs | ⟨hs, hnew⟩
        · split
          · exact absurd ‹_› (hno _)
          · simp [hs]
        · have hu := envAbsB_eq_X (fenv := fenv) (e := e) (c := c) (name := pfx ++ c.cs.camel (a.getD sf.name))
            (noB_of_absFieldX hok hnew)
          split
          · exact absurd ‹_› (hno _)
          · simp [hs, hu]
    | .spread g, _, _ => by intro _; simp [envSelA, C01NX.envSelA]
    | .inline _ _, _, _ => by intro _; simp [envSelA, C01NX.envSelA]
    | .typename, _, _ => by intro _; simp [envSelA, C01NX.envSelA]
  theorem envSelsA_eq_X {ok : TypeId → Nat → Bool} (fenv : Nat → Prop) (e : Env) (c : Ctx) (hok : OkSpec c.q ok) :
      ∀ (sels : List Sel) (p : TypeId) (pfx : String),
      C01NX.aSels ok c.s c.q c.o p sels = true → envSelsA fenv e c pfx sels = C01NX.envSelsA fenv e c pfx sels
    | [], _, _ => by intro _; simp [envSelsA, C01NX.envSelsA]
    | x :: xs, p, pfx => by
      intro h
      obtain ⟨hx, hxs⟩ := C01NX.aSels_cons h
      rw [envSelsA, C01NX.envSelsA, envSelA_eq_X fenv e c hok x p pfx hx, envSelsA_eq_X fenv e c hok xs p pfx hxs]
end

/-! ## the operation: its side conditions, and the round trip restricted to `NestedGen2Op` -/

/-- a lone spread or not: the side conditions of a body of `NestedGen2Op` -/
theorem body_agree_X {c : Ctx} {op : ROperation} (h : NestedGen2Op c op = true) :
    (∀ KN, sideOkSelsA KN c op.sels = C01NX.sideOkSelsA KN c op.sels) ∧
      (∀ KN, keysOksA KN c op.sels = C01NX.keysOksA KN c op.sels) ∧
      aSpreadss c.s c.q c.o op.sels = C01NX.aSpreadss c.s c.q c.o op.sels ∧
      aPayss c.s c.q c.o op.sels = C01NX.aPayss c.s c.q c.o op.sels := by
  obtain ⟨_, _, hb⟩ := C01NX.nestedGen2Op_parts h
  have hok := fragOkN_spec c.s c.q c.o c.q.fragments.length
  by_cases hsp : ∃ g, op.sels = [Sel.spread g]
  · obtain ⟨g, hg⟩ := hsp
    rw [hg]
    refine ⟨fun KN => ?_, fun KN => ?_, ?_, ?_⟩
    · simp [sideOkSelsA, sideOkSelA, C01NX.sideOkSelsA, C01NX.sideOkSelA]
    · simp [keysOksA, keysOkA, C01NX.keysOksA, C01NX.keysOkA]
    · simp [aSpreadss, aSpreads, C01NX.aSpreadss, C01NX.aSpreads]
    · simp [aPayss, aPays, C01NX.aPayss, C01NX.aPays]
  · have hnl : ∀ g, op.sels ≠ [Sel.spread g] := fun g hg => hsp ⟨g, hg⟩
    rw [C01NX.aBody_not_lone hnl] at hb
    exact ⟨fun KN => sideOkSelsA_eq_X KN c hok _ _ hb, fun KN => keysOksA_eq_X KN c hok _ _ hb,
      aSpreadss_eq_X hok _ _ hb, aPayss_eq_X hok _ _ hb⟩

theorem nestedBKeysOk_eq_X (c : Ctx) (op : ROperation) (h : NestedGen2Op c op = true) :
    nestedBKeysOk c op = nestedGen2KeysOk c op := by
  unfold nestedBKeysOk nestedGen2KeysOk
  rw [(body_agree_X h).2.2.1, (body_agree_X h).2.1]

theorem nestedBSideOk_eq_X (c : Ctx) (op : ROperation) (h : NestedGen2Op c op = true) :
    nestedBSideOk c op = nestedGen2SideOk c op := by
  unfold nestedBSideOk nestedGen2SideOk
  rw [(body_agree_X h).2.2.1, (body_agree_X h).1]

theorem absTagOk_eq_X (c : Ctx) (op : ROperation) (h : NestedGen2Op c op = true) :
    absTagOk c op = C01NX.absTagOk c op := by
  unfold absTagOk C01NX.absTagOk
  rw [(body_agree_X h).2.2.2]

/-- **the restriction of `nestedb_roundtrip` to `NestedGen2Op`**, under that class's own key and side conditions and with
    its own canonical form (`C01NX.canonSelA`); `nestedgen2_roundtrip` is this theorem -/
theorem nestedb_roundtrip_on_nestedGen2Op (c : Ctx) (opIdx : Nat) (op : ROperation) (items : List Item)
    (hop : c.q.operations[opIdx]? = some op) (ht : NestedGen2Op c op = true) (hnd : fragNamesOk c = true)
    (hk : nestedGen2KeysOk c op = true) (htag : C01NX.absTagOk c op = true) (hr : nestedGen2SideOk c op = true)
    (hgen : responseForQuery c opIdx = .ok items) (hok : moduleOk c items = true)
    (j : Json) (hc : conformsOpN c op j = true) :
    Serde.roundtrip (moduleEnv c items) (.path "ResponseData") j =
      .ok (normJson (C01NX.canonSelA (centN c c.q.fragments.length) c.s c.q c.o op.sels j)) := by
  have h := nestedb_roundtrip c opIdx op items hop (nestedBOp_of_nestedGen2Op c op ht) hnd
    (by rw [nestedBKeysOk_eq_X c op ht]; exact hk) (by rw [absTagOk_eq_X c op ht]; exact htag)
    (by rw [nestedBSideOk_eq_X c op ht]; exact hr) hgen hok j hc
  rw [h, canonSelA_eq_X (fragOkN_spec c.s c.q c.o _) _ _ _ _ (C01NX.nestedGen2Op_parts ht).2.2]

/-- on an operation of `NestedGen2Op` the acceptance predicate of `NestedBOp` is the one of `NestedGen2Op` -/
theorem conformsLooseA_eq_X_op (c : Ctx) (op : ROperation) (ht : NestedGen2Op c op = true)
    (whole : Nat → Bool → Json → Bool) (b : Bool) (j : Json) :
    conformsLooseA whole c.s c.q c.o b op.sels j = C01NX.conformsLooseA whole c.s c.q c.o b op.sels j :=
  conformsLooseA_eq_X (fragOkN_spec c.s c.q c.o _) whole b _ _ j (C01NX.nestedGen2Op_parts ht).2.2

end C01NB
end GqlVerif
