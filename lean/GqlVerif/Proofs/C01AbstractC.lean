import GqlVerif.Proofs.C01AbstractB
/-!
# C01 end to end, `VariantOp` 3/4: losslessness of the emitted types

Scope: the class `VariantOp` of part A.  `canonSelV s skip sels j` / `canonAbsV s skip sub j` are the explicit
functions describing the differences C01 allows between a conforming response and `to_value (from_value j)`:
as `canonSel` on object-level selection sets; at an abstract position the interface-level entries in
selection order, then **`__typename` (kept)**, then the entries of the inline fragment on the type
`__typename` names, in its selection order.  The entry lists are `flatMap`s of per-selection pieces (`canonEntriesV_flat`,
`canonInlV_flat`; `C01EntryLists`).

* `rtStructV` / `rtTagged` — round trip of a struct and of the `__typename`-tagged enum (the known tag selects its own variant);
* `rtAbsV_w` — round trip of the type(s) emitted at an abstract position, stated on the facts a conforming response object
  provides (`abs_conf_facts`), so that it also serves an object that carries other keys than the selected ones (what a flattened
  member for a fragment on the abstract type itself reads, `VariantSpreadOp`); `rtAbsV` is the case of a conforming object;
* `structV_lossless` — by mutual induction over the selection tree (`rtSelV` / `rtSelsV`).

Additional side condition (decidable): `rustOkSelsV` — within each selection set the Rust field names are
pairwise distinct and, at an abstract position, none of them is `on` (the flattened member's name).
-/
namespace GqlVerif
namespace C01
namespace E2E
open Serde Spec C13 C03 Codegen

/-! ## the allowed differences, as an explicit function on the JSON value -/

/-- the string under `__typename` (`""` if there is none) -/
def tagName (kvs : List (String × Json)) : String :=
  match Json.lookup "__typename" kvs with
  | some (.str n) => n
  | _ => ""

mutual
  def canonFieldV (s : Schema) (skip : Bool) : Sel → Json → Json
    | .field _ fid sub, v =>
      match s.fields[fid]? with
      | none => v
      | some sf =>
        match sf.ty.id with
        | .scalar k => (match s.scalars[k]? with
          | some n => if n = "ID" then canon idCanon (gtyOf sf.ty.quals) v else v
          | none => v)
        | .enum _ => v
        | .input _ => v
        | .object _ => canon (fun j => match j with
            | .obj kvs => .obj (canonEntriesV s skip sub kvs)
            | j => j) (gtyOf sf.ty.quals) v
        | _ =>
          -- abstract position: the interface-level entries in selection order, then `__typename` (kept),
          -- then the entries of the inline fragment on the type `__typename` names
          canon (fun j => match j with
            | .obj kvs => .obj (canonEntriesV s skip sub kvs ++
                (("__typename", Json.str (tagName kvs)) :: canonInlV s skip (tagName kvs) sub kvs))
            | j => j) (gtyOf sf.ty.quals) v
    | _, v => v
  /-- one entry per selected field, in selection order (see `canonEntries`) -/
  def canonEntriesV (s : Schema) (skip : Bool) : List Sel → List (String × Json) → List (String × Json)
    | [], _ => []
    | .field a fid sub :: xs, kvs =>
      (match s.fields[fid]? with
       | none => []
       | some sf =>
         match Json.lookup (a.getD sf.name) kvs with
         | some v =>
           if skip && skipQ sf.ty.quals && v.isNull then []
           else [(a.getD sf.name, canonFieldV s skip (.field a fid sub) v)]
         | none => if skip && skipQ sf.ty.quals then [] else [(a.getD sf.name, Json.null)]) ++
        canonEntriesV s skip xs kvs
    | _ :: xs, kvs => canonEntriesV s skip xs kvs
  /-- the entries of the inline fragments on the type named `n` -/
  def canonInlV (s : Schema) (skip : Bool) (n : String) : List Sel → List (String × Json) → List (String × Json)
    | [], _ => []
    | .inline t isub :: xs, kvs =>
      (if objName s t == n then canonEntriesV s skip isub kvs else []) ++ canonInlV s skip n xs kvs
    | _ :: xs, kvs => canonInlV s skip n xs kvs
end

/-- **`canonSelV`**: the differences C01 allows between a conforming response `j` and
    `to_value (from_value j)`, for an object-level selection set: as `canonSel` (selection order, integer
    ID → decimal string, `__typename` dropped on *object* selections, `null` → absent where
    `skip_serializing_none` applies); at an abstract position `__typename` **is kept** -/
def canonSelV (s : Schema) (skip : Bool) (sels : List Sel) : Json → Json
  | .obj kvs => .obj (canonEntriesV s skip sels kvs)
  | j => j

/-- … and at an abstract position -/
def canonAbsV (s : Schema) (skip : Bool) (sub : List Sel) : Json → Json
  | .obj kvs => .obj (canonEntriesV s skip sub kvs ++
      (("__typename", Json.str (tagName kvs)) :: canonInlV s skip (tagName kvs) sub kvs))
  | j => j

theorem canonLambdaV (s : Schema) (skip : Bool) (sub : List Sel) :
    (fun j => match j with
      | Json.obj kvs => Json.obj (canonEntriesV s skip sub kvs)
      | j => j) = canonSelV s skip sub := by
  funext j; cases j <;> rfl

theorem canonLambdaAbs (s : Schema) (skip : Bool) (sub : List Sel) :
    (fun j => match j with
      | Json.obj kvs => Json.obj (canonEntriesV s skip sub kvs ++
          (("__typename", Json.str (tagName kvs)) :: canonInlV s skip (tagName kvs) sub kvs))
      | j => j) = canonAbsV s skip sub := by
  funext j; cases j <;> rfl

theorem canonEntriesV_flat (s : Schema) (skip : Bool) (kvs : List (String × Json)) : ∀ (sels : List Sel),
    canonEntriesV s skip sels kvs = sels.flatMap (fieldEntry s skip (canonFieldV s skip) kvs)
  | [] => by simp [canonEntriesV]
  | x :: xs => by
    rw [List.flatMap_cons, ← canonEntriesV_flat s skip kvs xs]
    cases x with
    | field a fid sub => rw [canonEntriesV.eq_2]; rfl
    | _ => rfl

theorem canonInlV_flat (s : Schema) (skip : Bool) (n : String) (kvs : List (String × Json)) :
    ∀ (sub : List Sel), canonInlV s skip n sub kvs =
      sub.flatMap (inlEntries (objName s · == n) (canonEntriesV s skip · kvs))
  | [] => by simp [canonInlV]
  | x :: xs => by
    rw [List.flatMap_cons, ← canonInlV_flat s skip n kvs xs]
    cases x with
    | inline t isub => rw [canonInlV]; rfl
    | _ => rfl

/-- the canonical form of the value of the field whose wire name is `f.wire` -/
def fcanonOfV (s : Schema) (skip : Bool) (sels : List Sel) (f : RField) (v : Json) : Json :=
  match sels.find? (fun x => respKey s x == some f.wire) with
  | some x => canonFieldV s skip x v
  | none => v

/-- what the struct of a selection set writes for its fields are the fields' pieces, where the emitted field of a field
    selection is `fieldOf` of its stored field and `fc` is `cf` on it -/
theorem expectOut_fieldEntries (c : Ctx) (pfx : String) (cf : Sel → Json → Json) (fc : RField → Json → Json)
    (kvs : List (String × Json)) : ∀ (sels : List Sel),
    (∀ a fid sub, Sel.field a fid sub ∈ sels → ∃ sf ft, c.s.fields[fid]? = some sf ∧
      fieldOfSelV c pfx (.field a fid sub) = some (fieldOf c (a.getD sf.name) ft sf.ty.quals sf.deprecation)) →
    (∀ a fid sub, Sel.field a fid sub ∈ sels → ∀ f, fieldOfSelV c pfx (.field a fid sub) = some f →
      ∀ v, fc f v = cf (.field a fid sub) v) →
    expectOut fc (fieldsOfV c pfx sels) kvs = sels.flatMap (fieldEntry c.s c.o.skipNone cf kvs)
  | [], _, _ => by simp [fieldsOfV, expectOut]
  | x :: xs, hf, hfc => by
    have ih := expectOut_fieldEntries c pfx cf fc kvs xs (fun a fid sub hm => hf a fid sub (List.mem_cons_of_mem _ hm))
      (fun a fid sub hm => hfc a fid sub (List.mem_cons_of_mem _ hm))
    rw [List.flatMap_cons, ← ih]
    cases x with
    | field a fid sub =>
      obtain ⟨sf, ft, hsf, hfx⟩ := hf a fid sub (by simp)
      rw [fieldsOfV_cons_field c pfx _ xs _ hfx, expectOut_cons]
      simp only [fieldEntry, hsf, fieldOf_wire, fieldOf_skipNone, hfc a fid sub (by simp) _ hfx, Bool.and_assoc]
      cases Json.lookup (a.getD sf.name) kvs <;> rfl
    | _ => rw [fieldsOfV_cons_none c pfx _ xs rfl]; rfl

theorem expectOut_canonV (c : Ctx) (pfx : String) (abs : Bool) (fc : RField → Json → Json) (kvs : List (String × Json))
    (sels : List Sel) (ht : vSels c.s c.o abs sels = true)
    (hfc : ∀ a fid sub, Sel.field a fid sub ∈ sels → ∀ f, fieldOfSelV c pfx (.field a fid sub) = some f →
      ∀ v, fc f v = canonFieldV c.s c.o.skipNone (.field a fid sub) v) :
    expectOut fc (fieldsOfV c pfx sels) kvs = canonEntriesV c.s c.o.skipNone sels kvs := by
  rw [canonEntriesV_flat]
  refine expectOut_fieldEntries c pfx _ fc kvs sels (fun a fid sub hm => ?_) hfc
  obtain ⟨sf, ft, hsf, _, hf, _⟩ := fieldOfSelV_v c pfx abs a fid sub (vSels_mem ht _ hm)
  exact ⟨sf, ft, hsf, hf⟩

def isAbsField (c : Ctx) (fid : Nat) : Bool :=
  match c.s.fields[fid]? with
  | some sf => sf.ty.id.isAbstract
  | none => false

mutual
  /-- within every selection set the Rust field names are pairwise distinct, and at an abstract position
      none of them is `on` (the name of the flattened member) — otherwise the struct does not compile -/
  def rustOkSelV (c : Ctx) : Sel → Bool
    | .field _ fid sub =>
      EnumSpec.nodup (rustNames c sub ++ (if isAbsField c fid then ["on"] else [])) && rustOkSelsV c sub
    | .inline _ isub => EnumSpec.nodup (rustNames c isub) && rustOkSelsV c isub
    | _ => true
  def rustOkSelsV (c : Ctx) : List Sel → Bool
    | [] => true
    | x :: xs => rustOkSelV c x && rustOkSelsV c xs
end

theorem rust_fieldsOfV (c : Ctx) (pfx : String) (abs : Bool) : ∀ (sels : List Sel), vSels c.s c.o abs sels = true →
    (fieldsOfV c pfx sels).map (·.rust) = rustNames c sels
  | [], _ => rfl
  | x :: xs, ht => by
    obtain ⟨hx, hxs⟩ := vSels_cons ht
    have ih := rust_fieldsOfV c pfx abs xs hxs
    cases x with
    | field a fid sub =>
      obtain ⟨sf, ft, hsf, _, hf, _⟩ := fieldOfSelV_v c pfx abs a fid sub hx
      rw [fieldsOfV_cons_field c pfx _ xs _ hf, List.map_cons, ih]
      simp [rustNames, rustName, hsf, fieldOf]
    | spread g => simp [vSel] at hx
    | inline t sub =>
      rw [fieldsOfV_cons_none c pfx _ xs rfl, ih]; simp [rustNames, List.filterMap_cons, rustName]
    | typename =>
      rw [fieldsOfV_cons_none c pfx _ xs rfl, ih]; simp [rustNames, List.filterMap_cons, rustName]

theorem envSelsV_mem {e : Env} {c : Ctx} {pfx : String} : ∀ {sels : List Sel}, envSelsV e c pfx sels →
    ∀ x ∈ sels, envSelV e c pfx x :=
  fun {sels} => (forall_mem_of_eqns (by rw [envSelsV]; trivial) (fun _ _ => by rw [envSelsV]) sels).mp

theorem rustOkSelsV_mem {c : Ctx} : ∀ {sels : List Sel}, rustOkSelsV c sels = true →
    ∀ x ∈ sels, rustOkSelV c x = true :=
  fun {sels} h => List.all_eq_true.mp (all_of_eqns (ps := rustOkSelsV c) rfl (fun _ _ => rfl) sels ▸ h)

theorem mem_fieldsOfV {c : Ctx} {pfx : String} {abs : Bool} {sels : List Sel} {f : RField}
    (hf : f ∈ fieldsOfV c pfx sels) (ht : vSels c.s c.o abs sels = true) :
    ∃ a fid sub sf ft, Sel.field a fid sub ∈ sels ∧ c.s.fields[fid]? = some sf ∧
      fieldOfSelV c pfx (.field a fid sub) = some f ∧
      f = fieldOf c (a.getD sf.name) ft sf.ty.quals sf.deprecation ∧ wfQuals sf.ty.quals = true := by
  obtain ⟨x, hx, hfx⟩ := List.mem_filterMap.mp hf
  cases x with
  | field a fid sub =>
    obtain ⟨sf, ft, hsf, _, hf', hw⟩ := fieldOfSelV_v c pfx abs a fid sub (vSels_mem ht _ hx)
    rw [hf'] at hfx
    exact ⟨a, fid, sub, sf, ft, hx, hsf, by rw [hf', hfx], (Option.some.inj hfx).symm, hw⟩
  | spread g => cases hfx
  | inline t sub => cases hfx
  | typename => cases hfx


theorem variantsV_wire (c : Ctx) (pfx : String) (ty : TypeId) (sub : List Sel) :
    (variantsV c pfx ty sub).map (·.wire) = variantNames c.s c.o ty ∧
    (variantsV c pfx ty sub).map (·.name) = variantNames c.s c.o ty := by
  unfold variantsV variantNames otherVariants
  simp only [List.map_append, List.map_map]
  constructor
  · congr 1
    · apply List.map_congr_left; intro vt _; exact (variantOf_wire c pfx sub vt).1
    · cases c.o.otherVariant <;> rfl
  · congr 1
    · apply List.map_congr_left; intro vt _; exact (variantOf_wire c pfx sub vt).2.1
    · cases c.o.otherVariant <;> rfl

theorem canonEntriesV_filter (s : Schema) (skip : Bool) (p : String × Json → Bool) (kvs : List (String × Json))
    (sels : List Sel) (h : ∀ k ∈ fieldKeys s sels, ∀ v, p (k, v) = true) :
    canonEntriesV s skip sels (kvs.filter p) = canonEntriesV s skip sels kvs := by
  rw [canonEntriesV_flat, canonEntriesV_flat]; exact fieldEntries_filter p h

/-- with at most one inline fragment per type and pairwise distinct type names: the entries of the inline
    fragments on the type named like `vt` are those of the inline fragment on `vt` (none if there is none) -/
theorem canonInlV_unique (s : Schema) (skip : Bool) (vt : TypeId) (kvs : List (String × Json))
    (names : List TypeId) (hnames : (names.map (objName s)).Nodup) (hvt : vt ∈ names) : ∀ (sub : List Sel),
    (sub.filterMap inlineTy).Nodup → (∀ t ∈ sub.filterMap inlineTy, t ∈ names) →
    (vt ∉ sub.filterMap inlineTy → canonInlV s skip (objName s vt) sub kvs = []) ∧
    (∀ isub, Sel.inline vt isub ∈ sub → canonInlV s skip (objName s vt) sub kvs = canonEntriesV s skip isub kvs)
  | [], _, _ => by simp [canonInlV]
  | x :: xs, hnd, hin => by
    cases x with
    | inline t isub' =>
      simp only [List.filterMap_cons, inlineTy, List.nodup_cons] at hnd
      have hin' : ∀ t ∈ xs.filterMap inlineTy, t ∈ names := fun t' h' => hin t' (by simp [inlineTy, h'])
      obtain ⟨ih1, ih2⟩ := canonInlV_unique s skip vt kvs names hnames hvt xs hnd.2 hin'
      have ht : t ∈ names := hin t (by simp [inlineTy])
      rw [canonInlV.eq_2]
      by_cases htv : t = vt
      · subst htv
        refine ⟨fun hn => absurd (by simp [inlineTy]) hn, ?_⟩
        intro isub hm
        simp only [List.mem_cons, Sel.inline.injEq, true_and] at hm
        rcases hm with rfl | hm
        · simp [ih1 hnd.1]
        · exact absurd (List.mem_filterMap.mpr ⟨Sel.inline t isub, hm, rfl⟩ : t ∈ xs.filterMap inlineTy) hnd.1
      · have hne : (objName s t == objName s vt) = false := by
          have : objName s t ≠ objName s vt := by
            intro heq
            have h1 := find_by_name s names hnames t ht
            have h2 := find_by_name s names hnames vt hvt
            rw [heq, h2] at h1
            exact htv (Option.some.inj h1).symm
          simpa using this
        simp only [hne, Bool.false_eq_true, ↓reduceIte, List.nil_append]
        refine ⟨fun hn => ih1 (fun hm => hn (by simp [inlineTy, hm])), ?_⟩
        intro isub hm
        simp only [List.mem_cons, Sel.inline.injEq] at hm
        rcases hm with ⟨h1, _⟩ | hm
        · exact absurd h1.symm htv
        · exact ih2 isub hm
    | field a fid sub' =>
      have e1 : (Sel.field a fid sub' :: xs).filterMap inlineTy = xs.filterMap inlineTy := by simp [List.filterMap_cons, inlineTy]
      rw [e1] at hnd hin ⊢
      obtain ⟨ih1, ih2⟩ := canonInlV_unique s skip vt kvs names hnames hvt xs hnd hin
      simp only [canonInlV, List.mem_cons, reduceCtorEq, false_or]
      exact ⟨ih1, ih2⟩
    | spread g =>
      have e1 : (Sel.spread g :: xs).filterMap inlineTy = xs.filterMap inlineTy := by simp [List.filterMap_cons, inlineTy]
      rw [e1] at hnd hin ⊢
      obtain ⟨ih1, ih2⟩ := canonInlV_unique s skip vt kvs names hnames hvt xs hnd hin
      simp only [canonInlV, List.mem_cons, reduceCtorEq, false_or]
      exact ⟨ih1, ih2⟩
    | typename =>
      have e1 : (Sel.typename :: xs).filterMap inlineTy = xs.filterMap inlineTy := by simp [List.filterMap_cons, inlineTy]
      rw [e1] at hnd hin ⊢
      obtain ⟨ih1, ih2⟩ := canonInlV_unique s skip vt kvs names hnames hvt xs hnd hin
      simp only [canonInlV, List.mem_cons, reduceCtorEq, false_or]
      exact ⟨ih1, ih2⟩

theorem canonEntriesV_nofield (s : Schema) (skip : Bool) (kvs : List (String × Json)) :
    ∀ (sels : List Sel), sels.any isFieldSel = false → canonEntriesV s skip sels kvs = []
  | [], _ => by simp [canonEntriesV]
  | x :: xs, h => by
    simp only [List.any_cons, Bool.or_eq_false_iff] at h
    have ih := canonEntriesV_nofield s skip kvs xs h.2
    cases x with
    | field a fid sub => simp [isFieldSel] at h
    | spread g => simpa [canonEntriesV] using ih
    | inline t sub => simpa [canonEntriesV] using ih
    | typename => simpa [canonEntriesV] using ih

/-- the record `deStructMapWith` assembles for `pre ++ [on]` -/
theorem assemble_on (pre : List RField) (g : RField) (a : List (String × Val)) (x : Val)
    (ha : All2 (fun f p => p.1 = f.rust) pre a) (hr : ((pre ++ [g]).map (·.rust)).Nodup) :
    (pre ++ [g]).filterMap (fun f => (a ++ [(g.rust, x)]).find? (·.1 == f.rust)) = a ++ [(g.rust, x)] := by
  have := assemble pre [] g a [] x ha .nil hr
  simpa using this

theorem optionAttrs_fieldsOfV (c : Ctx) (pfx : String) (sels : List Sel) : OptionAttrs (fieldsOfV c pfx sels) := by
  intro f hf
  obtain ⟨x, _, hx⟩ := List.mem_filterMap.mp hf
  obtain ⟨_, _, _, _, _, _, _, rfl⟩ := fieldOfSelV_some hx
  exact fieldOf_isOption c _ _ _ _

section RTV
variable (e : Env) (c : Ctx)

def RTSelV (pfx : String) (x : Sel) : Prop :=
  ∀ abs, vSel c.s c.o abs x = true → envSelV e c pfx x → rustOkSelV c x = true → ∀ f, fieldOfSelV c pfx x = some f →
    ∀ b fd fs, 2 * selDepth x + 1 ≤ fd → 2 * selDepth x ≤ fs → ∀ v y, strictFieldV c.s x v = true →
      deFieldWith (dePath e b fd) f v = .ok y →
      serTyWith (serPath e fs) f.ty y = .ok (canonFieldV c.s c.o.skipNone x v)

/-- under every selected field's key, a value conforming to the field -/
def StrictAt (s : Schema) (sels : List Sel) (kvs : List (String × Json)) : Prop :=
  ∀ a fid sub, Sel.field a fid sub ∈ sels → ∀ sf, s.fields[fid]? = some sf →
    ∀ v, Json.lookup (a.getD sf.name) kvs = some v → strictFieldV s (.field a fid sub) v = true

theorem strictAt_of_conf {s : Schema} {rt : Nat} {sels : List Sel} {kvs : List (String × Json)}
    (h : confSelsV s rt sels kvs = true) : StrictAt s sels kvs := by
  intro a fid sub hm sf hsf v hl
  have := confSelsV_mem h _ hm
  rw [confSelV_field] at this
  simpa [hsf, hl] using this

/-- what the round trip of a struct needs of the object it reads: pairwise distinct keys, and under every
    selected field's key a value conforming to the field (`StrictAt`, written out) -/
def FieldsOk (s : Schema) (sels : List Sel) (kvs : List (String × Json)) : Prop :=
  (kvs.map (·.1)).Nodup ∧
  ∀ a fid sub, Sel.field a fid sub ∈ sels → ∀ sf, s.fields[fid]? = some sf →
    ∀ v, Json.lookup (a.getD sf.name) kvs = some v → strictFieldV s (.field a fid sub) v = true

/-- round trip of the variant struct of an inline fragment -/
def RTInlV (pfx : String) : Sel → Prop
  | .inline t isub =>
    vSel c.s c.o true (.inline t isub) = true → envSelV e c pfx (.inline t isub) → rustOkSelV c (.inline t isub) = true →
      ∀ fd fs, 2 * selsDepth isub + 2 ≤ fd → 2 * selsDepth isub + 1 ≤ fs →
        ∀ kvs, FieldsOk c.s isub kvs → ∀ v, dePath e true fd (pfx ++ "On" ++ objName c.s t) (.obj kvs) = .ok v →
          serPath e fs (pfx ++ "On" ++ objName c.s t) v = .ok (.obj (canonEntriesV c.s c.o.skipNone isub kvs))
  | _ => True

/-- round trip of the struct of an object-level selection set, from the round trips of its fields -/
theorem rtStructV (pfx name : String) (sels : List Sel) (H : ∀ x ∈ sels, RTSelV e c pfx x) (abs : Bool)
    (ht : vSels c.s c.o abs sels = true) (henv : envSelsV e c pfx sels)
    (hro : rustOkSelsV c sels = true) (hrn : EnumSpec.nodup (rustNames c sels) = true)
    (hkeys : EnumSpec.nodup (respKeys c.s sels) = true)
    (hs : StructEnv e name (fieldsOfV c pfx sels)) (b : Bool) (fd fs : Nat)
    (hfd : 2 * selsDepth sels + 2 ≤ fd) (hfs : 2 * selsDepth sels + 1 ≤ fs) (kvs : List (String × Json))
    (hok : FieldsOk c.s sels kvs) (v : Val) (hd : dePath e b fd name (.obj kvs) = .ok v) :
    serPath e fs name v = .ok (.obj (canonEntriesV c.s c.o.skipNone sels kvs)) := by
  obtain ⟨hp, _, n, d, cr, hfind⟩ := hs
  obtain ⟨hnd, hst⟩ := hok
  obtain ⟨fd', rfl⟩ : ∃ k, fd = k + 1 := ⟨fd - 1, by omega⟩
  obtain ⟨fs', rfl⟩ : ∃ k, fs = k + 1 := ⟨fs - 1, by omega⟩
  have hkn := nodup_iff'.mp hkeys
  have key : ∀ f ∈ fieldsOfV c pfx sels, ∀ j, Json.lookup f.wire kvs = some j →
      ∃ a fid sub, Sel.field a fid sub ∈ sels ∧ fieldOfSelV c pfx (.field a fid sub) = some f ∧
        strictFieldV c.s (.field a fid sub) j = true ∧
        fcanonOfV c.s c.o.skipNone sels f j = canonFieldV c.s c.o.skipNone (.field a fid sub) j := by
    intro f hf j hl
    obtain ⟨a, fid, sub, sf, ft, hx, hsf, hfx, rfl, _⟩ := mem_fieldsOfV hf ht
    rw [fieldOf_wire] at hl
    refine ⟨a, fid, sub, hx, hfx, hst a fid sub hx sf hsf j hl, ?_⟩
    unfold fcanonOfV
    rw [fieldOf_wire, find_respKey c.s _ sels hkn _ hx (by simp [respKey, hsf])]
  have hrt := struct_roundtrip_path e b fd' fs' name n d cr (fieldsOfV c pfx sels)
    (fcanonOfV c.s c.o.skipNone sels) kvs hp hfind (plain_fieldsOfV c pfx sels)
    (by rw [rust_fieldsOfV c pfx abs sels ht]; exact nodup_iff'.mp hrn) hnd
    (by
      intro f hf j x hl hdx
      obtain ⟨a, fid, sub, hx, hfx, hst', hfc⟩ := key f hf j hl
      rw [hfc]
      have hdep := C02.selDepth_le_of_mem hx
      exact H _ hx abs (vSels_mem ht _ hx) (envSelsV_mem henv _ hx) (rustOkSelsV_mem hro _ hx) f hfx b fd' fs'
        (by omega) (by omega) j x hst' hdx)
    (optionAttrs_fieldsOfV c pfx sels).unit (optionAttrs_fieldsOfV c pfx sels).default v hd
  rw [hrt]
  congr 2
  apply expectOut_canonV c pfx abs _ kvs sels ht
  intro a fid sub hx f hfx v
  obtain ⟨sf, ft, hsf, _, hf', _⟩ := fieldOfSelV_v c pfx abs a fid sub (vSels_mem ht _ hx)
  rw [hf'] at hfx
  cases hfx
  unfold fcanonOfV
  rw [fieldOf_wire, find_respKey c.s _ sels hkn _ hx (by simp [respKey, hsf])]

/-- what a response object conforming at an abstract position looks like -/
theorem abs_conf_facts {s : Schema} {o : Options} {ty : TypeId} {sub : List Sel} {j : Json}
    (hty : absHyp s ty) (hok : absOk s o ty sub = true) (h : conformsAt s ty sub j = true) :
    ∃ rt kvs, j = .obj kvs ∧ (kvs.map (·.1)).Nodup ∧ confSelsV s rt sub kvs = true ∧
      Json.lookup "__typename" kvs = some (.str (rtName s rt)) ∧ TypeId.object rt ∈ vtsOfTy s ty := by
  obtain ⟨htn, _, _, _, _, _, _, _⟩ := absOk_parts hok
  simp only [conformsAt, List.any_eq_true, List.mem_range, Bool.and_eq_true] at h
  obtain ⟨rt, hrt, happ, hc⟩ := h
  obtain ⟨kvs, rfl, hnd, hconf⟩ := conformsV_obj hc
  refine ⟨rt, kvs, rfl, hnd, hconf, ?_, mem_vtsOfTy happ hty⟩
  have := confSelsV_mem hconf _ (typename_mem htn)
  simp only [confSelV] at this
  split at this
  · rename_i n hl; rw [hl]; simp only [beq_iff_eq] at this; rw [this]
  · cases this

/-- **round trip of the `__typename`-tagged enum** of an abstract position, read from the entries
    `kvs.filter q` of a conforming response object (`q` keeps the tag and the keys of the inline fragments):
    the known tag selects its own variant, and the value is written back as the tag entry followed by the
    entries of the inline fragment on that type -/
theorem rtTagged (pfx p : String) (ty : TypeId) (sub : List Sel) (HI : ∀ x ∈ sub, RTInlV e c pfx x)
    (ht : vSels c.s c.o true sub = true) (hok : absOk c.s c.o ty sub = true) (henv : envSelsV e c pfx sub)
    (hro : rustOkSelsV c sub = true) (hs : TaggedEnv e p (variantsV c pfx ty sub))
    (rt : Nat) (kvs : List (String × Json)) (hnd : (kvs.map (·.1)).Nodup) (hconf : confSelsV c.s rt sub kvs = true)
    (htag : Json.lookup "__typename" kvs = some (.str (rtName c.s rt))) (hmem : TypeId.object rt ∈ vtsOfTy c.s ty)
    (q : String × Json → Bool) (hqt : ∀ v, q ("__typename", v) = true)
    (hqi : ∀ t isub, Sel.inline t isub ∈ sub → ∀ k ∈ fieldKeys c.s isub, ∀ v, q (k, v) = true)
    (buffered : Bool) (fd fs : Nat) (hfd : 2 * selsDepth sub ≤ fd) (hfs : 2 * selsDepth sub ≤ fs) (r : Val)
    (hd : deTaggedWith (dePath e true fd) buffered "__typename" (variantsV c pfx ty sub) (kvs.filter q) = .ok r) :
    (∃ payload, r = .variant (rtName c.s rt) payload) ∧
    serPath e (fs + 1) p r = .ok (.obj (("__typename", .str (rtName c.s rt)) ::
      canonInlV c.s c.o.skipNone (rtName c.s rt) sub kvs)) := by
  obtain ⟨htn, hrk, hobj, _, hvn, hin, hind, hexcl⟩ := absOk_parts hok
  obtain ⟨hp, _, n, d, cr, hfind⟩ := hs
  have hcnt := countKey_le_one_of_nodup hnd
  have hl2 : Json.lookup "__typename" (kvs.filter q) = some (.str (rtName c.s rt)) := by
    rw [lookup_filter q _ hqt]; exact htag
  have hc2 : countKey "__typename" (kvs.filter q) = 1 := by
    rw [countKey_filter q _ hqt]
    have := countKey_pos_of_lookup htag
    have := hcnt "__typename"
    omega
  obtain ⟨hw1, hw2, hw3⟩ := variantOf_wire c pfx sub (.object rt)
  have hvmem : variantOf c pfx sub (.object rt) ∈ variantsV c pfx ty sub := by
    unfold variantsV
    exact List.mem_append_left _ (List.mem_map_of_mem hmem)
  have hnames : ((vtsOfTy c.s ty).map (objName c.s)).Nodup := by
    unfold variantNames at hvn
    exact (List.nodup_append.mp hvn).1
  obtain ⟨hu1, hu2⟩ := canonInlV_unique c.s c.o.skipNone (.object rt) kvs _ hnames hmem sub hind hin
  have hrest_q : ∀ t isub, Sel.inline t isub ∈ sub → ∀ k ∈ fieldKeys c.s isub, ∀ v,
      ((fun kv : String × Json => kv.1 != "__typename") (k, v) && q (k, v)) = true := by
    intro t isub hm k hk v
    have h2 : k ≠ "__typename" := by
      intro heq
      have := hexcl t isub hm k hk
      rw [heq] at this
      exact this (List.mem_filterMap.mpr ⟨_, typename_mem htn, rfl⟩)
    simp [hqi t isub hm k hk v, h2]
  have hrt := tagged_roundtrip e fd fs buffered p n d cr "__typename" (variantsV c pfx ty sub) (kvs.filter q)
    (variantOf c pfx sub (.object rt)) (fun _ => canonInlV c.s c.o.skipNone (rtName c.s rt) sub kvs) hfind
    (by rw [(variantsV_wire c pfx ty sub).1]; exact hvn) (by rw [(variantsV_wire c pfx ty sub).2]; exact hvn)
    hvmem hw3 hc2 (by rw [hw1]; exact hl2)
    (by
      intro t hpl x hx
      -- the payload: the variant struct of the inline fragment on `rt`
      unfold variantOf at hpl
      split at hpl
      · rename_i hcont
        simp only [Option.some.injEq] at hpl
        subst hpl
        have hm : TypeId.object rt ∈ sub.filterMap inlineTy := by simpa using hcont
        obtain ⟨y, hy, hyt⟩ := List.mem_filterMap.mp hm
        cases y with
        | inline t' isub =>
          simp only [inlineTy, Option.some.injEq] at hyt
          subst hyt
          have hvy := vSels_mem ht _ hy
          have hey := envSelsV_mem henv _ hy
          have hry := rustOkSelsV_mem hro _ hy
          have hdep := C02.selDepth_le_of_mem hy
          rw [selDepth] at hdep
          have hconf_i : confSelsV c.s rt isub kvs = true := by
            have := confSelsV_mem hconf _ hy
            simpa [confSelV, fragApplies] using this
          rw [List.filter_filter] at hx
          have hI := HI _ hy hvy hey hry fd fs (by omega) (by omega)
            (kvs.filter (fun kv => (kv.1 != "__typename") && q kv))
            ⟨(List.filter_sublist.map _).nodup hnd, by
              intro a fid sub' hmf sf hsf v hl
              have hk : ∀ v, (fun kv : String × Json => (kv.1 != "__typename") && q kv) (a.getD sf.name, v) = true :=
                fun v => hrest_q _ isub hy _ (by
                  exact List.mem_filterMap.mpr ⟨_, hmf, by simp [fieldKey, hsf]⟩) v
              rw [lookup_filter _ _ hk] at hl
              exact strictAt_of_conf hconf_i a fid sub' hmf sf hsf v hl⟩
            x hx
          rw [show serTyWith (serPath e fs) (.path (pfx ++ "On" ++ objName c.s (.object rt))) x =
            serPath e fs (pfx ++ "On" ++ objName c.s (.object rt)) x from rfl, hI]
          rw [canonEntriesV_filter c.s c.o.skipNone _ kvs isub (fun k hk v => hrest_q _ isub hy k hk v)]
          rw [show rtName c.s rt = objName c.s (.object rt) from rfl, hu2 isub hy]
        | field a fid sub' => cases hyt
        | spread g => cases hyt
        | typename => cases hyt
      · cases hpl)
  obtain ⟨_, hval⟩ := hrt
  obtain ⟨⟨payload, hpv⟩, out, hser, hout, _⟩ := hval r hd
  rw [hw2] at hpv
  refine ⟨⟨payload, hpv⟩, ?_⟩
  rw [hser, hout, hw1]
  congr 3
  -- unit variant: no inline fragment on `rt`
  unfold variantOf
  split
  · rfl
  · rename_i hcont
    have : TypeId.object rt ∉ sub.filterMap inlineTy := by simpa using hcont
    simp only [Option.isSome_none, Bool.false_eq_true, ↓reduceIte]
    exact (hu1 this).symm

theorem find_append_not_left {L : List (String × Val)} {n : String} {x : Val} (h : n ∉ L.map (·.1)) :
    (L ++ [(n, x)]).find? (·.1 == n) = some (n, x) := by
  rw [List.find?_append]
  simp [find_none_of_not_mem h]

/-- **round trip of the type(s) emitted at an abstract position**, from the facts a conforming response object provides
    (`abs_conf_facts`); the object may carry other keys than the selected ones, as the one a flattened member for a
    fragment on the abstract type itself reads.  The round trips of the fields stay hypotheses (`H`, `HI`), as in `rtAbsV`: this
    is the counterpart of `strict_loose_abs_obj` of `C01AbstractB`, not of `strict_loose_abs_w` -/
theorem rtAbsV_w (pfx name : String) (ty : TypeId) (sub : List Sel) (H : ∀ x ∈ sub, RTSelV e c pfx x)
    (HI : ∀ x ∈ sub, RTInlV e c pfx x)
    (ht : vSels c.s c.o true sub = true) (hok : absOk c.s c.o ty sub = true) (henv : envSelsV e c pfx sub)
    (hro : rustOkSelsV c sub = true) (hrn : EnumSpec.nodup (rustNames c sub ++ ["on"]) = true)
    (hs : AbsEnv e name (fieldsOfV c pfx sub) (variantsV c pfx ty sub)) (b : Bool) (fd fs : Nat)
    (hfd : 2 * selsDepth sub + 3 ≤ fd) (hfs : 2 * selsDepth sub + 2 ≤ fs) (rt : Nat) (kvs : List (String × Json))
    (hnd : (kvs.map (·.1)).Nodup) (hconf : confSelsV c.s rt sub kvs = true)
    (htag : Json.lookup "__typename" kvs = some (.str (rtName c.s rt))) (hmem : TypeId.object rt ∈ vtsOfTy c.s ty)
    (w : Val) (hd : dePath e b fd name (.obj kvs) = .ok w) :
    serPath e fs name w = .ok (canonAbsV c.s c.o.skipNone sub (.obj kvs)) := by
  obtain ⟨htn, hrk, _, _, _, _, _, hexcl⟩ := absOk_parts hok
  have hemp := isEmpty_fieldsOfV c pfx true sub ht
  have htagName : tagName kvs = rtName c.s rt := by simp [tagName, htag]
  unfold AbsEnv at hs
  simp only [canonAbsV, htagName]
  cases hF : sub.any isFieldSel
  · -- the tagged enum alone
    rw [hF] at hemp
    simp only [hemp, Bool.not_false, ↓reduceIte] at hs
    obtain ⟨fd', rfl⟩ : ∃ k, fd = k + 1 := ⟨fd - 1, by omega⟩
    obtain ⟨fs', rfl⟩ : ∃ k, fs = k + 1 := ⟨fs - 1, by omega⟩
    rw [dePath_tagged e b fd' name _ _ _ _ _ hs.1 hs.2.2.choose_spec.choose_spec.choose_spec] at hd
    have hkf : kvs = kvs.filter (fun _ => true) := (List.filter_eq_self.mpr (fun _ _ => rfl)).symm
    rw [hkf] at hd
    have := (rtTagged e c pfx name ty sub HI ht hok henv hro hs rt kvs hnd hconf htag hmem (fun _ => true)
      (fun _ => rfl) (fun _ _ _ _ _ _ => rfl) b fd' fs' (by omega) (by omega) w hd).2
    rw [this, canonEntriesV_nofield c.s _ kvs sub hF]; rfl
  · -- the struct with the interface-level fields and the flattened `on`
    rw [hF] at hemp
    simp only [hemp, Bool.not_true, Bool.false_eq_true, ↓reduceIte] at hs
    obtain ⟨⟨hp, _, n, d, cr, hfind⟩, hsT⟩ := hs
    have hsT' := hsT
    obtain ⟨_, _, n', d', cr', hfind'⟩ := hsT'
    obtain ⟨fd', rfl⟩ : ∃ k, fd = k + 2 := ⟨fd - 2, by omega⟩
    obtain ⟨fs', rfl⟩ : ∃ k, fs = k + 2 := ⟨fs - 2, by omega⟩
    have hpl := plain_fieldsOfV c pfx sub
    have hcnt := countKey_le_one_of_nodup hnd
    rw [dePath_struct e b (fd' + 1) name n d cr _ hp hfind, deStruct_obj,
      deStructMap_on e fd' _ _ (onField name) (name ++ "On") n' d' cr' "__typename" _ kvs hpl rfl rfl hfind'] at hd
    obtain ⟨own, hown, hd⟩ := C02.bind_ok hd
    obtain ⟨r, hr, hd⟩ := C02.bind_ok hd
    simp only [pure, Except.pure, Except.ok.injEq] at hd
    have hall := (deOwn_ok_iff _ kvs hcnt _ own hpl).mp hown
    have hrust : ((fieldsOfV c pfx sub ++ [onField name]).map (·.rust)).Nodup := by
      rw [List.map_append, rust_fieldsOfV c pfx true sub ht]
      exact nodup_iff'.mp hrn
    rw [assemble_on _ (onField name) own r (hall.imp (fun _ _ hh => hh.1)) hrust] at hd
    subst hd
    have hkn := nodup_iff'.mp hrk
    -- own fields
    have hfindown := find_of_all2 (R := fun f x => readField (dePath e b (fd' + 1)) f kvs = .ok x) hall (by
      rw [rust_fieldsOfV c pfx true sub ht]
      exact (List.nodup_append.mp (nodup_iff'.mp hrn)).1)
    have hon_not : "on" ∉ own.map (·.1) := by
      have e1 : own.map (·.1) = (fieldsOfV c pfx sub).map (·.rust) := All2.map_fst (fun _ _ hh => hh.1) hall
      rw [e1, rust_fieldsOfV c pfx true sub ht]
      have := (List.nodup_append.mp (nodup_iff'.mp hrn)).2.2
      intro hm
      exact this _ hm _ (by simp) rfl
    have hs1 : serFieldsWith (serPath e (fs' + 1)) (fieldsOfV c pfx sub) (own ++ [("on", r)]) =
        .ok (expectOut (fcanonOfV c.s c.o.skipNone sub) (fieldsOfV c pfx sub) kvs) := by
      refine ser_of_read (dePath e b (fd' + 1)) _ _ kvs _ _ hpl ?_ ?_ ?_ ?_
      · intro f hf
        obtain ⟨x, hx, hR⟩ := hfindown f hf
        exact ⟨x, by rw [List.find?_append, hx]; rfl, hR⟩
      · intro f hf jv x hl hdx
        obtain ⟨a, fid, sub', sf, ft, hx, hsf, hfx, rfl, _⟩ := mem_fieldsOfV hf ht
        rw [fieldOf_wire] at hl
        have hst : strictFieldV c.s (.field a fid sub') jv = true := strictAt_of_conf hconf a fid sub' hx sf hsf jv hl
        have hfc : fcanonOfV c.s c.o.skipNone sub (fieldOf c (a.getD sf.name) ft sf.ty.quals sf.deprecation) jv =
            canonFieldV c.s c.o.skipNone (.field a fid sub') jv := by
          unfold fcanonOfV
          rw [fieldOf_wire, find_respKey c.s _ sub hkn _ hx (by simp [respKey, hsf])]
        rw [hfc]
        have hdep := C02.selDepth_le_of_mem hx
        exact H _ hx true (vSels_mem ht _ hx) (envSelsV_mem henv _ hx) (rustOkSelsV_mem hro _ hx) _ hfx b (fd' + 1)
          (fs' + 1) (by omega) (by omega) jv x hst hdx
      · exact (optionAttrs_fieldsOfV c pfx sub).unit
      · exact (optionAttrs_fieldsOfV c pfx sub).default
    -- the flattened tagged enum
    rw [wire_fieldsOfV c pfx true sub ht] at hr
    have hnf := typename_not_fieldKey c.s sub htn hrk
    have hs2 := (rtTagged e c pfx (name ++ "On") ty sub HI ht hok henv hro hsT rt kvs hnd hconf htag hmem
      (fun kv => !(fieldKeys c.s sub).contains kv.1) (by intro v; simpa using hnf)
      (by
        intro t isub hm k hk v
        have := hexcl t isub hm k hk
        have : k ∉ fieldKeys c.s sub := fun h' => this (fieldKeys_sub_respKeys c.s sub k h')
        simpa using this)
      true fd' fs' (by omega) (by omega) r hr).2
    rw [serPath_struct e (fs' + 1) name n d cr _ hfind,
      flatten_ser_concat _ _ (fieldsOfV c pfx sub) [] (onField name) "on" r _ _ [] hpl rfl
        (find_append_not_left hon_not) hs1 hs2 rfl]
    rw [expectOut_canonV c pfx true _ kvs sub ht (by
      intro a fid sub' hx f hfx v
      obtain ⟨sf, ft, hsf, _, hf', _⟩ := fieldOfSelV_v c pfx true a fid sub' (vSels_mem ht _ hx)
      rw [hf'] at hfx
      cases hfx
      unfold fcanonOfV
      rw [fieldOf_wire, find_respKey c.s _ sub hkn _ hx (by simp [respKey, hsf])])]
    simp only [List.append_nil]
    rfl

/-- … for a response object conforming at the position -/
theorem rtAbsV (pfx name : String) (ty : TypeId) (sub : List Sel) (H : ∀ x ∈ sub, RTSelV e c pfx x)
    (HI : ∀ x ∈ sub, RTInlV e c pfx x) (hty : absHyp c.s ty)
    (ht : vSels c.s c.o true sub = true) (hok : absOk c.s c.o ty sub = true) (henv : envSelsV e c pfx sub)
    (hro : rustOkSelsV c sub = true) (hrn : EnumSpec.nodup (rustNames c sub ++ ["on"]) = true)
    (hs : AbsEnv e name (fieldsOfV c pfx sub) (variantsV c pfx ty sub)) (b : Bool) (fd fs : Nat)
    (hfd : 2 * selsDepth sub + 3 ≤ fd) (hfs : 2 * selsDepth sub + 2 ≤ fs) (j : Json) (w : Val)
    (hc : conformsAt c.s ty sub j = true) (hd : dePath e b fd name j = .ok w) :
    serPath e fs name w = .ok (canonAbsV c.s c.o.skipNone sub j) := by
  obtain ⟨rt, kvs, rfl, hnd, hconf, htag, hmem⟩ := abs_conf_facts hty hok hc
  exact rtAbsV_w e c pfx name ty sub H HI ht hok henv hro hrn hs b fd fs hfd hfs rt kvs hnd hconf htag hmem w hd


theorem isAbsField_of {c : Ctx} {fid : Nat} {sf : StoredField} (hsf : c.s.fields[fid]? = some sf) :
    isAbsField c fid = sf.ty.id.isAbstract := by
  simp [isAbsField, hsf]


mutual
  theorem rtSelV : ∀ (x : Sel) (pfx : String), RTSelV e c pfx x ∧ RTInlV e c pfx x
    | .field a fid sub, pfx => by
      refine ⟨?_, trivial⟩
      intro abs ht henv hro f hf b fd fs hfd hfs v y hst hd
      have IH := rtSelsV sub
      rw [selDepth] at hfd hfs
      obtain ⟨fd', rfl⟩ : ∃ k, fd = k + 3 := ⟨fd - 3, by omega⟩
      obtain ⟨fs', rfl⟩ : ∃ k, fs = k + 1 := ⟨fs - 1, by omega⟩
      obtain ⟨sf, hsf, hw, _, hk⟩ := vSel_kinds ht
      have hwf : wf (gtyOf sf.ty.quals) = true := by rw [wf_gtyOf]; exact hw
      rw [envSelV] at henv
      rw [rustOkSelV, Bool.and_eq_true, isAbsField_of hsf] at hro
      simp only [strictFieldV] at hst
      rw [canonFieldV]
      rcases hk with ⟨k, sn, hid, hk, _⟩ | ⟨k, en, hid, hk, _⟩ | ⟨i, _, hid, _, hsub, hkeys⟩ |
        ⟨k, hid, hty, hsub, hok⟩ | ⟨k, hid, hty, hsub, hok⟩
      · simp only [hsf, hid, hk] at henv hst ⊢
        simp only [fieldOfSelV, hsf, leafNameV, hid, hk, Option.some.injEq] at hf
        subst hf
        by_cases hID : sn = "ID"
        · subst hID
          simp only [↓reduceIte]
          exact field_roundtrip_id _ _ (fun s => serPath_prim e fs' "ID" (.str s) (.str s) rfl) _
            (gtyOf sf.ty.quals) (by simp [fieldOf]) rfl hwf v y hd
        · simp only [hID, ↓reduceIte]
          have := field_roundtrip_plain (dePath e b (fd' + 3)) (serPath e (fs' + 1)) _ sn (gtyOf sf.ty.quals) id
            (by simp [fieldOf, hID]) rfl hwf (leaf_scalar_rt e sn henv hID b fd' fs') v y hd
          rwa [(canon_id _).2 v] at this
      · simp only [hsf, hid, hk] at henv hst ⊢
        simp only [fieldOfSelV, hsf, leafNameV, hid, hk, Option.some.injEq, Option.map_some] at hf
        subst hf
        obtain ⟨hp, hID, n', d, sp, vs, ser, de, hfind, hwft⟩ := henv
        have := field_roundtrip_plain (dePath e b (fd' + 3)) (serPath e (fs' + 1)) _ en.name (gtyOf sf.ty.quals) id
          (by simp [fieldOf, hID]) rfl hwf
          (leaf_enum_rt e b (fd' + 2) fs' en.name n' d sp vs ser de hp hfind hwft) v y hd
        rwa [(canon_id _).2 v] at this
      · simp only [hsf, hid] at henv hst ⊢
        simp only [fieldOfSelV, hsf, leafNameV, hid, Option.some.injEq] at hf
        subst hf
        obtain ⟨hs, hesub⟩ := henv
        rw [deField_plain _ _ _ _ hs.2.1] at hd
        rw [canonLambdaV]
        simp only [hid, TypeId.isAbstract, Bool.false_eq_true, ↓reduceIte, List.append_nil] at hro
        refine (leaf_roundtrip_on (dePath e b (fd' + 3)) (serPath e (fs' + 1)) _
          (conformsAt c.s (.object i) sub) (canonSelV c.s c.o.skipNone sub) ?_ _ hwf).2 v y hst hd
        intro j w hc hdw
        simp only [conformsAt, List.any_eq_true, List.mem_range, Bool.and_eq_true] at hc
        obtain ⟨rt, _, _, hcv⟩ := hc
        cases j with
        | obj kvs =>
          simp only [conformsV, Bool.and_eq_true] at hcv
          refine rtStructV e c _ _ sub (fun x hx => (IH _ x hx).1) false hsub hesub hro.2 hro.1 hkeys hs b _ _
            (by omega) (by omega) kvs ⟨nodup_iff'.mp hcv.1.1, strictAt_of_conf hcv.2⟩ w hdw
        | _ => simp [conformsV] at hcv
      all_goals
        simp only [hsf, hid] at henv hst ⊢
        simp only [fieldOfSelV, hsf, leafNameV, hid, Option.some.injEq] at hf
        subst hf
        obtain ⟨hs, hesub⟩ := henv
        have hID : pfx ++ c.cs.camel (a.getD sf.name) ≠ "ID" := by
          unfold AbsEnv at hs; split at hs
          · exact hs.2.1
          · exact hs.1.2.1
        rw [deField_plain _ _ _ _ hID] at hd
        rw [canonLambdaAbs]
        simp only [hid, TypeId.isAbstract, ↓reduceIte] at hro
        refine (leaf_roundtrip_on (dePath e b (fd' + 3)) (serPath e (fs' + 1)) _
          (conformsAt c.s _ sub) (canonAbsV c.s c.o.skipNone sub) ?_ _ hwf).2 v y hst hd
        intro j w hc hdw
        exact rtAbsV e c _ _ _ sub (fun x hx => (IH _ x hx).1) (fun x hx => (IH _ x hx).2) hty
          hsub hok hesub hro.2 hro.1 hs b _ _ (by omega) (by omega) j w hc hdw
    | .spread g, pfx => ⟨(by intro abs ht; simp [vSel] at ht), trivial⟩
    | .inline t isub, pfx => by
      refine ⟨(by intro _ _ _ _ f hf; cases hf), ?_⟩
      intro ht henv hro fd fs hfd hfs kvs hok v hd
      have IH := rtSelsV isub
      simp only [vSel, Bool.and_eq_true] at ht
      rw [envSelV] at henv
      rw [rustOkSelV, Bool.and_eq_true] at hro
      exact rtStructV e c _ _ isub (fun x hx => (IH _ x hx).1) false ht.1.2 henv.2 hro.2 hro.1 ht.2 henv.1 true fd fs
        hfd hfs kvs hok v hd
    | .typename, pfx => ⟨(by intro _ _ _ _ f hf; cases hf), trivial⟩
  theorem rtSelsV : ∀ (sels : List Sel) (pfx : String), ∀ x ∈ sels, RTSelV e c pfx x ∧ RTInlV e c pfx x
    | [], _, x, hx => by simp at hx
    | y :: ys, pfx, x, hx => by
      rcases List.mem_cons.mp hx with h | hx'
      · rw [h]; exact rtSelV y pfx
      · exact rtSelsV ys pfx x hx'
end

/-- **round trip of the struct emitted for an object-level selection set** of the class `VariantOp` -/
theorem structV_lossless (pfx name : String) (sels : List Sel)
    (ht : vSels c.s c.o false sels = true) (henv : envSelsV e c pfx sels)
    (hro : rustOkSelsV c sels = true) (hrn : EnumSpec.nodup (rustNames c sels) = true)
    (hkeys : EnumSpec.nodup (respKeys c.s sels) = true)
    (hs : StructEnv e name (fieldsOfV c pfx sels)) (b : Bool) (fd fs : Nat)
    (hfd : 2 * selsDepth sels + 2 ≤ fd) (hfs : 2 * selsDepth sels + 1 ≤ fs) (rt : Nat) (j : Json) (v : Val)
    (hc : conformsV c.s rt sels j = true) (hd : dePath e b fd name j = .ok v) :
    serPath e fs name v = .ok (canonSelV c.s c.o.skipNone sels j) := by
  obtain ⟨kvs, rfl, hnd, hconf⟩ := conformsV_obj hc
  refine rtStructV e c pfx name sels (fun x hx => (rtSelsV e c sels pfx x hx).1) false ht henv hro hrn hkeys hs b fd fs
    hfd hfs kvs ⟨hnd, strictAt_of_conf hconf⟩ v hd

end RTV

end E2E
end C01
end GqlVerif
