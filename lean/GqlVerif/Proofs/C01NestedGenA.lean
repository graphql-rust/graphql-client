import GqlVerif.Proofs.C01NestedAbsJ
/-!
# `NestedGenOp`: nested fragments at GENERAL abstract positions — the class and the closed form of the items

`NestedAbsOp` (`C01NestedAbs*`) allows, at a field of interface / union type, `__typename` plus (a)-spreads `...F` /
`... on T { ...F }` of NESTED fragments (`fragOkN`) — and nothing else.  `NestedGenOp` adds **interface-level
fields** (scalar / enum fields) in the same selection set: the generator then emits the struct with the own fields and the
flattened member `on`, the tagged enum `…On`, and per possible type what it emits in `NestedAbsOp`.

The selection set is split: `strip sub` (everything but the fields) is a selection set of `NestedAbsOp` (`absSubA`), so the
whole variant side is the one of `NestedAbsOp`, used as it is; the fields are fields of `VariantSpreadOp` (`sSel`).

How the four classes `NestedAbsOp ⊆ NestedGenOp ⊆ NestedGen2Op ⊆ NestedBOp` hang together: header of `C01NestedAbsA`.
-/

namespace GqlVerif
namespace C01NG
open Serde Spec C13 C03 Codegen C01 C01.E2E C01M C01N C01NA

/-! ## the class -/

/-- the selection set without its (interface-level) fields: `__typename` and the variant selections -/
def strip (sub : List Sel) : List Sel := sub.filter (fun x => !isFieldSel x)

/-- the interface-level fields of the selection set -/
def ownSels (sub : List Sel) : List Sel := sub.filter isFieldSel

/-- an interface-level field of the class: a scalar / enum field (as in `VariantSpreadOp`) -/
def leafSel (s : Schema) (q : Query) (o : Options) : Sel → Bool
  | .field a fid sub =>
    sSel s q o true (.field a fid sub) &&
      (match (s.fields[fid]?).map (fun sf => sf.ty.id) with
       | some (TypeId.scalar _) => true
       | some (TypeId.enum _) => true
       | _ => false)
  | _ => true

/-- a selection set on the abstract type `ty` of the general kind: without its fields a selection set of
    `NestedAbsOp` (`absSubA`); the fields are scalar / enum fields with pairwise distinct response keys, none of them `__typename` -/
def absSubG (ok : TypeId → Nat → Bool) (s : Schema) (q : Query) (o : Options) (ty : TypeId) (sub : List Sel) : Bool :=
  absSubA ok s q o ty (strip sub) && sub.all (leafSel s q o) && EnumSpec.nodup ("__typename" :: fieldKeys s (ownSels sub))

/-- a field of interface / union type with a selection set of the general kind -/
def absFieldG (ok : TypeId → Nat → Bool) (s : Schema) (q : Query) (o : Options) (sf : StoredField) (sub : List Sel) : Bool :=
  wfQuals sf.ty.quals && !(sf.deprecation.isSome && o.deprecation == .deny) && absTyOk s sf.ty.id &&
    absSubG ok s q o sf.ty.id sub

mutual
  /-- one selection of an object-level selection set on `parent` -/
  def aSel (ok : TypeId → Nat → Bool) (s : Schema) (q : Query) (o : Options) (parent : TypeId) : Sel → Bool
    | .field a fid sub =>
      match s.fields[fid]? with
      | none => false
      | some sf =>
        match sf.ty.id with
        | .object i =>
          wfQuals sf.ty.quals && !(sf.deprecation.isSome && o.deprecation == .deny) && (s.objects[i]?).isSome &&
            (match sub with
             | [.spread g] => ok (.object i) g
             | _ => aSels ok s q o (.object i) sub)
        | _ => sSel s q o false (.field a fid sub) || absFieldG ok s q o sf sub
    | .typename => true
    | .spread g => ok parent g
    | .inline _ _ => false
  def aSels (ok : TypeId → Nat → Bool) (s : Schema) (q : Query) (o : Options) (parent : TypeId) : List Sel → Bool
    | [] => true
    | x :: xs => aSel ok s q o parent x && aSels ok s q o parent xs
end

def aBody (ok : TypeId → Nat → Bool) (s : Schema) (q : Query) (o : Options) (parent : TypeId) (sels : List Sel) : Bool :=
  match sels with
  | [.spread g] => ok parent g
  | _ => aSels ok s q o parent sels

/-- **the class `NestedGenOp`** (decidable): `NestedAbsOp`, and scalar / enum fields of the abstract type itself next to
    `__typename` and the variant selections at abstract positions (`absSubG`) -/
def NestedGenOp (c : Ctx) (op : ROperation) : Bool :=
  c.o.normalization == .none && (c.s.objects[op.objectId]?).isSome &&
  aBody (fragOkN c.s c.q c.o c.q.fragments.length) c.s c.q c.o (.object op.objectId) op.sels

/-! ## closed form -/

/-- the items of an abstract position of the general kind: the struct with the interface-level fields and the flattened
    `on` + the tagged enum `…On` (or the tagged enum alone, without fields), then per selected possible type the item of
    `NestedAbsOp` -/
def absItemsG (c : Ctx) (name pfx : String) (ty : TypeId) (sub : List Sel) : List Item :=
  renderType c name (fieldsOfV c pfx sub) (variantsV c pfx ty (marks c.q (strip sub))) ++
    (vtsOfTy c.s ty).flatMap (fun vt => variantHeadA c pfx vt (strip sub))

mutual
  def itemsA (c : Ctx) (pfx : String) : Sel → List Item
    | .field a fid sub =>
      match c.s.fields[fid]? with
      | none => []
      | some sf =>
        match sf.ty.id with
        | .object _ =>
          (match sub with
           | [.spread g] => [aliasItem (pfx ++ c.cs.camel (a.getD sf.name)) (fragName c g) false]
           | _ => .struct (pfx ++ c.cs.camel (a.getD sf.name)) c.respDerives c.serdeCrate
                    (fieldsOfF c (pfx ++ c.cs.camel (a.getD sf.name)) sub) ::
                  itemsAs c (pfx ++ c.cs.camel (a.getD sf.name)) sub)
        | ty =>
          if sSel c.s c.q c.o false (.field a fid sub) then itemsS c pfx (.field a fid sub)
          else absItemsG c (pfx ++ c.cs.camel (a.getD sf.name)) (pfx ++ c.cs.camel (a.getD sf.name)) ty sub
    | _ => []
  def itemsAs (c : Ctx) (pfx : String) : List Sel → List Item
    | [] => []
    | x :: xs => itemsA c pfx x ++ itemsAs c pfx xs
end

/-- **closed form** of the items of an object-level selection set -/
def bodyItemsA (c : Ctx) (name pfx : String) (sels : List Sel) : List Item :=
  match sels with
  | [.spread g] => [aliasItem name (fragName c g) false]
  | _ => .struct name c.respDerives c.serdeCrate (fieldsOfF c pfx sels) :: itemsAs c pfx sels

section Basic
variable {ok : TypeId → Nat → Bool} {s : Schema} {q : Query} {o : Options}

theorem aSels_cons {p : TypeId} {x : Sel} {xs : List Sel}
    (h : aSels ok s q o p (x :: xs) = true) : aSel ok s q o p x = true ∧ aSels ok s q o p xs = true := by
  simpa [aSels] using h

theorem aSels_mem {p : TypeId} : ∀ {sels : List Sel}, aSels ok s q o p sels = true →
    ∀ x ∈ sels, aSel ok s q o p x = true
  | [], _, _, hx => by simp at hx
  | y :: ys, h, x, hx => by
    obtain ⟨h1, h2⟩ := aSels_cons h
    rcases List.mem_cons.mp hx with rfl | hx'
    · exact h1
    · exact aSels_mem h2 x hx'

theorem aBody_not_lone {p : TypeId} {sels : List Sel}
    (h : ∀ g, sels ≠ [Sel.spread g]) : aBody ok s q o p sels = aSels ok s q o p sels := by
  unfold aBody
  split
  · rename_i g; exact absurd rfl (h g)
  · rfl

theorem aBody_lone {p : TypeId} {g : Nat} : aBody ok s q o p [Sel.spread g] = ok p g := rfl

theorem bodyItemsA_not_lone (c : Ctx) (name pfx : String) {sels : List Sel} (h : ∀ g, sels ≠ [Sel.spread g]) :
    bodyItemsA c name pfx sels =
      .struct name c.respDerives c.serdeCrate (fieldsOfF c pfx sels) :: itemsAs c pfx sels := by
  unfold bodyItemsA
  split
  · rename_i g; exact absurd rfl (h g)
  · rfl

theorem aSel_obj {p : TypeId} {a : Option String} {fid : Nat} {sub : List Sel}
    {sf : StoredField} {i : Nat} (hsf : s.fields[fid]? = some sf) (hid : sf.ty.id = .object i)
    (h : aSel ok s q o p (.field a fid sub) = true) :
    wfQuals sf.ty.quals = true ∧ (sf.deprecation.isSome && o.deprecation == .deny) = false ∧
      (s.objects[i]?).isSome = true ∧ aBody ok s q o (.object i) sub = true := by
  rw [aSel] at h
  simp only [hsf, hid, Bool.and_eq_true] at h
  obtain ⟨⟨⟨hw, hdep⟩, hobj⟩, hb⟩ := h
  refine ⟨hw, ?_, hobj, hb⟩
  cases hd : (sf.deprecation.isSome && o.deprecation == .deny) with
  | false => rfl
  | true => simp [hd] at hdep

/-- a field of the class that is not object-typed: a field of `VariantSpreadOp`, or of the new kind -/
theorem aSel_nonobj {p : TypeId} {a : Option String} {fid : Nat} {sub : List Sel}
    {sf : StoredField} (hsf : s.fields[fid]? = some sf) (hno : ∀ i, sf.ty.id ≠ .object i)
    (h : aSel ok s q o p (.field a fid sub) = true) :
    sSel s q o false (.field a fid sub) = true ∨
      (sSel s q o false (.field a fid sub) = false ∧ absFieldG ok s q o sf sub = true) := by
  rw [aSel] at h
  simp only [hsf] at h
  have h' : (sSel s q o false (.field a fid sub) || absFieldG ok s q o sf sub) = true := by
    simpa using h
  cases hs : sSel s q o false (.field a fid sub) with
  | true => exact .inl rfl
  | false => rw [hs] at h'; exact .inr ⟨rfl, by simpa using h'⟩

theorem aSel_field_some {p : TypeId} {a : Option String} {fid : Nat} {sub : List Sel}
    (h : aSel ok s q o p (.field a fid sub) = true) : ∃ sf, s.fields[fid]? = some sf := by
  rw [aSel] at h
  cases hsf : s.fields[fid]? with
  | none => simp [hsf] at h
  | some sf => exact ⟨sf, rfl⟩

theorem absFieldG_parts {sf : StoredField} {sub : List Sel} (h : absFieldG ok s q o sf sub = true) :
    wfQuals sf.ty.quals = true ∧ (sf.deprecation.isSome && o.deprecation == .deny) = false ∧
      absHyp s sf.ty.id ∧ absSubG ok s q o sf.ty.id sub = true := by
  simp only [absFieldG, Bool.and_eq_true] at h
  obtain ⟨⟨⟨hw, hdep⟩, hty⟩, hsub⟩ := h
  refine ⟨hw, ?_, absTyOk_absHyp hty, hsub⟩
  cases hd : (sf.deprecation.isSome && o.deprecation == .deny) with
  | false => rfl
  | true => simp [hd] at hdep

end Basic
/-! ## the selection set of a position of the general kind -/

/-- what `absSubG` says, as propositions -/
structure SpecialGen (ok : TypeId → Nat → Bool) (s : Schema) (q : Query) (o : Options) (ty : TypeId) (sub : List Sel) :
    Prop where
  abs : SpecialAbs ok s q o ty (strip sub)
  leaf : ∀ x ∈ sub, leafSel s q o x = true
  nd : EnumSpec.nodup ("__typename" :: fieldKeys s (ownSels sub)) = true

theorem absSubG_parts {ok : TypeId → Nat → Bool} {s : Schema} {q : Query} {o : Options} {ty : TypeId} {sub : List Sel}
    (h : absSubG ok s q o ty sub = true) : SpecialGen ok s q o ty sub := by
  simp only [absSubG, Bool.and_eq_true, List.all_eq_true] at h
  exact ⟨absSubA_parts h.1.1, h.1.2, h.2⟩

theorem mem_strip {sub : List Sel} {x : Sel} : x ∈ strip sub ↔ x ∈ sub ∧ isFieldSel x = false := by
  simp [strip, List.mem_filter]

theorem strip_cons_field (a : Option String) (fid : Nat) (sub' : List Sel) (xs : List Sel) :
    strip (Sel.field a fid sub' :: xs) = strip xs := by
  simp [strip, isFieldSel]

theorem strip_cons_other {x : Sel} (h : isFieldSel x = false) (xs : List Sel) : strip (x :: xs) = x :: strip xs := by
  simp [strip, h]

/-- a selection set without fields is its own `strip` -/
theorem strip_eq_self {sub : List Sel} (h : ∀ x ∈ sub, isFieldSel x = false) : strip sub = sub := by
  unfold strip
  rw [List.filter_eq_self]
  intro x hx
  simp [h x hx]

theorem SpecialGen.ne_nil {ok : TypeId → Nat → Bool} {s : Schema} {q : Query} {o : Options} {ty : TypeId} {sub : List Sel}
    (h : SpecialGen ok s q o ty sub) : sub ≠ [] := by
  intro hs
  have := h.abs.tn
  rw [hs] at this
  simp [strip] at this

theorem SpecialGen.tn {ok : TypeId → Nat → Bool} {s : Schema} {q : Query} {o : Options} {ty : TypeId} {sub : List Sel}
    (h : SpecialGen ok s q o ty sub) : sub.any isTypename = true := by
  have := h.abs.tn
  simp only [List.any_eq_true] at this ⊢
  obtain ⟨x, hx, hxt⟩ := this
  exact ⟨x, (mem_strip.mp hx).1, hxt⟩

/-- what `leafSel` says of a field -/
theorem leafSel_field {s : Schema} {q : Query} {o : Options} {a : Option String} {fid : Nat} {sub' : List Sel}
    (h : leafSel s q o (.field a fid sub') = true) :
    ∃ sf, s.fields[fid]? = some sf ∧ wfQuals sf.ty.quals = true ∧
      (sf.deprecation.isSome && o.deprecation == .deny) = false ∧ sub' = [] ∧
      ((∃ k sn, sf.ty.id = .scalar k ∧ s.scalars[k]? = some sn) ∨ (∃ k en, sf.ty.id = .enum k ∧ s.enums[k]? = some en)) := by
  simp only [leafSel, Bool.and_eq_true] at h
  obtain ⟨hs, hl⟩ := h
  rw [sSel] at hs
  cases hsf : s.fields[fid]? with
  | none => simp [hsf] at hs
  | some sf =>
    simp only [hsf, Bool.and_eq_true, Option.map_some] at hs hl
    obtain ⟨⟨hw, hdep⟩, hty⟩ := hs
    have hdep' : (sf.deprecation.isSome && o.deprecation == .deny) = false := by
      cases hd : (sf.deprecation.isSome && o.deprecation == .deny) with
      | false => rfl
      | true => simp [hd] at hdep
    refine ⟨sf, rfl, hw, hdep', ?_⟩
    cases hid : sf.ty.id with
    | scalar k =>
      simp only [hid, Bool.and_eq_true, List.isEmpty_iff] at hty
      cases hk : s.scalars[k]? with
      | none => simp [hk] at hty
      | some sn => exact ⟨hty.2, .inl ⟨k, sn, rfl, hk⟩⟩
    | «enum» k =>
      simp only [hid, Bool.and_eq_true, List.isEmpty_iff] at hty
      cases hk : s.enums[k]? with
      | none => simp [hk] at hty
      | some en => exact ⟨hty.2, .inr ⟨k, en, rfl, hk⟩⟩
    | object k => simp [hid] at hl
    | interface k => simp [hid] at hl
    | union k => simp [hid] at hl
    | input k => simp [hid] at hl

/-! ## the items of an abstract position of the general kind -/

section CalcAbs
variable (c : Ctx) (hn : c.o.normalization = .none) (ok : TypeId → Nat → Bool) (hok : OkSpec c.q ok)

include hn in
/-- the field loop: the interface-level fields, no items -/
theorem calcFields_specialG (pfx : String) (ty : TypeId) : ∀ (sub : List Sel) (fuel : Nat), sub.length + 1 ≤ fuel →
    (∀ x ∈ sub, leafSel c.s c.q c.o x = true) →
    (∀ g, Sel.spread g ∈ sub → ∃ f, c.q.fragments[g]? = some f ∧ f.on ≠ ty) →
    calcFields c fuel pfx ty sub = .ok (fieldsOfV c pfx sub, [])
  | [], fuel, hf, _, _ => by
    obtain ⟨f, rfl⟩ : ∃ f, fuel = f + 1 := ⟨fuel - 1, by omega⟩
    rw [calcFields.eq_2 _ _ _ _ (by omega)]; rfl
  | x :: xs, fuel, hf, hlf, hsp => by
    simp only [List.length_cons] at hf
    obtain ⟨f, rfl⟩ : ∃ f, fuel = f + 1 := ⟨fuel - 1, by omega⟩
    have ih := calcFields_specialG pfx ty xs f (by omega) (fun y hy => hlf y (List.mem_cons_of_mem _ hy))
      (fun g hg => hsp g (List.mem_cons_of_mem _ hg))
    cases x with
    | field a fid sub' =>
      obtain ⟨sf, hsf, hw, hdep', _, hty⟩ := leafSel_field (hlf _ (List.mem_cons_self))
      rw [calcFields.eq_3]
      simp only [getField_of hsf, bind, Except.bind]
      rcases hty with ⟨k, sn, hid, hk⟩ | ⟨k, en, hid, hk⟩
      · simp only [hid, getScalar_of hk, hn, C02.fieldType_none, renderField_tree c _ _ _ _ hw hdep', ih,
          pure, Except.pure]
        simp [fieldsOfV, fieldOfSelV, hsf, hid, leafNameV, hk]
      · simp only [hid, getEnum_of hk, hn, C02.fieldType_none, renderField_tree c _ _ _ _ hw hdep', ih,
          pure, Except.pure]
        simp [fieldsOfV, fieldOfSelV, hsf, hid, leafNameV, hk]
    | spread g =>
      obtain ⟨fr, hfr, hne⟩ := hsp g (List.mem_cons_self)
      have hne' : (fr.on != ty) = true := by simpa using hne
      rw [calcFields.eq_4]
      simp only [getFragment_of hfr, bind, Except.bind, ih, hne', ↓reduceIte, pure, Except.pure]
      rw [fieldsOfV_cons_none c pfx _ xs rfl]
    | inline t sub' =>
      rw [calcFields.eq_5 _ _ _ _ _ _ (by simp) (by simp), ih, fieldsOfV_cons_none c pfx _ xs rfl]
    | typename =>
      rw [calcFields.eq_5 _ _ _ _ _ _ (by simp) (by simp), ih, fieldsOfV_cons_none c pfx _ xs rfl]

end CalcAbs

/-! ## the closed form of the items for `NestedGenOp` -/

section CalcA
variable (c : Ctx) (hn : c.o.normalization = .none) (N M : Nat) (ok : TypeId → Nat → Bool) (hok : OkSpec c.q ok)

theorem itemsA_old (pfx : String) (a : Option String) (fid : Nat) (sub : List Sel) (sf : StoredField)
    (hsf : c.s.fields[fid]? = some sf) (hno : ∀ i, sf.ty.id ≠ .object i)
    (hs : sSel c.s c.q c.o false (.field a fid sub) = true) :
    itemsA c pfx (.field a fid sub) = itemsS c pfx (.field a fid sub) := by
  rw [itemsA]
  simp only [hsf]
  simp [hs]

theorem itemsA_new (pfx : String) (a : Option String) (fid : Nat) (sub : List Sel) (sf : StoredField)
    (hsf : c.s.fields[fid]? = some sf) (hno : ∀ i, sf.ty.id ≠ .object i)
    (hs : sSel c.s c.q c.o false (.field a fid sub) = false) :
    itemsA c pfx (.field a fid sub) =
      absItemsG c (pfx ++ c.cs.camel (a.getD sf.name)) (pfx ++ c.cs.camel (a.getD sf.name)) sf.ty.id sub := by
  rw [itemsA]
  simp only [hsf]
  simp [hs]

end CalcA

theorem nestedGenOp_parts {c : Ctx} {op : ROperation} (h : NestedGenOp c op = true) :
    c.o.normalization = .none ∧ (c.s.objects[op.objectId]?).isSome = true ∧
      aBody (fragOkN c.s c.q c.o c.q.fragments.length) c.s c.q c.o (.object op.objectId) op.sels = true := by
  simp only [NestedGenOp, Bool.and_eq_true, beq_iff_eq] at h
  exact ⟨h.1.1, h.1.2, h.2⟩

/-! ## `NestedAbsOp ⊆ NestedGenOp`; the closed form agrees -/

theorem absSelA_not_field {ok : TypeId → Nat → Bool} {vts : List TypeId} {x : Sel} (h : absSelA ok vts x = true) :
    isFieldSel x = false := by
  cases x <;> simp_all [absSelA, isFieldSel]

theorem ownSels_nil {sub : List Sel} (h : ∀ x ∈ sub, isFieldSel x = false) : ownSels sub = [] := by
  unfold ownSels
  rw [List.filter_eq_nil_iff]
  intro x hx
  simp [h x hx]

theorem fieldsOfV_nil {c : Ctx} {pfx : String} {sub : List Sel} (h : ∀ x ∈ sub, isFieldSel x = false) :
    fieldsOfV c pfx sub = [] := by
  unfold fieldsOfV
  rw [List.filterMap_eq_nil_iff]
  intro x hx
  have := h x hx
  cases x <;> simp_all [fieldOfSelV, isFieldSel]

theorem absSubA_nofield {ok : TypeId → Nat → Bool} {s : Schema} {q : Query} {o : Options} {ty : TypeId} {sub : List Sel}
    (h : absSubA ok s q o ty sub = true) : ∀ x ∈ sub, isFieldSel x = false :=
  fun x hx => absSelA_not_field ((absSubA_parts h).sel x hx)

theorem absSubG_of_absSubA {ok : TypeId → Nat → Bool} {s : Schema} {q : Query} {o : Options} {ty : TypeId} {sub : List Sel}
    (h : absSubA ok s q o ty sub = true) : absSubG ok s q o ty sub = true := by
  have hnf := absSubA_nofield h
  simp only [absSubG, Bool.and_eq_true, List.all_eq_true]
  refine ⟨⟨by rw [strip_eq_self hnf]; exact h, ?_⟩, ?_⟩
  · intro x hx
    have := hnf x hx
    cases x <;> simp_all [leafSel, isFieldSel]
  · rw [ownSels_nil hnf]; rfl

theorem absFieldG_of_absFieldA {ok : TypeId → Nat → Bool} {s : Schema} {q : Query} {o : Options} {sf : StoredField}
    {sub : List Sel} (h : absFieldA ok s q o sf sub = true) : absFieldG ok s q o sf sub = true := by
  simp only [absFieldA, Bool.and_eq_true] at h
  simp only [absFieldG, Bool.and_eq_true]
  exact ⟨h.1, absSubG_of_absSubA h.2⟩

/-- at a position of `NestedAbsOp` the closed form is the one of `nestedabs_items_shape` -/
theorem absItemsG_eq_A {ok : TypeId → Nat → Bool} {c : Ctx} {ty : TypeId} {sub : List Sel}
    (h : absSubA ok c.s c.q c.o ty sub = true) (name pfx : String) :
    absItemsG c name pfx ty sub = absItemsA c name pfx ty sub := by
  have hnf := absSubA_nofield h
  unfold absItemsG absItemsA
  rw [strip_eq_self hnf, fieldsOfV_nil hnf]

mutual
  theorem aSel_of_A {ok : TypeId → Nat → Bool} (s : Schema) (q : Query) (o : Options) : ∀ (x : Sel) (p : TypeId),
      C01NA.aSel ok s q o p x = true → aSel ok s q o p x = true
    | .field a fid sub, p => by
      intro h
      have IH := aSels_of_A (ok := ok) s q o sub
      obtain ⟨sf, hsf⟩ := C01NA.aSel_field_some h
      by_cases hobj : ∃ i, sf.ty.id = .object i
      · obtain ⟨i, hid⟩ := hobj
        obtain ⟨hw, hdep, ho, hb⟩ := C01NA.aSel_obj hsf hid h
        rw [aSel]
        simp only [hsf, hid, hw, hdep, ho, Bool.not_false, Bool.and_self, Bool.true_and]
        by_cases hsp : ∃ g, sub = [Sel.spread g]
        · obtain ⟨g, rfl⟩ := hsp; exact hb
        · have hnl : ∀ g, sub ≠ [Sel.spread g] := fun g hg => hsp ⟨g, hg⟩
          rw [C01NA.aBody_not_lone hnl] at hb
          split
          · exact absurd rfl (hnl _)
          · exact IH _ hb
      · have hno : ∀ i, sf.ty.id ≠ .object i := fun i h => hobj ⟨i, h⟩
        have hs : (sSel s q o false (.field a fid sub) || absFieldG ok s q o sf sub) = true := by
          rcases C01NA.aSel_nonobj hsf hno h with hs | ⟨_, hnew⟩
          · rw [hs]; rfl
          · rw [absFieldG_of_absFieldA hnew]; simp
        rw [aSel]
        simp only [hsf]
        simpa using hs
    | .spread g, p => by intro h; rw [C01NA.aSel] at h; rw [aSel]; exact h
    | .inline _ _, _ => by intro h; simp [C01NA.aSel] at h
    | .typename, _ => by intro _; simp [aSel]
  theorem aSels_of_A {ok : TypeId → Nat → Bool} (s : Schema) (q : Query) (o : Options) : ∀ (sels : List Sel) (p : TypeId),
      C01NA.aSels ok s q o p sels = true → aSels ok s q o p sels = true
    | [], _ => by intro _; rfl
    | x :: xs, p => by
      intro h
      obtain ⟨hx, hxs⟩ := C01NA.aSels_cons h
      rw [aSels, aSel_of_A s q o x p hx, aSels_of_A s q o xs p hxs]; rfl
end

theorem aBody_of_A {ok : TypeId → Nat → Bool} {s : Schema} {q : Query} {o : Options} {p : TypeId} {sels : List Sel}
    (h : C01NA.aBody ok s q o p sels = true) : aBody ok s q o p sels = true := by
  by_cases hsp : ∃ g, sels = [Sel.spread g]
  · obtain ⟨g, rfl⟩ := hsp; exact h
  · have hnl : ∀ g, sels ≠ [Sel.spread g] := fun g hg => hsp ⟨g, hg⟩
    rw [C01NA.aBody_not_lone hnl] at h
    rw [aBody_not_lone hnl]
    exact aSels_of_A s q o sels p h

/-- **`NestedAbsOp ⊆ NestedGenOp`** -/
theorem nestedGenOp_of_nestedAbsOp (c : Ctx) (op : ROperation) (h : NestedAbsOp c op = true) : NestedGenOp c op = true := by
  obtain ⟨hn, ho, hb⟩ := nestedAbsOp_parts h
  simp only [NestedGenOp, Bool.and_eq_true, beq_iff_eq]
  exact ⟨⟨hn, ho⟩, aBody_of_A hb⟩

mutual
  theorem itemsA_eq_A {ok : TypeId → Nat → Bool} (c : Ctx) : ∀ (x : Sel) (p : TypeId) (pfx : String),
      C01NA.aSel ok c.s c.q c.o p x = true → itemsA c pfx x = C01NA.itemsA c pfx x
    | .field a fid sub, p, pfx => by
      intro h
      have IH := itemsAs_eq_A (ok := ok) c sub
      obtain ⟨sf, hsf⟩ := C01NA.aSel_field_some h
      by_cases hobj : ∃ i, sf.ty.id = .object i
      · obtain ⟨i, hid⟩ := hobj
        obtain ⟨_, _, _, hb⟩ := C01NA.aSel_obj hsf hid h
        rw [itemsA, C01NA.itemsA]
        simp only [hsf, hid]
        by_cases hsp : ∃ g, sub = [Sel.spread g]
        · obtain ⟨g, rfl⟩ := hsp; rfl
        · have hnl : ∀ g, sub ≠ [Sel.spread g] := fun g hg => hsp ⟨g, hg⟩
          rw [C01NA.aBody_not_lone hnl] at hb
          have e1 := IH (.object i) (pfx ++ c.cs.camel (a.getD sf.name)) hb
          split
          · exact absurd rfl (hnl _)
          · split
            · exact absurd rfl (hnl _)
            · rw [e1]
      · have hno : ∀ i, sf.ty.id ≠ .object i := fun i h => hobj ⟨i, h⟩
        rcases C01NA.aSel_nonobj hsf hno h with hs | ⟨hs, hnew⟩
        · rw [itemsA_old c pfx a fid sub sf hsf hno hs, C01NA.itemsA_old c pfx a fid sub sf hsf hno hs]
        · rw [itemsA_new c pfx a fid sub sf hsf hno hs, C01NA.itemsA_new c pfx a fid sub sf hsf hno hs]
          exact absItemsG_eq_A (C01NA.absFieldA_parts hnew).2.2.2 _ _
    | .spread g, _, _ => by intro _; simp [itemsA, C01NA.itemsA]
    | .inline _ _, _, _ => by intro _; simp [itemsA, C01NA.itemsA]
    | .typename, _, _ => by intro _; simp [itemsA, C01NA.itemsA]
  theorem itemsAs_eq_A {ok : TypeId → Nat → Bool} (c : Ctx) : ∀ (sels : List Sel) (p : TypeId) (pfx : String),
      C01NA.aSels ok c.s c.q c.o p sels = true → itemsAs c pfx sels = C01NA.itemsAs c pfx sels
    | [], _, _ => by intro _; rfl
    | x :: xs, p, pfx => by
      intro h
      obtain ⟨hx, hxs⟩ := C01NA.aSels_cons h
      rw [itemsAs, C01NA.itemsAs, itemsA_eq_A c x p pfx hx, itemsAs_eq_A c xs p pfx hxs]
end

/-- on `NestedAbsOp` the closed form is the one of `nestedabs_items_shape` -/
theorem bodyItemsA_eq_A (c : Ctx) (op : ROperation) (h : NestedAbsOp c op = true) (name pfx : String) :
    bodyItemsA c name pfx op.sels = C01NA.bodyItemsA c name pfx op.sels := by
  obtain ⟨_, _, hb⟩ := nestedAbsOp_parts h
  by_cases hsp : ∃ g, op.sels = [Sel.spread g]
  · obtain ⟨g, hg⟩ := hsp; rw [hg]; rfl
  · have hnl : ∀ g, op.sels ≠ [Sel.spread g] := fun g hg => hsp ⟨g, hg⟩
    rw [C01NA.aBody_not_lone hnl] at hb
    rw [bodyItemsA_not_lone c name pfx hnl, C01NA.bodyItemsA_not_lone c name pfx hnl, itemsAs_eq_A c op.sels _ pfx hb]

end C01NG
end GqlVerif
