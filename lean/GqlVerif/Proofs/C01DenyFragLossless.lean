import GqlVerif.Proofs.C01DenyFrag
/-!
# `FragOpD`: acceptance and losslessness for payloads conforming to the operation AS WRITTEN

`C01DenyFrag` reduces acceptance / losslessness to: *the erasure `eraseDeniedF c op j` (`C14GeneratedFragDeep`) of a payload conforming to
the operation as written conforms to the pruned operation in the pruned document*.  This file proves it
(`conformsOpF_erase`).  On object trees the specification with runtime types (`conformsV`, `C01AbstractA`) and the tree
specification (`conformsSel`, `C01EndToEndA`) coincide (`conformsV_eq`), so at one object-level selection set
(`eraseF_sel` / `eraseF_sels`) the kept fields of the bodies of the fragments spread in it are handled by the tree lemma
`strict_erase_sels_gen` of `C01DenyTreeLossless`, next to the own kept fields and `__typename`.

Side condition: `tnOkOpF c op` (decidable) — the analogue of `tnOkOp` (`C01DenyTreeLossless`): where `__typename` is selected in a
kept selection set (directly or through a fragment spread in it), no denied selection collected there is aliased
`__typename`.
-/

namespace GqlVerif
namespace C01
namespace Deny
open Codegen C01.E2E C14G

/-! ## the two specifications coincide on object trees -/

mutual
  /-- fields of scalar / enum / existing object types and `__typename`, at every depth -/
  def objTree (s : Schema) : Sel → Bool
    | .field _ fid sub =>
      match s.fields[fid]? with
      | none => false
      | some sf =>
        match sf.ty.id with
        | .scalar _ => true
        | .enum _ => true
        | .object i => (s.objects[i]?).isSome && objTrees s sub
        | _ => false
    | .typename => true
    | _ => false
  def objTrees (s : Schema) : List Sel → Bool
    | [] => true
    | x :: xs => objTree s x && objTrees s xs
end

theorem objTrees_append {s : Schema} : ∀ {xs ys : List Sel},
    objTrees s (xs ++ ys) = true ↔ objTrees s xs = true ∧ objTrees s ys = true
  | [], ys => by simp [objTrees]
  | x :: xs, ys => by
    rw [List.cons_append, objTrees, objTrees, Bool.and_eq_true, Bool.and_eq_true, objTrees_append (xs := xs), and_assoc]

mutual
  theorem objTree_of_treeSelD (c : Ctx) : ∀ x : Sel, treeSelD c x = true →
      objTree c.s x = true ∧ objTrees c.s (pruneSel c x) = true
    | .field a fid sub => by
      intro h
      have IH := objTrees_of_treeSelsD c sub
      obtain ⟨sf, hsf, _, hty⟩ := treeSelD_field h
      have key : objTree c.s (.field a fid sub) = true ∧ objTree c.s (.field a fid (pruneSels c sub)) = true := by
        rw [objTree, objTree]
        rcases hty with ⟨k, n, hid, _, _⟩ | ⟨k, en, hid, _, _⟩ | ⟨i, o, hid, ho, hsub, _⟩
        · simp [hsf, hid]
        · simp [hsf, hid]
        · simp [hsf, hid, ho, IH hsub]
      refine ⟨key.1, ?_⟩
      rcases pruneSel_field c a fid sub with hp | hp
      · rw [hp]; rfl
      · rw [hp, objTrees, key.2]; rfl
    | .spread _ => by intro h; simp [treeSelD] at h
    | .inline _ _ => by intro h; simp [treeSelD] at h
    | .typename => by intro _; rw [pruneSel_typename]; simp [objTree, objTrees]
  theorem objTrees_of_treeSelsD (c : Ctx) : ∀ xs : List Sel, treeSelsD c xs = true →
      objTrees c.s xs = true ∧ objTrees c.s (pruneSels c xs) = true
    | [] => by intro _; rw [pruneSels]; simp [objTrees]
    | x :: xs => by
      intro h
      obtain ⟨hx, hxs⟩ := treeSelsD_cons h
      obtain ⟨a1, a2⟩ := objTree_of_treeSelD c x hx
      obtain ⟨b1, b2⟩ := objTrees_of_treeSelsD c xs hxs
      rw [objTrees, pruneSels, a1, b1]
      exact ⟨rfl, objTrees_append.mpr ⟨a2, b2⟩⟩
end

theorem any_range_eq (P : Nat → Bool) (i : Nat) : ∀ n : Nat,
    (List.range n).any (fun r => (i == r) && P r) = (decide (i < n) && P i)
  | 0 => by simp
  | n + 1 => by
    rw [List.range_succ, List.any_append, any_range_eq P i n]
    by_cases h1 : i < n
    · have : i < n + 1 := by omega
      have hne : (i == n) = false := by simp; omega
      simp [h1, this, hne]
    · by_cases h2 : i = n
      · subst h2; simp
      · have : ¬ i < n + 1 := by omega
        have hne : (i == n) = false := by simpa using h2
        simp [h1, this, hne]

theorem conformsAt_object (s : Schema) (i : Nat) (sub : List Sel) (j : Json) :
    conformsAt s (.object i) sub j = (decide (i < s.objects.length) && conformsV s i sub j) := by
  unfold conformsAt
  have : (fun rt' => fragApplies s rt' (.object i) && conformsV s rt' sub j) =
      (fun r => (i == r) && conformsV s r sub j) := by
    funext r; simp [fragApplies]
  rw [this, any_range_eq]

theorem keysSelsV_objTrees (s : Schema) (rt : Nat) : ∀ xs : List Sel, objTrees s xs = true →
    keysSelsV s rt xs = respKeys s xs
  | [], _ => by simp [keysSelsV, respKeys]
  | x :: xs, h => by
    rw [objTrees, Bool.and_eq_true] at h
    rw [keysSelsV, keysSelsV_objTrees s rt xs h.2, respKeys_cons]
    congr 1
    cases x with
    | field a fid sub =>
      simp only [keysSelV, respKey]
      cases s.fields[fid]? <;> rfl
    | typename => rfl
    | inline t sub => simp [objTree] at h
    | spread g => simp [objTree] at h

theorem rtName_of {s : Schema} {i : Nat} {o : StoredObject} (h : s.objects[i]? = some o) : rtName s i = o.name := by
  simp [rtName, h]

/-- `conformsV = conformsSel` on an object, from `confSelsV = confSels` on its entries -/
theorem conformsV_eq_of {s : Schema} {xs : List Sel} {rt : Nat} (h : objTrees s xs = true)
    (H : ∀ kvs, confSelsV s rt xs kvs = confSels s (rtName s rt) xs kvs) (j : Json) :
    conformsV s rt xs j = conformsSel s (rtName s rt) xs j := by
  cases j with
  | obj kvs =>
    simp only [conformsV, conformsSel]
    rw [keysSelsV_objTrees s rt xs h, H kvs]
  | _ => rfl

mutual
  theorem strictV_sel (s : Schema) : ∀ (x : Sel) (v : Json), objTree s x = true → strictFieldV s x v = strictField s x v
    | .field a fid sub, v => by
      intro h
      have IH := confSelsV_eq s sub
      rw [objTree] at h
      simp only [strictFieldV, strictField]
      cases hsf : s.fields[fid]? with
      | none => rfl
      | some sf =>
        simp only [hsf] at h ⊢
        cases hid : sf.ty.id with
        | scalar k => rfl
        | «enum» k => rfl
        | object i =>
          simp only [hid, Bool.and_eq_true] at h ⊢
          cases ho : s.objects[i]? with
          | none => simp [ho] at h
          | some o =>
            simp only []
            have hfun : conformsAt s (.object i) sub = conformsSel s o.name sub := by
              funext j
              rw [conformsAt_object, conformsV_eq_of h.2 (fun kvs => IH i kvs h.2), rtName_of ho]
              simp [(List.getElem?_eq_some_iff.mp ho).1]
            rw [hfun]
        | _ => simp [hid] at h
    | .spread _, _ => fun _ => rfl
    | .inline _ _, _ => fun _ => rfl
    | .typename, _ => fun _ => rfl
  theorem confSelsV_eq (s : Schema) : ∀ (xs : List Sel) (rt : Nat) (kvs : List (String × Json)),
      objTrees s xs = true → confSelsV s rt xs kvs = confSels s (rtName s rt) xs kvs
    | [], _, _, _ => by simp [confSelsV, confSels]
    | x :: xs, rt, kvs, h => by
      rw [objTrees, Bool.and_eq_true] at h
      rw [confSelsV, confSels, confSelsV_eq s xs rt kvs h.2]
      congr 1
      cases x with
      | field a fid sub =>
        rw [confSelV_field, confSel_field]
        cases hsf : s.fields[fid]? with
        | none => rfl
        | some sf =>
          simp only []
          cases Json.lookup (a.getD sf.name) kvs with
          | none => rfl
          | some v => exact strictV_sel s (.field a fid sub) v h.1
      | typename =>
        simp only [confSelV, confSel]
        cases Json.lookup "__typename" kvs with
        | none => rfl
        | some v => cases v <;> rfl
      | inline t sub => simp [objTree] at h
      | spread g => simp [objTree] at h
end

theorem strictV_eq (s : Schema) : ∀ (a : Option String) (fid : Nat) (sub : List Sel) (v : Json),
    objTree s (.field a fid sub) = true → strictFieldV s (.field a fid sub) v = strictField s (.field a fid sub) v :=
  fun a fid sub v => strictV_sel s (.field a fid sub) v

/-- **on object trees the specification with runtime types is the tree specification** -/
theorem conformsV_eq (s : Schema) : ∀ (xs : List Sel) (rt : Nat) (j : Json),
    objTrees s xs = true → conformsV s rt xs j = conformsSel s (rtName s rt) xs j :=
  fun xs rt j h => conformsV_eq_of h (fun kvs => confSelsV_eq s xs rt kvs h) j

/-! ## the eraser of the fragment class: entries, lookups -/

def erasedKvsF (c : Ctx) (sels : List Sel) (kvs : List (String × Json)) : List (String × Json) :=
  (eraseKeys (dropKeysF c sels) kvs).map
    (fun kv => (kv.1, eraseEntryF c sels kv.1 (eraseFragEntry c (spreadFrags c sels) kv.1 kv.2)))

theorem eraseObjF_obj (c : Ctx) (sels : List Sel) (kvs : List (String × Json)) :
    eraseObjF c sels (.obj kvs) = .obj (erasedKvsF c sels kvs) := rfl

theorem objOnly_eraseObjF (c : Ctx) (sels : List Sel) : ObjOnly (eraseObjF c sels) :=
  ⟨rfl, fun j => by cases j <;> rfl, fun _ => rfl⟩

theorem erasedKvsF_keys (c : Ctx) (sels : List Sel) (kvs : List (String × Json)) :
    (erasedKvsF c sels kvs).map (·.1) = (kvs.map (·.1)).filter (fun k => !(dropKeysF c sels).contains k) := by
  simp only [erasedKvsF, eraseKeys, List.map_map]
  rw [List.filter_map]
  rfl

theorem eraseInSelF_str (c : Ctx) (x : Sel) (s : String) : eraseInSelF c x (.str s) = .str s := by
  cases x with
  | field a fid sub =>
    cases hsf : c.s.fields[fid]? with
    | none => simp [eraseInSelF, hsf]
    | some sf =>
      by_cases hobj : ∃ i, sf.ty.id = .object i
      · obtain ⟨i, hid⟩ := hobj
        rw [eraseInSelF_object hsf hid]
        exact thruQuals_str (objOnly_eraseObjF c sub) _ _
      · rw [eraseInSelF_leaf hsf (fun i h => hobj ⟨i, h⟩)]
  | inline t sub => simp [eraseInSelF]
  | spread g => simp [eraseInSelF]
  | typename => simp [eraseInSelF]

theorem eraseFragEntry_str (c : Ctx) (k s : String) : ∀ fs : List RFragment, eraseFragEntry c fs k (.str s) = .str s
  | [] => rfl
  | f :: fs => by rw [eraseFragEntry, eraseEntry_str, eraseFragEntry_str c k s fs]

/-! ## the side condition on `__typename` (fragment class) -/

/-- a selection set that selects `__typename` — directly or through a fragment spread in it — does not erase that key -/
def tnHereF (c : Ctx) (sels : List Sel) : Bool :=
  !(hasTypename sels || (spreadFrags c sels).any (fun f => hasTypename f.sels)) ||
    !(dropKeysF c sels).contains "__typename"

/-- the bodies of the fragments spread here satisfy the tree condition `tnOkSels` below their top level -/
def fragsTnOk (c : Ctx) (sels : List Sel) : Bool := (spreadFrags c sels).all (fun f => tnOkSels c f.sels)

mutual
  def tnOkSelF (c : Ctx) : Sel → Bool
    | .field _ fid sub =>
      match c.s.fields[fid]? with
      | some sf => isDenied c sf || (tnHereF c sub && fragsTnOk c sub && tnOkSelsF c sub)
      | none => true
    | _ => true
  def tnOkSelsF (c : Ctx) : List Sel → Bool
    | [] => true
    | x :: xs => tnOkSelF c x && tnOkSelsF c xs
end

/-- **side condition** (decidable): `tnHereF` and `fragsTnOk` at the root and at every kept selection set -/
def tnOkOpF (c : Ctx) (op : ROperation) : Bool := tnHereF c op.sels && fragsTnOk c op.sels && tnOkSelsF c op.sels

/-- what the descent needs at one object-level selection set on the object type `rt` -/
structure LevelF (c : Ctx) (rt : Nat) (sels : List Sel) : Prop where
  coll : EnumSpec.nodup (collectedKept c sels) = true
  tn : (hasTypename sels = true ∨ ∃ f ∈ spreadFrags c sels, hasTypename f.sels = true) → "__typename" ∉ dropKeysF c sels
  frag : ∀ g, Sel.spread g ∈ sels → ∃ f, c.q.fragments[g]? = some f ∧ f.on = .object rt ∧ treeSelsD c f.sels = true ∧
    EnumSpec.nodup (keptKeys c f.sels) = true ∧ tnOkSels c f.sels = true
  noInline : ∀ t sub, Sel.inline t sub ∉ sels

theorem levelF_of {c : Ctx} {rt : Nat} {sels : List Sel} (hfs : fSelsD c (.object rt) sels = true)
    (hcoll : EnumSpec.nodup (collectedKept c sels) = true) (htn : tnHereF c sels = true)
    (hfr : fragsTnOk c sels = true) : LevelF c rt sels := by
  refine ⟨hcoll, fun h => ?_, fun g hg => ?_, fun t sub hm => ?_⟩
  · simp only [tnHereF, Bool.or_eq_true, Bool.not_eq_true', Bool.or_eq_false_iff, List.any_eq_false,
      List.contains_eq_mem, decide_eq_false_iff_not] at htn
    rcases htn with htn | htn
    · rcases h with h | ⟨f, hf, h⟩
      · rw [htn.1] at h; cases h
      · have := htn.2 f hf
        rw [h] at this; exact absurd rfl this
    · exact htn
  · have hx := fSelD_of_mem hfs hg
    have hok : fragOkD c (.object rt) g = true := by simpa [fSelD] using hx
    obtain ⟨f, hf, hon, _, hv, hk⟩ := fragOkD_parts hok
    refine ⟨f, hf, hon, hv, hk, ?_⟩
    simp only [fragsTnOk, List.all_eq_true] at hfr
    exact hfr f (mem_spreadFrags.mpr ⟨g, hg, hf⟩)
  · have := fSelD_of_mem hfs hm
    simp [fSelD] at this

theorem collected_not_drop {c : Ctx} {sels : List Sel} {k : String} (h : k ∈ collectedKept c sels) : k ∉ dropKeysF c sels := by
  simp only [dropKeysF, List.mem_filter, Bool.not_eq_true', List.contains_eq_mem, decide_eq_false_iff_not, not_and,
    Decidable.not_not]
  exact fun _ => h

section Lookups
variable {c : Ctx} {rt : Nat} {sels : List Sel} (L : LevelF c rt sels)
include L

theorem lookupF_own {x : Sel} {k : String} (hx : x ∈ sels) (hk : keptKey c x = some k) (kvs : List (String × Json)) :
    Json.lookup k (erasedKvsF c sels kvs) = (Json.lookup k kvs).map (eraseInSelF c x) := by
  obtain ⟨h1, _, h3⟩ := collected_nodup_parts L.coll
  have hkept : k ∈ keptKeys c sels := List.mem_filterMap.mpr ⟨x, hx, hk⟩
  unfold erasedKvsF
  refine Eq.trans (lookup_erased (dropKeysF c sels) (fun key v => eraseEntryF c sels key (eraseFragEntry c (spreadFrags c sels) key v)) k
    (collected_not_drop (by simp [collectedKept, hkept])) kvs) ?_
  cases Json.lookup k kvs with
  | none => rfl
  | some v =>
    simp only [Option.map_some]
    rw [eraseFragEntry_not_kept c _ k v (fun f hf => h3 k hkept f hf), (firstKept_eraseEntryF c).of_mem hk v hx h1]

theorem lookupF_frag {f : RFragment} (hf : f ∈ spreadFrags c sels) (hfk : (keptKeys c f.sels).Nodup)
    {y : Sel} {k : String} (hy : y ∈ f.sels) (hk : keptKey c y = some k) (kvs : List (String × Json)) :
    Json.lookup k (erasedKvsF c sels kvs) = (Json.lookup k kvs).map (eraseInSel c y) := by
  obtain ⟨_, h2, h3⟩ := collected_nodup_parts L.coll
  have hkf : k ∈ keptKeys c f.sels := List.mem_filterMap.mpr ⟨y, hy, hk⟩
  have hcoll : k ∈ collectedKept c sels := by
    simp only [collectedKept, List.mem_append, List.mem_flatMap]
    exact .inr ⟨f, hf, hkf⟩
  have hnot : k ∉ keptKeys c sels := fun h => h3 k h f hf hkf
  unfold erasedKvsF
  refine Eq.trans (lookup_erased (dropKeysF c sels) (fun key v => eraseEntryF c sels key (eraseFragEntry c (spreadFrags c sels) key v)) k (collected_not_drop hcoll) kvs) ?_
  cases Json.lookup k kvs with
  | none => rfl
  | some v =>
    simp only [Option.map_some]
    rw [eraseFragEntry_unique c h2 v hf hkf, (firstKept_eraseEntry c).of_mem hk v hy hfk, (firstKept_eraseEntryF c).not_kept sels k _ hnot]

theorem lookupF_tn (h : hasTypename sels = true ∨ ∃ f ∈ spreadFrags c sels, hasTypename f.sels = true)
    (kvs : List (String × Json)) (n : String) (hl : Json.lookup "__typename" kvs = some (.str n)) :
    Json.lookup "__typename" (erasedKvsF c sels kvs) = some (.str n) := by
  unfold erasedKvsF
  refine Eq.trans (lookup_erased (dropKeysF c sels) (fun key v => eraseEntryF c sels key (eraseFragEntry c (spreadFrags c sels) key v)) "__typename" (L.tn h) kvs) ?_
  rw [hl]
  simp only [Option.map_some, eraseFragEntry_str, (firstKept_eraseEntryF c).str n (eraseInSelF_str c · n)]

end Lookups

/-! ## the response keys of the expanded selection set -/

theorem expandSels_eq_map (q : Query) : ∀ sels : List Sel, expandSels q sels = sels.map (expandSel q)
  | [] => by rw [expandSels]; rfl
  | x :: xs => by rw [expandSels, expandSels_eq_map q xs]; rfl

theorem keysSelsV_eq_flatMap (s : Schema) (rt : Nat) : ∀ sels : List Sel,
    keysSelsV s rt sels = sels.flatMap (keysSelV s rt)
  | [] => by rw [keysSelsV]; rfl
  | x :: xs => by rw [keysSelsV, keysSelsV_eq_flatMap s rt xs, List.flatMap_cons]

theorem mem_keysV_expand {s : Schema} {q : Query} {rt : Nat} {sels : List Sel} {k : String} :
    k ∈ keysSelsV s rt (expandSels q sels) ↔ ∃ x ∈ sels, k ∈ keysSelV s rt (expandSel q x) := by
  rw [keysSelsV_eq_flatMap, expandSels_eq_map, List.mem_flatMap]
  constructor
  · rintro ⟨y, hy, hk⟩
    obtain ⟨x, hx, rfl⟩ := List.mem_map.mp hy
    exact ⟨x, hx, hk⟩
  · rintro ⟨x, hx, hk⟩
    exact ⟨_, List.mem_map_of_mem hx, hk⟩

theorem keysSelV_of_respKey {s : Schema} {q : Query} {rt : Nat} {x : Sel} {k : String} (h : respKey s x = some k) :
    k ∈ keysSelV s rt (expandSel q x) := by
  cases x with
  | field a fid sub =>
    simp only [respKey] at h
    simp only [expandSel, keysSelV]
    cases hsf : s.fields[fid]? with
    | none => simp [hsf] at h
    | some sf => simp only [hsf, Option.map_some, Option.some.injEq] at h; simp [h]
  | typename => simp only [respKey, Option.some.injEq] at h; simp [expandSel, keysSelV, h]
  | inline t sub => simp [respKey] at h
  | spread g => simp [respKey] at h

theorem keysV_expand_own {s : Schema} {q : Query} {rt : Nat} {sels : List Sel} {k : String}
    (h : k ∈ respKeys s sels) : k ∈ keysSelsV s rt (expandSels q sels) := by
  obtain ⟨x, hx, hkx⟩ := List.mem_filterMap.mp h
  exact mem_keysV_expand.mpr ⟨x, hx, keysSelV_of_respKey hkx⟩

theorem keysV_expand_frag {s : Schema} {q : Query} {rt : Nat} {sels : List Sel} {k : String} {g : Nat} {f : RFragment}
    (hg : Sel.spread g ∈ sels) (hf : q.fragments[g]? = some f) (ha : fragApplies s rt f.on = true)
    (hk : k ∈ keysSelsV s rt f.sels) : k ∈ keysSelsV s rt (expandSels q sels) :=
  mem_keysV_expand.mpr ⟨_, hg, by simp [expandSel, hf, keysSelV, ha, hk]⟩

theorem keysV_expand_elim {s : Schema} {q : Query} {rt : Nat} {sels : List Sel} {k : String}
    (hni : ∀ t sub, Sel.inline t sub ∉ sels) (h : k ∈ keysSelsV s rt (expandSels q sels)) :
    k ∈ respKeys s sels ∨ ∃ g f, Sel.spread g ∈ sels ∧ q.fragments[g]? = some f ∧ k ∈ keysSelsV s rt f.sels := by
  obtain ⟨x, hx, hk⟩ := mem_keysV_expand.mp h
  cases x with
  | field a fid sub =>
    left
    refine List.mem_filterMap.mpr ⟨_, hx, ?_⟩
    simp only [expandSel, keysSelV] at hk
    simp only [respKey]
    cases hsf : s.fields[fid]? with
    | none => simp [hsf] at hk
    | some sf => simp only [hsf, List.mem_singleton] at hk; simp [hk]
  | typename =>
    left
    refine List.mem_filterMap.mpr ⟨_, hx, ?_⟩
    simp only [expandSel, keysSelV, List.mem_singleton] at hk
    simp [respKey, hk]
  | inline t sub => exact absurd hx (hni t sub)
  | spread g =>
    right
    cases hf : q.fragments[g]? with
    | none => simp [expandSel, hf, keysSelV] at hk
    | some f =>
      simp only [expandSel, hf, keysSelV] at hk
      split at hk
      · exact ⟨g, f, hx, hf, hk⟩
      · simp at hk

theorem typename_in_prune {c : Ctx} {sels : List Sel} (h : Sel.typename ∈ sels) : Sel.typename ∈ pruneSels c sels :=
  mem_pruneSels.mpr ⟨_, h, by rw [pruneSel_typename]; simp⟩

theorem fragApplies_self (s : Schema) (rt : Nat) : fragApplies s rt (.object rt) = true := by simp [fragApplies]

/-- **a key of the payload that is not erased is a response key of the pruned (expanded) selection set** -/
theorem key_survives {c : Ctx} {rt : Nat} {sels : List Sel} (L : LevelF c rt sels) {k : String}
    (hk : k ∈ keysSelsV c.s rt (expandSels c.q sels)) (hnd : k ∉ dropKeysF c sels) :
    k ∈ keysSelsV c.s rt (expandSels (pruneCtx c).q (pruneSels c sels)) := by
  have viaFragKept : ∀ g f, Sel.spread g ∈ sels → c.q.fragments[g]? = some f → f.on = .object rt →
      treeSelsD c f.sels = true → ∀ k', k' ∈ respKeys c.s (pruneSels c f.sels) →
      k' ∈ keysSelsV c.s rt (expandSels (pruneCtx c).q (pruneSels c sels)) := by
    intro g f hg hf hon hv k' hk'
    refine keysV_expand_frag (f := pruneFrag c f) (mem_pruneSels_spread.mpr hg) (by rw [pruneCtx_frag, hf]; rfl)
      (by simp [pruneFrag, hon, fragApplies_self]) ?_
    simp only [pruneFrag]
    rw [keysSelsV_objTrees _ _ _ (objTrees_of_treeSelsD c _ hv).2]
    exact hk'
  have viaKept : k ∈ collectedKept c sels → k ∈ keysSelsV c.s rt (expandSels (pruneCtx c).q (pruneSels c sels)) := by
    intro h
    simp only [collectedKept, List.mem_append, List.mem_flatMap] at h
    rcases h with h | ⟨f, hf, h⟩
    · exact keysV_expand_own (kept_in_prune h)
    · obtain ⟨g, hg, hfr⟩ := mem_spreadFrags.mp hf
      obtain ⟨f0, hf0, hon, hv, _, _⟩ := L.frag g hg
      rw [hfr] at hf0; cases hf0
      exact viaFragKept g f hg hfr hon hv k (kept_in_prune h)
  have viaDenied : k ∈ collectedDenied c sels → k ∈ keysSelsV c.s rt (expandSels (pruneCtx c).q (pruneSels c sels)) := by
    intro h
    apply viaKept
    apply Classical.byContradiction
    intro hnk
    apply hnd
    simp only [dropKeysF, List.mem_filter, Bool.not_eq_true', List.contains_eq_mem, decide_eq_false_iff_not]
    exact ⟨h, hnk⟩
  have classify : ∀ (xs : List Sel), k ∈ respKeys c.s xs →
      k ∈ keptKeys c xs ∨ k ∈ deniedKeys c xs ∨ (k = "__typename" ∧ Sel.typename ∈ xs) := by
    intro xs h
    obtain ⟨x, hx, hkx⟩ := List.mem_filterMap.mp h
    cases x with
    | field a fid sub =>
      simp only [respKey] at hkx
      cases hsf : c.s.fields[fid]? with
      | none => simp [hsf] at hkx
      | some sf =>
        simp only [hsf, Option.map_some, Option.some.injEq] at hkx
        by_cases hden : isDenied c sf = true
        · exact .inr (.inl (List.mem_filterMap.mpr ⟨_, hx, by simp [deniedKey, hsf, hden, hkx]⟩))
        · exact .inl (List.mem_filterMap.mpr ⟨_, hx, by rw [keptKey_of hsf (by simpa using hden), hkx]⟩)
    | typename =>
      simp only [respKey, Option.some.injEq] at hkx
      exact .inr (.inr ⟨hkx.symm, hx⟩)
    | inline t sub => simp [respKey] at hkx
    | spread g => simp [respKey] at hkx
  rcases keysV_expand_elim L.noInline hk with h | ⟨g, f, hg, hf, h⟩
  · rcases classify sels h with h' | h' | ⟨hkeq, htn⟩
    · exact viaKept (by simp [collectedKept, h'])
    · exact viaDenied (by simp [collectedDenied, h'])
    · rw [hkeq]
      exact keysV_expand_own (List.mem_filterMap.mpr ⟨.typename, typename_in_prune htn, rfl⟩)
  · obtain ⟨f0, hf0, hon, hv, _, _⟩ := L.frag g hg
    rw [hf] at hf0; cases hf0
    rw [keysSelsV_objTrees _ _ _ (objTrees_of_treeSelsD c _ hv).1] at h
    have hfm : f ∈ spreadFrags c sels := mem_spreadFrags.mpr ⟨g, hg, hf⟩
    rcases classify f.sels h with h' | h' | ⟨hkeq, htn⟩
    · exact viaFragKept g f hg hf hon hv k (kept_in_prune h')
    · refine viaDenied ?_
      simp only [collectedDenied, List.mem_append, List.mem_flatMap]
      exact .inr ⟨f, hfm, h'⟩
    · rw [hkeq]
      exact viaFragKept g f hg hf hon hv _ (List.mem_filterMap.mpr ⟨.typename, typename_in_prune htn, rfl⟩)

/-! ## one object-level selection set -/

/-- `conformsV` of the erased object of a selection set with spreads, from `confSelsV` of its erased entries -/
theorem body_erase {c : Ctx} {rt : Nat} {sels : List Sel} (L : LevelF c rt sels)
    (H : ∀ kvs, confSelsV c.s rt (expandSels c.q sels) kvs = true →
      confSelsV c.s rt (expandSels (pruneCtx c).q (pruneSels c sels)) (erasedKvsF c sels kvs) = true)
    (w : Json) (hw : conformsV c.s rt (expandSels c.q sels) w = true) :
    conformsV c.s rt (expandSels (pruneCtx c).q (pruneSels c sels)) (eraseObjF c sels w) = true := by
  cases w with
  | obj kvs =>
    simp only [conformsV, Bool.and_eq_true] at hw
    rw [eraseObjF_obj]
    simp only [conformsV, Bool.and_eq_true]
    exact ⟨filtered_keys_ok (erasedKvsF_keys c sels kvs) (fun k hk hd => key_survives L hk hd) hw.1.1 hw.1.2,
      H kvs hw.2⟩
  | _ => simp [conformsV] at hw

mutual
  theorem eraseF_sel (c : Ctx) : ∀ (x : Sel) (k : String) (v : Json) (p : TypeId),
      fSelD c p x = true → collOkSel c x = true → tnOkSelF c x = true → keptKey c x = some k →
      strictFieldV c.s (expandSel c.q x) v = true →
      strictFieldV c.s (expandSel (pruneCtx c).q (pruneSub c x)) (eraseInSelF c x v) = true
    | .field a fid sub, k, v, p => by
      intro ht hco htn hk h
      have IH := eraseF_sels c sub
      obtain ⟨_, _, _, sf, hx, hsf, hden, _⟩ := keptKey_some hk
      cases hx
      rw [expandSel] at h
      rw [pruneSub, expandSel]
      rcases fSelD_ty ht hsf with ⟨k, hid⟩ | ⟨k, hid⟩ | ⟨j, hid⟩
      · rw [eraseInSelF_leaf hsf (by simp [hid])]
        simp only [strictFieldV, hsf, hid] at h ⊢
        exact h
      · rw [eraseInSelF_leaf hsf (by simp [hid])]
        simp only [strictFieldV, hsf, hid] at h ⊢
        exact h
      · have hbody := (fSelD_object hsf hid ht).2
        have hfs := fSelsD_of_fBodyD hbody
        rw [collOkSel] at hco
        simp only [hsf, hid, Bool.and_eq_true] at hco
        rw [tnOkSelF] at htn
        simp only [hsf, hden, Bool.false_or, Bool.and_eq_true] at htn
        have L := levelF_of hfs hco.1 htn.1.1 htn.1.2
        simp only [strictFieldV, hsf, hid] at h ⊢
        rw [eraseInSelF_object hsf hid]
        refine (accepts_thruQuals (objOnly_eraseObjF c sub) ?_ sf.ty.quals).2 v h
        intro w hw
        rw [conformsAt_object, Bool.and_eq_true] at hw ⊢
        exact ⟨hw.1, body_erase L (fun kvs hk => IH sub j kvs (fun x hx => hx) hfs hco.2 htn.2 L hk) w hw.2⟩
    | .spread _, _, _, _ => by intro _ _ _ hk; simp [keptKey] at hk
    | .inline _ _, _, _, _ => by intro _ _ _ hk; simp [keptKey] at hk
    | .typename, _, _, _ => by intro _ _ _ hk; simp [keptKey] at hk
  theorem eraseF_sels (c : Ctx) : ∀ (xs sels : List Sel) (rt : Nat) (kvs : List (String × Json)),
      (∀ x ∈ xs, x ∈ sels) → fSelsD c (.object rt) xs = true → collOkSels c xs = true → tnOkSelsF c xs = true →
      LevelF c rt sels → confSelsV c.s rt (expandSels c.q xs) kvs = true →
      confSelsV c.s rt (expandSels (pruneCtx c).q (pruneSels c xs)) (erasedKvsF c sels kvs) = true
    | [], _, _, _, _, _, _, _, _, _ => by rw [pruneSels, expandSels]; simp [confSelsV]
    | x :: xs, sels, rt, kvs, hsub, ht, hco, htn, L, h => by
      rw [expandSels, confSelsV, Bool.and_eq_true] at h
      obtain ⟨hx, hxs⟩ := fSelsD_cons ht
      rw [collOkSels, Bool.and_eq_true] at hco
      rw [tnOkSelsF, Bool.and_eq_true] at htn
      have ih := eraseF_sels c xs sels rt kvs (fun y hy => hsub y (by simp [hy])) hxs hco.2 htn.2 L h.2
      have hxmem : x ∈ sels := hsub x (by simp)
      rw [pruneSels, expandSels_append, confSelsV_append, ih, Bool.and_true]
      cases x with
      | field a fid sub =>
        have hcx := h.1
        rw [expandSel, confSelV_field] at hcx
        cases hsf : c.s.fields[fid]? with
        | none => simp [hsf] at hcx
        | some sf =>
          by_cases hd : isDenied c sf = true
          · rw [pruneSel_denied hsf hd, expandSels]; simp [confSelsV]
          · have hd' : isDenied c sf = false := by simpa using hd
            rw [pruneSel_kept hsf hd', expandSels, expandSels, expandSel, confSelsV, confSelsV, Bool.and_true,
              confSelV_field]
            simp only [hsf] at hcx ⊢
            rw [lookupF_own L hxmem (keptKey_of hsf hd')]
            cases hl : Json.lookup (a.getD sf.name) kvs with
            | none => simp [hl] at hcx
            | some v =>
              simp only [hl] at hcx
              simp only [Option.map_some]
              have := eraseF_sel c (.field a fid sub) _ v _ hx hco.1 htn.1 (keptKey_of hsf hd') (by rw [expandSel]; exact hcx)
              rw [pruneSub, expandSel] at this
              exact this
      | spread g =>
        obtain ⟨f, hf, hon, hv, hk, hft⟩ := L.frag g hxmem
        have hfm : f ∈ spreadFrags c sels := mem_spreadFrags.mpr ⟨g, hxmem, hf⟩
        have hcx := h.1
        simp only [expandSel, hf, confSelV, hon, fragApplies_self, Bool.not_true, Bool.false_or] at hcx
        rw [confSelsV_eq c.s f.sels rt kvs (objTrees_of_treeSelsD c _ hv).1] at hcx
        have hgen := strict_erase_sels_gen c f.sels (rtName c.s rt) kvs (erasedKvsF c sels kvs) hv hft
          (fun y hy k hky => lookupF_frag L hfm (nodup_iff'.mp hk) hy hky kvs)
          (fun hh n hl => lookupF_tn L (.inr ⟨f, hfm, hh⟩) kvs n hl) hcx
        rw [← confSelsV_eq c.s _ rt _ (objTrees_of_treeSelsD c _ hv).2] at hgen
        have hf' : (pruneCtx c).q.fragments[g]? = some (pruneFrag c f) := by rw [pruneCtx_frag, hf]; rfl
        rw [pruneSel_spread, expandSels, expandSels, confSelsV, confSelsV, Bool.and_true]
        simp only [expandSel, hf', confSelV, pruneFrag, hon, fragApplies_self, Bool.not_true, Bool.false_or]
        exact hgen
      | inline t sub => simp [fSelD] at hx
      | typename =>
        rw [pruneSel_typename, expandSels, expandSels, expandSel, confSelsV, confSelsV, Bool.and_true]
        have hcx := h.1
        simp only [expandSel, confSelV] at hcx ⊢
        cases hl : Json.lookup "__typename" kvs with
        | none => simp [hl] at hcx
        | some v =>
          simp only [hl] at hcx
          cases v with
          | str n =>
            rw [lookupF_tn L (.inl (hasTypename_of_mem hxmem)) kvs n hl]
            exact hcx
          | _ => simp at hcx
end

theorem eraseF_field (c : Ctx) : ∀ (a : Option String) (fid : Nat) (sub : List Sel) (v : Json) (p : TypeId),
    fSelD c p (.field a fid sub) = true → collOkSel c (.field a fid sub) = true →
    tnOkSelF c (.field a fid sub) = true → (∀ sf, c.s.fields[fid]? = some sf → isDenied c sf = false) →
    strictFieldV c.s (.field a fid (expandSels c.q sub)) v = true →
    strictFieldV c.s (.field a fid (expandSels (pruneCtx c).q (pruneSels c sub)))
      (eraseInSelF c (.field a fid sub) v) = true := by
  intro a fid sub v p ht hco htn hden h
  cases hsf : c.s.fields[fid]? with
  | none => rw [fSelD] at ht; simp [hsf] at ht
  | some sf =>
    have := eraseF_sel c (.field a fid sub) _ v p ht hco htn (keptKey_of hsf (hden sf hsf)) (by rw [expandSel]; exact h)
    rw [pruneSub, expandSel] at this
    exact this

/-! ## end to end -/

/-- **the erasure of a payload conforming to the operation as written conforms to the pruned operation in the pruned
    document** -/
theorem conformsOpF_erase (c : Ctx) (op : ROperation) (ht : FragOpD c op = true) (hkD : FragKeysOkD c op = true)
    (htn : tnOkOpF c op = true) (j : Json) (hc : conformsOpF c op j = true) :
    conformsOpF (pruneCtx c) (pruneOp c op) (eraseDeniedF c op j) = true := by
  obtain ⟨_, hbody⟩ := fragOpD_parts ht
  obtain ⟨hcoll, hco⟩ := fragKeysOkD_parts hkD
  simp only [tnOkOpF, Bool.and_eq_true] at htn
  have hfs := fSelsD_of_fBodyD hbody
  have L := levelF_of hfs hcoll htn.1.1 htn.1.2
  exact body_erase L (fun kvs hk => eraseF_sels c op.sels op.sels op.objectId kvs (fun x hx => hx) hfs hco htn.2 L hk) j hc

/-- **`fragD_accepts` (C01 under `deny`, with fragment spreads).**  Every response that conforms to the operation AS
    WRITTEN (`conformsOpF`: spreads read as inline fragments, the denied fields' entries present) is accepted. -/
theorem fragD_accepts (c : Ctx) (opIdx : Nat) (op : ROperation) (items : List Item)
    (hop : c.q.operations[opIdx]? = some op) (ht : FragOpD c op = true) (hkD : FragKeysOkD c op = true)
    (hp : FragmentOp (pruneCtx c) (pruneOp c op) = true) (hk : fragKeysOk (pruneCtx c) (pruneOp c op) = true)
    (hl : loneOkOp c op = true) (htn : tnOkOpF c op = true)
    (hgen : responseForQuery c opIdx = .ok items) (hok : moduleOk c items = true)
    (j : Json) (hc : conformsOpF c op j = true) :
    ∃ v, Serde.de (moduleEnv c items) (.path "ResponseData") j = .ok v :=
  fragD_accepts_of_erased c opIdx op items hop ht hkD hp hk hl hgen hok j (conformsOpF_erase c op ht hkD htn j hc)

/-- **`fragD_lossless` (C01 under `deny`, with fragment spreads).**  … and written back as the canonical form
    (`canonSelF` of `fragment_lossless`, for the pruned operation in the pruned document) of the payload with the denied
    keys erased at every depth. -/
theorem fragD_lossless (c : Ctx) (opIdx : Nat) (op : ROperation) (items : List Item)
    (hop : c.q.operations[opIdx]? = some op) (ht : FragOpD c op = true) (hkD : FragKeysOkD c op = true)
    (hp : FragmentOp (pruneCtx c) (pruneOp c op) = true) (hk : fragKeysOk (pruneCtx c) (pruneOp c op) = true)
    (hr : fragRustOk (pruneCtx c) (pruneOp c op) = true) (hl : loneOkOp c op = true) (htn : tnOkOpF c op = true)
    (hgen : responseForQuery c opIdx = .ok items) (hok : moduleOk c items = true)
    (j : Json) (hc : conformsOpF c op j = true) (v : Val)
    (hd : Serde.de (moduleEnv c items) (.path "ResponseData") j = .ok v) :
    Serde.ser (moduleEnv c items) (.path "ResponseData") v =
      .ok (canonSelF c.s (pruneCtx c).q c.o.skipNone (pruneSels c op.sels) (eraseDeniedF c op j)) :=
  fragD_lossless_of_erased c opIdx op items hop ht hkD hp hk hr hl hgen hok j
    (conformsOpF_erase c op ht hkD htn j hc) v hd

/-- `fragD_accepts` and `fragD_lossless` as one equation for `Serde.roundtrip` -/
theorem fragD_roundtrip (c : Ctx) (opIdx : Nat) (op : ROperation) (items : List Item)
    (hop : c.q.operations[opIdx]? = some op) (ht : FragOpD c op = true) (hkD : FragKeysOkD c op = true)
    (hp : FragmentOp (pruneCtx c) (pruneOp c op) = true) (hk : fragKeysOk (pruneCtx c) (pruneOp c op) = true)
    (hr : fragRustOk (pruneCtx c) (pruneOp c op) = true) (hl : loneOkOp c op = true) (htn : tnOkOpF c op = true)
    (hgen : responseForQuery c opIdx = .ok items) (hok : moduleOk c items = true)
    (j : Json) (hc : conformsOpF c op j = true) :
    Serde.roundtrip (moduleEnv c items) (.path "ResponseData") j =
      .ok (canonSelF c.s (pruneCtx c).q c.o.skipNone (pruneSels c op.sels) (eraseDeniedF c op j)) :=
  Top.roundtrip_of (fragD_accepts c opIdx op items hop ht hkD hp hk hl htn hgen hok j hc)
    (fragD_lossless c opIdx op items hop ht hkD hp hk hr hl htn hgen hok j hc)

end Deny
end C01
end GqlVerif
