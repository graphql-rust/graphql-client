import GqlVerif.Proofs.ModuleOkInputsClasses
import GqlVerif.Proofs.C01DenyFragLossless
import GqlVerif.Proofs.C01RustSpread
/-!
# further end-to-end theorems with the side condition on the INPUT

The remaining classes (`RecFragmentOp`, `VariantSpreadOp2`, the deprecation classes `TreeOpD` / `TreeOpR` / `FragOpD`) and
the `normalization = rust` transfers (`*_rust`: there `moduleOk` is asked of the `none` context `c₀`, so `ModuleOkIn c₀`).
Every theorem is the one of the same name without `_inputs`, composed with `MOK.moduleOk_of_inputs`.
-/

namespace GqlVerif
namespace MOK
open Codegen C01 C01.E2E C03 Serde C01.Deny C14G

/-! ## `RecFragmentOp`, `VariantSpreadOp2` -/

theorem recfragment_roundtrip_inputs (c : Ctx) (opIdx : Nat) (op : ROperation) (items : List Item)
    (hop : c.q.operations[opIdx]? = some op) (ht : RecFragmentOp c op = true) (hk : recKeysOk c op = true)
    (hr : recRustOk c op = true)
    (hgen : responseForQuery c opIdx = .ok items) (hok : ModuleOkIn c opIdx = true)
    (j : Json) (k : Nat) (hkj : 2 * jsonSize j ≤ k) (hc : conformsOpR c op k j = true) :
    Serde.roundtrip (moduleEnv c items) (.path "ResponseData") j =
      .ok (canonR c.s c.q c.o.skipNone (jsonSize j) op.sels j) :=
  recfragment_roundtrip c opIdx op items hop ht hk hr hgen (moduleOk_of_inputs c opIdx items hgen hok) j k hkj hc

theorem recfragment_precise_iff_inputs (c : Ctx) (opIdx : Nat) (op : ROperation) (items : List Item)
    (hop : c.q.operations[opIdx]? = some op) (ht : RecFragmentOp c op = true) (hk : recKeysOk c op = true)
    (hgen : responseForQuery c opIdx = .ok items) (hok : ModuleOkIn c opIdx = true) (j : Json) :
    okB (Serde.de (moduleEnv c items) (.path "ResponseData") j) =
      conformsLooseR c.s c.q c.o (jsonSize j) false op.sels j :=
  recfragment_precise_iff c opIdx op items hop ht hk hgen (moduleOk_of_inputs c opIdx items hgen hok) j

theorem variantspread2_roundtrip_inputs (c : Ctx) (opIdx : Nat) (op : ROperation) (items : List Item)
    (hop : c.q.operations[opIdx]? = some op) (ht : VariantSpreadOp2 c op = true)
    (hgen : responseForQuery c opIdx = .ok items) (hok : ModuleOkIn c opIdx = true)
    (hr : spreadRustOkD c (normOp op) = true)
    (j : Json) (hc : conformsOpS c op j = true) :
    Serde.roundtrip (moduleEnv c items) (.path "ResponseData") j =
      .ok (normJson (canonSelD c.s c.q c.o.skipNone (normSels op.sels) j)) :=
  variantspread2_roundtrip c opIdx op items hop ht hgen (moduleOk_of_inputs c opIdx items hgen hok) hr j hc

theorem variantspread2_precise_iff_inputs (c : Ctx) (opIdx : Nat) (op : ROperation) (items : List Item)
    (hop : c.q.operations[opIdx]? = some op) (ht : VariantSpreadOp2 c op = true)
    (hgen : responseForQuery c opIdx = .ok items) (hok : ModuleOkIn c opIdx = true) (j : Json) :
    okB (Serde.de (moduleEnv c items) (.path "ResponseData") j) =
      conformsLooseS c.s c.q c.o false (normSels op.sels) j :=
  variantspread2_precise_iff c opIdx op items hop ht hgen (moduleOk_of_inputs c opIdx items hgen hok) j

/-! ## deprecation strategy `deny` -/

theorem treeD_roundtrip_inputs (c : Ctx) (opIdx : Nat) (op : ROperation) (items : List Item)
    (hop : c.q.operations[opIdx]? = some op) (ht : TreeOpD c op = true) (hp : TreeOp c (pruneOp c op) = true)
    (htn : tnOkOp c op = true)
    (hgen : responseForQuery c opIdx = .ok items) (hok : ModuleOkIn c opIdx = true)
    (hro : rustOkSels c (pruneSels c op.sels) = true)
    (hrn : EnumSpec.nodup (rustNames c (pruneSels c op.sels)) = true)
    (j : Json) (hc : conformsOp c op j = true) :
    Serde.roundtrip (moduleEnv c items) (.path "ResponseData") j = .ok (Deny.canonSelD c op j) :=
  treeD_roundtrip c opIdx op items hop ht hp htn hgen (moduleOk_of_inputs c opIdx items hgen hok) hro hrn j hc

theorem treeD_roundtrip_of_erased_inputs (c : Ctx) (opIdx : Nat) (op : ROperation) (items : List Item)
    (hop : c.q.operations[opIdx]? = some op) (ht : TreeOpD c op = true) (hp : TreeOp c (pruneOp c op) = true)
    (hgen : responseForQuery c opIdx = .ok items) (hok : ModuleOkIn c opIdx = true)
    (hro : rustOkSels c (pruneSels c op.sels) = true)
    (hrn : EnumSpec.nodup (rustNames c (pruneSels c op.sels)) = true)
    (j : Json) (hc : conformsOp c (pruneOp c op) (eraseDenied c op j) = true) :
    Serde.roundtrip (moduleEnv c items) (.path "ResponseData") j = .ok (Deny.canonSelD c op j) :=
  treeD_roundtrip_of_erased c opIdx op items hop ht hp hgen (moduleOk_of_inputs c opIdx items hgen hok) hro hrn j hc

theorem treeR_roundtrip_inputs (c : Ctx) (opIdx : Nat) (op : ROperation) (items : List Item)
    (hop : c.q.operations[opIdx]? = some op) (ht : TreeOpR c op = true)
    (hgen : responseForQuery c opIdx = .ok items) (hok : ModuleOkIn c opIdx = true)
    (hro : rustOkSels c (pruneSels c op.sels) = true)
    (hrn : EnumSpec.nodup (rustNames c (pruneSels c op.sels)) = true)
    (j : Json) (hc : conformsOp c op j = true) :
    Serde.roundtrip (moduleEnv c items) (.path "ResponseData") j = .ok (Deny.canonSelD c op j) :=
  treeR_roundtrip c opIdx op items hop ht hgen (moduleOk_of_inputs c opIdx items hgen hok) hro hrn j hc

theorem fragD_roundtrip_inputs (c : Ctx) (opIdx : Nat) (op : ROperation) (items : List Item)
    (hop : c.q.operations[opIdx]? = some op) (ht : FragOpD c op = true) (hkD : FragKeysOkD c op = true)
    (hp : FragmentOp (pruneCtx c) (pruneOp c op) = true) (hk : fragKeysOk (pruneCtx c) (pruneOp c op) = true)
    (hr : fragRustOk (pruneCtx c) (pruneOp c op) = true) (hl : loneOkOp c op = true) (htn : tnOkOpF c op = true)
    (hgen : responseForQuery c opIdx = .ok items) (hok : ModuleOkIn c opIdx = true)
    (j : Json) (hc : conformsOpF c op j = true) :
    Serde.roundtrip (moduleEnv c items) (.path "ResponseData") j =
      .ok (canonSelF c.s (pruneCtx c).q c.o.skipNone (pruneSels c op.sels) (eraseDeniedF c op j)) :=
  fragD_roundtrip c opIdx op items hop ht hkD hp hk hr hl htn hgen (moduleOk_of_inputs c opIdx items hgen hok) j hc

/-! ## `normalization = rust` (the side condition is about the `none` context `c₀`) -/

section Rust
variable {c₀ c₁ : Ctx} {opIdx : Nat} {op : ROperation} {items₀ items₁ : List Item}
  (W : RustSide c₀ c₁ opIdx items₀ items₁)
include W

theorem moduleOk_rustSide (hok : ModuleOkIn c₀ opIdx = true) : moduleOk c₀ items₀ = true :=
  moduleOk_of_inputs c₀ opIdx items₀ W.gen₀ hok

theorem tree_roundtrip_rust_inputs (hop : c₀.q.operations[opIdx]? = some op) (ht : TreeOp c₀ op = true)
    (hok : ModuleOkIn c₀ opIdx = true) (hro : rustOkSels c₀ op.sels = true)
    (hrn : EnumSpec.nodup (rustNames c₀ op.sels) = true) (j : Json) (hc : conformsOp c₀ op j = true) :
    Serde.roundtrip (moduleEnvN c₁ items₁) (.path "ResponseData") j = .ok (canonSel c₀.s c₀.o.skipNone op.sels j) :=
  tree_roundtrip_rust W hop ht (moduleOk_rustSide W hok) hro hrn j hc

theorem variant_roundtrip_rust_inputs (hop : c₀.q.operations[opIdx]? = some op) (ht : VariantOp c₀ op = true)
    (hok : ModuleOkIn c₀ opIdx = true) (hro : rustOkSelsV c₀ op.sels = true)
    (hrn : EnumSpec.nodup (rustNames c₀ op.sels) = true) (j : Json) (hc : conformsOpV c₀ op j = true) :
    Serde.roundtrip (moduleEnvN c₁ items₁) (.path "ResponseData") j = .ok (canonSelV c₀.s c₀.o.skipNone op.sels j) :=
  variant_roundtrip_rust W hop ht (moduleOk_rustSide W hok) hro hrn j hc

theorem fragment_roundtrip_rust_inputs (hop : c₀.q.operations[opIdx]? = some op) (ht : FragmentOp c₀ op = true)
    (hk : fragKeysOk c₀ op = true) (hr : fragRustOk c₀ op = true) (hok : ModuleOkIn c₀ opIdx = true)
    (j : Json) (hc : conformsOpF c₀ op j = true) :
    Serde.roundtrip (moduleEnvN c₁ items₁) (.path "ResponseData") j =
      .ok (canonSelF c₀.s c₀.q c₀.o.skipNone op.sels j) :=
  fragment_roundtrip_rust W hop ht hk hr (moduleOk_rustSide W hok) j hc

theorem recfragment_roundtrip_rust_inputs (hop : c₀.q.operations[opIdx]? = some op) (ht : RecFragmentOp c₀ op = true)
    (hk : recKeysOk c₀ op = true) (hr : recRustOk c₀ op = true) (hok : ModuleOkIn c₀ opIdx = true)
    (j : Json) (k : Nat) (hkj : 2 * jsonSize j ≤ k) (hc : conformsOpR c₀ op k j = true) :
    Serde.roundtrip (moduleEnvN c₁ items₁) (.path "ResponseData") j =
      .ok (canonR c₀.s c₀.q c₀.o.skipNone (jsonSize j) op.sels j) :=
  recfragment_roundtrip_rust W hop ht hk hr (moduleOk_rustSide W hok) j k hkj hc

theorem variantspread_roundtrip_rust_inputs (hop : c₀.q.operations[opIdx]? = some op)
    (ht : VariantSpreadOp c₀ op = true) (hok : ModuleOkIn c₀ opIdx = true) (hr : spreadRustOkD c₀ op = true)
    (j : Json) (hc : conformsOpS c₀ op j = true) :
    Serde.roundtrip (moduleEnvN c₁ items₁) (.path "ResponseData") j =
      .ok (normJson (E2E.canonSelD c₀.s c₀.q c₀.o.skipNone op.sels j)) :=
  variantspread_roundtrip_rust W hop ht (moduleOk_rustSide W hok) hr j hc

theorem variantspread2_roundtrip_rust_inputs (hop : c₀.q.operations[opIdx]? = some op)
    (ht : VariantSpreadOp2 c₀ op = true) (hok : ModuleOkIn c₀ opIdx = true)
    (hr : spreadRustOkD c₀ (normOp op) = true) (j : Json) (hc : conformsOpS c₀ op j = true) :
    Serde.roundtrip (moduleEnvN c₁ items₁) (.path "ResponseData") j =
      .ok (normJson (E2E.canonSelD c₀.s c₀.q c₀.o.skipNone (normSels op.sels) j)) :=
  variantspread2_roundtrip_rust W hop ht (moduleOk_rustSide W hok) hr j hc

end Rust

end MOK
end GqlVerif
