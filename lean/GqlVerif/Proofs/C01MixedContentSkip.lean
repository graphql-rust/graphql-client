import GqlVerif.Proofs.C01MixedContent
import GqlVerif.Proofs.C01VariantSpreadEval
/-!
# C01 end to end (`MixedOp`), `SameContent`: a generated module under `skip_serializing_none`, with an integer `ID`

Every difference `SameContent` allows occurs in one round trip of a generated module (`skCtx`, `skipNone := true`):
schema `skSchema` (below: `interface Animal { name }`, `Dog { id: ID!  name  barks  tags: [String] }`, `Cat { name  lives }`);
`fragment DogFields on Dog { barks tags }`, `fragment AnimalName on Animal { __typename name }`;
`query Q { dog { id name ...DogFields } animal { __typename ...AnimalName ...DogFields } }`.
For the payload `skJson` (`dog.id = 7` an integer, `dog.tags = null`) `id` comes back as `"7"`, `dog.tags` (a `null` under
skip-none) is dropped, `dog.barks = null` stays (no modifier: `skip_serializing_none` is not attached), the keys of `animal` are
reordered, `__typename` comes once (`sk_content`); that value **is** what the round trip returns (`sk_roundtrip`).
-/

namespace GqlVerif
namespace C01M
open Serde Spec C13 C03 Codegen C01 C01.E2E

def skSchema : Schema :=
  { objects := [{ name := "Query", fields := [0, 1], implements := [] },
                { name := "Dog", fields := [2, 3, 5, 6], implements := [0] },
                { name := "Cat", fields := [2, 4], implements := [0] }]
    fields := [{ name := "dog", ty := { id := .object 1, quals := [] }, parent := .object 0, deprecation := none },
               { name := "animal", ty := { id := .interface 0, quals := [] }, parent := .object 0, deprecation := none },
               { name := "name", ty := { id := .scalar 1, quals := [.required] }, parent := .interface 0, deprecation := none },
               { name := "barks", ty := { id := .scalar 4, quals := [] }, parent := .object 1, deprecation := none },
               { name := "lives", ty := { id := .scalar 2, quals := [] }, parent := .object 2, deprecation := none },
               { name := "tags", ty := { id := .scalar 1, quals := [.list] }, parent := .object 1, deprecation := none },
               { name := "id", ty := { id := .scalar 0, quals := [.required] }, parent := .object 1, deprecation := none }]
    interfaces := [{ name := "Animal", fields := [2] }]
    scalars := ["ID", "String", "Int", "Float", "Boolean"] }

/-- `query Q { dog { id name ...DogFields } animal { __typename ...AnimalName ...DogFields } }` -/
def skOp : ROperation :=
  { name := "Q", kind := .query, objectId := 0,
    sels := [.field none 0 [.field none 6 [], .field none 2 [], .spread 0],
             .field none 1 [.typename, .spread 1, .spread 0]] }

def skQuery : Query :=
  { operations := [skOp]
    fragments := [{ name := "DogFields", on := .object 1, sels := [.field none 3 [], .field none 5 []] },
                  { name := "AnimalName", on := .interface 0, sels := [.typename, .field none 2 []] }] }

def skCtx : Ctx := { s := skSchema, q := skQuery, o := { skipNone := true }, cs := ⟨id, id⟩ }

def skItems : List Item := okOr (responseForQuery skCtx 0)

theorem sk_gen : responseForQuery skCtx 0 = .ok skItems := gen_of_isOk (by decide +kernel)
theorem sk_class : MixedOp skCtx skOp = true := by decide +kernel
theorem sk_not_F : FragmentOp skCtx skOp = false := by decide +kernel
theorem sk_not_S : VariantSpreadOp skCtx skOp = false := by decide +kernel
theorem sk_keys : mixedKeysOk skCtx skOp = true := by decide +kernel
theorem sk_rust : mixedRustOk skCtx skOp = true := by decide +kernel
theorem sk_ok : moduleOk skCtx skItems = true := by decide +kernel

def skJson : Json :=
  .obj [("dog", .obj [("tags", .null), ("barks", .null), ("name", .str "Rex"), ("id", .int 7)]),
        ("animal", .obj [("__typename", .str "Dog"), ("name", .str "Rex"), ("barks", .bool false),
                         ("tags", .arr [.str "a", .null])])]

def skOut : Json :=
  .obj [("dog", .obj [("id", .str "7"), ("name", .str "Rex"), ("barks", .null)]),
        ("animal", .obj [("name", .str "Rex"), ("__typename", .str "Dog"), ("barks", .bool false),
                         ("tags", .arr [.str "a", .null])])]

theorem sk_conforms : conformsOpM skCtx skOp skJson = true := by
  rw [conformsOpM, conformsV_eq_K]
  decide +kernel

set_option maxRecDepth 8000 in
theorem sk_canon : normJson (canonSelM skSchema skQuery true skOp.sels skJson) = skOut := by
  simp only [skJson, skOut]
  simp [canonSelM, canonEntriesM, canonFieldM, canonFieldD, loneG, canonEntriesBD,
    canonVarD, onNamed, absEntries, absRest, hasStruct, isBSpread, isFieldSel, canonAbsV, canonEntriesV, canonFieldV,
    canonInlV, tagName, fragSels, skOp, skQuery, skSchema, objName, rtName, fieldKeys, fieldKey, Json.lookup, canon, canonNN,
    gtyOf, Json.isNull, skipQ, idCanon, normJson, normKvs, normList, Json.normObj, Json.insert]
  decide

/-- **`mixed_roundtrip_content` on a generated module under skip-none** -/
theorem sk_roundtrip_content :
    ∃ out, Serde.roundtrip (moduleEnv skCtx skItems) (.path "ResponseData") skJson = .ok out ∧
      SameContent true skJson out :=
  mixed_roundtrip_content skCtx 0 skOp skItems rfl sk_class sk_keys sk_rust sk_gen sk_ok skJson sk_conforms

/-- the round trip, computed by `mixed_roundtrip` -/
theorem sk_roundtrip : Serde.roundtrip (moduleEnv skCtx skItems) (.path "ResponseData") skJson = .ok skOut := by
  rw [mixed_roundtrip skCtx 0 skOp skItems rfl sk_class sk_keys sk_rust sk_gen sk_ok skJson sk_conforms]
  exact congrArg Except.ok sk_canon

/-- written out: integer `ID` → string, a `null` list dropped under skip-none, key order changed, `__typename` kept once at the
    abstract position -/
theorem sk_content : SameContent true skJson skOut := by
  have h : SameContent true skJson (normJson (canonSelM skSchema skQuery true skOp.sels skJson)) :=
    mixed_content skCtx skOp sk_class skJson sk_conforms
  rw [sk_canon] at h
  exact h

/-- … and dropping the `null` is a difference only skip-none allows: the same pair is **not** `SameContent false` -/
theorem sk_not_content_noskip : ¬ SameContent false skJson skOut := by
  intro h
  simp only [skJson, skOut] at h
  obtain ⟨v1, hl1, h1⟩ := SameContent.entry (by simp) h "dog"
    (.obj [("id", .str "7"), ("name", .str "Rex"), ("barks", .null)]) (by simp)
  simp only [Json.lookup, beq_self_eq_true, ↓reduceIte, Option.some.injEq] at hl1
  subst hl1
  have := SameContent.no_loss h1 "tags" .null (by simp [Json.lookup])
  simp at this

end C01M
end GqlVerif
