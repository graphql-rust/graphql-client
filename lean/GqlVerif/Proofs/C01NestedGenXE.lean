import GqlVerif.Proofs.C01NestedBJ
/-!
# `NestedGen2Op`: the results (C01 / C03 / C17), from those of `NestedBOp`

`NestedGen2Op ⊆ NestedBOp` (`nestedBOp_of_nestedGen2Op`), and on `NestedGen2Op` everything the statements of `C01NestedB*`
speak of is what this namespace defines (`C01NestedBJ`: class predicate, closed form, environment, key and side conditions,
acceptance predicate, canonical form).  So each theorem about the emitted module is the one of `NestedBOp`, read through
these equalities.  The first part of the file keeps this class's named steps `accSelA`, `envSelA_of`, `slFieldA`, `rtSelA` as
corollaries of the steps of `NestedBOp`; the theorems about the emitted module do not go through them.  `varSels_facts` needs the converse direction for the class predicate, on admitted spreads and leaf fields only.
-/

namespace GqlVerif
namespace C01NX
open Serde Spec C13 C03 Codegen C01 C01.E2E C01M C01N C01NA C01NG

/-! ## this class's named steps (`accSelA`, `envSelA_of`, `slFieldA`, `rtSelA`), as corollaries of those of `NestedBOp` -/

section AccA
variable (e : Env) (c : Ctx) (ok : TypeId → Nat → Bool) (whole : Nat → Bool → Json → Bool) (KN : String → List String)
  (fenv : Nat → Prop)

theorem accSelA : ∀ (x : Sel) (pfx : String), OkSpec c.q ok →
      (∀ p g, ok p g = true → fenv g → FragAcc e c whole KN g) → AccSelA e c ok whole KN fenv pfx x := by
  intro x pfx hok hfa p ht henv hk f hf
  have h := C01NB.accSelA e c ok whole KN fenv x pfx hok hfa p (C01NB.aSel_of_X c.s c.q c.o hok x p ht)
    (by rw [C01NB.envSelA_eq_X fenv e c hok x p pfx ht]; exact henv)
    (by rw [C01NB.keysOkA_eq_X KN c hok x p ht]; exact hk) f hf
  simpa only [C01NB.looseFieldA_eq_X hok whole _ x p _ ht] using h

/-- **the payload of the variant of `vt`** accepts exactly `payX` -/
theorem accVariantX (hok : OkSpec c.q ok) (hfa : ∀ p g, ok p g = true → fenv g → FragAcc e c whole KN g)
    (name : String) (ty : TypeId) (sub : List Sel) (hsx : SpecialX ok c.s c.q c.o ty sub)
    (vt : TypeId) (hvt : vt ∈ vtsOfTy c.s ty) (hve : VarEnvX fenv e c name vt sub)
    (hkeys : varKeysOk KN c vt sub = true) :
    ∃ N, ∀ fd, N ≤ fd → ∀ rest,
      pickOk (dePath e true fd) (variantOf c name (marks c.q sub) vt) rest = payX whole c.s c.q c.o sub vt rest :=
  C01NB.accVariantX e c ok whole KN fenv hok hfa name ty sub hsx vt hvt hve hkeys

/-- the variant struct of a possible type with an inline fragment with fields, as the struct of the object-level selection
    set `varSels` -/
theorem varSels_facts (hok : OkSpec c.q ok) (name : String) (ty : TypeId) (sub : List Sel)
    (hsx : SpecialX ok c.s c.q c.o ty sub)
    (i : Nat) (hvt : TypeId.object i ∈ vtsOfTy c.s ty) (hbody : (mineOf c.q (.object i) sub).any isBody = true)
    (hs : StructEnv e (name ++ "On" ++ objName c.s (.object i)) (varFieldsX c name (mineOf c.q (.object i) sub)))
    (henvF : envSelsS e c name (C01NG.ownSels (varSels c.q (.object i) sub)))
    (hfenv : ∀ g ∈ memFrags c.q (.object i) sub, fenv g)
    (hkw : ∀ g ∈ memFrags c.q (.object i) sub, kwOk c g = true) :
    (∀ x ∈ varSels c.q (.object i) sub, leafSel c.s c.q c.o x = true) ∧
      aSels ok c.s c.q c.o (.object i) (varSels c.q (.object i) sub) = true ∧
      envSelsA fenv e c name (varSels c.q (.object i) sub) ∧ keysOksA KN c (varSels c.q (.object i) sub) = true ∧
      (∀ g, varSels c.q (.object i) sub ≠ [Sel.spread g]) ∧
      StructEnv e (name ++ "On" ++ objName c.s (.object i)) (fieldsOfF c name (varSels c.q (.object i) sub)) ∧
      (∀ g ∈ memFrags c.q (.object i) sub, ok (.object i) g = true) ∧
      (∀ x ∈ varSels c.q (.object i) sub, (∃ g, x = Sel.spread g ∧ g ∈ memFrags c.q (.object i) sub) ∨
        (isFieldSel x = true ∧ ∃ t isub, Sel.inline t isub ∈ mineOf c.q (.object i) sub ∧ x ∈ isub)) := by
  obtain ⟨hleaf, -, henvB, hkoB, hnl, hsF, hokm, hmem⟩ :=
    C01NB.varSels_facts e c ok KN fenv hok name ty sub hsx i hvt hbody hs henvF hfenv hkw
  -- admitted spreads and leaf fields belong to this class as well
  have ht : ∀ sels : List Sel, (∀ x ∈ sels, leafSel c.s c.q c.o x = true ∧
      ((∃ g, x = Sel.spread g ∧ ok (.object i) g = true) ∨ isFieldSel x = true)) →
      aSels ok c.s c.q c.o (.object i) sels = true := by
    intro sels
    induction sels with
    | nil => intro _; rfl
    | cons x xs ih =>
      intro h
      rw [aSels, ih (fun y hy => h y (List.mem_cons_of_mem _ hy)), Bool.and_true]
      obtain ⟨hl, hx⟩ := h x List.mem_cons_self
      rcases hx with ⟨g, rfl, hg⟩ | hf
      · rw [aSel]; exact hg
      · cases x with
        | field a fid sub' =>
          obtain ⟨sf, hsf, _, hs⟩ := C01NB.leaf_facts hl
          rw [aSel]
          simp only [hsf]
          simp [hs]
        | spread g => simp [isFieldSel] at hf
        | inline t sub' => simp [isFieldSel] at hf
        | typename => simp [isFieldSel] at hf
  have htX := ht _ (fun x hx => ⟨hleaf x hx, (hmem x hx).imp (fun ⟨g, hg, hm⟩ => ⟨g, hg, hokm g hm⟩) (·.1)⟩)
  exact ⟨hleaf, htX, by rw [← C01NB.envSelsA_eq_X fenv e c hok _ _ name htX]; exact henvB,
    by rw [← C01NB.keysOksA_eq_X KN c hok _ _ htX]; exact hkoB, hnl, hsF, hokm, hmem⟩

end AccA

theorem mem_varSelsOf {ms : List Sel} {x : Sel} (h : x ∈ varSelsOf ms) :
    (∃ g, x = Sel.spread g ∧ g ∈ ms.filterMap spreadId ++ ms.filterMap aliasInl) ∨
      (∃ t isub, Sel.inline t isub ∈ ms ∧ isBody (.inline t isub) = true ∧ x ∈ isub) :=
  C01NB.mem_varSelsOf h

theorem leaf_facts {s : Schema} {q : Query} {o : Options} {a : Option String} {fid : Nat} {sub' : List Sel}
    (h : leafSel s q o (.field a fid sub') = true) :
    ∃ sf, s.fields[fid]? = some sf ∧ (∀ i, sf.ty.id ≠ .object i) ∧ sSel s q o false (.field a fid sub') = true :=
  C01NB.leaf_facts h

theorem memFrags_okX {ok : TypeId → Nat → Bool} {s : Schema} {q : Query} {o : Options} {i : Nat} {ms : List Sel}
    (hms : ∀ x ∈ ms, IsMemX ok s q o (.object i) x) {g : Nat}
    (hg : g ∈ ms.filterMap spreadId ++ ms.filterMap aliasInl) : ok (.object i) g = true :=
  C01NB.memFrags_okX hms hg

section EnvOfA
variable {c : Ctx} {items : List Item} {u : UsedTypes} {root : List Sel} (M : ModFacts c items u root)
  (hfr : FragsIn c items root) (hfrB : FragsInB c items root)
include M hfr hfrB

theorem envSelA_of {ok : TypeId → Nat → Bool} {fenv : Nat → Prop} (hok : OkSpec c.q ok)
      (hfenv : ∀ p g, ok (.object p) g = true → C02.Reach c.q root (.spread g) → fenv g) :
      ∀ (x : Sel) (pfx : String) (p : Nat), aSel ok c.s c.q c.o (.object p) x = true →
      (∀ it ∈ itemsA c pfx x, it ∈ items) → C02.Reach c.q root x → envSelA fenv (moduleEnv c items) c pfx x := by
  intro x pfx p ht hit hr
  rw [← C01NB.envSelA_eq_X fenv _ c hok x _ pfx ht]
  apply C01NB.envSelA_of M hfr hfrB hok hfenv x pfx p (C01NB.aSel_of_X c.s c.q c.o hok x _ ht) _ hr
  rw [C01NB.itemsA_eq_X c hok x _ pfx ht]
  exact hit

end EnvOfA

theorem own_fieldsOfA {ok : TypeId → Nat → Bool} {c : Ctx} (hok : OkSpec c.q ok) (pfx : String) (p : TypeId) :
    ∀ (sels : List Sel), aSels ok c.s c.q c.o p sels = true →
    (fieldsOfF c pfx sels).filter (fun f => !f.flatten) = fieldsOfV c pfx sels :=
  fun sels ht => C01NB.own_fieldsOfA hok pfx p sels (C01NB.aSels_of_X c.s c.q c.o hok sels p ht)

section SLA
variable (s : Schema) (q : Query) (o : Options) (ok : TypeId → Nat → Bool) (whole : Nat → Bool → Json → Bool)
  (ex : Nat → Sel)

theorem slFieldA : ∀ (x : Sel) (p : TypeId) (b : Bool) (v : Json),
      (∀ g, FragOkAny s q o g → ex g = expandSel q (.spread g)) →
      (∀ i g, ok (.object i) g = true → ∀ kvs, (∀ k, countKey k kvs ≤ 1) → confSelV s i (ex g) kvs = true →
        whole g true (.obj kvs) = true) →
      (∀ i g, ok (.object i) g = true → ∀ b j, conformsV s i [ex g] j = true → whole g b j = true) →
      OkSpec q ok → (∀ gl ∈ aPays s q o x, ∀ i, ok (.object i) gl.1 = true → IrrL whole gl.1 gl.2) →
      aSel ok s q o p x = true →
      strictFieldV s (expandSelW ex x) v = true → looseFieldA whole s q o b x v = true := by
  intro x p b v hexA hmem hali hokS hirr ht h
  rw [← C01NB.looseFieldA_eq_X hokS whole b x p v ht]
  apply C01NB.slFieldA s q o ok whole ex x p b v hexA hmem hali hokS _ (C01NB.aSel_of_X s q o hokS x p ht) h
  rw [C01NB.aPays_eq_X hokS x p ht]
  exact hirr

end SLA

section RTA
variable (e : Env) (c : Ctx) (ok : TypeId → Nat → Bool) (whole : Nat → Bool → Json → Bool) (KN : String → List String)
  (fenv : Nat → Prop) (ex : Nat → Sel) (cent : Nat → List (String × Json) → List (String × Json))

theorem rtSelA : ∀ (x : Sel) (pfx : String), OkSpec c.q ok →
      (∀ p g, ok p g = true → fenv g → FragAcc e c whole KN g) →
      (∀ p g, ok p g = true → fenv g → FragRT e c ex cent KN g) →
      (∀ g, FragOkAny c.s c.q c.o g → ex g = expandSel c.q (.spread g)) → RTSelA e c ok KN fenv ex cent pfx x := by
  intro x pfx hok hfa hfr hexA p ht henv hk hs f hf
  have h := C01NB.rtSelA e c ok whole KN fenv ex cent x pfx hok hfa hfr hexA p (C01NB.aSel_of_X c.s c.q c.o hok x p ht)
    (by rw [C01NB.envSelA_eq_X fenv e c hok x p pfx ht]; exact henv)
    (by rw [C01NB.keysOkA_eq_X KN c hok x p ht]; exact hk)
    (by rw [C01NB.sideOkSelA_eq_X KN c hok x p ht]; exact hs) f hf
  simpa only [C01NB.canonFieldA_eq_X hok cent x p _ ht] using h

end RTA

/-! ## the emitted module -/

/-- **`nestedgen2_items_shape`.**  For an operation of the class `NestedGen2Op` the response items are, in closed
    form, `bodyItemsA`: those of `nested_items_shape`, and at a field of abstract type of the general kind `absItemsX`: the
    struct of the interface-level fields with the flattened tagged enum `…On` (the tagged enum alone without such fields), and
    per selected possible type `T` the alias `…On<T> = F`, or the struct of its own fields and flattened fragment members. -/
theorem nestedgen2_items_shape (c : Ctx) (op : ROperation) (hop : op ∈ c.q.operations) (ht : NestedGen2Op c op = true) :
    responseItems c op = .ok (bodyItemsA c "ResponseData" (c.cs.camel op.name) op.sels) := by
  rw [← C01NB.bodyItemsA_eq_X c op ht]
  exact C01NB.nestedb_items_shape c op hop (C01NB.nestedBOp_of_nestedGen2Op c op ht)

/-- **the module of an operation of `NestedGen2Op` is `EnvOK` and `EnvOKS`** (no fuel exhaustion, fuel independence), with no
    acyclicity hypothesis on the document -/
theorem nestedgen2_module_envOK {c : Ctx} {opIdx : Nat} {op : ROperation} {items : List Item}
    (hop : c.q.operations[opIdx]? = some op) (ht : NestedGen2Op c op = true)
    (hgen : responseForQuery c opIdx = .ok items) (hok : moduleOk c items = true) :
    SerdeFuel.EnvOK (moduleEnv c items) ∧ SerdeFuel.EnvOKS (moduleEnv c items) :=
  C01NB.nestedb_module_envOK hop (C01NB.nestedBOp_of_nestedGen2Op c op ht) hgen hok

/-- **`nestedgen2_precise_iff` (C03), as an equivalence**: on the module `responseForQuery` emits for an operation of
    `NestedGen2Op`, `ResponseData` accepts exactly `conformsLooseA (wholeN c R)`, `R` the number of fragments -/
theorem nestedgen2_precise_iff (c : Ctx) (opIdx : Nat) (op : ROperation) (items : List Item)
    (hop : c.q.operations[opIdx]? = some op) (ht : NestedGen2Op c op = true) (hnd : fragNamesOk c = true)
    (hk : nestedGen2KeysOk c op = true)
    (hgen : responseForQuery c opIdx = .ok items) (hok : moduleOk c items = true) (j : Json) :
    okB (Serde.de (moduleEnv c items) (.path "ResponseData") j) =
      conformsLooseA (wholeN c c.q.fragments.length) c.s c.q c.o false op.sels j := by
  rw [← C01NB.conformsLooseA_eq_X_op c op ht]
  exact C01NB.nestedb_precise_iff c opIdx op items hop (C01NB.nestedBOp_of_nestedGen2Op c op ht) hnd
    (by rw [C01NB.nestedBKeysOk_eq_X c op ht]; exact hk) hgen hok j

theorem nestedgen2_precise (c : Ctx) (opIdx : Nat) (op : ROperation) (items : List Item)
    (hop : c.q.operations[opIdx]? = some op) (ht : NestedGen2Op c op = true) (hnd : fragNamesOk c = true)
    (hk : nestedGen2KeysOk c op = true)
    (hgen : responseForQuery c opIdx = .ok items) (hok : moduleOk c items = true) (j : Json) (v : Val)
    (hd : Serde.de (moduleEnv c items) (.path "ResponseData") j = .ok v) :
    conformsLooseA (wholeN c c.q.fragments.length) c.s c.q c.o false op.sels j = true :=
  Top.precise_of_iff (nestedgen2_precise_iff c opIdx op items hop ht hnd hk hgen hok j) hd

/-- **`nestedgen2_accepts`.**  Every conforming response is accepted by the emitted `ResponseData`. -/
theorem nestedgen2_accepts (c : Ctx) (opIdx : Nat) (op : ROperation) (items : List Item)
    (hop : c.q.operations[opIdx]? = some op) (ht : NestedGen2Op c op = true) (hnd : fragNamesOk c = true)
    (hk : nestedGen2KeysOk c op = true) (htag : absTagOk c op = true)
    (hgen : responseForQuery c opIdx = .ok items) (hok : moduleOk c items = true)
    (j : Json) (hc : conformsOpN c op j = true) :
    ∃ v, Serde.de (moduleEnv c items) (.path "ResponseData") j = .ok v :=
  C01NB.nestedb_accepts c opIdx op items hop (C01NB.nestedBOp_of_nestedGen2Op c op ht) hnd
    (by rw [C01NB.nestedBKeysOk_eq_X c op ht]; exact hk) (by rw [C01NB.absTagOk_eq_X c op ht]; exact htag) hgen hok j hc

/-- **`nestedgen2_lossless`.**  A conforming response that was read is written back as `normJson (canonSelA … j)`. -/
theorem nestedgen2_lossless (c : Ctx) (opIdx : Nat) (op : ROperation) (items : List Item)
    (hop : c.q.operations[opIdx]? = some op) (ht : NestedGen2Op c op = true) (hnd : fragNamesOk c = true)
    (hk : nestedGen2KeysOk c op = true) (hr : nestedGen2SideOk c op = true)
    (hgen : responseForQuery c opIdx = .ok items) (hok : moduleOk c items = true)
    (j : Json) (hc : conformsOpN c op j = true) (v : Val)
    (hd : Serde.de (moduleEnv c items) (.path "ResponseData") j = .ok v) :
    Serde.ser (moduleEnv c items) (.path "ResponseData") v =
      .ok (normJson (canonSelA (centN c c.q.fragments.length) c.s c.q c.o op.sels j)) := by
  rw [← C01NB.canonSelA_eq_X (fragOkN_spec c.s c.q c.o _) _ _ _ _ (nestedGen2Op_parts ht).2.2]
  exact C01NB.nestedb_lossless c opIdx op items hop (C01NB.nestedBOp_of_nestedGen2Op c op ht) hnd
    (by rw [C01NB.nestedBKeysOk_eq_X c op ht]; exact hk) (by rw [C01NB.nestedBSideOk_eq_X c op ht]; exact hr)
    hgen hok j hc v hd

/-- **`nestedgen2_roundtrip`**: both in one statement -/
theorem nestedgen2_roundtrip (c : Ctx) (opIdx : Nat) (op : ROperation) (items : List Item)
    (hop : c.q.operations[opIdx]? = some op) (ht : NestedGen2Op c op = true) (hnd : fragNamesOk c = true)
    (hk : nestedGen2KeysOk c op = true) (htag : absTagOk c op = true) (hr : nestedGen2SideOk c op = true)
    (hgen : responseForQuery c opIdx = .ok items) (hok : moduleOk c items = true)
    (j : Json) (hc : conformsOpN c op j = true) :
    Serde.roundtrip (moduleEnv c items) (.path "ResponseData") j =
      .ok (normJson (canonSelA (centN c c.q.fragments.length) c.s c.q c.o op.sels j)) :=
  C01NB.nestedb_roundtrip_on_nestedGen2Op c opIdx op items hop ht hnd hk htag hr hgen hok j hc

/-! ## on the smaller class the results are those of the smaller class -/

/-- **on `NestedGenOp`, `nestedgen2_roundtrip` is `nestedgen_roundtrip`**: same hypotheses, same specification, same
    canonical form -/
theorem nestedgen2_roundtrip_on_nestedGenOp (c : Ctx) (opIdx : Nat) (op : ROperation) (items : List Item)
    (hop : c.q.operations[opIdx]? = some op) (ht : NestedGenOp c op = true) (hnd : fragNamesOk c = true)
    (hk : nestedGenKeysOk c op = true) (htag : C01NG.absTagOk c op = true) (hr : nestedGenSideOk c op = true)
    (hgen : responseForQuery c opIdx = .ok items) (hok : moduleOk c items = true)
    (j : Json) (hc : conformsOpN c op j = true) :
    Serde.roundtrip (moduleEnv c items) (.path "ResponseData") j =
      .ok (normJson (C01NG.canonSelA (centN c c.q.fragments.length) c.s c.q c.o op.sels j)) := by
  have h := nestedgen2_roundtrip c opIdx op items hop (nestedGen2Op_of_nestedGenOp c op ht) hnd
    (by rw [nestedGen2KeysOk_eq_G c op ht]; exact hk) (by rw [absTagOk_eq_G c op]; exact htag)
    (by rw [nestedGen2SideOk_eq_G c op ht]; exact hr) hgen hok j hc
  rw [h, canonSelA_eq_G _ _ _ _ (C01NG.nestedGenOp_parts ht).2.2]

/-- **the restriction of `nestedgen2_roundtrip` to `NestedAbsOp`**, under that class's own key and side conditions and with
    its own canonical form (`C01NA.canonSelA`): the statement of `nestedabs_roundtrip`, obtained here in one step
    (`nestedabs_roundtrip` itself is `nestedgen_roundtrip_on_nestedAbsOp`) -/
theorem nestedgen2_roundtrip_on_nestedAbsOp (c : Ctx) (opIdx : Nat) (op : ROperation) (items : List Item)
    (hop : c.q.operations[opIdx]? = some op) (ht : NestedAbsOp c op = true) (hnd : fragNamesOk c = true)
    (hk : nestedAbsKeysOk c op = true) (htag : C01NA.absTagOk c op = true) (hr : nestedAbsSideOk c op = true)
    (hgen : responseForQuery c opIdx = .ok items) (hok : moduleOk c items = true)
    (j : Json) (hc : conformsOpN c op j = true) :
    Serde.roundtrip (moduleEnv c items) (.path "ResponseData") j =
      .ok (normJson (C01NA.canonSelA (centN c c.q.fragments.length) c.s c.q c.o op.sels j)) := by
  have hg := nestedGenOp_of_nestedAbsOp c op ht
  have h := nestedgen2_roundtrip_on_nestedGenOp c opIdx op items hop hg hnd
    (by rw [C01NG.nestedGenKeysOk_eq_A c op ht]; exact hk) (by rw [C01NG.absTagOk_eq_A c op ht]; exact htag)
    (by rw [C01NG.nestedGenSideOk_eq_A c op ht]; exact hr) hgen hok j hc
  rw [h, C01NG.canonSelA_eq_A _ _ _ _ (nestedAbsOp_parts ht).2.2]

end C01NX
end GqlVerif
