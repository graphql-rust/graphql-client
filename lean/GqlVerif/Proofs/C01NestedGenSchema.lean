import GqlVerif.Model.Codegen

/-! The example schema and document of the `NestedGenOp` / `NestedGen2Op` / `NestedBOp` instances. -/

namespace GqlVerif
namespace C01NG
open Codegen

def ngSchema : Schema :=
  { objects := [{ name := "Query", fields := [0], implements := [] },
                { name := "Dog", fields := [1, 2, 3, 4], implements := [0] },
                { name := "Cat", fields := [1, 5], implements := [0] }]
    fields := [{ name := "animal", ty := { id := .interface 0, quals := [] }, parent := .object 0, deprecation := none },
               { name := "name", ty := { id := .scalar 1, quals := [.required] }, parent := .interface 0, deprecation := none },
               { name := "barks", ty := { id := .scalar 4, quals := [] }, parent := .object 1, deprecation := none },
               { name := "age", ty := { id := .scalar 2, quals := [] }, parent := .object 1, deprecation := none },
               { name := "tricks", ty := { id := .scalar 2, quals := [] }, parent := .object 1, deprecation := none },
               { name := "lives", ty := { id := .scalar 2, quals := [] }, parent := .object 2, deprecation := none }]
    interfaces := [{ name := "Animal", fields := [1] }]
    scalars := ["ID", "String", "Int", "Float", "Boolean"] }

def ngOp (animal : List Sel) : ROperation :=
  { name := "Q", kind := .query, objectId := 0, sels := [.field none 0 animal] }

/-- `fragment Inner on Dog { tricks }`, `fragment Outer on Dog { <outer> ...Inner }` -/
def ngQuery (outer : Sel) (animal : List Sel) : Query :=
  { operations := [ngOp animal]
    fragments := [{ name := "Inner", on := .object 1, sels := [.field none 4 []] },
                  { name := "Outer", on := .object 1, sels := [outer, .spread 0] }] }

def ngCtx (outer : Sel) (animal : List Sel) : Ctx := { s := ngSchema, q := ngQuery outer animal, o := {}, cs := ⟨id, id⟩ }

/-- `age` -/
def ngAge : Sel := .field none 3 []

end C01NG
end GqlVerif
