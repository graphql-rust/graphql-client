import GqlVerif.Proofs.C01MixedG
/-!
# `NestedOp`: fragment bodies that themselves contain spreads — the class and the closed form of the items

`MixedOp` allows spreads at object positions and at abstract positions of one operation, but the body of a fragment spread at
an object position is spread-free (`fragOk`).  `NestedOp` lifts that restriction at object positions:

* `nSel ok` / `nSels ok` / `nBody ok` — the object-level selection sets of `MixedOp`, parametric in the predicate
  `ok parent g` "the fragment `g` may be spread into a selection set on `parent`" (`mSel = nSel fragOk`: `nSel_fragOk`);
* `fragOkN s q o r parent g` — rank-indexed: rank `0` is `fragOk` (spread-free body); rank `r + 1` adds the fragments on
  `parent` (not named `ID`, not flagged recursive by the generator: no `Box`) whose body is again an `nBody` selection set
  over the fragments of rank `r`: fields, `__typename`, spreads of further fragments on the same type at the top level of
  the fragment's own body, object-typed fields with such bodies (a lone spread: a type alias), fields of scalar / enum /
  interface / union type as in `VariantSpreadOp`; the fragment's own body is not a lone spread (it is a struct).  The rank
  makes the spread graph acyclic by construction;
* `NestedOp c op` (decidable): the root selection set is an `nBody` over the fragments of rank `c.q.fragments.length`.

The closed form is the one of `MixedOp`: `bodyItemsM` never looks into a fragment body — a spread is one
`#[serde(flatten)]` member or one type alias, whatever the body.  It is proved as a derivation in `C02.CalcSel` for any `ok`
with `OkSpec` (`calc_nested`), so the fuel of the generator is dealt with once, in `C02.CalcSel.responseItems_eq` /
`fragmentItems_eq`.

`NestedOp` (namespace `C01N`) and `AliasFragOp` (`C01AliasFrag*`, namespace `C01AF`: a spread fragment whose whole body is one
spread, emitted as a type alias) form one development: what the two classes share is proved once, for the weaker hypothesis
(`FragAccA`: the fragment's name resolves to a struct item or to an alias chain to one), in the `C01AliasFrag*` files.
The block "congruence and monotonicity in `ok`" of this file (`nSel_congr`, `nSels_congr`) belongs to that shared part and
declares into namespace `C01AF`: it stands here because `nSel` is defined here and `C01AliasFragA` imports this file; the
`mono` and `fragOk` statements after it are again in `C01N`.

Outside both classes: a spread of a fragment whose body contains spreads at an abstract position (`sSel`: the fields of
interface / union type are those of `VariantSpreadOp`, their fragments spread-free); that is `NestedAbsOp` (`C01NestedAbs*`).
-/

namespace GqlVerif
namespace C01N
open Codegen C01 C01.E2E C01M

/-! ## the class -/

mutual
  /-- one selection of an object-level selection set on `parent`; `ok parent g`: the fragment `g` may be spread here -/
  def nSel (ok : TypeId → Nat → Bool) (s : Schema) (q : Query) (o : Options) (parent : TypeId) : Sel → Bool
    | .field a fid sub =>
      match s.fields[fid]? with
      | none => false
      | some sf =>
        match sf.ty.id with
        | .object i =>
          wfQuals sf.ty.quals && !(sf.deprecation.isSome && o.deprecation == .deny) && (s.objects[i]?).isSome &&
            (match sub with
             | [.spread g] => ok (.object i) g
             | _ => nSels ok s q o (.object i) sub)
        | _ => sSel s q o false (.field a fid sub)
    | .typename => true
    | .spread g => ok parent g
    | .inline _ _ => false
  def nSels (ok : TypeId → Nat → Bool) (s : Schema) (q : Query) (o : Options) (parent : TypeId) : List Sel → Bool
    | [] => true
    | x :: xs => nSel ok s q o parent x && nSels ok s q o parent xs
end

/-- the body of an object-level selection set: a lone spread (type alias) or a selection set of the class -/
def nBody (ok : TypeId → Nat → Bool) (s : Schema) (q : Query) (o : Options) (parent : TypeId) (sels : List Sel) : Bool :=
  match sels with
  | [.spread g] => ok parent g
  | _ => nSels ok s q o parent sels

/-- a selection set that consists of a single spread (emitted as a type alias) -/
def isLone : List Sel → Bool
  | [.spread _] => true
  | _ => false

theorem not_lone_of_isLone {sels : List Sel} (h : isLone sels = false) : ∀ g, sels ≠ [Sel.spread g] := by
  intro g hg; rw [hg] at h; simp [isLone] at h

theorem lone_or_not (sels : List Sel) : (∃ g, sels = [Sel.spread g]) ∨ ∀ g, sels ≠ [Sel.spread g] :=
  (Classical.em (∃ g, sels = [Sel.spread g])).imp_right (fun h g hg => h ⟨g, hg⟩)

/-- the fragment `g` is on `parent`, not named `ID`, not flagged recursive (no `Box`), and its body is an object-level
    selection set whose spreads satisfy `ok` — not a lone spread (the fragment would be a type alias, not a struct) -/
def fragNew (ok : TypeId → Nat → Bool) (s : Schema) (q : Query) (o : Options) (parent : TypeId) (g : Nat) : Bool :=
  match q.fragments[g]? with
  | some f => f.on == parent && f.name != "ID" && !fragmentIsRecursive q g && !isLone f.sels &&
      nSels ok s q o f.on f.sels
  | none => false

/-- **fragments that may be spread at an object position, by rank**: rank `0` — spread-free body (`fragOk`); rank `r + 1` —
    also the fragments whose body spreads fragments of rank `r` (at its own top level, or below object-typed fields) -/
def fragOkN (s : Schema) (q : Query) (o : Options) : Nat → TypeId → Nat → Bool
  | 0, p, g => fragOk s q o p g
  | r + 1, p, g => fragOkN s q o r p g || fragNew (fragOkN s q o r) s q o p g

/-- **the class `NestedOp`** (decidable): as `MixedOp`, but the body of a fragment spread at an object position may again
    spread fragments on the same type.  The rank is the number of fragments of the document: a chain of nested spreads
    without a cycle is not longer than that, so larger ranks should add nothing — no theorem here says so, and none needs
    it (`fragOkN_le`: smaller ranks are included). -/
def NestedOp (c : Ctx) (op : ROperation) : Bool :=
  c.o.normalization == .none && (c.s.objects[op.objectId]?).isSome &&
  nBody (fragOkN c.s c.q c.o c.q.fragments.length) c.s c.q c.o (.object op.objectId) op.sels

/-- the sub-class with exactly one level of nesting: a fragment body may spread spread-free fragments -/
def NestedOp1 (c : Ctx) (op : ROperation) : Bool :=
  c.o.normalization == .none && (c.s.objects[op.objectId]?).isSome &&
  nBody (fragOkN c.s c.q c.o 1) c.s c.q c.o (.object op.objectId) op.sels

section Basic
variable {ok : TypeId → Nat → Bool} {s : Schema} {q : Query} {o : Options}

theorem nSels_cons {p : TypeId} {x : Sel} {xs : List Sel}
    (h : nSels ok s q o p (x :: xs) = true) : nSel ok s q o p x = true ∧ nSels ok s q o p xs = true := by
  simpa [nSels] using h

theorem nSels_mem {p : TypeId} : ∀ {sels : List Sel}, nSels ok s q o p sels = true →
    ∀ x ∈ sels, nSel ok s q o p x = true :=
  fun {sels} h => List.all_eq_true.mp (all_of_eqns (ps := nSels ok s q o p) rfl (fun _ _ => rfl) sels ▸ h)

theorem nBody_not_lone {p : TypeId} {sels : List Sel}
    (h : ∀ g, sels ≠ [Sel.spread g]) : nBody ok s q o p sels = nSels ok s q o p sels := by
  unfold nBody
  split
  · rename_i g; exact absurd rfl (h g)
  · rfl

theorem nBody_lone {p : TypeId} {g : Nat} : nBody ok s q o p [Sel.spread g] = ok p g := rfl

theorem nSel_obj {p : TypeId} {a : Option String} {fid : Nat} {sub : List Sel}
    {sf : StoredField} {i : Nat} (hsf : s.fields[fid]? = some sf) (hid : sf.ty.id = .object i)
    (h : nSel ok s q o p (.field a fid sub) = true) :
    wfQuals sf.ty.quals = true ∧ (sf.deprecation.isSome && o.deprecation == .deny) = false ∧
      (s.objects[i]?).isSome = true ∧ nBody ok s q o (.object i) sub = true := by
  rw [nSel] at h
  simp only [hsf, hid, Bool.and_eq_true] at h
  obtain ⟨⟨⟨hw, hdep⟩, hobj⟩, hb⟩ := h
  refine ⟨hw, ?_, hobj, hb⟩
  cases hd : (sf.deprecation.isSome && o.deprecation == .deny) with
  | false => rfl
  | true => simp [hd] at hdep

theorem nSel_nonobj {p : TypeId} {a : Option String} {fid : Nat} {sub : List Sel}
    {sf : StoredField} (hsf : s.fields[fid]? = some sf) (hno : ∀ i, sf.ty.id ≠ .object i)
    (h : nSel ok s q o p (.field a fid sub) = true) : sSel s q o false (.field a fid sub) = true := by
  rw [nSel] at h
  simp only [hsf] at h
  cases hid : sf.ty.id with
  | object i => exact absurd hid (hno i)
  | scalar k => simpa [hid] using h
  | «enum» k => simpa [hid] using h
  | interface k => simpa [hid] using h
  | union k => simpa [hid] using h
  | input k => simpa [hid] using h

theorem nSel_field_some {p : TypeId} {a : Option String} {fid : Nat} {sub : List Sel}
    (h : nSel ok s q o p (.field a fid sub) = true) : ∃ sf, s.fields[fid]? = some sf := by
  rw [nSel] at h
  cases hsf : s.fields[fid]? with
  | none => simp [hsf] at h
  | some sf => exact ⟨sf, rfl⟩

theorem nSels_of_nBody {p : TypeId} {sels : List Sel}
    (h : nBody ok s q o p sels = true) : nSels ok s q o p sels = true := by
  rcases lone_or_not sels with hsp | hnl
  · obtain ⟨g, rfl⟩ := hsp
    have : ok p g = true := h
    simp [nSels, nSel, this]
  · rw [nBody_not_lone hnl] at h; exact h

end Basic

/-! ## congruence and monotonicity in `ok`; `mSel = nSel fragOk` -/

end C01N
namespace C01AF
open Codegen C01 C01.E2E C01M C01N

mutual
  theorem nSel_congr (ok ok1 ok2 : TypeId → Nat → Bool) (h12 : ∀ p g, ok p g = true → ok1 p g = ok2 p g) (s : Schema)
      (q : Query) (o : Options) : ∀ (x : Sel) (p : TypeId), nSel ok s q o p x = true →
      nSel ok1 s q o p x = nSel ok2 s q o p x
    | .field a fid sub, p => by
      intro ht
      have IH := nSels_congr ok ok1 ok2 h12 s q o sub
      obtain ⟨sf, hsf⟩ := nSel_field_some ht
      rw [nSel, nSel]
      simp only [hsf]
      cases hid : sf.ty.id with
      | object i =>
        obtain ⟨_, _, _, hbody⟩ := nSel_obj hsf hid ht
        simp only []
        congr 1
        rcases lone_or_not sub with hsp | hnl
        · obtain ⟨g, rfl⟩ := hsp; exact h12 _ g hbody
        · rw [nBody_not_lone hnl] at hbody
          split
          · exact absurd rfl (hnl _)
          · exact IH _ hbody
      | scalar k => rfl
      | «enum» k => rfl
      | interface k => rfl
      | union k => rfl
      | input k => rfl
    | .spread g, p => by
      intro ht
      rw [nSel, nSel]
      exact h12 p g (by simpa [nSel] using ht)
    | .inline _ _, _ => by intro _; rw [nSel, nSel]
    | .typename, _ => by intro _; rw [nSel, nSel]
  theorem nSels_congr (ok ok1 ok2 : TypeId → Nat → Bool) (h12 : ∀ p g, ok p g = true → ok1 p g = ok2 p g) (s : Schema)
      (q : Query) (o : Options) : ∀ (sels : List Sel) (p : TypeId), nSels ok s q o p sels = true →
      nSels ok1 s q o p sels = nSels ok2 s q o p sels
    | [], _ => by intro _; rfl
    | x :: xs, p => by
      intro ht
      obtain ⟨hx, hxs⟩ := nSels_cons ht
      rw [nSels, nSels, nSel_congr ok ok1 ok2 h12 s q o x p hx, nSels_congr ok ok1 ok2 h12 s q o xs p hxs]
end

end C01AF
namespace C01N
open Codegen C01 C01.E2E C01M C01AF

theorem nSel_mono {ok ok' : TypeId → Nat → Bool} (hle : ∀ p g, ok p g = true → ok' p g = true) (s : Schema) (q : Query)
      (o : Options) : ∀ (x : Sel) (p : TypeId), nSel ok s q o p x = true → nSel ok' s q o p x = true :=
  fun x p h => by
    rw [← nSel_congr ok ok ok' (fun p g hg => by rw [hg, hle p g hg]) s q o x p h]; exact h

theorem nSels_mono {ok ok' : TypeId → Nat → Bool} (hle : ∀ p g, ok p g = true → ok' p g = true) (s : Schema) (q : Query)
      (o : Options) : ∀ (sels : List Sel) (p : TypeId), nSels ok s q o p sels = true → nSels ok' s q o p sels = true :=
  fun sels p h => by
    rw [← nSels_congr ok ok ok' (fun p g hg => by rw [hg, hle p g hg]) s q o sels p h]; exact h

theorem nBody_mono {ok ok' : TypeId → Nat → Bool} (hle : ∀ p g, ok p g = true → ok' p g = true) {s : Schema} {q : Query}
    {o : Options} {p : TypeId} {sels : List Sel} (h : nBody ok s q o p sels = true) : nBody ok' s q o p sels = true := by
  rcases lone_or_not sels with hsp | hnl
  · obtain ⟨g, rfl⟩ := hsp; exact hle _ _ h
  · rw [nBody_not_lone hnl] at h ⊢
    exact nSels_mono hle s q o sels p h

mutual
  theorem nSel_fragOk (s : Schema) (q : Query) (o : Options) : ∀ (x : Sel) (p : TypeId),
      nSel (fragOk s q o) s q o p x = mSel s q o p x
    | .field a fid sub, p => by
      have IH := nSels_fragOk s q o sub
      rw [nSel, mSel]
      cases hsf : s.fields[fid]? with
      | none => rfl
      | some sf =>
        simp only []
        cases hid : sf.ty.id with
        | object i =>
          simp only []
          congr 1
          rcases lone_or_not sub with hsp | hnl
          · obtain ⟨g, rfl⟩ := hsp; rfl
          · split
            · exact absurd rfl (hnl _)
            · split
              · exact absurd rfl (hnl _)
              · exact IH _
        | scalar k => rfl
        | «enum» k => rfl
        | interface k => rfl
        | union k => rfl
        | input k => rfl
    | .spread g, p => by rw [nSel, mSel]
    | .inline _ _, _ => by rw [nSel, mSel]
    | .typename, _ => by rw [nSel, mSel]
  theorem nSels_fragOk (s : Schema) (q : Query) (o : Options) : ∀ (sels : List Sel) (p : TypeId),
      nSels (fragOk s q o) s q o p sels = mSels s q o p sels
    | [], _ => rfl
    | x :: xs, p => by rw [nSels, mSels, nSel_fragOk s q o x p, nSels_fragOk s q o xs p]
end

theorem nBody_fragOk (s : Schema) (q : Query) (o : Options) (p : TypeId) (sels : List Sel) :
    nBody (fragOk s q o) s q o p sels = mBody s q o p sels := by
  rcases lone_or_not sels with hsp | hnl
  · obtain ⟨g, rfl⟩ := hsp; rfl
  · rw [nBody_not_lone hnl, mBody_not_lone hnl, nSels_fragOk]

theorem fragOkN_succ {s : Schema} {q : Query} {o : Options} {r : Nat} {p : TypeId} {g : Nat}
    (h : fragOkN s q o r p g = true) : fragOkN s q o (r + 1) p g = true := by
  rw [fragOkN, h]; rfl

theorem fragOkN_le {s : Schema} {q : Query} {o : Options} {r r' : Nat} (hle : r ≤ r') {p : TypeId} {g : Nat}
    (h : fragOkN s q o r p g = true) : fragOkN s q o r' p g = true := by
  induction hle with
  | refl => exact h
  | step _ ih => exact fragOkN_succ ih

theorem fragOkN_zero {s : Schema} {q : Query} {o : Options} {r : Nat} {p : TypeId} {g : Nat}
    (h : fragOk s q o p g = true) : fragOkN s q o r p g = true :=
  fragOkN_le (Nat.zero_le r) (by rw [fragOkN]; exact h)

/-- a fragment of rank `r` is spread-free, or "new" at some rank below `r` -/
theorem fragOkN_cases {s : Schema} {q : Query} {o : Options} : ∀ {r : Nat} {p : TypeId} {g : Nat},
    fragOkN s q o r p g = true → fragOk s q o p g = true ∨ ∃ r', r' < r ∧ fragNew (fragOkN s q o r') s q o p g = true
  | 0, p, g, h => .inl (by rw [fragOkN] at h; exact h)
  | r + 1, p, g, h => by
    rw [fragOkN, Bool.or_eq_true] at h
    rcases h with h | h
    · rcases fragOkN_cases h with h' | ⟨r', hr', h'⟩
      · exact .inl h'
      · exact .inr ⟨r', by omega, h'⟩
    · exact .inr ⟨r, by omega, h⟩

theorem fragNew_parts {ok : TypeId → Nat → Bool} {s : Schema} {q : Query} {o : Options} {p : TypeId} {g : Nat}
    (h : fragNew ok s q o p g = true) :
    ∃ f, q.fragments[g]? = some f ∧ f.on = p ∧ f.name ≠ "ID" ∧ fragmentIsRecursive q g = false ∧
      (∀ g', f.sels ≠ [Sel.spread g']) ∧ nSels ok s q o f.on f.sels = true := by
  unfold fragNew at h
  cases hf : q.fragments[g]? with
  | none => simp [hf] at h
  | some f =>
    simp only [hf, Bool.and_eq_true, beq_iff_eq, bne_iff_ne, Bool.not_eq_true'] at h
    exact ⟨f, rfl, h.1.1.1.1, h.1.1.1.2, h.1.1.2, not_lone_of_isLone h.1.2, h.2⟩

/-- what the generator needs to know of a fragment that is spread -/
def OkSpec (q : Query) (ok : TypeId → Nat → Bool) : Prop :=
  ∀ p g, ok p g = true → ∃ f, q.fragments[g]? = some f ∧ f.on = p ∧ f.name ≠ "ID" ∧ fragmentIsRecursive q g = false

theorem fragOkN_spec (s : Schema) (q : Query) (o : Options) (r : Nat) : OkSpec q (fragOkN s q o r) := by
  intro p g h
  rcases fragOkN_cases h with h' | ⟨r', _, h'⟩
  · obtain ⟨f, hf, hon, hname, _, _⟩ := fragOk_parts h'
    exact ⟨f, hf, hon, hname, not_recursive_of_fragOk h'⟩
  · obtain ⟨f, hf, hon, hname, hrec, _, _⟩ := fragNew_parts h'
    exact ⟨f, hf, hon, hname, hrec⟩

/-! ## the closed form of the items for `NestedOp` -/

section CalcN
variable (c : Ctx) (hn : c.o.normalization = .none) (ok : TypeId → Nat → Bool) (hok : OkSpec c.q ok)

include hn in
/-- a field of `VariantSpreadOp` that is not of object type is one step of the field loop, under any parent -/
theorem calcFields_sField (pfx : String) (ty : TypeId) (a : Option String) (fid : Nat) (sub : List Sel) (sf : StoredField)
    (hsf : c.s.fields[fid]? = some sf) (hno : ∀ j, sf.ty.id ≠ .object j)
    (hs : sSel c.s c.q c.o false (.field a fid sub) = true) {rest : List Sel} {fs : List RField} {items : List Item}
    (hR : C02.CalcFields c pfx ty rest fs items) :
    C02.CalcFields c pfx ty (.field a fid sub :: rest) ((fieldOfSelF c pfx (.field a fid sub)).toList ++ fs)
      (itemsS c pfx (.field a fid sub) ++ items) := by
  obtain ⟨sf', hsf', hw, hdep', hk⟩ := sSel_kinds hs
  rw [hsf] at hsf'; cases hsf'
  have hfld := fun ft => renderField_tree c (a.getD sf.name) ft _ _ hw hdep'
  rcases hk with ⟨k, sn, hid, hk, _⟩ | ⟨k, en, hid, hk, _⟩ | ⟨i, _, hid, _⟩ | ⟨k, hid, hty, hs', hokL⟩ |
    ⟨u, hid, hty, hs', hokL⟩
  · have := C02.CalcFields.scalar (sub := sub) (C02.getField_of hsf) hid (C02.getScalar_of hk) (hfld _) hR
    simpa [hn, C02.fieldType_none, itemsS, fieldOfSelF, fieldOfSelV, hsf, hid, leafNameV, hk] using this
  · have := C02.CalcFields.enum (sub := sub) (C02.getField_of hsf) hid (C02.getEnum_of hk) (hfld _) hR
    simpa [hn, C02.fieldType_none, itemsS, fieldOfSelF, fieldOfSelV, hsf, hid, leafNameV, hk] using this
  · exact absurd hid (hno i)
  · have hS := calc_variantspread_abs c hn (pfx ++ c.cs.camel (a.getD sf.name)) (pfx ++ c.cs.camel (a.getD sf.name))
      (.interface k) hty hs' hokL
    have := C02.CalcFields.nested (C02.getField_of hsf) (by simp [hid]) (by simp [hid]) (by simp [hid]) (hfld _)
      (hid ▸ hS) hR
    simpa [itemsS, fieldOfSelF, fieldOfSelV, hsf, hid, leafNameV, absItemsS, absItemsL] using this
  · have hS := calc_variantspread_abs c hn (pfx ++ c.cs.camel (a.getD sf.name)) (pfx ++ c.cs.camel (a.getD sf.name))
      (.union u) hty hs' hokL
    have := C02.CalcFields.nested (C02.getField_of hsf) (by simp [hid]) (by simp [hid]) (by simp [hid]) (hfld _)
      (hid ▸ hS) hR
    simpa [itemsS, fieldOfSelF, fieldOfSelV, hsf, hid, leafNameV, absItemsS, absItemsL] using this

include hok in
/-- the spread of an admitted fragment is one step of the field loop: a flattened member, no items -/
theorem calcFields_okSpread (pfx : String) (i g : Nat) (hokg : ok (.object i) g = true) {rest : List Sel}
    {fs : List RField} {items : List Item} (hR : C02.CalcFields c pfx (.object i) rest fs items) :
    C02.CalcFields c pfx (.object i) (.spread g :: rest) ((fieldOfSelF c pfx (.spread g)).toList ++ fs) items := by
  obtain ⟨fr, hfr, hon, hname, hrec⟩ := hok _ _ hokg
  have := C02.CalcFields.spreadHere (C02.getFragment_of hfr) (by simp [hon]) (hrec ▸ renderField_spread c fr hname) hR
  simpa [fieldOfSelF, hfr] using this

/-- one selection of the class is one step of the field loop -/
def NStep (x : Sel) : Prop := ∀ (pfx : String) (i : Nat) (rest : List Sel) (fs : List RField) (items : List Item),
  nSel ok c.s c.q c.o (.object i) x = true → C02.CalcFields c pfx (.object i) rest fs items →
  C02.CalcFields c pfx (.object i) (x :: rest) ((fieldOfSelF c pfx x).toList ++ fs) (itemsM c pfx x ++ items)

theorem calcFields_nested {sels : List Sel} (H : ∀ y ∈ sels, NStep c ok y) (pfx : String) (i : Nat)
    (ht : nSels ok c.s c.q c.o (.object i) sels = true) :
    C02.CalcFields c pfx (.object i) sels (fieldsOfF c pfx sels) (itemsMs c pfx sels) := by
  induction sels with
  | nil => exact .nil
  | cons x rest ih =>
    rw [fieldsOfF_cons, itemsMs]
    exact H x List.mem_cons_self pfx i rest _ _ (nSels_cons ht).1
      (ih (fun y hy => H y (List.mem_cons_of_mem _ hy)) (nSels_cons ht).2)

include hok in
/-- a lone spread is the type alias of the fragment's struct, anything else the struct of its fields -/
theorem calcBody_nested {sels : List Sel} (H : ∀ y ∈ sels, NStep c ok y) (name pfx : String) (i : Nat)
    (ht : nBody ok c.s c.q c.o (.object i) sels = true) :
    C02.CalcSel c name pfx (.object i) sels (bodyItemsM c name pfx sels) := by
  rcases lone_or_not sels with ⟨g, rfl⟩ | hnl
  · obtain ⟨fr, hfr, _, _, hrec⟩ := hok _ _ (ht : ok (.object i) g = true)
    have := C02.CalcSel.alias (c := c) (name := name) (pfx := pfx) (ty := .object i) (C02.getFragment_of hfr)
    simpa [bodyItemsM, fragName, hfr, hrec] using this
  · rw [bodyItemsM_not_lone c name pfx hnl]
    rw [nBody_not_lone hnl] at ht
    exact .object hnl (calcFields_nested c ok H pfx i ht)

include hn hok in
theorem nStep : ∀ x, NStep c ok x := by
  apply Sel.ind
  · intro a fid sub IH pfx i rest fs items hx hR
    obtain ⟨sf, hsf⟩ := nSel_field_some hx
    by_cases hobj : ∃ j, sf.ty.id = .object j
    · obtain ⟨j, hid⟩ := hobj
      obtain ⟨hw, hdep', _, hbody⟩ := nSel_obj hsf hid hx
      have hS := calcBody_nested c ok hok IH (pfx ++ c.cs.camel (a.getD sf.name)) (pfx ++ c.cs.camel (a.getD sf.name))
        j hbody
      have := C02.CalcFields.nested (C02.getField_of hsf) (by simp [hid]) (by simp [hid]) (by simp [hid])
        (renderField_tree c _ _ _ _ hw hdep') (hid ▸ hS) hR
      have hitems : itemsM c pfx (.field a fid sub) =
          bodyItemsM c (pfx ++ c.cs.camel (a.getD sf.name)) (pfx ++ c.cs.camel (a.getD sf.name)) sub := by
        rw [itemsM]; simp only [hsf, hid]; rfl
      rw [hitems]
      simpa [fieldOfSelF, fieldOfSelV, hsf, hid, leafNameV] using this
    · have hno : ∀ j, sf.ty.id ≠ .object j := fun j h => hobj ⟨j, h⟩
      rw [itemsM_nonobj c pfx a fid sub sf hsf hno]
      exact calcFields_sField c hn pfx _ a fid sub sf hsf hno (nSel_nonobj hsf hno hx) hR
  · intro t sub _ pfx i rest fs items hx _
    simp [nSel] at hx
  · intro g pfx i rest fs items hx hR
    simpa [itemsM] using calcFields_okSpread c ok hok pfx i g (by simpa [nSel] using hx) hR
  · intro pfx i rest fs items _ hR
    simpa [fieldOfSelF, fieldOfSelV, itemsM] using C02.CalcFields.typename hR

include hn hok in
/-- **the closed form of the items of an object-level selection set of the class**, as a derivation -/
theorem calc_nested (name pfx : String) (i : Nat) {sels : List Sel}
    (ht : nBody ok c.s c.q c.o (.object i) sels = true) :
    C02.CalcSel c name pfx (.object i) sels (bodyItemsM c name pfx sels) :=
  calcBody_nested c ok hok (fun y _ => nStep c hn ok hok y) name pfx i ht

end CalcN

theorem nestedOp_parts {c : Ctx} {op : ROperation} (h : NestedOp c op = true) :
    c.o.normalization = .none ∧ (c.s.objects[op.objectId]?).isSome = true ∧
      nBody (fragOkN c.s c.q c.o c.q.fragments.length) c.s c.q c.o (.object op.objectId) op.sels = true := by
  simp only [NestedOp, Bool.and_eq_true, beq_iff_eq] at h
  exact ⟨h.1.1, h.1.2, h.2⟩

/-- **`nested_items_shape`.**  For an operation of the class `NestedOp` the response items are, in closed form,
    those of `mixed_items_shape`: at object positions a type alias for a lone spread, otherwise one struct with one
    `#[serde(flatten)]` member per spread — whatever the body of the spread fragment —, at fields of abstract type
    `itemsS`. -/
theorem nested_items_shape (c : Ctx) (op : ROperation) (hop : op ∈ c.q.operations) (ht : NestedOp c op = true) :
    responseItems c op = .ok (bodyItemsM c "ResponseData" (c.cs.camel op.name) op.sels) := by
  obtain ⟨hn, _, hsels⟩ := nestedOp_parts ht
  exact (calc_nested c hn _ (fragOkN_spec c.s c.q c.o _) _ _ _ hsels).responseItems_eq hop

/-- **… and the items of a spread fragment of any rank**: the struct named like the fragment (prefix: its upper-camel-case
    name) with one flattened member per spread **of the fragment's own body** (a type alias if the body is a lone
    spread), and the nested items -/
theorem nested_fragment_shape (c : Ctx) (hn : c.o.normalization = .none) (r : Nat) (i g : Nat)
    (hok : fragOkN c.s c.q c.o r (.object i) g = true) :
    ∃ f, c.q.fragments[g]? = some f ∧ f.on = .object i ∧
      fragmentItems c g = .ok (bodyItemsM c f.name (c.cs.camel f.name) f.sels) := by
  have key : ∀ f, c.q.fragments[g]? = some f → f.on = .object i → ∀ r',
      nBody (fragOkN c.s c.q c.o r') c.s c.q c.o (.object i) f.sels = true →
      fragmentItems c g = .ok (bodyItemsM c f.name (c.cs.camel f.name) f.sels) := by
    intro f hf hon r' hb
    exact C02.CalcSel.fragmentItems_eq hf (hon ▸ calc_nested c hn _ (fragOkN_spec c.s c.q c.o r') _ _ i hb)
  rcases fragOkN_cases hok with h' | ⟨r', _, h'⟩
  · obtain ⟨f, hf, hon, _, hv, _⟩ := fragOk_parts h'
    refine ⟨f, hf, hon, key f hf hon 0 ?_⟩
    have hm : mSels c.s c.q c.o (.object i) f.sels = true :=
      mSels_of_fSels c.s c.q c.o f.sels _ (fSels_of_vSels c.s c.q c.o f.sels _ hv)
    rw [nBody_not_lone (not_lone_spread hv)]
    have : fragOkN c.s c.q c.o 0 = fragOk c.s c.q c.o := by funext p g'; rw [fragOkN]
    rw [this, nSels_fragOk]
    exact hm
  · obtain ⟨f, hf, hon, _, _, hnl, hb⟩ := fragNew_parts h'
    rw [hon] at hb
    exact ⟨f, hf, hon, key f hf hon r' (by rw [nBody_not_lone hnl]; exact hb)⟩

/-! ## `MixedOp ⊆ NestedOp` -/

theorem nestedOp1_of_mixedOp (c : Ctx) (op : ROperation) (h : MixedOp c op = true) : NestedOp1 c op = true := by
  obtain ⟨hn, ho, hb⟩ := mixedOp_parts h
  simp only [NestedOp1, Bool.and_eq_true, beq_iff_eq]
  refine ⟨⟨hn, ho⟩, ?_⟩
  rw [← nBody_fragOk] at hb
  exact nBody_mono (fun p g hg => fragOkN_zero hg) hb

theorem nestedOp_of_nestedOp1 (c : Ctx) (op : ROperation) (h : NestedOp1 c op = true) (hl : 1 ≤ c.q.fragments.length) :
    NestedOp c op = true := by
  simp only [NestedOp1, Bool.and_eq_true, beq_iff_eq] at h
  simp only [NestedOp, Bool.and_eq_true, beq_iff_eq]
  exact ⟨h.1, nBody_mono (fun p g hg => fragOkN_le hl hg) h.2⟩

theorem nestedOp_of_mixedOp (c : Ctx) (op : ROperation) (h : MixedOp c op = true) : NestedOp c op = true := by
  obtain ⟨hn, ho, hb⟩ := mixedOp_parts h
  simp only [NestedOp, Bool.and_eq_true, beq_iff_eq]
  refine ⟨⟨hn, ho⟩, ?_⟩
  rw [← nBody_fragOk] at hb
  exact nBody_mono (fun p g hg => fragOkN_zero hg) hb

/-- on `MixedOp` the closed form is the same (it is the same function) -/
theorem nested_items_eq_M (c : Ctx) (op : ROperation) (hop : op ∈ c.q.operations) (h : MixedOp c op = true) :
    responseItems c op = .ok (bodyItemsM c "ResponseData" (c.cs.camel op.name) op.sels) :=
  nested_items_shape c op hop (nestedOp_of_mixedOp c op h)

end C01N
end GqlVerif
