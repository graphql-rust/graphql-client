import GqlVerif.Proofs.C01NestedAbsE
import GqlVerif.Proofs.C01NestedGenSchema
import GqlVerif.Proofs.C01VariantSpreadEval
import GqlVerif.Proofs.SpecEval
/-!
# `NestedBOp`: the instance, hypotheses evaluated

Schema `ngSchema` (`C01NestedGenSchema`);

    fragment Inner on Dog { tricks }
    fragment Outer on Dog { age ...Inner }
    fragment AnimalName on Animal { __typename name }
    query Q { animal { __typename ...AnimalName ... on Dog { barks } ...Outer } }

* the operation is in `NestedBOp`, not in `NestedGen2Op` (nor in `VariantSpreadOp`);
* the emitted types: `struct Qanimal { #[serde(flatten)] AnimalName, #[serde(flatten)] on: QanimalOn }`,
  `enum QanimalOn { Dog(QanimalOnDog), Cat }` tagged by `__typename`, `struct QanimalOnDog { barks, #[serde(flatten)] Outer }`,
  `struct AnimalName { name, #[serde(flatten)] on: AnimalNameOn }`, `enum AnimalNameOn { Dog, Cat }`;
* every hypothesis of `nestedb_roundtrip` by `decide +kernel`; the concrete round trip (the shared `__typename` is written by
  `AnimalName` and by `QanimalOn`; `normJson` keeps one);
* `nestedb_b_overlap_needed`: the key condition of `bOk` (no field key of a (b)-fragment is an interface-level field key of the
  position) is necessary — a conforming response the emitted types reject;
* `nestedb_disj_not_needed`: the key condition against the variants' keys (`nestedBDisjOk`) is not a hypothesis, and not needed;
* `nestedb_rust_names_needed`: the Rust-name condition of `nestedBSideOk` on the members of the (b)-spreads is necessary — a
  conforming, accepted response that is not written back.
-/

namespace GqlVerif
namespace C01NB
open Serde Spec C13 C03 Codegen C01 C01.E2E C01M C01N C01NA C01NG C01NX

/-- `fragment Inner on Dog { tricks }`, `fragment Outer on Dog { age ...Inner }`, `fragment AnimalName on Animal { __typename name }` -/
def nbQuery (animal : List Sel) : Query :=
  { operations := [ngOp animal]
    fragments := [{ name := "Inner", on := .object 1, sels := [.field none 4 []] },
                  { name := "Outer", on := .object 1, sels := [ngAge, .spread 0] },
                  { name := "AnimalName", on := .interface 0, sels := [.typename, .field none 1 []] }] }

def nbCtx (animal : List Sel) : Ctx := { s := ngSchema, q := nbQuery animal, o := {}, cs := ⟨id, id⟩ }

/-- `animal { __typename ...AnimalName ... on Dog { barks } ...Outer }` -/
def nbAnimal : List Sel := [.typename, .spread 2, .inline (.object 1) [.field none 2 []], .spread 1]

abbrev CB : Ctx := nbCtx nbAnimal
abbrev OB : ROperation := ngOp nbAnimal

def nbItems : List Item := okOr (responseForQuery CB 0)

theorem nb_gen : responseForQuery CB 0 = .ok nbItems := gen_of_isOk (by decide +kernel)
theorem nb_class : NestedBOp CB OB = true := by decide +kernel
theorem nb_not_X : NestedGen2Op CB OB = false := by decide +kernel
theorem nb_not_S : VariantSpreadOp CB OB = false := by decide +kernel

theorem nb_names : fragNamesOk CB = true := by decide +kernel
theorem nb_keys : nestedBKeysOk CB OB = true := by decide +kernel
theorem nb_tag : absTagOk CB OB = true := by decide +kernel
theorem nb_ok : moduleOk CB nbItems = true := by decide +kernel
theorem nb_side : nestedBSideOk CB OB = true := by decide +kernel

/-- `nestedb_items_shape` on the instance -/
theorem nb_items : responseItems CB OB = .ok (bodyItemsA CB "ResponseData" "Q" OB.sels) :=
  nestedb_items_shape _ _ (by simp [nbCtx, nbQuery]) nb_class

/-- the emitted types -/
theorem nb_items_shape :
    ((moduleEnv CB nbItems).find "Qanimal" ==
      some (.struct "Qanimal" ["Deserialize"] (some "::serde")
        [{ rust := "AnimalName", ty := .path "AnimalName", flatten := true },
         { rust := "on", ty := .path "QanimalOn", flatten := true }])) &&
    ((moduleEnv CB nbItems).find "QanimalOn" ==
      some (.tagged "QanimalOn" ["Deserialize"] (some "::serde") "__typename"
        [{ name := "Dog", payload := some (.path "QanimalOnDog") }, { name := "Cat" }])) &&
    ((moduleEnv CB nbItems).find "QanimalOnDog" ==
      some (.struct "QanimalOnDog" ["Deserialize"] (some "::serde")
        [{ rust := "barks", ty := .opt (.path "Boolean") },
         { rust := "Outer", ty := .path "Outer", flatten := true }])) &&
    ((moduleEnv CB nbItems).find "AnimalName" ==
      some (.struct "AnimalName" ["Deserialize"] (some "::serde")
        [{ rust := "name", ty := .path "String" },
         { rust := "on", ty := .path "AnimalNameOn", flatten := true }])) &&
    ((moduleEnv CB nbItems).find "AnimalNameOn" ==
      some (.tagged "AnimalNameOn" ["Deserialize"] (some "::serde") "__typename"
        [{ name := "Dog" }, { name := "Cat" }])) = true := by
  decide +kernel

def nbJson : Json :=
  .obj [("animal", .obj [("tricks", .int 3), ("__typename", .str "Dog"), ("barks", .bool true), ("name", .str "Rex"),
    ("age", .int 7)])]

def nbJsonCat : Json :=
  .obj [("animal", .obj [("name", .str "Tom"), ("__typename", .str "Cat")])]

theorem nb_conforms : conformsOpN CB OB nbJson = true := by
  rw [conformsOpN, conformsV_eq_K]
  decide +kernel
theorem nb_conforms_cat : conformsOpN CB OB nbJsonCat = true := by
  rw [conformsOpN, conformsV_eq_K]
  decide +kernel

/-- C03 on the module: what `ResponseData` accepts, exactly -/
theorem nb_precise (j : Json) :
    okB (Serde.de (moduleEnv CB nbItems) (.path "ResponseData") j) =
      conformsLooseA (wholeN CB 3) ngSchema (nbQuery nbAnimal) {} false OB.sels j :=
  nestedb_precise_iff CB 0 OB nbItems rfl nb_class nb_names nb_keys nb_gen nb_ok j

/-- `nestedb_accepts` on the instance -/
theorem nb_accepts : ∃ v, Serde.de (moduleEnv CB nbItems) (.path "ResponseData") nbJson = .ok v :=
  nestedb_accepts CB 0 OB nbItems rfl nb_class nb_names nb_keys nb_tag nb_gen nb_ok nbJson nb_conforms

/-- **the concrete round trip**, by evaluation of the model: `Qanimal` writes the entries of `AnimalName` (`name` and its own
    `__typename`), the flattened tagged enum the tag entry (merged by `serde_json::to_value` with the one of `AnimalName`: the
    key keeps its first position), the variant struct its own field `barks`, then `Outer`'s entry `age`, then `Inner`'s entry
    `tricks` -/
theorem nb_roundtrip_eval :
    (match Serde.roundtrip (moduleEnv CB nbItems) (.path "ResponseData") nbJson with
     | .ok (.obj [("animal", .obj [("name", .str "Rex"), ("__typename", .str "Dog"), ("barks", .bool true),
         ("age", .int 7), ("tricks", .int 3)])]) => true
     | _ => false) = true := by decide +kernel

theorem nb_roundtrip_eval_cat :
    (match Serde.roundtrip (moduleEnv CB nbItems) (.path "ResponseData") nbJsonCat with
     | .ok (.obj [("animal", .obj [("name", .str "Tom"), ("__typename", .str "Cat")])]) => true
     | _ => false) = true := by decide +kernel

/-- `nestedb_roundtrip` on the instance, the canonical form still symbolic -/
theorem nb_roundtrip_canon :
    Serde.roundtrip (moduleEnv CB nbItems) (.path "ResponseData") nbJson =
      .ok (normJson (canonSelA (centN CB 3) ngSchema (nbQuery nbAnimal) {} OB.sels nbJson)) :=
  nestedb_roundtrip CB 0 OB nbItems rfl nb_class nb_names nb_keys nb_tag nb_side nb_gen nb_ok nbJson nb_conforms

/-- … hence the canonical form of `nestedb_roundtrip` is the value the model computes -/
theorem nb_canon_value :
    (match (Except.ok (normJson (canonSelA (centN CB 3) ngSchema (nbQuery nbAnimal) {} OB.sels nbJson)) : D Json) with
     | .ok (.obj [("animal", .obj [("name", .str "Rex"), ("__typename", .str "Dog"), ("barks", .bool true),
         ("age", .int 7), ("tricks", .int 3)])]) => true
     | _ => false) = true := by
  rw [← nb_roundtrip_canon]; exact nb_roundtrip_eval

/-! ## necessity of the key condition of `bOk`

    query Q { animal { __typename name ...AnimalName } }

`Qanimal` consumes the entry `name`; the flattened member `AnimalName { name, … }` never sees it. -/

def nzAnimal : List Sel := [.typename, .field none 1 [], .spread 2]
abbrev CZ : Ctx := nbCtx nzAnimal
abbrev OZ : ROperation := ngOp nzAnimal
def nzItems : List Item := okOr (responseForQuery CZ 0)
theorem nz_gen : responseForQuery CZ 0 = .ok nzItems := gen_of_isOk (by decide +kernel)
/-- not in the class: the (b)-fragment reads the key of an interface-level field of the position -/
theorem nz_class : NestedBOp CZ OZ = false := by decide +kernel
def nzJson : Json := .obj [("animal", .obj [("__typename", .str "Dog"), ("name", .str "Rex")])]

theorem nz_conforms : conformsOpN CZ OZ nzJson = true := by
  rw [conformsOpN, conformsV_eq_K]
  decide +kernel

/-- the response conforms, the module is generated, and the emitted `ResponseData` rejects the response -/
theorem nestedb_b_overlap_needed :
    conformsOpN CZ OZ nzJson = true ∧ moduleOk CZ nzItems = true ∧
      okB (Serde.de (moduleEnv CZ nzItems) (.path "ResponseData") nzJson) = false :=
  ⟨nz_conforms, by decide +kernel⟩

/-! ## necessity of the Rust-name condition of `nestedBSideOk` (`rustNamesB … ++ ["on"]` pairwise distinct)

    fragment on on Animal { __typename name }
    query Q { animal { __typename ...on ...Outer } }

the member of the (b)-spread is named `on`, as the flattened tagged enum: every other hypothesis of `nestedb_roundtrip` holds, the
response conforms and is accepted, and the value read is not written back (the serializer finds the wrong member). -/

def nrQuery (animal : List Sel) : Query :=
  { operations := [ngOp animal]
    fragments := [{ name := "Inner", on := .object 1, sels := [.field none 4 []] },
                  { name := "Outer", on := .object 1, sels := [ngAge, .spread 0] },
                  { name := "on", on := .interface 0, sels := [.typename, .field none 1 []] }] }
def nrCtx (animal : List Sel) : Ctx := { s := ngSchema, q := nrQuery animal, o := {}, cs := ⟨id, id⟩ }
def nrAnimal : List Sel := [.typename, .spread 2, .spread 1]
abbrev CR : Ctx := nrCtx nrAnimal
abbrev OR : ROperation := ngOp nrAnimal
def nrItems : List Item := okOr (responseForQuery CR 0)
theorem nr_gen : responseForQuery CR 0 = .ok nrItems := gen_of_isOk (by decide +kernel)
def nrJson : Json := .obj [("animal", .obj [("__typename", .str "Cat"), ("name", .str "Tom")])]

theorem nr_conforms : conformsOpN CR OR nrJson = true := by
  rw [conformsOpN, conformsV_eq_K]
  decide +kernel

theorem nestedb_rust_names_needed :
    NestedBOp CR OR = true ∧ fragNamesOk CR = true ∧ nestedBKeysOk CR OR = true ∧ absTagOk CR OR = true ∧
      moduleOk CR nrItems = true ∧ nestedBSideOk CR OR = false ∧ conformsOpN CR OR nrJson = true ∧
      (match Serde.roundtrip (moduleEnv CR nrItems) (.path "ResponseData") nrJson with
       | .ok _ => false
       | .error _ => true) = true := by
  -- one evaluation for all components that run the generator
  have h : (NestedBOp CR OR = true ∧ fragNamesOk CR = true ∧ nestedBKeysOk CR OR = true ∧ absTagOk CR OR = true ∧
      moduleOk CR nrItems = true ∧ nestedBSideOk CR OR = false) ∧
      (match Serde.roundtrip (moduleEnv CR nrItems) (.path "ResponseData") nrJson with
       | .ok _ => false
       | .error _ => true) = true := by decide +kernel
  exact ⟨h.1.1, h.1.2.1, h.1.2.2.1, h.1.2.2.2.1, h.1.2.2.2.2.1, h.1.2.2.2.2.2, nr_conforms, h.2⟩

/-! ## the key condition against the variants' keys (`nestedBDisjOk`) is not needed

    query Q { animal { __typename ...AnimalName ... on Dog { name } } }

`name` is read by the member `AnimalName` and by the variant struct `QanimalOnDog` (both flattened members of `Qanimal` borrow);
every hypothesis of `nestedb_roundtrip` holds, `nestedBDisjOk` does not; the serializer writes `name` twice, `normJson` keeps one. -/

theorem nb_disj : nestedBDisjOk CB OB = true := by decide +kernel

def nsAnimal : List Sel := [.typename, .spread 2, .inline (.object 1) [.field none 1 []]]
abbrev CS : Ctx := nbCtx nsAnimal
abbrev OS : ROperation := ngOp nsAnimal
def nsItems : List Item := okOr (responseForQuery CS 0)
theorem ns_gen : responseForQuery CS 0 = .ok nsItems := gen_of_isOk (by decide +kernel)
def nsJson : Json := .obj [("animal", .obj [("__typename", .str "Dog"), ("name", .str "Rex")])]

theorem ns_conforms : conformsOpN CS OS nsJson = true := by
  rw [conformsOpN, conformsV_eq_K]
  decide +kernel

theorem nestedb_disj_not_needed :
    NestedBOp CS OS = true ∧ nestedBDisjOk CS OS = false ∧
      Serde.roundtrip (moduleEnv CS nsItems) (.path "ResponseData") nsJson =
        .ok (normJson (canonSelA (centN CS 3) ngSchema (nbQuery nsAnimal) {} OS.sels nsJson)) ∧
      (match Serde.roundtrip (moduleEnv CS nsItems) (.path "ResponseData") nsJson with
       | .ok (.obj [("animal", .obj [("name", .str "Rex"), ("__typename", .str "Dog")])]) => true
       | _ => false) = true := by
  -- one evaluation for the decidable components and the decidable hypotheses of `nestedb_roundtrip`
  have h : (NestedBOp CS OS = true ∧ nestedBDisjOk CS OS = false ∧ fragNamesOk CS = true ∧ nestedBKeysOk CS OS = true ∧
      absTagOk CS OS = true ∧ nestedBSideOk CS OS = true ∧ moduleOk CS nsItems = true) ∧
      (match Serde.roundtrip (moduleEnv CS nsItems) (.path "ResponseData") nsJson with
       | .ok (.obj [("animal", .obj [("name", .str "Rex"), ("__typename", .str "Dog")])]) => true
       | _ => false) = true := by decide +kernel
  obtain ⟨⟨hcl, hdj, hnd, hk, htag, hr, hmo⟩, hrt⟩ := h
  exact ⟨hcl, hdj, nestedb_roundtrip CS 0 OS nsItems rfl hcl hnd hk htag hr ns_gen hmo nsJson ns_conforms, hrt⟩

end C01NB
end GqlVerif
