import GqlVerif.Proofs.C01NestedE
/-!
# `NestedOp`: the specification side; `nested_accepts`

* `expandSelsW ex` — every spread `...g` replaced by `ex g`; `exN q r g` — the inline fragment `... on T { body }` with the
  spreads of the body expanded again, `r` levels deep (GraphQL §6.4.3 CollectFields treats a spread like an inline
  fragment with the fragment's type condition and selection set); rank `0` is `expandSel` of `C01AbstractG`;
* `conformsOpN c op j` — the specification `conformsV` on the root selection set with every spread expanded
  (`c.q.fragments.length` levels: all of them, for an operation of the class).

Conforming ⇒ accepted is proved parametrically as in `C01NestedC` (`slBodyN_of`), then by induction on the rank (`specN`: a
response that conforms to the expanded fragment is accepted by the fragment struct); **`nested_accepts`**: every conforming
response is accepted by the emitted `ResponseData`.
-/

namespace GqlVerif
namespace C01N
open Serde Spec C13 C03 Codegen C01 C01.E2E C01M

mutual
  /-- every spread `...g` replaced by `ex g` -/
  def expandSelW (ex : Nat → Sel) : Sel → Sel
    | .field a fid sub => .field a fid (expandSelsW ex sub)
    | .inline t sub => .inline t (expandSelsW ex sub)
    | .spread g => ex g
    | .typename => .typename
  def expandSelsW (ex : Nat → Sel) : List Sel → List Sel
    | [] => []
    | x :: xs => expandSelW ex x :: expandSelsW ex xs
end

/-- the inline fragment a spread of `g` stands for, the spreads of its body expanded `r` levels deep -/
def exN (q : Query) : Nat → Nat → Sel
  | 0, g => expandSel q (.spread g)
  | r + 1, g =>
    match q.fragments[g]? with
    | some f => .inline f.on (expandSelsW (exN q r) f.sels)
    | none => .spread g

/-- **a response conforms to the operation**: the response object of the root selection set, every spread read as the
    inline fragment `... on T { body }`, recursively, executed on the root object type -/
def conformsOpN (c : Ctx) (op : ROperation) (j : Json) : Bool :=
  conformsV c.s op.objectId (expandSelsW (exN c.q c.q.fragments.length) op.sels) j

mutual
  theorem expandSelW_noSpread (ex : Nat → Sel) : ∀ (x : Sel), noSpread x = true → expandSelW ex x = x
    | .field a fid sub => by intro h; rw [noSpread] at h; rw [expandSelW, expandSelsW_noSpreads ex sub h]
    | .inline t sub => by intro h; rw [noSpread] at h; rw [expandSelW, expandSelsW_noSpreads ex sub h]
    | .spread g => by intro h; simp [noSpread] at h
    | .typename => by intro _; rfl
  theorem expandSelsW_noSpreads (ex : Nat → Sel) : ∀ (sels : List Sel), noSpreads sels = true → expandSelsW ex sels = sels
    | [] => by intro _; rfl
    | x :: xs => by
      intro h
      rw [noSpreads, Bool.and_eq_true] at h
      rw [expandSelsW, expandSelW_noSpread ex x h.1, expandSelsW_noSpreads ex xs h.2]
end

mutual
  theorem expandSelW_congr (q : Query) (ex : Nat → Sel) : ∀ (x : Sel),
      (∀ g ∈ spreadIds x, ex g = expandSel q (.spread g)) → expandSelW ex x = expandSel q x
    | .field a fid sub => by
      intro h; rw [spreadIds] at h; rw [expandSelW, expandSel, expandSelsW_congr q ex sub h]
    | .inline t sub => by
      intro h; rw [spreadIds] at h; rw [expandSelW, expandSel, expandSelsW_congr q ex sub h]
    | .spread g => by intro h; rw [expandSelW]; exact h g (by simp [spreadIds])
    | .typename => by intro _; rfl
  theorem expandSelsW_congr (q : Query) (ex : Nat → Sel) : ∀ (sels : List Sel),
      (∀ g ∈ spreadIdss sels, ex g = expandSel q (.spread g)) → expandSelsW ex sels = expandSels q sels
    | [] => by intro _; rfl
    | x :: xs => by
      intro h
      rw [spreadIdss] at h
      rw [expandSelsW, expandSels, expandSelW_congr q ex x (fun g hg => h g (List.mem_append_left _ hg)),
        expandSelsW_congr q ex xs (fun g hg => h g (List.mem_append_right _ hg))]
end

theorem exN_spreadfree (q : Query) (r g : Nat) (f : RFragment) (hf : q.fragments[g]? = some f)
    (hns : noSpreads f.sels = true) : exN q r g = .inline f.on f.sels := by
  cases r with
  | zero => simp [exN, expandSel, hf]
  | succ r => simp [exN, hf, expandSelsW_noSpreads _ _ hns]

theorem exN_fragOkAny {s : Schema} {q : Query} {o : Options} {g : Nat} (h : FragOkAny s q o g) (r : Nat) :
    exN q r g = expandSel q (.spread g) := by
  rcases h with ⟨i, h⟩ | ⟨ty, _, h⟩
  · obtain ⟨f, hf, _, _, hv, _⟩ := fragOk_parts h
    rw [exN_spreadfree q r g f hf (noSpreads_of_vSels s o f.sels false hv)]
    simp [expandSel, hf]
  · obtain ⟨f, hf, _, _, hv, _⟩ := fragOkB_parts h
    rw [exN_spreadfree q r g f hf (noSpreads_of_vSels s o f.sels true hv)]
    simp [expandSel, hf]

/-! ## conforming ⇒ accepted, parametric -/

section SLN
variable (s : Schema) (q : Query) (o : Options) (ok : TypeId → Nat → Bool) (whole : Nat → Bool → Json → Bool)
  (ex : Nat → Sel)
  (hexA : ∀ g, FragOkAny s q o g → ex g = expandSel q (.spread g))
  (hmem : ∀ i g, ok (.object i) g = true → ∀ kvs, (∀ k, countKey k kvs ≤ 1) → confSelV s i (ex g) kvs = true →
    whole g true (.obj kvs) = true)
  (hali : ∀ i g, ok (.object i) g = true → ∀ b j, conformsV s i [ex g] j = true → whole g b j = true)

include hmem in
theorem slMemN (i : Nat) (kvs : List (String × Json)) (hc : ∀ k, countKey k kvs ≤ 1) : ∀ (sels : List Sel),
    nSels ok s q o (.object i) sels = true → confSelsV s i (expandSelsW ex sels) kvs = true →
    looseMemN whole sels kvs = true
  | [], _, _ => by simp [looseMemN]
  | x :: xs, ht, h => by
    obtain ⟨hx, hxs⟩ := nSels_cons ht
    rw [expandSelsW, confSelsV, Bool.and_eq_true] at h
    have ih := slMemN i kvs hc xs hxs h.2
    cases x with
    | spread g =>
      have hokg : ok (.object i) g = true := by simpa [nSel] using hx
      rw [looseMemN, ih, Bool.and_true]
      exact hmem i g hokg kvs hc (by simpa [expandSelW] using h.1)
    | field a fid sub => simpa [looseMemN] using ih
    | inline t sub => simpa [looseMemN] using ih
    | typename => simpa [looseMemN] using ih

include hmem hali in
theorem slBodyN_of (sels : List Sel)
    (IHown : ∀ b i kvs, nSels ok s q o (.object i) sels = true → (∀ k, countKey k kvs ≤ 1) →
      confSelsV s i (expandSelsW ex sels) kvs = true → looseOwnN whole s q o b sels kvs = true) :
    ∀ b i j, nBody ok s q o (.object i) sels = true → conformsV s i (expandSelsW ex sels) j = true →
      conformsLooseN whole s q o b sels j = true := by
  intro b i j ht hc
  rcases lone_or_not sels with hsp | hnl
  · obtain ⟨g, rfl⟩ := hsp
    have hokg : ok (.object i) g = true := ht
    simp only [conformsLooseN]
    exact hali i g hokg b j (by simpa [expandSelsW, expandSelW] using hc)
  · rw [nBody_not_lone hnl] at ht
    rw [conformsLooseN_not_lone hnl]
    obtain ⟨kvs, rfl, hnd, hconf⟩ := conformsV_obj hc
    have hcnt := countKey_le_one_of_nodup hnd
    simp only [IHown b i kvs ht hcnt hconf, slMemN s q o ok whole ex hmem i kvs hcnt sels ht hconf, Bool.and_self]

mutual
  theorem slFieldN : ∀ (x : Sel) (p : TypeId) (b : Bool) (v : Json),
      (∀ g, FragOkAny s q o g → ex g = expandSel q (.spread g)) →
      (∀ i g, ok (.object i) g = true → ∀ kvs, (∀ k, countKey k kvs ≤ 1) → confSelV s i (ex g) kvs = true →
        whole g true (.obj kvs) = true) →
      (∀ i g, ok (.object i) g = true → ∀ b j, conformsV s i [ex g] j = true → whole g b j = true) →
      nSel ok s q o p x = true →
      strictFieldV s (expandSelW ex x) v = true → looseFieldN whole s q o b x v = true
    | .field a fid sub, p, b, v => by
      intro hexA hmem hali ht h
      have IH := slOwnN sub
      obtain ⟨sf, hsf⟩ := nSel_field_some ht
      by_cases hobj : ∃ i, sf.ty.id = .object i
      · obtain ⟨i, hid⟩ := hobj
        obtain ⟨_, _, hobjs, hbody⟩ := nSel_obj hsf hid ht
        simp only [expandSelW, strictFieldV] at h
        rw [looseFieldN]
        simp only [hsf, hid] at h ⊢
        cases ho : s.objects[i]? with
        | none => simp [ho] at hobjs
        | some ob =>
          simp only []
          rw [looseLambdaN]
          refine (accepts_mono _ _ ?_ _).2 v h
          intro j hj
          simp only [conformsAt, List.any_eq_true, List.mem_range, Bool.and_eq_true, fragApplies, beq_iff_eq] at hj
          obtain ⟨rt, _, hrt, hc⟩ := hj
          subst hrt
          exact slBodyN_of s q o ok whole ex hmem hali sub
            (fun b' i' kvs h1 h2 h3 => IH (.object i') b' i' kvs hexA hmem hali h1 h2 h3) b i j hbody hc
      · have hno : ∀ i, sf.ty.id ≠ .object i := fun i h => hobj ⟨i, h⟩
        have hs := nSel_nonobj hsf hno ht
        rw [looseFieldN_nonobj hsf hno]
        have hexp : expandSelW ex (.field a fid sub) = expandSel q (.field a fid sub) :=
          expandSelW_congr q ex _ (fun g hg => hexA g (fragOk_of_spreadIdS s q o _ false hs g hg (by simp)))
        rw [hexp] at h
        exact slFieldS s q o _ false b v hs h
    | .spread _, _, _, _ => by intro _ _ _ _ _; simp [looseFieldN]
    | .inline _ _, _, _, _ => by intro _ _ _ ht; simp [nSel] at ht
    | .typename, _, _, _ => by intro _ _ _ _ _; simp [looseFieldN]
  theorem slOwnN : ∀ (sels : List Sel) (p : TypeId) (b : Bool) (i : Nat) (kvs : List (String × Json)),
      (∀ g, FragOkAny s q o g → ex g = expandSel q (.spread g)) →
      (∀ i g, ok (.object i) g = true → ∀ kvs, (∀ k, countKey k kvs ≤ 1) → confSelV s i (ex g) kvs = true →
        whole g true (.obj kvs) = true) →
      (∀ i g, ok (.object i) g = true → ∀ b j, conformsV s i [ex g] j = true → whole g b j = true) →
      nSels ok s q o p sels = true → (∀ k, countKey k kvs ≤ 1) →
      confSelsV s i (expandSelsW ex sels) kvs = true → looseOwnN whole s q o b sels kvs = true
    | [], _, _, _, _, _, _, _, _, _, _ => by simp [looseOwnN]
    | x :: xs, p, b, i, kvs, hexA, hmem, hali, ht, hc, h => by
      obtain ⟨hx, hxs⟩ := nSels_cons ht
      rw [expandSelsW, confSelsV, Bool.and_eq_true] at h
      have ih := slOwnN xs p b i kvs hexA hmem hali hxs hc h.2
      cases x with
      | field a fid sub =>
        have hcx := h.1
        rw [expandSelW, confSelV_field] at hcx
        rw [looseOwnN.eq_2, ih, Bool.and_true]
        cases hsf : s.fields[fid]? with
        | none => simp [hsf] at hcx
        | some sf =>
          simp only [hsf] at hcx ⊢
          cases hl : Json.lookup (a.getD sf.name) kvs with
          | none => simp [hl] at hcx
          | some v =>
            simp only [hl] at hcx ⊢
            have := slFieldN (.field a fid sub) p b v hexA hmem hali hx (by rw [expandSelW]; exact hcx)
            simp [hc, this]
      | spread g => simpa [looseOwnN] using ih
      | inline t sub => simp [nSel] at hx
      | typename => simpa [looseOwnN] using ih
end

include hexA hmem hali in
/-- every response conforming to the specification (on the expanded selection set) is accepted -/
theorem conformsN_loose (b : Bool) (i : Nat) (sels : List Sel) (j : Json)
    (ht : nBody ok s q o (.object i) sels = true) (h : conformsV s i (expandSelsW ex sels) j = true) :
    conformsLooseN whole s q o b sels j = true :=
  slBodyN_of s q o ok whole ex hmem hali sels
    (fun b' i' kvs h1 h2 h3 => slOwnN s q o ok whole ex sels (.object i') b' i' kvs hexA hmem hali h1 h2 h3) b i j ht h

end SLN

/-! ## the rank recursion -/

/-- **a response conforming to the expanded fragment is accepted by the fragment struct** (by induction on the rank) -/
theorem specN (c : Ctx) : ∀ (r i g : Nat), fragOkN c.s c.q c.o r (.object i) g = true → ∀ r', r ≤ r' →
    (∀ kvs, (∀ k, countKey k kvs ≤ 1) → confSelV c.s i (exN c.q r' g) kvs = true →
      wholeN c r g true (.obj kvs) = true) ∧
    (∀ b j, conformsV c.s i [exN c.q r' g] j = true → wholeN c r g b j = true)
  | 0, i, g => by
    intro h r' _
    rw [fragOkN] at h
    obtain ⟨fr, hfr, hon, _, hv, _⟩ := fragOk_parts h
    have hsels : fragSels c.q g = fr.sels := by simp [fragSels, hfr]
    rw [exN_spreadfree c.q r' g fr hfr (noSpreads_of_vSels c.s c.o fr.sels false hv)]
    refine ⟨fun kvs hc h1 => ?_, fun b j hc => ?_⟩
    · simp only [confSelV, hon, fragApplies, beq_self_eq_true, Bool.not_true, Bool.false_or] at h1
      simp only [wholeN, hsels, conformsLooseV]
      exact slSels c.s c.o fr.sels false true i kvs hv hc h1
    · simp only [wholeN, hsels]
      apply conformsV_loose c.s c.o b i fr.sels j hv
      obtain ⟨kvs, rfl, -, -⟩ := conformsV_obj hc
      simp only [conformsV, keysSelsV, keysSelV, hon, fragApplies, beq_self_eq_true,
        ↓reduceIte, List.append_nil, confSelsV, confSelV, Bool.not_true, Bool.false_or, Bool.and_true] at hc ⊢
      exact hc
  | r + 1, i, g => by
    intro h r' hr'
    have IH := specN c r
    by_cases hold : fragOkN c.s c.q c.o r (.object i) g = true
    · obtain ⟨fr, hfr, hon, _, _⟩ := fragOkN_spec c.s c.q c.o r _ g hold
      have hfon : fragOn c.q g = .object i := by simp [fragOn, hfr, hon]
      have hw : ∀ b j, wholeN c (r + 1) g b j = wholeN c r g b j := by
        intro b j; rw [wholeN, hfon, if_pos hold]
      obtain ⟨h1, h2⟩ := IH i g hold r' (by omega)
      exact ⟨fun kvs hc hh => by rw [hw]; exact h1 kvs hc hh, fun b j hh => by rw [hw]; exact h2 b j hh⟩
    · have holdf : fragOkN c.s c.q c.o r (.object i) g = false := by simpa using hold
      rw [fragOkN, holdf, Bool.false_or] at h
      obtain ⟨fr, hfr, hon, _, _, hnl, hb⟩ := fragNew_parts h
      have hfon : fragOn c.q g = .object i := by simp [fragOn, hfr, hon]
      have hsels : fragSels c.q g = fr.sels := by simp [fragSels, hfr]
      have hw : ∀ b j, wholeN c (r + 1) g b j = conformsLooseN (wholeN c r) c.s c.q c.o b fr.sels j := by
        intro b j; rw [wholeN, hfon, if_neg hold, hsels]
      obtain ⟨r'', rfl⟩ : ∃ k, r' = k + 1 := ⟨r' - 1, by omega⟩
      have hex : exN c.q (r'' + 1) g = .inline fr.on (expandSelsW (exN c.q r'') fr.sels) := by simp [exN, hfr]
      rw [hon] at hb
      have hexA : ∀ g', FragOkAny c.s c.q c.o g' → exN c.q r'' g' = expandSel c.q (.spread g') :=
        fun g' hg' => exN_fragOkAny hg' r''
      have hmem := fun i' g' (hg' : fragOkN c.s c.q c.o r (.object i') g' = true) => (IH i' g' hg' r'' (by omega)).1
      have hali := fun i' g' (hg' : fragOkN c.s c.q c.o r (.object i') g' = true) => (IH i' g' hg' r'' (by omega)).2
      have key : ∀ b kvs, (∀ k, countKey k kvs ≤ 1) → confSelsV c.s i (expandSelsW (exN c.q r'') fr.sels) kvs = true →
          conformsLooseN (wholeN c r) c.s c.q c.o b fr.sels (.obj kvs) = true := by
        intro b kvs hc hh
        rw [conformsLooseN_not_lone hnl]
        simp only [Bool.and_eq_true]
        exact ⟨slOwnN c.s c.q c.o _ (wholeN c r) (exN c.q r'') fr.sels _ b i kvs hexA hmem hali hb hc hh,
          slMemN c.s c.q c.o _ (wholeN c r) (exN c.q r'') hmem i kvs hc fr.sels hb hh⟩
      rw [hex]
      refine ⟨fun kvs hc h1 => ?_, fun b j hc => ?_⟩
      · simp only [confSelV, hon, fragApplies, beq_self_eq_true, Bool.not_true, Bool.false_or] at h1
        rw [hw]
        exact key true kvs hc h1
      · rw [hw]
        obtain ⟨kvs, rfl, -, -⟩ := conformsV_obj hc
        simp only [conformsV, keysSelsV, keysSelV, hon, fragApplies, beq_self_eq_true,
          ↓reduceIte, List.append_nil, confSelsV, confSelV, Bool.not_true, Bool.false_or, Bool.and_true,
          Bool.and_eq_true] at hc
        exact key b kvs (countKey_le_one_of_nodup (nodup_iff'.mp hc.1.1)) hc.2

theorem conformsOpN_loose (c : Ctx) (op : ROperation) (ht : NestedOp c op = true) (b : Bool) (j : Json)
    (h : conformsOpN c op j = true) :
    conformsLooseN (wholeN c c.q.fragments.length) c.s c.q c.o b op.sels j = true := by
  obtain ⟨_, _, hsels⟩ := nestedOp_parts ht
  exact conformsN_loose c.s c.q c.o _ (wholeN c c.q.fragments.length) (exN c.q c.q.fragments.length)
    (fun g hg => exN_fragOkAny hg _)
    (fun i g hg => (specN c _ i g hg _ (Nat.le_refl _)).1)
    (fun i g hg => (specN c _ i g hg _ (Nat.le_refl _)).2) b op.objectId op.sels j hsels h

/-- **`nested_accepts`.**  Every conforming response is accepted by the emitted `ResponseData`. -/
theorem nested_accepts (c : Ctx) (opIdx : Nat) (op : ROperation) (items : List Item)
    (hop : c.q.operations[opIdx]? = some op) (ht : NestedOp c op = true) (hnd : fragNamesOk c = true)
    (hk : nestedKeysOk c op = true)
    (hgen : responseForQuery c opIdx = .ok items) (hok : moduleOk c items = true)
    (j : Json) (hc : conformsOpN c op j = true) :
    ∃ v, Serde.de (moduleEnv c items) (.path "ResponseData") j = .ok v := by
  exact Top.accepts_of_iff (nested_precise_iff c opIdx op items hop ht hnd hk hgen hok j)
    (conformsOpN_loose c op ht false j hc)

end C01N
end GqlVerif
