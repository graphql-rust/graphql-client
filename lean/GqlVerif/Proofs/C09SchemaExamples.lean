import GqlVerif.Proofs.C09Schema
/-!
# C09 — `SchemaNamesOK`: a non-trivial instance, and the necessity of each clause

* the good instance of `C09Normalization` (`okSchema`: custom scalars, an enum, an input type, a variable) satisfies
  `SchemaNamesOK`, `ExternsOK`, `GeneratedMembersDistinct`; `normalization_wire_invariant_schema` applies;
* a richer instance (`C02.richCtx`: interface, union, fragments, extern enum, custom scalar, input variable) with a
  non-trivial `camel`;
* for each witness `W1`–`W5` of `C09Normalization` (where the wire behaviour of the two generated modules differs) the
  clause of `SchemaNamesOK` that fails (`clauses`: `[decl, kw, inj, fixed, paths, IdOK, VariantIdentsOK]`);
* two more witnesses (`W7`, `W8`) for the clauses `kw` and `paths`: only that clause fails, and `NamesInjective` of the
  two generated modules fails.
-/
namespace GqlVerif
namespace C09S
open Serde Codegen C09 C09N

/-- `okSchema` (`scalar date_time`, `scalar url`, `enum color_kind { red dark_blue }`, `input filter_in`,
    `query Q($f: filter_in) { color at until }`): all hypotheses of `normalization_wire_invariant_schema` hold -/
theorem okSchema_hyps :
    SchemaNamesOK (exCtx okSchema okTbl .none) (exCtx okSchema okTbl .rust) 0 = true ∧
    ExternsOK (exCtx okSchema okTbl .none) (exCtx okSchema okTbl .rust) 0 okX₀ okX₁ ∧
    Composed.GeneratedMembersDistinct (exCtx okSchema okTbl .none) 0 = true ∧
    clauses (exCtx okSchema okTbl .none) (exCtx okSchema okTbl .rust) 0 = [true, true, true, true, true, true, true] :=
  by decide +kernel

set_option maxRecDepth 100000 in
/-- hence, for every reply, both modules accept it or both reject it, and the round trips agree -/
example (j : Json) :
    (Serde.de okE₀ rd j).isOk = (Serde.de okE₁ rd j).isOk ∧ DRel Eq (Serde.roundtrip okE₀ rd j) (Serde.roundtrip okE₁ rd j) := by
  have h := normalization_wire_invariant_schema (exCtx_normAgree okSchema okTbl) rfl rfl 0
    okInstance.1 okInstance.2.1 okX₀ okX₁ okInstance.2.2.2.2.2.1
    okSchema_hyps.1 okSchema_hyps.2.1 okSchema_hyps.2.2.1
  refine ⟨?_, h.2.2.1 j⟩
  have := h.2.1 j
  revert this
  show DRel _ (Serde.de okE₀ rd j) (Serde.de okE₁ rd j) → _
  cases Serde.de okE₀ rd j <;> cases Serde.de okE₁ rd j <;> simp [DRel, Except.isOk, Except.toBool]

/-- `camel` renames the enums, the custom scalar, the input type (and some enum values) -/
def richCs : CaseFns :=
  ⟨id, tblCamel [("Kind", "KindT"), ("Date", "DateT"), ("In", "InT"), ("Ext", "ExtT"), ("A", "Aa"), ("B", "Bb"), ("X", "Xx")]⟩

def richCtxN (nz : Normalization) : Ctx :=
  { C02.richCtx with cs := richCs, o := { C02.richCtx.o with normalization := nz } }

set_option maxRecDepth 100000 in
/-- interface, union, nested objects, fragments (as fields, as lone selections, inside inline fragments), an extern
    enum, a custom scalar, an input-typed variable: both modules are generated, they differ, `SchemaNamesOK` holds -/
example :
    (responseForQuery (richCtxN .none) 0).isOk = true ∧ (responseForQuery (richCtxN .rust) 0).isOk = true ∧
    (itemsOf (richCtxN .none) != itemsOf (richCtxN .rust)) = true ∧
    SchemaNamesOK (richCtxN .none) (richCtxN .rust) 0 = true ∧
    ExternsOK (richCtxN .none) (richCtxN .rust) 0 [("super::Date", .path "String")] [("super::DateT", .path "String")] ∧
    Composed.GeneratedMembersDistinct (richCtxN .none) 0 = true :=
  by decide +kernel

set_option maxRecDepth 100000 in
/-- the wire theorem in its `(s, q, cs, o)` form on the rich instance: generation with `normalization = rust` succeeds
    and the two modules have the same round trip on every reply -/
example : ∃ items₁,
    responseForQuery (ctxOf C02.richSchema C02.richQuery richCs C02.richCtx.o .rust) 0 = .ok items₁ ∧
    ∀ j, DRel Eq
      (Serde.roundtrip { items := itemsOf (ctxOf C02.richSchema C02.richQuery richCs C02.richCtx.o .none),
                         externs := [("super::Date", .path "String")] } rd j)
      (Serde.roundtrip { items := items₁, externs := [("super::DateT", .path "String")] } rd j) := by
  obtain ⟨items₁, h₁, _, h, _⟩ := normalization_wire_invariant_schema'' C02.richSchema C02.richQuery richCs C02.richCtx.o 0
    (itemsOf_ok (by decide +kernel)) [("super::Date", .path "String")] [("super::DateT", .path "String")]
    (by decide +kernel) (by decide +kernel) (by decide +kernel) (by decide +kernel)
  exact ⟨items₁, h₁, h⟩

/-! ## each clause is needed

`clauses` lists the truth values of `[decl, kw, inj, fixed, paths, IdOK, VariantIdentsOK]`.  In `W1`–`W5`
(`C09Normalization`: both modules generated by the model, acceptance or the round trip at `ResponseData` differs)
exactly the named clauses fail. -/

/-- **W1** (`enum color_kind { foo_bar fooBar }`, both values become `FooBar`; the round trip differs): `VariantIdentsOK` -/
theorem w1_clauses : clauses (exCtx w1Schema w1Tbl .none) (exCtx w1Schema w1Tbl .rust) 0 =
    [true, true, true, true, true, true, false] := by decide +kernel

/-- **W2** (`scalar date_time`, `scalar dateTime`, both become `DateTime`; acceptance differs): `inj` -/
theorem w2_clauses : clauses (exCtx w2Schema w2Tbl .none) (exCtx w2Schema w2Tbl .rust) 0 =
    [true, true, false, true, true, true, true] := by decide +kernel

/-- **W3** (`scalar string` becomes the prelude name `String`; acceptance differs): `fixed` -/
theorem w3_clauses : clauses (exCtx w3Schema w3Tbl .none) (exCtx w3Schema w3Tbl .rust) 0 =
    [true, true, true, false, true, true, true] := by decide +kernel

/-- **W4** (`scalar I_D` becomes `ID`; the modules are not equal up to names, acceptance differs): `IdOK` — and `fixed`,
    `ID` being the name of a built-in alias -/
theorem w4_clauses : clauses (exCtx w4Schema w4Tbl .none) (exCtx w4Schema w4Tbl .rust) 0 =
    [true, true, true, false, true, false, true] := by decide +kernel

/-- **W5** (`enum __kind` is declared as `Kind` and referenced as `__kind`; acceptance differs): `decl` -/
theorem w5_clauses : clauses (exCtx w5Schema w5Tbl .none) (exCtx w5Schema w5Tbl .rust) 0 =
    [false, true, true, true, true, true, true] := by decide +kernel

/-- in all five, `SchemaNamesOK` is false -/
example :
    SchemaNamesOK (exCtx w1Schema w1Tbl .none) (exCtx w1Schema w1Tbl .rust) 0 = false ∧
    SchemaNamesOK (exCtx w2Schema w2Tbl .none) (exCtx w2Schema w2Tbl .rust) 0 = false ∧
    SchemaNamesOK (exCtx w3Schema w3Tbl .none) (exCtx w3Schema w3Tbl .rust) 0 = false ∧
    SchemaNamesOK (exCtx w4Schema w4Tbl .none) (exCtx w4Schema w4Tbl .rust) 0 = false ∧
    SchemaNamesOK (exCtx w5Schema w5Tbl .none) (exCtx w5Schema w5Tbl .rust) 0 = false := by
  simp only [schemaNamesOK_eq_clauses, w1_clauses, w2_clauses, w3_clauses, w4_clauses, w5_clauses]
  decide

/-- **W7 — `kw`**: an input type named `type`, referenced by a field of another input type.  Its item is named
    `type_` / `Type` (`keyword_replace` after renaming), the reference is spelled `type` / `Type` (no
    `keyword_replace` in field position): the name `Type` of the second module corresponds to two names of the first. -/
def w7Tbl : List (String × String) :=
  [("color_kind", "ColorKind"), ("red", "Red"), ("dark_blue", "DarkBlue"), ("filter_in", "FilterIn"),
   ("date_time", "DateTime"), ("url", "Url"), ("type", "Type")]
def w7Schema : Schema :=
  { okSchema with inputs :=
      [{ name := "filter_in", isOneOf := false,
         fields := [("kind", { id := .enum 0, quals := [] }), ("t", { id := .input 1, quals := [] })] },
       { name := "type", isOneOf := false, fields := [("since", { id := .scalar 5, quals := [.required] })] }] }
def w7E₀ : Env := { items := itemsOf (exCtx w7Schema w7Tbl .none), externs := okX₀ }
def w7E₁ : Env := { items := itemsOf (exCtx w7Schema w7Tbl .rust), externs := okX₁ }

theorem witness_keyword :
    responseForQuery (exCtx w7Schema w7Tbl .none) 0 = .ok w7E₀.items ∧
    responseForQuery (exCtx w7Schema w7Tbl .rust) 0 = .ok w7E₁.items ∧
    clauses (exCtx w7Schema w7Tbl .none) (exCtx w7Schema w7Tbl .rust) 0 = [true, false, true, true, true, true, true] ∧
    ExternsOK (exCtx w7Schema w7Tbl .none) (exCtx w7Schema w7Tbl .rust) 0 okX₀ okX₁ ∧
    Corr w7E₀ w7E₁ "type_" "Type" ∧ Corr w7E₀ w7E₁ "type" "Type" ∧ ¬ NamesInjective w7E₀ w7E₁ := by
  decide +kernel

/-- **W8 — `paths`**: a fragment whose name is the path of a custom scalar (`super::url`; the model does not restrict
    fragment names).  In the first module the alias `url = super::url` resolves to the fragment struct, in the second
    `Url = super::Url` to the consumer's type: `{"color": "red", "until": "x", "at": "y"}` is rejected by the first
    module and accepted by the second. -/
def w8Query : Query :=
  { operations := [{ name := "Q", kind := .query, objectId := 0,
                     sels := [.field none 0 [], .field none 2 [], .spread 0] }],
    fragments := [{ name := "super::url", on := .object 0, sels := [.field none 1 []] }],
    variables := [{ opIdx := 0, name := "f", default := none, ty := { id := .input 0, quals := [] } }] }
def w8Ctx (nz : Normalization) : Ctx := { exCtx okSchema okTbl nz with q := w8Query }
def w8E₀ : Env := { items := itemsOf (w8Ctx .none), externs := okX₀ }
def w8E₁ : Env := { items := itemsOf (w8Ctx .rust), externs := okX₁ }
def w8Json : Json := .obj [("color", .str "red"), ("until", .str "x"), ("at", .str "y")]

theorem witness_scalar_path :
    responseForQuery (w8Ctx .none) 0 = .ok w8E₀.items ∧ responseForQuery (w8Ctx .rust) 0 = .ok w8E₁.items ∧
    clauses (w8Ctx .none) (w8Ctx .rust) 0 = [true, true, true, true, false, true, true] ∧
    ExternsOK (w8Ctx .none) (w8Ctx .rust) 0 okX₀ okX₁ ∧ sameShape okX₀ okX₁ ∧ FieldsWF w8E₀ ∧
    ¬ NamesInjective w8E₀ w8E₁ ∧
    (Serde.de w8E₀ rd w8Json).isOk = false ∧ (Serde.de w8E₁ rd w8Json).isOk = true := by
  decide +kernel

/-- **W9 — `fixed` (struct names)**: `enum response_data` becomes `ResponseData`, the name of the response struct.
    All other clauses hold, `IdStable`, `EnumIdentsInjective` and `FieldsWF` hold; the second module defines
    `ResponseData` twice and `{"color": "red"}` is accepted by the first module only. -/
def w9Tbl : List (String × String) :=
  [("response_data", "ResponseData"), ("red", "Red"), ("dark_blue", "DarkBlue"), ("filter_in", "FilterIn"),
   ("date_time", "DateTime"), ("url", "Url")]
def w9Schema : Schema := { okSchema with enums := [{ name := "response_data", variants := ["red", "dark_blue"] }] }
def w9E₀ : Env := { items := itemsOf (exCtx w9Schema w9Tbl .none), externs := okX₀ }
def w9E₁ : Env := { items := itemsOf (exCtx w9Schema w9Tbl .rust), externs := okX₁ }

theorem witness_struct_name :
    responseForQuery (exCtx w9Schema w9Tbl .none) 0 = .ok w9E₀.items ∧
    responseForQuery (exCtx w9Schema w9Tbl .rust) 0 = .ok w9E₁.items ∧
    clauses (exCtx w9Schema w9Tbl .none) (exCtx w9Schema w9Tbl .rust) 0 = [true, true, true, false, true, true, true] ∧
    ExternsOK (exCtx w9Schema w9Tbl .none) (exCtx w9Schema w9Tbl .rust) 0 okX₀ okX₁ ∧ sameShape okX₀ okX₁ ∧
    IdStable (exCtx w9Schema w9Tbl .none) (exCtx w9Schema w9Tbl .rust) ∧
    EnumIdentsInjective (exCtx w9Schema w9Tbl .none) (exCtx w9Schema w9Tbl .rust) ∧ FieldsWF w9E₀ ∧
    ¬ NamesInjective w9E₀ w9E₁ ∧
    (Serde.de w9E₀ rd (.obj [("color", .str "red")])).isOk = true ∧
    (Serde.de w9E₁ rd (.obj [("color", .str "red")])).isOk = false := by
  decide +kernel

end C09S
end GqlVerif
