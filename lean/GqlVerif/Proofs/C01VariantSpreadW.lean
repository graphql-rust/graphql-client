import GqlVerif.Proofs.C01VariantSpread
import GqlVerif.Proofs.C01AbstractSchema
import GqlVerif.Proofs.C01VariantSpreadEval
import GqlVerif.Proofs.SpecEval

/-! `VariantSpreadOp` on generated modules over `vxSchema`: part (a) (`wsSels`), part (b) (`bsSels`), and the
key-disjointness conditions of `absOkS` are needed. -/

namespace GqlVerif
namespace C01
namespace E2E
open Serde Spec C13 C03 Codegen

/-! ## a concrete module

Schema `vxSchema` of `C01AbstractSchema` (`interface Character { name }`, `Human implements Character { name height buddy }`,
`Droid implements Character { name primaryFunction }`, `union SearchResult = Human | Droid`);
`fragment HG on Human { height }`, `fragment HB on Human { buddy { __typename } }`,
`fragment DF on Droid { primaryFunction __typename }`, `fragment HF on Human { name }`;
`query Q { hero { __typename name ... on Human { h2: height } ...HG ...HB ...DF } }` -/

def wsQuery (sels : List Sel) : Query :=
  { operations := [{ name := "Q", kind := .query, objectId := 0, sels := [.field none 0 sels] }]
    fragments := [{ name := "HG", on := .object 1, sels := [.field none 2 []] },
                  { name := "HB", on := .object 1, sels := [.field none 5 [.typename]] },
                  { name := "DF", on := .object 2, sels := [.field none 3 [], .typename] },
                  { name := "HF", on := .object 1, sels := [.field none 1 []] }] }

def wsCtx (sels : List Sel) : Ctx := { s := vxSchema, q := wsQuery sels, o := {}, cs := ⟨id, id⟩ }

def wsOp (sels : List Sel) : ROperation :=
  { name := "Q", kind := .query, objectId := 0, sels := [.field none 0 sels] }

def wsSels : List Sel :=
  [.typename, .field none 1 [], .inline (.object 1) [.field (some "h2") 2 []], .spread 0, .spread 1, .spread 2]

def wsItems : List Item := okOr (responseForQuery (wsCtx wsSels) 0)

theorem ws_gen : responseForQuery (wsCtx wsSels) 0 = .ok wsItems := gen_of_isOk (by decide +kernel)
theorem ws_class : VariantSpreadOp (wsCtx wsSels) (wsOp wsSels) = true := by decide +kernel
theorem ws_ok : moduleOk (wsCtx wsSels) wsItems = true := by decide +kernel
theorem ws_rust : spreadRustOk (wsCtx wsSels) (wsOp wsSels) = true := by decide +kernel
theorem ws_nob : noBSpreads (wsCtx wsSels) (wsOp wsSels) = true := by decide +kernel

/-- the variant of `Human` is a struct with the inline fragment's field and two flattened members, that of `Droid` the
    alias of the fragment struct `DF` -/
theorem ws_items_shape :
    ((moduleEnv (wsCtx wsSels) wsItems).find "QheroOnHuman" ==
      some (.struct "QheroOnHuman" ["Deserialize"] (some "::serde")
        [{ rust := "h2", ty := .opt (.path "Float") },
         { rust := "HG", ty := .path "HG", flatten := true },
         { rust := "HB", ty := .path "HB", flatten := true }])) &&
    ((moduleEnv (wsCtx wsSels) wsItems).find "QheroOnDroid" == some (.alias "QheroOnDroid" true (.path "DF"))) = true := by
  decide +kernel

def wsJsonH : Json :=
  .obj [("hero", .obj [("__typename", .str "Human"), ("name", .str "x"), ("height", .num "1.8"), ("h2", .num "1.8"),
                       ("buddy", .obj [("__typename", .str "Droid")])])]

def wsJsonD : Json :=
  .obj [("hero", .obj [("primaryFunction", .null), ("name", .str "r2"), ("__typename", .str "Droid")])]

macro "looseS_eval" : tactic => `(tactic|
  simp [conformsLooseS, looseSelsS, looseArrS, looseFieldS, loneG, loosePayS, looseMemS, looseMemB, absRest, hasStruct,
    isBSpread, conformsLooseAbs, loosePayV, looseSelsV, looseFieldV, tagOkV, wsOp, wsQuery, wsSels, vxSchema, vtsOfTy, Schema.implementors, objName, rtName, isFieldSel, fieldKeys, fieldKey,
    Json.lookup, accepts, acceptsNN, gtyOf, scalarOk, floatOk, stringOk, Json.isNull, nullableQ, countKey,
    List.zipIdx])

theorem ws_conformsH : conformsOpS (wsCtx wsSels) (wsOp wsSels) wsJsonH = true := by
  rw [conformsOpS, conformsV_eq_K]
  decide +kernel
theorem ws_conformsD : conformsOpS (wsCtx wsSels) (wsOp wsSels) wsJsonD = true := by
  rw [conformsOpS, conformsV_eq_K]
  decide +kernel

set_option maxRecDepth 8000 in
theorem ws_canonH :
    canonSelS vxSchema (wsQuery wsSels) false (wsOp wsSels).sels wsJsonH =
      .obj [("hero", .obj [("name", .str "x"), ("__typename", .str "Human"), ("h2", .num "1.8"), ("height", .num "1.8"),
                           ("buddy", .obj [("__typename", .str "Droid")])])] := by
  simp [canonSelS, canonEntriesS, canonFieldS, canonVarS, canonEntriesV, canonFieldV, canonInlV, tagName, wsOp, wsQuery,
    wsSels, wsJsonH, vxSchema, objName, rtName, Json.lookup, canon, canonNN, gtyOf, Json.isNull, skipQ]

theorem ws_precise (j : Json) :
    okB (Serde.de (moduleEnv (wsCtx wsSels) wsItems) (.path "ResponseData") j) =
      conformsLooseS vxSchema (wsQuery wsSels) {} false (wsOp wsSels).sels j :=
  variantspread_precise_iff (wsCtx wsSels) 0 (wsOp wsSels) wsItems rfl ws_class ws_gen ws_ok j

/-- rejected: a wrong scalar kind under a key selected through a spread fragment (`height` of `HG`) -/
example : okB (Serde.de (moduleEnv (wsCtx wsSels) wsItems) (.path "ResponseData")
    (.obj [("hero", .obj [("__typename", .str "Human"), ("name", .str "x"), ("height", .str "tall")])])) = false := by
  rw [ws_precise]; looseS_eval
/-- rejected: the non-null `name` of the interface level is missing -/
example : okB (Serde.de (moduleEnv (wsCtx wsSels) wsItems) (.path "ResponseData")
    (.obj [("hero", .obj [("__typename", .str "Droid")])])) = false := by
  rw [ws_precise]; looseS_eval
/-- accepted: nullable keys of the variant absent -/
example : okB (Serde.de (moduleEnv (wsCtx wsSels) wsItems) (.path "ResponseData")
    (.obj [("hero", .obj [("__typename", .str "Human"), ("name", .str "x")])])) = true := by
  rw [ws_precise]; looseS_eval

/-! ## the key-disjointness conditions of `absOkS` are necessary -/

/-- `hero { __typename name ...HF }`, `HF on Human { name }`: `name` is selected at the interface level and through a
    fragment on a possible type -/
def wsOverlapI : List Sel := [.typename, .field none 1 [], .spread 3]

/-- `hero { __typename ... on Human { name } ...HF }`: `name` is selected twice on the variant `Human` -/
def wsOverlapV : List Sel := [.typename, .inline (.object 1) [.field none 1 []], .spread 3]

def wsJsonN : Json := .obj [("hero", .obj [("__typename", .str "Human"), ("name", .str "x")])]

/-- the class excludes both -/
example : VariantSpreadOp (wsCtx wsOverlapI) (wsOp wsOverlapI) = false := by decide +kernel
example : VariantSpreadOp (wsCtx wsOverlapV) (wsOp wsOverlapV) = false := by decide +kernel

/-- **`variantspread_accepts` is false without the exclusion of interface-level keys**: the module is generated, the
    response conforms to the specification, and the emitted `ResponseData` rejects it (the struct of the abstract
    position consumed `name` before the flattened `on` saw the buffer; known finding `C01-overlap`) -/
theorem variantspread_overlap_interface_loses_key :
    isOkO (responseForQuery (wsCtx wsOverlapI) 0) = true ∧
    conformsOpS (wsCtx wsOverlapI) (wsOp wsOverlapI) wsJsonN = true ∧
    okB (Serde.de (moduleEnv (wsCtx wsOverlapI) (okOr (responseForQuery (wsCtx wsOverlapI) 0))) (.path "ResponseData")
      wsJsonN) = false := by
  refine ⟨by decide +kernel, by rw [conformsOpS, conformsV_eq_K]; decide +kernel, by decide +kernel⟩

/-- **… and without the disjointness of the keys selected on one variant**: the own field `name` of the variant struct
    consumed the key before the flattened member `HF` saw the buffer -/
theorem variantspread_overlap_variant_loses_key :
    isOkO (responseForQuery (wsCtx wsOverlapV) 0) = true ∧
    conformsOpS (wsCtx wsOverlapV) (wsOp wsOverlapV) wsJsonN = true ∧
    okB (Serde.de (moduleEnv (wsCtx wsOverlapV) (okOr (responseForQuery (wsCtx wsOverlapV) 0))) (.path "ResponseData")
      wsJsonN) = false := by
  refine ⟨by decide +kernel, by rw [conformsOpS, conformsV_eq_K]; decide +kernel, by decide +kernel⟩


/-! ## part (b): spreads of fragments on the abstract type itself, on a concrete module

`fragment CF on Character { name __typename }`, `fragment CI on Character { __typename ... on Human { height } }`,
`fragment CT on Character { __typename }`, `fragment HB on Human { buddy { __typename } }`;
`query Q { hero { __typename ...CF ...CI ... on Human { h2: height } ...HB ...CT } }` -/

def bsQuery (sels : List Sel) : Query :=
  { operations := [{ name := "Q", kind := .query, objectId := 0, sels := [.field none 0 sels] }]
    fragments := [{ name := "CF", on := .interface 0, sels := [.field none 1 [], .typename] },
                  { name := "CI", on := .interface 0, sels := [.typename, .inline (.object 1) [.field none 2 []]] },
                  { name := "CT", on := .interface 0, sels := [.typename] },
                  { name := "HB", on := .object 1, sels := [.field none 5 [.typename]] }] }

def bsCtx (sels : List Sel) : Ctx := { s := vxSchema, q := bsQuery sels, o := {}, cs := ⟨id, id⟩ }

def bsSels : List Sel :=
  [.typename, .spread 0, .spread 1, .inline (.object 1) [.field (some "h2") 2 []], .spread 3, .spread 2]

def bsItems : List Item := okOr (responseForQuery (bsCtx bsSels) 0)

theorem bs_gen : responseForQuery (bsCtx bsSels) 0 = .ok bsItems := gen_of_isOk (by decide +kernel)
theorem bs_class : VariantSpreadOp (bsCtx bsSels) (wsOp bsSels) = true := by decide +kernel
theorem bs_ok : moduleOk (bsCtx bsSels) bsItems = true := by decide +kernel
/-- the operation does spread fragments on the abstract type itself -/
example : noBSpreads (bsCtx bsSels) (wsOp bsSels) = false := by decide +kernel

/-- the struct at the abstract position: one flattened member per fragment on `Character`, then the flattened `on` -/
theorem bs_items_shape :
    ((moduleEnv (bsCtx bsSels) bsItems).find "Qhero" ==
      some (.struct "Qhero" ["Deserialize"] (some "::serde")
        [{ rust := "CF", ty := .path "CF", flatten := true },
         { rust := "CI", ty := .path "CI", flatten := true },
         { rust := "CT", ty := .path "CT", flatten := true },
         { rust := "on", ty := .path "QheroOn", flatten := true }])) = true := by
  decide +kernel

def bsJsonH : Json :=
  .obj [("hero", .obj [("__typename", .str "Human"), ("name", .str "x"), ("height", .num "1.8"), ("h2", .num "1.8"),
                       ("buddy", .null)])]

theorem bs_conformsH : conformsOpS (bsCtx bsSels) (wsOp bsSels) bsJsonH = true := by
  rw [conformsOpS, conformsV_eq_K]
  decide +kernel

/-- `variantspread_accepts` on the module with spreads of fragments on the interface itself -/
example : ∃ v, Serde.de (moduleEnv (bsCtx bsSels) bsItems) (.path "ResponseData") bsJsonH = .ok v :=
  variantspread_accepts (bsCtx bsSels) 0 (wsOp bsSels) bsItems rfl bs_class bs_gen bs_ok bsJsonH bs_conformsH

theorem bs_precise (j : Json) :
    okB (Serde.de (moduleEnv (bsCtx bsSels) bsItems) (.path "ResponseData") j) =
      conformsLooseS vxSchema (bsQuery bsSels) {} false (wsOp bsSels).sels j :=
  variantspread_precise_iff (bsCtx bsSels) 0 (wsOp bsSels) bsItems rfl bs_class bs_gen bs_ok j

/-- the model's round trip of the conforming response, by evaluation (`bs_roundtripH` of `C01VariantSpreadEW` is
    `variantspread_roundtrip` on this module): the fragments' entries at the positions of their spreads, `__typename` written once -/
theorem variantspread_b_roundtrip :
    (match Serde.roundtrip (moduleEnv (bsCtx bsSels) bsItems) (.path "ResponseData") bsJsonH with
     | .ok (.obj [("hero", .obj [("name", .str "x"), ("__typename", .str "Human"), ("height", .num "1.8"),
                                 ("h2", .num "1.8"), ("buddy", .null)])]) => true
     | _ => false) = true := by decide +kernel

/-- `hero { __typename name ...CF }`: `name` is selected at the interface level and through a fragment on the interface
    itself; the class excludes it (`spreadOkB`) … -/
def bsOverlap : List Sel := [.typename, .field none 1 [], .spread 0]

example : VariantSpreadOp (bsCtx bsOverlap) (wsOp bsOverlap) = false := by decide +kernel

/-- … and necessarily so: the module is generated, the response conforms, and the emitted `ResponseData` rejects it (the
    own field consumed `name`; the flattened member `CF` only sees what the own fields left) -/
theorem variantspread_b_overlap_loses_key :
    isOkO (responseForQuery (bsCtx bsOverlap) 0) = true ∧
    conformsOpS (bsCtx bsOverlap) (wsOp bsOverlap) wsJsonN = true ∧
    okB (Serde.de (moduleEnv (bsCtx bsOverlap) (okOr (responseForQuery (bsCtx bsOverlap) 0))) (.path "ResponseData")
      wsJsonN) = false := by
  refine ⟨by decide +kernel, ?_, by decide +kernel⟩
  rw [conformsOpS, conformsV_eq_K]
  decide +kernel

end E2E
end C01
end GqlVerif
