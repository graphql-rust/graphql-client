import GqlVerif.Proofs.C02Closure
import GqlVerif.Proofs.CalcVariantsPushed

/-!
# The generator's `calc*` block as a relation

`CalcSel / CalcVars / CalcVSels / CalcFields` say what one successful call of `calcSelection / calcVariants /
calcVariantSels / calcFields` does: one constructor per clause that can succeed, the guards of the clause as premises,
no fuel.  `of_ok`: every successful call has a derivation, so a fact about the emitted items is proved by induction on
the derivation.  `run`: a derivation fixes the result of every call that is `Clean`, so a closed form of the items is
proved by building a derivation, by recursion on the selections; the fuel is then dealt with once, by
`responseItems_fuel_sufficient` / `fragmentItems_fuel_sufficient` (`responseItems_eq`, `fragmentItems_eq`).
-/

namespace GqlVerif
namespace C02
open Codegen

mutual
/-- `CalcSel c name pfx ty sels items`: `calcSelection c _ name pfx ty sels` can return `items`.  `run` asks only for
    `Clean`: a derivation supplies the value of every guard, so the only way a call can differ from it is by running
    out of fuel, in itself or in a call inside, and that makes the whole call an `unmodelled` error. -/
inductive CalcSel (c : Ctx) : String → String → TypeId → List Sel → List Item → Prop
  | alias {name pfx ty g fr} : c.q.getFragment g = .ok fr →
      CalcSel c name pfx ty [.spread g] [aliasItem name fr.name (fragmentIsRecursive c.q g)]
  | concrete {name pfx ty sels fs fitems} : (∀ g, sels ≠ [Sel.spread g]) → variantsOf c.s ty = .ok none →
      CalcFields c pfx ty sels fs fitems → CalcSel c name pfx ty sels (renderType c name fs [] ++ fitems)
  | abstract {name pfx ty sels vts vsels vs vitems fs fitems} : (∀ g, sels ≠ [Sel.spread g]) →
      variantsOf c.s ty = .ok (some vts) → sels.filterMapM (variantSelOf c.q ty) = .ok vsels →
      CalcVars c name pfx vsels vts vs vitems → CalcFields c pfx ty sels fs fitems →
      CalcSel c name pfx ty sels
        (renderType c name fs (vs ++ if c.o.otherVariant then [{ name := "Unknown", other := true }] else [])
          ++ vitems ++ fitems)

inductive CalcVars (c : Ctx) : String → String → List VariantSel → List TypeId → List RVariant → List Item → Prop
  | vnil {name pfx vsels} : CalcVars c name pfx vsels [] [] []
  | bare {name pfx vsels vt rest vname vs items} : c.s.typeName vt = .ok vname →
      vsels.filter (fun v => v.typeId == vt) = [] → CalcVars c name pfx vsels rest vs items →
      CalcVars c name pfx vsels (vt :: rest) ({ name := vname } :: vs) items
  | lone {name pfx vsels vt rest vname g fr vs items} : c.s.typeName vt = .ok vname →
      vsels.filter (fun v => v.typeId == vt) = [.spread g fr] → CalcVars c name pfx vsels rest vs items →
      CalcVars c name pfx vsels (vt :: rest)
        ({ name := vname, payload := some (.path (pfx ++ "On" ++ vname)) } :: vs)
        (aliasItem (pfx ++ "On" ++ vname) fr.name (fragmentIsRecursive c.q g) :: items)
  | aliasOnly {name pfx vsels vt rest vname mine fs its a vs items} : c.s.typeName vt = .ok vname →
      vsels.filter (fun v => v.typeId == vt) = mine → mine ≠ [] → (∀ g fr, mine ≠ [.spread g fr]) →
      CalcVSels c (pfx ++ "On" ++ vname) pfx vt mine fs its [a] → pushedAny c.q vt mine = false →
      CalcVars c name pfx vsels rest vs items →
      CalcVars c name pfx vsels (vt :: rest)
        ({ name := vname, payload := some (.path (pfx ++ "On" ++ vname)) } :: vs) (a :: its ++ items)
  | struct {name pfx vsels vt rest vname mine fs its als extra vs items} : c.s.typeName vt = .ok vname →
      vsels.filter (fun v => v.typeId == vt) = mine → mine ≠ [] → (∀ g fr, mine ≠ [.spread g fr]) →
      CalcVSels c (pfx ++ "On" ++ vname) pfx vt mine fs its als →
      (pushedAny c.q vt mine = false → ∀ a, als ≠ [a]) →
      als.mapM (aliasMember c) = .ok extra → CalcVars c name pfx vsels rest vs items →
      CalcVars c name pfx vsels (vt :: rest)
        ({ name := vname, payload := some (.path (pfx ++ "On" ++ vname)) } :: vs)
        (renderType c (pfx ++ "On" ++ vname) (fs ++ extra.flatten) [] ++ its ++ items)

inductive CalcVSels (c : Ctx) : String → String → TypeId → List VariantSel → List RField → List Item → List Item → Prop
  | snil {sname pfx vt} : CalcVSels c sname pfx vt [] [] [] []
  | inlineLone {sname pfx vt t tn g fr rest fs items al} : c.s.typeName t = .ok tn → c.q.getFragment g = .ok fr →
      CalcVSels c sname pfx vt rest fs items al →
      CalcVSels c sname pfx vt (.inline t [.spread g] :: rest) fs items
        (aliasItem sname fr.name (fragmentIsRecursive c.q g) :: al)
  | inlineFields {sname pfx vt t tn sub rest fs0 items0 fs items al} : c.s.typeName t = .ok tn →
      (∀ g, sub ≠ [Sel.spread g]) → CalcFields c (pfx ++ "On" ++ c.cs.camel tn) vt sub fs0 items0 →
      CalcVSels c sname pfx vt rest fs items al →
      CalcVSels c sname pfx vt (.inline t sub :: rest) (fs0 ++ fs) (items0 ++ items) al
  | spreadMember {sname pfx vt g fr fld rest fs items al} :
      renderField c none (c.cs.snake fr.name) fr.name [.required] true (fragmentIsRecursive c.q g) none = .ok fld →
      CalcVSels c sname pfx vt rest fs items al →
      CalcVSels c sname pfx vt (.spread g fr :: rest) (fld.toList ++ fs) items al

inductive CalcFields (c : Ctx) : String → TypeId → List Sel → List RField → List Item → Prop
  | nil {pfx ty} : CalcFields c pfx ty [] [] []
  | enum {pfx ty a fid sub rest sf e en fld fs items} : c.s.getField fid = .ok sf → sf.ty.id = .enum e →
      c.s.getEnum e = .ok en →
      renderField c (some (a.getD sf.name)) (keywordReplace (c.cs.snake (a.getD sf.name)))
        (c.o.normalization.fieldType c.cs en.name) sf.ty.quals false false sf.deprecation = .ok fld →
      CalcFields c pfx ty rest fs items →
      CalcFields c pfx ty (.field a fid sub :: rest) (fld.toList ++ fs) items
  | scalar {pfx ty a fid sub rest sf k sn fld fs items} : c.s.getField fid = .ok sf → sf.ty.id = .scalar k →
      c.s.getScalar k = .ok sn →
      renderField c (some (a.getD sf.name)) (keywordReplace (c.cs.snake (a.getD sf.name)))
        (c.o.normalization.fieldType c.cs sn) sf.ty.quals false false sf.deprecation = .ok fld →
      CalcFields c pfx ty rest fs items →
      CalcFields c pfx ty (.field a fid sub :: rest) (fld.toList ++ fs) items
  | nested {pfx ty a fid sub rest sf fld its fs items} : c.s.getField fid = .ok sf →
      (∀ e, sf.ty.id ≠ .enum e) → (∀ k, sf.ty.id ≠ .scalar k) → (∀ i, sf.ty.id ≠ .input i) →
      renderField c (some (a.getD sf.name)) (keywordReplace (c.cs.snake (a.getD sf.name)))
        (pfx ++ c.cs.camel (a.getD sf.name)) sf.ty.quals false false sf.deprecation = .ok fld →
      CalcSel c (pfx ++ c.cs.camel (a.getD sf.name)) (pfx ++ c.cs.camel (a.getD sf.name)) sf.ty.id sub its →
      CalcFields c pfx ty rest fs items →
      CalcFields c pfx ty (.field a fid sub :: rest) (fld.toList ++ fs) (its ++ items)
  | spreadOther {pfx ty g fr rest fs items} : c.q.getFragment g = .ok fr → (fr.on != ty) = true →
      CalcFields c pfx ty rest fs items → CalcFields c pfx ty (.spread g :: rest) fs items
  | spreadHere {pfx ty g fr fld rest fs items} : c.q.getFragment g = .ok fr → (fr.on != ty) = false →
      renderField c none (keywordReplace (c.cs.snake fr.name)) fr.name [.required] true
        (fragmentIsRecursive c.q g) none = .ok fld →
      CalcFields c pfx ty rest fs items → CalcFields c pfx ty (.spread g :: rest) (fld.toList ++ fs) items
  | typename {pfx ty rest fs items} : CalcFields c pfx ty rest fs items →
      CalcFields c pfx ty (.typename :: rest) fs items
  | inline {pfx ty t sub rest fs items} : CalcFields c pfx ty rest fs items →
      CalcFields c pfx ty (.inline t sub :: rest) fs items
end

theorem ok_bind {ε α β} (a : α) (k : α → Except ε β) : (Except.ok a >>= k) = k a := rfl

theorem Clean.left {α β} {x : Outcome α} {k : α → Outcome β} (h : Clean (x >>= k)) : Clean x := by
  intro w hx; exact h w (by rw [hx]; rfl)

variable {c : Ctx}

/- By induction on the fuel, all four together.  A call with no fuel is not `Clean`; with fuel, take the derivation
   apart, rewrite with its clause, feed in the guards, and use the hypothesis for the calls inside, each of which is
   `Clean` because the whole is. -/
theorem calc_run : ∀ F,
    (∀ {name pfx ty sels r}, CalcSel c name pfx ty sels r →
      Clean (calcSelection c F name pfx ty sels) → calcSelection c F name pfx ty sels = .ok r) ∧
    (∀ {name pfx vsels vts vs items}, CalcVars c name pfx vsels vts vs items →
      Clean (calcVariants c F name pfx vsels vts) → calcVariants c F name pfx vsels vts = .ok (vs, items)) ∧
    (∀ {sname pfx vt mine fs items al}, CalcVSels c sname pfx vt mine fs items al →
      Clean (calcVariantSels c F sname pfx vt mine) → calcVariantSels c F sname pfx vt mine = .ok (fs, items, al)) ∧
    (∀ {pfx ty sels fs items}, CalcFields c pfx ty sels fs items →
      Clean (calcFields c F pfx ty sels) → calcFields c F pfx ty sels = .ok (fs, items)) := by
  intro F
  induction F with
  | zero =>
    exact ⟨fun _ hc => absurd (calcSelection.eq_1 ..) (hc _), fun _ hc => absurd (calcVariants.eq_1 ..) (hc _),
      fun _ hc => absurd (calcVariantSels.eq_1 ..) (hc _), fun _ hc => absurd (calcFields.eq_1 ..) (hc _)⟩
  | succ F ih =>
    obtain ⟨H1, H2, H3, H4⟩ := ih
    refine ⟨?_, ?_, ?_, ?_⟩
    · intro name pfx ty sels r h hc
      cases h with
      | alias hfr =>
        rw [calcSelection.eq_2, hfr]; rfl
      | concrete hsp hv hf =>
        rw [calcSelection.eq_3 _ _ _ _ _ _ (fun g hg => hsp g hg)] at hc ⊢
        simp only [hv, ok_bind, pure_bind] at hc ⊢
        rw [H4 hf hc.left]
        simp [ok_bind, pure, Except.pure]
      | abstract hsp hv hvs hvars hf =>
        rw [calcSelection.eq_3 _ _ _ _ _ _ (fun g hg => hsp g hg)] at hc ⊢
        simp only [hv, hvs, ok_bind, pure_bind] at hc ⊢
        have h1 := H2 hvars hc.left
        rw [h1] at hc ⊢
        simp only [ok_bind] at hc ⊢
        rw [H4 hf hc.left]
        rfl
    · intro name pfx vsels vts vs items h hc
      cases h with
      | vnil =>
        exact calcVariants.eq_2 _ _ _ _ _ (by omega)
      | bare hn hm hrest =>
        rw [calcVariants.eq_3] at hc ⊢
        simp only [hn, hm, ok_bind, pure_bind] at hc ⊢
        rw [H2 hrest hc.left]
        rfl
      | lone hn hm hrest =>
        rw [calcVariants.eq_3] at hc ⊢
        simp only [hn, hm, ok_bind, pure_bind] at hc ⊢
        rw [H2 hrest hc.left]
        rfl
      | @aliasOnly _ _ _ vt rest vname mine fs its a vs items hn hm hne hns hvs hp hrest =>
        revert hc
        rw [calcVariants.eq_3]
        simp only [hn, hm, ok_bind]
        cases mine with
        | nil => exact absurd rfl hne
        | cons first tl =>
          simp only []
          intro hc
          have h1 := H3 hvs hc.left
          rw [h1] at hc ⊢
          simp only [ok_bind, pure_bind, hp] at hc ⊢
          rw [H2 hrest hc.left]
          rfl
      | @struct _ _ _ vt rest vname mine fs its als extra vs items hn hm hne hns hvs hp hex hrest =>
        revert hc
        rw [calcVariants.eq_3]
        simp only [hn, hm, ok_bind]
        cases mine with
        | nil => exact absurd rfl hne
        | cons first tl =>
          simp only []
          intro hc
          have h1 := H3 hvs hc.left
          rw [h1] at hc ⊢
          simp only [ok_bind] at hc ⊢
          split
          · exact absurd rfl (hp ‹_› _)
          · simp only [hex, ok_bind, pure_bind] at hc ⊢
            rw [H2 hrest hc.left]
            rfl
    · intro sname pfx vt mine fs items al h hc
      cases h with
      | snil =>
        exact calcVariantSels.eq_2 _ _ _ _ _ (by omega)
      | inlineLone hn hfr hrest =>
        rw [calcVariantSels.eq_3] at hc ⊢
        simp only [hn, hfr, ok_bind, pure_bind] at hc ⊢
        rw [H3 hrest hc.left]
        rfl
      | inlineFields hn hsp hf hrest =>
        rw [calcVariantSels.eq_4 _ _ _ _ _ _ _ _ (fun g hg => hsp g hg)] at hc ⊢
        simp only [hn, ok_bind, pure_bind] at hc ⊢
        have h1 := H4 hf hc.left
        rw [h1] at hc ⊢
        simp only [ok_bind] at hc ⊢
        rw [H3 hrest hc.left]
        rfl
      | spreadMember hfld hrest =>
        rw [calcVariantSels.eq_5] at hc ⊢
        simp only [hfld, ok_bind] at hc ⊢
        rw [H3 hrest hc.left]
        rfl
    · intro pfx ty sels fs items h hc
      cases h with
      | nil =>
        exact calcFields.eq_2 _ _ _ _ (by omega)
      | enum hsf hid hen hfld hrest =>
        rw [calcFields.eq_3] at hc ⊢
        simp only [hsf, hid, hen, hfld, ok_bind, pure_bind] at hc ⊢
        rw [H4 hrest hc.left]
        rfl
      | scalar hsf hid hsn hfld hrest =>
        rw [calcFields.eq_3] at hc ⊢
        simp only [hsf, hid, hsn, hfld, ok_bind, pure_bind] at hc ⊢
        rw [H4 hrest hc.left]
        rfl
      | nested hsf he hk hi hfld hsel hrest =>
        revert hc
        rw [calcFields.eq_3]
        simp only [hsf, ok_bind]
        intro hc
        simp only [hfld, ok_bind] at hc ⊢
        have h1 := H1 hsel hc.left
        rw [h1] at hc ⊢
        simp only [ok_bind, pure_bind] at hc ⊢
        rw [H4 hrest hc.left]
        rfl
      | spreadOther hfr hon hrest =>
        rw [calcFields.eq_4] at hc ⊢
        simp only [hfr, ok_bind] at hc ⊢
        have h1 := H4 hrest hc.left
        rw [h1] at hc ⊢
        simp [ok_bind, hon, pure, Except.pure]
      | spreadHere hfr hon hfld hrest =>
        rw [calcFields.eq_4] at hc ⊢
        simp only [hfr, ok_bind] at hc ⊢
        have h1 := H4 hrest hc.left
        rw [h1] at hc ⊢
        simp [ok_bind, hon, hfld, pure, Except.pure]
      | typename hrest =>
        rw [calcFields.eq_5 _ _ _ _ _ _ (by simp) (by simp)] at hc ⊢
        exact H4 hrest hc
      | inline hrest =>
        rw [calcFields.eq_5 _ _ _ _ _ _ (by simp) (by simp)] at hc ⊢
        exact H4 hrest hc

theorem CalcSel.run {name pfx : String} {ty : TypeId} {sels : List Sel} {r : List Item}
    (h : CalcSel c name pfx ty sels r) (F : Nat) (hc : Clean (calcSelection c F name pfx ty sels)) :
    calcSelection c F name pfx ty sels = .ok r := (calc_run F).1 h hc
theorem CalcVars.run {name pfx : String} {vsels : List VariantSel} {vts : List TypeId} {vs : List RVariant}
    {items : List Item} (h : CalcVars c name pfx vsels vts vs items) (F : Nat)
    (hc : Clean (calcVariants c F name pfx vsels vts)) : calcVariants c F name pfx vsels vts = .ok (vs, items) :=
  (calc_run F).2.1 h hc
theorem CalcVSels.run {sname pfx : String} {vt : TypeId} {mine : List VariantSel} {fs : List RField}
    {items al : List Item} (h : CalcVSels c sname pfx vt mine fs items al) (F : Nat)
    (hc : Clean (calcVariantSels c F sname pfx vt mine)) :
    calcVariantSels c F sname pfx vt mine = .ok (fs, items, al) := (calc_run F).2.2.1 h hc
theorem CalcFields.run {pfx : String} {ty : TypeId} {sels : List Sel} {fs : List RField} {items : List Item}
    (h : CalcFields c pfx ty sels fs items) (F : Nat) (hc : Clean (calcFields c F pfx ty sels)) :
    calcFields c F pfx ty sels = .ok (fs, items) := (calc_run F).2.2.2 h hc

/-! ## one-step decompositions of the `calc*` block -/

/-- the variants part of a successful `calcSelection` call -/
def VariantsPart (c : Ctx) (f : Nat) (name pfx : String) (ty : TypeId) (sels : List Sel)
    (rvariants : List RVariant) (vitems : List Item) : Prop :=
  (variantsOf c.s ty = .ok none ∧ rvariants = [] ∧ vitems = []) ∨
  ∃ vts vsels r, variantsOf c.s ty = .ok (some vts) ∧ sels.filterMapM (variantSelOf c.q ty) = .ok vsels ∧
    calcVariants c f name pfx vsels vts = .ok r ∧
    rvariants = r.1 ++ (if c.o.otherVariant then [{ name := "Unknown", other := true }] else []) ∧ vitems = r.2

theorem calcSelection_single_ok {c : Ctx} {f : Nat} {name pfx : String} {ty : TypeId} {g : Nat} {items : List Item}
    (h : calcSelection c (f + 1) name pfx ty [.spread g] = .ok items) :
    ∃ fr, c.q.fragments[g]? = some fr ∧ items = [aliasItem name fr.name (fragmentIsRecursive c.q g)] := by
  rw [calcSelection.eq_2] at h
  obtain ⟨fr, hfr, h⟩ := bind_ok h
  simp only [pure, Except.pure, Except.ok.injEq] at h
  exact ⟨fr, getFragment_ok hfr, h.symm⟩

theorem calcSelection_ok {c : Ctx} {f : Nat} {name pfx : String} {ty : TypeId} {sels : List Sel} {items : List Item}
    (hsp : ∀ g, sels ≠ [Sel.spread g])
    (h : calcSelection c (f + 1) name pfx ty sels = .ok items) :
    ∃ rvariants vitems rfields fitems, VariantsPart c f name pfx ty sels rvariants vitems ∧
      calcFields c f pfx ty sels = .ok (rfields, fitems) ∧
      items = renderType c name rfields rvariants ++ vitems ++ fitems := by
  rw [calcSelection.eq_3 _ _ _ _ _ _ (fun g hg => hsp g hg)] at h
  obtain ⟨variants, hv, h⟩ := bind_ok h
  simp only [] at h
  cases variants with
  | none =>
    simp only [pure_bind] at h
    obtain ⟨⟨rfields, fitems⟩, hfl, h⟩ := bind_ok h
    simp only [pure, Except.pure, Except.ok.injEq] at h
    exact ⟨[], [], rfields, fitems, .inl ⟨hv, rfl, rfl⟩, hfl, h.symm⟩
  | some vts =>
    simp only [] at h
    obtain ⟨vsels, hvs, h⟩ := bind_ok h
    obtain ⟨r, hr, h⟩ := bind_ok h
    simp only [pure_bind] at h
    obtain ⟨⟨rfields, fitems⟩, hfl, h⟩ := bind_ok h
    simp only [pure, Except.pure, Except.ok.injEq] at h
    exact ⟨_, _, rfields, fitems, .inr ⟨vts, vsels, r, hv, hvs, hr, rfl, rfl⟩, hfl, h.symm⟩

/-- what one iteration of the per-variant loop contributes, coarse form: the alias-only case is told by "no member was
    rendered" (`r.1 = []`, which follows from the generator's test `pushedAny = false`), and the general case is not
    said to exclude a lone spread.  Enough where only the shape of the items matters. -/
def VariantStep (c : Ctx) (f : Nat) (pfx : String) (vt : TypeId) (mine : List VariantSel) (vname : String)
    (thisV : RVariant) (thisItems : List Item) : Prop :=
  let sname := pfx ++ "On" ++ vname
  (mine = [] ∧ thisV = { name := vname } ∧ thisItems = []) ∨
  (mine ≠ [] ∧ thisV = { name := vname, payload := some (.path sname) } ∧
    ((∃ fid fr, mine = [.spread fid fr] ∧ thisItems = [aliasItem sname fr.name (fragmentIsRecursive c.q fid)]) ∨
     (∃ r, calcVariantSels c f sname pfx vt mine = .ok r ∧
        ((∃ a, r.1 = [] ∧ r.2.2 = [a] ∧ thisItems = a :: r.2.1) ∨
         ((∀ a, pushedAny c.q vt mine = false → r.2.2 = [a] → False) ∧ ∃ extra, r.2.2.mapM (aliasMember c) = .ok extra ∧
            thisItems = renderType c sname (r.1 ++ extra.flatten) [] ++ r.2.1)))))

/-- what one iteration of the per-variant loop contributes, exact form, one disjunct per clause of `calcVariants`:
    the lone spread is excluded from the general case and the alias-only case carries the generator's own test
    `pushedAny = false`.  A derivation (`CalcVars`) is built from this one. -/
def VariantStep' (c : Ctx) (f : Nat) (pfx : String) (vt : TypeId) (mine : List VariantSel) (vname : String)
    (thisV : RVariant) (thisItems : List Item) : Prop :=
  let sname := pfx ++ "On" ++ vname
  ((mine = [] ∧ thisV = { name := vname } ∧ thisItems = []) ∨
   (mine ≠ [] ∧ thisV = { name := vname, payload := some (.path sname) } ∧
    ((∃ fid fr, mine = [.spread fid fr] ∧ thisItems = [aliasItem sname fr.name (fragmentIsRecursive c.q fid)]) ∨
     ((∀ fid fr, mine ≠ [.spread fid fr]) ∧ ∃ r, calcVariantSels c f sname pfx vt mine = .ok r ∧
        ((∃ a, pushedAny c.q vt mine = false ∧ r.2.2 = [a] ∧ thisItems = a :: r.2.1) ∨
         ((∀ a, pushedAny c.q vt mine = false → r.2.2 = [a] → False) ∧ ∃ extra, r.2.2.mapM (aliasMember c) = .ok extra ∧
            thisItems = renderType c sname (r.1 ++ extra.flatten) [] ++ r.2.1))))))

/-- one iteration of `calcVariants` inverted, exact form -/
theorem calcVariants_ok' {c : Ctx} {f : Nat} {name pfx : String} {vsels : List VariantSel} {vt : TypeId}
    {rest : List TypeId} {vs : List RVariant} {items : List Item}
    (h : calcVariants c (f + 1) name pfx vsels (vt :: rest) = .ok (vs, items)) :
    ∃ vname thisV thisItems vs' items', c.s.typeName vt = .ok vname ∧
      calcVariants c f name pfx vsels rest = .ok (vs', items') ∧ vs = thisV :: vs' ∧ items = thisItems ++ items' ∧
      VariantStep' c f pfx vt (vsels.filter (fun v => v.typeId == vt)) vname thisV thisItems := by
  rw [calcVariants.eq_3] at h
  obtain ⟨vname, hvn, h⟩ := bind_ok h
  simp only [] at h
  have fin : ∀ {thisV : RVariant} {thisItems : List Item},
      (do let x ← calcVariants c f name pfx vsels rest
          (pure (thisV :: x.fst, thisItems ++ x.snd) : Outcome _)) = .ok (vs, items) →
      ∃ vs' items', calcVariants c f name pfx vsels rest = .ok (vs', items') ∧ vs = thisV :: vs' ∧
        items = thisItems ++ items' := by
    intro thisV thisItems h
    obtain ⟨⟨vs', items'⟩, hr, h⟩ := bind_ok h
    simp only [pure, Except.pure, Except.ok.injEq, Prod.mk.injEq] at h
    exact ⟨vs', items', hr, h.1.symm, h.2.symm⟩
  split at h
  · rename_i hm
    simp only [pure_bind] at h
    obtain ⟨vs', items', hr, h1, h2⟩ := fin h
    exact ⟨vname, _, _, vs', items', hvn, hr, h1, h2, .inl ⟨hm, rfl, rfl⟩⟩
  · rename_i first tl hm
    split at h
    · rename_i fid fr hs
      simp only [pure_bind] at h
      obtain ⟨vs', items', hr, h1, h2⟩ := fin h
      refine ⟨vname, _, _, vs', items', hvn, hr, h1, h2, .inr ⟨by simp [hm], rfl, .inl ⟨fid, fr, ?_, rfl⟩⟩⟩
      split at hs
      · rename_i fid' fr' hm'
        simp only [Option.some.injEq, Prod.mk.injEq] at hs
        rw [← hs.1, ← hs.2]; exact hm'
      · cases hs
    · rename_i hs
      have hns : ∀ fid fr, vsels.filter (fun v => v.typeId == vt) ≠ [.spread fid fr] := by
        intro fid fr he
        rw [he] at hs
        cases hs
      obtain ⟨r, hr0, h⟩ := bind_ok h
      split at h
      · rename_i a hfs hal
        simp only [pure_bind] at h
        obtain ⟨vs', items', hr, h1, h2⟩ := fin h
        exact ⟨vname, _, _, vs', items', hvn, hr, h1, h2,
          .inr ⟨by simp [hm], rfl, .inr ⟨hns, r, hr0, .inl ⟨a, hfs, hal, rfl⟩⟩⟩⟩
      · rename_i hal
        obtain ⟨extra, hex, h⟩ := bind_ok h
        simp only [pure_bind] at h
        obtain ⟨vs', items', hr, h1, h2⟩ := fin h
        exact ⟨vname, _, _, vs', items', hvn, hr, h1, h2,
          .inr ⟨by simp [hm], rfl, .inr ⟨hns, r, hr0, .inr ⟨hal, extra, hex, rfl⟩⟩⟩⟩

/-- … and in the coarse form, which follows from it -/
theorem calcVariants_ok {c : Ctx} {f : Nat} {name pfx : String} {vsels : List VariantSel} {vt : TypeId}
    {rest : List TypeId} {vs : List RVariant} {items : List Item}
    (h : calcVariants c (f + 1) name pfx vsels (vt :: rest) = .ok (vs, items)) :
    ∃ vname thisV thisItems vs' items', c.s.typeName vt = .ok vname ∧
      calcVariants c f name pfx vsels rest = .ok (vs', items') ∧ vs = thisV :: vs' ∧ items = thisItems ++ items' ∧
      VariantStep c f pfx vt (vsels.filter (fun v => v.typeId == vt)) vname thisV thisItems := by
  obtain ⟨vname, thisV, thisItems, vs', items', hvn, hr, h1, h2, hstep⟩ := calcVariants_ok' h
  refine ⟨vname, thisV, thisItems, vs', items', hvn, hr, h1, h2, ?_⟩
  rcases hstep with h0 | ⟨hm, hv, hstep⟩
  · exact .inl h0
  · refine .inr ⟨hm, hv, ?_⟩
    rcases hstep with hs | ⟨_, r, hr0, hstep⟩
    · exact .inl hs
    · refine .inr ⟨r, hr0, ?_⟩
      rcases hstep with ⟨a, hfs, hal, hi⟩ | hgen
      · exact .inl ⟨a, Pushed.pushedAny_false_fields hr0 hfs, hal, hi⟩
      · exact .inr hgen

theorem calcVariantSels_inline_ok {c : Ctx} {f : Nat} {sname pfx : String} {vt t : TypeId} {sub : List Sel}
    {rest : List VariantSel} {fs : List RField} {items al : List Item}
    (h : calcVariantSels c (f + 1) sname pfx vt (.inline t sub :: rest) = .ok (fs, items, al)) :
    ∃ tn fs0 items0 al0 fs' items' al', c.s.typeName t = .ok tn ∧
      calcVariantSels c f sname pfx vt rest = .ok (fs', items', al') ∧
      fs = fs0 ++ fs' ∧ items = items0 ++ items' ∧ al = al0 ++ al' ∧
      ((∃ g fr, sub = [.spread g] ∧ c.q.fragments[g]? = some fr ∧ fs0 = [] ∧ items0 = [] ∧
          al0 = [aliasItem sname fr.name (fragmentIsRecursive c.q g)]) ∨
       ((∀ g, sub ≠ [Sel.spread g]) ∧ calcFields c f (pfx ++ "On" ++ c.cs.camel tn) vt sub = .ok (fs0, items0) ∧
          al0 = [])) := by
  have fin : ∀ {fs0 : List RField} {items0 al0 : List Item},
      (do let x ← calcVariantSels c f sname pfx vt rest
          (pure (fs0 ++ x.fst, items0 ++ x.snd.fst, al0 ++ x.snd.snd) : Outcome _)) = .ok (fs, items, al) →
      ∃ fs' items' al', calcVariantSels c f sname pfx vt rest = .ok (fs', items', al') ∧
        fs = fs0 ++ fs' ∧ items = items0 ++ items' ∧ al = al0 ++ al' := by
    intro fs0 items0 al0 h
    obtain ⟨⟨fs', items', al'⟩, hr, h⟩ := bind_ok h
    simp only [pure, Except.pure, Except.ok.injEq, Prod.mk.injEq] at h
    exact ⟨fs', items', al', hr, h.1.symm, h.2.1.symm, h.2.2.symm⟩
  by_cases hsp : ∃ g, sub = [Sel.spread g]
  · obtain ⟨g, rfl⟩ := hsp
    rw [calcVariantSels.eq_3] at h
    obtain ⟨tn, htn, h⟩ := bind_ok h
    simp only [] at h
    obtain ⟨fr, hfr, h⟩ := bind_ok h
    simp only [pure_bind] at h
    obtain ⟨fs', items', al', hr, h1, h2, h3⟩ := fin h
    exact ⟨tn, _, _, _, fs', items', al', htn, hr, h1, h2, h3,
      .inl ⟨g, fr, rfl, getFragment_ok hfr, rfl, rfl, rfl⟩⟩
  · rw [calcVariantSels.eq_4 _ _ _ _ _ _ _ _ (fun g hg => hsp ⟨g, hg⟩)] at h
    obtain ⟨tn, htn, h⟩ := bind_ok h
    simp only [] at h
    obtain ⟨⟨fs0, items0⟩, hfl, h⟩ := bind_ok h
    simp only [pure_bind] at h
    obtain ⟨fs', items', al', hr, h1, h2, h3⟩ := fin h
    exact ⟨tn, fs0, items0, [], fs', items', al', htn, hr, h1, h2, h3,
      .inr ⟨fun g hg => hsp ⟨g, hg⟩, hfl, rfl⟩⟩

theorem calcVariantSels_spread_ok {c : Ctx} {f : Nat} {sname pfx : String} {vt : TypeId} {fid : Nat} {fr : RFragment}
    {rest : List VariantSel} {fs : List RField} {items al : List Item}
    (h : calcVariantSels c (f + 1) sname pfx vt (.spread fid fr :: rest) = .ok (fs, items, al)) :
    ∃ fld fs', renderField c none (c.cs.snake fr.name) fr.name [.required] true (fragmentIsRecursive c.q fid) none = .ok fld ∧
      calcVariantSels c f sname pfx vt rest = .ok (fs', items, al) ∧ fs = fld.toList ++ fs' := by
  rw [calcVariantSels.eq_5] at h
  obtain ⟨fld, hfld, h⟩ := bind_ok h
  obtain ⟨⟨fs', items', al'⟩, hr, h⟩ := bind_ok h
  simp only [pure, Except.pure, Except.ok.injEq, Prod.mk.injEq] at h
  obtain ⟨h1, h2, h3⟩ := h
  subst h2 h3
  exact ⟨fld, fs', hfld, hr, h1.symm⟩

/-- what a field selection contributes to the field loop -/
def FieldStep (c : Ctx) (f : Nat) (pfx : String) (alias : Option String) (sub : List Sel) (sf : StoredField)
    (fld : Option RField) (its : List Item) : Prop :=
  let gname := alias.getD sf.name
  let rname := keywordReplace (c.cs.snake gname)
  let sname := pfx ++ c.cs.camel gname
  (∃ e en, sf.ty.id = .enum e ∧ c.s.enums[e]? = some en ∧ its = [] ∧
    renderField c (some gname) rname (c.o.normalization.fieldType c.cs en.name) sf.ty.quals false false sf.deprecation = .ok fld) ∨
  (∃ k sn, sf.ty.id = .scalar k ∧ c.s.scalars[k]? = some sn ∧ its = [] ∧
    renderField c (some gname) rname (c.o.normalization.fieldType c.cs sn) sf.ty.quals false false sf.deprecation = .ok fld) ∨
  ((∀ e, sf.ty.id ≠ .enum e) ∧ (∀ k, sf.ty.id ≠ .scalar k) ∧ (∀ i, sf.ty.id ≠ .input i) ∧
    renderField c (some gname) rname sname sf.ty.quals false false sf.deprecation = .ok fld ∧
    calcSelection c f sname sname sf.ty.id sub = .ok its)

theorem calcFields_field_ok {c : Ctx} {f : Nat} {pfx : String} {ty : TypeId} {alias : Option String} {fid : Nat}
    {sub rest : List Sel} {fs : List RField} {items : List Item}
    (h : calcFields c (f + 1) pfx ty (.field alias fid sub :: rest) = .ok (fs, items)) :
    ∃ sf fld its fs' items', c.s.fields[fid]? = some sf ∧ calcFields c f pfx ty rest = .ok (fs', items') ∧
      fs = fld.toList ++ fs' ∧ items = its ++ items' ∧ FieldStep c f pfx alias sub sf fld its := by
  rw [calcFields.eq_3] at h
  obtain ⟨sf, hsf, h⟩ := bind_ok h
  simp only [] at h
  have fin : ∀ {fld : Option RField} {its : List Item},
      (do let x ← calcFields c f pfx ty rest
          (pure (fld.toList ++ x.fst, its ++ x.snd) : Outcome _)) = .ok (fs, items) →
      ∃ fs' items', calcFields c f pfx ty rest = .ok (fs', items') ∧ fs = fld.toList ++ fs' ∧ items = its ++ items' := by
    intro fld its h
    obtain ⟨⟨fs', items'⟩, hr, h⟩ := bind_ok h
    simp only [pure, Except.pure, Except.ok.injEq, Prod.mk.injEq] at h
    exact ⟨fs', items', hr, h.1.symm, h.2.symm⟩
  split at h
  · rename_i e he
    obtain ⟨en, hen, h⟩ := bind_ok h
    obtain ⟨fld, hfld, h⟩ := bind_ok h
    simp only [pure_bind] at h
    obtain ⟨fs', items', hr, h1, h2⟩ := fin h
    exact ⟨sf, fld, [], fs', items', getField_ok hsf, hr, h1, h2, .inl ⟨e, en, he, getEnum_ok hen, rfl, hfld⟩⟩
  · rename_i k hk
    obtain ⟨sn, hsn, h⟩ := bind_ok h
    obtain ⟨fld, hfld, h⟩ := bind_ok h
    simp only [pure_bind] at h
    obtain ⟨fs', items', hr, h1, h2⟩ := fin h
    exact ⟨sf, fld, [], fs', items', getField_ok hsf, hr, h1, h2, .inr (.inl ⟨k, sn, hk, getScalar_ok hsn, rfl, hfld⟩)⟩
  · obtain ⟨x, hx, _⟩ := bind_ok h
    cases hx
  · rename_i h1' h2' h3'
    obtain ⟨fld, hfld, h⟩ := bind_ok h
    obtain ⟨its, hits, h⟩ := bind_ok h
    simp only [pure_bind] at h
    obtain ⟨fs', items', hr, h1, h2⟩ := fin h
    exact ⟨sf, fld, its, fs', items', getField_ok hsf, hr, h1, h2,
      .inr (.inr ⟨fun e he => h1' e he, fun k hk => h2' k hk, fun i hi => h3' i hi, hfld, hits⟩)⟩

theorem calcFields_spread_ok {c : Ctx} {f : Nat} {pfx : String} {ty : TypeId} {fid : Nat}
    {rest : List Sel} {fs : List RField} {items : List Item}
    (h : calcFields c (f + 1) pfx ty (.spread fid :: rest) = .ok (fs, items)) :
    ∃ fr fs', c.q.fragments[fid]? = some fr ∧ calcFields c f pfx ty rest = .ok (fs', items) ∧
      (((fr.on != ty) = true ∧ fs = fs') ∨
       ((fr.on != ty) = false ∧ ∃ fld, renderField c none (keywordReplace (c.cs.snake fr.name)) fr.name [.required] true
                    (fragmentIsRecursive c.q fid) none = .ok fld ∧ fs = fld.toList ++ fs')) := by
  rw [calcFields.eq_4] at h
  obtain ⟨fr, hfr, h⟩ := bind_ok h
  obtain ⟨⟨fs', items'⟩, hr, h⟩ := bind_ok h
  simp only [] at h
  split at h
  · rename_i hc
    simp only [pure, Except.pure, Except.ok.injEq, Prod.mk.injEq] at h
    obtain ⟨h1, h2⟩ := h
    subst h2
    exact ⟨fr, fs', getFragment_ok hfr, hr, .inl ⟨hc, h1.symm⟩⟩
  · rename_i hc
    obtain ⟨fld, hfld, h⟩ := bind_ok h
    simp only [pure, Except.pure, Except.ok.injEq, Prod.mk.injEq] at h
    obtain ⟨h1, h2⟩ := h
    subst h2
    exact ⟨fr, fs', getFragment_ok hfr, hr, .inr ⟨by simpa using hc, fld, hfld, h1.symm⟩⟩

theorem calc_of_ok : ∀ fuel,
    (∀ name pfx ty sels r, calcSelection c fuel name pfx ty sels = .ok r → CalcSel c name pfx ty sels r) ∧
    (∀ name pfx vsels vts vs items, calcVariants c fuel name pfx vsels vts = .ok (vs, items) →
      CalcVars c name pfx vsels vts vs items) ∧
    (∀ sname pfx vt mine fs items al, calcVariantSels c fuel sname pfx vt mine = .ok (fs, items, al) →
      CalcVSels c sname pfx vt mine fs items al) ∧
    (∀ pfx ty sels fs items, calcFields c fuel pfx ty sels = .ok (fs, items) → CalcFields c pfx ty sels fs items) := by
  intro fuel
  induction fuel with
  | zero =>
    refine ⟨?_, ?_, ?_, ?_⟩
    · intro _ _ _ _ _ h; rw [calcSelection.eq_1] at h; cases h
    · intro _ _ _ _ _ _ h; rw [calcVariants.eq_1] at h; cases h
    · intro _ _ _ _ _ _ _ h; rw [calcVariantSels.eq_1] at h; cases h
    · intro _ _ _ _ _ h; rw [calcFields.eq_1] at h; cases h
  | succ f ih =>
    obtain ⟨H1, H2, H3, H4⟩ := ih
    refine ⟨?_, ?_, ?_, ?_⟩
    · intro name pfx ty sels r h
      by_cases hs : ∃ g, sels = [Sel.spread g]
      · obtain ⟨g, rfl⟩ := hs
        obtain ⟨fr, hfr, rfl⟩ := calcSelection_single_ok h
        exact .alias (getFragment_of hfr)
      · have hsp : ∀ g, sels ≠ [Sel.spread g] := fun g hg => hs ⟨g, hg⟩
        obtain ⟨rv, vi, rf, fi, hvp, hfl, rfl⟩ := calcSelection_ok hsp h
        rcases hvp with ⟨hv, rfl, rfl⟩ | ⟨vts, vsels, r, hv, hvs, hr, rfl, rfl⟩
        · simpa using CalcSel.concrete (name := name) hsp hv (H4 _ _ _ _ _ hfl)
        · exact .abstract hsp hv hvs (H2 _ _ _ _ _ _ hr) (H4 _ _ _ _ _ hfl)
    · intro name pfx vsels vts vs items h
      cases vts with
      | nil =>
        rw [calcVariants.eq_2 _ _ _ _ _ (by omega)] at h
        simp only [pure, Except.pure, Except.ok.injEq, Prod.mk.injEq] at h
        obtain ⟨rfl, rfl⟩ := h
        exact .vnil
      | cons vt rest =>
        obtain ⟨vname, thisV, thisItems, vs', items', hn, hr, rfl, rfl, hstep⟩ := calcVariants_ok' h
        have hR := H2 _ _ _ _ _ _ hr
        rcases hstep with ⟨hm, rfl, rfl⟩ | ⟨hne, rfl, hstep⟩
        · exact .bare hn hm hR
        · rcases hstep with ⟨g, fr, hm, rfl⟩ | ⟨hns, r, hr0, hstep⟩
          · exact .lone hn hm hR
          · obtain ⟨fs, its, als⟩ := r
            have hV := H3 _ _ _ _ _ _ _ hr0
            rcases hstep with ⟨a, hp, hal, rfl⟩ | ⟨hal, extra, hex, rfl⟩
            · simp only at hal; subst hal
              exact .aliasOnly hn rfl hne hns hV hp hR
            · exact .struct hn rfl hne hns hV (fun hp a ha => hal a hp ha) hex hR
    · intro sname pfx vt mine fs items al h
      cases mine with
      | nil =>
        rw [calcVariantSels.eq_2 _ _ _ _ _ (by omega)] at h
        simp only [pure, Except.pure, Except.ok.injEq, Prod.mk.injEq] at h
        obtain ⟨rfl, rfl, rfl⟩ := h
        exact .snil
      | cons x rest =>
        cases x with
        | inline t sub =>
          obtain ⟨tn, fs0, items0, al0, fs', items', al', hn, hr, rfl, rfl, rfl, hstep⟩ := calcVariantSels_inline_ok h
          have hR := H3 _ _ _ _ _ _ _ hr
          rcases hstep with ⟨g, fr, rfl, hfr, rfl, rfl, rfl⟩ | ⟨hsp, hfl, rfl⟩
          · exact .inlineLone hn (getFragment_of hfr) hR
          · simpa using CalcVSels.inlineFields hn hsp (H4 _ _ _ _ _ hfl) hR
        | spread g fr =>
          obtain ⟨fld, fs', hfld, hr, rfl⟩ := calcVariantSels_spread_ok h
          exact .spreadMember hfld (H3 _ _ _ _ _ _ _ hr)
    · intro pfx ty sels fs items h
      cases sels with
      | nil =>
        rw [calcFields.eq_2 _ _ _ _ (by omega)] at h
        simp only [pure, Except.pure, Except.ok.injEq, Prod.mk.injEq] at h
        obtain ⟨rfl, rfl⟩ := h
        exact .nil
      | cons x rest =>
        cases x with
        | field a fid sub =>
          obtain ⟨sf, fld, its, fs', items', hsf, hr, rfl, rfl, hstep⟩ := calcFields_field_ok h
          have hR := H4 _ _ _ _ _ hr
          rcases hstep with ⟨e, en, he, hen, rfl, hfld⟩ | ⟨k, sn, hk, hsn, rfl, hfld⟩ | ⟨h1, h2, h3, hfld, hits⟩
          · exact .enum (getField_of hsf) he (getEnum_of hen) hfld hR
          · exact .scalar (getField_of hsf) hk (getScalar_of hsn) hfld hR
          · exact .nested (getField_of hsf) h1 h2 h3 hfld (H1 _ _ _ _ _ hits) hR
        | spread g =>
          obtain ⟨fr, fs', hfr, hr, hfs⟩ := calcFields_spread_ok h
          have hR := H4 _ _ _ _ _ hr
          rcases hfs with ⟨hon, rfl⟩ | ⟨hon, fld, hfld, rfl⟩
          · exact .spreadOther (getFragment_of hfr) hon hR
          · exact .spreadHere (getFragment_of hfr) hon hfld hR
        | inline t sub =>
          rw [calcFields.eq_5 _ _ _ _ _ _ (by simp) (by simp)] at h
          exact .inline (H4 _ _ _ _ _ h)
        | typename =>
          rw [calcFields.eq_5 _ _ _ _ _ _ (by simp) (by simp)] at h
          exact .typename (H4 _ _ _ _ _ h)

theorem CalcSel.of_ok {fuel : Nat} {name pfx : String} {ty : TypeId} {sels : List Sel} {r : List Item}
    (h : calcSelection c fuel name pfx ty sels = .ok r) : CalcSel c name pfx ty sels r :=
  (calc_of_ok fuel).1 _ _ _ _ _ h


theorem CalcVars.of_ok {fuel : Nat} {name pfx : String} {vsels : List VariantSel} {vts : List TypeId}
    {vs : List RVariant} {items : List Item} (h : calcVariants c fuel name pfx vsels vts = .ok (vs, items)) :
    CalcVars c name pfx vsels vts vs items :=
  (calc_of_ok fuel).2.1 _ _ _ _ _ _ h
theorem CalcVSels.of_ok {fuel : Nat} {sname pfx : String} {vt : TypeId} {mine : List VariantSel} {fs : List RField}
    {items al : List Item} (h : calcVariantSels c fuel sname pfx vt mine = .ok (fs, items, al)) :
    CalcVSels c sname pfx vt mine fs items al :=
  (calc_of_ok fuel).2.2.1 _ _ _ _ _ _ _ h
theorem CalcFields.of_ok {fuel : Nat} {pfx : String} {ty : TypeId} {sels : List Sel} {fs : List RField}
    {items : List Item} (h : calcFields c fuel pfx ty sels = .ok (fs, items)) : CalcFields c pfx ty sels fs items :=
  (calc_of_ok fuel).2.2.2 _ _ _ _ _ h

/-! ## closed forms: the struct at an object position, and the two calls the generator makes -/

theorem CalcSel.object {name pfx : String} {i : Nat} {sels : List Sel} {fs : List RField} {fitems : List Item}
    (hsp : ∀ g, sels ≠ [Sel.spread g]) (h : CalcFields c pfx (.object i) sels fs fitems) :
    CalcSel c name pfx (.object i) sels (.struct name c.respDerives c.serdeCrate fs :: fitems) := by
  simpa [renderType] using CalcSel.concrete (name := name) hsp (rfl : variantsOf c.s (.object i) = .ok none) h

theorem CalcSel.responseItems_eq {op : ROperation} {items : List Item}
    (h : CalcSel c "ResponseData" (c.cs.camel op.name) (.object op.objectId) op.sels items)
    (hop : op ∈ c.q.operations) : responseItems c op = .ok items :=
  h.run _ (responseItems_fuel_sufficient c op hop)

theorem CalcSel.fragmentItems_eq {g : Nat} {f : RFragment} {items : List Item} (hf : c.q.fragments[g]? = some f)
    (h : CalcSel c f.name (c.cs.camel f.name) f.on f.sels items) : fragmentItems c g = .ok items := by
  have hc := fragmentItems_fuel_sufficient c g
  unfold fragmentItems at hc ⊢
  rw [getFragment_of hf] at hc ⊢
  exact h.run _ hc

/-! ## nothing pushed for a struct: no member -/

/-- the derivation form of `Pushed.calcFields_nil_of_not_pushed` -/
theorem CalcFields.nil_of_not_pushed : ∀ {pfx : String} {ty : TypeId} {sels : List Sel}
    {fs : List RField} {items : List Item}, CalcFields c pfx ty sels fs items →
    sels.any (selPushes c.q ty) = false → fs = []
  | _, _, _, _, _, .nil, _ => rfl
  | _, _, _, _, _, .enum .., h => by simp [selPushes] at h
  | _, _, _, _, _, .scalar .., h => by simp [selPushes] at h
  | _, _, _, _, _, .nested .., h => by simp [selPushes] at h
  | _, _, _, _, _, .spreadOther _ _ hR, h => by
    simp only [List.any_cons, Bool.or_eq_false_iff] at h
    exact hR.nil_of_not_pushed h.2
  | _, _, _, _, _, .spreadHere hfr hne _ _, h => by
    simp only [List.any_cons, Bool.or_eq_false_iff, selPushes, getFragment_ok hfr] at h
    simp [bne, h.1] at hne
  | _, _, _, _, _, .typename hR, h => by
    simp only [List.any_cons, Bool.or_eq_false_iff] at h
    exact hR.nil_of_not_pushed h.2
  | _, _, _, _, _, .inline hR, h => by
    simp only [List.any_cons, Bool.or_eq_false_iff] at h
    exact hR.nil_of_not_pushed h.2

theorem CalcVSels.nil_of_not_pushed : ∀ {sname pfx : String} {vt : TypeId}
    {mine : List VariantSel} {fs : List RField} {items al : List Item}, CalcVSels c sname pfx vt mine fs items al →
    pushedAny c.q vt mine = false → fs = []
  | _, _, _, _, _, _, _, .snil, _ => rfl
  | _, _, _, _, _, _, _, .inlineLone _ _ hR, hp => by
    rw [Pushed.pushedAny_inline_lone] at hp
    exact hR.nil_of_not_pushed hp
  | _, _, _, _, _, _, _, .inlineFields _ hns hF hR, hp => by
    rw [Pushed.pushedAny_inline _ _ _ _ hns, Bool.or_eq_false_iff] at hp
    rw [hF.nil_of_not_pushed hp.1, hR.nil_of_not_pushed hp.2]; rfl
  | _, _, _, _, _, _, _, .spreadMember _ _, hp => by
    rw [Pushed.pushedAny_spread] at hp; cases hp

end C02
end GqlVerif
