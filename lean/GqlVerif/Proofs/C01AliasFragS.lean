import GqlVerif.Proofs.C01NestedB
/-!
# `AliasFragOp`, serde: a flattened member whose type is an ALIAS (chain) of a struct

The model follows alias hops wherever serde (i.e. rustc, a type alias being transparent) does: `Serde.deFlat` on
`.path q` with `q` an `.alias` item recurses into the target, `Serde.dePath` / `Serde.serPath` likewise.

* `Chain e k q q'` — `q` resolves to `q'` through `k` `.alias` items (none of them a built-in leaf name);
  `deFlat_chain`, `dePath_chain`, `serPath_chain`: reading a flattened member / reading / writing at `q` with `fuel + k` is
  reading / writing at `q'` with `fuel` — the value read, the buffer left and the JSON written are THOSE OF THE STRUCT ITSELF;
* `MemSpec e fuel q K` — how a flattened member of the named type `q` is read, stated through `dePath … q`: it
  **borrows** (sees the whole buffer, takes nothing) or it **takes** the keys `W ⊆ K` and does not look at others;
  `memSpec_struct` (a struct item, plain or not), `memSpec_chain` (an alias chain to such a type);
* `memberOkA_readsAs` — members satisfying `MemSpec` in the terms of `C01Layers` (L4): each reads `memV` of the entries
  still present and takes keys inside `K g`; **`okB_deStructMapA`** — acceptance of a struct with such members
  (`okB_deStructMapN` of `C01NestedG` is the case where every member is a struct item).  The value-level companion is
  `deStructA_finds` (`C01AliasFragG`).
-/

namespace GqlVerif
namespace C01AF
open Serde C03 C01 C01.E2E C01N

theorem all_congr_mem {α : Type} {f g : α → Bool} : ∀ (l : List α), (∀ x ∈ l, f x = g x) → l.all f = l.all g
  | [], _ => rfl
  | x :: xs, h => by
    rw [List.all_cons, List.all_cons, h x (by simp), all_congr_mem xs (fun y hy => h y (List.mem_cons_of_mem _ hy))]

/-- `q` resolves to `q'` through `k` type aliases -/
def Chain (e : Env) : Nat → String → String → Prop
  | 0, q, q' => q = q'
  | k + 1, q, q' => notPrim q ∧ ∃ n pub q1, e.find q = some (.alias n pub (.path q1)) ∧ Chain e k q1 q'

theorem chain_one {e : Env} {q q' n : String} {pub : Bool} (hp : notPrim q)
    (h : e.find q = some (.alias n pub (.path q'))) : Chain e 1 q q' :=
  ⟨hp, n, pub, q', h, rfl⟩

/-- **a flattened member whose type is an alias chain is read as the chain's end** (value and buffer) -/
theorem deFlat_chain (e : Env) : ∀ (k : Nat) (q q' : String) (fuel : Nat) (buf : Buf), Chain e k q q' →
    deFlat e (fuel + k) (.path q) buf = deFlat e fuel (.path q') buf
  | 0, q, q', fuel, buf, h => by cases h; rfl
  | k + 1, q, q', fuel, buf, h => by
    obtain ⟨_, n, pub, q1, hfind, hc⟩ := h
    have : deFlat e (fuel + (k + 1)) (.path q) buf = deFlat e (fuel + k) (.path q1) buf := by
      show deFlat e ((fuel + k) + 1) (.path q) buf = _
      rw [deFlat]; simp only [hfind]
    rw [this]
    exact deFlat_chain e k q1 q' fuel buf hc

/-- **… and so is any other position of that type** -/
theorem dePath_chain (e : Env) (b : Bool) : ∀ (k : Nat) (q q' : String) (fuel : Nat) (j : Json), Chain e k q q' →
    dePath e b (fuel + k) q j = dePath e b fuel q' j
  | 0, q, q', fuel, j, h => by cases h; rfl
  | k + 1, q, q', fuel, j, h => by
    obtain ⟨hp, n, pub, q1, hfind, hc⟩ := h
    have : dePath e b (fuel + (k + 1)) q j = dePath e b (fuel + k) q1 j := by
      show dePath e b ((fuel + k) + 1) q j = _
      rw [dePath]; simp only [dePrim_none hp, hfind, deTyWith]
    rw [this]
    exact dePath_chain e b k q1 q' fuel j hc

/-- **serialization through an alias chain is serialization at the chain's end** (a non-leaf value) -/
theorem serPath_chain (e : Env) : ∀ (k : Nat) (q q' : String) (fuel : Nat) (v : Val), Chain e k q q' →
    serPrim v = none → serPath e (fuel + k) q v = serPath e fuel q' v
  | 0, q, q', fuel, v, h, _ => by cases h; rfl
  | k + 1, q, q', fuel, v, h, hv => by
    obtain ⟨hp, n, pub, q1, hfind, hc⟩ := h
    have : serPath e (fuel + (k + 1)) q v = serPath e (fuel + k) q1 v := by
      show serPath e ((fuel + k) + 1) q v = _
      rw [serPath]; simp only [hv, hfind, serTyWith]
    rw [this]
    exact serPath_chain e k q1 q' fuel v hc hv

/-- … in particular for the record of a struct (what a flattened member's value is) -/
theorem serPath_chain_record (e : Env) (k : Nat) (q q' : String) (fuel : Nat) (vals : List (String × Val))
    (h : Chain e k q q') : serPath e (fuel + k) q (.record vals) = serPath e fuel q' (.record vals) :=
  serPath_chain e k q q' fuel _ h rfl

/-! ## flattened members, abstractly -/

/-- how serde reads a flattened member of the named type `q` (at fuel `fuel + 1`), through what `dePath` reads at `q`
    from an object: it **borrows** — sees every remaining entry, takes none (`deserialize_map`) — or it **takes** the
    entries with the keys `W ⊆ K` (`deserialize_struct`), and reads nothing else -/
def MemSpec (e : Env) (fuel : Nat) (q : String) (K : List String) : Prop :=
  (∀ buf, deFlat e (fuel + 1) (.path q) buf =
      (do let v ← dePath e true (fuel + 1) q (.obj (present buf)); pure (v, buf))) ∨
  (∃ W : List String, (∀ k ∈ W, k ∈ K) ∧
    (∀ buf, deFlat e (fuel + 1) (.path q) buf =
      (do let v ← dePath e true (fuel + 1) q (.obj (takeKeys W buf).1); pure (v, (takeKeys W buf).2))) ∧
    (∀ kvs, dePath e true (fuel + 1) q (.obj (kvs.filter (fun kv => W.contains kv.1))) =
      dePath e true (fuel + 1) q (.obj kvs)))

theorem MemSpec.mono {e : Env} {fuel : Nat} {q : String} {K K' : List String} (h : MemSpec e fuel q K)
    (hK : ∀ k ∈ K, k ∈ K') : MemSpec e fuel q K' := by
  rcases h with h | ⟨W, hW, h1, h2⟩
  · exact .inl h
  · exact .inr ⟨W, fun k hk => hK k (hW k hk), h1, h2⟩

/-- a struct item (plain, or with flattened members of its own) -/
theorem memSpec_struct (e : Env) (fuel : Nat) (q n : String) (d : List String) (c : Option String) (G : List RField)
    (K : List String) (hp : notPrim q) (hfind : e.find q = some (.struct n d c G))
    (hG : ∀ f ∈ G, f.flatten = false → f.wire ∈ K) : MemSpec e fuel q K := by
  cases hpl : plain G
  · left
    intro buf
    rw [deFlat_nonplain_struct e fuel q n d c G buf hfind (any_flatten_of_not_plain hpl),
      dePath_struct e true fuel q n d c G hp hfind, deStruct_obj]
  · right
    refine ⟨G.map (·.wire), ?_, ?_, ?_⟩
    · intro k hk
      obtain ⟨f, hf, rfl⟩ := List.mem_map.mp hk
      exact hG f hf (flatten_false_of_plain hpl f hf)
    · intro buf
      rw [deFlat_plain_struct e fuel q n d c G buf hfind hpl, dePath_struct e true fuel q n d c G hp hfind,
        deStruct_obj, deStructMap_plain _ _ _ _ hpl]
      cases deOwnWith (dePath e true fuel) G (takeKeys (G.map (·.wire)) buf).1 <;> rfl
    · intro kvs
      simp only [dePath_struct e true fuel q n d c G hp hfind, deStruct_obj, deStructMap_plain _ _ _ _ hpl]
      rw [deOwn_filter _ _ kvs _ (fun f hf _ => List.mem_map_of_mem hf)]

/-- **an alias chain to a type that satisfies `MemSpec` satisfies it** (with `k` more units of fuel) -/
theorem memSpec_chain (e : Env) (k : Nat) (q q' : String) (fuel : Nat) (K : List String) (hc : Chain e k q q')
    (h : MemSpec e fuel q' K) : MemSpec e (fuel + k) q K := by
  have hF : ∀ buf, deFlat e (fuel + k + 1) (.path q) buf = deFlat e (fuel + 1) (.path q') buf := by
    intro buf
    have := deFlat_chain e k q q' (fuel + 1) buf hc
    rwa [show fuel + 1 + k = fuel + k + 1 by omega] at this
  have hP : ∀ j, dePath e true (fuel + k + 1) q j = dePath e true (fuel + 1) q' j := by
    intro j
    have := dePath_chain e true k q q' (fuel + 1) j hc
    rwa [show fuel + 1 + k = fuel + k + 1 by omega] at this
  rcases h with h | ⟨W, hW, h1, h2⟩
  · left; intro buf; rw [hF, hP, h buf]
  · right
    refine ⟨W, hW, fun buf => by rw [hF, hP, h1 buf], fun kvs => by rw [hP, hP, h2 kvs]⟩

/-- what a flattened member reads from the object `kvs`: its type, from buffered content -/
def memV (e : Env) (fuel : Nat) (g : RField) (kvs : List (String × Json)) : D Val :=
  match g.ty with
  | .path q => dePath e true (fuel + 1) q (.obj kvs)
  | _ => unmodelled "flattened member of a non-path type"

def MemberOkA (e : Env) (fuel : Nat) (K : List String) (g : RField) : Prop :=
  ∃ q, g.ty = .path q ∧ MemSpec e fuel q K

/-- the keys each flattened member takes, chosen once: whether it borrows or takes `W ⊆ K g`, the member reads `memV` of the
    entries still present (a taker does not look at the others) -/
theorem memberOkA_readsAs {e : Env} {fuel : Nat} {K : RField → List String} {fs : List RField}
    (hok : ∀ g ∈ fs, g.flatten = true → MemberOkA e fuel (K g) g) :
    ∃ keys : RField → List String, ∀ g ∈ fs, g.flatten = true →
      (∀ k ∈ keys g, k ∈ K g) ∧ ReadsAs (deFlat e (fuel + 1)) keys (memV e fuel) g := by
  have h : ∀ g : RField, ∃ W : List String, g ∈ fs → g.flatten = true → (∀ k ∈ W, k ∈ K g) ∧
      ∀ buf, ∃ buf', deFlat e (fuel + 1) g.ty buf = (do let v ← memV e fuel g (present buf); pure (v, buf')) ∧
        present buf' = (present buf).filter (fun kv => !W.contains kv.1) := by
    intro g
    rcases Classical.em (g ∈ fs ∧ g.flatten = true) with hg | hg
    · obtain ⟨q, hty, hspec⟩ := hok g hg.1 hg.2
      have hmv : ∀ kvs, memV e fuel g kvs = dePath e true (fuel + 1) q (.obj kvs) := fun kvs => by
        simp only [memV, hty]
      rcases hspec with hb | ⟨W, hWK, ht, hf⟩
      · exact ⟨[], fun _ _ => ⟨by simp, fun buf => ⟨buf, by rw [hty, hb buf, hmv], (filter_not_nil _).symm⟩⟩⟩
      · exact ⟨W, fun _ _ => ⟨hWK, fun buf =>
          ⟨(takeKeys W buf).2, by rw [hty, ht buf, takeKeys_fst, hf, hmv], takeKeys_snd W buf⟩⟩⟩
    · exact ⟨[], fun h1 h2 => absurd ⟨h1, h2⟩ hg⟩
  obtain ⟨keys, hkeys⟩ := Classical.axiomOfChoice h
  exact ⟨keys, fun g hg hf => hkeys g hg hf⟩

/-- **acceptance of the flattened members**, in field order: each accepts the whole object, when entries with keys outside
    `K g` do not matter to `g` and the `K g` are pairwise disjoint -/
theorem okB_memberVals (keys K : RField → List String) (rd : RField → List (String × Json) → D Val)
    (kvs : List (String × Json)) : ∀ (fs : List RField) (L : List String),
    (∀ g ∈ fs, g.flatten = true → ∀ k ∈ keys g, k ∈ K g) →
    (∀ g ∈ fs, g.flatten = true → ∀ k ∈ L, k ∉ K g) →
    (∀ g ∈ fs, g.flatten = true → ∀ L' : List String, (∀ k ∈ L', k ∉ K g) →
      okB (rd g (kvs.filter (fun kv => !L'.contains kv.1))) = okB (rd g kvs)) →
    fs.Pairwise (fun g g' => g.flatten = true → g'.flatten = true → ∀ k ∈ K g', k ∉ K g) →
    okB (memberVals keys rd fs (kvs.filter (fun kv => !L.contains kv.1))) =
      (fs.filter (·.flatten)).all (fun g => okB (rd g kvs))
  | [], _, _, _, _, _ => rfl
  | g :: fs, L, hsub, hL, hirr, hpw => by
    rw [List.pairwise_cons] at hpw
    have ih := fun L' hL' => okB_memberVals keys K rd kvs fs L' (fun g' h' => hsub g' (List.mem_cons_of_mem _ h')) hL'
      (fun g' h' => hirr g' (List.mem_cons_of_mem _ h')) hpw.2
    cases hg : g.flatten
    · simp only [memberVals, hg, Bool.not_false, ↓reduceIte, List.filter_cons, Bool.false_eq_true]
      exact ih L (fun g' h' => hL g' (List.mem_cons_of_mem _ h'))
    · simp only [memberVals, hg, Bool.not_true, Bool.false_eq_true, ↓reduceIte, List.filter_cons, List.all_cons,
        filter_not_append]
      rw [← hirr g (by simp) hg L (hL g (by simp) hg), ← ih (L ++ keys g) (fun g' h' hf' k hk hkK => by
        rcases List.mem_append.mp hk with hk | hk
        · exact hL g' (List.mem_cons_of_mem _ h') hf' k hk hkK
        · exact hpw.1 g' h' hg hf' k hkK (hsub g (by simp) hg k hk))]
      cases rd g (kvs.filter (fun kv => !L.contains kv.1)) <;> cases memberVals keys rd fs _ <;> rfl

/-- **acceptance of a struct with own fields and any number of flattened members that are struct items or aliases of
    struct items** -/
theorem okB_deStructMapA (e : Env) (fuel : Nat) (pathD : String → Json → D Val) (fields : List RField)
    (kvs : List (String × Json)) (K : RField → List String) (hany : fields.any (·.flatten) = true)
    (hok : ∀ g ∈ fields, g.flatten = true → MemberOkA e fuel (K g) g)
    (hown : ∀ g ∈ fields, g.flatten = true → ∀ k ∈ (fields.filter (fun f => !f.flatten)).map (·.wire), k ∉ K g)
    (hirr : ∀ g ∈ fields, g.flatten = true → ∀ L' : List String, (∀ k ∈ L', k ∉ K g) →
      okB (memV e fuel g (kvs.filter (fun kv => !L'.contains kv.1))) = okB (memV e fuel g kvs))
    (hpw : fields.Pairwise (fun g g' => g.flatten = true → g'.flatten = true → ∀ k ∈ K g', k ∉ K g)) :
    okB (deStructMapWith pathD (deFlat e (fuel + 1)) fields kvs) =
      (okB (deOwnWith pathD (fields.filter (fun f => !f.flatten)) kvs) &&
        (fields.filter (·.flatten)).all (fun g => okB (memV e fuel g kvs))) := by
  obtain ⟨keys, hk⟩ := memberOkA_readsAs hok
  rw [deStructMap_members _ keys (memV e fuel) pathD fields kvs hany (fun g hg hf => (hk g hg hf).2), okB_bind2,
    okB_memberVals keys K (memV e fuel) kvs fields _ (fun g hg hf => (hk g hg hf).1) hown hirr hpw]

end C01AF
end GqlVerif
