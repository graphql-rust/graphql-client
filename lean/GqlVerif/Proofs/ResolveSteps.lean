import GqlVerif.Model.Resolve
import GqlVerif.Model.Valid
import GqlVerif.Proofs.OutcomeLemmas

/-!
# One step of the document-level resolver

`DefStep s q x q'` says what one successful `resolveDef s q x` does, all its guards and sub-results as premises;
`resolveDef_iff`: that is exactly when the call returns `q'`.  Soundness reads a step apart (`cases`), totality
builds one.  `resolveObjectSel_field`, `resolveObjectSel_inline`, `resolveUnionSel_inline`: the dispatch on the type of a
sub-selection, written out in place in the model, is `resolveSelection`.
-/

namespace GqlVerif
namespace Resolve
open C02

/-- what one successful `resolveDef` does.  Only fragment definitions and NAMED operations have a step: on an anonymous
    operation and on a bare selection set `resolveDef` panics (`DefStep.of_ok`). -/
inductive DefStep (s : Schema) (q : Query) : QDef → Query → Prop
  | frag {n on sels t id f rs} : s.findType on = some t → q.findFragment n = some id → q.fragments[id]? = some f →
      resolveSelection s q t sels = .ok rs →
      DefStep s q (.frag n on sels) { q with fragments := q.fragments.set id { f with sels := f.sels ++ rs } }
  | op {kind n vars sels root o id vs rs op} : Valid.rootOf s kind = some root → s.objects[root]? = some o →
      q.findOperation n = some id → resolveVariables s id vars = .ok vs →
      resolveObjectSels s { q with variables := q.variables ++ vs } o.name o.fields sels = .ok rs →
      q.operations[id]? = some op →
      DefStep s q (.op kind (some n) vars sels)
        { q with variables := q.variables ++ vs,
                 operations := q.operations.set id { op with sels := op.sels ++ rs } }

theorem resolveDef_op_core {s : Schema} {q q' : Query} {vars sels} {root id}
    (h : (do
        let o ← s.getObject root
        let vs ← resolveVariables s id vars
        let rs ← resolveObjectSels s { q with variables := q.variables ++ vs } o.name o.fields sels
        match q.operations[id]? with
        | none => panic' "get operation"
        | some op => pure { q with variables := q.variables ++ vs,
                                   operations := q.operations.set id { op with sels := op.sels ++ rs } } : Outcome Query)
        = .ok q') :
    ∃ o vs rs op, s.objects[root]? = some o ∧ resolveVariables s id vars = .ok vs ∧ q.operations[id]? = some op ∧
      resolveObjectSels s { q with variables := q.variables ++ vs } o.name o.fields sels = .ok rs ∧
      q' = { q with variables := q.variables ++ vs,
                    operations := q.operations.set id { op with sels := op.sels ++ rs } } := by
  obtain ⟨o, ho, h⟩ := bind_ok h
  obtain ⟨vs, hvs, h⟩ := bind_ok h
  obtain ⟨rs, hrs, h⟩ := bind_ok h
  split at h
  · simp [panic'] at h
  · rename_i op hop
    simp only [pure, Except.pure, Except.ok.injEq] at h
    exact ⟨o, vs, rs, op, getObject_ok ho, hvs, hop, hrs, h.symm⟩

theorem DefStep.of_ok {s : Schema} {q q' : Query} {x : QDef} (h : resolveDef s q x = .ok q') : DefStep s q x q' := by
  cases x with
  | selset sels => simp [resolveDef, panic'] at h
  | frag n on sels =>
    simp only [resolveDef] at h
    split at h
    · simp [fail'] at h
    · rename_i t ht
      split at h
      · simp [fail'] at h
      · rename_i id hid
        obtain ⟨rs, hrs, h⟩ := bind_ok h
        split at h
        · simp [panic'] at h
        · rename_i f hf
          simp only [pure, Except.pure, Except.ok.injEq] at h
          exact h ▸ .frag ht hid hf hrs
  | op kind name vars sels =>
    simp only [resolveDef] at h
    cases name with
    | none =>
      cases kind <;> simp only at h
      · obtain ⟨_, _, h⟩ := bind_ok h
        obtain ⟨_, _, h⟩ := bind_ok h
        obtain ⟨_, hp, _⟩ := bind_ok h
        simp [panic'] at hp
      · split at h
        · obtain ⟨_, _, h⟩ := bind_ok h
          obtain ⟨_, _, h⟩ := bind_ok h
          obtain ⟨_, hp, _⟩ := bind_ok h
          simp [panic'] at hp
        · simp [fail', bind, Except.bind] at h
      · split at h
        · obtain ⟨_, _, h⟩ := bind_ok h
          obtain ⟨_, _, h⟩ := bind_ok h
          obtain ⟨_, hp, _⟩ := bind_ok h
          simp [panic'] at hp
        · simp [fail', bind, Except.bind] at h
    | some n =>
      cases hfo : q.findOperation n with
      | none =>
        simp only [pure_bind, hfo] at h
        cases kind <;> simp only at h
        · obtain ⟨_, _, h⟩ := bind_ok h
          obtain ⟨_, _, h⟩ := bind_ok h
          obtain ⟨_, hp, _⟩ := bind_ok h
          simp [panic'] at hp
        · split at h
          · obtain ⟨_, _, h⟩ := bind_ok h
            obtain ⟨_, hp, _⟩ := bind_ok h
            simp [panic'] at hp
          · simp [fail', bind, Except.bind] at h
        · split at h
          · obtain ⟨_, _, h⟩ := bind_ok h
            obtain ⟨_, hp, _⟩ := bind_ok h
            simp [panic'] at hp
          · simp [fail', bind, Except.bind] at h
      | some id =>
        simp only [pure_bind, hfo] at h
        cases kind <;> simp only at h
        · cases hq : s.queryType with
          | none => simp [Schema.queryTypeOrPanic, hq, panic', bind, Except.bind] at h
          | some root =>
            simp only [Schema.queryTypeOrPanic, hq, pure_bind] at h
            obtain ⟨o, vs, rs, op, h1, hvs, h2, h3, rfl⟩ := resolveDef_op_core (root := root) h
            exact .op (by simp [Valid.rootOf, hq]) h1 hfo hvs h3 h2
        · cases hq : s.mutationType with
          | none => simp [hq, fail', bind, Except.bind] at h
          | some root =>
            simp only [hq] at h
            obtain ⟨o, vs, rs, op, h1, hvs, h2, h3, rfl⟩ := resolveDef_op_core (root := root) h
            exact .op (by simp [Valid.rootOf, hq]) h1 hfo hvs h3 h2
        · cases hq : s.subscriptionType with
          | none => simp [hq, fail', bind, Except.bind] at h
          | some root =>
            simp only [hq] at h
            obtain ⟨o, vs, rs, op, h1, hvs, h2, h3, rfl⟩ := resolveDef_op_core (root := root) h
            exact .op (by simp [Valid.rootOf, hq]) h1 hfo hvs h3 h2

theorem DefStep.ok {s : Schema} {q q' : Query} {x : QDef} (h : DefStep s q x q') : resolveDef s q x = .ok q' := by
  cases h with
  | frag ht hid hf hrs => simp only [resolveDef, ht, hid, hrs, hf, bind, Except.bind]; rfl
  | @op kind n vars sels root o id vs rs op hroot ho hid hvs hrs hop =>
    have ho' : s.getObject root = .ok o := by simp [Schema.getObject, ho, pure, Except.pure]
    cases kind <;> simp only [Valid.rootOf] at hroot <;>
      simp only [resolveDef, Schema.queryTypeOrPanic, hroot, ho', hid, hvs, hrs, hop, bind, Except.bind, pure,
        Except.pure]

theorem resolveDef_iff {s : Schema} {q q' : Query} {x : QDef} : resolveDef s q x = .ok q' ↔ DefStep s q x q' :=
  ⟨DefStep.of_ok, DefStep.ok⟩

/-! the model writes the dispatch of `resolve_selection` on the type of a sub-selection out in place, three
times; each copy is `resolveSelection` -/

theorem dispatch_eq (s : Schema) (q : Query) (t : TypeId) (sub : List QSel) (k : List Sel → Sel) (leaf : Sel)
    (hleaf : leaf = k []) :
    (match t with
      | .object oid =>
        match s.getObject oid with
        | .error e => .error e
        | .ok o => (resolveObjectSels s q o.name o.fields sub).map k
      | .interface iid =>
        match s.getInterface iid with
        | .error e => .error e
        | .ok i => (resolveObjectSels s q i.name i.fields sub).map k
      | .union _ => (resolveUnionSels s q sub).map k
      | _ => if sub.isEmpty then pure leaf else fail' "Selection set on non-object, non-interface type.")
    = (resolveSelection s q t sub).map k := by
  subst hleaf
  unfold resolveSelection
  cases t with
  | object oid => simp only []; cases s.getObject oid <;> rfl
  | interface iid => simp only []; cases s.getInterface iid <;> rfl
  | union uid => rfl
  | scalar i => simp only []; cases sub <;> rfl
  | «enum» i => simp only []; cases sub <;> rfl
  | input i => simp only []; cases sub <;> rfl

theorem resolveObjectSel_inline (s : Schema) (q : Query) (pname : String) (fields : List Nat) (on : String)
    (sub : List QSel) :
    resolveObjectSel s q pname fields (.inline (some on) sub) =
      match s.findType on with
      | none => fail' s!"Could not find type `{on}` referenced by inline fragment."
      | some t => (resolveSelection s q t sub).map (Sel.inline t) := by
  unfold resolveObjectSel
  simp only []
  cases s.findType on with
  | none => rfl
  | some t => exact dispatch_eq s q t sub (Sel.inline t) _ rfl

theorem resolveUnionSel_inline (s : Schema) (q : Query) (on : String) (sub : List QSel) :
    resolveUnionSel s q (.inline (some on) sub) =
      match s.findType on with
      | none => fail' s!"Could not find type `{on}` referenced by inline fragment."
      | some t => (resolveSelection s q t sub).map (Sel.inline t) := by
  unfold resolveUnionSel
  simp only []
  cases s.findType on with
  | none => rfl
  | some t => exact dispatch_eq s q t sub (Sel.inline t) _ rfl

theorem resolveObjectSel_field (s : Schema) (q : Query) (pname : String) (fields : List Nat) (a : Option String)
    (name : String) (sub : List QSel) (hn : (name == typenameField) = false) :
    resolveObjectSel s q pname fields (.field a name sub) =
      match getFieldByName s fields name with
      | .error e => .error e
      | .ok none => fail' s!"No field named {name} on {pname}"
      | .ok (some (fid, sf)) => (resolveSelection s q sf.ty.id sub).map (Sel.field a fid) := by
  unfold resolveObjectSel
  simp only [hn, Bool.false_eq_true, if_false]
  cases getFieldByName s fields name with
  | error e => rfl
  | ok o =>
    cases o with
    | none => rfl
    | some p => exact dispatch_eq s q p.2.ty.id sub (Sel.field a p.1) _ rfl

end Resolve
end GqlVerif
