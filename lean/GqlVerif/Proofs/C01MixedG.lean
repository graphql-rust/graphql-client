import GqlVerif.Proofs.C01MixedF
/-!
# C01 end to end (`MixedOp`): `FragmentOp` inside `MixedOp`

On `FragmentOp` everything `mixed_roundtrip` is stated with is what `fragment_roundtrip` is stated with:

* the side condition `mixedRustOk` follows from `fragRustOk` (`mixedRustOk_of_fragRustOk`; underneath, `rustOkSelD_of_V`: on
  spread-free selections of `VariantOp` the condition of `VariantSpreadOp` follows from that of `VariantOp`);
* the canonical form **is** `canonSelF`, syntactically and for every `j` (`canonSelM_eq_F`; underneath, `canonFieldD_eq_V`), and
  `canonSelF` is a `to_value` normal form (`norm_canonSelF`): `mixed_roundtrip_on_F`.  So **`fragment_roundtrip` is the
  instance of `mixed_roundtrip`** (`mixed_roundtrip_on_F'`);
* the environment hypotheses and the acceptance predicate are those of `FragmentOp` (`envSelM_of_F`, `looseFieldM_eq_F`,
  `bodyEnvM_of_F`, `conformsLooseM_eq_F`); with these the `FragmentOp` theorems about the selection tree are instances of the
  `MixedOp` ones (`C01AbstractM`).

That the side conditions `mixedKeysOk`, `mixedRustOk` and `oiSels` cannot be dropped: `C01MixedW`.
-/

namespace GqlVerif
namespace C01M
open Serde Codegen C01 C01.E2E

/-! ## `fragRustOk ⇒ mixedRustOk` on `FragmentOp` -/

theorem varRust_nil (c : Ctx) (vt : TypeId) : ∀ (sub : List Sel), (∀ g, Sel.spread g ∉ sub) →
    vt ∉ sub.filterMap inlineTy → varRust c vt sub = []
  | [], _, _ => rfl
  | x :: xs, hns, hvt => by
    have hns' : ∀ g, Sel.spread g ∉ xs := fun g hm => hns g (List.mem_cons_of_mem _ hm)
    cases x with
    | inline t isub =>
      have hne : (t == vt) = false := by
        cases h : t == vt with
        | false => rfl
        | true => exact absurd (by simp [inlineTy, beq_iff_eq.mp h]) hvt
      have hvt' : vt ∉ xs.filterMap inlineTy := fun hm => hvt (by simp [inlineTy, hm])
      simp [varRust, hne, varRust_nil c vt xs hns' hvt']
    | spread g => exact absurd List.mem_cons_self (hns g)
    | field a fid sub =>
      have hvt' : vt ∉ xs.filterMap inlineTy := by simpa [List.filterMap_cons, inlineTy] using hvt
      simp [varRust, varRust_nil c vt xs hns' hvt']
    | typename =>
      have hvt' : vt ∉ xs.filterMap inlineTy := by simpa [List.filterMap_cons, inlineTy] using hvt
      simp [varRust, varRust_nil c vt xs hns' hvt']

/-- with at most one inline fragment per type and no spread, the Rust names of a variant struct are those of its inline
    fragment -/
theorem varRust_nodup (c : Ctx) (vt : TypeId) : ∀ (sub : List Sel), (∀ g, Sel.spread g ∉ sub) →
    (sub.filterMap inlineTy).Nodup → (∀ t isub, Sel.inline t isub ∈ sub → (rustNames c isub).Nodup) →
    (varRust c vt sub).Nodup
  | [], _, _, _ => by simp [varRust]
  | x :: xs, hns, hnd, hin => by
    have hns' : ∀ g, Sel.spread g ∉ xs := fun g hm => hns g (List.mem_cons_of_mem _ hm)
    have hin' : ∀ t isub, Sel.inline t isub ∈ xs → (rustNames c isub).Nodup :=
      fun t isub hm => hin t isub (List.mem_cons_of_mem _ hm)
    cases x with
    | inline t isub =>
      simp only [List.filterMap_cons, inlineTy, List.nodup_cons] at hnd
      by_cases htv : t = vt
      · subst htv
        simp only [varRust, beq_self_eq_true, ↓reduceIte, varRust_nil c t xs hns' hnd.1, List.append_nil]
        exact hin t isub (by simp)
      · have hne : (t == vt) = false := by simpa using htv
        simp only [varRust, hne, Bool.false_eq_true, ↓reduceIte, List.nil_append]
        exact varRust_nodup c vt xs hns' hnd.2 hin'
    | spread g => exact absurd List.mem_cons_self (hns g)
    | field a fid sub =>
      have hnd' : (xs.filterMap inlineTy).Nodup := by simpa [List.filterMap_cons, inlineTy] using hnd
      simp only [varRust]
      exact varRust_nodup c vt xs hns' hnd' hin'
    | typename =>
      have hnd' : (xs.filterMap inlineTy).Nodup := by simpa [List.filterMap_cons, inlineTy] using hnd
      simp only [varRust]
      exact varRust_nodup c vt xs hns' hnd' hin'

theorem rustNames_inline_of_V {c : Ctx} : ∀ {sub : List Sel}, rustOkSelsV c sub = true →
    ∀ t isub, Sel.inline t isub ∈ sub → (rustNames c isub).Nodup := by
  intro sub h t isub hm
  have := rustOkSelsV_mem h _ hm
  rw [rustOkSelV, Bool.and_eq_true] at this
  exact nodup_iff'.mp this.1

mutual
  /-- for spread-free selections of `VariantOp`, the side condition of `VariantSpreadOp` follows from that of `VariantOp` -/
  theorem rustOkSelD_of_V (c : Ctx) : ∀ (x : Sel) (abs : Bool), vSel c.s c.o abs x = true → rustOkSelV c x = true →
      rustOkSelD c x = true
    | .field a fid sub, abs => by
      intro h hro
      have IH := rustOkSelsD_of_V c sub
      rw [rustOkSelV, Bool.and_eq_true] at hro
      rw [rustOkSelD, Bool.and_eq_true, Bool.and_eq_true]
      rw [vSel] at h
      cases hsf : c.s.fields[fid]? with
      | none => simp [hsf] at h
      | some sf =>
        simp only [hsf, Bool.and_eq_true] at h
        obtain ⟨_, hty⟩ := h
        rw [vtsOfField_of hsf, fieldTy_of hsf]
        have key : ∀ (ty : TypeId) abs', vSels c.s c.o abs' sub = true →
            EnumSpec.nodup (rustNamesB c ty sub ++ (if isAbsField c fid then ["on"] else [])) = true ∧
              rustOkSelsD c sub = true := by
          intro ty abs' hs
          rw [rustNamesB_noSpread c _ sub (no_spread_of_vSels hs)]
          exact ⟨hro.1, IH abs' hs hro.2⟩
        cases hid : sf.ty.id with
        | scalar k =>
          simp only [hid, Bool.and_eq_true, List.isEmpty_iff] at hty
          have := hty.2; subst this
          refine ⟨key _ false rfl, by simp [vtsOfTy]⟩
        | «enum» k =>
          simp only [hid, Bool.and_eq_true, List.isEmpty_iff] at hty
          have := hty.2; subst this
          refine ⟨key _ false rfl, by simp [vtsOfTy]⟩
        | object i =>
          simp only [hid, Bool.and_eq_true] at hty
          refine ⟨key _ false hty.1.2, by simp [vtsOfTy]⟩
        | interface k =>
          simp only [hid, Bool.and_eq_true] at hty
          refine ⟨key _ true hty.1.2, ?_⟩
          obtain ⟨_, _, _, _, _, _, hnd, _⟩ := absOk_parts hty.2
          simp only [List.all_eq_true]
          intro vt _
          exact nodup_iff'.mpr (varRust_nodup c vt sub (no_spread_of_vSels hty.1.2) hnd (rustNames_inline_of_V hro.2))
        | union k =>
          simp only [hid, Bool.and_eq_true] at hty
          refine ⟨key _ true hty.1.2, ?_⟩
          obtain ⟨_, _, _, _, _, _, hnd, _⟩ := absOk_parts hty.2
          simp only [List.all_eq_true]
          intro vt _
          exact nodup_iff'.mpr (varRust_nodup c vt sub (no_spread_of_vSels hty.1.2) hnd (rustNames_inline_of_V hro.2))
        | input k => simp [hid] at hty
    | .inline t isub, abs => by
      intro h hro
      simp only [vSel, Bool.and_eq_true] at h
      rw [rustOkSelV, Bool.and_eq_true] at hro
      rw [rustOkSelD]
      exact rustOkSelsD_of_V c isub false h.1.2 hro.2
    | .spread _, _ => by intro h; simp [vSel] at h
    | .typename, _ => by intro _ _; simp [rustOkSelD]
  theorem rustOkSelsD_of_V (c : Ctx) : ∀ (sels : List Sel) (abs : Bool), vSels c.s c.o abs sels = true →
      rustOkSelsV c sels = true → rustOkSelsD c sels = true
    | [], _ => by intro _ _; rfl
    | x :: xs, abs => by
      intro h hro
      obtain ⟨hx, hxs⟩ := vSels_cons h
      rw [rustOkSelsV, Bool.and_eq_true] at hro
      rw [rustOkSelsD, rustOkSelD_of_V c x abs hx hro.1, rustOkSelsD_of_V c xs abs hxs hro.2]; rfl
end

mutual
  theorem rustOkSelM_of_F (c : Ctx) : ∀ (x : Sel) (p : TypeId), fSel c.s c.q c.o p x = true → rustOkSelF c x = true →
      rustOkSelM c x = true
    | .field a fid sub, p => by
      intro h hro
      have IH := rustOkSelsM_of_F c sub
      cases hsf : c.s.fields[fid]? with
      | none => rw [fSel] at h; simp [hsf] at h
      | some sf =>
        by_cases hobj : ∃ i, sf.ty.id = .object i
        · obtain ⟨i, hid⟩ := hobj
          rw [fSel] at h
          simp only [hsf, hid, Bool.and_eq_true] at h
          have hb : fBody c.s c.q c.o (.object i) sub = true := h.2.2
          unfold rustOkSelF at hro
          unfold rustOkSelM
          simp only [hsf, hid, Option.map_some] at hro ⊢
          by_cases hsp : ∃ g, sub = [Sel.spread g]
          · obtain ⟨g, rfl⟩ := hsp; exact hro
          · have hnl : ∀ g, sub ≠ [Sel.spread g] := fun g hg => hsp ⟨g, hg⟩
            rw [fBody_not_lone hnl] at hb
            have h2 : (EnumSpec.nodup (rustNamesF c sub) && rustOkSelsF c sub) = true := by
              revert hro
              split
              · exact fun _ => absurd rfl (hnl _)
              · exact id
            rw [Bool.and_eq_true] at h2
            split
            · exact absurd rfl (hnl _)
            · rw [h2.1, IH _ hb h2.2]; rfl
        · have hno : ∀ i, sf.ty.id ≠ .object i := fun i h => hobj ⟨i, h⟩
          have hv := vSel_of_fSel_nonobj h hsf hno
          have hroV : rustOkSelV c (.field a fid sub) = true := by
            unfold rustOkSelF at hro
            simp only [hsf, Option.map_some] at hro
            cases hid : sf.ty.id with
            | object i => exact absurd hid (hno i)
            | scalar k => simpa only [hid] using hro
            | «enum» k => simpa only [hid] using hro
            | interface k => simpa only [hid] using hro
            | union k => simpa only [hid] using hro
            | input k => simpa only [hid] using hro
          have hD := rustOkSelD_of_V c _ false hv hroV
          unfold rustOkSelM
          simp only [hsf, Option.map_some]
          cases hid : sf.ty.id with
          | object i => exact absurd hid (hno i)
          | scalar k => exact hD
          | «enum» k => exact hD
          | interface k => exact hD
          | union k => exact hD
          | input k => exact hD
    | .spread g, _ => by intro _ h; simpa [rustOkSelF, rustOkSelM] using h
    | .inline _ _, _ => by intro h; simp [fSel] at h
    | .typename, _ => by intro _ _; simp [rustOkSelM]
  theorem rustOkSelsM_of_F (c : Ctx) : ∀ (sels : List Sel) (p : TypeId), fSels c.s c.q c.o p sels = true →
      rustOkSelsF c sels = true → rustOkSelsM c sels = true
    | [], _ => by intro _ _; rfl
    | x :: xs, p => by
      intro h hro
      obtain ⟨hx, hxs⟩ := fSels_cons h
      rw [rustOkSelsF, Bool.and_eq_true] at hro
      rw [rustOkSelsM, rustOkSelM_of_F c x p hx hro.1, rustOkSelsM_of_F c xs p hxs hro.2]; rfl
end

theorem mixedRustOk_of_fragRustOk (c : Ctx) (op : ROperation) (h : FragmentOp c op = true)
    (hr : fragRustOk c op = true) : mixedRustOk c op = true := by
  obtain ⟨_, _, hb⟩ := fragmentOp_parts h
  simp only [fragRustOk, Bool.and_eq_true] at hr
  simp only [mixedRustOk, Bool.and_eq_true]
  refine ⟨?_, hr.2⟩
  by_cases hsp : ∃ g, op.sels = [Sel.spread g]
  · obtain ⟨g, hg⟩ := hsp
    rw [hg] at hr ⊢
    simpa [rustOkSelsF, rustOkSelF, rustOkSelsM, rustOkSelM] using hr.1
  · have hnl : ∀ g, op.sels ≠ [Sel.spread g] := fun g hg => hsp ⟨g, hg⟩
    rw [fBody_not_lone hnl] at hb
    exact rustOkSelsM_of_F c op.sels _ hb hr.1

/-! ## `canonSelM = canonSelF` on `FragmentOp` (syntactically) -/

theorem loneG_noSpreads {sub : List Sel} (h : noSpreads sub = true) : loneG sub = none := by
  apply loneG_none_of_ne
  intro g hg
  subst hg
  simp [noSpreads, noSpread] at h

mutual
  /-- on spread-free selections the canonical form of `VariantSpreadOp` is the one of `VariantOp` -/
  theorem canonFieldD_eq_V (s : Schema) (q : Query) (skip : Bool) : ∀ (x : Sel), noSpread x = true →
      (∀ v, canonFieldD s q skip x v = canonFieldV s skip x v) ∧
      (∀ t isub, x = .inline t isub → ∀ kvs, canonEntriesD s q skip isub kvs = canonEntriesV s skip isub kvs)
    | .field a fid sub => by
      intro h
      rw [noSpread] at h
      have IH := canonEntriesD_eq_V s q skip sub h
      refine ⟨fun v => ?_, fun t isub he => by cases he⟩
      rw [canonFieldD, canonFieldV]
      cases hsf : s.fields[fid]? with
      | none => rfl
      | some sf =>
        simp only []
        cases hid : sf.ty.id with
        | scalar k => rfl
        | «enum» k => rfl
        | input k => rfl
        | object i =>
          simp only []
          have hE : ∀ kvs, canonEntriesD s q skip sub kvs = canonEntriesV s skip sub kvs := fun kvs => (IH kvs).1
          simp only [hE]
          congr 1
        | interface k =>
          simp only [loneG_noSpreads h]
          have hE : ∀ rest kvs, canonEntriesBD s q skip (.interface k) rest sub kvs = canonEntriesV s skip sub kvs :=
            fun rest kvs => (IH kvs).2.1 _ rest
          have hV : ∀ n kvs, canonVarD s q skip n sub kvs = canonInlV s skip n sub kvs := fun n kvs => (IH kvs).2.2 n
          simp only [hE, hV]
          congr 1
        | union k =>
          simp only [loneG_noSpreads h]
          have hE : ∀ rest kvs, canonEntriesBD s q skip (.union k) rest sub kvs = canonEntriesV s skip sub kvs :=
            fun rest kvs => (IH kvs).2.1 _ rest
          have hV : ∀ n kvs, canonVarD s q skip n sub kvs = canonInlV s skip n sub kvs := fun n kvs => (IH kvs).2.2 n
          simp only [hE, hV]
          congr 1
    | .inline t isub => by
      intro h
      rw [noSpread] at h
      refine ⟨fun v => by simp [canonFieldD, canonFieldV], fun t' isub' he kvs => ?_⟩
      cases he
      exact (canonEntriesD_eq_V s q skip isub h kvs).1
    | .spread _ => by intro h; simp [noSpread] at h
    | .typename => by
      intro _
      exact ⟨fun v => by simp [canonFieldD, canonFieldV], fun t isub he => by cases he⟩
  theorem canonEntriesD_eq_V (s : Schema) (q : Query) (skip : Bool) : ∀ (sels : List Sel), noSpreads sels = true →
      ∀ kvs, canonEntriesD s q skip sels kvs = canonEntriesV s skip sels kvs ∧
        (∀ ty rest, canonEntriesBD s q skip ty rest sels kvs = canonEntriesV s skip sels kvs) ∧
        (∀ n, canonVarD s q skip n sels kvs = canonInlV s skip n sels kvs)
    | [] => by intro _ kvs; simp [canonEntriesD, canonEntriesV, canonEntriesBD, canonVarD, canonInlV]
    | x :: xs => by
      intro h kvs
      rw [noSpreads, Bool.and_eq_true] at h
      obtain ⟨h1, h2⟩ := canonFieldD_eq_V s q skip x h.1
      obtain ⟨i1, i2, i3⟩ := canonEntriesD_eq_V s q skip xs h.2 kvs
      cases x with
      | field a fid sub =>
        refine ⟨?_, fun ty rest => ?_, fun n => ?_⟩
        · rw [canonEntriesD.eq_2, canonEntriesV.eq_2, i1]
          cases hsf : s.fields[fid]? with
          | none => rfl
          | some sf =>
            simp only []
            cases Json.lookup (a.getD sf.name) kvs with
            | none => rfl
            | some v => simp only [h1 v]
        · rw [canonEntriesBD.eq_2, canonEntriesV.eq_2, i2 ty rest]
          cases hsf : s.fields[fid]? with
          | none => rfl
          | some sf =>
            simp only []
            cases Json.lookup (a.getD sf.name) kvs with
            | none => rfl
            | some v => simp only [h1 v]
        · simpa [canonVarD, canonInlV] using i3 n
      | inline t isub =>
        refine ⟨by simpa [canonEntriesD, canonEntriesV] using i1,
          fun ty rest => by simpa [canonEntriesBD, canonEntriesV] using i2 ty rest, fun n => ?_⟩
        rw [canonVarD.eq_2, canonInlV.eq_2, i3 n, h2 t isub rfl kvs]
      | spread g => simp [noSpread] at h
      | typename =>
        exact ⟨by simpa [canonEntriesD, canonEntriesV] using i1,
          fun ty rest => by simpa [canonEntriesBD, canonEntriesV] using i2 ty rest,
          fun n => by simpa [canonVarD, canonInlV] using i3 n⟩
end

mutual
  theorem canonFieldM_eq_F (s : Schema) (q : Query) (o : Options) (skip : Bool) : ∀ (x : Sel) (p : TypeId),
      fSel s q o p x = true → ∀ v, canonFieldM s q skip x v = canonFieldF s q skip x v
    | .field a fid sub, p => by
      intro h v
      have IH := canonEntriesM_eq_F s q o skip sub
      cases hsf : s.fields[fid]? with
      | none => rw [fSel] at h; simp [hsf] at h
      | some sf =>
        by_cases hobj : ∃ i, sf.ty.id = .object i
        · obtain ⟨i, hid⟩ := hobj
          rw [fSel] at h
          simp only [hsf, hid, Bool.and_eq_true] at h
          have hb : fBody s q o (.object i) sub = true := h.2.2
          rw [canonFieldM, canonFieldF]
          simp only [hsf, hid]
          rw [canonLambdaM, canonLambdaF]
          congr 1
          funext j
          by_cases hsp : ∃ g, sub = [Sel.spread g]
          · obtain ⟨g, rfl⟩ := hsp; rfl
          · have hnl : ∀ g, sub ≠ [Sel.spread g] := fun g hg => hsp ⟨g, hg⟩
            rw [fBody_not_lone hnl] at hb
            rw [canonSelM_not_lone hnl, canonSelF_not_lone hnl]
            cases j with
            | obj kvs => simp only [IH _ hb kvs]
            | null => rfl
            | bool _ => rfl
            | int _ => rfl
            | num _ => rfl
            | str _ => rfl
            | arr _ => rfl
        · have hno : ∀ i, sf.ty.id ≠ .object i := fun i h => hobj ⟨i, h⟩
          have hv := vSel_of_fSel_nonobj h hsf hno
          rw [canonFieldM_nonobj hsf hno, (canonFieldD_eq_V s q skip _ (noSpread_of_vSel s o _ false hv)).1 v]
          rw [canonFieldF]
          simp only [hsf]
    | .spread _, _ => by intro _ v; simp [canonFieldM, canonFieldF]
    | .inline _ _, _ => by intro h; simp [fSel] at h
    | .typename, _ => by intro _ v; simp [canonFieldM, canonFieldF]
  theorem canonEntriesM_eq_F (s : Schema) (q : Query) (o : Options) (skip : Bool) : ∀ (sels : List Sel) (p : TypeId),
      fSels s q o p sels = true → ∀ kvs, canonEntriesM s q skip sels kvs = canonEntriesF s q skip sels kvs
    | [], _ => by intro _ _; simp [canonEntriesM, canonEntriesF]
    | x :: xs, p => by
      intro h kvs
      obtain ⟨hx, hxs⟩ := fSels_cons h
      have ih := canonEntriesM_eq_F s q o skip xs p hxs kvs
      cases x with
      | field a fid sub =>
        rw [canonEntriesM.eq_2, canonEntriesF.eq_2, ih]
        cases hsf : s.fields[fid]? with
        | none => rfl
        | some sf =>
          simp only []
          cases Json.lookup (a.getD sf.name) kvs with
          | none => rfl
          | some v => simp only [canonFieldM_eq_F s q o skip _ p hx v]
      | spread g => rw [canonEntriesM.eq_3, canonEntriesF.eq_3, ih]
      | inline t sub => simp [fSel] at hx
      | typename => exact ih
end

theorem canonSelM_eq_F_body {s : Schema} {q : Query} {o : Options} {p : TypeId} {sels : List Sel}
    (hb : fBody s q o p sels = true) (skip : Bool) (j : Json) : canonSelM s q skip sels j = canonSelF s q skip sels j := by
  by_cases hsp : ∃ g, sels = [Sel.spread g]
  · obtain ⟨g, rfl⟩ := hsp; rfl
  · have hnl : ∀ g, sels ≠ [Sel.spread g] := fun g hg => hsp ⟨g, hg⟩
    rw [fBody_not_lone hnl] at hb
    rw [canonSelM_not_lone hnl, canonSelF_not_lone hnl]
    cases j with
    | obj kvs => simp only [canonEntriesM_eq_F s q o skip sels _ hb kvs]
    | _ => rfl

/-- **on `FragmentOp` the canonical form is `canonSelF`** (the same function, for every `j`) -/
theorem canonSelM_eq_F (c : Ctx) (op : ROperation) (h : FragmentOp c op = true) (skip : Bool) (j : Json) :
    canonSelM c.s c.q skip op.sels j = canonSelF c.s c.q skip op.sels j :=
  canonSelM_eq_F_body (fragmentOp_parts h).2.2 skip j

set_option linter.unusedVariables false in
/-- on `FragmentOp`, for a conforming response, the result `normJson (canonSelM … j)` of `mixed_roundtrip` **is**
    `canonSelF … j`, the result of `fragment_roundtrip`: an equation between the two canonical forms; of its hypotheses it uses
    the class, `fragKeysOk` and conformance -/
theorem mixed_roundtrip_on_F (c : Ctx) (opIdx : Nat) (op : ROperation) (items : List Item)
    (hop : c.q.operations[opIdx]? = some op) (ht : FragmentOp c op = true) (hk : fragKeysOk c op = true)
    (hr : fragRustOk c op = true) (hrM : mixedRustOk c op = true)
    (hgen : responseForQuery c opIdx = .ok items) (hok : moduleOk c items = true)
    (j : Json) (hc : conformsOpF c op j = true) :
    normJson (canonSelM c.s c.q c.o.skipNone op.sels j) = canonSelF c.s c.q c.o.skipNone op.sels j := by
  obtain ⟨_, _, hb⟩ := fragmentOp_parts ht
  simp only [fragKeysOk, Bool.and_eq_true] at hk
  rw [canonSelM_eq_F c op ht]
  exact norm_canonSelF c.s c.q c.o c.o.skipNone op.objectId op.sels j hb hk.1 hk.2 hc

/-- the round trip itself **and** the equation `mixed_roundtrip_on_F`: under the hypotheses of `fragment_roundtrip`,
    `mixed_roundtrip` applies (they give those of `mixed_roundtrip`; the specification is the same, `conformsOpM_eq_F`) and its
    result is `canonSelF … j` — so **`fragment_roundtrip` is the instance of `mixed_roundtrip` on `FragmentOp`** -/
theorem mixed_roundtrip_on_F' (c : Ctx) (opIdx : Nat) (op : ROperation) (items : List Item)
    (hop : c.q.operations[opIdx]? = some op) (ht : FragmentOp c op = true) (hk : fragKeysOk c op = true)
    (hr : fragRustOk c op = true)
    (hgen : responseForQuery c opIdx = .ok items) (hok : moduleOk c items = true)
    (j : Json) (hc : conformsOpF c op j = true) :
    Serde.roundtrip (moduleEnv c items) (.path "ResponseData") j =
      .ok (normJson (canonSelM c.s c.q c.o.skipNone op.sels j)) ∧
    normJson (canonSelM c.s c.q c.o.skipNone op.sels j) = canonSelF c.s c.q c.o.skipNone op.sels j :=
  ⟨mixed_roundtrip c opIdx op items hop (mixedOp_of_fragmentOp c op ht) (mixedKeysOk_of_fragKeysOk c op hk)
      (mixedRustOk_of_fragRustOk c op ht hr) hgen hok j hc,
    mixed_roundtrip_on_F c opIdx op items hop ht hk hr (mixedRustOk_of_fragRustOk c op ht hr) hgen hok j hc⟩

/-! ## on `FragmentOp` the environment hypotheses and the acceptance predicate are those of `FragmentOp` -/

mutual
  theorem envSelM_of_F (e : Env) (c : Ctx) : ∀ (x : Sel) (pfx : String) (p : TypeId), fSel c.s c.q c.o p x = true →
      envSelF e c pfx x → envSelM e c pfx x
    | .field a fid sub, pfx, p => by
      intro ht h
      obtain ⟨sf, hsf, _, _, hk⟩ := fSel_kinds ht
      rw [envSelF] at h
      rw [envSelM]
      simp only [hsf] at h ⊢
      rcases hk with ⟨i, ob, hid, _, hbody⟩ | ⟨hno, hv⟩
      · simp only [hid] at h ⊢
        by_cases hsp : ∃ g, sub = [Sel.spread g]
        · obtain ⟨g, rfl⟩ := hsp; exact h
        · have hnl : ∀ g, sub ≠ [Sel.spread g] := fun g hg => hsp ⟨g, hg⟩
          rw [fBody_not_lone hnl] at hbody
          split at h
          · rename_i g; exact absurd rfl (hnl g)
          · split
            · rename_i g _; exact absurd rfl (hnl g)
            · exact ⟨h.1, envSelsM_of_F e c sub _ (.object i) hbody h.2⟩
      · cases hid : sf.ty.id with
        | object i => exact absurd hid (hno i)
        | _ => simp only [hid] at h ⊢; exact envSelS_of_V e c _ pfx false hv h
    | .spread g, pfx, p => by intro _ h; rw [envSelF] at h; rw [envSelM]; exact h
    | .inline _ _, _, _ => by intro _ _; simp [envSelM]
    | .typename, _, _ => by intro _ _; simp [envSelM]
  theorem envSelsM_of_F (e : Env) (c : Ctx) : ∀ (sels : List Sel) (pfx : String) (p : TypeId), fSels c.s c.q c.o p sels = true →
      envSelsF e c pfx sels → envSelsM e c pfx sels
    | [], _, _ => by intro _ _; rw [envSelsM]; trivial
    | x :: xs, pfx, p => by
      intro ht h
      rw [envSelsF] at h
      rw [envSelsM]
      exact ⟨envSelM_of_F e c x pfx p (fSels_cons ht).1 h.1, envSelsM_of_F e c xs pfx p (fSels_cons ht).2 h.2⟩
end

mutual
  theorem looseFieldM_eq_F (s : Schema) (q : Query) (o : Options) (b : Bool) : ∀ (x : Sel) (p : TypeId), fSel s q o p x = true → ∀ v,
      looseFieldM s q o b x v = looseFieldF s q o b x v
    | .field a fid sub, p => by
      intro ht v
      obtain ⟨sf, hsf, _, _, hk⟩ := fSel_kinds ht
      rw [looseFieldM, looseFieldF]
      simp only [hsf]
      rcases hk with ⟨i, ob, hid, hob, hbody⟩ | ⟨hno, hv⟩
      · simp only [hid, hob]
        by_cases hsp : ∃ g, sub = [Sel.spread g]
        · obtain ⟨g, rfl⟩ := hsp; rfl
        · have hnl : ∀ g, sub ≠ [Sel.spread g] := fun g hg => hsp ⟨g, hg⟩
          rw [fBody_not_lone hnl] at hbody
          have h1 := looseOwnM_eq_F s q o b sub (.object i) hbody
          have h2 := looseArrM_eq_F s q o b sub (.object i) hbody
          simp only [h1, h2]
          rfl
      · cases hid : sf.ty.id with
        | object i => exact absurd hid (hno i)
        | _ => simp only []; exact looseFieldS_eq_V s q o b _ false hv v
    | .spread _, _ => by intro _ _; simp [looseFieldM, looseFieldF]
    | .inline _ _, _ => by intro _ _; simp [looseFieldM, looseFieldF]
    | .typename, _ => by intro _ _; simp [looseFieldM, looseFieldF]
  theorem looseOwnM_eq_F (s : Schema) (q : Query) (o : Options) (b : Bool) : ∀ (sels : List Sel) (p : TypeId), fSels s q o p sels = true → ∀ kvs,
      looseOwnM s q o b sels kvs = looseOwnF s q o b sels kvs
    | [], _ => by intro _ _; rw [looseOwnM, looseOwnF]
    | x :: xs, p => by
      intro ht kvs
      have ih := looseOwnM_eq_F s q o b xs p (fSels_cons ht).2 kvs
      cases x with
      | field a fid sub =>
        rw [looseOwnM, looseOwnF, ih]
        cases hsf : s.fields[fid]? with
        | none => rfl
        | some sf =>
          simp only []
          cases Json.lookup (a.getD sf.name) kvs with
          | none => rfl
          | some v => simp only [looseFieldM_eq_F s q o b _ p (fSels_cons ht).1 v]
      | spread g => rw [looseOwnM, looseOwnF, ih] <;> simp
      | inline t sub => rw [looseOwnM, looseOwnF, ih] <;> simp
      | typename => rw [looseOwnM, looseOwnF, ih] <;> simp
  theorem looseArrM_eq_F (s : Schema) (q : Query) (o : Options) (b : Bool) : ∀ (sels : List Sel) (p : TypeId), fSels s q o p sels = true → ∀ vs,
      looseArrM s q o b sels vs = looseArrF s q o b sels vs
    | [], _ => by intro _ _; rw [looseArrM, looseArrF]
    | x :: xs, p => by
      intro ht vs
      cases x with
      | field a fid sub =>
        cases vs with
        | nil => simp [looseArrM, looseArrF]
        | cons v vs' =>
          simp only [looseArrM, looseArrF, looseFieldM_eq_F s q o b _ p (fSels_cons ht).1 v,
            looseArrM_eq_F s q o b xs p (fSels_cons ht).2 vs']
      | spread g => rw [looseArrM, looseArrF, looseArrM_eq_F s q o b xs p (fSels_cons ht).2 vs] <;> simp
      | inline t sub => rw [looseArrM, looseArrF, looseArrM_eq_F s q o b xs p (fSels_cons ht).2 vs] <;> simp
      | typename => rw [looseArrM, looseArrF, looseArrM_eq_F s q o b xs p (fSels_cons ht).2 vs] <;> simp
end

theorem bodyEnvM_of_F {e : Env} {c : Ctx} {name pfx : String} {p : TypeId} {sels : List Sel}
    (ht : fBody c.s c.q c.o p sels = true) (h : BodyEnv e c name pfx sels) : BodyEnvM e c name pfx sels := by
  by_cases hsp : ∃ g, sels = [Sel.spread g]
  · obtain ⟨g, rfl⟩ := hsp; exact h
  · have hnl : ∀ g, sels ≠ [Sel.spread g] := fun g hg => hsp ⟨g, hg⟩
    rw [fBody_not_lone hnl] at ht
    unfold BodyEnv at h
    unfold BodyEnvM
    split at h
    · rename_i g; exact absurd rfl (hnl g)
    · split
      · rename_i g _; exact absurd rfl (hnl g)
      · exact ⟨h.1, envSelsM_of_F e c sels pfx p ht h.2⟩

theorem conformsLooseM_eq_F {s : Schema} {q : Query} {o : Options} {p : TypeId} {sels : List Sel}
    (ht : fBody s q o p sels = true) (b : Bool) (j : Json) :
    conformsLooseM s q o b sels j = conformsLooseF s q o b sels j := by
  by_cases hsp : ∃ g, sels = [Sel.spread g]
  · obtain ⟨g, rfl⟩ := hsp; rfl
  · have hnl : ∀ g, sels ≠ [Sel.spread g] := fun g hg => hsp ⟨g, hg⟩
    rw [fBody_not_lone hnl] at ht
    rw [conformsLooseM_not_lone hnl, conformsLooseF_not_lone hnl]
    simp only [looseOwnM_eq_F s q o b sels p ht, looseArrM_eq_F s q o b sels p ht]
    cases j <;> rfl

end C01M
end GqlVerif
