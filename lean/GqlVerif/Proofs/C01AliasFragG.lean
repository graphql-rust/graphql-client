import GqlVerif.Proofs.C01AliasFragS
/-!
# `AliasFragOp`, serde: what a struct whose flattened members satisfy `MemSpec` reads, by name

The value-level companion of `okB_deStructMapA` (`C01AliasFragS`); `deStructN_finds` of `C01NestedG` is the case of struct
items.  **`deStructA_finds`**: the record read has, under the Rust name of every own field, what `readField` reads from the
object, and under the Rust name of every flattened member `g` what `memV` (`dePath` at the member's type, buffered content)
reads from the object with some entries **whose keys are outside `K g`** filtered out.
-/

namespace GqlVerif
namespace C01AF
open Serde C01 C01.E2E C01N

/-- what the member loop produced, found again by name: each member read the object with some entries **whose keys are
    outside `K g`** filtered out (what the own fields and the earlier members took) -/
theorem memberVals_finds (keys K : RField → List String) (rd : RField → List (String × Json) → D Val)
    (kvs : List (String × Json)) : ∀ (fs : List RField) (L : List String) (fl : List (String × Val)),
    (∀ g ∈ fs, g.flatten = true → ∀ k ∈ keys g, k ∈ K g) →
    (∀ g ∈ fs, g.flatten = true → ∀ k ∈ L, k ∉ K g) →
    fs.Pairwise (fun g g' => g.flatten = true → g'.flatten = true → ∀ k ∈ K g', k ∉ K g) →
    (fs.map (·.rust)).Nodup →
    memberVals keys rd fs (kvs.filter (fun kv => !L.contains kv.1)) = .ok fl →
    ∀ g ∈ fs, g.flatten = true → ∃ x, (∃ L' : List String, (∀ k ∈ L', k ∉ K g) ∧
      rd g (kvs.filter (fun kv => !L'.contains kv.1)) = .ok x) ∧ fl.find? (·.1 == g.rust) = some (g.rust, x)
  | [], _, _, _, _, _, _, _ => fun _ hg => nomatch hg
  | g :: fs, L, fl, hsub, hL, hpw, hnd, h => by
    rw [List.pairwise_cons] at hpw
    simp only [List.map_cons, List.nodup_cons] at hnd
    have hsub' : ∀ g' ∈ fs, g'.flatten = true → ∀ k ∈ keys g', k ∈ K g' :=
      fun g' h' => hsub g' (List.mem_cons_of_mem _ h')
    intro g' hg' hfl
    cases hg : g.flatten
    · simp only [memberVals, hg, Bool.not_false, ↓reduceIte] at h
      rcases List.mem_cons.mp hg' with rfl | hg''
      · rw [hg] at hfl; cases hfl
      · exact memberVals_finds keys K rd kvs fs L fl hsub' (fun g' h' => hL g' (List.mem_cons_of_mem _ h')) hpw.2 hnd.2 h
          g' hg'' hfl
    · simp only [memberVals, hg, Bool.not_true, Bool.false_eq_true, ↓reduceIte, filter_not_append] at h
      obtain ⟨x, hx, h⟩ := C02.bind_ok h
      obtain ⟨rest, hrest, h⟩ := C02.bind_ok h
      simp only [pure, Except.pure, Except.ok.injEq] at h
      subst h
      rcases List.mem_cons.mp hg' with rfl | hg''
      · exact ⟨x, ⟨L, hL _ (by simp) hg, hx⟩, by simp⟩
      · obtain ⟨x', h1, h2⟩ := memberVals_finds keys K rd kvs fs (L ++ keys g) rest hsub'
          (fun g'' h'' hf'' k hk hkK => by
            rcases List.mem_append.mp hk with hk | hk
            · exact hL g'' (List.mem_cons_of_mem _ h'') hf'' k hk hkK
            · exact hpw.1 g'' h'' hg hf'' k hkK (hsub g (by simp) hg k hk))
          hpw.2 hnd.2 hrest g' hg'' hfl
        have hne : g.rust ≠ g'.rust := fun heq => hnd.1 (heq ▸ List.mem_map_of_mem hg'')
        have : (g.rust == g'.rust) = false := by simpa using hne
        exact ⟨x', h1, by simp only [List.find?_cons, this]; exact h2⟩

/-- **what a struct with (or without) flattened members — struct items or aliases of struct items — reads, found again by
    name** -/
theorem deStructA_finds (e : Env) (fuel : Nat) (pathD : String → Json → D Val) (fields : List RField)
    (kvs : List (String × Json)) (K : RField → List String) (hcnt : ∀ k, countKey k kvs ≤ 1)
    (hrust : (fields.map (·.rust)).Nodup)
    (hok : ∀ g ∈ fields, g.flatten = true → MemberOkA e fuel (K g) g)
    (hown : ∀ g ∈ fields, g.flatten = true → ∀ k ∈ (fields.filter (fun f => !f.flatten)).map (·.wire), k ∉ K g)
    (hpw : fields.Pairwise (fun g g' => g.flatten = true → g'.flatten = true → ∀ k ∈ K g', k ∉ K g))
    (v : Val) (hd : deStructMapWith pathD (deFlat e (fuel + 1)) fields kvs = .ok v) :
    ∃ vals, v = .record vals ∧
      (∀ f ∈ fields, f.flatten = false → ∃ x, vals.find? (·.1 == f.rust) = some (f.rust, x) ∧
        readField pathD f kvs = .ok x) ∧
      (∀ g ∈ fields, g.flatten = true → ∃ (L' : List String) (x : Val), (∀ k ∈ L', k ∉ K g) ∧
        memV e fuel g (kvs.filter (fun kv => !L'.contains kv.1)) = .ok x ∧
        vals.find? (·.1 == g.rust) = some (g.rust, x)) := by
  obtain ⟨keys, hk⟩ := memberOkA_readsAs hok
  obtain ⟨vals, hv, h1, h2⟩ := deStruct_finds_of _ _ _ pathD fields kvs hcnt hrust
    (fun hany => deStructMap_members _ keys (memV e fuel) pathD fields kvs hany (fun g hg hf => (hk g hg hf).2))
    (fun fl hfl => memberVals_finds keys K (memV e fuel) kvs fields _ fl (fun g hg hf => (hk g hg hf).1) hown hpw
      hrust hfl) v hd
  exact ⟨vals, hv, h1, fun g hg hf => let ⟨x, ⟨L', hL', hx⟩, hfd⟩ := h2 g hg hf; ⟨L', x, hL', hx, hfd⟩⟩

end C01AF
end GqlVerif
