import GqlVerif.Proofs.C02CompleteGen
/-!
# C02 (first half) — assembly: a supported input is accepted, and every emitted module is scoped iff `NoClash`

**`supported_input_accepted_and_scoped`**: `SchemaWf s`, `SchemaWfGen s`, `Valid.validDoc s true d`, `Supported s d`,
`DocVarsOk s d` ⇒ `resolve` accepts `d`; `generate` returns one module per requested operation
(`generate_succeeds`) and `response_for_query` succeeds at every operation index (`codegen_succeeds`); and, under
the hypotheses of `C02.module_well_scoped_iff` (normalization `none`, keyword-free schema type names,
`InputFieldsRelevant s`, `DocVarsInput s d`), every module returned by `generate` passes `Scope.wellScoped` iff
`C02.NoClash` holds for its operation and no item has two members of one identifier.

Pieces of its own: `outputOnly_of_valid` (validity ⇒ the `OutputOnly` hypothesis of the scope theorems),
`vars_relevant` (`DocVarsInput` ⇒ the `hvars` hypothesis), `generate_modules` (each returned module's items are
`responseForQuery c j` for an operation index `j` in range).
`DocVarsInput` is needed because "variables have input types" (GraphQL §5.8.2) is not part of `Valid.validDoc`
(`C02.object_variable_unresolved` is the witness that the scope statement fails without it).
-/
namespace GqlVerif
namespace C02All
open Codegen C02Complete C02Gen C06Sound

/-! ## `OutputOnly` from validity -/

mutual
  theorem corr_noInputCond {s : Schema} {ff : String → Option Nat} {ft : FT} {strict : Bool} :
      ∀ (x : QSel) (p : TypeId) (r : Sel), Corr s ff p x r → Valid.validSel s ft strict p x = true →
        C02.selNoInputCond r = true
    | .field a n sub, p, r, hc, hv => by
      cases hc with
      | typename => rfl
      | field hn hl hfid hleaf hsub =>
        rename_i fid f rs
        rw [C02.selNoInputCond]
        unfold Valid.validSel at hv
        have hn' : (n == "__typename") = false := by simpa using hn
        simp only [hn', Bool.false_eq_true, if_false, hl] at hv
        cases hcomp : Valid.isComposite f.ty.id with
        | false =>
          have := hleaf hcomp
          subst this
          cases hsub
          rfl
        | true =>
          simp only [hcomp, if_true, Bool.and_eq_true] at hv
          exact corrL_noInputCond sub _ _ hsub hv.1.2
    | .inline on sub, p, r, hc, hv => by
      cases hc with
      | inline ht hleaf hsub =>
        rename_i on t rs
        rw [C02.selNoInputCond]
        unfold Valid.validSel at hv
        simp only [ht, Bool.and_eq_true] at hv
        refine Bool.and_eq_true_iff.mpr ⟨?_, corrL_noInputCond sub _ _ hsub hv.2⟩
        have := hv.1.1
        cases t <;> simp_all [Valid.isComposite, TypeId.asInput?]
    | .spread n, p, r, hc, hv => by
      cases hc with
      | spread => rfl
  theorem corrL_noInputCond {s : Schema} {ff : String → Option Nat} {ft : FT} {strict : Bool} :
      ∀ (xs : List QSel) (p : TypeId) (rs : List Sel), CorrL s ff p xs rs → Valid.validSels s ft strict p xs = true →
        C02.selsNoInputCond rs = true
    | [], p, rs, hc, _ => by cases hc; rfl
    | x :: xs, p, rs, hc, hv => by
      cases hc with
      | cons hx hxs =>
        rw [C02.selsNoInputCond]
        unfold Valid.validSels at hv
        simp only [Bool.and_eq_true] at hv
        exact Bool.and_eq_true_iff.mpr ⟨corr_noInputCond x _ _ hx hv.1, corrL_noInputCond xs _ _ hxs hv.2⟩
end

/-- on a valid document the resolved query has no inline fragment on an input type; with `SchemaWfGen` this is
    the `OutputOnly` hypothesis of the scope theorems -/
theorem outputOnly_of_valid {s : Schema} {d : QDoc} {q : Query} {strict : Bool} (hsg : SchemaWfGen s = true)
    (hv : Valid.validDoc s strict d = true) (h : Resolve.resolve s d = .ok q) : C02.OutputOnly s q = true := by
  obtain ⟨hR, honF⟩ := resolve_parts h
  have hg := wfG_of hsg
  unfold Valid.validDoc at hv
  simp only [Bool.and_eq_true, List.all_eq_true] at hv
  obtain ⟨_, hdefs⟩ := hv
  unfold C02.OutputOnly
  simp only [Bool.and_eq_true, List.all_eq_true]
  refine ⟨⟨?_, ?_⟩, ?_⟩
  · intro f hf
    cases hid : f.ty.id with
    | input j => exact absurd hid (hg.noInput f hf j)
    | _ => rfl
  · intro f hf
    obtain ⟨n, on, sels, hm, hty, hc⟩ := frag_inv hR f hf
    have := hdefs _ hm
    unfold Valid.validDef at this
    simp only [hty, Bool.and_eq_true] at this
    exact corrL_noInputCond _ _ _ hc this.1
  · intro o ho
    obtain ⟨vars, sels, hm, hroot, hc⟩ := op_inv hR honF o ho
    have := hdefs _ hm
    unfold Valid.validDef at this
    simp only [hroot, Bool.and_eq_true] at this
    exact corrL_noInputCond _ _ _ hc this.1

/-! ## variables have input types -/

/-- GraphQL §5.8.2 (variables are input types) is not part of `Valid.validDoc`; the scope theorems need it -/
def DocVarsInput (s : Schema) (d : QDoc) : Bool :=
  d.all fun
    | .op _ _ vars _ => vars.all (fun vd =>
        match s.findType vd.ty.base with
        | some (.input _) | some (.enum _) | some (.scalar _) | none => true
        | _ => false)
    | _ => true

theorem vars_relevant {s : Schema} {d : QDoc} {q : Query} (h : Resolve.resolve s d = .ok q)
    (hd : DocVarsInput s d = true) : ∀ v ∈ q.variables, C02.Relevant v.ty.id := by
  intro v hv
  obtain ⟨kind, name, vars, sels, vd, hm, hvd, _, _, _, hty⟩ := resolve_vars h v hv
  unfold DocVarsInput at hd
  rw [List.all_eq_true] at hd
  have := hd _ hm
  simp only [List.all_eq_true] at this
  have := this vd hvd
  rw [hty] at this
  unfold C02.Relevant
  cases hid : v.ty.id <;> simp_all


/-! ## the modules `generate` returns -/

theorem generate_modules {s : Schema} {cs : CaseFns} {o : Options} {text : String} {d : QDoc} {q : Query}
    {ms : List Module} (hres : Resolve.resolve s d = .ok q) (h : generate s cs o text d = .ok ms) :
    ∀ m ∈ ms, ∃ j, j < q.operations.length ∧ responseForQuery { s, q, o, cs } j = .ok m.items := by
  intro m hm
  unfold generate at h
  obtain ⟨q', hq', h⟩ := C02.bind_ok h
  rw [hres] at hq'
  cases hq'
  have key : ∃ ops : List Nat, ops.mapM (fun i => (do
      let op ← q.getOperation i
      generatedModule { s, q, o, cs } text op.name : Outcome Module)) = .ok ms := by
    simp only [] at h
    split at h <;> (obtain ⟨ops, _, h⟩ := C02.bind_ok h; exact ⟨ops, h⟩)
  obtain ⟨ops, h⟩ := key
  obtain ⟨i, _, hi⟩ := C02.mapM_ok_mem h m hm
  obtain ⟨op, _, hi⟩ := C02.bind_ok hi
  unfold generatedModule at hi
  simp only [] at hi
  split at hi
  · rename_i j hj
    simp only [pure_bind] at hi
    obtain ⟨items, hitems, hi⟩ := C02.bind_ok hi
    simp only [pure, Except.pure, Except.ok.injEq] at hi
    subst hi
    exact ⟨j, selectOperation_lt hj, hitems⟩
  · obtain ⟨_, hf, _⟩ := C02.bind_ok hi
    simp [fail'] at hf

/-- **C02, first half, assembled.**  For a well-formed schema (`SchemaWf`, `SchemaWfGen`) and a document that is
    valid by the strict specification and in the supported subset (`Supported`, `DocVarsOk`):
    1. `resolve` accepts the document (`resolve_complete`);
    2. `generate` returns one module per operation it was asked for (`selectedOps`: all operations in CLI mode,
       the selected one otherwise), and `response_for_query` succeeds for every operation index;
    3. under the hypotheses of `C02.module_well_scoped_iff` (normalization `none`, `keyword_replace` is the identity
       on the names of the schema's input types / scalars / enums, input fields have input types, variables have
       input types) every emitted module passes the executable scope check `Scope.wellScoped` **iff** `NoClash`
       holds and no item has two members of the same identifier. -/
theorem supported_input_accepted_and_scoped {s : Schema} {cs : CaseFns} {o : Options} {text : String} {d : QDoc}
    (hs : SchemaWf s = true) (hsg : SchemaWfGen s = true)
    (hv : Valid.validDoc s true d = true) (hsup : Supported s d = true) (hdv : DocVarsOk s d = true) :
    ∃ q, Resolve.resolve s d = .ok q ∧
      (∀ ops, selectedOps { s, q, o, cs } = some ops →
        ∃ ms, generate s cs o text d = .ok ms ∧ ms.length = ops.length) ∧
      (∀ i, i < q.operations.length → ∃ items, responseForQuery { s, q, o, cs } i = .ok items) ∧
      (o.normalization = .none →
        (∀ i ∈ s.inputs, keywordReplace i.name = i.name) → (∀ n ∈ s.scalars, keywordReplace n = n) →
        (∀ e ∈ s.enums, keywordReplace e.name = e.name) →
        C02.InputFieldsRelevant s = true → DocVarsInput s d = true →
        ∀ ms, generate s cs o text d = .ok ms → ∀ m ∈ ms, ∃ j, j < q.operations.length ∧
          responseForQuery { s, q, o, cs } j = .ok m.items ∧
          (Scope.wellScoped m.items (C02.moduleSupplied { s, q, o, cs }) = true ↔
            C02.NoClash { s, q, o, cs } j = true ∧ ∀ it ∈ m.items, (C02.memberIdents it).Nodup)) := by
  obtain ⟨q, hres⟩ := resolve_complete hs hv hsup
  have hq := resolve_queryWf hs hres
  have hvg := varsGenOk_of_doc hres hdv
  refine ⟨q, hres, ?_, ?_, ?_⟩
  · intro ops hops
    exact generate_succeeds hres hs hsg hq hvg hops
  · intro i hi
    exact codegen_succeeds (c := { s, q, o, cs }) hs hsg hq hvg hi
  · intro hnorm hkwI hkwS hkwE hrel hdi ms hms m hm
    obtain ⟨j, hj, hitems⟩ := generate_modules hres hms m hm
    refine ⟨j, hj, hitems, ?_⟩
    exact C02.module_well_scoped_iff { s, q, o, cs } j m.items hnorm hkwI hkwS hkwE
      (outputOnly_of_valid hsg hv hres) hrel
      (fun v hv' => vars_relevant hres hdi v (List.mem_filter.mp hv').1) hitems


/-- non-vacuity: every hypothesis of `supported_input_accepted_and_scoped` (including those of part 3) holds of the
    instance `goodSdl` / `goodDoc` of `Proofs/C02CompleteGen.lean`, and the three generated modules pass the scope check -/
example : (match Sdl.fromSdl goodSdl with
    | .ok s =>
      match Resolve.resolve s goodDoc with
      | .ok q =>
        let c : Ctx := { s, q, o := {}, cs := ⟨id, id⟩ }
        SchemaWf s && SchemaWfGen s && Valid.validDoc s true goodDoc && Supported s goodDoc && DocVarsOk s goodDoc &&
        C02.InputFieldsRelevant s && DocVarsInput s goodDoc &&
        s.inputs.all (fun i => keywordReplace i.name == i.name) && s.scalars.all (fun n => keywordReplace n == n) &&
        s.enums.all (fun e => keywordReplace e.name == e.name) &&
        (match generate s ⟨id, id⟩ {} "" goodDoc with
          | .ok ms => ms.length == 3 && ms.all (fun m => Scope.wellScoped m.items (C02.moduleSupplied c))
          | .error _ => false)
      | .error _ => false
    | .error _ => false) = true := by decide +kernel

end C02All
end GqlVerif
