import GqlVerif.Model.Query
/-!
# Induction over selections

`Sel` is nested through `List Sel`, so its recursor has one motive for selections and one for lists of
selections.  `Sel.ind` fixes the second motive to "every member": a property of selections is proved
with, at `.field` and `.inline`, the property for every member of the sub-selection.

Predicates and hypotheses on selection *sets* are written in this development as companions of the
ones on selections (`ps [] = true`, `ps (x :: xs) = (p x && ps xs)`); `all_of_eqns` /
`forall_mem_of_eqns` say that such a companion is `List.all p` / `∀ x ∈ l, P x`.
-/
namespace GqlVerif

theorem Sel.ind {P : Sel → Prop}
    (field : ∀ a fid sub, (∀ y ∈ sub, P y) → P (.field a fid sub))
    (inline : ∀ t sub, (∀ y ∈ sub, P y) → P (.inline t sub))
    (spread : ∀ g, P (.spread g)) (typename : P .typename) : ∀ x, P x :=
  @Sel.rec P (fun l => ∀ y ∈ l, P y) field inline spread typename
    (fun _ h => nomatch h)
    (fun _ _ hx hxs y hy => by
      rcases List.mem_cons.mp hy with rfl | h
      · exact hx
      · exact hxs y h)

theorem all_of_eqns {α} {p : α → Bool} {ps : List α → Bool} (nil : ps [] = true)
    (cons : ∀ x xs, ps (x :: xs) = (p x && ps xs)) : ∀ l, ps l = l.all p
  | [] => nil
  | x :: xs => by rw [cons, List.all_cons, all_of_eqns nil cons xs]

theorem forall_mem_of_eqns {α} {P : α → Prop} {Ps : List α → Prop} (nil : Ps [])
    (cons : ∀ x xs, Ps (x :: xs) ↔ P x ∧ Ps xs) : ∀ l, Ps l ↔ ∀ x ∈ l, P x
  | [] => by simp [nil]
  | x :: xs => by rw [cons, forall_mem_of_eqns nil cons xs, List.forall_mem_cons]

/-- `Sel.ind` for statements about the `.field` selections of a class in which inline fragments occur at abstract
    positions: at `.field a fid sub` the statement is also available for the members of the bodies of the inline
    fragments of `sub`. -/
theorem Sel.indInl {Q : Sel → Prop}
    (field : ∀ a fid sub, (∀ y ∈ sub, Q y) → (∀ t isub, Sel.inline t isub ∈ sub → ∀ y ∈ isub, Q y) →
      Q (.field a fid sub))
    (inline : ∀ t sub, (∀ y ∈ sub, Q y) → Q (.inline t sub)) (spread : ∀ g, Q (.spread g))
    (typename : Q .typename) : ∀ x, Q x := by
  have h : ∀ x, Q x ∧ ∀ t isub, x = Sel.inline t isub → ∀ y ∈ isub, Q y := by
    intro x
    induction x using Sel.ind with
    | field a fid sub IH =>
      exact ⟨field a fid sub (fun y hy => (IH y hy).1) (fun t isub hm => (IH _ hm).2 t isub rfl),
        fun _ _ h => nomatch h⟩
    | inline t sub IH =>
      refine ⟨inline t sub (fun y hy => (IH y hy).1), fun _ _ h y hy => ?_⟩
      cases h
      exact (IH y hy).1
    | spread g => exact ⟨spread g, fun _ _ h => nomatch h⟩
    | typename => exact ⟨typename, fun _ _ h => nomatch h⟩
  exact fun x => (h x).1

end GqlVerif
