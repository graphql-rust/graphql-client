import GqlVerif.Proofs.C01VariantSpreadF
/-!
# C01 / C03 end to end: fragment spreads at abstract positions (`VariantSpreadOp`): what the emitted types accept, exactly

* `conformsLooseS s q o b sels j` / `conformsLooseAbsS s q o b ty sub j` — the exact acceptance predicates of the struct
  emitted for an object-level selection set and of the type(s) emitted at an abstract position.  As `conformsLooseV` /
  `conformsLooseAbs`, and:
  (a) the payload of the variant `T` accepts the other entries iff the own fields of the inline fragment on `T` accept
  them (`loosePayS`) **and every fragment on `T` that is spread accepts them, read as buffered content** (`looseMemS`) —
  whether the payload is the alias of the fragment struct (a lone spread) or a struct with flattened members;
  (b) every fragment on the abstract type itself that is spread accepts **all the entries the own fields left**
  (`looseMemB`: `conformsLooseAbs … true` of the fragment's body — its struct has a flattened member / it is an internally
  tagged enum, both *borrow*), the position is then a struct even without interface-level field (`hasStruct`), so its
  tagged enum is read from buffered content (integer tags accepted, known finding `C03-typename-index`).
* serde: the struct at an abstract position is read by `okB_absEnv` of `C01AbstractB` (all its flattened members borrow:
  `deStructMap_borrow`, no disjointness needed); `deStructMap_flat` of `C01AbstractG` is used for the variant structs
  (members that take).
* `structS_accepts_iff`, `absS_accepts_iff` — acceptance is exactly these predicates (`accSelS`, by induction over the selection
  tree with the bodies of inline fragments, `Sel.indInl`; `accSelsS` / `accInlS` from it; `accVariantS` for one variant's
  payload, `accMemB` for the members of part (b)).
* specification: `conformsV` on `expandSels c.q sels` (every spread replaced by the inline fragment
  `... on T { body }`); `conformsS_loose`: conforming ⇒ accepted (`strict_loose_abs_w`, `confSelsV_filter`, `slMemB` for
  part (b)).
-/

namespace GqlVerif
namespace C01
namespace E2E
open Serde Spec C13 C03 Codegen

/-- the flattened members of the variant `vt`: every fragment on `vt` that is spread reads its fields from the other
    entries, as buffered content -/
def looseMemS (s : Schema) (q : Query) (o : Options) (vt : TypeId) : List Sel → List (String × Json) → Bool
  | [], _ => true
  | .spread g :: xs, rest =>
    (match q.fragments[g]? with
     | some f => f.on != vt || looseSelsV s o true f.sels rest
     | none => true) && looseMemS s q o vt xs rest
  | _ :: xs, rest => looseMemS s q o vt xs rest

/-- a spread of a fragment on the abstract type `ty` itself -/
def isBSpread (q : Query) (ty : TypeId) : Sel → Bool
  | .spread g => (match q.fragments[g]? with | some f => f.on == ty | none => false)
  | _ => false

/-- the type at the position is a struct (own fields or flattened fragment members, then `on`), not the tagged enum alone -/
def hasStruct (q : Query) (ty : TypeId) (sub : List Sel) : Bool :=
  sub.any isFieldSel || sub.any (isBSpread q ty)

/-- the entries the flattened members (fragments on `ty`, then the tagged enum `on`) see: those the own fields left -/
def absRest (s : Schema) (q : Query) (ty : TypeId) (sub : List Sel) (kvs : List (String × Json)) : List (String × Json) :=
  if hasStruct q ty sub then kvs.filter (fun kv => !(fieldKeys s sub).contains kv.1) else kvs

/-- the flattened members for spreads of fragments on the abstract type `ty` itself (part (b)): each reads **all** the
    entries the own fields left (a struct with a flattened member and an internally tagged enum *borrow*), as the
    type(s) of an abstract position of `VariantOp` do (`conformsLooseAbs`) -/
def looseMemB (s : Schema) (q : Query) (o : Options) (ty : TypeId) : List Sel → List (String × Json) → Bool
  | [], _ => true
  | .spread g :: xs, rest =>
    (match q.fragments[g]? with
     | some f => f.on != ty || conformsLooseAbs s o true ty f.sels (.obj rest)
     | none => true) && looseMemB s q o ty xs rest
  | _ :: xs, rest => looseMemB s q o ty xs rest

mutual
  def looseFieldS (s : Schema) (q : Query) (o : Options) (b : Bool) : Sel → Json → Bool
    | .field _ fid sub, v =>
      match s.fields[fid]? with
      | none => false
      | some sf =>
        match sf.ty.id with
        | .scalar k => (match s.scalars[k]? with
          | some n => accepts (scalarOk n) (gtyOf sf.ty.quals) v
          | none => false)
        | .enum k => (match s.enums[k]? with
          | some _ => accepts stringOk (gtyOf sf.ty.quals) v
          | none => false)
        | .object i => (match s.objects[i]? with
          | some _ => accepts (fun j => match j with
              | .obj kvs' => looseSelsS s q o b sub kvs'
              | .arr xs => looseArrS s q o b sub xs
              | _ => false) (gtyOf sf.ty.quals) v
          | none => false)
        | .input _ => false
        | ty =>
          match loneG sub with
          | some g =>
            -- a lone spread of a fragment on the abstract type itself: what the fragment's own type accepts
            (match q.fragments[g]? with
             | some f => accepts (conformsLooseAbs s o b ty f.sels) (gtyOf sf.ty.quals) v
             | none => false)
          | none =>
          accepts (fun j => match j with
            | .obj kvs' =>
              looseSelsS s q o b sub kvs' &&
              looseMemB s q o ty sub (absRest s q ty sub kvs') &&
              tagOkV s o (hasStruct q ty sub || b) (vtsOfTy s ty)
                (fun vt rest => loosePayS s q o vt sub rest && looseMemS s q o vt sub rest)
                (absRest s q ty sub kvs')
            | _ => false) (gtyOf sf.ty.quals) v
    | _, _ => true
  def looseSelsS (s : Schema) (q : Query) (o : Options) (b : Bool) : List Sel → List (String × Json) → Bool
    | [], _ => true
    | .field a fid sub :: xs, kvs =>
      (match s.fields[fid]? with
       | none => false
       | some sf =>
         decide (countKey (a.getD sf.name) kvs ≤ 1) &&
         (match Json.lookup (a.getD sf.name) kvs with
          | none => nullableQ sf.ty.quals
          | some v => looseFieldS s q o b (.field a fid sub) v)) && looseSelsS s q o b xs kvs
    | _ :: xs, kvs => looseSelsS s q o b xs kvs
  def looseArrS (s : Schema) (q : Query) (o : Options) (b : Bool) : List Sel → List Json → Bool
    | [], _ => true
    | .field a fid sub :: xs, vs =>
      (match vs with
       | [] => false
       | v :: vs' => looseFieldS s q o b (.field a fid sub) v && looseArrS s q o b xs vs')
    | _ :: xs, vs => looseArrS s q o b xs vs
  /-- the own fields of the variant struct of `vt` (those of the inline fragment on `vt`), read from buffered content -/
  def loosePayS (s : Schema) (q : Query) (o : Options) (vt : TypeId) : List Sel → List (String × Json) → Bool
    | [], _ => true
    | .inline t isub :: xs, rest => (t != vt || looseSelsS s q o true isub rest) && loosePayS s q o vt xs rest
    | _ :: xs, rest => loosePayS s q o vt xs rest
end

/-- what the generated `ResponseData` (or any struct of an object-level selection set) of the class accepts -/
def conformsLooseS (s : Schema) (q : Query) (o : Options) (b : Bool) (sels : List Sel) : Json → Bool
  | .obj kvs => looseSelsS s q o b sels kvs
  | .arr xs => looseArrS s q o b sels xs
  | _ => false

/-- … and the type emitted at an abstract position -/
def conformsLooseAbsS (s : Schema) (q : Query) (o : Options) (b : Bool) (ty : TypeId) (sub : List Sel) : Json → Bool
  | .obj kvs' =>
    looseSelsS s q o b sub kvs' &&
    looseMemB s q o ty sub (absRest s q ty sub kvs') &&
    tagOkV s o (hasStruct q ty sub || b) (vtsOfTy s ty)
      (fun vt rest => loosePayS s q o vt sub rest && looseMemS s q o vt sub rest)
      (absRest s q ty sub kvs')
  | _ => false

theorem looseLambdaS (s : Schema) (q : Query) (o : Options) (b : Bool) (sub : List Sel) :
    (fun j => match j with
      | Json.obj kvs' => looseSelsS s q o b sub kvs'
      | Json.arr xs => looseArrS s q o b sub xs
      | _ => false) = conformsLooseS s q o b sub := by
  funext j; cases j <;> rfl

theorem looseLambdaAbsS (s : Schema) (q : Query) (o : Options) (b : Bool) (ty : TypeId) (sub : List Sel) :
    (fun j => match j with
      | Json.obj kvs' =>
        looseSelsS s q o b sub kvs' &&
        looseMemB s q o ty sub (absRest s q ty sub kvs') &&
        tagOkV s o (hasStruct q ty sub || b) (vtsOfTy s ty)
          (fun vt rest => loosePayS s q o vt sub rest && looseMemS s q o vt sub rest)
          (absRest s q ty sub kvs')
      | _ => false) = conformsLooseAbsS s q o b ty sub := by
  funext j; cases j <;> rfl

/-! ## what the theorems need of the environment -/

/-- the item of the variant `vt`: nothing, the alias of the fragment struct, or the variant struct -/
def VarEnv (e : Env) (c : Ctx) (pfx : String) (vt : TypeId) (sub : List Sel) : Prop :=
  match mineOf c.q vt sub with
  | [] => True
  | [.spread g] => AliasEnv e (pfx ++ "On" ++ objName c.s vt) (fragName c g)
  | _ => StructEnv e (pfx ++ "On" ++ objName c.s vt) (varFields c pfx vt sub)

/-- the item(s) of the fragment `g` (struct for a fragment on an object type; struct with the flattened `on` + tagged
    enum, or the tagged enum alone, for a fragment on an abstract type) and its nested items are what its name resolves to -/
def FragEnvS (e : Env) (c : Ctx) (g : Nat) : Prop :=
  match c.q.fragments[g]? with
  | some f =>
    (if f.on.isAbstract then
       AbsEnv e f.name (fieldsOfV c (c.cs.camel f.name) f.sels) (variantsV c (c.cs.camel f.name) f.on f.sels)
     else StructEnv e f.name (fieldsOfV c (c.cs.camel f.name) f.sels)) ∧
    envSelsV e c (c.cs.camel f.name) f.sels
  | none => True

theorem fragEnv_of_S {e : Env} {c : Ctx} {g : Nat} {f : RFragment} {i : Nat} (h : FragEnvS e c g)
    (hf : c.q.fragments[g]? = some f) (hon : f.on = .object i) : FragEnv e c g := by
  unfold FragEnvS at h
  unfold FragEnv
  rw [hf] at h ⊢
  simpa [hon, TypeId.isAbstract] using h

mutual
  def envSelS (e : Env) (c : Ctx) (pfx : String) : Sel → Prop
    | .field a fid sub =>
      match c.s.fields[fid]? with
      | none => True
      | some sf =>
        match sf.ty.id with
        | .scalar k => (match c.s.scalars[k]? with | some sn => ScalarEnv e sn | none => True)
        | .enum k => (match c.s.enums[k]? with | some en => EnumEnv e en.name | none => True)
        | .object _ =>
          StructEnv e (pfx ++ c.cs.camel (a.getD sf.name)) (fieldsOfV c (pfx ++ c.cs.camel (a.getD sf.name)) sub) ∧
          envSelsS e c (pfx ++ c.cs.camel (a.getD sf.name)) sub
        | .input _ => True
        | ty =>
          match loneG sub with
          | some g => AliasEnv e (pfx ++ c.cs.camel (a.getD sf.name)) (fragName c g) ∧ FragEnvS e c g
          | none =>
          AbsEnv e (pfx ++ c.cs.camel (a.getD sf.name)) (fieldsB c (pfx ++ c.cs.camel (a.getD sf.name)) ty sub)
            (variantsV c (pfx ++ c.cs.camel (a.getD sf.name)) ty (marks c.q sub)) ∧
          (∀ vt ∈ vtsOfTy c.s ty, VarEnv e c (pfx ++ c.cs.camel (a.getD sf.name)) vt sub) ∧
          envSelsS e c (pfx ++ c.cs.camel (a.getD sf.name)) sub
    | .inline t isub => envSelsS e c (pfx ++ "On" ++ c.cs.camel (objName c.s t)) isub
    | .spread g => FragEnvS e c g
    | .typename => True
  def envSelsS (e : Env) (c : Ctx) (pfx : String) : List Sel → Prop
    | [] => True
    | x :: xs => envSelS e c pfx x ∧ envSelsS e c pfx xs
end

theorem envSelsS_mem {e : Env} {c : Ctx} {pfx : String} : ∀ {sels : List Sel}, envSelsS e c pfx sels →
    ∀ x ∈ sels, envSelS e c pfx x :=
  fun {sels} => (forall_mem_of_eqns (Ps := envSelsS e c pfx) (by rw [envSelsS]; trivial) (fun _ _ => by rw [envSelsS]) sels).mp

theorem depthsF_pos_of_mem (q : Query) {sels : List Sel} {x : Sel} (h : x ∈ sels) : 1 ≤ depthsF q sels := by
  have h1 := depthsF_mem q h
  have h2 : 1 ≤ depthF q x := by cases x <;> simp [depthF]
  omega

/-! ## facts about the emitted fields of a selection set of the class -/

theorem fieldOfSelV_s (c : Ctx) (pfx : String) (abs : Bool) (a : Option String) (fid : Nat) (sub : List Sel)
    (ht : sSel c.s c.q c.o abs (.field a fid sub) = true) :
    ∃ sf ft, c.s.fields[fid]? = some sf ∧ leafNameV c pfx (a.getD sf.name) sf.ty.id = some ft ∧
      fieldOfSelV c pfx (.field a fid sub) = some (fieldOf c (a.getD sf.name) ft sf.ty.quals sf.deprecation) ∧
      wfQuals sf.ty.quals = true := by
  obtain ⟨sf, hsf, hw, _, hk⟩ := sSel_kinds ht
  rcases hk with ⟨k, sn, hid, hk, _⟩ | ⟨k, en, hid, hk, _⟩ | ⟨i, _, hid, _⟩ | ⟨k, hid, _⟩ | ⟨k, hid, _⟩
  · exact ⟨sf, sn, hsf, by simp [leafNameV, hid, hk], by simp [fieldOfSelV, hsf, leafNameV, hid, hk], hw⟩
  · exact ⟨sf, en.name, hsf, by simp [leafNameV, hid, hk], by simp [fieldOfSelV, hsf, leafNameV, hid, hk], hw⟩
  all_goals
    exact ⟨sf, pfx ++ c.cs.camel (a.getD sf.name), hsf, by simp [leafNameV, hid], by simp [fieldOfSelV, hsf, leafNameV, hid], hw⟩

/-- the `.field` selections of `sels` are fields of the class; nothing is asked of its spreads and inline fragments -/
def FieldsS (c : Ctx) (abs : Bool) (sels : List Sel) : Prop :=
  ∀ a fid sub, Sel.field a fid sub ∈ sels → sSel c.s c.q c.o abs (.field a fid sub) = true

theorem FieldsS.tail {c : Ctx} {abs : Bool} {x : Sel} {xs : List Sel} (h : FieldsS c abs (x :: xs)) : FieldsS c abs xs :=
  fun a fid sub hm => h a fid sub (List.mem_cons_of_mem _ hm)

theorem fieldsS_of_sSels {c : Ctx} {abs : Bool} {sels : List Sel} (ht : sSels c.s c.q c.o abs sels = true) :
    FieldsS c abs sels :=
  fun _ _ _ hm => sSels_mem ht _ hm

/-- the wire names of the emitted fields are the response keys of the `.field` selections -/
theorem wire_fieldsOfV_fieldsS (c : Ctx) (pfx : String) (abs : Bool) : ∀ (sels : List Sel), FieldsS c abs sels →
    (fieldsOfV c pfx sels).map (·.wire) = fieldKeys c.s sels
  | [], _ => rfl
  | x :: xs, ht => by
    have ih := wire_fieldsOfV_fieldsS c pfx abs xs ht.tail
    cases x with
    | field a fid sub =>
      obtain ⟨sf, ft, hsf, _, hf, _⟩ := fieldOfSelV_s c pfx abs a fid sub (ht a fid sub List.mem_cons_self)
      rw [fieldsOfV_cons_field c pfx _ xs _ hf, List.map_cons, ih, fieldOf_wire]
      simp [fieldKeys, fieldKey, hsf]
    | spread g => rw [fieldsOfV_cons_none c pfx _ xs rfl, ih]; simp [fieldKeys, fieldKey, List.filterMap_cons]
    | inline t sub => rw [fieldsOfV_cons_none c pfx _ xs rfl, ih]; simp [fieldKeys, fieldKey, List.filterMap_cons]
    | typename => rw [fieldsOfV_cons_none c pfx _ xs rfl, ih]; simp [fieldKeys, fieldKey, List.filterMap_cons]

theorem wire_fieldsOfS (c : Ctx) (pfx : String) (abs : Bool) (sels : List Sel) (ht : sSels c.s c.q c.o abs sels = true) :
    (fieldsOfV c pfx sels).map (·.wire) = fieldKeys c.s sels :=
  wire_fieldsOfV_fieldsS c pfx abs sels (fieldsS_of_sSels ht)

theorem isEmpty_fieldsOfS (c : Ctx) (pfx : String) (abs : Bool) : ∀ (sels : List Sel), sSels c.s c.q c.o abs sels = true →
    (fieldsOfV c pfx sels).isEmpty = !sels.any isFieldSel
  | [], _ => rfl
  | x :: xs, ht => by
    obtain ⟨hx, hxs⟩ := sSels_cons ht
    have ih := isEmpty_fieldsOfS c pfx abs xs hxs
    cases x with
    | field a fid sub =>
      obtain ⟨sf, ft, hsf, _, hf, _⟩ := fieldOfSelV_s c pfx abs a fid sub hx
      rw [fieldsOfV_cons_field c pfx _ xs _ hf]; simp [isFieldSel]
    | spread g => rw [fieldsOfV_cons_none c pfx _ xs rfl, ih]; simp [isFieldSel]
    | inline t sub => rw [fieldsOfV_cons_none c pfx _ xs rfl, ih]; simp [isFieldSel]
    | typename => rw [fieldsOfV_cons_none c pfx _ xs rfl, ih]; simp [isFieldSel]

theorem looseSelsS_nofield (s : Schema) (q : Query) (o : Options) (b : Bool) (kvs : List (String × Json)) :
    ∀ (sels : List Sel), sels.any isFieldSel = false → looseSelsS s q o b sels kvs = true
  | [], _ => by simp [looseSelsS]
  | x :: xs, h => by
    simp only [List.any_cons, Bool.or_eq_false_iff] at h
    have ih := looseSelsS_nofield s q o b kvs xs h.2
    cases x with
    | field a fid sub => simp [isFieldSel] at h
    | spread g => exact ih
    | inline t sub => exact ih
    | typename => exact ih

theorem marks_fieldsOfV (c : Ctx) (pfx : String) : ∀ (sels : List Sel),
    fieldsOfV c pfx (marks c.q sels) = fieldsOfV c pfx sels
  | [] => rfl
  | x :: xs => by
    have ih := marks_fieldsOfV c pfx xs
    unfold marks fieldsOfV at ih ⊢
    rw [List.map_cons, List.filterMap_cons, List.filterMap_cons, ih]
    cases x with
    | spread g => cases hf : c.q.fragments[g]? <;> simp [markSel, hf, fieldOfSelV]
    | inline t sub => rfl
    | field a fid sub => rfl
    | typename => rfl


/-! ## the payload of one variant -/

theorem loosePayS_mineOf (s : Schema) (q : Query) (o : Options) (vt : TypeId) (rest : List (String × Json)) :
    ∀ (sub : List Sel), loosePayS s q o vt (mineOf q vt sub) rest = loosePayS s q o vt sub rest
  | [] => rfl
  | x :: xs => by
    have ih := loosePayS_mineOf s q o vt rest xs
    unfold mineOf at ih ⊢
    rw [List.filter_cons]
    cases x with
    | inline t isub =>
      by_cases htv : t = vt
      · subst htv; simp [onVt, selOn, loosePayS, ih]
      · have hne : (t != vt) = true := by simpa using htv
        simp [onVt, selOn, loosePayS, ih, htv, hne]
    | spread g =>
      by_cases hon : onVt q vt (.spread g) = true
      · simp [hon, loosePayS, ih]
      · simp [hon, loosePayS, ih]
    | field a fid sub => simp [onVt, selOn, loosePayS, ih]
    | typename => simp [onVt, selOn, loosePayS, ih]

theorem looseMemS_mineOf (s : Schema) (q : Query) (o : Options) (vt : TypeId) (rest : List (String × Json)) :
    ∀ (sub : List Sel), looseMemS s q o vt (mineOf q vt sub) rest = looseMemS s q o vt sub rest
  | [] => rfl
  | x :: xs => by
    have ih := looseMemS_mineOf s q o vt rest xs
    unfold mineOf at ih ⊢
    rw [List.filter_cons]
    cases x with
    | inline t isub =>
      by_cases hon : onVt q vt (.inline t isub) = true
      · simp [hon, looseMemS, ih]
      · simp [hon, looseMemS, ih]
    | spread g =>
      cases hf : q.fragments[g]? with
      | none => simp [onVt, selOn, looseMemS, ih, hf]
      | some f =>
        by_cases htv : f.on = vt
        · simp [onVt, selOn, looseMemS, ih, hf, htv]
        · have hne : (f.on != vt) = true := by simpa using htv
          simp [onVt, selOn, looseMemS, ih, hf, htv, hne]
    | field a fid sub => simp [onVt, selOn, looseMemS, ih]
    | typename => simp [onVt, selOn, looseMemS, ih]

/-- the own fields of the variant struct -/
def varOwn (c : Ctx) (pfx : String) (vt : TypeId) : List Sel → List RField
  | [] => []
  | .inline t isub :: xs =>
    (if t == vt then fieldsOfV c (pfx ++ "On" ++ c.cs.camel (objName c.s t)) isub else []) ++ varOwn c pfx vt xs
  | _ :: xs => varOwn c pfx vt xs

/-- its flattened members -/
def varMem (c : Ctx) (vt : TypeId) : List Sel → List RField
  | [] => []
  | .spread g :: xs =>
    (match c.q.fragments[g]? with
     | some f => if f.on == vt then [memberField c f] else []
     | none => []) ++ varMem c vt xs
  | _ :: xs => varMem c vt xs

theorem varFields_own (c : Ctx) (pfx : String) (vt : TypeId) : ∀ (sub : List Sel),
    (varFields c pfx vt sub).filter (fun f => !f.flatten) = varOwn c pfx vt sub
  | [] => rfl
  | x :: xs => by
    have ih := varFields_own c pfx vt xs
    cases x with
    | inline t isub =>
      rw [varFields, varOwn, List.filter_append, ih]
      split
      · rw [filter_plain (plain_fieldsOfV c _ isub)]
      · rfl
    | spread g =>
      have e1 : varOwn c pfx vt (Sel.spread g :: xs) = varOwn c pfx vt xs := by simp [varOwn]
      rw [varFields, e1, List.filter_append, ih]
      cases hf : c.q.fragments[g]? with
      | none => rfl
      | some f => simp only []; split <;> simp [memberField]
    | field a fid sub => exact ih
    | typename => exact ih

theorem varFields_mem (c : Ctx) (pfx : String) (vt : TypeId) : ∀ (sub : List Sel),
    (varFields c pfx vt sub).filter (·.flatten) = varMem c vt sub
  | [] => rfl
  | x :: xs => by
    have ih := varFields_mem c pfx vt xs
    cases x with
    | inline t isub =>
      have e1 : varMem c vt (Sel.inline t isub :: xs) = varMem c vt xs := by simp [varMem]
      rw [varFields, e1, List.filter_append, ih]
      split
      · rw [filter_flatten_plain (plain_fieldsOfV c _ isub)]; rfl
      · rfl
    | spread g =>
      rw [varFields, varMem, List.filter_append, ih]
      cases hf : c.q.fragments[g]? with
      | none => rfl
      | some f => simp only []; split <;> simp [memberField]
    | field a fid sub => exact ih
    | typename => exact ih

theorem plain_varOwn (c : Ctx) (pfx : String) (vt : TypeId) (sub : List Sel) : plain (varOwn c pfx vt sub) = true := by
  rw [← varFields_own]
  simp only [plain, List.all_eq_true, List.mem_filter]
  intro f hf; exact hf.2

theorem memberFields_member (e : Env) (c : Ctx) (g : Nat) (f : RFragment) (hf : c.q.fragments[g]? = some f)
    (he : FragEnv e c g) :
    memberFields e (memberField c f) = fieldsOfV c (c.cs.camel f.name) f.sels ∧ MemberOk e (memberField c f) := by
  unfold FragEnv at he
  rw [hf] at he
  obtain ⟨⟨_, _, n, d, cr, hfind⟩, _⟩ := he
  have h1 : memberFields e (memberField c f) = fieldsOfV c (c.cs.camel f.name) f.sels := by
    simp [memberFields, memberField, hfind]
  exact ⟨h1, f.name, n, d, cr, rfl, by rw [h1]; exact hfind, by rw [h1]; exact plain_fieldsOfV _ _ _⟩

/-- a struct with own fields and flattened plain-struct members (or none), as acceptance -/
theorem okB_deStructMap_flat (e : Env) (fuel : Nat) (pathD : String → Json → D Val) (fields : List RField)
    (kvs : List (String × Json))
    (hok : ∀ g ∈ fields, g.flatten = true → MemberOk e g)
    (hown : ∀ g ∈ fields, g.flatten = true → ∀ k ∈ memberKeys e g,
      k ∉ (fields.filter (fun f => !f.flatten)).map (·.wire))
    (hpw : fields.Pairwise (fun g g' => g.flatten = true → g'.flatten = true →
      ∀ k ∈ memberKeys e g', k ∉ memberKeys e g)) :
    okB (deStructMapWith pathD (deFlat e (fuel + 1)) fields kvs) =
      (okB (deOwnWith pathD (fields.filter (fun f => !f.flatten)) kvs) &&
       (fields.filter (·.flatten)).all (fun g => okB (deOwnWith (dePath e true fuel) (memberFields e g) kvs))) := by
  cases hany : fields.any (·.flatten)
  · have hpl : plain fields = true := by
      simp only [plain, List.all_eq_true]
      intro f hf
      have := List.any_eq_false.mp hany f hf
      simpa using this
    rw [deStructMap_plain _ _ _ _ hpl, okB_map, filter_plain hpl, filter_flatten_plain hpl]
    simp
  · rw [deStructMap_flat e fuel pathD fields kvs hany hok hown hpw, okB_bind2, okB_flatVals]

/-- the variant struct of `vt` reads exactly `varKeys`, and its flattened members are plain struct items -/
theorem readKeys_varFields (e : Env) (c : Ctx) (pfx : String) (ty vt : TypeId) (hvne : vt ≠ ty)
    (hobjvt : ∃ i, vt = .object i) : ∀ (sub : List Sel),
    sSels c.s c.q c.o true sub = true → SpreadsA c ty sub → envSelsS e c pfx sub →
    (varFields c pfx vt sub).flatMap (readKeys (memberKeys e)) = varKeys c.s c.q vt sub ∧
    ∀ g ∈ varFields c pfx vt sub, g.flatten = true → MemberOk e g
  | [], _, _, _ => by simp [varFields, varKeys]
  | x :: xs, ht, hsp, henv => by
    obtain ⟨hx, hxs⟩ := sSels_cons ht
    rw [envSelsS] at henv
    obtain ⟨ihK, ihok⟩ := readKeys_varFields e c pfx ty vt hvne hobjvt xs hxs hsp.tail henv.2
    cases x with
    | inline t isub =>
      rw [varFields, varKeys, List.flatMap_append, ihK]
      split
      · simp only [sSel, Bool.and_eq_true] at hx
        have hpl := plain_fieldsOfV c (pfx ++ "On" ++ c.cs.camel (objName c.s t)) isub
        rw [readKeys_plain _ hpl, wire_fieldsOfS c _ false isub hx.1.2]
        refine ⟨rfl, fun g hg hfl => ?_⟩
        rcases List.mem_append.mp hg with hg' | hg'
        · have := List.all_eq_true.mp hpl g hg'
          simp [hfl] at this
        · exact ihok g hg' hfl
      · exact ⟨rfl, ihok⟩
    | spread g =>
      obtain ⟨fr, hfr⟩ := hsp.frag g (by simp)
      rw [varFields, varKeys, List.flatMap_append, ihK]
      simp only [hfr]
      by_cases htv : fr.on = vt
      · obtain ⟨fr', hok, hfr', _⟩ := hsp.onVt hvne (List.mem_cons_self) (by simp [selOn, hfr, htv])
        rw [hfr] at hfr'; cases hfr'
        obtain ⟨fr', hfr', _, _, hv, _⟩ := fragOk_parts hok
        rw [hfr] at hfr'; cases hfr'
        obtain ⟨i, hi'⟩ := id hobjvt
        obtain ⟨hmf, hmok⟩ := memberFields_member e c g fr hfr (fragEnv_of_S henv.1 hfr (htv.trans hi'))
        have hmk : memberKeys e (memberField c fr) = fieldKeys c.s fr.sels := by
          unfold memberKeys; rw [hmf, wire_fieldsOfV c _ false fr.sels hv]
        simp only [htv, beq_self_eq_true, ↓reduceIte]
        refine ⟨by simp [readKeys, memberField, ← hmk], fun g' hg hfl => ?_⟩
        rcases List.mem_append.mp hg with hg' | hg'
        · rw [List.mem_singleton.mp hg']; exact hmok
        · exact ihok g' hg' hfl
      · have hne : (fr.on == vt) = false := by simpa using htv
        simp only [hne, Bool.false_eq_true, ↓reduceIte, List.flatMap_nil, List.nil_append]
        exact ⟨trivial, ihok⟩
    | field a fid sub => simpa [varFields, varKeys] using ⟨ihK, ihok⟩
    | typename => simpa [varFields, varKeys] using ⟨ihK, ihok⟩

/-- from "the field keys selected on the variant are pairwise distinct" to the hypotheses of `deStructMap_flat` -/
theorem var_flat_hyps (e : Env) (c : Ctx) (pfx : String) (ty vt : TypeId) (hvne : vt ≠ ty)
    (hobjvt : ∃ i, vt = .object i) : ∀ (sub : List Sel),
    sSels c.s c.q c.o true sub = true → SpreadsA c ty sub → envSelsS e c pfx sub → (varKeys c.s c.q vt sub).Nodup →
    (∀ g ∈ varFields c pfx vt sub, g.flatten = true → MemberOk e g ∧ ∀ k ∈ memberKeys e g, k ∈ varKeys c.s c.q vt sub) ∧
    (∀ f ∈ varFields c pfx vt sub, f.flatten = false → f.wire ∈ varKeys c.s c.q vt sub) ∧
    (∀ g ∈ varFields c pfx vt sub, g.flatten = true → ∀ k ∈ memberKeys e g,
      k ∉ ((varFields c pfx vt sub).filter (fun f => !f.flatten)).map (·.wire)) ∧
    (varFields c pfx vt sub).Pairwise (fun g g' => g.flatten = true → g'.flatten = true →
      ∀ k ∈ memberKeys e g', k ∉ memberKeys e g) :=
  fun sub ht hsp henv hnd =>
    have ⟨hK, hok⟩ := readKeys_varFields e c pfx ty vt hvne hobjvt sub ht hsp henv
    flat_hyps_of_readKeys hK hok hnd

section AccS
variable (e : Env) (c : Ctx)

def AccSelS (pfx : String) (x : Sel) : Prop :=
  ∀ abs, sSel c.s c.q c.o abs x = true → envSelS e c pfx x → ∀ f, fieldOfSelV c pfx x = some f →
    ∀ b fd, 2 * depthF c.q x + 1 ≤ fd → ∀ v, okB (deFieldWith (dePath e b fd) f v) = looseFieldS c.s c.q c.o b x v

def AccSelsS (pfx : String) (sels : List Sel) : Prop :=
  ∀ abs, sSels c.s c.q c.o abs sels = true → envSelsS e c pfx sels → ∀ b fd, 2 * depthsF c.q sels + 1 ≤ fd →
    (∀ kvs, (fieldsOfV c pfx sels).all (fun f => decide (countKey f.wire kvs ≤ 1) &&
        okB (readField (dePath e b fd) f kvs)) = looseSelsS c.s c.q c.o b sels kvs) ∧
    (∀ xs, (decide ((fieldsOfV c pfx sels).length ≤ xs.length) &&
        ((fieldsOfV c pfx sels).zip xs).all (fun p => okB (deFieldWith (dePath e b fd) p.1 p.2))) =
          looseArrS c.s c.q c.o b sels xs)

theorem accStructS (pfx name : String) (sels : List Sel) (H : AccSelsS e c pfx sels) (abs : Bool)
    (ht : sSels c.s c.q c.o abs sels = true) (henv : envSelsS e c pfx sels)
    (hs : StructEnv e name (fieldsOfV c pfx sels)) (b : Bool) (fd : Nat) (hfd : 2 * depthsF c.q sels + 2 ≤ fd) (j : Json) :
    okB (dePath e b fd name j) = conformsLooseS c.s c.q c.o b sels j := by
  obtain ⟨hp, _, n, d, cr, hfind⟩ := hs
  obtain ⟨fd', rfl⟩ : ∃ k, fd = k + 1 := ⟨fd - 1, by omega⟩
  obtain ⟨H1, H2⟩ := H abs ht henv b fd' (by omega)
  rw [okB_dePath_plain e b fd' name n d cr _ hp hfind (plain_fieldsOfV c pfx sels)]
  cases j <;> simp [H1, H2, conformsLooseS]

theorem accOwnS (pfx : String) (vt : TypeId) : ∀ (sub : List Sel),
    (∀ t isub, Sel.inline t isub ∈ sub → AccSelsS e c (pfx ++ "On" ++ c.cs.camel (objName c.s t)) isub) →
    sSels c.s c.q c.o true sub = true → envSelsS e c pfx sub → ∀ fd, 2 * depthsF c.q sub ≤ fd + 1 → ∀ rest,
    (varOwn c pfx vt sub).all (fun f => decide (countKey f.wire rest ≤ 1) &&
      okB (readField (dePath e true fd) f rest)) = loosePayS c.s c.q c.o vt sub rest
  | [], _, _, _, _, _, _ => rfl
  | x :: xs, HI, ht, henv, fd, hfd, rest => by
    obtain ⟨hx, hxs⟩ := sSels_cons ht
    rw [envSelsS] at henv
    rw [depthsF] at hfd
    have ih := accOwnS pfx vt xs (fun t isub hm => HI t isub (List.mem_cons_of_mem _ hm)) hxs henv.2 fd (by omega) rest
    cases x with
    | inline t isub =>
      rw [varOwn, loosePayS.eq_2, List.all_append, ih]
      by_cases htv : t = vt
      · subst htv
        simp only [sSel, Bool.and_eq_true] at hx
        rw [depthF] at hfd
        have := (HI t isub (by simp) false hx.1.2 henv.1 true fd (by omega)).1 rest
        simp [this]
      · have hne : (t == vt) = false := by simpa using htv
        have hne' : (t != vt) = true := by simpa using htv
        simp [hne, hne']
    | spread g => exact ih
    | field a fid sub => exact ih
    | typename => exact ih

theorem accMemS (pfx : String) (ty vt : TypeId) (hvne : vt ≠ ty) (hobjvt : ∃ i, vt = .object i) :
    ∀ (sub : List Sel), SpreadsA c ty sub → envSelsS e c pfx sub →
    ∀ fuel, 2 * depthsF c.q sub ≤ fuel + 1 → ∀ rest,
    (varMem c vt sub).all (fun g => okB (deOwnWith (dePath e true fuel) (memberFields e g) rest)) =
      looseMemS c.s c.q c.o vt sub rest
  | [], _, _, _, _, _ => rfl
  | x :: xs, hsp, henv, fuel, hfuel, rest => by
    rw [envSelsS] at henv
    rw [depthsF] at hfuel
    have ih := accMemS pfx ty vt hvne hobjvt xs hsp.tail henv.2 fuel (by omega) rest
    cases x with
    | spread g =>
      obtain ⟨fr, hfr⟩ := hsp.frag g (by simp)
      rw [varMem, looseMemS.eq_2, List.all_append, ih]
      simp only [hfr]
      by_cases htv : fr.on = vt
      · obtain ⟨fr', hok, hfr', hon⟩ := hsp.onVt hvne (List.mem_cons_self) (by simp [selOn, hfr, htv])
        rw [hfr] at hfr'; cases hfr'
        obtain ⟨fr', hfr', _, _, hv, _⟩ := fragOk_parts hok
        rw [hfr] at hfr'; cases hfr'
        obtain ⟨i, hi'⟩ := id hobjvt
        have hfe : FragEnv e c g := fragEnv_of_S henv.1 hfr (htv.trans hi')
        obtain ⟨hmf, _⟩ := memberFields_member e c g fr hfr hfe
        have henvV : envSelsV e c (c.cs.camel fr.name) fr.sels := by
          unfold FragEnv at hfe; rw [hfr] at hfe; exact hfe.2
        rw [depthF] at hfuel
        have hsels : fragSels c.q g = fr.sels := by simp [fragSels, hfr]
        rw [hsels] at hfuel
        have hacc := (accSelsV e c fr.sels (c.cs.camel fr.name) false hv henvV true fuel (by omega)).1 rest
        simp [htv, hmf, okB_deOwn' _ _ _ (plain_fieldsOfV c _ fr.sels), hacc]
      · have hne : (fr.on == vt) = false := by simpa using htv
        have hne' : (fr.on != vt) = true := by simpa using htv
        simp [hne, hne']
    | inline t isub => exact ih
    | field a fid sub => exact ih
    | typename => exact ih

theorem depthsF_filter_le (q : Query) (p : Sel → Bool) : ∀ (sels : List Sel), depthsF q (sels.filter p) ≤ depthsF q sels
  | [] => by simp
  | x :: xs => by
    have ih := depthsF_filter_le q p xs
    rw [List.filter_cons]
    split
    · rw [depthsF, depthsF]; omega
    · rw [depthsF]; omega

/-- **the payload of the variant `vt` accepts exactly `loosePayS && looseMemS`** of the other entries -/
theorem accVariantS (pfx : String) (ty : TypeId) (sub : List Sel)
    (HI : ∀ t isub, Sel.inline t isub ∈ sub → AccSelsS e c (pfx ++ "On" ++ c.cs.camel (objName c.s t)) isub)
    (hty : absHyp c.s ty) (ht : sSels c.s c.q c.o true sub = true) (hok : absOkS c.s c.q c.o ty sub = true)
    (henv : envSelsS e c pfx sub) (vt : TypeId) (hvt : vt ∈ vtsOfTy c.s ty) (hve : VarEnv e c pfx vt sub)
    (fd : Nat) (hfd : 2 * depthsF c.q sub + 1 ≤ fd) (rest : List (String × Json)) :
    pickOk (dePath e true fd) (variantOf c pfx (marks c.q sub) vt) rest =
      (loosePayS c.s c.q c.o vt sub rest && looseMemS c.s c.q c.o vt sub rest) := by
  have hsp := spreadsA_abs hty hok
  obtain ⟨hok1, _, hvk⟩ := absOkS_parts hok
  obtain ⟨_, _, hobj, _⟩ := absOk2_parts hok1
  obtain ⟨i, hvi, _⟩ := hobj vt hvt
  have hvne : vt ≠ ty := by rw [hvi]; exact obj_ne_abs hty i
  have hmem : ∀ x ∈ mineOf c.q vt sub, x ∈ sub ∧ selOn c.q x = some vt := fun x hx => mem_mineOf hx
  rw [← loosePayS_mineOf, ← looseMemS_mineOf]
  unfold pickOk variantOf
  rw [marks_contains]
  unfold VarEnv at hve
  by_cases hm : mineOf c.q vt sub = []
  · simp [hm, loosePayS, looseMemS]
  · have hemp : (mineOf c.q vt sub).isEmpty = false := by simpa using hm
    simp only [hemp, Bool.not_false, ↓reduceIte, Bool.false_eq_true]
    rw [show deTyWith (dePath e true fd) (.path (pfx ++ "On" ++ objName c.s vt)) (.obj rest) =
      dePath e true fd (pfx ++ "On" ++ objName c.s vt) (.obj rest) from rfl]
    by_cases hs : ∃ g, mineOf c.q vt sub = [Sel.spread g]
    · -- the alias of the fragment struct
      obtain ⟨g, hg⟩ := hs
      have hgm := (hmem (.spread g) (by rw [hg]; simp))
      obtain ⟨fr, hfok, hfr, hon⟩ := hsp.onVt hvne hgm.1 hgm.2
      rw [hg] at hve ⊢
      simp only at hve
      have hfe : FragEnv e c g := fragEnv_of_S (envSelsS_mem henv _ hgm.1) hfr (hon.trans hvi)
      have hdep := depthsF_mem c.q hgm.1
      rw [depthF] at hdep
      rw [accAliasF e c _ _ g hfok hve hfe true fd (by omega) (.obj rest)]
      have hsels : fragSels c.q g = fr.sels := by simp [fragSels, hfr]
      simp [loosePayS, looseMemS, hfr, hon, hsels, conformsLooseV]
    · -- the variant struct
      have hs' : ∀ g, mineOf c.q vt sub ≠ [Sel.spread g] := fun g hg => hs ⟨g, hg⟩
      have hstruct : StructEnv e (pfx ++ "On" ++ objName c.s vt) (varFields c pfx vt sub) := by
        revert hve
        split
        · rename_i h; exact absurd h hm
        · rename_i g h; exact absurd h (hs' g)
        · exact id
      obtain ⟨hp, _, n, d, cr, hfind⟩ := hstruct
      have hpos : 1 ≤ depthsF c.q sub := by
        cases hmm : mineOf c.q vt sub with
        | nil => exact absurd hmm hm
        | cons x xs =>
          exact depthsF_pos_of_mem c.q (hmem x (by rw [hmm]; simp)).1
      obtain ⟨fuel, rfl⟩ : ∃ k, fd = k + 2 := ⟨fd - 2, by omega⟩
      obtain ⟨h1, _, h3, h4⟩ := var_flat_hyps e c pfx ty vt hvne ⟨i, hvi⟩ sub ht hsp henv (hvk vt hvt)
      rw [dePath_struct e true (fuel + 1) _ n d cr _ hp hfind, deStruct_obj,
        okB_deStructMap_flat e fuel _ _ rest (fun g hg hf => (h1 g hg hf).1) h3 h4,
        varFields_own, varFields_mem, okB_deOwn' _ _ _ (plain_varOwn c pfx vt sub),
        accOwnS e c pfx vt sub HI ht henv (fuel + 1) (by omega) rest,
        accMemS e c pfx ty vt hvne ⟨i, hvi⟩ sub hsp henv fuel (by omega) rest, loosePayS_mineOf, looseMemS_mineOf]

theorem fieldsB_cons (c : Ctx) (pfx : String) (ty : TypeId) (x : Sel) (xs : List Sel) :
    fieldsB c pfx ty (x :: xs) = (fieldOfSelB c pfx ty x).toList ++ fieldsB c pfx ty xs := by
  unfold fieldsB
  rw [List.filterMap_cons]
  cases fieldOfSelB c pfx ty x <;> rfl

/-- the own (non-flattened) fields of the struct at an abstract position are `fieldsOfV` of the selection set -/
theorem own_fieldsB (c : Ctx) (pfx : String) (ty : TypeId) : ∀ (sub : List Sel),
    (fieldsB c pfx ty sub).filter (fun f => !f.flatten) = fieldsOfV c pfx sub
  | [] => rfl
  | x :: xs => by
    have ih := own_fieldsB c pfx ty xs
    have hpl := plain_fieldsOfV c pfx [x]
    rw [fieldsB_cons, List.filter_append, ih]
    cases x with
    | field a fid sub' =>
      rw [show fieldOfSelB c pfx ty (.field a fid sub') = fieldOfSelV c pfx (.field a fid sub') from rfl]
      unfold fieldsOfV at hpl ⊢
      rw [List.filterMap_cons]
      cases hfo : fieldOfSelV c pfx (.field a fid sub') with
      | none => simp
      | some f =>
        simp only [List.filterMap_cons, hfo, List.filterMap_nil, plain, List.all_cons, List.all_nil, Bool.and_true] at hpl
        simp [hpl]
    | spread g =>
      rw [fieldsOfV_cons_none c pfx _ xs rfl]
      simp only [fieldOfSelB]
      cases hf : c.q.fragments[g]? with
      | none => simp
      | some f => by_cases hon : f.on = ty <;> simp [hon, spreadField]
    | inline t sub' => rw [fieldsOfV_cons_none c pfx _ xs rfl]; simp [fieldOfSelB, fieldOfSelV]
    | typename => rw [fieldsOfV_cons_none c pfx _ xs rfl]; simp [fieldOfSelB, fieldOfSelV]

theorem isEmpty_fieldsB (c : Ctx) (pfx : String) (ty : TypeId) : ∀ (sub : List Sel), sSels c.s c.q c.o true sub = true →
    (fieldsB c pfx ty sub).isEmpty = !hasStruct c.q ty sub
  | [], _ => rfl
  | x :: xs, ht => by
    obtain ⟨hx, hxs⟩ := sSels_cons ht
    have ih := isEmpty_fieldsB c pfx ty xs hxs
    simp only [hasStruct] at ih ⊢
    rw [fieldsB_cons]
    cases x with
    | field a fid sub =>
      obtain ⟨sf, ft, _, _, hf, _⟩ := fieldOfSelV_s c pfx true a fid sub hx
      simp [fieldOfSelB, hf, isFieldSel]
    | spread g =>
      cases hf : c.q.fragments[g]? with
      | none => simpa [fieldOfSelB, hf, isFieldSel, isBSpread] using ih
      | some f =>
        by_cases hon : f.on = ty
        · simp [fieldOfSelB, hf, hon, isFieldSel, isBSpread]
        · have hne : (f.on == ty) = false := by simpa using hon
          simpa [fieldOfSelB, hf, hne, isFieldSel, isBSpread] using ih
    | inline t sub => exact ih
    | typename => exact ih

theorem looseMemB_noB (s : Schema) (q : Query) (o : Options) (ty : TypeId) (rest : List (String × Json)) :
    ∀ (sub : List Sel), sub.any (isBSpread q ty) = false → looseMemB s q o ty sub rest = true
  | [], _ => rfl
  | x :: xs, h => by
    simp only [List.any_cons, Bool.or_eq_false_iff] at h
    have ih := looseMemB_noB s q o ty rest xs h.2
    cases x with
    | spread g =>
      have h1 := h.1
      cases hf : q.fragments[g]? with
      | none => simp [looseMemB, hf, ih]
      | some f =>
        simp only [isBSpread, hf] at h1
        have : (f.on != ty) = true := by simp [bne, h1]
        simp [looseMemB, hf, this, ih]
    | field a fid sub => exact ih
    | inline t sub => exact ih
    | typename => exact ih

theorem borrows_of_absEnv {e : Env} {name : String} {fields : List RField} {vs : List RVariant} {g : RField}
    (hty : g.ty = .path name) (h : AbsEnv e name fields vs) : Borrows e g := by
  unfold AbsEnv at h
  split at h
  · obtain ⟨hp, _, n, d, cr, hfind⟩ := h
    exact ⟨name, hty, hp, .inl ⟨n, d, cr, _, _, hfind⟩⟩
  · obtain ⟨⟨hp, _, n, d, cr, hfind⟩, _⟩ := h
    exact ⟨name, hty, hp, .inr ⟨n, d, cr, _, hfind, by simp [onField]⟩⟩

/-- the members for fragments on the abstract type itself: Borrowers that accept exactly `looseMemB` -/
theorem accMemB (pfx : String) (ty : TypeId) (hty : absHyp c.s ty) : ∀ (sub : List Sel), SpreadsA c ty sub →
    envSelsS e c pfx sub → ∀ fuel, 2 * depthsF c.q sub + 1 ≤ fuel → ∀ rest,
    (∀ g ∈ fieldsB c pfx ty sub, g.flatten = true → Borrows e g) ∧
    ((fieldsB c pfx ty sub).filter (·.flatten)).all (fun g => okB (readB e fuel g rest)) =
      looseMemB c.s c.q c.o ty sub rest
  | [], _, _, _, _, _ => ⟨by simp [fieldsB], rfl⟩
  | x :: xs, hsp, henv, fuel, hfuel, rest => by
    rw [envSelsS] at henv
    rw [depthsF] at hfuel
    obtain ⟨ihb, ih⟩ := accMemB pfx ty hty xs hsp.tail henv.2 fuel (by omega) rest
    rw [fieldsB_cons, List.filter_append, List.all_append, ih]
    have hb' : ∀ (l : List RField), (∀ g ∈ l, g.flatten = true → Borrows e g) →
        ∀ g ∈ l ++ fieldsB c pfx ty xs, g.flatten = true → Borrows e g := by
      intro l hl g hg hfl
      rcases List.mem_append.mp hg with hg | hg
      · exact hl g hg hfl
      · exact ihb g hg hfl
    cases x with
    | spread g =>
      obtain ⟨fr, hfr⟩ := hsp.frag g (by simp)
      rw [looseMemB.eq_2]
      simp only [fieldOfSelB, hfr]
      by_cases hon : fr.on = ty
      · rcases hsp g (by simp) with ⟨vt, fr', _, hfr', hon', hne⟩ | ⟨fr', hokB, hfr', _⟩
        · rw [hfr] at hfr'; cases hfr'
          exact absurd (hon'.symm.trans hon) hne
        · rw [hfr] at hfr'; cases hfr'
          obtain ⟨fr', hfr', _, _, hv, hokf⟩ := fragOkB_parts hokB
          rw [hfr] at hfr'; cases hfr'
          have hfe : FragEnvS e c g := henv.1
          unfold FragEnvS at hfe
          rw [hfr] at hfe
          have hisabs : fr.on.isAbstract = true := by
            rw [hon]; exact isAbstract_of_absHyp hty
          simp only [hisabs, ↓reduceIte] at hfe
          rw [hon] at hfe
          rw [depthF] at hfuel
          have hsels : fragSels c.q g = fr.sels := by simp [fragSels, hfr]
          rw [hsels] at hfuel
          have hacc := abs_accepts_iff e c (c.cs.camel fr.name) fr.name ty fr.sels hv hokf hfe.2 hfe.1 true (fuel + 1)
            (by omega) (.obj rest)
          constructor
          · apply hb'
            intro g' hg' _
            simp only [hon, beq_self_eq_true, ↓reduceIte, Option.toList, List.mem_singleton] at hg'
            subst hg'
            exact borrows_of_absEnv rfl hfe.1
          · simp [hon, spreadField, readB, hacc]
      · have hne : (fr.on == ty) = false := by simpa using hon
        have hne' : (fr.on != ty) = true := by simpa using hon
        exact ⟨hb' _ (by simp [hne]), by simp [hne, hne']⟩
    | field a fid sub =>
      constructor
      · apply hb'
        intro g hg hfl
        simp only [fieldOfSelB, fieldOfSelV] at hg
        split at hg
        · simp at hg
        · split at hg
          · simp at hg
          · simp only [Option.toList, List.mem_singleton] at hg; subst hg; simp [fieldOf] at hfl
      · have : ((fieldOfSelB c pfx ty (.field a fid sub)).toList.filter (·.flatten)) = [] := by
          simp only [fieldOfSelB, fieldOfSelV]
          split
          · rfl
          · split
            · rfl
            · simp [fieldOf]
        simp [this, looseMemB]
    | inline t sub => exact ⟨hb' _ (by simp [fieldOfSelB, fieldOfSelV]), by simp [fieldOfSelB, fieldOfSelV, looseMemB]⟩
    | typename => exact ⟨hb' _ (by simp [fieldOfSelB, fieldOfSelV]), by simp [fieldOfSelB, fieldOfSelV, looseMemB]⟩

theorem absRest_eq (s : Schema) (q : Query) (ty : TypeId) (sub : List Sel) (kvs : List (String × Json)) :
    absRest s q ty sub kvs = kvs.filter (fun kv => !(fieldKeys s sub).contains kv.1) := by
  unfold absRest
  cases h : hasStruct q ty sub
  · simp only [hasStruct, Bool.or_eq_false_iff] at h
    simp [fieldKeys_nofield s h.1, List.filter_eq_self.mpr]
  · rfl

theorem accAbsS (pfx name : String) (ty : TypeId) (sub : List Sel) (H : AccSelsS e c pfx sub)
    (HI : ∀ t isub, Sel.inline t isub ∈ sub → AccSelsS e c (pfx ++ "On" ++ c.cs.camel (objName c.s t)) isub)
    (hty : absHyp c.s ty) (ht : sSels c.s c.q c.o true sub = true) (hok : absOkS c.s c.q c.o ty sub = true)
    (henv : envSelsS e c pfx sub) (hve : ∀ vt ∈ vtsOfTy c.s ty, VarEnv e c pfx vt sub)
    (hs : AbsEnv e name (fieldsB c pfx ty sub) (variantsV c pfx ty (marks c.q sub))) (b : Bool) (fd : Nat)
    (hfd : 2 * depthsF c.q sub + 3 ≤ fd) (j : Json) :
    okB (dePath e b fd name j) = conformsLooseAbsS c.s c.q c.o b ty sub j := by
  have hsp := spreadsA_abs hty hok
  obtain ⟨fd', rfl⟩ : ∃ k, fd = k + 2 := ⟨fd - 2, by omega⟩
  obtain ⟨H1, _⟩ := H true ht henv b (fd' + 1) (by omega)
  have hmem := accMemB e c pfx ty hty sub hsp henv fd' (by omega)
  rw [okB_absEnv hs (hmem []).1
    (fun b' kvs => tagOkV c.s c.o b' (vtsOfTy c.s ty)
      (fun vt rest => loosePayS c.s c.q c.o vt sub rest && looseMemS c.s c.q c.o vt sub rest) kvs) fd'
    (fun fd'' _ b' kvs => okB_tagged c pfx ty (marks c.q sub) _ b' _ kvs
      (fun vt hvt => accVariantS e c pfx ty sub HI hty ht hok henv vt hvt (hve vt hvt) fd'' (by omega) _)) b j]
  cases j with
  | obj kvs =>
    dsimp only [leftBy]
    rw [own_fieldsB, H1 kvs, wire_fieldsOfS c pfx true sub ht, ← absRest_eq c.s c.q ty, (hmem _).2,
      isEmpty_fieldsB c pfx ty sub ht]
    simp only [conformsLooseAbsS, Bool.not_not, Bool.and_assoc]
  | _ => rfl


/-- a lone spread of a fragment on the abstract type itself: the type alias of the fragment's type accepts what that type
    accepts -/
theorem accAliasB (name : String) (ty : TypeId) (g : Nat) (fr : RFragment) (hfr : c.q.fragments[g]? = some fr)
    (hty : absHyp c.s ty) (hok : fragOkB c.s c.q c.o ty g = true)
    (ha : AliasEnv e name (fragName c g)) (hf : FragEnvS e c g) (b : Bool) (fd : Nat)
    (hfd : 2 * selsDepth fr.sels + 4 ≤ fd) (j : Json) :
    okB (dePath e b fd name j) = conformsLooseAbs c.s c.o b ty fr.sels j := by
  obtain ⟨fr', hfr', hon, _, hv, hokf⟩ := fragOkB_parts hok
  rw [hfr] at hfr'; cases hfr'
  obtain ⟨hp, _, n, pub, hfind⟩ := ha
  unfold FragEnvS at hf
  rw [hfr] at hf
  have hisabs : fr.on.isAbstract = true := by
    rw [hon]; exact isAbstract_of_absHyp hty
  rw [hon] at hisabs
  simp only [hon, hisabs, ↓reduceIte] at hf
  have hname : fragName c g = fr.name := by simp [fragName, hfr]
  rw [hname] at hfind
  obtain ⟨fd', rfl⟩ : ∃ k, fd = k + 1 := ⟨fd - 1, by omega⟩
  have : dePath e b (fd' + 1) name j = dePath e b fd' fr.name j := by
    rw [dePath]; simp only [dePrim_none hp, hfind, deTyWith]
  rw [this]
  exact abs_accepts_iff e c _ _ ty fr.sels hv hokf hf.2 hf.1 b fd' (by omega) j

theorem accSelsS_of : ∀ (sels : List Sel) (pfx : String), (∀ x ∈ sels, AccSelS e c pfx x) → AccSelsS e c pfx sels
  | [], pfx, _ => by
    intro _ _ _ b fd _
    exact ⟨fun kvs => by simp [fieldsOfV, looseSelsS], fun xs => by simp [fieldsOfV, looseArrS]⟩
  | x :: xs, pfx, H => by
    intro abs ht henv b fd hfd
    obtain ⟨hx, hxs⟩ := sSels_cons ht
    rw [envSelsS] at henv
    rw [depthsF] at hfd
    obtain ⟨I1, I2⟩ := accSelsS_of xs pfx (fun y hy => H y (List.mem_cons_of_mem _ hy)) abs hxs henv.2 b fd (by omega)
    have IX := H x List.mem_cons_self abs hx henv.1
    cases x with
    | field a fid sub =>
      obtain ⟨sf, ft, hsf, _, hf, hw⟩ := fieldOfSelV_s c pfx abs a fid sub hx
      have IXf := IX _ hf b fd (by omega)
      have hfs := fieldsOfV_cons_field c pfx _ xs _ hf
      refine ⟨fun kvs => ?_, fun vs => ?_⟩
      · rw [hfs, List.all_cons, I1 kvs, looseSelsS.eq_2]
        simp only [hsf, fieldOf_wire, readField]
        cases hl : Json.lookup (a.getD sf.name) kvs with
        | none => simp only [missing_fieldOf]
        | some v => simp only [IXf v]
      · rw [hfs]
        cases vs with
        | nil => rw [looseArrS.eq_2]; simp
        | cons v vs' =>
          rw [looseArrS.eq_3]
          simp only [List.length_cons, List.zip_cons_cons, List.all_cons, IXf v, ← I2 vs',
            Nat.add_le_add_iff_right]
          cases looseFieldS c.s c.q c.o b (.field a fid sub) v <;> simp
    | spread g =>
      have hfs := fieldsOfV_cons_none c pfx (.spread g) xs rfl
      refine ⟨fun kvs => ?_, fun vs => ?_⟩
      · rw [hfs, I1 kvs]; simp [looseSelsS]
      · rw [hfs, I2 vs]; simp [looseArrS]
    | inline t sub =>
      have hfs := fieldsOfV_cons_none c pfx (.inline t sub) xs rfl
      refine ⟨fun kvs => ?_, fun vs => ?_⟩
      · rw [hfs, I1 kvs]; simp [looseSelsS]
      · rw [hfs, I2 vs]; simp [looseArrS]
    | typename =>
      have hfs := fieldsOfV_cons_none c pfx .typename xs rfl
      refine ⟨fun kvs => ?_, fun vs => ?_⟩
      · rw [hfs, I1 kvs]; simp [looseSelsS]
      · rw [hfs, I2 vs]; simp [looseArrS]

theorem accSelS : ∀ (x : Sel) (pfx : String), AccSelS e c pfx x := by
  intro x
  induction x using Sel.indInl with
  | spread g => intro pfx _ _ _ f hf; cases hf
  | inline t sub _ => intro pfx _ _ _ f hf; cases hf
  | typename => intro pfx _ _ _ f hf; cases hf
  | field a fid sub IHs IHIs =>
    intro pfx abs ht henv f hf b fd hfd v
    have IH : ∀ pfx, AccSelsS e c pfx sub := fun pfx => accSelsS_of e c sub pfx (fun y hy => IHs y hy pfx)
    have IHI : ∀ t isub, Sel.inline t isub ∈ sub → ∀ pfx, AccSelsS e c pfx isub :=
      fun t isub hm pfx => accSelsS_of e c isub pfx (fun y hy => IHIs t isub hm y hy pfx)
    rw [depthF] at hfd
    obtain ⟨fd', rfl⟩ : ∃ k, fd = k + 3 := ⟨fd - 3, by omega⟩
    obtain ⟨sf, hsf, hw, _, hk⟩ := sSel_kinds ht
    have hwf : wf (gtyOf sf.ty.quals) = true := by rw [wf_gtyOf]; exact hw
    rw [envSelS] at henv
    rw [looseFieldS]
    rcases hk with ⟨k, sn, hid, hk, _⟩ | ⟨k, en, hid, hk, _⟩ | ⟨i, ob, hid, hk, hsub, _⟩ |
      ⟨k, hid, hty, hsub, hokL⟩ | ⟨k, hid, hty, hsub, hokL⟩
    · simp only [hsf, hid, hk] at henv ⊢
      simp only [fieldOfSelV, hsf, leafNameV, hid, hk, Option.some.injEq] at hf
      subst hf
      by_cases hID : sn = "ID"
      · subst hID
        rw [deField_id, C16.id_field_iff _ hwf]
        simp [scalarOk]
      · rw [deField_plain _ _ _ _ hID]
        exact (ok_iff_accepts _ sn (scalarOk sn) (leaf_scalar e sn henv hID b fd') _ hwf).2 v
    · simp only [hsf, hid, hk] at henv ⊢
      simp only [fieldOfSelV, hsf, leafNameV, hid, hk, Option.some.injEq, Option.map_some] at hf
      subst hf
      obtain ⟨hp, hID, n', d, sp, vs, ser, de, hfind, _⟩ := henv
      rw [deField_plain _ _ _ _ hID]
      exact (ok_iff_accepts _ en.name stringOk
        (leaf_enum e b (fd' + 2) en.name n' d sp vs ser de hp hfind) _ hwf).2 v
    · simp only [hsf, hid, hk] at henv ⊢
      simp only [fieldOfSelV, hsf, leafNameV, hid, Option.some.injEq] at hf
      subst hf
      obtain ⟨hs, hesub⟩ := henv
      rw [deField_plain _ _ _ _ hs.2.1, looseLambdaS]
      exact (ok_iff_accepts _ _ (conformsLooseS c.s c.q c.o b sub)
        (accStructS e c _ _ sub (IH _) false hsub hesub hs b (fd' + 3) (by omega)) _ hwf).2 v
    all_goals
      simp only [hsf, hid] at henv ⊢
      simp only [fieldOfSelV, hsf, leafNameV, hid, Option.some.injEq] at hf
      subst hf
      rcases absOkL_cases hokL with ⟨hok, hlg⟩ | ⟨g, rfl, hokB⟩
      · simp only [hlg] at henv ⊢
        obtain ⟨hs, hve, hesub⟩ := henv
        have hID : pfx ++ c.cs.camel (a.getD sf.name) ≠ "ID" := by
          unfold AbsEnv at hs; split at hs
          · exact hs.2.1
          · exact hs.1.2.1
        rw [deField_plain _ _ _ _ hID, looseLambdaAbsS]
        exact (ok_iff_accepts _ _ (conformsLooseAbsS c.s c.q c.o b _ sub)
          (accAbsS e c _ _ _ sub (IH _) (fun t isub hm => IHI t isub hm _) hty hsub hok hesub hve hs b
            (fd' + 3) (by omega)) _ hwf).2 v
      · simp only [loneG_lone] at henv ⊢
        obtain ⟨fr, hfr, _⟩ := fragOkB_parts hokB
        simp only [hfr]
        rw [deField_plain _ _ _ _ henv.1.2.1]
        have hdep : depthsF c.q [Sel.spread g] = selsDepth fr.sels + 1 := by simp [depthsF, depthF, fragSels, hfr]
        rw [hdep] at hfd
        exact (ok_iff_accepts _ _ (conformsLooseAbs c.s c.o b _ fr.sels)
          (accAliasB e c _ _ g fr hfr hty hokB henv.1 henv.2 b (fd' + 3) (by omega)) _ hwf).2 v

theorem accSelsS : ∀ (sels : List Sel) (pfx : String), AccSelsS e c pfx sels :=
  fun sels pfx => accSelsS_of e c sels pfx (fun x _ => accSelS e c x pfx)

/-- the bodies of the inline fragments of a selection set -/
theorem accInlS : ∀ (sels : List Sel) (t : TypeId) (isub : List Sel), Sel.inline t isub ∈ sels →
    ∀ pfx, AccSelsS e c pfx isub :=
  fun _ _ isub _ pfx => accSelsS e c isub pfx

end AccS

/-- the struct named `name` emitted for the object-level selection set `sels` accepts exactly `conformsLooseS` -/
theorem structS_accepts_iff (e : Env) (c : Ctx) (pfx name : String) (sels : List Sel) (abs : Bool)
    (ht : sSels c.s c.q c.o abs sels = true) (henv : envSelsS e c pfx sels)
    (hs : StructEnv e name (fieldsOfV c pfx sels)) (b : Bool) (fd : Nat) (hfd : 2 * depthsF c.q sels + 2 ≤ fd) (j : Json) :
    okB (dePath e b fd name j) = conformsLooseS c.s c.q c.o b sels j :=
  accStructS e c pfx name sels (accSelsS e c sels pfx) abs ht henv hs b fd hfd j

/-- the type emitted at an abstract position accepts exactly `conformsLooseAbsS` -/
theorem absS_accepts_iff (e : Env) (c : Ctx) (pfx name : String) (ty : TypeId) (sub : List Sel)
    (hty : absHyp c.s ty) (ht : sSels c.s c.q c.o true sub = true) (hok : absOkS c.s c.q c.o ty sub = true)
    (henv : envSelsS e c pfx sub) (hve : ∀ vt ∈ vtsOfTy c.s ty, VarEnv e c pfx vt sub)
    (hs : AbsEnv e name (fieldsB c pfx ty sub) (variantsV c pfx ty (marks c.q sub))) (b : Bool) (fd : Nat)
    (hfd : 2 * depthsF c.q sub + 3 ≤ fd) (j : Json) :
    okB (dePath e b fd name j) = conformsLooseAbsS c.s c.q c.o b ty sub j :=
  accAbsS e c pfx name ty sub (accSelsS e c sub pfx) (fun t isub hm => accInlS e c sub t isub hm _) hty ht hok henv hve
    hs b fd hfd j


/-! ## strict ⇒ loose (specification: `conformsV` on the selection set with every spread expanded) -/

/-- the own-field predicate only looks at the keys of the `.field` selections -/
theorem looseSelsS_filter (s : Schema) (q : Query) (o : Options) (b : Bool) (p : String × Json → Bool)
    (kvs : List (String × Json)) : ∀ (sels : List Sel), (∀ k ∈ fieldKeys s sels, ∀ v, p (k, v) = true) →
      looseSelsS s q o b sels (kvs.filter p) = looseSelsS s q o b sels kvs
  | [], _ => by simp [looseSelsS]
  | x :: xs, h => by
    cases x with
    | field a fid sub =>
      rw [looseSelsS.eq_2, looseSelsS.eq_2]
      cases hsf : s.fields[fid]? with
      | none => rfl
      | some sf =>
        have hk : ∀ v, p (a.getD sf.name, v) = true := h _ (by simp [fieldKeys, fieldKey, hsf])
        have ih := looseSelsS_filter s q o b p kvs xs (fun k hk' => h k (by
          simp only [fieldKeys, List.filterMap_cons, fieldKey, hsf, Option.map_some] at hk' ⊢
          exact List.mem_cons_of_mem _ hk'))
        simp only [countKey_filter p _ hk, lookup_filter p _ hk, ih]
    | spread g =>
      have ih := looseSelsS_filter s q o b p kvs xs (fun k hk' => h k (by simpa [fieldKeys, List.filterMap_cons, fieldKey] using hk'))
      exact ih
    | inline t sub =>
      have ih := looseSelsS_filter s q o b p kvs xs (fun k hk' => h k (by simpa [fieldKeys, List.filterMap_cons, fieldKey] using hk'))
      exact ih
    | typename =>
      have ih := looseSelsS_filter s q o b p kvs xs (fun k hk' => h k (by simpa [fieldKeys, List.filterMap_cons, fieldKey] using hk'))
      exact ih

theorem expandSels_typename (q : Query) {sub : List Sel} (h : sub.any isTypename = true) :
    Sel.typename ∈ expandSels q sub := by
  have := expandSels_mem q (typename_mem h)
  simpa [expandSel] using this

section SLS
variable (s : Schema) (q : Query) (o : Options)

def SLSelsS (sels : List Sel) : Prop :=
  ∀ abs b rt kvs, sSels s q o abs sels = true → (∀ k, countKey k kvs ≤ 1) →
    confSelsV s rt (expandSels q sels) kvs = true → looseSelsS s q o b sels kvs = true

def SLPayS (sels : List Sel) : Prop :=
  ∀ rt kvs rest, sSels s q o true sels = true → (∀ k, countKey k kvs ≤ 1) →
    confSelsV s rt (expandSels q sels) kvs = true →
    (∀ t isub, Sel.inline t isub ∈ sels → t = .object rt →
      looseSelsS s q o true isub rest = looseSelsS s q o true isub kvs) →
    loosePayS s q o (.object rt) sels rest = true

/-- the flattened members of the variant of the runtime type accept the entries of a conforming response object -/
theorem slMemS (rt : Nat) (kvs rest : List (String × Json)) (hc : ∀ k, countKey k kvs ≤ 1) : ∀ (sels : List Sel),
    (∀ g f, Sel.spread g ∈ sels → q.fragments[g]? = some f → f.on = .object rt → fragOk s q o (.object rt) g = true) →
    confSelsV s rt (expandSels q sels) kvs = true →
    (∀ g f, Sel.spread g ∈ sels → q.fragments[g]? = some f → f.on = .object rt →
      looseSelsV s o true f.sels rest = looseSelsV s o true f.sels kvs) →
    looseMemS s q o (.object rt) sels rest = true
  | [], _, _, _ => by simp [looseMemS]
  | x :: xs, hsp, h, heq => by
    rw [expandSels, confSelsV, Bool.and_eq_true] at h
    have ih := slMemS rt kvs rest hc xs (fun g f hg => hsp g f (List.mem_cons_of_mem _ hg)) h.2
      (fun g f hm => heq g f (List.mem_cons_of_mem _ hm))
    cases x with
    | spread g =>
      rw [looseMemS.eq_2, ih, Bool.and_true]
      cases hfr : q.fragments[g]? with
      | none => rfl
      | some fr =>
        simp only []
        by_cases htv : fr.on = .object rt
        · have hok := hsp g fr (by simp) hfr htv
          obtain ⟨fr', hfr', _, _, hv, _⟩ := fragOk_parts hok
          rw [hfr] at hfr'; cases hfr'
          have h1 := h.1
          simp only [expandSel, hfr, confSelV, htv, fragApplies, beq_self_eq_true, Bool.not_true, Bool.false_or] at h1
          rw [heq g fr (by simp) hfr htv, slSels s o fr.sels false true rt kvs hv hc h1]
          simp
        · have : (fr.on != TypeId.object rt) = true := by simpa using htv
          simp [this]
    | field a fid sub => exact ih
    | inline t sub => exact ih
    | typename => exact ih

mutual
  /-- `confSelV` only looks at the entries under the field keys of the selection (those inside inline fragments
      included) and under `__typename` -/
  theorem confSelV_filter (rt : Nat) (p : String × Json → Bool) (kvs : List (String × Json))
      (hpt : ∀ v, p ("__typename", v) = true) : ∀ (x : Sel), (∀ k ∈ deepKey s x, ∀ v, p (k, v) = true) →
      confSelV s rt x (kvs.filter p) = confSelV s rt x kvs
    | .field a fid sub => by
      intro h
      rw [confSelV_field, confSelV_field]
      cases hsf : s.fields[fid]? with
      | none => rfl
      | some sf =>
        have hk : ∀ v, p (a.getD sf.name, v) = true := h _ (by simp [deepKey, hsf])
        simp only [lookup_filter p _ hk]
    | .typename => by
      intro _
      simp only [confSelV, lookup_filter p _ hpt]
    | .inline t isub => by
      intro h
      rw [deepKey] at h
      simp only [confSelV, confSelsV_filter rt p kvs hpt isub h]
    | .spread g => by intro _; simp [confSelV]
  theorem confSelsV_filter (rt : Nat) (p : String × Json → Bool) (kvs : List (String × Json))
      (hpt : ∀ v, p ("__typename", v) = true) : ∀ (sels : List Sel), (∀ k ∈ deepKeys s sels, ∀ v, p (k, v) = true) →
      confSelsV s rt sels (kvs.filter p) = confSelsV s rt sels kvs
    | [] => by intro _; simp [confSelsV]
    | x :: xs => by
      intro h
      rw [deepKeys] at h
      rw [confSelsV, confSelsV, confSelV_filter rt p kvs hpt x (fun k hk => h k (List.mem_append_left _ hk)),
        confSelsV_filter rt p kvs hpt xs (fun k hk => h k (List.mem_append_right _ hk))]
end

/-- the members for fragments on the abstract type itself accept what the own fields left of a conforming response
    object (`p` keeps `__typename` and every key of such a fragment) -/
theorem slMemB (ty : TypeId) (hty : absHyp s ty) (rt : Nat) (hrt : rt < s.objects.length)
    (happ : fragApplies s rt ty = true) (kvs : List (String × Json)) (hnd : (kvs.map (·.1)).Nodup)
    (p : String × Json → Bool) (hpt : ∀ v, p ("__typename", v) = true) : ∀ (sels : List Sel),
    (∀ g f, Sel.spread g ∈ sels → q.fragments[g]? = some f → f.on = ty →
      fragOkB s q o ty g = true ∧ ∀ k ∈ deepKeys s f.sels, ∀ v, p (k, v) = true) →
    confSelsV s rt (expandSels q sels) kvs = true →
    looseMemB s q o ty sels (kvs.filter p) = true
  | [], _, _ => by simp [looseMemB]
  | x :: xs, hsp, h => by
    rw [expandSels, confSelsV, Bool.and_eq_true] at h
    have ih := slMemB ty hty rt hrt happ kvs hnd p hpt xs (fun g f hg => hsp g f (List.mem_cons_of_mem _ hg)) h.2
    cases x with
    | spread g =>
      rw [looseMemB.eq_2, ih, Bool.and_true]
      cases hfr : q.fragments[g]? with
      | none => rfl
      | some fr =>
        simp only []
        by_cases htv : fr.on = ty
        · obtain ⟨hokB, hkeep⟩ := hsp g fr (by simp) hfr htv
          obtain ⟨fr', hfr', _, _, hv, hokf⟩ := fragOkB_parts hokB
          rw [hfr] at hfr'; cases hfr'
          have h1 := h.1
          simp only [expandSel, hfr, confSelV, htv, happ, Bool.not_true, Bool.false_or] at h1
          have h2 : confSelsV s rt fr.sels (kvs.filter p) = true := by
            rw [confSelsV_filter s rt p kvs hpt fr.sels hkeep]; exact h1
          rw [strict_loose_abs_w s o ty fr.sels hty hv hokf true rt (kvs.filter p) happ
            ((List.filter_sublist.map _).nodup hnd) h2]
          simp
        · have : (fr.on != ty) = true := by simpa using htv
          simp [this]
    | field a fid sub => exact ih
    | inline t sub => exact ih
    | typename => exact ih

/-- a response object conforming at an abstract position (spreads expanded) is accepted there -/
theorem strict_loose_absS (ty : TypeId) (sub : List Sel) (IHs : SLSelsS s q o sub) (IHp : SLPayS s q o sub)
    (hty : absHyp s ty) (ht : sSels s q o true sub = true) (hok : absOkS s q o ty sub = true) (b : Bool) (j : Json)
    (h : conformsAt s ty (expandSels q sub) j = true) : conformsLooseAbsS s q o b ty sub j = true := by
  obtain ⟨hok1, _, _⟩ := absOkS_parts hok
  obtain ⟨htn, hrk, _, _, hvn, _, _, hexcl⟩ := absOk2_parts hok1
  simp only [conformsAt, List.any_eq_true, List.mem_range, Bool.and_eq_true] at h
  obtain ⟨rt, hrt, happ, hc⟩ := h
  obtain ⟨kvs, rfl, hnd', hconf⟩ := conformsV_obj hc
  have hcnt := countKey_le_one_of_nodup hnd'
  have hown := IHs true b rt kvs ht hcnt hconf
  -- the tag entry
  have htag : Json.lookup "__typename" kvs = some (.str (rtName s rt)) := by
    have := confSelsV_mem hconf _ (expandSels_typename q htn)
    simp only [confSelV] at this
    split at this
    · rename_i n hl; rw [hl]; simp only [beq_iff_eq] at this; rw [this]
    · cases this
  have hnf := typename_not_fieldKey s sub htn hrk
  have hq : ∀ v : Json, (fun kv : String × Json => !(fieldKeys s sub).contains kv.1) ("__typename", v) = true := by
    intro v; simpa using hnf
  -- the entries the flattened members see
  obtain ⟨p, hp, hqt, hqi⟩ : ∃ p : String × Json → Bool, absRest s q ty sub kvs = kvs.filter p ∧
      (∀ v, p ("__typename", v) = true) ∧ (∀ k, k ∉ fieldKeys s sub → ∀ v, p (k, v) = true) :=
    ⟨_, absRest_eq s q ty sub kvs, hq, fun k hk v => by simpa using hk⟩
  have hl2 : Json.lookup "__typename" (kvs.filter p) = some (.str (rtName s rt)) := by
    rw [lookup_filter p _ hqt]; exact htag
  have hc2 : countKey "__typename" (kvs.filter p) = 1 := by
    rw [countKey_filter p _ hqt]
    have := countKey_pos_of_lookup htag
    have := hcnt "__typename"
    omega
  have hmem := mem_vtsOfTy happ hty
  have hfind : (vtsOfTy s ty).find? (fun vt => objName s vt == rtName s rt) = some (.object rt) := by
    have hnd' : ((vtsOfTy s ty).map (objName s)).Nodup := by
      unfold variantNames at hvn
      exact (List.nodup_append.mp hvn).1
    exact find_by_name s _ hnd' _ hmem
  have htyn : "__typename" ∈ respKeys s sub := List.mem_filterMap.mpr ⟨_, typename_mem htn, rfl⟩
  have hnr : ∀ k, k ∉ respKeys s sub → k ∉ fieldKeys s sub :=
    fun k hk h' => hk (fieldKeys_sub_respKeys s sub k h')
  simp only [conformsLooseAbsS, hown, Bool.true_and, hp, Bool.and_eq_true]
  refine ⟨?_, ?_⟩
  · -- the members for fragments on the abstract type itself
    apply slMemB s q o ty hty rt hrt happ kvs hnd' p hqt sub _ hconf
    intro g f hg hf hon
    obtain ⟨hokB, _, _, hkeys⟩ := absOkS_onB hty hok hg hf hon
    exact ⟨hokB, fun k hk v => hqi k (hkeys k hk) v⟩
  · unfold tagOkV
    simp only [hc2, hl2, hfind, Bool.and_eq_true]
    constructor
    · apply IHp rt kvs _ ht hcnt hconf
      intro t isub hm _
      rw [List.filter_filter]
      apply looseSelsS_filter
      intro k hk v
      have hnk := hexcl t isub hm k hk
      have h1 := hqi k (hnr k hnk) v
      have h2 : k ≠ "__typename" := fun heq => hnk (heq ▸ htyn)
      simp [h1, h2]
    · apply slMemS s q o rt kvs _ hcnt sub _ hconf
      · intro g f hm hf hrtobj
        obtain ⟨_, _, _, _, _, hkeys⟩ := absOkS_onA hok hm hf (by rw [hrtobj]; exact obj_ne_abs hty rt)
        rw [List.filter_filter]
        apply looseSelsV_filter
        intro k hk v
        have hnk := hkeys k hk
        have h1 := hqi k (hnr k hnk) v
        have h2 : k ≠ "__typename" := fun heq => hnk (heq ▸ htyn)
        simp [h1, h2]
      · intro g f hm hf hon
        obtain ⟨i, hon', _, hfok, _⟩ := absOkS_onA hok hm hf (by rw [hon]; exact obj_ne_abs hty rt)
        rw [hon] at hon'; cases hon'
        exact hfok

/-- a response object conforming at an abstract position that is a lone spread of a fragment on the type itself is accepted
    by the fragment's own type -/
theorem slLoneB (ty : TypeId) (hty : absHyp s ty) (g : Nat) (fr : RFragment) (hfr : q.fragments[g]? = some fr)
    (hok : fragOkB s q o ty g = true) (b : Bool) (j : Json)
    (h : conformsAt s ty (expandSels q [Sel.spread g]) j = true) : conformsLooseAbs s o b ty fr.sels j = true := by
  obtain ⟨fr', hfr', hon, _, hv, hokf⟩ := fragOkB_parts hok
  rw [hfr] at hfr'; cases hfr'
  simp only [conformsAt, List.any_eq_true, List.mem_range, Bool.and_eq_true] at h
  obtain ⟨rt, hrt, happ, hc⟩ := h
  obtain ⟨kvs, rfl, hnd, hconf⟩ := conformsV_obj hc
  simp only [expandSels, expandSel, hfr, confSelsV, confSelV, hon, happ, Bool.not_true, Bool.false_or,
    Bool.and_true] at hconf
  exact strict_loose_abs_w s o ty fr.sels hty hv hokf b rt kvs happ hnd hconf

mutual
  theorem slFieldS : ∀ (x : Sel) (abs b : Bool) (v : Json), sSel s q o abs x = true →
      strictFieldV s (expandSel q x) v = true → looseFieldS s q o b x v = true
    | .field a fid sub, abs, b, v => by
      intro ht h
      have IHs := slSelsS sub
      have IHp := slPayS sub
      rw [sSel] at ht
      simp only [expandSel, strictFieldV] at h
      rw [looseFieldS]
      cases hsf : s.fields[fid]? with
      | none => simp [hsf] at h
      | some sf =>
        simp only [hsf, Bool.and_eq_true] at h ht ⊢
        obtain ⟨_, hty⟩ := ht
        cases hid : sf.ty.id with
        | scalar k => simp only [hid] at h ⊢; exact h
        | «enum» k => simp only [hid] at h ⊢; exact h
        | input k => simp only [hid] at h; cases h
        | object i =>
          simp only [hid, Bool.and_eq_true] at h hty ⊢
          cases ho : s.objects[i]? with
          | none => simp [ho] at hty
          | some ob =>
            simp only []
            rw [looseLambdaS]
            refine (accepts_mono _ _ ?_ _).2 v h
            intro j hj
            simp only [conformsAt, List.any_eq_true, List.mem_range, Bool.and_eq_true] at hj
            obtain ⟨rt, _, _, hc⟩ := hj
            obtain ⟨kvs, rfl, hnd, hconf⟩ := conformsV_obj hc
            exact IHs false b rt kvs hty.1.2 (countKey_le_one_of_nodup hnd) hconf
        | interface k =>
          simp only [hid, Bool.and_eq_true] at h hty ⊢
          rcases absOkL_cases hty.2 with ⟨hok, hlg⟩ | ⟨g, rfl, hokB⟩
          · simp only [hlg]
            rw [looseLambdaAbsS]
            exact (accepts_mono _ _ (fun j hj => strict_loose_absS s q o (.interface k) sub IHs IHp hty.1.1 hty.1.2 hok b j hj) _).2 v h
          · simp only [loneG_lone]
            obtain ⟨fr, hfr, _⟩ := fragOkB_parts hokB
            simp only [hfr]
            exact (accepts_mono _ _ (fun j hj => slLoneB s q o (.interface k) hty.1.1 g fr hfr hokB b j hj) _).2 v h
        | union k =>
          simp only [hid, Bool.and_eq_true] at h hty ⊢
          rcases absOkL_cases hty.2 with ⟨hok, hlg⟩ | ⟨g, rfl, hokB⟩
          · simp only [hlg]
            rw [looseLambdaAbsS]
            exact (accepts_mono _ _ (fun j hj => strict_loose_absS s q o (.union k) sub IHs IHp hty.1.1 hty.1.2 hok b j hj) _).2 v h
          · simp only [loneG_lone]
            obtain ⟨fr, hfr, _⟩ := fragOkB_parts hokB
            simp only [hfr]
            exact (accepts_mono _ _ (fun j hj => slLoneB s q o (.union k) hty.1.1 g fr hfr hokB b j hj) _).2 v h
    | .spread _, _, _, _ => by intro _ _; simp [looseFieldS]
    | .inline _ _, _, _, _ => by intro _ _; simp [looseFieldS]
    | .typename, _, _, _ => by intro _ _; simp [looseFieldS]
  theorem slSelsS : ∀ (sels : List Sel), SLSelsS s q o sels
    | [] => by intro _ _ _ _ _ _ _; simp [looseSelsS]
    | x :: xs => by
      intro abs b rt kvs ht hc h
      obtain ⟨hx, hxs⟩ := sSels_cons ht
      rw [expandSels, confSelsV, Bool.and_eq_true] at h
      have ih := slSelsS xs abs b rt kvs hxs hc h.2
      cases x with
      | field a fid sub =>
        have hcx := h.1
        rw [expandSel, confSelV_field] at hcx
        rw [looseSelsS.eq_2, ih, Bool.and_true]
        cases hsf : s.fields[fid]? with
        | none => simp [hsf] at hcx
        | some sf =>
          simp only [hsf] at hcx ⊢
          cases hl : Json.lookup (a.getD sf.name) kvs with
          | none => simp [hl] at hcx
          | some v =>
            simp only [hl] at hcx ⊢
            have := slFieldS (.field a fid sub) abs b v hx (by rw [expandSel]; exact hcx)
            simp [hc, this]
      | spread g => exact ih
      | inline t sub => exact ih
      | typename => exact ih
  theorem slPayS : ∀ (sels : List Sel), SLPayS s q o sels
    | [] => by intro _ _ _ _ _ _ _; simp [loosePayS]
    | x :: xs => by
      intro rt kvs rest ht hc h heq
      obtain ⟨hx, hxs⟩ := sSels_cons ht
      rw [expandSels, confSelsV, Bool.and_eq_true] at h
      have ih := slPayS xs rt kvs rest hxs hc h.2 (fun t isub hm => heq t isub (List.mem_cons_of_mem _ hm))
      cases x with
      | inline t isub =>
        rw [loosePayS.eq_2, ih, Bool.and_true]
        by_cases htv : t = .object rt
        · subst htv
          have hcx := h.1
          simp only [expandSel, confSelV, fragApplies, beq_self_eq_true, Bool.not_true, Bool.false_or] at hcx
          simp only [sSel, Bool.and_eq_true] at hx
          rw [heq _ isub (by simp) rfl, slSelsS isub false true rt kvs hx.1.2 hc hcx]
          simp
        · have : (t != TypeId.object rt) = true := by simpa using htv
          simp [this]
      | field a fid sub => exact ih
      | spread g => exact ih
      | typename => exact ih
end

end SLS

/-- every response conforming to the specification (spreads expanded to inline fragments) is accepted -/
theorem conformsS_loose (s : Schema) (q : Query) (o : Options) (b : Bool) (rt : Nat) (sels : List Sel) (j : Json)
    (ht : sSels s q o false sels = true) (h : conformsV s rt (expandSels q sels) j = true) :
    conformsLooseS s q o b sels j = true := by
  obtain ⟨kvs, rfl, hnd, hconf⟩ := conformsV_obj h
  exact slSelsS s q o sels false b rt kvs ht (countKey_le_one_of_nodup hnd) hconf

end E2E
end C01
end GqlVerif
