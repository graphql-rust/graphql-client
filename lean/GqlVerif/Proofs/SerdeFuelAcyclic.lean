import GqlVerif.Proofs.SerdeFuel
/-!
# acyclic environments: the allowance of `deFuel` is enough when at most one `Box` sits in flatten position

`Acyclic e d`: some `d : String → Nat` (no bound) strictly decreases along every jump that does not consume input —
alias → target, extern alias → target, struct → flattened member (through `Option` / `Box`).  For `Box`-free positions
this is what rustc guarantees of a module (`type A = B; type B = A` is E0391, a struct containing itself by value is
E0072); a cycle of flattened members through `Box` compiles, and serde recurses on it forever (the model: the fuel
error at every fuel).
`BoxBound e B`: alias targets and flattened members carry at most `B` `Box`es (the generator: `B = 1`,
`responseForQuery_boxBound`, in `SerdeFuelCodegen`).

Compressing `d` to the positions of the `#items + #externs` names, stretched by `B + 1` to make room for the `Box`es, gives
a certificate `Ranked e _ _ ((B+1) * (#items + #externs + 1) + 1)` (`ranked_of_acyclic`).  For `B = 1` that width is
within `deWidth`: `EnvOK` holds, all theorems of `SerdeFuel.lean` apply, the fuel `de` passes never matters
(`envOK_of_acyclic`); for `B = 0` it is within the single width.  Serialization needs no `BoxBound`
(`envOKS_of_acyclic`).
-/
namespace GqlVerif
namespace SerdeFuel
open Serde

def boxCount : RTy → Nat
  | .path _ => 0
  | .box t => boxCount t + 1
  | .opt t => boxCount t
  | .vec t => boxCount t

theorem tyCost_eq (c : String → Nat) : ∀ t : RTy, tyCost c t = c (Scope.leaf t) + boxCount t
  | .path _ => rfl
  | .box t => by simp only [tyCost, Scope.leaf, boxCount, tyCost_eq c t]; omega
  | .opt t => by simp only [tyCost, Scope.leaf, boxCount, tyCost_eq c t]
  | .vec t => by simp only [tyCost, Scope.leaf, boxCount, tyCost_eq c t]

/-- **acyclicity**: a rank (unbounded) that decreases along every input-free jump -/
structure Acyclic (e : Env) (d : String → Nat) : Prop where
  alias : ∀ p n pub t, e.find p = some (.alias n pub t) → d (Scope.leaf t) < d p
  extern : ∀ p x, e.find p = none → e.externs.find? (·.1 == p) = some x → d (Scope.leaf x.2) < d p
  flat : ∀ p n dv sc fields, e.find p = some (.struct n dv sc fields) → ∀ f ∈ fields, f.flatten = true →
    d (Scope.leaf f.ty) < d p

/-- alias targets and flattened members carry at most `B` `Box`es -/
structure BoxBound (e : Env) (B : Nat) : Prop where
  alias : ∀ p n pub t, e.find p = some (.alias n pub t) → boxCount t ≤ B
  flat : ∀ p n dv sc fields, e.find p = some (.struct n dv sc fields) → ∀ f ∈ fields, f.flatten = true →
    boxCount f.ty ≤ B

def fieldBox (B : Nat) (f : RField) : Bool := !f.flatten || decide (boxCount f.ty ≤ B)

def itemBox (B : Nat) : Item → Bool
  | .alias _ _ t => decide (boxCount t ≤ B)
  | .struct _ _ _ fs => fs.all (fieldBox B)
  | _ => true

/-- decidable sufficient check for `BoxBound` -/
def boxBoundCheck (e : Env) (B : Nat) : Bool := e.items.all (itemBox B)

theorem boxBound_of_check {e : Env} {B : Nat} (h : boxBoundCheck e B = true) : BoxBound e B := by
  simp only [boxBoundCheck, List.all_eq_true] at h
  refine ⟨fun p n pub t hf => ?_, fun p n dv sc fields hf f hmem hfl => ?_⟩
  · have := h _ (find_spec hf).1
    simpa [itemBox] using this
  · have := h _ (find_spec hf).1
    simp only [itemBox, List.all_eq_true, fieldBox, Bool.or_eq_true, Bool.not_eq_true', decide_eq_true_eq] at this
    rcases this f hmem with h3 | h3
    · rw [hfl] at h3; cases h3
    · exact h3

/-! ## compressing the rank -/

/-- the names the environment defines (with repetitions): exactly `#items + #externs` of them -/
def names (e : Env) : List String := e.items.map (·.name) ++ e.externs.map (·.1)

theorem names_length (e : Env) : (names e).length = e.items.length + e.externs.length := by
  simp [names]

theorem mem_names_of_known {e : Env} {p : String} (h : known e p = true) : p ∈ names e := by
  unfold known at h
  unfold names
  cases hf : e.find p with
  | some it =>
    obtain ⟨hm, hn⟩ := find_spec hf
    exact List.mem_append_left _ (hn ▸ List.mem_map_of_mem hm)
  | none =>
    rw [hf] at h
    cases hx : e.externs.find? (·.1 == p) with
    | none => rw [hx] at h; cases h
    | some x =>
      have hm := List.mem_of_find?_eq_some hx
      have hn : x.1 = p := by simpa using List.find?_some hx
      exact List.mem_append_right _ (hn ▸ List.mem_map_of_mem hm)

def below (e : Env) (d : String → Nat) (x : Nat) : Nat := (names e).countP (fun q => decide (d q < x))

theorem countP_lt_of {α : Type} {p q : α → Bool} : ∀ {l : List α}, (∀ x ∈ l, p x = true → q x = true) →
    ∀ a ∈ l, p a = false → q a = true → l.countP p < l.countP q
  | b :: l, hpq, a, ha, hpa, hqa => by
    have hmono : l.countP p ≤ l.countP q :=
      List.countP_mono_left (fun x hx => hpq x (List.mem_cons_of_mem _ hx))
    rcases List.mem_cons.mp ha with rfl | ha'
    · rw [List.countP_cons, List.countP_cons]
      simp only [hpa, hqa, Bool.false_eq_true, ↓reduceIte]
      omega
    · have ih := countP_lt_of (fun x hx => hpq x (List.mem_cons_of_mem _ hx)) a ha' hpa hqa
      rw [List.countP_cons, List.countP_cons]
      by_cases hb : p b = true
      · simp only [hb, hpq b List.mem_cons_self hb, ↓reduceIte]; omega
      · simp only [hb, Bool.false_eq_true, ↓reduceIte]
        split <;> omega

theorem below_le (e : Env) (d : String → Nat) (x : Nat) : below e d x ≤ e.items.length + e.externs.length := by
  rw [← names_length]
  exact List.countP_le_length

theorem below_mono (e : Env) (d : String → Nat) {x y : Nat} (h : x ≤ y) : below e d x ≤ below e d y := by
  unfold below
  refine List.countP_mono_left (fun q _ hq => ?_)
  simp only [decide_eq_true_eq] at hq ⊢
  omega

theorem below_lt (e : Env) (d : String → Nat) {q : String} (hq : q ∈ names e) {y : Nat} (h : d q < y) :
    below e d (d q) < below e d y := by
  unfold below
  refine countP_lt_of (fun z _ hz => ?_) q hq (by simp) (by simpa using h)
  simp only [decide_eq_true_eq] at hz ⊢
  omega

/-- the compressed rank: position of `d p` among the ranks of the names (plus one for a name of the environment),
    stretched by `B + 1` to make room for the `Box`es -/
def comp (e : Env) (d : String → Nat) (B : Nat) (p : String) : Nat :=
  (B + 1) * ((if known e p then 1 else 0) + below e d (d p))

theorem comp_bound (e : Env) (d : String → Nat) (B : Nat) (p : String) :
    comp e d B p < (B + 1) * (e.items.length + e.externs.length + 1) + 1 := by
  unfold comp
  have h1 := below_le e d (d p)
  have h2 : (if known e p then 1 else 0) + below e d (d p) ≤ e.items.length + e.externs.length + 1 := by
    split <;> omega
  have := Nat.mul_le_mul_left (B + 1) h2
  omega

theorem comp_edge (e : Env) (d : String → Nat) (B : Nat) {p q : String} (hp : known e p = true) (h : d q < d p) :
    comp e d B q + (B + 1) ≤ comp e d B p := by
  unfold comp
  rw [hp]
  simp only [↓reduceIte]
  have key : (if known e q then 1 else 0) + below e d (d q) + 1 ≤ 1 + below e d (d p) := by
    cases hq : known e q with
    | true =>
      have := below_lt e d (mem_names_of_known hq) h
      simp only [↓reduceIte]; omega
    | false =>
      have := below_mono e d (Nat.le_of_lt h)
      simp only [Bool.false_eq_true, ↓reduceIte]; omega
  have := Nat.mul_le_mul_left (B + 1) key
  rw [Nat.mul_add, Nat.mul_one] at this
  exact this

theorem known_of_find {e : Env} {p : String} {it : Item} (h : e.find p = some it) : known e p = true := by
  simp [known, h]

theorem known_of_extern {e : Env} {p : String} {x : String × RTy} (h : e.externs.find? (·.1 == p) = some x) :
    known e p = true := by
  simp [known, h]

theorem ranked_of_acyclic {e : Env} {d : String → Nat} {B : Nat} (ha : Acyclic e d) (hb : BoxBound e B) :
    Ranked e (comp e d B) (comp e d B) ((B + 1) * (e.items.length + e.externs.length + 1) + 1) := by
  have hty : ∀ {p : String} {t : RTy}, known e p = true → d (Scope.leaf t) < d p → boxCount t ≤ B →
      tyCost (comp e d B) t < comp e d B p := by
    intro p t hp hd hbx
    have := comp_edge e d B hp hd
    rw [tyCost_eq]; omega
  have hleaf : ∀ {p q : String}, known e p = true → d q < d p → comp e d B q < comp e d B p := by
    intro p q hp hd
    have := comp_edge e d B hp hd
    omega
  refine ⟨comp_bound e d B, fun p n pub t hf => hleaf (known_of_find hf) (ha.alias p n pub t hf),
    fun p x hf hx => hleaf (known_of_extern hx) (ha.extern p x hf hx),
    fun p n dv sc fields hf f hm hfl => hty (known_of_find hf) (ha.flat p n dv sc fields hf f hm hfl)
      (hb.flat p n dv sc fields hf f hm hfl),
    fun p n pub t hf => hty (known_of_find hf) (ha.alias p n pub t hf) (hb.alias p n pub t hf),
    fun p n dv sc fields hf f hm hfl => hty (known_of_find hf) (ha.flat p n dv sc fields hf f hm hfl)
      (hb.flat p n dv sc fields hf f hm hfl)⟩

theorem BoxBound.mono {e : Env} {B B' : Nat} (h : BoxBound e B) (hle : B ≤ B') : BoxBound e B' :=
  ⟨fun p n pub t hf => Nat.le_trans (h.alias p n pub t hf) hle,
   fun p n dv sc fields hf f hm hfl => Nat.le_trans (h.flat p n dv sc fields hf f hm hfl) hle⟩

/-- **acyclic, at most one `Box` in flatten / alias-target position ⇒ `EnvOK`**: the allowance of `deFuel` is enough -/
theorem envOK_of_acyclic {e : Env} {d : String → Nat} (ha : Acyclic e d) (hb : BoxBound e 1) : EnvOK e := by
  refine ⟨_, _, _, ranked_of_acyclic ha hb, ?_⟩
  unfold deWidth envWidth
  omega

/-- `Box`-free: the certificate fits the single width (that of `ser`, and of half of `deFuel`) -/
theorem envOK_of_acyclic_boxfree {e : Env} {d : String → Nat} (ha : Acyclic e d) (hb : BoxBound e 0) :
    EnvOK e ∧ EnvOKS e :=
  envOK_of_ranked (ranked_of_acyclic ha hb) (by unfold envWidth; omega)

/-- **serialization: every acyclic environment** (`Box`es are free in `serPath`) satisfies `EnvOKS` — the fuel `ser`
    passes is never exhausted and never matters -/
theorem envOKS_of_acyclic {e : Env} {d : String → Nat} (ha : Acyclic e d) : EnvOKS e := by
  refine ⟨comp e d 0, envWidth e, ⟨fun p => ?_, fun p n pub t hf => ?_, fun p x hf hx => ?_⟩, Nat.le_refl _⟩
  · have := comp_bound e d 0 p
    unfold envWidth; omega
  · have := comp_edge e d 0 (known_of_find hf) (ha.alias p n pub t hf); omega
  · have := comp_edge e d 0 (known_of_extern hx) (ha.extern p x hf hx); omega

/-- any `B`: with the width of `ranked_of_acyclic` in place of `deWidth` the fuel is never exhausted -/
theorem deTy_nf_of_acyclic {e : Env} {d : String → Nat} {B : Nat} (ha : Acyclic e d) (hb : BoxBound e B) (b : Bool)
    (t : RTy) (j : Json) (fuel : Nat)
    (hf : (jsonSize j + 1) * ((B + 1) * (e.items.length + e.externs.length + 1) + 1) ≤ fuel) :
    deTy e b fuel t j ≠ .error (.unmodelled "fuel") := by
  have hr := ranked_of_acyclic ha hb
  exact deTy_nf hr b fuel t j (hr.need_le_succ_mul _ j hf)

/-- … and above it the fuel does not matter -/
theorem deTy_fuel_eq_of_acyclic {e : Env} {d : String → Nat} {B : Nat} (ha : Acyclic e d) (hb : BoxBound e B) (b : Bool)
    (t : RTy) (j : Json) (fuel fuel' : Nat)
    (hf : (jsonSize j + 1) * ((B + 1) * (e.items.length + e.externs.length + 1) + 1) ≤ fuel)
    (hf' : (jsonSize j + 1) * ((B + 1) * (e.items.length + e.externs.length + 1) + 1) ≤ fuel') :
    deTy e b fuel t j = deTy e b fuel' t j := by
  have hr := ranked_of_acyclic ha hb
  exact deTy_fuel_eq hr b fuel fuel' t j (hr.need_le_succ_mul _ j hf) (hr.need_le_succ_mul _ j hf')

/-! ## a decidable sufficient check for `Acyclic` -/

/-- the conditions of `Acyclic` for the rank `d`, checked on every item and extern -/
def acyclicCheckWith (e : Env) (d : String → Nat) : Bool :=
  e.items.all (fun it => match it with
    | .alias n _ t => decide (d (Scope.leaf t) < d n)
    | .struct n _ _ fs => fs.all (fun f => !f.flatten || decide (d (Scope.leaf f.ty) < d n))
    | _ => true) &&
  e.externs.all (fun x => (e.find x.1).isSome || decide (d (Scope.leaf x.2) < d x.1))

theorem acyclic_of_check {e : Env} {d : String → Nat} (h : acyclicCheckWith e d = true) : Acyclic e d := by
  simp only [acyclicCheckWith, Bool.and_eq_true, List.all_eq_true] at h
  obtain ⟨hI, hX⟩ := h
  refine ⟨fun p n pub t hf => ?_, fun p x hf hx => ?_, fun p n dv sc fields hf f hmem hfl => ?_⟩
  · obtain ⟨hm, hn⟩ := find_spec hf
    have h2 := hI _ hm
    simp only [decide_eq_true_eq] at h2
    simp only [Item.name] at hn
    rw [← hn]; exact h2
  · have hm := List.mem_of_find?_eq_some hx
    have hn : x.1 = p := by simpa using List.find?_some hx
    have h2 := hX x hm
    rw [hn, hf] at h2
    simpa using h2
  · obtain ⟨hm, hn⟩ := find_spec hf
    have h2 := hI _ hm
    simp only [List.all_eq_true, Bool.or_eq_true, Bool.not_eq_true', decide_eq_true_eq] at h2
    simp only [Item.name] at hn
    rw [← hn]
    rcases h2 f hmem with h3 | h3
    · rw [hfl] at h3; cases h3
    · exact h3

/-- candidate rank: the number of names on the longest input-free chain from `p` (`Box`es ignored) -/
def costA (e : Env) : Nat → String → Nat
  | 0, _ => 0
  | fuel+1, p =>
    match e.find p with
    | some (.alias _ _ t) => costA e fuel (Scope.leaf t) + 1
    | some (.struct _ _ _ fs) => (fs.filter (·.flatten)).foldl (fun m f => max m (costA e fuel (Scope.leaf f.ty) + 1)) 0
    | some _ => 0
    | none => match e.externs.find? (·.1 == p) with
      | some x => costA e fuel (Scope.leaf x.2) + 1
      | none => 0

/-- **decidable**: the candidate rank witnesses acyclicity -/
def acyclicCheck (e : Env) : Bool := acyclicCheckWith e (costA e (envWidth e))

/-! ## non-vacuity -/

/-- a module with aliases, an extern scalar, nested flattened structs and a flattened tagged enum; no `Box` -/
def acEnv : Env :=
  { items := [.alias "Date" false (.path "super::Date"),
              .struct "A" [] none [{ rust := "x", ty := .path "Date" }, { rust := "frag", ty := .path "F", flatten := true },
                                   { rust := "on", ty := .path "AOn", flatten := true }],
              .struct "F" [] none [{ rust := "w", ty := .opt (.path "String") }, { rust := "g", ty := .path "G", flatten := true }],
              .alias "G" true (.path "H"),
              .struct "H" [] none [{ rust := "h", ty := .opt (.vec (.path "A")) }],
              .tagged "AOn" [] none "__typename" [{ name := "Dog" }, { name := "Cat", payload := some (.path "F") }]],
    externs := [("super::Date", .path "String")] }

def acRank (p : String) : Nat :=
  if p == "A" then 4 else if p == "F" then 3 else if p == "G" then 2 else if p == "H" then 1
  else if p == "Date" then 2 else if p == "super::Date" then 1 else 0

theorem acEnv_acyclic : Acyclic acEnv acRank := acyclic_of_check (by decide)

theorem acEnv_ok : EnvOK acEnv := envOK_of_acyclic acEnv_acyclic (boxBound_of_check (by decide))

example (t : RTy) (j : Json) : roundtrip acEnv t j ≠ .error (.unmodelled "fuel") :=
  roundtrip_never_out_of_fuel acEnv_ok (envOKS_of_acyclic acEnv_acyclic) t j

example (t : RTy) (j : Json) : de acEnv t j ≠ .error (.unmodelled "fuel") := de_never_out_of_fuel acEnv_ok t j

example (t : RTy) (v : Val) : ser acEnv t v ≠ .error (.unmodelled "fuel") :=
  ser_never_out_of_fuel (envOKS_of_acyclic acEnv_acyclic) t v

end SerdeFuel
end GqlVerif
