import GqlVerif.Proofs.C01NestedAbsE
import GqlVerif.Proofs.C01NestedGenSchema
import GqlVerif.Proofs.C01VariantSpreadEval
import GqlVerif.Proofs.SpecEval
/-!
# `NestedGen2Op`: the instance, hypotheses evaluated

Schema `ngSchema`;

    fragment Inner on Dog { tricks }
    fragment Outer on Dog { age ...Inner }
    query Q { animal { __typename name ... on Dog { barks } ...Outer } }

* the operation is in `NestedGen2Op`, not in `NestedGenOp`, not in `NestedAbsOp`;
* the emitted types: `struct Qanimal { name, #[serde(flatten)] on: QanimalOn }`, `enum QanimalOn { Dog(QanimalOnDog), Cat }`,
  `struct QanimalOnDog { barks, #[serde(flatten)] outer: Outer }`, `struct Outer { age, #[serde(flatten)] Inner }`,
  `struct Inner { tricks }` (no key is read twice);
* every hypothesis of `nestedgen2_accepts` / `nestedgen2_precise_iff` / `nestedgen2_roundtrip` by `decide +kernel`; the concrete
  round trip (`nx_roundtrip_canon`, `nx_roundtrip_eval`, `nx_canon_value`);
* `nestedgen2_overlap_needed`: the key condition of the class on inline fragments with fields (`bodyOk`: no field keyed as an
  interface-level field) is necessary for `accepts` — a conforming response the emitted types reject.
-/

namespace GqlVerif
namespace C01NX
open Serde Spec C13 C03 Codegen C01 C01.E2E C01M C01N C01NA C01NG

/-- `animal { __typename name ... on Dog { barks } ...Outer }` -/
def nxAnimal : List Sel := [.typename, .field none 1 [], .inline (.object 1) [.field none 2 []], .spread 1]

abbrev CX : Ctx := ngCtx ngAge nxAnimal
abbrev OX : ROperation := ngOp nxAnimal

def nxItems : List Item := okOr (responseForQuery CX 0)

theorem nx_gen : responseForQuery CX 0 = .ok nxItems := gen_of_isOk (by decide +kernel)
theorem nx_class : NestedGen2Op CX OX = true := by decide +kernel
theorem nx_not_G : NestedGenOp CX OX = false := by decide +kernel
theorem nx_not_A : NestedAbsOp CX OX = false := by decide +kernel
theorem nx_not_S : VariantSpreadOp CX OX = false := by decide +kernel
theorem nx_not_M2 : MixedOp2 CX OX = false := by decide +kernel

theorem nx_names : fragNamesOk CX = true := by decide +kernel
theorem nx_keys : nestedGen2KeysOk CX OX = true := by decide +kernel
theorem nx_tag : absTagOk CX OX = true := by decide +kernel
theorem nx_ok : moduleOk CX nxItems = true := by decide +kernel
theorem nx_side : nestedGen2SideOk CX OX = true := by decide +kernel

/-- `nestedgen2_items_shape` on the instance -/
theorem nx_items : responseItems CX OX = .ok (bodyItemsA CX "ResponseData" "Q" OX.sels) :=
  nestedgen2_items_shape _ _ (by simp [ngCtx, ngQuery]) nx_class

/-- the emitted types -/
theorem nx_items_shape :
    ((moduleEnv CX nxItems).find "Qanimal" ==
      some (.struct "Qanimal" ["Deserialize"] (some "::serde")
        [{ rust := "name", ty := .path "String" },
         { rust := "on", ty := .path "QanimalOn", flatten := true }])) &&
    ((moduleEnv CX nxItems).find "QanimalOn" ==
      some (.tagged "QanimalOn" ["Deserialize"] (some "::serde") "__typename"
        [{ name := "Dog", payload := some (.path "QanimalOnDog") }, { name := "Cat" }])) &&
    ((moduleEnv CX nxItems).find "QanimalOnDog" ==
      some (.struct "QanimalOnDog" ["Deserialize"] (some "::serde")
        [{ rust := "barks", ty := .opt (.path "Boolean") },
         { rust := "Outer", ty := .path "Outer", flatten := true }])) &&
    ((moduleEnv CX nxItems).find "Outer" ==
      some (.struct "Outer" ["Deserialize"] (some "::serde")
        [{ rust := "age", ty := .opt (.path "Int") },
         { rust := "Inner", ty := .path "Inner", flatten := true }])) &&
    ((moduleEnv CX nxItems).find "Inner" ==
      some (.struct "Inner" ["Deserialize"] (some "::serde")
        [{ rust := "tricks", ty := .opt (.path "Int") }])) = true := by
  decide +kernel

def nxJson : Json :=
  .obj [("animal", .obj [("tricks", .int 3), ("__typename", .str "Dog"), ("barks", .bool true), ("name", .str "Rex"),
    ("age", .int 7)])]

theorem nx_conforms : conformsOpN CX OX nxJson = true := by
  rw [conformsOpN, conformsV_eq_K]
  decide +kernel

/-- C03 on the module: what `ResponseData` accepts, exactly -/
theorem nx_precise (j : Json) :
    okB (Serde.de (moduleEnv CX nxItems) (.path "ResponseData") j) =
      conformsLooseA (wholeN CX 2) ngSchema (ngQuery ngAge nxAnimal) {} false OX.sels j :=
  nestedgen2_precise_iff CX 0 OX nxItems rfl nx_class nx_names nx_keys nx_gen nx_ok j

/-- `nestedgen2_accepts` on the instance -/
theorem nx_accepts : ∃ v, Serde.de (moduleEnv CX nxItems) (.path "ResponseData") nxJson = .ok v :=
  nestedgen2_accepts CX 0 OX nxItems rfl nx_class nx_names nx_keys nx_tag nx_gen nx_ok nxJson nx_conforms

/-- **the concrete round trip**, by evaluation of the model: `Qanimal` writes `name`, the flattened tagged enum the tag entry,
    the variant struct its own field `barks`, then `Outer`'s entry `age`, then `Inner`'s entry `tricks` -/
theorem nx_roundtrip_eval :
    (match Serde.roundtrip (moduleEnv CX nxItems) (.path "ResponseData") nxJson with
     | .ok (.obj [("animal", .obj [("name", .str "Rex"), ("__typename", .str "Dog"), ("barks", .bool true),
         ("age", .int 7), ("tricks", .int 3)])]) => true
     | _ => false) = true := by decide +kernel

/-- `nestedgen2_roundtrip` on the instance, the canonical form still symbolic -/
theorem nx_roundtrip_canon :
    Serde.roundtrip (moduleEnv CX nxItems) (.path "ResponseData") nxJson =
      .ok (normJson (canonSelA (centN CX 2) ngSchema (ngQuery ngAge nxAnimal) {} OX.sels nxJson)) :=
  nestedgen2_roundtrip CX 0 OX nxItems rfl nx_class nx_names nx_keys nx_tag nx_side nx_gen nx_ok nxJson nx_conforms

/-- … hence the canonical form of `nestedgen2_roundtrip` is the value the model computes -/
theorem nx_canon_value :
    (match (Except.ok (normJson (canonSelA (centN CX 2) ngSchema (ngQuery ngAge nxAnimal) {} OX.sels nxJson)) : D Json) with
     | .ok (.obj [("animal", .obj [("name", .str "Rex"), ("__typename", .str "Dog"), ("barks", .bool true),
         ("age", .int 7), ("tricks", .int 3)])]) => true
     | _ => false) = true := by
  rw [← nx_roundtrip_canon]; exact nx_roundtrip_eval

/-! ## necessity of the key condition on inline fragments with fields

    query Q { animal { __typename name ... on Dog { name } } }

`Qanimal` consumes the entry `name`; the flattened `on` (and so `QanimalOnDog { name }`) never sees it. -/

def nyAnimal : List Sel := [.typename, .field none 1 [], .inline (.object 1) [.field none 1 []]]
abbrev CY : Ctx := ngCtx ngAge nyAnimal
abbrev OY : ROperation := ngOp nyAnimal
def nyItems : List Item := okOr (responseForQuery CY 0)
theorem ny_gen : responseForQuery CY 0 = .ok nyItems := gen_of_isOk (by decide +kernel)
/-- not in the class: the inline fragment reads the key of an interface-level field -/
theorem ny_class : NestedGen2Op CY OY = false := by decide +kernel
def nyJson : Json := .obj [("animal", .obj [("__typename", .str "Dog"), ("name", .str "Rex")])]

theorem ny_conforms : conformsOpN CY OY nyJson = true := by
  rw [conformsOpN, conformsV_eq_K]
  decide +kernel

/-- the response conforms, the module is generated, and the emitted `ResponseData` rejects the response -/
theorem nestedgen2_overlap_needed :
    conformsOpN CY OY nyJson = true ∧ moduleOk CY nyItems = true ∧
      okB (Serde.de (moduleEnv CY nyItems) (.path "ResponseData") nyJson) = false :=
  ⟨ny_conforms, by decide +kernel⟩

end C01NX
end GqlVerif
