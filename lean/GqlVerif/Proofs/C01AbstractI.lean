import GqlVerif.Proofs.C01AbstractH
/-!
# C01 end to end, `FragmentOp` 4/5: the canonical form, round trip of the members

* serde: `deStruct_flat_finds` (what a struct with flattened plain-struct members read, found again by Rust field name:
  `deStruct_finds_with` of `C01Layers` on the equation `deStructMap_flat`); writing is `ser_flat` of `C01Layers`;
* `canonSelF s q skip sels j` — the allowed differences: as `canonSelV`, **the entries of a spread fragment come at
  the position of the spread** (a lone spread: the fragment's own canonical form);
* `rtMemberF`, `rtAliasF` — round trip of one flattened member and of the alias of a lone spread (the struct of a spread
  fragment; also used by `MixedOp`); `norm_canonSelF` — the canonical form is a `serde_json::to_value` normal form;
* `bodyF_lossless`, **`fragment_lossless`** / `fragment_roundtrip`: `C01AbstractM` (instances of the `MixedOp` theorems).

Additional decidable side condition: `fragRustOk` (Rust field names — own fields and flattened members — pairwise
distinct in every struct, and inside every spread fragment).
-/
namespace GqlVerif
namespace C01
namespace E2E
open Serde Codegen

theorem deStruct_flat_finds (e : Env) (fuel : Nat) (pathD : String → Json → D Val) (fields : List RField)
    (kvs : List (String × Json)) (hcnt : ∀ k, countKey k kvs ≤ 1) (hrust : (fields.map (·.rust)).Nodup)
    (hok : ∀ g ∈ fields, g.flatten = true → MemberOk e g)
    (hown : ∀ g ∈ fields, g.flatten = true → ∀ k ∈ memberKeys e g,
      k ∉ (fields.filter (fun f => !f.flatten)).map (·.wire))
    (hpw : fields.Pairwise (fun g g' => g.flatten = true → g'.flatten = true →
      ∀ k ∈ memberKeys e g', k ∉ memberKeys e g))
    (v : Val) (hd : deStructMapWith pathD (deFlat e (fuel + 1)) fields kvs = .ok v) :
    ∃ vals, v = .record vals ∧
      (∀ f ∈ fields, f.flatten = false → ∃ x, vals.find? (·.1 == f.rust) = some (f.rust, x) ∧
        readField pathD f kvs = .ok x) ∧
      (∀ g ∈ fields, g.flatten = true → ∃ own, deOwnWith (dePath e true fuel) (memberFields e g) kvs = .ok own ∧
        vals.find? (·.1 == g.rust) = some (g.rust, .record own)) :=
  finds_record (deStruct_finds_with _ _ pathD fields kvs hcnt hrust
    (fun hany => deStructMap_flat e fuel pathD fields kvs hany hok hown hpw) v hd)


/-! ## the allowed differences for `FragmentOp` -/

mutual
  def canonFieldF (s : Schema) (q : Query) (skip : Bool) : Sel → Json → Json
    | .field a fid sub, v =>
      match s.fields[fid]? with
      | none => v
      | some sf =>
        match sf.ty.id with
        | .object _ => canon (fun j =>
            match sub with
            | [.spread g] => canonSelV s skip (fragSels q g) j
            | _ => match j with
              | .obj kvs => .obj (canonEntriesF s q skip sub kvs)
              | j => j) (gtyOf sf.ty.quals) v
        | _ => canonFieldV s skip (.field a fid sub) v
    | _, v => v
  /-- own entries and, **at the position of each spread**, the entries of the fragment, in selection order -/
  def canonEntriesF (s : Schema) (q : Query) (skip : Bool) : List Sel → List (String × Json) → List (String × Json)
    | [], _ => []
    | .field a fid sub :: xs, kvs =>
      (match s.fields[fid]? with
       | none => []
       | some sf =>
         match Json.lookup (a.getD sf.name) kvs with
         | some v =>
           if skip && skipQ sf.ty.quals && v.isNull then []
           else [(a.getD sf.name, canonFieldF s q skip (.field a fid sub) v)]
         | none => if skip && skipQ sf.ty.quals then [] else [(a.getD sf.name, Json.null)]) ++
        canonEntriesF s q skip xs kvs
    | .spread g :: xs, kvs => canonEntriesV s skip (fragSels q g) kvs ++ canonEntriesF s q skip xs kvs
    | _ :: xs, kvs => canonEntriesF s q skip xs kvs
end

/-- **`canonSelF`**: as `canonSelV`; the entries of a spread fragment come at the position of the spread -/
def canonSelF (s : Schema) (q : Query) (skip : Bool) (sels : List Sel) (j : Json) : Json :=
  match sels with
  | [.spread g] => canonSelV s skip (fragSels q g) j
  | _ => match j with
    | .obj kvs => .obj (canonEntriesF s q skip sels kvs)
    | j => j

theorem canonLambdaF (s : Schema) (q : Query) (skip : Bool) (sub : List Sel) :
    (fun j =>
      match sub with
      | [.spread g] => canonSelV s skip (fragSels q g) j
      | _ => match j with
        | .obj kvs => .obj (canonEntriesF s q skip sub kvs)
        | j => j) = canonSelF s q skip sub := by
  funext j; unfold canonSelF; rfl

/-! ## Rust field names -/

def rustNameF (c : Ctx) : Sel → Option String
  | .spread g => some (keywordReplace (c.cs.snake (fragName c g)))
  | x => rustName c x

def rustNamesF (c : Ctx) (sels : List Sel) : List String := sels.filterMap (rustNameF c)

/-- the body of the fragment `g`: Rust field names pairwise distinct, at every level -/
def rustOkFrag (c : Ctx) (g : Nat) : Bool :=
  EnumSpec.nodup (rustNames c (fragSels c.q g)) && rustOkSelsV c (fragSels c.q g)

mutual
  def rustOkSelF (c : Ctx) : Sel → Bool
    | .field a fid sub =>
      (match (c.s.fields[fid]?).map (fun sf => sf.ty.id) with
       | some (TypeId.object _) =>
         (match sub with
          | [.spread g] => rustOkFrag c g
          | _ => EnumSpec.nodup (rustNamesF c sub) && rustOkSelsF c sub)
       | _ => rustOkSelV c (.field a fid sub))
    | .spread g => rustOkFrag c g
    | _ => true
  def rustOkSelsF (c : Ctx) : List Sel → Bool
    | [] => true
    | x :: xs => rustOkSelF c x && rustOkSelsF c xs
end

theorem rust_fieldsOfF (c : Ctx) (pfx : String) : ∀ (sels : List Sel), Resolves c pfx sels →
    (fieldsOfF c pfx sels).map (·.rust) = rustNamesF c sels
  | [], _ => rfl
  | x :: xs, R => by
    rw [fieldsOfF_cons, List.map_append, rust_fieldsOfF c pfx xs R.tail]
    cases x with
    | field a fid sub =>
      obtain ⟨sf, ft, hsf, hf, _⟩ := R.field a fid sub (by simp)
      rw [fieldOfSelF_field, hf]
      simp [rustNamesF, rustNameF, rustName, hsf, fieldOf]
    | spread g =>
      obtain ⟨fr, hfr⟩ := R.spread g (by simp)
      simp [fieldOfSelF, hfr, spreadField, rustNamesF, rustNameF, fragName]
    | inline t sub => simp [fieldOfSelF, fieldOfSelV, rustNamesF, List.filterMap_cons, rustNameF, rustName]
    | typename => simp [fieldOfSelF, fieldOfSelV, rustNamesF, List.filterMap_cons, rustNameF, rustName]

theorem depthsF_mem (q : Query) : ∀ {sels : List Sel} {x : Sel}, x ∈ sels → depthF q x ≤ depthsF q sels
  | [], _, h => by simp at h
  | y :: ys, x, h => by
    rw [depthsF]
    rcases List.mem_cons.mp h with rfl | h'
    · omega
    · have := depthsF_mem q h'; omega

theorem keysOksF_mem {s : Schema} {q : Query} : ∀ {sels : List Sel}, keysOksF s q sels = true →
    ∀ x ∈ sels, keysOkF s q x = true :=
  fun {sels} h => List.all_eq_true.mp (all_of_eqns (ps := keysOksF s q) rfl (fun _ _ => rfl) sels ▸ h)

theorem find_fieldKey (s : Schema) (k : String) : ∀ (sels : List Sel), (fieldKeys s sels).Nodup →
    ∀ x ∈ sels, fieldKey s x = some k → sels.find? (fun y => fieldKey s y == some k) = some x :=
  find_key (fieldKey s) k

theorem fieldKeys_sublist_expKeys (s : Schema) (q : Query) : ∀ (sels : List Sel),
    (fieldKeys s sels).Sublist (expKeys s q sels)
  | [] => by simp [fieldKeys, expKeys]
  | x :: xs => by
    have ih := fieldKeys_sublist_expKeys s q xs
    cases x with
    | field a fid sub =>
      simp only [fieldKeys, List.filterMap_cons, fieldKey, expKeys] at ih ⊢
      cases hsf : s.fields[fid]? with
      | none => simpa using ih
      | some sf => simp only [Option.map_some, List.singleton_append]; exact List.Sublist.cons_cons _ ih
    | spread g =>
      simp only [fieldKeys, List.filterMap_cons, fieldKey, expKeys] at ih ⊢
      exact List.Sublist.trans ih (List.sublist_append_right _ _)
    | inline t sub => simpa [fieldKeys, List.filterMap_cons, fieldKey, expKeys] using ih
    | typename => simpa [fieldKeys, List.filterMap_cons, fieldKey, expKeys] using ih

theorem expandSels_mem (q : Query) : ∀ {sels : List Sel} {x : Sel}, x ∈ sels → expandSel q x ∈ expandSels q sels
  | [], _, h => by simp at h
  | y :: ys, x, h => by
    rw [expandSels]
    rcases List.mem_cons.mp h with rfl | h'
    · simp
    · exact List.mem_cons_of_mem _ (expandSels_mem q h')

theorem optionAttrs_fieldsOfF (c : Ctx) (pfx : String) (sels : List Sel) : OptionAttrs (fieldsOfF c pfx sels) := by
  intro f hf
  obtain ⟨x, hx, hfx⟩ := List.mem_filterMap.mp hf
  cases x with
  | spread g =>
    obtain ⟨fr, _, rfl⟩ := Option.map_eq_some_iff.mp hfx
    rintro (h | h) <;> cases h
  | _ => exact optionAttrs_fieldsOfV c pfx sels f (List.mem_filterMap.mpr ⟨_, hx, hfx⟩)

section RTF
variable (e : Env) (c : Ctx)

/-- round trip of one flattened member (the struct of a spread fragment), read from the whole object -/
theorem rtMemberF (i : Nat) (gid : Nat) (fr : RFragment) (hfr : c.q.fragments[gid]? = some fr)
    (hok : fragOk c.s c.q c.o (.object i) gid = true) (henv : FragEnv e c gid) (hro : rustOkFrag c gid = true)
    (fuel fs : Nat) (hfuel : 2 * selsDepth fr.sels + 1 ≤ fuel) (hfs : 2 * selsDepth fr.sels ≤ fs)
    (kvs : List (String × Json)) (hnd : (kvs.map (·.1)).Nodup) (hconf : confSelsV c.s i fr.sels kvs = true)
    (own : List (String × Val))
    (hown : deOwnWith (dePath e true fuel) (fieldsOfV c (c.cs.camel fr.name) fr.sels) kvs = .ok own) :
    serPath e (fs + 1) fr.name (.record own) = .ok (.obj (canonEntriesV c.s c.o.skipNone fr.sels kvs)) := by
  obtain ⟨fr', hfr', _, _, hv, hkeys⟩ := fragOk_parts hok
  rw [hfr] at hfr'; cases hfr'
  unfold FragEnv at henv
  rw [hfr] at henv
  have hsels : fragSels c.q gid = fr.sels := by simp [fragSels, hfr]
  simp only [rustOkFrag, hsels, Bool.and_eq_true] at hro
  obtain ⟨hp, _, n, d, cr, hfind⟩ := henv.1
  have hd : dePath e true (fuel + 1) fr.name (.obj kvs) = .ok (.record own) := by
    rw [dePath_struct e true fuel fr.name n d cr _ hp hfind, deStruct_obj,
      deStructMap_plain _ _ _ _ (plain_fieldsOfV c _ fr.sels), hown]; rfl
  exact rtStructV e c _ _ fr.sels (fun x hx => (rtSelsV e c fr.sels _ x hx).1) false hv henv.2 hro.2 hro.1 hkeys henv.1
    true (fuel + 1) (fs + 1) (by omega) (by omega) kvs ⟨hnd, strictAt_of_conf hconf⟩ _ hd

theorem serPath_alias (name target n : String) (pub : Bool) (hfind : e.find name = some (.alias n pub (.path target)))
    (fs : Nat) (v : Val) : serPath e (fs + 2) name v = serPath e (fs + 1) target v := by
  rw [serPath, serPath]
  cases hp : serPrim v with
  | some j => rfl
  | none => simp only [hfind, serTyWith]; rw [serPath]; simp only [hp]

/-- round trip through the type alias of a lone spread -/
theorem rtAliasF (name : String) (i : Nat) (g : Nat) (hok : fragOk c.s c.q c.o (.object i) g = true)
    (ha : AliasEnv e name (fragName c g)) (hf : FragEnv e c g) (hro : rustOkFrag c g = true) (b : Bool) (fd fs : Nat)
    (hfd : 2 * selsDepth (fragSels c.q g) + 3 ≤ fd) (hfs : 2 * selsDepth (fragSels c.q g) + 3 ≤ fs) (j : Json) (v : Val)
    (hc : conformsV c.s i (expandSels c.q [Sel.spread g]) j = true) (hd : dePath e b fd name j = .ok v) :
    serPath e fs name v = .ok (canonSelV c.s c.o.skipNone (fragSels c.q g) j) := by
  obtain ⟨fr, hfr, hon, _, hv, hkeys⟩ := fragOk_parts hok
  obtain ⟨hp, _, n, pub, hfind⟩ := ha
  unfold FragEnv at hf
  rw [hfr] at hf
  have hsels : fragSels c.q g = fr.sels := by simp [fragSels, hfr]
  have hname : fragName c g = fr.name := by simp [fragName, hfr]
  simp only [rustOkFrag, hsels, Bool.and_eq_true] at hro
  rw [hsels] at hfd hfs ⊢
  rw [hname] at hfind
  obtain ⟨fd', rfl⟩ : ∃ k, fd = k + 1 := ⟨fd - 1, by omega⟩
  obtain ⟨fs', rfl⟩ : ∃ k, fs = k + 2 := ⟨fs - 2, by omega⟩
  have hd' : dePath e b fd' fr.name j = .ok v := by
    rw [dePath] at hd; simpa only [dePrim_none hp, hfind, deTyWith] using hd
  rw [serPath_alias e name fr.name n pub hfind]
  exact structV_lossless e c _ _ fr.sels hv hf.2 hro.2 hro.1 hkeys hf.1 b fd' (fs' + 1) (by omega) (by omega) i j v
    (conformsV_lone c.s c.q i g fr hfr hon j hc) hd'

end RTF


theorem canonSelF_not_lone {s : Schema} {q : Query} {skip : Bool} {sels : List Sel}
    (h : ∀ g, sels ≠ [Sel.spread g]) (j : Json) :
    canonSelF s q skip sels j = (match j with | .obj kvs => .obj (canonEntriesF s q skip sels kvs) | j => j) := by
  unfold canonSelF
  split
  · exact absurd rfl (h _)
  · rfl

/-! ## `serde_json::to_value` normalisation leaves the canonical form alone -/

theorem canonEntriesF_keys (s : Schema) (q : Query) (skip : Bool) (kvs : List (String × Json)) :
    ∀ sels : List Sel, ((canonEntriesF s q skip sels kvs).map (·.1)).Sublist (expKeys s q sels)
  | [] => by simp [canonEntriesF, expKeys]
  | x :: xs => by
    have ih := canonEntriesF_keys s q skip kvs xs
    cases x with
    | field a fid sub =>
      rw [canonEntriesF]
      simp only [expKeys]
      cases hsf : s.fields[fid]? with
      | none => simpa using ih
      | some sf =>
        simp only [List.map_append]
        refine List.Sublist.append ?_ ih
        cases Json.lookup (a.getD sf.name) kvs with
        | none => simp only []; split <;> simp
        | some v => simp only []; split <;> simp
    | spread g =>
      rw [canonEntriesF]
      simp only [expKeys, List.map_append]
      exact (canonEntriesV_keys s skip kvs (fragSels q g)).append ih
    | inline t sub => simpa [canonEntriesF, expKeys] using ih
    | typename => simpa [canonEntriesF, expKeys] using ih

section NormF
variable (s : Schema) (q : Query) (o : Options) (skip : Bool)

mutual
  theorem normFieldF : ∀ (x : Sel) (p : TypeId) (v : Json), fSel s q o p x = true → keysOkF s q x = true →
      strictFieldV s (expandSel q x) v = true → normJson (canonFieldF s q skip x v) = canonFieldF s q skip x v
    | .field a fid sub, p, v => by
      intro ht hko hst
      have IH := normEntriesF sub
      cases hsf : s.fields[fid]? with
      | none => rw [fSel] at ht; simp [hsf] at ht
      | some sf =>
        by_cases hobj : ∃ i, sf.ty.id = .object i
        · obtain ⟨i, hid⟩ := hobj
          rw [fSel] at ht
          rw [keysOkF, Bool.and_eq_true] at hko
          simp only [expandSel, strictFieldV] at hst
          rw [canonFieldF]
          simp only [hsf, hid, Bool.and_eq_true] at ht hst ⊢
          rw [canonLambdaF]
          refine (norm_canon (conformsAt s (.object i) (expandSels q sub)) (canonSelF s q skip sub) ?_ _).2 v hst
          intro j hj
          simp only [conformsAt, List.any_eq_true, List.mem_range, Bool.and_eq_true, fragApplies, beq_iff_eq] at hj
          obtain ⟨rt, _, hrt, hcv⟩ := hj
          subst hrt
          have hbody : fBody s q o (.object i) sub = true := ht.2.2
          by_cases hsp : ∃ g, sub = [Sel.spread g]
          · obtain ⟨g, rfl⟩ := hsp
            have hok : fragOk s q o (.object i) g = true := hbody
            obtain ⟨fr, hfr, hon, _, hv, hkeys⟩ := fragOk_parts hok
            have hsels : fragSels q g = fr.sels := by simp [fragSels, hfr]
            simp only [canonSelF, hsels]
            exact norm_canonSelV s o skip i fr.sels j hv hkeys (conformsV_lone s q i g fr hfr hon j hcv)
          · have hnl : ∀ g, sub ≠ [Sel.spread g] := fun g hg => hsp ⟨g, hg⟩
            rw [fBody_not_lone hnl] at hbody
            rw [canonSelF_not_lone hnl]
            cases j with
            | obj kvs =>
              simp only [conformsV, Bool.and_eq_true] at hcv
              exact normJson_obj_fixed _ ((canonEntriesF_keys s q skip kvs sub).nodup (nodup_iff'.mp hko.1))
                (IH i kvs hbody hko.2 hcv.2)
            | null => rfl
            | bool _ => rfl
            | int _ => rfl
            | num _ => rfl
            | str _ => rfl
            | arr _ => simp [conformsV] at hcv
        · have hno : ∀ i, sf.ty.id ≠ .object i := fun i h => hobj ⟨i, h⟩
          have hv := vSel_of_fSel_nonobj ht hsf hno
          have hl : canonFieldF s q skip (.field a fid sub) v = canonFieldV s skip (.field a fid sub) v := by
            rw [canonFieldF]
            simp only [hsf]
          rw [hl]
          rw [expandSel_noSpread q _ (noSpread_of_vSel s o _ false hv)] at hst
          exact normFieldV s o skip _ false v hv hst
    | .spread g, _, _ => by
      intro _ _ h
      rw [expandSel] at h
      cases hq : q.fragments[g]? <;> simp [hq, strictFieldV] at h
    | .inline _ _, _, _ => by intro ht; simp [fSel] at ht
    | .typename, _, _ => by intro _ _ h; simp [expandSel, strictFieldV] at h
  theorem normEntriesF : ∀ (sels : List Sel) (i : Nat) (kvs : List (String × Json)),
      fSels s q o (.object i) sels = true → keysOksF s q sels = true →
      confSelsV s i (expandSels q sels) kvs = true → ∀ kv ∈ canonEntriesF s q skip sels kvs, normJson kv.2 = kv.2
    | [], _, _, _, _, _ => by simp [canonEntriesF]
    | x :: xs, i, kvs, ht, hko, hc => by
      obtain ⟨hx, hxs⟩ := fSels_cons ht
      rw [keysOksF, Bool.and_eq_true] at hko
      rw [expandSels, confSelsV, Bool.and_eq_true] at hc
      have ih := normEntriesF xs i kvs hxs hko.2 hc.2
      cases x with
      | field a fid sub =>
        rw [canonEntriesF]
        have hcx := hc.1
        rw [expandSel, confSelV_field] at hcx
        cases hsf : s.fields[fid]? with
        | none => simpa using ih
        | some sf =>
          simp only [hsf] at hcx ⊢
          cases hl : Json.lookup (a.getD sf.name) kvs with
          | none => simp [hl] at hcx
          | some v =>
            simp only [hl] at hcx ⊢
            intro kv hkv
            rw [List.mem_append] at hkv
            rcases hkv with hkv | hkv
            · split at hkv
              · simp at hkv
              · simp only [List.mem_singleton] at hkv
                subst hkv
                exact normFieldF _ _ v hx hko.1 (by rw [expandSel]; exact hcx)
            · exact ih kv hkv
      | spread g =>
        have hok : fragOk s q o (.object i) g = true := by simpa [fSel] using hx
        obtain ⟨fr, hfr, hon, _, hv, _⟩ := fragOk_parts hok
        have hsels : fragSels q g = fr.sels := by simp [fragSels, hfr]
        have hcg : confSelsV s i fr.sels kvs = true := by
          have := hc.1
          simpa [expandSel, hfr, confSelV, hon, fragApplies] using this
        rw [canonEntriesF, hsels]
        intro kv hkv
        rw [List.mem_append] at hkv
        rcases hkv with hkv | hkv
        · exact normEntriesV s o skip fr.sels false kvs hv (strictAt_of_conf hcg) kv hkv
        · exact ih kv hkv
      | inline t sub => simp [fSel] at hx
      | typename => simpa [canonEntriesF] using ih
end

end NormF

/-- the canonical form of a conforming response is a `serde_json::to_value` normal form -/
theorem norm_canonSelF (s : Schema) (q : Query) (o : Options) (skip : Bool) (i : Nat) (sels : List Sel) (j : Json)
    (ht : fBody s q o (.object i) sels = true) (hko : keysOksF s q sels = true)
    (hkeys : EnumSpec.nodup (expKeys s q sels) = true)
    (hj : conformsV s i (expandSels q sels) j = true) : normJson (canonSelF s q skip sels j) = canonSelF s q skip sels j := by
  by_cases hsp : ∃ g, sels = [Sel.spread g]
  · obtain ⟨g, rfl⟩ := hsp
    have hok : fragOk s q o (.object i) g = true := ht
    obtain ⟨fr, hfr, hon, _, hv, hk⟩ := fragOk_parts hok
    have hsels : fragSels q g = fr.sels := by simp [fragSels, hfr]
    simp only [canonSelF, hsels]
    exact norm_canonSelV s o skip i fr.sels j hv hk (conformsV_lone s q i g fr hfr hon j hj)
  · have hnl : ∀ g, sels ≠ [Sel.spread g] := fun g hg => hsp ⟨g, hg⟩
    rw [fBody_not_lone hnl] at ht
    rw [canonSelF_not_lone hnl]
    cases j with
    | obj kvs =>
      simp only [conformsV, Bool.and_eq_true] at hj
      exact normJson_obj_fixed _ ((canonEntriesF_keys s q skip kvs sels).nodup (nodup_iff'.mp hkeys))
        (normEntriesF s q o skip sels i kvs ht hko hj.2)
    | null => rfl
    | bool _ => rfl
    | int _ => rfl
    | num _ => rfl
    | str _ => rfl
    | arr _ => simp [conformsV] at hj

/-! ## the side condition of losslessness -/

/-- Rust field names pairwise distinct in every struct (decidable) -/
def fragRustOk (c : Ctx) (op : ROperation) : Bool :=
  rustOkSelsF c op.sels && EnumSpec.nodup (rustNamesF c op.sels)

end E2E
end C01
end GqlVerif
