import GqlVerif.Proofs.C01AliasFragK
import GqlVerif.Proofs.C01NestedE
/-!
# `AliasFragOp`: the emitted module; `aliasfrag_precise_iff`

The environment hypotheses of `C01AliasFragC` / `C01AliasFragD` hold for the module `responseForQuery` emits: the items of
every reachable spread fragment of any rank are in the module (`aliasfrag_fragment_shape`: **the alias item `type F = G;` for
a lone-spread body**), by induction on the rank (`fragEnvA_of`).

**`aliasfrag_precise_iff`** (C03): `Serde.de (moduleEnv c items) ResponseData j` succeeds **iff**
`conformsLooseN (wholeA c R) … false op.sels j`.
-/

namespace GqlVerif
namespace C01AF
open Serde Spec C13 C03 Codegen C01 C01.E2E C01M C01N

section EnvOfA
variable {c : Ctx} {items : List Item} {u : UsedTypes} {root : List Sel} (M : ModFacts c items u root)
  (hfr : FragsIn c items root) (hfrB : FragsInB c items root)
include M hfr hfrB

/-- the environment of a reachable spread fragment of rank `r`, by induction on the rank -/
theorem fragEnvA_of
    (hmemN : ∀ g i r, C02.Reach c.q root (.spread g) → fragOkA c.s c.q c.o r (.object i) g = true →
      ∀ f, c.q.fragments[g]? = some f → ∀ it ∈ bodyItemsM c f.name (c.cs.camel f.name) f.sels, it ∈ items) :
    ∀ (r : Nat) (i g : Nat), fragOkA c.s c.q c.o r (.object i) g = true → C02.Reach c.q root (.spread g) →
      FragEnvA (moduleEnv c items) c r g
  | 0, i, g => by
    intro h hr
    rw [FragEnvA]
    rw [fragOkA] at h
    exact fragEnv_of M hfr g i hr h
  | r + 1, i, g => by
    intro h hr
    by_cases hold : fragOkA c.s c.q c.o r (.object i) g = true
    · obtain ⟨f, hf, hon, _, _⟩ := fragOkA_spec c.s c.q c.o r _ g hold
      have hfon : fragOn c.q g = .object i := by simp [fragOn, hf, hon]
      rw [FragEnvA, hfon, if_pos hold]
      exact fragEnvA_of hmemN r i g hold hr
    · have holdf : fragOkA c.s c.q c.o r (.object i) g = false := by simpa using hold
      have hnew := h
      rw [fragOkA, holdf, Bool.false_or] at hnew
      obtain ⟨f, hf, hon, _, _, hb⟩ := fragNewA_parts hnew
      have hfon : fragOn c.q g = .object i := by simp [fragOn, hf, hon]
      rw [FragEnvA, hfon, if_neg hold]
      simp only [hf]
      have hin := hmemN g i (r + 1) hr h f hf
      rw [hon] at hb
      exact bodyEnvN_of M hfr hfrB (fun p g' h' hr' => fragEnvA_of hmemN r p g' h' hr') f.sels _ _ i hb hin
        (fun x hx => reach_step_spread hr hf hx)

end EnvOfA

theorem topEnvA_of_module {c : Ctx} {opIdx : Nat} {op : ROperation} {items : List Item}
    (hop : c.q.operations[opIdx]? = some op) (ht : AliasFragOp c op = true)
    (hgen : responseForQuery c opIdx = .ok items) (hok : moduleOk c items = true) :
    TopEnvA (moduleEnv c items) c op := by
  obtain ⟨hn, _, hsels⟩ := aliasFragOp_parts ht
  refine ⟨?_, (aliasfrag_module_envOK hop ht hgen hok).1⟩
  obtain ⟨u, F, _, hF, M, hsub, hsubF, _⟩ := module_tail hop hn hgen hok (aliasfrag_items_shape c op (List.mem_of_getElem? hop) ht)
  obtain ⟨hfr, hfrB⟩ := fragsIn_of_module M hF hsubF
  have hfenv : ∀ p g, fragOkA c.s c.q c.o c.q.fragments.length (.object p) g = true →
      C02.Reach c.q op.sels (.spread g) → FragEnvA (moduleEnv c items) c c.q.fragments.length g :=
    fragEnvA_of M hfr hfrB (fun g i r hr hokg f hf => by
      obtain ⟨f', hf', _, hshape⟩ := aliasfrag_fragment_shape c hn r i g hokg
      rw [hf] at hf'; cases hf'
      exact fragmentItems_mem M hF hsubF hr hshape) _
  exact bodyEnvN_of M hfr hfrB hfenv op.sels _ _ _ hsels hsub (fun x hx => .here hx)

/-- **`aliasfrag_precise_iff` (C03), as an equivalence**: on the module `responseForQuery` emits for an operation of
    `AliasFragOp`, `ResponseData` accepts exactly `conformsLooseN (wholeA c R)`, `R` the number of fragments -/
theorem aliasfrag_precise_iff (c : Ctx) (opIdx : Nat) (op : ROperation) (items : List Item)
    (hop : c.q.operations[opIdx]? = some op) (ht : AliasFragOp c op = true) (hnd : fragNamesOk c = true)
    (hk : aliasKeysOk c op = true)
    (hgen : responseForQuery c opIdx = .ok items) (hok : moduleOk c items = true) (j : Json) :
    okB (Serde.de (moduleEnv c items) (.path "ResponseData") j) =
      conformsLooseN (wholeA c c.q.fragments.length) c.s c.q c.o false op.sels j :=
  top_accepts_iffA (moduleEnv c items) c op ht hnd hk
    (topEnvA_of_module hop ht hgen hok) j

theorem aliasfrag_precise (c : Ctx) (opIdx : Nat) (op : ROperation) (items : List Item)
    (hop : c.q.operations[opIdx]? = some op) (ht : AliasFragOp c op = true) (hnd : fragNamesOk c = true)
    (hk : aliasKeysOk c op = true)
    (hgen : responseForQuery c opIdx = .ok items) (hok : moduleOk c items = true) (j : Json) (v : Val)
    (hd : Serde.de (moduleEnv c items) (.path "ResponseData") j = .ok v) :
    conformsLooseN (wholeA c c.q.fragments.length) c.s c.q c.o false op.sels j = true :=
  Top.precise_of_iff (aliasfrag_precise_iff c opIdx op items hop ht hnd hk hgen hok j) hd

end C01AF
end GqlVerif
