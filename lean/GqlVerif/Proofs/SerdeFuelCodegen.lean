import GqlVerif.Proofs.SerdeFuelAcyclic
import GqlVerif.Proofs.C01EndToEndW
/-!
# every module the generator emits carries at most one `Box` on an alias target / a flattened member

`BoxBound e 1` is the hypothesis under which the (doubled) `deFuel` is enough on an acyclic environment
(`envOK_of_acyclic`).  Here it is discharged for EVERY module `Codegen.responseForQuery` emits, with any externs:
`decorateType` adds `Option` / `Vec` only, `boxed` adds one `Box`, and every item of a `calcSelection` call is an
`aliasItem` or comes from `renderType` on such members (`C02.CalcSel.shape`).

So for an emitted module `Acyclic (moduleEnv c items) d` alone gives `EnvOK` — and `Acyclic` does NOT hold of every
emitted module (`spread_cycle_module_not_acyclic`, in `SerdeFuelWitness`); it has the decidable sufficient check
`acyclicCheck` (`acyclic_of_check`, in `SerdeFuelAcyclic`), besides `rankCheck`.
-/
namespace GqlVerif
namespace SerdeFuel
open Codegen

/-! ## `decorateType`, `renderField`, `aliasItem`, `renderType` -/

theorem decorateStep_boxCount {st st' : RTy × Bool} {q : Qual} (h : decorateStep st q = .ok st') :
    boxCount st'.1 = boxCount st.1 := by
  obtain ⟨t, nn⟩ := st
  unfold decorateStep at h
  cases nn <;> cases q <;> simp only [pure, Except.pure, Except.ok.injEq] at h <;>
    first | (subst h; rfl) | cases h

theorem decorateFold_boxCount : ∀ (l : List Qual) (st st' : RTy × Bool), l.foldlM decorateStep st = .ok st' →
    boxCount st'.1 = boxCount st.1
  | [], st, st', h => by
    simp only [List.foldlM_nil, pure, Except.pure, Except.ok.injEq] at h
    subst h; rfl
  | q :: l, st, st', h => by
    rw [List.foldlM_cons] at h
    obtain ⟨st1, h1, h⟩ := C02.bind_ok h
    rw [decorateFold_boxCount l st1 st' h, decorateStep_boxCount h1]

theorem decorateType_boxCount {base : RTy} {quals : List Qual} {t : RTy} (h : decorateType base quals = .ok t) :
    boxCount t = boxCount base := by
  unfold decorateType at h
  obtain ⟨⟨t1, nn⟩, h1, h⟩ := C02.bind_ok h
  have := decorateFold_boxCount _ _ _ h1
  simp only [pure, Except.pure, Except.ok.injEq] at h
  subst h
  cases nn <;> simpa [boxCount] using this

/-- **the member `renderField` renders carries at most one `Box`** -/
theorem renderField_fieldBox {c : Ctx} {g : Option String} {r ft : String} {quals : List Qual} {fl bx : Bool}
    {dep : Option (Option String)} {o : Option RField}
    (h : renderField c g r ft quals fl bx dep = .ok o) : ∀ f ∈ o.toList, fieldBox 1 f = true := by
  obtain ⟨ty, hty, ⟨rfl, _⟩ | ⟨f', rfl, _, _, _, _, hfty⟩⟩ := C02.renderField_cases h
  · simp
  · have hb : boxCount ty = 0 := decorateType_boxCount hty
    intro f hf
    simp only [Option.toList_some, List.mem_singleton] at hf
    subst hf
    simp only [fieldBox, Bool.or_eq_true, Bool.not_eq_true', decide_eq_true_eq]
    exact .inr (by rw [hfty]; cases bx <;> simp [boxCount, hb])

theorem aliasItem_itemBox (n t : String) (b : Bool) : itemBox 1 (aliasItem n t b) = true := by
  cases b <;> rfl

theorem renderType_itemBox (c : Ctx) (name : String) (fields : List RField) (variants : List RVariant)
    (hf : ∀ f ∈ fields, fieldBox 1 f = true) : ∀ it ∈ renderType c name fields variants, itemBox 1 it = true := by
  intro it hit
  rcases C02.renderType_cases c name fields variants with e | e | e <;> rw [e] at hit
  · simp only [List.mem_singleton] at hit; subst hit; rfl
  · simp only [List.mem_singleton] at hit; subst hit
    simpa [itemBox, List.all_eq_true] using hf
  · simp only [List.mem_cons, List.not_mem_nil, or_false] at hit
    rcases hit with rfl | rfl
    · simp only [itemBox, List.all_eq_true, List.mem_append, List.mem_singleton]
      rintro f (h | rfl)
      · exact hf f h
      · rfl
    · rfl

/-- **every item of any `calcSelection` call carries at most one `Box`** on an alias target / a flattened member -/
theorem calc_box {c : Ctx} {fuel : Nat} {name pfx : String} {ty : TypeId} {sels : List Sel} {items : List Item}
    (h : calcSelection c fuel name pfx ty sels = .ok items) : ∀ it ∈ items, itemBox 1 it = true :=
  (C02.CalcSel.of_ok h).shape aliasItem_itemBox (renderType_itemBox c) renderField_fieldBox

/-! ## the other parts of the module -/

theorem inputItem_itemBox {c : Ctx} {i : StoredInput} {it : Item} (B : Nat) (h : inputItem c i = .ok it) :
    itemBox B it = true := by
  rcases C02.inputItem_cases h with ⟨_, vs, _, rfl⟩ | ⟨_, fs, hfs, rfl⟩
  · rfl
  · simp only [itemBox, List.all_eq_true]
    intro f hf
    obtain ⟨p, _, t, _, rfl⟩ := C02.mapM_bind_pure_mem hfs f hf
    rfl

theorem variablesItems_itemBox {c : Ctx} {op : Nat} {V : List Item} (B : Nat) (h : variablesItems c op = .ok V) :
    ∀ it ∈ V, itemBox B it = true := by
  rcases C02.variablesItems_cases h with ⟨_, rfl⟩ | ⟨_, fs, dfl, hfs, _, rfl⟩
  · intro it hit
    simp only [List.mem_singleton] at hit
    subst hit; rfl
  · intro it hit
    simp only [List.mem_cons, List.not_mem_nil, or_false] at hit
    rcases hit with rfl | rfl
    · simp only [itemBox, List.all_eq_true]
      intro f hf
      obtain ⟨v, _, t, _, rfl⟩ := C02.mapM_bind_pure_mem hfs f hf
      rfl
    · rfl

/-- **every item of an emitted module carries at most one `Box`** on an alias target / a flattened member -/
theorem responseForQuery_itemBox {c : Ctx} {op : Nat} {items : List Item} (h : responseForQuery c op = .ok items) :
    ∀ it ∈ items, itemBox 1 it = true := by
  obtain ⟨u, S, E, F, I, V, o, R, _, hS, hE, hF, hI, hV, _, hR, rfl⟩ := C02.responseForQuery_ok_full h
  intro it hit
  simp only [List.mem_append] at hit
  rcases hit with (((((hit | hit) | hit) | hit) | hit) | hit) | hit
  · revert it; decide
  · obtain ⟨names, _, rfl⟩ := C02.scalarItems_cases hS
    obtain ⟨n, _, rfl⟩ := List.mem_map.mp hit
    rfl
  · obtain ⟨es, _, rfl⟩ := C02.enumItems_cases hE
    obtain ⟨en, _, rfl⟩ := List.mem_map.mp hit
    rfl
  · obtain ⟨_, _, _, _, hx⟩ := C02.inputItems_origin hI it hit
    exact inputItem_itemBox 1 hx
  · exact variablesItems_itemBox 1 hV it hit
  · obtain ⟨its, hits, hit⟩ := List.mem_flatten.mp hit
    obtain ⟨g, _, hg⟩ := C02.mapM_ok_mem hF its hits
    obtain ⟨fr, _, hg⟩ := C02.fragmentItems_ok hg
    exact calc_box hg it hit
  · unfold responseItems at hR
    exact calc_box hR it hit

/-- **`BoxBound … 1` for every emitted module**, with any externs -/
theorem responseForQuery_boxBound {c : Ctx} {op : Nat} {items : List Item} (h : responseForQuery c op = .ok items)
    (externs : List (String × RTy)) : BoxBound { items := items, externs := externs } 1 :=
  boxBound_of_check (List.all_eq_true.mpr (responseForQuery_itemBox h))

/-- with the hypotheses of the end-to-end theorems, so that it applies where they do; `moduleOk` plays no part -/
theorem module_boxBound {c : Ctx} {op : Nat} {items : List Item} (h : responseForQuery c op = .ok items)
    (_hok : C01.E2E.moduleOk c items = true) : BoxBound (C01.E2E.moduleEnv c items) 1 :=
  responseForQuery_boxBound h _

/-- **an emitted module whose input-free jumps are acyclic satisfies `EnvOK`** (and `EnvOKS`): `de` never runs out of
    fuel on it, the fuel never matters, a key nobody names is ignored by `Serde.de` -/
theorem module_envOK_of_acyclic {c : Ctx} {op : Nat} {items : List Item} (h : responseForQuery c op = .ok items)
    {d : String → Nat} (ha : Acyclic (C01.E2E.moduleEnv c items) d) :
    EnvOK (C01.E2E.moduleEnv c items) ∧ EnvOKS (C01.E2E.moduleEnv c items) :=
  ⟨envOK_of_acyclic ha (responseForQuery_boxBound h _), envOKS_of_acyclic ha⟩

/-- for an emitted module the executable `acyclicCheck` is all that is left to check -/
theorem module_envOK_of_check {c : Ctx} {op : Nat} {items : List Item} (h : responseForQuery c op = .ok items)
    (hc : acyclicCheck (C01.E2E.moduleEnv c items) = true) :
    EnvOK (C01.E2E.moduleEnv c items) ∧ EnvOKS (C01.E2E.moduleEnv c items) :=
  module_envOK_of_acyclic h (acyclic_of_check hc)

/-- the check is satisfiable on an emitted module: the module of the end-to-end example `exCtx` (`C01EndToEndW`) -/
example : acyclicCheck (C01.E2E.moduleEnv C01.E2E.exCtx C01.E2E.exItems) = true := by decide +kernel

end SerdeFuel
end GqlVerif
