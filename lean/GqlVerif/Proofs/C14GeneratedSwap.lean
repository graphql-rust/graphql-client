import GqlVerif.Proofs.C14GeneratedCheck
/-!
# replacing the value of an entry that is read through the flatten buffer

`Composed.read_alike` for an entry `(w, v)` whose value is *replaced* by `v'`: if every reader of the key `w` among the items
that read this JSON object — the own members with wire name `w` of every struct reachable from `p` (`Composed.Reach`:
through flattened members, newtype variants of tagged enums, aliases) — reads `v` and `v'` alike, no reachable
tagged enum has the tag `w`, and no `@oneOf` enum is reachable (`AgreeAt e w v v' p`), then the object is read alike at
`p` (`swap_dePath`: every fuel, buffered or not; `swap_deFlat` for a flattened member read from related buffers).
This is what lets `Sim.buffered` (`C14GeneratedNested`) descend into the value of a key that a *flattened* member reads.

The own-member loop depends on the entries only through key multiplicities and what each member reads
(`deOwnWith_congr`).
-/
namespace GqlVerif
namespace C14G
open Serde Composed

/-! ## the own-member loop -/

/-- what an own member reads from the entries -/
def readKey (path : String → Json → D Val) (g : RField) (kvs : List (String × Json)) : D Val :=
  match Json.lookup g.wire kvs with
  | some j => deFieldWith path g j
  | none => missingField g

theorem deOwnWith_cons (path : String → Json → D Val) (f : RField) (fs : List RField) (kvs : List (String × Json)) :
    deOwnWith path (f :: fs) kvs = (do
      let rest ← deOwnWith path fs kvs
      if f.flatten then pure rest else
      if countKey f.wire kvs > 1 then bad ("duplicate field " ++ f.wire) else do
      let v ← readKey path f kvs
      pure ((f.rust, v) :: rest)) := by
  rw [deOwnWith]
  unfold readKey
  cases deOwnWith path fs kvs with
  | error err => rfl
  | ok rest =>
    simp only [bind, Except.bind]
    cases f.flatten
    · simp only [Bool.false_eq_true, ↓reduceIte]
      split
      · rfl
      · cases Json.lookup f.wire kvs <;> rfl
    · rfl

theorem deOwnWith_congr (path : String → Json → D Val) (all : List RField) (kvs kvs' : List (String × Json))
    (hc : ∀ w, countKey w kvs = countKey w kvs')
    (hr : ∀ g ∈ all, g.flatten = false → readKey path g kvs = readKey path g kvs') :
    ∀ fs : List RField, (∀ g ∈ fs, g ∈ all) → deOwnWith path fs kvs = deOwnWith path fs kvs'
  | [], _ => rfl
  | f :: fs, hsub => by
    rw [deOwnWith_cons, deOwnWith_cons, deOwnWith_congr path all kvs kvs' hc hr fs (fun g hg => hsub g (by simp [hg])), hc f.wire]
    cases hfl : f.flatten
    · rw [hr f (hsub f (by simp)) hfl]
    · rfl

theorem countKey_cons (w : String) (kv : String × Json) (kvs : List (String × Json)) :
    countKey w (kv :: kvs) = (if kv.1 == w then 1 else 0) + countKey w kvs := by
  unfold countKey
  rw [List.filter_cons]
  split <;> simp <;> omega

theorem readKey_cons (path : String → Json → D Val) (g : RField) (kv : String × Json) (kvs : List (String × Json)) :
    readKey path g (kv :: kvs) = if kv.1 == g.wire then deFieldWith path g kv.2 else readKey path g kvs := by
  obtain ⟨k, v⟩ := kv
  unfold readKey
  rw [Json.lookup]
  by_cases h : (k == g.wire) = true <;> simp [h]

/-! ## entry lists / buffers that differ by a replaced value -/

section Swap
variable (w : String) (v v' : Json)

/-- `l'` is `l` with some of its entries `(w, v)` replaced by `(w, v')` -/
inductive Swap : List (String × Json) → List (String × Json) → Prop
  | nil : Swap [] []
  | same (kv : String × Json) {l l' : List (String × Json)} : Swap l l' → Swap (kv :: l) (kv :: l')
  | swap {l l' : List (String × Json)} : Swap l l' → Swap ((w, v) :: l) ((w, v') :: l')

/-- the same for flatten buffers -/
inductive SwapB : Buf → Buf → Prop
  | nil : SwapB [] []
  | same (x : Option (String × Json)) {l l' : Buf} : SwapB l l' → SwapB (x :: l) (x :: l')
  | swap {l l' : Buf} : SwapB l l' → SwapB (some (w, v) :: l) (some (w, v') :: l')

variable {w v v'}

theorem Swap.refl : ∀ l : List (String × Json), Swap w v v' l l
  | [] => .nil
  | kv :: l => .same kv (Swap.refl l)

theorem Swap.at (pre post : List (String × Json)) : Swap w v v' (pre ++ (w, v) :: post) (pre ++ (w, v') :: post) := by
  induction pre with
  | nil => exact .swap (Swap.refl post)
  | cons kv pre ih => exact .same kv ih

theorem Swap.filter (q : String × Json → Bool) (hq : q (w, v) = q (w, v')) {l l' : List (String × Json)}
    (h : Swap w v v' l l') : Swap w v v' (l.filter q) (l'.filter q) := by
  induction h with
  | nil => exact .nil
  | same kv _ ih =>
    rw [List.filter_cons, List.filter_cons]
    split
    · exact .same kv ih
    · exact ih
  | swap _ ih =>
    rw [List.filter_cons, List.filter_cons, ← hq]
    split
    · exact .swap ih
    · exact ih

theorem Swap.countKey (u : String) {l l' : List (String × Json)} (h : Swap w v v' l l') : countKey u l = countKey u l' := by
  induction h with
  | nil => rfl
  | same kv _ ih => rw [countKey_cons, countKey_cons, ih]
  | swap _ ih => rw [countKey_cons, countKey_cons, ih]

theorem Swap.lookup_ne {u : String} (hu : u ≠ w) {l l' : List (String × Json)} (h : Swap w v v' l l') :
    Json.lookup u l = Json.lookup u l' := by
  induction h with
  | nil => rfl
  | same kv _ ih =>
    obtain ⟨k, x⟩ := kv
    simp only [Json.lookup, ih]
  | swap _ ih =>
    have : (w == u) = false := by simpa using fun h => hu h.symm
    simp only [Json.lookup, this, Bool.false_eq_true, ↓reduceIte, ih]

theorem Swap.lookup_eq {l l' : List (String × Json)} (h : Swap w v v' l l') :
    Json.lookup w l = Json.lookup w l' ∨ (Json.lookup w l = some v ∧ Json.lookup w l' = some v') := by
  induction h with
  | nil => exact .inl rfl
  | same kv _ ih =>
    obtain ⟨k, x⟩ := kv
    simp only [Json.lookup]
    split
    · exact .inl rfl
    · exact ih
  | swap _ _ => exact .inr ⟨by simp [Json.lookup], by simp [Json.lookup]⟩

theorem Swap.map_some {l l' : List (String × Json)} (h : Swap w v v' l l') : SwapB w v v' (l.map some) (l'.map some) := by
  induction h with
  | nil => exact .nil
  | same kv _ ih => exact .same (some kv) ih
  | swap _ ih => exact .swap ih

theorem SwapB.refl : ∀ b : Buf, SwapB w v v' b b
  | [] => .nil
  | x :: b => .same x (SwapB.refl b)

theorem SwapB.present {b b' : Buf} (h : SwapB w v v' b b') : Swap w v v' (present b) (present b') := by
  induction h with
  | nil => exact .nil
  | same x _ ih =>
    cases x with
    | none => simpa [Serde.present] using ih
    | some kv =>
      have e1 : ∀ r : Buf, Serde.present (some kv :: r) = kv :: Serde.present r := fun r => by simp [Serde.present]
      rw [e1, e1]; exact .same kv ih
  | swap _ ih =>
    have e1 : ∀ (kv : String × Json) (r : Buf), Serde.present (some kv :: r) = kv :: Serde.present r :=
      fun kv r => by simp [Serde.present]
    rw [e1, e1]; exact .swap ih

theorem SwapB.takeKeys (keys : List String) {b b' : Buf} (h : SwapB w v v' b b') :
    Swap w v v' (takeKeys keys b).1 (takeKeys keys b').1 ∧ SwapB w v v' (takeKeys keys b).2 (takeKeys keys b').2 := by
  induction h with
  | nil => exact ⟨.nil, .nil⟩
  | same x _ ih =>
    cases x with
    | none => simp only [Serde.takeKeys]; exact ⟨ih.1, .same none ih.2⟩
    | some kv =>
      obtain ⟨k, x⟩ := kv
      simp only [Serde.takeKeys]
      split
      · exact ⟨.same _ ih.1, .same none ih.2⟩
      · exact ⟨ih.1, .same _ ih.2⟩
  | swap _ ih =>
    simp only [Serde.takeKeys]
    split
    · exact ⟨.swap ih.1, .same none ih.2⟩
    · exact ⟨ih.1, .swap ih.2⟩

/-! ## the building blocks of the reader under `Swap` -/

theorem deOwnWith_swap (path : String → Json → D Val) (fs : List RField)
    (hf : ∀ f ∈ fs, f.flatten = false → f.wire = w → deFieldWith path f v = deFieldWith path f v')
    {l l' : List (String × Json)} (h : Swap w v v' l l') : deOwnWith path fs l = deOwnWith path fs l' := by
  apply deOwnWith_congr path fs l l' (fun u => h.countKey u) ?_ fs (fun _ hg => hg)
  intro g hg hfl
  unfold readKey
  by_cases hw : g.wire = w
  · rw [hw]
    rcases h.lookup_eq with h1 | ⟨h1, h2⟩
    · rw [h1]
    · rw [h1, h2]; exact hf g hg hfl hw
  · rw [h.lookup_ne hw]

/-- related results of reading one flattened member: same value (or same error), related buffers handed on:
    `Composed.RelBuf (SwapB w v v')` written out (`relRes_iff`) -/
def RelRes (w : String) (v v' : Json) (r r' : D (Val × Buf)) : Prop :=
  match r, r' with
  | .ok a, .ok a' => a.1 = a'.1 ∧ SwapB w v v' a.2 a'.2
  | .error x, .error x' => x = x'
  | _, _ => False

end Swap

/-! ## readers that agree on `v` and `v'` -/

/-- the item reads `v` and `v'` alike wherever it reads the key `w` (an `@oneOf` enum is sensitive to everything) -/
def okItemS (e : Env) (w : String) (v v' : Json) : Item → Prop
  | .struct _ _ _ fs => ∀ f ∈ fs, f.flatten = false → f.wire = w →
      f.deserWith = none ∧ ∀ b fuel, deTyWith (dePath e b fuel) f.ty v = deTyWith (dePath e b fuel) f.ty v'
  | .tagged _ _ _ tag _ => tag ≠ w
  | .oneOf .. => False
  | _ => True

/-- **every reader of the key `w` in the JSON object read at `p` reads `v` and `v'` alike** -/
def AgreeAt (e : Env) (w : String) (v v' : Json) (p : String) : Prop :=
  ∀ q, Reach e p q → ∀ it, e.find q = some it → okItemS e w v v' it

theorem AgreeAt.extern {e : Env} {w : String} {v v' : Json} {p : String} {x : String × RTy} (h : AgreeAt e w v v' p)
    (hf : e.find p = none) (hx : e.externs.find? (·.1 == p) = some x) : AgreeAt e w v v' (Scope.leaf x.2) :=
  fun r hr => h r (.extern hf hx hr)

section Main
variable {e : Env} {w : String} {v v' : Json}

theorem relRes_refl (r : D (Val × Buf)) : RelRes w v v' r r := by
  unfold RelRes
  cases r with
  | error x => rfl
  | ok a => exact ⟨rfl, SwapB.refl _⟩

theorem relRes_iff {r r' : D (Val × Buf)} : RelBuf (SwapB w v v') r r' ↔ RelRes w v v' r r' := by
  cases r <;> cases r' <;> exact Iff.rfl

/-- `Swap` / `SwapB` and "every reader of `w` reads `v` and `v'` alike" carry `Composed.read_alike` -/
theorem swap_readAlike : ReadAlike e (okItemS e w v v') (Swap w v v') (SwapB w v v') where
  filterKey q _ _ h := Swap.filter (w := w) (v := v) (v' := v') (fun kv => q kv.1) rfl h
  mapSome h := h.map_some
  present h := h.present
  own hP b fuel _ _ h := deOwnWith_swap _ _
    (fun g hg hfl hw => by simp only [deFieldWith, (hP g hg hfl hw).1, (hP g hg hfl hw).2 b fuel]) h
  takeKeys _ _ _ _ hb := hb.takeKeys _
  tag hP _ _ h := ⟨h.countKey _, h.lookup_ne hP⟩
  noOneOf hP := hP

end Main

/-- **an entry read through the flatten buffer, its value replaced**: if every reader of the key `w` in the JSON
    object read at `p` reads `v` and `v'` alike, the object is read alike — any fuel, buffered or not -/
theorem swap_dePath {e : Env} {w : String} {v v' : Json} {p : String} (hag : AgreeAt e w v v' p)
    {l l' : List (String × Json)} (h : Swap w v v' l l') (b : Bool) (fuel : Nat) :
    dePath e b fuel p (.obj l) = dePath e b fuel p (.obj l') :=
  (read_alike swap_readAlike fuel).1 p b l l' hag h

theorem swap_deFlat {e : Env} {w : String} {v v' : Json} {t : RTy} (hag : AgreeAt e w v v' (Scope.leaf t))
    {buf buf' : Buf} (h : SwapB w v v' buf buf') (fuel : Nat) :
    RelRes w v v' (deFlat e fuel t buf) (deFlat e fuel t buf') :=
  relRes_iff.mp ((read_alike swap_readAlike fuel).2 t buf buf' hag h)

end C14G
end GqlVerif
