import GqlVerif.Props.C15
/-!
# C15 — presence is information: empty containers in the envelope are not "nothing"

Corollaries of `error_roundtrip` / `response_roundtrip` for the shapes a "tidy-up" of the serializer most
easily loses (seeded change C15-I: `skip_serializing_if` that also skips an EMPTY extensions map):
an `Error` whose `extensions` is the empty object, whose `path` or `locations` is the empty array, and a
`Response` whose `errors` is the empty array or whose `extensions` is the empty object, all read back
as themselves and therefore never as the value with the member absent.  Injectivity of serialization
on well-formed values is stated once (`serError_injective`), the instances follow.
-/
namespace GqlVerif
namespace C15
open Envelope

/-- serialization of well-formed `Error` values is injective (it has a left inverse) -/
theorem serError_injective (e1 e2 : Error) (h1 : e1.wf = true) (h2 : e2.wf = true)
    (h : serError e1 = serError e2) : e1 = e2 := by
  have r1 := error_roundtrip e1 h1
  have r2 := error_roundtrip e2 h2
  rw [h, r2] at r1
  exact (Option.some.inj r1).symm

theorem serResponse_injective (r1 r2 : Response JMap) (h1 : r1.wf distinctKeys = true)
    (h2 : r2.wf distinctKeys = true)
    (h : serResponseObj r1 = serResponseObj r2) : r1 = r2 := by
  have a := response_roundtrip r1 h1
  have b := response_roundtrip r2 h2
  rw [h, b] at a
  exact (Option.some.inj a).symm

/-- `"extensions": {}` on an error is preserved, and is not the same body as an absent member -/
theorem empty_error_extensions_preserved (msg : String) :
    deError (serError { message := msg, locations := none, path := none, extensions := some [] }) =
      some { message := msg, locations := none, path := none, extensions := some [] } ∧
    serError { message := msg, locations := none, path := none, extensions := some [] } ≠
      serError { message := msg, locations := none, path := none, extensions := none } := by
  refine ⟨error_roundtrip _ (by simp [Error.wf, optAll, distinctKeys]), ?_⟩
  intro h
  have := serError_injective _ _ (by simp [Error.wf, optAll, distinctKeys]) (by simp [Error.wf, optAll]) h
  simp at this

/-- `"path": []` and `"locations": []` on an error are preserved -/
theorem empty_error_lists_preserved (msg : String) :
    deError (serError { message := msg, locations := some [], path := some [], extensions := none }) =
      some { message := msg, locations := some [], path := some [], extensions := none } :=
  error_roundtrip _ (by simp [Error.wf, optAll])

/-- `"errors": []` and `"extensions": {}` on a response are preserved -/
theorem empty_response_members_preserved (d : JMap) (hd : distinctKeys d = true) :
    deResponseObj (serResponseObj { data := some d, errors := some [], extensions := some [] }) =
      some { data := some d, errors := some [], extensions := some [] } :=
  response_roundtrip _ (by simp [Response.wf, optAll, distinctKeys, hd])

end C15
end GqlVerif
