import GqlVerif.Proofs.C14GeneratedFrag
/-!
# `FragOpD`: the emitted module and `KeyFree` through flattened fragment structs

A node of the operation's selection tree (`NodeF`) is a struct **or** a type alias.  `nodeF_env` says what its name
resolves to in `moduleEnv c items` (the struct with members `fieldsOfFD`, or the alias to the fragment) and — for every
fragment spread at the node — that the fragment's struct is in the module with members `fieldsOfD` of its body
(`C02.spread_fragments_used`: a reachable spread is a used fragment).  `collectedKept c sels` is the kept keys of the
selection set **and of the bodies of the fragments spread in it** (the field set GraphQL's CollectFields gives).  Every key
outside `collectedKept c sels` is `KeyFree` at the node's name (`fragnode_keyFree`) — a struct with `#[serde(flatten)]`
members or a type alias: `KeyFree` is *not* "not an own wire name" here; in particular the key of a field denied in the
selection set itself **or in the body of a fragment spread in it**, if no kept selection of the collected set has that key
(`denied_field_keyFree_frag`; the side condition is needed, a collected kept key is read: `collected_key_not_keyFree`).
The nodes *inside* a spread fragment's body are `TreeOpD` nodes: `keyFree_of_struct` applies (`fragbody_node`).
-/

namespace GqlVerif
namespace C14G
open Composed Codegen C01 C01.E2E

/-! ## `KeyFree` from the parts of an item -/

theorem keyFree_of_alias {e : Env} {k p n : String} {pub : Bool} {t : RTy}
    (hfind : e.find p = some (.alias n pub t)) (ht : KeyFree e k (Scope.leaf t)) : KeyFree e k p := by
  intro q hq it hf
  cases hq with
  | refl => rw [hfind] at hf; cases hf; rfl
  | item hf' hq' hr =>
    rw [hfind] at hf'
    cases hf'
    simp only [sameLevel, List.mem_singleton] at hq'
    subst hq'
    exact ht q hr it hf
  | extern hn _ _ => rw [hfind] at hn; cases hn

/-! ## nodes of the operation's selection tree -/

/-- `name` / `pfx` / `i` / `sels`: name, path prefix, object type and selection set of a node below the node
    `root` / `pfx₀` / `i₀` / `sels₀` (through object-typed field selections) -/
inductive NodeF (c : Ctx) : String → String → Nat → List Sel → String → String → Nat → List Sel → Prop
  | here (name pfx : String) (i : Nat) (sels : List Sel) : NodeF c name pfx i sels name pfx i sels
  | step {root pfx₀ : String} {i₀ : Nat} {sels₀ : List Sel} {a : Option String} {fid : Nat} {sub : List Sel} {sf : StoredField}
      {j : Nat} {name pfx : String} {i : Nat} {sels : List Sel} :
      Sel.field a fid sub ∈ sels₀ → c.s.fields[fid]? = some sf → sf.ty.id = .object j →
      NodeF c (pfx₀ ++ c.cs.camel (a.getD sf.name)) (pfx₀ ++ c.cs.camel (a.getD sf.name)) j sub name pfx i sels →
      NodeF c root pfx₀ i₀ sels₀ name pfx i sels

theorem itemsFsD_mem {c : Ctx} {pfx : String} {x : Sel} {it : Item} : ∀ {xs : List Sel}, x ∈ xs →
    it ∈ itemsFD c pfx x → it ∈ itemsFsD c pfx xs
  | [], h, _ => by simp at h
  | y :: ys, h, hit => by
    rw [itemsFsD]
    rcases List.mem_cons.mp h with rfl | h
    · exact List.mem_append_left _ hit
    · exact List.mem_append_right _ (itemsFsD_mem h hit)

theorem mem_not_lone {a : Option String} {fid : Nat} {sub sels : List Sel} (h : Sel.field a fid sub ∈ sels) :
    ∀ g, sels ≠ [Sel.spread g] := by
  intro g hg
  rw [hg] at h
  simp at h

theorem responseForQuery_partsF {c : Ctx} {opIdx : Nat} {items : List Item}
    (h : responseForQuery c opIdx = .ok items) :
    ∃ u pre frags o resp, allUsedTypes c.s c.q opIdx = .ok u ∧
      (sortNat u.fragments).mapM (fragmentItems c) = .ok frags ∧
      c.q.operations[opIdx]? = some o ∧ responseItems c o = .ok resp ∧
      items = builtinAliases ++ pre ++ frags.flatten ++ resp :=
  let ⟨u, S, E, F, I, V, o, R, hu, _, _, hF, ho, hR, hitems⟩ := responseForQuery_parts_full h
  ⟨u, S ++ E ++ I ++ V, F, o, R, hu, hF, ho, hR, by rw [hitems]; simp⟩

theorem nodeF_item {c : Ctx} {root pfx₀ name pfx : String} {i₀ i : Nat} {sels₀ sels : List Sel}
    (h : NodeF c root pfx₀ i₀ sels₀ name pfx i sels) (ht : fBodyD c (.object i₀) sels₀ = true) :
    (∀ it ∈ bodyItemsFD c name pfx sels, it ∈ bodyItemsFD c root pfx₀ sels₀) ∧
    fBodyD c (.object i) sels = true ∧ (∀ x, C02.Reach c.q sels x → C02.Reach c.q sels₀ x) := by
  induction h with
  | here name pfx i sels => exact ⟨fun _ h => h, ht, fun _ h => h⟩
  | @step root pfx₀ i₀ sels₀ a fid sub sf j name pfx i sels hmem hsf hid _ ih =>
    have hnl := mem_not_lone hmem
    rw [fBodyD_not_lone hnl, Bool.and_eq_true] at ht
    have hx := fSelD_of_mem ht.1 hmem
    obtain ⟨h1, h2, h3⟩ := ih (fSelD_object hsf hid hx).2
    refine ⟨fun it hit => ?_, h2, fun x hx' => ?_⟩
    · rw [bodyItemsFD_not_lone c root pfx₀ hnl]
      refine List.mem_cons_of_mem _ (itemsFsD_mem hmem ?_)
      rw [itemsFD_object hsf hid]
      exact h1 it hit
    · have := h3 x hx'
      -- a selection reachable from the sub-selection is reachable through the field
      clear h1 h2 h3 ih
      induction this with
      | here hm => exact .field hmem (.here hm)
      | field hm _ ih' => exact .field hmem (.field hm ‹_›)
      | inline hm _ ih' => exact .field hmem (.inline hm ‹_›)
      | spread hm hf _ ih' => exact .field hmem (.spread hm hf ‹_›)

/-! ## the collected field set -/

def spreadFrags (c : Ctx) (sels : List Sel) : List RFragment :=
  sels.filterMap (fun x => match x with | .spread g => c.q.fragments[g]? | _ => none)

/-- the kept keys of the field set GraphQL's CollectFields gives: of the selection set and of the bodies of the fragments
    spread in it -/
def collectedKept (c : Ctx) (sels : List Sel) : List String :=
  keptKeys c sels ++ (spreadFrags c sels).flatMap (fun f => keptKeys c f.sels)

def collectedDenied (c : Ctx) (sels : List Sel) : List String :=
  deniedKeys c sels ++ (spreadFrags c sels).flatMap (fun f => deniedKeys c f.sels)

theorem mem_spreadFrags {c : Ctx} {sels : List Sel} {f : RFragment} :
    f ∈ spreadFrags c sels ↔ ∃ g, Sel.spread g ∈ sels ∧ c.q.fragments[g]? = some f := by
  unfold spreadFrags
  rw [List.mem_filterMap]
  constructor
  · rintro ⟨x, hx, hfx⟩
    cases x with
    | spread g => exact ⟨g, hx, hfx⟩
    | field a fid sub => simp at hfx
    | inline t sub => simp at hfx
    | typename => simp at hfx
  · rintro ⟨g, hg, hf⟩
    exact ⟨_, hg, hf⟩

/-! ## members of the struct of a node -/

theorem fieldOfSelFD_cases {c : Ctx} {pfx : String} {x : Sel} {f : RField} (h : fieldOfSelFD c pfx x = some f) :
    (f.flatten = false ∧ keptKey c x = some f.wire) ∨
    (∃ g fr, x = .spread g ∧ c.q.fragments[g]? = some fr ∧ f = spreadField c fr) := by
  cases x with
  | spread g =>
    right
    simp only [fieldOfSelFD, Option.map_eq_some_iff] at h
    obtain ⟨fr, hfr, rfl⟩ := h
    exact ⟨g, fr, rfl, hfr, rfl⟩
  | field a fid sub =>
    left
    have h' : fieldOfSelD c pfx (.field a fid sub) = some f := h
    obtain ⟨h1, h2⟩ := fieldOfSelD_wire h'
    exact ⟨h2, h1⟩
  | inline t sub => simp [fieldOfSelFD, fieldOfSelD] at h
  | typename => simp [fieldOfSelFD, fieldOfSelD] at h

theorem mem_fieldsOfFD {c : Ctx} {pfx : String} {sels : List Sel} {f : RField} (h : f ∈ fieldsOfFD c pfx sels) :
    (f.flatten = false ∧ f.wire ∈ keptKeys c sels) ∨
    (f.flatten = true ∧ ∃ fr ∈ spreadFrags c sels, f.ty = .path fr.name) := by
  obtain ⟨x, hx, hfx⟩ := List.mem_filterMap.mp h
  rcases fieldOfSelFD_cases hfx with ⟨h1, h2⟩ | ⟨g, fr, rfl, hfr, rfl⟩
  · exact .inl ⟨h1, List.mem_filterMap.mpr ⟨x, hx, h2⟩⟩
  · exact .inr ⟨rfl, fr, mem_spreadFrags.mpr ⟨g, hx, hfr⟩, rfl⟩

/-! ## what the names of a node resolve to in the emitted module -/

/-- the facts about the module that the `KeyFree` link and the eraser need, for one node of the operation's tree -/
structure NodeEnv (e : Env) (c : Ctx) (name pfx : String) (i : Nat) (sels : List Sel) : Prop where
  /-- the node itself: a struct with members `fieldsOfFD`, or — for a lone spread — an alias to the fragment -/
  self : (∀ g, sels ≠ [Sel.spread g]) → e.find name = some (.struct name c.respDerives c.serdeCrate (fieldsOfFD c pfx sels))
  lone : ∀ g, sels = [Sel.spread g] → e.find name = some (aliasItem name (fragName c g) false)
  known : ∀ g, Sel.spread g ∈ sels → ∃ f, c.q.fragments[g]? = some f
  /-- every fragment spread at the node: its struct, with the members of the `TreeOpD` closed form of its body -/
  frag : ∀ f ∈ spreadFrags c sels, f.on = .object i ∧ treeSelsD c f.sels = true ∧ EnumSpec.nodup (keptKeys c f.sels) = true ∧
    e.find f.name = some (.struct f.name c.respDerives c.serdeCrate (fieldsOfD c (c.cs.camel f.name) f.sels)) ∧
    ∀ it ∈ itemsOfSelsD c (c.cs.camel f.name) f.sels, it ∈ e.items

theorem spread_fragOkD {c : Ctx} {i : Nat} {sels : List Sel} (hb : fBodyD c (.object i) sels = true) {g : Nat}
    (hg : Sel.spread g ∈ sels) : fragOkD c (.object i) g = true := by
  by_cases hl : ∃ g', sels = [Sel.spread g']
  · obtain ⟨g', rfl⟩ := hl
    simp only [List.mem_singleton, Sel.spread.injEq] at hg
    subst hg
    exact hb
  · rw [fBodyD_not_lone (fun g' h => hl ⟨g', h⟩), Bool.and_eq_true] at hb
    have := fSelD_of_mem hb.1 hg
    simpa [fSelD] using this

/-- **the names of a node of the operation's tree in the environment of the emitted module** -/
theorem nodeF_env (c : Ctx) (opIdx : Nat) (op : ROperation) (items : List Item)
    (hop : c.q.operations[opIdx]? = some op) (ht : FragOpD c op = true)
    (hgen : responseForQuery c opIdx = .ok items) (hnd : EnumSpec.nodup (items.map (·.name)) = true)
    {name pfx : String} {i : Nat} {sels : List Sel}
    (hnode : NodeF c "ResponseData" (c.cs.camel op.name) op.objectId op.sels name pfx i sels) :
    NodeEnv (moduleEnv c items) c name pfx i sels ∧ fBodyD c (.object i) sels = true := by
  obtain ⟨hn, hbody⟩ := fragOpD_parts ht
  obtain ⟨u, S, E, F, I, V, o, resp, hu, _, _, hF, ho, hresp, hitems⟩ := responseForQuery_parts_full hgen
  rw [hop] at ho; cases ho
  rw [frag_items_shapeD c op (List.mem_of_getElem? hop) ht] at hresp
  cases hresp
  have hnd' := nodup_iff'.mp hnd
  obtain ⟨hsub, hb, hreach⟩ := nodeF_item hnode hbody
  have hin : ∀ it ∈ bodyItemsFD c name pfx sels, it ∈ items := by
    intro it hit; rw [hitems]; exact List.mem_append_right _ (hsub it hit)
  refine ⟨⟨fun hnl => ?_, fun g hg => ?_, fun g hg => ?_, fun f hf => ?_⟩, hb⟩
  · have := hin _ (by rw [bodyItemsFD_not_lone c name pfx hnl]; exact List.mem_cons_self)
    exact find_of_mem (customExterns c) hnd' this
  · have := hin (aliasItem name (fragName c g) false) (by rw [hg]; simp [bodyItemsFD])
    exact find_of_mem (customExterns c) hnd' this
  · obtain ⟨f, hf, _⟩ := fragOkD_parts (spread_fragOkD hb hg)
    exact ⟨f, hf⟩
  · obtain ⟨g, hg, hfr⟩ := mem_spreadFrags.mp hf
    have hok := spread_fragOkD hb hg
    obtain ⟨f', hf', hon, _, hv, hk⟩ := fragOkD_parts hok
    rw [hfr] at hf'; cases hf'
    obtain ⟨f'', hf'', hshape⟩ := frag_struct_shapeD c hn i g hok
    rw [hfr] at hf''; cases hf''
    have hused : g ∈ u.fragments :=
      C02.spread_fragments_used c.s c.q opIdx u hu op hop g (hreach _ (.here hg))
    obtain ⟨its, hits, hgi⟩ := C02.mapM_ok_of_mem hF g ((C02.mem_sortNat _ _).mpr hused)
    rw [hshape] at hgi
    cases hgi
    have hinF : ∀ it ∈ structItemsD c f.name (c.cs.camel f.name) f.sels, it ∈ items := by
      intro it hit
      rw [hitems]
      exact List.mem_append_left _ (List.mem_append_right _ (List.mem_flatten.mpr ⟨_, hits, hit⟩))
    refine ⟨hon, hv, hk, ?_, fun it hit => hinF it (by simp [structItemsD, hit])⟩
    exact find_of_mem (customExterns c) hnd' (hinF _ (by unfold structItemsD; exact List.mem_cons_self))

/-! ## `KeyFree` at a node -/

/-- `KeyFree` at the struct of a spread fragment (no flatten member there): "not a kept key of its body" -/
theorem frag_struct_keyFree {e : Env} {c : Ctx} {name pfx : String} {i : Nat} {sels : List Sel}
    (henv : NodeEnv e c name pfx i sels) {f : RFragment} (hf : f ∈ spreadFrags c sels) {k : String}
    (hk : k ∉ keptKeys c f.sels) : KeyFree e k f.name := by
  obtain ⟨_, _, _, hfind, _⟩ := henv.frag f hf
  exact keyFree_of_struct hfind (fun m hm => (wire_mem_keptKeys hm).2)
    (fun m hm hw => hk (hw ▸ (wire_mem_keptKeys hm).1))

/-- **`KeyFree` at a node of the class, through the flattened fragment structs**: every key outside the collected kept
    keys -/
theorem nodeEnv_keyFree {e : Env} {c : Ctx} {name pfx : String} {i : Nat} {sels : List Sel}
    (henv : NodeEnv e c name pfx i sels) {k : String} (hk : k ∉ collectedKept c sels) : KeyFree e k name := by
  simp only [collectedKept, List.mem_append, List.mem_flatMap, not_or, not_exists, not_and] at hk
  by_cases hl : ∃ g, sels = [Sel.spread g]
  · obtain ⟨g, hg⟩ := hl
    have hfind := henv.lone g hg
    obtain ⟨fr, hfr⟩ := henv.known g (by rw [hg]; simp)
    have hmem : fr ∈ spreadFrags c sels := mem_spreadFrags.mpr ⟨g, by rw [hg]; simp, hfr⟩
    refine keyFree_of_alias hfind ?_
    simp only [fragName, hfr, Bool.false_eq_true, ↓reduceIte, Scope.leaf]
    exact frag_struct_keyFree henv hmem (hk.2 fr hmem)
  · have hfind := henv.self (fun g h => hl ⟨g, h⟩)
    refine keyFree_of_struct_flat hfind (fun f hf hfl hw => ?_) (fun f hf hfl => ?_)
    · rcases mem_fieldsOfFD hf with ⟨_, h2⟩ | ⟨h1, _⟩
      · exact hk.1 (hw ▸ h2)
      · rw [hfl] at h1; cases h1
    · rcases mem_fieldsOfFD hf with ⟨h1, _⟩ | ⟨_, fr, hfr, hty⟩
      · rw [hfl] at h1; cases h1
      · rw [hty]
        exact frag_struct_keyFree henv hfr (hk.2 fr hfr)

/-! ## the generator link for `FragOpD` -/

/-- **every key outside the collected kept keys is `KeyFree` at a node of the operation's tree** — a struct with
    `#[serde(flatten)]` members, or a type alias to a fragment struct -/
theorem fragnode_keyFree (c : Ctx) (opIdx : Nat) (op : ROperation) (items : List Item)
    (hop : c.q.operations[opIdx]? = some op) (ht : FragOpD c op = true)
    (hgen : responseForQuery c opIdx = .ok items) (hnd : EnumSpec.nodup (items.map (·.name)) = true)
    {name pfx : String} {i : Nat} {sels : List Sel}
    (hnode : NodeF c "ResponseData" (c.cs.camel op.name) op.objectId op.sels name pfx i sels)
    {k : String} (hk : k ∉ collectedKept c sels) : KeyFree (moduleEnv c items) k name :=
  nodeEnv_keyFree (nodeF_env c opIdx op items hop ht hgen hnd hnode).1 hk

theorem denied_mem_collected {c : Ctx} {sels body : List Sel}
    (hbody : body = sels ∨ ∃ f ∈ spreadFrags c sels, body = f.sels)
    {a : Option String} {fid : Nat} {sub : List Sel} {sf : StoredField}
    (hsel : Sel.field a fid sub ∈ body) (hsf : c.s.fields[fid]? = some sf)
    (hdep : sf.deprecation.isSome = true) (hdeny : c.o.deprecation = .deny) :
    a.getD sf.name ∈ collectedDenied c sels := by
  have := denied_mem_deniedKeys hsel hsf hdep hdeny
  simp only [collectedDenied, List.mem_append, List.mem_flatMap]
  rcases hbody with rfl | ⟨f, hf, rfl⟩
  · exact .inl this
  · exact .inr ⟨f, hf, this⟩

/-- **the generator link through flattened fragment structs**: under `deny`, a
    deprecated field with response key `k` selected in the selection set of a node **or in the body of a fragment spread
    there** is omitted, and `k` is `KeyFree` at the node's name (struct with flattened members / alias) — provided no
    kept selection of the collected field set has the key `k` -/
theorem denied_field_keyFree_frag (c : Ctx) (opIdx : Nat) (op : ROperation) (items : List Item)
    (hop : c.q.operations[opIdx]? = some op) (ht : FragOpD c op = true)
    (hgen : responseForQuery c opIdx = .ok items) (hnd : EnumSpec.nodup (items.map (·.name)) = true)
    {name pfx : String} {i : Nat} {sels : List Sel}
    (hnode : NodeF c "ResponseData" (c.cs.camel op.name) op.objectId op.sels name pfx i sels)
    {body : List Sel} (hbody : body = sels ∨ ∃ f ∈ spreadFrags c sels, body = f.sels)
    {a : Option String} {fid : Nat} {sub : List Sel} {sf : StoredField}
    (hsel : Sel.field a fid sub ∈ body) (hsf : c.s.fields[fid]? = some sf)
    (hdep : sf.deprecation.isSome = true) (hdeny : c.o.deprecation = .deny)
    (hsib : a.getD sf.name ∉ collectedKept c sels) :
    a.getD sf.name ∈ collectedDenied c sels ∧ KeyFree (moduleEnv c items) (a.getD sf.name) name :=
  ⟨denied_mem_collected hbody hsel hsf hdep hdeny, fragnode_keyFree c opIdx op items hop ht hgen hnd hnode hsib⟩

/-! ### the side condition is needed: a collected kept key is read -/

theorem kept_member {c : Ctx} {p : TypeId} {pfx : String} {x : Sel} {k : String} (hx : fSelD c p x = true)
    (hk : keptKey c x = some k) : ∃ f, fieldOfSelD c pfx x = some f ∧ f.wire = k ∧ f.flatten = false := by
  cases x with
  | field a fid sub =>
    rw [fSelD] at hx
    simp only [keptKey] at hk
    cases hsf : c.s.fields[fid]? with
    | none => simp [hsf] at hx
    | some sf =>
      simp only [hsf, Bool.and_eq_true] at hx hk
      by_cases hd : isDenied c sf = true
      · simp [hd] at hk
      · simp only [hd, Bool.false_eq_true, ↓reduceIte, Option.some.injEq] at hk
        have hty := hx.2
        have key : ∀ ft, leafName c pfx (a.getD sf.name) sf.ty.id = some ft →
            ∃ f, fieldOfSelD c pfx (.field a fid sub) = some f ∧ f.wire = k ∧ f.flatten = false := by
          intro ft hft
          refine ⟨fieldOf c (a.getD sf.name) ft sf.ty.quals sf.deprecation, ?_, ?_, rfl⟩
          · simp [fieldOfSelD, hsf, hd, hft]
          · rw [fieldOf_wire]; exact hk
        cases hid : sf.ty.id with
        | scalar j =>
          simp only [hid, Bool.and_eq_true] at hty
          cases hj : c.s.scalars[j]? with
          | none => simp [hj] at hty
          | some sn => exact key sn (by simp [leafName, hid, hj])
        | enum j =>
          simp only [hid, Bool.and_eq_true] at hty
          cases hj : c.s.enums[j]? with
          | none => simp [hj] at hty
          | some en => exact key en.name (by simp [leafName, hid, hj])
        | object j => exact key (pfx ++ c.cs.camel (a.getD sf.name)) (by simp [leafName, hid])
        | _ => simp [hid] at hty
  | spread g => simp [keptKey] at hk
  | inline t sub => simp [keptKey] at hk
  | typename => simp [keptKey] at hk

theorem kept_member_tree {c : Ctx} {pfx : String} {sels : List Sel} (ht : treeSelsD c sels = true) {k : String}
    (hk : k ∈ keptKeys c sels) : ∃ f ∈ fieldsOfD c pfx sels, f.wire = k ∧ f.flatten = false := by
  rw [← fieldsOfD_wires c pfx sels ht] at hk
  obtain ⟨f, hf, hw⟩ := List.mem_map.mp hk
  exact ⟨f, hf, hw, (wire_mem_keptKeys hf).2⟩

/-- **a collected kept key is read at the node** (so the side condition of `denied_field_keyFree_frag` cannot be dropped):
    by an own member of the struct, or by a member of a fragment struct flattened into it / aliased by it -/
theorem collected_key_not_keyFree (c : Ctx) (opIdx : Nat) (op : ROperation) (items : List Item)
    (hop : c.q.operations[opIdx]? = some op) (ht : FragOpD c op = true)
    (hgen : responseForQuery c opIdx = .ok items) (hnd : EnumSpec.nodup (items.map (·.name)) = true)
    {name pfx : String} {i : Nat} {sels : List Sel}
    (hnode : NodeF c "ResponseData" (c.cs.camel op.name) op.objectId op.sels name pfx i sels)
    {k : String} (hk : k ∈ collectedKept c sels) : ¬ KeyFree (moduleEnv c items) k name := by
  obtain ⟨henv, hb⟩ := nodeF_env c opIdx op items hop ht hgen hnd hnode
  simp only [collectedKept, List.mem_append, List.mem_flatMap] at hk
  intro hkf
  -- the fragment struct reached from the node, for a spread fragment
  have reachFrag : ∀ fr ∈ spreadFrags c sels, Composed.Reach (moduleEnv c items) name fr.name := by
    intro fr hfr
    obtain ⟨g, hg, hfrg⟩ := mem_spreadFrags.mp hfr
    by_cases hl : ∃ g', sels = [Sel.spread g']
    · obtain ⟨g', hg'⟩ := hl
      have : g = g' := by rw [hg'] at hg; simpa using hg
      subst this
      refine .item (henv.lone g hg') ?_ (.refl _)
      simp [sameLevel, aliasItem, fragName, hfrg, Scope.leaf]
    · refine .item (henv.self (fun g' h => hl ⟨g', h⟩)) ?_ (.refl _)
      simp only [sameLevel, List.mem_map, List.mem_filter]
      refine ⟨spreadField c fr, ⟨List.mem_filterMap.mpr ⟨.spread g, hg, by simp [fieldOfSelFD, hfrg]⟩, rfl⟩, rfl⟩
  rcases hk with hk | ⟨fr, hfr, hk⟩
  · -- an own kept key
    obtain ⟨x, hx, hkx⟩ := List.mem_filterMap.mp hk
    have hnl : ∀ g, sels ≠ [Sel.spread g] := by
      intro g hg; rw [hg] at hx; simp only [List.mem_singleton] at hx; subst hx; simp [keptKey] at hkx
    rw [fBodyD_not_lone hnl, Bool.and_eq_true] at hb
    obtain ⟨f, hf, hw, hfl⟩ := kept_member (pfx := pfx) (fSelD_of_mem hb.1 hx) hkx
    have hmem : f ∈ fieldsOfFD c pfx sels := by
      refine List.mem_filterMap.mpr ⟨x, hx, ?_⟩
      cases x with
      | spread g => simp [keptKey] at hkx
      | field a fid sub => exact hf
      | inline t sub => exact hf
      | typename => exact hf
    exact not_keyFree_of_member (henv.self hnl) hmem hfl hw hkf
  · -- a kept key of a spread fragment's body
    obtain ⟨_, hv, _, hfind, _⟩ := henv.frag fr hfr
    obtain ⟨f, hf, hw, hfl⟩ := kept_member_tree (pfx := c.cs.camel fr.name) hv hk
    have := hkf fr.name (reachFrag fr hfr) _ hfind
    simp only [itemOK, List.all_eq_true, Bool.or_eq_true, bne_iff_ne, ne_eq] at this
    rcases this f hf with h | h
    · rw [hfl] at h; cases h
    · exact h hw

/-! ### nodes inside a fragment body are `TreeOpD` nodes -/

/-- a node inside the body of a fragment spread at a node of the operation's tree: its struct in the module, and
    `KeyFree` there is "not a kept key" (no flatten member below a fragment in this class) -/
theorem fragbody_node (c : Ctx) (opIdx : Nat) (op : ROperation) (items : List Item)
    (hop : c.q.operations[opIdx]? = some op) (ht : FragOpD c op = true)
    (hgen : responseForQuery c opIdx = .ok items) (hnd : EnumSpec.nodup (items.map (·.name)) = true)
    {name pfx : String} {i : Nat} {sels : List Sel}
    (hnode : NodeF c "ResponseData" (c.cs.camel op.name) op.objectId op.sels name pfx i sels)
    {fr : RFragment} (hfr : fr ∈ spreadFrags c sels) {name' pfx' : String} {sels' : List Sel}
    (hn' : Node c fr.name (c.cs.camel fr.name) fr.sels name' pfx' sels') :
    (moduleEnv c items).find name' = some (.struct name' c.respDerives c.serdeCrate (fieldsOfD c pfx' sels')) ∧
    ∀ k, k ∉ keptKeys c sels' → KeyFree (moduleEnv c items) k name' := by
  obtain ⟨henv, _⟩ := nodeF_env c opIdx op items hop ht hgen hnd hnode
  obtain ⟨_, hv, hk, hfind, hsub⟩ := henv.frag fr hfr
  obtain ⟨hmem, _, _⟩ := node_item hn' hv hk
  have hin : Item.struct name' c.respDerives c.serdeCrate (fieldsOfD c pfx' sels') ∈ items := by
    simp only [structItemsD, List.mem_cons] at hmem
    rcases hmem with h | h
    · have := List.mem_of_find?_eq_some hfind
      rw [h]; exact this
    · exact hsub _ h
  have hfind' := find_of_mem (customExterns c) (nodup_iff'.mp hnd) hin
  exact ⟨hfind', fun k hk' => keyFree_of_struct hfind' (fun f hf => (wire_mem_keptKeys hf).2)
    (fun f hf hw => hk' (hw ▸ (wire_mem_keptKeys hf).1))⟩

end C14G
end GqlVerif
