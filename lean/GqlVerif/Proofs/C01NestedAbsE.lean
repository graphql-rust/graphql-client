import GqlVerif.Proofs.C01NestedGenE
/-!
# `NestedAbsOp`: the results (C01 / C03 / C17), from those of `NestedGenOp`

`NestedAbsOp ⊆ NestedGenOp` (`nestedGenOp_of_nestedAbsOp`), and on `NestedAbsOp` everything the statements about
`NestedGenOp` speak of is what this namespace defines (`C01NestedGenA`, `C01NestedGenJ`: class predicate, closed form,
environment, key and side conditions, acceptance predicate, canonical form).  So each theorem about the emitted module is
the one of `NestedGenOp`, read through these equalities.  The first part of the file (sections `AccA`, `EnvOfA`, `SLA`, `RTA`)
keeps this class's named steps `accSelA`, `envSelA_of`, `slFieldA`, `rtSelA` as corollaries of the steps of `NestedGenOp`;
the theorems about the emitted module do not go through them.
-/

namespace GqlVerif
namespace C01NA
open Serde Spec C13 C03 Codegen C01 C01.E2E C01M C01N

/-! ## this class's named steps (`accSelA`, `envSelA_of`, `slFieldA`, `rtSelA`), as corollaries of those of `NestedGenOp` -/

section AccA
variable (e : Env) (c : Ctx) (ok : TypeId → Nat → Bool) (whole : Nat → Bool → Json → Bool) (KN : String → List String)
  (fenv : Nat → Prop)

theorem accSelA : ∀ (x : Sel) (pfx : String), OkSpec c.q ok →
      (∀ p g, ok p g = true → fenv g → FragAcc e c whole KN g) → AccSelA e c ok whole KN fenv pfx x := by
  intro x pfx hok hfa p ht henv hk f hf
  have h := C01NG.accSelA e c ok whole KN fenv x pfx hok hfa p (C01NG.aSel_of_A c.s c.q c.o x p ht)
    (by rw [C01NG.envSelA_eq_A fenv e c hok x p pfx ht]; exact henv)
    (by rw [C01NG.keysOkA_eq_A KN c x p ht]; exact hk) f hf
  simpa only [C01NG.looseFieldA_eq_A whole _ x p _ ht] using h

end AccA

section EnvOfA
variable {c : Ctx} {items : List Item} {u : UsedTypes} {root : List Sel} (M : ModFacts c items u root)
  (hfr : FragsIn c items root) (hfrB : FragsInB c items root)
include M hfr hfrB

theorem envSelA_of {ok : TypeId → Nat → Bool} {fenv : Nat → Prop} (hok : OkSpec c.q ok)
      (hfenv : ∀ p g, ok (.object p) g = true → C02.Reach c.q root (.spread g) → fenv g) :
      ∀ (x : Sel) (pfx : String) (p : Nat), aSel ok c.s c.q c.o (.object p) x = true →
      (∀ it ∈ itemsA c pfx x, it ∈ items) → C02.Reach c.q root x → envSelA fenv (moduleEnv c items) c pfx x := by
  intro x pfx p ht hit hr
  rw [← C01NG.envSelA_eq_A fenv _ c hok x _ pfx ht]
  apply C01NG.envSelA_of M hfr hfrB hok hfenv x pfx p (C01NG.aSel_of_A c.s c.q c.o x _ ht) _ hr
  rw [C01NG.itemsA_eq_A c x _ pfx ht]
  exact hit

end EnvOfA

theorem own_fieldsOfA {ok : TypeId → Nat → Bool} {c : Ctx} (hok : OkSpec c.q ok) (pfx : String) (p : TypeId) :
    ∀ (sels : List Sel), aSels ok c.s c.q c.o p sels = true →
    (fieldsOfF c pfx sels).filter (fun f => !f.flatten) = fieldsOfV c pfx sels :=
  fun sels ht => C01NG.own_fieldsOfA hok pfx p sels (C01NG.aSels_of_A c.s c.q c.o sels p ht)

theorem fieldOfSelV_a {ok : TypeId → Nat → Bool} {c : Ctx} (pfx : String) (p : TypeId) (a : Option String) (fid : Nat)
    (sub : List Sel) (ht : aSel ok c.s c.q c.o p (.field a fid sub) = true) :
    ∃ sf ft, c.s.fields[fid]? = some sf ∧ leafNameV c pfx (a.getD sf.name) sf.ty.id = some ft ∧
      fieldOfSelV c pfx (.field a fid sub) = some (fieldOf c (a.getD sf.name) ft sf.ty.quals sf.deprecation) ∧
      wfQuals sf.ty.quals = true :=
  C01NG.fieldOfSelV_a pfx p a fid sub (C01NG.aSel_of_A c.s c.q c.o _ p ht)

section SLA
variable (s : Schema) (q : Query) (o : Options) (ok : TypeId → Nat → Bool) (whole : Nat → Bool → Json → Bool)
  (ex : Nat → Sel)

theorem slFieldA : ∀ (x : Sel) (p : TypeId) (b : Bool) (v : Json),
      (∀ g, FragOkAny s q o g → ex g = expandSel q (.spread g)) →
      (∀ i g, ok (.object i) g = true → ∀ kvs, (∀ k, countKey k kvs ≤ 1) → confSelV s i (ex g) kvs = true →
        whole g true (.obj kvs) = true) →
      (∀ i g, ok (.object i) g = true → ∀ b j, conformsV s i [ex g] j = true → whole g b j = true) →
      OkSpec q ok → (∀ g ∈ aPays s q o x, ∀ i, ok (.object i) g = true → IrrT whole g) →
      aSel ok s q o p x = true →
      strictFieldV s (expandSelW ex x) v = true → looseFieldA whole s q o b x v = true := by
  intro x p b v hexA hmem hali hokS hirr ht h
  rw [← C01NG.looseFieldA_eq_A whole b x p v ht]
  apply C01NG.slFieldA s q o ok whole ex x p b v hexA hmem hali hokS _ (C01NG.aSel_of_A s q o x p ht) h
  rw [C01NG.aPays_eq_A x p ht]
  intro gl hgl i hokg kvs
  obtain ⟨g, hg, rfl⟩ := List.mem_map.mp hgl
  rw [filter_tag_eq]
  exact hirr g hg i hokg kvs

end SLA

section RTA
variable (e : Env) (c : Ctx) (ok : TypeId → Nat → Bool) (whole : Nat → Bool → Json → Bool) (KN : String → List String)
  (fenv : Nat → Prop) (ex : Nat → Sel) (cent : Nat → List (String × Json) → List (String × Json))

theorem rtSelA : ∀ (x : Sel) (pfx : String), OkSpec c.q ok →
      (∀ p g, ok p g = true → fenv g → FragAcc e c whole KN g) →
      (∀ p g, ok p g = true → fenv g → FragRT e c ex cent KN g) →
      (∀ g, FragOkAny c.s c.q c.o g → ex g = expandSel c.q (.spread g)) → RTSelA e c ok KN fenv ex cent pfx x := by
  intro x pfx hok hfa hfr hexA p ht henv hk hs f hf
  have h := C01NG.rtSelA e c ok whole KN fenv ex cent x pfx hok hfa hfr hexA p (C01NG.aSel_of_A c.s c.q c.o x p ht)
    (by rw [C01NG.envSelA_eq_A fenv e c hok x p pfx ht]; exact henv)
    (by rw [C01NG.keysOkA_eq_A KN c x p ht]; exact hk)
    (by rw [C01NG.sideOkSelA_eq_A KN c x p ht]; exact hs) f hf
  simpa only [C01NG.canonFieldA_eq_A cent x p _ ht] using h

end RTA

/-! ## the emitted module -/

/-- **`nestedabs_items_shape`.**  For an operation of the class `NestedAbsOp` the response items are, in closed
    form, `bodyItemsA`: those of `nested_items_shape`, and at a field of abstract type of the new kind the tagged enum and,
    per possible type `T`, the item `…On<T>` (`variantHeadA`: nothing, the type alias `…On<T> = F` of the one selected
    fragment's struct, or a struct with one flattened member per selected fragment). -/
theorem nestedabs_items_shape (c : Ctx) (op : ROperation) (hop : op ∈ c.q.operations) (ht : NestedAbsOp c op = true) :
    responseItems c op = .ok (bodyItemsA c "ResponseData" (c.cs.camel op.name) op.sels) := by
  rw [← C01NG.bodyItemsA_eq_A c op ht]
  exact C01NG.nestedgen_items_shape c op hop (C01NG.nestedGenOp_of_nestedAbsOp c op ht)

/-- **the module of an operation of `NestedAbsOp` is `EnvOK` and `EnvOKS`** (no fuel exhaustion, fuel independence), with no
    acyclicity hypothesis on the document -/
theorem nestedabs_module_envOK {c : Ctx} {opIdx : Nat} {op : ROperation} {items : List Item}
    (hop : c.q.operations[opIdx]? = some op) (ht : NestedAbsOp c op = true)
    (hgen : responseForQuery c opIdx = .ok items) (hok : moduleOk c items = true) :
    SerdeFuel.EnvOK (moduleEnv c items) ∧ SerdeFuel.EnvOKS (moduleEnv c items) :=
  C01NG.nestedgen_module_envOK hop (C01NG.nestedGenOp_of_nestedAbsOp c op ht) hgen hok

/-- **`nestedabs_precise_iff` (C03), as an equivalence**: on the module `responseForQuery` emits for an operation of
    `NestedAbsOp`, `ResponseData` accepts exactly `conformsLooseA (wholeN c R)`, `R` the number of fragments -/
theorem nestedabs_precise_iff (c : Ctx) (opIdx : Nat) (op : ROperation) (items : List Item)
    (hop : c.q.operations[opIdx]? = some op) (ht : NestedAbsOp c op = true) (hnd : fragNamesOk c = true)
    (hk : nestedAbsKeysOk c op = true)
    (hgen : responseForQuery c opIdx = .ok items) (hok : moduleOk c items = true) (j : Json) :
    okB (Serde.de (moduleEnv c items) (.path "ResponseData") j) =
      conformsLooseA (wholeN c c.q.fragments.length) c.s c.q c.o false op.sels j := by
  rw [← C01NG.conformsLooseA_eq_A_op c op ht]
  exact C01NG.nestedgen_precise_iff c opIdx op items hop (C01NG.nestedGenOp_of_nestedAbsOp c op ht) hnd
    (by rw [C01NG.nestedGenKeysOk_eq_A c op ht]; exact hk) hgen hok j

theorem nestedabs_precise (c : Ctx) (opIdx : Nat) (op : ROperation) (items : List Item)
    (hop : c.q.operations[opIdx]? = some op) (ht : NestedAbsOp c op = true) (hnd : fragNamesOk c = true)
    (hk : nestedAbsKeysOk c op = true)
    (hgen : responseForQuery c opIdx = .ok items) (hok : moduleOk c items = true) (j : Json) (v : Val)
    (hd : Serde.de (moduleEnv c items) (.path "ResponseData") j = .ok v) :
    conformsLooseA (wholeN c c.q.fragments.length) c.s c.q c.o false op.sels j = true :=
  Top.precise_of_iff (nestedabs_precise_iff c opIdx op items hop ht hnd hk hgen hok j) hd

/-- **`nestedabs_accepts`.**  Every conforming response is accepted by the emitted `ResponseData`. -/
theorem nestedabs_accepts (c : Ctx) (opIdx : Nat) (op : ROperation) (items : List Item)
    (hop : c.q.operations[opIdx]? = some op) (ht : NestedAbsOp c op = true) (hnd : fragNamesOk c = true)
    (hk : nestedAbsKeysOk c op = true) (htag : absTagOk c op = true)
    (hgen : responseForQuery c opIdx = .ok items) (hok : moduleOk c items = true)
    (j : Json) (hc : conformsOpN c op j = true) :
    ∃ v, Serde.de (moduleEnv c items) (.path "ResponseData") j = .ok v :=
  C01NG.nestedgen_accepts c opIdx op items hop (C01NG.nestedGenOp_of_nestedAbsOp c op ht) hnd
    (by rw [C01NG.nestedGenKeysOk_eq_A c op ht]; exact hk) (by rw [C01NG.absTagOk_eq_A c op ht]; exact htag) hgen hok j hc

/-- **`nestedabs_lossless`.**  A conforming response that was read is written back as `normJson (canonSelA … j)`. -/
theorem nestedabs_lossless (c : Ctx) (opIdx : Nat) (op : ROperation) (items : List Item)
    (hop : c.q.operations[opIdx]? = some op) (ht : NestedAbsOp c op = true) (hnd : fragNamesOk c = true)
    (hk : nestedAbsKeysOk c op = true) (hr : nestedAbsSideOk c op = true)
    (hgen : responseForQuery c opIdx = .ok items) (hok : moduleOk c items = true)
    (j : Json) (hc : conformsOpN c op j = true) (v : Val)
    (hd : Serde.de (moduleEnv c items) (.path "ResponseData") j = .ok v) :
    Serde.ser (moduleEnv c items) (.path "ResponseData") v =
      .ok (normJson (canonSelA (centN c c.q.fragments.length) c.s c.q c.o op.sels j)) := by
  rw [← C01NG.canonSelA_eq_A _ _ _ _ (nestedAbsOp_parts ht).2.2]
  exact C01NG.nestedgen_lossless c opIdx op items hop (C01NG.nestedGenOp_of_nestedAbsOp c op ht) hnd
    (by rw [C01NG.nestedGenKeysOk_eq_A c op ht]; exact hk) (by rw [C01NG.nestedGenSideOk_eq_A c op ht]; exact hr)
    hgen hok j hc v hd

/-- **`nestedabs_roundtrip`**: both in one statement.  It is `C01NG.nestedgen_roundtrip_on_nestedAbsOp`, the restriction of
    `nestedgen_roundtrip` to this class. -/
theorem nestedabs_roundtrip (c : Ctx) (opIdx : Nat) (op : ROperation) (items : List Item)
    (hop : c.q.operations[opIdx]? = some op) (ht : NestedAbsOp c op = true) (hnd : fragNamesOk c = true)
    (hk : nestedAbsKeysOk c op = true) (htag : absTagOk c op = true) (hr : nestedAbsSideOk c op = true)
    (hgen : responseForQuery c opIdx = .ok items) (hok : moduleOk c items = true)
    (j : Json) (hc : conformsOpN c op j = true) :
    Serde.roundtrip (moduleEnv c items) (.path "ResponseData") j =
      .ok (normJson (canonSelA (centN c c.q.fragments.length) c.s c.q c.o op.sels j)) :=
  C01NG.nestedgen_roundtrip_on_nestedAbsOp c opIdx op items hop ht hnd hk htag hr hgen hok j hc

/-! ## on the smaller class the results are those of the smaller class -/

/-- **on `NestedOp`, `nestedabs_roundtrip` is `nested_roundtrip`**: same hypotheses, same specification, same canonical form -/
theorem nestedabs_roundtrip_on_nestedOp (c : Ctx) (opIdx : Nat) (op : ROperation) (items : List Item)
    (hop : c.q.operations[opIdx]? = some op) (ht : NestedOp c op = true) (hnd : fragNamesOk c = true)
    (hk : nestedKeysOk c op = true) (hr : nestedRustOk c op = true)
    (hgen : responseForQuery c opIdx = .ok items) (hok : moduleOk c items = true)
    (j : Json) (hc : conformsOpN c op j = true) :
    Serde.roundtrip (moduleEnv c items) (.path "ResponseData") j =
      .ok (normJson (canonSelN (centN c c.q.fragments.length) c.s c.q c.o.skipNone op.sels j)) := by
  have h := nestedabs_roundtrip c opIdx op items hop (nestedAbsOp_of_nestedOp c op ht) hnd
    (by rw [nestedAbsKeysOk_eq_N c op ht]; exact hk) (absTagOk_of_nestedOp c op ht)
    (by rw [nestedAbsSideOk_eq_N c op ht]; exact hr) hgen hok j hc
  rw [h, canonSelA_eq_N _ _ _ _ (nestedOp_parts ht).2.2]

end C01NA
end GqlVerif
