import GqlVerif.Proofs.C01VariantSpreadG
import GqlVerif.Proofs.C01VariantSpreadW

/-! `VariantSpreadOp2` and further shapes of `VariantSpreadOp` on generated modules; the side conditions of `VariantSpreadOp2`
are needed. -/

namespace GqlVerif
namespace C01
namespace E2E
open Serde Spec C13 C03 Codegen

/-! ## a generated module of the class `VariantSpreadOp2`

Schema `vxSchema`, fragments of `wsQuery` (`HG on Human { height }`, `HF on Human { name }`, …);
`query Q { hero { __typename ... on Human { ...HF } ... on Human { h2: height } ...HG } }` -/

def a2Sels : List Sel :=
  [.typename, .inline (.object 1) [.spread 3], .inline (.object 1) [.field (some "h2") 2 []], .spread 0]

def a2Items : List Item := okOr (responseForQuery (wsCtx a2Sels) 0)

theorem a2_gen : responseForQuery (wsCtx a2Sels) 0 = .ok a2Items := gen_of_isOk (by decide +kernel)
theorem a2_class : VariantSpreadOp2 (wsCtx a2Sels) (wsOp a2Sels) = true := by decide +kernel
/-- not in the class `VariantSpreadOp` -/
theorem a2_not_class1 : VariantSpreadOp (wsCtx a2Sels) (wsOp a2Sels) = false := by decide +kernel
theorem a2_ok : moduleOk (wsCtx a2Sels) a2Items = true := by decide +kernel
theorem a2_rustD : spreadRustOkD (wsCtx a2Sels) (normOp (wsOp a2Sels)) = true := by decide +kernel

/-- the normalized selection set: the aliased inline fragment is the spread `...HF`, behind the other selections -/
theorem a2_norm : normSels a2Sels =
    [.typename, .inline (.object 1) [.field (some "h2") 2 []], .spread 0, .spread 3] := by
  simp [normSels, keepN, movedN, normSel, aliasInl, a2Sels]

/-- the variant of `Human`: the struct with the inline fragment's field, the member for `...HG` and — last — the member for
    `... on Human { ...HF }` (`aliasMember`) -/
theorem a2_items_shape :
    ((moduleEnv (wsCtx a2Sels) a2Items).find "QheroOnHuman" ==
      some (.struct "QheroOnHuman" ["Deserialize"] (some "::serde")
        [{ rust := "h2", ty := .opt (.path "Float") },
         { rust := "HG", ty := .path "HG", flatten := true },
         { rust := "HF", ty := .path "HF", flatten := true }])) = true := by
  decide +kernel

def a2JsonH : Json :=
  .obj [("hero", .obj [("__typename", .str "Human"), ("name", .str "x"), ("h2", .num "1.8"), ("height", .num "1.8")])]

theorem a2_conformsH : conformsOpS (wsCtx a2Sels) (wsOp a2Sels) a2JsonH = true := by
  rw [conformsOpS, conformsV_eq_K]
  decide +kernel

set_option maxRecDepth 8000 in
theorem a2_canonD :
    normJson (canonSelD vxSchema (wsQuery a2Sels) false (normSels (wsOp a2Sels).sels) a2JsonH) =
      .obj [("hero", .obj [("__typename", .str "Human"), ("h2", .num "1.8"), ("height", .num "1.8"),
                           ("name", .str "x")])] := by
  have e : normSels (wsOp a2Sels).sels =
      [.field none 0 [.typename, .inline (.object 1) [.field (some "h2") 2 []], .spread 0, .spread 3]] := by
    simp [normSels, keepN, movedN, normSel, aliasInl, a2Sels, wsOp]
  rw [e]
  simp [canonSelD, canonEntriesD, canonFieldD, loneG, canonEntriesBD, canonVarD, onNamed,
    canonEntriesV, canonFieldV, tagName, wsQuery, a2Sels, a2JsonH,
    vxSchema, objName, rtName, Json.lookup, canon, canonNN, gtyOf, Json.isNull, skipQ,
    normJson, normKvs, Json.normObj, Json.insert]

/-- `variantspread2_roundtrip` on the generated module: the entries of `... on Human { ...HF }` are written last -/
theorem a2_roundtripH :
    Serde.roundtrip (moduleEnv (wsCtx a2Sels) a2Items) (.path "ResponseData") a2JsonH =
      .ok (.obj [("hero", .obj [("__typename", .str "Human"), ("h2", .num "1.8"), ("height", .num "1.8"),
                                ("name", .str "x")])]) := by
  rw [variantspread2_roundtrip (wsCtx a2Sels) 0 (wsOp a2Sels) a2Items rfl a2_class a2_gen a2_ok a2_rustD a2JsonH
    a2_conformsH]
  exact congrArg Except.ok a2_canonD

theorem a2_precise (j : Json) :
    okB (Serde.de (moduleEnv (wsCtx a2Sels) a2Items) (.path "ResponseData") j) =
      conformsLooseS vxSchema (wsQuery a2Sels) {} false (normSels (wsOp a2Sels).sels) j :=
  variantspread2_precise_iff (wsCtx a2Sels) 0 (wsOp a2Sels) a2Items rfl a2_class a2_gen a2_ok j

/-- the shape of the defect repaired by fix 78c01b5 itself — `hero { __typename ... on Human { ...HF } ...HG }` — is in the
    class: the variant keeps both fragments (`variantspread_alias_keeps_sibling` is the shape theorem on this instance) -/
def a3Sels : List Sel := [.typename, .inline (.object 1) [.spread 3], .spread 0]

theorem a3_class : VariantSpreadOp2 (wsCtx a3Sels) (wsOp a3Sels) = true := by decide +kernel

theorem variantspread2_alias_keeps_sibling :
    ((moduleEnv (wsCtx a3Sels) (okOr (responseForQuery (wsCtx a3Sels) 0))).find "QheroOnHuman" ==
      some (.struct "QheroOnHuman" ["Deserialize"] (some "::serde")
        [{ rust := "HG", ty := .path "HG", flatten := true },
         { rust := "HF", ty := .path "HF", flatten := true }])) = true := by
  decide +kernel

/-! ## the side conditions of `VariantSpreadOp2` are needed -/

/-- `hero { __typename ... on Droid { ...HF } }` with `HF on Human`: the type condition is not the fragment's type -/
def a4Sels : List Sel := [.typename, .inline (.object 2) [.spread 3]]

def a4JsonD : Json := .obj [("hero", .obj [("__typename", .str "Droid")])]

/-- **`variantspread2_accepts` is false without "the fragment is on the type of the condition"** (`aliasWfSels`,
    `aliasFrOk`): the module is generated and `moduleOk`, the response conforms (`HF` does not apply to a `Droid`), and the
    emitted `ResponseData` rejects it (the variant `Droid` is the alias of `HF`, which requires `name`) -/
theorem variantspread2_alias_type_needed :
    aliasWfSels (wsQuery a4Sels) (wsOp a4Sels).sels = false ∧
    isOkO (responseForQuery (wsCtx a4Sels) 0) = true ∧
    moduleOk (wsCtx a4Sels) (okOr (responseForQuery (wsCtx a4Sels) 0)) = true ∧
    conformsOpS (wsCtx a4Sels) (wsOp a4Sels) a4JsonD = true ∧
    okB (Serde.de (moduleEnv (wsCtx a4Sels) (okOr (responseForQuery (wsCtx a4Sels) 0))) (.path "ResponseData")
      a4JsonD) = false := by
  refine ⟨by decide +kernel, by decide +kernel, by decide +kernel, ?_, by decide +kernel⟩
  rw [conformsOpS, conformsV_eq_K]
  decide +kernel

/-- `hero { __typename ... on Human { ...HF } ... on Human { __typename } }`: one aliased inline fragment next to a selection
    on `Human` that contributes no field -/
def a5Sels : List Sel := [.typename, .inline (.object 1) [.spread 3], .inline (.object 1) [.typename]]

/-- **the shape theorem is false without `edgeOk`**: everything else of the class holds, and the generator emits the type
    alias `QheroOnHuman = HF`, not the struct with the one member `HF` of the closed form (both read the same responses; the
    exclusion is one of the closed form, not a defect) -/
theorem variantspread2_edge_needed :
    aliasWfSels (wsQuery a5Sels) (wsOp a5Sels).sels = true ∧
    VariantSpreadOp (wsCtx a5Sels) (normOp (wsOp a5Sels)) = true ∧
    VariantSpreadOp2 (wsCtx a5Sels) (wsOp a5Sels) = false ∧
    responseItems (wsCtx a5Sels) (wsOp a5Sels) ≠
      .ok (structItemsS (wsCtx a5Sels) "ResponseData" "Q" (normSels (wsOp a5Sels).sels)) := by
  refine ⟨by decide +kernel, by decide +kernel, by decide +kernel, ?_⟩
  intro h
  have h1 : okOr (responseItems (wsCtx a5Sels) (wsOp a5Sels)) =
      structItemsS (wsCtx a5Sels) "ResponseData" "Q" (normSels (wsOp a5Sels).sels) := by rw [h]; rfl
  have h2 := congrArg (fun l => l.any (fun it => it == Item.alias "QheroOnHuman" true (.path "HF"))) h1
  revert h2
  decide +kernel

/-! ## several inline fragments on one possible type (class `VariantSpreadOp`), on a generated module

`query Q { hero { __typename ... on Human { h2: height } ...HB ... on Human { __typename n2: name } } }` -/

def miSels : List Sel :=
  [.typename, .inline (.object 1) [.field (some "h2") 2 []], .spread 1,
   .inline (.object 1) [.typename, .field (some "n2") 1 []]]

def miItems : List Item := okOr (responseForQuery (wsCtx miSels) 0)

theorem mi_gen : responseForQuery (wsCtx miSels) 0 = .ok miItems := gen_of_isOk (by decide +kernel)
theorem mi_class : VariantSpreadOp (wsCtx miSels) (wsOp miSels) = true := by decide +kernel
theorem mi_ok : moduleOk (wsCtx miSels) miItems = true := by decide +kernel
theorem mi_rustD : spreadRustOkD (wsCtx miSels) (wsOp miSels) = true := by decide +kernel

/-- the variant of `Human`: one struct with the fields of both inline fragments and the member, in selection order -/
theorem mi_items_shape :
    ((moduleEnv (wsCtx miSels) miItems).find "QheroOnHuman" ==
      some (.struct "QheroOnHuman" ["Deserialize"] (some "::serde")
        [{ rust := "h2", ty := .opt (.path "Float") },
         { rust := "HB", ty := .path "HB", flatten := true },
         { rust := "n2", ty := .path "String" }])) = true := by
  decide +kernel

def miJson : Json :=
  .obj [("hero", .obj [("__typename", .str "Human"), ("n2", .str "x"), ("h2", .num "1.8"), ("buddy", .null)])]

theorem mi_conforms : conformsOpS (wsCtx miSels) (wsOp miSels) miJson = true := by
  rw [conformsOpS, conformsV_eq_K]
  decide +kernel

set_option maxRecDepth 8000 in
theorem mi_canonD :
    normJson (canonSelD vxSchema (wsQuery miSels) false (wsOp miSels).sels miJson) =
      .obj [("hero", .obj [("__typename", .str "Human"), ("h2", .num "1.8"), ("buddy", .null), ("n2", .str "x")])] := by
  simp [canonSelD, canonEntriesD, canonFieldD, loneG, canonEntriesBD, canonVarD, onNamed,
    canonEntriesV, canonFieldV, canonInlV, tagName, wsOp, wsQuery, miSels, miJson,
    vxSchema, objName, rtName, Json.lookup, canon, canonNN, gtyOf, Json.isNull, skipQ,
    normJson, normKvs, Json.normObj, Json.insert]

theorem mi_roundtrip :
    Serde.roundtrip (moduleEnv (wsCtx miSels) miItems) (.path "ResponseData") miJson =
      .ok (.obj [("hero", .obj [("__typename", .str "Human"), ("h2", .num "1.8"), ("buddy", .null), ("n2", .str "x")])]) := by
  rw [variantspread_roundtrip (wsCtx miSels) 0 (wsOp miSels) miItems rfl mi_class mi_gen mi_ok mi_rustD miJson mi_conforms]
  exact congrArg Except.ok mi_canonD

theorem mi_precise (j : Json) :
    okB (Serde.de (moduleEnv (wsCtx miSels) miItems) (.path "ResponseData") j) =
      conformsLooseS vxSchema (wsQuery miSels) {} false (wsOp miSels).sels j :=
  variantspread_precise_iff (wsCtx miSels) 0 (wsOp miSels) miItems rfl mi_class mi_gen mi_ok j

/-- `hero { __typename ... on Human { height } ... on Human { height } }`: the keys selected on one variant are not
    pairwise distinct (`absOkS`, third part) -/
def miBad : List Sel := [.typename, .inline (.object 1) [.field none 2 []], .inline (.object 1) [.field none 2 []]]

/-- **the disjointness of the keys of two inline fragments on one type is needed**: the module is generated and
    `moduleOk`, and the variant struct declares the field `height` twice (`spreadRustOkD` is false: E0124 in Rust) -/
theorem variantspread_two_inline_overlap_dup_field :
    VariantSpreadOp (wsCtx miBad) (wsOp miBad) = false ∧
    isOkO (responseForQuery (wsCtx miBad) 0) = true ∧
    moduleOk (wsCtx miBad) (okOr (responseForQuery (wsCtx miBad) 0)) = true ∧
    spreadRustOkD (wsCtx miBad) (wsOp miBad) = false ∧
    ((moduleEnv (wsCtx miBad) (okOr (responseForQuery (wsCtx miBad) 0))).find "QheroOnHuman" ==
      some (.struct "QheroOnHuman" ["Deserialize"] (some "::serde")
        [{ rust := "height", ty := .opt (.path "Float") }, { rust := "height", ty := .opt (.path "Float") }])) = true := by
  refine ⟨by decide +kernel, by decide +kernel, by decide +kernel, by decide +kernel, by decide +kernel⟩

/-! ## a selection set on an abstract type that is a lone spread (class `VariantSpreadOp`), on a generated module

Fragments of `bsQuery` (`fragment CF on Character { name __typename }`, …); `query Q { hero { ...CF } }`: the position is the
type alias `Qhero = CF`; `__typename` comes from the fragment. -/

def lsSels : List Sel := [.spread 0]

def lsItems : List Item := okOr (responseForQuery (bsCtx lsSels) 0)

theorem ls_gen : responseForQuery (bsCtx lsSels) 0 = .ok lsItems := gen_of_isOk (by decide +kernel)
theorem ls_class : VariantSpreadOp (bsCtx lsSels) (wsOp lsSels) = true := by decide +kernel
theorem ls_ok : moduleOk (bsCtx lsSels) lsItems = true := by decide +kernel
theorem ls_rustD : spreadRustOkD (bsCtx lsSels) (wsOp lsSels) = true := by decide +kernel

/-- the position is the type alias of the fragment's struct; the fragment's items are its struct and tagged enum -/
theorem ls_items_shape :
    ((moduleEnv (bsCtx lsSels) lsItems).find "Qhero" == some (.alias "Qhero" true (.path "CF"))) &&
    (lsItems.map (·.name) == ["Boolean", "Float", "Int", "ID", "Variables", "CF", "CFOn", "ResponseData", "Qhero"]) = true := by
  decide +kernel

theorem ls_conforms : conformsOpS (bsCtx lsSels) (wsOp lsSels) wsJsonN = true := by
  rw [conformsOpS, conformsV_eq_K]
  decide +kernel

set_option maxRecDepth 8000 in
theorem ls_canonD :
    normJson (canonSelD vxSchema (bsQuery lsSels) false (wsOp lsSels).sels wsJsonN) =
      .obj [("hero", .obj [("name", .str "x"), ("__typename", .str "Human")])] := by
  simp [canonSelD, canonEntriesD, canonFieldD, loneG,
    canonAbsV, canonEntriesV, canonFieldV, canonInlV, tagName, wsOp, bsQuery, lsSels, wsJsonN,
    vxSchema, Json.lookup, canon, canonNN, gtyOf, Json.isNull, skipQ,
    normJson, normKvs, Json.normObj, Json.insert]

/-- `variantspread_roundtrip` on the generated module: the response is written in the fragment's order -/
theorem ls_roundtrip :
    Serde.roundtrip (moduleEnv (bsCtx lsSels) lsItems) (.path "ResponseData") wsJsonN =
      .ok (.obj [("hero", .obj [("name", .str "x"), ("__typename", .str "Human")])]) := by
  rw [variantspread_roundtrip (bsCtx lsSels) 0 (wsOp lsSels) lsItems rfl ls_class ls_gen ls_ok ls_rustD wsJsonN ls_conforms]
  exact congrArg Except.ok ls_canonD

theorem ls_precise (j : Json) :
    okB (Serde.de (moduleEnv (bsCtx lsSels) lsItems) (.path "ResponseData") j) =
      conformsLooseS vxSchema (bsQuery lsSels) {} false (wsOp lsSels).sels j :=
  variantspread_precise_iff (bsCtx lsSels) 0 (wsOp lsSels) lsItems rfl ls_class ls_gen ls_ok j

/-- `query Q { hero { ...HF } }` with `HF on Human { name }` (fragments of `wsQuery`): a lone spread of a fragment on a
    **possible** type -/
def lsBad : List Sel := [.spread 3]

def lsJsonD : Json := .obj [("hero", .obj [])]

/-- **"on the abstract type itself" is needed for a lone spread** (`loneB`): the module is generated and `moduleOk` (the
    position is the type alias `Qhero = HF`), the response of a `Droid` — to which `HF` does not apply — conforms, and the
    emitted `ResponseData` rejects it (`HF` requires `name`) -/
theorem variantspread_lone_possible_type_rejects :
    VariantSpreadOp (wsCtx lsBad) (wsOp lsBad) = false ∧
    isOkO (responseForQuery (wsCtx lsBad) 0) = true ∧
    moduleOk (wsCtx lsBad) (okOr (responseForQuery (wsCtx lsBad) 0)) = true ∧
    ((moduleEnv (wsCtx lsBad) (okOr (responseForQuery (wsCtx lsBad) 0))).find "Qhero" ==
      some (.alias "Qhero" true (.path "HF"))) = true ∧
    conformsOpS (wsCtx lsBad) (wsOp lsBad) lsJsonD = true ∧
    okB (Serde.de (moduleEnv (wsCtx lsBad) (okOr (responseForQuery (wsCtx lsBad) 0))) (.path "ResponseData")
      lsJsonD) = false := by
  refine ⟨by decide +kernel, by decide +kernel, by decide +kernel, by decide +kernel, ?_, by decide +kernel⟩
  rw [conformsOpS, conformsV_eq_K]
  decide +kernel

end E2E
end C01
end GqlVerif
