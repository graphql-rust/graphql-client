import GqlVerif.Proofs.C14GeneratedFragDeep
import GqlVerif.Proofs.C14GeneratedWitness
/-!
# a non-vacuous instance with flattened fragment structs

```graphql
type Query  { animal: Animal   when: String @deprecated }
type Animal { name: String   when: Date @deprecated(reason: "use since")   owner: Person   friends: [Animal!] }
type Person { id: ID!   since: String @deprecated }
fragment AF on Animal { name when owner { id since } }
query Q { animal { ...AF friends { ...AF } } when }
```

Under `deny` the generator emits `ResponseData { animal }`, `Qanimal { #[serde(flatten)] AF: AF, friends }` (the case functions of the test context are the identity),
`type Qanimalfriends = AF`, `AF { name, owner }`, `AFowner { id }`.  The denied keys: `when` at the root; `when` in the
object of `animal` — denied **in the fragment**, so it is a key of the flatten buffer of `Qanimal`; `since` inside `owner`,
an entry that `Qanimal` does not name and `AF` reads from the buffer; `when` in every element of `friends`, read at the
alias.

* **`f_instance`** — the payload with all of them is read successfully at `ResponseData` and equals the read of the
  payload without them (`eraseDeniedF` computes it: `f_erase`), by `denied_field_payload_same_frag`;
* `f_keyFree` — `denied_field_keyFree_frag` at `Qanimal` (struct with a flattened member) for the key `when` denied in the
  fragment body; `f_not_keyFree` — `name`, a kept key of the fragment body, is not `KeyFree` there although `Qanimal` has no
  member `name`.
-/
namespace GqlVerif
namespace C14G
namespace FragWitness
open Composed SerdeFuel Codegen C01.E2E Witness

def fOp : ROperation :=
  { name := "Q", kind := .query, objectId := 0,
    sels := [.field none 0 [.spread 0, .field none 5 [.spread 0]], .field none 6 []] }

def fQuery : Query :=
  { fragments := [{ name := "AF", on := .object 1,
                    sels := [.field none 1 [], .field none 2 [], .field none 3 [.field none 4 [], .field none 7 []]] }],
    operations := [fOp] }

def fCtx : Ctx := { s := wSchema, q := fQuery, o := { deprecation := .deny }, cs := ⟨id, id⟩ }

def fItems : List Item := (responseForQuery fCtx 0).toOption.getD []

def fEnv : Env := moduleEnv fCtx fItems

theorem f_class : FragOpD fCtx fOp = true := by decide +kernel
theorem f_keys : FragKeysOkD fCtx fOp = true := by decide +kernel
theorem f_gen : responseForQuery fCtx 0 = .ok fItems := except_ok_of_isSome (by decide +kernel)
theorem f_names : EnumSpec.nodup (fItems.map (·.name)) = true := by decide +kernel
theorem f_envOK : EnvOK fEnv := (module_envOK_of_check f_gen (by decide +kernel)).1

/-- the emitted structs and aliases -/
example :
    fItems.filterMap (fun | .struct n _ _ fs => some (n, fs.map (fun f => (f.wire, f.flatten))) | _ => none) =
      [("AF", [("name", false), ("owner", false)]), ("AFowner", [("id", false)]), ("ResponseData", [("animal", false)]),
       ("Qanimal", [("AF", true), ("friends", false)])] ∧
    fItems.filterMap (fun | .alias n true t => some (n, t) | _ => none) = [("Qanimalfriends", .path "AF")] := by
  decide +kernel

def fWith : Json :=
  .obj [("when", .str "root"),
        ("animal", .obj [("when", .int 1), ("name", .str "Rex"),
                         ("owner", .obj [("since", .str "2019"), ("id", .int 7)]),
                         ("friends", .arr [.obj [("name", .str "Tom"), ("when", .str "2020"), ("owner", .null)]])])]

def fWithout : Json :=
  .obj [("animal", .obj [("name", .str "Rex"), ("owner", .obj [("id", .int 7)]),
                         ("friends", .arr [.obj [("name", .str "Tom"), ("owner", .null)]])])]

theorem f_erase : eraseDeniedF fCtx fOp fWith = fWithout := by
  simp [eraseDeniedF, eraseObjF, eraseInSelF, eraseEntryF, eraseFragEntry, eraseInSel, eraseEntry, thruQuals, eraseKeys,
    dropKeysF, dropKeys, collectedDenied, collectedKept, spreadFrags, deniedKeys, keptKeys, deniedKey, keptKey, isDenied,
    fCtx, fOp, fQuery, wSchema, fWith, fWithout, Schema.defaultScalars]

theorem f_instance :
    (Serde.de fEnv (.path "ResponseData") fWith).toOption.isSome = true ∧
    Serde.de fEnv (.path "ResponseData") fWith = Serde.de fEnv (.path "ResponseData") fWithout := by
  refine ⟨by decide +kernel, ?_⟩
  rw [← f_erase]
  exact denied_field_payload_same_frag fCtx 0 fOp fItems rfl f_class f_keys f_gen f_names f_envOK fWith

example : (Serde.de fEnv (.path "ResponseData") fWith).toOption.map showVal =
    some "{animal:Some({AF:{name:Some(\"Rex\"),owner:Some({id:\"7\",}),},friends:Some([{name:Some(\"Tom\"),owner:(),},]),}),}" := by
  decide +kernel

theorem f_node : NodeF fCtx "ResponseData" "Q" 0 fOp.sels "Qanimal" "Qanimal" 1 [.spread 0, .field none 5 [.spread 0]] :=
  .step (a := none) (fid := 0) (sf := wSchema.fields[0]) (j := 1) (sub := [.spread 0, .field none 5 [.spread 0]])
    (by simp [fOp]) rfl rfl (.here _ _ _ _)

/-- `when` is denied in the body of the fragment spread into `animal`: `KeyFree` at `Qanimal`, a struct with a flattened member -/
theorem f_keyFree : KeyFree fEnv "when" "Qanimal" :=
  (denied_field_keyFree_frag fCtx 0 fOp fItems rfl f_class f_gen f_names f_node
    (body := [.field none 1 [], .field none 2 [], .field none 3 [.field none 4 [], .field none 7 []]])
    (.inr ⟨fQuery.fragments[0], by simp [spreadFrags, fCtx, fQuery], rfl⟩)
    (a := none) (fid := 2) (sub := []) (sf := wSchema.fields[2]) (by simp) rfl rfl rfl (by decide +kernel)).2

/-- `name` is no member of `Qanimal`, but the flattened `AF` reads it -/
theorem f_not_keyFree : ¬ KeyFree fEnv "name" "Qanimal" ∧
    (structFields? (fEnv.find "Qanimal")).map (fun fs => fs.any (fun f => !f.flatten && f.wire == "name")) = some false :=
  ⟨collected_key_not_keyFree fCtx 0 fOp fItems rfl f_class f_gen f_names f_node (by decide +kernel), by decide +kernel⟩

example : keyFreeCheck fEnv "when" "Qanimal" = true ∧ keyFreeCheck fEnv "since" "Qanimal" = true ∧
    keyFreeCheck fEnv "name" "Qanimal" = false ∧ keyFreeCheck fEnv "owner" "Qanimal" = false ∧
    keyFreeCheck fEnv "when" "Qanimalfriends" = true ∧ keyFreeCheck fEnv "name" "Qanimalfriends" = false ∧
    reachSet fEnv "Qanimal" = ["Qanimal", "AF"] ∧ reachSet fEnv "Qanimalfriends" = ["Qanimalfriends", "AF"] := by
  decide +kernel

end FragWitness
end C14G
end GqlVerif
