import GqlVerif.Proofs.C01NestedL
/-!
# `NestedAbsOp`: nested fragments spread at ABSTRACT positions — the class and the closed form of the items

`NestedOp` allows nested fragments (`fragOkN`: bodies that spread further fragments on the same object type, to any depth) at
object positions only; a field of interface / union type is a field of `VariantSpreadOp` (`sSel`: the fragments spread there
have spread-free bodies).  `NestedAbsOp` adds, for a field of interface / union type, the selection sets that consist of

  `__typename` (at least once), and **any number of (a)-spreads** `...F` / aliased inline fragments `... on T { ...F }`,
  `F` a fragment of `fragOkN` on a possible type `T` (of any rank: **its body may spread further fragments on `T`**)

(`absSubA`; no interface-level fields, no inline fragments with fields of their own, no spreads of fragments on the abstract
type itself).  At such a position the generator emits the tagged enum and, per possible type `T`: nothing (unit variant),
the type alias `type …On<T> = F` (one selection), or the struct `…On<T>` with one `#[serde(flatten)]` member per selected
fragment — the direct spreads in selection order, then the aliased inline fragments (`memFrags`).

* `aSel ok` / `aSels ok` / `aBody ok` — the class of selection sets, parametric in `ok` as `nSel`; at a field of abstract type:
  `sSel … || absFieldA ok …`;
* `NestedAbsOp c op` (decidable) ⊇ `NestedOp c op` (`nestedAbsOp_of_nestedOp`);
* `itemsA` / `bodyItemsA` — closed form; on a field of the old class (`sSel`) the items of `itemsS`; `bodyItemsA_eq_M`: on
  `NestedOp` it is the closed form of `nested_items_shape`;
* `calcVariantSels_special`, `pushedAny_special`, `aliasMembers_special`, `calcVariants_special` — the generator on the
  selections of one possible type at a position of the new kind, with explicit fuel (the larger classes use the first three
  at their positions).

The classes `NestedAbsOp ⊆ NestedGenOp ⊆ NestedGen2Op ⊆ NestedBOp` each have their own definitions (class, closed form,
acceptance predicate, environment, side conditions, canonical form) and the lemmas about their positions.  The chain of
theorems (closed form of the generator, exact acceptance, acyclicity and the emitted module, specification, losslessness) is
proved once, for `NestedBOp` (`C01NestedB*`); each smaller class reads its results off those of the class above
(`C01NestedAbsE`, `C01NestedGenE`, `C01NestedGenXE`) through the agreement of the definitions on the smaller class
(`C01NestedGenJ`, `C01NestedGenXJ`, `C01NestedBJ`).  The rank recursion about fragments (`wholeN`, `KNn`, `centN`, `fragAccN`,
`fragRTN`, `specN` of `C01NestedD` / `F` / `I`) is used as it is.
-/

namespace GqlVerif
namespace C01NA
open Serde Spec C13 C03 Codegen C01 C01.E2E C01M C01N

/-! ## the class -/

/-- the fragment of a variant selection: `...F` or `... on T { ...F }` -/
def selFrag : Sel → Option Nat
  | .spread g => some g
  | .inline _ sub => (match sub with | [.spread g] => some g | _ => none)
  | _ => none

/-- the fragment of a direct spread -/
def spreadId : Sel → Option Nat
  | .spread g => some g
  | _ => none

/-- **the fragments whose structs make up the variant of `vt`**: those spread directly, in selection order, then those of
    the aliased inline fragments `... on T { ...F }` (the generator appends these) -/
def memFrags (q : Query) (vt : TypeId) (sub : List Sel) : List Nat :=
  (mineOf q vt sub).filterMap spreadId ++ (mineOf q vt sub).filterMap aliasInl

/-- one selection at an abstract position of the new kind -/
def absSelA (ok : TypeId → Nat → Bool) (vts : List TypeId) : Sel → Bool
  | .typename => true
  | .spread g => vts.any (fun vt => ok vt g)
  | .inline t sub => (match sub with | [.spread g] => vts.contains t && ok t g | _ => false)
  | .field .. => false

set_option linter.unusedVariables false in
/-- a selection set on the abstract type `ty` of the new kind -/
def absSubA (ok : TypeId → Nat → Bool) (s : Schema) (q : Query) (o : Options) (ty : TypeId) (sub : List Sel) : Bool :=
  sub.any isTypename && sub.all (absSelA ok (vtsOfTy s ty)) &&
  (vtsOfTy s ty).all (fun t => match t with | .object i => (s.objects[i]?).isSome | _ => false) &&
  !(variantNames s o ty).isEmpty && EnumSpec.nodup (variantNames s o ty)

def absTyOk (s : Schema) : TypeId → Bool
  | .interface k => (s.interfaces[k]?).isSome
  | .union u => (s.unions[u]?).isSome
  | _ => false

/-- a field of interface / union type with a selection set of the new kind -/
def absFieldA (ok : TypeId → Nat → Bool) (s : Schema) (q : Query) (o : Options) (sf : StoredField) (sub : List Sel) : Bool :=
  wfQuals sf.ty.quals && !(sf.deprecation.isSome && o.deprecation == .deny) && absTyOk s sf.ty.id &&
    absSubA ok s q o sf.ty.id sub

mutual
  /-- one selection of an object-level selection set on `parent` -/
  def aSel (ok : TypeId → Nat → Bool) (s : Schema) (q : Query) (o : Options) (parent : TypeId) : Sel → Bool
    | .field a fid sub =>
      match s.fields[fid]? with
      | none => false
      | some sf =>
        match sf.ty.id with
        | .object i =>
          wfQuals sf.ty.quals && !(sf.deprecation.isSome && o.deprecation == .deny) && (s.objects[i]?).isSome &&
            (match sub with
             | [.spread g] => ok (.object i) g
             | _ => aSels ok s q o (.object i) sub)
        | _ => sSel s q o false (.field a fid sub) || absFieldA ok s q o sf sub
    | .typename => true
    | .spread g => ok parent g
    | .inline _ _ => false
  def aSels (ok : TypeId → Nat → Bool) (s : Schema) (q : Query) (o : Options) (parent : TypeId) : List Sel → Bool
    | [] => true
    | x :: xs => aSel ok s q o parent x && aSels ok s q o parent xs
end

def aBody (ok : TypeId → Nat → Bool) (s : Schema) (q : Query) (o : Options) (parent : TypeId) (sels : List Sel) : Bool :=
  match sels with
  | [.spread g] => ok parent g
  | _ => aSels ok s q o parent sels

/-- **the class `NestedAbsOp`** (decidable): `NestedOp`, and nested fragments (`fragOkN`) as variant selections at
    abstract positions -/
def NestedAbsOp (c : Ctx) (op : ROperation) : Bool :=
  c.o.normalization == .none && (c.s.objects[op.objectId]?).isSome &&
  aBody (fragOkN c.s c.q c.o c.q.fragments.length) c.s c.q c.o (.object op.objectId) op.sels

/-! ## closed form -/

/-- the flattened member for the struct of the fragment `g` in a variant struct (`calcVariantSels` / `aliasMember`: no
    `keyword_replace`) -/
def memField (c : Ctx) (g : Nat) : RField :=
  { rust := c.cs.snake (fragName c g), ty := .path (fragName c g), flatten := true }

/-- the item `…On<T>`: nothing (unit variant), the alias of the fragment struct (one selection), or the struct with one
    `#[serde(flatten)]` member per selected fragment -/
def variantHeadA (c : Ctx) (pfx : String) (vt : TypeId) (sub : List Sel) : List Item :=
  match memFrags c.q vt sub with
  | [] => []
  | [g] => [aliasItem (pfx ++ "On" ++ objName c.s vt) (fragName c g) false]
  | gs => [.struct (pfx ++ "On" ++ objName c.s vt) c.respDerives c.serdeCrate (gs.map (memField c))]

/-- the items of an abstract position of the new kind: the tagged enum, then per selected possible type the alias -/
def absItemsA (c : Ctx) (name pfx : String) (ty : TypeId) (sub : List Sel) : List Item :=
  renderType c name [] (variantsV c pfx ty (marks c.q sub)) ++
    (vtsOfTy c.s ty).flatMap (fun vt => variantHeadA c pfx vt sub)

mutual
  def itemsA (c : Ctx) (pfx : String) : Sel → List Item
    | .field a fid sub =>
      match c.s.fields[fid]? with
      | none => []
      | some sf =>
        match sf.ty.id with
        | .object _ =>
          (match sub with
           | [.spread g] => [aliasItem (pfx ++ c.cs.camel (a.getD sf.name)) (fragName c g) false]
           | _ => .struct (pfx ++ c.cs.camel (a.getD sf.name)) c.respDerives c.serdeCrate
                    (fieldsOfF c (pfx ++ c.cs.camel (a.getD sf.name)) sub) ::
                  itemsAs c (pfx ++ c.cs.camel (a.getD sf.name)) sub)
        | ty =>
          if sSel c.s c.q c.o false (.field a fid sub) then itemsS c pfx (.field a fid sub)
          else absItemsA c (pfx ++ c.cs.camel (a.getD sf.name)) (pfx ++ c.cs.camel (a.getD sf.name)) ty sub
    | _ => []
  def itemsAs (c : Ctx) (pfx : String) : List Sel → List Item
    | [] => []
    | x :: xs => itemsA c pfx x ++ itemsAs c pfx xs
end

/-- **closed form** of the items of an object-level selection set -/
def bodyItemsA (c : Ctx) (name pfx : String) (sels : List Sel) : List Item :=
  match sels with
  | [.spread g] => [aliasItem name (fragName c g) false]
  | _ => .struct name c.respDerives c.serdeCrate (fieldsOfF c pfx sels) :: itemsAs c pfx sels

section Basic
variable {ok : TypeId → Nat → Bool} {s : Schema} {q : Query} {o : Options}

theorem aSels_cons {p : TypeId} {x : Sel} {xs : List Sel}
    (h : aSels ok s q o p (x :: xs) = true) : aSel ok s q o p x = true ∧ aSels ok s q o p xs = true := by
  simpa [aSels] using h

theorem aSels_mem {p : TypeId} : ∀ {sels : List Sel}, aSels ok s q o p sels = true →
    ∀ x ∈ sels, aSel ok s q o p x = true
  | [], _, _, hx => by simp at hx
  | y :: ys, h, x, hx => by
    obtain ⟨h1, h2⟩ := aSels_cons h
    rcases List.mem_cons.mp hx with rfl | hx'
    · exact h1
    · exact aSels_mem h2 x hx'

theorem aBody_not_lone {p : TypeId} {sels : List Sel}
    (h : ∀ g, sels ≠ [Sel.spread g]) : aBody ok s q o p sels = aSels ok s q o p sels := by
  unfold aBody
  split
  · rename_i g; exact absurd rfl (h g)
  · rfl

theorem aBody_lone {p : TypeId} {g : Nat} : aBody ok s q o p [Sel.spread g] = ok p g := rfl

theorem bodyItemsA_not_lone (c : Ctx) (name pfx : String) {sels : List Sel} (h : ∀ g, sels ≠ [Sel.spread g]) :
    bodyItemsA c name pfx sels =
      .struct name c.respDerives c.serdeCrate (fieldsOfF c pfx sels) :: itemsAs c pfx sels := by
  unfold bodyItemsA
  split
  · rename_i g; exact absurd rfl (h g)
  · rfl

theorem aSel_obj {p : TypeId} {a : Option String} {fid : Nat} {sub : List Sel}
    {sf : StoredField} {i : Nat} (hsf : s.fields[fid]? = some sf) (hid : sf.ty.id = .object i)
    (h : aSel ok s q o p (.field a fid sub) = true) :
    wfQuals sf.ty.quals = true ∧ (sf.deprecation.isSome && o.deprecation == .deny) = false ∧
      (s.objects[i]?).isSome = true ∧ aBody ok s q o (.object i) sub = true := by
  rw [aSel] at h
  simp only [hsf, hid, Bool.and_eq_true] at h
  obtain ⟨⟨⟨hw, hdep⟩, hobj⟩, hb⟩ := h
  refine ⟨hw, ?_, hobj, hb⟩
  cases hd : (sf.deprecation.isSome && o.deprecation == .deny) with
  | false => rfl
  | true => simp [hd] at hdep

/-- a field of the class that is not object-typed: a field of `VariantSpreadOp`, or of the new kind -/
theorem aSel_nonobj {p : TypeId} {a : Option String} {fid : Nat} {sub : List Sel}
    {sf : StoredField} (hsf : s.fields[fid]? = some sf) (hno : ∀ i, sf.ty.id ≠ .object i)
    (h : aSel ok s q o p (.field a fid sub) = true) :
    sSel s q o false (.field a fid sub) = true ∨
      (sSel s q o false (.field a fid sub) = false ∧ absFieldA ok s q o sf sub = true) := by
  rw [aSel] at h
  simp only [hsf] at h
  have h' : (sSel s q o false (.field a fid sub) || absFieldA ok s q o sf sub) = true := by
    simpa using h
  cases hs : sSel s q o false (.field a fid sub) with
  | true => exact .inl rfl
  | false => rw [hs] at h'; exact .inr ⟨rfl, by simpa using h'⟩

theorem aSel_field_some {p : TypeId} {a : Option String} {fid : Nat} {sub : List Sel}
    (h : aSel ok s q o p (.field a fid sub) = true) : ∃ sf, s.fields[fid]? = some sf := by
  rw [aSel] at h
  cases hsf : s.fields[fid]? with
  | none => simp [hsf] at h
  | some sf => exact ⟨sf, rfl⟩

theorem absTyOk_absHyp {ty : TypeId} (h : absTyOk s ty = true) : absHyp s ty := by
  cases ty <;> simp_all [absTyOk, absHyp]

theorem absHyp_cases {ty : TypeId} (h : absHyp s ty) : (∃ k, ty = .interface k) ∨ ∃ k, ty = .union k := by
  cases ty <;> simp_all [absHyp]

/-- the Rust type of a field of interface / union type is named after the position -/
theorem leafNameV_abs {c : Ctx} {ty : TypeId} (h : absHyp c.s ty) (pfx g : String) :
    leafNameV c pfx g ty = some (pfx ++ c.cs.camel g) := by
  rcases absHyp_cases h with ⟨k, rfl⟩ | ⟨k, rfl⟩
  · rfl
  · rfl

/-- the specification at a field of interface / union type -/
theorem strictFieldV_abs {a : Option String} {fid : Nat} {sub : List Sel} {sf : StoredField}
    (hsf : s.fields[fid]? = some sf) (h : absHyp s sf.ty.id) (v : Json) :
    strictFieldV s (.field a fid sub) v = accepts (conformsAt s sf.ty.id sub) (gtyOf sf.ty.quals) v := by
  rw [strictFieldV]
  simp only [hsf]
  rcases absHyp_cases h with ⟨k, hid⟩ | ⟨k, hid⟩
  · rw [hid]
  · rw [hid]

theorem absFieldA_parts {sf : StoredField} {sub : List Sel} (h : absFieldA ok s q o sf sub = true) :
    wfQuals sf.ty.quals = true ∧ (sf.deprecation.isSome && o.deprecation == .deny) = false ∧
      absHyp s sf.ty.id ∧ absSubA ok s q o sf.ty.id sub = true := by
  simp only [absFieldA, Bool.and_eq_true] at h
  obtain ⟨⟨⟨hw, hdep⟩, hty⟩, hsub⟩ := h
  refine ⟨hw, ?_, absTyOk_absHyp hty, hsub⟩
  cases hd : (sf.deprecation.isSome && o.deprecation == .deny) with
  | false => rfl
  | true => simp [hd] at hdep

end Basic

/-- what `absSubA` says, as propositions -/
structure SpecialAbs (ok : TypeId → Nat → Bool) (s : Schema) (q : Query) (o : Options) (ty : TypeId) (sub : List Sel) :
    Prop where
  tn : sub.any isTypename = true
  sel : ∀ x ∈ sub, absSelA ok (vtsOfTy s ty) x = true
  obj : ∀ t ∈ vtsOfTy s ty, ∃ i, t = .object i ∧ (s.objects[i]?).isSome = true
  ne : variantNames s o ty ≠ []
  nd : (variantNames s o ty).Nodup

theorem absSubA_parts {ok : TypeId → Nat → Bool} {s : Schema} {q : Query} {o : Options} {ty : TypeId} {sub : List Sel}
    (h : absSubA ok s q o ty sub = true) : SpecialAbs ok s q o ty sub := by
  simp only [absSubA, Bool.and_eq_true, List.all_eq_true, Bool.not_eq_true',
    List.isEmpty_eq_false_iff] at h
  obtain ⟨⟨⟨⟨h1, h2⟩, h3⟩, h4⟩, h5⟩ := h
  refine ⟨h1, h2, ?_, h4, nodup_iff'.mp h5⟩
  intro t ht
  have := h3 t ht
  cases t <;> simp only [Bool.false_eq_true] at this
  exact ⟨_, rfl, this⟩

/-- a variant selection of the new kind on `vt` -/
def IsMem (ok : TypeId → Nat → Bool) (vt : TypeId) (x : Sel) : Prop :=
  (∃ g, x = Sel.spread g ∧ ok vt g = true) ∨ (∃ g, x = Sel.inline vt [Sel.spread g] ∧ ok vt g = true)

/-- the selections on a possible type: spreads or aliased inline fragments — of fragments of the class on it -/
theorem SpecialAbs.mine {ok : TypeId → Nat → Bool} {s : Schema} {q : Query} {o : Options} {ty : TypeId} {sub : List Sel}
    (h : SpecialAbs ok s q o ty sub) (hok : OkSpec q ok) {vt : TypeId} (hvt : vt ∈ vtsOfTy s ty) :
    ∀ x ∈ mineOf q vt sub, IsMem ok vt x := by
  intro x hxm
  obtain ⟨hx, hon⟩ := mem_mineOf hxm
  have hsel := h.sel x hx
  cases x with
  | typename => simp [selOn] at hon
  | field a fid sub' => simp [selOn] at hon
  | spread g =>
    simp only [absSelA, List.any_eq_true] at hsel
    obtain ⟨vt', _, hokg⟩ := hsel
    obtain ⟨f, hf, hfon, _⟩ := hok _ _ hokg
    simp only [selOn, hf, Option.map_some, Option.some.injEq] at hon
    have : vt' = vt := hfon.symm.trans hon
    subst this
    exact .inl ⟨g, rfl, hokg⟩
  | inline t isub =>
    simp only [selOn, Option.some.injEq] at hon
    subst hon
    simp only [absSelA] at hsel
    split at hsel
    · rename_i g
      simp only [Bool.and_eq_true] at hsel
      exact .inr ⟨g, rfl, hsel.2⟩
    · cases hsel

/-- the members: each selection contributes exactly one -/
theorem length_members {ok : TypeId → Nat → Bool} {vt : TypeId} : ∀ (ms : List Sel), (∀ x ∈ ms, IsMem ok vt x) →
    (ms.filterMap spreadId ++ ms.filterMap aliasInl).length = ms.length
  | [], _ => rfl
  | x :: xs, h => by
    have ih := length_members xs (fun y hy => h y (List.mem_cons_of_mem _ hy))
    rw [List.length_append] at ih ⊢
    rcases h x (List.mem_cons_self) with ⟨g, rfl, _⟩ | ⟨g, rfl, _⟩
    · simp only [List.filterMap_cons, spreadId, aliasInl, List.length_cons]; omega
    · simp only [List.filterMap_cons, spreadId, aliasInl, List.length_cons]; omega

theorem mem_members {ok : TypeId → Nat → Bool} {vt : TypeId} {ms : List Sel} (h : ∀ x ∈ ms, IsMem ok vt x) {g : Nat}
    (hg : g ∈ ms.filterMap spreadId ++ ms.filterMap aliasInl) :
    ok vt g = true ∧ (Sel.spread g ∈ ms ∨ Sel.inline vt [Sel.spread g] ∈ ms) := by
  rcases List.mem_append.mp hg with hg | hg
  · obtain ⟨x, hx, hxg⟩ := List.mem_filterMap.mp hg
    rcases h x hx with ⟨g', rfl, hokg⟩ | ⟨g', rfl, hokg⟩
    · simp only [spreadId, Option.some.injEq] at hxg; subst hxg; exact ⟨hokg, .inl hx⟩
    · simp [spreadId] at hxg
  · obtain ⟨x, hx, hxg⟩ := List.mem_filterMap.mp hg
    rcases h x hx with ⟨g', rfl, hokg⟩ | ⟨g', rfl, hokg⟩
    · simp [aliasInl] at hxg
    · simp only [aliasInl, Option.some.injEq] at hxg; subst hxg; exact ⟨hokg, .inr hx⟩

/-- every member fragment of the variant of `vt` is of the class on `vt`, and selected in `sub` -/
theorem SpecialAbs.mem {ok : TypeId → Nat → Bool} {s : Schema} {q : Query} {o : Options} {ty : TypeId} {sub : List Sel}
    (h : SpecialAbs ok s q o ty sub) (hok : OkSpec q ok) {vt : TypeId} (hvt : vt ∈ vtsOfTy s ty) {g : Nat}
    (hg : g ∈ memFrags q vt sub) :
    ok vt g = true ∧ (Sel.spread g ∈ sub ∨ Sel.inline vt [Sel.spread g] ∈ sub) := by
  obtain ⟨h1, h2⟩ := mem_members (h.mine hok hvt) hg
  refine ⟨h1, ?_⟩
  rcases h2 with h2 | h2
  · exact .inl (mem_mineOf h2).1
  · exact .inr (mem_mineOf h2).1

theorem memFrags_mem_selFrag {q : Query} {vt : TypeId} {sub : List Sel} {g : Nat} (hg : g ∈ memFrags q vt sub) :
    g ∈ sub.filterMap selFrag := by
  unfold memFrags at hg
  rcases List.mem_append.mp hg with hg | hg
  · obtain ⟨x, hx, hxg⟩ := List.mem_filterMap.mp hg
    refine List.mem_filterMap.mpr ⟨x, (mem_mineOf hx).1, ?_⟩
    cases x <;> simp_all [spreadId, selFrag]
  · obtain ⟨x, hx, hxg⟩ := List.mem_filterMap.mp hg
    refine List.mem_filterMap.mpr ⟨x, (mem_mineOf hx).1, ?_⟩
    cases x with
    | inline t isub =>
      obtain ⟨t', hx'⟩ := aliasInl_some hxg
      cases hx'
      simp [selFrag]
    | spread g' => simp [aliasInl] at hxg
    | field a fid sub' => simp [aliasInl] at hxg
    | typename => simp [aliasInl] at hxg

theorem memFrags_nil {q : Query} {vt : TypeId} {sub : List Sel} (h : mineOf q vt sub = []) : memFrags q vt sub = [] := by
  unfold memFrags; rw [h]; rfl

theorem memFrags_length {ok : TypeId → Nat → Bool} {s : Schema} {q : Query} {o : Options} {ty : TypeId} {sub : List Sel}
    (h : SpecialAbs ok s q o ty sub) (hok : OkSpec q ok) {vt : TypeId} (hvt : vt ∈ vtsOfTy s ty) :
    (memFrags q vt sub).length = (mineOf q vt sub).length :=
  length_members _ (h.mine hok hvt)

/-- every spread of such a selection set is of a fragment on a possible type -/
theorem SpecialAbs.spread {ok : TypeId → Nat → Bool} {s : Schema} {q : Query} {o : Options} {ty : TypeId} {sub : List Sel}
    (h : SpecialAbs ok s q o ty sub) (hok : OkSpec q ok) (hty : absHyp s ty) {g : Nat} (hg : Sel.spread g ∈ sub) :
    ∃ f, q.fragments[g]? = some f ∧ f.on ≠ ty := by
  have hsel := h.sel _ hg
  simp only [absSelA, List.any_eq_true] at hsel
  obtain ⟨vt, hvt, hokg⟩ := hsel
  obtain ⟨f, hf, hfon, _⟩ := hok _ _ hokg
  obtain ⟨i, rfl, _⟩ := h.obj vt hvt
  exact ⟨f, hf, by rw [hfon]; exact obj_ne_abs hty i⟩

/-! ## the items of an abstract position of the new kind -/

section CalcAbs
variable (c : Ctx) (ok : TypeId → Nat → Bool) (hok : OkSpec c.q ok)

theorem memField_eq (c : Ctx) {g : Nat} {fr : RFragment} (hfr : c.q.fragments[g]? = some fr) :
    memField c g = memberField c fr := by
  simp [memField, memberField, fragName, hfr]

include hok in
/-- the contributions of the selections on one variant: one flattened member per direct spread, one alias item per aliased
    inline fragment -/
theorem calcVariantSels_special (sname pfx : String) (ty : TypeId) (i : Nat) (hne : TypeId.object i ≠ ty) :
    ∀ (ms : List Sel) (fuel : Nat), ms.length + 1 ≤ fuel → (∀ x ∈ ms, IsMem ok (.object i) x) →
    (c.s.objects[i]?).isSome = true →
    calcVariantSels c fuel sname pfx (.object i) (vselsOfS c.q ty ms) =
      .ok ((ms.filterMap spreadId).map (memField c), [],
        (ms.filterMap aliasInl).map (fun g => aliasItem sname (fragName c g) false))
  | [], fuel, hf, _, _ => by
    obtain ⟨f, rfl⟩ : ∃ f, fuel = f + 1 := ⟨fuel - 1, by omega⟩
    rw [show vselsOfS c.q ty [] = [] from rfl, calcVariantSels.eq_2 _ _ _ _ _ (by omega)]; rfl
  | x :: rest, fuel, hf, hms, hi => by
    simp only [List.length_cons] at hf
    obtain ⟨f, rfl⟩ : ∃ f, fuel = f + 1 := ⟨fuel - 1, by omega⟩
    have hR := calcVariantSels_special sname pfx ty i hne rest f (by omega)
      (fun y hy => hms y (List.mem_cons_of_mem _ hy)) hi
    rcases hms x (List.mem_cons_self) with ⟨g, rfl, hokg⟩ | ⟨g, rfl, hokg⟩
    · obtain ⟨fr, hfr, hfon, hname, hrec⟩ := hok _ _ hokg
      have hne2 : (fr.on == ty) = false := by rw [hfon]; simpa using hne
      rw [show vselsOfS c.q ty (Sel.spread g :: rest) = .spread g fr :: vselsOfS c.q ty rest from by
        simp [vselsOfS, vselOfS, hfr, hne2], calcVariantSels.eq_5]
      simp only [hrec, renderField_member c fr hname, bind, Except.bind, pure, Except.pure, hR]
      simp [List.filterMap_cons, spreadId, aliasInl, memField_eq c hfr]
    · obtain ⟨fr, hfr, hfon, hname, hrec⟩ := hok _ _ hokg
      rw [show vselsOfS c.q ty (Sel.inline (.object i) [.spread g] :: rest) =
        .inline (.object i) [.spread g] :: vselsOfS c.q ty rest from rfl, calcVariantSels.eq_3]
      simp only [typeName_obj hi, getFragment_of hfr, hrec, bind, Except.bind, pure, Except.pure, hR]
      simp [List.filterMap_cons, spreadId, aliasInl, fragName, hfr]

include hok in
theorem pushedAny_special (ty : TypeId) (i : Nat) (hne : TypeId.object i ≠ ty) : ∀ (ms : List Sel),
    (∀ x ∈ ms, IsMem ok (.object i) x) →
    pushedAny c.q (.object i) (vselsOfS c.q ty ms) = !(ms.filterMap spreadId).isEmpty
  | [], _ => rfl
  | x :: rest, hms => by
    have ih := pushedAny_special ty i hne rest (fun y hy => hms y (List.mem_cons_of_mem _ hy))
    rcases hms x (List.mem_cons_self) with ⟨g, rfl, hokg⟩ | ⟨g, rfl, hokg⟩
    · obtain ⟨fr, hfr, hfon, _, _⟩ := hok _ _ hokg
      have hne2 : (fr.on == ty) = false := by rw [hfon]; simpa using hne
      rw [show vselsOfS c.q ty (Sel.spread g :: rest) = .spread g fr :: vselsOfS c.q ty rest from by
        simp [vselsOfS, vselOfS, hfr, hne2]]
      simp [pushedAny, spreadId]
    · rw [show vselsOfS c.q ty (Sel.inline (.object i) [.spread g] :: rest) =
        .inline (.object i) [.spread g] :: vselsOfS c.q ty rest from rfl]
      simp [pushedAny, ih, List.filterMap_cons, spreadId]

include hok in
/-- every aliased fragment is one more flattened member -/
theorem aliasMembers_special (sname : String) (vt : TypeId) : ∀ (gs : List Nat), (∀ g ∈ gs, ok vt g = true) →
    (gs.map (fun g => aliasItem sname (fragName c g) false)).mapM (aliasMember c) = .ok (gs.map (fun g => [memField c g]))
  | [], _ => rfl
  | g :: gs, h => by
    have ih := aliasMembers_special sname vt gs (fun g' hg' => h g' (List.mem_cons_of_mem _ hg'))
    obtain ⟨fr, hfr, _, hname, _⟩ := hok _ _ (h g (List.mem_cons_self))
    have hn : fragName c g = fr.name := by simp [fragName, hfr]
    rw [List.map_cons, List.mapM_cons, ih, hn]
    simp only [aliasItem, Bool.false_eq_true, ↓reduceIte, aliasMember, renderField_member c fr hname, bind,
      Except.bind, pure, Except.pure, Option.toList, List.map_cons, memField_eq c hfr]

theorem flatten_map_singleton {α β : Type} (f : α → β) (l : List α) : (l.map (fun a => [f a])).flatten = l.map f := by
  induction l with
  | nil => rfl
  | cons a l ih => simp [ih]

theorem variantHeadA_nil {c : Ctx} {pfx : String} {vt : TypeId} {sub : List Sel} (h : memFrags c.q vt sub = []) :
    variantHeadA c pfx vt sub = [] := by
  unfold variantHeadA; rw [h]

theorem variantHeadA_alias {c : Ctx} {pfx : String} {vt : TypeId} {sub : List Sel} {g : Nat}
    (h : memFrags c.q vt sub = [g]) :
    variantHeadA c pfx vt sub = [aliasItem (pfx ++ "On" ++ objName c.s vt) (fragName c g) false] := by
  unfold variantHeadA; rw [h]

theorem variantHeadA_struct {c : Ctx} {pfx : String} {vt : TypeId} {sub : List Sel}
    (h : 2 ≤ (memFrags c.q vt sub).length) :
    variantHeadA c pfx vt sub =
      [.struct (pfx ++ "On" ++ objName c.s vt) c.respDerives c.serdeCrate ((memFrags c.q vt sub).map (memField c))] := by
  unfold variantHeadA
  match hm : memFrags c.q vt sub, h with
  | a :: b :: gs, _ => rfl

include hok in
/-- the per-variant loop: unit variants, type aliases, structs of flattened members -/
theorem calcVariants_special (name pfx : String) (ty : TypeId) (sub : List Sel) (hty : absHyp c.s ty)
    (h : SpecialAbs ok c.s c.q c.o ty sub) : ∀ (vts : List TypeId) (fuel : Nat), vts.length + sub.length + 3 ≤ fuel →
    (∀ t ∈ vts, t ∈ vtsOfTy c.s ty) →
    calcVariants c fuel name pfx (vselsOfS c.q ty sub) vts =
      .ok (vts.map (variantOf c pfx (marks c.q sub)), vts.flatMap (fun vt => variantHeadA c pfx vt sub))
  | [], fuel, hf, _ => by
    obtain ⟨f, rfl⟩ : ∃ f, fuel = f + 1 := ⟨fuel - 1, by omega⟩
    rw [calcVariants.eq_2 _ _ _ _ _ (by omega)]; rfl
  | vt :: rest, fuel, hf, hsub => by
    simp only [List.length_cons] at hf
    obtain ⟨f, rfl⟩ : ∃ f, fuel = f + 1 := ⟨fuel - 1, by omega⟩
    have hrest := calcVariants_special name pfx ty sub hty h rest f (by omega)
      (fun t ht => hsub t (List.mem_cons_of_mem _ ht))
    have hvt := hsub vt (List.mem_cons_self)
    obtain ⟨i, rfl, hi⟩ := h.obj vt hvt
    have hvne : TypeId.object i ≠ ty := obj_ne_abs hty i
    rw [calcVariants.eq_3]
    simp only [typeName_obj hi, bind, Except.bind, filter_vselsOfS c.q ty _ hvne]
    have hvo : variantOf c pfx (marks c.q sub) (.object i) =
        if (mineOf c.q (.object i) sub).isEmpty then { name := objName c.s (.object i) }
        else { name := objName c.s (.object i), payload := some (.path (pfx ++ "On" ++ objName c.s (.object i))) } := by
      unfold variantOf; rw [marks_contains]; cases (mineOf c.q (.object i) sub).isEmpty <;> rfl
    rw [List.map_cons, List.flatMap_cons, hvo]
    have hmine := h.mine hok hvt
    have hmlen : (mineOf c.q (.object i) sub).length ≤ sub.length := List.length_filter_le _ _
    have hmf : memFrags c.q (.object i) sub =
        (mineOf c.q (.object i) sub).filterMap spreadId ++ (mineOf c.q (.object i) sub).filterMap aliasInl := rfl
    have hlen := length_members _ hmine
    have hsels := calcVariantSels_special c ok hok (pfx ++ "On" ++ objName c.s (.object i)) pfx ty i hvne
      (mineOf c.q (.object i) sub) f (by omega) hmine hi
    have hpush := pushedAny_special c ok hok ty i hvne (mineOf c.q (.object i) sub) hmine
    have hals := aliasMembers_special c ok hok (pfx ++ "On" ++ objName c.s (.object i)) (.object i)
      ((mineOf c.q (.object i) sub).filterMap aliasInl)
      (fun g' hg' => (mem_members hmine (List.mem_append_right _ hg')).1)
    revert hmf hlen hsels hpush hals hmine
    cases hm : mineOf c.q (.object i) sub with
    | nil =>
      intro hmine hmf _ _ _ _
      simp only [show vselsOfS c.q ty [] = [] from rfl, hrest, pure, Except.pure]
      simp [variantHeadA_nil hmf]
    | cons x rest' =>
      intro hmine hmf hlen hsels hpush hals
      cases rest' with
      | nil =>
        rcases hmine x (List.mem_cons_self) with ⟨g, rfl, hokg⟩ | ⟨g, rfl, hokg⟩
        · obtain ⟨fr, hfr, hfon, _, hrec⟩ := hok _ _ hokg
          have hne2 : (fr.on == ty) = false := by rw [hfon]; simpa using hvne
          have hv : vselsOfS c.q ty [Sel.spread g] = [.spread g fr] := by simp [vselsOfS, vselOfS, hfr, hne2]
          have hmf' : memFrags c.q (.object i) sub = [g] := by rw [hmf]; simp [List.filterMap_cons, spreadId, aliasInl]
          simp only [hv, hrest, pure, Except.pure, hrec]
          simp [variantHeadA_alias hmf', fragName, hfr]
        · have hv : vselsOfS c.q ty [Sel.inline (.object i) [Sel.spread g]] = [.inline (.object i) [.spread g]] := rfl
          have hmf' : memFrags c.q (.object i) sub = [g] := by rw [hmf]; simp [List.filterMap_cons, spreadId, aliasInl]
          rw [hv] at hsels hpush
          simp only [hv, hsels, hpush, hrest, pure, Except.pure]
          simp [List.filterMap_cons, spreadId, aliasInl, variantHeadA_alias hmf']
      | cons y rest'' =>
        have hl2 : 2 ≤ (memFrags c.q (.object i) sub).length := by rw [hmf, hlen]; simp
        obtain ⟨v1, v2, vs, hv⟩ : ∃ v1 v2 vs, vselsOfS c.q ty (x :: y :: rest'') = v1 :: v2 :: vs := by
          have h1 : ∀ z, IsMem ok (.object i) z → ∀ l, ∃ v, vselsOfS c.q ty (z :: l) = v :: vselsOfS c.q ty l := by
            intro z hz l
            rcases hz with ⟨g', rfl, hokg'⟩ | ⟨g', rfl, hokg'⟩
            · obtain ⟨fr', hfr', hfon', _, _⟩ := hok _ _ hokg'
              have hne3 : (fr'.on == ty) = false := by rw [hfon']; simpa using hvne
              exact ⟨.spread g' fr', by simp [vselsOfS, vselOfS, hfr', hne3]⟩
            · exact ⟨.inline (.object i) [.spread g'], rfl⟩
          obtain ⟨v1, e1⟩ := h1 x (hmine x (by simp)) (y :: rest'')
          obtain ⟨v2, e2⟩ := h1 y (hmine y (by simp)) rest''
          exact ⟨v1, v2, _, by rw [e1, e2]⟩
        rw [hv] at hsels hpush
        simp only [hv, hsels, hpush]
        cases hd : (List.filterMap spreadId (x :: y :: rest'')).isEmpty with
        | false =>
          simp only [Bool.not_false, hals, pure, Except.pure, hrest]
          rw [flatten_map_singleton, ← List.map_append, ← hmf, variantHeadA_struct hl2]
          simp [renderType]
        | true =>
          have hdn : List.filterMap spreadId (x :: y :: rest'') = [] := by simpa using hd
          rw [hdn, List.nil_append] at hlen
          revert hals hlen
          cases hal : List.filterMap aliasInl (x :: y :: rest'') with
          | nil => intro hlen _; simp at hlen
          | cons g0 gs0 =>
            cases gs0 with
            | nil => intro hlen _; simp at hlen
            | cons g1 gs1 =>
              intro hlen hals
              simp only [Bool.not_true, List.map_cons, pure, Except.pure, hrest]
              simp only [List.map_cons] at hals
              simp only [hals]
              rw [variantHeadA_struct hl2, hmf, hdn, hal]
              simp [renderType, flatten_map_singleton]

end CalcAbs

/-! ## the closed form of the items for `NestedAbsOp` -/

section CalcA
variable (c : Ctx) (hn : c.o.normalization = .none) (N M : Nat) (ok : TypeId → Nat → Bool) (hok : OkSpec c.q ok)

theorem itemsA_old (pfx : String) (a : Option String) (fid : Nat) (sub : List Sel) (sf : StoredField)
    (hsf : c.s.fields[fid]? = some sf) (hno : ∀ i, sf.ty.id ≠ .object i)
    (hs : sSel c.s c.q c.o false (.field a fid sub) = true) :
    itemsA c pfx (.field a fid sub) = itemsS c pfx (.field a fid sub) := by
  rw [itemsA]
  simp only [hsf]
  simp [hs]

theorem itemsA_new (pfx : String) (a : Option String) (fid : Nat) (sub : List Sel) (sf : StoredField)
    (hsf : c.s.fields[fid]? = some sf) (hno : ∀ i, sf.ty.id ≠ .object i)
    (hs : sSel c.s c.q c.o false (.field a fid sub) = false) :
    itemsA c pfx (.field a fid sub) =
      absItemsA c (pfx ++ c.cs.camel (a.getD sf.name)) (pfx ++ c.cs.camel (a.getD sf.name)) sf.ty.id sub := by
  rw [itemsA]
  simp only [hsf]
  simp [hs]

end CalcA

theorem nestedAbsOp_parts {c : Ctx} {op : ROperation} (h : NestedAbsOp c op = true) :
    c.o.normalization = .none ∧ (c.s.objects[op.objectId]?).isSome = true ∧
      aBody (fragOkN c.s c.q c.o c.q.fragments.length) c.s c.q c.o (.object op.objectId) op.sels = true := by
  simp only [NestedAbsOp, Bool.and_eq_true, beq_iff_eq] at h
  exact ⟨h.1.1, h.1.2, h.2⟩

/-! ## `NestedOp ⊆ NestedAbsOp`; the closed form agrees -/

mutual
  theorem aSel_of_nSel {ok : TypeId → Nat → Bool} (s : Schema) (q : Query) (o : Options) : ∀ (x : Sel) (p : TypeId),
      nSel ok s q o p x = true → aSel ok s q o p x = true
    | .field a fid sub, p => by
      intro h
      have IH := aSels_of_nSels (ok := ok) s q o sub
      obtain ⟨sf, hsf⟩ := nSel_field_some h
      by_cases hobj : ∃ i, sf.ty.id = .object i
      · obtain ⟨i, hid⟩ := hobj
        obtain ⟨hw, hdep, ho, hb⟩ := nSel_obj hsf hid h
        rw [aSel]
        simp only [hsf, hid, hw, hdep, ho, Bool.not_false, Bool.and_self, Bool.true_and]
        by_cases hsp : ∃ g, sub = [Sel.spread g]
        · obtain ⟨g, rfl⟩ := hsp; exact hb
        · have hnl : ∀ g, sub ≠ [Sel.spread g] := fun g hg => hsp ⟨g, hg⟩
          rw [nBody_not_lone hnl] at hb
          split
          · exact absurd rfl (hnl _)
          · exact IH _ hb
      · have hno : ∀ i, sf.ty.id ≠ .object i := fun i h => hobj ⟨i, h⟩
        have hs := nSel_nonobj hsf hno h
        rw [aSel]
        simp only [hsf]
        simp [hs]
    | .spread g, p => by intro h; rw [nSel] at h; rw [aSel]; exact h
    | .inline _ _, _ => by intro h; simp [nSel] at h
    | .typename, _ => by intro _; simp [aSel]
  theorem aSels_of_nSels {ok : TypeId → Nat → Bool} (s : Schema) (q : Query) (o : Options) : ∀ (sels : List Sel) (p : TypeId),
      nSels ok s q o p sels = true → aSels ok s q o p sels = true
    | [], _ => by intro _; rfl
    | x :: xs, p => by
      intro h
      obtain ⟨hx, hxs⟩ := nSels_cons h
      rw [aSels, aSel_of_nSel s q o x p hx, aSels_of_nSels s q o xs p hxs]; rfl
end

theorem aBody_of_nBody {ok : TypeId → Nat → Bool} {s : Schema} {q : Query} {o : Options} {p : TypeId} {sels : List Sel}
    (h : nBody ok s q o p sels = true) : aBody ok s q o p sels = true := by
  by_cases hsp : ∃ g, sels = [Sel.spread g]
  · obtain ⟨g, rfl⟩ := hsp; exact h
  · have hnl : ∀ g, sels ≠ [Sel.spread g] := fun g hg => hsp ⟨g, hg⟩
    rw [nBody_not_lone hnl] at h
    rw [aBody_not_lone hnl]
    exact aSels_of_nSels s q o sels p h

/-- **`NestedOp ⊆ NestedAbsOp`** -/
theorem nestedAbsOp_of_nestedOp (c : Ctx) (op : ROperation) (h : NestedOp c op = true) : NestedAbsOp c op = true := by
  obtain ⟨hn, ho, hb⟩ := nestedOp_parts h
  simp only [NestedAbsOp, Bool.and_eq_true, beq_iff_eq]
  exact ⟨⟨hn, ho⟩, aBody_of_nBody hb⟩

mutual
  theorem itemsA_eq_M {ok : TypeId → Nat → Bool} (c : Ctx) : ∀ (x : Sel) (p : TypeId) (pfx : String),
      nSel ok c.s c.q c.o p x = true → itemsA c pfx x = itemsM c pfx x
    | .field a fid sub, p, pfx => by
      intro h
      have IH := itemsAs_eq_M (ok := ok) c sub
      obtain ⟨sf, hsf⟩ := nSel_field_some h
      by_cases hobj : ∃ i, sf.ty.id = .object i
      · obtain ⟨i, hid⟩ := hobj
        obtain ⟨_, _, _, hb⟩ := nSel_obj hsf hid h
        rw [itemsA, itemsM]
        simp only [hsf, hid]
        by_cases hsp : ∃ g, sub = [Sel.spread g]
        · obtain ⟨g, rfl⟩ := hsp; rfl
        · have hnl : ∀ g, sub ≠ [Sel.spread g] := fun g hg => hsp ⟨g, hg⟩
          rw [nBody_not_lone hnl] at hb
          have e1 := IH (.object i) (pfx ++ c.cs.camel (a.getD sf.name)) hb
          split
          · exact absurd rfl (hnl _)
          · split
            · exact absurd rfl (hnl _)
            · rw [e1]
      · have hno : ∀ i, sf.ty.id ≠ .object i := fun i h => hobj ⟨i, h⟩
        rw [itemsA_old c pfx a fid sub sf hsf hno (nSel_nonobj hsf hno h), itemsM_nonobj c pfx a fid sub sf hsf hno]
    | .spread g, _, _ => by intro _; simp [itemsA, itemsM]
    | .inline _ _, _, _ => by intro _; simp [itemsA, itemsM]
    | .typename, _, _ => by intro _; simp [itemsA, itemsM]
  theorem itemsAs_eq_M {ok : TypeId → Nat → Bool} (c : Ctx) : ∀ (sels : List Sel) (p : TypeId) (pfx : String),
      nSels ok c.s c.q c.o p sels = true → itemsAs c pfx sels = itemsMs c pfx sels
    | [], _, _ => by intro _; rfl
    | x :: xs, p, pfx => by
      intro h
      obtain ⟨hx, hxs⟩ := nSels_cons h
      rw [itemsAs, itemsMs, itemsA_eq_M c x p pfx hx, itemsAs_eq_M c xs p pfx hxs]
end

/-- on `NestedOp` the closed form is the one of `nested_items_shape` -/
theorem bodyItemsA_eq_M (c : Ctx) (op : ROperation) (h : NestedOp c op = true) (name pfx : String) :
    bodyItemsA c name pfx op.sels = bodyItemsM c name pfx op.sels := by
  obtain ⟨_, _, hb⟩ := nestedOp_parts h
  by_cases hsp : ∃ g, op.sels = [Sel.spread g]
  · obtain ⟨g, hg⟩ := hsp; rw [hg]; rfl
  · have hnl : ∀ g, op.sels ≠ [Sel.spread g] := fun g hg => hsp ⟨g, hg⟩
    rw [nBody_not_lone hnl] at hb
    rw [bodyItemsA_not_lone c name pfx hnl, bodyItemsM_not_lone c name pfx hnl, itemsAs_eq_M c op.sels _ pfx hb]

end C01NA
end GqlVerif
