import GqlVerif.Proofs.C14GeneratedAcyclic
import GqlVerif.Proofs.C01AbstractF
/-!
# the generator link with flattened fragment structs (`FragOpD`): class, closed form

`TreeOpD` has no flatten member, so `KeyFree` there is "not an own wire name".  Here the class **`FragOpD`**: `TreeOpD`
plus **named fragment spreads on the parent type itself** in object-level selection sets (the root selection set and the
sub-selections of object-typed fields).  Fragment bodies are selection sets of `TreeOpD` (spread-free, hence
non-recursive; deprecated fields allowed).  The generator emits

* one struct per spread fragment (`fragmentItems`: the `TreeOpD` closed form `structItemsD` of its body),
* a `#[serde(flatten)]` member per spread (`spreadField`), and a **type alias** where a selection set is a lone spread;

so `KeyFree` at a struct now quantifies over the fragment structs reached through its flattened members.
-/

namespace GqlVerif
namespace C14G
open Codegen C01.E2E

/-! ## the class -/

/-- a fragment that may be spread into a selection set on `parent`: it exists, is on `parent` itself, is not named `ID`,
    and its body is a selection set of `TreeOpD` with pairwise distinct kept keys -/
def fragOkD (c : Ctx) (parent : TypeId) (g : Nat) : Bool :=
  match c.q.fragments[g]? with
  | some f => f.on == parent && f.name != "ID" && treeSelsD c f.sels && EnumSpec.nodup (keptKeys c f.sels)
  | none => false

mutual
  /-- one selection of an object-level selection set on `parent` -/
  def fSelD (c : Ctx) (parent : TypeId) : Sel → Bool
    | .field _ fid sub =>
      match c.s.fields[fid]? with
      | none => false
      | some sf =>
        wfQuals sf.ty.quals &&
        (match sf.ty.id with
         | .scalar k => (c.s.scalars[k]?).isSome && sub.isEmpty
         | .enum k => (c.s.enums[k]?).isSome && sub.isEmpty
         | .object i => (c.s.objects[i]?).isSome &&
            (match sub with
             | [.spread g] => fragOkD c (.object i) g
             | _ => fSelsD c (.object i) sub && EnumSpec.nodup (keptKeys c sub))
         | _ => false)
    | .typename => true
    | .spread g => fragOkD c parent g
    | .inline _ _ => false
  def fSelsD (c : Ctx) (parent : TypeId) : List Sel → Bool
    | [] => true
    | x :: xs => fSelD c parent x && fSelsD c parent xs
end

/-- the body of an object-level selection set: a lone spread (type alias) or a selection set of the class with pairwise
    distinct kept keys -/
def fBodyD (c : Ctx) (parent : TypeId) (sels : List Sel) : Bool :=
  match sels with
  | [.spread g] => fragOkD c parent g
  | _ => fSelsD c parent sels && EnumSpec.nodup (keptKeys c sels)

def FragOpD (c : Ctx) (op : ROperation) : Bool :=
  c.o.normalization == .none && (c.s.objects[op.objectId]?).isSome && fBodyD c (.object op.objectId) op.sels

theorem fragOkD_parts {c : Ctx} {parent : TypeId} {g : Nat} (h : fragOkD c parent g = true) :
    ∃ f, c.q.fragments[g]? = some f ∧ f.on = parent ∧ f.name ≠ "ID" ∧ treeSelsD c f.sels = true ∧
      EnumSpec.nodup (keptKeys c f.sels) = true := by
  unfold fragOkD at h
  cases hf : c.q.fragments[g]? with
  | none => simp [hf] at h
  | some f =>
    simp only [hf, Bool.and_eq_true, beq_iff_eq, bne_iff_ne] at h
    exact ⟨f, rfl, h.1.1.1, h.1.1.2, h.1.2, h.2⟩

theorem fSelsD_cons {c : Ctx} {p : TypeId} {x : Sel} {xs : List Sel} (h : fSelsD c p (x :: xs) = true) :
    fSelD c p x = true ∧ fSelsD c p xs = true := by
  simpa [fSelsD] using h

theorem fSelD_of_mem {c : Ctx} {p : TypeId} {x : Sel} : ∀ {xs : List Sel}, fSelsD c p xs = true → x ∈ xs → fSelD c p x = true :=
  fun {xs} h hx => List.all_eq_true.mp (all_of_eqns (ps := fSelsD c p) rfl (fun _ _ => rfl) xs ▸ h) x hx

theorem fBodyD_not_lone {c : Ctx} {p : TypeId} {sels : List Sel} (h : ∀ g, sels ≠ [Sel.spread g]) :
    fBodyD c p sels = (fSelsD c p sels && EnumSpec.nodup (keptKeys c sels)) := by
  unfold fBodyD
  split
  · rename_i g; exact absurd rfl (h g)
  · rfl

theorem fSelD_object {c : Ctx} {p : TypeId} {a : Option String} {fid : Nat} {sub : List Sel} {sf : StoredField} {i : Nat}
    (hsf : c.s.fields[fid]? = some sf) (hid : sf.ty.id = .object i) (h : fSelD c p (.field a fid sub) = true) :
    wfQuals sf.ty.quals = true ∧ fBodyD c (.object i) sub = true := by
  rw [fSelD] at h
  simp only [hsf, hid, Bool.and_eq_true] at h
  refine ⟨h.1, ?_⟩
  unfold fBodyD
  split <;> simp_all

theorem fSelD_field {c : Ctx} {p : TypeId} {a : Option String} {fid : Nat} {sub : List Sel}
    (h : fSelD c p (.field a fid sub) = true) :
    ∃ sf, c.s.fields[fid]? = some sf ∧ wfQuals sf.ty.quals = true ∧
      ((∃ k n, sf.ty.id = .scalar k ∧ c.s.scalars[k]? = some n ∧ sub = []) ∨
       (∃ k en, sf.ty.id = .enum k ∧ c.s.enums[k]? = some en ∧ sub = []) ∨
       (∃ i, sf.ty.id = .object i ∧ fBodyD c (.object i) sub = true)) := by
  cases hsf : c.s.fields[fid]? with
  | none => rw [fSelD] at h; simp [hsf] at h
  | some sf =>
    have h' := h
    rw [fSelD] at h'
    simp only [hsf, Bool.and_eq_true] at h'
    refine ⟨sf, rfl, h'.1, ?_⟩
    cases hid : sf.ty.id with
    | scalar k =>
      simp only [hid, Bool.and_eq_true, List.isEmpty_iff, Option.isSome_iff_exists] at h'
      obtain ⟨n, hn⟩ := h'.2.1
      exact .inl ⟨k, n, rfl, hn, h'.2.2⟩
    | «enum» k =>
      simp only [hid, Bool.and_eq_true, List.isEmpty_iff, Option.isSome_iff_exists] at h'
      obtain ⟨en, hn⟩ := h'.2.1
      exact .inr (.inl ⟨k, en, rfl, hn, h'.2.2⟩)
    | object i => exact .inr (.inr ⟨i, rfl, (fSelD_object hsf hid h).2⟩)
    | _ => simp [hid] at h'

theorem fragOpD_parts {c : Ctx} {op : ROperation} (h : FragOpD c op = true) :
    c.o.normalization = .none ∧ fBodyD c (.object op.objectId) op.sels = true := by
  simp only [FragOpD, Bool.and_eq_true, beq_iff_eq] at h
  exact ⟨h.1.1, h.2⟩

/-! ### the class contains `TreeOpD` -/

mutual
  theorem fSelD_of_treeSelD (c : Ctx) : ∀ (x : Sel) (p : TypeId), treeSelD c x = true → fSelD c p x = true
    | .field a fid sub, p => by
      intro h
      have IH := fSelsD_of_treeSelsD c sub
      obtain ⟨sf, hsf, hw, hty⟩ := treeSelD_field h
      rw [fSelD]
      simp only [hsf, hw, Bool.true_and]
      rcases hty with ⟨k, n, hid, hn, rfl⟩ | ⟨k, en, hid, hn, rfl⟩ | ⟨i, o, hid, ho, hsub, hk⟩
      · simp [hid, hn]
      · simp [hid, hn]
      · simp only [hid, ho, Option.isSome_some, Bool.true_and]
        split
        · simp [treeSelsD, treeSelD] at hsub
        · rw [IH (.object i) hsub, hk]; rfl
    | .spread _, _ => by intro h; simp [treeSelD] at h
    | .inline _ _, _ => by intro h; simp [treeSelD] at h
    | .typename, _ => by intro _; simp [fSelD]
  theorem fSelsD_of_treeSelsD (c : Ctx) : ∀ (xs : List Sel) (p : TypeId), treeSelsD c xs = true → fSelsD c p xs = true
    | [], _ => by intro _; simp [fSelsD]
    | x :: xs, p => by
      intro h
      obtain ⟨hx, hxs⟩ := treeSelsD_cons h
      rw [fSelsD, fSelD_of_treeSelD c x p hx, fSelsD_of_treeSelsD c xs p hxs]
      rfl
end

theorem fragOpD_of_treeOpD {c : Ctx} {op : ROperation} (h : TreeOpD c op = true) : FragOpD c op = true := by
  simp only [TreeOpD, Bool.and_eq_true, beq_iff_eq] at h
  simp only [FragOpD, Bool.and_eq_true, beq_iff_eq]
  refine ⟨⟨h.1.1.1, h.1.1.2⟩, ?_⟩
  rw [fBodyD_not_lone (fun g hg => by rw [hg] at h; simp [treeSelsD, treeSelD] at h)]
  simp only [Bool.and_eq_true]
  exact ⟨fSelsD_of_treeSelsD c _ _ h.1.2, h.2⟩

/-! ## closed form -/

def fieldOfSelFD (c : Ctx) (pfx : String) : Sel → Option RField
  | .spread g => (c.q.fragments[g]?).map (spreadField c)
  | x => fieldOfSelD c pfx x

def fieldsOfFD (c : Ctx) (pfx : String) (sels : List Sel) : List RField := sels.filterMap (fieldOfSelFD c pfx)

mutual
  def itemsFD (c : Ctx) (pfx : String) : Sel → List Item
    | .field a fid sub =>
      match c.s.fields[fid]? with
      | none => []
      | some sf =>
        match sf.ty.id with
        | .object _ =>
          (match sub with
           | [.spread g] => [aliasItem (pfx ++ c.cs.camel (a.getD sf.name)) (fragName c g) false]
           | _ => .struct (pfx ++ c.cs.camel (a.getD sf.name)) c.respDerives c.serdeCrate
                    (fieldsOfFD c (pfx ++ c.cs.camel (a.getD sf.name)) sub) ::
                  itemsFsD c (pfx ++ c.cs.camel (a.getD sf.name)) sub)
        | _ => []
    | _ => []
  def itemsFsD (c : Ctx) (pfx : String) : List Sel → List Item
    | [] => []
    | x :: xs => itemsFD c pfx x ++ itemsFsD c pfx xs
end

/-- **closed form** of the items of an object-level selection set: a type alias for a lone spread; otherwise the struct
    (kept own fields and one flattened member per spread, in selection order) and the nested items -/
def bodyItemsFD (c : Ctx) (name pfx : String) (sels : List Sel) : List Item :=
  match sels with
  | [.spread g] => [aliasItem name (fragName c g) false]
  | _ => .struct name c.respDerives c.serdeCrate (fieldsOfFD c pfx sels) :: itemsFsD c pfx sels

theorem bodyItemsFD_not_lone (c : Ctx) (name pfx : String) {sels : List Sel} (h : ∀ g, sels ≠ [Sel.spread g]) :
    bodyItemsFD c name pfx sels =
      .struct name c.respDerives c.serdeCrate (fieldsOfFD c pfx sels) :: itemsFsD c pfx sels := by
  unfold bodyItemsFD
  split
  · rename_i g; exact absurd rfl (h g)
  · rfl

theorem fieldsOfFD_cons (c : Ctx) (pfx : String) (x : Sel) (xs : List Sel) :
    fieldsOfFD c pfx (x :: xs) = (fieldOfSelFD c pfx x).toList ++ fieldsOfFD c pfx xs := by
  unfold fieldsOfFD
  rw [List.filterMap_cons]
  cases fieldOfSelFD c pfx x <;> rfl

theorem itemsFD_object {c : Ctx} {pfx : String} {a : Option String} {fid : Nat} {sub : List Sel} {sf : StoredField} {i : Nat}
    (hsf : c.s.fields[fid]? = some sf) (hid : sf.ty.id = .object i) :
    itemsFD c pfx (.field a fid sub) =
      bodyItemsFD c (pfx ++ c.cs.camel (a.getD sf.name)) (pfx ++ c.cs.camel (a.getD sf.name)) sub := by
  rw [itemsFD]; simp only [hsf, hid]; rfl

/-! ## the fragments of the class are not recursive -/

theorem noSpreads_of_spreadFrees : ∀ xs : List Sel, spreadFrees xs = true → noSpreads xs = true
  | [] => by intro _; rfl
  | x :: xs => by
    intro h
    rw [spreadFrees, Bool.and_eq_true] at h
    rw [noSpreads, noSpreads_of_spreadFrees xs h.2, Bool.and_true]
    cases x with
    | field a fid sub =>
      rw [noSpread]
      have := h.1
      rw [spreadFree] at this
      exact noSpreads_of_spreadFrees sub this
    | typename => rfl
    | spread g => simp [spreadFree] at h
    | inline t sub => simp [spreadFree] at h

theorem noSpread_of_treeSelD (c : Ctx) : ∀ x : Sel, treeSelD c x = true → noSpread x = true
  | .field a fid sub => by
    intro h
    have hs := spreadFree_of_tree c _ h
    rw [spreadFree] at hs
    rw [noSpread]
    exact noSpreads_of_spreadFrees sub hs
  | .spread _ => by intro h; simp [treeSelD] at h
  | .inline _ _ => by intro h; simp [treeSelD] at h
  | .typename => by intro _; rfl

theorem not_recursive_of_fragOkD {c : Ctx} {parent : TypeId} {g : Nat} (h : fragOkD c parent g = true) :
    fragmentIsRecursive c.q g = false := by
  obtain ⟨f, hf, _, _, hv, _⟩ := fragOkD_parts h
  unfold fragmentIsRecursive
  rw [hf]
  simp only [reaches_noSpreads c.q g _ [] f.sels (noSpreads_of_spreadFrees _ (spreadFrees_of_tree c _ hv))]

/-! ## the closed form of the items for `FragOpD` -/

section CalcF
variable (c : Ctx) (hn : c.o.normalization = .none)

/-- one selection of the class is one step of the field loop for a struct of an object type -/
def StepFD (x : Sel) : Prop := ∀ (pfx : String) (i : Nat) (rest : List Sel) (fs : List RField) (items : List Item),
  fSelD c (.object i) x = true → C02.CalcFields c pfx (.object i) rest fs items →
  C02.CalcFields c pfx (.object i) (x :: rest) ((fieldOfSelFD c pfx x).toList ++ fs) (itemsFD c pfx x ++ items)

theorem calcFieldsFD {sels : List Sel} (H : ∀ y ∈ sels, StepFD c y) (pfx : String) (i : Nat)
    (ht : fSelsD c (.object i) sels = true) :
    C02.CalcFields c pfx (.object i) sels (fieldsOfFD c pfx sels) (itemsFsD c pfx sels) := by
  induction sels with
  | nil => exact .nil
  | cons x rest ih =>
    rw [fieldsOfFD_cons, itemsFsD]
    exact H x List.mem_cons_self pfx i rest _ _ (fSelsD_cons ht).1
      (ih (fun y hy => H y (List.mem_cons_of_mem _ hy)) (fSelsD_cons ht).2)

theorem calcBodyFD {sels : List Sel} (H : ∀ y ∈ sels, StepFD c y) (name pfx : String) (i : Nat)
    (ht : fBodyD c (.object i) sels = true) :
    C02.CalcSel c name pfx (.object i) sels (bodyItemsFD c name pfx sels) := by
  by_cases hsp : ∃ g, sels = [Sel.spread g]
  · obtain ⟨g, rfl⟩ := hsp
    have hok : fragOkD c (.object i) g = true := ht
    obtain ⟨fr, hfr, _⟩ := fragOkD_parts hok
    have := C02.CalcSel.alias (name := name) (pfx := pfx) (ty := .object i) (getFragment_of hfr)
    simpa [bodyItemsFD, fragName, hfr, not_recursive_of_fragOkD hok] using this
  · have hsp' : ∀ g, sels ≠ [Sel.spread g] := fun g hg => hsp ⟨g, hg⟩
    rw [fBodyD_not_lone hsp', Bool.and_eq_true] at ht
    rw [bodyItemsFD_not_lone c name pfx hsp']
    exact .object hsp' (calcFieldsFD c H pfx i ht.1)

include hn in
theorem stepFD_all : ∀ x, StepFD c x := by
  apply Sel.ind
  · intro a fid sub IH pfx i rest fs items hx hR
    obtain ⟨sf, hsf, hw, hty⟩ := fSelD_field hx
    have hfld := fun ft => renderField_D c sf (a.getD sf.name) ft hw
    rcases hty with ⟨k, sn, hid, hk, _⟩ | ⟨k, en, hid, hk, _⟩ | ⟨j, hid, hbody⟩
    · have := C02.CalcFields.scalar (sub := sub) (getField_of hsf) hid (getScalar_of hk) (hfld _) hR
      by_cases hd : isDenied c sf = true <;>
        simpa [hn, C02.fieldType_none, itemsFD, fieldOfSelFD, fieldOfSelD, hsf, hid, leafName, hk, hd] using this
    · have := C02.CalcFields.enum (sub := sub) (getField_of hsf) hid (getEnum_of hk) (hfld _) hR
      by_cases hd : isDenied c sf = true <;>
        simpa [hn, C02.fieldType_none, itemsFD, fieldOfSelFD, fieldOfSelD, hsf, hid, leafName, hk, hd] using this
    · have hS := calcBodyFD c IH (pfx ++ c.cs.camel (a.getD sf.name)) (pfx ++ c.cs.camel (a.getD sf.name)) j hbody
      have := C02.CalcFields.nested (getField_of hsf) (by simp [hid]) (by simp [hid]) (by simp [hid]) (hfld _)
        (hid ▸ hS) hR
      rw [itemsFD_object hsf hid]
      by_cases hd : isDenied c sf = true <;>
        simpa [fieldOfSelFD, fieldOfSelD, hsf, hid, leafName, hd] using this
  · intro t sub _ pfx i rest fs items hx _
    simp [fSelD] at hx
  · intro g pfx i rest fs items hx hR
    have hok : fragOkD c (.object i) g = true := by simpa [fSelD] using hx
    obtain ⟨fr, hfr, hon, hname, _, _⟩ := fragOkD_parts hok
    have := C02.CalcFields.spreadHere (getFragment_of hfr) (by simp [hon])
      (by rw [not_recursive_of_fragOkD hok]; exact renderField_spread c fr hname) hR
    simpa [fieldOfSelFD, hfr, itemsFD] using this
  · intro pfx i rest fs items _ hR
    simpa [fieldOfSelFD, fieldOfSelD, itemsFD] using C02.CalcFields.typename hR

include hn in
theorem calc_fragD (name pfx : String) (i : Nat) {sels : List Sel} (ht : fBodyD c (.object i) sels = true) :
    C02.CalcSel c name pfx (.object i) sels (bodyItemsFD c name pfx sels) :=
  calcBodyFD c (fun y _ => stepFD_all c hn y) name pfx i ht

end CalcF

theorem frag_items_shapeD (c : Ctx) (op : ROperation) (hop : op ∈ c.q.operations) (ht : FragOpD c op = true) :
    responseItems c op = .ok (bodyItemsFD c "ResponseData" (c.cs.camel op.name) op.sels) := by
  obtain ⟨hn, hsels⟩ := fragOpD_parts ht
  exact (calc_fragD c hn _ _ _ hsels).responseItems_eq hop

/-- **the items of a spread fragment**: the struct named like the fragment for its body (the `TreeOpD` closed form) -/
theorem frag_struct_shapeD (c : Ctx) (hn : c.o.normalization = .none) (i : Nat) (g : Nat)
    (hok : fragOkD c (.object i) g = true) :
    ∃ f, c.q.fragments[g]? = some f ∧ fragmentItems c g = .ok (structItemsD c f.name (c.cs.camel f.name) f.sels) := by
  obtain ⟨f, hf, hon, _, hv, _⟩ := fragOkD_parts hok
  refine ⟨f, hf, ?_⟩
  have := calc_treeD c hn f.name (c.cs.camel f.name) i hv
  rw [← hon] at this
  exact this.fragmentItems_eq hf

end C14G
end GqlVerif
