import GqlVerif.Proofs.C07PermCodegenB
import GqlVerif.Model.Serde
import GqlVerif.Proofs.SerdeBasics
/-!
# C07, type-order permutations (part S) — `ItemsPerm`-related modules have the same serde behaviour

`e`, `e'` : two environments whose item lists are `ItemsPerm`-related (same items up to the order of the items and of
the variants of tagged enums), same externs.  Under `EnvOK e` (decidable: item names pairwise distinct; in every tagged
enum the variant names are pairwise distinct, the wire names of the non-`other` variants are pairwise distinct, and
there is at most one `#[serde(other)]` variant — each clause is needed, see the end of the file):

* **`itemsPerm_ser_eq`** — `Serde.ser e' t v = Serde.ser e t v` for every type and every value;
* **`itemsPerm_de_eq`** — `Serde.de e' t j = Serde.de e t j` for every type and every JSON `j` in which no entry whose
  key is the tag of a tagged enum of `e` carries an integer (`good (tagsOf e) j`).

The restriction on `j` cannot be dropped: serde's buffered `ContentDeserializer` accepts the variant *index* as a
tag (`Serde.deTaggedWith`, `buffered = true`), and the index of a variant is exactly what a permutation changes —
`de_int_tag_differs`: for a flattened two-variant enum, `{"__typename": 0}` is read as the first variant on each
side.  A GraphQL server never sends an integer `__typename`.
-/

namespace GqlVerif
namespace C07P
open Serde C07

theorem find?_perm_unique {α} (q : α → Bool) {l l' : List α} (hp : l.Perm l')
    (hu : ∀ x ∈ l, ∀ y ∈ l, q x = true → q y = true → x = y) : l'.find? q = l.find? q := by
  cases h : l.find? q with
  | none =>
    rw [List.find?_eq_none] at h ⊢
    exact fun x hx => h x (hp.mem_iff.2 hx)
  | some x =>
    have hx := List.mem_of_find?_eq_some h
    have hqx := List.find?_some h
    cases h' : l'.find? q with
    | none =>
      rw [List.find?_eq_none] at h'
      exact absurd hqx (h' x (hp.mem_iff.1 hx))
    | some y =>
      have hy := hp.mem_iff.2 (List.mem_of_find?_eq_some h')
      rw [hu x hx y hy hqx (List.find?_some h')]

theorem bind_congr' {ε α β : Type} {m m' : Except ε α} {f f' : α → Except ε β} (hm : m' = m)
    (hf : ∀ x, m = .ok x → f' x = f x) : m' >>= f' = m >>= f := by
  subst hm
  cases m' with
  | error e => rfl
  | ok x => exact hf x rfl

theorem mapM_congr' {ε α β : Type} {f f' : α → Except ε β} : ∀ (xs : List α), (∀ x ∈ xs, f' x = f x) →
    xs.mapM f' = xs.mapM f
  | [], _ => rfl
  | x :: xs, h => by
    rw [List.mapM_cons, List.mapM_cons, h x (by simp), mapM_congr' xs fun y hy => h y (by simp [hy])]

/-! ## well-formed environments -/

def taggedOK (vs : List RVariant) : Bool :=
  decide (vs.map (·.name)).Nodup && decide ((vs.filter (fun v => !v.other)).map (·.wire)).Nodup &&
    decide ((vs.filter (·.other)).length ≤ 1)

def itemOK : Item → Bool
  | .tagged _ _ _ _ vs => taggedOK vs
  | _ => true

/-- item names pairwise distinct; the variants of every tagged enum can be told apart -/
def EnvOK (e : Env) : Bool := decide (e.items.map Item.name).Nodup && e.items.all itemOK

def tagOf : Item → Option String
  | .tagged _ _ _ tag _ => some tag
  | _ => none

def tagsOf (e : Env) : List String := e.items.filterMap tagOf

theorem taggedOK_spec {vs : List RVariant} (h : taggedOK vs = true) :
    (vs.map (·.name)).Nodup ∧ ((vs.filter (fun v => !v.other)).map (·.wire)).Nodup ∧ (vs.filter (·.other)).length ≤ 1 := by
  simpa [taggedOK, and_assoc] using h

theorem find_name_perm {vs vs' : List RVariant} (hp : vs.Perm vs') (hok : taggedOK vs = true) (name : String) :
    vs'.find? (·.name == name) = vs.find? (·.name == name) := by
  apply find?_perm_unique _ hp
  intro x hx y hy h1 h2
  have h1' : x.name = name := by simpa using h1
  have h2' : y.name = name := by simpa using h2
  exact nodup_map_inj (·.name) vs (taggedOK_spec hok).1 x hx y hy (h1'.trans h2'.symm)

theorem find_wire_perm {vs vs' : List RVariant} (hp : vs.Perm vs') (hok : taggedOK vs = true) (name : String) :
    vs'.find? (fun v => !v.other && v.wire == name) = vs.find? (fun v => !v.other && v.wire == name) := by
  apply find?_perm_unique _ hp
  intro x hx y hy h1 h2
  simp only [Bool.and_eq_true, Bool.not_eq_true', beq_iff_eq] at h1 h2
  have mx : x ∈ vs.filter (fun v => !v.other) := List.mem_filter.2 ⟨hx, by simp [h1.1]⟩
  have my : y ∈ vs.filter (fun v => !v.other) := List.mem_filter.2 ⟨hy, by simp [h2.1]⟩
  exact nodup_map_inj (·.wire) _ (taggedOK_spec hok).2.1 x mx y my (h1.2.trans h2.2.symm)

theorem find_other_perm {vs vs' : List RVariant} (hp : vs.Perm vs') (hok : taggedOK vs = true) :
    vs'.find? (·.other) = vs.find? (·.other) := by
  apply find?_perm_unique _ hp
  intro x hx y hy h1 h2
  have mx : x ∈ vs.filter (·.other) := List.mem_filter.2 ⟨hx, h1⟩
  have my : y ∈ vs.filter (·.other) := List.mem_filter.2 ⟨hy, h2⟩
  have hl := (taggedOK_spec hok).2.2
  generalize vs.filter (·.other) = L at mx my hl
  rcases L with _ | ⟨z, _ | ⟨z2, L⟩⟩
  · cases mx
  · simp only [List.mem_singleton] at mx my
    rw [mx, my]
  · simp only [List.length_cons] at hl
    omega

/-! ## the two environments find related items -/

def OptRel {α} (Rel : α → α → Prop) : Option α → Option α → Prop
  | none, none => True
  | some a, some b => Rel a b
  | _, _ => False

theorem itemEqv_name {x y : Item} (h : ItemEqv x y) : y.name = x.name := by
  cases h <;> rfl

theorem allRel_names {l m : List Item} (h : AllRel ItemEqv l m) : m.map Item.name = l.map Item.name := by
  induction h with
  | nil => rfl
  | cons hx _ ih => simp [itemEqv_name hx, ih]

theorem allRel_find {l m : List Item} (h : AllRel ItemEqv l m) (p : String) :
    OptRel ItemEqv (l.find? (·.name == p)) (m.find? (·.name == p)) := by
  induction h with
  | nil => trivial
  | cons hx _ ih =>
    simp only [List.find?_cons, itemEqv_name hx]
    split
    · exact hx
    · exact ih

theorem find_rel {e e' : Env} (hI : ItemsPerm e.items e'.items) (hok : EnvOK e = true) (p : String) :
    OptRel ItemEqv (e.find p) (e'.find p) := by
  obtain ⟨m, h1, h2⟩ := (itemsPerm_iff_itemsEqv _ _).1 hI
  have hnd : (m.map Item.name).Nodup := by
    rw [allRel_names h1]
    simp only [EnvOK, Bool.and_eq_true, decide_eq_true_eq] at hok
    exact hok.1
  have e2 : e'.items.find? (·.name == p) = m.find? (·.name == p) := by
    apply find?_perm_unique _ h2
    intro x hx y hy hx' hy'
    have hx'' : x.name = p := by simpa using hx'
    have hy'' : y.name = p := by simpa using hy'
    exact nodup_map_inj Item.name m hnd x hx y hy (hx''.trans hy''.symm)
  unfold Env.find
  rw [e2]
  exact allRel_find h1 p

theorem find_itemOK {e : Env} (hok : EnvOK e = true) {p : String} {it : Item} (h : e.find p = some it) :
    itemOK it = true := by
  simp only [EnvOK, Bool.and_eq_true, List.all_eq_true] at hok
  exact hok.2 it (List.mem_of_find?_eq_some h)

theorem find_tag_mem {e : Env} {p n : String} {d : List String} {c : Option String} {tag : String}
    {vs : List RVariant} (h : e.find p = some (.tagged n d c tag vs)) : tag ∈ tagsOf e := by
  unfold tagsOf
  exact List.mem_filterMap.2 ⟨_, List.mem_of_find?_eq_some h, rfl⟩

/-! ## serialization -/

section
variable {e e' : Env} (hI : ItemsPerm e.items e'.items) (hx : e'.externs = e.externs) (hok : EnvOK e = true)
include hI hx hok

theorem serPath_eq : ∀ (fuel : Nat) (p : String) (v : Val), serPath e' fuel p v = serPath e fuel p v := by
  intro fuel
  induction fuel with
  | zero => intro p v; rw [serPath, serPath]
  | succ n ih =>
    intro p v
    have ihf : serPath e' n = serPath e n := by funext p v; exact ih p v
    rw [serPath, serPath, ihf, hx]
    cases serPrim v with
    | some j => rfl
    | none =>
      simp only []
      have hr := find_rel hI hok p
      cases h1 : e.find p with
      | none =>
        cases h2 : e'.find p with
        | none => rfl
        | some it' => rw [h1, h2] at hr; exact absurd hr (by simp [OptRel])
      | some it =>
        cases h2 : e'.find p with
        | none => rw [h1, h2] at hr; exact absurd hr (by simp [OptRel])
        | some it' =>
          rw [h1, h2] at hr
          have hit := find_itemOK hok h1
          simp only [OptRel] at hr
          cases hr with
          | refl => rfl
          | tagged nm d c tag hp =>
            simp only []
            cases v with
            | variant name payload =>
              simp only []
              rw [find_name_perm hp hit]
            | _ => rfl

/-- **`ItemsPerm`-related environments serialize every value identically** -/
theorem itemsPerm_ser_eq (t : RTy) (v : Val) : Serde.ser e' t v = Serde.ser e t v := by
  have hf : ∀ fuel, serPath e' fuel = serPath e fuel := fun fuel => by funext p v; exact serPath_eq hI hx hok fuel p v
  unfold Serde.ser serTy
  rw [hf, hx, ← hI.length_eq]

end

/-! ## deserialization: JSON documents without integer tags -/

def isInt : Json → Bool
  | .int _ => true
  | _ => false

mutual
  /-- no entry whose key is in `tags` carries an integer, at any depth -/
  def good (tags : List String) : Json → Bool
    | .arr xs => goodList tags xs
    | .obj kvs => goodKvs tags kvs
    | _ => true
  def goodList (tags : List String) : List Json → Bool
    | [] => true
    | x :: xs => good tags x && goodList tags xs
  def goodKvs (tags : List String) : List (String × Json) → Bool
    | [] => true
    | (k, v) :: rest => !(tags.contains k && isInt v) && good tags v && goodKvs tags rest
end

def GoodKvs (tags : List String) (kvs : List (String × Json)) : Prop :=
  ∀ p ∈ kvs, (tags.contains p.1 && isInt p.2) = false ∧ good tags p.2 = true

def GoodBuf (tags : List String) (buf : Buf) : Prop := GoodKvs tags (present buf)

theorem goodList_iff (tags : List String) : ∀ xs : List Json, goodList tags xs = true ↔ ∀ x ∈ xs, good tags x = true
  | [] => by simp [goodList]
  | x :: xs => by simp [goodList, goodList_iff tags xs]

theorem goodKvs_iff (tags : List String) : ∀ kvs : List (String × Json), goodKvs tags kvs = true ↔ GoodKvs tags kvs
  | [] => by simp [goodKvs, GoodKvs]
  | (k, v) :: rest => by
    simp only [goodKvs, GoodKvs, Bool.and_eq_true, Bool.not_eq_true', goodKvs_iff tags rest, List.mem_cons,
      forall_eq_or_imp, and_assoc]

theorem good_arr {tags : List String} {xs : List Json} (h : good tags (.arr xs) = true) : ∀ x ∈ xs, good tags x = true :=
  (goodList_iff tags xs).1 (by simpa [good] using h)

theorem good_obj {tags : List String} {kvs : List (String × Json)} (h : good tags (.obj kvs) = true) : GoodKvs tags kvs :=
  (goodKvs_iff tags kvs).1 (by simpa [good] using h)

theorem good_of_obj {tags : List String} {kvs : List (String × Json)} (h : GoodKvs tags kvs) : good tags (.obj kvs) = true := by
  simpa [good] using (goodKvs_iff tags kvs).2 h

theorem GoodKvs.sub {tags : List String} {kvs kvs' : List (String × Json)} (h : GoodKvs tags kvs)
    (hs : ∀ p ∈ kvs', p ∈ kvs) : GoodKvs tags kvs' := fun p hp => h p (hs p hp)

theorem GoodKvs.lookup {tags : List String} {kvs : List (String × Json)} (h : GoodKvs tags kvs) {k : String} {v : Json}
    (hl : Json.lookup k kvs = some v) : good tags v = true := (h _ (SerdeFuel.lookup_mem hl)).2

theorem takeKeys_spec (keys : List String) : ∀ (buf : Buf),
    (∀ p ∈ (takeKeys keys buf).1, p ∈ present buf) ∧ (∀ p ∈ present (takeKeys keys buf).2, p ∈ present buf)
  | [] => by simp [takeKeys, present]
  | none :: rest => by
    have ih := takeKeys_spec keys rest
    simp only [takeKeys, present, List.filterMap_cons, id] at ih ⊢
    exact ih
  | some (k, v) :: rest => by
    have ih := takeKeys_spec keys rest
    simp only [takeKeys, present] at ih ⊢
    split
    · simp only [List.mem_cons, List.filterMap_cons, id]
      exact ⟨fun p hp => hp.elim (fun h => .inl h) (fun h => .inr (ih.1 p h)), fun p hp => .inr (ih.2 p hp)⟩
    · simp only [List.filterMap_cons, id, List.mem_cons]
      exact ⟨fun p hp => .inr (ih.1 p hp), fun p hp => hp.elim (fun h => .inl h) (fun h => .inr (ih.2 p h))⟩

/-! ### the building blocks respect readers that agree on good documents -/

section With
variable {tags : List String} {path path' : String → Json → D Val}
  (hp : ∀ p j, good tags j = true → path' p j = path p j)
include hp

theorem deTyWith_good : ∀ (t : RTy) (j : Json), good tags j = true → deTyWith path' t j = deTyWith path t j
  | .path p, j, hj => by simp only [deTyWith]; exact hp p j hj
  | .opt t, j, hj => by
    simp only [deTyWith]
    split
    · rfl
    · rw [deTyWith_good t j hj]
  | .box t, j, hj => by simp only [deTyWith]; exact deTyWith_good t j hj
  | .vec t, j, hj => by
    cases j with
    | arr xs =>
      simp only [deTyWith]
      rw [mapM_congr' xs fun x hx => deTyWith_good t x (good_arr hj x hx)]
    | _ => rfl

theorem deFieldWith_good (f : RField) (j : Json) (hj : good tags j = true) :
    deFieldWith path' f j = deFieldWith path f j := by
  unfold deFieldWith
  cases f.deserWith with
  | some h => rfl
  | none => exact deTyWith_good hp f.ty j hj

theorem deOwnWith_good : ∀ (fs : List RField) (kvs : List (String × Json)), GoodKvs tags kvs →
    deOwnWith path' fs kvs = deOwnWith path fs kvs
  | [], _, _ => rfl
  | f :: fs, kvs, hk => by
    rw [deOwnWith.eq_2, deOwnWith.eq_2]
    refine bind_congr' (deOwnWith_good fs kvs hk) (fun rest _ => ?_)
    split
    · rfl
    · split
      · rfl
      · cases hl : Json.lookup f.wire kvs with
        | none => rfl
        | some j => simp only [deFieldWith_good hp f j (hk.lookup hl)]

theorem deTaggedWith_good (b : Bool) (tag : String) (htag : tags.contains tag = true) {vs vs' : List RVariant}
    (hperm : vs.Perm vs') (hok : taggedOK vs = true) (kvs : List (String × Json)) (hk : GoodKvs tags kvs) :
    deTaggedWith path' b tag vs' kvs = deTaggedWith path b tag vs kvs := by
  have hrest : good tags (.obj (kvs.filter (·.1 != tag))) = true :=
    good_of_obj (hk.sub fun p hp => (List.mem_filter.1 hp).1)
  have hpick : ∀ v : RVariant,
      (if v.other then (pure (.variant v.name none) : D Val) else
          match v.payload with
          | none => pure (.variant v.name none)
          | some t => (fun x => Val.variant v.name (some x)) <$> deTyWith path' t (.obj (kvs.filter (·.1 != tag)))) =
      (if v.other then (pure (.variant v.name none) : D Val) else
          match v.payload with
          | none => pure (.variant v.name none)
          | some t => (fun x => Val.variant v.name (some x)) <$> deTyWith path t (.obj (kvs.filter (·.1 != tag)))) := by
    intro v
    split
    · rfl
    · cases v.payload with
      | none => rfl
      | some t => simp only [deTyWith_good hp t _ hrest]
  unfold deTaggedWith
  split
  · rfl
  · simp only []
    cases hl : Json.lookup tag kvs with
    | none => rfl
    | some jv =>
      cases jv with
      | str name =>
        simp only [find_wire_perm hperm hok, find_other_perm hperm hok]
        cases vs.find? (fun v => !v.other && v.wire == name) with
        | none => rfl
        | some v => exact hpick v
      | int n =>
        have := (hk _ (SerdeFuel.lookup_mem hl)).1
        simp only [isInt, Bool.and_true] at this
        rw [htag] at this
        cases this
      | null => rfl
      | bool _ => rfl
      | num _ => rfl
      | arr _ => rfl
      | obj _ => rfl
  · rfl

end With

section Flat
variable {tags : List String} {flat flat' : RTy → Buf → D (Val × Buf)}
  (hf : ∀ t buf, GoodBuf tags buf → flat' t buf = flat t buf)
  (hkeep : ∀ t buf r, GoodBuf tags buf → flat t buf = .ok r → GoodBuf tags r.2)
include hf hkeep

theorem deFlatsWith_good : ∀ (fs : List RField) (buf : Buf), GoodBuf tags buf →
    deFlatsWith flat' fs buf = deFlatsWith flat fs buf
  | [], _, _ => rfl
  | f :: fs, buf, hb => by
    rw [deFlatsWith.eq_2, deFlatsWith.eq_2]
    split
    · exact deFlatsWith_good fs buf hb
    · refine bind_congr' (hf f.ty buf hb) (fun r hr => ?_)
      have := deFlatsWith_good fs r.2 (hkeep f.ty buf r hb hr)
      obtain ⟨v, buf'⟩ := r
      simp only [this]

end Flat

theorem deStructMapWith_good {tags : List String} {path path' : String → Json → D Val}
    {flat flat' : RTy → Buf → D (Val × Buf)}
    (hp : ∀ p j, good tags j = true → path' p j = path p j)
    (hf : ∀ t buf, GoodBuf tags buf → flat' t buf = flat t buf)
    (hkeep : ∀ t buf r, GoodBuf tags buf → flat t buf = .ok r → GoodBuf tags r.2)
    (fields : List RField) (kvs : List (String × Json)) (hk : GoodKvs tags kvs) :
    deStructMapWith path' flat' fields kvs = deStructMapWith path flat fields kvs := by
  unfold deStructMapWith
  refine bind_congr' (deOwnWith_good hp fields kvs hk) (fun own _ => ?_)
  split
  · have hb : GoodBuf tags ((kvs.filter (fun kv =>
        !((fields.filter (!·.flatten)).map (·.wire)).contains kv.1)).map some) := by
      unfold GoodBuf
      rw [SerdeFuel.present_map_some]
      exact hk.sub fun p hp => (List.mem_filter.1 hp).1
    simp only [deFlatsWith_good hf hkeep fields _ hb]
  · rfl

theorem deStructWith_good {tags : List String} {path path' : String → Json → D Val}
    {flat flat' : RTy → Buf → D (Val × Buf)}
    (hp : ∀ p j, good tags j = true → path' p j = path p j)
    (hf : ∀ t buf, GoodBuf tags buf → flat' t buf = flat t buf)
    (hkeep : ∀ t buf r, GoodBuf tags buf → flat t buf = .ok r → GoodBuf tags r.2)
    (fields : List RField) (j : Json) (hj : good tags j = true) :
    deStructWith path' flat' fields j = deStructWith path flat fields j := by
  unfold deStructWith
  cases j with
  | obj kvs => exact deStructMapWith_good hp hf hkeep fields kvs (good_obj hj)
  | arr xs =>
    simp only []
    split
    · rfl
    · split
      · rfl
      · rw [mapM_congr' (fields.zip xs) fun fx hfx => by
          rw [deFieldWith_good hp fx.1 fx.2 (good_arr hj fx.2 (List.of_mem_zip hfx).2)]]
  | _ => rfl

/-! ### `dePath` / `deFlat` -/

/-- a flattened member never hands on entries it did not receive -/
theorem deFlat_keep (e : Env) (tags : List String) : ∀ (fuel : Nat) (t : RTy) (buf : Buf) (r : Val × Buf),
    GoodBuf tags buf → deFlat e fuel t buf = .ok r → GoodBuf tags r.2 := by
  intro fuel
  induction fuel with
  | zero => intro t buf r _ h; rw [deFlat] at h; cases h
  | succ n ih =>
    intro t buf r hb h
    cases t with
    | box t => rw [deFlat] at h; exact ih t buf r hb h
    | opt t => simp only [deFlat] at h; cases h
    | vec t => simp only [deFlat] at h; cases h
    | path p =>
      rw [deFlat] at h
      cases hfind : e.find p with
      | none => rw [hfind] at h; cases h
      | some it =>
        rw [hfind] at h
        cases it with
        | alias n' pub t => exact ih t buf r hb h
        | struct n' d sc fields =>
          simp only [] at h
          split at h
          · obtain ⟨v, _, h⟩ := C02.bind_ok h
            cases h
            exact hb
          · obtain ⟨own, _, h⟩ := C02.bind_ok h
            cases h
            exact hb.sub (takeKeys_spec _ buf).2
        | tagged n' d sc tag vs =>
          simp only [] at h
          obtain ⟨v, _, h⟩ := C02.bind_ok h
          cases h
          exact hb
        | unitStruct n' d sc => cases h
        | gqlEnum n' d sp vs ser de => cases h
        | oneOf n' d sc vs => cases h
        | defaults fns => cases h

section
variable {e e' : Env} (hI : ItemsPerm e.items e'.items) (hx : e'.externs = e.externs) (hok : EnvOK e = true)
include hI hx hok

theorem de_eq : ∀ (fuel : Nat),
    (∀ b p j, good (tagsOf e) j = true → dePath e' b fuel p j = dePath e b fuel p j) ∧
    (∀ t buf, GoodBuf (tagsOf e) buf → deFlat e' fuel t buf = deFlat e fuel t buf) := by
  intro fuel
  induction fuel with
  | zero =>
    refine ⟨fun b p j _ => ?_, fun t buf _ => ?_⟩
    · rw [dePath, dePath]
    · rw [deFlat, deFlat]
  | succ n ih =>
    obtain ⟨ihP, ihF⟩ := ih
    have ihK := deFlat_keep e (tagsOf e) n
    refine ⟨fun b p j hj => ?_, fun t buf hb => ?_⟩
    · rw [dePath, dePath]
      cases dePrim p j with
      | some r => rfl
      | none =>
      simp only []
      have hr := find_rel hI hok p
      cases h1 : e.find p with
      | none =>
        cases h2 : e'.find p with
        | some it' => rw [h1, h2] at hr; exact absurd hr (by simp [OptRel])
        | none =>
          simp only [hx]
          cases e.externs.find? (·.1 == p) with
          | none => rfl
          | some x => exact deTyWith_good (ihP b) x.2 j hj
      | some it =>
        cases h2 : e'.find p with
        | none => rw [h1, h2] at hr; exact absurd hr (by simp [OptRel])
        | some it' =>
          rw [h1, h2] at hr
          have hit := find_itemOK hok h1
          simp only [OptRel] at hr
          cases hr with
          | tagged nm d c tag hp =>
            have htag : (tagsOf e).contains tag = true := List.contains_iff_mem.2 (find_tag_mem h1)
            simp only []
            cases j with
            | obj kvs => exact deTaggedWith_good (ihP true) b tag htag hp hit kvs (good_obj hj)
            | _ => rfl
          | refl =>
            cases it with
            | alias n' pub t => exact deTyWith_good (ihP b) t j hj
            | struct n' d sc fields => exact deStructWith_good (ihP b) ihF ihK fields j hj
            | unitStruct n' d sc => rfl
            | tagged n' d sc tag vs =>
              have htag : (tagsOf e).contains tag = true := List.contains_iff_mem.2 (find_tag_mem h1)
              simp only []
              cases j with
              | obj kvs => exact deTaggedWith_good (ihP true) b tag htag (.refl _) hit kvs (good_obj hj)
              | _ => rfl
            | gqlEnum n' d sp vs ser de => rfl
            | oneOf n' d sc vs =>
              simp only []
              split
              · rename_i k v
                have hv : good (tagsOf e) v = true := (good_obj hj (k, v) (by simp)).2
                cases vs.find? (·.wire == k) with
                | none => rfl
                | some var =>
                  simp only []
                  cases var.payload with
                  | none => rfl
                  | some t => simp only [deTyWith_good (ihP b) t v hv]
              · rfl
            | defaults fns => rfl
    · cases t with
      | box t => rw [deFlat, deFlat]; exact ihF t buf hb
      | opt t => simp only [deFlat]
      | vec t => simp only [deFlat]
      | path p =>
        rw [deFlat, deFlat]
        have hr := find_rel hI hok p
        cases h1 : e.find p with
        | none =>
          cases h2 : e'.find p with
          | some it' => rw [h1, h2] at hr; exact absurd hr (by simp [OptRel])
          | none => rfl
        | some it =>
          cases h2 : e'.find p with
          | none => rw [h1, h2] at hr; exact absurd hr (by simp [OptRel])
          | some it' =>
            rw [h1, h2] at hr
            have hit := find_itemOK hok h1
            simp only [OptRel] at hr
            cases hr with
            | tagged nm d c tag hp =>
              have htag : (tagsOf e).contains tag = true := List.contains_iff_mem.2 (find_tag_mem h1)
              exact bind_congr' (deTaggedWith_good (ihP true) true tag htag hp hit _ hb) (fun _ _ => rfl)
            | refl =>
              cases it with
              | alias n' pub t => exact ihF t buf hb
              | struct n' d sc fields =>
                simp only []
                split
                · exact bind_congr' (deStructMapWith_good (ihP true) ihF ihK fields _ hb) (fun _ _ => rfl)
                · exact bind_congr' (deOwnWith_good (ihP true) fields _ (hb.sub (takeKeys_spec _ buf).1))
                    (fun _ _ => rfl)
              | tagged n' d sc tag vs =>
                have htag : (tagsOf e).contains tag = true := List.contains_iff_mem.2 (find_tag_mem h1)
                exact bind_congr' (deTaggedWith_good (ihP true) true tag htag (.refl _) hit _ hb) (fun _ _ => rfl)
              | unitStruct n' d sc => rfl
              | gqlEnum n' d sp vs ser de => rfl
              | oneOf n' d sc vs => rfl
              | defaults fns => rfl

/-- **`ItemsPerm`-related environments read every JSON document without an integer tag identically** -/
theorem itemsPerm_de_eq (t : RTy) (j : Json) (hj : good (tagsOf e) j = true) : Serde.de e' t j = Serde.de e t j := by
  unfold Serde.de deTy deFuel
  rw [hx, ← hI.length_eq]
  exact deTyWith_good (fun p j' hj' => (de_eq hI hx hok _).1 false p j' hj') t j hj

/-- … hence the same round trip `to_value(from_value(j))` -/
theorem itemsPerm_roundtrip_eq (t : RTy) (j : Json) (hj : good (tagsOf e) j = true) :
    Serde.roundtrip e' t j = Serde.roundtrip e t j := by
  unfold Serde.roundtrip
  rw [itemsPerm_de_eq hI hx hok t j hj]
  exact bind_congr' rfl (fun v _ => itemsPerm_ser_eq hI hx hok t v)

end

/-! ## corollaries: the hypothesis may be checked on either side; generated modules -/

theorem taggedOK_perm {vs vs' : List RVariant} (hp : vs.Perm vs') (h : taggedOK vs = true) : taggedOK vs' = true := by
  obtain ⟨h1, h2, h3⟩ := taggedOK_spec h
  simp only [taggedOK, Bool.and_eq_true, decide_eq_true_eq]
  exact ⟨⟨(hp.map _).nodup_iff.1 h1, ((hp.filter _).map _).nodup_iff.1 h2⟩, by rw [← (hp.filter _).length_eq]; exact h3⟩

theorem itemOK_eqv {x y : Item} (h : ItemEqv x y) (hx : itemOK x = true) : itemOK y = true := by
  cases h with
  | refl => exact hx
  | tagged n d c tag hp => exact taggedOK_perm hp hx

theorem allRel_mem_right {l m : List Item} (h : AllRel ItemEqv l m) : ∀ y ∈ m, ∃ x ∈ l, ItemEqv x y := by
  induction h with
  | nil => intro y hy; cases hy
  | cons hx _ ih =>
    intro y hy
    rcases List.mem_cons.1 hy with rfl | hy
    · exact ⟨_, List.mem_cons_self, hx⟩
    · obtain ⟨x, hx', hxy⟩ := ih y hy
      exact ⟨x, List.mem_cons_of_mem _ hx', hxy⟩

theorem envOK_of_itemsPerm {e e' : Env} (hI : ItemsPerm e.items e'.items) (hok : EnvOK e = true) : EnvOK e' = true := by
  obtain ⟨m, h1, h2⟩ := (itemsPerm_iff_itemsEqv _ _).1 hI
  simp only [EnvOK, Bool.and_eq_true, decide_eq_true_eq, List.all_eq_true] at hok ⊢
  refine ⟨?_, ?_⟩
  · rw [← (h2.map Item.name).nodup_iff, allRel_names h1]; exact hok.1
  · intro y hy
    obtain ⟨x, hx, hxy⟩ := allRel_mem_right h1 y (h2.mem_iff.2 hy)
    exact itemOK_eqv hxy (hok.2 x hx)

/-- **the wire behaviour of `ModuleEqv`-related modules** (the relation of `C07.CodegenIsoPermStatement`): whatever
the consumer supplies for the types defined outside the module, `Serialize` agrees on every value and `Deserialize` on
every JSON document without an integer tag -/
theorem moduleEqv_serde {m m' : Module} (h : ModuleEqv m m') (externs : List (String × RTy))
    (hok : EnvOK { items := m.items, externs := externs } = true) :
    (∀ t v, Serde.ser { items := m'.items, externs := externs } t v =
      Serde.ser { items := m.items, externs := externs } t v) ∧
    (∀ t j, good (tagsOf { items := m.items, externs := externs }) j = true →
      Serde.de { items := m'.items, externs := externs } t j =
        Serde.de { items := m.items, externs := externs } t j) := by
  have hI : ItemsPerm m.items m'.items := (itemsPerm_iff_itemsEqv _ _).2 h.2.2.2.2.2.2.2.2
  exact ⟨fun t v => itemsPerm_ser_eq (e := ⟨m.items, externs⟩) (e' := ⟨m'.items, externs⟩) hI rfl hok t v,
    fun t j hj => itemsPerm_de_eq (e := ⟨m.items, externs⟩) (e' := ⟨m'.items, externs⟩) hI rfl hok t j hj⟩

/-- a struct with a flattened two-variant enum (the shape the generator emits for a selection on an interface) -/
def wEnv (vs : List RVariant) : Env :=
  { items := [.struct "S" ["Deserialize"] none [{ rust := "on", ty := .path "SOn", flatten := true }],
              .tagged "SOn" ["Deserialize"] none "__typename" vs] }

def wA : RVariant := { name := "A" }
def wB : RVariant := { name := "B" }

theorem wEnv_perm : ItemsPerm (wEnv [wA, wB]).items (wEnv [wB, wA]).items :=
  .cons (.refl _) (.cons (.tagged _ _ _ _ (.swap _ _ _)) .nil)

/-- the hypotheses of `itemsPerm_de_eq` / `itemsPerm_ser_eq` hold on a non-trivial instance … -/
example : EnvOK (wEnv [wA, wB]) = true ∧ tagsOf (wEnv [wA, wB]) = ["__typename"] ∧
    good (tagsOf (wEnv [wA, wB])) (.obj [("__typename", .str "B"), ("id", .int 3)]) = true := by
  decide +kernel

/-- … and the two sides read the same value (an instance of the theorem) -/
example : Serde.de (wEnv [wB, wA]) (.path "S") (.obj [("__typename", .str "B"), ("id", .int 3)]) =
    Serde.de (wEnv [wA, wB]) (.path "S") (.obj [("__typename", .str "B"), ("id", .int 3)]) :=
  itemsPerm_de_eq wEnv_perm rfl (by decide +kernel) _ _ (by decide +kernel)

/-- **the restriction on the JSON document is needed**: buffered content accepts the variant index as a tag, so
`{"__typename": 0}` is read as the *first* variant on each side -/
theorem de_int_tag_differs :
    Serde.de (wEnv [wA, wB]) (.path "S") (.obj [("__typename", .int 0)]) = .ok (.record [("on", .variant "A" none)]) ∧
    Serde.de (wEnv [wB, wA]) (.path "S") (.obj [("__typename", .int 0)]) = .ok (.record [("on", .variant "B" none)]) := by
  constructor <;> rfl

/-- the statement "`de` agrees on every JSON document" is false -/
theorem de_every_json_false :
    ¬ ∀ (e e' : Env), ItemsPerm e.items e'.items → e'.externs = e.externs → EnvOK e = true →
      ∀ (t : RTy) (j : Json), Serde.de e' t j = Serde.de e t j := by
  intro h
  have := h _ _ wEnv_perm rfl (by decide +kernel) (.path "S") (.obj [("__typename", .int 0)])
  rw [de_int_tag_differs.1, de_int_tag_differs.2] at this
  simp at this

/-! each clause of `EnvOK` is needed -/

/-- item names must be distinct (`Env.find` takes the first item of a name) -/
theorem envOK_names_needed :
    let e : Env := { items := [.alias "X" true (.path "String"), .alias "X" true (.path "i64")] }
    let e' : Env := { items := [.alias "X" true (.path "i64"), .alias "X" true (.path "String")] }
    ItemsPerm e.items e'.items ∧ Serde.de e (.path "X") (.str "a") = .ok (.str "a") ∧
      Serde.de e' (.path "X") (.str "a") = .error (.mismatch "expected an integer") := by
  refine ⟨.swap _ _ _, ?_, ?_⟩ <;> rfl

def wT (vs : List RVariant) : Env := { items := [.tagged "T" [] none "t" vs] }

/-- variant names must be distinct (`Serialize` looks the variant up by name) -/
theorem envOK_variant_names_needed :
    let v1 : RVariant := { name := "A", rename := some "a1" }
    let v2 : RVariant := { name := "A", rename := some "a2" }
    ItemsPerm (wT [v1, v2]).items (wT [v2, v1]).items ∧
      Serde.ser (wT [v1, v2]) (.path "T") (.variant "A" none) = .ok (.obj [("t", .str "a1")]) ∧
      Serde.ser (wT [v2, v1]) (.path "T") (.variant "A" none) = .ok (.obj [("t", .str "a2")]) := by
  refine ⟨.cons (.tagged _ _ _ _ (.swap _ _ _)) .nil, ?_, ?_⟩ <;> rfl

/-- wire names must be distinct (`Deserialize` looks the variant up by wire name) -/
theorem envOK_wires_needed :
    let v1 : RVariant := { name := "A", rename := some "x" }
    let v2 : RVariant := { name := "B", rename := some "x" }
    ItemsPerm (wT [v1, v2]).items (wT [v2, v1]).items ∧
      Serde.de (wT [v1, v2]) (.path "T") (.obj [("t", .str "x")]) = .ok (.variant "A" none) ∧
      Serde.de (wT [v2, v1]) (.path "T") (.obj [("t", .str "x")]) = .ok (.variant "B" none) := by
  refine ⟨.cons (.tagged _ _ _ _ (.swap _ _ _)) .nil, ?_, ?_⟩ <;> rfl

/-- at most one `#[serde(other)]` variant -/
theorem envOK_other_needed :
    let v1 : RVariant := { name := "U1", other := true }
    let v2 : RVariant := { name := "U2", other := true }
    ItemsPerm (wT [v1, v2]).items (wT [v2, v1]).items ∧
      Serde.de (wT [v1, v2]) (.path "T") (.obj [("t", .str "zzz")]) = .ok (.variant "U1" none) ∧
      Serde.de (wT [v2, v1]) (.path "T") (.obj [("t", .str "zzz")]) = .ok (.variant "U2" none) := by
  refine ⟨.cons (.tagged _ _ _ _ (.swap _ _ _)) .nil, ?_, ?_⟩ <;> rfl

end C07P
end GqlVerif
