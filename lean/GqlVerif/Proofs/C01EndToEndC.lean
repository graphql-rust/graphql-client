import GqlVerif.Proofs.C01EndToEndB
import GqlVerif.Proofs.C01EntryLists
/-!
# C01 end to end, `TreeOp` 3/4: losslessness of the emitted structs

Scope as in `C01EndToEndA`.  `canonSel s skip sels j` is the explicit function describing the differences C01
allows between a conforming response and `to_value (from_value j)`; `struct_lossless` proves, by mutual
induction over the selection tree (`rtSel` / `rtSels`, composing `C01.struct_roundtrip_path`,
`C01.leaf_roundtrip_on`, `C01.field_roundtrip_id` and the leaf round trips), that the struct emitted for
a selection set writes back `canonSel … j` for every conforming `j`.

Additional side condition (decidable): `rustOkSels` / `rustNames` — within each selection set the Rust
field names `keyword_replace (snake_case key)` are pairwise distinct (the case function is a parameter of
the model; two response keys with the same snake-case form give a struct that does not compile).
-/

namespace GqlVerif
namespace C01
namespace E2E
open Serde C13 Codegen

/-! ## the allowed differences, as an explicit function on the JSON value -/

mutual
  /-- the value under a selected field's key -/
  def canonField (s : Schema) (skip : Bool) : Sel → Json → Json
    | .field _ fid sub, v =>
      match s.fields[fid]? with
      | none => v
      | some sf =>
        match sf.ty.id with
        | .scalar k => (match s.scalars[k]? with
          | some n => if n = "ID" then canon idCanon (gtyOf sf.ty.quals) v else v
          | none => v)
        | .object _ => canon (fun j => match j with
            | .obj kvs => .obj (canonEntries s skip sub kvs)
            | j => j) (gtyOf sf.ty.quals) v
        | _ => v
    | _, v => v
  /-- the entries of an object: one per selected field, in selection order; `__typename` and every
      unselected key dropped; with `skip_serializing_none` a `null` (or absent) entry at a nullable
      position with a modifier is dropped, otherwise an absent one comes back as `null` -/
  def canonEntries (s : Schema) (skip : Bool) : List Sel → List (String × Json) → List (String × Json)
    | [], _ => []
    | .field a fid sub :: xs, kvs =>
      (match s.fields[fid]? with
       | none => []
       | some sf =>
         match Json.lookup (a.getD sf.name) kvs with
         | some v =>
           if skip && skipQ sf.ty.quals && v.isNull then []
           else [(a.getD sf.name, canonField s skip (.field a fid sub) v)]
         | none => if skip && skipQ sf.ty.quals then [] else [(a.getD sf.name, Json.null)]) ++
        canonEntries s skip xs kvs
    | _ :: xs, kvs => canonEntries s skip xs kvs
end

/-- **`canonSel`**: the differences C01 allows between a conforming response `j` and
    `to_value (from_value j)`: key order (selection order), integer ID → decimal string, `__typename`
    dropped on object selections, `null` → absent where `skip_serializing_none` applies -/
def canonSel (s : Schema) (skip : Bool) (sels : List Sel) : Json → Json
  | .obj kvs => .obj (canonEntries s skip sels kvs)
  | j => j

theorem canonEntries_flat (s : Schema) (skip : Bool) (kvs : List (String × Json)) : ∀ (sels : List Sel),
    canonEntries s skip sels kvs = sels.flatMap (fieldEntry s skip (canonField s skip) kvs)
  | [] => by simp [canonEntries]
  | x :: xs => by
    rw [List.flatMap_cons, ← canonEntries_flat s skip kvs xs]
    cases x with
    | field a fid sub => rw [canonEntries.eq_2]; rfl
    | _ => rfl

theorem fieldKeys_sublist (s : Schema) : ∀ (sels : List Sel), (fieldKeys s sels).Sublist (respKeys s sels)
  | [] => by simp [fieldKeys, respKeys]
  | x :: xs => by
    have ih := fieldKeys_sublist s xs
    cases x with
    | field a fid sub =>
      simp only [fieldKeys, respKeys, List.filterMap_cons, fieldKey, respKey] at ih ⊢
      cases hsf : s.fields[fid]? with
      | none => simpa using ih
      | some sf => simp only [Option.map_some]; exact List.Sublist.cons_cons _ ih
    | spread g =>
      have h1 : respKey s (.spread g) = none := rfl
      simpa [fieldKeys, respKeys, List.filterMap_cons, fieldKey, h1] using ih
    | inline t sub =>
      have h1 : respKey s (.inline t sub) = none := rfl
      simpa [fieldKeys, respKeys, List.filterMap_cons, fieldKey, h1] using ih
    | typename =>
      have h1 : respKey s .typename = some "__typename" := rfl
      simp only [fieldKeys, respKeys, List.filterMap_cons, fieldKey, h1] at ih ⊢
      exact List.Sublist.cons _ ih

theorem canonLambda (s : Schema) (skip : Bool) (sub : List Sel) :
    (fun j => match j with
      | Json.obj kvs => Json.obj (canonEntries s skip sub kvs)
      | j => j) = canonSel s skip sub := by
  funext j; cases j <;> rfl

/-- the canonical form of the value of the field whose wire name is `f.wire` -/
def fcanonOf (s : Schema) (skip : Bool) (sels : List Sel) (f : RField) (v : Json) : Json :=
  match sels.find? (fun x => respKey s x == some f.wire) with
  | some x => canonField s skip x v
  | none => v

/-- with pairwise distinct keys, the first element with the key of `x` is `x` -/
theorem find_key {α} (f : α → Option String) (k : String) : ∀ (xs : List α), (xs.filterMap f).Nodup →
    ∀ x ∈ xs, f x = some k → xs.find? (fun y => f y == some k) = some x
  | [], _, x, hx, _ => by simp at hx
  | y :: ys, hnd, x, hx, hk => by
    rw [List.find?_cons]
    rcases List.mem_cons.mp hx with rfl | hx'
    · simp [hk]
    · have hmem : k ∈ ys.filterMap f := List.mem_filterMap.mpr ⟨x, hx', hk⟩
      cases hy : f y with
      | none =>
        have : ((none : Option String) == some k) = false := rfl
        simp only [this]
        refine find_key f k ys ?_ x hx' hk
        simpa [hy] using hnd
      | some k' =>
        have hnd' : k' ∉ ys.filterMap f ∧ (ys.filterMap f).Nodup := by
          simpa [hy] using hnd
        have hne : k' ≠ k := fun h => hnd'.1 (h ▸ hmem)
        have : (some k' == some k) = false := by simpa using hne
        simp only [this]
        exact find_key f k ys hnd'.2 x hx' hk

theorem find_respKey (s : Schema) (k : String) : ∀ (sels : List Sel), (respKeys s sels).Nodup →
    ∀ x ∈ sels, respKey s x = some k → sels.find? (fun y => respKey s y == some k) = some x :=
  find_key (respKey s) k


theorem fieldOf_skipNone (c : Ctx) (g ft : String) (quals : List Qual) (dep : Option (Option String)) :
    (fieldOf c g ft quals dep).skipNone = (c.o.skipNone && skipQ quals) := rfl

theorem fieldOf_isOption (c : Ctx) (g ft : String) (quals : List Qual) (dep : Option (Option String))
    (h : (fieldOf c g ft quals dep).skipNone = true ∨ (fieldOf c g ft quals dep).default = true) :
    isOption (fieldOf c g ft quals dep).ty = true := by
  refine (isOption_rustOf ft quals).trans ?_
  rcases h with h | h
  · exact skipQ_nullable (Bool.and_eq_true_iff.mp h).2
  · exact (Bool.and_eq_true_iff.mp h).2

theorem expectOut_cons (fc : RField → Json → Json) (f : RField) (fs : List RField) (kvs : List (String × Json)) :
    expectOut fc (f :: fs) kvs =
      (match Json.lookup f.wire kvs with
        | some j => if f.skipNone && j.isNull then [] else [(f.wire, fc f j)]
        | none => if f.skipNone then [] else [(f.wire, Json.null)]) ++ expectOut fc fs kvs := by
  unfold expectOut
  rw [List.filterMap_cons]
  cases Json.lookup f.wire kvs with
  | none => cases f.skipNone <;> simp
  | some j => cases hs : f.skipNone <;> cases hn : j.isNull <;> simp [hn]

theorem expectOut_canon (c : Ctx) (pfx : String) (fc : RField → Json → Json) (kvs : List (String × Json)) :
    ∀ (sels : List Sel), treeSels c.s c.o sels = true →
      (∀ a fid sub, Sel.field a fid sub ∈ sels → ∀ f, fieldOfSel c pfx (.field a fid sub) = some f →
        ∀ v, fc f v = canonField c.s c.o.skipNone (.field a fid sub) v) →
      expectOut fc (fieldsOf c pfx sels) kvs = canonEntries c.s c.o.skipNone sels kvs
  | [], _, _ => by simp [fieldsOf, expectOut, canonEntries]
  | x :: xs, ht, hfc => by
    obtain ⟨hx, hxs⟩ := treeSels_cons ht
    have ih := expectOut_canon c pfx fc kvs xs hxs (fun a fid sub hm => hfc a fid sub (List.mem_cons_of_mem _ hm))
    cases x with
    | field a fid sub =>
      obtain ⟨sf, ft, hsf, _, hf, _⟩ := fieldOfSel_tree c pfx a fid sub hx
      have hfs : fieldsOf c pfx (.field a fid sub :: xs) =
          fieldOf c (a.getD sf.name) ft sf.ty.quals sf.deprecation :: fieldsOf c pfx xs := by
        simp [fieldsOf, hf]
      rw [hfs, expectOut_cons, ih, canonEntries]
      simp only [hsf, fieldOf_wire, fieldOf_skipNone, hfc a fid sub (by simp) _ hf, Bool.and_assoc]
    | spread g => simp [treeSel] at hx
    | inline t sub => simp [treeSel] at hx
    | typename =>
      have hfs : fieldsOf c pfx (.typename :: xs) = fieldsOf c pfx xs := by
        have h1 : fieldOfSel c pfx .typename = none := rfl
        simp [fieldsOf, h1]
      rw [hfs, ih]; simp [canonEntries]

/-! ## Rust field names -/

def rustName (c : Ctx) : Sel → Option String
  | .field a fid _ => (c.s.fields[fid]?).map (fun sf => keywordReplace (c.cs.snake (a.getD sf.name)))
  | _ => none

def rustNames (c : Ctx) (sels : List Sel) : List String := sels.filterMap (rustName c)

mutual
  /-- within every selection set the Rust field names (`keyword_replace (snake_case key)`) are pairwise
      distinct — otherwise the emitted struct does not compile -/
  def rustOkSel (c : Ctx) : Sel → Bool
    | .field _ _ sub => EnumSpec.nodup (rustNames c sub) && rustOkSels c sub
    | _ => true
  def rustOkSels (c : Ctx) : List Sel → Bool
    | [] => true
    | x :: xs => rustOkSel c x && rustOkSels c xs
end

theorem rust_fieldsOf (c : Ctx) (pfx : String) : ∀ (sels : List Sel), treeSels c.s c.o sels = true →
    (fieldsOf c pfx sels).map (·.rust) = rustNames c sels
  | [], _ => rfl
  | x :: xs, ht => by
    obtain ⟨hx, hxs⟩ := treeSels_cons ht
    have ih := rust_fieldsOf c pfx xs hxs
    cases x with
    | field a fid sub =>
      obtain ⟨sf, ft, hsf, _, hf, _⟩ := fieldOfSel_tree c pfx a fid sub hx
      simp only [fieldsOf, rustNames, List.filterMap_cons, hf, rustName, hsf, Option.map_some, List.map_cons] at ih ⊢
      rw [ih]; rfl
    | spread g => simp [treeSel] at hx
    | inline t sub => simp [treeSel] at hx
    | typename =>
      have h1 : fieldOfSel c pfx .typename = none := rfl
      have h2 : rustName c .typename = none := rfl
      simpa [fieldsOf, rustNames, h1, h2] using ih


theorem treeSels_mem {s : Schema} {o : Options} : ∀ {sels : List Sel}, treeSels s o sels = true →
    ∀ x ∈ sels, treeSel s o x = true :=
  fun {sels} h => List.all_eq_true.mp (treeSels_eq_all s o sels ▸ h)

theorem envSels_mem {e : Env} {c : Ctx} {pfx : String} : ∀ {sels : List Sel}, envSels e c pfx sels →
    ∀ x ∈ sels, envSel e c pfx x :=
  fun {sels} => (forall_mem_of_eqns (by rw [envSels]; trivial) (fun _ _ => by rw [envSels]) sels).mp

theorem rustOkSels_mem {c : Ctx} : ∀ {sels : List Sel}, rustOkSels c sels = true →
    ∀ x ∈ sels, rustOkSel c x = true :=
  fun {sels} h => List.all_eq_true.mp (all_of_eqns (ps := rustOkSels c) rfl (fun _ _ => rfl) sels ▸ h)

theorem mem_fieldsOf {c : Ctx} {pfx : String} {sels : List Sel} {f : RField} (hf : f ∈ fieldsOf c pfx sels)
    (ht : treeSels c.s c.o sels = true) :
    ∃ a fid sub sf ft, Sel.field a fid sub ∈ sels ∧ c.s.fields[fid]? = some sf ∧
      fieldOfSel c pfx (.field a fid sub) = some f ∧
      f = fieldOf c (a.getD sf.name) ft sf.ty.quals sf.deprecation ∧ wfQuals sf.ty.quals = true := by
  obtain ⟨x, hx, hfx⟩ := List.mem_filterMap.mp hf
  cases x with
  | field a fid sub =>
    obtain ⟨sf, ft, hsf, _, hf', hw⟩ := fieldOfSel_tree c pfx a fid sub (treeSels_mem ht _ hx)
    rw [hf'] at hfx
    exact ⟨a, fid, sub, sf, ft, hx, hsf, by rw [hf', hfx], (Option.some.inj hfx).symm, hw⟩
  | spread g => cases hfx
  | inline t sub => cases hfx
  | typename => cases hfx

/-- `skip_serializing_none` and `default` are only put on fields of `Option` type: all that the side conditions
    `hunit` and `hdef` of `struct_roundtrip_path`, `ser_of_read` and `ser_flat` ask of a struct -/
def OptionAttrs (fields : List RField) : Prop :=
  ∀ f ∈ fields, f.skipNone = true ∨ f.default = true → isOption f.ty = true

theorem OptionAttrs.unit {fields : List RField} (h : OptionAttrs fields) {path : String → Json → D Val}
    {kvs : List (String × Json)} : ∀ f ∈ fields, f.skipNone = true → ∀ j x,
      Json.lookup f.wire kvs = some j → deFieldWith path f j = .ok x → x.isUnit = j.isNull :=
  fun f hf hs j x _ => field_unit_iff path f (.inr (h f hf (.inl hs))) j x

theorem OptionAttrs.default {fields : List RField} (h : OptionAttrs fields) :
    ∀ f ∈ fields, f.default = true → isOption f.ty = true :=
  fun f hf hd => h f hf (.inr hd)

theorem optionAttrs_fieldsOf (c : Ctx) (pfx : String) (sels : List Sel) : OptionAttrs (fieldsOf c pfx sels) := by
  intro f hf
  obtain ⟨x, _, hx⟩ := List.mem_filterMap.mp hf
  obtain ⟨_, _, _, _, rfl⟩ := fieldOfSel_some hx
  exact fieldOf_isOption c _ _ _ _

section RT
variable (e : Env) (c : Ctx)

def RTSel (pfx : String) (x : Sel) : Prop :=
  treeSel c.s c.o x = true → envSel e c pfx x → rustOkSel c x = true → ∀ f, fieldOfSel c pfx x = some f →
    ∀ b fd fs, selDepth x + 2 ≤ fd → selDepth x ≤ fs → ∀ v y, strictField c.s x v = true →
      deFieldWith (dePath e b fd) f v = .ok y →
      serTyWith (serPath e fs) f.ty y = .ok (canonField c.s c.o.skipNone x v)

theorem rtStruct (pfx name : String) (sels : List Sel) (H : ∀ x ∈ sels, RTSel e c pfx x)
    (ht : treeSels c.s c.o sels = true) (henv : envSels e c pfx sels)
    (hro : rustOkSels c sels = true) (hrn : EnumSpec.nodup (rustNames c sels) = true)
    (hkeys : EnumSpec.nodup (respKeys c.s sels) = true)
    (hs : StructEnv e name (fieldsOf c pfx sels)) (b : Bool) (fd fs : Nat)
    (hfd : selsDepth sels + 3 ≤ fd) (hfs : selsDepth sels + 1 ≤ fs) (tn : String) (j : Json) (v : Val)
    (hc : conformsSel c.s tn sels j = true) (hd : dePath e b fd name j = .ok v) :
    serPath e fs name v = .ok (canonSel c.s c.o.skipNone sels j) := by
  obtain ⟨hp, _, n, d, cr, hfind⟩ := hs
  obtain ⟨fd', rfl⟩ : ∃ k, fd = k + 1 := ⟨fd - 1, by omega⟩
  obtain ⟨fs', rfl⟩ : ∃ k, fs = k + 1 := ⟨fs - 1, by omega⟩
  cases j with
  | obj kvs =>
    simp only [conformsSel, Bool.and_eq_true] at hc
    obtain ⟨⟨hnd, _⟩, hcs⟩ := hc
    have hkn := nodup_iff'.mp hkeys
    have key : ∀ f ∈ fieldsOf c pfx sels, ∀ j, Json.lookup f.wire kvs = some j →
        ∃ a fid sub, Sel.field a fid sub ∈ sels ∧ fieldOfSel c pfx (.field a fid sub) = some f ∧
          strictField c.s (.field a fid sub) j = true ∧
          fcanonOf c.s c.o.skipNone sels f j = canonField c.s c.o.skipNone (.field a fid sub) j := by
      intro f hf j hl
      obtain ⟨a, fid, sub, sf, ft, hx, hsf, hfx, rfl, _⟩ := mem_fieldsOf hf ht
      rw [fieldOf_wire] at hl
      have hcx := confSels_mem hcs _ hx
      rw [confSel_field] at hcx
      simp only [hsf, hl] at hcx
      refine ⟨a, fid, sub, hx, hfx, hcx, ?_⟩
      unfold fcanonOf
      rw [fieldOf_wire, find_respKey c.s _ sels hkn _ hx (by simp [respKey, hsf])]
    have hrt := struct_roundtrip_path e b fd' fs' name n d cr (fieldsOf c pfx sels)
      (fcanonOf c.s c.o.skipNone sels) kvs hp hfind (plain_fieldsOf c pfx sels)
      (by rw [rust_fieldsOf c pfx sels ht]; exact nodup_iff'.mp hrn) (nodup_iff'.mp hnd)
      (by
        intro f hf j x hl hdx
        obtain ⟨a, fid, sub, hx, hfx, hst, hfc⟩ := key f hf j hl
        rw [hfc]
        have hdep := C02.selDepth_le_of_mem hx
        exact H _ hx (treeSels_mem ht _ hx) (envSels_mem henv _ hx) (rustOkSels_mem hro _ hx) f hfx b fd' fs'
          (by omega) (by omega) j x hst hdx)
      (optionAttrs_fieldsOf c pfx sels).unit (optionAttrs_fieldsOf c pfx sels).default v hd
    rw [hrt, canonSel]
    congr 2
    apply expectOut_canon c pfx _ kvs sels ht
    intro a fid sub hx f hfx v
    obtain ⟨sf, ft, hsf, _, hf', _⟩ := fieldOfSel_tree c pfx a fid sub (treeSels_mem ht _ hx)
    rw [hf'] at hfx
    cases hfx
    unfold fcanonOf
    rw [fieldOf_wire, find_respKey c.s _ sels hkn _ hx (by simp [respKey, hsf])]
  | null => simp [conformsSel] at hc
  | bool _ => simp [conformsSel] at hc
  | int _ => simp [conformsSel] at hc
  | num _ => simp [conformsSel] at hc
  | str _ => simp [conformsSel] at hc
  | arr _ => simp [conformsSel] at hc


mutual
  theorem rtSel : ∀ (x : Sel) (pfx : String), RTSel e c pfx x
    | .field a fid sub, pfx => by
      intro ht henv hro f hf b fd fs hfd hfs v y hst hd
      have IH := rtSels sub
      rw [selDepth] at hfd hfs
      obtain ⟨fd', rfl⟩ : ∃ k, fd = k + 3 := ⟨fd - 3, by omega⟩
      obtain ⟨fs', rfl⟩ : ∃ k, fs = k + 1 := ⟨fs - 1, by omega⟩
      obtain ⟨sf, hsf, hw, _, hk⟩ := treeSel_kinds ht
      have hwf : wf (gtyOf sf.ty.quals) = true := by rw [wf_gtyOf]; exact hw
      rw [envSel] at henv
      rw [rustOkSel, Bool.and_eq_true] at hro
      simp only [strictField] at hst
      rw [canonField]
      rcases hk with ⟨k, sn, hid, hk, _⟩ | ⟨k, en, hid, hk, _⟩ | ⟨i, o, hid, hk, hsub, hkeys⟩
      · simp only [hsf, hid, hk] at henv hst ⊢
        simp only [fieldOfSel, hsf, leafName, hid, hk, Option.some.injEq] at hf
        subst hf
        by_cases hID : sn = "ID"
        · subst hID
          simp only [↓reduceIte]
          exact field_roundtrip_id _ _ (fun s => serPath_prim e fs' "ID" (.str s) (.str s) rfl) _
            (gtyOf sf.ty.quals) (by simp [fieldOf]) rfl hwf v y hd
        · simp only [hID, ↓reduceIte]
          have := field_roundtrip_plain (dePath e b (fd' + 3)) (serPath e (fs' + 1)) _ sn (gtyOf sf.ty.quals) id
            (by simp [fieldOf, hID]) rfl hwf (leaf_scalar_rt e sn henv hID b fd' fs') v y hd
          rwa [(canon_id _).2 v] at this
      · simp only [hsf, hid, hk] at henv hst ⊢
        simp only [fieldOfSel, hsf, leafName, hid, hk, Option.some.injEq, Option.map_some] at hf
        subst hf
        obtain ⟨hp, hID, n', d, sp, vs, ser, de, hfind, hwft⟩ := henv
        have := field_roundtrip_plain (dePath e b (fd' + 3)) (serPath e (fs' + 1)) _ en.name (gtyOf sf.ty.quals) id
          (by simp [fieldOf, hID]) rfl hwf
          (leaf_enum_rt e b (fd' + 2) fs' en.name n' d sp vs ser de hp hfind hwft) v y hd
        rwa [(canon_id _).2 v] at this
      · simp only [hsf, hid, hk] at henv hst ⊢
        simp only [fieldOfSel, hsf, leafName, hid, Option.some.injEq] at hf
        subst hf
        obtain ⟨hs, hesub⟩ := henv
        rw [deField_plain _ _ _ _ hs.2.1] at hd
        rw [canonLambda]
        refine (leaf_roundtrip_on (dePath e b (fd' + 3)) (serPath e (fs' + 1)) _
          (conformsSel c.s o.name sub) (canonSel c.s c.o.skipNone sub) ?_ _ hwf).2 v y hst hd
        intro j w hc hdw
        exact rtStruct e c _ _ sub (IH _) hsub hesub hro.2 hro.1 hkeys hs b _ _ (by omega) (by omega)
          o.name j w hc hdw
    | .spread g, pfx => by intro ht; simp [treeSel] at ht
    | .inline t sub, pfx => by intro ht; simp [treeSel] at ht
    | .typename, pfx => by intro _ _ _ f hf; cases hf
  theorem rtSels : ∀ (sels : List Sel) (pfx : String), ∀ x ∈ sels, RTSel e c pfx x
    | [], _, x, hx => by simp at hx
    | y :: ys, pfx, x, hx => by
      rcases List.mem_cons.mp hx with h | hx'
      · rw [h]; exact rtSel y pfx
      · exact rtSels ys pfx x hx'
end

theorem struct_lossless (pfx name : String) (sels : List Sel)
    (ht : treeSels c.s c.o sels = true) (henv : envSels e c pfx sels)
    (hro : rustOkSels c sels = true) (hrn : EnumSpec.nodup (rustNames c sels) = true)
    (hkeys : EnumSpec.nodup (respKeys c.s sels) = true)
    (hs : StructEnv e name (fieldsOf c pfx sels)) (b : Bool) (fd fs : Nat)
    (hfd : selsDepth sels + 3 ≤ fd) (hfs : selsDepth sels + 1 ≤ fs) (tn : String) (j : Json) (v : Val)
    (hc : conformsSel c.s tn sels j = true) (hd : dePath e b fd name j = .ok v) :
    serPath e fs name v = .ok (canonSel c.s c.o.skipNone sels j) :=
  rtStruct e c pfx name sels (rtSels e c sels pfx) ht henv hro hrn hkeys hs b fd fs hfd hfs tn j v hc hd

end RT

end E2E
end C01
end GqlVerif
