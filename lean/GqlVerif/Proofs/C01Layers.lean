import GqlVerif.Props.C10
import GqlVerif.Props.C14
import GqlVerif.Props.C16
import GqlVerif.Proofs.OutcomeLemmas
import GqlVerif.Proofs.SerdeBasics
/-!
# C01 (response side) and C04 (variables side), in layers

Every theorem is about the model's own functions (`Serde.deTyWith`, `deOwnWith`, `deStructMapWith`,
`deTaggedWith`, `deFlat`, `dePath`, `serTyWith`, `serFieldsWith`, `serPath`, `Serde.de`), for all
inputs of the stated shape.  Layers are parametric in `pathD` / `pathS` (how a named type is read /
written) so that they compose: the conclusion of a lower layer is the hypothesis of the next.

* L1 — a position of any list depth and nullability over a leaf: what the generated type `rustOf base t` reads is written
  back as `canon`; the built-in leaves, string enums and the three ID helpers as leaves.
* L2 — a plain struct: the own-field loop exactly, acceptance, unknown keys ignored, the round trip as `expectOut`; the
  same for a struct item of a module (`dePath` / `serPath`), and composed with L1 along nested objects and lists.
* L5, the writer of a plain struct (C04, the variables side), stands between the two halves of L2, whose round trip rests on
  it; `@oneOf` and conformance of what is written follow L2.
* L3 — internally tagged enums (`__typename` dispatch).
* The key-overlap finding, as theorems about the model.
* L4 — flattened members: any number of them as one equation, the keys a struct reads, members that take their keys; one
  plain-struct member (reading, writing); any number of members found again by name, and writing; from these the round
  trip of a struct with one plain-struct member.
* A concrete module on which the layers are composed (the side conditions are satisfiable); what the top level
  (`C01TopLevel`) needs of fuel and of `normJson`.
-/
namespace GqlVerif
namespace C01
open Serde Spec C13 C03

/-! ## small facts about `D` -/

theorem okB_iff {α} (x : D α) : okB x = true ↔ ∃ v, x = .ok v := by
  cases x <;> simp [okB]

theorem map_ok {α β} (f : α → β) (x : D α) (b : β) : f <$> x = .ok b ↔ ∃ a, x = .ok a ∧ f a = b :=
  C02.map_ok_iff

/-- pointwise relation of two lists of the same length (core has no `Forall₂`) -/
inductive All2 {α β} (R : α → β → Prop) : List α → List β → Prop
  | nil : All2 R [] []
  | cons {a b as bs} : R a b → All2 R as bs → All2 R (a :: as) (b :: bs)

theorem All2.imp {α β} {R S : α → β → Prop} (h : ∀ a b, R a b → S a b) :
    ∀ {xs ys}, All2 R xs ys → All2 S xs ys
  | _, _, .nil => .nil
  | _, _, .cons hab rest => .cons (h _ _ hab) (All2.imp h rest)

theorem mapM_ok_forall₂ {α β} (f : α → D β) :
    ∀ (xs : List α) (ys : List β), xs.mapM f = .ok ys ↔ All2 (fun x y => f x = .ok y) xs ys
  | [], ys => by
    constructor
    · intro h; cases h; exact .nil
    · intro h; cases h; rfl
  | x :: xs, ys => by
    rw [List.mapM_cons]
    constructor
    · intro h
      cases hx : f x with
      | error e => simp [hx, bind, Except.bind] at h
      | ok y =>
        cases hm : xs.mapM f with
        | error e => simp [hx, hm, bind, Except.bind] at h
        | ok ys' =>
          simp [hx, hm, bind, Except.bind, pure, Except.pure] at h
          subst h
          exact .cons hx ((mapM_ok_forall₂ f xs ys').mp hm)
    · intro h
      cases h with
      | cons hx hrest =>
        rw [hx, (mapM_ok_forall₂ f xs _).mpr hrest]; rfl

/-! ## L1 — leaf positions at every modifier depth -/

mutual
  /-- the **allowed difference** at a position of type `t` in non-null context: `leafCanon` at the
      leaf, element-wise on arrays -/
  def canonNN (leafCanon : Json → Json) : GTy → Json → Json
    | .named _, j => leafCanon j
    | .list t, j => match j with
      | .arr xs => .arr (xs.map (canon leafCanon t))
      | j => j
    | .nonNull t, j => canonNN leafCanon t j
  /-- … at a position of type `t`: `null` stays `null` at nullable positions -/
  def canon (leafCanon : Json → Json) : GTy → Json → Json
    | .nonNull t, j => canonNN leafCanon t j
    | .named n, j => if j.isNull then .null else canonNN leafCanon (.named n) j
    | .list t, j => if j.isNull then .null else canonNN leafCanon (.list t) j
end

/-- ID: an integer becomes its decimal string, everything else is unchanged -/
def idCanon : Json → Json
  | .int n => .str (toString n)
  | j => j

theorem isNull_eq (j : Json) : j.isNull = true → j = .null := by
  cases j <;> simp [Json.isNull]

theorem canon_id : ∀ t : GTy, (∀ j, canonNN id t j = j) ∧ (∀ j, canon id t j = j) := by
  intro t
  induction t with
  | named n =>
    have h : ∀ j, canonNN id (.named n) j = j := fun j => by simp [canonNN]
    refine ⟨h, fun j => ?_⟩
    simp only [canon, h]
    cases hj : j.isNull
    · simp
    · simp [isNull_eq j hj]
  | list t ih =>
    have h : ∀ j, canonNN id (.list t) j = j := by
      intro j
      cases j <;> simp [canonNN]
      rename_i xs
      have : (canon id t) = id := funext ih.2
      simp [this]
    refine ⟨h, fun j => ?_⟩
    simp only [canon, h]
    cases hj : j.isNull
    · simp
    · simp [isNull_eq j hj]
  | nonNull t ih =>
    exact ⟨fun j => by simp only [canonNN]; exact ih.1 j, fun j => by simp only [canon]; exact ih.1 j⟩

theorem de_opt_ok (path : String → Json → D Val) (t : RTy) (j : Json) (v : Val)
    (h : deTyWith path (.opt t) j = .ok v) :
    (j.isNull = true ∧ v = .unit) ∨ (j.isNull = false ∧ ∃ x, deTyWith path t j = .ok x ∧ v = .some x) := by
  rw [show deTyWith path (RTy.opt t) j = (if j.isNull then pure .unit else Val.some <$> deTyWith path t j) from rfl] at h
  cases hj : j.isNull
  · right
    simp only [hj, Bool.false_eq_true, ↓reduceIte, map_ok] at h
    obtain ⟨x, hx, rfl⟩ := h
    exact ⟨rfl, x, hx, rfl⟩
  · left
    simp only [hj, ↓reduceIte, pure, Except.pure, Except.ok.injEq] at h
    exact ⟨rfl, h.symm⟩

theorem de_vec_ok (path : String → Json → D Val) (t : RTy) (j : Json) (v : Val)
    (h : deTyWith path (.vec t) j = .ok v) :
    ∃ xs vs, j = .arr xs ∧ v = .list vs ∧ All2 (fun x y => deTyWith path t x = .ok y) xs vs := by
  cases j with
  | arr xs =>
    rw [show deTyWith path (RTy.vec t) (.arr xs) = Val.list <$> xs.mapM (deTyWith path t) from rfl, map_ok] at h
    obtain ⟨vs, hvs, rfl⟩ := h
    exact ⟨xs, vs, rfl, rfl, (mapM_ok_forall₂ _ _ _).mp hvs⟩
  | null => cases h
  | bool b => cases h
  | int n => cases h
  | num s => cases h
  | str s => cases h
  | obj kvs => cases h

theorem ser_list_ok (path : String → Val → D Json) (t : RTy) (f : Json → Json) :
    ∀ (xs : List Json) (vs : List Val),
      All2 (fun x y => serTyWith path t y = .ok (f x)) xs vs →
      serTyWith path (.vec t) (.list vs) = .ok (.arr (xs.map f)) := by
  intro xs vs h
  rw [show serTyWith path (RTy.vec t) (.list vs) = Json.arr <$> vs.mapM (serTyWith path t) from rfl, map_ok]
  refine ⟨xs.map f, ?_, rfl⟩
  rw [mapM_ok_forall₂]
  induction h with
  | nil => exact .nil
  | cons hxy _ ih => exact .cons hxy ih

theorem All2.imp_mem {α β} {R S : α → β → Prop} :
    ∀ {xs ys}, (∀ a ∈ xs, ∀ b, R a b → S a b) → All2 R xs ys → All2 S xs ys
  | _, _, _, .nil => .nil
  | _, _, h, .cons hab rest =>
    .cons (h _ (by simp) _ hab) (All2.imp_mem (fun a ha b hr => h a (by simp [ha]) b hr) rest)

theorem All2.imp_mem2 {α β} {R S : α → β → Prop} :
    ∀ {xs ys}, (∀ a ∈ xs, ∀ b ∈ ys, R a b → S a b) → All2 R xs ys → All2 S xs ys
  | _, _, _, .nil => .nil
  | _, _, h, .cons hab rest =>
    .cons (h _ (by simp) _ (by simp) hab)
      (All2.imp_mem2 (fun a ha b hb hr => h a (by simp [ha]) b (by simp [hb]) hr) rest)

/-- L1, relative to a class `leafOk` of leaf values (so that a leaf whose round trip is only known on
    the values a conforming response can carry — e.g. a struct, on objects — can be plugged in) and to a
    class `Q` of values that contains the parts of its members (e.g. the values below some size, when the
    leaf is only known to be written back with fuel that depends on the value):
    on every `j` that `t` allows (`Spec.accepts leafOk`), what is read is written back as `canon t j`. -/
theorem leaf_roundtrip_rel (pathD : String → Json → D Val) (pathS : String → Val → D Json) (base : String)
    (leafOk : Json → Bool) (leafCanon : Json → Json) (Q : Val → Prop)
    (hsome : ∀ x, Q (.some x) → Q x) (hlist : ∀ vs, Q (.list vs) → ∀ v ∈ vs, Q v)
    (hleaf : ∀ j v, leafOk j = true → Q v → pathD base j = .ok v → pathS base v = .ok (leafCanon j)) :
    ∀ t : GTy, wf t = true →
      (∀ j v, acceptsNN leafOk t j = true → Q v → deTyWith pathD (rustOfNN (.path base) t) j = .ok v →
        serTyWith pathS (rustOfNN (.path base) t) v = .ok (canonNN leafCanon t j)) ∧
      (∀ j v, accepts leafOk t j = true → Q v → deTyWith pathD (rustOf (.path base) t) j = .ok v →
        serTyWith pathS (rustOf (.path base) t) v = .ok (canon leafCanon t j)) := by
  intro t
  -- nullable from non-null, shared by the `named` and `list` cases
  have lift : ∀ (r : RTy) (c : Json → Json) (A : Json → Bool),
      (∀ j v, A j = true → Q v → deTyWith pathD r j = .ok v → serTyWith pathS r v = .ok (c j)) →
      ∀ j v, (j.isNull || A j) = true → Q v → deTyWith pathD (.opt r) j = .ok v →
        serTyWith pathS (.opt r) v = .ok (if j.isNull then .null else c j) := by
    intro r c A hnn j v ha hq h
    rcases de_opt_ok pathD r j v h with ⟨hj, rfl⟩ | ⟨hj, x, hx, rfl⟩
    · simp [hj, serTyWith, pure, Except.pure]
    · simp only [hj, Bool.false_eq_true, ↓reduceIte]
      rw [show serTyWith pathS (RTy.opt r) (.some x) = serTyWith pathS r x from rfl]
      exact hnn j x (by simpa [hj] using ha) (hsome x hq) hx
  induction t with
  | named n =>
    intro _
    have hnn : ∀ j v, acceptsNN leafOk (.named n) j = true → Q v →
        deTyWith pathD (rustOfNN (.path base) (.named n)) j = .ok v →
        serTyWith pathS (rustOfNN (.path base) (.named n)) v = .ok (canonNN leafCanon (.named n) j) := by
      intro j v ha hq h
      simp only [rustOfNN, deTyWith, serTyWith, canonNN, acceptsNN] at h ha ⊢
      exact hleaf j v ha hq h
    exact ⟨hnn, fun j v ha hq h => by simp only [rustOf, canon, accepts] at h ha ⊢; exact lift _ _ _ hnn j v ha hq h⟩
  | list t ih =>
    intro hw
    obtain ⟨_, ih2⟩ := ih (by simpa [wf] using hw)
    have hnn : ∀ j v, acceptsNN leafOk (.list t) j = true → Q v →
        deTyWith pathD (rustOfNN (.path base) (.list t)) j = .ok v →
        serTyWith pathS (rustOfNN (.path base) (.list t)) v = .ok (canonNN leafCanon (.list t) j) := by
      intro j v ha hq h
      simp only [rustOfNN] at h ⊢
      obtain ⟨xs, vs, rfl, rfl, hall⟩ := de_vec_ok pathD _ j v h
      simp only [canonNN]
      simp only [acceptsNN, List.all_eq_true] at ha
      exact ser_list_ok pathS _ _ xs vs
        (hall.imp_mem2 (fun x hx y hy hxy => ih2 x y (ha x hx) (hlist vs hq y hy) hxy))
    exact ⟨hnn, fun j v ha hq h => by simp only [rustOf, canon, accepts] at h ha ⊢; exact lift _ _ _ hnn j v ha hq h⟩
  | nonNull t ih =>
    intro hw
    obtain ⟨ih1, _⟩ := ih (wf_of_nonNull hw)
    exact ⟨fun j v ha hq h => by simp only [rustOfNN, canonNN, acceptsNN] at h ha ⊢; exact ih1 j v ha hq h,
           fun j v ha hq h => by simp only [rustOf, canon, accepts] at h ha ⊢; exact ih1 j v ha hq h⟩

theorem leaf_roundtrip_on (pathD : String → Json → D Val) (pathS : String → Val → D Json) (base : String)
    (leafOk : Json → Bool) (leafCanon : Json → Json)
    (hleaf : ∀ j v, leafOk j = true → pathD base j = .ok v → pathS base v = .ok (leafCanon j)) :
    ∀ t : GTy, wf t = true →
      (∀ j v, acceptsNN leafOk t j = true → deTyWith pathD (rustOfNN (.path base) t) j = .ok v →
        serTyWith pathS (rustOfNN (.path base) t) v = .ok (canonNN leafCanon t j)) ∧
      (∀ j v, accepts leafOk t j = true → deTyWith pathD (rustOf (.path base) t) j = .ok v →
        serTyWith pathS (rustOf (.path base) t) v = .ok (canon leafCanon t j)) := by
  intro t hw
  have h := leaf_roundtrip_rel pathD pathS base leafOk leafCanon (fun _ => True) (fun _ _ => trivial)
    (fun _ _ _ _ => trivial) (fun j v ha _ hd => hleaf j v ha hd) t hw
  exact ⟨fun j v ha hd => h.1 j v ha trivial hd, fun j v ha hd => h.2 j v ha trivial hd⟩

/-- **L1.** For every well-formed type expression (any list depth, any placement of `!`) over a leaf
    type `base`: whatever the deserializer of the generated type `rustOf base t` accepts, the
    serializer writes back as `canon leafCanon t j`.  The only hypothesis is the same statement for
    the leaf itself. -/
theorem leaf_roundtrip (pathD : String → Json → D Val) (pathS : String → Val → D Json) (base : String)
    (leafCanon : Json → Json)
    (hleaf : ∀ j v, pathD base j = .ok v → pathS base v = .ok (leafCanon j)) :
    ∀ t : GTy, wf t = true →
      (∀ j v, deTyWith pathD (rustOfNN (.path base) t) j = .ok v →
        serTyWith pathS (rustOfNN (.path base) t) v = .ok (canonNN leafCanon t j)) ∧
      (∀ j v, deTyWith pathD (rustOf (.path base) t) j = .ok v →
        serTyWith pathS (rustOf (.path base) t) v = .ok (canon leafCanon t j)) := by
  intro t hw
  have hon := leaf_roundtrip_on pathD pathS base (fun j => okB (pathD base j)) leafCanon
    (fun j v _ h => hleaf j v h) t hw
  have hacc := ok_iff_accepts pathD base (fun j => okB (pathD base j)) (fun _ => rfl) t hw
  refine ⟨fun j v h => hon.1 j v ?_ h, fun j v h => hon.2 j v ?_ h⟩
  · rw [← hacc.1 j, h]; rfl
  · rw [← hacc.2 j, h]; rfl

/-- L1 together with C03: a **conforming** value is accepted and written back in canonical form -/
theorem leaf_lossless (pathD : String → Json → D Val) (pathS : String → Val → D Json) (base : String)
    (leafOk : Json → Bool) (leafCanon : Json → Json)
    (hacc : ∀ j, okB (pathD base j) = leafOk j)
    (hleaf : ∀ j v, pathD base j = .ok v → pathS base v = .ok (leafCanon j))
    (t : GTy) (hw : wf t = true) (j : Json) (hj : accepts leafOk t j = true) :
    ∃ v, deTyWith pathD (rustOf (.path base) t) j = .ok v ∧
      serTyWith pathS (rustOf (.path base) t) v = .ok (canon leafCanon t j) := by
  have h := (ok_iff_accepts pathD base leafOk hacc t hw).2 j
  rw [hj, okB_iff] at h
  obtain ⟨v, hv⟩ := h
  exact ⟨v, hv, (leaf_roundtrip pathD pathS base leafCanon hleaf t hw).2 j v hv⟩

theorem leaf_roundtrip_id (pathD : String → Json → D Val) (pathS : String → Val → D Json) (base : String)
    (hleaf : ∀ j v, pathD base j = .ok v → pathS base v = .ok j)
    (t : GTy) (hw : wf t = true) (j : Json) (v : Val)
    (h : deTyWith pathD (rustOf (.path base) t) j = .ok v) :
    serTyWith pathS (rustOf (.path base) t) v = .ok j := by
  have := (leaf_roundtrip pathD pathS base id hleaf t hw).2 j v h
  rwa [(canon_id t).2 j] at this

/-! ### the built-in leaves of a generated module -/

theorem serPath_prim (e : Env) (fuel : Nat) (p : String) (v : Val) (j : Json) (h : serPrim v = some j) :
    serPath e (fuel + 1) p v = .ok j := by
  unfold serPath; simp [h, pure, Except.pure]

theorem leaf_string_rt (e : Env) (b : Bool) (fd fs : Nat) (j : Json) (v : Val)
    (h : dePath e b (fd + 1) "String" j = .ok v) : serPath e (fs + 1) "String" v = .ok j := by
  unfold dePath at h
  cases j <;> simp [dePrim, bad, pure, Except.pure] at h
  subst h
  exact serPath_prim e fs _ _ _ rfl

theorem leaf_int_rt (e : Env) (b : Bool) (fd fs : Nat)
    (he : e.find "Int" = some (.alias "Int" false (.path "i64"))) (j : Json) (v : Val)
    (h : dePath e b (fd + 2) "Int" j = .ok v) : serPath e (fs + 1) "Int" v = .ok j := by
  have h1 : dePrim "Int" j = none := by simp [dePrim]
  unfold dePath at h; simp only [h1, he, deTyWith] at h
  unfold dePath at h
  cases j with
  | int n =>
    cases hn : inI64 n <;> simp [dePrim, hn, bad, pure, Except.pure] at h
    subst h
    exact serPath_prim e fs _ _ _ rfl
  | null => simp [dePrim, bad] at h
  | bool _ => simp [dePrim, bad] at h
  | num _ => simp [dePrim, bad] at h
  | str _ => simp [dePrim, bad] at h
  | arr _ => simp [dePrim, bad] at h
  | obj _ => simp [dePrim, bad] at h

theorem leaf_float_rt (e : Env) (b : Bool) (fd fs : Nat)
    (he : e.find "Float" = some (.alias "Float" false (.path "f64"))) (j : Json) (v : Val)
    (h : dePath e b (fd + 2) "Float" j = .ok v) : serPath e (fs + 1) "Float" v = .ok j := by
  have h1 : dePrim "Float" j = none := by simp [dePrim]
  unfold dePath at h; simp only [h1, he, deTyWith] at h
  unfold dePath at h
  cases j <;> simp [dePrim, bad, pure, Except.pure] at h <;> subst h <;> exact serPath_prim e fs _ _ _ rfl

theorem leaf_boolean_rt (e : Env) (b : Bool) (fd fs : Nat)
    (he : e.find "Boolean" = some (.alias "Boolean" false (.path "bool"))) (j : Json) (v : Val)
    (h : dePath e b (fd + 2) "Boolean" j = .ok v) : serPath e (fs + 1) "Boolean" v = .ok j := by
  have h1 : dePrim "Boolean" j = none := by simp [dePrim]
  unfold dePath at h; simp only [h1, he, deTyWith] at h
  unfold dePath at h
  cases j <;> simp [dePrim, bad, pure, Except.pure] at h
  subst h
  exact serPath_prim e fs _ _ _ rfl

theorem nodup_iff' {l : List String} : EnumSpec.nodup l = true ↔ l.Nodup := C10.nodup_iff

/-- a generated string enum whose tables are well-formed (`EnumSpec.tablesWf`, evaluated by the
    harness on the tables extracted from the emitted impls) writes back exactly what it read -/
theorem leaf_enum_rt (e : Env) (b : Bool) (fd fs : Nat) (p name : String) (d : List String) (sp : String)
    (vs : List String) (ser de : List (String × String))
    (hp : p ≠ "String" ∧ p ≠ "i64" ∧ p ≠ "f64" ∧ p ≠ "bool")
    (he : e.find p = some (.gqlEnum name d sp vs ser de))
    (hwf : EnumSpec.tablesWf vs ser de = true) (j : Json) (v : Val)
    (h : dePath e b (fd + 1) p j = .ok v) : serPath e (fs + 1) p v = .ok j := by
  have h1 : dePrim p j = none := by simp [dePrim, hp.1, hp.2.1, hp.2.2.1, hp.2.2.2]
  unfold dePath at h; simp only [h1, he] at h
  cases j with
  | str s =>
    simp only at h
    cases hf : de.find? (·.1 == s) with
    | none =>
      simp only [hf, pure, Except.pure, Except.ok.injEq] at h
      subst h
      exact serPath_prim e fs _ _ _ rfl
    | some q =>
      obtain ⟨w, ident⟩ := q
      simp only [hf, pure, Except.pure, Except.ok.injEq] at h
      subst h
      have hmem : (w, ident) ∈ de := List.mem_of_find?_eq_some hf
      have hw : w = s := by simpa using List.find?_some hf
      subst hw
      simp only [EnumSpec.tablesWf, Bool.and_eq_true, beq_iff_eq] at hwf
      obtain ⟨⟨⟨_, h2⟩, _⟩, hser⟩ := hwf
      have hnd : ((de.map (fun p => (p.2, p.1))).map (·.1)).Nodup := by
        simpa [List.map_map, Function.comp_def] using nodup_iff'.mp h2
      have hm' : (ident, w) ∈ de.map (fun p => (p.2, p.1)) := List.mem_map.mpr ⟨(w, ident), hmem, rfl⟩
      have hfind := C10.find_fst_of_nodup hnd hm'
      unfold serPath
      simp only [serPrim, he, hser]
      simp only [hfind, pure, Except.pure]
  | null => cases h
  | bool _ => cases h
  | int _ => cases h
  | num _ => cases h
  | arr _ => cases h
  | obj _ => cases h

/-! #### Int / Float / Boolean / String / enum positions of a generated module, at every modifier depth:
`to_value (from_value j) = j` exactly -/

theorem int_position_rt (e : Env) (b : Bool) (fd fs : Nat)
    (he : e.find "Int" = some (.alias "Int" false (.path "i64")))
    (t : GTy) (hw : wf t = true) (j : Json) (v : Val)
    (h : deTy e b (fd + 2) (rustOf (.path "Int") t) j = .ok v) :
    serTy e (fs + 1) (rustOf (.path "Int") t) v = .ok j :=
  leaf_roundtrip_id _ _ "Int" (leaf_int_rt e b fd fs he) t hw j v h

theorem float_position_rt (e : Env) (b : Bool) (fd fs : Nat)
    (he : e.find "Float" = some (.alias "Float" false (.path "f64")))
    (t : GTy) (hw : wf t = true) (j : Json) (v : Val)
    (h : deTy e b (fd + 2) (rustOf (.path "Float") t) j = .ok v) :
    serTy e (fs + 1) (rustOf (.path "Float") t) v = .ok j :=
  leaf_roundtrip_id _ _ "Float" (leaf_float_rt e b fd fs he) t hw j v h

theorem boolean_position_rt (e : Env) (b : Bool) (fd fs : Nat)
    (he : e.find "Boolean" = some (.alias "Boolean" false (.path "bool")))
    (t : GTy) (hw : wf t = true) (j : Json) (v : Val)
    (h : deTy e b (fd + 2) (rustOf (.path "Boolean") t) j = .ok v) :
    serTy e (fs + 1) (rustOf (.path "Boolean") t) v = .ok j :=
  leaf_roundtrip_id _ _ "Boolean" (leaf_boolean_rt e b fd fs he) t hw j v h

theorem string_position_rt (e : Env) (b : Bool) (fd fs : Nat)
    (t : GTy) (hw : wf t = true) (j : Json) (v : Val)
    (h : deTy e b (fd + 1) (rustOf (.path "String") t) j = .ok v) :
    serTy e (fs + 1) (rustOf (.path "String") t) v = .ok j :=
  leaf_roundtrip_id _ _ "String" (leaf_string_rt e b fd fs) t hw j v h

theorem enum_position_rt (e : Env) (b : Bool) (fd fs : Nat) (p name : String) (d : List String) (sp : String)
    (vs : List String) (ser de : List (String × String))
    (hp : p ≠ "String" ∧ p ≠ "i64" ∧ p ≠ "f64" ∧ p ≠ "bool")
    (he : e.find p = some (.gqlEnum name d sp vs ser de))
    (hwf : EnumSpec.tablesWf vs ser de = true)
    (t : GTy) (hw : wf t = true) (j : Json) (v : Val)
    (h : deTy e b (fd + 1) (rustOf (.path p) t) j = .ok v) :
    serTy e (fs + 1) (rustOf (.path p) t) v = .ok j :=
  leaf_roundtrip_id _ _ p (leaf_enum_rt e b fd fs p name d sp vs ser de hp he hwf) t hw j v h

theorem int_position_lossless (e : Env) (b : Bool) (fd fs : Nat)
    (he : e.find "Int" = some (.alias "Int" false (.path "i64")))
    (t : GTy) (hw : wf t = true) (j : Json) (hj : accepts intOk t j = true) :
    ∃ v, deTy e b (fd + 2) (rustOf (.path "Int") t) j = .ok v ∧
      serTy e (fs + 1) (rustOf (.path "Int") t) v = .ok j := by
  obtain ⟨v, h1, h2⟩ := leaf_lossless (dePath e b (fd + 2)) (serPath e (fs + 1)) "Int" intOk id
    (leaf_int e b fd he) (leaf_int_rt e b fd fs he) t hw j hj
  exact ⟨v, h1, by rwa [(canon_id t).2 j] at h2⟩

/-! ### ID positions: the three helpers -/

/-- the nested helper succeeds exactly as the structural reader with the integer-or-string leaf
    (only the error messages differ) -/
theorem deNestedId_ok_iff : ∀ (t : RTy) (j : Json) (v : Val),
    deNestedId t j = .ok v ↔ deTyWith (fun _ => deIntOrString) t j = .ok v
  | .path _, _, _ => Iff.rfl
  | .box t, j, v => by
    rw [show deNestedId (.box t) j = deNestedId t j from rfl, deNestedId_ok_iff t j v]; exact Iff.rfl
  | .opt t, j, v => by
    rw [show deNestedId (.opt t) j = (if j.isNull then pure .unit else Val.some <$> deNestedId t j) from rfl,
      show deTyWith (fun _ => deIntOrString) (.opt t) j =
        (if j.isNull then pure .unit else Val.some <$> deTyWith (fun _ => deIntOrString) t j) from rfl]
    cases j.isNull
    · simp only [Bool.false_eq_true, ↓reduceIte, map_ok, deNestedId_ok_iff t j]
    · exact Iff.rfl
  | .vec t, j, v => by
    cases j with
    | arr xs =>
      rw [show deNestedId (.vec t) (.arr xs) = Val.list <$> xs.mapM (deNestedId t) from rfl,
        show deTyWith (fun _ => deIntOrString) (.vec t) (.arr xs) =
          Val.list <$> xs.mapM (deTyWith (fun _ => deIntOrString) t) from rfl]
      simp only [map_ok, mapM_ok_forall₂]
      constructor
      · rintro ⟨a, ha, rfl⟩
        exact ⟨a, ha.imp (fun x y h => (deNestedId_ok_iff t x y).mp h), rfl⟩
      · rintro ⟨a, ha, rfl⟩
        exact ⟨a, ha.imp (fun x y h => (deNestedId_ok_iff t x y).mpr h), rfl⟩
    | null => simp [deNestedId, deTyWith, bad]
    | bool _ => simp [deNestedId, deTyWith, bad]
    | int _ => simp [deNestedId, deTyWith, bad]
    | num _ => simp [deNestedId, deTyWith, bad]
    | str _ => simp [deNestedId, deTyWith, bad]
    | obj _ => simp [deNestedId, deTyWith, bad]

theorem intOrString_canon (j : Json) (v : Val) (h : deIntOrString j = .ok v) :
    ∃ s, v = .str s ∧ idCanon j = .str s := by
  cases j with
  | int n =>
    simp only [deIntOrString] at h
    split at h
    · simp only [pure, Except.pure, Except.ok.injEq] at h; exact ⟨_, h.symm, rfl⟩
    · cases h
  | str s => simp only [deIntOrString, pure, Except.pure, Except.ok.injEq] at h; exact ⟨s, h.symm, rfl⟩
  | null => cases h
  | bool _ => cases h
  | num _ => cases h
  | arr _ => cases h
  | obj _ => cases h

/-- **ID under lists** (`deserialize_nested_id`), every depth: integers come back as decimal strings,
    nothing else changes.  `hS`: the `ID` alias writes a string as that string (true of `serPath`
    with any positive fuel: `serPath_prim`). -/
theorem id_roundtrip (pathS : String → Val → D Json) (hS : ∀ s, pathS "ID" (.str s) = .ok (.str s))
    (t : GTy) (hw : wf t = true) (j : Json) (v : Val)
    (h : deNestedId (rustOf (.path "ID") t) j = .ok v) :
    serTyWith pathS (rustOf (.path "ID") t) v = .ok (canon idCanon t j) := by
  rw [deNestedId_ok_iff] at h
  refine (leaf_roundtrip (fun _ => deIntOrString) pathS "ID" idCanon ?_ t hw).2 j v h
  intro j v hv
  obtain ⟨s, rfl, hc⟩ := intOrString_canon j v hv
  rw [hc]; exact hS s

/-- **the emitted ID field** (helper chosen by `renderField`, see `C16.idHelperFor`), every type expression -/
theorem id_field_roundtrip (pathS : String → Val → D Json) (hS : ∀ s, pathS "ID" (.str s) = .ok (.str s))
    (t : GTy) (hw : wf t = true) (j : Json) (v : Val)
    (h : deHelper (C16.idHelperFor t) (rustOf (.path "ID") t) j = .ok v) :
    serTyWith pathS (rustOf (.path "ID") t) v = .ok (canon idCanon t j) := by
  rw [C16.deHelper_idHelperFor] at h
  cases hl : (GTy.quals t).contains .list
  · cases hr : (GTy.quals t).contains .required
    · obtain ⟨n, rfl⟩ := C16.quals_no_list_no_req hw hl hr
      simp only [hl, hr, Bool.false_eq_true, ↓reduceIte] at h
      simp only [rustOf, rustOfNN, canon, canonNN]
      cases hj : j.isNull
      · simp only [hj, Bool.false_eq_true, ↓reduceIte, map_ok] at h ⊢
        obtain ⟨x, hx, rfl⟩ := h
        obtain ⟨s, rfl, hc⟩ := intOrString_canon j x hx
        rw [hc]; exact hS s
      · simp only [hj, ↓reduceIte, pure, Except.pure, Except.ok.injEq] at h ⊢
        subst h; rfl
    · obtain ⟨n, rfl⟩ := C16.quals_no_list_req hw hl hr
      simp only [hl, hr, Bool.false_eq_true, ↓reduceIte] at h
      simp only [rustOf, rustOfNN, canon, canonNN, serTyWith]
      obtain ⟨s, rfl, hc⟩ := intOrString_canon j v h
      rw [hc]; exact hS s
  · simp only [hl, ↓reduceIte] at h
    exact id_roundtrip pathS hS t hw j v h

example : canon idCanon (.list (.nonNull (.named "ID"))) (.arr [.int 7, .str "x"]) = .arr [.str "7", .str "x"] := by
  simp [canon, canonNN, idCanon, Json.isNull]; decide

/-! ## L2 — plain structs -/

/-- no `#[serde(flatten)]` member -/
def plain (fields : List RField) : Bool := fields.all (fun f => !f.flatten)

/-- what one own field reads from the object: its key's value, or the missing-key rule -/
def readField (path : String → Json → D Val) (f : RField) (kvs : List (String × Json)) : D Val :=
  match Json.lookup f.wire kvs with
  | some j => deFieldWith path f j
  | none => missingField f

theorem countKey_cons (k k' : String) (v : Json) (kvs : List (String × Json)) :
    countKey k ((k', v) :: kvs) = (if k' == k then 1 else 0) + countKey k kvs := by
  simp only [countKey, List.filter_cons]
  cases k' == k <;> simp <;> omega

theorem countKey_zero_of_not_mem {k : String} : ∀ {kvs : List (String × Json)}, k ∉ kvs.map (·.1) → countKey k kvs = 0
  | [], _ => rfl
  | (k', v) :: kvs, h => by
    simp only [List.map_cons, List.mem_cons, not_or] at h
    have hne : (k' == k) = false := by simpa using fun heq => h.1 heq.symm
    rw [countKey_cons, hne, countKey_zero_of_not_mem h.2]; rfl

theorem countKey_le_one_of_nodup {kvs : List (String × Json)} (h : (kvs.map (·.1)).Nodup) (k : String) :
    countKey k kvs ≤ 1 := by
  induction kvs with
  | nil => simp [countKey]
  | cons kv kvs ih =>
    obtain ⟨k', v⟩ := kv
    simp only [List.map_cons, List.nodup_cons] at h
    rw [countKey_cons]
    by_cases hk : k' = k
    · subst hk; rw [countKey_zero_of_not_mem h.1]; simp
    · have : (k' == k) = false := by simpa using hk
      rw [this]; have := ih h.2; simpa using this

theorem lookup_none_of_not_mem {k : String} : ∀ {kvs : List (String × Json)}, k ∉ kvs.map (·.1) → Json.lookup k kvs = none
  | [], _ => rfl
  | (k', v) :: kvs, h => by
    simp only [List.map_cons, List.mem_cons, not_or] at h
    have hne : (k' == k) = false := by simpa using fun heq => h.1 heq.symm
    simp only [Json.lookup, hne, Bool.false_eq_true, ↓reduceIte]
    exact lookup_none_of_not_mem h.2

theorem deOwn_cons (path : String → Json → D Val) (f : RField) (fs : List RField) (kvs : List (String × Json))
    (hf : f.flatten = false) (hc : countKey f.wire kvs ≤ 1) :
    deOwnWith path (f :: fs) kvs =
      (do let rest ← deOwnWith path fs kvs
          let x ← readField path f kvs
          pure ((f.rust, x) :: rest)) := by
  have hc' : ¬ (countKey f.wire kvs > 1) := by omega
  simp only [deOwnWith, hf, Bool.false_eq_true, ↓reduceIte, hc', readField]
  cases Json.lookup f.wire kvs <;> rfl

theorem plain_cons {f : RField} {fs : List RField} (h : plain (f :: fs) = true) :
    f.flatten = false ∧ plain fs = true := by
  simpa [plain] using h

theorem not_flatten_of_plain {fs : List RField} (h : plain fs = true) {f : RField} (hf : f ∈ fs) :
    f.flatten = false := by
  have := List.all_eq_true.mp h f hf
  simpa using this

/-- **the own-field loop, exactly**: it succeeds with `vals` iff `vals` has one entry per field, in
    declaration order, named by the Rust field and holding what that field reads -/
theorem deOwn_ok_iff (path : String → Json → D Val) (kvs : List (String × Json))
    (hc : ∀ k, countKey k kvs ≤ 1) :
    ∀ (fields : List RField) (vals : List (String × Val)), plain fields = true →
      (deOwnWith path fields kvs = .ok vals ↔
        All2 (fun f p => p.1 = f.rust ∧ readField path f kvs = .ok p.2) fields vals)
  | [], vals, _ => by
    constructor
    · intro h; cases h; exact .nil
    · intro h; cases h; rfl
  | f :: fs, vals, hp => by
    obtain ⟨hf, hp'⟩ := plain_cons hp
    rw [deOwn_cons path f fs kvs hf (hc _)]
    have ih := deOwn_ok_iff path kvs hc fs
    constructor
    · intro h
      cases hr : deOwnWith path fs kvs with
      | error e => simp [hr, bind, Except.bind] at h
      | ok rest =>
        cases hx : readField path f kvs with
        | error e => simp [hr, hx, bind, Except.bind] at h
        | ok x =>
          simp [hr, hx, bind, Except.bind, pure, Except.pure] at h
          subst h
          exact .cons ⟨rfl, hx⟩ ((ih rest hp').mp hr)
    · intro h
      cases h with
      | @cons _ p _ rest hh ht =>
        obtain ⟨n, x⟩ := p
        obtain ⟨hn, hx⟩ := hh
        simp only at hn hx
        subst hn
        rw [(ih rest hp').mpr ht, hx]; rfl

theorem okB_deOwn (path : String → Json → D Val) (kvs : List (String × Json))
    (hc : ∀ k, countKey k kvs ≤ 1) :
    ∀ (fields : List RField), plain fields = true →
      okB (deOwnWith path fields kvs) = fields.all (fun f => okB (readField path f kvs))
  | [], _ => rfl
  | f :: fs, hp => by
    obtain ⟨hf, hp'⟩ := plain_cons hp
    rw [deOwn_cons path f fs kvs hf (hc _), List.all_cons, ← okB_deOwn path kvs hc fs hp']
    cases deOwnWith path fs kvs <;> cases readField path f kvs <;> simp [okB, bind, Except.bind, pure, Except.pure]

theorem any_flatten_of_plain {fields : List RField} (h : plain fields = true) :
    fields.any (·.flatten) = false := by
  induction fields with
  | nil => rfl
  | cons f fs ih =>
    obtain ⟨hf, hp⟩ := plain_cons h
    simp [List.any_cons, hf, ih hp]

theorem deStructMap_plain (path : String → Json → D Val) (flat : RTy → Buf → D (Val × Buf))
    (fields : List RField) (kvs : List (String × Json)) (hp : plain fields = true) :
    deStructMapWith path flat fields kvs = Val.record <$> deOwnWith path fields kvs := by
  unfold deStructMapWith
  simp only [any_flatten_of_plain hp, Bool.false_eq_true, ↓reduceIte]
  cases deOwnWith path fields kvs <;> rfl

/-- **L2, acceptance.** A plain struct read from an object without duplicate keys succeeds iff every
    field either finds its key with a value its type accepts, or is absent and may be absent. -/
theorem struct_accepts (path : String → Json → D Val) (flat : RTy → Buf → D (Val × Buf))
    (fields : List RField) (kvs : List (String × Json))
    (hp : plain fields = true) (hk : (kvs.map (·.1)).Nodup) :
    okB (deStructMapWith path flat fields kvs) =
      fields.all (fun f => match Json.lookup f.wire kvs with
        | some j => okB (deFieldWith path f j)
        | none => okB (missingField f)) := by
  rw [deStructMap_plain path flat fields kvs hp, okB_map,
    okB_deOwn path kvs (countKey_le_one_of_nodup hk) fields hp]
  congr 1; funext f
  unfold readField
  cases Json.lookup f.wire kvs <;> rfl

/-- … and then the value is the record of what the fields read, in declaration order -/
theorem struct_value (path : String → Json → D Val) (flat : RTy → Buf → D (Val × Buf))
    (fields : List RField) (kvs : List (String × Json))
    (hp : plain fields = true) (hk : (kvs.map (·.1)).Nodup) (v : Val) :
    deStructMapWith path flat fields kvs = .ok v ↔
      ∃ vals, v = .record vals ∧
        All2 (fun f p => p.1 = f.rust ∧ readField path f kvs = .ok p.2) fields vals := by
  rw [deStructMap_plain path flat fields kvs hp, map_ok]
  constructor
  · rintro ⟨vals, h, rfl⟩
    exact ⟨vals, rfl, (deOwn_ok_iff path kvs (countKey_le_one_of_nodup hk) fields vals hp).mp h⟩
  · rintro ⟨vals, rfl, h⟩
    exact ⟨vals, (deOwn_ok_iff path kvs (countKey_le_one_of_nodup hk) fields vals hp).mpr h, rfl⟩

/-- the same through `deStructWith` (the entry point `dePath` uses for a struct item) -/
theorem deStruct_obj (path : String → Json → D Val) (flat : RTy → Buf → D (Val × Buf))
    (fields : List RField) (kvs : List (String × Json)) :
    deStructWith path flat fields (.obj kvs) = deStructMapWith path flat fields kvs := rfl

/-! ### unknown keys -/

theorem countKey_filter (q : String × Json → Bool) (k : String) (hq : ∀ v, q (k, v) = true) :
    ∀ kvs : List (String × Json), countKey k (kvs.filter q) = countKey k kvs
  | [] => rfl
  | (k', v) :: kvs => by
    have ih := countKey_filter q k hq kvs
    by_cases hk : k' = k
    · subst hk; simp only [List.filter_cons, hq, ↓reduceIte, countKey_cons, ih]
    · have hne : (k' == k) = false := by simpa using hk
      simp only [List.filter_cons]
      cases q (k', v)
      · simp only [Bool.false_eq_true, ↓reduceIte, countKey_cons, hne, ih]; omega
      · simp only [↓reduceIte, countKey_cons, hne, ih]

theorem lookup_filter (q : String × Json → Bool) (k : String) (hq : ∀ v, q (k, v) = true) :
    ∀ kvs : List (String × Json), Json.lookup k (kvs.filter q) = Json.lookup k kvs
  | [] => rfl
  | (k', v) :: kvs => by
    have ih := lookup_filter q k hq kvs
    by_cases hk : k' = k
    · subst hk; simp only [List.filter_cons, hq, ↓reduceIte, Json.lookup, beq_self_eq_true]
    · have hne : (k' == k) = false := by simpa using hk
      simp only [List.filter_cons]
      cases q (k', v)
      · simp only [Bool.false_eq_true, ↓reduceIte, Json.lookup, hne, ih]
      · simp only [↓reduceIte, Json.lookup, hne, Bool.false_eq_true, ih]

/-- the own-field loop sees only the entries whose key is some own field's wire name -/
theorem deOwn_filter (path : String → Json → D Val) (keys : List String) (kvs : List (String × Json)) :
    ∀ (fields : List RField), (∀ f ∈ fields, f.flatten = false → f.wire ∈ keys) →
      deOwnWith path fields (kvs.filter (fun kv => keys.contains kv.1)) = deOwnWith path fields kvs
  | [], _ => rfl
  | f :: fs, h => by
    have ih := deOwn_filter path keys kvs fs (fun g hg => h g (by simp [hg]))
    cases hf : f.flatten
    · have hq : ∀ v : Json, (fun kv : String × Json => keys.contains kv.1) (f.wire, v) = true := by
        intro v; simpa using h f (by simp) hf
      have h1 := countKey_filter (fun kv : String × Json => keys.contains kv.1) f.wire hq kvs
      have h2 := lookup_filter (fun kv : String × Json => keys.contains kv.1) f.wire hq kvs
      simp only [deOwnWith, ih, hf, h1, h2]
    · simp only [deOwnWith, ih, hf, ↓reduceIte]

/-- **unknown keys are ignored**: two objects that agree on the entries whose key is a field's wire
    name (same entries, same order) are read identically by a plain struct -/
theorem unknown_keys_ignored (path : String → Json → D Val) (flat : RTy → Buf → D (Val × Buf))
    (fields : List RField) (kvs₁ kvs₂ : List (String × Json)) (hp : plain fields = true)
    (h : kvs₁.filter (fun kv => (fields.map (·.wire)).contains kv.1) =
         kvs₂.filter (fun kv => (fields.map (·.wire)).contains kv.1)) :
    deStructMapWith path flat fields kvs₁ = deStructMapWith path flat fields kvs₂ := by
  have hk : ∀ f ∈ fields, f.flatten = false → f.wire ∈ fields.map (·.wire) :=
    fun f hf _ => List.mem_map_of_mem hf
  rw [deStructMap_plain path flat fields kvs₁ hp, deStructMap_plain path flat fields kvs₂ hp,
    ← deOwn_filter path _ kvs₁ fields hk, ← deOwn_filter path _ kvs₂ fields hk, h]

/-- in particular: entries inserted anywhere, none of whose keys is a field's wire name, change nothing -/
theorem unknown_keys_ignored_insert (path : String → Json → D Val) (flat : RTy → Buf → D (Val × Buf))
    (fields : List RField) (pre extra post : List (String × Json)) (hp : plain fields = true)
    (hx : ∀ kv ∈ extra, ∀ f ∈ fields, f.wire ≠ kv.1) :
    deStructMapWith path flat fields (pre ++ extra ++ post) = deStructMapWith path flat fields (pre ++ post) := by
  apply unknown_keys_ignored path flat fields _ _ hp
  have : extra.filter (fun kv => (fields.map (·.wire)).contains kv.1) = [] := by
    rw [List.filter_eq_nil_iff]
    intro kv hkv
    simp only [List.contains_iff_mem, List.mem_map, not_exists, not_and]
    exact fun f hf => hx kv hkv f hf
  simp only [List.filter_append, this, List.append_nil]

/-! ## L5, the writer of a plain struct (C04, variables side) — the entries `serFieldsWith` writes; the L2 round trip below uses it -/

def valOf (vals : List (String × Val)) (name : String) : Val :=
  match vals.find? (·.1 == name) with
  | some (_, v) => v
  | none => .unit

/-- `skip_serializing_if = "Option::is_none"` applies: the field is marked and holds `None` -/
def skipped (vals : List (String × Val)) (f : RField) : Bool := f.skipNone && (valOf vals f.rust).isUnit

theorem serFields_cons (pathS : String → Val → D Json) (f : RField) (fs : List RField)
    (vals : List (String × Val)) (hf : f.flatten = false) :
    serFieldsWith pathS (f :: fs) vals =
      (do let rest ← serFieldsWith pathS fs vals
          match vals.find? (·.1 == f.rust) with
          | none => unmodelled ("no value for field " ++ f.rust)
          | some (_, v) =>
            if f.skipNone && v.isUnit then pure rest
            else do pure ((f.wire, ← serTyWith pathS f.ty v) :: rest)) := by
  simp only [serFieldsWith, hf, Bool.false_eq_true, ↓reduceIte]
  congr 1

/-- **the serialized struct, exactly**: `serFieldsWith` succeeds with `out` iff every field has a
    value and `out` has one entry per non-skipped field, in declaration order, keyed by the wire name
    and holding the serialization of that field's value -/
theorem ser_fields_iff (pathS : String → Val → D Json) (vals : List (String × Val)) :
    ∀ (fields : List RField) (out : List (String × Json)), plain fields = true →
      (serFieldsWith pathS fields vals = .ok out ↔
        (∀ f ∈ fields, (vals.find? (·.1 == f.rust)).isSome = true) ∧
        All2 (fun f kv => kv.1 = f.wire ∧ serTyWith pathS f.ty (valOf vals f.rust) = .ok kv.2)
          (fields.filter (fun f => !skipped vals f)) out)
  | [], out, _ => by
    constructor
    · intro h; cases h; exact ⟨by simp, .nil⟩
    · rintro ⟨_, h⟩; cases h; rfl
  | f :: fs, out, hp => by
    obtain ⟨hf, hp'⟩ := plain_cons hp
    have ih := ser_fields_iff pathS vals fs
    rw [serFields_cons pathS f fs vals hf]
    constructor
    · intro h
      cases hr : serFieldsWith pathS fs vals with
      | error e => simp [hr, bind, Except.bind] at h
      | ok rest =>
        obtain ⟨hsome, hall⟩ := (ih rest hp').mp hr
        cases hfind : vals.find? (·.1 == f.rust) with
        | none => simp [hr, hfind, bind, Except.bind, unmodelled] at h
        | some nv =>
          obtain ⟨n, v⟩ := nv
          have hval : valOf vals f.rust = v := by simp [valOf, hfind]
          refine ⟨?_, ?_⟩
          · intro g hg
            rcases List.mem_cons.mp hg with rfl | hg
            · simp [hfind]
            · exact hsome g hg
          · simp only [hr, hfind, bind, Except.bind] at h
            cases hskip : (f.skipNone && v.isUnit)
            · simp only [hskip, Bool.false_eq_true, ↓reduceIte] at h
              cases hs : serTyWith pathS f.ty v with
              | error e => simp [hs] at h
              | ok j =>
                simp only [hs, pure, Except.pure, Except.ok.injEq] at h
                subst h
                have : (!skipped vals f) = true := by simp [skipped, hval, hskip]
                rw [List.filter_cons, if_pos this]
                exact .cons ⟨rfl, by rw [hval]; exact hs⟩ hall
            · simp only [hskip, ↓reduceIte, pure, Except.pure, Except.ok.injEq] at h
              subst h
              have : ¬ ((!skipped vals f) = true) := by simp [skipped, hval, hskip]
              rw [List.filter_cons, if_neg this]
              exact hall
    · rintro ⟨hsome, hall⟩
      have hfs := hsome f (by simp)
      cases hfind : vals.find? (·.1 == f.rust) with
      | none => simp [hfind] at hfs
      | some nv =>
        obtain ⟨n, v⟩ := nv
        have hval : valOf vals f.rust = v := by simp [valOf, hfind]
        have hsome' : ∀ g ∈ fs, (vals.find? (·.1 == g.rust)).isSome = true :=
          fun g hg => hsome g (by simp [hg])
        cases hskip : (f.skipNone && v.isUnit)
        · have : (!skipped vals f) = true := by simp [skipped, hval, hskip]
          rw [List.filter_cons, if_pos this] at hall
          cases hall with
          | @cons _ kv _ rest hh ht =>
            obtain ⟨k, j⟩ := kv
            obtain ⟨hk, hj⟩ := hh
            simp only at hk hj
            subst hk
            rw [hval] at hj
            rw [(ih rest hp').mpr ⟨hsome', ht⟩]
            simp [hskip, hj, bind, Except.bind, pure, Except.pure]
        · have : ¬ ((!skipped vals f) = true) := by simp [skipped, hval, hskip]
          rw [List.filter_cons, if_neg this] at hall
          rw [(ih out hp').mpr ⟨hsome', hall⟩]
          simp [hskip, bind, Except.bind, pure, Except.pure]

theorem All2.map_fst {α β γ} {R : α → β → Prop} {f : α → γ} {g : β → γ} (h : ∀ a b, R a b → g b = f a) :
    ∀ {xs ys}, All2 R xs ys → ys.map g = xs.map f
  | _, _, .nil => rfl
  | _, _, .cons hab rest => by rw [List.map_cons, List.map_cons, h _ _ hab, All2.map_fst h rest]

/-- **The writer's keys.** The keys of a serialized plain struct are exactly the wire names of the fields that are not
    skipped, in declaration order. -/
theorem ser_keys_exact (pathS : String → Val → D Json) (fields : List RField) (vals : List (String × Val))
    (out : List (String × Json)) (hp : plain fields = true)
    (h : serFieldsWith pathS fields vals = .ok out) :
    out.map (·.1) = (fields.filter (fun f => !skipped vals f)).map (·.wire) :=
  All2.map_fst (fun _ _ hab => hab.1) ((ser_fields_iff pathS vals fields out hp).mp h).2

/-- … hence pairwise distinct when the wire names are, and a subset of the declared names -/
theorem ser_keys_nodup (pathS : String → Val → D Json) (fields : List RField) (vals : List (String × Val))
    (out : List (String × Json)) (hp : plain fields = true) (hw : (fields.map (·.wire)).Nodup)
    (h : serFieldsWith pathS fields vals = .ok out) : (out.map (·.1)).Nodup := by
  rw [ser_keys_exact pathS fields vals out hp h]
  exact List.Nodup.sublist (List.Sublist.map _ List.filter_sublist) hw

/-- without `skip_serializing_none` (or when no marked member is `None`): exactly the declared keys -/
theorem ser_keys_all (pathS : String → Val → D Json) (fields : List RField) (vals : List (String × Val))
    (out : List (String × Json)) (hp : plain fields = true)
    (hns : ∀ f ∈ fields, skipped vals f = false)
    (h : serFieldsWith pathS fields vals = .ok out) :
    out.map (·.1) = fields.map (·.wire) := by
  rw [ser_keys_exact pathS fields vals out hp h]
  congr 1
  rw [List.filter_eq_self]
  intro f hf; simp [hns f hf]

/-! ## L2, round trip -/

/-- the entries the round trip of a plain struct must produce, **in terms of the JSON alone**: one
    entry per field in declaration order, holding the canonical form of the value under the field's
    key; an absent key comes back as `null`; a `skip_serializing_none` field whose key is absent or
    `null` is omitted -/
def expectOut (fcanon : RField → Json → Json) (fields : List RField) (kvs : List (String × Json)) :
    List (String × Json) :=
  fields.filterMap (fun f => match Json.lookup f.wire kvs with
    | some j => if f.skipNone && j.isNull then none else some (f.wire, fcanon f j)
    | none => if f.skipNone then none else some (f.wire, .null))

theorem missingField_ok (f : RField) (x : Val) (h : missingField f = .ok x) :
    x = .unit ∧ (f.default = true ∨ isOption f.ty = true) := by
  unfold missingField at h
  cases hd : f.default
  · simp only [hd, Bool.false_eq_true, ↓reduceIte] at h
    cases hw : f.deserWith.isSome
    · simp only [hw, Bool.false_eq_true, ↓reduceIte] at h
      cases ho : isOption f.ty
      · simp [ho, bad] at h
      · simp only [ho, ↓reduceIte, pure, Except.pure, Except.ok.injEq] at h
        exact ⟨h.symm, .inr rfl⟩
    · simp [hw, bad] at h
  · simp only [hd, ↓reduceIte, pure, Except.pure, Except.ok.injEq] at h
    exact ⟨h.symm, .inl rfl⟩

/-- `None` at an `Option` type (under any `Box`) is written as `null` -/
theorem ser_unit_option (pathS : String → Val → D Json) :
    ∀ ty : RTy, isOption ty = true → serTyWith pathS ty .unit = .ok .null
  | .opt _, _ => rfl
  | .box t, h => by
    rw [show serTyWith pathS (.box t) .unit = serTyWith pathS t .unit from rfl]
    exact ser_unit_option pathS t (by simpa [isOption] using h)
  | .vec _, h => by simp [isOption] at h
  | .path _, h => by simp [isOption] at h

/-- with pairwise distinct Rust field names, the value list built by the reader is found again by name -/
theorem find_of_all2 {R : RField → Val → Prop} {fields : List RField} {vals : List (String × Val)}
    (h : All2 (fun f p => p.1 = f.rust ∧ R f p.2) fields vals) :
    (fields.map (·.rust)).Nodup →
      ∀ f ∈ fields, ∃ x, vals.find? (·.1 == f.rust) = some (f.rust, x) ∧ R f x := by
  induction h with
  | nil => simp
  | @cons g p gs ps hh ht ih =>
    intro hnd
    obtain ⟨n, x⟩ := p
    obtain ⟨hn, hx⟩ := hh
    simp only at hn hx
    subst hn
    simp only [List.map_cons, List.nodup_cons] at hnd
    intro f hf
    rcases List.mem_cons.mp hf with rfl | hf'
    · exact ⟨x, by simp, hx⟩
    · obtain ⟨y, hy, hr⟩ := ih hnd.2 f hf'
      have hne : (g.rust == f.rust) = false := by
        have : g.rust ≠ f.rust := fun heq => hnd.1 (by rw [heq]; exact List.mem_map_of_mem hf')
        simpa using this
      exact ⟨y, by simp [hne, hy], hr⟩

/-- serialization of what the fields read, given the round trip of each field's own reader -/
theorem ser_of_read (pathD : String → Json → D Val) (pathS : String → Val → D Json)
    (fcanon : RField → Json → Json) (kvs : List (String × Json)) (vals : List (String × Val)) :
    ∀ (fs : List RField), plain fs = true →
      (∀ f ∈ fs, ∃ x, vals.find? (·.1 == f.rust) = some (f.rust, x) ∧ readField pathD f kvs = .ok x) →
      (∀ f ∈ fs, ∀ j x, Json.lookup f.wire kvs = some j → deFieldWith pathD f j = .ok x →
        serTyWith pathS f.ty x = .ok (fcanon f j)) →
      (∀ f ∈ fs, f.skipNone = true → ∀ j x, Json.lookup f.wire kvs = some j → deFieldWith pathD f j = .ok x →
        x.isUnit = j.isNull) →
      (∀ f ∈ fs, f.default = true → isOption f.ty = true) →
      serFieldsWith pathS fs vals = .ok (expectOut fcanon fs kvs)
  | [], _, _, _, _, _ => rfl
  | f :: fs, hp, hread, hrt, hunit, hdef => by
    obtain ⟨hf, hp'⟩ := plain_cons hp
    have ih := ser_of_read pathD pathS fcanon kvs vals fs hp'
      (fun g hg => hread g (by simp [hg])) (fun g hg => hrt g (by simp [hg]))
      (fun g hg => hunit g (by simp [hg])) (fun g hg => hdef g (by simp [hg]))
    obtain ⟨x, hfind, hx⟩ := hread f (by simp)
    rw [serFields_cons pathS f fs vals hf, ih, hfind]
    simp only [expectOut, List.filterMap_cons]
    unfold readField at hx
    cases hl : Json.lookup f.wire kvs with
    | some j =>
      simp only [hl] at hx
      have hser := hrt f (by simp) j x hl hx
      cases hs : f.skipNone
      · simp [hser, bind, Except.bind, pure, Except.pure]
      · have hu := hunit f (by simp) hs j x hl hx
        cases hn : j.isNull
        · simp [hu, hn, hser, bind, Except.bind, pure, Except.pure]
        · simp [hu, hn, bind, Except.bind, pure, Except.pure]
    | none =>
      simp only [hl] at hx
      obtain ⟨rfl, hopt⟩ := missingField_ok f x hx
      have hopt' : isOption f.ty = true := hopt.elim (hdef f (by simp)) id
      cases hs : f.skipNone
      · simp [ser_unit_option pathS f.ty hopt', Val.isUnit, bind, Except.bind, pure, Except.pure]
      · simp [Val.isUnit, bind, Except.bind, pure, Except.pure]

/-- **L2, round trip.** A plain struct with pairwise distinct Rust field names, read from an object
    without duplicate keys: the value is a record with one entry per field, and serializing it gives
    exactly `expectOut` — the canonical form of each field's value, `null` for an absent key, nothing
    for a `skip_serializing_none` field that was absent or `null`; keys that are no field's are dropped.

    Hypotheses about the fields (each discharged below for the fields the generator emits):
    `hrt` the field's own round trip (L1 / `id_field_roundtrip` / this theorem, recursively);
    `hunit` a `skip_serializing_none` field holds `None` exactly when it read `null`
    (`field_unit_iff`); `hdef` `#[serde(default)]` only on `Option` fields (`renderField` puts it on
    nullable IDs only, `C16.default_iff_nullable_id`). -/
theorem struct_roundtrip (pathD : String → Json → D Val) (pathS : String → Val → D Json)
    (flat : RTy → Buf → D (Val × Buf)) (fcanon : RField → Json → Json)
    (fields : List RField) (kvs : List (String × Json))
    (hp : plain fields = true) (hr : (fields.map (·.rust)).Nodup) (hk : (kvs.map (·.1)).Nodup)
    (hrt : ∀ f ∈ fields, ∀ j x, Json.lookup f.wire kvs = some j → deFieldWith pathD f j = .ok x →
      serTyWith pathS f.ty x = .ok (fcanon f j))
    (hunit : ∀ f ∈ fields, f.skipNone = true → ∀ j x, Json.lookup f.wire kvs = some j →
      deFieldWith pathD f j = .ok x → x.isUnit = j.isNull)
    (hdef : ∀ f ∈ fields, f.default = true → isOption f.ty = true)
    (v : Val) (h : deStructMapWith pathD flat fields kvs = .ok v) :
    ∃ vals, v = .record vals ∧ vals.map (·.1) = fields.map (·.rust) ∧
      serFieldsWith pathS fields vals = .ok (expectOut fcanon fields kvs) := by
  obtain ⟨vals, rfl, hall⟩ := (struct_value pathD flat fields kvs hp hk v).mp h
  refine ⟨vals, rfl, All2.map_fst (fun _ _ hab => hab.1) hall, ?_⟩
  exact ser_of_read pathD pathS fcanon kvs vals fields hp (find_of_all2 hall hr) hrt hunit hdef

theorem keys_filterMap_sub (h : RField → Option (String × Json)) (hk : ∀ f o, h f = some o → o.1 = f.wire) :
    ∀ (fields : List RField) (k : String), k ∈ (fields.filterMap h).map (·.1) → k ∈ fields.map (·.wire)
  | [], _, hk' => by simp at hk'
  | f :: fs, k, hk' => by
    simp only [List.filterMap_cons] at hk'
    cases hf : h f with
    | none =>
      simp only [hf] at hk'
      exact List.mem_cons_of_mem _ (keys_filterMap_sub h hk fs k hk')
    | some o =>
      simp only [hf, List.map_cons, List.mem_cons] at hk'
      rcases hk' with rfl | hk'
      · simp [hk f o hf]
      · exact List.mem_cons_of_mem _ (keys_filterMap_sub h hk fs k hk')

theorem lookup_filterMap_wire (h : RField → Option (String × Json)) (hk : ∀ f o, h f = some o → o.1 = f.wire) :
    ∀ (fields : List RField), (fields.map (·.wire)).Nodup → ∀ f ∈ fields,
      Json.lookup f.wire (fields.filterMap h) = (h f).map (·.2)
  | [], _, f, hf => by simp at hf
  | g :: gs, hnd, f, hf => by
    simp only [List.map_cons, List.nodup_cons] at hnd
    simp only [List.filterMap_cons]
    rcases List.mem_cons.mp hf with rfl | hf'
    · cases hg : h f with
      | none =>
        simp only [Option.map_none]
        exact lookup_none_of_not_mem (fun hmem => hnd.1 (keys_filterMap_sub h hk gs _ hmem))
      | some o =>
        obtain ⟨k, j⟩ := o
        have := hk f (k, j) hg
        simp only at this
        subst this
        simp [Json.lookup]
    · have hne : g.wire ≠ f.wire := fun heq => hnd.1 (heq ▸ List.mem_map_of_mem hf')
      have ih := lookup_filterMap_wire h hk gs hnd.2 f hf'
      cases hg : h g with
      | none => simpa using ih
      | some o =>
        obtain ⟨k, j⟩ := o
        have := hk g (k, j) hg
        simp only at this
        subst this
        have : (g.wire == f.wire) = false := by simpa using hne
        simp only [Json.lookup, this, Bool.false_eq_true, ↓reduceIte]
        exact ih

/-- **L2, round trip, per key** (wire names pairwise distinct): under each field's key the re-serialized
    object holds the canonical form of what the original held; an absent key comes back as `null`
    (or stays absent at a `skip_serializing_none` field, where also `null` becomes absent) -/
theorem struct_roundtrip_lookup (fcanon : RField → Json → Json) (fields : List RField)
    (kvs : List (String × Json)) (hw : (fields.map (·.wire)).Nodup) (f : RField) (hf : f ∈ fields) :
    Json.lookup f.wire (expectOut fcanon fields kvs) =
      (match Json.lookup f.wire kvs with
       | some j => if f.skipNone && j.isNull then none else some (fcanon f j)
       | none => if f.skipNone then none else some .null) := by
  unfold expectOut
  rw [lookup_filterMap_wire _ _ fields hw f hf]
  · cases Json.lookup f.wire kvs with
    | none => cases f.skipNone <;> rfl
    | some j => cases hs : f.skipNone <;> cases hn : j.isNull <;> simp [hn]
  · intro g o hg
    cases hl : Json.lookup g.wire kvs with
    | none =>
      simp only [hl] at hg
      cases hs : g.skipNone <;> simp [hs] at hg
      rw [← hg]
    | some j =>
      simp only [hl] at hg
      cases hs : (g.skipNone && j.isNull) <;> simp [hs] at hg
      rw [← hg]

/-- … and no other keys: every key of the re-serialized object is a field's wire name -/
theorem struct_roundtrip_keys (fcanon : RField → Json → Json) (fields : List RField)
    (kvs : List (String × Json)) (k : String) (hk : k ∈ (expectOut fcanon fields kvs).map (·.1)) :
    k ∈ fields.map (·.wire) := by
  unfold expectOut at hk
  refine keys_filterMap_sub _ ?_ fields k hk
  intro g o hg
  cases hl : Json.lookup g.wire kvs with
  | none =>
    simp only [hl] at hg
    cases hs : g.skipNone <;> simp [hs] at hg
    rw [← hg]
  | some j =>
    simp only [hl] at hg
    cases hs : (g.skipNone && j.isNull) <;> simp [hs] at hg
    rw [← hg]

/-- response structs carry no `skip_serializing_none`: one entry per field, nothing omitted -/
theorem expectOut_noskip (fcanon : RField → Json → Json) (kvs : List (String × Json)) :
    ∀ (fields : List RField), (∀ f ∈ fields, f.skipNone = false) →
      expectOut fcanon fields kvs =
        fields.map (fun f => (f.wire, match Json.lookup f.wire kvs with | some j => fcanon f j | none => .null))
  | [], _ => rfl
  | f :: fs, h => by
    have ih := expectOut_noskip fcanon kvs fs (fun g hg => h g (by simp [hg]))
    unfold expectOut at ih ⊢
    rw [List.filterMap_cons, List.map_cons, ih]
    have hs := h f (by simp)
    cases Json.lookup f.wire kvs <;> simp [hs]

/-! ### discharging `hunit` and `hrt` for the fields the generator emits -/

theorem deTy_unit_iff (path : String → Json → D Val) :
    ∀ (ty : RTy) (j : Json) (x : Val), isOption ty = true → deTyWith path ty j = .ok x → x.isUnit = j.isNull
  | .opt t, j, x, _, h => by
    rcases de_opt_ok path t j x h with ⟨hj, rfl⟩ | ⟨hj, y, _, rfl⟩
    · simp [hj, Val.isUnit]
    · simp [hj, Val.isUnit]
  | .box t, j, x, ho, h => deTy_unit_iff path t j x (by simpa [isOption] using ho) h
  | .vec _, _, _, ho, _ => by simp [isOption] at ho
  | .path _, _, _, ho, _ => by simp [isOption] at ho

theorem intOrString_not_unit (j : Json) (x : Val) (h : deIntOrString j = .ok x) :
    x.isUnit = false ∧ j.isNull = false := by
  obtain ⟨s, rfl, _⟩ := intOrString_canon j x h
  refine ⟨rfl, ?_⟩
  cases j <;> simp_all [Json.isNull, deIntOrString, bad]

theorem deNestedId_unit_iff : ∀ (ty : RTy) (j : Json) (x : Val), deNestedId ty j = .ok x → x.isUnit = j.isNull
  | .opt t, j, x, h => by
    rw [deNestedId_ok_iff] at h
    rcases de_opt_ok _ t j x h with ⟨hj, rfl⟩ | ⟨hj, y, _, rfl⟩
    · simp [hj, Val.isUnit]
    · simp [hj, Val.isUnit]
  | .box t, j, x, h => deNestedId_unit_iff t j x h
  | .vec t, j, x, h => by
    rw [deNestedId_ok_iff] at h
    obtain ⟨xs, vs, rfl, rfl, _⟩ := de_vec_ok _ t j x h
    rfl
  | .path _, j, x, h => by
    obtain ⟨h1, h2⟩ := intOrString_not_unit j x h
    rw [h1, h2]

/-- a field read through an ID helper, or of `Option` type, holds `None` exactly when it read `null` -/
theorem field_unit_iff (path : String → Json → D Val) (f : RField)
    (hf : f.deserWith.isSome = true ∨ isOption f.ty = true) (j : Json) (x : Val)
    (h : deFieldWith path f j = .ok x) : x.isUnit = j.isNull := by
  unfold deFieldWith at h
  cases hd : f.deserWith with
  | none =>
    simp only [hd] at h
    exact deTy_unit_iff path f.ty j x (by simpa [hd] using hf) h
  | some hname =>
    simp only [hd] at h
    unfold deHelper at h
    split at h
    · obtain ⟨h1, h2⟩ := intOrString_not_unit j x h; rw [h1, h2]
    · split at h
      · cases hn : j.isNull
        · simp only [hn, Bool.false_eq_true, ↓reduceIte, map_ok] at h
          obtain ⟨y, _, rfl⟩ := h; rfl
        · simp only [hn, ↓reduceIte, pure, Except.pure, Except.ok.injEq] at h
          subst h; rfl
      · split at h
        · exact deNestedId_unit_iff f.ty j x h
        · cases h

/-- `hrt` for a field without helper whose type is `rustOf base t`: L1 -/
theorem field_roundtrip_plain (pathD : String → Json → D Val) (pathS : String → Val → D Json)
    (f : RField) (base : String) (t : GTy) (leafCanon : Json → Json)
    (hd : f.deserWith = none) (hty : f.ty = rustOf (.path base) t) (hw : wf t = true)
    (hleaf : ∀ j v, pathD base j = .ok v → pathS base v = .ok (leafCanon j))
    (j : Json) (x : Val) (h : deFieldWith pathD f j = .ok x) :
    serTyWith pathS f.ty x = .ok (canon leafCanon t j) := by
  unfold deFieldWith at h
  simp only [hd, hty] at h
  rw [hty]
  exact (leaf_roundtrip pathD pathS base leafCanon hleaf t hw).2 j x h

/-- `hrt` for the ID field `renderField` emits for a position of type `t` -/
theorem field_roundtrip_id (pathD : String → Json → D Val) (pathS : String → Val → D Json)
    (hS : ∀ s, pathS "ID" (.str s) = .ok (.str s))
    (f : RField) (t : GTy) (hd : f.deserWith = some (C16.idHelperFor t))
    (hty : f.ty = rustOf (.path "ID") t) (hw : wf t = true)
    (j : Json) (x : Val) (h : deFieldWith pathD f j = .ok x) :
    serTyWith pathS f.ty x = .ok (canon idCanon t j) := by
  unfold deFieldWith at h
  simp only [hd, hty] at h
  rw [hty]
  exact id_field_roundtrip pathS hS t hw j x h

/-! ### the same at the level of `dePath` / `serPath` (one more unit of fuel per named type) -/

def notPrim (p : String) : Prop := p ≠ "String" ∧ p ≠ "i64" ∧ p ≠ "f64" ∧ p ≠ "bool"

instance (p : String) : Decidable (notPrim p) := by unfold notPrim; infer_instance

theorem dePrim_none {p : String} (hp : notPrim p) (j : Json) : dePrim p j = none := by
  simp [dePrim, hp.1, hp.2.1, hp.2.2.1, hp.2.2.2]

theorem dePath_struct (e : Env) (b : Bool) (fd : Nat) (p n : String) (d : List String) (c : Option String)
    (fields : List RField) (hp : notPrim p) (he : e.find p = some (.struct n d c fields)) (j : Json) :
    dePath e b (fd + 1) p j = deStructWith (dePath e b fd) (deFlat e fd) fields j := by
  unfold dePath; simp only [dePrim_none hp, he]

theorem serPath_struct (e : Env) (fs : Nat) (p n : String) (d : List String) (c : Option String)
    (fields : List RField) (he : e.find p = some (.struct n d c fields)) (vals : List (String × Val)) :
    serPath e (fs + 1) p (.record vals) = Json.obj <$> serFieldsWith (serPath e fs) fields vals := by
  unfold serPath; simp only [serPrim, he]

/-- **L2 for a struct item of a module**: `to_value (from_value (.obj kvs)) = .obj (expectOut …)` -/
theorem struct_roundtrip_path (e : Env) (b : Bool) (fd fs : Nat) (p n : String) (d : List String)
    (c : Option String) (fields : List RField) (fcanon : RField → Json → Json) (kvs : List (String × Json))
    (hp : notPrim p) (he : e.find p = some (.struct n d c fields))
    (hpl : plain fields = true) (hr : (fields.map (·.rust)).Nodup) (hk : (kvs.map (·.1)).Nodup)
    (hrt : ∀ f ∈ fields, ∀ j x, Json.lookup f.wire kvs = some j → deFieldWith (dePath e b fd) f j = .ok x →
      serTyWith (serPath e fs) f.ty x = .ok (fcanon f j))
    (hunit : ∀ f ∈ fields, f.skipNone = true → ∀ j x, Json.lookup f.wire kvs = some j →
      deFieldWith (dePath e b fd) f j = .ok x → x.isUnit = j.isNull)
    (hdef : ∀ f ∈ fields, f.default = true → isOption f.ty = true)
    (v : Val) (h : dePath e b (fd + 1) p (.obj kvs) = .ok v) :
    serPath e (fs + 1) p v = .ok (.obj (expectOut fcanon fields kvs)) := by
  rw [dePath_struct e b fd p n d c fields hp he, deStruct_obj] at h
  obtain ⟨vals, rfl, _, hser⟩ := struct_roundtrip (dePath e b fd) (serPath e fs) (deFlat e fd) fcanon fields kvs
    hpl hr hk hrt hunit hdef v h
  rw [serPath_struct e fs p n d c fields he, hser]; rfl

/-- an object without duplicate keys whose entries satisfy `P` (`P`: whatever the fields' own round
    trips need of the values under their keys — e.g. again `accepts (objOk …)` one level down) -/
def objOk (P : List (String × Json) → Bool) : Json → Bool
  | .obj kvs => EnumSpec.nodup (kvs.map (·.1)) && P kvs
  | _ => false

/-- the allowed difference at an object position whose selection is read by the struct `fields` -/
def structCanon (fcanon : RField → Json → Json) (fields : List RField) : Json → Json
  | .obj kvs => .obj (expectOut fcanon fields kvs)
  | j => j

/-- **layers 1 + 2 composed (nested objects, lists of objects)**: a position of type `t` (any list
    depth / nullability) whose named type is a plain struct item: the round trip is `structCanon`
    applied at every object of the value, `null`s and list structure unchanged.  `hrt` is again the
    statement one level down, so this theorem feeds itself along a selection tree. -/
theorem struct_position_roundtrip (e : Env) (b : Bool) (fd fs : Nat) (p n : String) (d : List String)
    (c : Option String) (fields : List RField) (fcanon : RField → Json → Json)
    (P : List (String × Json) → Bool)
    (hp : notPrim p) (he : e.find p = some (.struct n d c fields))
    (hpl : plain fields = true) (hr : (fields.map (·.rust)).Nodup)
    (hrt : ∀ kvs, P kvs = true → ∀ f ∈ fields, ∀ j x, Json.lookup f.wire kvs = some j →
      deFieldWith (dePath e b fd) f j = .ok x → serTyWith (serPath e fs) f.ty x = .ok (fcanon f j))
    (hunit : ∀ kvs, P kvs = true → ∀ f ∈ fields, f.skipNone = true → ∀ j x, Json.lookup f.wire kvs = some j →
      deFieldWith (dePath e b fd) f j = .ok x → x.isUnit = j.isNull)
    (hdef : ∀ f ∈ fields, f.default = true → isOption f.ty = true)
    (t : GTy) (hw : wf t = true) (j : Json) (hj : accepts (objOk P) t j = true) (v : Val)
    (h : deTy e b (fd + 1) (rustOf (.path p) t) j = .ok v) :
    serTy e (fs + 1) (rustOf (.path p) t) v = .ok (canon (structCanon fcanon fields) t j) := by
  refine (leaf_roundtrip_on (dePath e b (fd + 1)) (serPath e (fs + 1)) p (objOk P) (structCanon fcanon fields) ?_ t hw).2 j v hj h
  intro j v hok hv
  cases j with
  | obj kvs =>
    simp only [objOk, Bool.and_eq_true] at hok
    exact struct_roundtrip_path e b fd fs p n d c fields fcanon kvs hp he hpl hr
      (nodup_iff'.mp hok.1) (hrt kvs hok.2) (hunit kvs hok.2) hdef v hv
  | null => simp [objOk] at hok
  | bool _ => simp [objOk] at hok
  | int _ => simp [objOk] at hok
  | num _ => simp [objOk] at hok
  | str _ => simp [objOk] at hok
  | arr _ => simp [objOk] at hok

/-! ## L5, continued: the writer at `@oneOf`, and conformance of what is written -/

/-- **`@oneOf`**: a value of a `@oneOf` input type serializes to an object with exactly one key, the
    wire name of its variant, holding the serialization of the payload -/
theorem oneof_single_key (e : Env) (fuel : Nat) (p n : String) (d : List String) (c : Option String)
    (vs : List RVariant) (name : String) (payload : Option Val) (j : Json)
    (he : e.find p = some (.oneOf n d c vs))
    (h : serPath e (fuel + 1) p (.variant name payload) = .ok j) :
    ∃ var t pv jv, payload = some pv ∧ vs.find? (·.name == name) = some var ∧ var.payload = some t ∧
      serTyWith (serPath e fuel) t pv = .ok jv ∧ j = .obj [(var.wire, jv)] := by
  unfold serPath at h
  simp only [serPrim, he] at h
  cases payload with
  | none => cases h
  | some pv =>
    simp only at h
    cases hf : vs.find? (·.name == name) with
    | none => simp [hf, unmodelled] at h
    | some var =>
      simp only [hf] at h
      cases hpl : var.payload with
      | none => simp [hpl, unmodelled] at h
      | some t =>
        simp only [hpl] at h
        cases hs : serTyWith (serPath e fuel) t pv with
        | error err => simp [hs, bind, Except.bind] at h
        | ok jv =>
          simp only [hs, bind, Except.bind, pure, Except.pure, Except.ok.injEq] at h
          exact ⟨var, t, pv, jv, rfl, rfl, hpl, hs, h.symm⟩

/-- … so its key list is the singleton of the variant's wire name -/
theorem oneof_keys (e : Env) (fuel : Nat) (p n : String) (d : List String) (c : Option String)
    (vs : List RVariant) (name : String) (payload : Option Val) (j : Json)
    (he : e.find p = some (.oneOf n d c vs))
    (h : serPath e (fuel + 1) p (.variant name payload) = .ok j) :
    ∃ var, vs.find? (·.name == name) = some var ∧ (entriesOf j).map (·.map (·.1)) = some [var.wire] := by
  obtain ⟨var, t, pv, jv, _, hf, _, _, rfl⟩ := oneof_single_key e fuel p n d c vs name payload j he h
  exact ⟨var, hf, rfl⟩

theorem ser_opt_ok (path : String → Val → D Json) (t : RTy) (v : Val) (j : Json)
    (h : serTyWith path (.opt t) v = .ok j) :
    (v = .unit ∧ j = .null) ∨ ∃ x, v = .some x ∧ serTyWith path t x = .ok j := by
  cases v with
  | unit => left; simp only [serTyWith, pure, Except.pure, Except.ok.injEq] at h; exact ⟨rfl, h.symm⟩
  | some x => right; exact ⟨x, rfl, h⟩
  | str _ => cases h
  | int _ => cases h
  | float _ => cases h
  | bool _ => cases h
  | list _ => cases h
  | record _ => cases h
  | variant _ _ => cases h
  | enumOther _ => cases h

theorem ser_vec_ok (path : String → Val → D Json) (t : RTy) (v : Val) (j : Json)
    (h : serTyWith path (.vec t) v = .ok j) :
    ∃ vs js, v = .list vs ∧ j = .arr js ∧ All2 (fun x y => serTyWith path t x = .ok y) vs js := by
  cases v with
  | list vs =>
    rw [show serTyWith path (RTy.vec t) (.list vs) = Json.arr <$> vs.mapM (serTyWith path t) from rfl, map_ok] at h
    obtain ⟨js, hjs, rfl⟩ := h
    exact ⟨vs, js, rfl, rfl, (mapM_ok_forall₂ _ _ _).mp hjs⟩
  | unit => cases h
  | some _ => cases h
  | str _ => cases h
  | int _ => cases h
  | float _ => cases h
  | bool _ => cases h
  | record _ => cases h
  | variant _ _ => cases h
  | enumOther _ => cases h

theorem All2.all_right {α β} {R : α → β → Prop} {q : β → Bool} (h : ∀ a b, R a b → q b = true) :
    ∀ {xs ys}, All2 R xs ys → ys.all q = true
  | _, _, .nil => rfl
  | _, _, .cons hab rest => by simp [List.all_cons, h _ _ hab, All2.all_right h rest]

/-- **what is written conforms to the declared type** (C04): if the leaf type only ever writes values
    of the leaf kind, then a value of type `rustOf base t` is written as JSON that `t` allows — in
    particular a non-null position is never written as `null`, at any depth. -/
theorem ser_conforms (pathS : String → Val → D Json) (base : String) (leafOk : Json → Bool)
    (hleaf : ∀ v j, pathS base v = .ok j → leafOk j = true) :
    ∀ t : GTy, wf t = true →
      (∀ v j, serTyWith pathS (rustOfNN (.path base) t) v = .ok j → acceptsNN leafOk t j = true) ∧
      (∀ v j, serTyWith pathS (rustOf (.path base) t) v = .ok j → accepts leafOk t j = true) := by
  intro t
  have lift : ∀ (r : RTy) (A : Json → Bool),
      (∀ v j, serTyWith pathS r v = .ok j → A j = true) →
      ∀ v j, serTyWith pathS (.opt r) v = .ok j → (j.isNull || A j) = true := by
    intro r A hnn v j h
    rcases ser_opt_ok pathS r v j h with ⟨_, rfl⟩ | ⟨x, _, hx⟩
    · rfl
    · simp [hnn x j hx]
  induction t with
  | named n =>
    intro _
    have hnn : ∀ v j, serTyWith pathS (rustOfNN (.path base) (.named n)) v = .ok j →
        acceptsNN leafOk (.named n) j = true := by
      intro v j h
      simp only [rustOfNN, serTyWith, acceptsNN] at h ⊢
      exact hleaf v j h
    exact ⟨hnn, fun v j h => by simp only [rustOf, accepts] at h ⊢; exact lift _ _ hnn v j h⟩
  | list t ih =>
    intro hw
    obtain ⟨_, ih2⟩ := ih (by simpa [wf] using hw)
    have hnn : ∀ v j, serTyWith pathS (rustOfNN (.path base) (.list t)) v = .ok j →
        acceptsNN leafOk (.list t) j = true := by
      intro v j h
      simp only [rustOfNN] at h
      obtain ⟨vs, js, rfl, rfl, hall⟩ := ser_vec_ok pathS _ v j h
      simp only [acceptsNN]
      exact All2.all_right (fun a b hab => ih2 a b hab) hall
    exact ⟨hnn, fun v j h => by simp only [rustOf, accepts] at h ⊢; exact lift _ _ hnn v j h⟩
  | nonNull t ih =>
    intro hw
    obtain ⟨ih1, _⟩ := ih (wf_of_nonNull hw)
    exact ⟨fun v j h => by simp only [rustOfNN, acceptsNN] at h ⊢; exact ih1 v j h,
           fun v j h => by simp only [rustOf, accepts] at h ⊢; exact ih1 v j h⟩

/-! ## L3 — internally tagged enums (`__typename` dispatch) -/

theorem find_of_nodup_key {α} (key : α → String) (q : α → Bool) :
    ∀ (xs : List α), (xs.map key).Nodup → ∀ v ∈ xs, q v = true →
      xs.find? (fun x => q x && key x == key v) = some v
  | [], _, v, hv, _ => by simp at hv
  | a :: as, hnd, v, hv, hq => by
    simp only [List.map_cons, List.nodup_cons] at hnd
    rcases List.mem_cons.mp hv with rfl | hv'
    · simp [hq]
    · have hne : key a ≠ key v := fun heq => hnd.1 (by rw [heq]; exact List.mem_map_of_mem hv')
      have : (q a && key a == key v) = false := by simp [hne]
      rw [List.find?_cons, this]
      exact find_of_nodup_key key q as hnd.2 v hv' hq

theorem find_variant_wire {vs : List RVariant} (hw : (vs.map (·.wire)).Nodup) {v : RVariant} (hv : v ∈ vs)
    (hno : v.other = false) : vs.find? (fun x => !x.other && x.wire == v.wire) = some v :=
  find_of_nodup_key (·.wire) (fun x => !x.other) vs hw v hv (by simp [hno])

theorem find_variant_name {vs : List RVariant} (hn : (vs.map (·.name)).Nodup) {v : RVariant} (hv : v ∈ vs) :
    vs.find? (·.name == v.name) = some v := by
  have := find_of_nodup_key (·.name) (fun _ => true) vs hn v hv rfl
  simpa using this

theorem dePath_tagged (e : Env) (b : Bool) (fd : Nat) (p n : String) (d : List String) (c : Option String)
    (tag : String) (vs : List RVariant) (hp : notPrim p) (he : e.find p = some (.tagged n d c tag vs))
    (kvs : List (String × Json)) :
    dePath e b (fd + 1) p (.obj kvs) = deTaggedWith (dePath e true fd) b tag vs kvs := by
  unfold dePath; simp only [dePrim_none hp, he]

/-- reading: with pairwise distinct variant wire names, exactly one tag entry, naming variant `v`,
    selects `v`; a unit variant accepts whatever else is there, a newtype variant reads its payload
    from **the other entries** (`rest`) -/
theorem tagged_read (pathB : String → Json → D Val) (buffered : Bool) (tag : String)
    (vs : List RVariant) (kvs : List (String × Json)) (v : RVariant)
    (hw : (vs.map (·.wire)).Nodup) (hv : v ∈ vs) (hno : v.other = false)
    (hcount : countKey tag kvs = 1) (htag : Json.lookup tag kvs = some (.str v.wire)) :
    deTaggedWith pathB buffered tag vs kvs =
      (match v.payload with
       | none => .ok (.variant v.name none)
       | some t => (fun x => Val.variant v.name (some x)) <$> deTyWith pathB t (.obj (kvs.filter (·.1 != tag)))) := by
  unfold deTaggedWith
  simp only [hcount, htag, find_variant_wire hw hv hno, hno, Bool.false_eq_true, ↓reduceIte]
  cases v.payload <;> rfl

/-- writing a unit variant: only the tag entry -/
theorem tagged_write_unit (e : Env) (fs : Nat) (p n : String) (d : List String) (c : Option String)
    (tag : String) (vs : List RVariant) (v : RVariant)
    (he : e.find p = some (.tagged n d c tag vs)) (hn : (vs.map (·.name)).Nodup) (hv : v ∈ vs) :
    serPath e (fs + 1) p (.variant v.name none) = .ok (.obj [(tag, .str v.wire)]) := by
  unfold serPath
  simp only [serPrim, he, find_variant_name hn hv, pure, Except.pure]

/-- writing a newtype variant: the tag entry followed by the payload's entries -/
theorem tagged_write_newtype (e : Env) (fs : Nat) (p n : String) (d : List String) (c : Option String)
    (tag : String) (vs : List RVariant) (v : RVariant) (t : RTy) (x : Val) (out : List (String × Json))
    (he : e.find p = some (.tagged n d c tag vs)) (hn : (vs.map (·.name)).Nodup) (hv : v ∈ vs)
    (hpl : v.payload = some t) (hser : serTyWith (serPath e fs) t x = .ok (.obj out)) :
    serPath e (fs + 1) p (.variant v.name (some x)) = .ok (.obj ((tag, .str v.wire) :: out)) := by
  unfold serPath
  simp only [serPrim, he, find_variant_name hn hv, hpl, hser, bind, Except.bind, entriesOf, pure, Except.pure]

/-- **L3.** An internally tagged enum with pairwise distinct variant names (Rust and wire), read from
    entries with exactly one tag entry naming the non-`other` variant `v`:
    * it is accepted iff `v` is a unit variant or `v`'s payload type accepts the other entries;
    * the value is `.variant v.name _`;
    * serializing it gives the tag entry `(tag, v.wire)` followed by the payload's entries (nothing
      for a unit variant) — `pcanon rest` is whatever the payload's own round trip yields (`hpay`, e.g.
      `struct_roundtrip_path` for the variant struct);
    * hence `lookup tag` of the result is the original tag. -/
theorem tagged_roundtrip (e : Env) (fd fs : Nat) (buffered : Bool) (p n : String) (d : List String)
    (c : Option String) (tag : String) (vs : List RVariant) (kvs : List (String × Json)) (v : RVariant)
    (pcanon : List (String × Json) → List (String × Json))
    (he : e.find p = some (.tagged n d c tag vs))
    (hw : (vs.map (·.wire)).Nodup) (hn : (vs.map (·.name)).Nodup) (hv : v ∈ vs) (hno : v.other = false)
    (hcount : countKey tag kvs = 1) (htag : Json.lookup tag kvs = some (.str v.wire))
    (hpay : ∀ t, v.payload = some t → ∀ x, deTyWith (dePath e true fd) t (.obj (kvs.filter (·.1 != tag))) = .ok x →
      serTyWith (serPath e fs) t x = .ok (.obj (pcanon (kvs.filter (·.1 != tag))))) :
    okB (deTaggedWith (dePath e true fd) buffered tag vs kvs) =
      (match v.payload with
       | none => true
       | some t => okB (deTyWith (dePath e true fd) t (.obj (kvs.filter (·.1 != tag))))) ∧
    ∀ r, deTaggedWith (dePath e true fd) buffered tag vs kvs = .ok r →
      (∃ payload, r = .variant v.name payload) ∧
      ∃ out, serPath e (fs + 1) p r = .ok (.obj out) ∧
        out = (tag, .str v.wire) :: (if v.payload.isSome then pcanon (kvs.filter (·.1 != tag)) else []) ∧
        Json.lookup tag out = some (.str v.wire) := by
  rw [tagged_read (dePath e true fd) buffered tag vs kvs v hw hv hno hcount htag]
  cases hpl : v.payload with
  | none =>
    refine ⟨rfl, ?_⟩
    intro r hr
    simp only [Except.ok.injEq] at hr
    subst hr
    exact ⟨⟨none, rfl⟩, _, tagged_write_unit e fs p n d c tag vs v he hn hv, by simp, by simp [Json.lookup]⟩
  | some t =>
    refine ⟨by simp only [okB_map], ?_⟩
    intro r hr
    simp only [map_ok] at hr
    obtain ⟨x, hx, rfl⟩ := hr
    refine ⟨⟨some x, rfl⟩, _, tagged_write_newtype e fs p n d c tag vs v t x _ he hn hv hpl (hpay t hpl x hx),
      by simp, by simp [Json.lookup]⟩

/-- the payload never sees the tag: the entries handed to a newtype variant do not contain the tag key,
    and contain every other entry, in order -/
theorem tagged_rest (tag : String) (kvs : List (String × Json)) :
    tag ∉ (kvs.filter (·.1 != tag)).map (·.1) ∧
    ∀ k, k ≠ tag → Json.lookup k (kvs.filter (·.1 != tag)) = Json.lookup k kvs := by
  constructor
  · simp [List.mem_map, List.mem_filter]
  · intro k hk
    exact lookup_filter (fun kv => kv.1 != tag) k (by intro v; simpa using hk) kvs

/-! ## the key-overlap finding, as theorems about the model

`animal { __typename name ... on Dog { name barks } }`: the struct has the own field `name` and the
flattened `on: QAnimalOn`; the variant struct `QAnimalOnDog` selects `name` again.  serde's own-key
loop consumes `name` before the flattened member sees the buffer. -/

def overlapEnv : Env :=
  { items := [
      .struct "QAnimal" [] none
        [{ rust := "name", ty := .path "String" }, { rust := "on", ty := .path "QAnimalOn", flatten := true }],
      .tagged "QAnimalOn" [] none "__typename"
        [{ name := "Dog", payload := some (.path "QAnimalOnDog") }, { name := "Cat" }],
      .struct "QAnimalOnDog" [] none
        [{ rust := "name", ty := .path "String" }, { rust := "barks", ty := .path "bool" }] ] }

/-- the same with a *nullable* `name` in the variant -/
def overlapEnvOpt : Env :=
  { items := [
      .struct "QAnimal" [] none
        [{ rust := "name", ty := .path "String" }, { rust := "on", ty := .path "QAnimalOn", flatten := true }],
      .tagged "QAnimalOn" [] none "__typename"
        [{ name := "Dog", payload := some (.path "QAnimalOnDog") }, { name := "Cat" }],
      .struct "QAnimalOnDog" [] none
        [{ rust := "name", ty := .opt (.path "String") }, { rust := "barks", ty := .path "bool" }] ] }

/-- control: the variant does not select `name` (readers' key sets disjoint) -/
def disjointEnv : Env :=
  { items := [
      .struct "QAnimal" [] none
        [{ rust := "name", ty := .path "String" }, { rust := "on", ty := .path "QAnimalOn", flatten := true }],
      .tagged "QAnimalOn" [] none "__typename"
        [{ name := "Dog", payload := some (.path "QAnimalOnDog") }, { name := "Cat" }],
      .struct "QAnimalOnDog" [] none [{ rust := "barks", ty := .path "bool" }] ] }

/-- a conforming response object for that selection -/
def overlapJson : Json := .obj [("__typename", .str "Dog"), ("name", .str "Rex"), ("barks", .bool true)]

/-- **key overlap loses the key** (known finding; witness as a theorem about the model): the
    conforming object is *rejected*, with `missing field name`, because the own field consumed `name` -/
theorem overlap_loses_key :
    Serde.de overlapEnv (.path "QAnimal") overlapJson = .error (.mismatch "missing field name") := by
  rfl

/-- with a nullable field in the variant the loss is **silent**: the object is accepted, the variant's
    `name` reads as `None`, and `to_value (from_value j)` carries `"name": null` instead of `"Rex"`
    (the two `name` entries collapse in `serde_json::Map`, the last one wins) -/
theorem overlap_loses_key_silently :
    Serde.de overlapEnvOpt (.path "QAnimal") overlapJson = .ok (.record
      [("name", .str "Rex"), ("on", .variant "Dog" (some (.record [("name", .unit), ("barks", .bool true)])))]) ∧
    Serde.roundtrip overlapEnvOpt (.path "QAnimal") overlapJson =
      .ok (.obj [("name", .null), ("__typename", .str "Dog"), ("barks", .bool true)]) := by
  constructor <;> rfl

/-- control: with disjoint key sets the same object round-trips to itself up to key order -/
theorem disjoint_control :
    Serde.roundtrip disjointEnv (.path "QAnimal") overlapJson =
      .ok (.obj [("name", .str "Rex"), ("__typename", .str "Dog"), ("barks", .bool true)]) := by
  rfl

/-! ## L4 — flattened members

A flattened member is read from the buffer of entries the own fields left.  Whatever its type, it is shown the entries
still present, reads `rd g` of them, and the entries with a key in `keys g` are gone afterwards (`ReadsAs`): a plain
struct takes the entries with its own keys and reads those; a tagged enum, or a struct with flattened members of its
own, sees every entry and takes none.  `memberVals` is the field loop over members so described, and
`deStructMapWith` is one equation (`deStructMap_members`).  That every member reads what it would read of the whole
object (`memberVals_whole`) needs the key sets to be disjoint; `Nodup` of the keys read (`readKeys`) gives that. -/

theorem present_map_some (l : List (String × Json)) : present (l.map some) = l :=
  SerdeFuel.present_map_some l

/-- `takeKeys` takes exactly the present entries whose key is recognised, in order -/
theorem takeKeys_fst (keys : List String) :
    ∀ buf : Buf, (takeKeys keys buf).1 = (present buf).filter (fun kv => keys.contains kv.1)
  | [] => rfl
  | none :: rest => by
    have ih := takeKeys_fst keys rest
    simp only [takeKeys, present, List.filterMap_cons, id] at ih ⊢
    exact ih
  | some (k, v) :: rest => by
    have ih := takeKeys_fst keys rest
    simp only [takeKeys, present, List.filterMap_cons, id, List.filter_cons] at ih ⊢
    cases hk : keys.contains k <;> simp [ih]

theorem takeKeys_snd (keys : List String) :
    ∀ buf : Buf, present (takeKeys keys buf).2 = (present buf).filter (fun kv => !keys.contains kv.1)
  | [] => rfl
  | none :: rest => by
    have ih := takeKeys_snd keys rest
    simp only [takeKeys, present, List.filterMap_cons, id] at ih ⊢
    exact ih
  | some (k, v) :: rest => by
    have ih := takeKeys_snd keys rest
    simp only [takeKeys, present, List.filterMap_cons, id, List.filter_cons] at ih ⊢
    cases hk : keys.contains k <;> simp [ih]

theorem filter_filter_disjoint (kvs : List (String × Json)) (K G : List String) (h : ∀ k ∈ G, k ∉ K) :
    (kvs.filter (fun kv => !K.contains kv.1)).filter (fun kv => G.contains kv.1) =
      kvs.filter (fun kv => G.contains kv.1) := by
  rw [List.filter_filter]
  apply List.filter_congr
  intro kv _
  cases hg : G.contains kv.1
  · rfl
  · have : kv.1 ∉ K := h _ (by simpa using hg)
    simp [this]

theorem filter_not_append (kvs : List (String × Json)) (L W : List String) :
    (kvs.filter (fun kv => !L.contains kv.1)).filter (fun kv => !W.contains kv.1) =
      kvs.filter (fun kv => !(L ++ W).contains kv.1) := by
  rw [List.filter_filter]
  apply List.filter_congr
  intro kv _
  simp [Bool.and_comm]

theorem filter_not_nil (kvs : List (String × Json)) :
    kvs.filter (fun kv => !([] : List String).contains kv.1) = kvs := by
  rw [List.filter_eq_self]; intro kv _; simp

theorem deFlat_plain_struct (e : Env) (fuel : Nat) (q n : String) (d : List String) (c : Option String)
    (gfields : List RField) (buf : Buf) (he : e.find q = some (.struct n d c gfields))
    (hgp : plain gfields = true) :
    deFlat e (fuel + 1) (.path q) buf =
      (do let own ← deOwnWith (dePath e true fuel) gfields (takeKeys (gfields.map (·.wire)) buf).1
          pure (.record own, (takeKeys (gfields.map (·.wire)) buf).2)) := by
  unfold deFlat
  simp only [he, any_flatten_of_plain hgp, Bool.false_eq_true, ↓reduceIte]

/-- the own-field loop skips the flattened members -/
theorem deOwn_filter_flatten (path : String → Json → D Val) (kvs : List (String × Json)) :
    ∀ (fs : List RField), deOwnWith path fs kvs = deOwnWith path (fs.filter (fun f => !f.flatten)) kvs
  | [] => rfl
  | f :: fs => by
    have ih := deOwn_filter_flatten path kvs fs
    cases hf : f.flatten
    · simp only [List.filter_cons, hf, Bool.not_false, ↓reduceIte, deOwnWith, ih]
    · simp only [List.filter_cons, hf, Bool.not_true, Bool.false_eq_true, ↓reduceIte, deOwnWith, ← ih]
      cases deOwnWith path fs kvs <;> rfl

theorem deOwn_skip (path : String → Json → D Val) (g : RField) (post : List RField)
    (kvs : List (String × Json)) (hg : g.flatten = true) :
    ∀ (pre : List RField), deOwnWith path (pre ++ g :: post) kvs = deOwnWith path (pre ++ post) kvs := fun pre => by
  rw [deOwn_filter_flatten path kvs (pre ++ g :: post), deOwn_filter_flatten path kvs (pre ++ post)]
  simp [List.filter_append, hg]

def ReadsAs (flat : RTy → Buf → D (Val × Buf)) (keys : RField → List String)
    (rd : RField → List (String × Json) → D Val) (g : RField) : Prop :=
  ∀ buf, ∃ buf', flat g.ty buf = (do let v ← rd g (present buf); pure (v, buf')) ∧
    present buf' = (present buf).filter (fun kv => !(keys g).contains kv.1)

/-- the flattened members of `fs`, in declaration order, each read from what the earlier ones left of `rest` -/
def memberVals (keys : RField → List String) (rd : RField → List (String × Json) → D Val) :
    List RField → List (String × Json) → D (List (String × Val))
  | [], _ => pure []
  | g :: fs, rest =>
    if !g.flatten then memberVals keys rd fs rest else do
      let v ← rd g rest
      let r ← memberVals keys rd fs (rest.filter (fun kv => !(keys g).contains kv.1))
      pure ((g.rust, v) :: r)

/-- the flattened members of `fs`, each read independently of the others -/
def wholeVals (v : RField → D Val) : List RField → D (List (String × Val))
  | [] => pure []
  | g :: fs =>
    if !g.flatten then wholeVals v fs else do
      let x ← v g
      let r ← wholeVals v fs
      pure ((g.rust, x) :: r)

theorem deFlats_members (flat : RTy → Buf → D (Val × Buf)) (keys : RField → List String)
    (rd : RField → List (String × Json) → D Val) : ∀ (fs : List RField) (buf : Buf),
    (∀ g ∈ fs, g.flatten = true → ReadsAs flat keys rd g) →
    deFlatsWith flat fs buf = memberVals keys rd fs (present buf)
  | [], _, _ => rfl
  | g :: fs, buf, hok => by
    have hok' : ∀ g' ∈ fs, g'.flatten = true → ReadsAs flat keys rd g' :=
      fun g' h' => hok g' (List.mem_cons_of_mem _ h')
    cases hg : g.flatten
    · simp only [deFlatsWith, memberVals, hg, Bool.not_false, ↓reduceIte]
      exact deFlats_members flat keys rd fs buf hok'
    · obtain ⟨buf', h1, h2⟩ := hok g (by simp) hg buf
      simp only [deFlatsWith, memberVals, hg, Bool.not_true, Bool.false_eq_true, ↓reduceIte, h1]
      cases rd g (present buf) with
      | error err => rfl
      | ok v =>
        simp only [bind, Except.bind, pure, Except.pure]
        rw [deFlats_members flat keys rd fs buf' hok', h2]

/-- **the reader of a struct with flattened members, as one equation**: the own fields from `kvs`, the members from the
    entries the own fields left -/
theorem deStructMap_members (flat : RTy → Buf → D (Val × Buf)) (keys : RField → List String)
    (rd : RField → List (String × Json) → D Val) (pathD : String → Json → D Val) (fields : List RField)
    (kvs : List (String × Json)) (hany : fields.any (·.flatten) = true)
    (hok : ∀ g ∈ fields, g.flatten = true → ReadsAs flat keys rd g) :
    deStructMapWith pathD flat fields kvs =
      (do let own ← deOwnWith pathD (fields.filter (fun f => !f.flatten)) kvs
          let fl ← memberVals keys rd fields
            (kvs.filter (fun kv => !((fields.filter (fun f => !f.flatten)).map (·.wire)).contains kv.1))
          pure (.record (fields.filterMap fun f => (own ++ fl).find? (·.1 == f.rust)))) := by
  unfold deStructMapWith
  simp only [hany, ↓reduceIte]
  rw [deOwn_filter_flatten pathD kvs fields, deFlats_members flat keys rd fields _ hok, present_map_some]

theorem memberVals_nil_keys (rd : RField → List (String × Json) → D Val) (rest : List (String × Json)) :
    ∀ (fs : List RField), memberVals (fun _ => []) rd fs rest = wholeVals (fun g => rd g rest) fs
  | [] => rfl
  | g :: fs => by simp only [memberVals, wholeVals, filter_not_nil, memberVals_nil_keys rd rest fs]

theorem okB_wholeVals (v : RField → D Val) : ∀ (fs : List RField),
    okB (wholeVals v fs) = (fs.filter (·.flatten)).all (fun g => okB (v g))
  | [] => rfl
  | g :: fs => by
    have ih := okB_wholeVals v fs
    cases hg : g.flatten
    · simp only [wholeVals, hg, Bool.not_false, ↓reduceIte, List.filter_cons, Bool.false_eq_true]
      exact ih
    · simp only [wholeVals, hg, Bool.not_true, Bool.false_eq_true, ↓reduceIte, List.filter_cons, List.all_cons, ← ih]
      cases v g <;> cases wholeVals v fs <;> rfl

/-- a struct whose only flattened member is `g` -/
theorem memberVals_one (keys : RField → List String) (rd : RField → List (String × Json) → D Val)
    (g : RField) (post : List RField) (hg : g.flatten = true) (hpost : plain post = true)
    (rest : List (String × Json)) : ∀ (pre : List RField), plain pre = true →
    memberVals keys rd (pre ++ g :: post) rest = (do let v ← rd g rest; pure [(g.rust, v)])
  | [], _ => by
    have hp : ∀ (post : List RField) (r : List (String × Json)), plain post = true →
        memberVals keys rd post r = pure [] := by
      intro post
      induction post with
      | nil => intro _ _; rfl
      | cons f fs ih =>
        intro r h
        obtain ⟨hf, h'⟩ := plain_cons h
        simp only [memberVals, hf, Bool.not_false, ↓reduceIte]
        exact ih r h'
    simp only [List.nil_append, memberVals, hg, Bool.not_true, Bool.false_eq_true, ↓reduceIte, hp post _ hpost]
    cases rd g rest <;> rfl
  | f :: pre, h => by
    obtain ⟨hf, h'⟩ := plain_cons h
    simp only [List.cons_append, memberVals, hf, Bool.not_false, ↓reduceIte]
    exact memberVals_one keys rd g post hg hpost rest pre h'

/-- in `pre ++ g :: post` with `pre`, `post` plain, `g` is the flattened member -/
theorem eq_of_flatten_mid {pre post : List RField} {g g' : RField} (hpre : plain pre = true)
    (hpost : plain post = true) (hg' : g' ∈ pre ++ g :: post) (hf : g'.flatten = true) : g' = g := by
  rcases List.mem_append.mp hg' with h | h
  · rw [not_flatten_of_plain hpre h] at hf; cases hf
  · rcases List.mem_cons.mp h with h | h
    · exact h
    · rw [not_flatten_of_plain hpost h] at hf; cases hf

/-! ### the keys a struct reads -/

/-- the keys one field takes of the object: its own wire name, or — a flattened member — the keys `keys f` -/
def readKeys (keys : RField → List String) (f : RField) : List String := if f.flatten then keys f else [f.wire]

theorem mem_readKeys_member {keys : RField → List String} {fs : List RField} {g : RField} (hg : g ∈ fs)
    (hfl : g.flatten = true) {k : String} (hk : k ∈ keys g) : k ∈ fs.flatMap (readKeys keys) :=
  List.mem_flatMap.mpr ⟨g, hg, by rw [readKeys, if_pos hfl]; exact hk⟩

theorem mem_readKeys_own {keys : RField → List String} {fs : List RField} {f : RField} (hf : f ∈ fs)
    (hfl : f.flatten = false) : f.wire ∈ fs.flatMap (readKeys keys) :=
  List.mem_flatMap.mpr ⟨f, hf, by simp [readKeys, hfl]⟩

theorem readKeys_plain (keys : RField → List String) {fs : List RField} (h : plain fs = true) :
    fs.flatMap (readKeys keys) = fs.map (·.wire) := by
  induction fs with
  | nil => rfl
  | cons f fs ih =>
    obtain ⟨hf, h'⟩ := plain_cons h
    rw [List.flatMap_cons, List.map_cons, ih h']
    simp [readKeys, hf]

/-- **no key has two readers**: no member's keys meet the own fields' keys, nor another member's -/
theorem readKeys_disjoint (keys : RField → List String) : ∀ (fs : List RField), (fs.flatMap (readKeys keys)).Nodup →
    (∀ g ∈ fs, g.flatten = true → ∀ k ∈ keys g, k ∉ (fs.filter (fun f => !f.flatten)).map (·.wire)) ∧
    fs.Pairwise (fun g g' => g.flatten = true → g'.flatten = true → ∀ k ∈ keys g', k ∉ keys g)
  | [], _ => by simp
  | f :: fs, hnd => by
    rw [List.flatMap_cons, List.nodup_append] at hnd
    obtain ⟨_, hnd2, hdisj⟩ := hnd
    obtain ⟨ih3, ih4⟩ := readKeys_disjoint keys fs hnd2
    have hwire : ∀ k, k ∈ (fs.filter (fun f => !f.flatten)).map (·.wire) → k ∈ fs.flatMap (readKeys keys) := by
      intro k hk
      obtain ⟨f', hf', rfl⟩ := List.mem_map.mp hk
      have := List.mem_filter.mp hf'
      exact mem_readKeys_own this.1 (by simpa using this.2)
    cases hfl : f.flatten with
    | false =>
      have hrk : readKeys keys f = [f.wire] := by simp [readKeys, hfl]
      rw [hrk] at hdisj
      refine ⟨fun g hg hg' k hk => ?_, List.pairwise_cons.mpr ⟨fun _ _ h => (by simp [hfl] at h), ih4⟩⟩
      rcases List.mem_cons.mp hg with rfl | hg
      · rw [hfl] at hg'; cases hg'
      · simp only [List.filter_cons, hfl, Bool.not_false, ↓reduceIte, List.map_cons, List.mem_cons, not_or]
        exact ⟨fun heq => hdisj _ (by simp) k (mem_readKeys_member hg hg' hk) heq.symm, ih3 g hg hg' k hk⟩
    | true =>
      have hrk : readKeys keys f = keys f := by simp [readKeys, hfl]
      rw [hrk] at hdisj
      refine ⟨fun g hg hg' k hk => ?_, List.pairwise_cons.mpr ⟨fun g' hg' _ hfl' k hk hk' =>
        hdisj k hk' k (mem_readKeys_member hg' hfl' hk) rfl, ih4⟩⟩
      simp only [List.filter_cons, hfl, Bool.not_true, Bool.false_eq_true, ↓reduceIte]
      rcases List.mem_cons.mp hg with rfl | hg
      · exact fun hm => hdisj k hk k (hwire k hm) rfl
      · exact ih3 g hg hg' k hk

/-- members that do not look at entries with keys other than their own, with pairwise disjoint keys, all read what they
    would read of the whole object `kvs` -/
theorem memberVals_whole (keys : RField → List String) (rd : RField → List (String × Json) → D Val)
    (kvs : List (String × Json)) : ∀ (fs : List RField) (L : List String),
    (∀ g ∈ fs, g.flatten = true → ∀ L' : List String, (∀ k ∈ L', k ∉ keys g) →
      rd g (kvs.filter (fun kv => !L'.contains kv.1)) = rd g kvs) →
    (∀ g ∈ fs, g.flatten = true → ∀ k ∈ keys g, k ∉ L) →
    fs.Pairwise (fun g g' => g.flatten = true → g'.flatten = true → ∀ k ∈ keys g', k ∉ keys g) →
    memberVals keys rd fs (kvs.filter (fun kv => !L.contains kv.1)) = wholeVals (fun g => rd g kvs) fs
  | [], _, _, _, _ => rfl
  | g :: fs, L, hloc, hL, hpw => by
    rw [List.pairwise_cons] at hpw
    have hloc' : ∀ g' ∈ fs, g'.flatten = true → ∀ L' : List String, (∀ k ∈ L', k ∉ keys g') →
        rd g' (kvs.filter (fun kv => !L'.contains kv.1)) = rd g' kvs :=
      fun g' h' => hloc g' (List.mem_cons_of_mem _ h')
    cases hg : g.flatten
    · simp only [memberVals, wholeVals, hg, Bool.not_false, ↓reduceIte]
      exact memberVals_whole keys rd kvs fs L hloc' (fun g' h' => hL g' (List.mem_cons_of_mem _ h')) hpw.2
    · simp only [memberVals, wholeVals, hg, Bool.not_true, Bool.false_eq_true, ↓reduceIte,
        hloc g (by simp) hg L (fun k hk hk' => hL g (by simp) hg k hk' hk), filter_not_append]
      rw [memberVals_whole keys rd kvs fs (L ++ keys g) hloc' (fun g' h' hf' k hk hk' => by
        rcases List.mem_append.mp hk' with hk' | hk'
        · exact hL g' (List.mem_cons_of_mem _ h') hf' k hk hk'
        · exact hpw.1 g' h' hg hf' k hk hk') hpw.2]

/-- a struct that reads exactly the pairwise distinct keys `K`: its members' keys and own wire names lie in `K`, and the
    two disjointness hypotheses of the equations above hold -/
theorem flat_hyps_of_readKeys {keys : RField → List String} {P : RField → Prop} {fs : List RField} {K : List String}
    (hK : fs.flatMap (readKeys keys) = K) (hok : ∀ g ∈ fs, g.flatten = true → P g) (hnd : K.Nodup) :
    (∀ g ∈ fs, g.flatten = true → P g ∧ ∀ k ∈ keys g, k ∈ K) ∧
    (∀ f ∈ fs, f.flatten = false → f.wire ∈ K) ∧
    (∀ g ∈ fs, g.flatten = true → ∀ k ∈ keys g, k ∉ (fs.filter (fun f => !f.flatten)).map (·.wire)) ∧
    fs.Pairwise (fun g g' => g.flatten = true → g'.flatten = true → ∀ k ∈ keys g', k ∉ keys g) := by
  subst hK
  exact ⟨fun g hg hfl => ⟨hok g hg hfl, fun _ hk => mem_readKeys_member hg hfl hk⟩,
    fun _ hf hfl => mem_readKeys_own hf hfl, readKeys_disjoint keys fs hnd⟩

/-! ### members that take their keys -/

/-- the flattened member `g` takes the entries with the keys of the fields `mf g` out of the buffer and reads those
    fields with `path g` (a plain struct item; the same behind `Box`) -/
def TakesKeys (flat : RTy → Buf → D (Val × Buf)) (path : RField → String → Json → D Val)
    (mf : RField → List RField) (g : RField) : Prop :=
  ∀ buf, flat g.ty buf =
    (do let own ← deOwnWith (path g) (mf g) (takeKeys ((mf g).map (·.wire)) buf).1
        pure (.record own, (takeKeys ((mf g).map (·.wire)) buf).2))

theorem TakesKeys.readsAs {flat : RTy → Buf → D (Val × Buf)} {path : RField → String → Json → D Val}
    {mf : RField → List RField} {g : RField} (h : TakesKeys flat path mf g) :
    ReadsAs flat (fun g => (mf g).map (·.wire))
      (fun g kvs => Val.record <$> deOwnWith (path g) (mf g)
        (kvs.filter (fun kv => ((mf g).map (·.wire)).contains kv.1))) g := by
  intro buf
  refine ⟨(takeKeys ((mf g).map (·.wire)) buf).2, ?_, takeKeys_snd _ buf⟩
  rw [h buf, takeKeys_fst]
  dsimp only
  cases deOwnWith (path g) (mf g) _ <;> rfl

/-- **the reader of a struct with flattened members that take their keys, as one equation**: with pairwise disjoint
    key sets every member reads its fields from the whole object -/
theorem deStructMap_flat_with (flat : RTy → Buf → D (Val × Buf)) (path : RField → String → Json → D Val)
    (mf : RField → List RField) (pathD : String → Json → D Val) (fields : List RField)
    (kvs : List (String × Json)) (hany : fields.any (·.flatten) = true)
    (hok : ∀ g ∈ fields, g.flatten = true → TakesKeys flat path mf g)
    (hown : ∀ g ∈ fields, g.flatten = true → ∀ k ∈ (mf g).map (·.wire),
      k ∉ (fields.filter (fun f => !f.flatten)).map (·.wire))
    (hpw : fields.Pairwise (fun g g' => g.flatten = true → g'.flatten = true →
      ∀ k ∈ (mf g').map (·.wire), k ∉ (mf g).map (·.wire))) :
    deStructMapWith pathD flat fields kvs =
      (do let own ← deOwnWith pathD (fields.filter (fun f => !f.flatten)) kvs
          let fl ← wholeVals (fun g => Val.record <$> deOwnWith (path g) (mf g) kvs) fields
          pure (.record (fields.filterMap fun f => (own ++ fl).find? (·.1 == f.rust)))) := by
  have hv : (fun g => Val.record <$> deOwnWith (path g) (mf g)
        (kvs.filter (fun kv => ((mf g).map (·.wire)).contains kv.1))) =
      fun g => Val.record <$> deOwnWith (path g) (mf g) kvs := by
    funext g
    rw [deOwn_filter (path g) _ kvs (mf g) (fun f hf _ => List.mem_map_of_mem hf)]
  rw [deStructMap_members flat _ _ pathD fields kvs hany (fun g hg hf => (hok g hg hf).readsAs),
    memberVals_whole _ _ kvs fields _
      (fun g _ _ L' hL' => by rw [filter_filter_disjoint kvs L' _ (fun k hk hk' => hL' k hk' hk)]) hown hpw, hv]

theorem All2.append {α β} {R : α → β → Prop} :
    ∀ {xs as ys bs}, All2 R xs as → All2 R ys bs → All2 R (xs ++ ys) (as ++ bs)
  | _, _, _, _, .nil, h => h
  | _, _, _, _, .cons hab rest, h => .cons hab (All2.append rest h)

theorem All2.append_inv {α β} {R : α → β → Prop} :
    ∀ (xs : List α) {ys : List α} {zs : List β}, All2 R (xs ++ ys) zs →
      ∃ as bs, zs = as ++ bs ∧ All2 R xs as ∧ All2 R ys bs
  | [], _, zs, h => ⟨[], zs, rfl, .nil, h⟩
  | x :: xs, _, _, h => by
    cases h with
    | cons hab rest =>
      obtain ⟨as, bs, rfl, h1, h2⟩ := All2.append_inv xs rest
      exact ⟨_ :: as, bs, rfl, .cons hab h1, h2⟩

theorem filterMap_find (L : List (String × Val)) :
    ∀ {fs : List RField} {ps : List (String × Val)},
      All2 (fun f p => L.find? (·.1 == f.rust) = some p) fs ps →
      fs.filterMap (fun f => L.find? (·.1 == f.rust)) = ps
  | _, _, .nil => rfl
  | _, _, .cons hab rest => by rw [List.filterMap_cons, hab, filterMap_find L rest]

/-- putting the record back into declaration order (`deStructMapWith`'s last step) -/
theorem assemble (pre post : List RField) (g : RField) (a c : List (String × Val)) (x : Val)
    (ha : All2 (fun f p => p.1 = f.rust) pre a) (hc : All2 (fun f p => p.1 = f.rust) post c)
    (hr : ((pre ++ g :: post).map (·.rust)).Nodup) :
    (pre ++ g :: post).filterMap (fun f => ((a ++ c) ++ [(g.rust, x)]).find? (·.1 == f.rust)) =
      a ++ (g.rust, x) :: c := by
  have hna : a.map (·.1) = pre.map (·.rust) := All2.map_fst (fun _ _ h => h) ha
  have hnc : c.map (·.1) = post.map (·.rust) := All2.map_fst (fun _ _ h => h) hc
  have hL : (((a ++ c) ++ [(g.rust, x)]).map (·.1)).Nodup := by
    simp only [List.map_append, List.map_cons, List.map_nil, hna, hnc]
    simp only [List.map_append, List.map_cons] at hr
    have := List.Perm.nodup_iff (List.perm_middle (l₁ := pre.map (·.rust)) (l₂ := post.map (·.rust)) (a := g.rust))
    rw [this] at hr
    have h2 : (List.map (fun x => x.rust) pre ++ List.map (fun x => x.rust) post ++ [g.rust]).Perm
        (g.rust :: (List.map (fun x => x.rust) pre ++ List.map (fun x => x.rust) post)) := by
      simpa using List.perm_append_comm (l₁ := List.map (fun x => x.rust) pre ++ List.map (fun x => x.rust) post) (l₂ := [g.rust])
    exact (List.Perm.nodup_iff h2).mpr hr
  have hfind : ∀ p ∈ (a ++ c) ++ [(g.rust, x)], ((a ++ c) ++ [(g.rust, x)]).find? (·.1 == p.1) = some p := by
    intro p hp
    have := find_of_nodup_key (fun p : String × Val => p.1) (fun _ => true) _ hL p hp rfl
    simpa using this
  have h1 : All2 (fun f p => ((a ++ c) ++ [(g.rust, x)]).find? (·.1 == f.rust) = some p) pre a :=
    ha.imp_mem2 (fun f _ p hp h => by rw [← h]; exact hfind p (by simp [hp]))
  have h3 : All2 (fun f p => ((a ++ c) ++ [(g.rust, x)]).find? (·.1 == f.rust) = some p) post c :=
    hc.imp_mem2 (fun f _ p hp h => by rw [← h]; exact hfind p (by simp [hp]))
  have h2 := hfind (g.rust, x) (by simp)
  rw [List.filterMap_append, List.filterMap_cons, filterMap_find _ h1, filterMap_find _ h3]
  simp only at h2
  rw [h2]

theorem filter_plain {fs : List RField} (h : plain fs = true) : fs.filter (fun f => !f.flatten) = fs := by
  rw [List.filter_eq_self]
  intro f hf
  simp [not_flatten_of_plain h hf]

theorem plain_append {xs ys : List RField} (hx : plain xs = true) (hy : plain ys = true) :
    plain (xs ++ ys) = true := by
  simp only [plain, List.all_append, Bool.and_eq_true] at *
  exact ⟨hx, hy⟩

/-- the whole reader of a struct with one flattened plain-struct member, as one equation: own fields
    from `kvs`, the member from **the entries the own fields left, restricted to its keys** -/
theorem flatten_eq (e : Env) (fuel : Nat) (pathD : String → Json → D Val)
    (pre post : List RField) (g : RField) (q n : String) (d : List String) (c : Option String)
    (gfields : List RField) (kvs : List (String × Json))
    (hpre : plain pre = true) (hpost : plain post = true) (hg : g.flatten = true) (hty : g.ty = .path q)
    (he : e.find q = some (.struct n d c gfields)) (hgp : plain gfields = true) :
    deStructMapWith pathD (deFlat e (fuel + 1)) (pre ++ g :: post) kvs =
      (do let own ← deOwnWith pathD (pre ++ post) kvs
          let inner ← deOwnWith (dePath e true fuel) gfields
            ((kvs.filter (fun kv => !((pre ++ post).map (·.wire)).contains kv.1)).filter
              (fun kv => (gfields.map (·.wire)).contains kv.1))
          pure (.record ((pre ++ g :: post).filterMap fun f =>
            ((own ++ [(g.rust, Val.record inner)]).find? (·.1 == f.rust))))) := by
  have hown : (pre ++ g :: post).filter (fun f => !f.flatten) = pre ++ post := by
    simp [List.filter_append, hg, filter_plain hpre, filter_plain hpost]
  rw [deStructMap_members _ _ _ pathD _ kvs (by simp [hg]) (fun g' hg' hf' => by
      rw [eq_of_flatten_mid hpre hpost hg' hf']
      exact TakesKeys.readsAs (path := fun _ => dePath e true fuel) (mf := fun _ => gfields)
        (fun buf => by rw [hty, deFlat_plain_struct e fuel q n d c gfields buf he hgp])),
    hown, memberVals_one _ _ g post hg hpost _ pre hpre]
  cases deOwnWith pathD (pre ++ post) kvs with
  | error err => rfl
  | ok own =>
    simp only [bind, Except.bind]
    cases deOwnWith (dePath e true fuel) gfields _ <;> rfl

theorem deOwn_append_ok (path : String → Json → D Val) (kvs : List (String × Json))
    (hc : ∀ k, countKey k kvs ≤ 1) (xs ys : List RField) (hx : plain xs = true) (hy : plain ys = true)
    (own : List (String × Val)) :
    deOwnWith path (xs ++ ys) kvs = .ok own ↔
      ∃ a c, own = a ++ c ∧ deOwnWith path xs kvs = .ok a ∧ deOwnWith path ys kvs = .ok c := by
  rw [deOwn_ok_iff path kvs hc (xs ++ ys) own (plain_append hx hy)]
  constructor
  · intro h
    obtain ⟨a, c, rfl, h1, h2⟩ := All2.append_inv xs h
    exact ⟨a, c, rfl, (deOwn_ok_iff path kvs hc xs a hx).mpr h1, (deOwn_ok_iff path kvs hc ys c hy).mpr h2⟩
  · rintro ⟨a, c, rfl, h1, h2⟩
    exact All2.append ((deOwn_ok_iff path kvs hc xs a hx).mp h1) ((deOwn_ok_iff path kvs hc ys c hy).mp h2)

/-- **L4, reading.** A struct `pre ++ g :: post` whose only flattened member `g` is a plain struct
    `gfields`, read from an object without duplicate keys: it succeeds iff the own fields succeed on
    `kvs` and the member succeeds on **the entries the own fields left, restricted to its own keys**
    (what `takeKeys` hands it); the value is the record in declaration order. -/
theorem flatten_take_roundtrip (e : Env) (fuel : Nat) (pathD : String → Json → D Val)
    (pre post : List RField) (g : RField) (q n : String) (d : List String) (c : Option String)
    (gfields : List RField) (kvs : List (String × Json))
    (hpre : plain pre = true) (hpost : plain post = true) (hg : g.flatten = true) (hty : g.ty = .path q)
    (he : e.find q = some (.struct n d c gfields)) (hgp : plain gfields = true)
    (hr : ((pre ++ g :: post).map (·.rust)).Nodup) (hk : (kvs.map (·.1)).Nodup) (r : Val) :
    deStructMapWith pathD (deFlat e (fuel + 1)) (pre ++ g :: post) kvs = .ok r ↔
      ∃ a inner c', deOwnWith pathD pre kvs = .ok a ∧ deOwnWith pathD post kvs = .ok c' ∧
        deOwnWith (dePath e true fuel) gfields
          ((kvs.filter (fun kv => !((pre ++ post).map (·.wire)).contains kv.1)).filter
            (fun kv => (gfields.map (·.wire)).contains kv.1)) = .ok inner ∧
        r = .record (a ++ (g.rust, .record inner) :: c') := by
  have hc := countKey_le_one_of_nodup hk
  rw [flatten_eq e fuel pathD pre post g q n d c gfields kvs hpre hpost hg hty he hgp]
  constructor
  · intro h
    cases ho : deOwnWith pathD (pre ++ post) kvs with
    | error err => simp [ho, bind, Except.bind] at h
    | ok own =>
      obtain ⟨a, c', rfl, h1, h2⟩ := (deOwn_append_ok pathD kvs hc pre post hpre hpost own).mp ho
      cases hi : deOwnWith (dePath e true fuel) gfields
          ((kvs.filter (fun kv => !((pre ++ post).map (·.wire)).contains kv.1)).filter
            (fun kv => (gfields.map (·.wire)).contains kv.1)) with
      | error err => simp only [ho, hi, bind, Except.bind, reduceCtorEq] at h
      | ok inner =>
        simp only [ho, hi, bind, Except.bind, pure, Except.pure, Except.ok.injEq] at h
        refine ⟨a, inner, c', h1, h2, rfl, ?_⟩
        rw [← h, assemble pre post g a c' (.record inner)
          (((deOwn_ok_iff pathD kvs hc pre a hpre).mp h1).imp (fun _ _ hh => hh.1))
          (((deOwn_ok_iff pathD kvs hc post c' hpost).mp h2).imp (fun _ _ hh => hh.1)) hr]
  · rintro ⟨a, inner, c', h1, h2, hi, rfl⟩
    have ho := (deOwn_append_ok pathD kvs hc pre post hpre hpost (a ++ c')).mpr ⟨a, c', rfl, h1, h2⟩
    simp only [ho, hi, bind, Except.bind, pure, Except.pure]
    rw [assemble pre post g a c' (.record inner)
      (((deOwn_ok_iff pathD kvs hc pre a hpre).mp h1).imp (fun _ _ hh => hh.1))
      (((deOwn_ok_iff pathD kvs hc post c' hpost).mp h2).imp (fun _ _ hh => hh.1)) hr]

/-! ### L4, writing -/

theorem serFields_append (pathS : String → Val → D Json) (vals : List (String × Val)) (ys : List RField)
    (o2 : List (String × Json)) (h2 : serFieldsWith pathS ys vals = .ok o2) :
    ∀ (xs : List RField) (o1 : List (String × Json)), plain xs = true →
      serFieldsWith pathS xs vals = .ok o1 → serFieldsWith pathS (xs ++ ys) vals = .ok (o1 ++ o2)
  | [], o1, _, h1 => by cases h1; exact h2
  | x :: xs, o1, hp, h1 => by
    obtain ⟨hx, hp'⟩ := plain_cons hp
    rw [serFields_cons pathS x xs vals hx] at h1
    rw [List.cons_append, serFields_cons pathS x (xs ++ ys) vals hx]
    cases hr : serFieldsWith pathS xs vals with
    | error err => simp [hr, bind, Except.bind] at h1
    | ok rest =>
      rw [serFields_append pathS vals ys o2 h2 xs rest hp' hr]
      simp only [hr, bind, Except.bind] at h1 ⊢
      cases hfind : vals.find? (·.1 == x.rust) with
      | none => simp [hfind, unmodelled] at h1
      | some nv =>
        obtain ⟨n, v⟩ := nv
        simp only [hfind] at h1 ⊢
        cases hskip : (x.skipNone && v.isUnit)
        · simp only [hskip, Bool.false_eq_true, ↓reduceIte] at h1 ⊢
          cases hs : serTyWith pathS x.ty v with
          | error err => simp [hs] at h1
          | ok j =>
            simp only [hs, pure, Except.pure, Except.ok.injEq] at h1 ⊢
            rw [← h1]; rfl
        · simp only [hskip, ↓reduceIte, pure, Except.pure, Except.ok.injEq] at h1 ⊢
          rw [h1]

/-- **L4, writing**: serialization concatenates the own entries before the member, the member's
    entries, and the own entries after it -/
theorem flatten_ser_concat (pathS : String → Val → D Json) (vals : List (String × Val))
    (pre post : List RField) (g : RField) (gname : String) (gv : Val) (o1 o2 o3 : List (String × Json))
    (hpre : plain pre = true) (hg : g.flatten = true)
    (hfind : vals.find? (·.1 == g.rust) = some (gname, gv))
    (h1 : serFieldsWith pathS pre vals = .ok o1)
    (h2 : serTyWith pathS g.ty gv = .ok (.obj o2))
    (h3 : serFieldsWith pathS post vals = .ok o3) :
    serFieldsWith pathS (pre ++ g :: post) vals = .ok (o1 ++ (o2 ++ o3)) := by
  apply serFields_append pathS vals (g :: post) (o2 ++ o3) _ pre o1 hpre h1
  simp only [serFieldsWith, h3, hfind, hg, h2, entriesOf, bind, Except.bind, ↓reduceIte, pure, Except.pure]

/-! ### L4 for any number of members: what was read, found again by name; writing

The class files use these facts by their short names; they live in `namespace E2E`. -/

namespace E2E

/-- in a record assembled by rust name from `A`, every field finds what `A` holds for it -/
theorem find_filterMap_rust (A : List (String × Val)) : ∀ (fields : List RField), (fields.map (·.rust)).Nodup →
    ∀ f ∈ fields, (fields.filterMap (fun f => A.find? (·.1 == f.rust))).find? (·.1 == f.rust) =
      A.find? (·.1 == f.rust)
  | [], _, f, hf => by simp at hf
  | g :: gs, hnd, f, hf => by
    simp only [List.map_cons, List.nodup_cons] at hnd
    have ih := find_filterMap_rust A gs hnd.2
    rw [List.filterMap_cons]
    have hrest : ∀ n, n ∉ gs.map (·.rust) →
        (gs.filterMap (fun f => A.find? (·.1 == f.rust))).find? (·.1 == n) = none := by
      intro n hn
      rw [List.find?_eq_none]
      intro p hp
      obtain ⟨g', hg', hp'⟩ := List.mem_filterMap.mp hp
      have := List.find?_some hp'
      simp only [beq_iff_eq] at this
      intro heq
      simp only [beq_iff_eq] at heq
      exact hn (heq ▸ this ▸ List.mem_map_of_mem hg')
    rcases List.mem_cons.mp hf with rfl | hf'
    · cases hA : A.find? (·.1 == f.rust) with
      | none => simp only []; exact hrest _ hnd.1
      | some p =>
        have := List.find?_some hA
        simp only [List.find?_cons, this]
    · have hne : g.rust ≠ f.rust := fun heq => hnd.1 (heq ▸ List.mem_map_of_mem hf')
      cases hA : A.find? (·.1 == g.rust) with
      | none => simp only []; exact ih f hf'
      | some p =>
        have hp := List.find?_some hA
        simp only [beq_iff_eq] at hp
        have : (p.1 == f.rust) = false := by rw [hp]; simpa using hne
        simp only [List.find?_cons, this]
        exact ih f hf'

/-- what `wholeVals` produced, found again by name -/
theorem wholeVals_find (v : RField → D Val) : ∀ (fs : List RField) (fl : List (String × Val)),
    wholeVals v fs = .ok fl → (fs.map (·.rust)).Nodup →
    ∀ g ∈ fs, g.flatten = true → ∃ x, v g = .ok x ∧ fl.find? (·.1 == g.rust) = some (g.rust, x)
  | [], _, _, _ => fun _ hg => nomatch hg
  | g :: gs, fl, h, hnd => by
    simp only [List.map_cons, List.nodup_cons] at hnd
    intro g' hg' hfl
    cases hg : g.flatten
    · simp only [wholeVals, hg, Bool.not_false, ↓reduceIte] at h
      rcases List.mem_cons.mp hg' with rfl | hg''
      · rw [hg] at hfl; cases hfl
      · exact wholeVals_find v gs fl h hnd.2 g' hg'' hfl
    · simp only [wholeVals, hg, Bool.not_true, Bool.false_eq_true, ↓reduceIte] at h
      obtain ⟨x, hx, h⟩ := C02.bind_ok h
      obtain ⟨rest, hrest, h⟩ := C02.bind_ok h
      simp only [pure, Except.pure, Except.ok.injEq] at h
      subst h
      rcases List.mem_cons.mp hg' with rfl | hg''
      · exact ⟨x, hx, by simp⟩
      · obtain ⟨x', h1, h2⟩ := wholeVals_find v gs rest hrest hnd.2 g' hg'' hfl
        have hne : g.rust ≠ g'.rust := fun heq => hnd.1 (heq ▸ List.mem_map_of_mem hg'')
        have : (g.rust == g'.rust) = false := by simpa using hne
        exact ⟨x', h1, by simp only [List.find?_cons, this]; exact h2⟩

/-- the entries one field contributes -/
def entriesF (fcanon : RField → Json → Json) (mcanon : RField → List (String × Json)) (kvs : List (String × Json))
    (f : RField) : List (String × Json) :=
  if f.flatten then mcanon f else expectOut fcanon [f] kvs

/-- **writing a struct with flattened members**: own entries and the members' entries, in declaration order -/
theorem ser_flat (pathD : String → Json → D Val) (pathS : String → Val → D Json)
    (fcanon : RField → Json → Json) (mcanon : RField → List (String × Json)) (kvs : List (String × Json))
    (vals : List (String × Val)) : ∀ (fs : List RField),
    (∀ f ∈ fs, f.flatten = false → ∃ x, vals.find? (·.1 == f.rust) = some (f.rust, x) ∧ readField pathD f kvs = .ok x) →
    (∀ f ∈ fs, f.flatten = false → ∀ j x, Json.lookup f.wire kvs = some j → deFieldWith pathD f j = .ok x →
      serTyWith pathS f.ty x = .ok (fcanon f j)) →
    (∀ f ∈ fs, f.flatten = false → f.skipNone = true → ∀ j x, Json.lookup f.wire kvs = some j →
      deFieldWith pathD f j = .ok x → x.isUnit = j.isNull) →
    (∀ f ∈ fs, f.flatten = false → f.default = true → isOption f.ty = true) →
    (∀ g ∈ fs, g.flatten = true → ∃ x, vals.find? (·.1 == g.rust) = some (g.rust, x) ∧
      serTyWith pathS g.ty x = .ok (.obj (mcanon g))) →
    serFieldsWith pathS fs vals = .ok (fs.flatMap (entriesF fcanon mcanon kvs))
  | [], _, _, _, _, _ => rfl
  | f :: fs, hread, hrt, hunit, hdef, hmem => by
    have ih := ser_flat pathD pathS fcanon mcanon kvs vals fs
      (fun g hg => hread g (by simp [hg])) (fun g hg => hrt g (by simp [hg]))
      (fun g hg => hunit g (by simp [hg])) (fun g hg => hdef g (by simp [hg])) (fun g hg => hmem g (by simp [hg]))
    rw [List.flatMap_cons]
    cases hf : f.flatten
    · have h1 := ser_of_read pathD pathS fcanon kvs vals [f] (by simp [plain, hf])
        (fun g hg => by simp only [List.mem_singleton] at hg; subst hg; exact hread g (by simp) hf)
        (fun g hg => by simp only [List.mem_singleton] at hg; subst hg; exact hrt g (by simp) hf)
        (fun g hg => by simp only [List.mem_singleton] at hg; subst hg; exact hunit g (by simp) hf)
        (fun g hg => by simp only [List.mem_singleton] at hg; subst hg; exact hdef g (by simp) hf)
      have := serFields_append pathS vals fs _ ih [f] _ (by simp [plain, hf]) h1
      simpa [entriesF, hf] using this
    · obtain ⟨x, hfind, hser⟩ := hmem f (by simp) hf
      simp only [serFieldsWith, ih, hfind, hf, ↓reduceIte, hser, entriesOf, bind, Except.bind, pure, Except.pure,
        entriesF]


theorem find_none_of_not_mem {L : List (String × Val)} {n : String} (h : n ∉ L.map (·.1)) :
    L.find? (·.1 == n) = none := by
  rw [List.find?_eq_none]
  intro p hp
  have : p.1 ≠ n := fun heq => h (heq ▸ List.mem_map_of_mem hp)
  simpa using this

theorem eq_of_nodup_rust : ∀ {fs : List RField}, (fs.map (·.rust)).Nodup → ∀ {f g : RField}, f ∈ fs → g ∈ fs →
    f.rust = g.rust → f = g
  | [], _, _, _, hf, _, _ => by simp at hf
  | a :: as, hnd, f, g, hf, hg, h => by
    simp only [List.map_cons, List.nodup_cons] at hnd
    rcases List.mem_cons.mp hf with rfl | hf' <;> rcases List.mem_cons.mp hg with rfl | hg'
    · rfl
    · exact absurd (h ▸ List.mem_map_of_mem hg') hnd.1
    · exact absurd (h ▸ List.mem_map_of_mem hf') hnd.1
    · exact eq_of_nodup_rust hnd.2 hf' hg' h

/-- **what a struct with (or without) flattened members reads, found again by name**, given the equation of its reader
    with the member loop `M`, and what `M` puts under the name of each member (`Q`) -/
theorem deStruct_finds_of (flat : RTy → Buf → D (Val × Buf)) (M : D (List (String × Val))) (Q : RField → Val → Prop)
    (pathD : String → Json → D Val) (fields : List RField)
    (kvs : List (String × Json)) (hcnt : ∀ k, countKey k kvs ≤ 1) (hrust : (fields.map (·.rust)).Nodup)
    (heq : fields.any (·.flatten) = true → deStructMapWith pathD flat fields kvs =
      (do let own ← deOwnWith pathD (fields.filter (fun f => !f.flatten)) kvs
          let fl ← M
          pure (.record (fields.filterMap fun f => (own ++ fl).find? (·.1 == f.rust)))))
    (hM : ∀ fl, M = .ok fl → ∀ g ∈ fields, g.flatten = true →
      ∃ x, Q g x ∧ fl.find? (·.1 == g.rust) = some (g.rust, x))
    (v : Val) (hd : deStructMapWith pathD flat fields kvs = .ok v) :
    ∃ vals, v = .record vals ∧
      (∀ f ∈ fields, f.flatten = false → ∃ x, vals.find? (·.1 == f.rust) = some (f.rust, x) ∧
        readField pathD f kvs = .ok x) ∧
      (∀ g ∈ fields, g.flatten = true → ∃ x, Q g x ∧
        vals.find? (·.1 == g.rust) = some (g.rust, x)) := by
  have hownpl : plain (fields.filter (fun f => !f.flatten)) = true := by
    simp only [plain, List.all_eq_true, List.mem_filter]
    intro f hf; exact hf.2
  have hsub : (fields.filter (fun f => !f.flatten)).Sublist fields := List.filter_sublist
  have hownnd : ((fields.filter (fun f => !f.flatten)).map (·.rust)).Nodup := (hsub.map _).nodup hrust
  cases hany : fields.any (·.flatten)
  · -- plain
    have hpl : plain fields = true := by
      simp only [plain, List.all_eq_true]
      intro f hf
      have := List.any_eq_false.mp hany f hf
      simpa using this
    rw [deStructMap_plain _ _ _ _ hpl, map_ok] at hd
    obtain ⟨own, hown', rfl⟩ := hd
    have hall := (deOwn_ok_iff pathD kvs hcnt fields own hpl).mp hown'
    refine ⟨own, rfl, fun f hf _ => find_of_all2 (R := fun f x => readField pathD f kvs = .ok x) hall hrust f hf, ?_⟩
    intro g hg hfl
    have := List.any_eq_false.mp hany g hg
    simp [hfl] at this
  · rw [heq hany] at hd
    obtain ⟨own, hown', hd⟩ := C02.bind_ok hd
    obtain ⟨fl, hfl, hd⟩ := C02.bind_ok hd
    simp only [pure, Except.pure, Except.ok.injEq] at hd
    have hall := (deOwn_ok_iff pathD kvs hcnt _ own hownpl).mp hown'
    have hownnames : own.map (·.1) = (fields.filter (fun f => !f.flatten)).map (·.rust) :=
      All2.map_fst (fun _ _ hh => hh.1) hall
    have hfl2 := hM fl hfl
    refine ⟨_, hd.symm, ?_, ?_⟩
    · intro f hf hfl'
      rw [find_filterMap_rust _ fields hrust f hf]
      obtain ⟨x, hx, hR⟩ := find_of_all2 (R := fun f x => readField pathD f kvs = .ok x) hall hownnd f
        (List.mem_filter.mpr ⟨hf, by simp [hfl']⟩)
      exact ⟨x, by rw [List.find?_append, hx]; rfl, hR⟩
    · intro g hg hfl'
      rw [find_filterMap_rust _ fields hrust g hg]
      obtain ⟨owng, h1, h2⟩ := hfl2 g hg hfl'
      refine ⟨owng, h1, ?_⟩
      have hnone : own.find? (·.1 == g.rust) = none := by
        apply find_none_of_not_mem
        rw [hownnames]
        intro hm
        obtain ⟨f, hf, hfr⟩ := List.mem_map.mp hm
        have hf' := List.mem_filter.mp hf
        have : f = g := eq_of_nodup_rust hrust hf'.1 hg hfr
        subst this
        simp [hfl'] at hf'
      rw [List.find?_append, hnone]
      simpa using h2


/-- … for members each read independently of the others -/
theorem deStruct_finds_with (flat : RTy → Buf → D (Val × Buf)) (rd : RField → D Val)
    (pathD : String → Json → D Val) (fields : List RField)
    (kvs : List (String × Json)) (hcnt : ∀ k, countKey k kvs ≤ 1) (hrust : (fields.map (·.rust)).Nodup)
    (heq : fields.any (·.flatten) = true → deStructMapWith pathD flat fields kvs =
      (do let own ← deOwnWith pathD (fields.filter (fun f => !f.flatten)) kvs
          let fl ← wholeVals rd fields
          pure (.record (fields.filterMap fun f => (own ++ fl).find? (·.1 == f.rust)))))
    (v : Val) (hd : deStructMapWith pathD flat fields kvs = .ok v) :
    ∃ vals, v = .record vals ∧
      (∀ f ∈ fields, f.flatten = false → ∃ x, vals.find? (·.1 == f.rust) = some (f.rust, x) ∧
        readField pathD f kvs = .ok x) ∧
      (∀ g ∈ fields, g.flatten = true → ∃ x, rd g = .ok x ∧
        vals.find? (·.1 == g.rust) = some (g.rust, x)) :=
  deStruct_finds_of flat _ (fun g x => rd g = .ok x) pathD fields kvs hcnt hrust heq
    (fun fl hfl => wholeVals_find rd fields fl hfl hrust) v hd

/-- members whose reader wraps a list of fields into a record -/
theorem finds_record {P : List (String × Val) → Prop} {fields : List RField} {rd : RField → D (List (String × Val))}
    {v : Val} (h : ∃ vals, v = .record vals ∧ P vals ∧
      ∀ g ∈ fields, g.flatten = true → ∃ x, Val.record <$> rd g = .ok x ∧
        vals.find? (·.1 == g.rust) = some (g.rust, x)) :
    ∃ vals, v = .record vals ∧ P vals ∧
      ∀ g ∈ fields, g.flatten = true → ∃ own, rd g = .ok own ∧
        vals.find? (·.1 == g.rust) = some (g.rust, .record own) := by
  obtain ⟨vals, hv, hP, hm⟩ := h
  refine ⟨vals, hv, hP, fun g hg hfl => ?_⟩
  obtain ⟨x, hx, hf⟩ := hm g hg hfl
  obtain ⟨own, hown, rfl⟩ := (map_ok _ _ _).mp hx
  exact ⟨own, hown, hf⟩

theorem expectOut_append (fc : RField → Json → Json) (xs ys : List RField) (kvs : List (String × Json)) :
    expectOut fc (xs ++ ys) kvs = expectOut fc xs kvs ++ expectOut fc ys kvs := by
  simp [expectOut]

theorem flatMap_entriesF_plain (fc : RField → Json → Json) (mc : RField → List (String × Json))
    (kvs : List (String × Json)) : ∀ (fs : List RField), plain fs = true →
    fs.flatMap (entriesF fc mc kvs) = expectOut fc fs kvs
  | [], _ => rfl
  | f :: fs, hp => by
    obtain ⟨hf, hp'⟩ := plain_cons hp
    have ih := flatMap_entriesF_plain fc mc kvs fs hp'
    have : f :: fs = [f] ++ fs := rfl
    rw [List.flatMap_cons, ih, this, expectOut_append]
    simp [entriesF, hf]

end E2E

/-- **L4, round trip** of a struct item `p = pre ++ g :: post` with one flattened member `g : q`,
    `q` a plain struct item whose keys are disjoint from the own fields' keys: the re-serialized object
    is the own entries before `g`, then the member's entries, then the own entries after `g` — each
    part exactly as in L2 (`expectOut`), each read from the *whole* object. -/
theorem flatten_roundtrip (e : Env) (b : Bool) (fuel fs : Nat) (p n' : String) (d' : List String)
    (c' : Option String) (pre post : List RField) (g : RField) (q n : String) (d : List String)
    (c : Option String) (gfields : List RField) (kvs : List (String × Json))
    (fcanon gcanon : RField → Json → Json)
    (hp : notPrim p) (hep : e.find p = some (.struct n' d' c' (pre ++ g :: post)))
    (hpre : plain pre = true) (hpost : plain post = true) (hg : g.flatten = true) (hty : g.ty = .path q)
    (he : e.find q = some (.struct n d c gfields)) (hgp : plain gfields = true)
    (hr : ((pre ++ g :: post).map (·.rust)).Nodup) (hgr : (gfields.map (·.rust)).Nodup)
    (hk : (kvs.map (·.1)).Nodup)
    (hdisj : ∀ f ∈ pre ++ post, ∀ h ∈ gfields, f.wire ≠ h.wire)
    (hrt : ∀ f ∈ pre ++ post, ∀ j x, Json.lookup f.wire kvs = some j →
      deFieldWith (dePath e b (fuel + 1)) f j = .ok x → serTyWith (serPath e (fs + 1)) f.ty x = .ok (fcanon f j))
    (hunit : ∀ f ∈ pre ++ post, f.skipNone = true → ∀ j x, Json.lookup f.wire kvs = some j →
      deFieldWith (dePath e b (fuel + 1)) f j = .ok x → x.isUnit = j.isNull)
    (hdef : ∀ f ∈ pre ++ post, f.default = true → isOption f.ty = true)
    (hrtg : ∀ f ∈ gfields, ∀ j x, Json.lookup f.wire kvs = some j →
      deFieldWith (dePath e true fuel) f j = .ok x → serTyWith (serPath e fs) f.ty x = .ok (gcanon f j))
    (hunitg : ∀ f ∈ gfields, f.skipNone = true → ∀ j x, Json.lookup f.wire kvs = some j →
      deFieldWith (dePath e true fuel) f j = .ok x → x.isUnit = j.isNull)
    (hdefg : ∀ f ∈ gfields, f.default = true → isOption f.ty = true)
    (r : Val) (h : dePath e b (fuel + 2) p (.obj kvs) = .ok r) :
    serPath e (fs + 2) p r =
      .ok (.obj (expectOut fcanon pre kvs ++ (expectOut gcanon gfields kvs ++ expectOut fcanon post kvs))) := by
  have hcnt := countKey_le_one_of_nodup hk
  have hfl : ∀ g' ∈ pre ++ g :: post, g'.flatten = true → g' = g :=
    fun g' hg' hf' => eq_of_flatten_mid hpre hpost hg' hf'
  have hownl : (pre ++ g :: post).filter (fun f => !f.flatten) = pre ++ post := by
    simp [List.filter_append, hg, filter_plain hpre, filter_plain hpost]
  have hownm : ∀ f ∈ pre ++ g :: post, f.flatten = false → f ∈ pre ++ post := fun f hf hff => by
    rw [← hownl]; exact List.mem_filter.mpr ⟨hf, by simp [hff]⟩
  rw [dePath_struct e b (fuel + 1) p n' d' c' _ hp hep, deStruct_obj] at h
  -- read: the general equation for members that take their keys, then everything found again by name
  obtain ⟨vals, rfl, hownf, hmemf⟩ := E2E.deStruct_finds_with (deFlat e (fuel + 1))
    (fun _ => Val.record <$> deOwnWith (dePath e true fuel) gfields kvs) (dePath e b (fuel + 1)) _ kvs hcnt hr
    (fun hany => deStructMap_flat_with _ (fun _ => dePath e true fuel) (fun _ => gfields) _ _ kvs hany
      (fun g' hg' hf' buf => by rw [hfl g' hg' hf', hty, deFlat_plain_struct e fuel q n d c gfields buf he hgp])
      (fun g' _ _ k hk hk' => by
        rw [hownl] at hk'
        obtain ⟨f, hf, hfw⟩ := List.mem_map.mp hk'
        obtain ⟨h', hh, hw⟩ := List.mem_map.mp hk
        exact hdisj f hf h' hh (hfw.trans hw.symm))
      ((List.pairwise_map.mp hr).imp_of_mem (fun ha hb hne hfa hfb =>
        absurd (by rw [hfl _ ha hfa, hfl _ hb hfb]) hne)))
    r h
  obtain ⟨x, hx, hgx⟩ := hmemf g (by simp) hg
  obtain ⟨inner, hi, rfl⟩ := (map_ok _ _ _).mp hx
  have hin := (deOwn_ok_iff _ kvs hcnt gfields inner hgp).mp hi
  -- write: `ser_flat`; the member's entries by L2 one level down
  rw [serPath_struct e (fs + 1) p n' d' c' _ hep,
    E2E.ser_flat (dePath e b (fuel + 1)) (serPath e (fs + 1)) fcanon (fun _ => expectOut gcanon gfields kvs) kvs vals _
      hownf (fun f hf hff => hrt f (hownm f hf hff)) (fun f hf hff => hunit f (hownm f hf hff))
      (fun f hf hff => hdef f (hownm f hf hff)) ?_]
  · rw [List.flatMap_append, List.flatMap_cons, E2E.flatMap_entriesF_plain _ _ _ pre hpre,
      E2E.flatMap_entriesF_plain _ _ _ post hpost]
    simp only [E2E.entriesF, hg, ↓reduceIte]
    rfl
  · intro g' hg' hf'
    rw [hfl g' hg' hf']
    refine ⟨.record inner, hgx, ?_⟩
    rw [hty, show serTyWith (serPath e (fs + 1)) (.path q) (.record inner) = serPath e (fs + 1) q (.record inner) from rfl,
      serPath_struct e fs q n d c gfields he inner,
      ser_of_read (dePath e true fuel) (serPath e fs) gcanon kvs inner gfields hgp (find_of_all2 hin hgr) hrtg hunitg hdefg]
    rfl

/-! ## the side conditions are satisfiable, and the layers compose: a concrete module

`hero { name age id friends { name } }` with `name: String!`, `age: Int`, `id: ID!`,
`friends: [Friend!]`.  Everything below is for **every** object `kvs` without duplicate keys. -/

def demoEnv : Env :=
  { items := Codegen.builtinAliases ++ [
      .struct "QHero" [] none
        [{ rust := "name", ty := .path "String" },
         { rust := "age", ty := .opt (.path "Int") },
         { rust := "id", ty := .path "ID", deserWith := some "graphql_client::serde_with::deserialize_id" },
         { rust := "friends", ty := .opt (.vec (.path "QHeroFriends")) }],
      .struct "QHeroFriends" [] none [{ rust := "name", ty := .path "String" }] ] }

def friendFields : List RField := [{ rust := "name", ty := .path "String" }]

def heroFields : List RField :=
  [{ rust := "name", ty := .path "String" },
   { rust := "age", ty := .opt (.path "Int") },
   { rust := "id", ty := .path "ID", deserWith := some "graphql_client::serde_with::deserialize_id" },
   { rust := "friends", ty := .opt (.vec (.path "QHeroFriends")) }]

example : plain heroFields = true ∧ (heroFields.map (·.rust)).Nodup ∧ (heroFields.map (·.wire)).Nodup ∧
    (∀ f ∈ heroFields, f.default = true → isOption f.ty = true) := by decide

def friendCanon : RField → Json → Json := fun _ j => j

def heroCanon : RField → Json → Json := fun f j =>
  if f.rust == "id" then idCanon j
  else if f.rust == "friends" then canon (structCanon friendCanon friendFields) (.list (.nonNull (.named "Friend"))) j
  else j

/-- layer 2 on `QHeroFriends`, then layers 1+2 for the `friends` position, then layer 2 on `QHero` -/
example (b : Bool) (k m : Nat) (kvs : List (String × Json)) (hk : (kvs.map (·.1)).Nodup) (v : Val)
    -- the value under `friends` is well-formed JSON for `[Friend!]`: objects without duplicate keys
    (hfr : ∀ j, Json.lookup "friends" kvs = some j →
      accepts (objOk (fun _ => true)) (.list (.nonNull (.named "Friend"))) j = true)
    (h : dePath demoEnv b (k + 4) "QHero" (.obj kvs) = .ok v) :
    serPath demoEnv (m + 3) "QHero" v = .ok (.obj (expectOut heroCanon heroFields kvs)) := by
  have hInt : demoEnv.find "Int" = some (.alias "Int" false (.path "i64")) := rfl
  refine struct_roundtrip_path demoEnv b (k + 3) (m + 2) "QHero" "QHero" [] none heroFields heroCanon kvs
    (by decide) rfl (by decide) (by decide) hk ?_ ?_ (by decide) v h
  · -- `hrt`
    intro f hf j x hl hx
    simp only [heroFields, List.mem_cons, List.not_mem_nil, or_false] at hf
    rcases hf with rfl | rfl | rfl | rfl
    · have := field_roundtrip_plain _ (serPath demoEnv (m + 2)) _ "String" (.nonNull (.named "String")) id rfl
        (by simp [rustOf, rustOfNN]) rfl (leaf_string_rt demoEnv b (k + 2) (m + 1)) j x hx
      rw [(canon_id _).2 j] at this
      simpa [heroCanon] using this
    · have := field_roundtrip_plain _ (serPath demoEnv (m + 2)) _ "Int" (.named "Int") id rfl
        (by simp [rustOf, rustOfNN]) rfl (leaf_int_rt demoEnv b (k + 1) (m + 1) hInt) j x hx
      rw [(canon_id _).2 j] at this
      simpa [heroCanon] using this
    · have := field_roundtrip_id _ (serPath demoEnv (m + 2)) (fun s => serPath_prim demoEnv (m + 1) "ID" _ _ rfl)
        _ (.nonNull (.named "ID")) rfl (by simp [rustOf, rustOfNN]) rfl j x hx
      simpa [heroCanon, canon, canonNN] using this
    · -- the nested object position: layers 1 + 2
      unfold deFieldWith at hx
      simp only at hx
      have hx' : deTy demoEnv b (k + 2 + 1) (rustOf (.path "QHeroFriends") (.list (.nonNull (.named "Friend")))) j = .ok x := by
        simpa [deTy, rustOf, rustOfNN] using hx
      have := struct_position_roundtrip demoEnv b (k + 2) (m + 1) "QHeroFriends" "QHeroFriends" [] none
        friendFields friendCanon (fun _ => true) (by decide) rfl (by decide) (by decide)
        (by
          intro _ _ f hf j x _ hx
          simp only [friendFields, List.mem_cons, List.not_mem_nil, or_false] at hf
          subst hf
          have := field_roundtrip_plain _ (serPath demoEnv (m + 1)) _ "String" (.nonNull (.named "String")) id rfl
            (by simp [rustOf, rustOfNN]) rfl (leaf_string_rt demoEnv b (k + 1) m) j x hx
          rwa [(canon_id _).2 j] at this)
        (by
          intro _ _ f hf hs
          simp only [friendFields, List.mem_cons, List.not_mem_nil, or_false] at hf
          subst hf; simp at hs)
        (by decide) (.list (.nonNull (.named "Friend"))) rfl j (hfr j hl) x hx'
      simpa [serTy, rustOf, rustOfNN, heroCanon] using this
  · -- `hunit`: no field carries `skip_serializing_none`
    intro f hf hs
    simp only [heroFields, List.mem_cons, List.not_mem_nil, or_false] at hf
    rcases hf with rfl | rfl | rfl | rfl <;> simp at hs

/-! ### the side conditions of L3, L4 and of the writer on concrete items -/

-- L3: the tagged enum of `overlapEnv`, read from `overlapJson`'s entries
example :
    let vs : List RVariant := [{ name := "Dog", payload := some (.path "QAnimalOnDog") }, { name := "Cat" }]
    let kvs : List (String × Json) := [("__typename", .str "Dog"), ("name", .str "Rex"), ("barks", .bool true)]
    (vs.map (·.wire)).Nodup ∧ (vs.map (·.name)).Nodup ∧ countKey "__typename" kvs = 1 ∧
      Json.lookup "__typename" kvs = some (.str "Dog") := by
  refine ⟨by decide, by decide, by decide, rfl⟩

-- L4: `struct Q { id, #[serde(flatten)] frag: Frag, age }`, `struct Frag { name, email }`
example :
    let pre : List RField := [{ rust := "id", ty := .path "ID" }]
    let g : RField := { rust := "frag", ty := .path "Frag", flatten := true }
    let post : List RField := [{ rust := "age", ty := .opt (.path "Int") }]
    let gfields : List RField := [{ rust := "name", ty := .path "String" }, { rust := "email", ty := .opt (.path "String") }]
    plain pre = true ∧ plain post = true ∧ g.flatten = true ∧ plain gfields = true ∧
      ((pre ++ g :: post).map (·.rust)).Nodup ∧ (gfields.map (·.rust)).Nodup ∧
      (∀ f ∈ pre ++ post, ∀ h ∈ gfields, f.wire ≠ h.wire) := by decide

-- the writer: `Variables { id: ID, first: Option<Int> /* skip_serializing_none */ }` holding `first = None`
example :
    let fields : List RField := [{ rust := "id", ty := .path "ID" }, { rust := "first", ty := .opt (.path "Int"), skipNone := true }]
    let vals : List (String × Val) := [("id", .str "7"), ("first", .unit)]
    plain fields = true ∧ (fields.map (·.wire)).Nodup ∧
      (fields.filter (fun f => !skipped vals f)).map (·.wire) = ["id"] := by decide

/-! ### what the top level (`C01TopLevel`) needs of fuel and of `normJson`

The layer theorems hold for every fuel `k + c` (`c` a small constant); `Serde.de` runs with `Serde.deFuel`
`= 2 * (size + 2) * (#items + #externs + 2) ≥ 6` (`deFuel_ge`), `Serde.ser` with
`(size + 2) * (#items + #externs + 2)`.  `Serde.ser` finally applies `normJson`
(`serde_json::Map`: the last occurrence of a key wins), which does nothing to an entry list with
pairwise distinct keys (`normObj_of_nodup`) — and that is what `ser_keys_nodup` gives. -/

theorem jsonSize_pos (j : Json) : 1 ≤ jsonSize j :=
  SerdeFuel.jsonSize_pos j

theorem deFuel_ge (e : Env) (j : Json) : 6 ≤ deFuel e j := by
  unfold deFuel
  have h1 := jsonSize_pos j
  have h2 : 3 * 2 ≤ (jsonSize j + 2) * (e.items.length + e.externs.length + 2) := Nat.mul_le_mul (by omega) (by omega)
  omega

/-- `serde_json::Map` collapsing is the identity on entries with pairwise distinct keys -/
theorem normObj_of_nodup (kvs : List (String × Json)) (h : (kvs.map (·.1)).Nodup) : Json.normObj kvs = kvs :=
  SerdeFuel.normObj_of_nodup kvs h

end C01
end GqlVerif
