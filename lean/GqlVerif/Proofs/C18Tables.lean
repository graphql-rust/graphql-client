import GqlVerif.Props.C18
import GqlVerif.Proofs.TableLookup
/-!
# C18 — the model's option parsers ARE the tables extracted from the source

`Model/Gen/Consts.lean` is regenerated on every run from `deprecation.rs` / `normalization.rs`: the arms of the two
`FromStr` impls (`Gen.deprecationFromStr`, `Gen.normalizationFromStr`) and the `#[default]` variant
(`Gen.deprecationDefault`).  `C18.option_spellings_match_source` compares those tables with literals, which by itself ties
nothing to the model's own parsers (`Attr.parseDeprecation`, `Attr.parseNormalization`,
`Options.effectiveDeprecation`).  The theorems below do: for EVERY
string the model's parser is the look-up of the normalised word in the regenerated table, and the default strategy is the
regenerated default.  A spelling added, removed or re-targeted in the source breaks THESE proofs (the table changes,
the parser does not), and an edit of the model's parser breaks them as well.
-/
namespace GqlVerif
namespace C18T
open Attr

/-- the variant of `DeprecationStrategy` named in the source -/
def depOfName : String → Option Deprecation
  | "Allow" => some .allow | "Deny" => some .deny | "Warn" => some .warn | _ => none
/-- the variant of `Normalization` named in the source -/
def normOfName : String → Option Normalization
  | "None" => some .none | "Rust" => some .rust | _ => none

/-- look-up of the normalised word among the arms of a `FromStr` impl -/
def tableLookup {α : Type} (table : List (String × String)) (ofName : String → Option α) (s : String) : Option α :=
  (table.find? (fun p => p.1.toList == normWord s)).bind (fun p => ofName p.2)

theorem parseDeprecation_is_table (s : String) :
    parseDeprecation s = tableLookup Gen.deprecationFromStr.2 depOfName s := by
  unfold parseDeprecation tableLookup Gen.deprecationFromStr
  rw [find?_bind_cons _ ['a','l','l','o','w'] _ _ _ _ (by decide),
    find?_bind_cons _ ['d','e','n','y'] _ _ _ _ (by decide), find?_bind_cons _ ['w','a','r','n'] _ _ _ _ (by decide)]
  rfl

theorem parseNormalization_is_table (s : String) :
    parseNormalization s = tableLookup Gen.normalizationFromStr.2 normOfName s := by
  unfold parseNormalization tableLookup Gen.normalizationFromStr
  rw [find?_bind_cons _ ['n','o','n','e'] _ _ _ _ (by decide), find?_bind_cons _ ['r','u','s','t'] _ _ _ _ (by decide)]
  rfl

/-- the strategy in force when the attribute gives none is the `#[default]` variant of the source -/
theorem default_deprecation_is_source_default (o : Options) (h : o.deprecation = none) :
    some o.effectiveDeprecation = depOfName Gen.deprecationDefault := by
  simp [Options.effectiveDeprecation, h, Gen.deprecationDefault, depOfName]

/-- every arm of the source is an arm of the model, with the same target (non-vacuity: the look-up is not constantly `none`) -/
theorem every_source_arm_is_parsed :
    (Gen.deprecationFromStr.2.map (fun p => (parseDeprecation p.1, depOfName p.2))).all (fun x => x.1.isSome && x.1 == x.2) = true ∧
    (Gen.normalizationFromStr.2.map (fun p => (parseNormalization p.1, normOfName p.2))).all (fun x => x.1.isSome && x.1 == x.2) = true := by
  constructor <;> decide

end C18T
end GqlVerif
