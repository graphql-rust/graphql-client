import GqlVerif.Proofs.C01NestedAbsE
import GqlVerif.Proofs.C01MixedSchema
import GqlVerif.Proofs.C01VariantSpreadEval
import GqlVerif.Proofs.SpecEval
/-!
# `NestedAbsOp`: the instance, all hypotheses evaluated

Schema `mxSchema` (`interface Animal { name }`, `type Dog implements Animal { name barks }`, `type Cat implements Animal
{ name lives }`, `type Query { dog animal }`);

    fragment Inner on Dog { barks }
    fragment Outer on Dog { name ...Inner }
    query Q { animal { __typename ... on Dog { ...Outer } } }

* the operation is in `NestedAbsOp` and in none of `NestedOp`, `NestedOp1`, `MixedOp2`, `MixedOp`, `VariantSpreadOp2`,
  `VariantSpreadOp`, `FragmentOp`, `VariantOp`; the model generates its module (`na_gen`);
* the emitted types: `enum Qanimal { Dog(QanimalOnDog), Cat }` tagged by `__typename`, `type QanimalOnDog = Outer`,
  `struct Outer { name, #[serde(flatten)] Inner }`, `struct Inner { barks }` (`na_items_shape`);
* every hypothesis of `nestedabs_accepts` / `nestedabs_precise_iff` / `nestedabs_roundtrip` by `decide +kernel`;
* `na_roundtrip` — the payload with `__typename: "Dog"` is accepted and written back as the tag entry, `Outer`'s own entry
  `name`, then `Inner`'s entry `barks`; `na_roundtrip_cat` — a unit variant; rejected payloads through `na_precise`;
* the same with the direct spread `animal { __typename ...Outer }` (`nb…`);
* `nc…`: two fragments selected on `Dog` (`... on Dog { ...Wrap } ...NameF`): the variant struct with two flattened members,
  one of them with a flattened member of its own; round trip through `nestedabs_roundtrip`;
* `nestedabs_tag_needed`, `nestedabs_variant_keys_needed`: the new side conditions (`absTagOk`; key disjointness per possible
  type in `nestedAbsKeysOk`) are necessary — conforming responses the emitted types reject.
-/
set_option linter.unusedSimpArgs false

namespace GqlVerif
namespace C01NA
open Serde Spec C13 C03 Codegen C01 C01.E2E C01M C01N

def naOp (animal : List Sel) : ROperation :=
  { name := "Q", kind := .query, objectId := 0, sels := [.field none 1 animal] }

def naQuery (animal : List Sel) : Query :=
  { operations := [naOp animal]
    fragments := [{ name := "Inner", on := .object 1, sels := [.field none 3 []] },
                  { name := "Outer", on := .object 1, sels := [.field none 2 [], .spread 0] }] }

def naCtx (animal : List Sel) : Ctx := { s := mxSchema, q := naQuery animal, o := {}, cs := ⟨id, id⟩ }

/-- `animal { __typename ... on Dog { ...Outer } }` -/
def naAnimal : List Sel := [.typename, .inline (.object 1) [.spread 1]]
/-- `animal { __typename ...Outer }` -/
def nbAnimal : List Sel := [.typename, .spread 1]

def naItems : List Item := okOr (responseForQuery (naCtx naAnimal) 0)
def nbItems : List Item := okOr (responseForQuery (naCtx nbAnimal) 0)

theorem na_gen : responseForQuery (naCtx naAnimal) 0 = .ok naItems := gen_of_isOk (by decide +kernel)
theorem nb_gen : responseForQuery (naCtx nbAnimal) 0 = .ok nbItems := gen_of_isOk (by decide +kernel)

theorem na_class : NestedAbsOp (naCtx naAnimal) (naOp naAnimal) = true := by decide +kernel
theorem nb_class : NestedAbsOp (naCtx nbAnimal) (naOp nbAnimal) = true := by decide +kernel

/-! the operation is in none of the earlier classes -/
theorem na_not_N : NestedOp (naCtx naAnimal) (naOp naAnimal) = false := by decide +kernel
theorem na_not_N1 : NestedOp1 (naCtx naAnimal) (naOp naAnimal) = false := by decide +kernel
theorem na_not_M2 : MixedOp2 (naCtx naAnimal) (naOp naAnimal) = false := by decide +kernel
theorem na_not_M : MixedOp (naCtx naAnimal) (naOp naAnimal) = false := by decide +kernel
theorem na_not_S2 : VariantSpreadOp2 (naCtx naAnimal) (naOp naAnimal) = false := by decide +kernel
theorem na_not_S : VariantSpreadOp (naCtx naAnimal) (naOp naAnimal) = false := by decide +kernel
theorem na_not_F : FragmentOp (naCtx naAnimal) (naOp naAnimal) = false := by decide +kernel
theorem na_not_V : VariantOp (naCtx naAnimal) (naOp naAnimal) = false := by decide +kernel
theorem nb_not_N : NestedOp (naCtx nbAnimal) (naOp nbAnimal) = false := by decide +kernel
theorem nb_not_M2 : MixedOp2 (naCtx nbAnimal) (naOp nbAnimal) = false := by decide +kernel
theorem nb_not_S2 : VariantSpreadOp2 (naCtx nbAnimal) (naOp nbAnimal) = false := by decide +kernel

/-! the side conditions -/
theorem na_names : fragNamesOk (naCtx naAnimal) = true := by decide +kernel
theorem na_keys : nestedAbsKeysOk (naCtx naAnimal) (naOp naAnimal) = true := by decide +kernel
theorem na_tag : absTagOk (naCtx naAnimal) (naOp naAnimal) = true := by decide +kernel
theorem na_side : nestedAbsSideOk (naCtx naAnimal) (naOp naAnimal) = true := by decide +kernel
theorem na_ok : moduleOk (naCtx naAnimal) naItems = true := by decide +kernel
theorem nb_names : fragNamesOk (naCtx nbAnimal) = true := by decide +kernel
theorem nb_keys : nestedAbsKeysOk (naCtx nbAnimal) (naOp nbAnimal) = true := by decide +kernel
theorem nb_tag : absTagOk (naCtx nbAnimal) (naOp nbAnimal) = true := by decide +kernel
theorem nb_side : nestedAbsSideOk (naCtx nbAnimal) (naOp nbAnimal) = true := by decide +kernel
theorem nb_ok : moduleOk (naCtx nbAnimal) nbItems = true := by decide +kernel

/-- `nestedabs_items_shape` on the instance -/
theorem na_items :
    responseItems (naCtx naAnimal) (naOp naAnimal) =
      .ok (bodyItemsA (naCtx naAnimal) "ResponseData" "Q" (naOp naAnimal).sels) :=
  nestedabs_items_shape _ _ (by simp [naCtx, naQuery]) na_class

/-- the emitted types -/
theorem na_items_shape :
    ((moduleEnv (naCtx naAnimal) naItems).find "Qanimal" ==
      some (.tagged "Qanimal" ["Deserialize"] (some "::serde") "__typename"
        [{ name := "Dog", payload := some (.path "QanimalOnDog") }, { name := "Cat" }])) &&
    ((moduleEnv (naCtx naAnimal) naItems).find "QanimalOnDog" == some (.alias "QanimalOnDog" true (.path "Outer"))) &&
    ((moduleEnv (naCtx naAnimal) naItems).find "Outer" ==
      some (.struct "Outer" ["Deserialize"] (some "::serde")
        [{ rust := "name", ty := .path "String" },
         { rust := "Inner", ty := .path "Inner", flatten := true }])) &&
    ((moduleEnv (naCtx naAnimal) naItems).find "Inner" ==
      some (.struct "Inner" ["Deserialize"] (some "::serde")
        [{ rust := "barks", ty := .opt (.path "Boolean") }])) = true := by
  decide +kernel

/-- C03 on the module: what `ResponseData` accepts, exactly -/
theorem na_precise (j : Json) :
    okB (Serde.de (moduleEnv (naCtx naAnimal) naItems) (.path "ResponseData") j) =
      conformsLooseA (wholeN (naCtx naAnimal) 2) mxSchema (naQuery naAnimal) {} false (naOp naAnimal).sels j :=
  nestedabs_precise_iff (naCtx naAnimal) 0 (naOp naAnimal) naItems rfl na_class na_names na_keys na_gen na_ok j

def naJson : Json :=
  .obj [("animal", .obj [("barks", .bool true), ("__typename", .str "Dog"), ("name", .str "Rex")])]

def naJsonCat : Json :=
  .obj [("animal", .obj [("__typename", .str "Cat")])]

theorem na_conforms : conformsOpN (naCtx naAnimal) (naOp naAnimal) naJson = true := by
  rw [conformsOpN, conformsV_eq_K]
  decide +kernel
theorem na_conforms_cat : conformsOpN (naCtx naAnimal) (naOp naAnimal) naJsonCat = true := by
  rw [conformsOpN, conformsV_eq_K]
  decide +kernel
theorem nb_conforms : conformsOpN (naCtx nbAnimal) (naOp nbAnimal) naJson = true := by
  rw [conformsOpN, conformsV_eq_K]
  decide +kernel

/-- `nestedabs_accepts` on the instance -/
theorem na_accepts : ∃ v, Serde.de (moduleEnv (naCtx naAnimal) naItems) (.path "ResponseData") naJson = .ok v :=
  nestedabs_accepts (naCtx naAnimal) 0 (naOp naAnimal) naItems rfl na_class na_names na_keys na_tag na_gen na_ok naJson
    na_conforms

/-- `nestedabs_roundtrip` on the instance, the canonical form still symbolic -/
theorem na_roundtrip_canon :
    Serde.roundtrip (moduleEnv (naCtx naAnimal) naItems) (.path "ResponseData") naJson =
      .ok (normJson (canonSelA (centN (naCtx naAnimal) 2) mxSchema (naQuery naAnimal) {} (naOp naAnimal).sels naJson)) :=
  nestedabs_roundtrip (naCtx naAnimal) 0 (naOp naAnimal) naItems rfl na_class na_names na_keys na_tag na_side na_gen na_ok
    naJson na_conforms

abbrev CA : Ctx := naCtx naAnimal
abbrev CB : Ctx := naCtx nbAnimal

/-- `Outer` (fragment 1) is new at rank `1`: its body spreads the spread-free `Inner` -/
theorem na_r1 : fragOkN CA.s CA.q CA.o 1 (fragOn CA.q 1) 1 = true := by decide +kernel
theorem na_r0 : fragOkN CA.s CA.q CA.o 0 (fragOn CA.q 1) 1 = false := by decide +kernel
theorem nb_r1 : fragOkN CB.s CB.q CB.o 1 (fragOn CB.q 1) 1 = true := by decide +kernel
theorem nb_r0 : fragOkN CB.s CB.q CB.o 0 (fragOn CB.q 1) 1 = false := by decide +kernel
/-- the field `animal` is not a field of `VariantSpreadOp` -/
theorem na_old : sSel mxSchema (naQuery naAnimal) {} false (.field none 1 naAnimal) = false := by decide +kernel
theorem nb_old : sSel mxSchema (naQuery nbAnimal) {} false (.field none 1 nbAnimal) = false := by decide +kernel

/-- the entries `Outer` writes: its own entry `name`, then the entries of `Inner` -/
theorem na_cent (kvs : List (String × Json)) :
    centN CA 2 1 kvs = canonEntriesN (fun g kvs => canonEntriesV CA.s CA.o.skipNone (fragSels CA.q g) kvs) CA.s CA.q
      CA.o.skipNone (fragSels CA.q 1) kvs := by
  rw [centN, if_pos na_r1, centN, if_neg (by rw [na_r0]; simp), centN_zero]
theorem nb_cent (kvs : List (String × Json)) :
    centN CB 2 1 kvs = canonEntriesN (fun g kvs => canonEntriesV CB.s CB.o.skipNone (fragSels CB.q g) kvs) CB.s CB.q
      CB.o.skipNone (fragSels CB.q 1) kvs := by
  rw [centN, if_pos nb_r1, centN, if_neg (by rw [nb_r0]; simp), centN_zero]

/-- what the struct `Outer` accepts: its own field `name`, and `Inner` accepts the whole object -/
theorem na_whole (b : Bool) (j : Json) :
    wholeN CA 2 1 b j = conformsLooseN (fun g b j => conformsLooseV CA.s CA.o b (fragSels CA.q g) j) CA.s CA.q CA.o b
      (fragSels CA.q 1) j := by
  rw [wholeN, if_pos na_r1, wholeN, if_neg (by rw [na_r0]; simp)]
  congr 1

macro "canonA_eval" h:term : tactic => `(tactic|
  simp [$h:term, canonAbsA, canonTagA, memFrags, memSels, spreadId, aliasInl, List.filterMap_cons, mineOf, onVt, selOn, selFrag, vtsOfTy, Schema.implementors,
    canonSelN, canonEntriesN, canonFieldN, cwhole, naCtx, canonEntriesV, canonFieldV,
    canonSelM, canonEntriesM, canonFieldM, canonSelV, canonSelD, canonEntriesD, canonFieldD, loneG, canonEntriesBD,
    canonVarD, onNamed, absEntries, absRest, hasStruct, isBSpread, isFieldSel, canonAbsV, canonInlV, tagName,
    fragSels, naOp, naQuery, mxSchema, objName, rtName, fieldKeys, fieldKey, Json.lookup, canon, canonNN,
    gtyOf, Json.isNull, skipQ, normJson, normKvs, normList, Json.normObj, Json.insert, List.zipIdx])

macro "looseA_eval" h:term : tactic => `(tactic|
  simp [$h:term, looseAbsA, looseTagA, payA, memFrags, memSels, spreadId, aliasInl, List.filterMap_cons, mineOf, onVt, selOn, selFrag, tagOkV, vtsOfTy, Schema.implementors,
    looseMemN, conformsLooseN, looseOwnN, looseFieldN, looseFieldS, conformsLooseV, looseSelsV, looseFieldV, naCtx, naQuery,
    naOp, fragSels, mxSchema, objName, rtName, isFieldSel, fieldKeys, fieldKey,
    Json.lookup, accepts, acceptsNN, gtyOf, scalarOk, floatOk, stringOk, boolOk, Json.isNull, nullableQ, countKey, isSpread,
    List.zipIdx])

set_option maxRecDepth 8000 in
/-- the canonical form, evaluated (for any `cent` that writes for `Outer` what `centN` does) -/
theorem na_canon_abs (cent : Nat → List (String × Json) → List (String × Json))
    (h : ∀ kvs, cent 1 kvs = canonEntriesN (fun g kvs => canonEntriesV CA.s CA.o.skipNone (fragSels CA.q g) kvs) CA.s CA.q
      CA.o.skipNone (fragSels CA.q 1) kvs) :
    normJson (canonSelA cent mxSchema (naQuery naAnimal) {} (naOp naAnimal).sels naJson) =
      .obj [("animal", .obj [("__typename", .str "Dog"), ("name", .str "Rex"), ("barks", .bool true)])] := by
  have hold := na_old
  simp only [naAnimal, naJson, CA] at h hold ⊢
  simp only [canonSelA, canonEntriesA, canonFieldA, naOp, hold]
  canonA_eval h

set_option maxRecDepth 8000 in
theorem na_canon_cat (cent : Nat → List (String × Json) → List (String × Json)) :
    normJson (canonSelA cent mxSchema (naQuery naAnimal) {} (naOp naAnimal).sels naJsonCat) =
      .obj [("animal", .obj [("__typename", .str "Cat")])] := by
  have hold := na_old
  simp only [naAnimal, naJsonCat] at hold ⊢
  simp only [canonSelA, canonEntriesA, canonFieldA, naOp, hold]
  canonA_eval hold

set_option maxRecDepth 8000 in
theorem nb_canon_abs (cent : Nat → List (String × Json) → List (String × Json))
    (h : ∀ kvs, cent 1 kvs = canonEntriesN (fun g kvs => canonEntriesV CB.s CB.o.skipNone (fragSels CB.q g) kvs) CB.s CB.q
      CB.o.skipNone (fragSels CB.q 1) kvs) :
    normJson (canonSelA cent mxSchema (naQuery nbAnimal) {} (naOp nbAnimal).sels naJson) =
      .obj [("animal", .obj [("__typename", .str "Dog"), ("name", .str "Rex"), ("barks", .bool true)])] := by
  have hold := nb_old
  simp only [nbAnimal, naJson, CB] at h hold ⊢
  simp only [canonSelA, canonEntriesA, canonFieldA, naOp, hold]
  canonA_eval h

/-- **the concrete round trip**: the payload with `__typename: "Dog"` is accepted and written back — the tag entry, then
    `Outer`'s own entry `name`, then the entry `barks` of the fragment `Inner` spread in `Outer`'s body -/
theorem na_roundtrip :
    Serde.roundtrip (moduleEnv (naCtx naAnimal) naItems) (.path "ResponseData") naJson =
      .ok (.obj [("animal", .obj [("__typename", .str "Dog"), ("name", .str "Rex"), ("barks", .bool true)])]) := by
  rw [na_roundtrip_canon]
  exact congrArg Except.ok (na_canon_abs _ na_cent)

/-- … and the model agrees when evaluated directly -/
theorem na_roundtrip_eval :
    (match Serde.roundtrip (moduleEnv (naCtx naAnimal) naItems) (.path "ResponseData") naJson with
     | .ok (.obj [("animal", .obj [("__typename", .str "Dog"), ("name", .str "Rex"), ("barks", .bool true)])]) => true
     | _ => false) = true := by decide +kernel

/-- a possible type without selection: a unit variant, only the tag is written -/
theorem na_roundtrip_cat :
    Serde.roundtrip (moduleEnv (naCtx naAnimal) naItems) (.path "ResponseData") naJsonCat =
      .ok (.obj [("animal", .obj [("__typename", .str "Cat")])]) := by
  rw [nestedabs_roundtrip (naCtx naAnimal) 0 (naOp naAnimal) naItems rfl na_class na_names na_keys na_tag na_side na_gen
    na_ok naJsonCat na_conforms_cat]
  exact congrArg Except.ok (na_canon_cat _)

/-- the direct spread `animal { __typename ...Outer }`: same types, same round trip -/
theorem nb_roundtrip :
    Serde.roundtrip (moduleEnv (naCtx nbAnimal) nbItems) (.path "ResponseData") naJson =
      .ok (.obj [("animal", .obj [("__typename", .str "Dog"), ("name", .str "Rex"), ("barks", .bool true)])]) := by
  rw [nestedabs_roundtrip (naCtx nbAnimal) 0 (naOp nbAnimal) nbItems rfl nb_class nb_names nb_keys nb_tag nb_side nb_gen
    nb_ok naJson nb_conforms]
  exact congrArg Except.ok (nb_canon_abs _ nb_cent)

set_option maxRecDepth 8000 in
theorem na_loose_missing (whole : Nat → Bool → Json → Bool)
    (h : ∀ b j, whole 1 b j = conformsLooseN (fun g b j => conformsLooseV CA.s CA.o b (fragSels CA.q g) j) CA.s CA.q CA.o b
      (fragSels CA.q 1) j) :
    conformsLooseA whole mxSchema (naQuery naAnimal) {} false (naOp naAnimal).sels
      (.obj [("animal", .obj [("__typename", .str "Dog"), ("barks", .bool true)])]) = false := by
  have hold := na_old
  simp only [naAnimal, CA] at h hold ⊢
  simp only [conformsLooseA, looseOwnA, looseFieldA, naOp, hold]
  looseA_eval h

/-- rejected: the non-null `name` of `Outer` is missing -/
theorem na_rejects_missing : okB (Serde.de (moduleEnv (naCtx naAnimal) naItems) (.path "ResponseData")
    (.obj [("animal", .obj [("__typename", .str "Dog"), ("barks", .bool true)])])) = false := by
  rw [na_precise]; exact na_loose_missing _ na_whole

set_option maxRecDepth 8000 in
theorem na_loose_kind (whole : Nat → Bool → Json → Bool)
    (h : ∀ b j, whole 1 b j = conformsLooseN (fun g b j => conformsLooseV CA.s CA.o b (fragSels CA.q g) j) CA.s CA.q CA.o b
      (fragSels CA.q 1) j) :
    conformsLooseA whole mxSchema (naQuery naAnimal) {} false (naOp naAnimal).sels
      (.obj [("animal", .obj [("__typename", .str "Dog"), ("name", .str "Rex"), ("barks", .str "loud")])]) = false := by
  have hold := na_old
  simp only [naAnimal, CA] at h hold ⊢
  simp only [conformsLooseA, looseOwnA, looseFieldA, naOp, hold]
  looseA_eval h

/-- rejected: a wrong scalar kind under the key `barks`, selected two fragments deep -/
theorem na_rejects_kind : okB (Serde.de (moduleEnv (naCtx naAnimal) naItems) (.path "ResponseData")
    (.obj [("animal", .obj [("__typename", .str "Dog"), ("name", .str "Rex"), ("barks", .str "loud")])])) = false := by
  rw [na_precise]; exact na_loose_kind _ na_whole

set_option linter.unusedVariables false in
set_option maxRecDepth 8000 in
theorem na_loose_untagged (whole : Nat → Bool → Json → Bool)
    (h : ∀ b j, whole 1 b j = conformsLooseN (fun g b j => conformsLooseV CA.s CA.o b (fragSels CA.q g) j) CA.s CA.q CA.o b
      (fragSels CA.q 1) j) :
    conformsLooseA whole mxSchema (naQuery naAnimal) {} false (naOp naAnimal).sels
      (.obj [("animal", .obj [("name", .str "Rex"), ("barks", .bool true)])]) = false := by
  have hold := na_old
  simp only [naAnimal, CA] at h hold ⊢
  simp only [conformsLooseA, looseOwnA, looseFieldA, naOp, hold]
  looseA_eval h

/-- rejected: no `__typename` -/
theorem na_rejects_untagged : okB (Serde.de (moduleEnv (naCtx naAnimal) naItems) (.path "ResponseData")
    (.obj [("animal", .obj [("name", .str "Rex"), ("barks", .bool true)])])) = false := by
  rw [na_precise]; exact na_loose_untagged _ na_whole

set_option maxRecDepth 8000 in
theorem na_loose_absent (whole : Nat → Bool → Json → Bool)
    (h : ∀ b j, whole 1 b j = conformsLooseN (fun g b j => conformsLooseV CA.s CA.o b (fragSels CA.q g) j) CA.s CA.q CA.o b
      (fragSels CA.q 1) j) :
    conformsLooseA whole mxSchema (naQuery naAnimal) {} false (naOp naAnimal).sels
      (.obj [("animal", .obj [("__typename", .str "Dog"), ("name", .str "Rex")])]) = true := by
  have hold := na_old
  simp only [naAnimal, CA] at h hold ⊢
  simp only [conformsLooseA, looseOwnA, looseFieldA, naOp, hold]
  looseA_eval h

/-- accepted: the nullable `barks` absent -/
theorem na_accepts_absent : okB (Serde.de (moduleEnv (naCtx naAnimal) naItems) (.path "ResponseData")
    (.obj [("animal", .obj [("__typename", .str "Dog"), ("name", .str "Rex")])])) = true := by
  rw [na_precise]; exact na_loose_absent _ na_whole


/-! ## several fragments selected on one possible type: the variant struct

    fragment Inner on Dog { barks }
    fragment Wrap  on Dog { __typename ...Inner }
    fragment NameF on Dog { name }
    query Q { animal { __typename ... on Dog { ...Wrap } ...NameF } }

`QanimalOnDog` is the struct `{ #[serde(flatten)] NameF, #[serde(flatten)] Wrap }` (the direct spread first, then the aliased
inline fragment), `Wrap` the struct `{ #[serde(flatten)] Inner }`: a flattened member of a variant struct with a flattened
member of its own. -/

def ncQuery (animal : List Sel) : Query :=
  { operations := [naOp animal]
    fragments := [{ name := "Inner", on := .object 1, sels := [.field none 3 []] },
                  { name := "Wrap", on := .object 1, sels := [.typename, .spread 0] },
                  { name := "NameF", on := .object 1, sels := [.field none 2 []] }] }

def ncCtx (animal : List Sel) : Ctx := { s := mxSchema, q := ncQuery animal, o := {}, cs := ⟨id, id⟩ }

def ncAnimal : List Sel := [.typename, .inline (.object 1) [.spread 1], .spread 2]

def ncItems : List Item := okOr (responseForQuery (ncCtx ncAnimal) 0)

theorem nc_gen : responseForQuery (ncCtx ncAnimal) 0 = .ok ncItems := gen_of_isOk (by decide +kernel)
theorem nc_class : NestedAbsOp (ncCtx ncAnimal) (naOp ncAnimal) = true := by decide +kernel
theorem nc_not_N : NestedOp (ncCtx ncAnimal) (naOp ncAnimal) = false := by decide +kernel
theorem nc_not_M2 : MixedOp2 (ncCtx ncAnimal) (naOp ncAnimal) = false := by decide +kernel
theorem nc_not_S2 : VariantSpreadOp2 (ncCtx ncAnimal) (naOp ncAnimal) = false := by decide +kernel
theorem nc_names : fragNamesOk (ncCtx ncAnimal) = true := by decide +kernel
theorem nc_keys : nestedAbsKeysOk (ncCtx ncAnimal) (naOp ncAnimal) = true := by decide +kernel
theorem nc_tag : absTagOk (ncCtx ncAnimal) (naOp ncAnimal) = true := by decide +kernel
theorem nc_side : nestedAbsSideOk (ncCtx ncAnimal) (naOp ncAnimal) = true := by decide +kernel
theorem nc_ok : moduleOk (ncCtx ncAnimal) ncItems = true := by decide +kernel

theorem nc_items_shape :
    ((moduleEnv (ncCtx ncAnimal) ncItems).find "QanimalOnDog" ==
      some (.struct "QanimalOnDog" ["Deserialize"] (some "::serde")
        [{ rust := "NameF", ty := .path "NameF", flatten := true },
         { rust := "Wrap", ty := .path "Wrap", flatten := true }])) &&
    ((moduleEnv (ncCtx ncAnimal) ncItems).find "Wrap" ==
      some (.struct "Wrap" ["Deserialize"] (some "::serde")
        [{ rust := "Inner", ty := .path "Inner", flatten := true }])) = true := by
  decide +kernel

theorem nc_conforms : conformsOpN (ncCtx ncAnimal) (naOp ncAnimal) naJson = true := by
  rw [conformsOpN, conformsV_eq_K]
  decide +kernel

/-- `nestedabs_roundtrip` on the module with a variant struct -/
theorem nc_roundtrip_canon :
    Serde.roundtrip (moduleEnv (ncCtx ncAnimal) ncItems) (.path "ResponseData") naJson =
      .ok (normJson (canonSelA (centN (ncCtx ncAnimal) 3) mxSchema (ncQuery ncAnimal) {} (naOp ncAnimal).sels naJson)) :=
  nestedabs_roundtrip (ncCtx ncAnimal) 0 (naOp ncAnimal) ncItems rfl nc_class nc_names nc_keys nc_tag nc_side nc_gen nc_ok
    naJson nc_conforms

/-- the model, evaluated: the tag entry, then `NameF`'s entry, then the entry of `Inner` spread in `Wrap`'s body -/
theorem nc_roundtrip_eval :
    (match Serde.roundtrip (moduleEnv (ncCtx ncAnimal) ncItems) (.path "ResponseData") naJson with
     | .ok (.obj [("animal", .obj [("__typename", .str "Dog"), ("name", .str "Rex"), ("barks", .bool true)])]) => true
     | _ => false) = true := by decide +kernel

/-- `nestedabs_accepts` on the module with a variant struct -/
theorem nc_accepts : ∃ v, Serde.de (moduleEnv (ncCtx ncAnimal) ncItems) (.path "ResponseData") naJson = .ok v :=
  nestedabs_accepts (ncCtx ncAnimal) 0 (naOp ncAnimal) ncItems rfl nc_class nc_names nc_keys nc_tag nc_gen nc_ok naJson
    nc_conforms

abbrev CC : Ctx := ncCtx ncAnimal
theorem nc_w2 : fragOkN CC.s CC.q CC.o 2 (fragOn CC.q 1) 1 = true := by decide +kernel
theorem nc_w1 : fragOkN CC.s CC.q CC.o 1 (fragOn CC.q 1) 1 = true := by decide +kernel
theorem nc_w0 : fragOkN CC.s CC.q CC.o 0 (fragOn CC.q 1) 1 = false := by decide +kernel
theorem nc_n2 : fragOkN CC.s CC.q CC.o 2 (fragOn CC.q 2) 2 = true := by decide +kernel
theorem nc_n1 : fragOkN CC.s CC.q CC.o 1 (fragOn CC.q 2) 2 = true := by decide +kernel
theorem nc_n0 : fragOkN CC.s CC.q CC.o 0 (fragOn CC.q 2) 2 = true := by decide +kernel
theorem nc_old : sSel mxSchema (ncQuery ncAnimal) {} false (.field none 1 ncAnimal) = false := by decide +kernel
theorem nc_cent1 (kvs : List (String × Json)) :
    centN CC 3 1 kvs = canonEntriesN (fun g kvs => canonEntriesV CC.s CC.o.skipNone (fragSels CC.q g) kvs) CC.s CC.q
      CC.o.skipNone (fragSels CC.q 1) kvs := by
  rw [centN, if_pos nc_w2, centN, if_pos nc_w1, centN, if_neg (by rw [nc_w0]; simp), centN_zero]
theorem nc_cent2 (kvs : List (String × Json)) :
    centN CC 3 2 kvs = canonEntriesV CC.s CC.o.skipNone (fragSels CC.q 2) kvs := by
  rw [centN, if_pos nc_n2, centN, if_pos nc_n1, centN, if_pos nc_n0, centN]
set_option maxRecDepth 8000 in
theorem nc_canon_abs (cent : Nat → List (String × Json) → List (String × Json))
    (h1 : ∀ kvs, cent 1 kvs = canonEntriesN (fun g kvs => canonEntriesV CC.s CC.o.skipNone (fragSels CC.q g) kvs) CC.s CC.q
      CC.o.skipNone (fragSels CC.q 1) kvs)
    (h2 : ∀ kvs, cent 2 kvs = canonEntriesV CC.s CC.o.skipNone (fragSels CC.q 2) kvs) :
    normJson (canonSelA cent mxSchema (ncQuery ncAnimal) {} (naOp ncAnimal).sels naJson) =
      .obj [("animal", .obj [("__typename", .str "Dog"), ("name", .str "Rex"), ("barks", .bool true)])] := by
  have hold := nc_old
  simp only [ncAnimal, naJson, CC] at h1 h2 hold ⊢
  simp only [canonSelA, canonEntriesA, canonFieldA, naOp, hold]
  simp [h1, h2, canonAbsA, canonTagA, memFrags, memSels, spreadId, aliasInl, List.filterMap_cons, mineOf, onVt, selOn, selFrag, vtsOfTy, Schema.implementors,
    canonSelN, canonEntriesN, canonFieldN, cwhole, ncCtx, canonEntriesV, canonFieldV,
    canonSelM, canonEntriesM, canonFieldM, canonSelV, canonSelD, canonEntriesD, canonFieldD, loneG, canonEntriesBD,
    canonVarD, onNamed, absEntries, absRest, hasStruct, isBSpread, isFieldSel, canonAbsV, canonInlV, tagName,
    fragSels, naOp, ncQuery, mxSchema, objName, rtName, fieldKeys, fieldKey, Json.lookup, canon, canonNN,
    gtyOf, Json.isNull, skipQ, normJson, normKvs, normList, Json.normObj, Json.insert, List.zipIdx]
/-- **`nestedabs_roundtrip` on the module with a variant struct, evaluated**: the tag entry, then `NameF`'s entry `name`,
    then the entry `barks` of `Inner`, spread in the body of `Wrap` -/
theorem nc_roundtrip :
    Serde.roundtrip (moduleEnv (ncCtx ncAnimal) ncItems) (.path "ResponseData") naJson =
      .ok (.obj [("animal", .obj [("__typename", .str "Dog"), ("name", .str "Rex"), ("barks", .bool true)])]) := by
  rw [nc_roundtrip_canon]
  exact congrArg Except.ok (nc_canon_abs _ nc_cent1 nc_cent2)


/-! ## the new side conditions are necessary -/

/-- `fragment Inner on Dog { barks }  fragment Tn on Dog { __typename: name ...Inner }`: the nested fragment reads the key
    `__typename` (through an alias) -/
def tnQuery (animal : List Sel) : Query :=
  { operations := [naOp animal]
    fragments := [{ name := "Inner", on := .object 1, sels := [.field none 3 []] },
                  { name := "Tn", on := .object 1, sels := [.field (some "__typename") 2 [], .spread 0] }] }

def tnCtx (animal : List Sel) : Ctx := { s := mxSchema, q := tnQuery animal, o := {}, cs := ⟨id, id⟩ }

def tnJson : Json := .obj [("animal", .obj [("__typename", .str "Dog"), ("barks", .null)])]

theorem tn_conforms : conformsOpN (tnCtx nbAnimal) (naOp nbAnimal) tnJson = true := by
  rw [conformsOpN, conformsV_eq_K]
  decide +kernel

/-- **`nestedabs_accepts` is false without `absTagOk`**: `animal { __typename ...Tn }` is in the class, every other side
    condition holds, the module is generated, the response conforms — and the emitted `ResponseData` rejects it: the
    internally tagged enum consumes the `__typename` entry, the struct `Tn` then misses its field -/
theorem nestedabs_tag_needed :
    NestedAbsOp (tnCtx nbAnimal) (naOp nbAnimal) = true ∧ fragNamesOk (tnCtx nbAnimal) = true ∧
    nestedAbsKeysOk (tnCtx nbAnimal) (naOp nbAnimal) = true ∧ absTagOk (tnCtx nbAnimal) (naOp nbAnimal) = false ∧
    isOkO (responseForQuery (tnCtx nbAnimal) 0) = true ∧
    moduleOk (tnCtx nbAnimal) (okOr (responseForQuery (tnCtx nbAnimal) 0)) = true ∧
    conformsOpN (tnCtx nbAnimal) (naOp nbAnimal) tnJson = true ∧
    okB (Serde.de (moduleEnv (tnCtx nbAnimal) (okOr (responseForQuery (tnCtx nbAnimal) 0))) (.path "ResponseData")
      tnJson) = false := by
  -- one evaluation for all components that run the generator
  have h : (NestedAbsOp (tnCtx nbAnimal) (naOp nbAnimal) = true ∧ fragNamesOk (tnCtx nbAnimal) = true ∧
      nestedAbsKeysOk (tnCtx nbAnimal) (naOp nbAnimal) = true ∧ absTagOk (tnCtx nbAnimal) (naOp nbAnimal) = false ∧
      isOkO (responseForQuery (tnCtx nbAnimal) 0) = true ∧
      moduleOk (tnCtx nbAnimal) (okOr (responseForQuery (tnCtx nbAnimal) 0)) = true) ∧
      okB (Serde.de (moduleEnv (tnCtx nbAnimal) (okOr (responseForQuery (tnCtx nbAnimal) 0))) (.path "ResponseData")
        tnJson) = false := by decide +kernel
  exact ⟨h.1.1, h.1.2.1, h.1.2.2.1, h.1.2.2.2.1, h.1.2.2.2.2.1, h.1.2.2.2.2.2, tn_conforms, h.2⟩

/-- `animal { __typename ...NameF ...Outer }`, `NameF on Dog { name }`, `Outer on Dog { name ...Inner }`: the key `name` is
    read by two members of the variant struct -/
def ovQuery (animal : List Sel) : Query :=
  { operations := [naOp animal]
    fragments := [{ name := "Inner", on := .object 1, sels := [.field none 3 []] },
                  { name := "Outer", on := .object 1, sels := [.field none 2 [], .spread 0] },
                  { name := "NameF", on := .object 1, sels := [.field none 2 []] }] }

def ovCtx (animal : List Sel) : Ctx := { s := mxSchema, q := ovQuery animal, o := {}, cs := ⟨id, id⟩ }

def ovAnimal : List Sel := [.typename, .spread 2, .spread 1]

theorem ov_conforms : conformsOpN (ovCtx ovAnimal) (naOp ovAnimal) naJson = true := by
  rw [conformsOpN, conformsV_eq_K]
  decide +kernel

/-- **`nestedabs_accepts` is false without the key disjointness per possible type** (`keysOkA` at a position of the new
    kind): the plain member `NameF` takes the entry `name`, the member `Outer` then misses it (the mechanism of the known
    finding `C01-overlap`) -/
theorem nestedabs_variant_keys_needed :
    NestedAbsOp (ovCtx ovAnimal) (naOp ovAnimal) = true ∧ fragNamesOk (ovCtx ovAnimal) = true ∧
    absTagOk (ovCtx ovAnimal) (naOp ovAnimal) = true ∧ nestedAbsKeysOk (ovCtx ovAnimal) (naOp ovAnimal) = false ∧
    isOkO (responseForQuery (ovCtx ovAnimal) 0) = true ∧
    moduleOk (ovCtx ovAnimal) (okOr (responseForQuery (ovCtx ovAnimal) 0)) = true ∧
    conformsOpN (ovCtx ovAnimal) (naOp ovAnimal) naJson = true ∧
    okB (Serde.de (moduleEnv (ovCtx ovAnimal) (okOr (responseForQuery (ovCtx ovAnimal) 0))) (.path "ResponseData")
      naJson) = false := by
  have h : (NestedAbsOp (ovCtx ovAnimal) (naOp ovAnimal) = true ∧ fragNamesOk (ovCtx ovAnimal) = true ∧
      absTagOk (ovCtx ovAnimal) (naOp ovAnimal) = true ∧ nestedAbsKeysOk (ovCtx ovAnimal) (naOp ovAnimal) = false ∧
      isOkO (responseForQuery (ovCtx ovAnimal) 0) = true ∧
      moduleOk (ovCtx ovAnimal) (okOr (responseForQuery (ovCtx ovAnimal) 0)) = true) ∧
      okB (Serde.de (moduleEnv (ovCtx ovAnimal) (okOr (responseForQuery (ovCtx ovAnimal) 0))) (.path "ResponseData")
        naJson) = false := by decide +kernel
  exact ⟨h.1.1, h.1.2.1, h.1.2.2.1, h.1.2.2.2.1, h.1.2.2.2.2.1, h.1.2.2.2.2.2, ov_conforms, h.2⟩

end C01NA
end GqlVerif
