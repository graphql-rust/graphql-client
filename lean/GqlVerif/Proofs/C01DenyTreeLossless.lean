import GqlVerif.Proofs.C01DenyTree
/-!
# C01 end to end under `deny`, object-tree operations (`TreeOpD`): losslessness

A payload conforming to the selection **as written** (denied keys present), with the denied keys erased at every depth
(`C14G.eraseObj` / `eraseDenied` of `C14GeneratedDeep`), conforms — strictly — to the **pruned** selection
(`conformsSel_erase`), and the canonical form w.r.t. the pruned selection does not see the erasure (`canonSel_erase`).
With these `treeD_lossless` is `top_lossless` for the pruned operation on the erased payload: the value is written back
as `canonSelD c op j = canonSel c.s c.o.skipNone (pruneSels c op.sels) j` — the canonical form of `tree_lossless` with
the denied fields treated as NOT selected: their entries are dropped at every depth like every other unselected key.

Side condition: `tnOkOp c op` (decidable) — in a kept selection set that selects `__typename`, no
denied field selection is *aliased* `__typename` (then the eraser would remove the entry `__typename` the strict
specification of the pruned selection asks for).  It holds whenever the response keys of every selection set are
pairwise distinct, in particular for the class `TreeOpR` (`tnOkOp_of_treeOpR` in `C01DenyTreeClass`).  The forms for
payloads conforming to the pruned operation (`treeD_lossless_pruned` / `treeD_roundtrip_pruned`) and the widest form
`treeD_roundtrip_of_erased` (any payload whose erasure conforms to the pruned operation: the denied keys may be absent,
of any type, duplicated) need no `tnOkOp`.
-/

namespace GqlVerif
namespace C01
namespace Deny
open Spec Codegen C01.E2E C14G

/-! ## the canonical form under `deny` -/

/-- **the allowed differences under `deny`**: `canonSel` of the selection with the denied fields removed — selection
    order of the kept fields, integer ID → decimal string, `__typename`, the denied keys and every other unselected key
    dropped, `null` → absent where `skip_serializing_none` applies -/
def canonSelD (c : Ctx) (op : ROperation) (j : Json) : Json := canonSel c.s c.o.skipNone (pruneSels c op.sels) j

/-! ## the side condition on `__typename` -/

def hasTypename (sels : List Sel) : Bool := sels.any (fun x => match x with | .typename => true | _ => false)

/-- a selection set that selects `__typename` does not erase the key `__typename` -/
def tnHere (c : Ctx) (sels : List Sel) : Bool := !hasTypename sels || !(dropKeys c sels).contains "__typename"

mutual
  def tnOkSel (c : Ctx) : Sel → Bool
    | .field _ fid sub =>
      match c.s.fields[fid]? with
      | some sf => isDenied c sf || (tnHere c sub && tnOkSels c sub)
      | none => true
    | _ => true
  def tnOkSels (c : Ctx) : List Sel → Bool
    | [] => true
    | x :: xs => tnOkSel c x && tnOkSels c xs
end

/-- **side condition** (decidable): `tnHere` at the root and at every kept selection set -/
def tnOkOp (c : Ctx) (op : ROperation) : Bool := tnHere c op.sels && tnOkSels c op.sels

theorem hasTypename_of_mem {sels : List Sel} (h : Sel.typename ∈ sels) : hasTypename sels = true := by
  simp only [hasTypename, List.any_eq_true]
  exact ⟨_, h, rfl⟩

theorem tnOkSels_mem {c : Ctx} : ∀ {sels : List Sel}, tnOkSels c sels = true → ∀ x ∈ sels, tnOkSel c x = true :=
  fun {sels} h => List.all_eq_true.mp
    (all_of_eqns (ps := tnOkSels c) (by rw [tnOkSels]) (fun _ _ => by rw [tnOkSels]) sels ▸ h)

theorem keptKey_some {c : Ctx} {x : Sel} {k : String} (h : keptKey c x = some k) :
    ∃ a fid sub sf, x = .field a fid sub ∧ c.s.fields[fid]? = some sf ∧ isDenied c sf = false ∧ k = a.getD sf.name :=
  C14G.keptKey_some h

theorem keptKey_of {c : Ctx} {a : Option String} {fid : Nat} {sub : List Sel} {sf : StoredField}
    (hsf : c.s.fields[fid]? = some sf) (hd : isDenied c sf = false) :
    keptKey c (.field a fid sub) = some (a.getD sf.name) :=
  C14G.keptKey_of hsf hd

theorem eraseEntry_of_mem (c : Ctx) {x : Sel} {k : String} (hk : keptKey c x = some k) (v : Json) :
    ∀ {sels : List Sel}, x ∈ sels → (keptKeys c sels).Nodup → eraseEntry c sels k v = eraseInSel c x v :=
  (firstKept_eraseEntry c).of_mem hk v

/-! ## `pruneSels`, `thruQuals`, lookups in the erased object -/

theorem pruneSels_eq_flatMap (c : Ctx) : ∀ sels : List Sel, pruneSels c sels = sels.flatMap (pruneSel c)
  | [] => by rw [pruneSels]; rfl
  | x :: xs => by rw [pruneSels, pruneSels_eq_flatMap c xs, List.flatMap_cons]

theorem mem_pruneSels {c : Ctx} {sels : List Sel} {y : Sel} :
    y ∈ pruneSels c sels ↔ ∃ x ∈ sels, y ∈ pruneSel c x := by
  rw [pruneSels_eq_flatMap, List.mem_flatMap]

def erasedKvs (c : Ctx) (sels : List Sel) (kvs : List (String × Json)) : List (String × Json) :=
  (eraseKeys (dropKeys c sels) kvs).map (fun kv => (kv.1, eraseEntry c sels kv.1 kv.2))

theorem eraseObj_obj (c : Ctx) (sels : List Sel) (kvs : List (String × Json)) :
    eraseObj c sels (.obj kvs) = .obj (erasedKvs c sels kvs) := rfl

theorem lookup_erased (ks : List String) (h : String → Json → Json) (k : String) (hk : k ∉ ks) :
    ∀ kvs : List (String × Json),
      Json.lookup k ((eraseKeys ks kvs).map (fun kv => (kv.1, h kv.1 kv.2))) = (Json.lookup k kvs).map (h k)
  | [] => by simp [eraseKeys, Json.lookup]
  | (k', v) :: rest => by
    have ih := lookup_erased ks h k hk rest
    simp only [eraseKeys] at ih ⊢
    rw [List.filter_cons]
    by_cases hk' : k' = k
    · subst hk'
      simp [hk, Json.lookup]
    · have hne : (k' == k) = false := by simpa using hk'
      by_cases hin : (!ks.contains k') = true
      · simp only [hin, ↓reduceIte, List.map_cons, Json.lookup, hne, Bool.false_eq_true]
        exact ih
      · simp only [hin, Bool.false_eq_true, ↓reduceIte, Json.lookup, hne]
        exact ih

theorem kept_not_drop {c : Ctx} {sels : List Sel} {k : String} (h : k ∈ keptKeys c sels) : k ∉ dropKeys c sels := by
  simp only [dropKeys, List.mem_filter, Bool.not_eq_true', List.contains_eq_mem, decide_eq_false_iff_not, not_and,
    Decidable.not_not]
  exact fun _ => h

theorem lookup_erased_kept (c : Ctx) {sels : List Sel} (hnd : (keptKeys c sels).Nodup) {x : Sel} {k : String}
    (hx : x ∈ sels) (hk : keptKey c x = some k) (kvs : List (String × Json)) :
    Json.lookup k (erasedKvs c sels kvs) = (Json.lookup k kvs).map (eraseInSel c x) := by
  unfold erasedKvs
  rw [lookup_erased _ _ k (kept_not_drop (List.mem_filterMap.mpr ⟨x, hx, hk⟩))]
  cases Json.lookup k kvs with
  | none => rfl
  | some v => simp only [Option.map_some]; rw [eraseEntry_of_mem c hk v hx hnd]

/-! ### `thruQuals` -/

/-- what is used of an eraser `g` that changes only objects: `null` and strings stay, nothing else becomes `null` -/
structure ObjOnly (g : Json → Json) : Prop where
  null : g .null = .null
  isNull : ∀ j, (g j).isNull = j.isNull
  str : ∀ s, g (.str s) = .str s

theorem objOnly_eraseObj (c : Ctx) (sels : List Sel) : ObjOnly (eraseObj c sels) :=
  ⟨rfl, fun j => by cases j <;> rfl, fun _ => rfl⟩

theorem thruQuals_isNull {g : Json → Json} (hg : ObjOnly g) : ∀ (qs : List Qual) (j : Json),
    (thruQuals g qs j).isNull = j.isNull
  | [], j => by rw [thruQuals]; exact hg.isNull j
  | .required :: qs, j => by rw [thruQuals]; exact thruQuals_isNull hg qs j
  | .list :: qs, j => by cases j <;> rfl

theorem thruQuals_str {g : Json → Json} (hg : ObjOnly g) (s : String) : ∀ (qs : List Qual),
    thruQuals g qs (.str s) = .str s
  | [] => by rw [thruQuals]; exact hg.str s
  | .required :: qs => by rw [thruQuals]; exact thruQuals_str hg s qs
  | .list :: qs => rfl

theorem accepts_thruQuals {ok ok' : Json → Bool} {g : Json → Json} (hg : ObjOnly g)
    (h : ∀ j, ok j = true → ok' (g j) = true) : ∀ (qs : List Qual),
    (∀ v, acceptsNN ok (gtyOf qs) v = true → acceptsNN ok' (gtyOf qs) (thruQuals g qs v) = true) ∧
    (∀ v, accepts ok (gtyOf qs) v = true → accepts ok' (gtyOf qs) (thruQuals g qs v) = true)
  | [] => by
    simp only [gtyOf, thruQuals, acceptsNN, accepts, Bool.or_eq_true]
    refine ⟨h, fun v hv => ?_⟩
    rcases hv with hv | hv
    · left; rw [hg.isNull]; exact hv
    · right; exact h v hv
  | .required :: qs => by
    have ih := accepts_thruQuals hg h qs
    simp only [gtyOf, thruQuals, acceptsNN, accepts]
    exact ⟨ih.1, ih.1⟩
  | .list :: qs => by
    have ih := accepts_thruQuals hg h qs
    have hnn : ∀ v, acceptsNN ok (gtyOf (.list :: qs)) v = true →
        acceptsNN ok' (gtyOf (.list :: qs)) (thruQuals g (.list :: qs) v) = true := by
      intro v hv
      cases v with
      | arr xs =>
        simp only [gtyOf, acceptsNN, thruQuals, List.all_eq_true, List.mem_map, forall_exists_index, and_imp,
          forall_apply_eq_imp_iff₂] at hv ⊢
        exact fun x hx => ih.2 x (hv x hx)
      | null => simp [gtyOf, acceptsNN] at hv
      | _ => simp [gtyOf, acceptsNN] at hv
    refine ⟨hnn, fun v hv => ?_⟩
    have hv' : v.isNull = true ∨ acceptsNN ok (gtyOf (.list :: qs)) v = true := by
      simpa [gtyOf, accepts] using hv
    have goal : ∀ w, (w.isNull = true ∨ acceptsNN ok' (gtyOf (.list :: qs)) w = true) →
        accepts ok' (gtyOf (.list :: qs)) w = true := by
      intro w hw; simpa [gtyOf, accepts] using hw
    apply goal
    rcases hv' with hv' | hv'
    · left; rw [thruQuals_isNull hg]; exact hv'
    · right; exact hnn v hv'

theorem canon_thruQuals {lc : Json → Json} {g : Json → Json} (hg : ObjOnly g) (h : ∀ j, lc (g j) = lc j) :
    ∀ (qs : List Qual),
    (∀ v, canonNN lc (gtyOf qs) (thruQuals g qs v) = canonNN lc (gtyOf qs) v) ∧
    (∀ v, canon lc (gtyOf qs) (thruQuals g qs v) = canon lc (gtyOf qs) v)
  | [] => by
    simp only [gtyOf, thruQuals, canonNN, canon, hg.isNull]
    exact ⟨h, fun v => by rw [h]⟩
  | .required :: qs => by
    have ih := canon_thruQuals hg h qs
    simp only [gtyOf, thruQuals, canonNN, canon]
    exact ⟨ih.1, ih.1⟩
  | .list :: qs => by
    have ih := canon_thruQuals hg h qs
    have hnn : ∀ v, canonNN lc (gtyOf (.list :: qs)) (thruQuals g (.list :: qs) v) =
        canonNN lc (gtyOf (.list :: qs)) v := by
      intro v
      cases v with
      | arr xs =>
        simp only [gtyOf, canonNN, thruQuals, List.map_map]
        congr 1
        apply List.map_congr_left
        intro x _
        exact ih.2 x
      | null => rfl
      | _ => rfl
    refine ⟨hnn, fun v => ?_⟩
    have e1 : ∀ w, canon lc (gtyOf (.list :: qs)) w = if w.isNull then .null else canonNN lc (gtyOf (.list :: qs)) w := by
      intro w; simp [gtyOf, canon]
    rw [e1, e1, thruQuals_isNull hg, hnn]

/-! ### `eraseInSel` on the value of a kept field -/

theorem eraseInSel_isNull (c : Ctx) (x : Sel) (v : Json) : (eraseInSel c x v).isNull = v.isNull := by
  cases x with
  | field a fid sub =>
    cases hsf : c.s.fields[fid]? with
    | none => simp [eraseInSel, hsf]
    | some sf =>
      by_cases hobj : ∃ i, sf.ty.id = .object i
      · obtain ⟨i, hid⟩ := hobj
        rw [eraseInSel_object hsf hid]
        exact thruQuals_isNull (objOnly_eraseObj c sub) _ _
      · rw [eraseInSel_leaf hsf (fun i h => hobj ⟨i, h⟩)]
  | inline t sub => simp [eraseInSel]
  | spread g => simp [eraseInSel]
  | typename => simp [eraseInSel]

theorem eraseInSel_str (c : Ctx) (x : Sel) (s : String) : eraseInSel c x (.str s) = .str s := by
  cases x with
  | field a fid sub =>
    cases hsf : c.s.fields[fid]? with
    | none => simp [eraseInSel, hsf]
    | some sf =>
      by_cases hobj : ∃ i, sf.ty.id = .object i
      · obtain ⟨i, hid⟩ := hobj
        rw [eraseInSel_object hsf hid]
        exact thruQuals_str (objOnly_eraseObj c sub) _ _
      · rw [eraseInSel_leaf hsf (fun i h => hobj ⟨i, h⟩)]
  | inline t sub => simp [eraseInSel]
  | spread g => simp [eraseInSel]
  | typename => simp [eraseInSel]

theorem eraseEntry_str (c : Ctx) (k s : String) : ∀ sels : List Sel, eraseEntry c sels k (.str s) = .str s :=
  (firstKept_eraseEntry c).str s (eraseInSel_str c · s) k

/-! ## strict conformance: selection as written ⟹ pruned selection on the erased payload -/

theorem confSels_append (s : Schema) (tn : String) (kvs : List (String × Json)) : ∀ xs ys : List Sel,
    confSels s tn (xs ++ ys) kvs = (confSels s tn xs kvs && confSels s tn ys kvs)
  | [], ys => by simp [confSels]
  | x :: xs, ys => by
    rw [List.cons_append, confSels, confSels, confSels_append s tn kvs xs ys, Bool.and_assoc]

theorem kept_in_prune {c : Ctx} {sels : List Sel} {k : String} (h : k ∈ keptKeys c sels) :
    k ∈ respKeys c.s (pruneSels c sels) := by
  obtain ⟨x, hx, hkx⟩ := List.mem_filterMap.mp h
  obtain ⟨a, fid, sub, sf, rfl, hsf, hden, rfl⟩ := keptKey_some hkx
  refine List.mem_filterMap.mpr ⟨.field a fid (pruneSels c sub), ?_, by simp [respKey, hsf]⟩
  exact mem_pruneSels.mpr ⟨_, hx, by rw [pruneSel_kept hsf hden]; simp⟩

theorem mem_respKeys_prune {c : Ctx} {sels : List Sel} {k : String} (hk : k ∈ respKeys c.s sels)
    (hd : k ∉ dropKeys c sels) : k ∈ respKeys c.s (pruneSels c sels) := by
  have kept : ∀ x ∈ sels, keptKey c x = some k → k ∈ respKeys c.s (pruneSels c sels) :=
    fun x hx hkx => kept_in_prune (List.mem_filterMap.mpr ⟨x, hx, hkx⟩)
  obtain ⟨x, hx, hkx⟩ := List.mem_filterMap.mp hk
  cases x with
  | field a fid sub =>
    simp only [respKey] at hkx
    cases hsf : c.s.fields[fid]? with
    | none => simp [hsf] at hkx
    | some sf =>
      simp only [hsf, Option.map_some, Option.some.injEq] at hkx
      by_cases hden : isDenied c sf = true
      · have hmem : k ∈ deniedKeys c sels :=
          List.mem_filterMap.mpr ⟨_, hx, by simp [deniedKey, hsf, hden, hkx]⟩
        have hkept : k ∈ keptKeys c sels := by
          apply Classical.byContradiction
          intro hnk
          apply hd
          simp only [dropKeys, List.mem_filter, Bool.not_eq_true', List.contains_eq_mem, decide_eq_false_iff_not]
          exact ⟨hmem, hnk⟩
        obtain ⟨x', hx', hkx'⟩ := List.mem_filterMap.mp hkept
        exact kept x' hx' hkx'
      · exact kept _ hx (by rw [keptKey_of hsf (by simpa using hden), hkx])
  | inline t sub => simp [respKey] at hkx
  | spread g => simp [respKey] at hkx
  | typename =>
    simp only [respKey, Option.some.injEq] at hkx
    subst hkx
    exact List.mem_filterMap.mpr ⟨.typename, mem_pruneSels.mpr ⟨_, hx, by rw [pruneSel_typename]; simp⟩, rfl⟩

/-- what the descent needs at one selection set -/
structure LevelOk (c : Ctx) (sels : List Sel) : Prop where
  kept : (keptKeys c sels).Nodup
  tn : hasTypename sels = true → "__typename" ∉ dropKeys c sels

theorem levelOk_of {c : Ctx} {sels : List Sel} (hk : EnumSpec.nodup (keptKeys c sels) = true) (ht : tnHere c sels = true) :
    LevelOk c sels := by
  refine ⟨nodup_iff'.mp hk, fun h => ?_⟩
  simp only [tnHere, h, Bool.not_true, Bool.false_or, Bool.not_eq_true', List.contains_eq_mem,
    decide_eq_false_iff_not] at ht
  exact ht

/-- what the descent uses of the erased entries: the entry of a kept selection is erased inside, `__typename` survives -/
theorem erasedKvs_lookups {c : Ctx} {sels : List Sel} (hlev : LevelOk c sels) (kvs : List (String × Json)) :
    (∀ x ∈ sels, ∀ k, keptKey c x = some k →
      Json.lookup k (erasedKvs c sels kvs) = (Json.lookup k kvs).map (eraseInSel c x)) ∧
    (hasTypename sels = true → ∀ n, Json.lookup "__typename" kvs = some (.str n) →
      Json.lookup "__typename" (erasedKvs c sels kvs) = some (.str n)) := by
  refine ⟨fun x hx k hk => lookup_erased_kept c hlev.kept hx hk kvs, fun ht n hl => ?_⟩
  unfold erasedKvs
  rw [lookup_erased _ _ _ (hlev.tn ht), hl]
  simp only [Option.map_some, eraseEntry_str c _ n]

theorem filtered_keys_ok {ks K K' : List String} {kvs kvs' : List (String × Json)}
    (hkeys : kvs'.map (·.1) = (kvs.map (·.1)).filter (fun k => !ks.contains k))
    (hsurv : ∀ k ∈ K, k ∉ ks → k ∈ K')
    (hnd : EnumSpec.nodup (kvs.map (·.1)) = true) (hall : kvs.all (fun kv => K.contains kv.1) = true) :
    EnumSpec.nodup (kvs'.map (·.1)) = true ∧ kvs'.all (fun kv => K'.contains kv.1) = true := by
  refine ⟨?_, ?_⟩
  · rw [hkeys]
    exact nodup_iff'.mpr ((nodup_iff'.mp hnd).filter _)
  · simp only [List.all_eq_true, List.contains_eq_mem, decide_eq_true_eq] at hall ⊢
    intro kv hkv
    have hk1 : kv.1 ∈ kvs'.map (·.1) := List.mem_map_of_mem hkv
    rw [hkeys, List.mem_filter] at hk1
    obtain ⟨kv0, hkv0, hkv0e⟩ := List.mem_map.mp hk1.1
    have := hall kv0 hkv0
    rw [hkv0e] at this
    exact hsurv _ this (by simpa using hk1.2)

/-- `conformsSel` of the erased object from `confSels` of its erased entries: the checks on the keys survive the filter
    (`filtered_keys_ok`) -/
theorem conformsSel_erase_of {c : Ctx} {sels : List Sel} {tn : String}
    (H : ∀ kvs, confSels c.s tn sels kvs = true → confSels c.s tn (pruneSels c sels) (erasedKvs c sels kvs) = true)
    (j : Json) (hc : conformsSel c.s tn sels j = true) :
    conformsSel c.s tn (pruneSels c sels) (eraseObj c sels j) = true := by
  obtain ⟨kvs, rfl, hnd, hall, hconf⟩ := conformsSel_obj hc
  rw [eraseObj_obj]
  simp only [conformsSel, Bool.and_eq_true]
  exact ⟨filtered_keys_ok (eraseObj_keys c sels kvs) (fun k hk hd => mem_respKeys_prune hk hd) hnd hall, H kvs hconf⟩

mutual
  theorem strict_erase_sel (c : Ctx) : ∀ (x : Sel) (k : String) (v : Json),
      treeSelD c x = true → tnOkSel c x = true → keptKey c x = some k →
      strictField c.s x v = true → strictField c.s (pruneSub c x) (eraseInSel c x v) = true
    | .field a fid sub, k, v => by
      intro ht htn hk h
      have IH := strict_erase_sels_gen c sub
      obtain ⟨_, _, _, sf, hx, hsf, hden, _⟩ := keptKey_some hk
      cases hx
      obtain ⟨sf', hsf', _, hty⟩ := treeSelD_field ht
      rw [hsf] at hsf'
      cases hsf'
      rw [tnOkSel] at htn
      simp only [hsf, hden, Bool.false_or, Bool.and_eq_true] at htn
      rcases hty with ⟨k, n, hid, _, _⟩ | ⟨k, en, hid, _, _⟩ | ⟨i, o, hid, ho, hsub, hkk⟩
      · rw [eraseInSel_leaf hsf (by simp [hid])]
        simp only [strictField, pruneSub, hsf, hid] at h ⊢
        exact h
      · rw [eraseInSel_leaf hsf (by simp [hid])]
        simp only [strictField, pruneSub, hsf, hid] at h ⊢
        exact h
      · rw [eraseInSel_object hsf hid]
        simp only [strictField, pruneSub, hsf, hid, ho] at h ⊢
        refine (accepts_thruQuals (objOnly_eraseObj c sub) ?_ sf.ty.quals).2 v h
        have hlk := erasedKvs_lookups (levelOk_of hkk htn.1)
        exact conformsSel_erase_of (fun kvs hconf => IH o.name kvs _ hsub htn.2 (hlk kvs).1 (hlk kvs).2 hconf)
    | .spread _, _, _ => by intro ht; simp [treeSelD] at ht
    | .inline _ _, _, _ => by intro ht; simp [treeSelD] at ht
    | .typename, _, _ => by intro _ _ hk; simp [keptKey] at hk
  /-- for any entry list `kvs'` with the right lookups (the erased entries, `erasedKvs_lookups`) -/
  theorem strict_erase_sels_gen (c : Ctx) : ∀ (xs : List Sel) (tn : String) (kvs kvs' : List (String × Json)),
      treeSelsD c xs = true → tnOkSels c xs = true →
      (∀ x ∈ xs, ∀ k, keptKey c x = some k → Json.lookup k kvs' = (Json.lookup k kvs).map (eraseInSel c x)) →
      (hasTypename xs = true → ∀ n, Json.lookup "__typename" kvs = some (.str n) →
        Json.lookup "__typename" kvs' = some (.str n)) →
      confSels c.s tn xs kvs = true → confSels c.s tn (pruneSels c xs) kvs' = true
    | [], _, _, _, _, _, _, _, _ => by rw [pruneSels]; simp [confSels]
    | x :: xs, tn, kvs, kvs', ht, htn, hlk, htk, h => by
      rw [confSels, Bool.and_eq_true] at h
      obtain ⟨hx, hxs⟩ := treeSelsD_cons ht
      rw [tnOkSels, Bool.and_eq_true] at htn
      have ih := strict_erase_sels_gen c xs tn kvs kvs' hxs htn.2 (fun y hy => hlk y (by simp [hy]))
        (fun hh => htk (by
          simp only [hasTypename, List.any_cons, Bool.or_eq_true] at hh ⊢
          exact .inr hh)) h.2
      rw [pruneSels, confSels_append, ih, Bool.and_true]
      cases x with
      | field a fid sub =>
        have hcx := h.1
        rw [confSel_field] at hcx
        cases hsf : c.s.fields[fid]? with
        | none => simp [hsf] at hcx
        | some sf =>
          by_cases hd : isDenied c sf = true
          · rw [pruneSel_denied hsf hd]; simp [confSels]
          · have hd' : isDenied c sf = false := by simpa using hd
            have hk := keptKey_of (a := a) (sub := sub) hsf hd'
            rw [pruneSel_kept hsf hd', confSels, confSels, Bool.and_true, confSel_field]
            simp only [hsf] at hcx ⊢
            rw [hlk _ (by simp) _ hk]
            cases hl : Json.lookup (a.getD sf.name) kvs with
            | none => simp [hl] at hcx
            | some v =>
              simp only [hl] at hcx
              simp only [Option.map_some]
              exact strict_erase_sel c (.field a fid sub) _ v hx htn.1 hk hcx
      | spread g => simp [confSel] at h
      | inline t sub => simp [confSel] at h
      | typename =>
        rw [pruneSel_typename, confSels, confSels, Bool.and_true]
        have hcx := h.1
        simp only [confSel] at hcx ⊢
        cases hl : Json.lookup "__typename" kvs with
        | none => simp [hl] at hcx
        | some v =>
          simp only [hl] at hcx
          cases v with
          | str n =>
            rw [htk (by simp [hasTypename]) n hl]
            exact hcx
          | _ => simp at hcx
end

theorem strict_erase_field (c : Ctx) : ∀ (a : Option String) (fid : Nat) (sub : List Sel) (v : Json),
    treeSelD c (.field a fid sub) = true → tnOkSel c (.field a fid sub) = true →
    (∀ sf, c.s.fields[fid]? = some sf → isDenied c sf = false) →
    strictField c.s (.field a fid sub) v = true →
    strictField c.s (.field a fid (pruneSels c sub)) (eraseInSel c (.field a fid sub) v) = true := by
  intro a fid sub v ht htn hden h
  obtain ⟨sf, hsf, _⟩ := treeSelD_field ht
  exact strict_erase_sel c _ _ v ht htn (keptKey_of hsf (hden sf hsf)) h

/-- the instance at the erased entries of a selection set `sels` containing `xs` -/
theorem strict_erase_sels (c : Ctx) : ∀ (xs sels : List Sel) (tn : String) (kvs : List (String × Json)),
    (∀ x ∈ xs, x ∈ sels) → treeSelsD c xs = true → tnOkSels c xs = true → LevelOk c sels →
    confSels c.s tn xs kvs = true → confSels c.s tn (pruneSels c xs) (erasedKvs c sels kvs) = true := by
  intro xs sels tn kvs hsub ht htn hlev h
  have hlk := erasedKvs_lookups hlev kvs
  refine strict_erase_sels_gen c xs tn kvs _ ht htn (fun x hx => hlk.1 x (hsub x hx)) (fun hty => hlk.2 ?_) h
  simp only [hasTypename, List.any_eq_true] at hty ⊢
  obtain ⟨x, hx, hp⟩ := hty
  exact ⟨x, hsub x hx, hp⟩

/-- **a payload conforming to the selection as written, with the denied keys erased at every depth, conforms to the
    pruned selection** (strictly: exactly one entry per kept response key) -/
theorem conformsSel_erase (c : Ctx) (tn : String) (sels : List Sel) (j : Json)
    (ht : treeSelsD c sels = true) (hk : EnumSpec.nodup (keptKeys c sels) = true)
    (h1 : tnHere c sels = true) (h2 : tnOkSels c sels = true)
    (hc : conformsSel c.s tn sels j = true) : conformsSel c.s tn (pruneSels c sels) (eraseObj c sels j) = true :=
  have hlk := erasedKvs_lookups (levelOk_of hk h1)
  conformsSel_erase_of (fun kvs hconf => strict_erase_sels_gen c sels tn kvs _ ht h2 (hlk kvs).1 (hlk kvs).2 hconf) j hc

/-! ## the canonical form of the pruned selection does not see the erasure -/

theorem canonEntries_append (s : Schema) (skip : Bool) (kvs : List (String × Json)) : ∀ xs ys : List Sel,
    canonEntries s skip (xs ++ ys) kvs = canonEntries s skip xs kvs ++ canonEntries s skip ys kvs
  | [], ys => by simp [canonEntries]
  | x :: xs, ys => by
    have ih := canonEntries_append s skip kvs xs ys
    cases x with
    | field a fid sub => rw [List.cons_append, canonEntries.eq_2, canonEntries.eq_2, ih, List.append_assoc]
    | inline t sub => rw [List.cons_append]; simpa [canonEntries] using ih
    | spread g => rw [List.cons_append]; simpa [canonEntries] using ih
    | typename => rw [List.cons_append]; simpa [canonEntries] using ih

mutual
  theorem canon_erase_sel (c : Ctx) (skip : Bool) : ∀ (x : Sel) (v : Json), treeSelD c x = true →
      canonField c.s skip (pruneSub c x) (eraseInSel c x v) = canonField c.s skip (pruneSub c x) v
    | .field a fid sub, v => by
      intro ht
      have IH := canon_erase_sels c skip sub
      obtain ⟨sf, hsf, _, hty⟩ := treeSelD_field ht
      rcases hty with ⟨k, n, hid, _, _⟩ | ⟨k, en, hid, _, _⟩ | ⟨i, o, hid, _, hsub, hk⟩
      · rw [eraseInSel_leaf hsf (by simp [hid])]
      · rw [eraseInSel_leaf hsf (by simp [hid])]
      · rw [eraseInSel_object hsf hid]
        simp only [pruneSub, canonField, hsf, hid]
        rw [canonLambda]
        refine (canon_thruQuals (objOnly_eraseObj c sub) ?_ sf.ty.quals).2 v
        intro j
        cases j with
        | obj kvs =>
          rw [eraseObj_obj, canonSel, canonSel]
          congr 1
          exact IH sub kvs (fun x hx => hx) hsub (nodup_iff'.mp hk)
        | _ => rfl
    | .spread _, _ => fun _ => rfl
    | .inline _ _, _ => fun _ => rfl
    | .typename, _ => fun _ => rfl
  theorem canon_erase_sels (c : Ctx) (skip : Bool) : ∀ (xs sels : List Sel) (kvs : List (String × Json)),
      (∀ x ∈ xs, x ∈ sels) → treeSelsD c xs = true → (keptKeys c sels).Nodup →
      canonEntries c.s skip (pruneSels c xs) (erasedKvs c sels kvs) = canonEntries c.s skip (pruneSels c xs) kvs
    | [], _, _, _, _, _ => by rw [pruneSels]; simp [canonEntries]
    | x :: xs, sels, kvs, hsub, ht, hnd => by
      obtain ⟨hx, hxs⟩ := treeSelsD_cons ht
      have ih := canon_erase_sels c skip xs sels kvs (fun y hy => hsub y (by simp [hy])) hxs hnd
      have hxmem : x ∈ sels := hsub x (by simp)
      rw [pruneSels, canonEntries_append, canonEntries_append, ih]
      congr 1
      cases x with
      | field a fid sub =>
        cases hsf : c.s.fields[fid]? with
        | none => rw [treeSelD] at hx; simp [hsf] at hx
        | some sf =>
          by_cases hd : isDenied c sf = true
          · rw [pruneSel_denied hsf hd]; simp [canonEntries]
          · have hd' : isDenied c sf = false := by simpa using hd
            rw [pruneSel_kept hsf hd', canonEntries.eq_2, canonEntries.eq_2]
            simp only [hsf, canonEntries, List.append_nil]
            rw [lookup_erased_kept c hnd hxmem (keptKey_of hsf hd')]
            cases hl : Json.lookup (a.getD sf.name) kvs with
            | none => rfl
            | some v =>
              simp only [Option.map_some, eraseInSel_isNull]
              have := canon_erase_sel c skip (.field a fid sub) v hx
              rw [pruneSub] at this
              rw [this]
      | spread g => simp [treeSelD] at hx
      | inline t sub => simp [treeSelD] at hx
      | typename => rw [pruneSel_typename]; simp [canonEntries]
end

theorem canon_erase_field (c : Ctx) (skip : Bool) : ∀ (a : Option String) (fid : Nat) (sub : List Sel) (v : Json),
    treeSelD c (.field a fid sub) = true →
    canonField c.s skip (.field a fid (pruneSels c sub)) (eraseInSel c (.field a fid sub) v) =
      canonField c.s skip (.field a fid (pruneSels c sub)) v :=
  fun a fid sub v => canon_erase_sel c skip (.field a fid sub) v

/-- **`canonSel` of the pruned selection does not see the erasure of the denied keys** -/
theorem canonSel_erase (c : Ctx) (skip : Bool) (sels : List Sel) (j : Json)
    (ht : treeSelsD c sels = true) (hk : EnumSpec.nodup (keptKeys c sels) = true) :
    canonSel c.s skip (pruneSels c sels) (eraseObj c sels j) = canonSel c.s skip (pruneSels c sels) j := by
  cases j with
  | obj kvs =>
    rw [eraseObj_obj, canonSel, canonSel]
    congr 1
    exact canon_erase_sels c skip sels sels kvs (fun x hx => hx) ht (nodup_iff'.mp hk)
  | _ => rfl

/-! ## losslessness -/

/-- **`treeD_lossless` (C01 under `deny`).**  A response conforming to the operation AS WRITTEN is written back as
    `canonSelD c op j`: the canonical form of `tree_lossless`, with the denied fields' entries dropped at every depth. -/
theorem treeD_lossless (c : Ctx) (opIdx : Nat) (op : ROperation) (items : List Item)
    (hop : c.q.operations[opIdx]? = some op) (ht : TreeOpD c op = true) (hp : TreeOp c (pruneOp c op) = true)
    (htn : tnOkOp c op = true)
    (hgen : responseForQuery c opIdx = .ok items) (hok : moduleOk c items = true)
    (hro : rustOkSels c (pruneSels c op.sels) = true)
    (hrn : EnumSpec.nodup (rustNames c (pruneSels c op.sels)) = true)
    (j : Json) (hc : conformsOp c op j = true) (v : Val)
    (hd : Serde.de (moduleEnv c items) (.path "ResponseData") j = .ok v) :
    Serde.ser (moduleEnv c items) (.path "ResponseData") v = .ok (canonSelD c op j) := by
  obtain ⟨_, hsels, hkeys⟩ := treeOpD_parts ht
  simp only [tnOkOp, Bool.and_eq_true] at htn
  have hd' : Serde.de (moduleEnv c items) (.path "ResponseData") (eraseDenied c op j) = .ok v := by
    rw [← denied_field_payload_same' c opIdx op items hop ht hgen hok j]; exact hd
  have hc' : conformsSel c.s (rootName c op) (pruneOp c op).sels (eraseDenied c op j) = true :=
    conformsSel_erase c _ op.sels j hsels hkeys htn.1 htn.2 hc
  have := top_lossless (moduleEnv c items) c (pruneOp c op) hp (topEnvD_of_module hop ht hp hgen hok) hro hrn
    (rootName c op) (eraseDenied c op j) v hc' hd'
  rw [this]
  unfold canonSelD eraseDenied
  rw [pruneOp_sels, canonSel_erase c _ op.sels j hsels hkeys]

/-- the same value, written as the canonical form of the payload with the denied keys erased at every depth -/
theorem treeD_lossless_erased (c : Ctx) (opIdx : Nat) (op : ROperation) (items : List Item)
    (hop : c.q.operations[opIdx]? = some op) (ht : TreeOpD c op = true) (hp : TreeOp c (pruneOp c op) = true)
    (htn : tnOkOp c op = true)
    (hgen : responseForQuery c opIdx = .ok items) (hok : moduleOk c items = true)
    (hro : rustOkSels c (pruneSels c op.sels) = true)
    (hrn : EnumSpec.nodup (rustNames c (pruneSels c op.sels)) = true)
    (j : Json) (hc : conformsOp c op j = true) (v : Val)
    (hd : Serde.de (moduleEnv c items) (.path "ResponseData") j = .ok v) :
    Serde.ser (moduleEnv c items) (.path "ResponseData") v =
      .ok (canonSel c.s c.o.skipNone (pruneSels c op.sels) (eraseDenied c op j)) := by
  obtain ⟨_, hsels, hkeys⟩ := treeOpD_parts ht
  rw [treeD_lossless c opIdx op items hop ht hp htn hgen hok hro hrn j hc v hd]
  unfold canonSelD eraseDenied
  rw [canonSel_erase c _ op.sels j hsels hkeys]

/-- **`treeD_roundtrip`**: acceptance and losslessness in one statement -/
theorem treeD_roundtrip (c : Ctx) (opIdx : Nat) (op : ROperation) (items : List Item)
    (hop : c.q.operations[opIdx]? = some op) (ht : TreeOpD c op = true) (hp : TreeOp c (pruneOp c op) = true)
    (htn : tnOkOp c op = true)
    (hgen : responseForQuery c opIdx = .ok items) (hok : moduleOk c items = true)
    (hro : rustOkSels c (pruneSels c op.sels) = true)
    (hrn : EnumSpec.nodup (rustNames c (pruneSels c op.sels)) = true)
    (j : Json) (hc : conformsOp c op j = true) :
    Serde.roundtrip (moduleEnv c items) (.path "ResponseData") j = .ok (canonSelD c op j) :=
  Top.roundtrip_of (treeD_accepts c opIdx op items hop ht hp hgen hok j hc)
    (treeD_lossless c opIdx op items hop ht hp htn hgen hok hro hrn j hc)

/-! ## payloads that already omit the denied fields -/

/-- a response conforming to the PRUNED operation (no entry for the denied fields) is written back as its canonical
    form; no `tnOkOp` here -/
theorem treeD_lossless_pruned (c : Ctx) (opIdx : Nat) (op : ROperation) (items : List Item)
    (hop : c.q.operations[opIdx]? = some op) (ht : TreeOpD c op = true) (hp : TreeOp c (pruneOp c op) = true)
    (hgen : responseForQuery c opIdx = .ok items) (hok : moduleOk c items = true)
    (hro : rustOkSels c (pruneSels c op.sels) = true)
    (hrn : EnumSpec.nodup (rustNames c (pruneSels c op.sels)) = true)
    (j : Json) (hc : conformsOp c (pruneOp c op) j = true) (v : Val)
    (hd : Serde.de (moduleEnv c items) (.path "ResponseData") j = .ok v) :
    Serde.ser (moduleEnv c items) (.path "ResponseData") v = .ok (canonSelD c op j) :=
  top_lossless (moduleEnv c items) c (pruneOp c op) hp (topEnvD_of_module hop ht hp hgen hok) hro hrn _ j v hc hd

theorem treeD_roundtrip_pruned (c : Ctx) (opIdx : Nat) (op : ROperation) (items : List Item)
    (hop : c.q.operations[opIdx]? = some op) (ht : TreeOpD c op = true) (hp : TreeOp c (pruneOp c op) = true)
    (hgen : responseForQuery c opIdx = .ok items) (hok : moduleOk c items = true)
    (hro : rustOkSels c (pruneSels c op.sels) = true)
    (hrn : EnumSpec.nodup (rustNames c (pruneSels c op.sels)) = true)
    (j : Json) (hc : conformsOp c (pruneOp c op) j = true) :
    Serde.roundtrip (moduleEnv c items) (.path "ResponseData") j = .ok (canonSelD c op j) :=
  Top.roundtrip_of (treeD_accepts_pruned c opIdx op items hop ht hp hgen hok j hc)
    (treeD_lossless_pruned c opIdx op items hop ht hp hgen hok hro hrn j hc)

/-! ## the widest form: the denied keys may carry anything -/

/-- **any payload whose erasure conforms to the pruned operation** — the denied keys absent, present, of any type,
    duplicated — is read, and written back as `canonSelD c op j`.  No `tnOkOp` here. -/
theorem treeD_roundtrip_of_erased (c : Ctx) (opIdx : Nat) (op : ROperation) (items : List Item)
    (hop : c.q.operations[opIdx]? = some op) (ht : TreeOpD c op = true) (hp : TreeOp c (pruneOp c op) = true)
    (hgen : responseForQuery c opIdx = .ok items) (hok : moduleOk c items = true)
    (hro : rustOkSels c (pruneSels c op.sels) = true)
    (hrn : EnumSpec.nodup (rustNames c (pruneSels c op.sels)) = true)
    (j : Json) (hc : conformsOp c (pruneOp c op) (eraseDenied c op j) = true) :
    Serde.roundtrip (moduleEnv c items) (.path "ResponseData") j = .ok (canonSelD c op j) := by
  obtain ⟨_, hsels, hkeys⟩ := treeOpD_parts ht
  have h := treeD_roundtrip_pruned c opIdx op items hop ht hp hgen hok hro hrn _ hc
  unfold Serde.roundtrip at h ⊢
  rw [denied_field_payload_same' c opIdx op items hop ht hgen hok j, h]
  unfold canonSelD eraseDenied
  rw [canonSel_erase c _ op.sels j hsels hkeys]

end Deny
end C01
end GqlVerif
