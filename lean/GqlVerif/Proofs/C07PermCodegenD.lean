import GqlVerif.Proofs.C07PermCodegenC
/-!
# C07, type-order permutations (part D) — `Codegen.generate` under a renumbering of the type ids (`codegen_tiso`)

Statements are in the forms of part B: `Res0 Rel x y` (if `x` succeeds then `y` succeeds with a `Rel`-related result) and
`ItemsPerm`; `C07.ModuleEqv` (`Proofs/C07Permutations.lean`) is equality of modules up to the order of the items and of
the variants of tagged enums.
-/

namespace GqlVerif
namespace C07P
open Resolve Codegen C07

theorem mapM_res0_flatten {α : Type} (f g : α → Outcome (List Item)) (l : List α)
    (hfg : ∀ x ∈ l, Res0 ItemsPerm (f x) (g x)) :
    Res0 (fun a b => ItemsPerm a.flatten b.flatten) (l.mapM f) (l.mapM g) := by
  induction l with
  | nil => intro a ha; cases ha; exact ⟨[], rfl, .nil⟩
  | cons x l ih =>
    rw [List.mapM_cons, List.mapM_cons]
    refine Res0.bind (hfg x (by simp)) (fun a b hab => ?_)
    refine Res0.bind (ih fun y hy => hfg y (by simp [hy])) (fun as bs habs => ?_)
    exact Res0.pure (by simp only [List.flatten_cons]; exact ItemsPerm.append hab habs)

theorem mapM_res0_allRel {α β γ : Type} {Rel : β → γ → Prop} (f : α → Outcome β) (g : α → Outcome γ) (l : List α)
    (hfg : ∀ x ∈ l, Res0 Rel (f x) (g x)) : Res0 (AllRel Rel) (l.mapM f) (l.mapM g) := by
  induction l with
  | nil => intro a ha; cases ha; exact ⟨[], rfl, .nil⟩
  | cons x l ih =>
    rw [List.mapM_cons, List.mapM_cons]
    refine Res0.bind (hfg x (by simp)) (fun a b hab => ?_)
    refine Res0.bind (ih fun y hy => hfg y (by simp [hy])) (fun as bs habs => ?_)
    exact Res0.pure (.cons hab habs)

section
variable {R : Ren} {t : Schema} (c : Ctx) (h : TypeIso R c.s t)
include h

theorem responseItems_tiso (op : ROperation) (hop : op ∈ c.q.operations) :
    Res0 ItemsPerm (responseItems c op) (responseItems (tC R t c) (tOp R op)) := by
  have hmem : tOp R op ∈ (tC R t c).q.operations := by
    simp only [tC_q, tQ_operations]; exact List.mem_map.2 ⟨op, hop, rfl⟩
  refine ResF.res0 ?_ (C02.responseItems_fuel_sufficient (tC R t c) (tOp R op) hmem)
  unfold responseItems
  simp only [tC_s, tC_q, tC_cs, tOp_name, tOp_objectId, tOp_sels]
  exact (calc_rel c h _).1 _ _ (.object op.objectId) op.sels _

theorem fragmentItems_tiso (fid : Nat) : Res0 ItemsPerm (fragmentItems c fid) (fragmentItems (tC R t c) fid) := by
  refine ResF.res0 ?_ (C02.fragmentItems_fuel_sufficient (tC R t c) fid)
  unfold fragmentItems
  simp only [tC_s, tC_q, tC_cs, getFragment_t]
  refine ResF.bind (ResF.of_map (tFrag R) rfl) (fun fr fr' hfr => ?_)
  subst hfr
  exact (calc_rel c h _).1 _ _ fr.on fr.sels _

theorem responseForQuery_tiso (op : Nat) :
    Res0 ItemsPerm (responseForQuery c op) (responseForQuery (tC R t c) op) := by
  unfold responseForQuery
  simp only [tC_s, tC_q, allUsedTypes_tiso h, variablesItems_tiso c h, getOperation_t]
  refine Res0.bind (Res0.of_map (tU R) rfl) (fun u u' hu => ?_)
  subst hu
  refine Res0.bind (scalarItems_tiso c h u) (fun sc sc' hsc => ?_)
  refine Res0.bind (enumItems_tiso c h u) (fun en en' hen => ?_)
  simp only [tU_fragments]
  refine Res0.bind (mapM_res0_flatten _ _ _ (fun fid _ => fragmentItems_tiso c h fid)) (fun fr fr' hfr => ?_)
  refine Res0.bind (inputItems_tiso c h u) (fun inp inp' hinp => ?_)
  refine Res0.bind (Res0.of_eq rfl) (fun vars vars' hvars => ?_)
  subst hvars
  have hop : Res0 (fun o o' => o' = tOp R o ∧ o ∈ c.q.operations) (c.q.getOperation op)
      (Except.map (tOp R) (c.q.getOperation op)) := by
    intro a ha
    exact ⟨tOp R a, by rw [ha]; rfl, rfl, List.mem_of_getElem? (C02.getOperation_ok ha)⟩
  refine Res0.bind hop (fun o o' ho => ?_)
  obtain ⟨rfl, hmem⟩ := ho
  refine Res0.bind (responseItems_tiso c h o hmem) (fun resp resp' hresp => ?_)
  refine Res0.pure ?_
  exact ItemsPerm.append (ItemsPerm.append (ItemsPerm.append (ItemsPerm.append (ItemsPerm.append (ItemsPerm.append
    (.refl _) (.of_perm hsc.symm)) (.of_perm hen.symm)) (.of_perm hinp.symm)) (.refl _)) hfr) hresp

omit h in
theorem selectOperation_tiso (name : String) : selectOperation (tC R t c) name = selectOperation c name := by
  simp only [selectOperation, tC_q, tC_o, tC_cs, tQ_operations, List.findIdx?_map, Function.comp_def, tOp_name]

theorem generatedModule_tiso (query operation : String) :
    Res0 ModuleEqv (generatedModule c query operation) (generatedModule (tC R t c) query operation) := by
  unfold generatedModule
  simp only [tC_o, tC_cs, selectOperation_tiso c]
  generalize selectOperation c (c.o.normalization.operation c.cs operation) = sel
  cases sel with
  | none => intro a ha; cases ha
  | some root =>
  simp only [pure_bind]
  refine Res0.bind (responseForQuery_tiso c h root) (fun items items' hitems => ?_)
  refine Res0.pure ?_
  exact ⟨rfl, rfl, rfl, rfl, rfl, rfl, rfl, rfl, (itemsPerm_iff_itemsEqv _ _).1 hitems⟩

theorem genFrom_tiso (queryText : String) :
    Res0 (AllRel ModuleEqv) (genFrom c queryText) (genFrom (tC R t c) queryText) := by
  have h1 : selectOperation (tC R t c) = selectOperation c := by funext n; exact selectOperation_tiso c n
  have h3 : (tC R t c).q.operations.length = c.q.operations.length := by simp
  have h4 : (tC R t c).q.operations.map (·.name) = c.q.operations.map (·.name) := by
    simp [List.map_map, Function.comp_def]
  unfold genFrom
  rw [h1, h3, h4]
  simp only [tC_o]
  have key : ∀ ops : List Nat,
      Res0 (AllRel ModuleEqv) (ops.mapM (genOne c queryText)) (ops.mapM (genOne (tC R t c) queryText)) := by
    intro ops
    refine mapM_res0_allRel _ _ _ (fun i _ => ?_)
    unfold genOne
    simp only [tC_q, getOperation_t]
    refine Res0.bind (Res0.of_map (tOp R) rfl) (fun op op' hop => ?_)
    subst hop
    exact generatedModule_tiso c h queryText op.name
  generalize c.o.operationName.bind (selectOperation c) = sel
  cases sel with
  | some i => simp only [pure_bind]; exact key _
  | none =>
    cases c.o.mode with
    | cli => simp only [pure_bind]; exact key _
    | derive => intro a ha; cases ha

end

/-- **code generation under a renumbering of the type ids**: if generation from `s` succeeds, generation from `t`
succeeds with the same modules up to the order of the items and of the variants of tagged enums; the constants of the
module (`QUERY`, `OPERATION_NAME`, names, visibility, …) are identical.  (Nothing is said when generation from `s`
fails; `C07P.codegen_iso_perm_iff` has both directions for schemas of the front ends.) -/
theorem codegen_tiso {R : Ren} {s t : Schema} (h : TypeIso R s t) (cs : CaseFns) (o : Options) (queryText : String)
    (doc : QDoc) (ms : List Module) (hms : Codegen.generate s cs o queryText doc = .ok ms) :
    ∃ ms', Codegen.generate t cs o queryText doc = .ok ms' ∧ AllRel ModuleEqv ms ms' := by
  rw [generate_eq] at hms
  rw [generate_eq, resolve_tiso h doc, bind_map_ok]
  obtain ⟨q, hq, hms⟩ := C02.bind_ok hms
  rw [hq]
  exact genFrom_tiso { s := s, q := q, o := o, cs := cs } h queryText ms hms

end C07P
end GqlVerif
