import GqlVerif.Proofs.C01AbstractA
/-!
# C01 / C03 end to end, `VariantOp` 2/4: what the emitted types accept, exactly

For the class `VariantOp` of `C01AbstractA`: `conformsLooseV s o b sels j` / `conformsLooseAbs s o b ty sub j` are the
exact acceptance predicates (C03 side) of the struct emitted for an object-level selection set and of the type(s)
emitted at an abstract position (`structV_accepts_iff`, `abs_accepts_iff`); every response conforming to the
specification `conformsV` satisfies them (`conformsV_loose`; at an abstract position `strict_loose_abs`, which is
where the exclusion hypothesis of `absOk` is used).

`b` is serde's "the content is buffered" flag: it is `false` at `ResponseData` and becomes `true` below the first
`__typename`-tagged enum (variant payloads and the flattened `on` member are read from buffered content).  `tagOkV`
is the tag dispatch: exactly one `__typename` entry; a string naming a possible type selects that type's variant; any
other string is accepted iff `fragmentsOtherVariant` (`Unknown`); a missing / duplicate / non-string tag is rejected —
**except an integer tag read from buffered content** (known finding `C03-typename-index`): that is, at every abstract
position that has interface-level fields (the enum is the flattened `on`, always buffered), and at an abstract
position without interface-level fields exactly when it lies below another abstract position (`b = true`).

Also here, because `VariantOp`, `VariantSpreadOp` and `NestedBOp` share it: flattened members that borrow (`readB`, `Borrows`,
`deStructMap_borrow`: a tagged enum or a struct with flattened members of its own sees the entries the own fields left,
`leftBy`, and takes none) and what the type(s) at an abstract position accept in terms of them (`okB_absEnv`).
-/
namespace GqlVerif
namespace C01
namespace E2E
open Serde Spec C13 C03 Codegen

/-! ## the exact acceptance predicate -/

/-- what the `__typename`-tagged enum accepts: exactly one tag entry; a string naming a possible type
    selects that type's variant (`pay vt rest`: what the variant's payload accepts of the other entries),
    any other string is accepted iff there is an `Unknown` variant; an integer is accepted **only from
    buffered content** (`b`, known finding `C03-typename-index`) and then selects the variant by index -/
def tagOkV (s : Schema) (o : Options) (b : Bool) (vts : List TypeId)
    (pay : TypeId → List (String × Json) → Bool) (kvs : List (String × Json)) : Bool :=
  match countKey "__typename" kvs with
  | 1 =>
    match Json.lookup "__typename" kvs with
    | some (.str n) => (match vts.find? (fun vt => objName s vt == n) with
      | some vt => pay vt (kvs.filter (·.1 != "__typename"))
      | none => o.otherVariant)
    | some (.int n) => b && decide (0 ≤ n) && (match vts[n.toNat]? with
      | some vt => pay vt (kvs.filter (·.1 != "__typename"))
      | none => o.otherVariant)
    | _ => false
  | _ => false

mutual
  /-- the value under a selected field's key, read with buffered flag `b` -/
  def looseFieldV (s : Schema) (o : Options) (b : Bool) : Sel → Json → Bool
    | .field _ fid sub, v =>
      match s.fields[fid]? with
      | none => false
      | some sf =>
        match sf.ty.id with
        | .scalar k => (match s.scalars[k]? with
          | some n => accepts (scalarOk n) (gtyOf sf.ty.quals) v
          | none => false)
        | .enum k => (match s.enums[k]? with
          | some _ => accepts stringOk (gtyOf sf.ty.quals) v
          | none => false)
        | .object i => (match s.objects[i]? with
          | some _ => accepts (fun j => match j with
              | .obj kvs' => looseSelsV s o b sub kvs'
              | .arr xs => looseArrV s o b sub xs
              | _ => false) (gtyOf sf.ty.quals) v
          | none => false)
        | .input _ => false
        | ty =>
          -- abstract position: an object (never an array); the interface-level fields read their keys; the
          -- tagged enum sees the entries they left (all entries when there is no interface-level field)
          accepts (fun j => match j with
            | .obj kvs' =>
              looseSelsV s o b sub kvs' &&
              tagOkV s o (sub.any isFieldSel || b) (vtsOfTy s ty) (fun vt rest => loosePayV s o vt sub rest)
                (if sub.any isFieldSel then kvs'.filter (fun kv => !(fieldKeys s sub).contains kv.1) else kvs')
            | _ => false) (gtyOf sf.ty.quals) v
    | _, _ => true
  def looseSelsV (s : Schema) (o : Options) (b : Bool) : List Sel → List (String × Json) → Bool
    | [], _ => true
    | .field a fid sub :: xs, kvs =>
      (match s.fields[fid]? with
       | none => false
       | some sf =>
         decide (countKey (a.getD sf.name) kvs ≤ 1) &&
         (match Json.lookup (a.getD sf.name) kvs with
          | none => nullableQ sf.ty.quals
          | some v => looseFieldV s o b (.field a fid sub) v)) && looseSelsV s o b xs kvs
    | _ :: xs, kvs => looseSelsV s o b xs kvs
  def looseArrV (s : Schema) (o : Options) (b : Bool) : List Sel → List Json → Bool
    | [], _ => true
    | .field a fid sub :: xs, vs =>
      (match vs with
       | [] => false
       | v :: vs' => looseFieldV s o b (.field a fid sub) v && looseArrV s o b xs vs')
    | _ :: xs, vs => looseArrV s o b xs vs
  /-- what the payload of the variant `vt` accepts: the struct of the inline fragment on `vt` (read from
      buffered content), anything when there is none (unit variant) -/
  def loosePayV (s : Schema) (o : Options) (vt : TypeId) : List Sel → List (String × Json) → Bool
    | [], _ => true
    | .inline t isub :: xs, rest => (t != vt || looseSelsV s o true isub rest) && loosePayV s o vt xs rest
    | _ :: xs, rest => loosePayV s o vt xs rest
end

/-- what the generated `ResponseData` of an operation of the class accepts -/
def conformsLooseV (s : Schema) (o : Options) (b : Bool) (sels : List Sel) : Json → Bool
  | .obj kvs => looseSelsV s o b sels kvs
  | .arr xs => looseArrV s o b sels xs
  | _ => false

/-- … and the type emitted at an abstract position -/
def conformsLooseAbs (s : Schema) (o : Options) (b : Bool) (ty : TypeId) (sub : List Sel) : Json → Bool
  | .obj kvs' =>
    looseSelsV s o b sub kvs' &&
    tagOkV s o (sub.any isFieldSel || b) (vtsOfTy s ty) (fun vt rest => loosePayV s o vt sub rest)
      (if sub.any isFieldSel then kvs'.filter (fun kv => !(fieldKeys s sub).contains kv.1) else kvs')
  | _ => false


/-! ## what the theorems need of the environment -/

def TaggedEnv (e : Env) (name : String) (vs : List RVariant) : Prop :=
  notPrim name ∧ name ≠ "ID" ∧ ∃ n d cr, e.find name = some (.tagged n d cr "__typename" vs)

/-- the flattened member `renderType` adds -/
def onField (name : String) : RField := { rust := "on", ty := .path (name ++ "On"), flatten := true }

/-- the item(s) `renderType` emits for an abstract position are what the names resolve to -/
def AbsEnv (e : Env) (name : String) (fields : List RField) (vs : List RVariant) : Prop :=
  if fields.isEmpty then TaggedEnv e name vs
  else StructEnv e name (fields ++ [onField name]) ∧ TaggedEnv e (name ++ "On") vs

mutual
  def envSelV (e : Env) (c : Ctx) (pfx : String) : Sel → Prop
    | .field a fid sub =>
      match c.s.fields[fid]? with
      | none => True
      | some sf =>
        match sf.ty.id with
        | .scalar k => (match c.s.scalars[k]? with | some sn => ScalarEnv e sn | none => True)
        | .enum k => (match c.s.enums[k]? with | some en => EnumEnv e en.name | none => True)
        | .object _ =>
          StructEnv e (pfx ++ c.cs.camel (a.getD sf.name)) (fieldsOfV c (pfx ++ c.cs.camel (a.getD sf.name)) sub) ∧
          envSelsV e c (pfx ++ c.cs.camel (a.getD sf.name)) sub
        | .input _ => True
        | ty =>
          AbsEnv e (pfx ++ c.cs.camel (a.getD sf.name)) (fieldsOfV c (pfx ++ c.cs.camel (a.getD sf.name)) sub)
            (variantsV c (pfx ++ c.cs.camel (a.getD sf.name)) ty sub) ∧
          envSelsV e c (pfx ++ c.cs.camel (a.getD sf.name)) sub
    | .inline t isub =>
      StructEnv e (pfx ++ "On" ++ objName c.s t) (fieldsOfV c (pfx ++ "On" ++ c.cs.camel (objName c.s t)) isub) ∧
      envSelsV e c (pfx ++ "On" ++ c.cs.camel (objName c.s t)) isub
    | _ => True
  def envSelsV (e : Env) (c : Ctx) (pfx : String) : List Sel → Prop
    | [] => True
    | x :: xs => envSelV e c pfx x ∧ envSelsV e c pfx xs
end

/-! ## the tagged enum -/

theorem variantOf_wire (c : Ctx) (pfx : String) (sub : List Sel) (vt : TypeId) :
    (variantOf c pfx sub vt).wire = objName c.s vt ∧ (variantOf c pfx sub vt).name = objName c.s vt ∧
    (variantOf c pfx sub vt).other = false := by
  unfold variantOf; split <;> simp [RVariant.wire]

theorem find_wire_variantsV (c : Ctx) (pfx : String) (sub : List Sel) (n : String) (o : List RVariant)
    (ho : ∀ v ∈ o, v.other = true) : ∀ (vts : List TypeId),
    (vts.map (variantOf c pfx sub) ++ o).find? (fun v => !v.other && v.wire == n) =
      (vts.find? (fun vt => objName c.s vt == n)).map (variantOf c pfx sub)
  | [] => by
    simp only [List.map_nil, List.nil_append, List.find?_nil, Option.map_none]
    rw [List.find?_eq_none]
    intro v hv; simp [ho v hv]
  | vt :: rest => by
    obtain ⟨h1, _, h3⟩ := variantOf_wire c pfx sub vt
    simp only [List.map_cons, List.cons_append, List.find?_cons, h1, h3, Bool.not_false, Bool.true_and]
    cases objName c.s vt == n
    · exact find_wire_variantsV c pfx sub n o ho rest
    · rfl

theorem find_other_variantsV (c : Ctx) (pfx : String) (sub : List Sel) (o : List RVariant) : ∀ (vts : List TypeId),
    (vts.map (variantOf c pfx sub) ++ o).find? (·.other) = o.find? (·.other)
  | [] => rfl
  | vt :: rest => by
    obtain ⟨_, _, h3⟩ := variantOf_wire c pfx sub vt
    simp only [List.map_cons, List.cons_append, List.find?_cons, h3]
    exact find_other_variantsV c pfx sub o rest

theorem find_other_otherVariants (o : Options) :
    (otherVariants o).find? (·.other) = if o.otherVariant then some { name := "Unknown", other := true } else none := by
  unfold otherVariants; cases o.otherVariant <;> simp

/-- what one variant accepts of the other entries -/
def pickOk (pathB : String → Json → D Val) (v : RVariant) (rest : List (String × Json)) : Bool :=
  if v.other then true else
  match v.payload with
  | none => true
  | some t => okB (deTyWith pathB t (.obj rest))

theorem okB_tagged (c : Ctx) (pfx : String) (ty : TypeId) (sub : List Sel) (pathB : String → Json → D Val) (b : Bool)
    (pay : TypeId → List (String × Json) → Bool) (kvs : List (String × Json))
    (hpay : ∀ vt ∈ vtsOfTy c.s ty, pickOk pathB (variantOf c pfx sub vt) (kvs.filter (·.1 != "__typename")) =
      pay vt (kvs.filter (·.1 != "__typename"))) :
    okB (deTaggedWith pathB b "__typename" (variantsV c pfx ty sub) kvs) = tagOkV c.s c.o b (vtsOfTy c.s ty) pay kvs := by
  unfold deTaggedWith tagOkV variantsV
  have hoth : ∀ v ∈ otherVariants c.o, v.other = true := by
    intro v hv; unfold otherVariants at hv; split at hv <;> simp at hv; subst hv; rfl
  -- `deTaggedWith`'s local `pick`
  have hpick : ∀ (v : RVariant),
      okB (if v.other then (pure (.variant v.name none) : D Val) else
        match v.payload with
        | none => pure (.variant v.name none)
        | some t => (fun x => Val.variant v.name (some x)) <$> deTyWith pathB t (.obj (kvs.filter (·.1 != "__typename")))) =
      pickOk pathB v (kvs.filter (·.1 != "__typename")) := by
    intro v
    unfold pickOk
    cases v.other
    · cases v.payload with
      | none => rfl
      | some t => simp only [Bool.false_eq_true, ↓reduceIte, okB_map]
    · rfl
  match hcnt : countKey "__typename" kvs with
  | 0 => rfl
  | 1 =>
    simp only []
    cases hl : Json.lookup "__typename" kvs with
    | none => rfl
    | some tv =>
      cases tv with
      | str n =>
        simp only [find_wire_variantsV c pfx sub n _ hoth, find_other_variantsV, find_other_otherVariants]
        cases hf : (vtsOfTy c.s ty).find? (fun vt => objName c.s vt == n) with
        | none =>
          simp only [Option.map_none]
          cases c.o.otherVariant <;> rfl
        | some vt =>
          simp only [Option.map_some]
          exact (hpick _).trans (hpay vt (List.mem_of_find?_eq_some hf))
      | int n =>
        simp only []
        cases b
        · rfl
        · simp only [Bool.not_true, Bool.false_eq_true, ↓reduceIte, Bool.true_and]
          by_cases hneg : n < 0
          · have : decide (0 ≤ n) = false := by simpa using hneg
            simp [hneg, this, okB, bad]
          · have : decide (0 ≤ n) = true := by simpa using hneg
            simp only [hneg, ↓reduceIte, this, Bool.true_and]
            by_cases hlt : n.toNat < (vtsOfTy c.s ty).length
            · have h1 : ((vtsOfTy c.s ty).map (variantOf c pfx sub) ++ otherVariants c.o)[n.toNat]? =
                  some (variantOf c pfx sub ((vtsOfTy c.s ty)[n.toNat])) := by
                rw [List.getElem?_append_left (by simpa using hlt)]
                simp [hlt]
              have h2 : (vtsOfTy c.s ty)[n.toNat]? = some ((vtsOfTy c.s ty)[n.toNat]) := by simp [hlt]
              rw [h1, h2]
              simp only []
              exact (hpick _).trans (hpay _ (List.getElem_mem _))
            · have h2 : (vtsOfTy c.s ty)[n.toNat]? = none := by simp; omega
              rw [h2]
              simp only [find_other_variantsV, find_other_otherVariants]
              cases hov : c.o.otherVariant
              · have h1 : ((vtsOfTy c.s ty).map (variantOf c pfx sub) ++ otherVariants c.o)[n.toNat]? = none := by
                  simp [otherVariants, hov]; omega
                rw [h1]; rfl
              · cases h1 : ((vtsOfTy c.s ty).map (variantOf c pfx sub) ++ otherVariants c.o)[n.toNat]? with
                | none => rfl
                | some v =>
                  have hv : v ∈ otherVariants c.o := by
                    rw [List.getElem?_append_right (by simpa using Nat.le_of_not_lt hlt)] at h1
                    exact List.mem_of_getElem? h1
                  simp only [hoth v hv, ↓reduceIte]; rfl
      | null => rfl
      | bool _ => rfl
      | num _ => rfl
      | arr _ => rfl
      | obj _ => rfl
  | k + 2 => rfl


/-! ## a struct with own fields and the flattened tagged enum `on` -/

theorem deFlat_tagged (e : Env) (fuel : Nat) (q n : String) (d : List String) (cr : Option String) (tag : String)
    (vs : List RVariant) (buf : Buf) (he : e.find q = some (.tagged n d cr tag vs)) :
    deFlat e (fuel + 1) (.path q) buf =
      (do let v ← deTaggedWith (dePath e true fuel) true tag vs (present buf); pure (v, buf)) := by
  unfold deFlat
  simp only [he]

/-- the reader of `pre ++ [on]`, as one equation: the own fields from `kvs`, the tagged enum from **the
    entries the own fields left**, read as buffered content -/
theorem deStructMap_on (e : Env) (fuel : Nat) (pathD : String → Json → D Val) (pre : List RField) (g : RField)
    (q n : String) (d : List String) (cr : Option String) (tag : String) (vs : List RVariant)
    (kvs : List (String × Json))
    (hpre : plain pre = true) (hg : g.flatten = true) (hty : g.ty = .path q)
    (he : e.find q = some (.tagged n d cr tag vs)) :
    deStructMapWith pathD (deFlat e (fuel + 1)) (pre ++ [g]) kvs =
      (do let own ← deOwnWith pathD pre kvs
          let v ← deTaggedWith (dePath e true fuel) true tag vs
            (kvs.filter (fun kv => !(pre.map (·.wire)).contains kv.1))
          pure (.record ((pre ++ [g]).filterMap fun f => ((own ++ [(g.rust, v)]).find? (·.1 == f.rust))))) := by
  have hown : (pre ++ [g]).filter (fun f => !f.flatten) = pre := by
    simp [List.filter_append, hg, filter_plain hpre]
  rw [deStructMap_members _ (fun _ => []) (fun _ kvs => deTaggedWith (dePath e true fuel) true tag vs kvs) pathD _ kvs
      (by simp [hg]) (fun g' hg' hf' => by
        rw [eq_of_flatten_mid hpre rfl hg' hf']
        exact fun buf => ⟨buf, by rw [hty, deFlat_tagged e fuel q n d cr tag vs buf he], (filter_not_nil _).symm⟩),
    hown, memberVals_one _ _ g [] hg rfl _ pre hpre]
  cases deOwnWith pathD pre kvs with
  | error err => rfl
  | ok own =>
    simp only [bind, Except.bind]
    cases deTaggedWith (dePath e true fuel) true tag vs _ <;> rfl

theorem okB_bind2 {α β γ} (x : D α) (y : D β) (f : α → β → γ) :
    okB (do let a ← x; let b ← y; pure (f a b) : D γ) = (okB x && okB y) := by
  cases x <;> cases y <;> rfl

theorem filter_flatten_plain {fs : List RField} (h : plain fs = true) : fs.filter (·.flatten) = [] := by
  rw [List.filter_eq_nil_iff]
  intro f hf
  simp [not_flatten_of_plain h hf]

/-! ## serde: flattened members that borrow (a struct with flattened members, an internally tagged enum) -/

/-- what a borrowing member reads of the entries the own fields left -/
def readB (e : Env) (fuel : Nat) (g : RField) (rest : List (String × Json)) : D Val :=
  match g.ty with
  | .path p => dePath e true (fuel + 1) p (.obj rest)
  | _ => unmodelled "flatten of a non-struct type"

/-- the member's type is an internally tagged enum or a struct that itself has a flattened member -/
def Borrows (e : Env) (g : RField) : Prop :=
  ∃ p, g.ty = .path p ∧ notPrim p ∧
    ((∃ n d c tag vs, e.find p = some (.tagged n d c tag vs)) ∨
     (∃ n d c fields, e.find p = some (.struct n d c fields) ∧ fields.any (·.flatten) = true))

/-- such a member sees every remaining entry and takes none: it reads what the type reads of the remaining object -/
theorem deFlat_borrow (e : Env) (fuel : Nat) (g : RField) (h : Borrows e g) (buf : Buf) :
    deFlat e (fuel + 1) g.ty buf = (do let v ← readB e fuel g (present buf); pure (v, buf)) := by
  obtain ⟨p, hty, hp, hcase⟩ := h
  rw [hty]
  unfold readB
  simp only [hty]
  rcases hcase with ⟨n, d, c, tag, vs, he⟩ | ⟨n, d, c, fields, he, hany⟩
  · rw [dePath_tagged e true fuel p n d c tag vs hp he]
    unfold deFlat
    simp only [he]
  · rw [dePath_struct e true fuel p n d c fields hp he, deStruct_obj]
    unfold deFlat
    simp only [he, hany, ↓reduceIte]

/-- what the borrowing members read: all of them the same entries -/
def borrowVals (e : Env) (fuel : Nat) (rest : List (String × Json)) : List RField → D (List (String × Val)) :=
  wholeVals (fun g => readB e fuel g rest)

theorem okB_borrowVals (e : Env) (fuel : Nat) (rest : List (String × Json)) : ∀ (fs : List RField),
    okB (borrowVals e fuel rest fs) = (fs.filter (·.flatten)).all (fun g => okB (readB e fuel g rest)) :=
  okB_wholeVals _

/-- **the reader of a struct all of whose flattened members borrow, as one equation**: no disjointness is needed, every
    member reads all the entries the own fields left.  `deStructMap_on` above is the case of the one member `on`, with the
    assembled record written out: the round trip of `VariantOp` reads the value of `on` off that record (`rtAbsV_w`), while
    acceptance (`okB_absEnv`) and the structs with further borrowing members (`deStruct_borrow_finds`) go through this form -/
theorem deStructMap_borrow (e : Env) (fuel : Nat) (pathD : String → Json → D Val) (fields : List RField)
    (kvs : List (String × Json)) (hany : fields.any (·.flatten) = true)
    (hb : ∀ g ∈ fields, g.flatten = true → Borrows e g) :
    deStructMapWith pathD (deFlat e (fuel + 1)) fields kvs =
      (do let own ← deOwnWith pathD (fields.filter (fun f => !f.flatten)) kvs
          let fl ← borrowVals e fuel
            (kvs.filter (fun kv => !((fields.filter (fun f => !f.flatten)).map (·.wire)).contains kv.1)) fields
          pure (.record (fields.filterMap fun f => (own ++ fl).find? (·.1 == f.rust)))) := by
  rw [deStructMap_members _ (fun _ => []) (readB e fuel) pathD fields kvs hany
      (fun g hg hf buf => ⟨buf, deFlat_borrow e fuel g (hb g hg hf) buf, (filter_not_nil _).symm⟩),
    memberVals_nil_keys]
  rfl

/-- the entries the flattened members of a struct see: those its own fields left -/
def leftBy (fields : List RField) (kvs : List (String × Json)) : List (String × Json) :=
  kvs.filter (fun kv => !((fields.filter (fun f => !f.flatten)).map (·.wire)).contains kv.1)

/-- **what the type(s) `renderType` emits accept**, whichever of the two shapes `AbsEnv` names: the own fields read their
    keys, every flattened member (a borrower) and the tagged enum (`tag`: what it accepts, from the fuel `fd` on) read
    the entries the own fields left — all entries, and not as buffered content, when the tagged enum stands alone -/
theorem okB_absEnv {e : Env} {name : String} {fields : List RField} {vs : List RVariant}
    (hs : AbsEnv e name fields vs) (hbm : ∀ g ∈ fields, g.flatten = true → Borrows e g)
    (tag : Bool → List (String × Json) → Bool) (fd : Nat)
    (htag : ∀ fd', fd ≤ fd' → ∀ b' kvs, okB (deTaggedWith (dePath e true fd') b' "__typename" vs kvs) = tag b' kvs)
    (b : Bool) (j : Json) :
    okB (dePath e b (fd + 2) name j) =
      match j with
      | .obj kvs =>
        (fields.filter (fun f => !f.flatten)).all (fun f => decide (countKey f.wire kvs ≤ 1) &&
          okB (readField (dePath e b (fd + 1)) f kvs)) &&
        ((fields.filter (·.flatten)).all (fun g => okB (readB e fd g (leftBy fields kvs))) &&
         tag (!fields.isEmpty || b) (leftBy fields kvs))
      | _ => false := by
  unfold AbsEnv at hs
  split at hs
  · rename_i hemp
    obtain rfl : fields = [] := List.isEmpty_iff.mp hemp
    obtain ⟨hp, _, n, d, cr, hfind⟩ := hs
    cases j with
    | obj kvs =>
      rw [dePath_tagged e b (fd + 1) name n d cr _ _ hp hfind, htag (fd + 1) (by omega)]
      simp [leftBy, List.filter_eq_self.mpr]
    | _ => unfold dePath; simp only [dePrim_none hp, hfind]; rfl
  · rename_i hemp
    obtain ⟨⟨hp, _, n, d, cr, hfind⟩, hpT, _, n', d', cr', hfind'⟩ := hs
    have hany : (fields ++ [onField name]).any (·.flatten) = true := by simp [onField]
    cases j with
    | obj kvs =>
      have hb : ∀ g ∈ fields ++ [onField name], g.flatten = true → Borrows e g := by
        intro g hg hfl
        rcases List.mem_append.mp hg with hg | hg
        · exact hbm g hg hfl
        · obtain rfl := List.mem_singleton.mp hg
          exact ⟨name ++ "On", rfl, hpT, .inl ⟨n', d', cr', _, _, hfind'⟩⟩
      have hown : (fields ++ [onField name]).filter (fun f => !f.flatten) = fields.filter (fun f => !f.flatten) := by
        simp [List.filter_append, onField]
      have hfl : (fields ++ [onField name]).filter (·.flatten) = fields.filter (·.flatten) ++ [onField name] := by
        simp [List.filter_append, onField]
      rw [dePath_struct e b (fd + 1) name n d cr _ hp hfind, deStruct_obj, deStructMap_borrow e fd _ _ kvs hany hb,
        okB_bind2, okB_borrowVals, hown, hfl,
        okB_deOwn' _ _ _ (by simp [plain] : plain (fields.filter (fun f => !f.flatten)) = true), List.all_append]
      simp only [List.all_cons, List.all_nil, Bool.and_true, hemp, Bool.not_false, Bool.true_or]
      rw [show ∀ rest, readB e fd (onField name) rest = dePath e true (fd + 1) (name ++ "On") (.obj rest) from
          fun _ => rfl, dePath_tagged e true fd _ n' d' cr' _ _ hpT hfind', htag fd (Nat.le_refl _)]
      rfl
    | _ => exact okB_dePath_flat_nonobj e b (fd + 1) name n d cr _ hp hfind hany _ (fun _ h => by cases h)


/-! ## facts about the emitted fields of a selection set of the class -/

theorem fieldOfSelV_v (c : Ctx) (pfx : String) (abs : Bool) (a : Option String) (fid : Nat) (sub : List Sel)
    (ht : vSel c.s c.o abs (.field a fid sub) = true) :
    ∃ sf ft, c.s.fields[fid]? = some sf ∧ leafNameV c pfx (a.getD sf.name) sf.ty.id = some ft ∧
      fieldOfSelV c pfx (.field a fid sub) = some (fieldOf c (a.getD sf.name) ft sf.ty.quals sf.deprecation) ∧
      wfQuals sf.ty.quals = true := by
  obtain ⟨sf, hsf, hw, _, hk⟩ := vSel_kinds ht
  rcases hk with ⟨k, n, hid, hk, _⟩ | ⟨k, en, hid, hk, _⟩ | ⟨i, _, hid, _⟩ | ⟨k, hid, _⟩ | ⟨u, hid, _⟩
  · exact ⟨sf, n, hsf, by simp [leafNameV, hid, hk], by simp [fieldOfSelV, hsf, leafNameV, hid, hk], hw⟩
  · exact ⟨sf, en.name, hsf, by simp [leafNameV, hid, hk], by simp [fieldOfSelV, hsf, leafNameV, hid, hk], hw⟩
  all_goals
    exact ⟨sf, pfx ++ c.cs.camel (a.getD sf.name), hsf, by simp [leafNameV, hid],
      by simp [fieldOfSelV, hsf, leafNameV, hid], hw⟩

theorem fieldsOfV_cons_field (c : Ctx) (pfx : String) (x : Sel) (xs : List Sel) (f : RField)
    (h : fieldOfSelV c pfx x = some f) : fieldsOfV c pfx (x :: xs) = f :: fieldsOfV c pfx xs := by
  simp [fieldsOfV, h]

theorem fieldsOfV_cons_none (c : Ctx) (pfx : String) (x : Sel) (xs : List Sel)
    (h : fieldOfSelV c pfx x = none) : fieldsOfV c pfx (x :: xs) = fieldsOfV c pfx xs := by
  simp [fieldsOfV, h]

theorem fieldOfSelV_some {c : Ctx} {pfx : String} {x : Sel} {f : RField} (h : fieldOfSelV c pfx x = some f) :
    ∃ a fid sub sf ft, x = .field a fid sub ∧ c.s.fields[fid]? = some sf ∧
      f = fieldOf c (a.getD sf.name) ft sf.ty.quals sf.deprecation := by
  cases x with
  | field a fid sub =>
    simp only [fieldOfSelV] at h
    split at h
    · cases h
    · rename_i sf hsf
      split at h
      · cases h
      · rename_i ft _
        exact ⟨a, fid, sub, sf, ft, rfl, hsf, (Option.some.inj h).symm⟩
  | spread g => cases h
  | inline t sub => cases h
  | typename => cases h

theorem plain_fieldsOfV (c : Ctx) (pfx : String) : ∀ sels, plain (fieldsOfV c pfx sels) = true := fun sels =>
  List.all_eq_true.mpr fun f hf => by
    obtain ⟨x, _, hx⟩ := List.mem_filterMap.mp hf
    obtain ⟨_, _, _, _, _, _, _, rfl⟩ := fieldOfSelV_some hx
    rfl

theorem wire_fieldsOfV (c : Ctx) (pfx : String) (abs : Bool) : ∀ (sels : List Sel), vSels c.s c.o abs sels = true →
    (fieldsOfV c pfx sels).map (·.wire) = fieldKeys c.s sels
  | [], _ => rfl
  | x :: xs, ht => by
    obtain ⟨hx, hxs⟩ := vSels_cons ht
    have ih := wire_fieldsOfV c pfx abs xs hxs
    cases x with
    | field a fid sub =>
      obtain ⟨sf, ft, hsf, _, hf, _⟩ := fieldOfSelV_v c pfx abs a fid sub hx
      rw [fieldsOfV_cons_field c pfx _ xs _ hf, List.map_cons, ih, fieldOf_wire]
      simp [fieldKeys, fieldKey, hsf]
    | spread g => simp [vSel] at hx
    | inline t sub => rw [fieldsOfV_cons_none c pfx _ xs rfl, ih]; simp [fieldKeys, fieldKey, List.filterMap_cons]
    | typename => rw [fieldsOfV_cons_none c pfx _ xs rfl, ih]; simp [fieldKeys, fieldKey, List.filterMap_cons]

theorem isEmpty_fieldsOfV (c : Ctx) (pfx : String) (abs : Bool) : ∀ (sels : List Sel), vSels c.s c.o abs sels = true →
    (fieldsOfV c pfx sels).isEmpty = !sels.any isFieldSel
  | [], _ => rfl
  | x :: xs, ht => by
    obtain ⟨hx, hxs⟩ := vSels_cons ht
    have ih := isEmpty_fieldsOfV c pfx abs xs hxs
    cases x with
    | field a fid sub =>
      obtain ⟨sf, ft, hsf, _, hf, _⟩ := fieldOfSelV_v c pfx abs a fid sub hx
      rw [fieldsOfV_cons_field c pfx _ xs _ hf]; simp [isFieldSel]
    | spread g => simp [vSel] at hx
    | inline t sub => rw [fieldsOfV_cons_none c pfx _ xs rfl, ih]; simp [isFieldSel]
    | typename => rw [fieldsOfV_cons_none c pfx _ xs rfl, ih]; simp [isFieldSel]

theorem looseSelsV_nofield (s : Schema) (o : Options) (b : Bool) (kvs : List (String × Json)) :
    ∀ (sels : List Sel), sels.any isFieldSel = false → looseSelsV s o b sels kvs = true
  | [], _ => by simp [looseSelsV]
  | x :: xs, h => by
    simp only [List.any_cons, Bool.or_eq_false_iff] at h
    have ih := looseSelsV_nofield s o b kvs xs h.2
    cases x with
    | field a fid sub => simp [isFieldSel] at h
    | spread g => simpa [looseSelsV] using ih
    | inline t sub => simpa [looseSelsV] using ih
    | typename => simpa [looseSelsV] using ih


/-! ## acceptance, exactly -/

section AccV
variable (e : Env) (c : Ctx)

def AccSelV (pfx : String) (x : Sel) : Prop :=
  ∀ abs, vSel c.s c.o abs x = true → envSelV e c pfx x → ∀ f, fieldOfSelV c pfx x = some f →
    ∀ b fd, 2 * selDepth x + 1 ≤ fd → ∀ v, okB (deFieldWith (dePath e b fd) f v) = looseFieldV c.s c.o b x v

def AccSelsV (pfx : String) (sels : List Sel) : Prop :=
  ∀ abs, vSels c.s c.o abs sels = true → envSelsV e c pfx sels → ∀ b fd, 2 * selsDepth sels + 1 ≤ fd →
    (∀ kvs, (fieldsOfV c pfx sels).all (fun f => decide (countKey f.wire kvs ≤ 1) &&
        okB (readField (dePath e b fd) f kvs)) = looseSelsV c.s c.o b sels kvs) ∧
    (∀ xs, (decide ((fieldsOfV c pfx sels).length ≤ xs.length) &&
        ((fieldsOfV c pfx sels).zip xs).all (fun p => okB (deFieldWith (dePath e b fd) p.1 p.2))) =
          looseArrV c.s c.o b sels xs)

/-- the variant struct of the inline fragment on `vt` accepts exactly `loosePayV` of the other entries -/
def AccPay (pfx : String) (sels : List Sel) : Prop :=
  vSels c.s c.o true sels = true → envSelsV e c pfx sels → (sels.filterMap inlineTy).Nodup →
    ∀ vt fd, 2 * selsDepth sels ≤ fd → ∀ rest,
      (vt ∈ sels.filterMap inlineTy →
        okB (dePath e true fd (pfx ++ "On" ++ objName c.s vt) (.obj rest)) = loosePayV c.s c.o vt sels rest) ∧
      (vt ∉ sels.filterMap inlineTy → loosePayV c.s c.o vt sels rest = true)

theorem accStructV (pfx name : String) (sels : List Sel) (H : AccSelsV e c pfx sels) (abs : Bool)
    (ht : vSels c.s c.o abs sels = true) (henv : envSelsV e c pfx sels)
    (hs : StructEnv e name (fieldsOfV c pfx sels)) (b : Bool) (fd : Nat) (hfd : 2 * selsDepth sels + 2 ≤ fd) (j : Json) :
    okB (dePath e b fd name j) = conformsLooseV c.s c.o b sels j := by
  obtain ⟨hp, _, n, d, cr, hfind⟩ := hs
  obtain ⟨fd', rfl⟩ : ∃ k, fd = k + 1 := ⟨fd - 1, by omega⟩
  obtain ⟨H1, H2⟩ := H abs ht henv b fd' (by omega)
  rw [okB_dePath_plain e b fd' name n d cr _ hp hfind (plain_fieldsOfV c pfx sels)]
  cases j <;> simp [H1, H2, conformsLooseV]

theorem pickOk_variantOf (pfx : String) (sub : List Sel) (H : AccPay e c pfx sub)
    (ht : vSels c.s c.o true sub = true) (henv : envSelsV e c pfx sub) (hnd : (sub.filterMap inlineTy).Nodup)
    (vt : TypeId) (fd : Nat) (hfd : 2 * selsDepth sub ≤ fd) (rest : List (String × Json)) :
    pickOk (dePath e true fd) (variantOf c pfx sub vt) rest = loosePayV c.s c.o vt sub rest := by
  obtain ⟨h1, h2⟩ := H ht henv hnd vt fd hfd rest
  unfold pickOk variantOf
  by_cases hm : vt ∈ sub.filterMap inlineTy
  · have : (sub.filterMap inlineTy).contains vt = true := by simpa using hm
    simp only [this, ↓reduceIte, Bool.false_eq_true]
    rw [← h1 hm]; rfl
  · have : (sub.filterMap inlineTy).contains vt = false := by simpa using hm
    simp only [this, Bool.false_eq_true, ↓reduceIte]
    rw [h2 hm]

/-- without a field selection there is no field key: the entries the own fields left are all entries -/
theorem fieldKeys_nofield (s : Schema) : ∀ {sub : List Sel}, sub.any isFieldSel = false → fieldKeys s sub = []
  | [], _ => rfl
  | x :: xs, h => by
    simp only [List.any_cons, Bool.or_eq_false_iff] at h
    have ih := fieldKeys_nofield s h.2
    cases x with
    | field a fid sub => exact absurd h.1 (by simp [isFieldSel])
    | _ => exact ih

theorem ite_left_nofield (s : Schema) (sub : List Sel) (kvs : List (String × Json)) :
    (if sub.any isFieldSel then kvs.filter (fun kv => !(fieldKeys s sub).contains kv.1) else kvs) =
      kvs.filter (fun kv => !(fieldKeys s sub).contains kv.1) := by
  cases h : sub.any isFieldSel
  · simp [fieldKeys_nofield s h, List.filter_eq_self.mpr]
  · rfl

theorem accAbs (pfx name : String) (ty : TypeId) (sub : List Sel) (H : AccSelsV e c pfx sub) (HP : AccPay e c pfx sub)
    (ht : vSels c.s c.o true sub = true) (hok : absOk c.s c.o ty sub = true) (henv : envSelsV e c pfx sub)
    (hs : AbsEnv e name (fieldsOfV c pfx sub) (variantsV c pfx ty sub)) (b : Bool) (fd : Nat)
    (hfd : 2 * selsDepth sub + 3 ≤ fd) (j : Json) :
    okB (dePath e b fd name j) = conformsLooseAbs c.s c.o b ty sub j := by
  obtain ⟨_, _, _, _, _, _, hnd, _⟩ := absOk_parts hok
  obtain ⟨fd', rfl⟩ : ∃ k, fd = k + 2 := ⟨fd - 2, by omega⟩
  obtain ⟨H1, _⟩ := H true ht henv b (fd' + 1) (by omega)
  have hpl := plain_fieldsOfV c pfx sub
  rw [okB_absEnv hs (fun g hg hfl => by rw [not_flatten_of_plain hpl hg] at hfl; cases hfl)
    (fun b' kvs => tagOkV c.s c.o b' (vtsOfTy c.s ty) (fun vt rest => loosePayV c.s c.o vt sub rest) kvs) fd'
    (fun fd'' _ b' kvs => okB_tagged c pfx ty sub _ b' _ kvs
      (fun vt _ => pickOk_variantOf e c pfx sub HP ht henv hnd vt fd'' (by omega) _)) b j]
  cases j with
  | obj kvs =>
    dsimp only [leftBy]
    rw [filter_plain hpl, filter_flatten_plain hpl, H1 kvs, wire_fieldsOfV c pfx true sub ht,
      isEmpty_fieldsOfV c pfx true sub ht]
    simp only [conformsLooseAbs, ite_left_nofield, List.all_nil, Bool.true_and, Bool.not_not]
  | _ => rfl


theorem looseLambdaV (s : Schema) (o : Options) (b : Bool) (sub : List Sel) :
    (fun j => match j with
      | Json.obj kvs' => looseSelsV s o b sub kvs'
      | Json.arr xs => looseArrV s o b sub xs
      | _ => false) = conformsLooseV s o b sub := by
  funext j; cases j <;> rfl

theorem looseLambdaAbs (s : Schema) (o : Options) (b : Bool) (ty : TypeId) (sub : List Sel) :
    (fun j => match j with
      | Json.obj kvs' =>
        looseSelsV s o b sub kvs' &&
        tagOkV s o (sub.any isFieldSel || b) (vtsOfTy s ty) (fun vt rest => loosePayV s o vt sub rest)
          (if sub.any isFieldSel then kvs'.filter (fun kv => !(fieldKeys s sub).contains kv.1) else kvs')
      | _ => false) = conformsLooseAbs s o b ty sub := by
  funext j; cases j <;> rfl


mutual
  theorem accSelV : ∀ (x : Sel) (pfx : String), AccSelV e c pfx x
    | .field a fid sub, pfx => by
      intro abs ht henv f hf b fd hfd v
      have IH := accSelsV sub
      have IHP := accPayV sub
      rw [selDepth] at hfd
      obtain ⟨fd', rfl⟩ : ∃ k, fd = k + 3 := ⟨fd - 3, by omega⟩
      obtain ⟨sf, hsf, hw, _, hk⟩ := vSel_kinds ht
      have hwf : wf (gtyOf sf.ty.quals) = true := by rw [wf_gtyOf]; exact hw
      rw [envSelV] at henv
      rw [looseFieldV]
      rcases hk with ⟨k, sn, hid, hk, _⟩ | ⟨k, en, hid, hk, _⟩ | ⟨i, o, hid, hk, hsub, _⟩ |
        ⟨k, hid, _, hsub, hok⟩ | ⟨k, hid, _, hsub, hok⟩
      · simp only [hsf, hid, hk] at henv ⊢
        simp only [fieldOfSelV, hsf, leafNameV, hid, hk, Option.some.injEq] at hf
        subst hf
        by_cases hID : sn = "ID"
        · subst hID
          rw [deField_id, C16.id_field_iff _ hwf]
          simp [scalarOk]
        · rw [deField_plain _ _ _ _ hID]
          exact (ok_iff_accepts _ sn (scalarOk sn) (leaf_scalar e sn henv hID b fd') _ hwf).2 v
      · simp only [hsf, hid, hk] at henv ⊢
        simp only [fieldOfSelV, hsf, leafNameV, hid, hk, Option.some.injEq, Option.map_some] at hf
        subst hf
        obtain ⟨hp, hID, n', d, sp, vs, ser, de, hfind, _⟩ := henv
        rw [deField_plain _ _ _ _ hID]
        exact (ok_iff_accepts _ en.name stringOk
          (leaf_enum e b (fd' + 2) en.name n' d sp vs ser de hp hfind) _ hwf).2 v
      · simp only [hsf, hid, hk] at henv ⊢
        simp only [fieldOfSelV, hsf, leafNameV, hid, Option.some.injEq] at hf
        subst hf
        obtain ⟨hs, hesub⟩ := henv
        rw [deField_plain _ _ _ _ hs.2.1, looseLambdaV]
        exact (ok_iff_accepts _ _ (conformsLooseV c.s c.o b sub)
          (accStructV e c _ _ sub (IH _) false hsub hesub hs b (fd' + 3) (by omega)) _ hwf).2 v
      all_goals
        simp only [hsf, hid] at henv ⊢
        simp only [fieldOfSelV, hsf, leafNameV, hid, Option.some.injEq] at hf
        subst hf
        obtain ⟨hs, hesub⟩ := henv
        have hID : pfx ++ c.cs.camel (a.getD sf.name) ≠ "ID" := by
          unfold AbsEnv at hs; split at hs
          · exact hs.2.1
          · exact hs.1.2.1
        rw [deField_plain _ _ _ _ hID, looseLambdaAbs]
        exact (ok_iff_accepts _ _ (conformsLooseAbs c.s c.o b _ sub)
          (accAbs e c _ _ _ sub (IH _) (IHP _) hsub hok hesub hs b (fd' + 3) (by omega)) _ hwf).2 v
    | .spread g, pfx => by intro abs ht; simp [vSel] at ht
    | .inline t sub, pfx => by intro _ _ _ f hf; cases hf
    | .typename, pfx => by intro _ _ _ f hf; cases hf
  theorem accSelsV : ∀ (sels : List Sel) (pfx : String), AccSelsV e c pfx sels
    | [], pfx => by
      intro _ _ _ b fd _
      exact ⟨fun kvs => by simp [fieldsOfV, looseSelsV], fun xs => by simp [fieldsOfV, looseArrV]⟩
    | x :: xs, pfx => by
      intro abs ht henv b fd hfd
      obtain ⟨hx, hxs⟩ := vSels_cons ht
      rw [envSelsV] at henv
      rw [selsDepth] at hfd
      obtain ⟨I1, I2⟩ := accSelsV xs pfx abs hxs henv.2 b fd (by omega)
      have IX := accSelV x pfx abs hx henv.1
      cases x with
      | field a fid sub =>
        obtain ⟨sf, ft, hsf, _, hf, hw⟩ := fieldOfSelV_v c pfx abs a fid sub hx
        have IXf := IX _ hf b fd (by omega)
        have hfs := fieldsOfV_cons_field c pfx _ xs _ hf
        refine ⟨fun kvs => ?_, fun vs => ?_⟩
        · rw [hfs, List.all_cons, I1 kvs, looseSelsV]
          simp only [hsf, fieldOf_wire, readField]
          cases hl : Json.lookup (a.getD sf.name) kvs with
          | none => simp only [missing_fieldOf]
          | some v => simp only [IXf v]
        · rw [hfs]
          cases vs with
          | nil => rw [looseArrV]; simp
          | cons v vs' =>
            rw [looseArrV]
            simp only [List.length_cons, List.zip_cons_cons, List.all_cons, IXf v, ← I2 vs',
              Nat.add_le_add_iff_right]
            cases looseFieldV c.s c.o b (.field a fid sub) v <;> simp
      | spread g => simp [vSel] at hx
      | inline t sub =>
        have hfs := fieldsOfV_cons_none c pfx (.inline t sub) xs rfl
        refine ⟨fun kvs => ?_, fun vs => ?_⟩
        · rw [hfs, I1 kvs]; simp [looseSelsV]
        · rw [hfs, I2 vs]; simp [looseArrV]
      | typename =>
        have hfs := fieldsOfV_cons_none c pfx .typename xs rfl
        refine ⟨fun kvs => ?_, fun vs => ?_⟩
        · rw [hfs, I1 kvs]; simp [looseSelsV]
        · rw [hfs, I2 vs]; simp [looseArrV]
  theorem accPayV : ∀ (sels : List Sel) (pfx : String), AccPay e c pfx sels
    | [], pfx => by
      intro _ _ _ vt fd _ rest
      exact ⟨fun h => by simp at h, fun _ => by simp [loosePayV]⟩
    | x :: xs, pfx => by
      intro ht henv hnd vt fd hfd rest
      obtain ⟨hx, hxs⟩ := vSels_cons ht
      rw [envSelsV] at henv
      rw [selsDepth] at hfd
      cases x with
      | inline t isub =>
        simp only [List.filterMap_cons, inlineTy, List.nodup_cons] at hnd
        obtain ⟨I1, I2⟩ := accPayV xs pfx hxs henv.2 hnd.2 vt fd (by omega) rest
        have IS := accSelsV isub
        rw [envSelV] at henv
        simp only [vSel, Bool.and_eq_true] at hx
        rw [selDepth] at hfd
        rw [loosePayV]
        by_cases htv : t = vt
        · subst htv
          have hstruct := accStructV e c _ _ isub (IS _) false hx.1.2 henv.1.2 henv.1.1 true fd (by omega) (.obj rest)
          refine ⟨fun _ => ?_, fun hn => absurd (by simp [inlineTy]) hn⟩
          rw [hstruct, I2 hnd.1]
          simp [conformsLooseV]
        · have hne : (t != vt) = true := by simpa using htv
          simp only [hne, Bool.true_or, Bool.true_and]
          refine ⟨fun hm => I1 ?_, fun hn => I2 (fun hm => hn (by simp [inlineTy, hm]))⟩
          simp only [List.filterMap_cons, inlineTy, List.mem_cons] at hm
          rcases hm with rfl | hm
          · exact absurd rfl htv
          · exact hm
      | field a fid sub =>
        have e1 : (Sel.field a fid sub :: xs).filterMap inlineTy = xs.filterMap inlineTy := by simp [List.filterMap_cons, inlineTy]
        rw [e1] at hnd ⊢
        have := accPayV xs pfx hxs henv.2 hnd vt fd (by omega) rest
        simpa [loosePayV] using this
      | spread g => simp [vSel] at hx
      | typename =>
        have e1 : (Sel.typename :: xs).filterMap inlineTy = xs.filterMap inlineTy := by simp [List.filterMap_cons, inlineTy]
        rw [e1] at hnd ⊢
        have := accPayV xs pfx hxs henv.2 hnd vt fd (by omega) rest
        simpa [loosePayV] using this
end

end AccV

/-- the struct named `name` emitted for the object-level selection set `sels` accepts exactly `conformsLooseV` -/
theorem structV_accepts_iff (e : Env) (c : Ctx) (pfx name : String) (sels : List Sel) (abs : Bool)
    (ht : vSels c.s c.o abs sels = true) (henv : envSelsV e c pfx sels)
    (hs : StructEnv e name (fieldsOfV c pfx sels)) (b : Bool) (fd : Nat) (hfd : 2 * selsDepth sels + 2 ≤ fd) (j : Json) :
    okB (dePath e b fd name j) = conformsLooseV c.s c.o b sels j :=
  accStructV e c pfx name sels (accSelsV e c sels pfx) abs ht henv hs b fd hfd j

/-- the type emitted at an abstract position accepts exactly `conformsLooseAbs` -/
theorem abs_accepts_iff (e : Env) (c : Ctx) (pfx name : String) (ty : TypeId) (sub : List Sel)
    (ht : vSels c.s c.o true sub = true) (hok : absOk c.s c.o ty sub = true) (henv : envSelsV e c pfx sub)
    (hs : AbsEnv e name (fieldsOfV c pfx sub) (variantsV c pfx ty sub)) (b : Bool) (fd : Nat)
    (hfd : 2 * selsDepth sub + 3 ≤ fd) (j : Json) :
    okB (dePath e b fd name j) = conformsLooseAbs c.s c.o b ty sub j :=
  accAbs e c pfx name ty sub (accSelsV e c sub pfx) (accPayV e c sub pfx) ht hok henv hs b fd hfd j


/-! ## strict ⇒ loose -/

/-- possible types, spec side vs. generator side -/
theorem mem_vtsOfTy {s : Schema} {rt : Nat} {ty : TypeId} (ha : fragApplies s rt ty = true)
    (hty : absHyp s ty) : TypeId.object rt ∈ vtsOfTy s ty := by
  cases ty with
  | interface k =>
    simp only [fragApplies] at ha
    cases ho : s.objects[rt]? with
    | none => simp [ho] at ha
    | some ob =>
      simp only [ho] at ha
      simp only [vtsOfTy, Schema.implementors, List.mem_map, List.mem_filter, TypeId.object.injEq]
      exact ⟨rt, ⟨(ob, rt), ⟨List.mk_mem_zipIdx_iff_getElem?.mpr ho, ha⟩, rfl⟩, rfl⟩
  | union u =>
    simp only [fragApplies] at ha
    cases hu : s.unions[u]? with
    | none => simp [hu] at ha
    | some un =>
      simp only [hu] at ha
      simpa [vtsOfTy, hu] using ha
  | object i => exact hty.elim
  | scalar i => exact hty.elim
  | «enum» i => exact hty.elim
  | input i => exact hty.elim

theorem find_by_name (s : Schema) : ∀ (vts : List TypeId), (vts.map (objName s)).Nodup → ∀ vt ∈ vts,
    vts.find? (fun t => objName s t == objName s vt) = some vt := fun vts hnd vt hv => by
  simpa using find_of_nodup_key (objName s) (fun _ => true) vts hnd vt hv rfl

/-- the own-field predicate only looks at the keys of the `.field` selections -/
theorem looseSelsV_filter (s : Schema) (o : Options) (b : Bool) (q : String × Json → Bool) (kvs : List (String × Json)) :
    ∀ (sels : List Sel), (∀ k ∈ fieldKeys s sels, ∀ v, q (k, v) = true) →
      looseSelsV s o b sels (kvs.filter q) = looseSelsV s o b sels kvs
  | [], _ => by simp [looseSelsV]
  | x :: xs, h => by
    cases x with
    | field a fid sub =>
      rw [looseSelsV, looseSelsV]
      cases hsf : s.fields[fid]? with
      | none => rfl
      | some sf =>
        have hk : ∀ v, q (a.getD sf.name, v) = true := h _ (by simp [fieldKeys, fieldKey, hsf])
        have ih := looseSelsV_filter s o b q kvs xs (fun k hk' => h k (by
          simp only [fieldKeys, List.filterMap_cons, fieldKey, hsf, Option.map_some] at hk' ⊢
          exact List.mem_cons_of_mem _ hk'))
        simp only [countKey_filter q _ hk, lookup_filter q _ hk, ih]
    | spread g =>
      have ih := looseSelsV_filter s o b q kvs xs (fun k hk' => h k (by simpa [fieldKeys, List.filterMap_cons, fieldKey] using hk'))
      simpa [looseSelsV] using ih
    | inline t sub =>
      have ih := looseSelsV_filter s o b q kvs xs (fun k hk' => h k (by simpa [fieldKeys, List.filterMap_cons, fieldKey] using hk'))
      simpa [looseSelsV] using ih
    | typename =>
      have ih := looseSelsV_filter s o b q kvs xs (fun k hk' => h k (by simpa [fieldKeys, List.filterMap_cons, fieldKey] using hk'))
      simpa [looseSelsV] using ih


/-- the value under a selected field's key, strict reading (the `accepts …` expression of `confSelV`) -/
def strictFieldV (s : Schema) : Sel → Json → Bool
  | .field _ fid sub, v =>
    match s.fields[fid]? with
    | none => false
    | some sf =>
      match sf.ty.id with
      | .scalar k => (match s.scalars[k]? with
        | some n => accepts (scalarOk n) (gtyOf sf.ty.quals) v
        | none => false)
      | .enum k => (match s.enums[k]? with
        | some _ => accepts stringOk (gtyOf sf.ty.quals) v
        | none => false)
      | .input _ => false
      | t => accepts (conformsAt s t sub) (gtyOf sf.ty.quals) v
  | _, _ => false

theorem strictLambdaV (s : Schema) (t : TypeId) (sub : List Sel) :
    (fun j => match j with
      | Json.obj kvs' => (List.range s.objects.length).any (fun rt' => fragApplies s rt' t &&
          EnumSpec.nodup (kvs'.map (·.1)) && kvs'.all (fun kv => (keysSelsV s rt' sub).contains kv.1) &&
          confSelsV s rt' sub kvs')
      | _ => false) = conformsAt s t sub := by
  funext j
  cases j <;> simp [conformsAt, conformsV, Bool.and_assoc]

theorem confSelV_field (s : Schema) (rt : Nat) (a : Option String) (fid : Nat) (sub : List Sel)
    (kvs : List (String × Json)) :
    confSelV s rt (.field a fid sub) kvs =
      (match s.fields[fid]? with
       | none => false
       | some sf =>
         match Json.lookup (a.getD sf.name) kvs with
         | none => false
         | some v => strictFieldV s (.field a fid sub) v) := by
  rw [confSelV]
  cases hsf : s.fields[fid]? with
  | none => rfl
  | some sf =>
    simp only []
    cases Json.lookup (a.getD sf.name) kvs with
    | none => rfl
    | some v =>
      simp only [strictFieldV, hsf]
      cases hid : sf.ty.id <;> first | rfl | exact congrFun (congrFun (congrArg accepts (strictLambdaV s _ sub)) _) _

theorem confSelsV_mem {s : Schema} {rt : Nat} {kvs : List (String × Json)} :
    ∀ {sels : List Sel}, confSelsV s rt sels kvs = true → ∀ x ∈ sels, confSelV s rt x kvs = true :=
  fun {sels} h => List.all_eq_true.mp
    (all_of_eqns (ps := fun l => confSelsV s rt l kvs) (p := fun x => confSelV s rt x kvs) rfl (fun _ _ => rfl) sels ▸ h)

theorem countKey_pos_of_lookup {k : String} {v : Json} : ∀ {kvs : List (String × Json)},
    Json.lookup k kvs = some v → 1 ≤ countKey k kvs
  | [], h => by simp [Json.lookup] at h
  | (k', v') :: rest, h => by
    rw [countKey_cons]
    by_cases hk : k' = k
    · simp [hk]
    · have : (k' == k) = false := by simpa using hk
      simp only [Json.lookup, this, Bool.false_eq_true, ↓reduceIte] at h
      have := countKey_pos_of_lookup h
      omega

theorem fieldKeys_sub_respKeys (s : Schema) : ∀ (sels : List Sel), ∀ k ∈ fieldKeys s sels, k ∈ respKeys s sels :=
  fun sels _ h => (fieldKeys_sublist s sels).subset h

theorem typename_mem {sub : List Sel} (h : sub.any isTypename = true) : Sel.typename ∈ sub := by
  simp only [List.any_eq_true] at h
  obtain ⟨x, hx, hxt⟩ := h
  cases x <;> simp [isTypename] at hxt
  exact hx

theorem typename_not_fieldKey (s : Schema) (sub : List Sel) (hty : sub.any isTypename = true)
    (hnd : EnumSpec.nodup (respKeys s sub) = true) : "__typename" ∉ fieldKeys s sub := by
  intro hm
  obtain ⟨x, hx, hk⟩ := List.mem_filterMap.mp hm
  have hnd' := nodup_iff'.mp hnd
  cases x with
  | field a fid sub' =>
    have h1 := find_respKey s "__typename" sub hnd' _ hx (by simpa [respKey, fieldKey] using hk)
    have h2 := find_respKey s "__typename" sub hnd' _ (typename_mem hty) rfl
    rw [h1] at h2; cases h2
  | spread g => cases hk
  | inline t sub' => cases hk
  | typename => cases hk


section SL
variable (s : Schema) (o : Options)

def SLSels (sels : List Sel) : Prop :=
  ∀ abs b rt kvs, vSels s o abs sels = true → (∀ k, countKey k kvs ≤ 1) → confSelsV s rt sels kvs = true →
    looseSelsV s o b sels kvs = true

def SLPay (sels : List Sel) : Prop :=
  ∀ rt kvs rest, vSels s o true sels = true → (∀ k, countKey k kvs ≤ 1) → confSelsV s rt sels kvs = true →
    (∀ t isub, Sel.inline t isub ∈ sels → t = .object rt →
      looseSelsV s o true isub rest = looseSelsV s o true isub kvs) →
    loosePayV s o (.object rt) sels rest = true

/-- a response object of runtime type `rt` with pairwise distinct keys whose selected entries conform is accepted at an
    abstract position; it may carry other keys than the selected ones, as the object a flattened member for a fragment on
    the abstract type itself reads -/
theorem strict_loose_abs_obj (ty : TypeId) (sub : List Sel) (IHs : SLSels s o sub) (IHp : SLPay s o sub)
    (hty : absHyp s ty) (ht : vSels s o true sub = true) (hok : absOk s o ty sub = true) (b : Bool) (rt : Nat)
    (kvs : List (String × Json)) (happ : fragApplies s rt ty = true)
    (hnd : (kvs.map (·.1)).Nodup) (hconf : confSelsV s rt sub kvs = true) :
    conformsLooseAbs s o b ty sub (.obj kvs) = true := by
  obtain ⟨htn, hrk, hobj, _, hvn, _, _, hexcl⟩ := absOk_parts hok
  have hcnt := countKey_le_one_of_nodup hnd
  have hown := IHs true b rt kvs ht hcnt hconf
  have htag : Json.lookup "__typename" kvs = some (.str (rtName s rt)) := by
    have := confSelsV_mem hconf _ (typename_mem htn)
    simp only [confSelV] at this
    split at this
    · rename_i n hl; rw [hl]; simp only [beq_iff_eq] at this; rw [this]
    · cases this
  have hnf := typename_not_fieldKey s sub htn hrk
  have hq : ∀ v : Json, (fun kv : String × Json => !(fieldKeys s sub).contains kv.1) ("__typename", v) = true := by
    intro v; simpa using hnf
  obtain ⟨kvs2, hkvs2, hq2⟩ : ∃ kvs2, kvs2 = (if sub.any isFieldSel then
      kvs.filter (fun kv => !(fieldKeys s sub).contains kv.1) else kvs) ∧
      ∃ p : String × Json → Bool, kvs2 = kvs.filter p ∧ (∀ v, p ("__typename", v) = true) ∧
        (∀ t isub, Sel.inline t isub ∈ sub → ∀ k ∈ fieldKeys s isub, ∀ v, p (k, v) = true) := by
    refine ⟨_, rfl, ?_⟩
    cases sub.any isFieldSel
    · exact ⟨fun _ => true, (List.filter_eq_self.mpr (fun _ _ => rfl)).symm, fun _ => rfl, fun _ _ _ _ _ _ => rfl⟩
    · refine ⟨_, rfl, hq, ?_⟩
      intro t isub hm k hk v
      have := hexcl t isub hm k hk
      have : k ∉ fieldKeys s sub := fun h' => this (fieldKeys_sub_respKeys s sub k h')
      simpa using this
  obtain ⟨p, rfl, hqt, hqi⟩ := hq2
  have hl2 : Json.lookup "__typename" (kvs.filter p) = some (.str (rtName s rt)) := by
    rw [lookup_filter p _ hqt]; exact htag
  have hc2 : countKey "__typename" (kvs.filter p) = 1 := by
    rw [countKey_filter p _ hqt]
    have := countKey_pos_of_lookup htag
    have := hcnt "__typename"
    omega
  have hmem := mem_vtsOfTy happ hty
  have hfind : (vtsOfTy s ty).find? (fun vt => objName s vt == rtName s rt) = some (.object rt) := by
    have hnd' : ((vtsOfTy s ty).map (objName s)).Nodup := by
      unfold variantNames at hvn
      exact (List.nodup_append.mp hvn).1
    exact find_by_name s _ hnd' _ hmem
  simp only [conformsLooseAbs, hown, Bool.true_and, ← hkvs2]
  unfold tagOkV
  simp only [hc2, hl2, hfind]
  apply IHp rt kvs _ ht hcnt hconf
  intro t isub hm _
  rw [List.filter_filter]
  apply looseSelsV_filter
  intro k hk v
  have h1 := hqi t isub hm k hk v
  have h2 : k ≠ "__typename" := by
    intro heq
    have := hexcl t isub hm k hk
    rw [heq] at this
    exact this (List.mem_filterMap.mpr ⟨_, typename_mem htn, rfl⟩)
  simp [h1, h2]

theorem strict_loose_abs (ty : TypeId) (sub : List Sel) (IHs : SLSels s o sub) (IHp : SLPay s o sub)
    (hty : absHyp s ty) (ht : vSels s o true sub = true) (hok : absOk s o ty sub = true) (b : Bool) (j : Json)
    (h : conformsAt s ty sub j = true) : conformsLooseAbs s o b ty sub j = true := by
  simp only [conformsAt, List.any_eq_true, List.mem_range, Bool.and_eq_true] at h
  obtain ⟨rt, hrt, happ, hc⟩ := h
  obtain ⟨kvs, rfl, hnd, hconf⟩ := conformsV_obj hc
  exact strict_loose_abs_obj s o ty sub IHs IHp hty ht hok b rt kvs happ hnd hconf

mutual
  theorem slField : ∀ (x : Sel) (abs b : Bool) (v : Json), vSel s o abs x = true → strictFieldV s x v = true →
      looseFieldV s o b x v = true
    | .field a fid sub, abs, b, v => by
      intro ht h
      have IHs := slSels sub
      have IHp := slPay sub
      obtain ⟨sf, hsf, _, _, hk⟩ := vSel_kinds ht
      simp only [strictFieldV] at h
      rw [looseFieldV]
      rcases hk with ⟨k, _, hid, hk, _⟩ | ⟨k, _, hid, hk, _⟩ | ⟨i, _, hid, hk, hsub, _⟩ |
        ⟨k, hid, hty, hsub, hok⟩ | ⟨k, hid, hty, hsub, hok⟩
      · simp only [hsf, hid] at h ⊢; exact h
      · simp only [hsf, hid] at h ⊢; exact h
      · simp only [hsf, hid, hk] at h ⊢
        rw [looseLambdaV]
        refine (accepts_mono _ _ ?_ _).2 v h
        intro j hj
        simp only [conformsAt, List.any_eq_true, List.mem_range, Bool.and_eq_true] at hj
        obtain ⟨rt, _, _, hc⟩ := hj
        cases j with
        | obj kvs =>
          simp only [conformsV, Bool.and_eq_true] at hc
          exact IHs false b rt kvs hsub (countKey_le_one_of_nodup (nodup_iff'.mp hc.1.1)) hc.2
        | _ => simp [conformsV] at hc
      all_goals
        simp only [hsf, hid] at h ⊢
        rw [looseLambdaAbs]
        exact (accepts_mono _ _ (fun j hj => strict_loose_abs s o _ sub IHs IHp hty hsub hok b j hj) _).2 v h
    | .spread _, _, _, _ => by intro _ h; simp [strictFieldV] at h
    | .inline _ _, _, _, _ => by intro _ h; simp [strictFieldV] at h
    | .typename, _, _, _ => by intro _ h; simp [strictFieldV] at h
  theorem slSels : ∀ (sels : List Sel), SLSels s o sels
    | [] => by intro _ _ _ _ _ _ _; simp [looseSelsV]
    | x :: xs => by
      intro abs b rt kvs ht hc h
      obtain ⟨hx, hxs⟩ := vSels_cons ht
      rw [confSelsV, Bool.and_eq_true] at h
      have ih := slSels xs abs b rt kvs hxs hc h.2
      cases x with
      | field a fid sub =>
        have hcx := h.1
        rw [confSelV_field] at hcx
        rw [looseSelsV, ih, Bool.and_true]
        cases hsf : s.fields[fid]? with
        | none => simp [hsf] at hcx
        | some sf =>
          simp only [hsf] at hcx ⊢
          cases hl : Json.lookup (a.getD sf.name) kvs with
          | none => simp [hl] at hcx
          | some v =>
            simp only [hl] at hcx ⊢
            simp [hc, slField _ abs b v hx hcx]
      | spread g => simpa [looseSelsV] using ih
      | inline t sub => simpa [looseSelsV] using ih
      | typename => simpa [looseSelsV] using ih
  theorem slPay : ∀ (sels : List Sel), SLPay s o sels
    | [] => by intro _ _ _ _ _ _ _; simp [loosePayV]
    | x :: xs => by
      intro rt kvs rest ht hc h heq
      obtain ⟨hx, hxs⟩ := vSels_cons ht
      rw [confSelsV, Bool.and_eq_true] at h
      have ih := slPay xs rt kvs rest hxs hc h.2 (fun t isub hm => heq t isub (List.mem_cons_of_mem _ hm))
      cases x with
      | inline t isub =>
        rw [loosePayV, ih, Bool.and_true]
        by_cases htv : t = .object rt
        · subst htv
          have hcx := h.1
          simp only [confSelV, fragApplies, beq_self_eq_true, Bool.not_true, Bool.false_or] at hcx
          simp only [vSel, Bool.and_eq_true] at hx
          rw [heq _ isub (by simp) rfl, slSels isub false true rt kvs hx.1.2 hc hcx]
          simp
        · have : (t != TypeId.object rt) = true := by simpa using htv
          simp [this]
      | field a fid sub => simpa [loosePayV] using ih
      | spread g => simpa [loosePayV] using ih
      | typename => simpa [loosePayV] using ih
end

/-- `strict_loose_abs_obj` with its two induction hypotheses discharged (`slSels`, `slPay`): the statement on the facts of the
    object, for use after the induction (its round-trip counterpart on the facts is `rtAbsV_w`, which keeps the round trips
    of the fields as hypotheses) -/
theorem strict_loose_abs_w (ty : TypeId) (sub : List Sel) (hty : absHyp s ty) (ht : vSels s o true sub = true)
    (hok : absOk s o ty sub = true) (b : Bool) (rt : Nat) (kvs : List (String × Json))
    (happ : fragApplies s rt ty = true) (hnd : (kvs.map (·.1)).Nodup) (hconf : confSelsV s rt sub kvs = true) :
    conformsLooseAbs s o b ty sub (.obj kvs) = true :=
  strict_loose_abs_obj s o ty sub (slSels s o sub) (slPay s o sub) hty ht hok b rt kvs happ hnd hconf

end SL

/-- every response conforming to the specification is accepted (`conformsV → conformsLooseV`) -/
theorem conformsV_loose (s : Schema) (o : Options) (b : Bool) (rt : Nat) (sels : List Sel) (j : Json)
    (ht : vSels s o false sels = true) (h : conformsV s rt sels j = true) : conformsLooseV s o b sels j = true := by
  obtain ⟨kvs, rfl, hnd, hconf⟩ := conformsV_obj h
  exact slSels s o sels false b rt kvs ht (countKey_le_one_of_nodup hnd) hconf

end E2E
end C01
end GqlVerif
