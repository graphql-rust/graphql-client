import GqlVerif.Proofs.C01NestedGenJ
/-!
# `NestedGen2Op`: the class and the closed form of the items

`NestedGenOp` (`C01NestedGen*`) plus, at a field of interface / union type, **inline fragments with fields of their
own** `... on T { scalar / enum fields }` next to `__typename`, interface-level fields and nested (a)-spreads.  On a possible
type with such an inline fragment the generator emits the struct `…On<T>` with those fields and one flattened member per
fragment selected on `T`; on the others what it emits in `NestedAbsOp`.

`calcVariants_X` is the per-variant loop of the generator at such a position, with explicit fuel; `NestedBOp` uses it at its
positions.  How the four classes hang together: header of `C01NestedAbsA`.
-/

namespace GqlVerif
namespace C01NX
open Serde Spec C13 C03 Codegen C01 C01.E2E C01M C01N C01NA C01NG

/-! ## the class -/

/-- an inline fragment with fields of its own: `... on T { f1 f2 … }` (non-empty, only fields) -/
def isBody : Sel → Bool
  | .inline _ isub => !isub.isEmpty && isub.all isFieldSel
  | _ => false

/-- the selection set without its inline fragments with fields of their own -/
def unbody (sub : List Sel) : List Sel := sub.filter (fun x => !isBody x)

/-- an inline fragment with fields of its own, of the class: on a possible type, scalar / enum fields, none of them keyed
    `__typename` or as an interface-level field of the selection set `sub` (no key is read twice; known finding `C01-overlap`) -/
def bodyOk (s : Schema) (q : Query) (o : Options) (vts : List TypeId) (sub : List Sel) : Sel → Bool
  | .inline t isub => vts.contains t && isub.all (leafSel s q o) &&
      (fieldKeys s isub).all (fun k => !("__typename" :: fieldKeys s (C01NG.ownSels sub)).contains k)
  | _ => true

/-- a selection set on the abstract type `ty` of the general kind: without its inline fragments with own fields a
    selection set of `NestedGenOp` (`absSubG`: `__typename`, interface-level fields, nested (a)-spreads); and any number of inline
    fragments `... on T { scalar / enum fields }` on possible types -/
def absSubX (ok : TypeId → Nat → Bool) (s : Schema) (q : Query) (o : Options) (ty : TypeId) (sub : List Sel) : Bool :=
  absSubG ok s q o ty (unbody sub) && sub.all (fun x => !isBody x || bodyOk s q o (vtsOfTy s ty) sub x)

/-- a field of interface / union type with a selection set of the general kind -/
def absFieldX (ok : TypeId → Nat → Bool) (s : Schema) (q : Query) (o : Options) (sf : StoredField) (sub : List Sel) : Bool :=
  wfQuals sf.ty.quals && !(sf.deprecation.isSome && o.deprecation == .deny) && absTyOk s sf.ty.id &&
    absSubX ok s q o sf.ty.id sub

mutual
  /-- one selection of an object-level selection set on `parent` -/
  def aSel (ok : TypeId → Nat → Bool) (s : Schema) (q : Query) (o : Options) (parent : TypeId) : Sel → Bool
    | .field a fid sub =>
      match s.fields[fid]? with
      | none => false
      | some sf =>
        match sf.ty.id with
        | .object i =>
          wfQuals sf.ty.quals && !(sf.deprecation.isSome && o.deprecation == .deny) && (s.objects[i]?).isSome &&
            (match sub with
             | [.spread g] => ok (.object i) g
             | _ => aSels ok s q o (.object i) sub)
        | _ => sSel s q o false (.field a fid sub) || absFieldX ok s q o sf sub
    | .typename => true
    | .spread g => ok parent g
    | .inline _ _ => false
  def aSels (ok : TypeId → Nat → Bool) (s : Schema) (q : Query) (o : Options) (parent : TypeId) : List Sel → Bool
    | [] => true
    | x :: xs => aSel ok s q o parent x && aSels ok s q o parent xs
end

def aBody (ok : TypeId → Nat → Bool) (s : Schema) (q : Query) (o : Options) (parent : TypeId) (sels : List Sel) : Bool :=
  match sels with
  | [.spread g] => ok parent g
  | _ => aSels ok s q o parent sels

/-- **the class `NestedGen2Op`** (decidable): `NestedGenOp`, and at abstract positions inline fragments `... on T { … }`
    with scalar / enum fields of their own (`absSubX`) -/
def NestedGen2Op (c : Ctx) (op : ROperation) : Bool :=
  c.o.normalization == .none && (c.s.objects[op.objectId]?).isSome &&
  aBody (fragOkN c.s c.q c.o c.q.fragments.length) c.s c.q c.o (.object op.objectId) op.sels

/-! ## closed form -/

/-- what a selection on a variant contributes to the variant struct: a direct spread its flattened member, an inline fragment
    with fields those fields (aliased inline fragments: one member each, appended at the end) -/
def varPartF (c : Ctx) (pfx : String) : Sel → List RField
  | .spread g => [memField c g]
  | .inline t isub =>
    if isBody (.inline t isub) then fieldsOfV c (pfx ++ "On" ++ c.cs.camel (objName c.s t)) isub else []
  | _ => []

/-- the fields of the variant struct, from the selections `ms` on the variant -/
def varFieldsX (c : Ctx) (pfx : String) (ms : List Sel) : List RField :=
  ms.flatMap (varPartF c pfx) ++ (ms.filterMap aliasInl).map (memField c)

/-- the item `…On<T>`: with an inline fragment with fields on `T` the struct of those fields and the flattened members;
    otherwise the item of `NestedAbsOp` -/
def variantHeadX (c : Ctx) (pfx : String) (vt : TypeId) (sub : List Sel) : List Item :=
  if (mineOf c.q vt sub).any isBody then
    [.struct (pfx ++ "On" ++ objName c.s vt) c.respDerives c.serdeCrate (varFieldsX c pfx (mineOf c.q vt sub))]
  else variantHeadA c pfx vt (strip (unbody sub))

/-- the items of an abstract position of the general kind -/
def absItemsX (c : Ctx) (name pfx : String) (ty : TypeId) (sub : List Sel) : List Item :=
  renderType c name (fieldsOfV c pfx sub) (variantsV c pfx ty (marks c.q sub)) ++
    (vtsOfTy c.s ty).flatMap (fun vt => variantHeadX c pfx vt sub)

mutual
  def itemsA (c : Ctx) (pfx : String) : Sel → List Item
    | .field a fid sub =>
      match c.s.fields[fid]? with
      | none => []
      | some sf =>
        match sf.ty.id with
        | .object _ =>
          (match sub with
           | [.spread g] => [aliasItem (pfx ++ c.cs.camel (a.getD sf.name)) (fragName c g) false]
           | _ => .struct (pfx ++ c.cs.camel (a.getD sf.name)) c.respDerives c.serdeCrate
                    (fieldsOfF c (pfx ++ c.cs.camel (a.getD sf.name)) sub) ::
                  itemsAs c (pfx ++ c.cs.camel (a.getD sf.name)) sub)
        | ty =>
          if sSel c.s c.q c.o false (.field a fid sub) then itemsS c pfx (.field a fid sub)
          else absItemsX c (pfx ++ c.cs.camel (a.getD sf.name)) (pfx ++ c.cs.camel (a.getD sf.name)) ty sub
    | _ => []
  def itemsAs (c : Ctx) (pfx : String) : List Sel → List Item
    | [] => []
    | x :: xs => itemsA c pfx x ++ itemsAs c pfx xs
end

/-- **closed form** of the items of an object-level selection set -/
def bodyItemsA (c : Ctx) (name pfx : String) (sels : List Sel) : List Item :=
  match sels with
  | [.spread g] => [aliasItem name (fragName c g) false]
  | _ => .struct name c.respDerives c.serdeCrate (fieldsOfF c pfx sels) :: itemsAs c pfx sels

section Basic
variable {ok : TypeId → Nat → Bool} {s : Schema} {q : Query} {o : Options}

theorem aSels_cons {p : TypeId} {x : Sel} {xs : List Sel}
    (h : aSels ok s q o p (x :: xs) = true) : aSel ok s q o p x = true ∧ aSels ok s q o p xs = true := by
  simpa [aSels] using h

theorem aSels_mem {p : TypeId} : ∀ {sels : List Sel}, aSels ok s q o p sels = true →
    ∀ x ∈ sels, aSel ok s q o p x = true
  | [], _, _, hx => by simp at hx
  | y :: ys, h, x, hx => by
    obtain ⟨h1, h2⟩ := aSels_cons h
    rcases List.mem_cons.mp hx with rfl | hx'
    · exact h1
    · exact aSels_mem h2 x hx'

theorem aBody_not_lone {p : TypeId} {sels : List Sel}
    (h : ∀ g, sels ≠ [Sel.spread g]) : aBody ok s q o p sels = aSels ok s q o p sels := by
  unfold aBody
  split
  · rename_i g; exact absurd rfl (h g)
  · rfl

theorem aBody_lone {p : TypeId} {g : Nat} : aBody ok s q o p [Sel.spread g] = ok p g := rfl

theorem bodyItemsA_not_lone (c : Ctx) (name pfx : String) {sels : List Sel} (h : ∀ g, sels ≠ [Sel.spread g]) :
    bodyItemsA c name pfx sels =
      .struct name c.respDerives c.serdeCrate (fieldsOfF c pfx sels) :: itemsAs c pfx sels := by
  unfold bodyItemsA
  split
  · rename_i g; exact absurd rfl (h g)
  · rfl

theorem aSel_obj {p : TypeId} {a : Option String} {fid : Nat} {sub : List Sel}
    {sf : StoredField} {i : Nat} (hsf : s.fields[fid]? = some sf) (hid : sf.ty.id = .object i)
    (h : aSel ok s q o p (.field a fid sub) = true) :
    wfQuals sf.ty.quals = true ∧ (sf.deprecation.isSome && o.deprecation == .deny) = false ∧
      (s.objects[i]?).isSome = true ∧ aBody ok s q o (.object i) sub = true := by
  rw [aSel] at h
  simp only [hsf, hid, Bool.and_eq_true] at h
  obtain ⟨⟨⟨hw, hdep⟩, hobj⟩, hb⟩ := h
  refine ⟨hw, ?_, hobj, hb⟩
  cases hd : (sf.deprecation.isSome && o.deprecation == .deny) with
  | false => rfl
  | true => simp [hd] at hdep

/-- a field of the class that is not object-typed: a field of `VariantSpreadOp`, or of the new kind -/
theorem aSel_nonobj {p : TypeId} {a : Option String} {fid : Nat} {sub : List Sel}
    {sf : StoredField} (hsf : s.fields[fid]? = some sf) (hno : ∀ i, sf.ty.id ≠ .object i)
    (h : aSel ok s q o p (.field a fid sub) = true) :
    sSel s q o false (.field a fid sub) = true ∨
      (sSel s q o false (.field a fid sub) = false ∧ absFieldX ok s q o sf sub = true) := by
  rw [aSel] at h
  simp only [hsf] at h
  have h' : (sSel s q o false (.field a fid sub) || absFieldX ok s q o sf sub) = true := by
    simpa using h
  cases hs : sSel s q o false (.field a fid sub) with
  | true => exact .inl rfl
  | false => rw [hs] at h'; exact .inr ⟨rfl, by simpa using h'⟩

theorem aSel_field_some {p : TypeId} {a : Option String} {fid : Nat} {sub : List Sel}
    (h : aSel ok s q o p (.field a fid sub) = true) : ∃ sf, s.fields[fid]? = some sf := by
  rw [aSel] at h
  cases hsf : s.fields[fid]? with
  | none => simp [hsf] at h
  | some sf => exact ⟨sf, rfl⟩

theorem absFieldX_parts {sf : StoredField} {sub : List Sel} (h : absFieldX ok s q o sf sub = true) :
    wfQuals sf.ty.quals = true ∧ (sf.deprecation.isSome && o.deprecation == .deny) = false ∧
      absHyp s sf.ty.id ∧ absSubX ok s q o sf.ty.id sub = true := by
  simp only [absFieldX, Bool.and_eq_true] at h
  obtain ⟨⟨⟨hw, hdep⟩, hty⟩, hsub⟩ := h
  refine ⟨hw, ?_, absTyOk_absHyp hty, hsub⟩
  cases hd : (sf.deprecation.isSome && o.deprecation == .deny) with
  | false => rfl
  | true => simp [hd] at hdep

end Basic
/-! ## the selection set of a position of the general kind -/

/-- what `absSubX` says, as propositions -/
structure SpecialX (ok : TypeId → Nat → Bool) (s : Schema) (q : Query) (o : Options) (ty : TypeId) (sub : List Sel) :
    Prop where
  gen : SpecialGen ok s q o ty (unbody sub)
  body : ∀ x ∈ sub, isBody x = true → bodyOk s q o (vtsOfTy s ty) sub x = true

theorem absSubX_parts {ok : TypeId → Nat → Bool} {s : Schema} {q : Query} {o : Options} {ty : TypeId} {sub : List Sel}
    (h : absSubX ok s q o ty sub = true) : SpecialX ok s q o ty sub := by
  simp only [absSubX, Bool.and_eq_true, List.all_eq_true] at h
  refine ⟨absSubG_parts h.1, fun x hx hb => ?_⟩
  have := h.2 x hx
  simpa [hb] using this

theorem mem_unbody {sub : List Sel} {x : Sel} : x ∈ unbody sub ↔ x ∈ sub ∧ isBody x = false := by
  simp [unbody, List.mem_filter]

theorem unbody_length_le (sub : List Sel) : (unbody sub).length ≤ sub.length := List.length_filter_le _ _

theorem unbody_eq_self {sub : List Sel} (h : ∀ x ∈ sub, isBody x = false) : unbody sub = sub := by
  unfold unbody
  rw [List.filter_eq_self]
  intro x hx
  simp [h x hx]

theorem isBody_inline {x : Sel} (h : isBody x = true) : ∃ t isub, x = .inline t isub ∧ isub ≠ [] ∧
    ∀ y ∈ isub, isFieldSel y = true := by
  cases x with
  | inline t isub =>
    simp only [isBody, Bool.and_eq_true, Bool.not_eq_true', List.isEmpty_eq_false_iff, List.all_eq_true] at h
    exact ⟨t, isub, rfl, h.1, h.2⟩
  | field a fid sub' => simp [isBody] at h
  | spread g => simp [isBody] at h
  | typename => simp [isBody] at h

theorem SpecialX.ne_nil {ok : TypeId → Nat → Bool} {s : Schema} {q : Query} {o : Options} {ty : TypeId} {sub : List Sel}
    (h : SpecialX ok s q o ty sub) : sub ≠ [] := by
  intro hs
  exact h.gen.ne_nil (by rw [hs]; rfl)

theorem SpecialX.tn {ok : TypeId → Nat → Bool} {s : Schema} {q : Query} {o : Options} {ty : TypeId} {sub : List Sel}
    (h : SpecialX ok s q o ty sub) : sub.any isTypename = true := by
  have := h.gen.tn
  simp only [List.any_eq_true] at this ⊢
  obtain ⟨x, hx, hxt⟩ := this
  exact ⟨x, (mem_unbody.mp hx).1, hxt⟩

/-- every selection is a leaf field or not a field -/
theorem SpecialX.leaf {ok : TypeId → Nat → Bool} {s : Schema} {q : Query} {o : Options} {ty : TypeId} {sub : List Sel}
    (h : SpecialX ok s q o ty sub) : ∀ x ∈ sub, leafSel s q o x = true := by
  intro x hx
  by_cases hb : isBody x = true
  · obtain ⟨t, isub, rfl, _, _⟩ := isBody_inline hb
    rfl
  · exact h.gen.leaf x (mem_unbody.mpr ⟨hx, by simpa using hb⟩)

/-- a selection on the variant `vt` of a position of the general kind -/
def IsMemX (ok : TypeId → Nat → Bool) (s : Schema) (q : Query) (o : Options) (vt : TypeId) (x : Sel) : Prop :=
  IsMem ok vt x ∨ (∃ isub, x = Sel.inline vt isub ∧ isBody x = true ∧ ∀ y ∈ isub, leafSel s q o y = true)

theorem mem_mineOf_iff {q : Query} {vt : TypeId} {sels : List Sel} {x : Sel} :
    x ∈ mineOf q vt sels ↔ x ∈ sels ∧ selOn q x = some vt := by
  unfold mineOf
  rw [List.mem_filter]
  simp [onVt]

theorem SpecialX.mine {ok : TypeId → Nat → Bool} {s : Schema} {q : Query} {o : Options} {ty : TypeId} {sub : List Sel}
    (h : SpecialX ok s q o ty sub) (hok : OkSpec q ok) {vt : TypeId} (hvt : vt ∈ vtsOfTy s ty) :
    ∀ x ∈ mineOf q vt sub, IsMemX ok s q o vt x := by
  intro x hxm
  obtain ⟨hx, hon⟩ := mem_mineOf_iff.mp hxm
  by_cases hb : isBody x = true
  · obtain ⟨t, isub, rfl, _, _⟩ := isBody_inline hb
    simp only [selOn, Option.some.injEq] at hon
    subst hon
    have := h.body _ hx hb
    simp only [bodyOk, Bool.and_eq_true, List.all_eq_true] at this
    exact .inr ⟨isub, rfl, hb, this.1.2⟩
  · have hb' : isBody x = false := by simpa using hb
    have hnf : isFieldSel x = false := by cases x <;> simp_all [selOn, isFieldSel]
    exact .inl (h.gen.abs.mine hok hvt x
      (mem_mineOf_iff.mpr ⟨mem_strip.mpr ⟨mem_unbody.mpr ⟨hx, hb'⟩, hnf⟩, hon⟩))

/-- on a variant without an inline fragment with fields, the selections are those of the stage-1 selection set -/
theorem mineOf_unbody {q : Query} {vt : TypeId} {sub : List Sel} (h : (mineOf q vt sub).any isBody = false) :
    mineOf q vt (strip (unbody sub)) = mineOf q vt sub := by
  unfold mineOf strip unbody
  rw [List.filter_filter, List.filter_filter]
  apply List.filter_congr
  intro x hx
  cases hon : onVt q vt x with
  | false => simp
  | true =>
    have hxm : x ∈ mineOf q vt sub := List.mem_filter.mpr ⟨hx, hon⟩
    have hb : isBody x = false := by
      have := List.any_eq_false.mp h x hxm
      simpa using this
    have hnf : isFieldSel x = false := by
      have : selOn q x = some vt := by simpa [onVt] using hon
      cases x <;> simp_all [selOn, isFieldSel]
    simp [hb, hnf]

theorem marks_variantOf_congr (c : Ctx) (pfx : String) (vt : TypeId) {sub sub' : List Sel}
    (h : mineOf c.q vt sub' = mineOf c.q vt sub) :
    variantOf c pfx (marks c.q sub') vt = variantOf c pfx (marks c.q sub) vt := by
  unfold variantOf
  rw [marks_contains, marks_contains, h]

/-- every spread of such a selection set is of a fragment on a possible type -/
theorem SpecialX.spread {ok : TypeId → Nat → Bool} {s : Schema} {q : Query} {o : Options} {ty : TypeId} {sub : List Sel}
    (h : SpecialX ok s q o ty sub) (hok : OkSpec q ok) (hty : absHyp s ty) {g : Nat} (hg : Sel.spread g ∈ sub) :
    ∃ f, q.fragments[g]? = some f ∧ f.on ≠ ty :=
  h.gen.abs.spread hok hty (mem_strip.mpr ⟨mem_unbody.mpr ⟨hg, rfl⟩, rfl⟩)

/-! ## the items of an abstract position of the general kind -/

section CalcAbs
variable (c : Ctx) (hn : c.o.normalization = .none) (ok : TypeId → Nat → Bool) (hok : OkSpec c.q ok)

include hn hok in
/-- the contributions of the selections on one variant: a flattened member per direct spread, the own fields of the inline
    fragments with fields, one alias item per aliased inline fragment -/
theorem calcVariantSels_X (sname pfx : String) (ty : TypeId) (i : Nat) (hne : TypeId.object i ≠ ty) (B : Nat) :
    ∀ (ms : List Sel) (fuel : Nat), ms.length + B + 2 ≤ fuel → (∀ x ∈ ms, IsMemX ok c.s c.q c.o (.object i) x) →
    (∀ t isub, Sel.inline t isub ∈ ms → isub.length ≤ B) →
    (c.s.objects[i]?).isSome = true →
    calcVariantSels c fuel sname pfx (.object i) (vselsOfS c.q ty ms) =
      .ok (ms.flatMap (varPartF c pfx), [],
        (ms.filterMap aliasInl).map (fun g => aliasItem sname (fragName c g) false))
  | [], fuel, hf, _, _, _ => by
    obtain ⟨f, rfl⟩ : ∃ f, fuel = f + 1 := ⟨fuel - 1, by omega⟩
    rw [show vselsOfS c.q ty [] = [] from rfl, calcVariantSels.eq_2 _ _ _ _ _ (by omega)]; rfl
  | x :: rest, fuel, hf, hms, hB, hi => by
    simp only [List.length_cons] at hf
    obtain ⟨f, rfl⟩ : ∃ f, fuel = f + 1 := ⟨fuel - 1, by omega⟩
    have hR := calcVariantSels_X sname pfx ty i hne B rest f (by omega)
      (fun y hy => hms y (List.mem_cons_of_mem _ hy)) (fun t isub hm => hB t isub (List.mem_cons_of_mem _ hm)) hi
    rcases hms x (List.mem_cons_self) with (⟨g, rfl, hokg⟩ | ⟨g, rfl, hokg⟩) | ⟨isub, rfl, hb, hlf⟩
    · obtain ⟨fr, hfr, hfon, hname, hrec⟩ := hok _ _ hokg
      have hne2 : (fr.on == ty) = false := by rw [hfon]; simpa using hne
      rw [show vselsOfS c.q ty (Sel.spread g :: rest) = .spread g fr :: vselsOfS c.q ty rest from by
        simp [vselsOfS, vselOfS, hfr, hne2], calcVariantSels.eq_5]
      simp only [hrec, renderField_member c fr hname, bind, Except.bind, pure, Except.pure, hR]
      simp [List.filterMap_cons, varPartF, aliasInl, memField_eq c hfr]
    · obtain ⟨fr, hfr, hfon, hname, hrec⟩ := hok _ _ hokg
      rw [show vselsOfS c.q ty (Sel.inline (.object i) [.spread g] :: rest) =
        .inline (.object i) [.spread g] :: vselsOfS c.q ty rest from rfl, calcVariantSels.eq_3]
      simp only [typeName_obj hi, getFragment_of hfr, hrec, bind, Except.bind, pure, Except.pure, hR]
      simp [varPartF, isBody, isFieldSel, aliasInl, fragName, hfr]
    · obtain ⟨_, _, hx', hne0, hall⟩ := isBody_inline hb
      cases hx'
      have hnl : ∀ g, isub ≠ [Sel.spread g] := by
        intro g hg
        have := hall (Sel.spread g) (by rw [hg]; simp)
        simp [isFieldSel] at this
      have hlen := hB _ _ (List.mem_cons_self)
      have hfields := calcFields_specialG c hn (pfx ++ "On" ++ c.cs.camel (objName c.s (.object i))) (.object i) isub f
        (by omega) hlf (fun g hg => by have := hall _ hg; simp [isFieldSel] at this)
      have hal : aliasInl (Sel.inline (.object i) isub) = none := by
        unfold aliasInl
        split
        · rename_i g heq; cases heq; exact absurd rfl (hnl _)
        · rfl
      rw [show vselsOfS c.q ty (Sel.inline (.object i) isub :: rest) =
        .inline (.object i) isub :: vselsOfS c.q ty rest from rfl,
        calcVariantSels.eq_4 _ _ _ _ _ _ _ _ (fun g hg => hnl g hg)]
      simp only [typeName_obj hi, bind, Except.bind, pure, Except.pure, hfields, hR]
      simp [varPartF, hb, hal]

include hok in
theorem pushedAny_X (ty : TypeId) (i : Nat) (hne : TypeId.object i ≠ ty) : ∀ (ms : List Sel),
    (∀ x ∈ ms, IsMemX ok c.s c.q c.o (.object i) x) → ms.any isBody = true →
    pushedAny c.q (.object i) (vselsOfS c.q ty ms) = true
  | [], _, h => by simp at h
  | x :: rest, hms, h => by
    have ih := pushedAny_X ty i hne rest (fun y hy => hms y (List.mem_cons_of_mem _ hy))
    rcases hms x (List.mem_cons_self) with (⟨g, rfl, hokg⟩ | ⟨g, rfl, hokg⟩) | ⟨isub, rfl, hb, hlf⟩
    · obtain ⟨fr, hfr, hfon, _, _⟩ := hok _ _ hokg
      have hne2 : (fr.on == ty) = false := by rw [hfon]; simpa using hne
      rw [show vselsOfS c.q ty (Sel.spread g :: rest) = .spread g fr :: vselsOfS c.q ty rest from by
        simp [vselsOfS, vselOfS, hfr, hne2]]
      simp [pushedAny]
    · rw [show vselsOfS c.q ty (Sel.inline (.object i) [.spread g] :: rest) =
        .inline (.object i) [.spread g] :: vselsOfS c.q ty rest from rfl]
      have hr : rest.any isBody = true := by simpa [isBody, isFieldSel] using h
      simp [pushedAny, ih hr]
    · obtain ⟨_, _, hx', hne0, hall⟩ := isBody_inline hb
      cases hx'
      rw [show vselsOfS c.q ty (Sel.inline (.object i) isub :: rest) =
        .inline (.object i) isub :: vselsOfS c.q ty rest from rfl]
      have hnl : ∀ g, isub ≠ [Sel.spread g] := by
        intro g hg
        have := hall (Sel.spread g) (by rw [hg]; simp)
        simp [isFieldSel] at this
      have hpush : isub.any (selPushes c.q (.object i)) = true := by
        cases isub with
        | nil => exact absurd rfl hne0
        | cons y ys =>
          have := hall y (by simp)
          cases y <;> simp_all [isFieldSel, selPushes]
      unfold pushedAny
      split
      · exact absurd rfl (hnl _)
      · simp [hpush]

end CalcAbs

section CalcAbs2
variable (c : Ctx) (hn : c.o.normalization = .none) (ok : TypeId → Nat → Bool) (hok : OkSpec c.q ok)

theorem variantHeadX_body {c : Ctx} {pfx : String} {vt : TypeId} {sub : List Sel}
    (h : (mineOf c.q vt sub).any isBody = true) :
    variantHeadX c pfx vt sub =
      [.struct (pfx ++ "On" ++ objName c.s vt) c.respDerives c.serdeCrate (varFieldsX c pfx (mineOf c.q vt sub))] := by
  unfold variantHeadX; rw [if_pos h]

theorem variantHeadX_nobody {c : Ctx} {pfx : String} {vt : TypeId} {sub : List Sel}
    (h : (mineOf c.q vt sub).any isBody = false) :
    variantHeadX c pfx vt sub = variantHeadA c pfx vt (strip (unbody sub)) := by
  unfold variantHeadX; rw [if_neg (by rw [h]; simp)]

include hn hok in
/-- the per-variant loop -/
theorem calcVariants_X (name pfx : String) (ty : TypeId) (sub : List Sel) (hty : absHyp c.s ty)
    (h : SpecialX ok c.s c.q c.o ty sub) (B : Nat) (hB : ∀ t isub, Sel.inline t isub ∈ sub → isub.length ≤ B) :
    ∀ (vts : List TypeId) (fuel : Nat), vts.length + sub.length + B + 5 ≤ fuel →
    (∀ t ∈ vts, t ∈ vtsOfTy c.s ty) →
    calcVariants c fuel name pfx (vselsOfS c.q ty sub) vts =
      .ok (vts.map (variantOf c pfx (marks c.q sub)), vts.flatMap (fun vt => variantHeadX c pfx vt sub))
  | [], fuel, hf, _ => by
    obtain ⟨f, rfl⟩ : ∃ f, fuel = f + 1 := ⟨fuel - 1, by omega⟩
    rw [calcVariants.eq_2 _ _ _ _ _ (by omega)]; rfl
  | vt :: rest, fuel, hf, hsub => by
    simp only [List.length_cons] at hf
    obtain ⟨f, rfl⟩ : ∃ f, fuel = f + 1 := ⟨fuel - 1, by omega⟩
    have hrest := calcVariants_X name pfx ty sub hty h B hB rest f (by omega)
      (fun t ht => hsub t (List.mem_cons_of_mem _ ht))
    have hvt := hsub vt (List.mem_cons_self)
    have hsp := h.gen.abs
    obtain ⟨i, rfl, hi⟩ := hsp.obj vt hvt
    have hvne : TypeId.object i ≠ ty := obj_ne_abs hty i
    rw [calcVariants.eq_3]
    simp only [typeName_obj hi, bind, Except.bind, filter_vselsOfS c.q ty _ hvne]
    have hvo : variantOf c pfx (marks c.q sub) (.object i) =
        if (mineOf c.q (.object i) sub).isEmpty then { name := objName c.s (.object i) }
        else { name := objName c.s (.object i), payload := some (.path (pfx ++ "On" ++ objName c.s (.object i))) } := by
      unfold variantOf; rw [marks_contains]; cases (mineOf c.q (.object i) sub).isEmpty <;> rfl
    rw [List.map_cons, List.flatMap_cons, hvo]
    have hmineX := h.mine hok hvt
    have hmlen : (mineOf c.q (.object i) sub).length ≤ sub.length := List.length_filter_le _ _
    cases hbody : (mineOf c.q (.object i) sub).any isBody with
    | true =>
      -- an inline fragment with fields: the struct
      rw [variantHeadX_body hbody]
      have hsels := calcVariantSels_X c hn ok hok (pfx ++ "On" ++ objName c.s (.object i)) pfx ty i hvne B
        (mineOf c.q (.object i) sub) f (by omega) hmineX
        (fun t isub hm => hB t isub (mem_mineOf hm).1) hi
      have hpush := pushedAny_X c ok hok ty i hvne (mineOf c.q (.object i) sub) hmineX hbody
      have hals := aliasMembers_special c ok hok (pfx ++ "On" ++ objName c.s (.object i)) (.object i)
        ((mineOf c.q (.object i) sub).filterMap aliasInl)
        (fun g' hg' => by
          obtain ⟨x, hx, hxg⟩ := List.mem_filterMap.mp hg'
          rcases hmineX x hx with (⟨g, rfl, hokg⟩ | ⟨g, rfl, hokg⟩) | ⟨isub, rfl, hb, _⟩
          · simp [aliasInl] at hxg
          · simp only [aliasInl, Option.some.injEq] at hxg; subst hxg; exact hokg
          · obtain ⟨g0, hg0⟩ : ∃ g0, isub = [Sel.spread g0] := by
              unfold aliasInl at hxg
              split at hxg
              · rename_i t' g0 heq; cases heq; exact ⟨g0, rfl⟩
              · cases hxg
            subst hg0
            simp [isBody, isFieldSel] at hb)
      revert hsels hpush hbody hals hmineX
      cases hm : mineOf c.q (.object i) sub with
      | nil => intro _ hbody; simp at hbody
      | cons x rest' =>
        intro hmineX hbody hsels hpush hals
        -- not a lone direct spread
        have hnotsingle : ∀ g fr, vselsOfS c.q ty (x :: rest') ≠ [VariantSel.spread g fr] := by
          intro g fr heq
          have hb' := hbody
          simp only [List.any_eq_true] at hb'
          obtain ⟨y, hy, hyb⟩ := hb'
          obtain ⟨t, isub, rfl, _, _⟩ := isBody_inline hyb
          have : VariantSel.inline t isub ∈ vselsOfS c.q ty (x :: rest') :=
            List.mem_filterMap.mpr ⟨_, hy, rfl⟩
          rw [heq] at this
          simp at this
        obtain ⟨v1, vs, hv⟩ : ∃ v1 vs, vselsOfS c.q ty (x :: rest') = v1 :: vs := by
          rcases hmineX x (by simp) with (⟨g', rfl, hokg'⟩ | ⟨g', rfl, _⟩) | ⟨isub, rfl, _, _⟩
          · obtain ⟨fr', hfr', hfon', _, _⟩ := hok _ _ hokg'
            have hne3 : (fr'.on == ty) = false := by rw [hfon']; simpa using hvne
            exact ⟨.spread g' fr', vselsOfS c.q ty rest', by simp [vselsOfS, vselOfS, hfr', hne3]⟩
          · exact ⟨.inline (.object i) [.spread g'], _, rfl⟩
          · exact ⟨.inline (.object i) isub, _, rfl⟩
        rw [hv] at hsels hpush hnotsingle
        have hsingle : (match v1 :: vs with
            | [VariantSel.spread fid fr] => some (fid, fr)
            | _ => (none : Option (Nat × RFragment))) = none := by
          split
          · rename_i fid fr heq; exact absurd heq (hnotsingle fid fr)
          · rfl
        simp only [hv, hsels, hpush, hals, pure, Except.pure, hrest]
        rw [flatten_map_singleton]
        simp [renderType, varFieldsX]
    | false =>
      -- as in `NestedAbsOp`
      rw [variantHeadX_nobody hbody]
      have hmeq := mineOf_unbody hbody
      rw [← hmeq]
      have hmine := hsp.mine hok hvt
      have hmf : memFrags c.q (.object i) (strip (unbody sub)) =
          (mineOf c.q (.object i) (strip (unbody sub))).filterMap spreadId ++
            (mineOf c.q (.object i) (strip (unbody sub))).filterMap aliasInl := rfl
      have hlen := length_members _ hmine
      have hml : (mineOf c.q (.object i) (strip (unbody sub))).length ≤ sub.length := by rw [hmeq]; exact hmlen
      have hsels := calcVariantSels_special c ok hok (pfx ++ "On" ++ objName c.s (.object i)) pfx ty i hvne
        (mineOf c.q (.object i) (strip (unbody sub))) f (by omega) hmine hi
      have hpush := pushedAny_special c ok hok ty i hvne (mineOf c.q (.object i) (strip (unbody sub))) hmine
      have hals := aliasMembers_special c ok hok (pfx ++ "On" ++ objName c.s (.object i)) (.object i)
        ((mineOf c.q (.object i) (strip (unbody sub))).filterMap aliasInl)
        (fun g' hg' => (mem_members hmine (List.mem_append_right _ hg')).1)
      revert hmf hlen hsels hpush hals hmine
      cases hm : mineOf c.q (.object i) (strip (unbody sub)) with
      | nil =>
        intro hmine hmf _ _ _ _
        simp only [show vselsOfS c.q ty [] = [] from rfl, hrest, pure, Except.pure]
        simp [variantHeadA_nil hmf]
      | cons x rest' =>
        intro hmine hmf hlen hsels hpush hals
        cases rest' with
        | nil =>
          rcases hmine x (List.mem_cons_self) with ⟨g, rfl, hokg⟩ | ⟨g, rfl, hokg⟩
          · obtain ⟨fr, hfr, hfon, _, hrec⟩ := hok _ _ hokg
            have hne2 : (fr.on == ty) = false := by rw [hfon]; simpa using hvne
            have hv : vselsOfS c.q ty [Sel.spread g] = [.spread g fr] := by simp [vselsOfS, vselOfS, hfr, hne2]
            have hmf' : memFrags c.q (.object i) (strip (unbody sub)) = [g] := by
              rw [hmf]; simp [List.filterMap_cons, spreadId, aliasInl]
            simp only [hv, hrest, pure, Except.pure, hrec]
            simp [variantHeadA_alias hmf', fragName, hfr]
          · have hv : vselsOfS c.q ty [Sel.inline (.object i) [Sel.spread g]] = [.inline (.object i) [.spread g]] := rfl
            have hmf' : memFrags c.q (.object i) (strip (unbody sub)) = [g] := by
              rw [hmf]; simp [List.filterMap_cons, spreadId, aliasInl]
            rw [hv] at hsels hpush
            simp only [hv, hsels, hpush, hrest, pure, Except.pure]
            simp [List.filterMap_cons, spreadId, aliasInl, variantHeadA_alias hmf']
        | cons y rest'' =>
          have hl2 : 2 ≤ (memFrags c.q (.object i) (strip (unbody sub))).length := by rw [hmf, hlen]; simp
          obtain ⟨v1, v2, vs, hv⟩ : ∃ v1 v2 vs, vselsOfS c.q ty (x :: y :: rest'') = v1 :: v2 :: vs := by
            have h1 : ∀ z, IsMem ok (.object i) z → ∀ l, ∃ v, vselsOfS c.q ty (z :: l) = v :: vselsOfS c.q ty l := by
              intro z hz l
              rcases hz with ⟨g', rfl, hokg'⟩ | ⟨g', rfl, hokg'⟩
              · obtain ⟨fr', hfr', hfon', _, _⟩ := hok _ _ hokg'
                have hne3 : (fr'.on == ty) = false := by rw [hfon']; simpa using hvne
                exact ⟨.spread g' fr', by simp [vselsOfS, vselOfS, hfr', hne3]⟩
              · exact ⟨.inline (.object i) [.spread g'], rfl⟩
            obtain ⟨v1, e1⟩ := h1 x (hmine x (by simp)) (y :: rest'')
            obtain ⟨v2, e2⟩ := h1 y (hmine y (by simp)) rest''
            exact ⟨v1, v2, _, by rw [e1, e2]⟩
          rw [hv] at hsels hpush
          simp only [hv, hsels, hpush]
          cases hd : (List.filterMap spreadId (x :: y :: rest'')).isEmpty with
          | false =>
            simp only [Bool.not_false, hals, pure, Except.pure, hrest]
            rw [flatten_map_singleton, ← List.map_append, ← hmf, variantHeadA_struct hl2]
            simp [renderType]
          | true =>
            have hdn : List.filterMap spreadId (x :: y :: rest'') = [] := by simpa using hd
            rw [hdn, List.nil_append] at hlen
            revert hals hlen
            cases hal : List.filterMap aliasInl (x :: y :: rest'') with
            | nil => intro hlen _; simp at hlen
            | cons g0 gs0 =>
              cases gs0 with
              | nil => intro hlen _; simp at hlen
              | cons g1 gs1 =>
                intro hlen hals
                simp only [Bool.not_true, List.map_cons, pure, Except.pure, hrest]
                simp only [List.map_cons] at hals
                simp only [hals]
                rw [variantHeadA_struct hl2, hmf, hdn, hal]
                simp [renderType, flatten_map_singleton]

end CalcAbs2

theorem inline_length_le_selsSize {t : TypeId} {isub : List Sel} : ∀ {sub : List Sel}, Sel.inline t isub ∈ sub →
    sub.length + isub.length ≤ selsSize sub
  | [], h => by simp at h
  | x :: xs, h => by
    rw [selsSize.eq_2]
    simp only [List.length_cons]
    rcases List.mem_cons.mp h with rfl | h'
    · rw [selSize.eq_2]
      have := C02.length_le_selsSize xs
      have := C02.length_le_selsSize isub
      omega
    · have := inline_length_le_selsSize h'
      have := C02.selSize_pos x
      omega

/-! ## the closed form of the items for `NestedGen2Op` -/

section CalcA
variable (c : Ctx) (hn : c.o.normalization = .none) (N M : Nat) (ok : TypeId → Nat → Bool) (hok : OkSpec c.q ok)

theorem itemsA_old (pfx : String) (a : Option String) (fid : Nat) (sub : List Sel) (sf : StoredField)
    (hsf : c.s.fields[fid]? = some sf) (hno : ∀ i, sf.ty.id ≠ .object i)
    (hs : sSel c.s c.q c.o false (.field a fid sub) = true) :
    itemsA c pfx (.field a fid sub) = itemsS c pfx (.field a fid sub) := by
  rw [itemsA]
  simp only [hsf]
  simp [hs]

theorem itemsA_new (pfx : String) (a : Option String) (fid : Nat) (sub : List Sel) (sf : StoredField)
    (hsf : c.s.fields[fid]? = some sf) (hno : ∀ i, sf.ty.id ≠ .object i)
    (hs : sSel c.s c.q c.o false (.field a fid sub) = false) :
    itemsA c pfx (.field a fid sub) =
      absItemsX c (pfx ++ c.cs.camel (a.getD sf.name)) (pfx ++ c.cs.camel (a.getD sf.name)) sf.ty.id sub := by
  rw [itemsA]
  simp only [hsf]
  simp [hs]

end CalcA

theorem nestedGen2Op_parts {c : Ctx} {op : ROperation} (h : NestedGen2Op c op = true) :
    c.o.normalization = .none ∧ (c.s.objects[op.objectId]?).isSome = true ∧
      aBody (fragOkN c.s c.q c.o c.q.fragments.length) c.s c.q c.o (.object op.objectId) op.sels = true := by
  simp only [NestedGen2Op, Bool.and_eq_true, beq_iff_eq] at h
  exact ⟨h.1.1, h.1.2, h.2⟩

/-! ## `NestedGenOp ⊆ NestedGen2Op`; the closed form agrees -/

theorem absSubG_nobody {ok : TypeId → Nat → Bool} {s : Schema} {q : Query} {o : Options} {ty : TypeId} {sub : List Sel}
    (h : absSubG ok s q o ty sub = true) : ∀ x ∈ sub, isBody x = false := by
  intro x hx
  have hsg := absSubG_parts h
  cases hb : isBody x with
  | false => rfl
  | true =>
    obtain ⟨t, isub, rfl, hne, hall⟩ := isBody_inline hb
    have hm : Sel.inline t isub ∈ strip sub := mem_strip.mpr ⟨hx, rfl⟩
    have := hsg.abs.sel _ hm
    simp only [absSelA] at this
    split at this
    · rename_i g
      have := hall (Sel.spread g) (by simp)
      simp [isFieldSel] at this
    · cases this

theorem absSubX_of_absSubG {ok : TypeId → Nat → Bool} {s : Schema} {q : Query} {o : Options} {ty : TypeId} {sub : List Sel}
    (h : absSubG ok s q o ty sub = true) : absSubX ok s q o ty sub = true := by
  have hnb := absSubG_nobody h
  simp only [absSubX, Bool.and_eq_true, List.all_eq_true]
  refine ⟨by rw [unbody_eq_self hnb]; exact h, fun x hx => by simp [hnb x hx]⟩

theorem absFieldX_of_absFieldG {ok : TypeId → Nat → Bool} {s : Schema} {q : Query} {o : Options} {sf : StoredField}
    {sub : List Sel} (h : absFieldG ok s q o sf sub = true) : absFieldX ok s q o sf sub = true := by
  simp only [absFieldG, Bool.and_eq_true] at h
  simp only [absFieldX, Bool.and_eq_true]
  exact ⟨h.1, absSubX_of_absSubG h.2⟩

theorem mineOf_any_body_false {q : Query} {vt : TypeId} {sub : List Sel} (hnb : ∀ x ∈ sub, isBody x = false) :
    (mineOf q vt sub).any isBody = false := by
  rw [List.any_eq_false]
  intro x hx
  simp [hnb x (mem_mineOf hx).1]

/-- the interface-level fields of a selection set mark no variant -/
theorem variantsV_marks_strip (c : Ctx) (pfx : String) (ty : TypeId) (sub : List Sel) :
    variantsV c pfx ty (marks c.q sub) = variantsV c pfx ty (marks c.q (strip sub)) := by
  unfold variantsV
  congr 1
  apply List.map_congr_left
  intro vt _
  apply marks_variantOf_congr
  unfold mineOf strip
  rw [List.filter_filter]
  apply List.filter_congr
  intro x _
  cases hon : onVt c.q vt x with
  | false => simp
  | true =>
    have : selOn c.q x = some vt := by simpa [onVt] using hon
    have hnf : isFieldSel x = false := by cases x <;> simp_all [selOn, isFieldSel]
    simp [hnf]

/-- at a position of `NestedGenOp` the closed form is the one of `nestedgen_items_shape` -/
theorem absItemsX_eq_G {ok : TypeId → Nat → Bool} {c : Ctx} {ty : TypeId} {sub : List Sel}
    (h : absSubG ok c.s c.q c.o ty sub = true) (name pfx : String) :
    absItemsX c name pfx ty sub = absItemsG c name pfx ty sub := by
  have hnb := absSubG_nobody h
  unfold absItemsX absItemsG
  rw [variantsV_marks_strip]
  congr 1
  · apply C01NA.flatMap_congr_mem
    intro vt _
    rw [variantHeadX_nobody (mineOf_any_body_false hnb), unbody_eq_self hnb]

mutual
  theorem aSel_of_G {ok : TypeId → Nat → Bool} (s : Schema) (q : Query) (o : Options) : ∀ (x : Sel) (p : TypeId),
      C01NG.aSel ok s q o p x = true → aSel ok s q o p x = true
    | .field a fid sub, p => by
      intro h
      have IH := aSels_of_G (ok := ok) s q o sub
      obtain ⟨sf, hsf⟩ := C01NG.aSel_field_some h
      by_cases hobj : ∃ i, sf.ty.id = .object i
      · obtain ⟨i, hid⟩ := hobj
        obtain ⟨hw, hdep, ho, hb⟩ := C01NG.aSel_obj hsf hid h
        rw [aSel]
        simp only [hsf, hid, hw, hdep, ho, Bool.not_false, Bool.and_self, Bool.true_and]
        by_cases hsp : ∃ g, sub = [Sel.spread g]
        · obtain ⟨g, rfl⟩ := hsp; exact hb
        · have hnl : ∀ g, sub ≠ [Sel.spread g] := fun g hg => hsp ⟨g, hg⟩
          rw [C01NG.aBody_not_lone hnl] at hb
          split
          · exact absurd rfl (hnl _)
          · exact IH _ hb
      · have hno : ∀ i, sf.ty.id ≠ .object i := fun i h => hobj ⟨i, h⟩
        have hs : (sSel s q o false (.field a fid sub) || absFieldX ok s q o sf sub) = true := by
          rcases C01NG.aSel_nonobj hsf hno h with hs | ⟨_, hnew⟩
          · rw [hs]; rfl
          · rw [absFieldX_of_absFieldG hnew]; simp
        rw [aSel]
        simp only [hsf]
        simpa using hs
    | .spread g, p => by intro h; rw [C01NG.aSel] at h; rw [aSel]; exact h
    | .inline _ _, _ => by intro h; simp [C01NG.aSel] at h
    | .typename, _ => by intro _; simp [aSel]
  theorem aSels_of_G {ok : TypeId → Nat → Bool} (s : Schema) (q : Query) (o : Options) : ∀ (sels : List Sel) (p : TypeId),
      C01NG.aSels ok s q o p sels = true → aSels ok s q o p sels = true
    | [], _ => by intro _; rfl
    | x :: xs, p => by
      intro h
      obtain ⟨hx, hxs⟩ := C01NG.aSels_cons h
      rw [aSels, aSel_of_G s q o x p hx, aSels_of_G s q o xs p hxs]; rfl
end

theorem aBody_of_G {ok : TypeId → Nat → Bool} {s : Schema} {q : Query} {o : Options} {p : TypeId} {sels : List Sel}
    (h : C01NG.aBody ok s q o p sels = true) : aBody ok s q o p sels = true := by
  by_cases hsp : ∃ g, sels = [Sel.spread g]
  · obtain ⟨g, rfl⟩ := hsp; exact h
  · have hnl : ∀ g, sels ≠ [Sel.spread g] := fun g hg => hsp ⟨g, hg⟩
    rw [C01NG.aBody_not_lone hnl] at h
    rw [aBody_not_lone hnl]
    exact aSels_of_G s q o sels p h

/-- **`NestedGenOp ⊆ NestedGen2Op`** -/
theorem nestedGen2Op_of_nestedGenOp (c : Ctx) (op : ROperation) (h : NestedGenOp c op = true) : NestedGen2Op c op = true := by
  obtain ⟨hn, ho, hb⟩ := nestedGenOp_parts h
  simp only [NestedGen2Op, Bool.and_eq_true, beq_iff_eq]
  exact ⟨⟨hn, ho⟩, aBody_of_G hb⟩

mutual
  theorem itemsA_eq_G {ok : TypeId → Nat → Bool} (c : Ctx) : ∀ (x : Sel) (p : TypeId) (pfx : String),
      C01NG.aSel ok c.s c.q c.o p x = true → itemsA c pfx x = C01NG.itemsA c pfx x
    | .field a fid sub, p, pfx => by
      intro h
      have IH := itemsAs_eq_G (ok := ok) c sub
      obtain ⟨sf, hsf⟩ := C01NG.aSel_field_some h
      by_cases hobj : ∃ i, sf.ty.id = .object i
      · obtain ⟨i, hid⟩ := hobj
        obtain ⟨_, _, _, hb⟩ := C01NG.aSel_obj hsf hid h
        rw [itemsA, C01NG.itemsA]
        simp only [hsf, hid]
        by_cases hsp : ∃ g, sub = [Sel.spread g]
        · obtain ⟨g, rfl⟩ := hsp; rfl
        · have hnl : ∀ g, sub ≠ [Sel.spread g] := fun g hg => hsp ⟨g, hg⟩
          rw [C01NG.aBody_not_lone hnl] at hb
          have e1 := IH (.object i) (pfx ++ c.cs.camel (a.getD sf.name)) hb
          split
          · exact absurd rfl (hnl _)
          · split
            · exact absurd rfl (hnl _)
            · rw [e1]
      · have hno : ∀ i, sf.ty.id ≠ .object i := fun i h => hobj ⟨i, h⟩
        rcases C01NG.aSel_nonobj hsf hno h with hs | ⟨hs, hnew⟩
        · rw [itemsA_old c pfx a fid sub sf hsf hno hs, C01NG.itemsA_old c pfx a fid sub sf hsf hno hs]
        · rw [itemsA_new c pfx a fid sub sf hsf hno hs, C01NG.itemsA_new c pfx a fid sub sf hsf hno hs]
          exact absItemsX_eq_G (C01NG.absFieldG_parts hnew).2.2.2 _ _
    | .spread g, _, _ => by intro _; simp [itemsA, C01NG.itemsA]
    | .inline _ _, _, _ => by intro _; simp [itemsA, C01NG.itemsA]
    | .typename, _, _ => by intro _; simp [itemsA, C01NG.itemsA]
  theorem itemsAs_eq_G {ok : TypeId → Nat → Bool} (c : Ctx) : ∀ (sels : List Sel) (p : TypeId) (pfx : String),
      C01NG.aSels ok c.s c.q c.o p sels = true → itemsAs c pfx sels = C01NG.itemsAs c pfx sels
    | [], _, _ => by intro _; rfl
    | x :: xs, p, pfx => by
      intro h
      obtain ⟨hx, hxs⟩ := C01NG.aSels_cons h
      rw [itemsAs, C01NG.itemsAs, itemsA_eq_G c x p pfx hx, itemsAs_eq_G c xs p pfx hxs]
end

/-- on `NestedGenOp` the closed form is the one of `nestedgen_items_shape` -/
theorem bodyItemsA_eq_G (c : Ctx) (op : ROperation) (h : NestedGenOp c op = true) (name pfx : String) :
    bodyItemsA c name pfx op.sels = C01NG.bodyItemsA c name pfx op.sels := by
  obtain ⟨_, _, hb⟩ := nestedGenOp_parts h
  by_cases hsp : ∃ g, op.sels = [Sel.spread g]
  · obtain ⟨g, hg⟩ := hsp; rw [hg]; rfl
  · have hnl : ∀ g, op.sels ≠ [Sel.spread g] := fun g hg => hsp ⟨g, hg⟩
    rw [C01NG.aBody_not_lone hnl] at hb
    rw [bodyItemsA_not_lone c name pfx hnl, C01NG.bodyItemsA_not_lone c name pfx hnl, itemsAs_eq_G c op.sels _ pfx hb]

end C01NX
end GqlVerif
