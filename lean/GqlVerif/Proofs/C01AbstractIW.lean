import GqlVerif.Proofs.C01AbstractI
import GqlVerif.Proofs.C01AbstractHW

/-! `FragmentOp`: the round trip on the concrete module of `C01AbstractHW`. -/

namespace GqlVerif
namespace C01
namespace E2E
open Serde Spec C13 C03 Codegen

theorem fx_rust : fragRustOk fxCtx fxOp = true := by decide +kernel

def fxCanon : Json :=
  .obj [("me", .obj [("name", .str "Luke"), ("friend", .obj [("height", .null)]), ("height", .num "1.7")])]

theorem fx_canon : canonSelF fxCtx.s fxCtx.q fxCtx.o.skipNone fxOp.sels fxJson = fxCanon := by
  simp [canonSelF, canonEntriesF, canonFieldF, canonSelV, canonEntriesV, canonFieldV, canon, canonNN, gtyOf, fragSels,
    fxCtx, fxSchema, fxOp, fxQuery, fxJson, fxCanon, Json.lookup, skipQ, Json.isNull]

/-- `fragment_accepts` + `fragment_lossless` on the concrete module: the fragments' entries come back at the
    position of their spreads (`name` from `...Basics` first, `height` from `...Size` last; `__typename`,
    selected inside `Basics` on an object type, is dropped) -/
example : Serde.roundtrip (moduleEnv fxCtx fxItems) (.path "ResponseData") fxJson = .ok fxCanon := by
  rw [← fx_canon]
  exact fragment_roundtrip fxCtx 0 fxOp fxItems rfl fx_fragment fx_keys fx_rust fx_gen fx_ok fxJson fx_conforms

end E2E
end C01
end GqlVerif
