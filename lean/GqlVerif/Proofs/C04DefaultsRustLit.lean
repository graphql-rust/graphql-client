import GqlVerif.Proofs.C04DefaultsModule
/-!
# C04 under `normalization = rust` — default literals, the syntactic half

Two contexts that agree on the schema and on the case functions (`c₁.s = c₀.s`, `c₁.cs = c₀.cs`; in the application
`c₀` has `normalization = none`, `c₁` has `rust`) render the same default value as two literals of the same shape:

* `LitRel N EV l l'` — the two literals have the same shape and the same leaves (booleans, strings, numbers, member
  identifiers — `keyword_replace(snake(field))` in both —, the variant identifiers of `@oneOf` inputs —
  `keyword_replace(camel(field))` in both —, `compile_error!` texts); the constructor names of struct / `@oneOf`
  literals and the enum names of paths are related by `N`, the variant identifiers of a path `Enum::Variant` by
  `EV enumName`;
* `enumOk s id d` — every enum literal of `d` that sits at a position whose named type is an enum names a value of
  that enum (what `ValidC` + `kindOk` say of a valid default: `enumOk_of_validC` in `C04DefaultsRustModule.lean`).  Needed:
  `enumVariantIdent` is not injective (`type` and `type_` both give `type_`), so for a literal that is not a value of
  the enum nothing relates its two identifiers to the positions of the enum's variants;
* **`valueToLiteral_rename`** — under `NameFacts` (the names the two contexts give to the used input types and enums are
  related by `N`, the identifiers they give to the values of a used enum by `EV`): the two renderers fail with the same
  error or produce `LitRel`-related literals, for every fuel, value, type and qualifier list;
* `valueToLiteral_fail_alike` — with no hypothesis on the default: they succeed together and fail with the same error;
* `hasCompileError_rel` — related literals contain a `compile_error!` together.
-/
namespace GqlVerif
namespace C04DR
open Codegen C04S C04D C09

/-! ## the relation -/

mutual
  inductive LitRel (N : String → String → Prop) (EV : String → String → String → Prop) : LitExpr → LitExpr → Prop
    | bool (b : Bool) : LitRel N EV (.bool b) (.bool b)
    | str (s : String) : LitRel N EV (.str s) (.str s)
    | int (n : Int) : LitRel N EV (.int n) (.int n)
    | float (t : String) : LitRel N EV (.float t) (.float t)
    | some {l l'} : LitRel N EV l l' → LitRel N EV (.some l) (.some l')
    | none : LitRel N EV .none .none
    | vec {ls ls'} : LitRelList N EV ls ls' → LitRel N EV (.vec ls) (.vec ls')
    | box {l l'} : LitRel N EV l l' → LitRel N EV (.box l) (.box l')
    | struct {n n' fs fs'} : N n n' → LitRelFields N EV fs fs' → LitRel N EV (.struct n fs) (.struct n' fs')
    | path {en en' v v'} : N en en' → EV en v v' → LitRel N EV (.path en v) (.path en' v')
    | variant {en en' v l l'} : N en en' → LitRel N EV l l' → LitRel N EV (.variant en v l) (.variant en' v l')
    | ident (x : String) : LitRel N EV (.ident x) (.ident x)
    | compileError (m : String) : LitRel N EV (.compileError m) (.compileError m)
  inductive LitRelList (N : String → String → Prop) (EV : String → String → String → Prop) :
      List LitExpr → List LitExpr → Prop
    | nil : LitRelList N EV [] []
    | cons {l l' ls ls'} : LitRel N EV l l' → LitRelList N EV ls ls' → LitRelList N EV (l :: ls) (l' :: ls')
  inductive LitRelFields (N : String → String → Prop) (EV : String → String → String → Prop) :
      List (String × LitExpr) → List (String × LitExpr) → Prop
    | nil : LitRelFields N EV [] []
    | cons {k l l' fs fs'} : LitRel N EV l l' → LitRelFields N EV fs fs' →
        LitRelFields N EV ((k, l) :: fs) ((k, l') :: fs')
end

section
variable {N : String → String → Prop} {EV : String → String → String → Prop}

mutual
  theorem hasCompileError_rel : ∀ (l l' : LitExpr), LitRel N EV l l' → l.hasCompileError = l'.hasCompileError
    | .bool _, _, h => by cases h; rfl
    | .str _, _, h => by cases h; rfl
    | .int _, _, h => by cases h; rfl
    | .float _, _, h => by cases h; rfl
    | .some l, _, h => by
      cases h with
      | some h => simp only [LitExpr.hasCompileError]; exact hasCompileError_rel l _ h
    | .none, _, h => by cases h; rfl
    | .vec ls, _, h => by
      cases h with
      | vec h => simp only [LitExpr.hasCompileError]; exact hasCompileErrorList_rel ls _ h
    | .box l, _, h => by
      cases h with
      | box h => simp only [LitExpr.hasCompileError]; exact hasCompileError_rel l _ h
    | .struct _ fs, _, h => by
      cases h with
      | struct _ h => simp only [LitExpr.hasCompileError]; exact hasCompileErrorFields_rel fs _ h
    | .path _ _, _, h => by cases h; rfl
    | .variant _ _ l, _, h => by
      cases h with
      | variant _ h => simp only [LitExpr.hasCompileError]; exact hasCompileError_rel l _ h
    | .ident _, _, h => by cases h; rfl
    | .compileError _, _, h => by cases h; rfl
  theorem hasCompileErrorList_rel : ∀ (ls ls' : List LitExpr), LitRelList N EV ls ls' →
      LitExpr.hasCompileErrorList ls = LitExpr.hasCompileErrorList ls'
    | [], _, h => by cases h; rfl
    | l :: ls, _, h => by
      cases h with
      | cons h1 h2 =>
        simp only [LitExpr.hasCompileErrorList, hasCompileError_rel l _ h1, hasCompileErrorList_rel ls _ h2]
  theorem hasCompileErrorFields_rel : ∀ (fs fs' : List (String × LitExpr)), LitRelFields N EV fs fs' →
      LitExpr.hasCompileErrorFields fs = LitExpr.hasCompileErrorFields fs'
    | [], _, h => by cases h; rfl
    | (k, l) :: fs, _, h => by
      cases h with
      | cons h1 h2 =>
        simp only [LitExpr.hasCompileErrorFields, hasCompileError_rel l _ h1, hasCompileErrorFields_rel fs _ h2]
end

theorem LitRelList.length_eq : ∀ {ls ls' : List LitExpr}, LitRelList N EV ls ls' → ls.length = ls'.length
  | _, _, .nil => rfl
  | _, _, .cons _ t => by simp [LitRelList.length_eq t]

theorem litRel_optWrap (b : Bool) {l l' : LitExpr} (h : LitRel N EV l l') : LitRel N EV (optWrap b l) (optWrap b l') := by
  cases b
  · exact h
  · exact .some h

theorem litRel_singleInner {l l' : LitExpr} (h : LitRel N EV l l') : ∀ q : List Qual,
    LitRel N EV (singleInner l q) (singleInner l' q)
  | [] => h
  | .required :: _ => h
  | [.list] => .vec (.cons (.some h) .nil)
  | .list :: .required :: rest => .vec (.cons (litRel_singleInner h rest) .nil)
  | .list :: .list :: rest => .vec (.cons (.some (litRel_singleInner h (.list :: rest))) .nil)

end

/-! ## `enumOk` -/

mutual
  /-- every enum literal of the constant that sits at a position whose named type is an enum of the schema names a value
      of that enum -/
  def enumOk (s : Schema) : TypeId → Value → Bool
    | id, .enum v =>
      match id.asEnum? with
      | some k =>
        (match s.enums[k]? with
         | some en => decide (v ∈ en.variants)
         | none => true)
      | none => true
    | id, .list xs => enumOkList s id xs
    | id, .obj kvs =>
      match inputOf s id with
      | some i => enumOkKvs s i.fields kvs
      | none => true
    | _, _ => true
  def enumOkList (s : Schema) : TypeId → List Value → Bool
    | _, [] => true
    | id, x :: xs => enumOk s id x && enumOkList s id xs
  def enumOkKvs (s : Schema) : List (String × FieldType) → List (String × Value) → Bool
    | _, [] => true
    | fields, (k, v) :: rest =>
      (match fields.find? (·.1 == k) with
       | some p => enumOk s p.2.id v
       | none => true) && enumOkKvs s fields rest
end

theorem enumOkList_mem {s : Schema} {id : TypeId} : ∀ {ds : List Value} {x : Value}, enumOkList s id ds = true →
    x ∈ ds → enumOk s id x = true
  | [], _, _, h => by simp at h
  | y :: ys, x, hk, h => by
    rw [enumOkList, Bool.and_eq_true] at hk
    rcases List.mem_cons.mp h with h | h
    · subst h; exact hk.1
    · exact enumOkList_mem hk.2 h

theorem enumOkKvs_find {s : Schema} {fields : List (String × FieldType)} (hn : (fields.map (·.1)).Nodup)
    {p : String × FieldType} (hp : p ∈ fields) : ∀ {dk : List (String × Value)} {kv : String × Value},
      enumOkKvs s fields dk = true → dk.find? (·.1 == p.1) = some kv → enumOk s p.2.id kv.2 = true
  | [], _, _, hf => by simp at hf
  | (k, v) :: rest, kv, hk, hf => by
    rw [enumOkKvs, Bool.and_eq_true] at hk
    simp only [List.find?_cons] at hf
    cases hkp : (k == p.1)
    · simp only [hkp] at hf
      exact enumOkKvs_find hn hp hk.2 hf
    · simp only [hkp, Option.some.injEq] at hf
      subst hf
      have : k = p.1 := by simpa using hkp
      subst this
      have := hk.1
      rw [find_field hn hp] at this
      exact this

/-! ## `Outcome` plumbing -/

theorem orel_map {α β} {S : α → α → Prop} {T : β → β → Prop} {x y : Outcome α} {f g : α → β}
    (hxy : ORel S x y) (hfg : ∀ a b, S a b → T (f a) (g b)) : ORel T (f <$> x) (g <$> y) := by
  cases x <;> cases y <;> simp only [ORel] at hxy
  · exact hxy
  · exact hfg _ _ hxy

theorem orel_mapM_list {N EV} {f g : Value → Outcome LitExpr} : ∀ (xs : List Value),
    (∀ x ∈ xs, ORel (LitRel N EV) (f x) (g x)) → ORel (LitRelList N EV) (xs.mapM f) (xs.mapM g)
  | [], _ => ORel.pure .nil
  | x :: xs, h => by
    rw [List.mapM_cons, List.mapM_cons]
    apply ORel.bind (h x (by simp)); intro a b hab
    apply ORel.bind (orel_mapM_list xs (fun y hy => h y (by simp [hy]))); intro as bs habs
    exact ORel.pure (.cons hab habs)

/-! ## the two renderers -/

/-- what relates the names the two contexts use for the types in `U` -/
structure NameFacts (c₀ c₁ : Ctx) (U : TypeId → Prop) (N : String → String → Prop)
    (EV : String → String → String → Prop) : Prop where
  inputs : ∀ k i, U (.input k) → c₀.s.inputs[k]? = some i →
    N (keywordReplace (c₀.o.normalization.inputName c₀.cs i.name))
      (keywordReplace (c₁.o.normalization.inputName c₁.cs i.name))
  enums : ∀ k en, U (.enum k) → c₀.s.enums[k]? = some en →
    N (c₀.o.normalization.enumName c₀.cs en.name) (c₁.o.normalization.enumName c₁.cs en.name) ∧
    ∀ v ∈ en.variants, EV (c₀.o.normalization.enumName c₀.cs en.name)
      (enumVariantIdent c₀.o.normalization c₀.cs v) (enumVariantIdent c₁.o.normalization c₁.cs v)
  closed : ∀ k i, U (.input k) → c₀.s.inputs[k]? = some i → (i.fields.map (·.1)).Nodup ∧ ∀ p ∈ i.fields, U p.2.id

section render
variable {s : Schema} {cs : CaseFns} {q₀ q₁ : Query} {o₀ o₁ : Options}
  {N : String → String → Prop} {EV : String → String → String → Prop}

local notation "C₀" => (Ctx.mk s q₀ o₀ cs)
local notation "C₁" => (Ctx.mk s q₁ o₁ cs)

theorem litRel_boxIfRecursive {l l' : LitExpr} (h : LitRel N EV l l') (ty : TypeId) :
    LitRel N EV (boxIfRecursive C₀ l ty) (boxIfRecursive C₁ l' ty) := by
  rw [boxIfRecursive_eq, boxIfRecursive_eq]
  have : boxed C₁ ty = boxed C₀ ty := rfl
  rw [this]
  cases boxed C₀ ty
  · exact h
  · exact .box h

theorem structFields_rel (lit₀ lit₁ : Value → TypeId → List Qual → Outcome LitExpr) (kvs : List (String × Value)) :
    ∀ fields : List (String × FieldType),
      (∀ p ∈ fields, ∀ kv, kvs.find? (·.1 == p.1) = some kv →
        ORel (LitRel N EV) (lit₀ kv.2 p.2.id p.2.quals) (lit₁ kv.2 p.2.id p.2.quals)) →
      ORel (LitRelFields N EV) (structFields C₀ lit₀ kvs fields) (structFields C₁ lit₁ kvs fields)
  | [], _ => ORel.pure .nil
  | (name, ty) :: rest, h => by
    have ih := structFields_rel lit₀ lit₁ kvs rest (fun p hp => h p (by simp [hp]))
    rw [structFields, structFields]
    cases hf : kvs.find? (·.1 == name) with
    | none =>
      simp only []
      apply ORel.bind (ORel.pure (R := LitRel N EV) .none); intro a b hab
      apply ORel.bind ih; intro as bs habs
      exact ORel.pure (.cons (litRel_boxIfRecursive hab ty.id) habs)
    | some kv =>
      obtain ⟨k, v⟩ := kv
      simp only []
      apply ORel.bind (h (name, ty) (by simp) (k, v) hf); intro a b hab
      apply ORel.bind ih; intro as bs habs
      exact ORel.pure (.cons (litRel_boxIfRecursive hab ty.id) habs)

theorem oneOfVariants_rel (lit₀ lit₁ : Value → TypeId → List Qual → Outcome LitExpr) {ctor₀ ctor₁ : String}
    (hctor : N ctor₀ ctor₁) (kvs : List (String × Value)) :
    ∀ fields : List (String × FieldType),
      (∀ p ∈ fields, ∀ kv, kvs.find? (·.1 == p.1) = some kv →
        ORel (LitRel N EV) (lit₀ kv.2 p.2.id (.required :: p.2.quals)) (lit₁ kv.2 p.2.id (.required :: p.2.quals))) →
      ORel (LitRelList N EV) (oneOfVariants C₀ lit₀ ctor₀ kvs fields) (oneOfVariants C₁ lit₁ ctor₁ kvs fields)
  | [], _ => ORel.pure .nil
  | (name, ty) :: rest, h => by
    have ih := oneOfVariants_rel lit₀ lit₁ hctor kvs rest (fun p hp => h p (by simp [hp]))
    rw [oneOfVariants, oneOfVariants]
    cases hf : kvs.find? (·.1 == name) with
    | none => exact ih
    | some kv =>
      obtain ⟨k, v⟩ := kv
      simp only []
      apply ORel.bind (h (name, ty) (by simp) (k, v) hf); intro a b hab
      apply ORel.bind ih; intro as bs habs
      exact ORel.pure (.cons (.variant hctor (litRel_boxIfRecursive hab ty.id)) habs)

/-- `render_object_literal` in the two contexts -/
theorem objectLiteralWith_rel (lit₀ lit₁ : Value → TypeId → List Qual → Outcome LitExpr) (kvs : List (String × Value))
    (iid : Nat)
    (hctor : ∀ i, s.inputs[iid]? = some i →
      N (keywordReplace (o₀.normalization.inputName cs i.name)) (keywordReplace (o₁.normalization.inputName cs i.name)))
    (h : ∀ i, s.inputs[iid]? = some i → ∀ p ∈ i.fields, ∀ kv, kvs.find? (·.1 == p.1) = some kv → ∀ qs,
      ORel (LitRel N EV) (lit₀ kv.2 p.2.id qs) (lit₁ kv.2 p.2.id qs)) :
    ORel (LitRel N EV) (objectLiteralWith C₀ lit₀ kvs iid) (objectLiteralWith C₁ lit₁ kvs iid) := by
  unfold objectLiteralWith
  cases hi : s.inputs[iid]? with
  | none => simp [Schema.getInput, hi, panic', bind, Except.bind, ORel]
  | some i =>
    have hg : s.getInput iid = .ok i := getInput_of_getElem? hi
    simp only [hg, bind, Except.bind]
    split
    · have := oneOfVariants_rel (s := s) (cs := cs) (q₀ := q₀) (q₁ := q₁) (o₀ := o₀) (o₁ := o₁) lit₀ lit₁ (hctor i hi)
        kvs i.fields (fun p hp kv hkv => h i hi p hp kv hkv _)
      revert this
      generalize oneOfVariants C₀ lit₀ _ kvs i.fields = r₀
      generalize oneOfVariants C₁ lit₁ _ kvs i.fields = r₁
      intro hr
      cases r₀ <;> cases r₁ <;> simp only [ORel] at hr
      · subst hr; exact rfl
      · rename_i vs vs'
        cases hr with
        | nil => exact ORel.pure (.compileError _)
        | cons h1 h2 =>
          cases h2 with
          | nil => exact ORel.pure h1
          | cons _ _ => exact ORel.pure (.compileError _)
    · have := structFields_rel (s := s) (cs := cs) (q₀ := q₀) (q₁ := q₁) (o₀ := o₀) (o₁ := o₁) (N := N) (EV := EV)
        lit₀ lit₁ kvs i.fields (fun p hp kv hkv => h i hi p hp kv hkv _)
      revert this
      generalize structFields C₀ lit₀ kvs i.fields = r₀
      generalize structFields C₁ lit₁ kvs i.fields = r₁
      intro hr
      cases r₀ <;> cases r₁ <;> simp only [ORel] at hr
      · subst hr; exact rfl
      · exact ORel.pure (.struct (hctor i hi) hr)

end render

theorem U_enum_of {U : TypeId → Prop} {ty : TypeId} {k : Nat} (hU : U ty) (h : ty.asEnum? = some k) : U (.enum k) := by
  cases ty <;> simp [TypeId.asEnum?] at h
  subst h; exact hU

theorem U_input_of {U : TypeId → Prop} {ty : TypeId} {k : Nat} (hU : U ty) (h : ty.asInput? = some k) : U (.input k) := by
  cases ty <;> simp [TypeId.asInput?] at h
  subst h; exact hU

theorem valueToLiteral_rename {c₀ c₁ : Ctx} (hs : c₁.s = c₀.s) (hcs : c₁.cs = c₀.cs) {U : TypeId → Prop}
    {N : String → String → Prop} {EV : String → String → String → Prop} (F : NameFacts c₀ c₁ U N EV) :
    ∀ (fuel : Nat) (v : Value) (ty : TypeId) (quals : List Qual), U ty → enumOk c₀.s ty v = true →
      ORel (LitRel N EV) (valueToLiteral c₀ fuel v ty quals) (valueToLiteral c₁ fuel v ty quals) := by
  obtain ⟨s0, q₀, o₀, cs0⟩ := c₀
  obtain ⟨s, q₁, o₁, cs⟩ := c₁
  simp only at hs hcs
  subst hs hcs
  intro fuel
  induction fuel with
  | zero =>
    intro v ty quals _ _
    unfold valueToLiteral
    split
    · exact ORel.pure .none
    · rw [literalInner_zero, literalInner_zero]; exact rfl
  | succ fuel ih =>
    intro v ty quals hU hok
    cases hc : ((stripRequired quals).1 && valueIsNull v)
    case true =>
      unfold valueToLiteral
      simp only [hc, ↓reduceIte]
      exact ORel.pure .none
    case false =>
    rw [valueToLiteral_of_not_null _ _ v ty quals hc, valueToLiteral_of_not_null _ _ v ty quals hc]
    refine orel_map ?_ (fun a b hab => litRel_optWrap _ hab)
    by_cases hl : ∃ xs, v = .list xs
    · obtain ⟨xs, rfl⟩ := hl
      rw [enumOk] at hok
      by_cases hq : ∃ rest, (stripRequired quals).2 = .list :: rest
      · obtain ⟨rest, hq⟩ := hq
        rw [hq, literalInner_list_list, literalInner_list_list]
        exact orel_map (orel_mapM_list xs (fun x hx => ih x ty rest hU (enumOkList_mem hok hx))) (fun a b hab => .vec hab)
      · rw [literalInner_list_other _ fuel xs ty _ (fun rest h => hq ⟨rest, h⟩),
          literalInner_list_other _ fuel xs ty _ (fun rest h => hq ⟨rest, h⟩)]
        exact orel_map (orel_mapM_list xs (fun x hx => ih x ty [] hU (enumOkList_mem hok hx))) (fun a b hab => .vec hab)
    · rw [literalInner_single _ fuel v ty _ (fun xs h => hl ⟨xs, h⟩),
        literalInner_single _ fuel v ty _ (fun xs h => hl ⟨xs, h⟩)]
      refine orel_map ?_ (fun a b hab => litRel_singleInner hab _)
      unfold scalarToLiteral scalarToLiteralWith
      have hsn : scalarNameOf (Ctx.mk s q₁ o₁ cs) ty = scalarNameOf (Ctx.mk s q₀ o₀ cs) ty := rfl
      rw [hsn]
      cases hn : scalarNameOf (Ctx.mk s q₀ o₀ cs) ty with
      | error err => exact rfl
      | ok sn =>
        simp only [bind, Except.bind]
        cases v with
        | list xs => exact absurd ⟨xs, rfl⟩ hl
        | bool b => exact ORel.pure (.bool b)
        | str t => exact ORel.pure (.str t)
        | var n => exact rfl
        | null => exact rfl
        | float t => exact ORel.pure (.float t)
        | int n =>
          simp only []
          split
          · exact ORel.pure (.float _)
          · split
            · exact ORel.pure (.str _)
            · exact ORel.pure (.int _)
        | «enum» en =>
          simp only []
          cases hk : ty.asEnum? with
          | none => exact ORel.pure (.ident en)
          | some k =>
            simp only []
            cases hg : s.getEnum k with
            | error err => exact rfl
            | ok e =>
              have he : s.enums[k]? = some e := C02.getEnum_ok hg
              have hUk := U_enum_of hU hk
              have hmem : en ∈ e.variants := by
                rw [enumOk] at hok
                simpa [hk, he] using hok
              obtain ⟨h1, h2⟩ := F.enums k e hUk he
              exact ORel.pure (.path h1 (h2 en hmem))
        | obj kvs =>
          simp only []
          cases hk : ty.asInput? with
          | none => exact ORel.pure (.compileError _)
          | some iid =>
            simp only []
            have hUk := U_input_of hU hk
            unfold objectLiteral
            refine objectLiteralWith_rel _ _ kvs iid (fun i hi => F.inputs iid i hUk hi) ?_
            intro i hi p hp kv hkv qs
            obtain ⟨hnd, hcl⟩ := F.closed iid i hUk hi
            refine ih kv.2 p.2.id qs (hcl p hp) ?_
            have hid : ty = .input iid := by
              cases ty <;> simp [TypeId.asInput?] at hk
              subst hk; rfl
            subst hid
            rw [enumOk] at hok
            simp only [inputOf, hi] at hok
            exact enumOkKvs_find hnd hp hok hkv

/-- **without any hypothesis on the default**: the two renderers succeed together and fail with the same error
    (both forget to `literalOk`, which does not read the normalization) -/
theorem valueToLiteral_fail_alike {c₀ c₁ : Ctx} (hs : c₁.s = c₀.s) (hr : IdsInRange c₀.s) (fuel : Nat) (v : Value)
    (ty : TypeId) (quals : List Qual) (hty : idInRange c₀.s ty = true) :
    forget (valueToLiteral c₀ fuel v ty quals) = forget (valueToLiteral c₁ fuel v ty quals) := by
  rw [valueToLiteral_literalOk c₀ hr fuel v ty quals hty,
    valueToLiteral_literalOk c₁ (hs ▸ hr) fuel v ty quals (hs ▸ hty), hs]

end C04DR
end GqlVerif
