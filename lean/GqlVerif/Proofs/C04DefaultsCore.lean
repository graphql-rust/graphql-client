import GqlVerif.Proofs.C04DefaultsEval
/-!
# C04 — a valid default value is rendered as a literal of the declared type that denotes it: the induction

`literal_core` (any module `e` that resolves the used input-side names, `C04S.InputEnv`): for a constant `d` whose JSON
spelling is valid (with list input coercion, `C04R.ValidC`) at a position of type `t` over the named type `id`,
`valueToLiteral` succeeds, and its result is `Good`: no `compile_error!`, it type-checks at the Rust type of the
position, and the value it denotes is written as the canonical form of the coerced spelling.  By induction on the
derivation of `ValidC`.  `Good` is `C04S.Expr` plus the literal (`Good.expr`, `good_of_expr`), so the struct, `@oneOf`,
list, `Option` and `Box` steps are those of `C04SurjectiveExpress.lean`, applied to the value `evalLit` computes.
-/
namespace GqlVerif
namespace C04D
open Codegen Serde C04S C04R C13

/-! ## `resolveTy` -/

theorem resolveTy_opt (e : Env) (t : RTy) : resolveTy e (.opt t) = .opt t := rfl
theorem resolveTy_vec (e : Env) (t : RTy) : resolveTy e (.vec t) = .vec t := rfl
theorem resolveTy_box (e : Env) (t : RTy) : resolveTy e (.box t) = .box t := rfl

theorem resolveTyN_prim (e : Env) (n : Nat) {p : String} (h : isPrimName p = true) :
    resolveTyN e n (.path p) = .path p := by
  cases n with
  | zero => rfl
  | succ n => simp [resolveTyN, h]

theorem resolveTyN_alias (e : Env) (n : Nat) {p a : String} {pub : Bool} {t : RTy} (hp : C01.notPrim p)
    (hf : e.find p = some (.alias a pub t)) : resolveTyN e (n+1) (.path p) = resolveTyN e n t := by
  simp [resolveTyN, isPrimName_false hp, hf]

theorem resolveTyN_extern (e : Env) (n : Nat) {p q : String} {t : RTy} (hp : C01.notPrim p)
    (hf : e.find p = none) (hx : e.externs.find? (·.1 == p) = some (q, t)) :
    resolveTyN e (n+1) (.path p) = resolveTyN e n t := by
  simp [resolveTyN, isPrimName_false hp, hf, hx]

theorem resolveTy_unfold (e : Env) (t : RTy) : ∃ n, resolveTy e t = resolveTyN e (n+2) t := ⟨_, rfl⟩

theorem resolveTy_alias_prim (e : Env) {p a q : String} {pub : Bool} (hp : C01.notPrim p)
    (hf : e.find p = some (.alias a pub (.path q))) (hq : isPrimName q = true) :
    resolveTy e (.path p) = .path q := by
  obtain ⟨n, hn⟩ := resolveTy_unfold e (.path p)
  rw [hn, resolveTyN_alias e _ hp hf, resolveTyN_prim e _ hq]

theorem resolveTy_struct (e : Env) {p n : String} {d : List String} {sc : Option String} {fs : List RField}
    (hp : C01.notPrim p) (hf : e.find p = some (.struct n d sc fs)) : resolveTy e (.path p) = .path p := by
  obtain ⟨m, hm⟩ := resolveTy_unfold e (.path p)
  rw [hm]; simp [resolveTyN, isPrimName_false hp, hf]

theorem resolveTy_oneOf (e : Env) {p n : String} {d : List String} {sc : Option String} {vs : List RVariant}
    (hp : C01.notPrim p) (hf : e.find p = some (.oneOf n d sc vs)) : resolveTy e (.path p) = .path p := by
  obtain ⟨m, hm⟩ := resolveTy_unfold e (.path p)
  rw [hm]; simp [resolveTyN, isPrimName_false hp, hf]

theorem resolveTy_gqlEnum (e : Env) {p n : String} {d : List String} {sp : String} {vs : List String}
    {ser de : List (String × String)}
    (hp : C01.notPrim p) (hf : e.find p = some (.gqlEnum n d sp vs ser de)) : resolveTy e (.path p) = .path p := by
  obtain ⟨m, hm⟩ := resolveTy_unfold e (.path p)
  rw [hm]; simp [resolveTyN, isPrimName_false hp, hf]

/-! ## generic steps -/

/-- `Good` is `Expr` plus the literal: at leaves that admit integer IDs (`Leaves.graphql`) `Expr` claims nothing about
    reading, and what is left of it are the four `Serialize` fields of `Good`.  So the steps below are those of
    `C04SurjectiveExpress.lean` with the value given by `evalLit` -/
theorem Good.expr {e : Env} {lit : LitExpr} {r : RTy} {j out : Json} {x : Val} (h : Good e lit r out x)
    (hj : j.isNull = out.isNull) : Expr Leaves.graphql e r j out x :=
  ⟨h.ty, h.unit.trans hj.symm, h.ser, fun hno => absurd (hno 0) (by decide), h.norm⟩

theorem good_of_expr {L : Leaves} {e : Env} {lit : LitExpr} {r : RTy} {j out : Json} {x : Val}
    (hn : lit.hasCompileError = false) (he : evalLit e lit r = some x) (h : Expr L e r j out x)
    (hj : j.isNull = out.isNull) : Good e lit r out x :=
  ⟨hn, he, h.ty, hj ▸ h.unit, h.ser, h.norm⟩

theorem good_none (e : Env) (r : RTy) : Good e .none (.opt r) .null .unit :=
  good_of_expr rfl (by simp [evalLit, resolveTy_opt]) (expr_null Leaves.graphql e r) rfl

theorem good_some {e : Env} {lit : LitExpr} {r : RTy} {out : Json} {x : Val} (h : Good e lit r out x)
    (hn : out.isNull = false) : Good e (.some lit) (.opt r) out (.some x) :=
  good_of_expr (by simpa [LitExpr.hasCompileError] using h.noErr) (by simp [evalLit, resolveTy_opt, h.eval])
    (expr_some (h.expr rfl) hn) rfl

theorem good_box {e : Env} {lit : LitExpr} {r : RTy} {out : Json} {x : Val} (h : Good e lit r out x) :
    Good e (.box lit) (.box r) out x :=
  good_of_expr (by simpa [LitExpr.hasCompileError] using h.noErr) (by simp [evalLit, resolveTy_box, h.eval])
    (expr_box (h.expr rfl)) rfl

theorem boxIfRecursive_eq (c : Ctx) (lit : LitExpr) (id : TypeId) :
    boxIfRecursive c lit id = if boxed c id then .box lit else lit := rfl

/-- a member of an input type: the literal boxed where the member's type is -/
theorem good_field {e : Env} {c : Ctx} {id : TypeId} {t : GTy} {lit : LitExpr} {out : Json} {x : Val}
    (h : Good e lit (R c id false t) out x) : Good e (boxIfRecursive c lit id) (fieldRTy c id t) out x := by
  rw [boxIfRecursive_eq]
  unfold fieldRTy
  cases boxed c id
  · exact h
  · exact good_box h

theorem hasCompileErrorList_map {α} (Lf : α → LitExpr) : ∀ (ds : List α),
    (∀ d ∈ ds, (Lf d).hasCompileError = false) → LitExpr.hasCompileErrorList (ds.map Lf) = false
  | [], _ => rfl
  | d :: ds, h => by
    simp only [List.map_cons, LitExpr.hasCompileErrorList, Bool.or_eq_false_iff]
    exact ⟨h d (by simp), hasCompileErrorList_map Lf ds (fun x hx => h x (by simp [hx]))⟩

theorem evalList_map {α} (e : Env) (r : RTy) (Lf : α → LitExpr) (Xf : α → Val) : ∀ (ds : List α),
    (∀ d ∈ ds, evalLit e (Lf d) r = some (Xf d)) → evalList e (ds.map Lf) r = some (ds.map Xf)
  | [], _ => by simp [evalList]
  | d :: ds, h => by
    simp only [List.map_cons, evalList, h d (by simp),
      evalList_map e r Lf Xf ds (fun x hx => h x (by simp [hx]))]
    rfl

theorem good_vec {α} {e : Env} {r : RTy} (Lf : α → LitExpr) (Of : α → Json) (Xf : α → Val) (ds : List α)
    (h : ∀ d ∈ ds, Good e (Lf d) r (Of d) (Xf d)) :
    Good e (.vec (ds.map Lf)) (.vec r) (.arr (ds.map Of)) (.list (ds.map Xf)) :=
  good_of_expr
    (by simp only [LitExpr.hasCompileError]; exact hasCompileErrorList_map Lf ds (fun d hd => (h d hd).noErr))
    (by simp only [evalLit, resolveTy_vec, evalList_map e r Lf Xf ds (fun d hd => (h d hd).eval)]; rfl)
    (expr_list Of Of Xf ds (fun d hd => (h d hd).expr rfl)) rfl

/-- `serPath` on a leaf value -/
theorem ser_prim (e : Env) (p : String) (x : Val) (out : Json) (hx : serPrim x = some out) (h1 : 1 ≤ valSize x) :
    ∀ fuel, valSize x ≤ fuel → serTyWith (serPath e fuel) (.path p) x = .ok out := by
  intro fuel hf
  obtain ⟨f', rfl, _⟩ := fuel_succ (Nat.le_trans h1 hf)
  exact C01.serPath_prim e f' p x out hx

theorem hasCompileErrorFields_map {α} (N : α → String) (Lf : α → LitExpr) : ∀ (ds : List α),
    (∀ d ∈ ds, (Lf d).hasCompileError = false) →
      LitExpr.hasCompileErrorFields (ds.map fun d => (N d, Lf d)) = false
  | [], _ => rfl
  | d :: ds, h => by
    simp only [List.map_cons, LitExpr.hasCompileErrorFields, Bool.or_eq_false_iff]
    exact ⟨h d (by simp), hasCompileErrorFields_map N Lf ds (fun x hx => h x (by simp [hx]))⟩

theorem evalFields_map {α} (e : Env) (F : α → RField) (Lf : α → LitExpr) (g : α → Val) : ∀ (ds : List α),
    (∀ d ∈ ds, evalLit e (Lf d) (F d).ty = some (g d)) →
      evalFields e (ds.map F) (ds.map fun d => ((F d).rust, Lf d)) = some (ds.map fun d => ((F d).rust, g d))
  | [], _ => by simp [evalFields]
  | d :: ds, h => by
    simp only [List.map_cons, evalFields, h d (by simp),
      evalFields_map e F Lf g ds (fun x hx => h x (by simp [hx]))]
    rfl

/-! ## the JSON spelling, inverted -/

theorem valueJson_arr {d : Value} {xs : List Json} (h : valueJson d = .arr xs) :
    ∃ ds, d = .list ds ∧ xs = ds.map valueJson := by
  cases d <;> simp [valueJson] at h
  rename_i ds
  exact ⟨ds, rfl, by rw [← h, valueJsonList_eq_map]⟩

theorem valueJson_obj {d : Value} {kvs : List (String × Json)} (h : valueJson d = .obj kvs) :
    ∃ dk, d = .obj dk ∧ kvs = valueJsonKvs dk := by
  cases d <;> simp [valueJson] at h
  rename_i dk
  exact ⟨dk, rfl, h.symm⟩

theorem valueJsonKvs_single {dk : List (String × Value)} {k : String} {v : Json} (h : [(k, v)] = valueJsonKvs dk) :
    ∃ dv, dk = [(k, dv)] ∧ v = valueJson dv := by
  cases dk with
  | nil => rw [valueJsonKvs] at h; cases h
  | cons kv rest =>
    obtain ⟨k', dv⟩ := kv
    cases rest with
    | nil =>
      rw [valueJsonKvs, valueJsonKvs] at h
      simp only [List.cons.injEq, Prod.mk.injEq, and_true] at h
      exact ⟨dv, by rw [h.1], h.2⟩
    | cons kv2 rest2 =>
      obtain ⟨k2, v2⟩ := kv2
      rw [valueJsonKvs, valueJsonKvs] at h
      simp at h

theorem lookup_valueJsonKvs (name : String) : ∀ dk : List (String × Value),
    Json.lookup name (valueJsonKvs dk) = (dk.find? (·.1 == name)).map (fun kv => valueJson kv.2)
  | [] => by rw [valueJsonKvs]; rfl
  | (k, v) :: rest => by
    rw [valueJsonKvs]
    simp only [Json.lookup, List.find?_cons]
    cases hk : (k == name)
    · simp only [Bool.false_eq_true, ↓reduceIte]
      exact lookup_valueJsonKvs name rest
    · simp

theorem kindOkKvs_find {s : Schema} {fields : List (String × FieldType)} (hn : (fields.map (·.1)).Nodup)
    {p : String × FieldType} (hp : p ∈ fields) : ∀ {dk : List (String × Value)} {kv : String × Value},
      kindOkKvs s fields dk = true → dk.find? (·.1 == p.1) = some kv → kindOk s p.2.id kv.2 = true
  | [], _, _, hf => by simp at hf
  | (k, v) :: rest, kv, hk, hf => by
    rw [kindOkKvs, Bool.and_eq_true] at hk
    simp only [List.find?_cons] at hf
    cases hkp : (k == p.1)
    · simp only [hkp] at hf
      exact kindOkKvs_find hn hp hk.2 hf
    · simp only [hkp, Option.some.injEq] at hf
      subst hf
      have : k = p.1 := by simpa using hkp
      subst this
      have := hk.1
      rw [find_field hn hp] at this
      exact this

theorem depth_find : ∀ {dk : List (String × Value)} {name : String} {kv : String × Value},
    dk.find? (·.1 == name) = some kv → valueDepth kv.2 ≤ valueDepthKvs dk
  | [], _, _, hf => by simp at hf
  | (k, v) :: rest, name, kv, hf => by
    rw [valueDepthKvs]
    simp only [List.find?_cons] at hf
    cases hkp : (k == name)
    · simp only [hkp] at hf
      have := depth_find hf
      omega
    · simp only [hkp, Option.some.injEq] at hf
      subst hf
      simp only []
      omega

theorem depth_mem : ∀ {ds : List Value} {x : Value}, x ∈ ds → valueDepth x ≤ valueDepthList ds
  | [], _, h => by simp at h
  | y :: ys, x, h => by
    rw [valueDepthList]
    rcases List.mem_cons.mp h with h | h
    · subst h; omega
    · have := depth_mem h; omega

theorem kindOkList_mem {s : Schema} {id : TypeId} : ∀ {ds : List Value} {x : Value}, kindOkList s id ds = true →
    x ∈ ds → kindOk s id x = true
  | [], _, _, h => by simp at h
  | y :: ys, x, hk, h => by
    rw [kindOkList, Bool.and_eq_true] at hk
    rcases List.mem_cons.mp h with h | h
    · subst h; exact hk.1
    · exact kindOkList_mem hk.2 h

/-! ## qualifiers -/

theorem strip_of_not_nn {t : GTy} (h : isNN t = false) : stripRequired t.quals = (true, t.quals) := by
  cases t with
  | nonNull t => simp [isNN] at h
  | named n => rfl
  | list t => rfl

theorem singleInner_list (e : LitExpr) (q : List Qual) :
    singleInner e (.list :: q) = .vec [optWrap (stripRequired q).1 (singleInner e (stripRequired q).2)] := by
  cases q with
  | nil => rfl
  | cons a q => cases a <;> rfl

theorem singleInner_nil (e : LitExpr) : singleInner e [] = e := rfl

/-! ## leaves -/

theorem scalarNameOf_scalar {c : Ctx} {k : Nat} {n : String} (h : c.s.scalars[k]? = some n) :
    scalarNameOf c (.scalar k) = .ok (some n) := by
  simp [scalarNameOf, TypeId.asScalar?, Schema.getScalar, h, bind, Except.bind, pure, Except.pure]

theorem scalarNameOf_other {c : Ctx} {id : TypeId} (h : id.asScalar? = none) : scalarNameOf c id = .ok none := by
  simp [scalarNameOf, h, pure, Except.pure]

theorem resolveTy_custom (e : Env) {n q : String} (hp : C01.notPrim n) (hq : C01.notPrim q)
    (hfn : e.find n = some (.alias n false (.path q))) (hfq : e.find q = none)
    (hx : e.externs.find? (·.1 == q) = some (q, .path "String")) : resolveTy e (.path n) = .path "String" := by
  obtain ⟨m, hm⟩ := resolveTy_unfold e (.path n)
  rw [hm, resolveTyN_alias e _ hp hfn, resolveTyN_extern e _ hq hfq hx, resolveTyN_prim e _ (by decide)]

theorem scalar_good (L : Leaves) (c : Ctx) (e : Env) (U : TypeId → Prop) (env : InputEnv c e U)
    (hint : ∀ n, L.intOk n = true → inI64 n = true) (t : GTy)
    {k : Nat} {n : String} (hU : U (.scalar k)) (hn : c.s.scalars[k]? = some n) (d : Value)
    (hok : scalarOk L n (valueJson d) = true) (hk : kindOk c.s (.scalar k) d = true) (f : Nat) :
    ∃ lit x, scalarToLiteral c f d (.scalar k) = .ok lit ∧
      Good e lit (.path n) (canon c.s c.o.skipNone (.scalar k) t (valueJson d)) x ∧
      (canon c.s c.o.skipNone (.scalar k) t (valueJson d)).isNull = false := by
  have hid : isID c.s (.scalar k) = (n == "ID") := by simp [isID, hn]
  have hname := scalarNameOf_scalar (c := c) hn
  have hnull : (canon c.s c.o.skipNone (.scalar k) t (valueJson d)).isNull = false := by
    rw [canon_isNull]
    cases hj : valueJson d <;> first | rfl | (rw [hj, scalarOk_null] at hok; cases hok)
  unfold scalarToLiteral scalarToLiteralWith
  simp only [hname, bind, Except.bind]
  cases d with
  | null => rw [valueJson] at hok; exact nomatch scalarShape_of_ok hok
  | var v => simp [kindOk] at hk
  | «enum» v => simp [kindOk, TypeId.asEnum?] at hk
  | list ds => rw [valueJson] at hok; exact nomatch scalarShape_of_ok hok
  | obj dk => rw [valueJson] at hok; exact nomatch scalarShape_of_ok hok
  | int m =>
    rw [valueJson] at hok hnull ⊢
    rw [canon_int, hid]
    cases scalarShape_of_ok hok with
    | int hm =>
      refine ⟨.int m, .int m, by simp [pure, Except.pure], ⟨rfl, ?_, .alias (by decide) env.int (.i64 (hint m hm)), rfl,
        ser_prim e _ _ _ rfl (by simp [valSize]), rfl⟩, rfl⟩
      simp [evalLit, resolveTy_alias_prim e (by decide) env.int (by decide : isPrimName "i64" = true), hint m hm]
    | floatInt =>
      refine ⟨.float (toString m), .float (.int m), by simp [pure, Except.pure], ⟨rfl, ?_,
        .alias (by decide) env.float (.f64 rfl), rfl, ser_prim e _ _ _ rfl (by simp [valSize]), rfl⟩, rfl⟩
      simp [evalLit, resolveTy_alias_prim e (by decide) env.float (by decide : isPrimName "f64" = true)]
      exact floatJson_int m
    | idInt _ =>
      refine ⟨.str (toString m), .str (toString m), by simp [pure, Except.pure], ⟨rfl, ?_,
        .alias (by decide) env.id .string, rfl, ser_prim e _ _ _ rfl (by simp [valSize]), rfl⟩, rfl⟩
      simp [evalLit, resolveTy_alias_prim e (by decide) env.id (by decide : isPrimName "String" = true)]
  | float tok =>
    rw [valueJson] at hok hnull ⊢
    rw [canon_num]
    have htok : floatJson tok = .num tok := by
      simp only [kindOk, Option.isNone_iff_eq_none] at hk
      simp [floatJson, hk]
    cases scalarShape_of_ok hok with
    | floatNum =>
      refine ⟨.float tok, .float (.num tok), rfl, ⟨rfl, ?_,
        .alias (by decide) env.float (.f64 rfl), rfl, ser_prim e _ _ _ rfl (by simp [valSize]), rfl⟩, rfl⟩
      simp [evalLit, resolveTy_alias_prim e (by decide) env.float (by decide : isPrimName "f64" = true), htok]
  | bool v =>
    rw [valueJson] at hok hnull ⊢
    rw [canon_bool]
    cases scalarShape_of_ok hok with
    | bool =>
      refine ⟨.bool v, .bool v, rfl, ⟨rfl, ?_,
        .alias (by decide) env.boolean .bool, rfl, ser_prim e _ _ _ rfl (by simp [valSize]), rfl⟩, rfl⟩
      simp [evalLit, resolveTy_alias_prim e (by decide) env.boolean (by decide : isPrimName "bool" = true)]
  | str v =>
    rw [valueJson] at hok hnull ⊢
    rw [canon_str]
    cases scalarShape_of_ok hok with
    | idStr =>
      refine ⟨.str v, .str v, rfl, ⟨rfl, ?_,
        .alias (by decide) env.id .string, rfl, ser_prim e _ _ _ rfl (by simp [valSize]), rfl⟩, rfl⟩
      simp [evalLit, resolveTy_alias_prim e (by decide) env.id (by decide : isPrimName "String" = true)]
    | other _ h1 h2 h3 h4 =>
      by_cases h5 : n = "String"
      · subst h5
        refine ⟨.str v, .str v, rfl, ⟨rfl, ?_, .string, rfl, ser_prim e _ _ _ rfl (by simp [valSize]), rfl⟩, rfl⟩
        have : resolveTy e (.path "String") = .path "String" := resolveTyN_prim e _ (by decide)
        simp [evalLit, this]
      · have hnd : n ∉ Schema.defaultScalars := by simp [Schema.defaultScalars, h1, h2, h3, h4, h5]
        obtain ⟨hp, q, hq, hfn, hfq, hxq⟩ := env.custom k n hU hn hnd
        refine ⟨.str v, .str v, rfl, ⟨rfl, ?_, .alias hp hfn (.extern hq hfq hxq .string), rfl,
          ser_prim e _ _ _ rfl (by simp [valSize]), rfl⟩, rfl⟩
        simp [evalLit, resolveTy_custom e hp hq hfn hfq hxq]

theorem getInput_of_getElem? {s : Schema} {k : Nat} {i : StoredInput} (h : s.inputs[k]? = some i) : s.getInput k = .ok i := by
  simp [Schema.getInput, h, pure, Except.pure]

theorem enum_good (c : Ctx) (e : Env) (U : TypeId → Prop) (env : InputEnv c e U)
    (hnorm : c.o.normalization = .none)
    (henum : ∀ k en, U (.enum k) → c.s.enums[k]? = some en → e.find en.name = some (enumItem c en))
    {k : Nat} {en : StoredEnum} {v : String} (hU : U (.enum k)) (hen : c.s.enums[k]? = some en)
    (hv : v ∈ en.variants) (f : Nat) :
    ∃ lit x, scalarToLiteral c f (.enum v) (.enum k) = .ok lit ∧ Good e lit (.path en.name) (.str v) x := by
  obtain ⟨hp, hcase⟩ := env.enums k en hU hen
  have hitem := henum k en hU hen
  have hidents : (en.variants.map (variantIdent c)).Nodup := by
    rcases hcase with ⟨_, h⟩ | ⟨h, _⟩
    · exact h
    · rw [hitem] at h; cases h
  rw [enumItem_eq] at hitem
  have hname : c.o.normalization.enumName c.cs en.name = en.name := by
    rw [hnorm]; rfl
  refine ⟨.path en.name (variantIdent c v), .variant (variantIdent c v) none, ?_, rfl, ?_,
    .enumVariant hp hitem (List.mem_map_of_mem hv), rfl, ?_, rfl⟩
  · unfold scalarToLiteral scalarToLiteralWith
    simp only [scalarNameOf_other (c := c) (id := .enum k) rfl, bind, Except.bind, TypeId.asEnum?, C02.getEnum_of hen,
      hname]
    rfl
  · have hmem : variantIdent c v ∈ en.variants.map (variantIdent c) := List.mem_map_of_mem hv
    simp only [evalLit, resolveTy_gqlEnum e hp hitem, isPrimName_false hp, and_self, ↓reduceIte, hitem, hmem]
  · intro fuel hf
    obtain ⟨f', rfl, _⟩ := fuel_succ (show 0 + 1 ≤ fuel by simp [valSize] at hf; omega)
    show serPath e (f' + 1) en.name _ = _
    rw [serPath_enum e f' _ _ _ _ _ _ _ _ hitem, find_ser_table _ _ hidents v hv]

/-- the members of a plain input object, rendered -/
theorem structFields_ok (c : Ctx) (lit : Value → TypeId → List Qual → Outcome LitExpr) (dk : List (String × Value))
    (Lf : String × FieldType → LitExpr) : ∀ (fields : List (String × FieldType)),
    (∀ p ∈ fields, (match dk.find? (·.1 == p.1) with
        | some (_, dv) => lit dv p.2.id p.2.quals
        | none => pure .none) = .ok (Lf p)) →
    structFields c lit dk fields =
      .ok (fields.map fun p => (keywordReplace (c.cs.snake p.1), boxIfRecursive c (Lf p) p.2.id))
  | [], _ => rfl
  | (name, ty) :: rest, h => by
    have h0 := h (name, ty) (by simp)
    simp only at h0
    rw [structFields]
    cases hfd : dk.find? (·.1 == name) with
    | none =>
      rw [hfd] at h0
      simp only [pure, Except.pure, Except.ok.injEq] at h0
      simp only [bind, Except.bind, pure, Except.pure, h0,
        structFields_ok c lit dk Lf rest (fun p hp => h p (by simp [hp]))]
      rfl
    | some kv =>
      rw [hfd] at h0
      simp only at h0
      simp only [bind, Except.bind, h0, structFields_ok c lit dk Lf rest (fun p hp => h p (by simp [hp]))]
      rfl

/-- the `filter_map` of a `@oneOf` literal that mentions exactly the member `p` -/
theorem oneOfVariants_single (c : Ctx) (lit : Value → TypeId → List Qual → Outcome LitExpr) (ctor : String)
    (p : String × FieldType) (dv : Value) (l : LitExpr)
    (hl : lit dv p.2.id (.required :: p.2.quals) = .ok l) : ∀ (fields : List (String × FieldType)),
    (fields.map (·.1)).Nodup →
    oneOfVariants c lit ctor [(p.1, dv)] fields =
      .ok (if p ∈ fields then [.variant ctor (keywordReplace (c.cs.camel p.1)) (boxIfRecursive c l p.2.id)] else []) ∨
    (p ∉ fields ∧ p.1 ∈ fields.map (·.1))
  | [], _ => .inl rfl
  | (name, ty) :: rest, hn => by
    simp only [List.map_cons, List.nodup_cons] at hn
    by_cases hq : p.1 = name
    · by_cases hpq : p = (name, ty)
      · left
        subst hpq
        have hnone : ∀ (fs : List (String × FieldType)), name ∉ fs.map (·.1) →
            oneOfVariants c lit ctor [(name, dv)] fs = .ok [] := by
          intro fs
          induction fs with
          | nil => intro _; rfl
          | cons q fs ih =>
            intro hq
            simp only [List.map_cons, List.mem_cons, not_or] at hq
            obtain ⟨qn, qt⟩ := q
            have : (name == qn) = false := by simpa using hq.1
            rw [oneOfVariants]
            simp only [List.find?_cons, this, List.find?_nil]
            exact ih hq.2
        rw [oneOfVariants]
        simp only [List.find?_cons, BEq.rfl, bind, Except.bind, hl, hnone rest hn.1, List.mem_cons, true_or,
          ↓reduceIte]
        rfl
      · right
        refine ⟨?_, by simp [hq]⟩
        intro hm
        rcases List.mem_cons.mp hm with h | h
        · exact hpq h
        · exact hn.1 (hq ▸ List.mem_map_of_mem (f := (·.1)) h)
    · have hne : (p.1 == name) = false := by simpa using hq
      have hpne : p ≠ (name, ty) := fun h => hq (by rw [h])
      rw [oneOfVariants]
      simp only [List.find?_cons, hne, List.find?_nil]
      rcases oneOfVariants_single c lit ctor p dv l hl rest hn.2 with h | ⟨h1, h2⟩
      · left
        rw [h]
        simp [hpne]
      · right
        exact ⟨by simp [hpne, h1], by simp [h2]⟩

/-- a position that must not be `null` never holds `null` (`C04S.valid_nonnull` for the coercing validity) -/
theorem validC_nonnull {L : Leaves} {s : Schema} {id : TypeId} {b : Bool} {t : GTy} {j : Json}
    (h : ValidC L s id b t j) : (b = true ∨ isNN t = true) → j.isNull = false := by
  induction h with
  | null hn => intro h; rcases h with h | h <;> simp_all
  | some hn _ ih => intro h; rcases h with h | h <;> simp_all
  | bang _ ih => intro _; exact ih (.inl rfl)
  | list _ _ => intro _; rfl
  | @wrap id t j _ hnn _ _ => intro _; cases j <;> first | rfl | exact absurd rfl hnn
  | @scalar k n nm j' _ hok =>
    intro _
    cases j' <;> first | rfl | (rw [scalarOk_null] at hok; cases hok)
  | «enum» _ _ => intro _; rfl
  | object _ _ _ _ _ _ _ => intro _; rfl
  | oneOf _ _ _ _ _ => intro _; rfl

theorem valueIsNull_of_json {d : Value} (h : (valueJson d).isNull = false) : valueIsNull d = false := by
  cases d <;> first | rfl | (rw [valueJson] at h; cases h)

theorem literal_core (L : Leaves) (c : Ctx) (e : Env) (U : TypeId → Prop) (env : InputEnv c e U)
    (hnorm : c.o.normalization = .none)
    (hkw : ∀ k i, U (.input k) → c.s.inputs[k]? = some i → keywordReplace i.name = i.name)
    (henum : ∀ k en, U (.enum k) → c.s.enums[k]? = some en → e.find en.name = some (enumItem c en))
    (hint : ∀ n, L.intOk n = true → inI64 n = true) (hclosed : L.enumOpen = false)
    {id : TypeId} {b : Bool} {t : GTy} {j : Json} (h : ValidC L c.s id b t j) :
    U id → wf t = true → ∀ (d : Value), valueJson d = j → kindOk c.s id d = true → ∀ fuel, valueDepth d < fuel →
      (b = false → ∃ lit x, valueToLiteral c fuel d id t.quals = .ok lit ∧
          Good e lit (R c id false t) (canon c.s c.o.skipNone id t (coerce c.s id t j)) x) ∧
      (b = true → isNN t = false → ∃ lit x, literalInner c fuel d id t.quals = .ok lit ∧
          Good e lit (R c id true t) (canon c.s c.o.skipNone id t (coerce c.s id t j)) x ∧
          (canon c.s c.o.skipNone id t (coerce c.s id t j)).isNull = false) := by
  induction h with
  | @null id t hn =>
    intro _ _ d hd hk fuel _
    refine ⟨fun _ => ?_, fun hb => by cases hb⟩
    have hd' : d = .null := by
      cases d <;> simp [valueJson] at hd
      · rfl
      · simp [kindOk] at hk
    subst hd'
    refine ⟨.none, .unit, valueToLiteral_null c fuel id _ (by rw [strip_of_not_nn hn]), ?_⟩
    rw [coerce_null, canon_null, R, if_neg (by simp), rustOf_opt _ hn]
    exact good_none e _
  | @some id t j hn hv ih =>
    intro hU hw d hd hk fuel hf
    refine ⟨fun _ => ?_, fun hb => by cases hb⟩
    obtain ⟨lit, x, hlit, hg, hnull⟩ := (ih hU hw d hd hk fuel hf).2 rfl hn
    have hdn : valueIsNull d = false := valueIsNull_of_json (hd ▸ validC_nonnull hv (.inl rfl))
    refine ⟨.some lit, .some x, ?_, ?_⟩
    · rw [valueToLiteral_of_not_null c fuel d id _ (by rw [hdn, Bool.and_false]), strip_of_not_nn hn]
      simp only [hlit]
      rfl
    · have : R c id false t = .opt (R c id true t) := by simp [R, rustOf_opt _ hn]
      rw [this]
      exact good_some hg hnull
  | @bang id b t j hv ih =>
    intro hU hw d hd hk fuel hf
    have hw' := wf_nonNull hw
    have hnn : isNN t = false := isNN_of_wf_nonNull hw
    obtain ⟨lit, x, hlit, hg, hnull⟩ := (ih hU hw' d hd hk fuel hf).2 rfl hnn
    refine ⟨fun hb => ?_, fun _ hb => by simp [isNN] at hb⟩
    subst hb
    refine ⟨lit, x, ?_, ?_⟩
    · rw [valueToLiteral_of_not_null c fuel d id _ (by simp [GTy.quals, stripRequired])]
      simp only [GTy.quals, stripRequired, hlit]
      rfl
    · have : R c id false (.nonNull t) = R c id true t := by simp [R, rustOf]
      rw [this, coerce_nonNull, canon_nonNull]
      exact hg
  | @list id t xs hv ih =>
    intro hU hw d hd hk fuel hf
    refine ⟨fun hb => (by cases hb), fun _ _ => ?_⟩
    obtain ⟨ds, rfl, rfl⟩ := valueJson_arr hd
    have hw' : wf t = true := by simpa [wf] using hw
    obtain ⟨f, rfl⟩ : ∃ f, fuel = f + 1 := ⟨fuel - 1, by omega⟩
    rw [valueDepth] at hf
    rw [kindOk] at hk
    have hel : ∀ x ∈ ds, ∃ lx : LitExpr × Val, valueToLiteral c f x id t.quals = .ok lx.1 ∧
        Good e lx.1 (R c id false t)
          (canon c.s c.o.skipNone id t (coerce c.s id t (valueJson x))) lx.2 := by
      intro x hx
      obtain ⟨lit, v, h1, h2⟩ := (ih (valueJson x) (List.mem_map_of_mem hx) hU hw' x rfl (kindOkList_mem hk hx) f
        (by have := depth_mem hx; omega)).1 rfl
      exact ⟨(lit, v), h1, h2⟩
    obtain ⟨g, hg⟩ := exists_fun_of_forall_mem ds _ hel
    have hout : canon c.s c.o.skipNone id (.list t) (coerce c.s id (.list t) (.arr (ds.map valueJson))) =
        .arr (ds.map fun x => canon c.s c.o.skipNone id t (coerce c.s id t (valueJson x))) := by
      rw [coerce_arr, canon_arr, coerceList_eq_map, canonList_eq_map, List.map_map, List.map_map]
      rfl
    refine ⟨.vec (ds.map fun x => (g x).1), .list (ds.map fun x => (g x).2), ?_, ?_, ?_⟩
    · show literalInner c (f+1) (.list ds) id (.list :: t.quals) = _
      rw [literalInner_list_list, C02.mapM_eq_ok_map _ (fun x => (g x).1) ds (fun x hx => (hg x hx).1)]
      rfl
    · have : R c id true (.list t) = .vec (R c id false t) := by simp [R, rustOfNN]
      rw [this, hout]
      exact good_vec _ _ _ ds (fun x hx => (hg x hx).2)
    · rw [hout]; rfl
  | @wrap id t j hna hnn hv ih =>
    intro hU hw d hd hk fuel hf
    refine ⟨fun hb => (by cases hb), fun _ _ => ?_⟩
    have hw' : wf t = true := by simpa [wf] using hw
    have hnl : ∀ ds, d ≠ .list ds := by
      intro ds hds
      subst hds
      rw [valueJson] at hd
      exact hna _ hd.symm
    obtain ⟨f, rfl⟩ : ∃ f, fuel = f + 1 := ⟨fuel - 1, by omega⟩
    obtain ⟨lit, x, hlit, hg⟩ := (ih hU hw' d hd hk (f+1) hf).1 rfl
    have hdn : valueIsNull d = false := by
      cases d <;> first | rfl | (rw [valueJson] at hd; exact absurd hd.symm hnn)
    rw [valueToLiteral_of_not_null c (f+1) d id _ (by rw [hdn, Bool.and_false]),
      literalInner_single c f d id _ hnl] at hlit
    obtain ⟨s0, hs0⟩ : ∃ s0, scalarToLiteral c f d id = .ok s0 := by
      cases h : scalarToLiteral c f d id with
      | ok s0 => exact ⟨s0, rfl⟩
      | error err => simp [h, Functor.map, Except.map] at hlit
    rw [hs0] at hlit
    simp only [Functor.map, Except.map, Except.ok.injEq] at hlit
    have hout : canon c.s c.o.skipNone id (.list t) (coerce c.s id (.list t) j) =
        .arr [canon c.s c.o.skipNone id t (coerce c.s id t j)] := by
      rw [coerce_list_bare _ _ _ _ hna hnn, canon_arr, canonList, canonList]
      rfl
    refine ⟨.vec [lit], .list [x], ?_, ?_, ?_⟩
    · show literalInner c (f+1) d id (.list :: t.quals) = _
      rw [literalInner_single c f d id _ hnl, hs0]
      show Except.ok (singleInner s0 (.list :: t.quals)) = _
      rw [singleInner_list, hlit]
    · have : R c id true (.list t) = .vec (R c id false t) := by simp [R, rustOfNN]
      rw [this, hout]
      exact good_vec (fun _ : Unit => lit) (fun _ => canon c.s c.o.skipNone id t (coerce c.s id t j)) (fun _ => x)
        [()] (fun _ _ => hg)
    · rw [hout]; rfl
  | @scalar k n nm j hn hok =>
    intro hU _ d hd hk fuel hf
    refine ⟨fun hb => (by cases hb), fun _ _ => ?_⟩
    subst hd
    have hnl : ∀ ds, d ≠ .list ds := by
      intro ds hds
      subst hds
      rw [valueJson, scalarOk_arr] at hok
      cases hok
    obtain ⟨f, rfl⟩ : ∃ f, fuel = f + 1 := ⟨fuel - 1, by omega⟩
    obtain ⟨lit, x, hlit, hg, hnull⟩ := scalar_good L c e U env hint (.named nm) hU hn d hok hk f
    refine ⟨lit, x, ?_, ?_, ?_⟩
    · show literalInner c (f+1) d (.scalar k) [] = _
      rw [literalInner_single _ _ _ _ _ hnl, hlit]
      rfl
    · have : R c (.scalar k) true (.named nm) = .path n := by simp [R, rustOfNN, tnOf_scalar hn]
      rw [this, coerce_scalar hok]
      exact hg
    · rw [coerce_scalar hok]
      exact hnull
  | @«enum» k en nm v hen hv =>
    intro hU _ d hd hk fuel hf
    refine ⟨fun hb => (by cases hb), fun _ _ => ?_⟩
    have hvm : v ∈ en.variants := by
      rcases hv with h | h
      · rw [hclosed] at h; cases h
      · exact h
    have hd' : d = .enum v := by
      cases d <;> simp [valueJson] at hd
      · simp [kindOk, TypeId.asEnum?] at hk
      · rw [hd]
    subst hd'
    obtain ⟨f, rfl⟩ : ∃ f, fuel = f + 1 := ⟨fuel - 1, by omega⟩
    obtain ⟨lit, x, hlit, hg⟩ := enum_good c e U env hnorm henum hU hen hvm f
    have hout : canon c.s c.o.skipNone (.enum k) (.named nm) (coerce c.s (.enum k) (.named nm) (.str v)) = .str v := by
      rw [coerce_str]
      show canon _ _ _ _ (.str v) = _
      rw [canon_str]
    refine ⟨lit, x, ?_, ?_, ?_⟩
    · show literalInner c (f+1) (.enum v) (.enum k) [] = _
      rw [literalInner_single _ _ _ _ _ (fun _ h => by cases h), hlit]
      rfl
    · have : R c (.enum k) true (.named nm) = .path en.name := by simp [R, rustOfNN, tnOf_enum hen]
      rw [this, hout]
      exact hg
    · rw [hout]; rfl
  | @object k i nm kvs hi hone hnd hsub habs hpres ih =>
    intro hU _ d hd hk fuel hf
    refine ⟨fun hb => (by cases hb), fun _ _ => ?_⟩
    obtain ⟨dk, rfl, rfl⟩ := valueJson_obj hd
    obtain ⟨f, rfl⟩ : ∃ f, fuel = f + 1 := ⟨fuel - 1, by omega⟩
    rw [valueDepth] at hf
    have hkk : kindOkKvs c.s i.fields dk = true := by
      rw [kindOk] at hk
      simpa [inputOf, hi] using hk
    obtain ⟨hp, hfind⟩ := env.inputs k i hU hi
    rw [inputItemSpec, if_neg (by simp [hone])] at hfind
    have hcl := env.closed k i hU hi
    have hnames := env.fieldNames k i hU hi
    have hctor : keywordReplace (c.o.normalization.inputName c.cs i.name) = i.name := by
      rw [hnorm]; exact hkw k i hU hi
    have hmem : ∀ p ∈ i.fields, ∃ lx : LitExpr × Val,
        (match dk.find? (·.1 == p.1) with
          | some (_, dv) => valueToLiteral c f dv p.2.id p.2.quals
          | none => pure .none) = .ok lx.1 ∧
        Good e lx.1 (R c p.2.id false (gty p.2))
          (canon c.s c.o.skipNone p.2.id (gty p.2)
            ((Json.lookup p.1 (coerceKvs c.s i.fields (valueJsonKvs dk))).getD .null)) lx.2 := by
      intro p hpm
      obtain ⟨hUp, _, hwp, _⟩ := hcl p hpm
      rw [lookup_coerceKvs c.s _ hnames p hpm]
      have hlk := lookup_valueJsonKvs p.1 dk
      cases hfd : dk.find? (·.1 == p.1) with
      | none =>
        rw [hfd] at hlk
        simp only [Option.map_none] at hlk
        refine ⟨(.none, .unit), rfl, ?_⟩
        simp only [hlk, Option.map_none, Option.getD_none, canon_null]
        rw [R, if_neg (by simp), rustOf_opt _ (habs p hpm hlk)]
        exact good_none e _
      | some kv =>
        rw [hfd] at hlk
        simp only [Option.map_some] at hlk
        obtain ⟨lit, x, h1, h2⟩ := (ih p hpm (valueJson kv.2) hlk hUp hwp kv.2 rfl (kindOkKvs_find hnames hpm hkk hfd) f
          (by have := depth_find hfd; omega)).1 rfl
        refine ⟨(lit, x), ?_, ?_⟩
        · obtain ⟨k', dv⟩ := kv
          rw [gty, quals_ofQuals] at h1
          exact h1
        · simp only [hlk, Option.map_some, Option.getD_some]
          exact h2
    obtain ⟨g, hg⟩ := exists_fun_of_forall_mem i.fields _ hmem
    have hlook := fun p hpm => lookup_coerceKvs c.s _ hnames p hpm (valueJsonKvs dk)
    -- `express_struct_of` at the coerced object
    have hx := express_struct_of Leaves.graphql e c.o.skipNone i.fields (inputField c) i.name i.name _ _ hp hfind
      (fun p _ => ⟨inputField_wire c p, rfl, rfl, rfl, by simp [inputField, isOptional_eq]⟩)
      ((env.members k i hU hi).1 hone) hnames (coerceKvs c.s i.fields (valueJsonKvs dk))
      (by rw [keys_coerceKvs]; exact hnd)
      (fun p => canon c.s c.o.skipNone p.2.id (gty p.2)
        ((Json.lookup p.1 (coerceKvs c.s i.fields (valueJsonKvs dk))).getD .null))
      (fun p => (g p).2) (fun p hpm => (good_field (hg p hpm).2).expr (canon_isNull ..).symm)
      (fun p hpm hl => isOption_fieldRTy c _ (habs p hpm (by
        rwa [hlook p hpm, Option.map_eq_none_iff] at hl)))
      (by
        intro p hpm hnnp
        rw [hlook p hpm]
        cases hl : Json.lookup p.1 (valueJsonKvs dk) with
        | none => rw [habs p hpm hl] at hnnp; cases hnnp
        | some v =>
          simp only [Option.map_some, Option.getD_some]
          have hvc := validC_coerce U (fun k i hk hi => ⟨env.fieldNames k i hk hi, fun p hp => (env.closed k i hk hi p hp).1⟩)
            (hpres p hpm v hl) (hcl p hpm).1
          exact valid_nonnull hvc (.inr hnnp))
    have hout : canon c.s c.o.skipNone (.input k) (.named nm) (coerce c.s (.input k) (.named nm) (.obj (valueJsonKvs dk))) =
        .obj (i.fields.filterMap fun p =>
          if c.o.skipNone && ((Json.lookup p.1 (coerceKvs c.s i.fields (valueJsonKvs dk))).getD .null).isNull then none
          else some (p.1, canon c.s c.o.skipNone p.2.id (gty p.2)
              ((Json.lookup p.1 (coerceKvs c.s i.fields (valueJsonKvs dk))).getD .null))) := by
      rw [coerce_obj_input _ _ _ _ _ hi]
      show canon _ _ _ _ (.obj _) = _
      rw [canon_obj_input _ _ _ _ _ _ hi, if_neg (by simp [hone]), assemble_canonKvs c.s c.o.skipNone _ hnames]
    refine ⟨.struct i.name (i.fields.map fun p => ((inputField c p).rust, boxIfRecursive c (g p).1 p.2.id)),
      .record (i.fields.map fun p => ((inputField c p).rust, (g p).2)), ?_, ?_, ?_⟩
    · show literalInner c (f+1) (.obj dk) (.input k) [] = _
      rw [literalInner_single _ _ _ _ _ (fun _ h => by cases h)]
      unfold scalarToLiteral scalarToLiteralWith objectLiteral objectLiteralWith
      simp only [scalarNameOf_other (c := c) (id := .input k) rfl, bind, Except.bind, TypeId.asInput?, getInput_of_getElem? hi,
        hone, Bool.false_eq_true, ↓reduceIte, hctor,
        structFields_ok c (valueToLiteral c f) dk (fun p => (g p).1) i.fields (fun p hpm => (hg p hpm).1)]
      rfl
    · have : R c (.input k) true (.named nm) = .path i.name := by simp [R, rustOfNN, tnOf_input hi]
      rw [this, hout]
      refine good_of_expr ?_ ?_ hx rfl
      · simp only [LitExpr.hasCompileError]
        exact hasCompileErrorFields_map _ _ i.fields (fun p hpm => (good_field (hg p hpm).2).noErr)
      · simp only [evalLit, resolveTy_struct e hp hfind, isPrimName_false hp, and_self, ↓reduceIte, hfind,
          evalFields_map e (inputField c) _ _ i.fields (fun p hpm => (good_field (hg p hpm).2).eval)]
        rfl
    · rw [hout]; rfl
  | @oneOf k i nm p v hi hone hpm hv ih =>
    intro hU _ d hd hk fuel hf
    refine ⟨fun hb => (by cases hb), fun _ _ => ?_⟩
    obtain ⟨dk, rfl, hkv⟩ := valueJson_obj hd
    obtain ⟨dv, rfl, rfl⟩ := valueJsonKvs_single hkv
    obtain ⟨f, rfl⟩ : ∃ f, fuel = f + 1 := ⟨fuel - 1, by omega⟩
    rw [valueDepth, valueDepthKvs, valueDepthKvs] at hf
    obtain ⟨hp, hfind⟩ := env.inputs k i hU hi
    rw [inputItemSpec, if_pos hone] at hfind
    obtain ⟨hUp, _, hwp, hnn, _⟩ := env.closed k i hU hi p hpm
    have hnames := env.fieldNames k i hU hi
    have hctor : keywordReplace (c.o.normalization.inputName c.cs i.name) = i.name := by
      rw [hnorm]; exact hkw k i hU hi
    have hkd : kindOk c.s p.2.id dv = true := by
      rw [kindOk] at hk
      simp only [inputOf, hi, kindOkKvs, find_field hnames hpm, Bool.and_true] at hk
      exact hk
    obtain ⟨lit, x, hlit, hg⟩ := (ih hUp (wf_nonNull_of hwp (hnn hone)) dv rfl hkd f (by omega)).1 rfl
    have hlit' : valueToLiteral c f dv p.2.id (.required :: p.2.quals) = .ok lit := by
      rw [gty] at hlit
      simpa [GTy.quals, quals_ofQuals] using hlit
    have hout : canon c.s c.o.skipNone (.input k) (.named nm)
          (coerce c.s (.input k) (.named nm) (.obj [(p.1, valueJson dv)])) =
        .obj [(p.1, canon c.s c.o.skipNone p.2.id (.nonNull (gty p.2))
          (coerce c.s p.2.id (.nonNull (gty p.2)) (valueJson dv)))] := by
      rw [coerce_obj_input _ _ _ _ _ hi]
      show canon _ _ _ _ (.obj _) = _
      rw [canon_obj_input _ _ _ _ _ _ hi, if_pos hone, coerceKvs, coerceKvs, find_field hnames hpm, canonKvs, canonKvs,
        find_field hnames hpm, canon_nonNull, coerce_nonNull]
    have hgf := good_field (c := c) hg
    have hf1 : (i.fields.map (inputVariant c)).find? (fun y => y.name == (inputVariant c p).name) = some (inputVariant c p) :=
      find_by_key (fun y : RVariant => y.name) _ (by rw [List.map_map]; exact (env.members k i hU hi).2 hone) _
        (List.mem_map_of_mem hpm)
    have hgood : Good e (.variant i.name (inputVariant c p).name (boxIfRecursive c lit p.2.id)) (.path i.name) _ _ :=
      good_of_expr (by simpa [LitExpr.hasCompileError] using hgf.noErr)
        (by
          simp only [evalLit, resolveTy_oneOf e hp hfind, isPrimName_false hp, and_self, ↓reduceIte, hfind, hf1]
          show Option.map _ (evalLit e _ (fieldRTy c p.2.id (.nonNull (gty p.2)))) = _
          rw [hgf.eval]
          rfl)
        (express_oneOf Leaves.graphql e i.fields (inputVariant c) i.name i.name _ _ hp hfind
          (fun q _ => inputVariant_wire c q) ((env.members k i hU hi).2 hone) hnames p hpm _ rfl _ _ x (hgf.expr rfl)) rfl
    refine ⟨.variant i.name (inputVariant c p).name (boxIfRecursive c lit p.2.id),
      .variant (inputVariant c p).name (some x), ?_, ?_, ?_⟩
    · show literalInner c (f+1) (.obj [(p.1, dv)]) (.input k) [] = _
      rw [literalInner_single _ _ _ _ _ (fun _ h => by cases h)]
      unfold scalarToLiteral scalarToLiteralWith objectLiteral objectLiteralWith
      simp only [scalarNameOf_other (c := c) (id := .input k) rfl, bind, Except.bind, TypeId.asInput?, getInput_of_getElem? hi,
        hone, ↓reduceIte, hctor]
      rcases oneOfVariants_single c (valueToLiteral c f) i.name p dv lit hlit' i.fields hnames with h | ⟨h, _⟩
      · rw [h, if_pos hpm]
        rfl
      · exact absurd hpm h
    · have : R c (.input k) true (.named nm) = .path i.name := by simp [R, rustOfNN, tnOf_input hi]
      rw [this, hout]
      exact hgood
    · rw [hout]; rfl

end C04D
end GqlVerif
