import GqlVerif.Proofs.C04RustVars
import GqlVerif.Proofs.C04SurjectiveExamples
/-!
# C04 under `normalization = rust` — a concrete instance in which the input / enum / scalar names really change

```graphql
scalar date_time
enum sort_order { asc desc }
input page_input { first: Int, after: ID, order: sort_order!, since: date_time, ids: [ID!], next: page_input }
type Query { x: String }

query Q($page: page_input!, $order: sort_order, $limit: Int) { x }
```
Under `rust` the module says `PageInput`, `SortOrder { Asc, Desc, Other(String) }`, `DateTime = super::DateTime`,
`Variables { page: PageInput, order: Option<SortOrder>, limit: Option<Int> }`; `page_input.next` is a direct cycle
(`Option<Box<PageInput>>`).  Every hypothesis of `variables_expressible_rust'` / `variables_ser_valid_rust'` is
evaluated (`rx_side`, `rx_hyps`), the two modules differ (`rx_differ`), the theorems are applied to an assignment.
-/
namespace GqlVerif
namespace C04R
open Codegen C09N C04S
open C01.E2E (noNorm)

def rxSchema : Schema :=
  { objects := [{ name := "Query", fields := [0], implements := [] }],
    fields := [{ name := "x", ty := { id := .scalar 1, quals := [] }, parent := .object 0, deprecation := none }],
    scalars := Schema.defaultScalars ++ ["date_time"],
    enums := [{ name := "sort_order", variants := ["asc", "desc"] }],
    inputs := [{ name := "page_input", isOneOf := false,
                 fields := [("first", { id := .scalar 2, quals := [] }),
                            ("after", { id := .scalar 0, quals := [] }),
                            ("order", { id := .enum 0, quals := [.required] }),
                            ("since", { id := .scalar 5, quals := [] }),
                            ("ids", { id := .scalar 0, quals := [.list, .required] }),
                            ("next", { id := .input 0, quals := [] })] }] }

def rxQuery : Query :=
  { operations := [{ name := "Q", kind := .query, objectId := 0, sels := [.field none 0 []] }],
    variables := [{ opIdx := 0, name := "page", default := none, ty := { id := .input 0, quals := [.required] } },
                  { opIdx := 0, name := "order", default := none, ty := { id := .enum 0, quals := [] } },
                  { opIdx := 0, name := "limit", default := none, ty := { id := .scalar 2, quals := [] } }] }

def rxTbl : List (String × String) :=
  [("page_input", "PageInput"), ("sort_order", "SortOrder"), ("asc", "Asc"), ("desc", "Desc"), ("date_time", "DateTime")]

/-- the context: `normalization = rust` -/
def rxC₁ : Ctx := { s := rxSchema, q := rxQuery, o := { normalization := .rust }, cs := { snake := id, camel := tblCamel rxTbl } }

/-- the module generated under `none` / under `rust` -/
def rxItems₀ : List Item := itemsOf (noNorm rxC₁)
def rxItems₁ : List Item := itemsOf rxC₁

/-- **the side conditions of the wire invariant hold** -/
theorem rx_side : RustSideV (noNorm rxC₁) rxC₁ 0 rxItems₀ rxItems₁ :=
  RustSideV.of_itemsOf (by decide +kernel)

/-- **the two modules differ**: the input type, the enum and the scalar alias are defined under other names, and the
    `rust` module no longer knows the raw ones -/
theorem rx_differ :
    (rxItems₀.map (·.name) == ["Boolean", "Float", "Int", "ID", "date_time", "sort_order", "page_input", "Variables",
      "<impl Variables>", "ResponseData"]) = true ∧
    (rxItems₁.map (·.name) == ["Boolean", "Float", "Int", "ID", "DateTime", "SortOrder", "PageInput", "Variables",
      "<impl Variables>", "ResponseData"]) = true ∧
    ((moduleEnvN rxC₁ rxItems₁).find "page_input").isNone = true ∧
    ((moduleEnvN rxC₁ rxItems₁).find "sort_order").isNone = true ∧
    (externsFor (noNorm rxC₁) == [("super::date_time", .path "String")]) = true ∧
    (externsForN rxC₁ == [("super::DateTime", .path "String")]) = true := by
  decide +kernel

/-- **the hypotheses of the `none` theorems hold of `noNorm rxC₁` and its module** -/
theorem rx_hyps :
    (∀ i ∈ rxC₁.s.inputs, keywordReplace i.name = i.name) ∧
    (∀ n ∈ rxC₁.s.scalars, keywordReplace n = n) ∧
    (∀ e ∈ rxC₁.s.enums, keywordReplace e.name = e.name) ∧
    C02.OutputOnly rxC₁.s rxC₁.q = true ∧ C02.InputFieldsRelevant rxC₁.s = true ∧
    (∀ v ∈ rxC₁.q.opVariables 0, C02.Relevant v.ty.id) ∧
    (Scope.defines rxItems₀).Nodup ∧ (∀ it ∈ rxItems₀, (C02.memberIdents it).Nodup) ∧
    (∀ it ∈ rxItems₀, C01.notPrim it.name) ∧ ExternsFree (noNorm rxC₁) rxItems₀ ∧ rxC₁.q.opVariables 0 ≠ [] := by
  unfold ExternsFree
  decide +kernel

/-- `{"order": "asc", "page": {"ids": ["a", 7], "order": "desc", "next": {"order": "asc", "ids": []}, "since": "2020"}}`
    — members out of order, nullable ones missing, an integer ID, a nested value of the recursive type -/
def rxKvs : List (String × Json) :=
  [("order", .str "asc"),
   ("page", .obj [("ids", .arr [.str "a", .int 7]), ("order", .str "desc"),
                  ("next", .obj [("order", .str "asc"), ("ids", .arr [])]), ("since", .str "2020")])]

theorem rxKvs_valid : VarsValid Leaves.graphql rxC₁ 0 rxKvs :=
  varsValidB_sound _ _ _ 20 _ (by decide +kernel)

/-- the canonical form: declaration order, explicit `null`s, the ID as a string — no Rust name occurs in it -/
def rxCanon : Json :=
  .obj [("page", .obj [("first", .null), ("after", .null), ("order", .str "desc"), ("since", .str "2020"),
                       ("ids", .arr [.str "a", .str "7"]),
                       ("next", .obj [("first", .null), ("after", .null), ("order", .str "asc"), ("since", .null),
                                      ("ids", .arr []), ("next", .null)])]),
        ("order", .str "asc"), ("limit", .null)]

theorem rx_canon : canonVars rxC₁ 0 rxKvs = rxCanon := by rfl

/-- **`variables_expressible_rust'` on the instance**: some value of the `rust` module's `Variables`
    (`Variables { page: PageInput { order: SortOrder::Desc, .. }, order: Some(SortOrder::Asc), limit: None }`) is
    written as the canonical form of the assignment -/
theorem rx_expressible : ∃ x, HasTy (moduleEnvN rxC₁ rxItems₁) (.path "Variables") x ∧
    Serde.ser (moduleEnvN rxC₁ rxItems₁) (.path "Variables") x = .ok rxCanon := by
  obtain ⟨h1, h2, h3, h4, h5, h6, h7, h8, h9, h10, h11⟩ := rx_hyps
  obtain ⟨x, hx, hs, _⟩ := variables_expressible_rust' Leaves.graphql rxC₁ 0 rxItems₀ rxItems₁ rx_side h1 h2 h3 h4 h5 h6 h7
    h8 h9 h10 int32_sub_i64 h11 rxKvs rxKvs_valid
  exact ⟨x, hx, rx_canon ▸ hs⟩

/-- **`variables_ser_valid_rust'` on the instance**: what that value is written as is a valid assignment (wire leaves) -/
example : ∃ kvs, rxCanon = .obj kvs ∧ VarsValid Leaves.wire rxC₁ 0 kvs := by
  obtain ⟨h1, h2, h3, h4, h5, h6, h7, h8, h9, h10, h11⟩ := rx_hyps
  obtain ⟨x, hx, hs⟩ := rx_expressible
  exact variables_ser_valid_rust' Leaves.wire rxC₁ 0 rxItems₀ rxItems₁ rx_side h1 h2 h3 h4 h5 h6 h7 h8 h9 h10
    (fun _ h => h) rfl h11 x hx _ hs

/-- the value the theorem speaks of, spelled out with the `rust` identifiers -/
def rxVal₁ : Val :=
  .record [("page", .record [("first", .unit), ("after", .unit), ("order", .variant "Desc" none),
                             ("since", .some (.str "2020")), ("ids", .some (.list [.str "a", .str "7"])),
                             ("next", .some (.record [("first", .unit), ("after", .unit), ("order", .variant "Asc" none),
                                                      ("since", .unit), ("ids", .some (.list [])), ("next", .unit)]))]),
           ("order", .some (.variant "Asc" none)), ("limit", .unit)]

set_option maxRecDepth 100000 in
/-- the model's own `to_value` on it, in the `rust` module: the canonical object; in the `rust` module the raw
    identifier `desc` is not a variant (`unmodelled`: the value is not of the type) -/
example :
    (match Serde.ser (moduleEnvN rxC₁ rxItems₁) (.path "Variables") rxVal₁ with
     | .ok j => jsonEqB j rxCanon
     | .error _ => false) = true ∧
    (match Serde.ser (moduleEnvN rxC₁ rxItems₁) (.path "SortOrder") (.variant "desc" none) with
     | .ok _ => false
     | .error _ => true) = true := by decide +kernel

mutual
  /-- structural equality test on `Val` (the derived `BEq` does not reduce in the kernel) -/
  def valEqB : Val → Val → Bool
    | .unit, .unit => true
    | .some a, .some b => valEqB a b
    | .str a, .str b => a == b
    | .int a, .int b => a == b
    | .float a, .float b => jsonEqB a b
    | .bool a, .bool b => a == b
    | .list xs, .list ys => valsEqB xs ys
    | .record xs, .record ys => fieldsEqB xs ys
    | .variant a none, .variant b none => a == b
    | .variant a (some x), .variant b (some y) => a == b && valEqB x y
    | .enumOther a, .enumOther b => a == b
    | _, _ => false
  def valsEqB : List Val → List Val → Bool
    | [], [] => true
    | x :: xs, y :: ys => valEqB x y && valsEqB xs ys
    | _, _ => false
  def fieldsEqB : List (String × Val) → List (String × Val) → Bool
    | [], [] => true
    | (k, x) :: xs, (l, y) :: ys => k == l && valEqB x y && fieldsEqB xs ys
    | _, _ => false
end

def rxJsonStrIds : Json :=
  .obj [("order", .str "asc"),
        ("page", .obj [("ids", .arr [.str "a", .str "7"]), ("order", .str "desc"),
                       ("next", .obj [("order", .str "asc"), ("ids", .arr [])]), ("since", .str "2020")])]

set_option maxRecDepth 100000 in
/-- … and its own `from_value` (IDs given as strings) reads the assignment as that value and writes the canonical
    object back, as the `de` half of `variables_expressible_rust'` says -/
example : (match Serde.de (moduleEnvN rxC₁ rxItems₁) (.path "Variables") rxJsonStrIds with
    | .ok x => valEqB x rxVal₁ && (match Serde.ser (moduleEnvN rxC₁ rxItems₁) (.path "Variables") x with
      | .ok j => jsonEqB j rxCanon
      | .error _ => false)
    | .error _ => false) = true := by decide +kernel

set_option maxRecDepth 100000 in
/-- **the bridge is needed**: read in `moduleEnv rxC₁ …` (externs under the raw names) the `rust` module rejects the
    assignment — its alias `DateTime = super::DateTime` dangles there -/
example :
    (match Serde.de (moduleEnv rxC₁ rxItems₁) (.path "Variables") rxJsonStrIds with
     | .ok _ => false
     | .error _ => true) = true := by decide +kernel

end C04R
end GqlVerif
