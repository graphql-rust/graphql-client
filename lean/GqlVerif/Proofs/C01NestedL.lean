import GqlVerif.Proofs.C01NestedJ
/-!
# `NestedOp`: on `MixedOp` the side conditions are those of `C01Mixed*`

`mixedKeysOk → nestedKeysOk` (given fragment names pairwise distinct) and `mixedRustOk → nestedRustOk`; so `nested_roundtrip`
restricted to `MixedOp` is the statement of `mixed_roundtrip` (`nested_roundtrip_on_M`).
-/

namespace GqlVerif
namespace C01N
open Serde Spec C13 C03 Codegen C01 C01.E2E C01M

/-- a spread-free fragment keeps its rank-`0` keys and side conditions at every rank -/
theorem rank0_stable_side (c : Ctx) (hnd : fragNamesOk c = true) {p : TypeId} {g : Nat} {fr : RFragment}
    (hfr : c.q.fragments[g]? = some fr) (h : fragOk c.s c.q c.o p g = true) : ∀ r,
    KNn c r fr.name = fieldKeys c.s fr.sels ∧ fragSideN c r g = true ∧ rustSideN c r g = rustOkFrag c g
  | 0 => by
    have hid : idOf c.q fr.name = g := idOf_name hnd hfr
    have hsels : fragSels c.q g = fr.sels := by simp [fragSels, hfr]
    exact ⟨by rw [KNn, hid, hsels], by rw [fragSideN], by rw [rustSideN]⟩
  | r + 1 => by
    obtain ⟨f, hf, hon, _⟩ := fragOk_parts h
    rw [hfr] at hf; cases hf
    have hid : idOf c.q fr.name = g := idOf_name hnd hfr
    have hfon : fragOn c.q g = p := by simp [fragOn, hfr, hon]
    have hr : fragOkN c.s c.q c.o r p g = true := fragOkN_zero h
    obtain ⟨i1, i2, i3⟩ := rank0_stable_side c hnd hfr h r
    exact ⟨by rw [KNn, hid, hfon, if_pos hr, i1], by rw [fragSideN, hfon, if_pos hr, i2],
      by rw [rustSideN, hfon, if_pos hr, i3]⟩

theorem mSels_of_mBody {s : Schema} {q : Query} {o : Options} {p : TypeId} {sels : List Sel}
    (h : mBody s q o p sels = true) : mSels s q o p sels = true := by
  rw [← nBody_fragOk] at h
  rw [← nSels_fragOk]
  exact nSels_of_nBody h

theorem expKeysN_eq_M (c : Ctx) (hnd : fragNamesOk c = true) (r : Nat) (p : TypeId) : ∀ (sels : List Sel),
    mSels c.s c.q c.o p sels = true → expKeysN (KNn c r) c sels = expKeys c.s c.q sels
  | [], _ => rfl
  | x :: xs, ht => by
    obtain ⟨hx, hxs⟩ := mSels_cons ht
    have ih := expKeysN_eq_M c hnd r p xs hxs
    cases x with
    | field a fid sub => cases hsf : c.s.fields[fid]? <;> simp [expKeysN, expKeys, ih, hsf]
    | spread g =>
      have hok : fragOk c.s c.q c.o p g = true := by simpa [mSel] using hx
      obtain ⟨fr, hfr, _⟩ := fragOk_parts hok
      have hname : fragName c g = fr.name := by simp [fragName, hfr]
      have hsels : fragSels c.q g = fr.sels := by simp [fragSels, hfr]
      simp only [expKeysN, expKeys, ih, hname, hsels, (rank0_stable_side c hnd hfr hok r).1]
    | inline t sub => simp [mSel] at hx
    | typename => simp only [expKeysN, expKeys, ih]

mutual
  theorem keysOkN_eq_M (c : Ctx) (hnd : fragNamesOk c = true) (r : Nat) : ∀ (x : Sel) (p : TypeId),
      mSel c.s c.q c.o p x = true → keysOkN (KNn c r) c x = keysOkM c.s c.q x
    | .field a fid sub, p => by
      intro ht
      have IH := keysOksN_eq_M c hnd r sub
      obtain ⟨sf, hsf⟩ := mSel_field_some ht
      rw [keysOkN, keysOkM]
      simp only [hsf, Option.map_some]
      cases hid : sf.ty.id with
      | object i =>
        obtain ⟨_, _, _, hbody⟩ := mSel_obj hsf hid ht
        have hm := mSels_of_mBody hbody
        simp only [expKeysN_eq_M c hnd r _ sub hm, IH _ hm]
      | scalar k => rfl
      | «enum» k => rfl
      | interface k => rfl
      | union k => rfl
      | input k => rfl
    | .spread g, _ => by intro _; rfl
    | .inline _ _, _ => by intro _; rfl
    | .typename, _ => by intro _; rfl
  theorem keysOksN_eq_M (c : Ctx) (hnd : fragNamesOk c = true) (r : Nat) : ∀ (sels : List Sel) (p : TypeId),
      mSels c.s c.q c.o p sels = true → keysOksN (KNn c r) c sels = keysOksM c.s c.q sels
    | [], _ => by intro _; rfl
    | x :: xs, p => by
      intro ht
      obtain ⟨hx, hxs⟩ := mSels_cons ht
      rw [keysOksN, keysOksM, keysOkN_eq_M c hnd r x p hx, keysOksN_eq_M c hnd r xs p hxs]
end

/-- the spreads at object positions of a selection set of `MixedOp` are `fragOk` -/
theorem objSpreadss_fragOk (s : Schema) (q : Query) (o : Options) (sels : List Sel) (p : TypeId)
    (h : mSels s q o p sels = true) : ∀ g ∈ objSpreadss s sels, ∃ p', fragOk s q o p' g = true :=
  C01AF.objSpreadss_ok (fragOk s q o) s q o sels p (by rw [nSels_fragOk]; exact h)

theorem nestedKeysOk_of_mixed (c : Ctx) (op : ROperation) (h : MixedOp c op = true) (hnd : fragNamesOk c = true)
    (hk : mixedKeysOk c op = true) : nestedKeysOk c op = true := by
  obtain ⟨_, _, hb⟩ := mixedOp_parts h
  have hm := mSels_of_mBody hb
  simp only [mixedKeysOk, Bool.and_eq_true] at hk
  simp only [nestedKeysOk, Bool.and_eq_true, List.all_eq_true]
  refine ⟨⟨?_, ?_⟩, ?_⟩
  · rw [keysOksN_eq_M c hnd _ op.sels _ hm]; exact hk.1
  · rw [expKeysN_eq_M c hnd _ _ op.sels hm]; exact hk.2
  · intro g hg
    obtain ⟨p', hok⟩ := objSpreadss_fragOk c.s c.q c.o op.sels _ hm g hg
    obtain ⟨fr, hfr, _⟩ := fragOk_parts hok
    exact (rank0_stable_side c hnd hfr hok _).2.1

mutual
  theorem rustOkSelN_of_M (c : Ctx) : ∀ (x : Sel), rustOkSelM c x = true →
      rustOkSelN c x = true ∧ ∀ g ∈ objSpreads c.s x, rustOkFrag c g = true
    | .field a fid sub => by
      intro h
      have IH := rustOkSelsN_of_M c sub
      unfold rustOkSelM at h
      unfold rustOkSelN
      rw [objSpreads]
      cases hsf : c.s.fields[fid]? with
      | none => simp only [hsf, Option.map_none] at h ⊢; exact ⟨h, fun g hg => by cases hg⟩
      | some sf =>
        simp only [hsf, Option.map_some] at h ⊢
        cases hid : sf.ty.id with
        | object i =>
          simp only [hid] at h ⊢
          rcases lone_or_not sub with hsp | hnl
          · obtain ⟨g, rfl⟩ := hsp
            have h' : rustOkFrag c g = true := h
            refine ⟨rfl, fun g' hg' => ?_⟩
            simp only [objSpreadss, objSpreads, List.append_nil, List.mem_singleton] at hg'
            subst hg'; exact h'
          · have h' : (EnumSpec.nodup (rustNamesF c sub) && rustOkSelsM c sub) = true := by
              revert h; split
              · exact fun _ => absurd rfl (hnl _)
              · exact id
            rw [Bool.and_eq_true] at h'
            obtain ⟨i1, i2⟩ := IH h'.2
            refine ⟨?_, i2⟩
            split
            · exact absurd rfl (hnl _)
            · simp [h'.1, i1]
        | scalar k => simp only [hid] at h ⊢; exact ⟨h, fun g hg => by cases hg⟩
        | «enum» k => simp only [hid] at h ⊢; exact ⟨h, fun g hg => by cases hg⟩
        | interface k => simp only [hid] at h ⊢; exact ⟨h, fun g hg => by cases hg⟩
        | union k => simp only [hid] at h ⊢; exact ⟨h, fun g hg => by cases hg⟩
        | input k => simp only [hid] at h ⊢; exact ⟨h, fun g hg => by cases hg⟩
    | .spread g => by
      intro h
      have h' : rustOkFrag c g = true := by simpa [rustOkSelM] using h
      refine ⟨by simp [rustOkSelN], fun g' hg' => ?_⟩
      simp only [objSpreads, List.mem_singleton] at hg'
      subst hg'; exact h'
    | .inline _ _ => by intro _; exact ⟨by simp [rustOkSelN], fun g hg => by simp [objSpreads] at hg⟩
    | .typename => by intro _; exact ⟨by simp [rustOkSelN], fun g hg => by simp [objSpreads] at hg⟩
  theorem rustOkSelsN_of_M (c : Ctx) : ∀ (sels : List Sel), rustOkSelsM c sels = true →
      rustOkSelsN c sels = true ∧ ∀ g ∈ objSpreadss c.s sels, rustOkFrag c g = true
    | [] => by intro _; exact ⟨rfl, fun g hg => by simp [objSpreadss] at hg⟩
    | x :: xs => by
      intro h
      rw [rustOkSelsM, Bool.and_eq_true] at h
      obtain ⟨a1, a2⟩ := rustOkSelN_of_M c x h.1
      obtain ⟨b1, b2⟩ := rustOkSelsN_of_M c xs h.2
      refine ⟨by rw [rustOkSelsN, a1, b1]; rfl, fun g hg => ?_⟩
      rw [objSpreadss, List.mem_append] at hg
      rcases hg with hg | hg
      · exact a2 g hg
      · exact b2 g hg
end

theorem nestedRustOk_of_mixed (c : Ctx) (op : ROperation) (h : MixedOp c op = true) (hnd : fragNamesOk c = true)
    (hr : mixedRustOk c op = true) : nestedRustOk c op = true := by
  obtain ⟨_, _, hb⟩ := mixedOp_parts h
  have hm := mSels_of_mBody hb
  simp only [mixedRustOk, Bool.and_eq_true] at hr
  obtain ⟨a1, a2⟩ := rustOkSelsN_of_M c op.sels hr.1
  simp only [nestedRustOk, Bool.and_eq_true, List.all_eq_true]
  refine ⟨⟨a1, hr.2⟩, ?_⟩
  intro g hg
  obtain ⟨p', hok⟩ := objSpreadss_fragOk c.s c.q c.o op.sels _ hm g hg
  obtain ⟨fr, hfr, _⟩ := fragOk_parts hok
  rw [(rank0_stable_side c hnd hfr hok _).2.2]
  exact a2 g hg

/-- **on `MixedOp`, `nested_roundtrip` is the statement of `mixed_roundtrip`** (hypotheses and conclusion) -/
theorem nested_roundtrip_on_M (c : Ctx) (opIdx : Nat) (op : ROperation) (items : List Item)
    (hop : c.q.operations[opIdx]? = some op) (ht : MixedOp c op = true) (hnd : fragNamesOk c = true)
    (hk : mixedKeysOk c op = true) (hr : mixedRustOk c op = true)
    (hgen : responseForQuery c opIdx = .ok items) (hok : moduleOk c items = true)
    (j : Json) (hc : conformsOpM c op j = true) :
    Serde.roundtrip (moduleEnv c items) (.path "ResponseData") j =
      .ok (normJson (canonSelM c.s c.q c.o.skipNone op.sels j)) := by
  rw [← canonSelN_eq_M c op ht j]
  exact nested_roundtrip c opIdx op items hop (nestedOp_of_mixedOp c op ht) hnd (nestedKeysOk_of_mixed c op ht hnd hk)
    (nestedRustOk_of_mixed c op ht hnd hr) hgen hok j (by rw [conformsOpN_eq_M c op ht]; exact hc)

end C01N
end GqlVerif
