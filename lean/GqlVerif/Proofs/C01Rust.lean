import GqlVerif.Proofs.C01RecursiveD
import GqlVerif.Proofs.C01AbstractM
import GqlVerif.Proofs.C09Normalization
/-!
# C01 / C03 end to end under `normalization = rust`, by transfer

The end-to-end theorems of `C01EndToEnd` (`TreeOp`), `C01Abstract` (`VariantOp`), `C01AbstractM` (`FragmentOp`) and
`C01RecursiveC/D` (`RecFragmentOp`) all require `c.o.normalization = none`.  `C09Normalization.lean` shows that, under
decidable side conditions, the `none` and the `rust` module read and write the same JSON at `ResponseData`
(`normalization_wire_invariant_of_names`).  This file composes the two; the hypotheses are the union of those of the two
theorems composed.

**Bridge of the environments.**  The end-to-end theorems read a module in `moduleEnv c items`, whose externs are named
`<scalars module>::<raw scalar name>`.  A module generated under `rust` refers to `<scalars module>::<CamelName>`:
`moduleEnv c₁ items₁` is the *wrong* environment for it (`moduleEnv_wrong_for_rust`: the good reply is rejected there).
`customExternsN` / `moduleEnvN` name the externs after `normalization.scalarName`; under `none` this is `moduleEnv`
(`moduleEnvN_none`).

`WireSide c₀ c₁ opIdx items₀ items₁ x₀ x₁` packs exactly the hypotheses of `normalization_wire_invariant_of_names`, all
decidable for concrete data; `RustSide` is `WireSide` at `customExterns c₀` / `customExternsN c₁`.

For each class `X ∈ {tree, variant, fragment, recfragment}`, `X_accepts_rust`, `X_roundtrip_rust`, `X_lossless_rust`,
`X_precise_iff_rust`: if `XOp c₀ op` and the side conditions of the `none` theorem hold of `c₀` / `items₀`, and
`RustSide c₀ c₁ …`, then `c₁`'s module accepts every conforming payload, writes it back as the *same* canonical form
(`canonSel c₀.s c₀.o.skipNone …` — a function of the schema, the query and `skipNone`, which `c₀` and `c₁` share: it
does not mention Rust names), and accepts exactly the loose specification.  The statements are for any `c₀`, `c₁` with
`NormAgree c₀ c₁` (so `c₁` may also differ in derives, serde path, scalars module); with `c₀ := noNorm c₁` every
`c₀.s`, `c₀.q`, `c₀.o.skipNone` below is definitionally `c₁`'s.
-/
namespace GqlVerif
namespace C01
namespace E2E
open Serde Spec C03 Codegen C09N

/-! ## the `none` counterpart of a context, and the environment of a normalized module -/

def noNorm (c : Ctx) : Ctx := { c with o := { c.o with normalization := .none } }

theorem normAgree_noNorm (c : Ctx) : NormAgree (noNorm c) c :=
  { s := rfl, q := rfl, cs := rfl, otherVariant := rfl, skipNone := rfl, deprecation := rfl, externEnums := rfl }

/-- externs of a module generated under any normalization: every custom scalar `n` of the schema is supplied by the
    consumer as `String`, **under the name the module's alias refers to**, `<scalars module>::<scalarName n>` -/
def customExternsN (c : Ctx) : List (String × RTy) :=
  (c.s.scalars.filter (fun n => !Schema.defaultScalars.contains n)).map
    (fun n => ((c.o.scalarsModule.getD "super") ++ "::" ++ c.o.normalization.scalarName c.cs n, RTy.path "String"))

/-- the environment in which a module emitted under any normalization is read: the consumer supplies the custom scalars
    (`customExternsN`).  `C04R.moduleEnvN`, for variables, also supplies the extern enums -/
def moduleEnvN (c : Ctx) (items : List Item) : Env := { items := items, externs := customExternsN c }

theorem customExternsN_none {c : Ctx} (h : c.o.normalization = .none) : customExternsN c = customExterns c := by
  unfold customExternsN customExterns
  simp only [h, Normalization.scalarName, Normalization.camelCase]

theorem moduleEnvN_none {c : Ctx} (h : c.o.normalization = .none) (items : List Item) :
    moduleEnvN c items = moduleEnv c items := by
  unfold moduleEnvN moduleEnv; rw [customExternsN_none h]

/-- the two extern lists have the same shape (all `String`, one per custom scalar of the common schema) -/
theorem customExterns_sameShape {c₀ c₁ : Ctx} (hs : c₁.s = c₀.s) :
    (customExterns c₀).map (fun x => eraseTy x.2) = (customExternsN c₁).map (fun x => eraseTy x.2) := by
  unfold customExterns customExternsN
  simp only [hs, List.map_map, Function.comp_def]

/-! ## the generic transfer lemmas -/

theorem okB_of_drel {α β} {S : α → β → Prop} {x : D α} {y : D β} (h : DRel S x y) : okB y = okB x := by
  cases x <;> cases y <;> simp_all [DRel, okB]

/-- the side conditions of `normalization_wire_invariant_of_names`, for two generated modules read in the
    environments `e₀ = {items₀, x₀}`, `e₁ = {items₁, x₁}` -/
structure WireSide (c₀ c₁ : Ctx) (opIdx : Nat) (items₀ items₁ : List Item) (x₀ x₁ : List (String × RTy)) : Prop where
  agree : NormAgree c₀ c₁
  idStable : IdStable c₀ c₁
  gen₀ : responseForQuery c₀ opIdx = .ok items₀
  gen₁ : responseForQuery c₁ opIdx = .ok items₁
  shape : x₀.map (fun x => eraseTy x.2) = x₁.map (fun x => eraseTy x.2)
  names : NamesInjective { items := items₀, externs := x₀ } { items := items₁, externs := x₁ }
  enums : EnumIdentsInjective c₀ c₁
  wf : FieldsWF { items := items₀, externs := x₀ }

section Transfer
variable {c₀ c₁ : Ctx} {opIdx : Nat} {items₀ items₁ : List Item} {x₀ x₁ : List (String × RTy)}
  (W : WireSide c₀ c₁ opIdx items₀ items₁ x₀ x₁)
include W

theorem WireSide.wire :
    (∀ j, DRel (VRel (Corr { items := items₀, externs := x₀ } { items := items₁, externs := x₁ })
        { items := items₀, externs := x₀ } { items := items₁, externs := x₁ } (.path "ResponseData"))
      (Serde.de { items := items₀, externs := x₀ } (.path "ResponseData") j)
      (Serde.de { items := items₁, externs := x₁ } (.path "ResponseData") j)) ∧
    (∀ j, DRel Eq (Serde.roundtrip { items := items₀, externs := x₀ } (.path "ResponseData") j)
      (Serde.roundtrip { items := items₁, externs := x₁ } (.path "ResponseData") j)) :=
  let h := normalization_wire_invariant_of_names W.agree W.idStable opIdx W.gen₀ W.gen₁ x₀ x₁ W.shape W.names W.enums W.wf
  ⟨h.2.1, h.2.2.1⟩

theorem transfer_okB (j : Json) :
    okB (Serde.de { items := items₁, externs := x₁ } (.path "ResponseData") j) =
    okB (Serde.de { items := items₀, externs := x₀ } (.path "ResponseData") j) :=
  okB_of_drel (W.wire.1 j)

theorem transfer_accepts (j : Json)
    (h : ∃ v, Serde.de { items := items₀, externs := x₀ } (.path "ResponseData") j = .ok v) :
    ∃ v, Serde.de { items := items₁, externs := x₁ } (.path "ResponseData") j = .ok v := by
  rw [← okB_iff] at h ⊢
  rw [transfer_okB W j]; exact h

theorem transfer_roundtrip (j out : Json) :
    Serde.roundtrip { items := items₀, externs := x₀ } (.path "ResponseData") j = .ok out ↔
    Serde.roundtrip { items := items₁, externs := x₁ } (.path "ResponseData") j = .ok out :=
  (W.wire.2 j).eq_ok_iff out

/-- whatever the second module read is written back as the first module's round trip -/
theorem transfer_lossless (j out : Json)
    (h : Serde.roundtrip { items := items₀, externs := x₀ } (.path "ResponseData") j = .ok out) (v : Val)
    (hd : Serde.de { items := items₁, externs := x₁ } (.path "ResponseData") j = .ok v) :
    Serde.ser { items := items₁, externs := x₁ } (.path "ResponseData") v = .ok out := by
  have := (transfer_roundtrip W j out).mp h
  unfold Serde.roundtrip at this
  rw [hd] at this
  exact this

end Transfer

/-! ## the hypotheses, for the environments of the end-to-end theorems -/

/-- the side conditions of `normalization_wire_invariant_of_names` for the two generated modules, read in
    `moduleEnv c₀ items₀` (the environment of the end-to-end theorems) and `moduleEnvN c₁ items₁` -/
abbrev RustSide (c₀ c₁ : Ctx) (opIdx : Nat) (items₀ items₁ : List Item) : Prop :=
  WireSide c₀ c₁ opIdx items₀ items₁ (customExterns c₀) (customExternsN c₁)

/-- `RustSide` from its decidable parts (the shape condition on the externs is automatic) -/
theorem RustSide.mk' {c₀ c₁ : Ctx} {opIdx : Nat} {items₀ items₁ : List Item} (H : NormAgree c₀ c₁)
    (hid : IdStable c₀ c₁) (h₀ : responseForQuery c₀ opIdx = .ok items₀) (h₁ : responseForQuery c₁ opIdx = .ok items₁)
    (hn : NamesInjective (moduleEnv c₀ items₀) (moduleEnvN c₁ items₁)) (he : EnumIdentsInjective c₀ c₁)
    (hwf : FieldsWF (moduleEnv c₀ items₀)) : RustSide c₀ c₁ opIdx items₀ items₁ :=
  { agree := H, idStable := hid, gen₀ := h₀, gen₁ := h₁, shape := customExterns_sameShape H.s, names := hn,
    enums := he, wf := hwf }

/-- the case `c₀ = noNorm c₁`: `NormAgree` holds by construction -/
theorem RustSide.of_noNorm {c₁ : Ctx} {opIdx : Nat} {items₀ items₁ : List Item}
    (hid : IdStable (noNorm c₁) c₁) (h₀ : responseForQuery (noNorm c₁) opIdx = .ok items₀)
    (h₁ : responseForQuery c₁ opIdx = .ok items₁)
    (hn : NamesInjective (moduleEnv (noNorm c₁) items₀) (moduleEnvN c₁ items₁))
    (he : EnumIdentsInjective (noNorm c₁) c₁) (hwf : FieldsWF (moduleEnv (noNorm c₁) items₀)) :
    RustSide (noNorm c₁) c₁ opIdx items₀ items₁ :=
  RustSide.mk' (normAgree_noNorm c₁) hid h₀ h₁ hn he hwf

/-- generation under `c₁` succeeds as soon as it does under `c₀` (so `gen₁` only names the result) -/
theorem gen₁_of_gen₀ {c₀ c₁ : Ctx} (H : NormAgree c₀ c₁) (hid : IdStable c₀ c₁) {opIdx : Nat} {items₀ : List Item}
    (h₀ : responseForQuery c₀ opIdx = .ok items₀) : ∃ items₁, responseForQuery c₁ opIdx = .ok items₁ :=
  let ⟨i, h, _⟩ := normalization_only_renames_ok H hid opIdx items₀ h₀
  ⟨i, h⟩

section Classes
variable {c₀ c₁ : Ctx} {opIdx : Nat} {op : ROperation} {items₀ items₁ : List Item}
  (W : RustSide c₀ c₁ opIdx items₀ items₁)
include W

/-! ## `TreeOp` -/

theorem tree_accepts_rust (hop : c₀.q.operations[opIdx]? = some op) (ht : TreeOp c₀ op = true)
    (hok : moduleOk c₀ items₀ = true) (j : Json) (hc : conformsOp c₀ op j = true) :
    ∃ v, Serde.de (moduleEnvN c₁ items₁) (.path "ResponseData") j = .ok v :=
  transfer_accepts W j (tree_accepts c₀ opIdx op items₀ hop ht W.gen₀ hok j hc)

theorem tree_roundtrip_rust (hop : c₀.q.operations[opIdx]? = some op) (ht : TreeOp c₀ op = true)
    (hok : moduleOk c₀ items₀ = true) (hro : rustOkSels c₀ op.sels = true)
    (hrn : EnumSpec.nodup (rustNames c₀ op.sels) = true) (j : Json) (hc : conformsOp c₀ op j = true) :
    Serde.roundtrip (moduleEnvN c₁ items₁) (.path "ResponseData") j = .ok (canonSel c₀.s c₀.o.skipNone op.sels j) :=
  (transfer_roundtrip W j _).mp (tree_roundtrip c₀ opIdx op items₀ hop ht W.gen₀ hok hro hrn j hc)

theorem tree_lossless_rust (hop : c₀.q.operations[opIdx]? = some op) (ht : TreeOp c₀ op = true)
    (hok : moduleOk c₀ items₀ = true) (hro : rustOkSels c₀ op.sels = true)
    (hrn : EnumSpec.nodup (rustNames c₀ op.sels) = true) (j : Json) (hc : conformsOp c₀ op j = true) (v : Val)
    (hd : Serde.de (moduleEnvN c₁ items₁) (.path "ResponseData") j = .ok v) :
    Serde.ser (moduleEnvN c₁ items₁) (.path "ResponseData") v = .ok (canonSel c₀.s c₀.o.skipNone op.sels j) :=
  transfer_lossless W j _ (tree_roundtrip c₀ opIdx op items₀ hop ht W.gen₀ hok hro hrn j hc) v hd

theorem tree_precise_iff_rust (hop : c₀.q.operations[opIdx]? = some op) (ht : TreeOp c₀ op = true)
    (hok : moduleOk c₀ items₀ = true) (j : Json) :
    okB (Serde.de (moduleEnvN c₁ items₁) (.path "ResponseData") j) = conformsSelLoose c₀.s op.sels j :=
  (transfer_okB W j).trans (tree_precise_iff c₀ opIdx op items₀ hop ht W.gen₀ hok j)

/-! ## `VariantOp` -/

theorem variant_accepts_rust (hop : c₀.q.operations[opIdx]? = some op) (ht : VariantOp c₀ op = true)
    (hok : moduleOk c₀ items₀ = true) (j : Json) (hc : conformsOpV c₀ op j = true) :
    ∃ v, Serde.de (moduleEnvN c₁ items₁) (.path "ResponseData") j = .ok v :=
  transfer_accepts W j (variant_accepts c₀ opIdx op items₀ hop ht W.gen₀ hok j hc)

theorem variant_roundtrip_rust (hop : c₀.q.operations[opIdx]? = some op) (ht : VariantOp c₀ op = true)
    (hok : moduleOk c₀ items₀ = true) (hro : rustOkSelsV c₀ op.sels = true)
    (hrn : EnumSpec.nodup (rustNames c₀ op.sels) = true) (j : Json) (hc : conformsOpV c₀ op j = true) :
    Serde.roundtrip (moduleEnvN c₁ items₁) (.path "ResponseData") j = .ok (canonSelV c₀.s c₀.o.skipNone op.sels j) :=
  (transfer_roundtrip W j _).mp (variant_roundtrip c₀ opIdx op items₀ hop ht W.gen₀ hok hro hrn j hc)

theorem variant_lossless_rust (hop : c₀.q.operations[opIdx]? = some op) (ht : VariantOp c₀ op = true)
    (hok : moduleOk c₀ items₀ = true) (hro : rustOkSelsV c₀ op.sels = true)
    (hrn : EnumSpec.nodup (rustNames c₀ op.sels) = true) (j : Json) (hc : conformsOpV c₀ op j = true) (v : Val)
    (hd : Serde.de (moduleEnvN c₁ items₁) (.path "ResponseData") j = .ok v) :
    Serde.ser (moduleEnvN c₁ items₁) (.path "ResponseData") v = .ok (canonSelV c₀.s c₀.o.skipNone op.sels j) :=
  transfer_lossless W j _ (variant_roundtrip c₀ opIdx op items₀ hop ht W.gen₀ hok hro hrn j hc) v hd

theorem variant_precise_iff_rust (hop : c₀.q.operations[opIdx]? = some op) (ht : VariantOp c₀ op = true)
    (hok : moduleOk c₀ items₀ = true) (j : Json) :
    okB (Serde.de (moduleEnvN c₁ items₁) (.path "ResponseData") j) = conformsLooseV c₀.s c₀.o false op.sels j :=
  (transfer_okB W j).trans (variant_precise_iff c₀ opIdx op items₀ hop ht W.gen₀ hok j)

/-! ## `FragmentOp` -/

theorem fragment_accepts_rust (hop : c₀.q.operations[opIdx]? = some op) (ht : FragmentOp c₀ op = true)
    (hk : fragKeysOk c₀ op = true) (hok : moduleOk c₀ items₀ = true) (j : Json) (hc : conformsOpF c₀ op j = true) :
    ∃ v, Serde.de (moduleEnvN c₁ items₁) (.path "ResponseData") j = .ok v :=
  transfer_accepts W j (fragment_accepts c₀ opIdx op items₀ hop ht hk W.gen₀ hok j hc)

theorem fragment_roundtrip_rust (hop : c₀.q.operations[opIdx]? = some op) (ht : FragmentOp c₀ op = true)
    (hk : fragKeysOk c₀ op = true) (hr : fragRustOk c₀ op = true) (hok : moduleOk c₀ items₀ = true)
    (j : Json) (hc : conformsOpF c₀ op j = true) :
    Serde.roundtrip (moduleEnvN c₁ items₁) (.path "ResponseData") j =
      .ok (canonSelF c₀.s c₀.q c₀.o.skipNone op.sels j) :=
  (transfer_roundtrip W j _).mp (fragment_roundtrip c₀ opIdx op items₀ hop ht hk hr W.gen₀ hok j hc)

theorem fragment_lossless_rust (hop : c₀.q.operations[opIdx]? = some op) (ht : FragmentOp c₀ op = true)
    (hk : fragKeysOk c₀ op = true) (hr : fragRustOk c₀ op = true) (hok : moduleOk c₀ items₀ = true)
    (j : Json) (hc : conformsOpF c₀ op j = true) (v : Val)
    (hd : Serde.de (moduleEnvN c₁ items₁) (.path "ResponseData") j = .ok v) :
    Serde.ser (moduleEnvN c₁ items₁) (.path "ResponseData") v = .ok (canonSelF c₀.s c₀.q c₀.o.skipNone op.sels j) :=
  transfer_lossless W j _ (fragment_roundtrip c₀ opIdx op items₀ hop ht hk hr W.gen₀ hok j hc) v hd

theorem fragment_precise_iff_rust (hop : c₀.q.operations[opIdx]? = some op) (ht : FragmentOp c₀ op = true)
    (hk : fragKeysOk c₀ op = true) (hok : moduleOk c₀ items₀ = true) (j : Json) :
    okB (Serde.de (moduleEnvN c₁ items₁) (.path "ResponseData") j) = conformsLooseF c₀.s c₀.q c₀.o false op.sels j :=
  (transfer_okB W j).trans (fragment_precise_iff c₀ opIdx op items₀ hop ht hk W.gen₀ hok j)

/-! ## `RecFragmentOp` -/

theorem recfragment_accepts_rust (hop : c₀.q.operations[opIdx]? = some op) (ht : RecFragmentOp c₀ op = true)
    (hk : recKeysOk c₀ op = true) (hok : moduleOk c₀ items₀ = true)
    (j : Json) (k : Nat) (hkj : 2 * jsonSize j ≤ k) (hc : conformsOpR c₀ op k j = true) :
    ∃ v, Serde.de (moduleEnvN c₁ items₁) (.path "ResponseData") j = .ok v :=
  transfer_accepts W j (recfragment_accepts c₀ opIdx op items₀ hop ht hk W.gen₀ hok j k hkj hc)

theorem recfragment_roundtrip_rust (hop : c₀.q.operations[opIdx]? = some op) (ht : RecFragmentOp c₀ op = true)
    (hk : recKeysOk c₀ op = true) (hr : recRustOk c₀ op = true) (hok : moduleOk c₀ items₀ = true)
    (j : Json) (k : Nat) (hkj : 2 * jsonSize j ≤ k) (hc : conformsOpR c₀ op k j = true) :
    Serde.roundtrip (moduleEnvN c₁ items₁) (.path "ResponseData") j =
      .ok (canonR c₀.s c₀.q c₀.o.skipNone (jsonSize j) op.sels j) :=
  (transfer_roundtrip W j _).mp (recfragment_roundtrip c₀ opIdx op items₀ hop ht hk hr W.gen₀ hok j k hkj hc)

theorem recfragment_lossless_rust (hop : c₀.q.operations[opIdx]? = some op) (ht : RecFragmentOp c₀ op = true)
    (hk : recKeysOk c₀ op = true) (hr : recRustOk c₀ op = true) (hok : moduleOk c₀ items₀ = true)
    (j : Json) (k : Nat) (hkj : 2 * jsonSize j ≤ k) (hc : conformsOpR c₀ op k j = true) (v : Val)
    (hd : Serde.de (moduleEnvN c₁ items₁) (.path "ResponseData") j = .ok v) :
    Serde.ser (moduleEnvN c₁ items₁) (.path "ResponseData") v =
      .ok (canonR c₀.s c₀.q c₀.o.skipNone (jsonSize j) op.sels j) :=
  transfer_lossless W j _ (recfragment_roundtrip c₀ opIdx op items₀ hop ht hk hr W.gen₀ hok j k hkj hc) v hd

theorem recfragment_precise_iff_rust (hop : c₀.q.operations[opIdx]? = some op) (ht : RecFragmentOp c₀ op = true)
    (hk : recKeysOk c₀ op = true) (hok : moduleOk c₀ items₀ = true) (j : Json) :
    okB (Serde.de (moduleEnvN c₁ items₁) (.path "ResponseData") j) =
      conformsLooseR c₀.s c₀.q c₀.o (jsonSize j) false op.sels j :=
  (transfer_okB W j).trans (recfragment_precise_iff c₀ opIdx op items₀ hop ht hk W.gen₀ hok j)

end Classes

/-! ## concrete instances: every hypothesis holds, the two modules differ in names, the theorems apply

In each instance `c₁` has `normalization = rust`, `c₀ = noNorm c₁`, both modules are generated by the model
(`C09N.itemsOf`), and every hypothesis is evaluated (`decide +kernel`). -/

/-! ### `TreeOp`: the good instance of `C09Normalization.lean`

`scalar date_time`, `scalar url`, `enum color_kind { red dark_blue }`, `query Q($f: filter_in) { color at until }`;
under `rust` the module says `ColorKind { Red, DarkBlue }`, `DateTime`, `Url`, `FilterIn`. -/

def okC₁ : Ctx := C09N.exCtx okSchema okTbl .rust
def okOp : ROperation :=
  { name := "Q", kind := .query, objectId := 0, sels := [.field none 0 [], .field none 1 [], .field none 2 []] }

/-- the contexts / environments are those of `C09Normalization.lean` (`okE₀`, `okE₁`) -/
example : noNorm okC₁ = C09N.exCtx okSchema okTbl .none ∧ customExterns (noNorm okC₁) = okX₀ ∧
    customExternsN okC₁ = okX₁ := ⟨rfl, by decide +kernel, by decide +kernel⟩

theorem ok_side : RustSide (noNorm okC₁) okC₁ 0 okE₀.items okE₁.items :=
  have h : IdStable (noNorm okC₁) okC₁ ∧ genOk (noNorm okC₁) = true ∧ genOk okC₁ = true ∧
      NamesInjective (moduleEnv (noNorm okC₁) okE₀.items) (moduleEnvN okC₁ okE₁.items) ∧
      EnumIdentsInjective (noNorm okC₁) okC₁ ∧ FieldsWF (moduleEnv (noNorm okC₁) okE₀.items) := by decide +kernel
  RustSide.of_noNorm h.1 (itemsOf_ok h.2.1) (itemsOf_ok h.2.2.1) h.2.2.2.1 h.2.2.2.2.1 h.2.2.2.2.2

theorem ok_class : TreeOp (noNorm okC₁) okOp = true ∧ moduleOk (noNorm okC₁) okE₀.items = true ∧
    rustOkSels (noNorm okC₁) okOp.sels = true ∧ EnumSpec.nodup (rustNames (noNorm okC₁) okOp.sels) = true ∧
    (okE₀.items != okE₁.items) = true :=
  by decide +kernel

def okJson : Json := .obj [("until", .null), ("color", .str "dark_blue"), ("at", .str "2020")]
def okCanon : Json := .obj [("color", .str "dark_blue"), ("at", .str "2020"), ("until", .null)]

theorem ok_conforms : conformsOp (noNorm okC₁) okOp okJson = true := by
  simp [conformsOp, rootName, conformsSel, confSels, confSel, noNorm, okC₁, C09N.exCtx, okSchema, C09N.exSchema, okOp,
    okJson, Json.lookup, accepts, acceptsNN, gtyOf, scalarOk, stringOk, Json.isNull, EnumSpec.nodup, respKeys, respKey]

/-- the `rust` module (`ColorKind::DarkBlue`, `DateTime`, …) reads the reply and writes the canonical form back -/
example : Serde.roundtrip (moduleEnvN okC₁ okE₁.items) (.path "ResponseData") okJson = .ok okCanon :=
  tree_roundtrip_rust ok_side (op := okOp) rfl ok_class.1 ok_class.2.1 ok_class.2.2.1 ok_class.2.2.2.1 okJson ok_conforms

set_option maxRecDepth 100000 in
/-- … and rejects a reply with a missing non-null key -/
example : okB (Serde.de (moduleEnvN okC₁ okE₁.items) (.path "ResponseData") (.obj [("at", .str "2020")])) = false := by
  rw [tree_precise_iff_rust ok_side (op := okOp) rfl ok_class.1 ok_class.2.1]; decide +kernel

/-- **the bridge is needed**: read in `moduleEnv okC₁ …` (externs under the raw scalar names, `super::date_time`) the
    `rust` module rejects the good reply — its alias `DateTime = super::DateTime` dangles there -/
theorem moduleEnv_wrong_for_rust :
    okB (Serde.de (moduleEnv okC₁ okE₁.items) (.path "ResponseData") okJson) = false ∧
    okB (Serde.de (moduleEnvN okC₁ okE₁.items) (.path "ResponseData") okJson) = true :=
  by decide +kernel

/-! ### the other classes: one schema, three operations

`interface Character { name: String! }`,
`type Human implements Character { name born: date_time mood: mood_kind! friend: Human }`,
`type Droid implements Character { name }`, `enum mood_kind { happy very_sad }`, `scalar date_time`,
`type Query { hero: Character, me: Human }`; under `rust`: `MoodKind { Happy, VerySad }`, `DateTime`. -/

def nxSchema : Schema :=
  { objects := [{ name := "Query", fields := [0, 1], implements := [] },
                { name := "Human", fields := [2, 3, 4, 5], implements := [0] },
                { name := "Droid", fields := [2], implements := [0] }]
    fields := [{ name := "hero", ty := { id := .interface 0, quals := [] }, parent := .object 0, deprecation := none },
               { name := "me", ty := { id := .object 1, quals := [] }, parent := .object 0, deprecation := none },
               { name := "name", ty := { id := .scalar 1, quals := [.required] }, parent := .interface 0, deprecation := none },
               { name := "born", ty := { id := .scalar 5, quals := [] }, parent := .object 1, deprecation := none },
               { name := "mood", ty := { id := .enum 0, quals := [.required] }, parent := .object 1, deprecation := none },
               { name := "friend", ty := { id := .object 1, quals := [] }, parent := .object 1, deprecation := none }]
    interfaces := [{ name := "Character", fields := [2] }]
    enums := [{ name := "mood_kind", variants := ["happy", "very_sad"] }]
    scalars := ["ID", "String", "Int", "Float", "Boolean", "date_time"] }

def nxTbl : List (String × String) :=
  [("mood_kind", "MoodKind"), ("happy", "Happy"), ("very_sad", "VerySad"), ("date_time", "DateTime")]

def nxCtx (q : Query) : Ctx :=
  { s := nxSchema, q := q, o := { normalization := .rust }, cs := { snake := id, camel := tblCamel nxTbl } }

/-- what the instances have in common: `RustSide` for the two generated modules, `moduleOk` of the `none` module, and
    the two modules differ -/
def NxOk (q : Query) : Prop :=
  RustSide (noNorm (nxCtx q)) (nxCtx q) 0 (itemsOf (noNorm (nxCtx q))) (itemsOf (nxCtx q)) ∧
  moduleOk (noNorm (nxCtx q)) (itemsOf (noNorm (nxCtx q))) = true ∧
  (itemsOf (noNorm (nxCtx q)) != itemsOf (nxCtx q)) = true

/-- `IdStable` and `EnumIdentsInjective` look at the schema, the case functions and the normalization only: on
    `nxSchema` / `nxTbl` they hold whatever the query is -/
theorem nx_idStable (q : Query) : IdStable (noNorm (nxCtx q)) (nxCtx q) :=
  (by decide +kernel : IdStable (noNorm (nxCtx {})) (nxCtx {}))

theorem nx_enums (q : Query) : EnumIdentsInjective (noNorm (nxCtx q)) (nxCtx q) :=
  (by decide +kernel : EnumIdentsInjective (noNorm (nxCtx {})) (nxCtx {}))

/-- `NxOk q` from its parts that depend on the query, so that one evaluation of the two generated modules serves
    all of them -/
theorem NxOk.of_parts {q : Query}
    (h : genOk (noNorm (nxCtx q)) = true ∧ genOk (nxCtx q) = true ∧
      NamesInjective (moduleEnv (noNorm (nxCtx q)) (itemsOf (noNorm (nxCtx q)))) (moduleEnvN (nxCtx q) (itemsOf (nxCtx q))) ∧
      FieldsWF (moduleEnv (noNorm (nxCtx q)) (itemsOf (noNorm (nxCtx q)))) ∧
      moduleOk (noNorm (nxCtx q)) (itemsOf (noNorm (nxCtx q))) = true ∧
      (itemsOf (noNorm (nxCtx q)) != itemsOf (nxCtx q)) = true) : NxOk q :=
  ⟨RustSide.of_noNorm (nx_idStable _) (itemsOf_ok h.1) (itemsOf_ok h.2.1) h.2.2.1 (nx_enums _) h.2.2.2.1,
    h.2.2.2.2.1, h.2.2.2.2.2⟩

/-! #### `VariantOp`: `query Q { hero { __typename name ... on Human { born mood } } }` -/

def nvOp : ROperation :=
  { name := "Q", kind := .query, objectId := 0,
    sels := [.field none 0 [.typename, .field none 2 [], .inline (.object 1) [.field none 3 [], .field none 4 []]]] }
def nvQuery : Query := { operations := [nvOp] }

theorem nv_ok : NxOk nvQuery :=
  NxOk.of_parts (by decide +kernel)

theorem nv_class : VariantOp (noNorm (nxCtx nvQuery)) nvOp = true ∧ rustOkSelsV (noNorm (nxCtx nvQuery)) nvOp.sels = true ∧
    EnumSpec.nodup (rustNames (noNorm (nxCtx nvQuery)) nvOp.sels) = true :=
  by decide +kernel

def nvJson : Json :=
  .obj [("hero", .obj [("born", .str "1977"), ("__typename", .str "Human"), ("mood", .str "very_sad"), ("name", .str "Luke")])]
def nvCanon : Json :=
  .obj [("hero", .obj [("name", .str "Luke"), ("__typename", .str "Human"), ("born", .str "1977"), ("mood", .str "very_sad")])]

theorem nv_conforms : conformsOpV (noNorm (nxCtx nvQuery)) nvOp nvJson = true := by
  rw [conformsOpV, conformsV_eq_K]
  decide +kernel

theorem nv_canon : canonSelV nxSchema false nvOp.sels nvJson = nvCanon := by
  simp [canonSelV, canonEntriesV, canonFieldV, canonInlV, canon, canonNN, gtyOf, nxSchema, nvOp, nvJson, nvCanon,
    Json.lookup, skipQ, Json.isNull, tagName, objName, rtName]

/-- the `rust` module (`MoodKind::VerySad` behind the `Human` variant of the tagged enum, `DateTime`) reads the reply
    and writes the canonical form back -/
example : Serde.roundtrip (moduleEnvN (nxCtx nvQuery) (itemsOf (nxCtx nvQuery))) (.path "ResponseData") nvJson = .ok nvCanon := by
  rw [← nv_canon]
  exact variant_roundtrip_rust nv_ok.1 (op := nvOp) rfl nv_class.1 nv_ok.2.1 nv_class.2.1 nv_class.2.2 nvJson nv_conforms

/-- … and rejects a wrong kind at the enum position inside the variant -/
example : okB (Serde.de (moduleEnvN (nxCtx nvQuery) (itemsOf (nxCtx nvQuery))) (.path "ResponseData")
    (.obj [("hero", .obj [("__typename", .str "Human"), ("name", .str "x"), ("mood", .int 3)])])) = false := by
  rw [variant_precise_iff_rust nv_ok.1 (op := nvOp) rfl nv_class.1 nv_ok.2.1]
  simp [conformsLooseV, looseSelsV, looseFieldV, loosePayV, tagOkV, noNorm, nxCtx, nxSchema, nvOp,
    Json.lookup, accepts, acceptsNN, gtyOf, scalarOk, stringOk, Json.isNull, nullableQ, countKey, isFieldSel,
    fieldKeys, fieldKey, vtsOfTy, Schema.implementors, List.zipIdx, objName, rtName]

/-! #### `FragmentOp`: `fragment B on Human { name born mood }`, `query Q { me { ...B friend { ...B } } }` -/

def nfOp : ROperation :=
  { name := "Q", kind := .query, objectId := 0, sels := [.field none 1 [.spread 0, .field none 5 [.spread 0]]] }
def nfQuery : Query :=
  { operations := [nfOp]
    fragments := [{ name := "B", on := .object 1, sels := [.field none 2 [], .field none 3 [], .field none 4 []] }] }

theorem nf_ok : NxOk nfQuery :=
  NxOk.of_parts (by decide +kernel)

theorem nf_class : FragmentOp (noNorm (nxCtx nfQuery)) nfOp = true ∧ fragKeysOk (noNorm (nxCtx nfQuery)) nfOp = true ∧
    fragRustOk (noNorm (nxCtx nfQuery)) nfOp = true :=
  by decide +kernel

def nfJson : Json :=
  .obj [("me", .obj [("friend", .obj [("name", .str "Han"), ("born", .str "1942"), ("mood", .str "very_sad")]),
                     ("name", .str "Luke"), ("born", .null), ("mood", .str "happy")])]
def nfCanon : Json :=
  .obj [("me", .obj [("name", .str "Luke"), ("born", .null), ("mood", .str "happy"),
                     ("friend", .obj [("name", .str "Han"), ("born", .str "1942"), ("mood", .str "very_sad")])])]

theorem nf_conforms : conformsOpF (noNorm (nxCtx nfQuery)) nfOp nfJson = true := by
  rw [conformsOpF, conformsV_eq_K]
  decide +kernel

theorem nf_canon : canonSelF nxSchema nfQuery false nfOp.sels nfJson = nfCanon := by
  simp [canonSelF, canonEntriesF, canonFieldF, canonSelV, canonEntriesV, canonFieldV, canon, canonNN, gtyOf, fragSels,
    nxSchema, nfOp, nfQuery, nfJson, nfCanon, Json.lookup, skipQ, Json.isNull]

example : Serde.roundtrip (moduleEnvN (nxCtx nfQuery) (itemsOf (nxCtx nfQuery))) (.path "ResponseData") nfJson = .ok nfCanon := by
  rw [← nf_canon]
  exact fragment_roundtrip_rust nf_ok.1 (op := nfOp) rfl nf_class.1 nf_class.2.1 nf_class.2.2 nf_ok.2.1 nfJson nf_conforms

/-- … and rejects a reply in which the aliased fragment struct (`friend { ...B }`) misses its non-null `mood` -/
example : okB (Serde.de (moduleEnvN (nxCtx nfQuery) (itemsOf (nxCtx nfQuery))) (.path "ResponseData")
    (.obj [("me", .obj [("name", .str "x"), ("mood", .str "happy"), ("friend", .obj [("name", .str "y")])])])) = false := by
  rw [fragment_precise_iff_rust nf_ok.1 (op := nfOp) rfl nf_class.1 nf_class.2.1 nf_ok.2.1]
  simp [conformsLooseF, looseOwnF, looseMemF, looseArrF, looseFieldF, conformsLooseV, looseSelsV, looseArrV,
    looseFieldV, fragSels, isSpread, noNorm, nxCtx, nxSchema, nfOp, nfQuery, Json.lookup, accepts, acceptsNN, gtyOf,
    scalarOk, stringOk, Json.isNull, nullableQ, countKey]

/-! #### `RecFragmentOp`: `fragment F on Human { name mood born friend { ...F } }`, `query Q { me { ...F } }` -/

def nrOp : ROperation := { name := "Q", kind := .query, objectId := 0, sels := [.field none 1 [.spread 0]] }
def nrQuery : Query :=
  { operations := [nrOp]
    fragments := [{ name := "F", on := .object 1,
                    sels := [.field none 2 [], .field none 4 [], .field none 3 [], .field none 5 [.spread 0]] }] }

theorem nr_ok : NxOk nrQuery :=
  NxOk.of_parts (by decide +kernel)

theorem nr_class : RecFragmentOp (noNorm (nxCtx nrQuery)) nrOp = true ∧ recKeysOk (noNorm (nxCtx nrQuery)) nrOp = true ∧
    recRustOk (noNorm (nxCtx nrQuery)) nrOp = true ∧ fragmentIsRecursive nrQuery 0 = true :=
  by decide +kernel

def nrJson : Json :=
  .obj [("me", .obj [("name", .str "Luke"), ("born", .null), ("mood", .str "happy"),
                     ("friend", .obj [("friend", .null), ("name", .str "Han"), ("born", .str "1942"), ("mood", .str "very_sad")])])]
def nrCanon : Json :=
  .obj [("me", .obj [("name", .str "Luke"), ("mood", .str "happy"), ("born", .null),
                     ("friend", .obj [("name", .str "Han"), ("mood", .str "very_sad"), ("born", .str "1942"), ("friend", .null)])])]

theorem nr_size : jsonSize nrJson = 10 := by simp [nrJson, jsonSize, kvsSize]

theorem nr_conforms : conformsOpR (noNorm (nxCtx nrQuery)) nrOp (2 * jsonSize nrJson) nrJson = true := by
  rw [conformsOpR, conformsV_eq_K]
  decide +kernel

theorem nr_canon : canonR nxSchema nrQuery false (jsonSize nrJson) nrOp.sels nrJson = nrCanon := by
  rw [nr_size]
  simp [canonR, canonBodyP, canonStructP, canonEntriesP, canonEntryP, canonFieldP, canonFieldV, canon,
    canonNN, gtyOf, fragSels, nxSchema, nrOp, nrQuery, nrJson, nrCanon, Json.lookup, skipQ, Json.isNull]

example : Serde.roundtrip (moduleEnvN (nxCtx nrQuery) (itemsOf (nxCtx nrQuery))) (.path "ResponseData") nrJson = .ok nrCanon := by
  rw [← nr_canon]
  exact recfragment_roundtrip_rust nr_ok.1 (op := nrOp) rfl nr_class.1 nr_class.2.1 nr_class.2.2.1 nr_ok.2.1 nrJson _
    (Nat.le_refl _) nr_conforms

set_option maxRecDepth 8000 in
/-- … and rejects a reply that misses the non-null `mood` one level down the recursion -/
example : okB (Serde.de (moduleEnvN (nxCtx nrQuery) (itemsOf (nxCtx nrQuery))) (.path "ResponseData")
    (.obj [("me", .obj [("name", .str "x"), ("mood", .str "happy"), ("friend", .obj [("name", .str "y")])])])) = false := by
  rw [recfragment_precise_iff_rust nr_ok.1 (op := nrOp) rfl nr_class.1 nr_class.2.1 nr_ok.2.1]
  simp [conformsLooseR, looseBodyP, looseStructP, looseOwnP, looseMemP, looseFieldP, looseFieldV,
    fragSels, noNorm, nxCtx, nxSchema, nrOp, nrQuery, Json.lookup, accepts, acceptsNN, gtyOf, scalarOk,
    stringOk, Json.isNull, nullableQ, countKey, jsonSize, kvsSize]

end E2E
end C01
end GqlVerif
