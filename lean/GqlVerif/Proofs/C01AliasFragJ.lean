import GqlVerif.Proofs.C01AliasFragI
import GqlVerif.Proofs.C01NestedI
/-!
# `AliasFragOp`: on `NestedOp` everything is what `C01Nested*` proves

A fragment that is in `fragOkN` at some rank (hence hereditarily without lone-spread bodies) has the same rank in `fragOkA`
(`fragOkA_eq_N`), and the rank recursions coincide on it (`agree_rank`): `wholeA = wholeN`, `KNa = KNn`,
`fragSideA = fragSideN`, `centA = centN`, `rustSideA = rustSideN`.  Hence, for an operation of `NestedOp` (suffix `_eq_N`: "on
`NestedOp`, equal to the function of `C01Nested*`"): the side conditions are those of `nested_accepts` / `nested_roundtrip`
(`aliasKeysOk_eq_N`, `aliasRustOk_eq_N`), the acceptance predicate of `aliasfrag_precise_iff` is the one of
`nested_precise_iff` (`conformsLooseA_eq_N`), the canonical form of `aliasfrag_roundtrip` is the one of `nested_roundtrip`
(`canonSelA_eq_N`); the specification `conformsOpN` is literally the same.
-/

namespace GqlVerif
namespace C01AF
open Serde Spec C13 C03 Codegen C01 C01.E2E C01M C01N

/-! ## fragments of `fragOkN` -/

/-- a fragment of `fragOkN`: its body is not a lone spread, and an `nSels` selection set over `fragOkN` of some rank -/
theorem fragOkN_body {s : Schema} {q : Query} {o : Options} {R : Nat} {p : TypeId} {g : Nat}
    (h : fragOkN s q o R p g = true) :
    ∃ f R', q.fragments[g]? = some f ∧ f.on = p ∧ f.name ≠ "ID" ∧ fragmentIsRecursive q g = false ∧
      (∀ g', f.sels ≠ [Sel.spread g']) ∧ nSels (fragOkN s q o R') s q o f.on f.sels = true := by
  rcases fragOkN_cases h with h' | ⟨r', _, h'⟩
  · obtain ⟨f, hf, hon, hname, hv, _⟩ := fragOk_parts h'
    have hm : mSels s q o f.on f.sels = true :=
      mSels_of_fSels s q o f.sels _ (fSels_of_vSels s q o f.sels _ hv)
    have hnl : ∀ g', f.sels ≠ [Sel.spread g'] := by
      intro g' hg'
      have := noSpreads_of_vSels s o f.sels false hv
      rw [hg'] at this
      simp [noSpreads, noSpread] at this
    refine ⟨f, 0, hf, hon, hname, not_recursive_of_fragOk h', hnl, ?_⟩
    have : fragOkN s q o 0 = fragOk s q o := by funext p g'; rw [fragOkN]
    rw [this, nSels_fragOk]
    exact hm
  · obtain ⟨f, hf, hon, hname, hrec, hnl, hb⟩ := fragNew_parts h'
    exact ⟨f, r', hf, hon, hname, hrec, hnl, hb⟩

/-- **on a fragment of `fragOkN` (of any rank) the two rank functions coincide** -/
theorem fragOkA_eq_N (s : Schema) (q : Query) (o : Options) : ∀ (r : Nat) (p : TypeId) (g : Nat) (R : Nat) (p0 : TypeId),
    fragOkN s q o R p0 g = true → fragOkA s q o r p g = fragOkN s q o r p g
  | 0, p, g, _, _, _ => by rw [fragOkA, fragOkN]
  | r + 1, p, g, R, p0, h => by
    rw [fragOkA, fragOkN, fragOkA_eq_N s q o r p g R p0 h]
    congr 1
    obtain ⟨f, R', hf, _, _, _, hnl, hb⟩ := fragOkN_body h
    unfold fragNewA fragNew
    simp only [hf]
    have hl : isLone f.sels = false := by
      cases hs : f.sels with
      | nil => rfl
      | cons x xs =>
        cases xs with
        | nil =>
          cases x with
          | spread g' => exact absurd hs (hnl g')
          | field _ _ _ => rfl
          | inline _ _ => rfl
          | typename => rfl
        | cons _ _ => cases x <;> rfl
    rw [nBody_not_lone hnl, hl,
      nSels_congr (fragOkN s q o R') (fragOkA s q o r) (fragOkN s q o r)
        (fun p' g' hg' => fragOkA_eq_N s q o r p' g' R' p' hg') s q o f.sels f.on hb]
    simp

/-- **on a fragment of `fragOkN` the rank recursions coincide** -/
theorem agree_rank (c : Ctx) (hnd : fragNamesOk c = true) : ∀ (r : Nat) (g : Nat) (R : Nat) (p0 : TypeId),
    fragOkN c.s c.q c.o R p0 g = true →
    (∀ b j, wholeA c r g b j = wholeN c r g b j) ∧ KNa c r (fragName c g) = KNn c r (fragName c g) ∧
    fragSideA c r g = fragSideN c r g ∧ (∀ kvs, centA c r g kvs = centN c r g kvs) ∧
    rustSideA c r g = rustSideN c r g
  | 0, g, _, _, _ => by
    refine ⟨fun b j => by rw [wholeA, wholeN], by rw [KNa, KNn], by rw [fragSideA, fragSideN],
      fun kvs => by rw [centA, centN], by rw [rustSideA, rustSideN]⟩
  | r + 1, g, R, p0, h => by
    obtain ⟨i1, i2, i3, i4, i5⟩ := agree_rank c hnd r g R p0 h
    obtain ⟨f, R', hf, hon, _, _, hnl, hb⟩ := fragOkN_body h
    have hfon : fragOn c.q g = p0 := by simp [fragOn, hf, hon]
    have hname : fragName c g = f.name := by simp [fragName, hf]
    have hsels : fragSels c.q g = f.sels := by simp [fragSels, hf]
    have hid : idOf c.q f.name = g := idOf_name hnd hf
    have hcond : fragOkA c.s c.q c.o r p0 g = fragOkN c.s c.q c.o r p0 g := fragOkA_eq_N c.s c.q c.o r p0 g R p0 h
    have IH := fun p' g' (hg' : fragOkN c.s c.q c.o R' p' g' = true) => agree_rank c hnd r g' R' p' hg'
    have hsub : ∀ g' ∈ objSpreadss c.s f.sels, ∃ p', fragOkN c.s c.q c.o R' p' g' = true :=
      objSpreadss_ok _ c.s c.q c.o f.sels f.on hb
    have hbody : nBody (fragOkN c.s c.q c.o R') c.s c.q c.o f.on f.sels = true := by
      rw [nBody_not_lone hnl]; exact hb
    have hK : ∀ p' g', fragOkN c.s c.q c.o R' p' g' = true → KNa c r (fragName c g') = KNn c r (fragName c g') :=
      fun p' g' hg' => (IH p' g' hg').2.1
    refine ⟨fun b j => ?_, ?_, ?_, fun kvs => ?_, ?_⟩
    · rw [wholeA, wholeN, hfon, hcond, i1, hsels,
        conformsLooseN_congr c.s c.q c.o _ (wholeA c r) (wholeN c r) (fun p' g' hg' => (IH p' g' hg').1) f.on f.sels
          hbody b j]
    · rw [hname, KNa, KNn, hid, hfon, hcond, ← hname, i2, hsels,
        expKeysN_congr c _ (KNa c r) (KNn c r) hK f.on f.sels hb]
    · rw [fragSideA, fragSideN, hfon, hcond, i3, hsels,
        expKeysN_congr c _ (KNa c r) (KNn c r) hK f.on f.sels hb,
        keysOksN_congr c _ (KNa c r) (KNn c r) f.sels f.on hK hb,
        all_congr_mem (objSpreadss c.s f.sels) (fun g' hg' => by
          obtain ⟨p', hg''⟩ := hsub g' hg'
          exact (IH p' g' hg'').2.2.1)]
    · rw [centA, centN, hfon, hcond, i4, hsels,
        canonEntriesN_congr c.s c.q c.o _ (centA c r) (centN c r) c.o.skipNone f.sels f.on kvs
          (fun p' g' hg' => (IH p' g' hg').2.2.2.1) hb]
    · rw [rustSideA, rustSideN, hfon, hcond, i5, hsels,
        all_congr_mem (objSpreadss c.s f.sels) (fun g' hg' => by
          obtain ⟨p', hg''⟩ := hsub g' hg'
          exact (IH p' g' hg'').2.2.2.2)]

/-! ## an operation of `NestedOp` -/

section OnN
variable (c : Ctx) (op : ROperation) (h : NestedOp c op = true) (hnd : fragNamesOk c = true)
include h hnd

theorem aliasKeysOk_eq_N : aliasKeysOk c op = nestedKeysOk c op := by
  obtain ⟨_, _, hb⟩ := nestedOp_parts h
  have hm := nSels_of_nBody hb
  have hK : ∀ p' g', fragOkN c.s c.q c.o c.q.fragments.length p' g' = true →
      KNa c c.q.fragments.length (fragName c g') = KNn c c.q.fragments.length (fragName c g') :=
    fun p' g' hg' => (agree_rank c hnd _ g' _ p' hg').2.1
  unfold aliasKeysOk nestedKeysOk
  rw [expKeysN_congr c _ _ _ hK _ op.sels hm, keysOksN_congr c _ _ _ op.sels _ hK hm,
    all_congr_mem (objSpreadss c.s op.sels) (fun g' hg' => by
      obtain ⟨p', hg''⟩ := objSpreadss_ok _ c.s c.q c.o op.sels _ hm g' hg'
      exact (agree_rank c hnd _ g' _ p' hg'').2.2.1)]

theorem aliasRustOk_eq_N : aliasRustOk c op = nestedRustOk c op := by
  obtain ⟨_, _, hb⟩ := nestedOp_parts h
  have hm := nSels_of_nBody hb
  unfold aliasRustOk nestedRustOk
  rw [all_congr_mem (objSpreadss c.s op.sels) (fun g' hg' => by
      obtain ⟨p', hg''⟩ := objSpreadss_ok _ c.s c.q c.o op.sels _ hm g' hg'
      exact (agree_rank c hnd _ g' _ p' hg'').2.2.2.2)]

theorem conformsLooseA_eq_N (b : Bool) (j : Json) :
    conformsLooseN (wholeA c c.q.fragments.length) c.s c.q c.o b op.sels j =
      conformsLooseN (wholeN c c.q.fragments.length) c.s c.q c.o b op.sels j := by
  obtain ⟨_, _, hb⟩ := nestedOp_parts h
  exact conformsLooseN_congr c.s c.q c.o _ _ _ (fun p' g' hg' => (agree_rank c hnd _ g' _ p' hg').1) _ op.sels hb b j

theorem canonSelA_eq_N (j : Json) :
    canonSelN (centA c c.q.fragments.length) c.s c.q c.o.skipNone op.sels j =
      canonSelN (centN c c.q.fragments.length) c.s c.q c.o.skipNone op.sels j := by
  obtain ⟨_, _, hb⟩ := nestedOp_parts h
  exact canonSelN_congr c.s c.q c.o _ _ _ (fun p' g' hg' => (agree_rank c hnd _ g' _ p' hg').2.2.2.1) _ _ op.sels hb j

end OnN

/-- **`aliasfrag_roundtrip` on `NestedOp` is `nested_roundtrip`**: under the hypotheses of `nested_roundtrip`, the theorem
    of this development applies and gives the same statement -/
theorem aliasfrag_roundtrip_on_N (c : Ctx) (opIdx : Nat) (op : ROperation) (items : List Item)
    (hop : c.q.operations[opIdx]? = some op) (ht : NestedOp c op = true) (hnd : fragNamesOk c = true)
    (hk : nestedKeysOk c op = true) (hr : nestedRustOk c op = true)
    (hgen : responseForQuery c opIdx = .ok items) (hok : moduleOk c items = true)
    (j : Json) (hc : conformsOpN c op j = true) :
    Serde.roundtrip (moduleEnv c items) (.path "ResponseData") j =
      .ok (normJson (canonSelN (centN c c.q.fragments.length) c.s c.q c.o.skipNone op.sels j)) := by
  rw [← canonSelA_eq_N c op ht hnd j]
  exact aliasfrag_roundtrip c opIdx op items hop (aliasFragOp_of_nestedOp c op ht) hnd
    (by rw [aliasKeysOk_eq_N c op ht hnd]; exact hk) (by rw [aliasRustOk_eq_N c op ht hnd]; exact hr) hgen hok j hc

end C01AF
end GqlVerif
