import GqlVerif.Proofs.C09NormSerde
import GqlVerif.Proofs.C09NormCodegen
/-!
# C09 — module-level wire equality under `normalization`

`normalization = rust` renames Rust type identifiers (enum, input and scalar-alias names, hence the leaves of
field types) and the identifiers of enum variants; it must not change the wire.

The Serde half is `Proofs/C09NormSerde.lean` (two environments of the same shape whose names correspond injectively read
and write the same JSON), the codegen half `Proofs/C09NormCodegen.lean` (contexts that differ in `normalization` generate
the same items up to names, in the same order, under `IdStable`).  This file reads the correspondence of names off two
modules position by position (`envPairs` / `Corr`), states the decidable side condition `RenameInjective`
(= `NamesInjective` + `EnumOK` of the enum tables) and proves **`normalization_wire_invariant`** (`…_of_names`: with the
enum part of the side condition moved to the schema, `EnumIdentsInjective`).  A concrete instance satisfies every
hypothesis; for each side condition there is a witness in which both modules are generated by the model, all other
hypotheses hold, and acceptance or the round trip at `ResponseData` differs (`witness_*`; `witness_fieldsWF`, at the
Serde level, for `FieldsWF`).

`NamesInjective` is stated here on the two generated modules, where it is decidable (the names a module defines
include the struct names `pfx ++ camel(field)` built from the query); a sufficient condition on schema, query and
case functions alone is `C09S.namesInjective_of_schema` (`Proofs/C09Schema.lean`).  `FieldsWF` (fields with one Rust name
have one type) is a hypothesis of the `de` / round-trip parts; it holds of every module that compiles.  Errors are compared up to the text of
`unmodelled` (which quotes type names).
-/
namespace GqlVerif
namespace C09N
open Serde Codegen C09

/-! ## the correspondence of names between two modules of the same shape -/

/-- the types of an item that serde follows -/
def itemTys : Item → List RTy
  | .struct _ _ _ fs => fs.map (·.ty)
  | .tagged _ _ _ _ vs => vs.filterMap (·.payload)
  | .alias _ _ t => [t]
  | .oneOf _ _ _ vs => vs.filterMap (·.payload)
  | _ => []

/-- names at corresponding positions of two items: the item names, then the leaves of their types -/
def itemPairs (it it' : Item) : List (String × String) :=
  (it.name, it'.name) :: ((itemTys it).map tyLeaf).zip ((itemTys it').map tyLeaf)

def externPairs (x x' : String × RTy) : List (String × String) := [(x.1, x'.1), (tyLeaf x.2, tyLeaf x'.2)]

/-- all pairs of names at corresponding positions of two environments -/
def envPairs (e e' : Env) : List (String × String) :=
  (e.items.zip e'.items).flatMap (fun x => itemPairs x.1 x.2) ++
  (e.externs.zip e'.externs).flatMap (fun x => externPairs x.1 x.2)

/-- `a` (a name of `e`) and `b` (a name of `e'`) occur at corresponding positions -/
def Corr (e e' : Env) (a b : String) : Prop := (a, b) ∈ envPairs e e'

instance (e e' : Env) (a b : String) : Decidable (Corr e e' a b) := by unfold Corr; infer_instance

/-- the tables of two corresponding string enums: each `Serialize` table is the inverse of the `Deserialize`
    table, and the identifiers at the same positions have the same kernel -/
def EnumOK : Item → Item → Prop
  | .gqlEnum _ _ _ _ ser de, .gqlEnum _ _ _ _ ser' de' =>
    ser = de.map Prod.swap ∧ ser' = de'.map Prod.swap ∧ KernelEq (identPairs de de')
  | _, _ => True

instance (it it' : Item) : Decidable (EnumOK it it') := by
  cases it <;> cases it' <;> (simp only [EnumOK]; infer_instance)

/-- **the side condition**: the correspondence of names between the two modules is a partial bijection
    (same name ↔ same name), relates a prelude name only to itself, and the variant identifiers of each enum
    are renamed injectively (same kernel) -/
def RenameInjective (e e' : Env) : Prop :=
  KernelEq (envPairs e e') ∧
  (∀ x ∈ envPairs e e', (isPrimName x.1 = true ∨ isPrimName x.2 = true) → x.1 = x.2) ∧
  (∀ x ∈ e.items.zip e'.items, EnumOK x.1 x.2)

instance (e e' : Env) : Decidable (RenameInjective e e') := by unfold RenameInjective; infer_instance

/-! ## from "equal up to names" to `EnvRen` -/

section bridge
variable {R : String → String → Prop}

theorem tyRen_of_erase : ∀ {t t' : RTy}, eraseTy t = eraseTy t' → R (tyLeaf t) (tyLeaf t') → TyRen R t t' := by
  intro t
  induction t with
  | path p => intro t' h hr; cases t' <;> simp only [eraseTy, reduceCtorEq] at h; exact hr
  | opt t ih => intro t' h hr; cases t' <;> simp only [eraseTy, reduceCtorEq, RTy.opt.injEq] at h; exact ih h hr
  | vec t ih => intro t' h hr; cases t' <;> simp only [eraseTy, reduceCtorEq, RTy.vec.injEq] at h; exact ih h hr
  | box t ih => intro t' h hr; cases t' <;> simp only [eraseTy, reduceCtorEq, RTy.box.injEq] at h; exact ih h hr

theorem fieldRen_of_erase {f f' : RField} (h : eraseField f = eraseField f') (hr : R (tyLeaf f.ty) (tyLeaf f'.ty)) :
    FieldRen R f f' := by
  simp only [eraseField, RField.mk.injEq] at h
  obtain ⟨h1, h2, h3, h4, h5, h6, h7, _⟩ := h
  exact ⟨h1.symm, h2.symm, tyRen_of_erase h3 hr, h4.symm, h5.symm, h6.symm, h7.symm⟩

theorem fieldsRen_of_erase : ∀ {fs fs' : List RField}, fs.map eraseField = fs'.map eraseField →
    (∀ x ∈ ((fs.map (·.ty)).map tyLeaf).zip ((fs'.map (·.ty)).map tyLeaf), R x.1 x.2) → All2 (FieldRen R) fs fs'
  | [], [], _, _ => .nil
  | [], _ :: _, h, _ => by simp at h
  | _ :: _, [], h, _ => by simp at h
  | f :: fs, f' :: fs', h, hr => by
    simp only [List.map_cons, List.cons.injEq] at h
    simp only [List.map_cons, List.zip_cons_cons, List.mem_cons, forall_eq_or_imp] at hr
    exact .cons (fieldRen_of_erase h.1 hr.1) (fieldsRen_of_erase h.2 hr.2)

theorem variantsRen_of_erase : ∀ {vs vs' : List RVariant}, vs.map eraseVariant = vs'.map eraseVariant →
    (∀ x ∈ ((vs.filterMap (·.payload)).map tyLeaf).zip ((vs'.filterMap (·.payload)).map tyLeaf), R x.1 x.2) →
    All2 (VariantRen R) vs vs'
  | [], [], _, _ => .nil
  | [], _ :: _, h, _ => by simp at h
  | _ :: _, [], h, _ => by simp at h
  | v :: vs, v' :: vs', h, hr => by
    simp only [List.map_cons, List.cons.injEq] at h
    obtain ⟨hv, hvs⟩ := h
    simp only [eraseVariant, RVariant.mk.injEq] at hv
    obtain ⟨h1, h2, h3, h4⟩ := hv
    cases hp : v.payload with
    | none =>
      cases hp' : v'.payload with
      | none =>
        simp only [List.filterMap_cons, hp, hp'] at hr
        exact .cons ⟨h1.symm, h2.symm, by simp only [hp, hp', OptTyRen], h4.symm⟩ (variantsRen_of_erase hvs hr)
      | some t' => simp [hp, hp'] at h3
    | some t =>
      cases hp' : v'.payload with
      | none => simp [hp, hp'] at h3
      | some t' =>
        simp only [List.filterMap_cons, hp, hp', List.map_cons, List.zip_cons_cons, List.mem_cons, forall_eq_or_imp] at hr
        simp only [hp, hp', Option.map_some, Option.some.injEq] at h3
        exact .cons ⟨h1.symm, h2.symm, by simp only [hp, hp', OptTyRen]; exact tyRen_of_erase h3 hr.1, h4.symm⟩
          (variantsRen_of_erase hvs hr.2)

theorem itemRen_of_erase {it it' : Item} (h : eraseItem it = eraseItem it') (hr : ∀ x ∈ itemPairs it it', R x.1 x.2)
    (hen : EnumOK it it') : ItemRen R it it' := by
  have hname : R it.name it'.name := hr (it.name, it'.name) (by simp [itemPairs])
  have htys : ∀ x ∈ ((itemTys it).map tyLeaf).zip ((itemTys it').map tyLeaf), R x.1 x.2 :=
    fun x hx => hr x (by simp only [itemPairs, List.mem_cons]; exact Or.inr hx)
  cases it <;> cases it' <;> simp only [eraseItem, reduceCtorEq] at h
  · simp only [Item.struct.injEq, true_and] at h
    exact .struct hname (fieldsRen_of_erase h htys)
  · exact .unitStruct hname
  · simp only [Item.tagged.injEq, true_and] at h
    obtain ⟨rfl, h⟩ := h
    exact .tagged hname (variantsRen_of_erase h htys)
  · simp only [Item.alias.injEq, true_and] at h
    exact .alias hname (tyRen_of_erase h (htys (tyLeaf _, tyLeaf _) (by simp [itemTys])))
  · simp only [Item.gqlEnum.injEq, true_and] at h
    simp only [EnumOK] at hen
    refine .gqlEnum hname ⟨?_, hen.1, hen.2.1, hen.2.2⟩
    have := congrArg (List.map (·.1)) h.2
    simpa [List.map_map, Function.comp_def] using this
  · simp only [Item.oneOf.injEq, true_and] at h
    exact .oneOf hname (variantsRen_of_erase h htys)
  · exact .defaults hname

theorem all2_of_map_eq {α γ} {S : α → α → Prop} {f : α → γ} : ∀ {l l' : List α}, l.map f = l'.map f →
    (∀ x ∈ l.zip l', f x.1 = f x.2 → S x.1 x.2) → All2 S l l'
  | [], [], _, _ => .nil
  | [], _ :: _, h, _ => by simp at h
  | _ :: _, [], h, _ => by simp at h
  | a :: l, b :: l', h, hs => by
    simp only [List.map_cons, List.cons.injEq] at h
    exact .cons (hs (a, b) (by simp) h.1) (all2_of_map_eq h.2 (fun x hx => hs x (by simp [List.zip_cons_cons, hx])))

end bridge

/-- two environments that are equal up to names and satisfy `RenameInjective` are related by `EnvRen`, for
    the correspondence `Corr` read off the two environments -/
theorem envRen_of_erase {e e' : Env} (hi : e.items.map eraseItem = e'.items.map eraseItem)
    (hx : e.externs.map (fun x => eraseTy x.2) = e'.externs.map (fun x => eraseTy x.2))
    (H : RenameInjective e e') : EnvRen (Corr e e') e e' where
  items := by
    refine all2_of_map_eq hi (fun x hx hex => itemRen_of_erase hex (fun y hy => ?_) (H.2.2 x hx))
    exact List.mem_append_left _ (List.mem_flatMap.mpr ⟨x, hx, hy⟩)
  externs := by
    refine all2_of_map_eq hx (fun x hx hex => ⟨?_, tyRen_of_erase hex ?_⟩)
    · exact List.mem_append_right _ (List.mem_flatMap.mpr ⟨x, hx, by simp [externPairs]⟩)
    · exact List.mem_append_right _ (List.mem_flatMap.mpr ⟨x, hx, by simp [externPairs]⟩)
  bij := fun a a' b b' h1 h2 => H.1 (a, a') h1 (b, b') h2
  prim := fun a a' h hp => H.2.1 (a, a') h hp

theorem mem_zip_append {α} : ∀ (p p' : List α) (x y : α) (s s' : List α), p.length = p'.length →
    (x, y) ∈ (p ++ x :: s).zip (p' ++ y :: s')
  | [], [], _, _, _, _, _ => by simp
  | [], _ :: _, _, _, _, _, h => by simp at h
  | _ :: _, [], _, _, _, _, h => by simp at h
  | a :: p, b :: p', x, y, s, s', h => by
    simp only [List.cons_append, List.zip_cons_cons, List.mem_cons]
    exact Or.inr (mem_zip_append p p' x y s s' (by simpa using h))

theorem corr_of_zip {e e' : Env} {it it' : Item} (h : (it, it') ∈ e.items.zip e'.items) : Corr e e' it.name it'.name :=
  List.mem_append_left _ (List.mem_flatMap.mpr ⟨(it, it'), h, by simp [itemPairs]⟩)

/-- in two modules related by `ModRel`, `Variables` corresponds to `Variables` and `ResponseData` to `ResponseData` -/
theorem ModRel.corr {c c' : Ctx} {items items' : List Item} (h : ModRel c c' items items') (x x' : List (String × RTy)) :
    Corr { items := items, externs := x } { items := items', externs := x' } "Variables" "Variables" ∧
    Corr { items := items, externs := x } { items := items', externs := x' } "ResponseData" "ResponseData" := by
  obtain ⟨pre, pre', vars, vars', mid, mid', resp, resp', rfl, rfl, h1, h2, h3, h4,
    ⟨v, vr, rfl, hv⟩, ⟨v', vr', rfl, hv'⟩, ⟨r, rr, rfl, hr⟩, ⟨r', rr', rfl, hr'⟩, _⟩ := h
  constructor
  · have := corr_of_zip (e := { items := pre ++ v :: vr ++ mid ++ r :: rr, externs := x })
      (e' := { items := pre' ++ v' :: vr' ++ mid' ++ r' :: rr', externs := x' }) (it := v) (it' := v')
      (by simpa only [List.append_assoc, List.cons_append] using
        mem_zip_append pre pre' v v' (vr ++ (mid ++ r :: rr)) (vr' ++ (mid' ++ r' :: rr')) (ei_length h1))
    rwa [hv, hv'] at this
  · have := corr_of_zip (e := { items := pre ++ v :: vr ++ mid ++ r :: rr, externs := x })
      (e' := { items := pre' ++ v' :: vr' ++ mid' ++ r' :: rr', externs := x' }) (it := r) (it' := r')
      (mem_zip_append (pre ++ v :: vr ++ mid) (pre' ++ v' :: vr' ++ mid') r r' rr rr' (by
        simp only [List.length_append, ei_length h1, ei_length h2, ei_length h3]))
    rwa [hr, hr'] at this

/-- **`normalization_wire_invariant`**.  Let `c₀`, `c₁` agree on everything except `normalization` (and the
    neutral options), let both generate a module, complete the two modules by consumer-supplied `externs` of
    the same shape.  If the correspondence of names between the two modules is injective (`RenameInjective`,
    decidable) then:
    1. the two environments are related by `EnvRen` (so `de_rename` / `ser_rename` / `roundtrip_rename` apply
       at every pair of corresponding types);
    2. they accept the same JSON at `ResponseData` (same error otherwise), with results equal up to the
       identifiers of enum variants;
    3. `to_value(from_value(j))` at `ResponseData` is the same JSON;
    4. corresponding `Variables` values are serialized to the same JSON. -/
theorem normalization_wire_invariant {c₀ c₁ : Ctx} (H : NormAgree c₀ c₁) (hid : IdStable c₀ c₁) (op : Nat)
    {items₀ items₁ : List Item} (h₀ : responseForQuery c₀ op = .ok items₀) (h₁ : responseForQuery c₁ op = .ok items₁)
    (x₀ x₁ : List (String × RTy)) (hx : x₀.map (fun x => eraseTy x.2) = x₁.map (fun x => eraseTy x.2))
    (hinj : RenameInjective { items := items₀, externs := x₀ } { items := items₁, externs := x₁ })
    (hwf : FieldsWF { items := items₀, externs := x₀ }) :
    let e₀ : Env := { items := items₀, externs := x₀ }
    let e₁ : Env := { items := items₁, externs := x₁ }
    EnvRen (Corr e₀ e₁) e₀ e₁ ∧
    (∀ j, DRel (VRel (Corr e₀ e₁) e₀ e₁ (.path "ResponseData"))
      (Serde.de e₀ (.path "ResponseData") j) (Serde.de e₁ (.path "ResponseData") j)) ∧
    (∀ j, DRel Eq (Serde.roundtrip e₀ (.path "ResponseData") j) (Serde.roundtrip e₁ (.path "ResponseData") j)) ∧
    (∀ v v', VRel (Corr e₀ e₁) e₀ e₁ (.path "Variables") v v' →
      DRel Eq (Serde.ser e₀ (.path "Variables") v) (Serde.ser e₁ (.path "Variables") v')) := by
  intro e₀ e₁
  have hm := normalization_modRel H hid op
  rw [h₀, h₁] at hm
  have hm' : ModRel c₀ c₁ items₀ items₁ := hm
  have henv : EnvRen (Corr e₀ e₁) e₀ e₁ := envRen_of_erase hm'.ei hx hinj
  obtain ⟨hv, hr⟩ := hm'.corr x₀ x₁
  exact ⟨henv, fun j => de_rename henv hwf (t := .path "ResponseData") (t' := .path "ResponseData") hr j,
    fun j => roundtrip_rename henv hwf (t := .path "ResponseData") (t' := .path "ResponseData") hr j,
    fun v v' hvv => ser_rename henv (t := .path "Variables") (t' := .path "Variables") hv hvv⟩

/-- spelled out: acceptance and the round trip at `ResponseData` -/
theorem normalization_wire_invariant' {c₀ c₁ : Ctx} (H : NormAgree c₀ c₁) (hid : IdStable c₀ c₁) (op : Nat)
    {items₀ items₁ : List Item} (h₀ : responseForQuery c₀ op = .ok items₀) (h₁ : responseForQuery c₁ op = .ok items₁)
    (x₀ x₁ : List (String × RTy)) (hx : x₀.map (fun x => eraseTy x.2) = x₁.map (fun x => eraseTy x.2))
    (hinj : RenameInjective { items := items₀, externs := x₀ } { items := items₁, externs := x₁ })
    (hwf : FieldsWF { items := items₀, externs := x₀ }) (j : Json) :
    (Serde.de { items := items₀, externs := x₀ } (.path "ResponseData") j).isOk =
      (Serde.de { items := items₁, externs := x₁ } (.path "ResponseData") j).isOk ∧
    ∀ out, Serde.roundtrip { items := items₀, externs := x₀ } (.path "ResponseData") j = .ok out ↔
      Serde.roundtrip { items := items₁, externs := x₁ } (.path "ResponseData") j = .ok out := by
  obtain ⟨henv, _, _, _⟩ := normalization_wire_invariant H hid op h₀ h₁ x₀ x₁ hx hinj hwf
  have hm := normalization_modRel H hid op
  rw [h₀, h₁] at hm
  have hr := ((show ModRel c₀ c₁ items₀ items₁ from hm).corr x₀ x₁).2
  exact ⟨de_rename_isOk henv hwf (t := .path "ResponseData") (t' := .path "ResponseData") hr j,
    fun out => roundtrip_rename_ok henv hwf (t := .path "ResponseData") (t' := .path "ResponseData") hr j out⟩

/-! ## a concrete instance, and the necessity of the side conditions -/

/-- a toy `to_upper_camel_case`, given by a table -/
def tblCamel (tbl : List (String × String)) (s : String) : String :=
  match tbl.find? (·.1 == s) with
  | some (_, t) => t
  | none => s

/-- schema: `scalar <sc1>`, `scalar <sc2>`, `enum color_kind { <v1> <v2> }`,
    `input filter_in { kind: color_kind, since: <sc1>! }`, `type Query { color: color_kind!, at: <sc1>, until: <sc2> }` -/
def exSchema (sc1 sc2 v1 v2 : String) : Schema :=
  { scalars := ["ID", "String", "Int", "Float", "Boolean", sc1, sc2],
    enums := [{ name := "color_kind", variants := [v1, v2] }],
    inputs := [{ name := "filter_in", isOneOf := false,
                 fields := [("kind", { id := .enum 0, quals := [] }), ("since", { id := .scalar 5, quals := [.required] })] }],
    objects := [{ name := "Query", fields := [0, 1, 2], implements := [] }],
    fields := [{ name := "color", ty := { id := .enum 0, quals := [.required] }, parent := .object 0, deprecation := none },
               { name := "at", ty := { id := .scalar 5, quals := [] }, parent := .object 0, deprecation := none },
               { name := "until", ty := { id := .scalar 6, quals := [] }, parent := .object 0, deprecation := none }],
    queryType := some 0 }

/-- `query Q($f: filter_in) { color at until }` -/
def exQuery : Query :=
  { operations := [{ name := "Q", kind := .query, objectId := 0,
                     sels := [.field none 0 [], .field none 1 [], .field none 2 []] }],
    variables := [{ opIdx := 0, name := "f", default := none, ty := { id := .input 0, quals := [] } }] }

def exCtx (s : Schema) (tbl : List (String × String)) (nz : Normalization) : Ctx :=
  { s := s, q := exQuery, o := { normalization := nz }, cs := { snake := id, camel := tblCamel tbl } }

theorem exCtx_normAgree (s : Schema) (tbl : List (String × String)) : NormAgree (exCtx s tbl .none) (exCtx s tbl .rust) :=
  { s := rfl, q := rfl, cs := rfl, otherVariant := rfl, skipNone := rfl, deprecation := rfl, externEnums := rfl }

/-- the generated items (`[]` if generation fails) -/
def itemsOf (c : Ctx) : List Item := match responseForQuery c 0 with | .ok i => i | .error _ => []

def genOk (c : Ctx) : Bool := match responseForQuery c 0 with | .ok _ => true | .error _ => false

theorem itemsOf_ok {c : Ctx} (h : genOk c = true) : responseForQuery c 0 = .ok (itemsOf c) := by
  unfold genOk at h; unfold itemsOf
  cases hr : responseForQuery c 0 with
  | error err => rw [hr] at h; cases h
  | ok i => rfl

def sameShape (x₀ x₁ : List (String × RTy)) : Prop := x₀.map (fun x => eraseTy x.2) = x₁.map (fun x => eraseTy x.2)
instance (x₀ x₁ : List (String × RTy)) : Decidable (sameShape x₀ x₁) := by unfold sameShape; infer_instance

/-- what the field `color` of a JSON result is -/
def colorOf : D Json → Option String
  | .ok (.obj kvs) => match Json.lookup "color" kvs with | some (.str s) => some s | _ => none
  | _ => none

theorem not_drel_of_colorOf {x y : D Json} {a b : String} (hx : colorOf x = some a) (hy : colorOf y = some b) (hab : a ≠ b) :
    ¬ DRel Eq x y := by
  intro h
  cases x <;> cases y <;> simp only [DRel] at h
  · simp [colorOf] at hx
  · subst h; rw [hx] at hy; exact hab (Option.some.inj hy)

theorem not_drel_of_isOk {α β} {S : α → β → Prop} {x : D α} {y : D β} (h : x.isOk ≠ y.isOk) : ¬ DRel S x y := by
  intro hr
  cases x <;> cases y <;> simp_all [DRel, Except.isOk, Except.toBool]

/-! ### all hypotheses hold of a non-trivial instance -/

def okTbl : List (String × String) :=
  [("color_kind", "ColorKind"), ("red", "Red"), ("dark_blue", "DarkBlue"), ("filter_in", "FilterIn"),
   ("date_time", "DateTime"), ("url", "Url")]
def okSchema : Schema := exSchema "date_time" "url" "red" "dark_blue"
def okX₀ : List (String × RTy) := [("super::date_time", .path "String"), ("super::url", .path "String")]
def okX₁ : List (String × RTy) := [("super::DateTime", .path "String"), ("super::Url", .path "String")]
def okE₀ : Env := { items := itemsOf (exCtx okSchema okTbl .none), externs := okX₀ }
def okE₁ : Env := { items := itemsOf (exCtx okSchema okTbl .rust), externs := okX₁ }

/-- both modules are generated, they differ (`color_kind` / `ColorKind`, `red` / `Red`, …), and `IdStable`,
    `RenameInjective`, `FieldsWF` and the shape condition on the externs hold -/
theorem okInstance :
    responseForQuery (exCtx okSchema okTbl .none) 0 = .ok okE₀.items ∧
    responseForQuery (exCtx okSchema okTbl .rust) 0 = .ok okE₁.items ∧
    (okE₀.items != okE₁.items) = true ∧
    NormAgree (exCtx okSchema okTbl .none) (exCtx okSchema okTbl .rust) ∧
    IdStable (exCtx okSchema okTbl .none) (exCtx okSchema okTbl .rust) ∧
    sameShape okX₀ okX₁ ∧ RenameInjective okE₀ okE₁ ∧ FieldsWF okE₀ := by
  have h : (genOk (exCtx okSchema okTbl .none) = true ∧ genOk (exCtx okSchema okTbl .rust) = true ∧
      (okE₀.items != okE₁.items) = true) ∧
      IdStable (exCtx okSchema okTbl .none) (exCtx okSchema okTbl .rust) ∧
      sameShape okX₀ okX₁ ∧ RenameInjective okE₀ okE₁ ∧ FieldsWF okE₀ := by
    decide +kernel
  exact ⟨itemsOf_ok h.1.1, itemsOf_ok h.1.2.1, h.1.2.2, exCtx_normAgree _ _, h.2⟩

set_option maxRecDepth 100000 in
example :
    responseForQuery (exCtx okSchema okTbl .none) 0 = .ok okE₀.items ∧
    responseForQuery (exCtx okSchema okTbl .rust) 0 = .ok okE₁.items ∧
    (okE₀.items != okE₁.items) = true ∧
    NormAgree (exCtx okSchema okTbl .none) (exCtx okSchema okTbl .rust) ∧
    IdStable (exCtx okSchema okTbl .none) (exCtx okSchema okTbl .rust) ∧
    sameShape okX₀ okX₁ ∧ RenameInjective okE₀ okE₁ ∧ FieldsWF okE₀ :=
  okInstance

/-! ### each side condition is needed

In each witness both modules are generated by the model, `NormAgree` holds, and exactly the named condition
fails; the wire behaviour at `ResponseData` differs. -/

def rd : RTy := .path "ResponseData"

/-- **W1 — variant identifiers** (`EnumOK`, third part of `RenameInjective`): `enum color_kind { foo_bar fooBar }`,
    both values become `FooBar`.  Names and prelude names are fine; the reply `{"color": "fooBar"}` is written
    back as `"fooBar"` by the first module and as `"foo_bar"` by the second. -/
def w1Tbl : List (String × String) :=
  [("color_kind", "ColorKind"), ("foo_bar", "FooBar"), ("fooBar", "FooBar"), ("filter_in", "FilterIn"),
   ("date_time", "DateTime"), ("url", "Url")]
def w1Schema : Schema := exSchema "date_time" "url" "foo_bar" "fooBar"
def w1E₀ : Env := { items := itemsOf (exCtx w1Schema w1Tbl .none), externs := okX₀ }
def w1E₁ : Env := { items := itemsOf (exCtx w1Schema w1Tbl .rust), externs := okX₁ }
def w1Json : Json := .obj [("color", .str "fooBar")]

theorem witness_variant_identifiers :
    responseForQuery (exCtx w1Schema w1Tbl .none) 0 = .ok w1E₀.items ∧
    responseForQuery (exCtx w1Schema w1Tbl .rust) 0 = .ok w1E₁.items ∧
    IdStable (exCtx w1Schema w1Tbl .none) (exCtx w1Schema w1Tbl .rust) ∧ sameShape okX₀ okX₁ ∧ FieldsWF w1E₀ ∧
    KernelEq (envPairs w1E₀ w1E₁) ∧
    (∀ x ∈ envPairs w1E₀ w1E₁, (isPrimName x.1 = true ∨ isPrimName x.2 = true) → x.1 = x.2) ∧
    ¬ (∀ x ∈ w1E₀.items.zip w1E₁.items, EnumOK x.1 x.2) ∧ ¬ RenameInjective w1E₀ w1E₁ ∧
    ¬ DRel Eq (Serde.roundtrip w1E₀ rd w1Json) (Serde.roundtrip w1E₁ rd w1Json) := by
  have h : (genOk (exCtx w1Schema w1Tbl .none) = true ∧ genOk (exCtx w1Schema w1Tbl .rust) = true ∧
      colorOf (Serde.roundtrip w1E₀ rd w1Json) = some "fooBar" ∧
      colorOf (Serde.roundtrip w1E₁ rd w1Json) = some "foo_bar") ∧
    IdStable (exCtx w1Schema w1Tbl .none) (exCtx w1Schema w1Tbl .rust) ∧ sameShape okX₀ okX₁ ∧ FieldsWF w1E₀ ∧
    KernelEq (envPairs w1E₀ w1E₁) ∧
    (∀ x ∈ envPairs w1E₀ w1E₁, (isPrimName x.1 = true ∨ isPrimName x.2 = true) → x.1 = x.2) ∧
    ¬ (∀ x ∈ w1E₀.items.zip w1E₁.items, EnumOK x.1 x.2) ∧ ¬ RenameInjective w1E₀ w1E₁ := by
    decide +kernel
  obtain ⟨⟨g₀, g₁, c₀, c₁⟩, h3, h4, h5, h6, h7, h8, h9⟩ := h
  exact ⟨itemsOf_ok g₀, itemsOf_ok g₁, h3, h4, h5, h6, h7, h8, h9, not_drel_of_colorOf c₀ c₁ (by decide)⟩

/-- **W2 — injectivity on type names** (`KernelEq (envPairs ..)`): `scalar date_time`, `scalar dateTime` both
    become `DateTime`; the consumer supplies `String` for the first and `i64` for the second.  The reply
    `{"color": "red", "at": "x", "until": 5}` is accepted by the first module and rejected by the second. -/
def w2Tbl : List (String × String) :=
  [("color_kind", "ColorKind"), ("red", "Red"), ("dark_blue", "DarkBlue"), ("filter_in", "FilterIn"),
   ("date_time", "DateTime"), ("dateTime", "DateTime")]
def w2Schema : Schema := exSchema "date_time" "dateTime" "red" "dark_blue"
def w2X₀ : List (String × RTy) := [("super::date_time", .path "String"), ("super::dateTime", .path "i64")]
def w2X₁ : List (String × RTy) := [("super::DateTime", .path "String"), ("super::DateTime", .path "i64")]
def w2E₀ : Env := { items := itemsOf (exCtx w2Schema w2Tbl .none), externs := w2X₀ }
def w2E₁ : Env := { items := itemsOf (exCtx w2Schema w2Tbl .rust), externs := w2X₁ }
def w2Json : Json := .obj [("color", .str "red"), ("at", .str "x"), ("until", .int 5)]

theorem witness_type_name_injectivity :
    responseForQuery (exCtx w2Schema w2Tbl .none) 0 = .ok w2E₀.items ∧
    responseForQuery (exCtx w2Schema w2Tbl .rust) 0 = .ok w2E₁.items ∧
    IdStable (exCtx w2Schema w2Tbl .none) (exCtx w2Schema w2Tbl .rust) ∧ sameShape w2X₀ w2X₁ ∧ FieldsWF w2E₀ ∧
    ¬ KernelEq (envPairs w2E₀ w2E₁) ∧
    (∀ x ∈ envPairs w2E₀ w2E₁, (isPrimName x.1 = true ∨ isPrimName x.2 = true) → x.1 = x.2) ∧
    (∀ x ∈ w2E₀.items.zip w2E₁.items, EnumOK x.1 x.2) ∧ ¬ RenameInjective w2E₀ w2E₁ ∧
    (Serde.de w2E₀ rd w2Json).isOk = true ∧ (Serde.de w2E₁ rd w2Json).isOk = false := by
  decide +kernel

/-- **W3 — no name is mapped onto a prelude name** (second part of `RenameInjective`): `scalar string` becomes
    `String`; the consumer supplies `i64`.  `{"color": "red", "at": 5}` is accepted by the first module; in the
    second `at : Option<String>` resolves to the prelude `String` and the reply is rejected. -/
def w3Tbl : List (String × String) :=
  [("color_kind", "ColorKind"), ("red", "Red"), ("dark_blue", "DarkBlue"), ("filter_in", "FilterIn"),
   ("string", "String"), ("url", "Url")]
def w3Schema : Schema := exSchema "string" "url" "red" "dark_blue"
def w3X₀ : List (String × RTy) := [("super::string", .path "i64"), ("super::url", .path "i64")]
def w3X₁ : List (String × RTy) := [("super::String", .path "i64"), ("super::Url", .path "i64")]
def w3E₀ : Env := { items := itemsOf (exCtx w3Schema w3Tbl .none), externs := w3X₀ }
def w3E₁ : Env := { items := itemsOf (exCtx w3Schema w3Tbl .rust), externs := w3X₁ }
def w3Json : Json := .obj [("color", .str "red"), ("at", .int 5)]

theorem witness_prelude_name :
    responseForQuery (exCtx w3Schema w3Tbl .none) 0 = .ok w3E₀.items ∧
    responseForQuery (exCtx w3Schema w3Tbl .rust) 0 = .ok w3E₁.items ∧
    IdStable (exCtx w3Schema w3Tbl .none) (exCtx w3Schema w3Tbl .rust) ∧ sameShape w3X₀ w3X₁ ∧ FieldsWF w3E₀ ∧
    ¬ (∀ x ∈ envPairs w3E₀ w3E₁, (isPrimName x.1 = true ∨ isPrimName x.2 = true) → x.1 = x.2) ∧
    (∀ x ∈ w3E₀.items.zip w3E₁.items, EnumOK x.1 x.2) ∧ ¬ RenameInjective w3E₀ w3E₁ ∧
    (Serde.de w3E₀ rd w3Json).isOk = true ∧ (Serde.de w3E₁ rd w3Json).isOk = false := by
  decide +kernel

/-- **W4 — `IdStable`**: `scalar I_D` becomes `ID`; the generator then treats the field as a GraphQL `ID` and
    attaches `deserialize_with = deserialize_option_id`: the two modules are *not* equal up to names, and
    `{"color": "red", "at": 5}` is rejected by the first (a `String` is expected) and accepted by the second. -/
def w4Tbl : List (String × String) :=
  [("color_kind", "ColorKind"), ("red", "Red"), ("dark_blue", "DarkBlue"), ("filter_in", "FilterIn"),
   ("I_D", "ID"), ("url", "Url")]
def w4Schema : Schema := exSchema "I_D" "url" "red" "dark_blue"
def w4X₀ : List (String × RTy) := [("super::I_D", .path "String"), ("super::url", .path "String")]
def w4X₁ : List (String × RTy) := [("super::ID", .path "String"), ("super::Url", .path "String")]
def w4E₀ : Env := { items := itemsOf (exCtx w4Schema w4Tbl .none), externs := w4X₀ }
def w4E₁ : Env := { items := itemsOf (exCtx w4Schema w4Tbl .rust), externs := w4X₁ }

theorem witness_idStable :
    responseForQuery (exCtx w4Schema w4Tbl .none) 0 = .ok w4E₀.items ∧
    responseForQuery (exCtx w4Schema w4Tbl .rust) 0 = .ok w4E₁.items ∧
    ¬ IdStable (exCtx w4Schema w4Tbl .none) (exCtx w4Schema w4Tbl .rust) ∧ sameShape w4X₀ w4X₁ ∧ FieldsWF w4E₀ ∧
    (w4E₀.items.map eraseItem != w4E₁.items.map eraseItem) = true ∧
    (Serde.de w4E₀ rd w3Json).isOk = false ∧ (Serde.de w4E₁ rd w3Json).isOk = true := by
  decide +kernel

/-- on the concrete instance the theorem gives: the same round trip for every reply, the same JSON for
    corresponding `Variables` -/
example (j : Json) : DRel Eq (Serde.roundtrip okE₀ rd j) (Serde.roundtrip okE₁ rd j) := by
  obtain ⟨h₀, h₁, _, H, hid, hx, hinj, hwf⟩ := okInstance
  exact (normalization_wire_invariant H hid 0 h₀ h₁ okX₀ okX₁ hx hinj hwf).2.2.1 j

/-- for the enums the generator emits, `EnumOK` is exactly: the two identifier lists have the same kernel -/
theorem enumOK_enumItem (c c' : Ctx) (e : StoredEnum) :
    EnumOK (enumItem c e) (enumItem c' e) ↔
    KernelEq ((e.variants.map fun v => enumVariantIdent c.o.normalization c.cs v).zip
              (e.variants.map fun v => enumVariantIdent c'.o.normalization c'.cs v)) := by
  simp only [enumItem, EnumOK, identPairs, List.map_map, Function.comp_def, Prod.swap, true_and]

/-! ## the side condition in terms of names and of the schema's enums -/

/-- the names part of `RenameInjective`: the correspondence of type names between the two modules is a partial
    bijection and relates a prelude name only to itself -/
def NamesInjective (e e' : Env) : Prop :=
  KernelEq (envPairs e e') ∧ ∀ x ∈ envPairs e e', (isPrimName x.1 = true ∨ isPrimName x.2 = true) → x.1 = x.2

instance (e e' : Env) : Decidable (NamesInjective e e') := by unfold NamesInjective; infer_instance

/-- the enum part of `RenameInjective`, on the schema: for every enum, two values get the same Rust identifier
    under `c` iff they do under `c'` (with both identifier lists duplicate-free this is: the renaming of the
    variant identifiers is injective) -/
def EnumIdentsInjective (c c' : Ctx) : Prop :=
  ∀ e ∈ c.s.enums,
    KernelEq ((e.variants.map fun v => enumVariantIdent c.o.normalization c.cs v).zip
              (e.variants.map fun v => enumVariantIdent c'.o.normalization c'.cs v))

instance (c c' : Ctx) : Decidable (EnumIdentsInjective c c') := by unfold EnumIdentsInjective; infer_instance

theorem enumOK_of_not_enum {it it' : Item} (h : isEnum it = false) : EnumOK it it' := by
  cases it <;> cases it' <;> simp_all [isEnum, EnumOK]

/-- for two *generated* modules the enum tables are those of `enumItem`: `RenameInjective` reduces to
    `NamesInjective` and the schema-level `EnumIdentsInjective` -/
theorem renameInjective_of_generated {c₀ c₁ : Ctx} (H : NormAgree c₀ c₁) (hid : IdStable c₀ c₁) (op : Nat)
    {items₀ items₁ : List Item} (h₀ : responseForQuery c₀ op = .ok items₀) (h₁ : responseForQuery c₁ op = .ok items₁)
    (x₀ x₁ : List (String × RTy))
    (hn : NamesInjective { items := items₀, externs := x₀ } { items := items₁, externs := x₁ })
    (he : EnumIdentsInjective c₀ c₁) :
    RenameInjective { items := items₀, externs := x₀ } { items := items₁, externs := x₁ } := by
  have hm := normalization_modRel H hid op
  rw [h₀, h₁] at hm
  obtain ⟨_, _, _, _, _, _, _, _, _, _, _, _, _, _, _, _, _, _, hef⟩ := (show ModRel c₀ c₁ items₀ items₁ from hm)
  refine ⟨hn.1, hn.2, fun x hx => ?_⟩
  rcases hef x hx with ⟨e, hmem, rfl⟩ | hne
  · exact (enumOK_enumItem c₀ c₁ e).mpr (he e hmem)
  · exact enumOK_of_not_enum hne

/-- **`normalization_wire_invariant`, with the side condition split** into the injectivity of the type-name
    correspondence of the two modules and the injectivity of the variant-identifier renaming on the schema's enums -/
theorem normalization_wire_invariant_of_names {c₀ c₁ : Ctx} (H : NormAgree c₀ c₁) (hid : IdStable c₀ c₁) (op : Nat)
    {items₀ items₁ : List Item} (h₀ : responseForQuery c₀ op = .ok items₀) (h₁ : responseForQuery c₁ op = .ok items₁)
    (x₀ x₁ : List (String × RTy)) (hx : x₀.map (fun x => eraseTy x.2) = x₁.map (fun x => eraseTy x.2))
    (hn : NamesInjective { items := items₀, externs := x₀ } { items := items₁, externs := x₁ })
    (he : EnumIdentsInjective c₀ c₁) (hwf : FieldsWF { items := items₀, externs := x₀ }) :
    let e₀ : Env := { items := items₀, externs := x₀ }
    let e₁ : Env := { items := items₁, externs := x₁ }
    EnvRen (Corr e₀ e₁) e₀ e₁ ∧
    (∀ j, DRel (VRel (Corr e₀ e₁) e₀ e₁ (.path "ResponseData"))
      (Serde.de e₀ (.path "ResponseData") j) (Serde.de e₁ (.path "ResponseData") j)) ∧
    (∀ j, DRel Eq (Serde.roundtrip e₀ (.path "ResponseData") j) (Serde.roundtrip e₁ (.path "ResponseData") j)) ∧
    (∀ v v', VRel (Corr e₀ e₁) e₀ e₁ (.path "Variables") v v' →
      DRel Eq (Serde.ser e₀ (.path "Variables") v) (Serde.ser e₁ (.path "Variables") v')) :=
  normalization_wire_invariant H hid op h₀ h₁ x₀ x₁ hx (renameInjective_of_generated H hid op h₀ h₁ x₀ x₁ hn he) hwf

/-- in W1 it is the schema-level condition that fails -/
example : ¬ EnumIdentsInjective (exCtx w1Schema w1Tbl .none) (exCtx w1Schema w1Tbl .rust) := by decide +kernel

/-- … and it holds of the good instance -/
example : EnumIdentsInjective (exCtx okSchema okTbl .none) (exCtx okSchema okTbl .rust) ∧ NamesInjective okE₀ okE₁ :=
  ⟨by decide +kernel, okInstance.2.2.2.2.2.2.1.1, okInstance.2.2.2.2.2.2.1.2.1⟩

/-! ### the good instance, spelled out -/

/-- the module of the good instance, as a function of the names that `normalization` changes -/
def okItems (date url color red blue filt : String) : List Item :=
  builtinAliases ++
  [.alias date false (.path ("super::" ++ date)), .alias url false (.path ("super::" ++ url)),
   .gqlEnum color [] "::serde" [red, blue] [(red, "red"), (blue, "dark_blue")] [("red", red), ("dark_blue", blue)],
   .struct filt ["Serialize"] (some "::serde")
     [{ rust := "kind", ty := .opt (.path color) }, { rust := "since", ty := .path date }],
   .struct "Variables" ["Serialize"] (some "::serde") [{ rust := "f", ty := .opt (.path filt) }],
   .defaults [],
   .struct "ResponseData" ["Deserialize"] (some "::serde")
     [{ rust := "color", ty := .path color }, { rust := "at", ty := .opt (.path date) },
      { rust := "until", ty := .opt (.path url) }]]

theorem okE₀_items : okE₀.items = okItems "date_time" "url" "color_kind" "red" "dark_blue" "filter_in" := by
  decide +kernel

theorem okE₁_items : okE₁.items = okItems "DateTime" "Url" "ColorKind" "Red" "DarkBlue" "FilterIn" := by
  decide +kernel

/-- `Variables { f: Some(filter_in { kind: Some(color_kind::<id>), since: "2020" }) }` -/
def okVars (ident : String) : Val :=
  .record [("f", .some (.record [("kind", .some (.variant ident none)), ("since", .str "2020")]))]

/-- corresponding `Variables` values: the enum value `red` is `color_kind::red` in the first module and
    `ColorKind::Red` in the second -/
theorem okVars_rel : VRel (Corr okE₀ okE₁) okE₀ okE₁ (.path "Variables") (okVars "red") (okVars "Red") := by
  have hV : okE₀.find "Variables" = some (.struct "Variables" ["Serialize"] (some "::serde")
      [{ rust := "f", ty := .opt (.path "filter_in") }]) := by rw [Env.find, okE₀_items]; rfl
  have hF : okE₀.find "filter_in" = some (.struct "filter_in" ["Serialize"] (some "::serde")
      [{ rust := "kind", ty := .opt (.path "color_kind") }, { rust := "since", ty := .path "date_time" }]) := by
    rw [Env.find, okE₀_items]; rfl
  have hC : okE₀.find "color_kind" = some (.gqlEnum "color_kind" [] "::serde" ["red", "dark_blue"]
      [("red", "red"), ("dark_blue", "dark_blue")] [("red", "red"), ("dark_blue", "dark_blue")]) := by
    rw [Env.find, okE₀_items]; rfl
  have hC' : okE₁.find "ColorKind" = some (.gqlEnum "ColorKind" [] "::serde" ["Red", "DarkBlue"]
      [("Red", "red"), ("DarkBlue", "dark_blue")] [("red", "Red"), ("dark_blue", "DarkBlue")]) := by
    rw [Env.find, okE₁_items]; rfl
  have hcorr : Corr okE₀ okE₁ "color_kind" "ColorKind" := by
    rw [Corr, envPairs, okE₀_items, okE₁_items]; decide +kernel
  have hkind : VRel (Corr okE₀ okE₁) okE₀ okE₁ (.opt (.path "color_kind"))
      (.some (.variant "red" none)) (.some (.variant "Red" none)) :=
    .some (.enum hC hcorr hC' (by decide))
  have hsince : VRel (Corr okE₀ okE₁) okE₀ okE₁ (.path "date_time") (.str "2020") (.str "2020") := .plain rfl
  refine vrel_ofPW hV (.cons ⟨rfl, ⟨_, List.mem_cons_self, rfl⟩, fun g hg hgr => ?_⟩ .nil)
  simp only [List.mem_singleton] at hg
  subst hg
  refine .some (vrel_ofPW hF (.cons ⟨rfl, ⟨_, List.mem_cons_self, rfl⟩, fun g hg hgr => ?_⟩
    (.cons ⟨rfl, ⟨_, List.mem_cons_of_mem _ List.mem_cons_self, rfl⟩, fun g hg hgr => ?_⟩ .nil)))
  · simp only [List.mem_cons, List.not_mem_nil, or_false] at hg
    rcases hg with rfl | rfl
    · exact hkind
    · simp at hgr
  · simp only [List.mem_cons, List.not_mem_nil, or_false] at hg
    rcases hg with rfl | rfl
    · simp at hgr
    · exact hsince

/-- hence both modules put the same JSON on the wire for them (and it is not an error) -/
example : DRel Eq (Serde.ser okE₀ (.path "Variables") (okVars "red")) (Serde.ser okE₁ (.path "Variables") (okVars "Red")) ∧
    (Serde.ser okE₀ (.path "Variables") (okVars "red")).isOk = true := by
  obtain ⟨h₀, h₁, _, H, hid, hx, hinj, hwf⟩ := okInstance
  exact ⟨(normalization_wire_invariant H hid 0 h₀ h₁ okX₀ okX₁ hx hinj hwf).2.2.2 _ _ okVars_rel, by decide +kernel⟩

/-- **W5 — the renaming must be a function** (the other direction of `KernelEq (envPairs ..)`): an enum whose name
    starts with `__` (like the introspection enums) is *defined* under its camel-cased name but *referenced*
    under its raw name (`Normalization.fieldType` keeps `__…` names, `enumName` does not).  The name `__kind`
    of the first module corresponds both to `Kind` and to `__kind` in the second; there the reference dangles and
    `{"color": "red"}` is no longer read. -/
def w5Tbl : List (String × String) :=
  [("__kind", "Kind"), ("red", "Red"), ("dark_blue", "DarkBlue"), ("filter_in", "FilterIn"),
   ("date_time", "DateTime"), ("url", "Url")]
def w5Schema : Schema := { okSchema with enums := [{ name := "__kind", variants := ["red", "dark_blue"] }] }
def w5E₀ : Env := { items := itemsOf (exCtx w5Schema w5Tbl .none), externs := okX₀ }
def w5E₁ : Env := { items := itemsOf (exCtx w5Schema w5Tbl .rust), externs := okX₁ }

theorem witness_raw_reference :
    responseForQuery (exCtx w5Schema w5Tbl .none) 0 = .ok w5E₀.items ∧
    responseForQuery (exCtx w5Schema w5Tbl .rust) 0 = .ok w5E₁.items ∧
    IdStable (exCtx w5Schema w5Tbl .none) (exCtx w5Schema w5Tbl .rust) ∧ sameShape okX₀ okX₁ ∧ FieldsWF w5E₀ ∧
    EnumIdentsInjective (exCtx w5Schema w5Tbl .none) (exCtx w5Schema w5Tbl .rust) ∧
    Corr w5E₀ w5E₁ "__kind" "Kind" ∧ Corr w5E₀ w5E₁ "__kind" "__kind" ∧ ¬ NamesInjective w5E₀ w5E₁ ∧
    (Serde.de w5E₀ rd (.obj [("color", .str "red")])).isOk = true ∧
    (Serde.de w5E₁ rd (.obj [("color", .str "red")])).isOk = false := by
  decide +kernel

/-- **W6 — `FieldsWF`** (Serde level; not reachable from the generator, whose identifier renaming is one global
    function): a struct with two fields of the same Rust name `a` but different enum types.  `Serialize` looks
    both up under `a` and finds the first value.  In `e` the identifier `A` of the first enum happens to be an
    identifier of the second one too, in `e'` (`B` / `C`) it is not: all of `RenameInjective` holds, the two
    environments are related by `EnvRen`, yet the round trip succeeds in `e` and fails in `e'`. -/
def w6Items (i1 i2 : String) : List Item :=
  [.gqlEnum "E1" [] "" [i1] [(i1, "p")] [("p", i1)], .gqlEnum "E2" [] "" [i2] [(i2, "q")] [("q", i2)],
   .struct "S" [] none [{ rust := "a", rename := some "x", ty := .path "E1" }, { rust := "a", rename := some "y", ty := .path "E2" }]]
def w6E₀ : Env := { items := w6Items "A" "A" }
def w6E₁ : Env := { items := w6Items "B" "C" }
def w6Json : Json := .obj [("x", .str "p"), ("y", .str "q")]

theorem witness_fieldsWF :
    EnvRen (Corr w6E₀ w6E₁) w6E₀ w6E₁ ∧ RenameInjective w6E₀ w6E₁ ∧ ¬ FieldsWF w6E₀ ∧
    (Serde.roundtrip w6E₀ (.path "S") w6Json).isOk = true ∧ (Serde.roundtrip w6E₁ (.path "S") w6Json).isOk = false :=
  ⟨envRen_of_erase (by decide +kernel) (by decide +kernel) (by decide +kernel), by decide +kernel, by decide +kernel,
   by decide +kernel, by decide +kernel⟩

end C09N
end GqlVerif
