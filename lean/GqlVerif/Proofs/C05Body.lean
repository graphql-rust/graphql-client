import GqlVerif.Model.Envelope
import GqlVerif.Props.C05
import GqlVerif.Proofs.C06Sound
/-!
# C05 — the request body `build_query` produces

`buildQuery` mirrors the `impl GraphQLQuery` block `generated_module.rs` emits.  For a module `M` of `generate`:
`M.query` is the text passed in, `M.operationName` the name of an operation as written, and the items are
`responseForQuery` of the **first** operation with the same *normalized* name.  That is the named operation itself
under `NoEarlierClash` — always under `Normalization::None`, and whenever normalization is injective on the document's
operation names; `clash_witness` (`getA` / `GetA` under `Normalization::Rust`) shows the side condition is needed.
-/
namespace GqlVerif
namespace C05Body
open Codegen

/-! ## `build_query` -/

/-- the emitted
    `fn build_query(variables) -> QueryBody { QueryBody { variables, query: QUERY, operation_name: OPERATION_NAME } }`
    (`generated_module.rs`); `QUERY` / `OPERATION_NAME` are the module's two constants, `vars` is what the
    `Variables` value serializes to -/
def buildQuery (M : Module) (vars : Json) : Envelope.QueryBody :=
  { variables := vars, query := M.query, operationName := M.operationName }

/-- **the body, exactly**: an object with the three members `variables`, `query`, `operationName`, in
    this order, holding the variables, the module's `QUERY` and the module's `OPERATION_NAME` -/
theorem body_members (M : Module) (v : Json) :
    Envelope.serQueryBody (buildQuery M v) =
      .obj [("variables", v), ("query", .str M.query), ("operationName", .str M.operationName)] := rfl

theorem body_keys (M : Module) (v : Json) :
    ∃ kvs, Envelope.serQueryBody (buildQuery M v) = .obj kvs ∧
      kvs.map (·.1) = ["variables", "query", "operationName"] ∧
      Json.lookup "variables" kvs = some v ∧
      Json.lookup "query" kvs = some (.str M.query) ∧
      Json.lookup "operationName" kvs = some (.str M.operationName) ∧
      ∀ k, k ≠ "variables" → k ≠ "query" → k ≠ "operationName" → Json.lookup k kvs = none := by
  refine ⟨_, rfl, rfl, rfl, rfl, rfl, ?_⟩
  intro k h1 h2 h3
  have e1 : ("variables" == k) = false := by simpa using fun h => h1 h.symm
  have e2 : ("query" == k) = false := by simpa using fun h => h2 h.symm
  have e3 : ("operationName" == k) = false := by simpa using fun h => h3 h.symm
  simp [Json.lookup, e1, e2, e3]

/-! ### from `generate` to the module's constants -/

theorem getOperation_ok {q : Query} {i : Nat} {op : ROperation} (h : q.getOperation i = .ok op) :
    q.operations[i]? = some op :=
  C02.getOperation_ok h

/-- every module `generate` returns is `generatedModule` of one operation of the resolved document, called
    with the document text and that operation's name as written -/
theorem generate_inv (s : Schema) (cs : CaseFns) (o : Options) (text : String) (doc : QDoc) (ms : List Module)
    (h : generate s cs o text doc = .ok ms) :
    ∃ q, Resolve.resolve s doc = .ok q ∧
      ∀ M ∈ ms, ∃ (i : Nat) (op : ROperation), q.operations[i]? = some op ∧
        generatedModule { s, q, o, cs } text op.name = .ok M := by
  unfold generate at h
  cases hq : Resolve.resolve s doc with
  | error e => simp [hq, bind, Except.bind] at h
  | ok q =>
    refine ⟨q, rfl, ?_⟩
    simp only [hq, bind, Except.bind] at h
    obtain ⟨ops, hops⟩ : ∃ ops : List Nat, ops.mapM (fun i => do
        let op ← q.getOperation i
        generatedModule { s, q, o, cs } text op.name) = .ok ms := by
      cases hsel : o.operationName.bind (selectOperation { s, q, o, cs }) with
      | some i => simp only [hsel, pure, Except.pure] at h; exact ⟨_, h⟩
      | none =>
        cases hmode : o.mode with
        | cli => simp only [hsel, hmode, pure, Except.pure] at h; exact ⟨_, h⟩
        | derive => simp [hsel, hmode, fail'] at h
    intro M hM
    obtain ⟨i, _, hfi⟩ := C02.mapM_ok_mem hops M hM
    obtain ⟨op, hop, hfi⟩ := C02.bind_ok hfi
    exact ⟨i, op, getOperation_ok hop, hfi⟩

/-- the operation table of a resolved document lists the operation names of the document, exactly as
    written, in document order, and they are pairwise distinct (composition of `C06Sound.createRoots_names`
    and `C06Sound.fold_ok`) -/
theorem resolve_opNames {s : Schema} {d : QDoc} {q : Query} (h : Resolve.resolve s d = .ok q) :
    q.operations.map (·.name) = Valid.opNames d ∧ (Valid.opNames d).Nodup := by
  obtain ⟨q0, h0, h1, _⟩ := C06Sound.resolve_inv h
  obtain ⟨_, hfn, hon, hond⟩ := C06Sound.createRoots_names h0
  have hf := C06Sound.fold_ok s d q0 q h1 hfn hond
  have := hf.onames_eq
  simp only [C06Sound.onames] at this
  exact ⟨this.trans hon, hond⟩

theorem mem_opNames_iff {d : QDoc} {n : String} :
    n ∈ Valid.opNames d ↔ ∃ kind vars sels, QDef.op kind (some n) vars sels ∈ d := by
  unfold Valid.opNames
  rw [List.mem_filterMap]
  constructor
  · rintro ⟨x, hx, hn⟩
    cases x with
    | op k name v sels =>
      cases name with
      | none => simp at hn
      | some m => simp only [Option.some.injEq] at hn; subst hn; exact ⟨k, v, sels, hx⟩
    | selset _ => simp at hn
    | frag _ _ _ => simp at hn
  · rintro ⟨k, v, sels, hx⟩
    exact ⟨_, hx, rfl⟩

/-- the normalized name (`Normalization::operation`) under the options of `c` -/
abbrev normOp (c : Ctx) (name : String) : String := c.o.normalization.operation c.cs name

/-- no operation written before the `i`-th one has the same **normalized** name -/
def NoEarlierClash (c : Ctx) (i : Nat) : Prop :=
  ∀ (j : Nat) (opj opi : ROperation), j < i → c.q.operations[j]? = some opj → c.q.operations[i]? = some opi →
    normOp c opj.name ≠ normOp c opi.name

/-- **C05, from `generate` to the wire.**  For every module `M` that `generate` returns:
    * `M.query` is the document text passed in, byte for byte;
    * `M.operationName` is the name of the `i`-th operation of the document exactly as written
      (an entry of `Valid.opNames doc`, not normalized);
    * the module's items are `responseForQuery` of the **first** operation whose normalized name equals the
      normalized `M.operationName` (index `root ≤ i`); this is operation `i` itself when no earlier operation
      has the same normalized name (`NoEarlierClash`). -/
theorem body_of_generate (s : Schema) (cs : CaseFns) (o : Options) (text : String) (doc : QDoc)
    (ms : List Module) (M : Module) (h : generate s cs o text doc = .ok ms) (hM : M ∈ ms) :
    M.query = text ∧
    ∃ (q : Query) (i : Nat) (op : ROperation), Resolve.resolve s doc = .ok q ∧ q.operations[i]? = some op ∧
      M.operationName = op.name ∧ (Valid.opNames doc)[i]? = some M.operationName ∧
      (∃ kind vars sels, QDef.op kind (some M.operationName) vars sels ∈ doc) ∧
      ∃ root, root ≤ i ∧ selectOperation { s, q, o, cs } (normOp { s, q, o, cs } M.operationName) = some root ∧
        (∀ j opj, j < root → q.operations[j]? = some opj →
          normOp { s, q, o, cs } opj.name ≠ normOp { s, q, o, cs } M.operationName) ∧
        responseForQuery { s, q, o, cs } root = .ok M.items ∧
        (NoEarlierClash { s, q, o, cs } i → root = i) := by
  obtain ⟨q, hq, hall⟩ := generate_inv s cs o text doc ms h
  obtain ⟨i, op, hop, hgen⟩ := hall M hM
  obtain ⟨root, items, hsel, hresp, hitems, hname, htext⟩ := C05.module_shape _ _ _ _ hgen
  obtain ⟨hnames, _⟩ := resolve_opNames hq
  have hith : (Valid.opNames doc)[i]? = some M.operationName := by
    rw [← hnames, List.getElem?_map, hop, hname]; rfl
  obtain ⟨opr, hopr, hnorm, hmin⟩ := C05.selectOperation_spec _ _ _ hsel
  have hle : root ≤ i := by
    refine Nat.le_of_not_lt fun hlt => ?_
    exact hmin i hlt op hop rfl
  refine ⟨htext, q, i, op, hq, hop, hname, hith, mem_opNames_iff.mp (List.mem_of_getElem? hith), root, hle, ?_, ?_, ?_, ?_⟩
  · rw [hname]; exact hsel
  · intro j opj hj hopj; rw [hname]; exact hmin j hj opj hopj
  · rw [hitems]; exact hresp
  · intro hno
    rcases Nat.lt_or_ge root i with hlt | hge
    · exact absurd hnorm (hno root opr op hlt hopr hop)
    · exact Nat.le_antisymm hle hge

/-! ### when is the first match the operation itself? -/

theorem index_of_name {ops : List ROperation} (hnd : (ops.map (·.name)).Nodup) {i j : Nat} {a b : ROperation}
    (hi : ops[i]? = some a) (hj : ops[j]? = some b) (hn : a.name = b.name) : i = j := by
  have hlt : i < (ops.map (·.name)).length := by
    have := (List.getElem?_eq_some_iff.mp hi).1; simpa using this
  refine (List.getElem?_inj hlt hnd).mp ?_
  rw [List.getElem?_map, List.getElem?_map, hi, hj]; simp [hn]

/-- `NoEarlierClash` holds at every position as soon as normalization is injective on the names the
    document defines (different operations keep different names after normalization) -/
theorem noEarlierClash_of_injective (c : Ctx) (hnd : (c.q.operations.map (·.name)).Nodup)
    (hinj : ∀ a ∈ c.q.operations, ∀ b ∈ c.q.operations, normOp c a.name = normOp c b.name → a.name = b.name)
    (i : Nat) : NoEarlierClash c i := by
  intro j opj opi hlt hj hi heq
  have := index_of_name hnd hj hi (hinj opj (List.mem_of_getElem? hj) opi (List.mem_of_getElem? hi) heq)
  omega

/-- without normalization (`Normalization::None`, the default) names are compared as written: never a clash -/
theorem noEarlierClash_of_none (c : Ctx) (hnd : (c.q.operations.map (·.name)).Nodup)
    (hn : c.o.normalization = .none) (i : Nat) : NoEarlierClash c i :=
  noEarlierClash_of_injective c hnd
    (fun a _ b _ h => by simpa [normOp, Normalization.operation, Normalization.camelCase, hn] using h) i

/-- **the items of a module are generated from the operation it names**, whenever no earlier operation has
    the same normalized name; in particular always under `Normalization::None`, and under
    `Normalization::Rust` whenever `to_upper_camel_case` keeps the document's operation names apart -/
theorem items_of_named_operation (s : Schema) (cs : CaseFns) (o : Options) (text : String) (doc : QDoc)
    (ms : List Module) (M : Module) (h : generate s cs o text doc = .ok ms) (hM : M ∈ ms)
    (hok : o.normalization = .none ∨
      ∀ a ∈ Valid.opNames doc, ∀ b ∈ Valid.opNames doc,
        o.normalization.operation cs a = o.normalization.operation cs b → a = b) :
    ∃ (q : Query) (i : Nat) (op : ROperation), Resolve.resolve s doc = .ok q ∧ q.operations[i]? = some op ∧
      op.name = M.operationName ∧ (Valid.opNames doc)[i]? = some M.operationName ∧
      responseForQuery { s, q, o, cs } i = .ok M.items := by
  obtain ⟨_, q, i, op, hq, hop, hname, hith, _, root, _, _, _, hresp, hown⟩ :=
    body_of_generate s cs o text doc ms M h hM
  obtain ⟨hnames, hnd⟩ := resolve_opNames hq
  have hno : NoEarlierClash { s, q, o, cs } i := by
    rcases hok with hn | hinj
    · exact noEarlierClash_of_none _ (hnames ▸ hnd) hn i
    · refine noEarlierClash_of_injective _ (hnames ▸ hnd) ?_ i
      intro a ha b hb heq
      have ha' : a.name ∈ Valid.opNames doc := hnames ▸ List.mem_map_of_mem ha
      have hb' : b.name ∈ Valid.opNames doc := hnames ▸ List.mem_map_of_mem hb
      exact hinj _ ha' _ hb' heq
  exact ⟨q, i, op, hq, hop, hname.symm, hith, hown hno ▸ hresp⟩

/-- … and that table entry is the resolved form of the one definition of the document carrying the name:
    same kind, the schema's root type for that kind, and a selection that corresponds (`C06Sound.CorrL`) to
    the written one -/
theorem named_operation_is_written (s : Schema) (doc : QDoc) (q : Query) (i : Nat) (op : ROperation)
    (hq : Resolve.resolve s doc = .ok q) (hop : q.operations[i]? = some op) :
    ∃ vars sels root, QDef.op op.kind (some op.name) vars sels ∈ doc ∧ Valid.rootOf s op.kind = some root ∧
      op.objectId = root ∧
      C06Sound.CorrL s (C06Sound.ftff (Valid.fragTable doc)) (.object root) sels op.sels := by
  obtain ⟨hnames, hnd⟩ := resolve_opNames hq
  obtain ⟨q0, h0, h1, _⟩ := C06Sound.resolve_inv hq
  have hres := C06Sound.resolved_of_phases h0 h1
  have hmem : op.name ∈ Valid.opNames doc := hnames ▸ List.mem_map_of_mem (List.mem_of_getElem? hop)
  obtain ⟨kind, vars, sels, hdef⟩ := mem_opNames_iff.mp hmem
  obtain ⟨n, root, id, rs, hn, hroot, _, hid, hcorr⟩ := hres.op kind _ vars sels hdef
  cases hn
  have : id = i := index_of_name (hnames ▸ hnd) hid hop rfl
  subst this
  have hopeq : op = { name := op.name, kind := kind, objectId := root, sels := rs } :=
    Option.some.inj (hop.symm.trans hid)
  rw [hopeq]
  exact ⟨vars, sels, root, hdef, hroot, rfl, hcorr⟩

/-- **end to end**: what a caller of `build_query` puts on the wire for a module produced by `generate` -/
theorem request_body_of_generate (s : Schema) (cs : CaseFns) (o : Options) (text : String) (doc : QDoc)
    (ms : List Module) (M : Module) (v : Json) (h : generate s cs o text doc = .ok ms) (hM : M ∈ ms) :
    ∃ n, n ∈ Valid.opNames doc ∧ M.operationName = n ∧
      Envelope.serQueryBody (buildQuery M v) = .obj [("variables", v), ("query", .str text), ("operationName", .str n)] := by
  obtain ⟨htext, _, i, _, _, _, _, hith, _⟩ := body_of_generate s cs o text doc ms M h hM
  exact ⟨M.operationName, List.mem_of_getElem? hith, rfl, by rw [body_members, htext]⟩

/-! ### the side condition cannot be dropped (finding: normalized-name clash)

`query getA { a }  query GetA { b }` with `Normalization::Rust`: both names normalize to `GetA`, `root()` looks
the operation up by normalized name and finds the first.  The module whose `OPERATION_NAME` is `GetA` gets the
types of `getA` (`ResponseData { a }`), not those of the operation it names (`ResponseData { b }`).
(The two modules are also called `get_a` / `struct GetA` twice, so rustc rejects the output in CLI mode; in
derive mode only the first of the two operations can ever be selected.) -/

def clashSdl : SdlDoc :=
  [.object "Query" [] [{ name := "a", ty := .named "String", directives := [] },
                       { name := "b", ty := .named "Int", directives := [] }]]

def clashDoc : QDoc :=
  [.op .query (some "getA") [] [.field none "a" []],
   .op .query (some "GetA") [] [.field none "b" []]]

/-- heck on the two names of the witness, identity elsewhere -/
def clashCs : CaseFns :=
  { snake := fun s => if s == "getA" || s == "GetA" then "get_a" else s,
    camel := fun s => if s == "getA" then "GetA" else s }

def sameItems : Outcome (List Item) → List Item → Bool
  | .ok a, b => a == b
  | .error _, _ => false

theorem clash_witness :
    (match Sdl.fromSdl clashSdl with
     | .ok s =>
       let o : Options := { normalization := .rust }
       match generate s clashCs o "TEXT" clashDoc, Resolve.resolve s clashDoc with
       | .ok [_, m1], .ok q =>
         m1.operationName == "GetA" && m1.query == "TEXT" &&
         sameItems (responseForQuery { s, q, o, cs := clashCs } 0) m1.items &&
         !sameItems (responseForQuery { s, q, o, cs := clashCs } 1) m1.items
       | _, _ => false
     | .error _ => false) = true := by decide +kernel

/-! the side condition of `items_of_named_operation` on concrete data: the default options do not normalize;
under `Normalization::Rust` the names `getA`, `getB` stay apart, the names of `clashDoc` do not -/

example : ({} : Options).normalization = .none := rfl

example : ∀ a ∈ ["getA", "getB"], ∀ b ∈ ["getA", "getB"],
    Normalization.rust.operation clashCs a = Normalization.rust.operation clashCs b → a = b := by decide +kernel

example : Valid.opNames clashDoc = ["getA", "GetA"] ∧
    Normalization.rust.operation clashCs "getA" = Normalization.rust.operation clashCs "GetA" := by decide +kernel

end C05Body
end GqlVerif
