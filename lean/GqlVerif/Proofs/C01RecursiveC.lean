import GqlVerif.Proofs.C01RecursiveB
/-!
# C01 / C03 end to end, `RecFragmentOp` 3/4: top level over `Codegen.responseForQuery` (acceptance)

`topEnvR_of_module`: the hypotheses of `C01RecursiveB` hold for the module `responseForQuery` emits.  The struct of
every reachable fragment is in the module (`usedFrags_reach`, `ModFacts.used`, `recfragment_struct_shape`), the static
depth of every selection set is below the number of items (`depthR_sels`), and `Serde.deFuel` is enough for a payload of
any size (`deFuel_R`: 4 jumps to named types per nesting level of the payload).  Hence `recfragment_precise_iff` (C03)
and, against the specification `conformsOpR` ("the specification side" below), `recfragment_accepts`.

Hypotheses (decidable): `RecFragmentOp c op`, `recKeysOk c op` (keys disjoint between a fragment and its siblings,
in the operation and inside every reachable fragment), `moduleOk c items`.
-/
namespace GqlVerif
namespace C01
namespace E2E
open Serde Spec C03 Codegen

/-! ## top level -/

/-- **keys disjoint between every fragment and its siblings** (and between the fragments of one selection set), at
    every level of the operation and inside the body of every reachable fragment (decidable) -/
def recKeysOk (c : Ctx) (op : ROperation) : Bool :=
  fragKeysOk c op &&
  (usedFrags c.q op.sels).all (fun g =>
    keysOksF c.s c.q (fragSels c.q g) && EnumSpec.nodup (expKeys c.s c.q (fragSels c.q g)))

/-- what the end-to-end theorems need of the environment (discharged for the environment built from
    `responseForQuery` by `topEnvR_of_module`) -/
structure TopEnvR (e : Env) (c : Ctx) (op : ROperation) : Prop where
  root : BodyEnvR e c "ResponseData" (c.cs.camel op.name) op.sels
  world : RWorld e c (usedFrags c.q op.sels) e.items.length
  depth : selsDepth op.sels ≤ e.items.length
  two : 2 ≤ e.items.length

theorem deFuel_R (e : Env) (j : Json) (h2 : 2 ≤ e.items.length) :
    4 * jsonSize j + 2 * e.items.length + 4 ≤ deFuel e j := by
  unfold deFuel
  rw [Nat.add_mul]
  have h1 : jsonSize j * 4 ≤ jsonSize j * (e.items.length + e.externs.length + 2) :=
    Nat.mul_le_mul_left _ (by omega)
  omega

theorem top_accepts_iffR (e : Env) (c : Ctx) (op : ROperation) (ht : RecFragmentOp c op = true)
    (hk : recKeysOk c op = true) (he : TopEnvR e c op) (j : Json) :
    okB (Serde.de e (.path "ResponseData") j) = conformsLooseR c.s c.q c.o (jsonSize j) false op.sels j := by
  obtain ⟨_, _, hsels, hcl, _⟩ := recFragmentOp_parts ht
  simp only [recKeysOk, fragKeysOk, Bool.and_eq_true] at hk
  rw [de_top]
  exact accR he.world (jsonSize j) op.objectId op.sels _ _ hsels (closedFrags_parts hcl).1 he.root hk.1.1 hk.1.2
    he.depth false _ (deFuel_R e j he.two) j (Nat.le_refl _)

theorem topEnvR_of_module {c : Ctx} {opIdx : Nat} {op : ROperation} {items : List Item}
    (hop : c.q.operations[opIdx]? = some op) (ht : RecFragmentOp c op = true) (hk : recKeysOk c op = true)
    (hgen : responseForQuery c opIdx = .ok items) (hok : moduleOk c items = true) :
    TopEnvR (moduleEnv c items) c op := by
  obtain ⟨hn, _, hsels, hcl, hfok⟩ := recFragmentOp_parts ht
  obtain ⟨u, F, _, hF, M, hsub, hsubF, htail⟩ :=
    module_tail hop hn hgen hok (recfragment_items_shape c op (List.mem_of_getElem? hop) ht)
  obtain ⟨hcl1, hcl2⟩ := closedFrags_parts hcl
  simp only [recKeysOk, Bool.and_eq_true, List.all_eq_true] at hk
  have hlen : (moduleEnv c items).items.length = items.length := rfl
  rw [hlen] at htail
  -- the items of every reachable fragment are in the module
  have hfragmem : ∀ g ∈ usedFrags c.q op.sels, ∀ f, c.q.fragments[g]? = some f →
      (Item.struct f.name c.respDerives c.serdeCrate (fieldsOfR c (c.cs.camel f.name) f.sels) ::
        itemsRs c (c.cs.camel f.name) f.sels) ∈ F := by
    intro g hg f hf
    have hr := usedFrags_reach c.q op.sels g hg
    have hused : g ∈ u.fragments := M.used _ hr
    obtain ⟨its, hits, hfi⟩ := C02.mapM_ok_of_mem hF g ((C02.mem_sortNat _ _).mpr hused)
    obtain ⟨f', hf', hshape⟩ := recfragment_struct_shape c hn g (hfok g hg)
    rw [hf] at hf'; cases hf'
    rw [hshape] at hfi; cases hfi
    exact hits
  have hFlen : F.flatten.length ≤ items.length := by omega
  have hworld : RWorld (moduleEnv c items) c (usedFrags c.q op.sels) items.length := {
    closed := hcl2
    ok := hfok
    env := by
      intro g hg
      obtain ⟨f, i, hf, hon, _, hnt, hr⟩ := fragBodyOk_parts (hfok g hg)
      have hin : ∀ it ∈ (Item.struct f.name c.respDerives c.serdeCrate (fieldsOfR c (c.cs.camel f.name) f.sels) ::
          itemsRs c (c.cs.camel f.name) f.sels), it ∈ items := by
        intro it hit
        exact hsubF it (List.mem_flatten.mpr ⟨_, hfragmem g hg f hf, hit⟩)
      unfold FragEnvR
      rw [hf]
      exact ⟨structEnv_of M _ _ (hin _ (by simp)),
        envSelsR_of M f.sels _ i hr (fun x hx it h => hin it (by simp [mem_itemsRs hx h]))
          (fun x hx => reach_step_spread (usedFrags_reach c.q op.sels g hg) hf hx)⟩
    keys := fun g hg => by simpa using hk.2 g hg
    depth := by
      intro g hg
      obtain ⟨f, i, hf, hon, _, hnt, hr⟩ := fragBodyOk_parts (hfok g hg)
      have hs : fragSels c.q g = f.sels := by simp [fragSels, hf]
      have h1 := length_le_flatten (hfragmem g hg f hf)
      have h2 := depthR_sels c f.sels (c.cs.camel f.name) _ hr
      rw [hs]
      simp only [List.length_cons] at h1
      omega }
  have htwo : 2 ≤ items.length := by omega
  by_cases hsp : ∃ g, op.sels = [Sel.spread g]
  · obtain ⟨g, hg⟩ := hsp
    refine ⟨?_, hworld, ?_, htwo⟩
    · unfold BodyEnvR
      rw [hg]
      simp only
      exact aliasEnvR_of M _ _ (fragmentIsRecursive c.q g) (hsub _ (by rw [hg]; simp [bodyItemsR]))
    · rw [hg, hlen]; simp [selsDepth, selDepth]; omega
  · have hnl : ∀ g, op.sels ≠ [Sel.spread g] := fun g hg => hsp ⟨g, hg⟩
    have hsels' := hsels
    rw [rBody_not_lone hnl] at hsels'
    have hbody := bodyItemsR_not_lone c "ResponseData" (c.cs.camel op.name) hnl
    rw [hbody] at hsub htail
    refine ⟨?_, hworld, ?_, htwo⟩
    · unfold BodyEnvR
      split
      · exact absurd (by assumption) (hnl _)
      · exact ⟨structEnv_of M _ _ (hsub _ (by simp)),
          envSelsR_of M op.sels _ op.objectId hsels' (fun x hx it h => hsub it (by simp [mem_itemsRs hx h]))
            (fun x hx => .here hx)⟩
    · have hd := depthR_sels c op.sels (c.cs.camel op.name) _ hsels'
      simp only [List.length_cons] at htail
      rw [hlen]
      omega

/-- **`recfragment_precise` (C03), as an equivalence.**  The emitted `ResponseData` accepts `j` **iff**
    `conformsLooseR … (jsonSize j) false op.sels j`. -/
theorem recfragment_precise_iff (c : Ctx) (opIdx : Nat) (op : ROperation) (items : List Item)
    (hop : c.q.operations[opIdx]? = some op) (ht : RecFragmentOp c op = true) (hk : recKeysOk c op = true)
    (hgen : responseForQuery c opIdx = .ok items) (hok : moduleOk c items = true) (j : Json) :
    okB (Serde.de (moduleEnv c items) (.path "ResponseData") j) =
      conformsLooseR c.s c.q c.o (jsonSize j) false op.sels j :=
  top_accepts_iffR (moduleEnv c items) c op ht hk (topEnvR_of_module hop ht hk hgen hok) j

theorem recfragment_precise (c : Ctx) (opIdx : Nat) (op : ROperation) (items : List Item)
    (hop : c.q.operations[opIdx]? = some op) (ht : RecFragmentOp c op = true) (hk : recKeysOk c op = true)
    (hgen : responseForQuery c opIdx = .ok items) (hok : moduleOk c items = true) (j : Json) (v : Val)
    (hd : Serde.de (moduleEnv c items) (.path "ResponseData") j = .ok v) :
    conformsLooseR c.s c.q c.o (jsonSize j) false op.sels j = true :=
  Top.precise_of_iff (recfragment_precise_iff c opIdx op items hop ht hk hgen hok j) hd


/-! ## the specification side

GraphQL §6.4.3: CollectFields treats a fragment spread like an inline fragment with the fragment's type condition
and selection set.  With recursive fragments the unfolding never ends on the *selection* side, but a response is
finite: `expandR q k` unfolds spreads to nesting depth `k` (one unit per spread followed and per field entered);
the specification of `C01AbstractA`, `conformsV`, is applied to the selection set unfolded **deeper than the
payload is nested** (`k ≥ 2 * jsonSize j`: the residual spreads then lie below every object of the payload). -/

/-- unfold fragment spreads (as inline fragments on the fragment's type condition) to nesting depth `k` -/
def expandR (q : Query) : Nat → Sel → Sel
  | 0, x => x
  | k + 1, x =>
    match x with
    | .field a fid sub => .field a fid (sub.map (expandR q k))
    | .inline t sub => .inline t (sub.map (expandR q k))
    | .spread g => (match q.fragments[g]? with
      | some f => .inline f.on (f.sels.map (expandR q k))
      | none => .spread g)
    | .typename => .typename

/-- a response conforms to the operation (GraphQL spec §6.4): the response object of the root selection set,
    spreads unfolded to depth `k`, executed on the root object type -/
def conformsOpR (c : Ctx) (op : ROperation) (k : Nat) (j : Json) : Bool :=
  conformsV c.s op.objectId (op.sels.map (expandR c.q k)) j

theorem noSpreads_mem : ∀ {sels : List Sel}, noSpreads sels = true → ∀ y ∈ sels, noSpread y = true :=
  fun {sels} h => List.all_eq_true.mp (noSpreads_eq_all sels ▸ h)

theorem expandR_noSpread (q : Query) : ∀ (k : Nat) (x : Sel), noSpread x = true → expandR q k x = x
  | 0, _, _ => rfl
  | k + 1, .field a fid sub, h => by
    rw [noSpread] at h
    simp only [expandR]
    rw [List.map_congr_left (g := id) (fun y hy => expandR_noSpread q k y (noSpreads_mem h y hy)), List.map_id]
  | k + 1, .inline t sub, h => by
    rw [noSpread] at h
    simp only [expandR]
    rw [List.map_congr_left (g := id) (fun y hy => expandR_noSpread q k y (noSpreads_mem h y hy)), List.map_id]
  | k + 1, .spread g, h => by simp [noSpread] at h
  | k + 1, .typename, _ => rfl

theorem accepts_mono_size (f g : Json → Bool) (n : Nat) (h : ∀ j, jsonSize j ≤ n → f j = true → g j = true)
    (t : GTy) (v : Json) (hv : jsonSize v ≤ n) (hf : accepts f t v = true) : accepts g t v = true :=
  (accepts_mono_on (jsonSize · ≤ n) sizeLe_arr f g h t).2 v hv hf

section SpreadBody
variable {s : Schema} {q : Query} {o : Options} {G : List Nat}
  (hok : ∀ g ∈ G, fragBodyOk s q o g = true)
  (hcl : ∀ g ∈ G, ∀ g' ∈ spreadIdss (fragSels q g), g' ∈ G)
include hok hcl

/-- a spread of the class on the object type `i` stands for the body of its fragment; unfolding the spread costs one unit
    of depth more than unfolding the body -/
theorem spread_body {i g : Nat} (hsok : spreadOk q (.object i) g = true) (hg : g ∈ G) :
    rSels s q o (.object i) (fragSels q g) = true ∧ (fragSels q g).any isSpread = false ∧
    (∀ g' ∈ spreadIdss (fragSels q g), g' ∈ G) ∧
    ∀ k kvs, confSelV s i (expandR q (k + 2) (.spread g)) kvs =
      confSelsV s i ((fragSels q g).map (expandR q (k + 1))) kvs := by
  obtain ⟨fr, hfr, hon, _⟩ := spreadOk_parts hsok
  obtain ⟨fr', i', hfr', hon', _, hnt, hr⟩ := fragBodyOk_parts (hok g hg)
  rw [hfr] at hfr'; cases hfr'
  obtain rfl : i' = i := by rw [hon] at hon'; cases hon'; rfl
  have hsels : fragSels q g = fr.sels := by simp [fragSels, hfr]
  rw [hsels]
  refine ⟨hr, hnt, hsels ▸ hcl g hg, fun k kvs => ?_⟩
  simp [expandR, hfr, confSelV, hon, fragApplies]

theorem lone_body {i g : Nat} (hsok : spreadOk q (.object i) g = true) (hg : g ∈ G) (k : Nat)
    (kvs : List (String × Json)) :
    confSelsV s i ([Sel.spread g].map (expandR q (k + 2))) kvs =
      confSelsV s i ((fragSels q g).map (expandR q (k + 1))) kvs := by
  rw [List.map_cons, List.map_nil, confSelsV, confSelsV, Bool.and_true, (spread_body hok hcl hsok hg).2.2.2]

end SpreadBody

/-- `world_frag` for a fragment spread on the object type `i`, with `spread_body`'s equation -/
theorem world_spread {e : Env} {c : Ctx} {G : List Nat} {D : Nat} (W : RWorld e c G D) {i g : Nat}
    (hsok : spreadOk c.q (.object i) g = true) (hg : g ∈ G) :
    ∃ f, c.q.fragments[g]? = some f ∧ fragSels c.q g = f.sels ∧ fragName c g = f.name ∧
      f.sels.any isSpread = false ∧ rSels c.s c.q c.o (.object i) f.sels = true ∧
      StructEnv e f.name (fieldsOfR c (c.cs.camel f.name) f.sels) ∧ envSelsR e c (c.cs.camel f.name) f.sels ∧
      keysOksF c.s c.q f.sels = true ∧ EnumSpec.nodup (expKeys c.s c.q f.sels) = true ∧
      (∀ g' ∈ spreadIdss f.sels, g' ∈ G) ∧ selsDepth f.sels ≤ D ∧
      ∀ k kvs, confSelV c.s i (expandR c.q (k + 2) (.spread g)) kvs =
        confSelsV c.s i (f.sels.map (expandR c.q (k + 1))) kvs := by
  obtain ⟨f, i', hf, hon', hsels, hname, hnt, hr, hsenv, henvs, hko, hkeys, hcl, hdep⟩ := world_frag W hg
  obtain ⟨f', hf', hon, _⟩ := spreadOk_parts hsok
  rw [hf] at hf'; cases hf'
  obtain rfl : i' = i := by rw [hon] at hon'; cases hon'; rfl
  exact ⟨f, hf, hsels, hname, hnt, hr, fieldsOfR_noTop c _ f.sels hnt ▸ hsenv, henvs, hko, hkeys, hcl, hdep,
    hsels ▸ (spread_body W.ok W.closed hsok hg).2.2.2⟩

section SLR
variable (s : Schema) (q : Query) (o : Options) (G : List Nat)
  (hok : ∀ g ∈ G, fragBodyOk s q o g = true)
  (hcl : ∀ g ∈ G, ∀ g' ∈ spreadIdss (fragSels q g), g' ∈ G)

/-- the induction hypothesis of `conformsR_loose`.  Depth `2 n`: each level of the payload uses up one unit for the
    field entered and, a fragment body having no spread at its top level, at most one for a spread followed -/
def SLR (n : Nat) : Prop :=
  ∀ k, 2 * n ≤ k → ∀ b i sels j, jsonSize j ≤ n → rBody s q o (.object i) sels = true →
    (∀ g ∈ spreadIdss sels, g ∈ G) → conformsV s i (sels.map (expandR q k)) j = true →
    conformsLooseR s q o n b sels j = true

variable {n : Nat} (IH : SLR s q o G n)
include IH

theorem slFieldR (p : TypeId) (a : Option String) (fid : Nat) (sub : List Sel)
    (ht : rSel s q o p (.field a fid sub) = true) (hG : ∀ g ∈ spreadIdss sub, g ∈ G) (k : Nat) (hk : 2 * n ≤ k)
    (b : Bool) (v : Json) (hv : jsonSize v ≤ n)
    (h : strictFieldV s (expandR q (k + 1) (.field a fid sub)) v = true) :
    looseFieldP s o (conformsLooseR s q o n) b (.field a fid sub) v = true := by
  cases hsf : s.fields[fid]? with
  | none => rw [rSel] at ht; simp [hsf] at ht
  | some sf =>
    by_cases hobj : ∃ i, sf.ty.id = .object i
    · obtain ⟨i, hid⟩ := hobj
      rw [rSel] at ht
      simp only [expandR, strictFieldV] at h
      rw [looseFieldP]
      simp only [hsf, hid, Bool.and_eq_true] at h ht ⊢
      cases ho : s.objects[i]? with
      | none => simp [ho] at ht
      | some ob =>
        refine accepts_mono_size _ _ n ?_ _ v hv h
        intro j hjs hj
        simp only [conformsAt, List.any_eq_true, List.mem_range, Bool.and_eq_true, fragApplies, beq_iff_eq] at hj
        obtain ⟨rt, _, hrt, hc⟩ := hj
        subst hrt
        exact IH k hk b i sub j hjs ht.2.2 hG hc
    · have hno : ∀ i, sf.ty.id ≠ .object i := fun i h => hobj ⟨i, h⟩
      have hv' := vSel_of_rSel_nonobj ht hsf hno
      have hl : looseFieldP s o (conformsLooseR s q o n) b (.field a fid sub) v =
          looseFieldV s o b (.field a fid sub) v := by
        rw [looseFieldP]
        simp only [hsf]
      rw [hl]
      rw [expandR_noSpread q _ _ (noSpread_of_vSel s o _ false hv')] at h
      exact slField s o _ false b v hv' h

theorem slOwnR : ∀ (sels : List Sel) (p : TypeId) (b : Bool) (i : Nat) (kvs : List (String × Json)) (k : Nat),
    rSels s q o p sels = true → (∀ g ∈ spreadIdss sels, g ∈ G) → 2 * n ≤ k → kvsSize kvs ≤ n →
    (∀ key, countKey key kvs ≤ 1) → confSelsV s i (sels.map (expandR q (k + 1))) kvs = true →
    looseOwnP s o (conformsLooseR s q o n) b sels kvs = true
  | [], _, _, _, _, _, _, _, _, _, _, _ => by simp [looseOwnP]
  | x :: xs, p, b, i, kvs, k, ht, hG, hk, hsz, hc, h => by
    obtain ⟨hx, hxs⟩ := rSels_cons ht
    rw [List.map_cons, confSelsV, Bool.and_eq_true] at h
    rw [spreadIdss] at hG
    have ih := slOwnR xs p b i kvs k hxs (fun g hg => hG g (by simp [hg])) hk hsz hc h.2
    cases x with
    | field a fid sub =>
      have hcx := h.1
      have hexp : expandR q (k + 1) (.field a fid sub) = .field a fid (sub.map (expandR q k)) := rfl
      rw [hexp, confSelV_field] at hcx
      rw [looseOwnP, ih, Bool.and_true]
      cases hsf : s.fields[fid]? with
      | none => simp [hsf] at hcx
      | some sf =>
        simp only [hsf] at hcx ⊢
        cases hl : Json.lookup (a.getD sf.name) kvs with
        | none => simp [hl] at hcx
        | some v =>
          simp only [hl] at hcx ⊢
          have hvs := jsonSize_lookup hl
          have := slFieldR s q o G IH p a fid sub hx (fun g hg => hG g (by rw [spreadIds]; simp [hg])) k hk b v
            (by omega) (by rw [hexp]; exact hcx)
          simp [hc, this]
    | spread g => simpa [looseOwnP] using ih
    | inline t sub => simp [rSel] at hx
    | typename => simpa [looseOwnP] using ih

include hok hcl in
theorem slMemR (i : Nat) (kvs : List (String × Json)) (hsz : kvsSize kvs ≤ n) (hc : ∀ key, countKey key kvs ≤ 1) :
    ∀ (sels : List Sel) (k : Nat), rSels s q o (.object i) sels = true → (∀ g, Sel.spread g ∈ sels → g ∈ G) →
    2 * n + 1 ≤ k → confSelsV s i (sels.map (expandR q (k + 1))) kvs = true →
    looseMemP s q o (conformsLooseR s q o n) sels kvs = true
  | [], _, _, _, _, _ => by simp [looseMemP]
  | x :: xs, k, ht, hG, hk, h => by
    obtain ⟨hx, hxs⟩ := rSels_cons ht
    rw [List.map_cons, confSelsV, Bool.and_eq_true] at h
    have ih := slMemR i kvs hsz hc xs k hxs (fun g hg => hG g (List.mem_cons_of_mem _ hg)) hk h.2
    cases x with
    | spread g =>
      obtain ⟨k', rfl⟩ : ∃ k', k = k' + 1 := ⟨k - 1, by omega⟩
      obtain ⟨hr, _, hclg, hexp⟩ := spread_body hok hcl (i := i) (by simpa [rSel] using hx) (hG g (by simp))
      rw [looseMemP, ih, Bool.and_true]
      exact slOwnR s q o G IH _ (.object i) true i kvs k' hr hclg (by omega) hsz hc (hexp k' kvs ▸ h.1)
    | field a fid sub => simpa [looseMemP] using ih
    | inline t sub => simpa [looseMemP] using ih
    | typename => simpa [looseMemP] using ih

end SLR

section SLR2
variable (s : Schema) (q : Query) (o : Options) (G : List Nat)
  (hok : ∀ g ∈ G, fragBodyOk s q o g = true)
  (hcl : ∀ g ∈ G, ∀ g' ∈ spreadIdss (fragSels q g), g' ∈ G)
include hok hcl

theorem slR_succ {n : Nat} (IH : SLR s q o G n) : SLR s q o G (n + 1) := by
  intro k hk b i sels j hj ht hG hc
  obtain ⟨kvs, rfl, hnd, hconf⟩ := conformsV_obj hc
  rw [jsonSize_obj] at hj
  have hcnt := countKey_le_one_of_nodup hnd
  obtain ⟨k', rfl⟩ : ∃ k', k = k' + 2 := ⟨k - 2, by omega⟩
  by_cases hsp : ∃ g, sels = [Sel.spread g]
  · obtain ⟨g, rfl⟩ := hsp
    have hgG := hG g (by simp [spreadIdss, spreadIds])
    obtain ⟨hr, hnt, hclg, _⟩ := spread_body hok hcl (i := i) ht hgG
    rw [lone_body hok hcl ht hgG] at hconf
    have hown := slOwnR s q o G IH _ (.object i) b i kvs k' hr hclg (by omega) (by omega) hcnt hconf
    simp only [conformsLooseR, looseBodyP, looseStructP, hown, looseMemP_nospread s q o _ kvs _ hnt, Bool.and_self]
  · have hnl : ∀ g, sels ≠ [Sel.spread g] := fun g hg => hsp ⟨g, hg⟩
    rw [rBody_not_lone hnl] at ht
    have hown := slOwnR s q o G IH sels (.object i) b i kvs (k' + 1) ht hG (by omega) (by omega) hcnt hconf
    have hmem := slMemR s q o G hok hcl IH i kvs (by omega) hcnt sels (k' + 1) ht
      (fun g hg => hG g (mem_spreadIdss_spread hg)) (by omega) hconf
    simp only [conformsLooseR, looseBodyP, looseStructP, hown, hmem, Bool.and_self]

theorem conformsR_loose : ∀ n, SLR s q o G n
  | 0 => by
    intro _ _ _ _ _ j hj
    have := jsonSize_pos j; omega
  | n + 1 => slR_succ s q o G hok hcl (conformsR_loose n)

end SLR2

/-- **`recfragment_accepts`.**  Every response that conforms to the operation with its spreads unfolded deeper than
    the payload is nested (any `k ≥ 2 * jsonSize j`) is accepted by the emitted `ResponseData`. -/
theorem recfragment_accepts (c : Ctx) (opIdx : Nat) (op : ROperation) (items : List Item)
    (hop : c.q.operations[opIdx]? = some op) (ht : RecFragmentOp c op = true) (hk : recKeysOk c op = true)
    (hgen : responseForQuery c opIdx = .ok items) (hok : moduleOk c items = true)
    (j : Json) (k : Nat) (hkj : 2 * jsonSize j ≤ k) (hc : conformsOpR c op k j = true) :
    ∃ v, Serde.de (moduleEnv c items) (.path "ResponseData") j = .ok v := by
  obtain ⟨_, _, hsels, hcl, hfok⟩ := recFragmentOp_parts ht
  obtain ⟨hcl1, hcl2⟩ := closedFrags_parts hcl
  exact Top.accepts_of_iff (recfragment_precise_iff c opIdx op items hop ht hk hgen hok j)
    (conformsR_loose c.s c.q c.o _ hfok hcl2 (jsonSize j) k hkj false op.objectId op.sels j (Nat.le_refl _) hsels
      hcl1 hc)

end E2E
end C01
end GqlVerif
