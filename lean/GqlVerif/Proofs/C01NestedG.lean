import GqlVerif.Proofs.C01AliasFragG
/-!
# `NestedOp`, serde: a struct whose flattened members are struct items (plain or not)

A struct item satisfies `MemSpec` (`memSpec_struct`), and what `memV` reads at its name is `memberVal`
(`memberVal_eq_dePath`); so the two facts below are `okB_deStructMapA` (`C01AliasFragS`) and `deStructA_finds`
(`C01AliasFragG`) for such members.

* **`okB_deStructMapN`** — acceptance of a struct with own fields and any number of flattened struct members, plain or
  not: the own fields are accepted and every member accepts the WHOLE object.  Hypotheses: key sets `K g` with the own
  keys of `g` inside, pairwise disjoint and disjoint from the own keys of the struct; for a non-plain member, entries
  outside `K g` do not matter for its acceptance (`hirr`: it reads from a buffer the own keys / the keys of earlier plain
  members were taken out of; for a plain member that is `deOwn_filter_not`);
* **`deStructN_finds`** — the record read has, under the Rust name of every own field, what `readField` reads from the
  object, and under the Rust name of every flattened member `g` what `memberVal` reads from the object with some entries
  **whose keys are outside `K g`** filtered out.
-/

namespace GqlVerif
namespace C01N
open Serde Spec C13 C03 Codegen C01 C01.E2E C01M C01AF

/-- a struct item, as a flattened member in the sense of `MemSpec` -/
theorem memberOkA_of_N {e : Env} {fuel : Nat} {g : RField} {K : List String} (h : MemberOkN e g)
    (hsub : ∀ f ∈ memberFields e g, f.flatten = false → f.wire ∈ K) :
    MemberOkA e fuel K g ∧ ∀ kvs, memV e fuel g kvs = memberVal e fuel g kvs := by
  obtain ⟨q, n, d, c, hty, hnp, hfind⟩ := h
  refine ⟨⟨q, hty, memSpec_struct e fuel q n d c _ K hnp hfind hsub⟩, fun kvs => ?_⟩
  rw [memberVal_eq_dePath e fuel g q n d c hty hnp hfind]
  simp only [memV, hty]

/-- **acceptance of a struct with own fields and any number of flattened struct members, plain or not** -/
theorem okB_deStructMapN (e : Env) (fuel : Nat) (pathD : String → Json → D Val) (fields : List RField)
    (kvs : List (String × Json)) (K : RField → List String) (hany : fields.any (·.flatten) = true)
    (hok : ∀ g ∈ fields, g.flatten = true → MemberOkN e g)
    (hsub : ∀ g ∈ fields, g.flatten = true → ∀ f ∈ memberFields e g, f.flatten = false → f.wire ∈ K g)
    (hown : ∀ g ∈ fields, g.flatten = true → ∀ k ∈ (fields.filter (fun f => !f.flatten)).map (·.wire), k ∉ K g)
    (hirr : ∀ g ∈ fields, g.flatten = true → plain (memberFields e g) = false → ∀ L' : List String, (∀ k ∈ L', k ∉ K g) →
      okB (memberVal e fuel g (kvs.filter (fun kv => !L'.contains kv.1))) = okB (memberVal e fuel g kvs))
    (hpw : fields.Pairwise (fun g g' => g.flatten = true → g'.flatten = true → ∀ k ∈ K g', k ∉ K g)) :
    okB (deStructMapWith pathD (deFlat e (fuel + 1)) fields kvs) =
      (okB (deOwnWith pathD (fields.filter (fun f => !f.flatten)) kvs) &&
        (fields.filter (·.flatten)).all (fun g => okB (memberVal e fuel g kvs))) := by
  have hA := fun g hg hf => memberOkA_of_N (fuel := fuel) (hok g hg hf) (hsub g hg hf)
  rw [okB_deStructMapA e fuel pathD fields kvs K hany (fun g hg hf => (hA g hg hf).1) hown ?_ hpw,
    all_congr_mem _ (fun g hg => by rw [(hA g (List.mem_filter.mp hg).1 (List.mem_filter.mp hg).2).2])]
  intro g hg hf L' hL'
  rw [(hA g hg hf).2, (hA g hg hf).2]
  cases hpl : plain (memberFields e g)
  · exact hirr g hg hf hpl L' hL'
  · -- a plain member reads its own keys only
    unfold memberVal
    rw [deStructMap_plain _ _ _ _ hpl, deStructMap_plain _ _ _ _ hpl,
      deOwn_filter_not _ L' kvs _ (fun f hf' hfl hfL => hL' _ hfL (hsub g hg hf f hf' hfl))]

/-- **what a struct with (or without) flattened struct members — plain or not — reads, found again by name** -/
theorem deStructN_finds (e : Env) (fuel : Nat) (pathD : String → Json → D Val) (fields : List RField)
    (kvs : List (String × Json)) (K : RField → List String) (hcnt : ∀ k, countKey k kvs ≤ 1)
    (hrust : (fields.map (·.rust)).Nodup)
    (hok : ∀ g ∈ fields, g.flatten = true → MemberOkN e g)
    (hsub : ∀ g ∈ fields, g.flatten = true → ∀ f ∈ memberFields e g, f.flatten = false → f.wire ∈ K g)
    (hown : ∀ g ∈ fields, g.flatten = true → ∀ k ∈ (fields.filter (fun f => !f.flatten)).map (·.wire), k ∉ K g)
    (hpw : fields.Pairwise (fun g g' => g.flatten = true → g'.flatten = true → ∀ k ∈ K g', k ∉ K g))
    (v : Val) (hd : deStructMapWith pathD (deFlat e (fuel + 1)) fields kvs = .ok v) :
    ∃ vals, v = .record vals ∧
      (∀ f ∈ fields, f.flatten = false → ∃ x, vals.find? (·.1 == f.rust) = some (f.rust, x) ∧
        readField pathD f kvs = .ok x) ∧
      (∀ g ∈ fields, g.flatten = true → ∃ (L' : List String) (x : Val), (∀ k ∈ L', k ∉ K g) ∧
        memberVal e fuel g (kvs.filter (fun kv => !L'.contains kv.1)) = .ok x ∧
        vals.find? (·.1 == g.rust) = some (g.rust, x)) := by
  have hA := fun g hg hf => memberOkA_of_N (fuel := fuel) (hok g hg hf) (hsub g hg hf)
  obtain ⟨vals, hv, hownf, hmemf⟩ := deStructA_finds e fuel pathD fields kvs K hcnt hrust
    (fun g hg hf => (hA g hg hf).1) hown hpw v hd
  refine ⟨vals, hv, hownf, fun g hg hf => ?_⟩
  obtain ⟨L', x, hL', hval, hfind⟩ := hmemf g hg hf
  exact ⟨L', x, hL', by rw [← (hA g hg hf).2]; exact hval, hfind⟩

end C01N
end GqlVerif
