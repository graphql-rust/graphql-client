import GqlVerif.Proofs.ComposedC13
/-!
# Composed C16 — the ID member the generator emits, read by the serde model

`C16.id_field_iff` is about a local copy (`idHelperFor`) of `renderField`'s if-chain.  Here the member
`Codegen.renderField` emits carries a `deserialize_with` helper iff the type name it was given is `"ID"`, and then it
is `idHelperFor t` (so the copy is faithful); `Serde.deFieldWith` on that member reads exactly
`deNestedId (rustOf "ID" t)`, for every well-formed `t`, every flag (`flatten`, `boxed`, deprecation) and every `path`;
hence it accepts exactly `Spec.accepts idOk t`, an in-range integer yields its decimal string, and at every ID type
reading a payload gives the same value as reading it with every in-range integer replaced by its decimal string.  For
any other type name there is no helper: the member is read structurally (`deTyWith`).

Composed through the field loop, the member emitted for a selection of a scalar field has the helper iff the
*normalized* scalar name is `"ID"` (`fieldType_eq_ID_iff`; for normalization `none` iff the scalar is `ID`;
`helper_on_renamed_scalar` shows the side condition is needed under `rust`; `helper_on_struct_named_ID`: a path-named
struct called `ID` gets the helper too — such modules fail `C02.NoClash`).
-/
namespace GqlVerif
namespace Composed
open Codegen Serde Spec C13 C03 C16 C02

/-! ## what `renderField` attaches -/

theorem renderField_helper (c : Ctx) (g : Option String) (r ft : String) (t : GTy) (fl bx : Bool)
    (dep : Option (Option String)) (f : RField)
    (h : renderField c g r ft (GTy.quals t) fl bx dep = .ok (some f)) :
    f.deserWith = if ft = "ID" then some (idHelperFor t) else none := by
  rw [(renderField_fields c g r ft (GTy.quals t) fl bx dep f h).1]
  by_cases hid : ft = "ID"
  · subst hid
    simp only [beq_self_eq_true, Bool.not_true, Bool.false_eq_true, ↓reduceIte, idHelperFor]
    split
    · rfl
    · split <;> rfl
  · simp [hid]

/-- **helper iff ID** (on `renderField`, any qualifiers, any flags) -/
theorem helper_iff_ID (c : Ctx) (g : Option String) (r ft : String) (quals : List Qual) (fl bx : Bool)
    (dep : Option (Option String)) (f : RField)
    (h : renderField c g r ft quals fl bx dep = .ok (some f)) :
    f.deserWith.isSome = true ↔ ft = "ID" := by
  rw [attach_iff_ID c g r ft quals fl bx dep f h]
  simp

/-! ## what the serde model does with it -/

theorem deNestedId_box (t : RTy) (j : Json) : deNestedId (.box t) j = deNestedId t j := by
  rw [deNestedId]

theorem deHelper_idHelperFor (t : GTy) (hw : wf t = true) (j : Json) :
    deHelper (idHelperFor t) (rustOf (.path "ID") t) j = deNestedId (rustOf (.path "ID") t) j := by
  unfold idHelperFor
  cases hl : (GTy.quals t).contains .list
  · cases hr : (GTy.quals t).contains .required
    · obtain ⟨n, rfl⟩ := quals_no_list_no_req hw hl hr
      simp only [Bool.false_eq_true, ↓reduceIte, deHelper,
        show ("graphql_client::serde_with::deserialize_option_id" == "graphql_client::serde_with::deserialize_id") = false by decide,
        beq_self_eq_true, rustOf, rustOfNN, deNestedId]
    · obtain ⟨n, rfl⟩ := quals_no_list_req hw hl hr
      simp only [Bool.false_eq_true, ↓reduceIte, deHelper, beq_self_eq_true, rustOf, rustOfNN, deNestedId]
  · simp only [↓reduceIte, deHelper,
      show ("graphql_client::serde_with::deserialize_nested_id" == "graphql_client::serde_with::deserialize_id") = false by decide,
      show ("graphql_client::serde_with::deserialize_nested_id" == "graphql_client::serde_with::deserialize_option_id") = false by decide,
      Bool.false_eq_true, beq_self_eq_true]

theorem deHelper_box (h : String) (t : RTy) (j : Json) : deHelper h (.box t) j = deHelper h t j := by
  unfold deHelper
  rw [deNestedId_box]

/-- **what the emitted ID member reads**: whatever the flags and the `path`, the member `renderField` emits for type
    name `"ID"` and type expression `t` is read by `deFieldWith` as `deNestedId (rustOf "ID" t)` -/
theorem id_field_value (c : Ctx) (g : Option String) (r : String) (t : GTy) (fl bx : Bool)
    (dep : Option (Option String)) (f : RField) (hw : wf t = true)
    (h : renderField c g r "ID" (GTy.quals t) fl bx dep = .ok (some f))
    (path : String → Json → D Val) (j : Json) :
    deFieldWith path f j = deNestedId (rustOf (.path "ID") t) j := by
  have hd := renderField_helper c g r "ID" t fl bx dep f h
  have hty := renderField_type_rule c g r "ID" t fl bx dep f hw h
  simp only [↓reduceIte] at hd
  unfold deFieldWith
  rw [hd, hty]
  simp only []
  cases bx
  · exact deHelper_idHelperFor t hw j
  · simp only [boxIf, ↓reduceIte, deHelper_box]
    exact deHelper_idHelperFor t hw j

/-- **C16, composed**: the member `Codegen.renderField` emits for an `ID` position of type expression `t`, read by the
    serde model's field reader, accepts exactly the JSON admitted by `t` with ID leaves (string, or integer within
    i64) — every list / non-null nesting, every flag, every reader `path` of the named types -/
theorem id_field_composed (c : Ctx) (g : Option String) (r : String) (t : GTy) (fl bx : Bool)
    (dep : Option (Option String)) (f : RField) (hw : wf t = true)
    (h : renderField c g r "ID" (GTy.quals t) fl bx dep = .ok (some f))
    (path : String → Json → D Val) (j : Json) :
    okB (deFieldWith path f j) = accepts idOk t j := by
  rw [id_field_value c g r t fl bx dep f hw h path j]
  exact (nested_id_iff t hw).2 j

/-- `ID!`: an integer within i64 is accepted and yields its decimal string; a string is taken verbatim -/
theorem id_field_int_required (c : Ctx) (g : Option String) (r n : String) (fl bx : Bool)
    (dep : Option (Option String)) (f : RField)
    (h : renderField c g r "ID" (GTy.quals (.nonNull (.named n))) fl bx dep = .ok (some f))
    (path : String → Json → D Val) :
    (∀ k : Int, i64Ok k = true → deFieldWith path f (.int k) = .ok (.str (toString k))) ∧
    (∀ s : String, deFieldWith path f (.str s) = .ok (.str s)) := by
  refine ⟨fun k hk => ?_, fun s => ?_⟩
  · rw [id_field_value c g r _ fl bx dep f rfl h]
    simp only [rustOf, rustOfNN, deNestedId]
    exact id_int k hk
  · rw [id_field_value c g r _ fl bx dep f rfl h]
    simp only [rustOf, rustOfNN, deNestedId]
    rfl

/-- `ID` (nullable): `null` is `None`, an integer within i64 yields `Some` of its decimal string -/
theorem id_field_int_nullable (c : Ctx) (g : Option String) (r n : String) (fl bx : Bool)
    (dep : Option (Option String)) (f : RField)
    (h : renderField c g r "ID" (GTy.quals (.named n)) fl bx dep = .ok (some f))
    (path : String → Json → D Val) :
    (∀ k : Int, i64Ok k = true → deFieldWith path f (.int k) = .ok (.some (.str (toString k)))) ∧
    (∀ s : String, deFieldWith path f (.str s) = .ok (.some (.str s))) ∧
    deFieldWith path f .null = .ok .unit := by
  refine ⟨fun k hk => ?_, fun s => ?_, ?_⟩
  · rw [id_field_value c g r _ fl bx dep f rfl h]
    simp only [rustOf, rustOfNN, deNestedId, Json.isNull, Bool.false_eq_true, ↓reduceIte, id_int k hk]
    rfl
  · rw [id_field_value c g r _ fl bx dep f rfl h]
    simp only [rustOf, rustOfNN, deNestedId, Json.isNull, Bool.false_eq_true, ↓reduceIte, id_str]
    rfl
  · rw [id_field_value c g r _ fl bx dep f rfl h]
    simp only [rustOf, rustOfNN, deNestedId, Json.isNull, ↓reduceIte]
    rfl

/-! ## canonical reading: an in-range integer and its decimal string are read alike, at every depth -/

mutual
  /-- replace every in-range integer by its decimal string (through arrays) -/
  def canonId : Json → Json
    | .int n => if inI64 n then .str (toString n) else .int n
    | .arr xs => .arr (canonIds xs)
    | j => j
  def canonIds : List Json → List Json
    | [] => []
    | x :: xs => canonId x :: canonIds xs
end

theorem canonIds_eq_map (xs : List Json) : canonIds xs = xs.map canonId := by
  induction xs with
  | nil => rfl
  | cons x xs ih => simp [canonIds, ih]

theorem deIntOrString_canon (j : Json) : deIntOrString (canonId j) = deIntOrString j := by
  cases j with
  | int n =>
    simp only [canonId]
    by_cases h : inI64 n = true
    · simp [h, deIntOrString, pure, Except.pure]
    · simp [h]
  | arr xs => simp [canonId, deIntOrString]
  | null => rfl
  | bool b => rfl
  | num s => rfl
  | str s => rfl
  | obj kvs => rfl

theorem canonId_isNull (j : Json) : (canonId j).isNull = j.isNull := by
  cases j with
  | int n => simp only [canonId]; split <;> rfl
  | arr xs => simp [canonId, Json.isNull]
  | null => rfl
  | bool b => rfl
  | num s => rfl
  | str s => rfl
  | obj kvs => rfl

/-- **canonical**: at every Rust type an ID position can have, the nested helper reads a payload exactly as it reads
    the payload with every in-range integer replaced by its decimal string -/
theorem deNestedId_canon : ∀ (ty : RTy) (j : Json), deNestedId ty (canonId j) = deNestedId ty j := by
  intro ty
  induction ty with
  | path p => intro j; simp only [deNestedId]; exact deIntOrString_canon j
  | opt t ih => intro j; simp only [deNestedId, canonId_isNull, ih]
  | box t ih => intro j; simp only [deNestedId, ih]
  | vec t ih =>
    intro j
    cases j with
    | arr xs =>
      simp only [canonId, deNestedId, canonIds_eq_map]
      rw [List.mapM_map, show deNestedId t ∘ canonId = deNestedId t from funext ih]
    | int n => simp only [canonId]; split <;> rfl
    | null => rfl
    | bool b => rfl
    | num s => rfl
    | str s => rfl
    | obj kvs => rfl

/-- the emitted ID member reads integers and their decimal strings alike, at every list depth -/
theorem id_read_canonical (c : Ctx) (g : Option String) (r : String) (t : GTy) (fl bx : Bool)
    (dep : Option (Option String)) (f : RField) (hw : wf t = true)
    (h : renderField c g r "ID" (GTy.quals t) fl bx dep = .ok (some f))
    (path : String → Json → D Val) (j : Json) :
    deFieldWith path f (canonId j) = deFieldWith path f j := by
  rw [id_field_value c g r t fl bx dep f hw h, id_field_value c g r t fl bx dep f hw h]
  exact deNestedId_canon _ j

/-- `[ID!]!`: a list of in-range integers yields the list of their decimal strings -/
theorem id_field_int_list (c : Ctx) (g : Option String) (r n : String) (fl bx : Bool)
    (dep : Option (Option String)) (f : RField)
    (h : renderField c g r "ID" (GTy.quals (.nonNull (.list (.nonNull (.named n))))) fl bx dep = .ok (some f))
    (path : String → Json → D Val) (ks : List Int) (hk : ∀ k ∈ ks, i64Ok k = true) :
    deFieldWith path f (.arr (ks.map Json.int)) = .ok (.list (ks.map fun k => Val.str (toString k))) := by
  rw [id_field_value c g r _ fl bx dep f rfl h]
  simp only [rustOf, rustOfNN, deNestedId]
  have : (ks.map Json.int).mapM (fun x => deIntOrString x) = .ok (ks.map fun k => Val.str (toString k)) := by
    rw [List.mapM_map]; exact C02.mapM_eq_ok_map _ _ ks (fun k hk' => id_int k (hk k hk'))
  rw [this]
  rfl

/-! ## any other type name: no helper -/

/-- for a type name other than `"ID"` the member has no helper and is read structurally at its `rustOf` type -/
theorem non_id_field_plain (c : Ctx) (g : Option String) (r ft : String) (t : GTy) (fl bx : Bool)
    (dep : Option (Option String)) (f : RField) (hw : wf t = true) (hne : ft ≠ "ID")
    (h : renderField c g r ft (GTy.quals t) fl bx dep = .ok (some f))
    (path : String → Json → D Val) (j : Json) :
    f.deserWith = none ∧ deFieldWith path f j = deTyWith path (rustOf (.path ft) t) j := by
  have hd := renderField_helper c g r ft t fl bx dep f h
  have hty := renderField_type_rule c g r ft t fl bx dep f hw h
  simp only [hne, ↓reduceIte] at hd
  refine ⟨hd, ?_⟩
  unfold deFieldWith
  rw [hd, hty]
  cases bx
  · rfl
  · simp only [boxIf, ↓reduceIte]
    rw [deTyWith]

/-! ## composed through the field loop -/

theorem fieldType_eq_ID_iff (n : Normalization) (cs : CaseFns) (s : String) :
    n.fieldType cs s = "ID" ↔ s = "ID" ∨ (s.startsWith "__" = false ∧ n.camelCase cs s = "ID") := by
  unfold Normalization.fieldType
  by_cases h1 : s = "ID"
  · subst h1; simp
  · cases h2 : s.startsWith "__"
    · simp [h1]
    · simp [h1]

theorem fieldType_none_eq_ID_iff (cs : CaseFns) (s : String) : Normalization.none.fieldType cs s = "ID" ↔ s = "ID" := by
  rw [fieldType_eq_ID_iff]
  simp only [Normalization.camelCase]
  constructor
  · rintro (h | ⟨_, h⟩) <;> exact h
  · exact .inl

/-- **the member emitted for a selection of a scalar field** (field loop → `renderField`): it carries a helper iff the
    normalized scalar name is `"ID"` -/
theorem calcFields_scalar_helper_iff (c : Ctx) (f : Nat) (pfx : String) (ty : TypeId) (a : Option String) (fid : Nat)
    (sub rest : List Sel) (fs : List RField) (items : List Item) (sf : StoredField) (k : Nat) (sn : String)
    (hsf : c.s.fields[fid]? = some sf) (hk : sf.ty.id = .scalar k) (hsn : c.s.scalars[k]? = some sn)
    (hem : emitted c sf = true)
    (h : calcFields c (f + 1) pfx ty (.field a fid sub :: rest) = .ok (fs, items)) :
    ∃ fld fs', fs = fld :: fs' ∧ fld.wire = a.getD sf.name ∧
      renderField c (some (a.getD sf.name)) (keywordReplace (c.cs.snake (a.getD sf.name)))
        (c.o.normalization.fieldType c.cs sn) sf.ty.quals false false sf.deprecation = .ok (some fld) ∧
      (fld.deserWith.isSome = true ↔ c.o.normalization.fieldType c.cs sn = "ID") := by
  obtain ⟨sf', fld, its, fs', items', hsf', hr, rfl, rfl, hstep⟩ := calcFields_field_ok h
  rw [hsf] at hsf'
  cases hsf'
  rcases hstep with ⟨e, _, he, _⟩ | ⟨k', sn', hk', hsn', _, hrf⟩ | ⟨_, h2, _⟩
  · rw [hk] at he; cases he
  · rw [hk] at hk'
    cases hk'
    rw [hsn] at hsn'
    cases hsn'
    rcases renderField_ok hrf with ⟨_, h1, h2⟩ | ⟨x, rfl, _, hr', _, hren⟩
    · simp [emitted, h1, h2] at hem
    · exact ⟨x, fs', rfl, wire_of_rename _ _ x hr' (by simpa using hren), hrf, helper_iff_ID _ _ _ _ _ _ _ _ _ hrf⟩
  · exact absurd hk (h2 k)

/-- **the member emitted for a selection of a field of the built-in type `ID`** accepts exactly the values of the
    declared type expression, and reads integers as decimal strings (`id_field_value`) -/
theorem calcFields_id_field (c : Ctx) (f : Nat) (pfx : String) (ty : TypeId) (a : Option String) (fid : Nat)
    (sub rest : List Sel) (fs : List RField) (items : List Item) (sf : StoredField) (k : Nat) (t : GTy)
    (hsf : c.s.fields[fid]? = some sf) (hk : sf.ty.id = .scalar k) (hsn : c.s.scalars[k]? = some "ID")
    (hq : sf.ty.quals = GTy.quals t) (hw : wf t = true) (hem : emitted c sf = true)
    (h : calcFields c (f + 1) pfx ty (.field a fid sub :: rest) = .ok (fs, items)) :
    ∃ fld fs', fs = fld :: fs' ∧ fld.wire = a.getD sf.name ∧ fld.deserWith = some (idHelperFor t) ∧
      fld.ty = rustOf (.path "ID") t ∧
      ∀ (path : String → Json → D Val) (j : Json),
        deFieldWith path fld j = deNestedId (rustOf (.path "ID") t) j ∧
        okB (deFieldWith path fld j) = accepts idOk t j := by
  obtain ⟨fld, fs', rfl, hwire, hrf, _⟩ :=
    calcFields_scalar_helper_iff c f pfx ty a fid sub rest fs items sf k "ID" hsf hk hsn hem h
  have hft : c.o.normalization.fieldType c.cs "ID" = "ID" := by simp [Normalization.fieldType]
  rw [hft, hq] at hrf
  refine ⟨fld, fs', rfl, hwire, ?_, ?_, fun path j => ⟨?_, ?_⟩⟩
  · simpa using renderField_helper c _ _ "ID" t false false _ fld hrf
  · exact renderField_type_rule c _ _ "ID" t false false _ fld hw hrf
  · exact id_field_value c _ _ t false false _ fld hw hrf path j
  · exact id_field_composed c _ _ t false false _ fld hw hrf path j

/-- the side condition of "helper iff the scalar is `ID`" is needed under `rust` normalization: a custom scalar whose
    camel-cased name is `ID` (heck: `i_d`, `I_D` ↦ `ID`) gets the helper too (its alias then also collides with the
    built-in alias `ID`: the module does not compile, see `C02.NoClash`) -/
theorem helper_on_renamed_scalar :
    let cs : CaseFns := ⟨id, fun s => if s == "I_D" then "ID" else s⟩
    Normalization.rust.fieldType cs "I_D" = "ID" ∧ Normalization.none.fieldType cs "I_D" ≠ "ID" := by
  decide +kernel

/-! ## through `dePath`: a struct whose member is an emitted ID field -/

/-- a struct item with one own member that is the field emitted for an `ID!` position: `{"<wire>": 42}` is read as the
    record `<rust> = "42"` by the serde model's own named-type reader -/
theorem id_struct_reads_int (c : Ctx) (gname r n : String) (dep : Option (Option String)) (f : RField)
    (h : renderField c (some gname) r "ID" (GTy.quals (.nonNull (.named n))) false false dep = .ok (some f))
    (e : Env) (b : Bool) (fuel : Nat) (p sn : String) (d : List String) (sc : Option String)
    (hp : dePrim p (.obj [(gname, .int 42)]) = none) (hfind : e.find p = some (.struct sn d sc [f])) :
    dePath e b (fuel + 1) p (.obj [(gname, .int 42)]) = .ok (.record [(r, .str "42")]) := by
  have hwire : f.wire = gname := C11.wire_is_graphql_name c gname r "ID" _ false false dep f h
  obtain ⟨_, _, hrust, hfl⟩ := renderField_fields c (some gname) r "ID" _ false false dep f h
  have hv := (id_field_int_required c (some gname) r n false false dep f h (dePath e b fuel)).1 42 (by decide)
  rw [dePath]
  simp only [hp, hfind, deStructWith, deStructMapWith, List.any_cons, hfl, List.any_nil, Bool.or_self,
    Bool.false_eq_true, ↓reduceIte, deOwnWith, hwire, countKey, List.filter_cons, beq_self_eq_true,
    List.filter_nil, List.length_cons, List.length_nil, Nat.lt_irrefl, Json.lookup, hv, hrust, bind, Except.bind,
    pure, Except.pure]
  rfl

/-! ## non-vacuity -/

/-- the hypotheses of `id_field_composed` / `id_field_int_required` hold: `renderField` does emit a member for `id: ID!` -/
example : ∃ f, renderField richCtx (some "id") "id" "ID" (GTy.quals (.nonNull (.named "ID"))) false false none = .ok (some f) ∧
    f.deserWith = some "graphql_client::serde_with::deserialize_id" ∧
    ∀ path, deFieldWith path f (.int 42) = .ok (.str "42") := by
  cases h : renderField richCtx (some "id") "id" "ID" (GTy.quals (.nonNull (.named "ID"))) false false none with
  | error e => exact absurd h (by simp [renderField, decorateType, decorateStep, GTy.quals, bind, Except.bind, pure, Except.pure])
  | ok o =>
    cases o with
    | none =>
      rcases renderField_ok h with ⟨_, h1, _⟩ | ⟨f, hf, _⟩
      · cases h1
      · cases hf
    | some f =>
      refine ⟨f, rfl, ?_, fun path => (id_field_int_required richCtx _ _ "ID" false false none f h path).1 42 (by decide)⟩
      rw [renderField_helper richCtx _ _ "ID" _ false false none f h]
      decide

/-- the hypotheses of `calcFields_id_field` hold on the rich context of `C02Response`: the selection `id` of
    `Person.id : ID!` (field 7, scalar 0 = `ID`) -/
example : ∃ fld fs', (calcFields richCtx 3 "QAnimalOnDogOwner" (.object 3) [.field none 7 []]).map (·.1) = .ok (fld :: fs') ∧
    fld.wire = "id" ∧ fld.deserWith = some (idHelperFor (.nonNull (.named "ID"))) ∧
    ∀ path j, okB (deFieldWith path fld j) = accepts idOk (.nonNull (.named "ID")) j := by
  have hok : (calcFields richCtx 3 "QAnimalOnDogOwner" (.object 3) [.field none 7 []]).toOption.isSome = true := by
    decide +kernel
  cases h : calcFields richCtx 3 "QAnimalOnDogOwner" (.object 3) [.field none 7 []] with
  | error e => rw [h] at hok; cases hok
  | ok p =>
    obtain ⟨fs, items⟩ := p
    obtain ⟨fld, fs', rfl, hw, hd, _, hall⟩ := calcFields_id_field richCtx 2 _ _ none 7 [] [] fs items
      richCtx.s.fields[7] 0 (.nonNull (.named "ID")) rfl rfl rfl rfl rfl (by decide) h
    exact ⟨fld, fs', rfl, hw, hd, fun path j => (hall path j).2⟩

/-- `query I { d { x } }` with a case function that sends `d` to `D`: the nested struct is named `I` ++ `D` = `ID` -/
def idClashCtx : Ctx :=
  { s := { objects := [{ name := "Query", fields := [0], implements := [] }, { name := "T", fields := [1], implements := [] }],
           fields := [{ name := "d", ty := { id := .object 1, quals := [] }, parent := .object 0, deprecation := none },
                      { name := "x", ty := { id := .scalar 2, quals := [] }, parent := .object 1, deprecation := none }],
           scalars := Schema.defaultScalars },
    q := { operations := [{ name := "I", kind := .query, objectId := 0, sels := [.field none 0 [.field none 1 []]] }] },
    o := {}, cs := ⟨id, fun s => if s == "d" then "D" else s⟩ }

/-- the `ID` test of `renderField` is a test on the *Rust type name*: on `idClashCtx` (operation `I`, object field `d`) the
    nested struct is named `ID`, and the member `d: Option<ID>` gets `deserialize_option_id` although its type is an
    object.  The module defines `ID` twice (`C02.NoClash` is false), so it does not compile: the composed "helper iff
    built-in `ID`" holds on modules that pass the C02 scope check. -/
theorem helper_on_struct_named_ID :
    ((responseForQuery idClashCtx 0).toOption.map fun its => its.filterMap fun
      | .struct "ResponseData" _ _ fs => some (fs.map fun f => (f.rust, f.ty, f.deserWith))
      | _ => none) =
      some [[("d", .opt (.path "ID"), some "graphql_client::serde_with::deserialize_option_id")]] ∧
    C02.NoClash idClashCtx 0 = false := by
  constructor <;> decide +kernel

end Composed
end GqlVerif
