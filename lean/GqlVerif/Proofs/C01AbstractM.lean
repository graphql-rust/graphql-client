import GqlVerif.Proofs.C01MixedG
/-!
# C01 / C03 end to end, `FragmentOp` 5/5: exact acceptance, `fragment_accepts` / `fragment_precise_iff`, `fragment_lossless` /
`fragment_roundtrip`, as the case `FragmentOp ⊆ MixedOp` of the `MixedOp` theorems

`MixedOp` (`C01Mixed*`) allows at object positions what `FragmentOp` allows and more at the other fields.  On `FragmentOp`
the class predicates, side conditions, environment hypotheses, acceptance predicate and canonical form of `MixedOp` are
those of `FragmentOp` (`mSel_of_fSel`, `keysOkM_of_F`, `rustOkSelM_of_F`, `envSelM_of_F`, `looseFieldM_eq_F`,
`canonEntriesM_eq_F`; `C01MixedA`, `C`, `G`), so the theorems about the selection tree are instances of those of `MixedOp`;
the top level over `Codegen.responseForQuery` is `FragmentOp`'s own (`topEnvF_of_module`, `C01AbstractH`).
Evaluated instances: `C01AbstractHW`, `C01AbstractIW`.
-/
namespace GqlVerif
namespace C01
namespace E2E
open Serde C03 Codegen C01M

theorem fSels_of_fBody {s : Schema} {q : Query} {o : Options} {p : TypeId} {sels : List Sel}
    (h : fBody s q o p sels = true) : fSels s q o p sels = true := by
  by_cases hsp : ∃ g, sels = [Sel.spread g]
  · obtain ⟨g, rfl⟩ := hsp
    have : fragOk s q o p g = true := h
    simp [fSels, fSel, this]
  · rwa [fBody_not_lone fun g hg => hsp ⟨g, hg⟩] at h

/-! ## acceptance, exactly -/

section AccF2
variable (e : Env) (c : Ctx)

theorem accSelF : ∀ (x : Sel) (pfx : String), AccSelF e c pfx x :=
  fun x pfx p ht henv hko f hf b fd hfd v => by
    rw [← looseFieldM_eq_F c.s c.q c.o b x p ht v]
    exact accSelM e c x pfx p (mSel_of_fSel _ _ _ x p ht) (envSelM_of_F e c x pfx p ht henv) (keysOkM_of_F _ _ x hko)
      f hf b fd hfd v

end AccF2

/-- **the type emitted for an object-level selection set of `FragmentOp` accepts exactly `conformsLooseF`** -/
theorem bodyF_accepts_iff (e : Env) (c : Ctx) (pfx name : String) (p : TypeId) (sels : List Sel)
    (ht : fBody c.s c.q c.o p sels = true) (henv : BodyEnv e c name pfx sels)
    (hko : keysOksF c.s c.q sels = true) (hkeys : EnumSpec.nodup (expKeys c.s c.q sels) = true)
    (b : Bool) (fd : Nat) (hfd : 2 * depthsF c.q sels + 2 ≤ fd) (j : Json) :
    okB (dePath e b fd name j) = conformsLooseF c.s c.q c.o b sels j := by
  rw [← conformsLooseM_eq_F ht b j]
  exact bodyM_accepts_iff e c pfx name p sels (mBody_of_fBody ht) (bodyEnvM_of_F ht henv)
    (keysOksM_of_F _ _ sels hko) hkeys b fd hfd j

/-! ## the specification side: conforming ⇒ accepted -/

section SLF
variable (s : Schema) (q : Query) (o : Options)

theorem slFieldF : ∀ (x : Sel) (p : TypeId) (b : Bool) (v : Json), fSel s q o p x = true →
    strictFieldV s (expandSel q x) v = true → looseFieldF s q o b x v = true :=
  fun x p b v ht h => by
    rw [← looseFieldM_eq_F s q o b x p ht v]
    exact slFieldM s q o x p b v (mSel_of_fSel s q o x p ht) h

/-- every response conforming to the specification (on the expanded selection set) is accepted -/
theorem conformsF_loose (b : Bool) (i : Nat) (sels : List Sel) (j : Json)
    (ht : fBody s q o (.object i) sels = true) (h : conformsV s i (expandSels q sels) j = true) :
    conformsLooseF s q o b sels j = true := by
  rw [← conformsLooseM_eq_F ht b j]
  exact conformsM_loose s q o b i sels j (mBody_of_fBody ht) h

end SLF

/-! ## top level: acceptance -/

/-- **`ResponseData` accepts exactly `conformsLooseF … false`** (generic environment) -/
theorem top_accepts_iffF (e : Env) (c : Ctx) (op : ROperation) (ht : FragmentOp c op = true)
    (hk : fragKeysOk c op = true) (he : TopEnvF e c op) (j : Json) :
    okB (Serde.de e (.path "ResponseData") j) = conformsLooseF c.s c.q c.o false op.sels j := by
  obtain ⟨_, _, hsels⟩ := fragmentOp_parts ht
  simp only [fragKeysOk, Bool.and_eq_true] at hk
  exact Top.de_iff he.size
    (fun fd hfd => bodyF_accepts_iff e c _ _ _ op.sels hsels he.root hk.1 hk.2 false fd (by omega)) j

/-- **`fragment_accepts`.**  Every conforming response is accepted by the emitted `ResponseData`. -/
theorem fragment_accepts (c : Ctx) (opIdx : Nat) (op : ROperation) (items : List Item)
    (hop : c.q.operations[opIdx]? = some op) (ht : FragmentOp c op = true) (hk : fragKeysOk c op = true)
    (hgen : responseForQuery c opIdx = .ok items) (hok : moduleOk c items = true)
    (j : Json) (hc : conformsOpF c op j = true) :
    ∃ v, Serde.de (moduleEnv c items) (.path "ResponseData") j = .ok v :=
  Top.accepts_of_iff (top_accepts_iffF _ c op ht hk (topEnvF_of_module hop ht hgen hok) j)
    (conformsF_loose c.s c.q c.o false _ _ _ (fragmentOp_parts ht).2.2 hc)

/-- **`fragment_precise` (C03), as an equivalence.** -/
theorem fragment_precise_iff (c : Ctx) (opIdx : Nat) (op : ROperation) (items : List Item)
    (hop : c.q.operations[opIdx]? = some op) (ht : FragmentOp c op = true) (hk : fragKeysOk c op = true)
    (hgen : responseForQuery c opIdx = .ok items) (hok : moduleOk c items = true) (j : Json) :
    okB (Serde.de (moduleEnv c items) (.path "ResponseData") j) = conformsLooseF c.s c.q c.o false op.sels j :=
  top_accepts_iffF (moduleEnv c items) c op ht hk (topEnvF_of_module hop ht hgen hok) j

theorem fragment_precise (c : Ctx) (opIdx : Nat) (op : ROperation) (items : List Item)
    (hop : c.q.operations[opIdx]? = some op) (ht : FragmentOp c op = true) (hk : fragKeysOk c op = true)
    (hgen : responseForQuery c opIdx = .ok items) (hok : moduleOk c items = true) (j : Json) (v : Val)
    (hd : Serde.de (moduleEnv c items) (.path "ResponseData") j = .ok v) :
    conformsLooseF c.s c.q c.o false op.sels j = true :=
  Top.precise_of_iff (fragment_precise_iff c opIdx op items hop ht hk hgen hok j) hd

/-! ## losslessness -/

/-- **round trip of the type emitted for an object-level selection set of `FragmentOp`** -/
theorem bodyF_lossless (e : Env) (c : Ctx) (pfx name : String) (i : Nat) (sels : List Sel)
    (ht : fBody c.s c.q c.o (.object i) sels = true) (henv : BodyEnv e c name pfx sels)
    (hko : keysOksF c.s c.q sels = true) (hkeys : EnumSpec.nodup (expKeys c.s c.q sels) = true)
    (hro : rustOkSelsF c sels = true) (hrn : EnumSpec.nodup (rustNamesF c sels) = true) (b : Bool) (fd fs : Nat)
    (hfd : 2 * depthsF c.q sels + 2 ≤ fd) (hfs : 2 * depthsF c.q sels + 2 ≤ fs) (j : Json) (v : Val)
    (hc : conformsV c.s i (expandSels c.q sels) j = true) (hd : dePath e b fd name j = .ok v) :
    serPath e fs name v = .ok (canonSelF c.s c.q c.o.skipNone sels j) := by
  rw [← canonSelM_eq_F_body ht]
  exact bodyM_lossless e c pfx name i sels (mBody_of_fBody ht) (bodyEnvM_of_F ht henv) (keysOksM_of_F _ _ sels hko) hkeys
    (rustOkSelsM_of_F c sels _ (fSels_of_fBody ht) hro) hrn b fd fs hfd hfs j v hc hd

/-- **losslessness at the top level** (generic environment) -/
theorem top_losslessF (e : Env) (c : Ctx) (op : ROperation) (ht : FragmentOp c op = true)
    (hk : fragKeysOk c op = true) (hr : fragRustOk c op = true) (he : TopEnvF e c op)
    (j : Json) (v : Val) (hc : conformsOpF c op j = true) (hd : Serde.de e (.path "ResponseData") j = .ok v) :
    Serde.ser e (.path "ResponseData") v = .ok (canonSelF c.s c.q c.o.skipNone op.sels j) := by
  obtain ⟨_, _, hsels⟩ := fragmentOp_parts ht
  simp only [fragKeysOk, Bool.and_eq_true] at hk
  simp only [fragRustOk, Bool.and_eq_true] at hr
  exact Top.ser_fixed he.size
    (fun fd fs hfd hfs => bodyF_lossless e c _ "ResponseData" op.objectId op.sels hsels he.root hk.1 hk.2 hr.1 hr.2 false
      fd fs (by omega) (by omega) j v hc)
    (norm_canonSelF c.s c.q c.o c.o.skipNone op.objectId op.sels j hsels hk.1 hk.2 hc) hd

/-- **`fragment_lossless`.**  A conforming response is written back as `canonSelF … j`: as for `VariantOp`, the
    entries of a spread fragment at the position of the spread. -/
theorem fragment_lossless (c : Ctx) (opIdx : Nat) (op : ROperation) (items : List Item)
    (hop : c.q.operations[opIdx]? = some op) (ht : FragmentOp c op = true) (hk : fragKeysOk c op = true)
    (hr : fragRustOk c op = true)
    (hgen : responseForQuery c opIdx = .ok items) (hok : moduleOk c items = true)
    (j : Json) (hc : conformsOpF c op j = true) (v : Val)
    (hd : Serde.de (moduleEnv c items) (.path "ResponseData") j = .ok v) :
    Serde.ser (moduleEnv c items) (.path "ResponseData") v = .ok (canonSelF c.s c.q c.o.skipNone op.sels j) :=
  top_losslessF (moduleEnv c items) c op ht hk hr (topEnvF_of_module hop ht hgen hok) j v hc hd

/-- **`fragment_roundtrip`.**  `fragment_accepts` and `fragment_lossless` in one statement, about `Serde.roundtrip`. -/
theorem fragment_roundtrip (c : Ctx) (opIdx : Nat) (op : ROperation) (items : List Item)
    (hop : c.q.operations[opIdx]? = some op) (ht : FragmentOp c op = true) (hk : fragKeysOk c op = true)
    (hr : fragRustOk c op = true)
    (hgen : responseForQuery c opIdx = .ok items) (hok : moduleOk c items = true)
    (j : Json) (hc : conformsOpF c op j = true) :
    Serde.roundtrip (moduleEnv c items) (.path "ResponseData") j = .ok (canonSelF c.s c.q c.o.skipNone op.sels j) :=
  Top.roundtrip_of (fragment_accepts c opIdx op items hop ht hk hgen hok j hc)
    (fragment_lossless c opIdx op items hop ht hk hr hgen hok j hc)

/-! ## the hypotheses of `deStructMap_flat`, for the fields of an object-level selection set

Not used by the theorems above (they go through `C01M.flat_hypsM`); the statement for `FragmentOp` on its own. -/

/-- from "the keys of the expanded selection set are pairwise distinct" to the hypotheses of `deStructMap_flat` -/
theorem flat_hyps (e : Env) (c : Ctx) (pfx : String) (p : TypeId) : ∀ (sels : List Sel),
    fSels c.s c.q c.o p sels = true → envSelsF e c pfx sels → (expKeys c.s c.q sels).Nodup →
    (∀ g ∈ fieldsOfF c pfx sels, g.flatten = true → MemberOk e g ∧ ∀ k ∈ memberKeys e g, k ∈ expKeys c.s c.q sels) ∧
    (∀ f ∈ fieldsOfF c pfx sels, f.flatten = false → f.wire ∈ expKeys c.s c.q sels) ∧
    (∀ g ∈ fieldsOfF c pfx sels, g.flatten = true → ∀ k ∈ memberKeys e g,
      k ∉ ((fieldsOfF c pfx sels).filter (fun f => !f.flatten)).map (·.wire)) ∧
    (fieldsOfF c pfx sels).Pairwise (fun g g' => g.flatten = true → g'.flatten = true →
      ∀ k ∈ memberKeys e g', k ∉ memberKeys e g) :=
  fun sels ht henv hnd =>
    C01M.flat_hypsM e c pfx p sels (C01M.mSels_of_fSels c.s c.q c.o sels p ht) (C01M.envSelsM_of_F e c sels pfx p ht henv) hnd

end E2E
end C01
end GqlVerif
