import GqlVerif.Proofs.C01RecursiveC
/-!
# C01 end to end, `RecFragmentOp` 4/4: losslessness

The round trip (`rtR`) is by induction on the size of the payload, for every size of the value read: the serializer's
fuel is a function of the value, not of the payload, hence `leaf_roundtrip_on_size`, L1 of `C01Layers` relative to a
bound on the size of the *value*.  `canonR s q skip n sels j`, the allowed differences (as `canonSelF` of
`C01AbstractI`: the entries of a spread fragment at the position of the spread, at every level of the recursion),
recurses on the size bound `n` of the payload as `conformsLooseR` does; the bound is not an artefact
(`conformsLooseR_stable`, `canonR_stable`).  `recfragment_lossless` / `recfragment_roundtrip` are over `moduleEnv c items`
for the module `responseForQuery` emits.

Additional decidable side condition: `recRustOk` (Rust field names — own fields and flattened members — pairwise
distinct in every struct of the operation and of the reachable fragments).
-/
namespace GqlVerif
namespace C01
namespace E2E
open Serde Spec C13 Codegen

/-! ## the size of a Rust value -/

theorem valSize_record (fs : List (String × Val)) : valSize (.record fs) = 1 + fieldsSize fs := by rw [valSize]

/-! ## L1 of `C01Layers`, relative to a bound on the size of the value -/

theorem leaf_roundtrip_on_size (pathD : String → Json → D Val) (pathS : String → Val → D Json) (base : String)
    (leafOk : Json → Bool) (leafCanon : Json → Json) (m : Nat)
    (hleaf : ∀ j v, leafOk j = true → valSize v ≤ m → pathD base j = .ok v → pathS base v = .ok (leafCanon j)) :
    ∀ t : GTy, wf t = true →
      (∀ j v, acceptsNN leafOk t j = true → valSize v ≤ m → deTyWith pathD (rustOfNN (.path base) t) j = .ok v →
        serTyWith pathS (rustOfNN (.path base) t) v = .ok (canonNN leafCanon t j)) ∧
      (∀ j v, accepts leafOk t j = true → valSize v ≤ m → deTyWith pathD (rustOf (.path base) t) j = .ok v →
        serTyWith pathS (rustOf (.path base) t) v = .ok (canon leafCanon t j)) :=
  leaf_roundtrip_rel pathD pathS base leafOk leafCanon (valSize · ≤ m)
    (fun x h => by rw [valSize] at h; omega)
    (fun vs h v hv => by rw [valSize] at h; have := SerdeFuel.valSize_le_of_mem hv; omega) hleaf

/-! ## serde: what a struct with (possibly boxed) flattened members read, found again by name -/

theorem deStruct_flat_findsR (e : Env) (fuel : Nat) (pathD : String → Json → D Val) (fields : List RField)
    (kvs : List (String × Json)) (hcnt : ∀ k, countKey k kvs ≤ 1) (hrust : (fields.map (·.rust)).Nodup)
    (hok : ∀ g ∈ fields, g.flatten = true → MemberOkR e g)
    (hown : ∀ g ∈ fields, g.flatten = true → ∀ k ∈ memberKeysR e g,
      k ∉ (fields.filter (fun f => !f.flatten)).map (·.wire))
    (hpw : fields.Pairwise (fun g g' => g.flatten = true → g'.flatten = true →
      ∀ k ∈ memberKeysR e g', k ∉ memberKeysR e g))
    (v : Val) (hd : deStructMapWith pathD (deFlat e (fuel + 2)) fields kvs = .ok v) :
    ∃ vals, v = .record vals ∧
      (∀ f ∈ fields, f.flatten = false → ∃ x, vals.find? (·.1 == f.rust) = some (f.rust, x) ∧
        readField pathD f kvs = .ok x) ∧
      (∀ g ∈ fields, g.flatten = true → ∃ own,
        deOwnWith (dePath e true (fuel + 1 - boxCost g.ty)) (memberFieldsR e g) kvs = .ok own ∧
        vals.find? (·.1 == g.rust) = some (g.rust, .record own)) :=
  finds_record (deStruct_finds_with _ _ pathD fields kvs hcnt hrust
    (fun hany => deStructMap_flatR e fuel pathD fields kvs hany hok hown hpw) v hd)

/-! ## the allowed differences for `RecFragmentOp` -/

section CanonDefs
variable (s : Schema) (q : Query) (skip : Bool)

/-- the value of a selected field; `crec sub`: the canonical form of the response object of the sub-selection
    `sub` of an object-typed field -/
def canonFieldP (crec : List Sel → Json → Json) : Sel → Json → Json
  | .field a fid sub, v =>
    match s.fields[fid]? with
    | none => v
    | some sf =>
      match sf.ty.id with
      | .object _ => canon (crec sub) (gtyOf sf.ty.quals) v
      | _ => canonFieldV s skip (.field a fid sub) v
  | _, v => v

/-- the entry written for one selected field -/
def canonEntryP (crec : List Sel → Json → Json) (a : Option String) (fid : Nat) (sub : List Sel)
    (kvs : List (String × Json)) : List (String × Json) :=
  match s.fields[fid]? with
  | none => []
  | some sf =>
    match Json.lookup (a.getD sf.name) kvs with
    | some v =>
      if skip && skipQ sf.ty.quals && v.isNull then []
      else [(a.getD sf.name, canonFieldP s skip crec (.field a fid sub) v)]
    | none => if skip && skipQ sf.ty.quals then [] else [(a.getD sf.name, Json.null)]

/-- the entries of the fields of a fragment body (no spread at its top level) -/
def canonOwnP (crec : List Sel → Json → Json) : List Sel → List (String × Json) → List (String × Json)
  | [], _ => []
  | .field a fid sub :: xs, kvs => canonEntryP s skip crec a fid sub kvs ++ canonOwnP crec xs kvs
  | _ :: xs, kvs => canonOwnP crec xs kvs

/-- own entries and, **at the position of each spread**, the entries of the fragment, in selection order -/
def canonEntriesP (crec : List Sel → Json → Json) : List Sel → List (String × Json) → List (String × Json)
  | [], _ => []
  | .field a fid sub :: xs, kvs => canonEntryP s skip crec a fid sub kvs ++ canonEntriesP crec xs kvs
  | .spread g :: xs, kvs => canonOwnP s skip crec (fragSels q g) kvs ++ canonEntriesP crec xs kvs
  | _ :: xs, kvs => canonEntriesP crec xs kvs

def canonStructP (crec : List Sel → Json → Json) (sels : List Sel) : Json → Json
  | .obj kvs => .obj (canonEntriesP s q skip crec sels kvs)
  | j => j

def canonBodyP (crec : List Sel → Json → Json) (sels : List Sel) (j : Json) : Json :=
  match sels with
  | [.spread g] => canonStructP s q skip crec (fragSels q g) j
  | _ => canonStructP s q skip crec sels j

/-- **`canonR`**: the allowed differences (as `canonSelF`: key order = selection order with the entries of a spread
    fragment at the position of the spread, integer ID → string, `__typename` dropped on object selections, absent
    nullable → `null` / skipped), for payloads of size `≤ n` -/
def canonR : Nat → List Sel → Json → Json
  | 0 => fun _ j => j
  | n + 1 => canonBodyP s q skip (canonR n)

end CanonDefs

theorem canonEntriesP_noTop (s : Schema) (q : Query) (skip : Bool) (crec : List Sel → Json → Json)
    (kvs : List (String × Json)) : ∀ (sels : List Sel), sels.any isSpread = false →
    canonEntriesP s q skip crec sels kvs = canonOwnP s skip crec sels kvs
  | [], _ => rfl
  | x :: xs, h => by
    simp only [List.any_cons, Bool.or_eq_false_iff] at h
    have ih := canonEntriesP_noTop s q skip crec kvs xs h.2
    cases x with
    | spread g => have := h.1; simp [isSpread] at this
    | field a fid sub => simp only [canonEntriesP, canonOwnP, ih]
    | inline t sub => simp only [canonEntriesP, canonOwnP, ih]
    | typename => simp only [canonEntriesP, canonOwnP, ih]

/-! ## Rust field names -/

mutual
  /-- Rust field names (own fields and flattened members) pairwise distinct in every struct below -/
  def rustOkSelR (c : Ctx) : Sel → Bool
    | .field a fid sub =>
      (match (c.s.fields[fid]?).map (fun sf => sf.ty.id) with
       | some (TypeId.object _) =>
         (match sub with
          | [.spread _] => true
          | _ => EnumSpec.nodup (rustNamesF c sub) && rustOkSelsR c sub)
       | _ => rustOkSelV c (.field a fid sub))
    | _ => true
  def rustOkSelsR (c : Ctx) : List Sel → Bool
    | [] => true
    | x :: xs => rustOkSelR c x && rustOkSelsR c xs
end

theorem rustOkSelsR_mem {c : Ctx} : ∀ {sels : List Sel}, rustOkSelsR c sels = true →
    ∀ x ∈ sels, rustOkSelR c x = true :=
  fun {sels} h => List.all_eq_true.mp (all_of_eqns (ps := rustOkSelsR c) rfl (fun _ _ => rfl) sels ▸ h)

theorem rust_fieldsOfR (c : Ctx) (pfx : String) (p : TypeId) : ∀ (sels : List Sel), rSels c.s c.q c.o p sels = true →
    (fieldsOfR c pfx sels).map (·.rust) = rustNamesF c sels
  | [], _ => rfl
  | x :: xs, ht => by
    obtain ⟨hx, hxs⟩ := rSels_cons ht
    have ih := rust_fieldsOfR c pfx p xs hxs
    rw [fieldsOfR_cons, List.map_append, ih]
    cases x with
    | field a fid sub =>
      obtain ⟨sf, ft, hsf, _, hf, _⟩ := fieldOfSelV_r c pfx p a fid sub hx
      rw [fieldOfSelR_field, hf]
      simp [rustNamesF, rustNameF, rustName, hsf, fieldOf]
    | spread g =>
      have hok : spreadOk c.q p g = true := by simpa [rSel] using hx
      obtain ⟨fr, hfr, _⟩ := spreadOk_parts hok
      simp [fieldOfSelR, hfr, spreadFieldR, rustNamesF, rustNameF, fragName]
    | inline t sub => simp [rSel] at hx
    | typename => simp [fieldOfSelR, fieldOfSelV, rustNamesF, List.filterMap_cons, rustNameF, rustName]

theorem flatMap_entriesR_canon (c : Ctx) (pfx : String) (p : TypeId) (fc : RField → Json → Json)
    (mc : RField → List (String × Json)) (kvs : List (String × Json)) (crec : List Sel → Json → Json) :
    ∀ (sels : List Sel), rSels c.s c.q c.o p sels = true →
    (∀ a fid sub, Sel.field a fid sub ∈ sels → ∀ f, fieldOfSelV c pfx (.field a fid sub) = some f →
      ∀ v, fc f v = canonFieldP c.s c.o.skipNone crec (.field a fid sub) v) →
    (∀ g fr, Sel.spread g ∈ sels → c.q.fragments[g]? = some fr →
      mc (spreadFieldR c g fr) = canonOwnP c.s c.o.skipNone crec fr.sels kvs) →
    (fieldsOfR c pfx sels).flatMap (entriesF fc mc kvs) = canonEntriesP c.s c.q c.o.skipNone crec sels kvs
  | [], _, _, _ => by simp [fieldsOfR, canonEntriesP]
  | x :: xs, ht, hfc, hmc => by
    obtain ⟨hx, hxs⟩ := rSels_cons ht
    have ih := flatMap_entriesR_canon c pfx p fc mc kvs crec xs hxs
      (fun a fid sub hm => hfc a fid sub (List.mem_cons_of_mem _ hm))
      (fun g fr hm => hmc g fr (List.mem_cons_of_mem _ hm))
    rw [fieldsOfR_cons, List.flatMap_append, ih]
    cases x with
    | field a fid sub =>
      obtain ⟨sf, ft, hsf, _, hf, _⟩ := fieldOfSelV_r c pfx p a fid sub hx
      rw [fieldOfSelR_field, hf, canonEntriesP, canonEntryP]
      simp only [Option.toList, List.flatMap_cons, List.flatMap_nil, List.append_nil, entriesF, fieldOf,
        Bool.false_eq_true, ↓reduceIte]
      have := expectOut_cons fc (fieldOf c (a.getD sf.name) ft sf.ty.quals sf.deprecation) [] kvs
      simp only [fieldOf] at this
      rw [this]
      simp only [hsf, expectOut, List.filterMap_nil, List.append_nil]
      have hw := fieldOf_wire c (a.getD sf.name) ft sf.ty.quals sf.deprecation
      simp only [fieldOf] at hw
      simp only [hw, Bool.and_assoc]
      have hfc' := hfc a fid sub (by simp) _ hf
      simp only [fieldOf] at hfc'
      cases Json.lookup (a.getD sf.name) kvs with
      | none => rfl
      | some v => simp only [hfc' v]
    | spread g =>
      have hok : spreadOk c.q p g = true := by simpa [rSel] using hx
      obtain ⟨fr, hfr, _⟩ := spreadOk_parts hok
      have hsels : fragSels c.q g = fr.sels := by simp [fragSels, hfr]
      rw [canonEntriesP, hsels, ← hmc g fr (by simp) hfr]
      have hfl : (spreadFieldR c g fr).flatten = true := rfl
      simp [fieldOfSelR, hfr, entriesF, hfl]
    | inline t sub => simp [rSel] at hx
    | typename => simp [fieldOfSelR, fieldOfSelV, canonEntriesP]

def fcanonOfR (s : Schema) (skip : Bool) (crec : List Sel → Json → Json) (sels : List Sel) (f : RField) (v : Json) : Json :=
  match sels.find? (fun x => fieldKey s x == some f.wire) with
  | some x => canonFieldP s skip crec x v
  | none => v

theorem serTy_spreadFieldR (c : Ctx) (g : Nat) (fr : RFragment) (pathS : String → Val → D Json) (x : Val) :
    serTyWith pathS (spreadFieldR c g fr).ty x = pathS fr.name x := by
  unfold spreadFieldR
  cases fragmentIsRecursive c.q g <;> simp [serTyWith]

theorem optionAttrs_fieldsOfR (c : Ctx) (pfx : String) (sels : List Sel) : OptionAttrs (fieldsOfR c pfx sels) := by
  intro f hf
  obtain ⟨x, hx, hfx⟩ := List.mem_filterMap.mp hf
  cases x with
  | spread g =>
    obtain ⟨fr, _, rfl⟩ := Option.map_eq_some_iff.mp hfx
    rintro (h | h) <;> cases h
  | _ => exact optionAttrs_fieldsOfV c pfx sels f (List.mem_filterMap.mpr ⟨_, hx, hfx⟩)

/-- **round trip of the struct of an object-level selection set with (possibly boxed) flattened members**, from
    the round trips of its fields (`HF`) and of its members (`HM`) -/
theorem rtStructR_core {e : Env} {c : Ctx} {G : List Nat} {D : Nat} (W : RWorld e c G D)
    (crec : List Sel → Json → Json) (mm : Nat) (pfx name : String) (i : Nat) (sels : List Sel)
    (ht : rSels c.s c.q c.o (.object i) sels = true) (hGs : ∀ g, Sel.spread g ∈ sels → g ∈ G)
    (hkeys : EnumSpec.nodup (expKeys c.s c.q sels) = true) (hrn : EnumSpec.nodup (rustNamesF c sels) = true)
    (hs : StructEnv e name (fieldsOfR c pfx sels)) (b : Bool) (fd fs : Nat) (kvs : List (String × Json))
    (hnd : (kvs.map (·.1)).Nodup)
    (HF : ∀ a fid sub, Sel.field a fid sub ∈ sels → ∀ f, fieldOfSelV c pfx (.field a fid sub) = some f →
      ∀ j x, Json.lookup f.wire kvs = some j → deFieldWith (dePath e b (fd + 2)) f j = .ok x → valSize x ≤ mm →
        serTyWith (serPath e fs) f.ty x = .ok (canonFieldP c.s c.o.skipNone crec (.field a fid sub) j))
    (HM : ∀ g fr, Sel.spread g ∈ sels → c.q.fragments[g]? = some fr → ∀ own,
      deOwnWith (dePath e true (fd + 1 - boxCost (spreadFieldR c g fr).ty))
        (fieldsOfV c (c.cs.camel fr.name) fr.sels) kvs = .ok own → valSize (.record own) ≤ mm →
      serPath e fs fr.name (.record own) = .ok (.obj (canonOwnP c.s c.o.skipNone crec fr.sels kvs)))
    (v : Val) (hvs : valSize v ≤ mm + 1) (hd : dePath e b (fd + 3) name (.obj kvs) = .ok v) :
    serPath e (fs + 1) name v = .ok (.obj (canonEntriesP c.s c.q c.o.skipNone crec sels kvs)) := by
  obtain ⟨hp, _, nm, d, cr, hfind⟩ := hs
  have hcnt := countKey_le_one_of_nodup hnd
  obtain ⟨h1, _, h3, h4⟩ := flat_hypsR W pfx (.object i) sels ht hGs (nodup_iff'.mp hkeys)
  have hrust : ((fieldsOfR c pfx sels).map (·.rust)).Nodup := by
    rw [rust_fieldsOfR c pfx _ sels ht]; exact nodup_iff'.mp hrn
  rw [dePath_struct e b (fd + 2) name nm d cr _ hp hfind, deStruct_obj] at hd
  obtain ⟨vals, rfl, hownf, hmemf⟩ := deStruct_flat_findsR e fd _ _ kvs hcnt hrust (fun g hg hf => (h1 g hg hf).1) h3 h4 v hd
  rw [valSize_record] at hvs
  have hfk : (fieldKeys c.s sels).Nodup := (fieldKeys_sublist_expKeys c.s c.q sels).nodup (nodup_iff'.mp hkeys)
  have hmemrt : ∀ gid fr, Sel.spread gid ∈ sels → c.q.fragments[gid]? = some fr →
      ∃ x, vals.find? (·.1 == (spreadFieldR c gid fr).rust) = some ((spreadFieldR c gid fr).rust, x) ∧
        serTyWith (serPath e fs) (spreadFieldR c gid fr).ty x =
          .ok (.obj (canonOwnP c.s c.o.skipNone crec fr.sels kvs)) := by
    intro gid fr hm hfr
    obtain ⟨fr', _, hfr', _, _, _, _, _, hsenv, _⟩ := world_frag W (hGs gid hm)
    rw [hfr] at hfr'; cases hfr'
    have hgmem : spreadFieldR c gid fr ∈ fieldsOfR c pfx sels :=
      List.mem_filterMap.mpr ⟨_, hm, by simp [fieldOfSelR, hfr]⟩
    obtain ⟨own, hown, hfindg⟩ := hmemf _ hgmem rfl
    rw [(memberFieldsR_spread e c gid fr hsenv).1] at hown
    refine ⟨_, hfindg, ?_⟩
    rw [serTy_spreadFieldR]
    have hsz := SerdeFuel.valSize_le_of_field (List.mem_of_find?_eq_some hfindg)
    exact HM gid fr hm hfr own hown (by omega)
  let mc : RField → List (String × Json) := fun g =>
    match vals.find? (·.1 == g.rust) with
    | some (_, x) => (match serTyWith (serPath e fs) g.ty x with | .ok (.obj o) => o | _ => [])
    | none => []
  have hmc : ∀ gid fr, Sel.spread gid ∈ sels → c.q.fragments[gid]? = some fr →
      mc (spreadFieldR c gid fr) = canonOwnP c.s c.o.skipNone crec fr.sels kvs := by
    intro gid fr hm hfr
    obtain ⟨x, hf, hser⟩ := hmemrt gid fr hm hfr
    simp only [mc, hf, hser]
  have hopt := optionAttrs_fieldsOfR c pfx sels
  rw [serPath_struct e fs name nm d cr _ hfind,
    ser_flat (dePath e b (fd + 2)) (serPath e fs) (fcanonOfR c.s c.o.skipNone crec sels) mc kvs vals
      (fieldsOfR c pfx sels) hownf ?_ (fun f hf _ => hopt.unit f hf) (fun f hf _ => hopt.default f hf) ?_]
  · rw [flatMap_entriesR_canon c pfx (.object i) _ mc kvs crec sels ht ?_ hmc]
    · rfl
    · intro a fid sub hx f hfx v
      obtain ⟨sf, ft, hsf, _, hf', _⟩ := fieldOfSelV_r c pfx _ a fid sub (rSels_mem ht _ hx)
      rw [hf'] at hfx
      cases hfx
      unfold fcanonOfR
      rw [fieldOf_wire, find_fieldKey c.s _ sels hfk _ hx (by simp [fieldKey, hsf])]
  · intro f hf hfl j x hl hdx
    have hfV : f ∈ fieldsOfV c pfx sels := by
      rw [← filter_fieldsOfR c pfx sels]; exact List.mem_filter.mpr ⟨hf, by simp [hfl]⟩
    obtain ⟨x', hfind', hread⟩ := hownf f hf hfl
    have hxx : x' = x := by
      unfold readField at hread
      rw [hl] at hread
      simp only [hdx] at hread
      exact (Except.ok.inj hread).symm
    subst hxx
    have hsz := SerdeFuel.valSize_le_of_field (List.mem_of_find?_eq_some hfind')
    obtain ⟨a, fid, sub, sf, ft, hx, hsf, hfx, rfl, _⟩ := mem_fieldsOfV_of (resolves_of_rSels ht) hfV
    have hfc : fcanonOfR c.s c.o.skipNone crec sels (fieldOf c (a.getD sf.name) ft sf.ty.quals sf.deprecation) j =
        canonFieldP c.s c.o.skipNone crec (.field a fid sub) j := by
      unfold fcanonOfR
      rw [fieldOf_wire, find_fieldKey c.s _ sels hfk _ hx (by simp [fieldKey, hsf])]
    rw [hfc]
    exact HF a fid sub hx _ hfx j x' hl hdx (by omega)
  · intro g hg hfl
    obtain ⟨gid, fr, hm, hfr, rfl⟩ := mem_fieldsOfR_flatten hg hfl
    obtain ⟨x, hf, hser⟩ := hmemrt gid fr hm hfr
    exact ⟨x, hf, by rw [hser, hmc gid fr hm hfr]⟩


/-! ## the round trip, by induction on the size of the payload -/

/-- Rust field names pairwise distinct in every struct of the reachable fragments -/
def RustW (c : Ctx) (G : List Nat) : Prop :=
  ∀ g ∈ G, rustOkSelsR c (fragSels c.q g) = true ∧ EnumSpec.nodup (rustNamesF c (fragSels c.q g)) = true

/-- the induction hypothesis: a conforming payload of size `≤ n`, read into a value of size `≤ m`, is written back
    as `canonR n`.  Fuel of the reader as in `AccR`, of the writer the same in the size `m` of the value (`serFuel_R`);
    unfolding depth `k` as in `SLR`. -/
def RtR (e : Env) (c : Ctx) (G : List Nat) (D : Nat) (n : Nat) : Prop :=
  ∀ (m i : Nat) (sels : List Sel) (name pfx : String), rBody c.s c.q c.o (.object i) sels = true →
    (∀ g ∈ spreadIdss sels, g ∈ G) → BodyEnvR e c name pfx sels → keysOksF c.s c.q sels = true →
    EnumSpec.nodup (expKeys c.s c.q sels) = true → selsDepth sels ≤ D → rustOkSelsR c sels = true →
    EnumSpec.nodup (rustNamesF c sels) = true →
    ∀ b fd fs k, 4 * n + 2 * D + 4 ≤ fd → 4 * m + 2 * D + 4 ≤ fs → 2 * n ≤ k →
    ∀ j v, jsonSize j ≤ n → valSize v ≤ m → conformsV c.s i (sels.map (expandR c.q k)) j = true →
      dePath e b fd name j = .ok v → serPath e fs name v = .ok (canonR c.s c.q c.o.skipNone n sels j)

section RTR2
variable {e : Env} {c : Ctx} {G : List Nat} {D : Nat} (W : RWorld e c G D)
variable {n : Nat} (IH : RtR e c G D n)
include IH

theorem rtFieldR (pfx : String) (p : TypeId) (a : Option String) (fid : Nat) (sub : List Sel)
    (ht : rSel c.s c.q c.o p (.field a fid sub) = true) (henv : envSelR e c pfx (.field a fid sub))
    (hko : keysOkF c.s c.q (.field a fid sub) = true) (hro : rustOkSelR c (.field a fid sub) = true)
    (hG : ∀ g ∈ spreadIdss sub, g ∈ G) (hD : selDepth (.field a fid sub) ≤ D)
    (f : RField) (hf : fieldOfSelV c pfx (.field a fid sub) = some f) (b : Bool) (fd fs k m : Nat)
    (hfd : 4 * n + 2 * D + 4 ≤ fd) (hfs : 4 * m + 2 * D + 4 ≤ fs) (hk : 2 * n ≤ k) (v : Json) (y : Val)
    (hv : jsonSize v ≤ n) (hy : valSize y ≤ m)
    (hst : strictFieldV c.s (expandR c.q (k + 1) (.field a fid sub)) v = true)
    (hd : deFieldWith (dePath e b fd) f v = .ok y) :
    serTyWith (serPath e fs) f.ty y =
      .ok (canonFieldP c.s c.o.skipNone (canonR c.s c.q c.o.skipNone n) (.field a fid sub) v) := by
  obtain ⟨sf, ft, hsf, _, hf', hw⟩ := fieldOfSelV_r c pfx p a fid sub ht
  rw [selDepth] at hD
  by_cases hobj : ∃ i, sf.ty.id = .object i
  · obtain ⟨i, hid⟩ := hobj
    have hwf : wf (gtyOf sf.ty.quals) = true := by rw [wf_gtyOf]; exact hw
    rw [rSel] at ht
    rw [envSelR] at henv
    rw [keysOkF, Bool.and_eq_true] at hko
    simp only [expandR, strictFieldV] at hst
    rw [canonFieldP]
    simp only [hsf, hid, Bool.and_eq_true] at ht henv hst ⊢
    simp only [fieldOfSelV, hsf, leafNameV, hid, Option.some.injEq] at hf
    subst hf
    have hbody : rBody c.s c.q c.o (.object i) sub = true := ht.2.2
    have henvB : BodyEnvR e c (pfx ++ c.cs.camel (a.getD sf.name)) (pfx ++ c.cs.camel (a.getD sf.name)) sub := henv
    have hroB : rustOkSelsR c sub = true ∧ EnumSpec.nodup (rustNamesF c sub) = true := by
      by_cases hsp : ∃ g, sub = [Sel.spread g]
      · obtain ⟨g, rfl⟩ := hsp
        exact ⟨by simp [rustOkSelsR, rustOkSelR], by simp [rustNamesF, rustNameF, EnumSpec.nodup]⟩
      · have hnl : ∀ g, sub ≠ [Sel.spread g] := fun g hg => hsp ⟨g, hg⟩
        unfold rustOkSelR at hro
        simp only [hsf, hid, Option.map_some] at hro
        have : (EnumSpec.nodup (rustNamesF c sub) && rustOkSelsR c sub) = true := by
          exact hro
        rw [Bool.and_eq_true] at this
        exact ⟨this.2, this.1⟩
    rw [deField_plain _ _ _ _ (bodyEnvR_ne_ID henvB)] at hd
    let L : Json → Bool := fun j =>
      conformsAt c.s (.object i) (sub.map (expandR c.q k)) j && decide (jsonSize j ≤ n)
    have hacc : accepts L (gtyOf sf.ty.quals) v = true := by
      refine accepts_mono_size _ L n ?_ _ v hv hst
      intro j hj h
      simp only [L, h, hj, decide_true, Bool.and_self]
    refine (leaf_roundtrip_on_size (dePath e b fd) (serPath e fs) _ L
      (canonR c.s c.q c.o.skipNone n sub) m ?_ _ hwf).2 v y hacc hy hd
    intro j w hL hw' hdw
    simp only [L, Bool.and_eq_true, decide_eq_true_eq] at hL
    obtain ⟨hc, hjs⟩ := hL
    simp only [conformsAt, List.any_eq_true, List.mem_range, Bool.and_eq_true, fragApplies, beq_iff_eq] at hc
    obtain ⟨rt, _, hrt, hcv⟩ := hc
    subst hrt
    exact IH m i sub _ _ hbody hG henvB hko.2 hko.1 (by omega) hroB.1 hroB.2 b fd fs k hfd hfs hk j w hjs hw' hcv hdw
  · have hno : ∀ i, sf.ty.id ≠ .object i := fun i h => hobj ⟨i, h⟩
    have hvs := vSel_of_rSel_nonobj ht hsf hno
    have henv' : envSelV e c pfx (.field a fid sub) := by
      rw [envSelR] at henv
      simpa only [hsf] using henv
    have hro' : rustOkSelV c (.field a fid sub) = true := by
      have hno' : ∀ i, some sf.ty.id ≠ some (TypeId.object i) := fun i h => hno i (Option.some.inj h)
      unfold rustOkSelR at hro
      simpa only [hsf, Option.map_some] using hro
    have hl : canonFieldP c.s c.o.skipNone (canonR c.s c.q c.o.skipNone n) (.field a fid sub) v =
        canonFieldV c.s c.o.skipNone (.field a fid sub) v := by
      rw [canonFieldP]
      simp only [hsf]
    rw [hl]
    rw [expandR_noSpread c.q _ _ (noSpread_of_vSel c.s c.o _ false hvs)] at hst
    exact (rtSelV e c _ pfx).1 false hvs henv' hro' f hf b fd fs (by rw [selDepth]; omega) (by rw [selDepth]; omega)
      v y hst hd

include W in
/-- round trip of a struct with members, given the round trip of the members -/
theorem rtStructR_gen (mm : Nat) (pfx name : String) (i : Nat) (sels : List Sel)
    (ht : rSels c.s c.q c.o (.object i) sels = true) (henv : envSelsR e c pfx sels)
    (hko : keysOksF c.s c.q sels = true) (hkeys : EnumSpec.nodup (expKeys c.s c.q sels) = true)
    (hG : ∀ g ∈ spreadIdss sels, g ∈ G) (hD : selsDepth sels ≤ D)
    (hro : rustOkSelsR c sels = true) (hrn : EnumSpec.nodup (rustNamesF c sels) = true)
    (hs : StructEnv e name (fieldsOfR c pfx sels)) (b : Bool) (fd fs k : Nat)
    (hfd : 4 * n + 2 * D + 4 ≤ fd + 2) (hfs : 4 * mm + 2 * D + 4 ≤ fs) (hk : 2 * n ≤ k)
    (kvs : List (String × Json)) (hsz : kvsSize kvs ≤ n) (hnd : (kvs.map (·.1)).Nodup)
    (hconf : confSelsV c.s i (sels.map (expandR c.q (k + 1))) kvs = true)
    (HM : ∀ g fr, Sel.spread g ∈ sels → c.q.fragments[g]? = some fr → ∀ own,
      deOwnWith (dePath e true (fd + 1 - boxCost (spreadFieldR c g fr).ty))
        (fieldsOfV c (c.cs.camel fr.name) fr.sels) kvs = .ok own → valSize (.record own) ≤ mm →
      serPath e fs fr.name (.record own) =
        .ok (.obj (canonOwnP c.s c.o.skipNone (canonR c.s c.q c.o.skipNone n) fr.sels kvs)))
    (v : Val) (hvs : valSize v ≤ mm + 1) (hd : dePath e b (fd + 3) name (.obj kvs) = .ok v) :
    serPath e (fs + 1) name v =
      .ok (.obj (canonEntriesP c.s c.q c.o.skipNone (canonR c.s c.q c.o.skipNone n) sels kvs)) := by
  refine rtStructR_core W _ mm pfx name i sels ht (fun g hg => hG g (mem_spreadIdss_spread hg)) hkeys hrn hs b fd fs
    kvs hnd ?_ HM v hvs hd
  intro a fid sub hx f hfx j x hl hdx hxs
  obtain ⟨sf, ft, hsf, _, hf', _⟩ := fieldOfSelV_r c pfx _ a fid sub (rSels_mem ht _ hx)
  rw [hf'] at hfx
  cases hfx
  rw [fieldOf_wire] at hl
  have hst : strictFieldV c.s (expandR c.q (k + 1) (.field a fid sub)) j = true := by
    have := confSelsV_mem hconf _ (List.mem_map_of_mem hx)
    have hexp : expandR c.q (k + 1) (.field a fid sub) = .field a fid (sub.map (expandR c.q k)) := rfl
    rw [hexp, confSelV_field] at this
    rw [hexp]
    simpa [hsf, hl] using this
  have hjs := jsonSize_lookup hl
  exact rtFieldR IH pfx _ a fid sub (rSels_mem ht _ hx) (envSelsR_mem henv _ hx) (keysOksF_mem hko _ hx)
    (rustOkSelsR_mem hro _ hx) (fun g hg => hG g (mem_spreadIdss_field hx hg))
    (by have := C02.selDepth_le_of_mem hx; omega) _ hf' b (fd + 2) fs k mm hfd hfs hk j x (by omega) hxs hst hdx

end RTR2

theorem not_mem_spread_of_noTop {sels : List Sel} (h : sels.any isSpread = false) (g : Nat) : Sel.spread g ∉ sels := by
  intro hm
  have := List.any_eq_false.mp h _ hm
  simp [isSpread] at this

theorem serPath_aliasR (e : Env) (name target n : String) (pub bx : Bool)
    (hfind : e.find name = some (.alias n pub (if bx then .box (.path target) else .path target)))
    (fs : Nat) (v : Val) : serPath e (fs + 2) name v = serPath e (fs + 1) target v := by
  rw [serPath, serPath]
  cases hp : serPrim v with
  | some j => rfl
  | none =>
    simp only [hfind]
    cases bx <;> simp only [serTyWith, Bool.false_eq_true, ↓reduceIte] <;> rw [serPath] <;> simp only [hp]

section RTR3
variable {e : Env} {c : Ctx} {G : List Nat} {D : Nat} (W : RWorld e c G D) (hR : RustW c G)
variable {n : Nat} (IH : RtR e c G D n)
include W IH

/-- round trip of a struct without members (the struct of a fragment) -/
theorem rtPlainR (mm : Nat) (pfx name : String) (i : Nat) (sels : List Sel)
    (ht : rSels c.s c.q c.o (.object i) sels = true) (hnt : sels.any isSpread = false)
    (henv : envSelsR e c pfx sels)
    (hko : keysOksF c.s c.q sels = true) (hkeys : EnumSpec.nodup (expKeys c.s c.q sels) = true)
    (hG : ∀ g ∈ spreadIdss sels, g ∈ G) (hD : selsDepth sels ≤ D)
    (hro : rustOkSelsR c sels = true) (hrn : EnumSpec.nodup (rustNamesF c sels) = true)
    (hs : StructEnv e name (fieldsOfR c pfx sels)) (b : Bool) (fd fs k : Nat)
    (hfd : 4 * n + 2 * D + 4 ≤ fd + 2) (hfs : 4 * mm + 2 * D + 4 ≤ fs) (hk : 2 * n ≤ k)
    (kvs : List (String × Json)) (hsz : kvsSize kvs ≤ n) (hnd : (kvs.map (·.1)).Nodup)
    (hconf : confSelsV c.s i (sels.map (expandR c.q (k + 1))) kvs = true)
    (v : Val) (hvs : valSize v ≤ mm + 1) (hd : dePath e b (fd + 3) name (.obj kvs) = .ok v) :
    serPath e (fs + 1) name v =
      .ok (.obj (canonEntriesP c.s c.q c.o.skipNone (canonR c.s c.q c.o.skipNone n) sels kvs)) :=
  rtStructR_gen W IH mm pfx name i sels ht henv hko hkeys hG hD hro hrn hs b fd fs k hfd hfs hk kvs hsz hnd hconf
    (fun g _ hm => absurd hm (not_mem_spread_of_noTop hnt g)) v hvs hd

include hR in
/-- the members are fragment structs without members of their own, read from the same object: `rtPlainR` at the same
    `n`, for a value one unit smaller -/
theorem rtStructR (mm : Nat) (pfx name : String) (i : Nat) (sels : List Sel)
    (ht : rSels c.s c.q c.o (.object i) sels = true) (henv : envSelsR e c pfx sels)
    (hko : keysOksF c.s c.q sels = true) (hkeys : EnumSpec.nodup (expKeys c.s c.q sels) = true)
    (hG : ∀ g ∈ spreadIdss sels, g ∈ G) (hD : selsDepth sels ≤ D)
    (hro : rustOkSelsR c sels = true) (hrn : EnumSpec.nodup (rustNamesF c sels) = true)
    (hs : StructEnv e name (fieldsOfR c pfx sels)) (b : Bool) (fd fs k : Nat)
    (hfd : 4 * n + 2 * D + 4 ≤ fd) (hfs : 4 * mm + 2 * D + 4 ≤ fs) (hk : 2 * n ≤ k)
    (kvs : List (String × Json)) (hsz : kvsSize kvs ≤ n) (hnd : (kvs.map (·.1)).Nodup)
    (hconf : confSelsV c.s i (sels.map (expandR c.q (k + 2))) kvs = true)
    (v : Val) (hvs : valSize v ≤ mm + 1) (hd : dePath e b (fd + 3) name (.obj kvs) = .ok v) :
    serPath e (fs + 1) name v =
      .ok (.obj (canonEntriesP c.s c.q c.o.skipNone (canonR c.s c.q c.o.skipNone n) sels kvs)) := by
  refine rtStructR_gen W IH mm pfx name i sels ht henv hko hkeys hG hD hro hrn hs b fd fs (k + 1) (by omega) hfs
    (by omega) kvs hsz hnd hconf ?_ v hvs hd
  intro g fr hm hfr own hown hosz
  have hgG : g ∈ G := hG g (mem_spreadIdss_spread hm)
  obtain ⟨fr', hfr', hsels, _, hnt, hr, hs', henvs, hko', hkeys', hcl, hdep, hexp⟩ :=
    world_spread W (i := i) (by simpa [rSel] using rSels_mem ht _ hm) hgG
  rw [hfr] at hfr'; cases hfr'
  have hRg := hsels ▸ hR g hgG
  have hbc := boxCost_spreadFieldR c g fr
  have hconfg := hexp k kvs ▸ confSelsV_mem hconf _ (List.mem_map_of_mem hm)
  obtain ⟨F, hF⟩ : ∃ F, fd + 1 - boxCost (spreadFieldR c g fr).ty = F + 2 := ⟨fd + 1 - boxCost (spreadFieldR c g fr).ty - 2, by omega⟩
  rw [hF] at hown
  obtain ⟨hp, _, nm, d, cr, hfind⟩ := id hs'
  have hd' : dePath e true (F + 3) fr.name (.obj kvs) = .ok (.record own) := by
    rw [dePath_struct e true (F + 2) fr.name nm d cr _ hp hfind, deStruct_obj, fieldsOfR_noTop c _ fr.sels hnt,
      deStructMap_plain _ _ _ _ (plain_fieldsOfV c _ fr.sels), hown]; rfl
  have hmm : 1 ≤ mm := by rw [valSize_record] at hosz; omega
  obtain ⟨fs', rfl⟩ : ∃ fs', fs = fs' + 1 := ⟨fs - 1, by omega⟩
  have := rtPlainR W IH (mm - 1) (c.cs.camel fr.name) fr.name i fr.sels hr hnt henvs hko' hkeys' hcl hdep hRg.1 hRg.2
    hs' true F fs' k (by omega) (by omega) hk kvs hsz hnd hconfg (.record own) (by omega) hd'
  rw [this, canonEntriesP_noTop c.s c.q c.o.skipNone _ kvs fr.sels hnt]

end RTR3

section RTR4
variable {e : Env} {c : Ctx} {G : List Nat} {D : Nat} (W : RWorld e c G D) (hR : RustW c G)
include W hR

theorem rtR_succ {n : Nat} (IH : RtR e c G D n) : RtR e c G D (n + 1) := by
  intro m i sels name pfx ht hG henv hko hkeys hD hro hrn b fd fs k hfd hfs hk j v hj hv hc hd
  obtain ⟨kvs, rfl, hnd, hconf⟩ := conformsV_obj hc
  rw [jsonSize_obj] at hj
  obtain ⟨k', rfl⟩ : ∃ k', k = k' + 2 := ⟨k - 2, by omega⟩
  have hvpos := SerdeFuel.valSize_pos v
  obtain ⟨mm, rfl⟩ : ∃ mm, m = mm + 1 := ⟨m - 1, by omega⟩
  by_cases hsp : ∃ g, sels = [Sel.spread g]
  · obtain ⟨g, rfl⟩ := hsp
    have hgG : g ∈ G := hG g (by simp [spreadIdss, spreadIds])
    obtain ⟨fr, hfr, hsels, hname, hnt, hr, hs', henvs, hko', hkeys', hcl, hdep, _⟩ := world_spread W (i := i) ht hgG
    have hRg := hsels ▸ hR g hgG
    obtain ⟨hp, _, nm, pub, bx, hfind⟩ := (henv : AliasEnvR e name (fragName c g))
    rw [hname] at hfind
    obtain ⟨fd', rfl⟩ : ∃ fd', fd = fd' + 4 := ⟨fd - 4, by omega⟩
    obtain ⟨fs', rfl⟩ : ∃ fs', fs = fs' + 2 := ⟨fs - 2, by omega⟩
    have hstep : dePath e b (fd' + 3 + 1) name (.obj kvs) = dePath e b (fd' + 3) fr.name (.obj kvs) := by
      rw [dePath]; simp only [dePrim_none hp, hfind]
      cases bx <;> simp [deTyWith]
    rw [hstep] at hd
    rw [serPath_aliasR e name fr.name nm pub bx hfind]
    rw [lone_body W.ok W.closed ht hgG, hsels] at hconf
    have := rtPlainR W IH mm (c.cs.camel fr.name) fr.name i fr.sels hr hnt henvs hko' hkeys' hcl hdep hRg.1 hRg.2
      hs' b fd' fs' k' (by omega) (by omega) (by omega) kvs (by omega) hnd hconf v hv hd
    rw [this]
    simp only [canonR, canonBodyP, canonStructP, hsels]
  · have hnl : ∀ g, sels ≠ [Sel.spread g] := fun g hg => hsp ⟨g, hg⟩
    have henv' : StructEnv e name (fieldsOfR c pfx sels) ∧ envSelsR e c pfx sels := by
      unfold BodyEnvR at henv
      revert henv
      split
      · exact fun _ => absurd rfl (hnl _)
      · exact id
    rw [rBody_not_lone hnl] at ht
    obtain ⟨fd', rfl⟩ : ∃ fd', fd = fd' + 3 := ⟨fd - 3, by omega⟩
    obtain ⟨fs', rfl⟩ : ∃ fs', fs = fs' + 1 := ⟨fs - 1, by omega⟩
    have := rtStructR W hR IH mm pfx name i sels ht henv'.2 hko hkeys hG hD hro hrn henv'.1 b fd' fs' k'
      (by omega) (by omega) (by omega) kvs (by omega) hnd hconf v hv hd
    rw [this]
    simp only [canonR, canonBodyP, canonStructP]

theorem rtR : ∀ n, RtR e c G D n
  | 0 => by
    intro _ _ _ _ _ _ _ _ _ _ _ _ _ _ _ _ _ _ _ _ j _ hj
    have := jsonSize_pos j; omega
  | n + 1 => rtR_succ W hR (rtR n)

end RTR4


/-! ## `serde_json::to_value` normalisation leaves the canonical form alone -/

theorem canonEntryP_keys (s : Schema) (skip : Bool) (crec : List Sel → Json → Json) (a : Option String) (fid : Nat)
    (sub : List Sel) (kvs : List (String × Json)) :
    ((canonEntryP s skip crec a fid sub kvs).map (·.1)).Sublist
      (match s.fields[fid]? with | some sf => [a.getD sf.name] | none => []) := by
  unfold canonEntryP
  cases hsf : s.fields[fid]? with
  | none => simp
  | some sf =>
    simp only []
    cases Json.lookup (a.getD sf.name) kvs with
    | none => simp only []; split <;> simp
    | some v => simp only []; split <;> simp

theorem canonOwnP_keys (s : Schema) (skip : Bool) (crec : List Sel → Json → Json) (kvs : List (String × Json)) :
    ∀ sels : List Sel, ((canonOwnP s skip crec sels kvs).map (·.1)).Sublist (fieldKeys s sels)
  | [] => by simp [canonOwnP, fieldKeys]
  | x :: xs => by
    have ih := canonOwnP_keys s skip crec kvs xs
    cases x with
    | field a fid sub =>
      rw [canonOwnP, List.map_append]
      have h1 := canonEntryP_keys s skip crec a fid sub kvs
      have : fieldKeys s (.field a fid sub :: xs) =
          (match s.fields[fid]? with | some sf => [a.getD sf.name] | none => []) ++ fieldKeys s xs := by
        simp only [fieldKeys, List.filterMap_cons, fieldKey]
        cases s.fields[fid]? <;> simp
      rw [this]
      exact h1.append ih
    | spread g => simpa [canonOwnP, fieldKeys, List.filterMap_cons, fieldKey] using ih
    | inline t sub => simpa [canonOwnP, fieldKeys, List.filterMap_cons, fieldKey] using ih
    | typename => simpa [canonOwnP, fieldKeys, List.filterMap_cons, fieldKey] using ih

theorem canonEntriesP_keys (s : Schema) (q : Query) (skip : Bool) (crec : List Sel → Json → Json)
    (kvs : List (String × Json)) :
    ∀ sels : List Sel, ((canonEntriesP s q skip crec sels kvs).map (·.1)).Sublist (expKeys s q sels)
  | [] => by simp [canonEntriesP, expKeys]
  | x :: xs => by
    have ih := canonEntriesP_keys s q skip crec kvs xs
    cases x with
    | field a fid sub =>
      rw [canonEntriesP, List.map_append]
      simp only [expKeys]
      exact (canonEntryP_keys s skip crec a fid sub kvs).append ih
    | spread g =>
      rw [canonEntriesP, List.map_append]
      simp only [expKeys]
      exact (canonOwnP_keys s skip crec kvs (fragSels q g)).append ih
    | inline t sub => simpa [canonEntriesP, expKeys] using ih
    | typename => simpa [canonEntriesP, expKeys] using ih

section NormR
variable (s : Schema) (q : Query) (o : Options) (skip : Bool) (G : List Nat)
  (hok : ∀ g ∈ G, fragBodyOk s q o g = true)
  (hcl : ∀ g ∈ G, ∀ g' ∈ spreadIdss (fragSels q g), g' ∈ G)
  (hkG : ∀ g ∈ G, keysOksF s q (fragSels q g) = true ∧ EnumSpec.nodup (expKeys s q (fragSels q g)) = true)

def NormR (n : Nat) : Prop :=
  ∀ k, 2 * n ≤ k → ∀ i sels j, jsonSize j ≤ n → rBody s q o (.object i) sels = true →
    (∀ g ∈ spreadIdss sels, g ∈ G) → keysOksF s q sels = true → EnumSpec.nodup (expKeys s q sels) = true →
    conformsV s i (sels.map (expandR q k)) j = true →
    normJson (canonR s q skip n sels j) = canonR s q skip n sels j

variable {n : Nat} (IH : NormR s q o skip G n)
include IH

theorem normFieldR (p : TypeId) (a : Option String) (fid : Nat) (sub : List Sel)
    (ht : rSel s q o p (.field a fid sub) = true) (hko : keysOkF s q (.field a fid sub) = true)
    (hG : ∀ g ∈ spreadIdss sub, g ∈ G) (k : Nat) (hk : 2 * n ≤ k) (v : Json) (hv : jsonSize v ≤ n)
    (hst : strictFieldV s (expandR q (k + 1) (.field a fid sub)) v = true) :
    normJson (canonFieldP s skip (canonR s q skip n) (.field a fid sub) v) =
      canonFieldP s skip (canonR s q skip n) (.field a fid sub) v := by
  cases hsf : s.fields[fid]? with
  | none => rw [rSel] at ht; simp [hsf] at ht
  | some sf =>
    by_cases hobj : ∃ i, sf.ty.id = .object i
    · obtain ⟨i, hid⟩ := hobj
      rw [rSel] at ht
      rw [keysOkF, Bool.and_eq_true] at hko
      simp only [expandR, strictFieldV] at hst
      rw [canonFieldP]
      simp only [hsf, hid, Bool.and_eq_true] at ht hst ⊢
      let L : Json → Bool := fun j =>
        conformsAt s (.object i) (sub.map (expandR q k)) j && decide (jsonSize j ≤ n)
      have hacc : accepts L (gtyOf sf.ty.quals) v = true := by
        refine accepts_mono_size _ L n ?_ _ v hv hst
        intro j hj h
        simp only [L, h, hj, decide_true, Bool.and_self]
      refine (norm_canon L (canonR s q skip n sub) ?_ _).2 v hacc
      intro j hL
      simp only [L, Bool.and_eq_true, decide_eq_true_eq] at hL
      obtain ⟨hc, hjs⟩ := hL
      simp only [conformsAt, List.any_eq_true, List.mem_range, Bool.and_eq_true, fragApplies, beq_iff_eq] at hc
      obtain ⟨rt, _, hrt, hcv⟩ := hc
      subst hrt
      exact IH k hk i sub j hjs ht.2.2 hG hko.2 hko.1 hcv
    · have hno : ∀ i, sf.ty.id ≠ .object i := fun i h => hobj ⟨i, h⟩
      have hv' := vSel_of_rSel_nonobj ht hsf hno
      have hl : canonFieldP s skip (canonR s q skip n) (.field a fid sub) v = canonFieldV s skip (.field a fid sub) v := by
        rw [canonFieldP]
        simp only [hsf]
      rw [hl]
      rw [expandR_noSpread q _ _ (noSpread_of_vSel s o _ false hv')] at hst
      exact normFieldV s o skip _ false v hv' hst

theorem normEntryR (p : TypeId) (i : Nat) (a : Option String) (fid : Nat) (sub : List Sel)
    (ht : rSel s q o p (.field a fid sub) = true) (hko : keysOkF s q (.field a fid sub) = true)
    (hG : ∀ g ∈ spreadIdss sub, g ∈ G) (k : Nat) (hk : 2 * n ≤ k) (kvs : List (String × Json)) (hsz : kvsSize kvs ≤ n)
    (hc : confSelV s i (expandR q (k + 1) (.field a fid sub)) kvs = true) :
    ∀ kv ∈ canonEntryP s skip (canonR s q skip n) a fid sub kvs, normJson kv.2 = kv.2 := by
  have hexp : expandR q (k + 1) (.field a fid sub) = .field a fid (sub.map (expandR q k)) := rfl
  rw [hexp, confSelV_field] at hc
  unfold canonEntryP
  cases hsf : s.fields[fid]? with
  | none => simp
  | some sf =>
    simp only [hsf] at hc ⊢
    cases hl : Json.lookup (a.getD sf.name) kvs with
    | none => simp [hl] at hc
    | some v =>
      simp only [hl] at hc ⊢
      intro kv hkv
      split at hkv
      · simp at hkv
      · simp only [List.mem_singleton] at hkv
        subst hkv
        have := jsonSize_lookup hl
        exact normFieldR s q o skip G IH p a fid sub ht hko hG k hk v (by omega) (by rw [hexp]; exact hc)

theorem normOwnR : ∀ (sels : List Sel) (p : TypeId) (i : Nat) (kvs : List (String × Json)) (k : Nat),
    rSels s q o p sels = true → keysOksF s q sels = true → (∀ g ∈ spreadIdss sels, g ∈ G) → 2 * n ≤ k →
    kvsSize kvs ≤ n → confSelsV s i (sels.map (expandR q (k + 1))) kvs = true →
    ∀ kv ∈ canonOwnP s skip (canonR s q skip n) sels kvs, normJson kv.2 = kv.2
  | [], _, _, _, _, _, _, _, _, _, _ => by simp [canonOwnP]
  | x :: xs, p, i, kvs, k, ht, hko, hG, hk, hsz, hc => by
    obtain ⟨hx, hxs⟩ := rSels_cons ht
    rw [keysOksF, Bool.and_eq_true] at hko
    rw [List.map_cons, confSelsV, Bool.and_eq_true] at hc
    rw [spreadIdss] at hG
    have ih := normOwnR xs p i kvs k hxs hko.2 (fun g hg => hG g (by simp [hg])) hk hsz hc.2
    cases x with
    | field a fid sub =>
      rw [canonOwnP]
      intro kv hkv
      rcases List.mem_append.mp hkv with hkv | hkv
      · exact normEntryR s q o skip G IH p i a fid sub hx hko.1
          (fun g hg => hG g (by rw [spreadIds]; simp [hg])) k hk kvs hsz hc.1 kv hkv
      · exact ih kv hkv
    | spread g => simpa [canonOwnP] using ih
    | inline t sub => simp [rSel] at hx
    | typename => simpa [canonOwnP] using ih

include hok hcl hkG in
theorem normEntriesR (i : Nat) (kvs : List (String × Json)) (hsz : kvsSize kvs ≤ n) :
    ∀ (sels : List Sel) (k : Nat), rSels s q o (.object i) sels = true → keysOksF s q sels = true →
    (∀ g ∈ spreadIdss sels, g ∈ G) → 2 * n ≤ k → confSelsV s i (sels.map (expandR q (k + 2))) kvs = true →
    ∀ kv ∈ canonEntriesP s q skip (canonR s q skip n) sels kvs, normJson kv.2 = kv.2
  | [], _, _, _, _, _, _ => by simp [canonEntriesP]
  | x :: xs, k, ht, hko, hG, hk, hc => by
    obtain ⟨hx, hxs⟩ := rSels_cons ht
    rw [keysOksF, Bool.and_eq_true] at hko
    rw [List.map_cons, confSelsV, Bool.and_eq_true] at hc
    rw [spreadIdss] at hG
    have ih := normEntriesR i kvs hsz xs k hxs hko.2 (fun g hg => hG g (by simp [hg])) hk hc.2
    cases x with
    | field a fid sub =>
      rw [canonEntriesP]
      intro kv hkv
      rcases List.mem_append.mp hkv with hkv | hkv
      · exact normEntryR s q o skip G IH (.object i) i a fid sub hx hko.1
          (fun g hg => hG g (by rw [spreadIds]; simp [hg])) (k + 1) (by omega) kvs hsz hc.1 kv hkv
      · exact ih kv hkv
    | spread g =>
      have hgG := hG g (by simp [spreadIds])
      obtain ⟨hr, _, hclg, hexp⟩ := spread_body hok hcl (i := i) (by simpa [rSel] using hx) hgG
      rw [canonEntriesP]
      intro kv hkv
      rcases List.mem_append.mp hkv with hkv | hkv
      · exact normOwnR s q o skip G IH _ (.object i) i kvs k hr (hkG g hgG).1 hclg hk hsz (hexp k kvs ▸ hc.1) kv hkv
      · exact ih kv hkv
    | inline t sub => simp [rSel] at hx
    | typename => simpa [canonEntriesP] using ih

end NormR

section NormR2
variable (s : Schema) (q : Query) (o : Options) (skip : Bool) (G : List Nat)
  (hok : ∀ g ∈ G, fragBodyOk s q o g = true)
  (hcl : ∀ g ∈ G, ∀ g' ∈ spreadIdss (fragSels q g), g' ∈ G)
  (hkG : ∀ g ∈ G, keysOksF s q (fragSels q g) = true ∧ EnumSpec.nodup (expKeys s q (fragSels q g)) = true)
include hok hcl hkG

theorem normR_succ {n : Nat} (IH : NormR s q o skip G n) : NormR s q o skip G (n + 1) := by
  intro k hk i sels j hj ht hG hko hkeys hc
  obtain ⟨kvs, rfl, hnd, hconf⟩ := conformsV_obj hc
  rw [jsonSize_obj] at hj
  obtain ⟨k', rfl⟩ : ∃ k', k = k' + 2 := ⟨k - 2, by omega⟩
  by_cases hsp : ∃ g, sels = [Sel.spread g]
  · obtain ⟨g, rfl⟩ := hsp
    have hgG := hG g (by simp [spreadIdss, spreadIds])
    obtain ⟨hr, hnt, hclg, _⟩ := spread_body hok hcl (i := i) ht hgG
    rw [lone_body hok hcl ht hgG] at hconf
    simp only [canonR, canonBodyP, canonStructP]
    refine normJson_obj_fixed _ ((canonEntriesP_keys s q skip _ kvs _).nodup (nodup_iff'.mp (hkG g hgG).2)) ?_
    rw [canonEntriesP_noTop s q skip _ kvs _ hnt]
    exact normOwnR s q o skip G IH _ (.object i) i kvs k' hr (hkG g hgG).1 hclg (by omega) (by omega) hconf
  · have hnl : ∀ g, sels ≠ [Sel.spread g] := fun g hg => hsp ⟨g, hg⟩
    rw [rBody_not_lone hnl] at ht
    simp only [canonR, canonBodyP, canonStructP]
    exact normJson_obj_fixed _ ((canonEntriesP_keys s q skip _ kvs sels).nodup (nodup_iff'.mp hkeys))
      (normEntriesR s q o skip G hok hcl hkG IH i kvs (by omega) sels k' ht hko hG (by omega) hconf)

theorem norm_canonR : ∀ n, NormR s q o skip G n
  | 0 => by
    intro _ _ _ _ j hj
    have := jsonSize_pos j; omega
  | n + 1 => normR_succ s q o skip G hok hcl hkG (norm_canonR n)

end NormR2


/-! ## top level -/

/-- Rust field names (own fields and flattened members) pairwise distinct in every struct of the operation and of
    every reachable fragment (decidable; otherwise the module does not compile) -/
def recRustOk (c : Ctx) (op : ROperation) : Bool :=
  rustOkSelsR c op.sels && EnumSpec.nodup (rustNamesF c op.sels) &&
  (usedFrags c.q op.sels).all (fun g =>
    rustOkSelsR c (fragSels c.q g) && EnumSpec.nodup (rustNamesF c (fragSels c.q g)))

theorem serFuel_R (e : Env) (v : Val) (h2 : 2 ≤ e.items.length) :
    4 * valSize v + 2 * e.items.length + 4 ≤ (valSize v + 2) * (e.items.length + e.externs.length + 2) := by
  rw [Nat.add_mul]
  have h1 : valSize v * 4 ≤ valSize v * (e.items.length + e.externs.length + 2) :=
    Nat.mul_le_mul_left _ (by omega)
  omega

theorem top_losslessR (e : Env) (c : Ctx) (op : ROperation) (ht : RecFragmentOp c op = true)
    (hk : recKeysOk c op = true) (hr : recRustOk c op = true) (he : TopEnvR e c op)
    (j : Json) (k : Nat) (hkj : 2 * jsonSize j ≤ k) (v : Val) (hc : conformsOpR c op k j = true)
    (hd : Serde.de e (.path "ResponseData") j = .ok v) :
    Serde.ser e (.path "ResponseData") v = .ok (canonR c.s c.q c.o.skipNone (jsonSize j) op.sels j) := by
  obtain ⟨_, _, hsels, hcl, hfok⟩ := recFragmentOp_parts ht
  obtain ⟨hcl1, hcl2⟩ := closedFrags_parts hcl
  simp only [recKeysOk, fragKeysOk, Bool.and_eq_true, List.all_eq_true] at hk
  simp only [recRustOk, Bool.and_eq_true, List.all_eq_true] at hr
  have hR : RustW c (usedFrags c.q op.sels) := fun g hg => hr.2 g hg
  rw [de_top] at hd
  have hser := rtR he.world hR (jsonSize j) (valSize v) op.objectId op.sels "ResponseData" (c.cs.camel op.name) hsels
    hcl1 he.root hk.1.1 hk.1.2 he.depth hr.1.1 hr.1.2 false (deFuel e j)
    ((valSize v + 2) * (e.items.length + e.externs.length + 2)) k (deFuel_R e j he.two) (serFuel_R e v he.two) hkj
    j v (Nat.le_refl _) (Nat.le_refl _) hc hd
  rw [Top.ser_of_serPath hser,
    norm_canonR c.s c.q c.o c.o.skipNone _ hfok hcl2 (fun g hg => hk.2 g hg) (jsonSize j) k hkj op.objectId op.sels j
      (Nat.le_refl _) hsels hcl1 hk.1.1 hk.1.2 hc]

/-- **`recfragment_lossless`.**  A conforming response is written back as `canonR … (jsonSize j) op.sels j`: key order =
    selection order with the entries of a spread fragment at the position of the spread, at every level of the
    recursion; integer IDs as strings; `__typename` dropped on object selections; absent nullable keys as `null`. -/
theorem recfragment_lossless (c : Ctx) (opIdx : Nat) (op : ROperation) (items : List Item)
    (hop : c.q.operations[opIdx]? = some op) (ht : RecFragmentOp c op = true) (hk : recKeysOk c op = true)
    (hr : recRustOk c op = true)
    (hgen : responseForQuery c opIdx = .ok items) (hok : moduleOk c items = true)
    (j : Json) (k : Nat) (hkj : 2 * jsonSize j ≤ k) (hc : conformsOpR c op k j = true) (v : Val)
    (hd : Serde.de (moduleEnv c items) (.path "ResponseData") j = .ok v) :
    Serde.ser (moduleEnv c items) (.path "ResponseData") v =
      .ok (canonR c.s c.q c.o.skipNone (jsonSize j) op.sels j) :=
  top_losslessR (moduleEnv c items) c op ht hk hr (topEnvR_of_module hop ht hk hgen hok) j k hkj v hc hd

/-- `recfragment_accepts` and `recfragment_lossless` in one statement -/
theorem recfragment_roundtrip (c : Ctx) (opIdx : Nat) (op : ROperation) (items : List Item)
    (hop : c.q.operations[opIdx]? = some op) (ht : RecFragmentOp c op = true) (hk : recKeysOk c op = true)
    (hr : recRustOk c op = true)
    (hgen : responseForQuery c opIdx = .ok items) (hok : moduleOk c items = true)
    (j : Json) (k : Nat) (hkj : 2 * jsonSize j ≤ k) (hc : conformsOpR c op k j = true) :
    Serde.roundtrip (moduleEnv c items) (.path "ResponseData") j =
      .ok (canonR c.s c.q c.o.skipNone (jsonSize j) op.sels j) :=
  Top.roundtrip_of (recfragment_accepts c opIdx op items hop ht hk hgen hok j k hkj hc)
    (recfragment_lossless c opIdx op items hop ht hk hr hgen hok j k hkj hc)

/-! ## the size bound is not an artefact: any bound `≥ jsonSize j` gives the same verdict / canonical form -/

section Stable
variable (s : Schema) (q : Query) (o : Options)

theorem looseFieldP_congr (rec rec' : Bool → List Sel → Json → Bool) (N : Nat)
    (h : ∀ b sels j, jsonSize j ≤ N → rec b sels j = rec' b sels j) (b : Bool) (x : Sel) (v : Json)
    (hv : jsonSize v ≤ N) : looseFieldP s o rec b x v = looseFieldP s o rec' b x v := by
  cases x with
  | field a fid sub =>
    rw [looseFieldP, looseFieldP]
    cases s.fields[fid]? with
    | none => rfl
    | some sf =>
      simp only []
      split
      · split
        · exact (accepts_congr_size _ _ N (fun j hj => h b sub j hj) _).2 v hv
        · rfl
      · rfl
  | spread g => rfl
  | inline t sub => rfl
  | typename => rfl

theorem looseOwnP_congr (rec rec' : Bool → List Sel → Json → Bool) (N : Nat)
    (h : ∀ b sels j, jsonSize j ≤ N → rec b sels j = rec' b sels j) (b : Bool) (kvs : List (String × Json))
    (hk : kvsSize kvs ≤ N) : ∀ sels, looseOwnP s o rec b sels kvs = looseOwnP s o rec' b sels kvs
  | [] => rfl
  | x :: xs => by
    have ih := looseOwnP_congr rec rec' N h b kvs hk xs
    cases x with
    | field a fid sub =>
      rw [looseOwnP, looseOwnP, ih]
      cases s.fields[fid]? with
      | none => rfl
      | some sf =>
        simp only []
        cases hl : Json.lookup (a.getD sf.name) kvs with
        | none => rfl
        | some v =>
          have := jsonSize_lookup hl
          simp only [looseFieldP_congr s o rec rec' N h b _ v (by omega)]
    | spread g => simpa [looseOwnP] using ih
    | inline t sub => simpa [looseOwnP] using ih
    | typename => simpa [looseOwnP] using ih

theorem looseArrP_congr (rec rec' : Bool → List Sel → Json → Bool) (N : Nat)
    (h : ∀ b sels j, jsonSize j ≤ N → rec b sels j = rec' b sels j) (b : Bool) :
    ∀ sels (xs : List Json), jsonsSize xs ≤ N → looseArrP s o rec b sels xs = looseArrP s o rec' b sels xs
  | [], _, _ => rfl
  | x :: sels, xs, hx => by
    cases x with
    | field a fid sub =>
      cases xs with
      | nil => rfl
      | cons v vs =>
        rw [jsonsSize] at hx
        rw [looseArrP, looseArrP, looseArrP_congr rec rec' N h b sels vs (by omega),
          looseFieldP_congr s o rec rec' N h b _ v (by omega)]
    | spread g => simpa [looseArrP] using looseArrP_congr rec rec' N h b sels xs hx
    | inline t sub => simpa [looseArrP] using looseArrP_congr rec rec' N h b sels xs hx
    | typename => simpa [looseArrP] using looseArrP_congr rec rec' N h b sels xs hx

theorem looseMemP_congr (rec rec' : Bool → List Sel → Json → Bool) (N : Nat)
    (h : ∀ b sels j, jsonSize j ≤ N → rec b sels j = rec' b sels j) (kvs : List (String × Json))
    (hk : kvsSize kvs ≤ N) : ∀ sels, looseMemP s q o rec sels kvs = looseMemP s q o rec' sels kvs
  | [] => rfl
  | x :: xs => by
    have ih := looseMemP_congr rec rec' N h kvs hk xs
    cases x with
    | spread g => rw [looseMemP, looseMemP, ih, looseOwnP_congr s o rec rec' N h true kvs hk]
    | field a fid sub => simpa [looseMemP] using ih
    | inline t sub => simpa [looseMemP] using ih
    | typename => simpa [looseMemP] using ih

theorem looseStructP_congr (rec rec' : Bool → List Sel → Json → Bool) (N : Nat)
    (h : ∀ b sels j, jsonSize j ≤ N → rec b sels j = rec' b sels j) (b : Bool) (sels : List Sel) (j : Json)
    (hj : jsonSize j ≤ N + 1) : looseStructP s q o rec b sels j = looseStructP s q o rec' b sels j := by
  cases j with
  | obj kvs =>
    rw [jsonSize_obj] at hj
    simp only [looseStructP, looseOwnP_congr s o rec rec' N h b kvs (by omega),
      looseMemP_congr s q o rec rec' N h kvs (by omega)]
  | arr xs =>
    rw [jsonSize_arr] at hj
    simp only [looseStructP, looseArrP_congr s o rec rec' N h b sels xs (by omega)]
  | null => rfl
  | bool _ => rfl
  | int _ => rfl
  | num _ => rfl
  | str _ => rfl

theorem conformsLooseR_stable : ∀ (n m : Nat) (b : Bool) (sels : List Sel) (j : Json), jsonSize j ≤ n → jsonSize j ≤ m →
    conformsLooseR s q o n b sels j = conformsLooseR s q o m b sels j
  | 0, _, _, _, j, h, _ => by have := jsonSize_pos j; omega
  | _, 0, _, _, j, _, h => by have := jsonSize_pos j; omega
  | n + 1, m + 1, b, sels, j, hn, hm => by
    have hpos := jsonSize_pos j
    obtain ⟨N, hN⟩ : ∃ N, jsonSize j = N + 1 := ⟨jsonSize j - 1, by omega⟩
    have hrec : ∀ b sels j', jsonSize j' ≤ N → conformsLooseR s q o n b sels j' = conformsLooseR s q o m b sels j' :=
      fun b sels j' hj' => conformsLooseR_stable n m b sels j' (by omega) (by omega)
    simp only [conformsLooseR, looseBodyP]
    split <;> exact looseStructP_congr s q o _ _ N hrec b _ j (by omega)

end Stable

theorem canon_congr_size (f g : Json → Json) (n : Nat) (h : ∀ j, jsonSize j ≤ n → f j = g j) :
    ∀ t : GTy, (∀ j, jsonSize j ≤ n → canonNN f t j = canonNN g t j) ∧
               (∀ j, jsonSize j ≤ n → canon f t j = canon g t j) := by
  intro t
  induction t with
  | named nm =>
    have hnn : ∀ j, jsonSize j ≤ n → canonNN f (.named nm) j = canonNN g (.named nm) j := by
      intro j hj; simp only [canonNN]; exact h j hj
    exact ⟨hnn, fun j hj => by simp only [canon, hnn j hj]⟩
  | list t ih =>
    have hnn : ∀ j, jsonSize j ≤ n → canonNN f (.list t) j = canonNN g (.list t) j := by
      intro j hj
      cases j with
      | arr xs =>
        simp only [canonNN]
        congr 1
        apply List.map_congr_left
        intro x hx
        have := jsonSize_mem hx
        rw [jsonSize_arr] at hj
        exact ih.2 x (by omega)
      | null => simp only [canonNN]
      | bool _ => simp only [canonNN]
      | int _ => simp only [canonNN]
      | num _ => simp only [canonNN]
      | str _ => simp only [canonNN]
      | obj _ => simp only [canonNN]
    exact ⟨hnn, fun j hj => by simp only [canon, hnn j hj]⟩
  | nonNull t ih =>
    exact ⟨fun j hj => by simp only [canonNN]; exact ih.1 j hj, fun j hj => by simp only [canon]; exact ih.1 j hj⟩

section StableC
variable (s : Schema) (q : Query) (skip : Bool)

theorem canonFieldP_congr (cr cr' : List Sel → Json → Json) (N : Nat)
    (h : ∀ sels j, jsonSize j ≤ N → cr sels j = cr' sels j) (x : Sel) (v : Json) (hv : jsonSize v ≤ N) :
    canonFieldP s skip cr x v = canonFieldP s skip cr' x v := by
  cases x with
  | field a fid sub =>
    rw [canonFieldP, canonFieldP]
    cases s.fields[fid]? with
    | none => rfl
    | some sf =>
      simp only []
      split
      · exact (canon_congr_size _ _ N (fun j hj => h sub j hj) _).2 v hv
      · rfl
  | spread g => rfl
  | inline t sub => rfl
  | typename => rfl

theorem canonEntryP_congr (cr cr' : List Sel → Json → Json) (N : Nat)
    (h : ∀ sels j, jsonSize j ≤ N → cr sels j = cr' sels j) (a : Option String) (fid : Nat) (sub : List Sel)
    (kvs : List (String × Json)) (hk : kvsSize kvs ≤ N) :
    canonEntryP s skip cr a fid sub kvs = canonEntryP s skip cr' a fid sub kvs := by
  unfold canonEntryP
  cases s.fields[fid]? with
  | none => rfl
  | some sf =>
    simp only []
    cases hl : Json.lookup (a.getD sf.name) kvs with
    | none => rfl
    | some v =>
      have := jsonSize_lookup hl
      simp only [canonFieldP_congr s skip cr cr' N h _ v (by omega)]

theorem canonOwnP_congr (cr cr' : List Sel → Json → Json) (N : Nat)
    (h : ∀ sels j, jsonSize j ≤ N → cr sels j = cr' sels j) (kvs : List (String × Json)) (hk : kvsSize kvs ≤ N) :
    ∀ sels, canonOwnP s skip cr sels kvs = canonOwnP s skip cr' sels kvs
  | [] => rfl
  | x :: xs => by
    have ih := canonOwnP_congr cr cr' N h kvs hk xs
    cases x with
    | field a fid sub => rw [canonOwnP, canonOwnP, ih, canonEntryP_congr s skip cr cr' N h a fid sub kvs hk]
    | spread g => simpa [canonOwnP] using ih
    | inline t sub => simpa [canonOwnP] using ih
    | typename => simpa [canonOwnP] using ih

theorem canonEntriesP_congr (cr cr' : List Sel → Json → Json) (N : Nat)
    (h : ∀ sels j, jsonSize j ≤ N → cr sels j = cr' sels j) (kvs : List (String × Json)) (hk : kvsSize kvs ≤ N) :
    ∀ sels, canonEntriesP s q skip cr sels kvs = canonEntriesP s q skip cr' sels kvs
  | [] => rfl
  | x :: xs => by
    have ih := canonEntriesP_congr cr cr' N h kvs hk xs
    cases x with
    | field a fid sub =>
      rw [canonEntriesP, canonEntriesP, ih, canonEntryP_congr s skip cr cr' N h a fid sub kvs hk]
    | spread g => rw [canonEntriesP, canonEntriesP, ih, canonOwnP_congr s skip cr cr' N h kvs hk]
    | inline t sub => simpa [canonEntriesP] using ih
    | typename => simpa [canonEntriesP] using ih

theorem canonStructP_congr (cr cr' : List Sel → Json → Json) (N : Nat)
    (h : ∀ sels j, jsonSize j ≤ N → cr sels j = cr' sels j) (sels : List Sel) (j : Json) (hj : jsonSize j ≤ N + 1) :
    canonStructP s q skip cr sels j = canonStructP s q skip cr' sels j := by
  cases j with
  | obj kvs =>
    rw [jsonSize_obj] at hj
    simp only [canonStructP, canonEntriesP_congr s q skip cr cr' N h kvs (by omega)]
  | arr xs => rfl
  | null => rfl
  | bool _ => rfl
  | int _ => rfl
  | num _ => rfl
  | str _ => rfl

theorem canonR_stable : ∀ (n m : Nat) (sels : List Sel) (j : Json), jsonSize j ≤ n → jsonSize j ≤ m →
    canonR s q skip n sels j = canonR s q skip m sels j
  | 0, _, _, j, h, _ => by have := jsonSize_pos j; omega
  | _, 0, _, j, _, h => by have := jsonSize_pos j; omega
  | n + 1, m + 1, sels, j, hn, hm => by
    have hpos := jsonSize_pos j
    obtain ⟨N, hN⟩ : ∃ N, jsonSize j = N + 1 := ⟨jsonSize j - 1, by omega⟩
    have hrec : ∀ sels j', jsonSize j' ≤ N → canonR s q skip n sels j' = canonR s q skip m sels j' :=
      fun sels j' hj' => canonR_stable n m sels j' (by omega) (by omega)
    simp only [canonR, canonBodyP]
    split <;> exact canonStructP_congr s q skip _ _ N hrec _ j (by omega)

end StableC

end E2E
end C01
end GqlVerif
