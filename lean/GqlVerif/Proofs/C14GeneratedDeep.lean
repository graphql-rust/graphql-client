import GqlVerif.Proofs.C14GeneratedTree
/-!
# C14 end to end: the denied keys, erased at every depth, change nothing — for EVERY payload

For an operation of the class `TreeOpD` (`C14GeneratedTree`) and the module `responseForQuery` emits for it.

`eraseDenied c op j` is `j` with, in the object of every selection set reached through *kept* object-typed fields
(through `null`, through lists exactly as deep as the field's list modifiers), every entry of a `dropKeys` key removed:
the response keys of the selections that are omitted (deprecated under `deny`) and are not also the key of a kept
sibling.  It is defined on the schema / selection side only — no reference to the generated items.

`denied_field_payload_same`: `Serde.de` at `ResponseData` answers the same for `j` and `eraseDenied c op j`, for
**every** JSON value `j` (conforming or not: both sides are the same value or the same error), under: `TreeOpD`,
`responseForQuery = .ok items`, item names pairwise distinct, `EnvOK (moduleEnv c items)` (decidable sufficient check
`acyclicCheck` / `rankCheck`; proved for the class in `C14GeneratedAcyclic`: `denied_field_payload_same'`).  The
`dePath` form holds at any fuel, without `EnvOK`.
-/

namespace GqlVerif
namespace C14G
open Serde SerdeFuel Codegen C13 C01 C01.E2E

/-! ## the eraser (schema / selection side) -/

/-- apply `g` below the list modifiers of a field type: at the value itself, or at every element of the lists nested
    exactly as the type says (`null` and anything unexpected is left alone) -/
def thruQuals (g : Json → Json) : List Qual → Json → Json
  | [], j => g j
  | .required :: qs, j => thruQuals g qs j
  | .list :: qs, .arr xs => .arr (xs.map (thruQuals g qs))
  | .list :: _, j => j

/-- the keys to erase in the object of the selection set `sels`: keys of omitted selections that no kept selection uses -/
def dropKeys (c : Ctx) (sels : List Sel) : List String :=
  (deniedKeys c sels).filter (fun k => !(keptKeys c sels).contains k)

mutual
  /-- the value of the entry of the (kept) selection `x` -/
  def eraseInSel (c : Ctx) : Sel → Json → Json
    | .field _ fid sub, v =>
      match c.s.fields[fid]? with
      | some sf => (match sf.ty.id with
        | .object _ => thruQuals (fun j => match j with
            | .obj kvs => .obj ((eraseKeys (dropKeys c sub) kvs).map (fun kv => (kv.1, eraseEntry c sub kv.1 kv.2)))
            | j => j) sf.ty.quals v
        | _ => v)
      | none => v
    | _, v => v
  /-- the value of the entry with key `key` in the object of the selection set: that of the first kept selection with
      this response key -/
  def eraseEntry (c : Ctx) : List Sel → String → Json → Json
    | [], _, v => v
    | x :: xs, key, v => if keptKey c x = some key then eraseInSel c x v else eraseEntry c xs key v
end

/-- the object of the selection set `sels`: the `dropKeys` entries removed, the others erased inside -/
def eraseObj (c : Ctx) (sels : List Sel) : Json → Json
  | .obj kvs => .obj ((eraseKeys (dropKeys c sels) kvs).map (fun kv => (kv.1, eraseEntry c sels kv.1 kv.2)))
  | j => j

/-- **the payload with the denied keys erased at every depth** -/
def eraseDenied (c : Ctx) (op : ROperation) (j : Json) : Json := eraseObj c op.sels j

theorem eraseInSel_object {c : Ctx} {a : Option String} {fid : Nat} {sub : List Sel} {sf : StoredField} {i : Nat}
    (hsf : c.s.fields[fid]? = some sf) (hid : sf.ty.id = .object i) (v : Json) :
    eraseInSel c (.field a fid sub) v = thruQuals (eraseObj c sub) sf.ty.quals v := by
  rw [eraseInSel]
  simp only [hsf, hid]
  congr 1

theorem eraseInSel_leaf {c : Ctx} {a : Option String} {fid : Nat} {sub : List Sel} {sf : StoredField}
    (hsf : c.s.fields[fid]? = some sf) (hid : ∀ i, sf.ty.id ≠ .object i) (v : Json) :
    eraseInSel c (.field a fid sub) v = v := by
  cases h : sf.ty.id with
  | object i => exact absurd h (hid i)
  | _ => simp [eraseInSel, hsf, h]

/-- `E` acts on the entry with key `key` as `g x` for the first kept selection `x` with that response key (the shape of
    `eraseEntry`, and of the eraser of the fragment class) -/
structure FirstKept (c : Ctx) (g : Sel → Json → Json) (E : List Sel → String → Json → Json) : Prop where
  nil : ∀ key v, E [] key v = v
  cons : ∀ x xs key v, E (x :: xs) key v = if keptKey c x = some key then g x v else E xs key v

theorem firstKept_eraseEntry (c : Ctx) : FirstKept c (eraseInSel c) (eraseEntry c) :=
  ⟨fun _ _ => by rw [eraseEntry], fun _ _ _ _ => by rw [eraseEntry]⟩

namespace FirstKept
variable {c : Ctx} {g : Sel → Json → Json} {E : List Sel → String → Json → Json} (F : FirstKept c g E)
include F

theorem not_kept : ∀ (xs : List Sel) (key : String) (v : Json), key ∉ keptKeys c xs → E xs key v = v
  | [], _, _, _ => F.nil _ _
  | x :: xs, key, v, h => by
    have hk : keptKey c x ≠ some key := fun hk => h (List.mem_filterMap.mpr ⟨x, List.mem_cons_self, hk⟩)
    rw [F.cons, if_neg hk]
    exact not_kept xs key v (fun hm => h (by
      obtain ⟨y, hy, hky⟩ := List.mem_filterMap.mp hm
      exact List.mem_filterMap.mpr ⟨y, List.mem_cons_of_mem _ hy, hky⟩))

theorem of_mem {x : Sel} {k : String} (hk : keptKey c x = some k) (v : Json) :
    ∀ {sels : List Sel}, x ∈ sels → (keptKeys c sels).Nodup → E sels k v = g x v
  | [], h, _ => by cases h
  | y :: ys, h, hnd => by
    rw [F.cons]
    rcases List.mem_cons.mp h with rfl | h'
    · rw [if_pos hk]
    · have hy : keptKey c y ≠ some k := by
        intro hy
        simp only [keptKeys, List.filterMap_cons, hy, List.nodup_cons] at hnd
        exact hnd.1 (List.mem_filterMap.mpr ⟨x, h', hk⟩)
      rw [if_neg hy]
      exact of_mem hk v h' (List.Nodup.sublist ((List.sublist_cons_self y ys).filterMap (keptKey c)) hnd)

theorem str (s : String) (hg : ∀ x, g x (.str s) = .str s) (key : String) : ∀ sels : List Sel, E sels key (.str s) = .str s
  | [] => F.nil _ _
  | x :: xs => by
    rw [F.cons]
    split
    · exact hg x
    · exact str s hg key xs

end FirstKept

/-- what the eraser does to the keys of an object: exactly the entries of the `dropKeys` go -/
theorem eraseObj_keys (c : Ctx) (sels : List Sel) (kvs : List (String × Json)) :
    (kvsOf (eraseObj c sels (.obj kvs))).map (·.1) = (kvs.map (·.1)).filter (fun k => !(dropKeys c sels).contains k) := by
  simp only [eraseObj, kvsOf, eraseKeys, List.map_map]
  rw [List.filter_map]
  rfl

/-! ## lifting a per-object `Sim` through the field's type -/

theorem sim_elems_map {e : Env} {t : RTy} {h : Json → Json} (hh : ∀ x, Sim e (.ty t) x (h x)) :
    ∀ xs : List Json, Sim e (.elems t) (.arr xs) (.arr (xs.map h))
  | [] => .refl _ _
  | x :: xs => .cons (hh x) (sim_elems_map hh xs)

theorem sim_thruQuals {e : Env} {n : String} {g : Json → Json} (hg : ∀ j, Sim e (.named n) j (g j)) :
    ∀ (qs : List Qual) (j : Json), Sim e (.ty (rustOf (.path n) (gtyOf qs))) j (thruQuals g qs j) ∧
      Sim e (.ty (rustOfNN (.path n) (gtyOf qs))) j (thruQuals g qs j)
  | [], j => by
    simp only [gtyOf, rustOf, rustOfNN, thruQuals]
    exact ⟨.opt (.path (hg j)), .path (hg j)⟩
  | .required :: qs, j => by
    simp only [gtyOf, rustOf, rustOfNN, thruQuals]
    exact ⟨(sim_thruQuals hg qs j).2, (sim_thruQuals hg qs j).2⟩
  | .list :: qs, j => by
    simp only [gtyOf, rustOf, rustOfNN]
    cases j with
    | arr xs =>
      simp only [thruQuals]
      have := sim_elems_map (fun x => (sim_thruQuals hg qs x).1) xs
      exact ⟨.opt (.vec this), .vec this⟩
    | null => exact ⟨.refl _ _, .refl _ _⟩
    | bool _ => exact ⟨.refl _ _, .refl _ _⟩
    | int _ => exact ⟨.refl _ _, .refl _ _⟩
    | num _ => exact ⟨.refl _ _, .refl _ _⟩
    | str _ => exact ⟨.refl _ _, .refl _ _⟩
    | obj _ => exact ⟨.refl _ _, .refl _ _⟩

/-! ## one object -/

theorem eq_of_wire_eq : ∀ {fs : List RField}, (fs.map (·.wire)).Nodup → ∀ {f g : RField}, f ∈ fs → g ∈ fs →
    g.wire = f.wire → g = f :=
  fun {fs} hnd {f g} hf hg hw => C02.nodup_map_inj (·.wire) fs hnd g hg f hf hw

/-- what the descent needs to know about an entry: left alone, or read by a member at whose type the two values are related -/
def EntryOK (e : Env) (c : Ctx) (pfx : String) (sels : List Sel) : Prop :=
  ∀ key v, eraseEntry c sels key v = v ∨
    ∃ f ∈ fieldsOfD c pfx sels, f.wire = key ∧ f.deserWith = none ∧ Sim e (.ty f.ty) v (eraseEntry c sels key v)

theorem sim_entries {e : Env} {c : Ctx} {pfx : String} {sels : List Sel} (ht : treeSelsD c sels = true)
    (hnd : EnumSpec.nodup (keptKeys c sels) = true) (H : EntryOK e c pfx sels) :
    ∀ kvs : List (String × Json), Sim e (.entries (fieldsOfD c pfx sels)) (.obj kvs)
      (.obj (kvs.map (fun kv => (kv.1, eraseEntry c sels kv.1 kv.2))))
  | [] => .refl _ _
  | (key, v) :: rest => by
    have ih := sim_entries ht hnd H rest
    simp only [List.map_cons]
    rcases H key v with h | ⟨f, hf, hw, hdw, hs⟩
    · rw [h]; exact .keep ih
    · subst hw
      have hwires : ((fieldsOfD c pfx sels).map (·.wire)).Nodup := by
        rw [fieldsOfD_wires c pfx sels ht]; exact nodup_iff'.mp hnd
      exact .field hf (wire_mem_keptKeys hf).2 hdw (fun g hg _ hgw => eq_of_wire_eq hwires hf hg hgw) hs ih

theorem sim_eraseObj {e : Env} {c : Ctx} {name pfx : String} {d : List String} {sc : Option String} {sels : List Sel}
    (hfind : e.find name = some (.struct name d sc (fieldsOfD c pfx sels))) (ht : treeSelsD c sels = true)
    (hnd : EnumSpec.nodup (keptKeys c sels) = true) (H : EntryOK e c pfx sels) :
    ∀ j, Sim e (.named name) j (eraseObj c sels j) := by
  intro j
  cases j with
  | obj kvs =>
    rw [eraseObj]
    refine .trans (Sim.eraseKeys (dropKeys c sels) kvs ?_) (.struct hfind (sim_entries ht hnd H _))
    intro k hk
    have hk' : k ∉ keptKeys c sels := by
      simp only [dropKeys, List.mem_filter, Bool.not_eq_true', List.contains_eq_mem, decide_eq_false_iff_not] at hk
      exact hk.2
    exact keyFree_of_struct hfind (fun f hf => (wire_mem_keptKeys hf).2)
      (fun f hf hw => hk' (hw ▸ (wire_mem_keptKeys hf).1))
  | null => exact .refl _ _
  | bool _ => exact .refl _ _
  | int _ => exact .refl _ _
  | num _ => exact .refl _ _
  | str _ => exact .refl _ _
  | arr _ => exact .refl _ _

/-! ## the whole tree -/

mutual
  /-- the structs of the sub-selections are what their names resolve to (and none is called `ID`) -/
  def envSelD (e : Env) (c : Ctx) (pfx : String) : Sel → Prop
    | .field a fid sub =>
      match c.s.fields[fid]? with
      | none => True
      | some sf =>
        match sf.ty.id with
        | .object _ =>
          (∃ d sc, e.find (pfx ++ c.cs.camel (a.getD sf.name)) =
              some (.struct (pfx ++ c.cs.camel (a.getD sf.name)) d sc (fieldsOfD c (pfx ++ c.cs.camel (a.getD sf.name)) sub))) ∧
          pfx ++ c.cs.camel (a.getD sf.name) ≠ "ID" ∧
          envSelsD e c (pfx ++ c.cs.camel (a.getD sf.name)) sub
        | _ => True
    | _ => True
  def envSelsD (e : Env) (c : Ctx) (pfx : String) : List Sel → Prop
    | [] => True
    | x :: xs => envSelD e c pfx x ∧ envSelsD e c pfx xs
end

mutual
  theorem simSel {e : Env} {c : Ctx} : ∀ (x : Sel) (pfx : String), treeSelD c x = true → envSelD e c pfx x →
      ∀ f, fieldOfSelD c pfx x = some f → ∀ v, Sim e (.ty f.ty) v (eraseInSel c x v)
    | .field a fid sub, pfx => by
      intro ht henv f hf v
      have IH := simSels (e := e) (c := c) sub
      obtain ⟨sf, hsf, _, hty⟩ := treeSelD_field ht
      rcases hty with ⟨_, _, hid, _, _⟩ | ⟨_, _, hid, _, _⟩ | ⟨i, o, hid, _, hsub, hk⟩
      · rw [eraseInSel_leaf hsf (by simp [hid])]; exact .refl _ _
      · rw [eraseInSel_leaf hsf (by simp [hid])]; exact .refl _ _
      · rw [envSelD] at henv
        simp only [fieldOfSelD, hsf, hid] at hf henv
        by_cases hd : isDenied c sf = true
        · simp [hd] at hf
        · simp only [hd, Bool.false_eq_true, ↓reduceIte, leafName, Option.some.injEq] at hf
          subst hf
          obtain ⟨⟨d, sc, hfind⟩, _, henv'⟩ := henv
          rw [eraseInSel_object hsf hid]
          exact (sim_thruQuals (sim_eraseObj hfind hsub hk (IH _ hsub henv')) sf.ty.quals v).1
    | .spread _, _ => by intro ht; simp [treeSelD] at ht
    | .inline _ _, _ => by intro ht; simp [treeSelD] at ht
    | .typename, _ => by intro _ _ f hf; simp [fieldOfSelD] at hf
  theorem simSels {e : Env} {c : Ctx} : ∀ (xs : List Sel) (pfx : String), treeSelsD c xs = true → envSelsD e c pfx xs →
      EntryOK e c pfx xs
    | [], _ => by intro _ _ key v; exact .inl (by rw [eraseEntry])
    | x :: xs, pfx => by
      intro ht henv key v
      obtain ⟨hx, hxs⟩ := treeSelsD_cons ht
      rw [envSelsD] at henv
      rw [eraseEntry]
      by_cases hk : keptKey c x = some key
      · rw [if_pos hk]
        cases x with
        | field a fid sub =>
          obtain ⟨_, _, _, sf, hx', hsf, hd, rfl⟩ := keptKey_some hk
          cases hx'
          obtain ⟨sf', hsf', _, hty⟩ := treeSelD_field hx
          rw [hsf] at hsf'
          cases hsf'
          rcases hty with ⟨_, _, hid, _, _⟩ | ⟨_, _, hid, _, _⟩ | ⟨i, o, hid, _, _, _⟩
          · exact .inl (eraseInSel_leaf hsf (by simp [hid]) v)
          · exact .inl (eraseInSel_leaf hsf (by simp [hid]) v)
          · right
            have hfx : fieldOfSelD c pfx (.field a fid sub) =
                some (fieldOf c (a.getD sf.name) (pfx ++ c.cs.camel (a.getD sf.name)) sf.ty.quals sf.deprecation) := by
              simp [fieldOfSelD, hsf, hd, hid, leafName]
            have hne : pfx ++ c.cs.camel (a.getD sf.name) ≠ "ID" := by
              have := henv.1
              rw [envSelD] at this
              simp only [hsf, hid] at this
              exact this.2.1
            refine ⟨_, ?_, ?_, ?_, simSel _ pfx hx henv.1 _ hfx v⟩
            · simp only [fieldsOfD, List.filterMap_cons, hfx, List.mem_cons, true_or]
            · rw [fieldOf_wire]
            · simp [fieldOf, hne]
        | _ => simp [keptKey] at hk
      · rw [if_neg hk]
        rcases simSels xs pfx hxs henv.2 key v with h | ⟨f, hf, h⟩
        · exact .inl h
        · refine .inr ⟨f, ?_, h⟩
          simp only [fieldsOfD, List.filterMap_cons] at hf ⊢
          cases fieldOfSelD c pfx x with
          | none => exact hf
          | some f' => exact List.mem_cons_of_mem _ hf
end

/-! ## the environment of the emitted module -/

theorem struct_name_ne_ID (c : Ctx) {items : List Item} (hnd : (items.map (·.name)).Nodup) (hb : ∀ it ∈ builtinAliases, it ∈ items)
    {n : String} {d : List String} {sc : Option String} {fs : List RField} (hmem : Item.struct n d sc fs ∈ items) : n ≠ "ID" :=
  item_name_ne_ID c hnd hb hmem (by simp)

section EnvOfItems
variable {c : Ctx} {items : List Item}

mutual
  theorem envSelD_of (hnd : (items.map (·.name)).Nodup) (hb : ∀ it ∈ builtinAliases, it ∈ items) :
      ∀ (x : Sel) (pfx : String), (∀ it ∈ itemsOfSelD c pfx x, it ∈ items) → envSelD (moduleEnv c items) c pfx x
    | .field a fid sub, pfx => by
      intro hit
      have IH := envSelsD_of hnd hb sub
      rw [itemsOfSelD] at hit
      rw [envSelD]
      cases hsf : c.s.fields[fid]? with
      | none => trivial
      | some sf =>
        simp only [hsf] at hit ⊢
        cases hid : sf.ty.id with
        | object i =>
          simp only [hid] at hit ⊢
          have hmem := hit _ List.mem_cons_self
          exact ⟨⟨_, _, find_of_mem (customExterns c) hnd hmem⟩, struct_name_ne_ID c hnd hb hmem,
            IH _ (fun it h => hit it (by simp [h]))⟩
        | _ => trivial
    | .spread _, _ => by intro _; simp [envSelD]
    | .inline _ _, _ => by intro _; simp [envSelD]
    | .typename, _ => by intro _; simp [envSelD]
  theorem envSelsD_of (hnd : (items.map (·.name)).Nodup) (hb : ∀ it ∈ builtinAliases, it ∈ items) :
      ∀ (xs : List Sel) (pfx : String), (∀ it ∈ itemsOfSelsD c pfx xs, it ∈ items) → envSelsD (moduleEnv c items) c pfx xs
    | [], _ => by intro _; simp [envSelsD]
    | x :: xs, pfx => by
      intro hit
      rw [itemsOfSelsD] at hit
      rw [envSelsD]
      exact ⟨envSelD_of hnd hb x pfx (fun it h => hit it (by simp [h])),
        envSelsD_of hnd hb xs pfx (fun it h => hit it (by simp [h]))⟩
end

end EnvOfItems

/-! ## end to end -/

theorem eraseDenied_sim (c : Ctx) (opIdx : Nat) (op : ROperation) (items : List Item)
    (hop : c.q.operations[opIdx]? = some op) (ht : TreeOpD c op = true)
    (hgen : responseForQuery c opIdx = .ok items) (hnd : EnumSpec.nodup (items.map (·.name)) = true) (j : Json) :
    Sim (moduleEnv c items) (.named "ResponseData") j (eraseDenied c op j) := by
  obtain ⟨_, hsels, hkeys⟩ := treeOpD_parts ht
  obtain ⟨pre, hitems⟩ := tree_module_shapeD c opIdx op items hop ht hgen
  have hnd' := nodup_iff'.mp hnd
  have hb : ∀ it ∈ builtinAliases, it ∈ items := fun it h => by rw [hitems]; simp [h]
  have hsub : ∀ it ∈ structItemsD c "ResponseData" (c.cs.camel op.name) op.sels, it ∈ items := by
    intro it h; rw [hitems]; simp [h]
  have hroot := find_of_mem (customExterns c) hnd' (hsub _ (by unfold structItemsD; exact List.mem_cons_self))
  have henv := envSelsD_of (c := c) hnd' hb op.sels (c.cs.camel op.name) (fun it h => hsub it (by simp [structItemsD, h]))
  exact sim_eraseObj hroot hsels hkeys (simSels op.sels _ hsels henv) j

/-- `dePath` form: any fuel, buffered or not, no `EnvOK` -/
theorem denied_field_payload_same_dePath (c : Ctx) (opIdx : Nat) (op : ROperation) (items : List Item)
    (hop : c.q.operations[opIdx]? = some op) (ht : TreeOpD c op = true)
    (hgen : responseForQuery c opIdx = .ok items) (hnd : EnumSpec.nodup (items.map (·.name)) = true)
    (b : Bool) (fuel : Nat) (j : Json) :
    dePath (moduleEnv c items) b fuel "ResponseData" j = dePath (moduleEnv c items) b fuel "ResponseData" (eraseDenied c op j) :=
  sim_sound (eraseDenied_sim c opIdx op items hop ht hgen hnd j) b fuel

/-- **C14 end to end**: for an emitted module of the class, EVERY payload deserializes at `ResponseData` exactly as the
    payload with the denied keys erased at every depth — same value or same error -/
theorem denied_field_payload_same (c : Ctx) (opIdx : Nat) (op : ROperation) (items : List Item)
    (hop : c.q.operations[opIdx]? = some op) (ht : TreeOpD c op = true)
    (hgen : responseForQuery c opIdx = .ok items) (hnd : EnumSpec.nodup (items.map (·.name)) = true)
    (hOK : EnvOK (moduleEnv c items)) (j : Json) :
    Serde.de (moduleEnv c items) (.path "ResponseData") j =
      Serde.de (moduleEnv c items) (.path "ResponseData") (eraseDenied c op j) :=
  sim_de_named hOK (eraseDenied_sim c opIdx op items hop ht hgen hnd j)

end C14G
end GqlVerif
