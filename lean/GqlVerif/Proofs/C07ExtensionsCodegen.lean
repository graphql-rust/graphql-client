import GqlVerif.Proofs.C07Extensions
import GqlVerif.Model.Codegen
import GqlVerif.Proofs.CalcVariantsPushed
import GqlVerif.Proofs.ResolveSim
/-!
# C07 — a renumbering of the field ids is invisible in the generated code

With `extend type` blocks the two schema front-ends return `Schema` values that differ by a renumbering `σ` of the
field ids (`Proofs/C07Extensions.lean`).  Field ids occur in `StoredObject.fields`, `StoredInterface.fields` and, after
`Resolve.resolve`, in `Sel.field _ fid _`; nothing in the emitted IR mentions them.  `FieldIso ρ s t` says that `t` is
`s` with the field ids renumbered by `ρ` (**no injectivity of `ρ` is needed**); resolution commutes with it
(`resolve_iso`: the three validation passes and the errors included, `mapQ ρ` renumbering the `fieldId`s of a resolved
query), and `Codegen.generate` returns the same outcome on both schemas (`codegen_respects_field_renumbering`).  Hence
C07 for schemas with `extend type`: the SDL file and the introspection file generate literally the same modules
(`codegen_equal_ext_of_renderings`, `codegen_equal_ext_json`).

All statements are about the model's own `Resolve.*` / `Codegen.*` functions, proved function by function
(`*_iso`, `*_map`); for the fuel-indexed mutual block `calcSelection` / `calcVariants` / `calcVariantSels` / `calcFields`
the renumbered context is an instance of `C09.calc_sim` (`FieldIso.calcSim`, strict policy, all relations equality);
the selection block of the resolver and its validation passes are those of `Proofs/ResolveSim.lean` for the instance
`FieldIso.schemaSim` (`fieldSchemaMap ρ`).
-/

namespace GqlVerif
namespace C07
open Resolve Codegen

def mapO (ρ : Nat → Nat) (o : StoredObject) : StoredObject := { o with fields := o.fields.map ρ }
def mapI (ρ : Nat → Nat) (i : StoredInterface) : StoredInterface := { i with fields := i.fields.map ρ }

/-- `t` is `s` with the field ids renumbered by `ρ` (no injectivity needed for what follows) -/
structure FieldIso (ρ : Nat → Nat) (s t : Schema) : Prop where
  field : ∀ i, t.fields[ρ i]? = s.fields[i]?
  rest : t = { s with fields := t.fields, objects := s.objects.map (mapO ρ), interfaces := s.interfaces.map (mapI ρ) }

theorem fieldIso_mapFields (σ : List Nat) (s : Schema) (h : σ.Perm (List.range s.fields.length)) :
    FieldIso σ.idxOf s (s.mapFields σ) :=
  ⟨mapFields_getElem? σ s h, rfl⟩

mutual
  def mapSel (ρ : Nat → Nat) : Sel → Sel
    | .field a fid sub => .field a (ρ fid) (mapSels ρ sub)
    | .inline t sub => .inline t (mapSels ρ sub)
    | .spread f => .spread f
    | .typename => .typename
  def mapSels (ρ : Nat → Nat) : List Sel → List Sel
    | [] => []
    | x :: xs => mapSel ρ x :: mapSels ρ xs
end

theorem mapSels_eq_map (ρ : Nat → Nat) (l : List Sel) : mapSels ρ l = l.map (mapSel ρ) := by
  induction l with
  | nil => rfl
  | cons x l ih => rw [mapSels, ih]; rfl

def mapFrag (ρ : Nat → Nat) (f : RFragment) : RFragment := { f with sels := mapSels ρ f.sels }
def mapOp (ρ : Nat → Nat) (o : ROperation) : ROperation := { o with sels := mapSels ρ o.sels }
def mapQ (ρ : Nat → Nat) (q : Query) : Query :=
  { q with fragments := q.fragments.map (mapFrag ρ), operations := q.operations.map (mapOp ρ) }

/-- the renaming of field ids as a `SelMap`: type ids stay -/
def fieldMap (ρ : Nat → Nat) : C09.SelMap := ⟨ρ, id, id, id, id, id, id, mapSel ρ, mapSels ρ, mapFrag ρ⟩

theorem fieldMap_ty (ρ : Nat → Nat) : (fieldMap ρ).ty = id := by funext t; cases t <;> rfl

theorem fieldMap_lawful (ρ : Nat → Nat) : (fieldMap ρ).Lawful where
  ty_inj := by rw [fieldMap_ty]; exact fun _ _ e => e
  sels_eq_map := mapSels_eq_map ρ
  sel_field := fun _ _ _ => rfl
  sel_inline := fun _ _ => by rw [fieldMap_ty]; rfl
  sel_spread := fun _ => rfl
  sel_typename := rfl
  frag_name := fun _ => rfl
  frag_on := fun _ => by rw [fieldMap_ty]; rfl

/-- stored fields stay; objects and interfaces list the renumbered ids -/
def fieldSchemaMap (ρ : Nat → Nat) : C09.SchemaMap :=
  { toSelMap := fieldMap ρ, field := id, object := mapO ρ, iface := mapI ρ, union := id, op := mapOp ρ, query := mapQ ρ }

section Acc
variable {ρ : Nat → Nat} {s t : Schema} (h : FieldIso ρ s t)
include h

theorem FieldIso.getField (i : Nat) : t.getField (ρ i) = s.getField i := by
  simp [Schema.getField, h.field]

theorem FieldIso.getObject (i : Nat) : t.getObject i = (s.getObject i).map (mapO ρ) := by
  rw [h.rest]; simp only [Schema.getObject, List.getElem?_map]
  cases s.objects[i]? <;> rfl

theorem FieldIso.getInterface (i : Nat) : t.getInterface i = (s.getInterface i).map (mapI ρ) := by
  rw [h.rest]; simp only [Schema.getInterface, List.getElem?_map]
  cases s.interfaces[i]? <;> rfl

theorem FieldIso.unions : t.unions = s.unions := by rw [h.rest]
theorem FieldIso.inputs : t.inputs = s.inputs := by rw [h.rest]
theorem FieldIso.enums : t.enums = s.enums := by rw [h.rest]
theorem FieldIso.scalars : t.scalars = s.scalars := by rw [h.rest]
theorem FieldIso.names : t.names = s.names := by rw [h.rest]
theorem FieldIso.queryType : t.queryType = s.queryType := by rw [h.rest]
theorem FieldIso.mutationType : t.mutationType = s.mutationType := by rw [h.rest]
theorem FieldIso.subscriptionType : t.subscriptionType = s.subscriptionType := by rw [h.rest]
theorem FieldIso.objects_length : t.objects.length = s.objects.length := by rw [h.rest]; simp

theorem FieldIso.getUnion (i : Nat) : t.getUnion i = s.getUnion i := by simp [Schema.getUnion, h.unions]
theorem FieldIso.getInput (i : Nat) : t.getInput i = s.getInput i := by simp [Schema.getInput, h.inputs]
theorem FieldIso.getEnum (i : Nat) : t.getEnum i = s.getEnum i := by simp [Schema.getEnum, h.enums]
theorem FieldIso.getScalar (i : Nat) : t.getScalar i = s.getScalar i := by simp [Schema.getScalar, h.scalars]
theorem FieldIso.findType (n : String) : t.findType n = s.findType n := by simp [Schema.findType, h.names]
theorem FieldIso.findTypeId (n : String) : t.findTypeId n = s.findTypeId n := by simp [Schema.findTypeId, h.findType]
theorem FieldIso.resolveFieldType (g : GTy) : resolveFieldType t g = resolveFieldType s g := by
  simp [GqlVerif.resolveFieldType, h.findTypeId]
theorem FieldIso.queryTypeOrPanic : t.queryTypeOrPanic = s.queryTypeOrPanic := by
  simp [Schema.queryTypeOrPanic, h.queryType]

theorem FieldIso.typeName (id : TypeId) : t.typeName id = s.typeName id := by
  cases id <;> simp only [Schema.typeName, h.getObject, h.getInterface, h.getUnion, h.getEnum, h.getInput, h.getScalar]
  · cases s.getObject _ <;> rfl
  · cases s.getInterface _ <;> rfl

theorem FieldIso.implementors (i : Nat) : t.implementors i = s.implementors i := by
  rw [h.rest]
  simp only [Schema.implementors]
  generalize s.objects = os
  suffices ∀ k, (List.filter (fun x => x.1.implements.contains i) ((os.map (mapO ρ)).zipIdx k)).map (·.2) =
      (List.filter (fun x => x.1.implements.contains i) (os.zipIdx k)).map (·.2) from this 0
  induction os with
  | nil => intro k; rfl
  | cons o os ih =>
    intro k
    simp only [List.map_cons, List.zipIdx_cons, List.filter_cons, mapO]
    split <;> simp only [List.map_cons, ih]

end Acc

theorem bind_map_ok {α β γ} (x : Outcome α) (f : α → β) (k : β → Outcome γ) :
    (x.map f) >>= k = x >>= fun a => k (f a) :=
  C02.map_bind_ok x f k

theorem except_map_map {ε α β γ} (x : Except ε α) (f : α → β) (g : β → γ) : (x.map f).map g = x.map (g ∘ f) := by
  cases x <;> rfl

variable (ρ : Nat → Nat)

mutual
  theorem selDepth'_map : ∀ x : Sel, selDepth' (mapSel ρ x) = selDepth' x
    | .field a fid sub => by simp only [mapSel, selDepth', selsDepth'_map sub]
    | .inline t sub => by simp only [mapSel, selDepth', selsDepth'_map sub]
    | .spread f => rfl
    | .typename => rfl
  theorem selsDepth'_map : ∀ l : List Sel, selsDepth' (mapSels ρ l) = selsDepth' l
    | [] => rfl
    | x :: xs => by simp only [mapSels, selsDepth', selDepth'_map x, selsDepth'_map xs]
end

mutual
  theorem selDepth_map : ∀ x : Sel, selDepth (mapSel ρ x) = selDepth x
    | .field a fid sub => by simp only [mapSel, selDepth, selsDepth_map sub]
    | .inline t sub => by simp only [mapSel, selDepth, selsDepth_map sub]
    | .spread f => rfl
    | .typename => rfl
  theorem selsDepth_map : ∀ l : List Sel, selsDepth (mapSels ρ l) = selsDepth l
    | [] => rfl
    | x :: xs => by simp only [mapSels, selsDepth, selDepth_map x, selsDepth_map xs]
end

mutual
  theorem selSize_map : ∀ x : Sel, selSize (mapSel ρ x) = selSize x
    | .field a fid sub => by simp only [mapSel, selSize, selsSize_map sub]
    | .inline t sub => by simp only [mapSel, selSize, selsSize_map sub]
    | .spread f => rfl
    | .typename => rfl
  theorem selsSize_map : ∀ l : List Sel, selsSize (mapSels ρ l) = selsSize l
    | [] => rfl
    | x :: xs => by simp only [mapSels, selsSize, selSize_map x, selsSize_map xs]
end

@[simp] theorem mapQ_fragments (q : Query) : (mapQ ρ q).fragments = q.fragments.map (mapFrag ρ) := rfl
@[simp] theorem mapQ_operations (q : Query) : (mapQ ρ q).operations = q.operations.map (mapOp ρ) := rfl
@[simp] theorem mapQ_variables (q : Query) : (mapQ ρ q).variables = q.variables := rfl
@[simp] theorem mapFrag_sels (f : RFragment) : (mapFrag ρ f).sels = mapSels ρ f.sels := rfl
@[simp] theorem mapFrag_on (f : RFragment) : (mapFrag ρ f).on = f.on := rfl
@[simp] theorem mapFrag_name (f : RFragment) : (mapFrag ρ f).name = f.name := rfl
@[simp] theorem mapOp_sels (f : ROperation) : (mapOp ρ f).sels = mapSels ρ f.sels := rfl
@[simp] theorem mapOp_name (f : ROperation) : (mapOp ρ f).name = f.name := rfl
@[simp] theorem mapOp_kind (f : ROperation) : (mapOp ρ f).kind = f.kind := rfl
@[simp] theorem mapOp_objectId (f : ROperation) : (mapOp ρ f).objectId = f.objectId := rfl

theorem walkFuel_map (q : Query) : walkFuel (mapQ ρ q) = walkFuel q := by
  simp [walkFuel, List.map_map, Function.comp_def, selsDepth_map]

theorem depthFuel_map (q : Query) : depthFuel (mapQ ρ q) = depthFuel q := by
  simp [depthFuel, List.map_map, Function.comp_def, selsDepth'_map]

theorem findFragment_map (q : Query) (n : String) : (mapQ ρ q).findFragment n = q.findFragment n := by
  simp [Query.findFragment, List.findIdx?_map, Function.comp_def]

theorem findOperation_map (q : Query) (n : String) : (mapQ ρ q).findOperation n = q.findOperation n := by
  simp [Query.findOperation, List.findIdx?_map, Function.comp_def]

theorem getFragment_map (q : Query) (i : Nat) : (mapQ ρ q).getFragment i = (q.getFragment i).map (mapFrag ρ) := by
  simp only [Query.getFragment, mapQ_fragments, List.getElem?_map]
  cases q.fragments[i]? <;> rfl

theorem getOperation_map (q : Query) (i : Nat) : (mapQ ρ q).getOperation i = (q.getOperation i).map (mapOp ρ) := by
  simp only [Query.getOperation, mapQ_operations, List.getElem?_map]
  cases q.operations[i]? <;> rfl

theorem opVariables_map (q : Query) (i : Nat) : (mapQ ρ q).opVariables i = q.opVariables i := rfl

theorem fieldSchemaMap_laws : (fieldSchemaMap ρ).Laws where
  sel := fieldMap_lawful ρ
  frag_sels := fun _ => rfl
  op_sels := fun _ => rfl
  op_kind := fun _ => rfl
  op_objectId := fun _ => rfl
  query_fragments := fun _ => rfl
  query_operations := fun _ => rfl
  depthFuel := depthFuel_map ρ
  walkFuel := walkFuel_map ρ

theorem validateSubscriptions_map (q : Query) : validateSubscriptions (mapQ ρ q) = validateSubscriptions q :=
  C09.validateSubscriptions_sim (fieldSchemaMap_laws ρ) q

section
variable {ρ : Nat → Nat} {s t : Schema} (h : FieldIso ρ s t)
include h

theorem FieldIso.schemaSim : C09.SchemaSim (fieldSchemaMap ρ) s t where
  laws := fieldSchemaMap_laws ρ
  field_name := fun _ => rfl
  field_ty := fun _ => by rw [show (fieldSchemaMap ρ).ty = id from fieldMap_ty ρ]; rfl
  object_name := fun _ => rfl
  object_fields := fun _ => rfl
  object_implements := fun o => (List.map_id o.implements).symm
  iface_name := fun _ => rfl
  iface_fields := fun _ => rfl
  union_variants := fun u => by rw [show (fieldSchemaMap ρ).ty = id from fieldMap_ty ρ]; exact (List.map_id _).symm
  getField := fun i => (h.getField i).trans (C09.outcome_map_id _).symm
  getObject := h.getObject
  getInterface := h.getInterface
  getUnion := fun i => (h.getUnion i).trans (C09.outcome_map_id _).symm
  implementors := fun i => .of_eq ((h.implementors i).trans (List.map_id _).symm)
  findType := fun n => by
    rw [show (fieldSchemaMap ρ).ty = id from fieldMap_ty ρ, Option.map_id_fun]; exact h.findType n

theorem objSel_iso (q q' : Query) (hq : ∀ n, q'.findFragment n = q.findFragment n) :
    ∀ (x : QSel) (pname : String) (fields : List Nat),
      resolveObjectSel t q' pname (fields.map ρ) x = (resolveObjectSel s q pname fields x).map (mapSel ρ) :=
  C09.objSel_sim h.schemaSim q q' hq
theorem objSels_iso (q q' : Query) (hq : ∀ n, q'.findFragment n = q.findFragment n) :
    ∀ (xs : List QSel) (pname : String) (fields : List Nat),
      resolveObjectSels t q' pname (fields.map ρ) xs = (resolveObjectSels s q pname fields xs).map (mapSels ρ) :=
  C09.objSels_sim h.schemaSim q q' hq
theorem unionSel_iso (q q' : Query) (hq : ∀ n, q'.findFragment n = q.findFragment n) :
    ∀ (x : QSel), resolveUnionSel t q' x = (resolveUnionSel s q x).map (mapSel ρ) :=
  C09.unionSel_sim h.schemaSim q q' hq

theorem fieldsHaveTypename_iso (q : Query) : ∀ x : Sel,
    fieldsHaveTypename t (mapQ ρ q) (mapSel ρ x) = fieldsHaveTypename s q x :=
  C09.fieldsHaveTypename_sim h.schemaSim q

theorem validateTypenamePresence_iso (q : Query) :
    validateTypenamePresence t (mapQ ρ q) = validateTypenamePresence s q :=
  C09.validateTypenamePresence_sim h.schemaSim q

theorem typeConditions_iso (q : Query) : ∀ (x : Sel) (parent : TypeId),
    typeConditions t (mapQ ρ q) parent (mapSel ρ x) = typeConditions s q parent x := fun x parent => by
  have := C09.typeConditions_sim h.schemaSim q x parent
  rwa [show (fieldSchemaMap ρ).ty = id from fieldMap_ty ρ] at this

theorem validateTypeConditions_iso (q : Query) :
    validateTypeConditions t (mapQ ρ q) = validateTypeConditions s q :=
  C09.validateTypeConditions_sim h.schemaSim q

end

theorem mapSels_append (ρ : Nat → Nat) (a b : List Sel) : mapSels ρ (a ++ b) = mapSels ρ a ++ mapSels ρ b := by
  simp [mapSels_eq_map]

section
variable {ρ : Nat → Nat} {s t : Schema} (h : FieldIso ρ s t)
include h

theorem resolveSelection_iso (q q' : Query) (hq : ∀ n, q'.findFragment n = q.findFragment n) (on : TypeId)
    (sels : List QSel) :
    resolveSelection t q' on sels = (resolveSelection s q on sels).map (mapSels ρ) := by
  have := C09.resolveSelection_sim h.schemaSim q q' hq on sels
  rwa [show (fieldSchemaMap ρ).ty = id from fieldMap_ty ρ] at this

theorem resolveVariables_iso (op : Nat) (vars : List VarDef) : resolveVariables t op vars = resolveVariables s op vars := by
  simp only [resolveVariables, h.resolveFieldType]

def opRoot (s : Schema) : OpKind → Outcome Nat
  | .query => s.queryTypeOrPanic
  | .mutation => match s.mutationType with
    | some m => pure m
    | none => fail' "Query contains a mutation operation, but the schema has no mutation type."
  | .subscription => match s.subscriptionType with
    | some m => pure m
    | none => fail' "Query contains a subscription operation, but the schema has no subscription type."

def opBody (s : Schema) (q : Query) (name : Option String) (vars : List VarDef) (sels : List QSel) (on : Nat) :
    Outcome Query := do
  let o ← s.getObject on
  let n ← match name with | some n => pure n | none => panic' "unwrap on operation name"
  let id ← match q.findOperation n with | some i => pure i | none => panic' "find_operation unwrap"
  let vs ← resolveVariables s id vars
  let q := { q with variables := q.variables ++ vs }
  let rs ← resolveObjectSels s q o.name o.fields sels
  match q.operations[id]? with
  | none => panic' "get operation"
  | some op => pure { q with operations := q.operations.set id { op with sels := op.sels ++ rs } }

omit h in
theorem resolveDef_op_eq (s : Schema) (q : Query) (kind : OpKind) (name : Option String) (vars : List VarDef)
    (sels : List QSel) :
    resolveDef s q (.op kind name vars sels) = opRoot s kind >>= opBody s q name vars sels := by
  cases kind
  · rfl
  · simp only [resolveDef, opRoot]; cases s.mutationType <;> rfl
  · simp only [resolveDef, opRoot]; cases s.subscriptionType <;> rfl

theorem opRoot_iso (kind : OpKind) : opRoot t kind = opRoot s kind := by
  cases kind <;> simp only [opRoot, h.queryTypeOrPanic, h.mutationType, h.subscriptionType]

theorem opBody_iso (q : Query) (name : Option String) (vars : List VarDef) (sels : List QSel) (on : Nat) :
    opBody t (mapQ ρ q) name vars sels on = (opBody s q name vars sels on).map (mapQ ρ) := by
  simp only [opBody, h.getObject, findOperation_map, resolveVariables_iso h]
  cases s.getObject on with
  | error e => rfl
  | ok o =>
    cases name with
    | none => rfl
    | some n =>
      cases hfo : q.findOperation n with
      | none => simp only [Except.map, bind, Except.bind, pure, Except.pure, hfo]; rfl
      | some id =>
        simp only [Except.map, bind, Except.bind, pure, Except.pure, hfo]
        cases resolveVariables s id vars with
        | error e => rfl
        | ok vs =>
          simp only [mapO]
          rw [objSels_iso h { q with variables := q.variables ++ vs }
            { mapQ ρ q with variables := (mapQ ρ q).variables ++ vs } (fun n => findFragment_map ρ q n) sels o.name o.fields]
          cases resolveObjectSels s { q with variables := q.variables ++ vs } o.name o.fields sels with
          | error e => rfl
          | ok rs =>
            simp only [Except.map, mapQ_operations, List.getElem?_map]
            cases q.operations[id]? with
            | none => rfl
            | some op =>
              simp only [Option.map_some, mapQ, List.map_set, mapOp, mapSels_append]

theorem resolveDef_iso (q : Query) (d : QDef) : resolveDef t (mapQ ρ q) d = (resolveDef s q d).map (mapQ ρ) := by
  cases d with
  | selset sels => rfl
  | frag name on sels =>
    simp only [resolveDef, h.findType, findFragment_map]
    cases s.findType on with
    | none => rfl
    | some ty =>
      cases q.findFragment name with
      | none => rfl
      | some id =>
        simp only []
        rw [resolveSelection_iso h q (mapQ ρ q) (findFragment_map ρ q) ty sels]
        cases resolveSelection s q ty sels with
        | error e => rfl
        | ok rs =>
          simp only [Except.map, bind, Except.bind, mapQ_fragments, List.getElem?_map]
          cases q.fragments[id]? with
          | none => rfl
          | some f =>
            simp only [Option.map_some, pure, Except.pure, mapQ, List.map_set, mapFrag, mapSels_append]
  | op kind name vars sels =>
    rw [resolveDef_op_eq, resolveDef_op_eq, opRoot_iso h]
    cases opRoot s kind with
    | error e => rfl
    | ok on => exact opBody_iso h q name vars sels on

end

section
variable {ρ : Nat → Nat} {s t : Schema} (h : FieldIso ρ s t)
include h

theorem createRoots_iso (doc : QDoc) (q : Query) :
    createRoots t doc (mapQ ρ q) = (createRoots s doc q).map (mapQ ρ) := by
  induction doc generalizing q with
  | nil => rfl
  | cons d doc ih =>
    cases d with
    | selset sels => rfl
    | frag name on sels =>
      simp only [createRoots, findFragment_map, h.findType]
      split
      · rfl
      · cases s.findType on with
        | none => rfl
        | some ty =>
          simp only []
          rw [← ih]
          congr 1; simp [mapQ, mapFrag, mapSels]
    | op kind name vars sels =>
      cases kind with
      | query =>
        simp only [createRoots, h.queryTypeOrPanic, findOperation_map]
        cases s.queryTypeOrPanic with
        | error e => rfl
        | ok on =>
          cases name with
          | none => rfl
          | some n =>
            simp only [bind, Except.bind]
            split
            · rfl
            · rw [← ih]; congr 1; simp [mapQ, mapOp, mapSels]
      | mutation =>
        simp only [createRoots, h.mutationType, findOperation_map]
        cases s.mutationType with
        | none => rfl
        | some on =>
          cases name with
          | none => rfl
          | some n =>
            simp only []
            split
            · rfl
            · rw [← ih]; congr 1; simp [mapQ, mapOp, mapSels]
      | subscription =>
        simp only [createRoots, h.subscriptionType, findOperation_map]
        cases s.subscriptionType with
        | none => rfl
        | some on =>
          simp only []
          split
          · rfl
          · cases name with
            | none => rfl
            | some n =>
              simp only []
              split
              · rfl
              · rw [← ih]; congr 1; simp [mapQ, mapOp, mapSels]

theorem foldlM_resolveDef_iso (doc : QDoc) (q : Query) :
    doc.foldlM (resolveDef t) (mapQ ρ q) = (doc.foldlM (resolveDef s) q).map (mapQ ρ) := by
  induction doc generalizing q with
  | nil => rfl
  | cons d doc ih =>
    simp only [List.foldlM_cons, resolveDef_iso h]
    cases resolveDef s q d with
    | error e => rfl
    | ok q2 => exact ih q2

theorem resolve_iso (doc : QDoc) : resolve t doc = (resolve s doc).map (mapQ ρ) := by
  unfold resolve
  have h0 := createRoots_iso h doc {}
  rw [show mapQ ρ ({} : Query) = {} from rfl] at h0
  rw [h0]
  cases createRoots s doc {} with
  | error e => rfl
  | ok q0 =>
    simp only [Except.map, bind, Except.bind, foldlM_resolveDef_iso h]
    cases List.foldlM (resolveDef s) q0 doc with
    | error e => rfl
    | ok q =>
      simp only [validateTypenamePresence_iso h, validateSubscriptions_map, validateTypeConditions_iso h]
      cases validateTypenamePresence s q with
      | error e => rfl
      | ok _ =>
        cases validateSubscriptions q with
        | error e => rfl
        | ok _ => cases validateTypeConditions s q <;> rfl

end

theorem foldlM_mapSels {β} (l : List Sel) (f f' : β → Sel → Outcome β) (init : β) (ρ : Nat → Nat)
    (h : ∀ b, ∀ x ∈ l, f' b (mapSel ρ x) = f b x) :
    (mapSels ρ l).foldlM f' init = l.foldlM f init := by
  induction l generalizing init with
  | nil => rfl
  | cons x l ih =>
    simp only [mapSels, List.foldlM_cons, h init x (by simp)]
    cases f init x with
    | error e => rfl
    | ok b => exact ih _ fun b y hy => h b y (by simp [hy])

section
variable {ρ : Nat → Nat} {s t : Schema} (h : FieldIso ρ s t)
include h

theorem usedInputIds_iso (fuel : Nat) : ∀ (u : UsedTypes) (i : StoredInput), usedInputIds t fuel u i = usedInputIds s fuel u i := by
  induction fuel with
  | zero => intro _ _; rfl
  | succ fuel ih =>
    intro u i
    simp only [usedInputIds, h.getInput, ih]

theorem collectVar_iso (u : UsedTypes) (v : RVariable) : collectVar t u v = collectVar s u v := by
  simp only [collectVar, h.getInput, h.inputs, usedInputIds_iso h]

theorem collectSel_iso (q : Query) (fuel : Nat) : ∀ (u : UsedTypes) (x : Sel),
    collectSel t (mapQ ρ q) fuel u (mapSel ρ x) = collectSel s q fuel u x := by
  induction fuel with
  | zero => intro _ _; rfl
  | succ fuel ih =>
    intro u x
    cases x with
    | field a fid sub =>
      simp only [mapSel, collectSel, h.getField]
      cases s.getField fid with
      | error e => rfl
      | ok f =>
        simp only [bind, Except.bind]
        exact foldlM_mapSels _ _ _ _ ρ fun b y _ => ih b y
    | inline ty sub =>
      simp only [mapSel, collectSel]
      exact foldlM_mapSels _ _ _ _ ρ fun b y _ => ih b y
    | spread fid =>
      simp only [mapSel, collectSel, getFragment_map]
      split
      · rfl
      · cases q.getFragment fid with
        | error e => rfl
        | ok f =>
          simp only [Except.map, bind, Except.bind, mapFrag_sels]
          exact foldlM_mapSels _ _ _ _ ρ fun b y _ => ih b y
    | typename => rfl

theorem allUsedTypes_iso (q : Query) (op : Nat) : allUsedTypes t (mapQ ρ q) op = allUsedTypes s q op := by
  have hv : collectVar t = collectVar s := by funext u v; exact collectVar_iso h u v
  simp only [allUsedTypes, getOperation_map, walkFuel_map, opVariables_map, bind_map_ok, mapOp_sels, hv]
  refine bind_congr fun o => ?_
  rw [foldlM_mapSels o.sels (collectSel s q (walkFuel q)) _ _ ρ fun b y _ => collectSel_iso h q _ b y]

theorem containsWithoutIndirection_iso (target fuel : Nat) : ∀ (visited : List String) (i : StoredInput),
    containsWithoutIndirection t target fuel visited i = containsWithoutIndirection s target fuel visited i := by
  induction fuel with
  | zero => intro _ _; rfl
  | succ fuel ih =>
    intro visited i
    simp only [containsWithoutIndirection, h.inputs, ih]

theorem inputIsRecursive_iso (iid : Nat) : inputIsRecursive t iid = inputIsRecursive s iid := by
  simp only [inputIsRecursive, h.inputs, containsWithoutIndirection_iso h]

theorem variantsOf_iso (ty : TypeId) : variantsOf t ty = variantsOf s ty := by
  cases ty <;> simp only [variantsOf, h.implementors, h.getUnion]

end

def mapC (ρ : Nat → Nat) (t : Schema) (c : Ctx) : Ctx := { c with s := t, q := mapQ ρ c.q }

@[simp] theorem mapC_s (ρ : Nat → Nat) (t : Schema) (c : Ctx) : (mapC ρ t c).s = t := rfl
@[simp] theorem mapC_q (ρ : Nat → Nat) (t : Schema) (c : Ctx) : (mapC ρ t c).q = mapQ ρ c.q := rfl
@[simp] theorem mapC_o (ρ : Nat → Nat) (t : Schema) (c : Ctx) : (mapC ρ t c).o = c.o := rfl
@[simp] theorem mapC_cs (ρ : Nat → Nat) (t : Schema) (c : Ctx) : (mapC ρ t c).cs = c.cs := rfl

theorem renderField_mapC (ρ : Nat → Nat) (t : Schema) (c : Ctx) : renderField (mapC ρ t c) = renderField c := rfl
theorem renderType_mapC (ρ : Nat → Nat) (t : Schema) (c : Ctx) : renderType (mapC ρ t c) = renderType c := rfl
theorem aliasMember_mapC (ρ : Nat → Nat) (t : Schema) (c : Ctx) : aliasMember (mapC ρ t c) = aliasMember c := rfl

section
variable {ρ : Nat → Nat} {t : Schema} (c : Ctx) (h : FieldIso ρ c.s t)

include h

/-- the renumbered context answers every question of the `calc*` block as `c` does -/
theorem FieldIso.calcSim : C09.CalcSim .strict (fieldMap ρ) Eq Eq (C09.SameOrder (fieldMap ρ)) Eq c (mapC ρ t c) where
  lawful := fieldMap_lawful ρ
  reflF := fun _ => rfl
  appF := fun h1 h2 => by rw [h1, h2]
  nilI := rfl
  aliasI := fun _ _ _ => rfl
  appI := fun h1 h2 => by rw [h1, h2]
  reflV := fun _ => rfl
  appV := fun _ e => by rw [e]
  cs := rfl
  otherVariant := rfl
  renderField_eq := rfl
  render := fun n fs fs' vs vs' e e' => by rw [e, e']; rfl
  named := fun n _ g r quals fl bx dep =>
    C09.ORel.refl (R := fun a b : Option RField => a.toList = b.toList) (fun _ => rfl) _
  getField := fun i => by
    rw [mapC_s, show (fieldMap ρ).fld i = ρ i from rfl, h.getField]
    exact C09.ORel.refl (fun _ => ⟨rfl, rfl, by rw [fieldMap_ty]; rfl, rfl⟩) _
  getEnum := h.getEnum
  getScalar := h.getScalar
  typeName := fun ty => by rw [fieldMap_ty]; exact h.typeName ty
  variantsOf := fun ty => C09.optRel_of_map (by
    rw [fieldMap_ty, List.map_id_fun, Option.map_id_fun, C09.outcome_map_id]; exact variantsOf_iso h ty)
  variants := C09.variants_same rfl (fun h1 h2 => by rw [h1, h2])
  frags := rfl
  isRec := C09.fragmentIsRecursive_sim (fieldSchemaMap_laws ρ) c.q

theorem calcSelection_iso (fuel : Nat) (name pfx : String) (ty : TypeId) (sels : List Sel) :
    calcSelection (mapC ρ t c) fuel name pfx ty (mapSels ρ sels) = calcSelection c fuel name pfx ty sels := by
  have := C09.calc_sim_strict (FieldIso.calcSim c h) fuel name pfx ty sels
  rw [fieldMap_ty] at this
  exact ((C09.ORel.eq_iff _ _).1 this).symm

theorem calcFuel_iso : calcFuel t (mapQ ρ c.q) = calcFuel c.s c.q := by
  simp only [calcFuel, walkFuel_map, h.objects_length, h.unions, mapQ_fragments, mapQ_operations, List.map_map,
    Function.comp_def, mapFrag_sels, mapOp_sels, selsSize_map]

theorem responseItems_iso (op : ROperation) : responseItems (mapC ρ t c) (mapOp ρ op) = responseItems c op := by
  simp only [responseItems, mapC_s, mapC_q, mapC_cs, calcFuel_iso c h, mapOp_name, mapOp_objectId, mapOp_sels]
  exact calcSelection_iso c h _ _ _ _ _

theorem fragmentItems_iso (fid : Nat) : fragmentItems (mapC ρ t c) fid = fragmentItems c fid := by
  simp only [fragmentItems, mapC_s, mapC_q, mapC_cs, calcFuel_iso c h, getFragment_map]
  cases c.q.getFragment fid with
  | error e => rfl
  | ok f => exact calcSelection_iso c h _ _ _ _ _

end

section
variable {ρ : Nat → Nat} {t : Schema} (c : Ctx) (h : FieldIso ρ c.s t)
include h

theorem inputFieldType_iso (ty : FieldType) (quals : List Qual) :
    inputFieldType (mapC ρ t c) ty quals = inputFieldType c ty quals := by
  simp only [inputFieldType, mapC_s, mapC_o, mapC_cs, h.typeName, inputIsRecursive_iso h]

theorem inputItem_iso (i : StoredInput) : inputItem (mapC ρ t c) i = inputItem c i := by
  have : inputFieldType (mapC ρ t c) = inputFieldType c := by
    funext ty quals; exact inputFieldType_iso c h ty quals
  simp only [inputItem, mapC_o, mapC_cs, this]
  rfl

theorem variableType_iso (v : RVariable) : variableType (mapC ρ t c) v = variableType c v := by
  simp only [variableType, mapC_s, mapC_o, mapC_cs, h.typeName]

theorem literalOk_iso (fuel : Nat) : ∀ (v : Value) (ty : TypeId) (quals : List Qual),
    literalOk t fuel v ty quals = literalOk c.s fuel v ty quals := by
  induction fuel with
  | zero => intro _ _ _; rfl
  | succ fuel ih =>
    intro v ty quals
    cases v <;> simp only [literalOk, h.getInput, ih]

theorem variablesItems_iso (op : Nat) : variablesItems (mapC ρ t c) op = variablesItems c op := by
  have h1 : variableType (mapC ρ t c) = variableType c := by funext v; exact variableType_iso c h v
  have h2 : literalOk t = literalOk c.s := by funext f v ty quals; exact literalOk_iso c h f v ty quals
  simp only [variablesItems, mapC_s, mapC_q, mapC_o, mapC_cs, opVariables_map, h1, h2]
  rfl

theorem scalarItems_iso (u : UsedTypes) : scalarItems (mapC ρ t c) u = scalarItems c u := by
  have : t.getScalar = c.s.getScalar := by funext i; exact h.getScalar i
  simp only [scalarItems, mapC_s, mapC_o, mapC_cs, this]

theorem enumItems_iso (u : UsedTypes) : enumItems (mapC ρ t c) u = enumItems c u := by
  have : t.getEnum = c.s.getEnum := by funext i; exact h.getEnum i
  simp only [enumItems, mapC_s, mapC_o, this]
  rfl

theorem inputItems_iso (u : UsedTypes) : inputItems (mapC ρ t c) u = inputItems c u := by
  have : inputItem (mapC ρ t c) = inputItem c := by funext i; exact inputItem_iso c h i
  simp only [inputItems, mapC_s, h.inputs, this]

theorem responseForQuery_iso (op : Nat) : responseForQuery (mapC ρ t c) op = responseForQuery c op := by
  have hf : fragmentItems (mapC ρ t c) = fragmentItems c := by funext i; exact fragmentItems_iso c h i
  simp only [responseForQuery, mapC_s, mapC_q, allUsedTypes_iso h, scalarItems_iso c h, enumItems_iso c h,
    inputItems_iso c h, variablesItems_iso c h, getOperation_map, hf, bind_map_ok, responseItems_iso c h]

omit h in
theorem selectOperation_iso (name : String) : selectOperation (mapC ρ t c) name = selectOperation c name := by
  simp only [selectOperation, mapC_q, mapC_o, mapC_cs, mapQ_operations, List.findIdx?_map, Function.comp_def, mapOp_name]

theorem generatedModule_iso (query operation : String) :
    generatedModule (mapC ρ t c) query operation = generatedModule c query operation := by
  simp only [generatedModule, mapC_o, mapC_cs, selectOperation_iso c, responseForQuery_iso c h]
  rfl

end

def genOne (c : Ctx) (queryText : String) (i : Nat) : Outcome Module := do
  let op ← c.q.getOperation i
  generatedModule c queryText op.name

/-- `Codegen.generate` after `Resolve.resolve`: the body of `generate` from the point where the query is resolved,
error text included; the two are tied by `generate_eq` (`rfl`), so a change of `generate` shows there. -/
def genFrom (c : Ctx) (queryText : String) : Outcome (List Module) := do
  let selected := c.o.operationName.bind (selectOperation c)
  let ops ← match selected, c.o.mode with
    | some i, _ => pure [i]
    | none, .cli => pure (List.range c.q.operations.length)
    | none, .derive =>
      fail' ("The struct name does not match any defined operation in the query file.\nStruct name: " ++
        c.o.structIdent.getD "" ++ "\nDefined operations: " ++ ", ".intercalate (c.q.operations.map (·.name)))
  ops.mapM (genOne c queryText)

theorem generate_eq (s : Schema) (cs : CaseFns) (o : Options) (queryText : String) (doc : QDoc) :
    Codegen.generate s cs o queryText doc =
      Resolve.resolve s doc >>= fun q => genFrom { s := s, q := q, o := o, cs := cs } queryText := rfl

theorem genFrom_iso {ρ : Nat → Nat} {t : Schema} (c : Ctx) (h : FieldIso ρ c.s t) (queryText : String) :
    genFrom (mapC ρ t c) queryText = genFrom c queryText := by
  have h1 : selectOperation (mapC ρ t c) = selectOperation c := by funext n; exact selectOperation_iso c n
  have h2 : genOne (mapC ρ t c) queryText = genOne c queryText := by
    funext i
    simp only [genOne, mapC_q, getOperation_map, bind_map_ok]
    exact bind_congr fun op => generatedModule_iso c h queryText op.name
  have h3 : (mapC ρ t c).q.operations.length = c.q.operations.length := by simp
  have h4 : (mapC ρ t c).q.operations.map (·.name) = c.q.operations.map (·.name) := by
    simp [List.map_map, Function.comp_def]
  unfold genFrom
  rw [h1, h2, h3, h4]
  rfl

theorem codegen_respects_field_renumbering {ρ : Nat → Nat} {s t : Schema} (h : FieldIso ρ s t)
    (cs : CaseFns) (o : Options) (queryText : String) (doc : QDoc) :
    Codegen.generate t cs o queryText doc = Codegen.generate s cs o queryText doc := by
  rw [generate_eq, generate_eq, resolve_iso h doc, bind_map_ok]
  congr 1
  funext q
  exact genFrom_iso { s := s, q := q, o := o, cs := cs } h queryText

/-- **C07 with `extend type`, end to end**: for every well-formed abstract schema with extension blocks, every SDL
rendering and every introspection rendering of the folded schema, every query document and all options: the two
schema files generate literally the same modules (or fail with the same error). -/
theorem codegen_equal_ext_of_renderings (x : ASX) (doc : SdlDoc) (l : List (Option FullType))
    (hw : WfASX x) (hd : IsSdlOfX x doc) (hi : IsIntroOf x.fold (l.filterMap id))
    (cs : CaseFns) (o : Options) (queryText : String) (qdoc : QDoc) :
    (Sdl.fromSdl doc >>= fun s => Codegen.generate s cs o queryText qdoc) =
      (Intro.fromIntro true (some (introSchemaOf x.fold l)) >>= fun s => Codegen.generate s cs o queryText qdoc) := by
  obtain ⟨s, h1, hp, h2⟩ := frontends_iso_ext_of_renderings x doc l hw hd hi
  rw [h1, h2]
  exact (codegen_respects_field_renumbering (fieldIso_mapFields _ s hp) cs o queryText qdoc).symm

/-- the concrete renderings, at the level of the schema files -/
theorem codegen_equal_ext_json (x : ASX) (ex wrapped : Bool) (bs : List String) (hw : WfASX x)
    (hex : ex = true ∨ x.base.DefaultRoots) (hbs : ∀ b ∈ bs, b ∈ Schema.defaultScalars) (hd : x.fold.DepthOk)
    (cs : CaseFns) (o : Options) (queryText : String) (qdoc : QDoc) :
    (Sdl.fromSdl (sdlOfX ex x) >>= fun s => Codegen.generate s cs o queryText qdoc) =
      (Intro.fromJson true (jsonResponse wrapped (introOf bs x.fold)) >>= fun s =>
        Codegen.generate s cs o queryText qdoc) := by
  rw [Intro.fromJson, parseIntro_json wrapped _ (depthOk_introOf x.fold bs hd)]
  exact codegen_equal_ext_of_renderings x _ _ hw (isSdlOfX_sdlOfX x ex hex)
    (by rw [filterMap_id_map_some]; exact isIntroOf_introTypes x.fold bs (wf_fold x hw).1 hbs) cs o queryText qdoc

/-- a non-trivial instance of `FieldIso` -/
example : FieldIso exASX.sdlSchema.fieldOrder.idxOf exASX.sdlSchema exASX.sdlSchema.normFields :=
  fieldIso_mapFields _ _ (sdlSchema_fieldOrder_perm exASX (by decide))

end C07
end GqlVerif
