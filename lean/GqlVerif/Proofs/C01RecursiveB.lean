import GqlVerif.Proofs.C01RecursiveA
/-!
# C01 / C03 end to end, `RecFragmentOp` 2/4: what the emitted types accept, exactly

Fragment bodies are followed, so neither the acceptance predicate `conformsLooseR` nor the proof that the emitted
type accepts exactly it (`accR`) can recurse on the selection tree: both recurse on a bound `n` on the size of the JSON
**payload**, decremented at every step from an object to the value of one of its fields (`looseBodyP` is one level).
`accR` asks for fuel `≥ 4 n + 2 D + 4` (`D`: static depth of the selection sets; see `AccR`).  The hypotheses on the
fragments are collected in `RWorld e c G D` (a closed set `G` of fragments of the class whose structs are in the
environment, keys disjoint, static depth `≤ D`); `usedFrags_reach`, `depthR_sels` and `envSelsR_of` are what discharges
them for an emitted module.

serde: `Box` costs the flattened reader one unit of fuel and nothing else (`SerdeFuel.deFlat_box`), so the reader of a
struct with own fields and flattened plain-struct members, each possibly behind `Box`, is an instance of
`deStructMap_flat_with` of `C01Layers` (`deStructMap_flatR`).
-/
namespace GqlVerif
namespace C01
namespace E2E
open Serde Spec C13 C03 Codegen

/-! ## the size of a payload -/

theorem jsonSize_mem : ∀ {xs : List Json} {x : Json}, x ∈ xs → jsonSize x ≤ jsonsSize xs :=
  SerdeFuel.jsonSize_le_of_mem

theorem jsonSize_lookup {k : String} {v : Json} : ∀ {kvs : List (String × Json)}, Json.lookup k kvs = some v →
    jsonSize v ≤ kvsSize kvs :=
  SerdeFuel.lookup_size

theorem jsonSize_arr (xs : List Json) : jsonSize (.arr xs) = 1 + jsonsSize xs := by rw [jsonSize]
theorem jsonSize_obj (kvs : List (String × Json)) : jsonSize (.obj kvs) = 1 + kvsSize kvs := by rw [jsonSize]

theorem sizeLe_arr {n : Nat} (xs : List Json) (h : jsonSize (.arr xs) ≤ n) : ∀ x ∈ xs, jsonSize x ≤ n := by
  intro x hx
  have := jsonSize_mem hx
  rw [jsonSize_arr] at h
  omega

/-- `accepts` only looks at the value and (recursively) at the elements of arrays -/
theorem accepts_congr_size (f g : Json → Bool) (n : Nat) (h : ∀ j, jsonSize j ≤ n → f j = g j) :
    ∀ t : GTy, (∀ j, jsonSize j ≤ n → acceptsNN f t j = acceptsNN g t j) ∧
               (∀ j, jsonSize j ≤ n → accepts f t j = accepts g t j) := by
  intro t
  have h1 := accepts_mono_on (jsonSize · ≤ n) sizeLe_arr f g (fun j hj hf => (h j hj) ▸ hf) t
  have h2 := accepts_mono_on (jsonSize · ≤ n) sizeLe_arr g f (fun j hj hg => (h j hj) ▸ hg) t
  exact ⟨fun j hj => Bool.eq_iff_iff.mpr ⟨h1.1 j hj, h2.1 j hj⟩,
         fun j hj => Bool.eq_iff_iff.mpr ⟨h1.2 j hj, h2.2 j hj⟩⟩

/-! ## serde: flattened plain-struct members, possibly behind `Box` -/

def memberPath : RTy → Option String
  | .path q => some q
  | .box (.path q) => some q
  | _ => none

/-- `Box` costs the flattened reader one unit of fuel (`SerdeFuel.deFlat_box`) -/
def boxCost : RTy → Nat
  | .box _ => 1
  | _ => 0

def memberFieldsR (e : Env) (g : RField) : List RField :=
  match memberPath g.ty with
  | some q => (match e.find q with | some (.struct _ _ _ G) => G | _ => [])
  | none => []

def memberKeysR (e : Env) (g : RField) : List String := (memberFieldsR e g).map (·.wire)

def MemberOkR (e : Env) (g : RField) : Prop :=
  ∃ q n d c, (g.ty = .path q ∨ g.ty = .box (.path q)) ∧ e.find q = some (.struct n d c (memberFieldsR e g)) ∧
    plain (memberFieldsR e g) = true

def flatValsR (e : Env) (fuel : Nat) (kvs : List (String × Json)) : List RField → D (List (String × Val)) :=
  wholeVals (fun g => Val.record <$> deOwnWith (dePath e true (fuel - boxCost g.ty)) (memberFieldsR e g) kvs)

theorem MemberOkR.takesKeys {e : Env} {g : RField} (fuel : Nat) (hok : MemberOkR e g) :
    TakesKeys (deFlat e (fuel + 2)) (fun g => dePath e true (fuel + 1 - boxCost g.ty)) (memberFieldsR e) g := by
  obtain ⟨q, n, d, c, hty, hfind, hpl⟩ := hok
  intro buf
  rcases hty with hty | hty
  · rw [hty, deFlat_plain_struct e (fuel + 1) q n d c _ buf hfind hpl]
    simp [boxCost, hty]
  · rw [hty, SerdeFuel.deFlat_box, deFlat_plain_struct e fuel q n d c _ buf hfind hpl]
    simp [boxCost, hty]

theorem deStructMap_flatR (e : Env) (fuel : Nat) (pathD : String → Json → D Val) (fields : List RField)
    (kvs : List (String × Json)) (hany : fields.any (·.flatten) = true)
    (hok : ∀ g ∈ fields, g.flatten = true → MemberOkR e g)
    (hown : ∀ g ∈ fields, g.flatten = true → ∀ k ∈ memberKeysR e g,
      k ∉ (fields.filter (fun f => !f.flatten)).map (·.wire))
    (hpw : fields.Pairwise (fun g g' => g.flatten = true → g'.flatten = true →
      ∀ k ∈ memberKeysR e g', k ∉ memberKeysR e g)) :
    deStructMapWith pathD (deFlat e (fuel + 2)) fields kvs =
      (do let own ← deOwnWith pathD (fields.filter (fun f => !f.flatten)) kvs
          let fl ← flatValsR e (fuel + 1) kvs fields
          pure (.record (fields.filterMap fun f => (own ++ fl).find? (·.1 == f.rust)))) :=
  deStructMap_flat_with _ (fun g => dePath e true (fuel + 1 - boxCost g.ty)) (memberFieldsR e) pathD fields kvs hany
    (fun g hg hf => (hok g hg hf).takesKeys fuel) hown hpw

theorem okB_flatValsR (e : Env) (fuel : Nat) (kvs : List (String × Json)) (fs : List RField) :
    okB (flatValsR e fuel kvs fs) =
      (fs.filter (·.flatten)).all (fun g => okB (deOwnWith (dePath e true (fuel - boxCost g.ty)) (memberFieldsR e g) kvs)) := by
  rw [flatValsR, okB_wholeVals]
  simp only [okB_map]


/-! ## the exact acceptance predicate for `RecFragmentOp`

Fragment bodies are followed, so the predicate cannot recurse on the selection tree; it recurses on the
**payload**: `conformsLooseR s q o n b sels j` is defined by recursion on `n`, a bound on the size of the JSON
value (any `n ≥ jsonSize j` gives the same verdict: `conformsLooseR_stable` of `C01RecursiveD`): every step from an
object to the value of one of its fields decrements `n`. -/

section LooseDefs
variable (s : Schema) (q : Query) (o : Options)

/-- the value under a selected field's key; `rec b sub`: what the type emitted for the sub-selection `sub` of an
    object-typed field accepts -/
def looseFieldP (rec : Bool → List Sel → Json → Bool) (b : Bool) : Sel → Json → Bool
  | .field a fid sub, v =>
    match s.fields[fid]? with
    | none => false
    | some sf =>
      match sf.ty.id with
      | .object i => (match s.objects[i]? with
        | some _ => accepts (rec b sub) (gtyOf sf.ty.quals) v
        | none => false)
      | _ => looseFieldV s o b (.field a fid sub) v
  | _, _ => true

/-- the own fields of the struct (spreads contribute no own field) -/
def looseOwnP (rec : Bool → List Sel → Json → Bool) (b : Bool) : List Sel → List (String × Json) → Bool
  | [], _ => true
  | .field a fid sub :: xs, kvs =>
    (match s.fields[fid]? with
     | none => false
     | some sf =>
       decide (countKey (a.getD sf.name) kvs ≤ 1) &&
       (match Json.lookup (a.getD sf.name) kvs with
        | none => nullableQ sf.ty.quals
        | some v => looseFieldP s o rec b (.field a fid sub) v)) && looseOwnP rec b xs kvs
  | _ :: xs, kvs => looseOwnP rec b xs kvs

def looseArrP (rec : Bool → List Sel → Json → Bool) (b : Bool) : List Sel → List Json → Bool
  | [], _ => true
  | .field a fid sub :: xs, vs =>
    (match vs with
     | [] => false
     | v :: vs' => looseFieldP s o rec b (.field a fid sub) v && looseArrP rec b xs vs')
  | _ :: xs, vs => looseArrP rec b xs vs

/-- the flattened members: each fragment struct reads the fields of its body from the same object, as buffered
    content -/
def looseMemP (rec : Bool → List Sel → Json → Bool) : List Sel → List (String × Json) → Bool
  | [], _ => true
  | .spread g :: xs, kvs => looseOwnP s o rec true (fragSels q g) kvs && looseMemP rec xs kvs
  | _ :: xs, kvs => looseMemP rec xs kvs

/-- a struct with own fields and flattened members; a JSON array is read positionally only without members -/
def looseStructP (rec : Bool → List Sel → Json → Bool) (b : Bool) (sels : List Sel) : Json → Bool
  | .obj kvs => looseOwnP s o rec b sels kvs && looseMemP s q o rec sels kvs
  | .arr xs => !sels.any isSpread && looseArrP s o rec b sels xs
  | _ => false

/-- a lone spread is the fragment struct itself (type alias, possibly to `Box<F>`) -/
def looseBodyP (rec : Bool → List Sel → Json → Bool) (b : Bool) (sels : List Sel) (j : Json) : Bool :=
  match sels with
  | [.spread g] => looseStructP s q o rec b (fragSels q g) j
  | _ => looseStructP s q o rec b sels j

/-- **what the type emitted for an object-level selection set of `RecFragmentOp` accepts**, for payloads of size
    `≤ n` -/
def conformsLooseR : Nat → Bool → List Sel → Json → Bool
  | 0 => fun _ _ _ => false
  | n + 1 => looseBodyP s q o (conformsLooseR n)

end LooseDefs

/-! ## environment -/

/-- the alias of a lone spread: to the fragment struct or to `Box` of it -/
def AliasEnvR (e : Env) (name target : String) : Prop :=
  notPrim name ∧ name ≠ "ID" ∧
    ∃ n pub, ∃ bx : Bool, e.find name = some (.alias n pub (if bx then .box (.path target) else .path target))

mutual
  def envSelR (e : Env) (c : Ctx) (pfx : String) : Sel → Prop
    | .field a fid sub =>
      match c.s.fields[fid]? with
      | none => True
      | some sf =>
        match sf.ty.id with
        | .object _ =>
          (match sub with
           | [.spread g] => AliasEnvR e (pfx ++ c.cs.camel (a.getD sf.name)) (fragName c g)
           | _ => StructEnv e (pfx ++ c.cs.camel (a.getD sf.name)) (fieldsOfR c (pfx ++ c.cs.camel (a.getD sf.name)) sub) ∧
                  envSelsR e c (pfx ++ c.cs.camel (a.getD sf.name)) sub)
        | _ => envSelV e c pfx (.field a fid sub)
    | _ => True
  def envSelsR (e : Env) (c : Ctx) (pfx : String) : List Sel → Prop
    | [] => True
    | x :: xs => envSelR e c pfx x ∧ envSelsR e c pfx xs
end

def FragEnvR (e : Env) (c : Ctx) (g : Nat) : Prop :=
  match c.q.fragments[g]? with
  | some f => StructEnv e f.name (fieldsOfR c (c.cs.camel f.name) f.sels) ∧ envSelsR e c (c.cs.camel f.name) f.sels
  | none => True

def BodyEnvR (e : Env) (c : Ctx) (name pfx : String) (sels : List Sel) : Prop :=
  match sels with
  | [.spread g] => AliasEnvR e name (fragName c g)
  | _ => StructEnv e name (fieldsOfR c pfx sels) ∧ envSelsR e c pfx sels

/-- **the fragments of the operation**: a set `G` of fragment numbers that is closed under "spread in the body
    of", all of the class, all with their struct in the environment, keys disjoint between a fragment and its
    siblings at every level inside their bodies, bodies of static depth `≤ D` -/
structure RWorld (e : Env) (c : Ctx) (G : List Nat) (D : Nat) : Prop where
  closed : ∀ g ∈ G, ∀ g' ∈ spreadIdss (fragSels c.q g), g' ∈ G
  ok : ∀ g ∈ G, fragBodyOk c.s c.q c.o g = true
  env : ∀ g ∈ G, FragEnvR e c g
  keys : ∀ g ∈ G, keysOksF c.s c.q (fragSels c.q g) = true ∧ EnumSpec.nodup (expKeys c.s c.q (fragSels c.q g)) = true
  depth : ∀ g ∈ G, selsDepth (fragSels c.q g) ≤ D

/-! ## facts about the emitted fields -/

theorem fieldOfSelR_field (c : Ctx) (pfx : String) (a : Option String) (fid : Nat) (sub : List Sel) :
    fieldOfSelR c pfx (.field a fid sub) = fieldOfSelV c pfx (.field a fid sub) := rfl

theorem fieldOfSelV_r (c : Ctx) (pfx : String) (p : TypeId) (a : Option String) (fid : Nat) (sub : List Sel)
    (ht : rSel c.s c.q c.o p (.field a fid sub) = true) :
    ∃ sf ft, c.s.fields[fid]? = some sf ∧ leafNameV c pfx (a.getD sf.name) sf.ty.id = some ft ∧
      fieldOfSelV c pfx (.field a fid sub) = some (fieldOf c (a.getD sf.name) ft sf.ty.quals sf.deprecation) ∧
      wfQuals sf.ty.quals = true := by
  obtain ⟨sf, hsf, hw, _, hk⟩ := rSel_kinds ht
  rcases hk with ⟨i, _, hid, _⟩ | ⟨_, hv⟩
  · exact ⟨sf, pfx ++ c.cs.camel (a.getD sf.name), hsf, by simp [leafNameV, hid],
      by simp [fieldOfSelV, hsf, leafNameV, hid], hw⟩
  · exact fieldOfSelV_v c pfx false a fid sub hv

theorem fieldOfSelR_some {c : Ctx} {pfx : String} {x : Sel} {f : RField} (h : fieldOfSelR c pfx x = some f) :
    (fieldOfSelV c pfx x = some f ∧ f.flatten = false) ∨
    ∃ g fr, x = .spread g ∧ c.q.fragments[g]? = some fr ∧ f = spreadFieldR c g fr := by
  have own : fieldOfSelV c pfx x = some f → fieldOfSelV c pfx x = some f ∧ f.flatten = false := fun h' => by
    obtain ⟨_, _, _, _, _, _, _, rfl⟩ := fieldOfSelV_some h'
    exact ⟨h', rfl⟩
  cases x with
  | spread g =>
    cases hfr : c.q.fragments[g]? with
    | none => simp [fieldOfSelR, hfr] at h
    | some fr =>
      simp only [fieldOfSelR, hfr, Option.map_some, Option.some.injEq] at h
      exact .inr ⟨g, fr, rfl, hfr, h.symm⟩
  | field a fid sub => exact .inl (own h)
  | inline t sub => exact .inl (own h)
  | typename => exact .inl (own h)

theorem filter_fieldsOfR (c : Ctx) (pfx : String) : ∀ (sels : List Sel),
    (fieldsOfR c pfx sels).filter (fun f => !f.flatten) = fieldsOfV c pfx sels
  | [] => rfl
  | x :: xs => by
    have ih := filter_fieldsOfR c pfx xs
    unfold fieldsOfR fieldsOfV at ih ⊢
    rw [List.filterMap_cons, List.filterMap_cons]
    cases hF : fieldOfSelR c pfx x with
    | none =>
      have hV : fieldOfSelV c pfx x = none := by
        cases x with
        | spread g => rfl
        | field a fid sub => exact hF
        | inline t sub => exact hF
        | typename => exact hF
      simp only [hV]; exact ih
    | some f =>
      rcases fieldOfSelR_some hF with ⟨hV, hfl⟩ | ⟨g, fr, rfl, _, rfl⟩
      · simp only [hV, List.filter_cons, hfl, Bool.not_false, ↓reduceIte, ih]
      · have hV : fieldOfSelV c pfx (.spread g) = none := rfl
        have hfl : (spreadFieldR c g fr).flatten = true := rfl
        simp only [hV, List.filter_cons, hfl, Bool.not_true, Bool.false_eq_true, ↓reduceIte]; exact ih

theorem own_fieldsOfR (c : Ctx) (pfx : String) (p : TypeId) : ∀ (sels : List Sel), rSels c.s c.q c.o p sels = true →
    (fieldsOfR c pfx sels).filter (fun f => !f.flatten) = fieldsOfV c pfx sels :=
  fun sels _ => filter_fieldsOfR c pfx sels

theorem mem_fieldsOfR_flatten {c : Ctx} {pfx : String} {sels : List Sel} {g : RField}
    (hg : g ∈ fieldsOfR c pfx sels) (hfl : g.flatten = true) :
    ∃ gid fr, Sel.spread gid ∈ sels ∧ c.q.fragments[gid]? = some fr ∧ g = spreadFieldR c gid fr := by
  obtain ⟨x, hx, hF⟩ := List.mem_filterMap.mp hg
  rcases fieldOfSelR_some hF with ⟨_, h⟩ | ⟨gid, fr, rfl, hfr, rfl⟩
  · rw [h] at hfl; cases hfl
  · exact ⟨gid, fr, hx, hfr, rfl⟩

theorem resolves_of_rSels {c : Ctx} {pfx : String} {p : TypeId} {sels : List Sel}
    (ht : rSels c.s c.q c.o p sels = true) : Resolves c pfx sels := by
  refine ⟨fun a fid sub hx => ?_, fun g hx => ?_⟩
  · obtain ⟨sf, ft, hsf, _, hf, hw⟩ := fieldOfSelV_r c pfx p a fid sub (rSels_mem ht _ hx)
    exact ⟨sf, ft, hsf, hf, hw⟩
  · have hok : spreadOk c.q p g = true := by simpa [rSel] using rSels_mem ht _ hx
    obtain ⟨fr, hfr, _⟩ := spreadOk_parts hok
    exact ⟨fr, hfr⟩

theorem any_flatten_fieldsOfR {c : Ctx} {pfx : String} {sels : List Sel} (R : Resolves c pfx sels) :
    (fieldsOfR c pfx sels).any (·.flatten) = sels.any isSpread := by
  rw [Bool.eq_iff_iff, List.any_eq_true, List.any_eq_true]
  constructor
  · rintro ⟨g, hg, hfl⟩
    obtain ⟨gid, _, hx, _, _⟩ := mem_fieldsOfR_flatten hg hfl
    exact ⟨_, hx, rfl⟩
  · rintro ⟨x, hx, hsp⟩
    cases x with
    | spread g =>
      obtain ⟨fr, hfr⟩ := R.spread g hx
      exact ⟨spreadFieldR c g fr, List.mem_filterMap.mpr ⟨_, hx, by simp [fieldOfSelR, hfr]⟩, rfl⟩
    | field a fid sub => cases hsp
    | inline t sub => cases hsp
    | typename => cases hsp

theorem fieldsOfR_noTop (c : Ctx) (pfx : String) : ∀ (sels : List Sel), sels.any isSpread = false →
    fieldsOfR c pfx sels = fieldsOfV c pfx sels
  | [], _ => rfl
  | x :: xs, h => by
    simp only [List.any_cons, Bool.or_eq_false_iff] at h
    have ih := fieldsOfR_noTop c pfx xs h.2
    cases x with
    | spread g => have := h.1; simp [isSpread] at this
    | field a fid sub => simp only [fieldsOfR, fieldsOfV, List.filterMap_cons, fieldOfSelR] at ih ⊢; rw [ih]
    | inline t sub => simp only [fieldsOfR, fieldsOfV, List.filterMap_cons, fieldOfSelR] at ih ⊢; rw [ih]
    | typename => simp only [fieldsOfR, fieldsOfV, List.filterMap_cons, fieldOfSelR] at ih ⊢; rw [ih]

theorem wire_fieldsOfV_r (c : Ctx) (pfx : String) (p : TypeId) : ∀ (sels : List Sel), rSels c.s c.q c.o p sels = true →
    (fieldsOfV c pfx sels).map (·.wire) = fieldKeys c.s sels
  | [], _ => rfl
  | x :: xs, ht => by
    obtain ⟨hx, hxs⟩ := rSels_cons ht
    have ih := wire_fieldsOfV_r c pfx p xs hxs
    cases x with
    | field a fid sub =>
      obtain ⟨sf, ft, hsf, _, hf, _⟩ := fieldOfSelV_r c pfx p a fid sub hx
      rw [fieldsOfV_cons_field c pfx _ xs _ hf, List.map_cons, ih, fieldOf_wire]
      simp [fieldKeys, fieldKey, hsf]
    | spread g =>
      rw [fieldsOfV_cons_none c pfx _ xs rfl, ih]; simp [fieldKeys, List.filterMap_cons, fieldKey]
    | inline t sub => simp [rSel] at hx
    | typename =>
      rw [fieldsOfV_cons_none c pfx _ xs rfl, ih]; simp [fieldKeys, List.filterMap_cons, fieldKey]

theorem envSelsR_mem {e : Env} {c : Ctx} {pfx : String} : ∀ {sels : List Sel}, envSelsR e c pfx sels →
    ∀ x ∈ sels, envSelR e c pfx x :=
  fun {sels} => (forall_mem_of_eqns (by rw [envSelsR]; trivial) (fun _ _ => by rw [envSelsR]) sels).mp

theorem world_frag {e : Env} {c : Ctx} {G : List Nat} {D : Nat} (W : RWorld e c G D) {g : Nat} (hg : g ∈ G) :
    ∃ f i, c.q.fragments[g]? = some f ∧ f.on = .object i ∧ fragSels c.q g = f.sels ∧ fragName c g = f.name ∧
      f.sels.any isSpread = false ∧ rSels c.s c.q c.o (.object i) f.sels = true ∧
      StructEnv e f.name (fieldsOfV c (c.cs.camel f.name) f.sels) ∧ envSelsR e c (c.cs.camel f.name) f.sels ∧
      keysOksF c.s c.q f.sels = true ∧ EnumSpec.nodup (expKeys c.s c.q f.sels) = true ∧
      (∀ g' ∈ spreadIdss f.sels, g' ∈ G) ∧ selsDepth f.sels ≤ D := by
  obtain ⟨f, i, hf, hon, _, hnt, hr⟩ := fragBodyOk_parts (W.ok g hg)
  have hsels : fragSels c.q g = f.sels := by simp [fragSels, hf]
  have hname : fragName c g = f.name := by simp [fragName, hf]
  have henv := W.env g hg
  unfold FragEnvR at henv
  rw [hf] at henv
  have henv : StructEnv e f.name (fieldsOfR c (c.cs.camel f.name) f.sels) ∧ envSelsR e c (c.cs.camel f.name) f.sels := henv
  rw [fieldsOfR_noTop c _ f.sels hnt] at henv
  have hk := W.keys g hg
  have hc := W.closed g hg
  have hd := W.depth g hg
  rw [hsels] at hk hc hd
  exact ⟨f, i, hf, hon, hsels, hname, hnt, hr, henv.1, henv.2, hk.1, hk.2, hc, hd⟩

theorem memberFieldsR_spread (e : Env) (c : Ctx) (g : Nat) (f : RFragment)
    (hs : StructEnv e f.name (fieldsOfV c (c.cs.camel f.name) f.sels)) :
    memberFieldsR e (spreadFieldR c g f) = fieldsOfV c (c.cs.camel f.name) f.sels ∧ MemberOkR e (spreadFieldR c g f) := by
  obtain ⟨_, _, n, d, cr, hfind⟩ := hs
  have h1 : memberFieldsR e (spreadFieldR c g f) = fieldsOfV c (c.cs.camel f.name) f.sels := by
    unfold memberFieldsR spreadFieldR
    cases fragmentIsRecursive c.q g <;> simp [memberPath, hfind]
  refine ⟨h1, f.name, n, d, cr, ?_, by rw [h1]; exact hfind, by rw [h1]; exact plain_fieldsOfV _ _ _⟩
  unfold spreadFieldR
  cases fragmentIsRecursive c.q g <;> simp

theorem spreadIds_sub_of_mem {x : Sel} : ∀ {sels : List Sel}, x ∈ sels → ∀ g ∈ spreadIds x, g ∈ spreadIdss sels
  | y :: ys, hx, g, hg => by
    rw [spreadIdss, List.mem_append]
    rcases List.mem_cons.mp hx with rfl | hx
    · exact .inl hg
    · exact .inr (spreadIds_sub_of_mem hx g hg)

theorem mem_spreadIdss_spread {g : Nat} {sels : List Sel} (h : Sel.spread g ∈ sels) : g ∈ spreadIdss sels :=
  spreadIds_sub_of_mem h g (by simp [spreadIds])

theorem mem_spreadIdss_field {a : Option String} {fid : Nat} {sub : List Sel} {g : Nat} {sels : List Sel}
    (h : Sel.field a fid sub ∈ sels) (hg : g ∈ spreadIdss sub) : g ∈ spreadIdss sels :=
  spreadIds_sub_of_mem h g (by rw [spreadIds]; exact hg)

section FlatHyps
variable {e : Env} {c : Ctx} {G : List Nat} {D : Nat} (W : RWorld e c G D)
include W

theorem readKeys_fieldsOfR (pfx : String) (p : TypeId) : ∀ (sels : List Sel),
    rSels c.s c.q c.o p sels = true → (∀ g, Sel.spread g ∈ sels → g ∈ G) →
    (fieldsOfR c pfx sels).flatMap (readKeys (memberKeysR e)) = expKeys c.s c.q sels ∧
    ∀ g ∈ fieldsOfR c pfx sels, g.flatten = true → MemberOkR e g
  | [], _, _ => by simp [fieldsOfR, expKeys]
  | x :: xs, ht, hG => by
    obtain ⟨hx, hxs⟩ := rSels_cons ht
    obtain ⟨ihK, ihok⟩ := readKeys_fieldsOfR pfx p xs hxs (fun g hg => hG g (List.mem_cons_of_mem _ hg))
    rw [fieldsOfR_cons, List.flatMap_append, ihK]
    cases x with
    | field a fid sub =>
      obtain ⟨sf, ft, hsf, _, hf, _⟩ := fieldOfSelV_r c pfx p a fid sub hx
      have hnf : (fieldOf c (a.getD sf.name) ft sf.ty.quals sf.deprecation).flatten = false := rfl
      rw [fieldOfSelR_field, hf]
      refine ⟨by simp [expKeys, hsf, readKeys, hnf, fieldOf_wire], fun g hg hfl => ?_⟩
      rcases List.mem_append.mp hg with hg' | hg'
      · rw [show g = fieldOf c (a.getD sf.name) ft sf.ty.quals sf.deprecation by simpa using hg', hnf] at hfl
        cases hfl
      · exact ihok g hg' hfl
    | spread g =>
      obtain ⟨fr, i, hfr, _, hsels, _, _, hr, hsenv, _, _, _, _, _⟩ := world_frag W (hG g (by simp))
      obtain ⟨hmf, hmok⟩ := memberFieldsR_spread e c g fr hsenv
      have hmk : memberKeysR e (spreadFieldR c g fr) = fieldKeys c.s fr.sels := by
        unfold memberKeysR; rw [hmf, wire_fieldsOfV_r c _ _ fr.sels hr]
      have hfl' : (spreadFieldR c g fr).flatten = true := rfl
      refine ⟨by simp [fieldOfSelR, hfr, expKeys, hsels, readKeys, hfl', hmk], fun g' hg hfl => ?_⟩
      rcases List.mem_append.mp hg with hg' | hg'
      · rw [show g' = spreadFieldR c g fr by simpa [fieldOfSelR, hfr] using hg']; exact hmok
      · exact ihok g' hg' hfl
    | inline t sub => simp [rSel] at hx
    | typename => simpa [fieldOfSelR, fieldOfSelV, expKeys] using ihok

/-- from "the keys of the expanded selection set are pairwise distinct" to the hypotheses of `deStructMap_flatR` -/
theorem flat_hypsR (pfx : String) (p : TypeId) : ∀ (sels : List Sel),
    rSels c.s c.q c.o p sels = true → (∀ g, Sel.spread g ∈ sels → g ∈ G) → (expKeys c.s c.q sels).Nodup →
    (∀ g ∈ fieldsOfR c pfx sels, g.flatten = true → MemberOkR e g ∧ ∀ k ∈ memberKeysR e g, k ∈ expKeys c.s c.q sels) ∧
    (∀ f ∈ fieldsOfR c pfx sels, f.flatten = false → f.wire ∈ expKeys c.s c.q sels) ∧
    (∀ g ∈ fieldsOfR c pfx sels, g.flatten = true → ∀ k ∈ memberKeysR e g,
      k ∉ ((fieldsOfR c pfx sels).filter (fun f => !f.flatten)).map (·.wire)) ∧
    (fieldsOfR c pfx sels).Pairwise (fun g g' => g.flatten = true → g'.flatten = true →
      ∀ k ∈ memberKeysR e g', k ∉ memberKeysR e g) :=
  fun sels ht hG hnd =>
    have ⟨hK, hok⟩ := readKeys_fieldsOfR W pfx p sels ht hG
    flat_hyps_of_readKeys hK hok hnd

end FlatHyps


/-! ## acceptance, exactly -/

theorem vSel_of_rSel_nonobj {s : Schema} {q : Query} {o : Options} {p : TypeId} {a : Option String} {fid : Nat}
    {sub : List Sel} {sf : StoredField} (h : rSel s q o p (.field a fid sub) = true) (hsf : s.fields[fid]? = some sf)
    (hno : ∀ i, sf.ty.id ≠ .object i) : vSel s o false (.field a fid sub) = true := by
  obtain ⟨sf', hsf', _, _, hk⟩ := rSel_kinds h
  obtain rfl : sf' = sf := Option.some.inj (hsf'.symm.trans hsf)
  rcases hk with ⟨i, _, hid, _⟩ | ⟨_, hv⟩
  · exact absurd hid (hno i)
  · exact hv

theorem looseMemP_nospread (s : Schema) (q : Query) (o : Options) (rec : Bool → List Sel → Json → Bool)
    (kvs : List (String × Json)) :
    ∀ (sels : List Sel), sels.any isSpread = false → looseMemP s q o rec sels kvs = true
  | [], _ => by simp [looseMemP]
  | x :: xs, h => by
    simp only [List.any_cons, Bool.or_eq_false_iff] at h
    have ih := looseMemP_nospread s q o rec kvs xs h.2
    cases x with
    | spread g => have := h.1; simp [isSpread] at this
    | field a fid sub => simpa [looseMemP] using ih
    | inline t sub => simpa [looseMemP] using ih
    | typename => simpa [looseMemP] using ih

theorem boxCost_spreadFieldR (c : Ctx) (g : Nat) (f : RFragment) : boxCost (spreadFieldR c g f).ty ≤ 1 := by
  unfold spreadFieldR
  cases fragmentIsRecursive c.q g <;> simp [boxCost]

theorem bodyEnvR_ne_ID {e : Env} {c : Ctx} {name pfx : String} {sels : List Sel} (h : BodyEnvR e c name pfx sels) :
    name ≠ "ID" := by
  unfold BodyEnvR at h
  split at h
  · exact h.2.1
  · exact h.1.2.1

section AccR
variable {e : Env} {c : Ctx} {G : List Nat} {D : Nat} (W : RWorld e c G D)

/-- the induction hypothesis: the type emitted for an object-level selection set accepts exactly `conformsLooseR n`
    on payloads of size `≤ n`.  Fuel `4 * n + 2 * D + 4`: four hops to named types for each level of the payload
    (`deFuel_R` in `C01RecursiveC` provides them), plus what the spread-free selection sets of static depth `≤ D` need
    as in `VariantOp` (`2 * selsDepth + …`). -/
def AccR (e : Env) (c : Ctx) (G : List Nat) (D : Nat) (n : Nat) : Prop :=
  ∀ (i : Nat) (sels : List Sel) (name pfx : String), rBody c.s c.q c.o (.object i) sels = true →
    (∀ g ∈ spreadIdss sels, g ∈ G) → BodyEnvR e c name pfx sels → keysOksF c.s c.q sels = true →
    EnumSpec.nodup (expKeys c.s c.q sels) = true → selsDepth sels ≤ D →
    ∀ b fd, 4 * n + 2 * D + 4 ≤ fd → ∀ j, jsonSize j ≤ n →
      okB (dePath e b fd name j) = conformsLooseR c.s c.q c.o n b sels j

variable {n : Nat} (IH : AccR e c G D n)
include IH

theorem accFieldR (pfx : String) (p : TypeId) (a : Option String) (fid : Nat) (sub : List Sel)
    (ht : rSel c.s c.q c.o p (.field a fid sub) = true) (henv : envSelR e c pfx (.field a fid sub))
    (hko : keysOkF c.s c.q (.field a fid sub) = true) (hG : ∀ g ∈ spreadIdss sub, g ∈ G)
    (hD : selDepth (.field a fid sub) ≤ D) (f : RField) (hf : fieldOfSelV c pfx (.field a fid sub) = some f)
    (b : Bool) (fd : Nat) (hfd : 4 * n + 2 * D + 4 ≤ fd) (v : Json) (hv : jsonSize v ≤ n) :
    okB (deFieldWith (dePath e b fd) f v) =
      looseFieldP c.s c.o (conformsLooseR c.s c.q c.o n) b (.field a fid sub) v := by
  obtain ⟨sf, ft, hsf, _, hf', hw⟩ := fieldOfSelV_r c pfx p a fid sub ht
  rw [selDepth] at hD
  by_cases hobj : ∃ i, sf.ty.id = .object i
  · obtain ⟨i, hid⟩ := hobj
    have hwf : wf (gtyOf sf.ty.quals) = true := by rw [wf_gtyOf]; exact hw
    rw [rSel] at ht
    rw [envSelR] at henv
    rw [keysOkF, Bool.and_eq_true] at hko
    rw [looseFieldP]
    simp only [hsf, hid, Bool.and_eq_true] at ht henv ⊢
    obtain ⟨_, hty⟩ := ht
    cases hk : c.s.objects[i]? with
    | none => simp [hk] at hty
    | some ob =>
      simp only [fieldOfSelV, hsf, leafNameV, hid, Option.some.injEq] at hf
      subst hf
      have hbody : rBody c.s c.q c.o (.object i) sub = true := hty.2
      have henvB : BodyEnvR e c (pfx ++ c.cs.camel (a.getD sf.name)) (pfx ++ c.cs.camel (a.getD sf.name)) sub := henv
      rw [deField_plain _ _ _ _ (bodyEnvR_ne_ID henvB)]
      -- `ok_iff_accepts` wants a leaf predicate that agrees with the reader on every payload, the induction hypothesis
      -- only speaks of those of size `≤ n`: `L` is the reader itself on the others
      let L : Json → Bool := fun j =>
        if jsonSize j ≤ n then conformsLooseR c.s c.q c.o n b sub j
        else okB (dePath e b fd (pfx ++ c.cs.camel (a.getD sf.name)) j)
      have hleaf : ∀ j, okB (dePath e b fd (pfx ++ c.cs.camel (a.getD sf.name)) j) = L j := by
        intro j
        by_cases h : jsonSize j ≤ n
        · simp only [L, h, ↓reduceIte]
          exact IH i sub _ _ hbody hG henvB hko.2 hko.1 (by omega) b fd hfd j h
        · simp only [L, h, ↓reduceIte]
      rw [(ok_iff_accepts _ _ L hleaf _ hwf).2 v]
      exact (accepts_congr_size L (conformsLooseR c.s c.q c.o n b sub) n
        (by intro j hj; simp only [L, hj, ↓reduceIte]) _).2 v hv
  · -- scalar / enum / abstract: as in `VariantOp`
    have hno : ∀ i, sf.ty.id ≠ .object i := fun i h => hobj ⟨i, h⟩
    have hvs := vSel_of_rSel_nonobj ht hsf hno
    have henv' : envSelV e c pfx (.field a fid sub) := by
      rw [envSelR] at henv
      simpa only [hsf] using henv
    have hl : looseFieldP c.s c.o (conformsLooseR c.s c.q c.o n) b (.field a fid sub) v =
        looseFieldV c.s c.o b (.field a fid sub) v := by
      rw [looseFieldP]
      simp only [hsf]
    rw [hl]
    exact accSelV e c _ pfx false hvs henv' f hf b fd (by rw [selDepth]; omega) v

theorem accOwnR (pfx : String) (p : TypeId) : ∀ (sels : List Sel), rSels c.s c.q c.o p sels = true →
    envSelsR e c pfx sels → keysOksF c.s c.q sels = true → (∀ g ∈ spreadIdss sels, g ∈ G) → selsDepth sels ≤ D →
    ∀ b fd, 4 * n + 2 * D + 4 ≤ fd →
    (∀ kvs, kvsSize kvs ≤ n → (fieldsOfV c pfx sels).all (fun f => decide (countKey f.wire kvs ≤ 1) &&
        okB (readField (dePath e b fd) f kvs)) = looseOwnP c.s c.o (conformsLooseR c.s c.q c.o n) b sels kvs) ∧
    (∀ xs, jsonsSize xs ≤ n → (decide ((fieldsOfV c pfx sels).length ≤ xs.length) &&
        ((fieldsOfV c pfx sels).zip xs).all (fun p => okB (deFieldWith (dePath e b fd) p.1 p.2))) =
          looseArrP c.s c.o (conformsLooseR c.s c.q c.o n) b sels xs)
  | [], _, _, _, _, _, b, fd, _ =>
    ⟨fun kvs _ => by simp [fieldsOfV, looseOwnP], fun xs _ => by simp [fieldsOfV, looseArrP]⟩
  | x :: xs, ht, henv, hko, hG, hD, b, fd, hfd => by
    obtain ⟨hx, hxs⟩ := rSels_cons ht
    rw [envSelsR] at henv
    rw [keysOksF, Bool.and_eq_true] at hko
    rw [selsDepth] at hD
    rw [spreadIdss] at hG
    obtain ⟨I1, I2⟩ := accOwnR pfx p xs hxs henv.2 hko.2 (fun g hg => hG g (by simp [hg])) (by omega) b fd hfd
    cases x with
    | field a fid sub =>
      obtain ⟨sf, ft, hsf, _, hf, hw⟩ := fieldOfSelV_r c pfx p a fid sub hx
      have IXf := accFieldR IH pfx p a fid sub hx henv.1 hko.1
        (fun g hg => hG g (by rw [spreadIds]; simp [hg])) (by omega) _ hf b fd hfd
      have hfs := fieldsOfV_cons_field c pfx _ xs _ hf
      refine ⟨fun kvs hk => ?_, fun vs hvs => ?_⟩
      · rw [hfs, List.all_cons, I1 kvs hk, looseOwnP]
        simp only [hsf, fieldOf_wire, readField]
        cases hl : Json.lookup (a.getD sf.name) kvs with
        | none => simp only [missing_fieldOf]
        | some v =>
          have := jsonSize_lookup hl
          simp only [IXf v (by omega)]
      · rw [hfs]
        cases vs with
        | nil => rw [looseArrP]; simp
        | cons v vs' =>
          rw [jsonsSize] at hvs
          rw [looseArrP]
          simp only [List.length_cons, List.zip_cons_cons, List.all_cons, IXf v (by omega), ← I2 vs' (by omega),
            Nat.add_le_add_iff_right]
          cases looseFieldP c.s c.o (conformsLooseR c.s c.q c.o n) b (.field a fid sub) v <;> simp
    | spread g =>
      have hfs := fieldsOfV_cons_none c pfx (.spread g) xs rfl
      refine ⟨fun kvs hk => ?_, fun vs hvs => ?_⟩
      · rw [hfs, I1 kvs hk]; simp [looseOwnP]
      · rw [hfs, I2 vs hvs]; simp [looseArrP]
    | inline t sub => simp [rSel] at hx
    | typename =>
      have hfs := fieldsOfV_cons_none c pfx .typename xs rfl
      refine ⟨fun kvs hk => ?_, fun vs hvs => ?_⟩
      · rw [hfs, I1 kvs hk]; simp [looseOwnP]
      · rw [hfs, I2 vs hvs]; simp [looseArrP]

include W in
theorem accMemR (pfx : String) (p : TypeId) : ∀ (sels : List Sel), rSels c.s c.q c.o p sels = true →
    (∀ g, Sel.spread g ∈ sels → g ∈ G) → ∀ fuel, 4 * n + 2 * D + 5 ≤ fuel → ∀ kvs, kvsSize kvs ≤ n →
    ((fieldsOfR c pfx sels).filter (·.flatten)).all
        (fun g => okB (deOwnWith (dePath e true (fuel - boxCost g.ty)) (memberFieldsR e g) kvs)) =
      looseMemP c.s c.q c.o (conformsLooseR c.s c.q c.o n) sels kvs
  | [], _, _, _, _, _, _ => rfl
  | x :: xs, ht, hG, fuel, hfuel, kvs, hk => by
    obtain ⟨hx, hxs⟩ := rSels_cons ht
    have ih := accMemR pfx p xs hxs (fun g hg => hG g (List.mem_cons_of_mem _ hg)) fuel hfuel kvs hk
    rw [fieldsOfR_cons, List.filter_append, List.all_append, ih]
    cases x with
    | field a fid sub =>
      obtain ⟨sf, ft, _, _, hf, _⟩ := fieldOfSelV_r c pfx p a fid sub hx
      rw [fieldOfSelR_field, hf]; simp [fieldOf, looseMemP]
    | spread g =>
      obtain ⟨fr, i, hfr, _, hsels, _, _, hr, hsenv, henvs, hko, _, hcl, hdep⟩ := world_frag W (hG g (by simp))
      obtain ⟨hmf, _⟩ := memberFieldsR_spread e c g fr hsenv
      have hbc := boxCost_spreadFieldR c g fr
      have hacc := (accOwnR IH (c.cs.camel fr.name) (.object i) fr.sels hr henvs hko hcl hdep true
        (fuel - boxCost (spreadFieldR c g fr).ty) (by omega)).1 kvs hk
      rw [looseMemP, hsels, ← hacc]
      have hflt : (fieldOfSelR c pfx (.spread g)).toList.filter (·.flatten) = [spreadFieldR c g fr] := by
        simp [fieldOfSelR, hfr, spreadFieldR]
      rw [hflt]
      simp only [List.all_cons, List.all_nil, Bool.and_true, hmf, okB_deOwn' _ _ _ (plain_fieldsOfV c _ fr.sels)]
    | inline t sub => simp [rSel] at hx
    | typename => simp [fieldOfSelR, fieldOfSelV, looseMemP]

include W in
theorem accStructR (pfx name : String) (p : TypeId) (sels : List Sel)
    (ht : rSels c.s c.q c.o p sels = true) (henv : envSelsR e c pfx sels) (hko : keysOksF c.s c.q sels = true)
    (hkeys : EnumSpec.nodup (expKeys c.s c.q sels) = true) (hG : ∀ g ∈ spreadIdss sels, g ∈ G)
    (hD : selsDepth sels ≤ D) (hs : StructEnv e name (fieldsOfR c pfx sels)) (b : Bool) (fd : Nat)
    (hfd : 4 * n + 2 * D + 7 ≤ fd) (j : Json) (hj : jsonSize j ≤ n + 1) :
    okB (dePath e b fd name j) = looseStructP c.s c.q c.o (conformsLooseR c.s c.q c.o n) b sels j := by
  obtain ⟨hp, _, nm, d, cr, hfind⟩ := hs
  have hown := filter_fieldsOfR c pfx sels
  have hany := any_flatten_fieldsOfR (pfx := pfx) (resolves_of_rSels ht)
  have hpl := plain_fieldsOfV c pfx sels
  have hGs : ∀ g, Sel.spread g ∈ sels → g ∈ G := fun g hg => hG g (mem_spreadIdss_spread hg)
  cases hsp : sels.any isSpread
  · -- no spread: a plain struct
    obtain ⟨fd', rfl⟩ : ∃ k, fd = k + 1 := ⟨fd - 1, by omega⟩
    obtain ⟨H1, H2⟩ := accOwnR IH pfx p sels ht henv hko hG hD b fd' (by omega)
    have hplain : fieldsOfR c pfx sels = fieldsOfV c pfx sels := fieldsOfR_noTop c pfx sels hsp
    rw [hplain] at hfind
    rw [okB_dePath_plain e b fd' name nm d cr _ hp hfind hpl]
    cases j with
    | obj kvs =>
      rw [jsonSize_obj] at hj
      simp [H1 kvs (by omega), looseStructP, looseMemP_nospread c.s c.q c.o _ kvs sels hsp]
    | arr xs =>
      rw [jsonSize_arr] at hj
      simp [H2 xs (by omega), looseStructP, hsp]
    | _ => rfl
  · -- flattened members
    obtain ⟨fd', rfl⟩ : ∃ k, fd = k + 3 := ⟨fd - 3, by omega⟩
    obtain ⟨H1, _⟩ := accOwnR IH pfx p sels ht henv hko hG hD b (fd' + 2) (by omega)
    rw [hsp] at hany
    obtain ⟨h1, _, h3, h4⟩ := flat_hypsR W pfx p sels ht hGs (nodup_iff'.mp hkeys)
    rw [dePath_struct e b (fd' + 2) name nm d cr _ hp hfind]
    cases j with
    | obj kvs =>
      rw [jsonSize_obj] at hj
      rw [deStruct_obj, deStructMap_flatR e fd' _ _ kvs hany (fun g hg hf => (h1 g hg hf).1) h3 h4, okB_bind2, hown,
        okB_deOwn' _ _ _ hpl, H1 kvs (by omega), okB_flatValsR,
        accMemR W IH pfx p sels ht hGs (fd' + 1) (by omega) kvs (by omega)]
      rfl
    | arr xs => simp only [deStructWith, hany, ↓reduceIte, looseStructP, hsp]; rfl
    | null => rfl
    | bool _ => rfl
    | int _ => rfl
    | num _ => rfl
    | str _ => rfl

end AccR

section AccR2
variable {e : Env} {c : Ctx} {G : List Nat} {D : Nat} (W : RWorld e c G D)
include W

theorem accR_succ {n : Nat} (IH : AccR e c G D n) : AccR e c G D (n + 1) := by
  intro i sels name pfx ht hG henv hko hkeys hD b fd hfd j hj
  by_cases hsp : ∃ g, sels = [Sel.spread g]
  · obtain ⟨g, rfl⟩ := hsp
    have hgG : g ∈ G := hG g (by simp [spreadIdss, spreadIds])
    obtain ⟨fr, i', hfr, _, hsels, hname, hnt, hr, hsenv, henvs, hko', hkeys', hcl, hdep⟩ := world_frag W hgG
    obtain ⟨hp, _, nm, pub, bx, hfind⟩ := (henv : AliasEnvR e name (fragName c g))
    rw [hname] at hfind
    obtain ⟨fd', rfl⟩ : ∃ k, fd = k + 1 := ⟨fd - 1, by omega⟩
    have hstep : dePath e b (fd' + 1) name j = dePath e b fd' fr.name j := by
      rw [dePath]; simp only [dePrim_none hp, hfind]
      cases bx <;> simp [deTyWith]
    rw [hstep]
    have hs' : StructEnv e fr.name (fieldsOfR c (c.cs.camel fr.name) fr.sels) := by
      rw [fieldsOfR_noTop c _ fr.sels hnt]; exact hsenv
    have := accStructR W IH (c.cs.camel fr.name) fr.name (.object i') fr.sels hr henvs hko' hkeys' hcl hdep hs' b fd'
      (by omega) j hj
    rw [this]
    simp only [conformsLooseR, looseBodyP, hsels]
  · have hnl : ∀ g, sels ≠ [Sel.spread g] := fun g hg => hsp ⟨g, hg⟩
    have henv' : StructEnv e name (fieldsOfR c pfx sels) ∧ envSelsR e c pfx sels := by
      unfold BodyEnvR at henv
      revert henv
      split
      · exact fun _ => absurd rfl (hnl _)
      · exact id
    rw [rBody_not_lone hnl] at ht
    have := accStructR W IH pfx name (.object i) sels ht henv'.2 hko hkeys hG hD henv'.1 b fd (by omega) j hj
    rw [this]
    simp only [conformsLooseR, looseBodyP]

theorem accR : ∀ n, AccR e c G D n
  | 0 => by
    intro _ _ _ _ _ _ _ _ _ _ _ _ _ j hj
    have := jsonSize_pos j; omega
  | n + 1 => accR_succ W (accR n)

end AccR2


/-! ## fuel: the static depth of a selection set of the class is below the number of emitted items -/

mutual
  theorem depthR_sel (c : Ctx) : ∀ (x : Sel) (pfx : String) (p : TypeId), rSel c.s c.q c.o p x = true →
      selDepth x ≤ (itemsR c pfx x).length + 1
    | .field a fid sub, pfx, p => by
      intro ht
      have IH := depthR_sels c sub
      obtain ⟨sf, ft, hsf, _, _, _⟩ := fieldOfSelV_r c pfx p a fid sub ht
      by_cases hobj : ∃ i, sf.ty.id = .object i
      · obtain ⟨i, hid⟩ := hobj
        rw [rSel] at ht
        simp only [hsf, hid, Bool.and_eq_true] at ht
        rw [selDepth, itemsR]
        simp only [hsf, hid]
        by_cases hsp : ∃ g, sub = [Sel.spread g]
        · obtain ⟨g, rfl⟩ := hsp
          simp [selsDepth, selDepth]
        · have hnl : ∀ g, sub ≠ [Sel.spread g] := fun g hg => hsp ⟨g, hg⟩
          have hbody : rBody c.s c.q c.o (.object i) sub = true := ht.2.2
          rw [rBody_not_lone hnl] at hbody
          have := IH (pfx ++ c.cs.camel (a.getD sf.name)) (.object i) hbody
          split
          · exact absurd rfl (hnl _)
          · simp only [List.length_cons]; omega
      · have hno : ∀ i, sf.ty.id ≠ .object i := fun i h => hobj ⟨i, h⟩
        have hv := vSel_of_rSel_nonobj ht hsf hno
        rw [itemsR_abs c pfx a fid sub sf hsf hno]
        have := depthV_sel c _ pfx false hv
        simp only [allItems] at this
        omega
    | .spread g, pfx, p => by intro _; simp [selDepth]
    | .inline t sub, _, _ => by intro ht; simp [rSel] at ht
    | .typename, _, _ => by intro _; simp [selDepth]
  theorem depthR_sels (c : Ctx) : ∀ (sels : List Sel) (pfx : String) (p : TypeId),
      rSels c.s c.q c.o p sels = true → selsDepth sels ≤ (itemsRs c pfx sels).length + 1
    | [], _, _ => by intro _; simp [selsDepth]
    | x :: xs, pfx, p => by
      intro ht
      obtain ⟨hx, hxs⟩ := rSels_cons ht
      have h1 := depthR_sel c x pfx p hx
      have h2 := depthR_sels c xs pfx p hxs
      rw [selsDepth, itemsRs, List.length_append]
      omega
end

/-! ## the closure `usedFrags` only contains reachable fragments -/

theorem mem_addNew {x : Nat} : ∀ (new acc : List Nat), x ∈ addNew acc new → x ∈ acc ∨ x ∈ new
  | [], acc, h => .inl h
  | g :: new, acc, h => by
    unfold addNew at h
    rw [List.foldl_cons] at h
    have := mem_addNew new _ h
    rcases this with h' | h'
    · split at h'
      · exact .inl h'
      · rcases List.mem_append.mp h' with h'' | h''
        · exact .inl h''
        · simp only [List.mem_singleton] at h''; exact .inr (by simp [h''])
    · exact .inr (List.mem_cons_of_mem _ h')

theorem closeFrags_reach (q : Query) (root : List Sel) : ∀ (n : Nat) (acc : List Nat),
    (∀ g ∈ acc, C02.Reach q root (.spread g)) → ∀ g ∈ closeFrags q n acc, C02.Reach q root (.spread g)
  | 0, acc, h => h
  | n + 1, acc, h => by
    rw [closeFrags]
    apply closeFrags_reach q root n
    intro g hg
    rcases mem_addNew _ _ hg with hg | hg
    · exact h g hg
    · obtain ⟨g0, hg0, hgm⟩ := List.mem_flatMap.mp hg
      have hr0 := h g0 hg0
      cases hf : q.fragments[g0]? with
      | none => simp [fragSels, hf, spreadIdss] at hgm
      | some f =>
        have hs : fragSels q g0 = f.sels := by simp [fragSels, hf]
        rw [hs] at hgm
        exact reach_spreadIdss q f.sels root (fun y hy => reach_step_spread hr0 hf hy) g hgm

theorem usedFrags_reach (q : Query) (sels : List Sel) :
    ∀ g ∈ usedFrags q sels, C02.Reach q sels (.spread g) := by
  apply closeFrags_reach
  intro g hg
  rcases mem_addNew _ _ hg with hg | hg
  · simp at hg
  · exact reach_spreadIdss q sels sels (fun y hy => .here hy) g hg

theorem closedFrags_parts {q : Query} {G : List Nat} {sels : List Sel} (h : closedFrags q G sels = true) :
    (∀ g ∈ spreadIdss sels, g ∈ G) ∧ ∀ g ∈ G, ∀ g' ∈ spreadIdss (fragSels q g), g' ∈ G := by
  simp only [closedFrags, Bool.and_eq_true, List.all_eq_true, List.contains_iff_mem] at h
  exact h

/-! ## the environment of an emitted module -/

theorem mem_itemsRs {c : Ctx} {pfx : String} {it : Item} : ∀ {sels : List Sel} {x : Sel}, x ∈ sels →
    it ∈ itemsR c pfx x → it ∈ itemsRs c pfx sels
  | [], _, h, _ => by simp at h
  | y :: ys, x, h, hit => by
    rw [itemsRs, List.mem_append]
    rcases List.mem_cons.mp h with rfl | h'
    · exact .inl hit
    · exact .inr (mem_itemsRs h' hit)

section EnvOfR
variable {c : Ctx} {items : List Item} {u : UsedTypes} {root : List Sel} (M : ModFacts c items u root)
include M

theorem aliasEnvR_of (name target : String) (bx : Bool) (hmem : aliasItem name target bx ∈ items) :
    AliasEnvR (moduleEnv c items) name target := by
  have hn : (aliasItem name target bx).name = name := rfl
  have h1 := M.np _ hmem
  have h2 := find_of_mem (customExterns c) M.nodup hmem
  rw [hn] at h1 h2
  refine ⟨h1, ?_, name, true, bx, h2⟩
  have := name_ne_ID M hmem (by intro t h; simp [aliasItem] at h)
  rwa [hn] at this

-- the list half uses the section variables only through the selection half
set_option linter.unusedSectionVars false
mutual
  theorem envSelR_of : ∀ (x : Sel) (pfx : String) (p : Nat), rSel c.s c.q c.o (.object p) x = true →
      (∀ it ∈ itemsR c pfx x, it ∈ items) → C02.Reach c.q root x → envSelR (moduleEnv c items) c pfx x
    | .field a fid sub, pfx, p => by
      intro ht hit hr
      have IH := envSelsR_of sub
      obtain ⟨sf, ft, hsf, _, _, _⟩ := fieldOfSelV_r c pfx (.object p) a fid sub ht
      by_cases hobj : ∃ i, sf.ty.id = .object i
      · obtain ⟨i, hid⟩ := hobj
        rw [rSel] at ht
        simp only [hsf, hid, Bool.and_eq_true] at ht
        rw [itemsR] at hit
        rw [envSelR]
        simp only [hsf, hid] at hit ⊢
        by_cases hsp : ∃ g, sub = [Sel.spread g]
        · obtain ⟨g, rfl⟩ := hsp
          simp only at hit ⊢
          exact aliasEnvR_of M _ _ (fragmentIsRecursive c.q g) (hit _ (by simp))
        · have hnl : ∀ g, sub ≠ [Sel.spread g] := fun g hg => hsp ⟨g, hg⟩
          have hbody : rBody c.s c.q c.o (.object i) sub = true := ht.2.2
          rw [rBody_not_lone hnl] at hbody
          have hit' : ∀ it ∈ (Item.struct (pfx ++ c.cs.camel (a.getD sf.name)) c.respDerives c.serdeCrate
              (fieldsOfR c (pfx ++ c.cs.camel (a.getD sf.name)) sub) ::
              itemsRs c (pfx ++ c.cs.camel (a.getD sf.name)) sub), it ∈ items := by
            revert hit
            split
            · exact absurd rfl (hnl _)
            · exact id
          split
          · exact absurd rfl (hnl _)
          · exact ⟨structEnv_of M _ _ (hit' _ (by simp)),
              IH _ i hbody (fun x hx it h => hit' it (by simp [mem_itemsRs hx h]))
                (fun y hy => reach_step hr hy)⟩
      · have hno : ∀ i, sf.ty.id ≠ .object i := fun i h => hobj ⟨i, h⟩
        have hv := vSel_of_rSel_nonobj ht hsf hno
        rw [itemsR_abs c pfx a fid sub sf hsf hno] at hit
        have := envSelV_of M _ pfx false hv (by simpa [allItems] using hit) hr
        rw [envSelR]
        simpa only [hsf] using this
    | .spread g, pfx, p => by intro _ _ _; simp [envSelR]
    | .inline _ _, _, _ => by intro ht; simp [rSel] at ht
    | .typename, _, _ => by intro _ _ _; simp [envSelR]
  theorem envSelsR_of : ∀ (sels : List Sel) (pfx : String) (p : Nat), rSels c.s c.q c.o (.object p) sels = true →
      (∀ x ∈ sels, ∀ it ∈ itemsR c pfx x, it ∈ items) → (∀ x ∈ sels, C02.Reach c.q root x) →
      envSelsR (moduleEnv c items) c pfx sels
    | [], _, _ => by intro _ _ _; simp [envSelsR]
    | x :: xs, pfx, p => by
      intro ht hit hr
      obtain ⟨hx, hxs⟩ := rSels_cons ht
      rw [envSelsR]
      exact ⟨envSelR_of x pfx p hx (hit x (by simp)) (hr x (by simp)),
        envSelsR_of xs pfx p hxs (fun y hy => hit y (by simp [hy])) (fun y hy => hr y (by simp [hy]))⟩
end
set_option linter.unusedSectionVars true

end EnvOfR

end E2E
end C01
end GqlVerif
