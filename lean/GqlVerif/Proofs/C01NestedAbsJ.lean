import GqlVerif.Proofs.C01NestedAbsH
/-!
# `NestedAbsOp`: agreement with `C01Nested*` on `NestedOp`

On an operation of `NestedOp` (every field of abstract type is a field of `VariantSpreadOp`):

* the class contains it (`nestedAbsOp_of_nestedOp`), the closed form is the same (`bodyItemsA_eq_M`; both in `C01NestedAbsA`);
* the specification **is** the same (`C01N.conformsOpN`, used by both developments);
* the exact acceptance predicate is `conformsLooseN` (`conformsLooseA_eq_N`), the canonical form is `canonSelN`
  (`canonSelA_eq_N`);
* the side conditions are those of `NestedOp` (`nestedAbsKeysOk_eq_N`, `nestedAbsSideOk_eq_N`; the new one is vacuous:
  `absTagOk_of_nestedOp`);
* hence `nestedabs_precise_iff` / `nestedabs_roundtrip` restate `nested_precise_iff` / `nested_roundtrip` there
  (`nestedabs_roundtrip_on_nestedOp`, in `C01NestedAbsE`).
-/

namespace GqlVerif
namespace C01NA
open Serde Spec C13 C03 Codegen C01 C01.E2E C01M C01N

section Agree
variable {ok : TypeId → Nat → Bool} {s : Schema} {q : Query} {o : Options}

/-! ## acceptance -/

mutual
  theorem looseFieldA_eq_N (whole : Nat → Bool → Json → Bool) (b : Bool) : ∀ (x : Sel) (p : TypeId) (v : Json),
      nSel ok s q o p x = true → looseFieldA whole s q o b x v = looseFieldN whole s q o b x v
    | .field a fid sub, p, v => by
      intro h
      have IH1 := looseOwnA_eq_N whole b sub
      have IH2 := looseArrA_eq_N whole b sub
      obtain ⟨sf, hsf⟩ := nSel_field_some h
      by_cases hobj : ∃ i, sf.ty.id = .object i
      · obtain ⟨i, hid⟩ := hobj
        obtain ⟨_, _, _, hb⟩ := nSel_obj hsf hid h
        rw [looseFieldA, looseFieldN]
        simp only [hsf, hid]
        by_cases hsp : ∃ g, sub = [Sel.spread g]
        · obtain ⟨g, rfl⟩ := hsp; rfl
        · have hnl : ∀ g, sub ≠ [Sel.spread g] := fun g hg => hsp ⟨g, hg⟩
          rw [nBody_not_lone hnl] at hb
          have e1 : ∀ kvs, looseOwnA whole s q o b sub kvs = looseOwnN whole s q o b sub kvs :=
            fun kvs => IH1 (.object i) kvs hb
          have e2 : ∀ xs, looseArrA whole s q o b sub xs = looseArrN whole s q o b sub xs :=
            fun xs => IH2 (.object i) xs hb
          cases s.objects[i]? with
          | none => rfl
          | some ob =>
            simp only []
            congr 1
            funext j
            cases j <;> simp only [e1, e2]
      · have hno : ∀ i, sf.ty.id ≠ .object i := fun i h => hobj ⟨i, h⟩
        rw [looseFieldA_old hsf hno (nSel_nonobj hsf hno h), looseFieldN_nonobj hsf hno]
    | .spread g, _, _ => by intro _; simp [looseFieldA, looseFieldN]
    | .inline _ _, _, _ => by intro _; simp [looseFieldA, looseFieldN]
    | .typename, _, _ => by intro _; simp [looseFieldA, looseFieldN]
  theorem looseOwnA_eq_N (whole : Nat → Bool → Json → Bool) (b : Bool) : ∀ (sels : List Sel) (p : TypeId)
      (kvs : List (String × Json)), nSels ok s q o p sels = true →
      looseOwnA whole s q o b sels kvs = looseOwnN whole s q o b sels kvs
    | [], _, _ => by intro _; simp [looseOwnA, looseOwnN]
    | x :: xs, p, kvs => by
      intro h
      obtain ⟨hx, hxs⟩ := nSels_cons h
      have ih := looseOwnA_eq_N whole b xs p kvs hxs
      cases x with
      | field a fid sub =>
        rw [looseOwnA.eq_2, looseOwnN.eq_2, ih]
        cases hsf : s.fields[fid]? with
        | none => rfl
        | some sf =>
          simp only []
          cases Json.lookup (a.getD sf.name) kvs with
          | none => rfl
          | some v => simp only [looseFieldA_eq_N whole b (.field a fid sub) p v hx]
      | spread g => simpa [looseOwnA, looseOwnN] using ih
      | inline t sub => simpa [looseOwnA, looseOwnN] using ih
      | typename => simpa [looseOwnA, looseOwnN] using ih
  theorem looseArrA_eq_N (whole : Nat → Bool → Json → Bool) (b : Bool) : ∀ (sels : List Sel) (p : TypeId)
      (vs : List Json), nSels ok s q o p sels = true →
      looseArrA whole s q o b sels vs = looseArrN whole s q o b sels vs
    | [], _, _ => by intro _; simp [looseArrA, looseArrN]
    | x :: xs, p, vs => by
      intro h
      obtain ⟨hx, hxs⟩ := nSels_cons h
      cases x with
      | field a fid sub =>
        cases vs with
        | nil => simp [looseArrA, looseArrN]
        | cons v vs' =>
          rw [looseArrA.eq_3, looseArrN.eq_3, looseFieldA_eq_N whole b (.field a fid sub) p v hx,
            looseArrA_eq_N whole b xs p vs' hxs]
      | spread g => simpa [looseArrA, looseArrN] using looseArrA_eq_N whole b xs p vs hxs
      | inline t sub => simpa [looseArrA, looseArrN] using looseArrA_eq_N whole b xs p vs hxs
      | typename => simpa [looseArrA, looseArrN] using looseArrA_eq_N whole b xs p vs hxs
end

/-- **on `NestedOp` the exact acceptance predicate is the one of `nested_precise_iff`** -/
theorem conformsLooseA_eq_N (whole : Nat → Bool → Json → Bool) (b : Bool) (p : TypeId) (sels : List Sel) (j : Json)
    (h : nBody ok s q o p sels = true) :
    conformsLooseA whole s q o b sels j = conformsLooseN whole s q o b sels j := by
  by_cases hsp : ∃ g, sels = [Sel.spread g]
  · obtain ⟨g, rfl⟩ := hsp; rfl
  · have hnl : ∀ g, sels ≠ [Sel.spread g] := fun g hg => hsp ⟨g, hg⟩
    rw [nBody_not_lone hnl] at h
    rw [conformsLooseA_not_lone hnl, conformsLooseN_not_lone hnl]
    cases j <;> simp only [looseOwnA_eq_N whole b sels p _ h, looseArrA_eq_N whole b sels p _ h]

/-! ## canonical form -/

mutual
  theorem canonFieldA_eq_N (cent : Nat → List (String × Json) → List (String × Json)) : ∀ (x : Sel) (p : TypeId) (v : Json),
      nSel ok s q o p x = true → canonFieldA cent s q o x v = canonFieldN cent s q o.skipNone x v
    | .field a fid sub, p, v => by
      intro h
      have IH := canonEntriesA_eq_N cent sub
      obtain ⟨sf, hsf⟩ := nSel_field_some h
      by_cases hobj : ∃ i, sf.ty.id = .object i
      · obtain ⟨i, hid⟩ := hobj
        obtain ⟨_, _, _, hb⟩ := nSel_obj hsf hid h
        rw [canonFieldA, canonFieldN]
        simp only [hsf, hid]
        by_cases hsp : ∃ g, sub = [Sel.spread g]
        · obtain ⟨g, rfl⟩ := hsp; rfl
        · have hnl : ∀ g, sub ≠ [Sel.spread g] := fun g hg => hsp ⟨g, hg⟩
          rw [nBody_not_lone hnl] at hb
          have e1 : ∀ kvs, canonEntriesA cent s q o sub kvs = canonEntriesN cent s q o.skipNone sub kvs :=
            fun kvs => IH (.object i) kvs hb
          rw [canonLambdaA, canonLambdaN]
          congr 1
          funext j
          rw [canonSelA_not_lone hnl, canonSelN_not_lone hnl]
          cases j <;> simp only [e1]
      · have hno : ∀ i, sf.ty.id ≠ .object i := fun i h => hobj ⟨i, h⟩
        rw [canonFieldA_old hsf hno (nSel_nonobj hsf hno h), canonFieldN_nonobj hsf hno]
    | .spread g, _, _ => by intro _; simp [canonFieldA, canonFieldN]
    | .inline _ _, _, _ => by intro _; simp [canonFieldA, canonFieldN]
    | .typename, _, _ => by intro _; simp [canonFieldA, canonFieldN]
  theorem canonEntriesA_eq_N (cent : Nat → List (String × Json) → List (String × Json)) : ∀ (sels : List Sel) (p : TypeId)
      (kvs : List (String × Json)), nSels ok s q o p sels = true →
      canonEntriesA cent s q o sels kvs = canonEntriesN cent s q o.skipNone sels kvs
    | [], _, _ => by intro _; simp [canonEntriesA, canonEntriesN]
    | x :: xs, p, kvs => by
      intro h
      obtain ⟨hx, hxs⟩ := nSels_cons h
      have ih := canonEntriesA_eq_N cent xs p kvs hxs
      cases x with
      | field a fid sub =>
        rw [canonEntriesA.eq_2, canonEntriesN.eq_2, ih]
        cases hsf : s.fields[fid]? with
        | none => rfl
        | some sf =>
          simp only []
          cases Json.lookup (a.getD sf.name) kvs with
          | none => rfl
          | some v => simp only [canonFieldA_eq_N cent (.field a fid sub) p v hx]
      | spread g => rw [canonEntriesA.eq_3, canonEntriesN.eq_3, ih]
      | inline t sub => simpa [canonEntriesA, canonEntriesN] using ih
      | typename => simpa [canonEntriesA, canonEntriesN] using ih
end

/-- **on `NestedOp` the canonical form is the one of `nested_roundtrip`** -/
theorem canonSelA_eq_N (cent : Nat → List (String × Json) → List (String × Json)) (p : TypeId) (sels : List Sel) (j : Json)
    (h : nBody ok s q o p sels = true) :
    canonSelA cent s q o sels j = canonSelN cent s q o.skipNone sels j := by
  by_cases hsp : ∃ g, sels = [Sel.spread g]
  · obtain ⟨g, rfl⟩ := hsp; rfl
  · have hnl : ∀ g, sels ≠ [Sel.spread g] := fun g hg => hsp ⟨g, hg⟩
    rw [nBody_not_lone hnl] at h
    rw [canonSelA_not_lone hnl, canonSelN_not_lone hnl]
    cases j <;> simp only [canonEntriesA_eq_N cent sels p _ h]

/-! ## side conditions -/

mutual
  theorem aSpreads_eq_N : ∀ (x : Sel) (p : TypeId), nSel ok s q o p x = true → aSpreads s q o x = objSpreads s x
    | .field a fid sub, p => by
      intro h
      have IH := aSpreadss_eq_N sub
      obtain ⟨sf, hsf⟩ := nSel_field_some h
      rw [aSpreads, objSpreads]
      simp only [hsf]
      by_cases hobj : ∃ i, sf.ty.id = .object i
      · obtain ⟨i, hid⟩ := hobj
        obtain ⟨_, _, _, hb⟩ := nSel_obj hsf hid h
        simp only [hid]
        by_cases hsp : ∃ g, sub = [Sel.spread g]
        · obtain ⟨g, rfl⟩ := hsp; simp [aSpreadss, aSpreads, objSpreadss, objSpreads]
        · have hnl : ∀ g, sub ≠ [Sel.spread g] := fun g hg => hsp ⟨g, hg⟩
          rw [nBody_not_lone hnl] at hb
          exact IH _ hb
      · have hno : ∀ i, sf.ty.id ≠ .object i := fun i h => hobj ⟨i, h⟩
        have hs := nSel_nonobj hsf hno h
        simp [hs]
    | .spread g, _ => by intro _; simp [aSpreads, objSpreads]
    | .inline _ _, _ => by intro _; simp [aSpreads, objSpreads]
    | .typename, _ => by intro _; simp [aSpreads, objSpreads]
  theorem aSpreadss_eq_N : ∀ (sels : List Sel) (p : TypeId), nSels ok s q o p sels = true →
      aSpreadss s q o sels = objSpreadss s sels
    | [], _ => by intro _; rfl
    | x :: xs, p => by
      intro h
      obtain ⟨hx, hxs⟩ := nSels_cons h
      rw [aSpreadss, objSpreadss, aSpreads_eq_N x p hx, aSpreadss_eq_N xs p hxs]
end

mutual
  theorem aPays_nil_N : ∀ (x : Sel) (p : TypeId), nSel ok s q o p x = true → aPays s q o x = []
    | .field a fid sub, p => by
      intro h
      have IH := aPayss_nil_N sub
      obtain ⟨sf, hsf⟩ := nSel_field_some h
      rw [aPays]
      simp only [hsf]
      by_cases hobj : ∃ i, sf.ty.id = .object i
      · obtain ⟨i, hid⟩ := hobj
        obtain ⟨_, _, _, hb⟩ := nSel_obj hsf hid h
        simp only [hid]
        by_cases hsp : ∃ g, sub = [Sel.spread g]
        · obtain ⟨g, rfl⟩ := hsp; simp [aPayss, aPays]
        · have hnl : ∀ g, sub ≠ [Sel.spread g] := fun g hg => hsp ⟨g, hg⟩
          rw [nBody_not_lone hnl] at hb
          exact IH _ hb
      · have hno : ∀ i, sf.ty.id ≠ .object i := fun i h => hobj ⟨i, h⟩
        have hs := nSel_nonobj hsf hno h
        simp [hs]
    | .spread g, _ => by intro _; simp [aPays]
    | .inline _ _, _ => by intro _; simp [aPays]
    | .typename, _ => by intro _; simp [aPays]
  theorem aPayss_nil_N : ∀ (sels : List Sel) (p : TypeId), nSels ok s q o p sels = true → aPayss s q o sels = []
    | [], _ => by intro _; rfl
    | x :: xs, p => by
      intro h
      obtain ⟨hx, hxs⟩ := nSels_cons h
      rw [aPayss, aPays_nil_N x p hx, aPayss_nil_N xs p hxs]; rfl
end

end Agree

mutual
  theorem sideOkSelA_eq_N {ok : TypeId → Nat → Bool} (KN : String → List String) (c : Ctx) : ∀ (x : Sel) (p : TypeId),
      nSel ok c.s c.q c.o p x = true → sideOkSelA KN c x = rustOkSelN c x
    | .field a fid sub, p => by
      intro h
      have IH := sideOkSelsA_eq_N (ok := ok) KN c sub
      obtain ⟨sf, hsf⟩ := nSel_field_some h
      unfold sideOkSelA rustOkSelN
      simp only [hsf, Option.map_some]
      by_cases hobj : ∃ i, sf.ty.id = .object i
      · obtain ⟨i, hid⟩ := hobj
        obtain ⟨_, _, _, hb⟩ := nSel_obj hsf hid h
        simp only [hid]
        by_cases hsp : ∃ g, sub = [Sel.spread g]
        · obtain ⟨g, rfl⟩ := hsp; rfl
        · have hnl : ∀ g, sub ≠ [Sel.spread g] := fun g hg => hsp ⟨g, hg⟩
          rw [nBody_not_lone hnl] at hb
          have e1 := IH _ hb
          split
          · exact absurd rfl (hnl _)
          · split
            · exact absurd rfl (hnl _)
            · rw [e1]
      · have hno : ∀ i, sf.ty.id ≠ .object i := fun i h => hobj ⟨i, h⟩
        have hs := nSel_nonobj hsf hno h
        cases hid : sf.ty.id with
        | object i => exact absurd hid (hno i)
        | scalar k => simp [hs]
        | «enum» k => simp [hs]
        | interface k => simp [hs]
        | union k => simp [hs]
        | input k => simp [hs]
    | .spread g, _ => by intro _; simp [sideOkSelA, rustOkSelN]
    | .inline _ _, _ => by intro _; simp [sideOkSelA, rustOkSelN]
    | .typename, _ => by intro _; simp [sideOkSelA, rustOkSelN]
  theorem sideOkSelsA_eq_N {ok : TypeId → Nat → Bool} (KN : String → List String) (c : Ctx) : ∀ (sels : List Sel)
      (p : TypeId), nSels ok c.s c.q c.o p sels = true → sideOkSelsA KN c sels = rustOkSelsN c sels
    | [], _ => by intro _; rfl
    | x :: xs, p => by
      intro h
      obtain ⟨hx, hxs⟩ := nSels_cons h
      rw [sideOkSelsA, rustOkSelsN, sideOkSelA_eq_N KN c x p hx, sideOkSelsA_eq_N KN c xs p hxs]
end

mutual
  theorem keysOkA_eq_N {ok : TypeId → Nat → Bool} (KN : String → List String) (c : Ctx) : ∀ (x : Sel) (p : TypeId),
      nSel ok c.s c.q c.o p x = true → keysOkA KN c x = keysOkN KN c x
    | .field a fid sub, p => by
      intro h
      have IH := keysOksA_eq_N (ok := ok) KN c sub
      obtain ⟨sf, hsf⟩ := nSel_field_some h
      rw [keysOkA, keysOkN]
      simp only [hsf, Option.map_some]
      by_cases hobj : ∃ i, sf.ty.id = .object i
      · obtain ⟨i, hid⟩ := hobj
        obtain ⟨_, _, _, hb⟩ := nSel_obj hsf hid h
        simp only [hid]
        by_cases hsp : ∃ g, sub = [Sel.spread g]
        · obtain ⟨g, rfl⟩ := hsp
          simp [keysOksA, keysOkA, keysOksN, keysOkN]
        · have hnl : ∀ g, sub ≠ [Sel.spread g] := fun g hg => hsp ⟨g, hg⟩
          rw [nBody_not_lone hnl] at hb
          rw [IH _ hb]
      · have hno : ∀ i, sf.ty.id ≠ .object i := fun i h => hobj ⟨i, h⟩
        have hs := nSel_nonobj hsf hno h
        cases hid : sf.ty.id with
        | object i => exact absurd hid (hno i)
        | scalar k => simp [hs]
        | «enum» k => simp [hs]
        | interface k => simp [hs]
        | union k => simp [hs]
        | input k => simp [hs]
    | .spread g, _ => by intro _; simp [keysOkA, keysOkN]
    | .inline _ _, _ => by intro _; simp [keysOkA, keysOkN]
    | .typename, _ => by intro _; simp [keysOkA, keysOkN]
  theorem keysOksA_eq_N {ok : TypeId → Nat → Bool} (KN : String → List String) (c : Ctx) : ∀ (sels : List Sel)
      (p : TypeId), nSels ok c.s c.q c.o p sels = true → keysOksA KN c sels = keysOksN KN c sels
    | [], _ => by intro _; rfl
    | x :: xs, p => by
      intro h
      obtain ⟨hx, hxs⟩ := nSels_cons h
      rw [keysOksA, keysOksN, keysOkA_eq_N KN c x p hx, keysOksA_eq_N KN c xs p hxs]
end

/-- a lone spread or not: the spreads / payload fragments / side conditions of a body of `NestedOp` -/
theorem body_agree {c : Ctx} {op : ROperation} (h : NestedOp c op = true) :
    aSpreadss c.s c.q c.o op.sels = objSpreadss c.s op.sels ∧ aPayss c.s c.q c.o op.sels = [] ∧
      (∀ KN, sideOkSelsA KN c op.sels = rustOkSelsN c op.sels) ∧
      ∀ KN, keysOksA KN c op.sels = keysOksN KN c op.sels := by
  obtain ⟨_, _, hb⟩ := nestedOp_parts h
  by_cases hsp : ∃ g, op.sels = [Sel.spread g]
  · obtain ⟨g, hg⟩ := hsp
    rw [hg]
    refine ⟨by simp [aSpreadss, aSpreads, objSpreadss, objSpreads], by simp [aPayss, aPays], fun KN => ?_, fun KN => ?_⟩
    · simp [sideOkSelsA, sideOkSelA, rustOkSelsN, rustOkSelN]
    · simp [keysOksA, keysOkA, keysOksN, keysOkN]
  · have hnl : ∀ g, op.sels ≠ [Sel.spread g] := fun g hg => hsp ⟨g, hg⟩
    rw [nBody_not_lone hnl] at hb
    exact ⟨aSpreadss_eq_N _ _ hb, aPayss_nil_N _ _ hb, fun KN => sideOkSelsA_eq_N KN c _ _ hb,
      fun KN => keysOksA_eq_N KN c _ _ hb⟩

theorem nestedAbsKeysOk_eq_N (c : Ctx) (op : ROperation) (h : NestedOp c op = true) :
    nestedAbsKeysOk c op = nestedKeysOk c op := by
  unfold nestedAbsKeysOk nestedKeysOk
  rw [(body_agree h).1, (body_agree h).2.2.2]

theorem nestedAbsSideOk_eq_N (c : Ctx) (op : ROperation) (h : NestedOp c op = true) :
    nestedAbsSideOk c op = nestedRustOk c op := by
  unfold nestedAbsSideOk nestedRustOk
  rw [(body_agree h).1, (body_agree h).2.2.1]

theorem absTagOk_of_nestedOp (c : Ctx) (op : ROperation) (h : NestedOp c op = true) : absTagOk c op = true := by
  unfold absTagOk
  rw [(body_agree h).2.1]
  rfl

end C01NA
end GqlVerif
