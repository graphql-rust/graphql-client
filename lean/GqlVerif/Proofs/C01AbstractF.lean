import GqlVerif.Proofs.C01Abstract
/-!
# C01 / C03 end to end, `FragmentOp` 1/5 (named fragment spreads): class and closed form

`FragmentOp` extends `VariantOp` by **named fragment spreads on the parent type itself** in object-level
selection sets (the root selection set and the sub-selections of object-typed fields).  Fragment bodies are
spread-free selection sets of the class `VariantOp` (**non-recursive fragments**; recursive / nested fragments
and spreads inside abstract positions or inline fragments are out of scope).

* the generator emits one struct per spread fragment (`fragment_struct_shape`), a `#[serde(flatten)]` member per
  spread (`spreadField`), and a **type alias** where a selection set consists of a single spread
  (`bodyItemsF`);
* `fragment_items_shape` — `responseItems c op = .ok (bodyItemsF …)` for every operation of the class;
* `not_recursive_of_fragOk` — such fragments are not recursive for the generator (`fragmentIsRecursive = false`:
  no `Box`).
-/
namespace GqlVerif
namespace C01
namespace E2E
open Codegen

/-! ## the class -/

/-- a fragment that may be spread into a selection set on `parent`: it exists, is on `parent` itself, is not
    named `ID` (the generator would attach the ID helper to the member), and its body is a spread-free selection
    set of the class `VariantOp` (so: **non-recursive**) with pairwise distinct response keys -/
def fragOk (s : Schema) (q : Query) (o : Options) (parent : TypeId) (fid : Nat) : Bool :=
  match q.fragments[fid]? with
  | some f => f.on == parent && f.name != "ID" && vSels s o false f.sels && EnumSpec.nodup (respKeys s f.sels)
  | none => false

mutual
  /-- one selection of an object-level selection set on `parent` -/
  def fSel (s : Schema) (q : Query) (o : Options) (parent : TypeId) : Sel → Bool
    | .field _ fid sub =>
      match s.fields[fid]? with
      | none => false
      | some sf =>
        wfQuals sf.ty.quals && !(sf.deprecation.isSome && o.deprecation == .deny) &&
        (match sf.ty.id with
         | .scalar k => (s.scalars[k]?).isSome && sub.isEmpty
         | .enum k => (s.enums[k]?).isSome && sub.isEmpty
         | .object i => (s.objects[i]?).isSome &&
            (match sub with
             | [.spread g] => fragOk s q o (.object i) g
             | _ => fSels s q o (.object i) sub)
         | .interface k => (s.interfaces[k]?).isSome && vSels s o true sub && absOk s o (.interface k) sub
         | .union u => (s.unions[u]?).isSome && vSels s o true sub && absOk s o (.union u) sub
         | .input _ => false)
    | .typename => true
    | .spread g => fragOk s q o parent g
    | .inline _ _ => false
  def fSels (s : Schema) (q : Query) (o : Options) (parent : TypeId) : List Sel → Bool
    | [] => true
    | x :: xs => fSel s q o parent x && fSels s q o parent xs
end

/-- the body of an object-level selection set: a lone spread (type alias) or a selection set of the class -/
def fBody (s : Schema) (q : Query) (o : Options) (parent : TypeId) (sels : List Sel) : Bool :=
  match sels with
  | [.spread g] => fragOk s q o parent g
  | _ => fSels s q o parent sels

/-- what `fSel` says of a field selection: an object-typed field with a body of the class, or a field of any other
    kind exactly as in `VariantOp` -/
theorem fSel_kinds {s : Schema} {q : Query} {o : Options} {p : TypeId} {a : Option String} {fid : Nat} {sub : List Sel}
    (h : fSel s q o p (.field a fid sub) = true) : ∃ sf, s.fields[fid]? = some sf ∧ wfQuals sf.ty.quals = true ∧
      (sf.deprecation.isSome && o.deprecation == .deny) = false ∧
      ((∃ i ob, sf.ty.id = .object i ∧ s.objects[i]? = some ob ∧ fBody s q o (.object i) sub = true) ∨
       ((∀ i, sf.ty.id ≠ .object i) ∧ vSel s o false (.field a fid sub) = true)) := by
  rw [fSel] at h
  cases hsf : s.fields[fid]? with
  | none => simp [hsf] at h
  | some sf =>
    have h0 := h
    simp only [hsf, Bool.and_eq_true, Bool.not_eq_true'] at h
    refine ⟨sf, rfl, h.1.1, h.1.2, ?_⟩
    cases hid : sf.ty.id with
    | object i =>
      simp only [hid, Bool.and_eq_true, Option.isSome_iff_exists] at h
      obtain ⟨_, ⟨ob, hob⟩, hb⟩ := h
      exact .inl ⟨i, ob, rfl, hob, hb⟩
    | input k => simp [hid] at h
    | _ =>
      refine .inr ⟨fun i hi => (by cases hi), ?_⟩
      rw [vSel]
      simpa [hsf, hid] using h0

/-- **the class `FragmentOp`** (decidable): as `VariantOp`, plus named fragment spreads on the parent type itself
    in the root selection set and in the sub-selections of object-typed fields; fragment bodies are
    spread-free (non-recursive fragments).  Abstract positions and inline fragment bodies are as in `VariantOp`. -/
def FragmentOp (c : Ctx) (op : ROperation) : Bool :=
  c.o.normalization == .none && (c.s.objects[op.objectId]?).isSome &&
  fBody c.s c.q c.o (.object op.objectId) op.sels

/-! ## closed form -/

/-- the flattened member emitted for a spread of `f` -/
def spreadField (c : Ctx) (f : RFragment) : RField :=
  { rust := keywordReplace (c.cs.snake f.name), ty := .path f.name, flatten := true }

def fieldOfSelF (c : Ctx) (pfx : String) : Sel → Option RField
  | .spread g => (c.q.fragments[g]?).map (spreadField c)
  | x => fieldOfSelV c pfx x

def fieldsOfF (c : Ctx) (pfx : String) (sels : List Sel) : List RField := sels.filterMap (fieldOfSelF c pfx)

theorem fieldsOfF_append (c : Ctx) (pfx : String) (xs ys : List Sel) :
    fieldsOfF c pfx (xs ++ ys) = fieldsOfF c pfx xs ++ fieldsOfF c pfx ys := by
  unfold fieldsOfF; rw [List.filterMap_append]

def fragName (c : Ctx) (g : Nat) : String :=
  match c.q.fragments[g]? with
  | some f => f.name
  | none => ""

mutual
  def itemsF (c : Ctx) (pfx : String) : Sel → List Item
    | .field a fid sub =>
      match c.s.fields[fid]? with
      | none => []
      | some sf =>
        match sf.ty.id with
        | .object _ =>
          (match sub with
           | [.spread g] => [aliasItem (pfx ++ c.cs.camel (a.getD sf.name)) (fragName c g) false]
           | _ => .struct (pfx ++ c.cs.camel (a.getD sf.name)) c.respDerives c.serdeCrate
                    (fieldsOfF c (pfx ++ c.cs.camel (a.getD sf.name)) sub) ::
                  itemsFs c (pfx ++ c.cs.camel (a.getD sf.name)) sub)
        | .interface k => absItemsV c (pfx ++ c.cs.camel (a.getD sf.name)) (pfx ++ c.cs.camel (a.getD sf.name)) (.interface k) sub
        | .union u => absItemsV c (pfx ++ c.cs.camel (a.getD sf.name)) (pfx ++ c.cs.camel (a.getD sf.name)) (.union u) sub
        | _ => []
    | _ => []
  def itemsFs (c : Ctx) (pfx : String) : List Sel → List Item
    | [] => []
    | x :: xs => itemsF c pfx x ++ itemsFs c pfx xs
end

/-- **closed form** of the items of an object-level selection set: a type alias for a lone spread; otherwise the
    struct (own fields and one flattened member per spread, in selection order) and the nested items -/
def bodyItemsF (c : Ctx) (name pfx : String) (sels : List Sel) : List Item :=
  match sels with
  | [.spread g] => [aliasItem name (fragName c g) false]
  | _ => .struct name c.respDerives c.serdeCrate (fieldsOfF c pfx sels) :: itemsFs c pfx sels


/-! ## spread-free selections are not recursive -/

mutual
  def noSpread : Sel → Bool
    | .field _ _ sub => noSpreads sub
    | .inline _ sub => noSpreads sub
    | .spread _ => false
    | .typename => true
  def noSpreads : List Sel → Bool
    | [] => true
    | x :: xs => noSpread x && noSpreads xs
end

theorem noSpreads_eq_all : ∀ sels, noSpreads sels = sels.all noSpread :=
  all_of_eqns rfl (fun _ _ => rfl)

theorem noSpread_of_vSel (s : Schema) (o : Options) : ∀ (x : Sel) (abs : Bool), vSel s o abs x = true → noSpread x = true := by
  intro x
  induction x using Sel.ind with
  | field a fid sub IH =>
    intro abs h
    have IHs : ∀ abs', vSels s o abs' sub = true → noSpreads sub = true := fun abs' hs => by
      rw [noSpreads_eq_all, List.all_eq_true]
      exact fun y hy => IH y hy abs' (vSels_mem hs y hy)
    obtain ⟨sf, _, _, _, hk⟩ := vSel_kinds h
    rw [noSpread]
    rcases hk with ⟨_, _, _, _, rfl⟩ | ⟨_, _, _, _, rfl⟩ | ⟨_, _, _, _, hsub, _⟩ | ⟨_, _, _, hsub, _⟩ | ⟨_, _, _, hsub, _⟩
    · rfl
    · rfl
    all_goals exact IHs _ hsub
  | inline t sub IH =>
    intro abs h
    simp only [vSel, Bool.and_eq_true] at h
    rw [noSpread, noSpreads_eq_all, List.all_eq_true]
    exact fun y hy => IH y hy _ (vSels_mem h.1.2 y hy)
  | spread _ => intro _ h; simp [vSel] at h
  | typename => intro _ _; rfl

theorem noSpreads_of_vSels (s : Schema) (o : Options) : ∀ (sels : List Sel) (abs : Bool), vSels s o abs sels = true →
    noSpreads sels = true := by
  intro sels abs h
  rw [noSpreads_eq_all, List.all_eq_true]
  exact fun y hy => noSpread_of_vSel s o y abs (vSels_mem h y hy)

theorem reaches_noSpreads (q : Query) (target : Nat) : ∀ (fuel : Nat) (visited : List Nat) (sels : List Sel),
    noSpreads sels = true → reachesFragment q target fuel visited sels = (false, visited)
  | 0, _, _, _ => rfl
  | fuel + 1, visited, sels, h => by
    rw [reachesFragment]
    induction sels with
    | nil => rfl
    | cons x xs ih =>
      rw [noSpreads, Bool.and_eq_true] at h
      rw [List.foldl_cons]
      cases x with
      | field a fid sub =>
        simp only [Bool.false_eq_true, ↓reduceIte]
        rw [reaches_noSpreads q target fuel visited sub (by simpa [noSpread] using h.1)]
        exact ih h.2
      | inline t sub =>
        simp only [Bool.false_eq_true, ↓reduceIte]
        rw [reaches_noSpreads q target fuel visited sub (by simpa [noSpread] using h.1)]
        exact ih h.2
      | spread g => simp [noSpread] at h
      | typename =>
        simp only [Bool.false_eq_true, ↓reduceIte]
        exact ih h.2

theorem fragOk_parts {s : Schema} {q : Query} {o : Options} {parent : TypeId} {g : Nat}
    (h : fragOk s q o parent g = true) :
    ∃ f, q.fragments[g]? = some f ∧ f.on = parent ∧ f.name ≠ "ID" ∧ vSels s o false f.sels = true ∧
      EnumSpec.nodup (respKeys s f.sels) = true := by
  unfold fragOk at h
  cases hf : q.fragments[g]? with
  | none => simp [hf] at h
  | some f =>
    simp only [hf, Bool.and_eq_true, beq_iff_eq, bne_iff_ne] at h
    exact ⟨f, rfl, h.1.1.1, h.1.1.2, h.1.2, h.2⟩

theorem not_recursive_of_fragOk {s : Schema} {q : Query} {o : Options} {parent : TypeId} {g : Nat}
    (h : fragOk s q o parent g = true) : fragmentIsRecursive q g = false := by
  obtain ⟨f, hf, _, _, hv, _⟩ := fragOk_parts h
  unfold fragmentIsRecursive
  rw [hf]
  simp only [reaches_noSpreads q g _ [] f.sels (noSpreads_of_vSels s o f.sels false hv)]

theorem getFragment_of {q : Query} {i : Nat} {x : RFragment} (h : q.fragments[i]? = some x) : q.getFragment i = .ok x :=
  C02.getFragment_of h

theorem renderField_spread (c : Ctx) (f : RFragment) (hid : f.name ≠ "ID") :
    renderField c none (keywordReplace (c.cs.snake f.name)) f.name [.required] true false none =
      .ok (some (spreadField c f)) := by
  unfold renderField
  simp [decorateType, decorateStep, bind, Except.bind, pure, Except.pure, hid, spreadField, Option.bind]


/-! ## the closed form of the emitted items for `FragmentOp` -/

theorem fSels_eq_all (s : Schema) (q : Query) (o : Options) (p : TypeId) :
    ∀ sels, fSels s q o p sels = sels.all (fSel s q o p) :=
  all_of_eqns rfl (fun _ _ => rfl)

theorem fSels_cons {s : Schema} {q : Query} {o : Options} {p : TypeId} {x : Sel} {xs : List Sel}
    (h : fSels s q o p (x :: xs) = true) : fSel s q o p x = true ∧ fSels s q o p xs = true := by
  simpa [fSels] using h

theorem fBody_not_lone {s : Schema} {q : Query} {o : Options} {p : TypeId} {sels : List Sel}
    (h : ∀ g, sels ≠ [Sel.spread g]) : fBody s q o p sels = fSels s q o p sels := by
  unfold fBody
  split
  · rename_i g; exact absurd rfl (h g)
  · rfl

theorem bodyItemsF_not_lone (c : Ctx) (name pfx : String) {sels : List Sel} (h : ∀ g, sels ≠ [Sel.spread g]) :
    bodyItemsF c name pfx sels =
      .struct name c.respDerives c.serdeCrate (fieldsOfF c pfx sels) :: itemsFs c pfx sels := by
  unfold bodyItemsF
  split
  · rename_i g; exact absurd rfl (h g)
  · rfl

theorem itemsF_nonobj (c : Ctx) (pfx : String) (a : Option String) (fid : Nat) (sub : List Sel) (sf : StoredField)
    (hsf : c.s.fields[fid]? = some sf) (hno : ∀ i, sf.ty.id ≠ .object i) :
    itemsF c pfx (.field a fid sub) = itemsV c pfx (.field a fid sub) := by
  rw [itemsF, itemsV]
  simp only [hsf]
  cases hid : sf.ty.id <;> first | rfl | exact absurd hid (hno _)

theorem fieldsOfF_cons (c : Ctx) (pfx : String) (x : Sel) (xs : List Sel) :
    fieldsOfF c pfx (x :: xs) = (fieldOfSelF c pfx x).toList ++ fieldsOfF c pfx xs := by
  unfold fieldsOfF
  rw [List.filterMap_cons]
  cases fieldOfSelF c pfx x <;> rfl

section CalcF
variable (c : Ctx) (hn : c.o.normalization = .none)

/-- one selection of the class is one step of the field loop for a struct of an object type -/
def StepF (x : Sel) : Prop := ∀ (pfx : String) (i : Nat) (rest : List Sel) (fs : List RField) (items : List Item),
  fSel c.s c.q c.o (.object i) x = true → C02.CalcFields c pfx (.object i) rest fs items →
  C02.CalcFields c pfx (.object i) (x :: rest) ((fieldOfSelF c pfx x).toList ++ fs) (itemsF c pfx x ++ items)

theorem calcFieldsF {sels : List Sel} (H : ∀ y ∈ sels, StepF c y) (pfx : String) (i : Nat)
    (ht : fSels c.s c.q c.o (.object i) sels = true) :
    C02.CalcFields c pfx (.object i) sels (fieldsOfF c pfx sels) (itemsFs c pfx sels) := by
  induction sels with
  | nil => exact .nil
  | cons x rest ih =>
    rw [fieldsOfF_cons, itemsFs]
    exact H x List.mem_cons_self pfx i rest _ _ (fSels_cons ht).1
      (ih (fun y hy => H y (List.mem_cons_of_mem _ hy)) (fSels_cons ht).2)

theorem calcBodyF {sels : List Sel} (H : ∀ y ∈ sels, StepF c y) (name pfx : String) (i : Nat)
    (ht : fBody c.s c.q c.o (.object i) sels = true) :
    C02.CalcSel c name pfx (.object i) sels (bodyItemsF c name pfx sels) := by
  by_cases hsp : ∃ g, sels = [Sel.spread g]
  · obtain ⟨g, rfl⟩ := hsp
    have hok : fragOk c.s c.q c.o (.object i) g = true := ht
    obtain ⟨fr, hfr, _⟩ := fragOk_parts hok
    have := C02.CalcSel.alias (name := name) (pfx := pfx) (ty := .object i) (getFragment_of hfr)
    simpa [bodyItemsF, fragName, hfr, not_recursive_of_fragOk hok] using this
  · have hsp' : ∀ g, sels ≠ [Sel.spread g] := fun g hg => hsp ⟨g, hg⟩
    rw [fBody_not_lone hsp'] at ht
    rw [bodyItemsF_not_lone c name pfx hsp']
    exact .object hsp' (calcFieldsF c H pfx i ht)

include hn in
theorem stepF_all : ∀ x, StepF c x := by
  apply Sel.ind
  · intro a fid sub IH pfx i rest fs items hx hR
    obtain ⟨sf, hsf, hw, hdep, hk⟩ := fSel_kinds hx
    rcases hk with ⟨j, _, hid, _, hbody⟩ | ⟨hno, hv⟩
    · have hS := calcBodyF c IH (pfx ++ c.cs.camel (a.getD sf.name)) (pfx ++ c.cs.camel (a.getD sf.name)) j hbody
      have := C02.CalcFields.nested (getField_of hsf) (by simp [hid]) (by simp [hid]) (by simp [hid])
        (renderField_tree c (a.getD sf.name) _ _ _ hw hdep) (hid ▸ hS) hR
      have hitems : itemsF c pfx (.field a fid sub) =
          bodyItemsF c (pfx ++ c.cs.camel (a.getD sf.name)) (pfx ++ c.cs.camel (a.getD sf.name)) sub := by
        rw [itemsF]; simp only [hsf, hid]; rfl
      rw [hitems]
      simpa [fieldOfSelF, fieldOfSelV, hsf, hid, leafNameV] using this
    · -- a field of any other kind: the step of `VariantOp`, whose items are the same
      rw [itemsF_nonobj c pfx a fid sub sf hsf hno]
      exact stepV_all c hn (.field a fid sub) false pfx (.object i) rest fs items hv hR
  · intro t sub _ pfx i rest fs items hx _
    simp [fSel] at hx
  · intro g pfx i rest fs items hx hR
    have hok : fragOk c.s c.q c.o (.object i) g = true := by simpa [fSel] using hx
    obtain ⟨fr, hfr, hon, hname, _, _⟩ := fragOk_parts hok
    have := C02.CalcFields.spreadHere (getFragment_of hfr) (by simp [hon])
      (by rw [not_recursive_of_fragOk hok]; exact renderField_spread c fr hname) hR
    simpa [fieldOfSelF, hfr, itemsF] using this
  · intro pfx i rest fs items _ hR
    simpa [fieldOfSelF, fieldOfSelV, itemsF] using C02.CalcFields.typename hR

include hn in
theorem calc_fragment (name pfx : String) (i : Nat) {sels : List Sel}
    (ht : fBody c.s c.q c.o (.object i) sels = true) :
    C02.CalcSel c name pfx (.object i) sels (bodyItemsF c name pfx sels) :=
  calcBodyF c (fun y _ => stepF_all c hn y) name pfx i ht

end CalcF

theorem fragmentOp_parts {c : Ctx} {op : ROperation} (h : FragmentOp c op = true) :
    c.o.normalization = .none ∧ (c.s.objects[op.objectId]?).isSome = true ∧
      fBody c.s c.q c.o (.object op.objectId) op.sels = true := by
  simp only [FragmentOp, Bool.and_eq_true, beq_iff_eq] at h
  exact ⟨h.1.1, h.1.2, h.2⟩

/-- **`fragment_items_shape`.**  For an operation of the class `FragmentOp` the response items are,
    in closed form: a type alias where a selection set is a lone spread; otherwise one struct per object-level
    selection set with one `#[serde(flatten)]` member per spread (in selection order); abstract positions as in
    `variant_items_shape`. -/
theorem fragment_items_shape (c : Ctx) (op : ROperation) (hop : op ∈ c.q.operations) (ht : FragmentOp c op = true) :
    responseItems c op = .ok (bodyItemsF c "ResponseData" (c.cs.camel op.name) op.sels) := by
  obtain ⟨hn, _, hsels⟩ := fragmentOp_parts ht
  exact (calc_fragment c hn _ _ _ hsels).responseItems_eq hop

/-- **… and the items of a spread fragment**: the struct named like the fragment (prefix: its upper-camel-case
    name) for its body, as for an object-level selection set of `VariantOp` -/
theorem fragment_struct_shape (c : Ctx) (hn : c.o.normalization = .none) (parent : TypeId) (g : Nat) (i : Nat)
    (hp : parent = .object i) (hok : fragOk c.s c.q c.o parent g = true) :
    ∃ f, c.q.fragments[g]? = some f ∧
      fragmentItems c g = .ok (structItemsV c f.name (c.cs.camel f.name) f.sels) := by
  obtain ⟨f, hf, hon, _, hv, _⟩ := fragOk_parts hok
  refine ⟨f, hf, ?_⟩
  have := calc_variant c hn f.name (c.cs.camel f.name) i hv
  rw [← hon.trans hp] at this
  exact this.fragmentItems_eq hf

end E2E
end C01
end GqlVerif
