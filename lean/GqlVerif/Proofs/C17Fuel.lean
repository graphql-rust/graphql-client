import GqlVerif.Proofs.C02Closure
import GqlVerif.Proofs.C12Graph
/-!
# C17 — fuel independence of the guarded walks, stated on the model's own functions

The Rust code recurses without fuel; the model gives each walk that follows fragment spreads / input
fields a fuel argument and returns a *default* (not an error) at fuel `0`.  Silent exhaustion would make
the model disagree with the code.  This file proves, for each such function `f` and the fuel `F` the
model passes at its call site,

    ∀ fuel ≥ F, f … fuel … = f … F …

(the result no longer depends on the fuel once it reaches what the model passes), with **no
well-formedness hypothesis** on schema or query: out-of-range ids stop the walks.  The only side
condition is, for the three selection-tree walks, that the selection set at hand is not deeper than
the depth the model's fuel formula measured (`selsDepth sels ≤ maxDepth q`), which holds for every
operation and fragment body of `q` (the only sets the model passes).

* `containsTypenameAux_fuel_indep` — `Resolve.containsTypenameAux`, fuel `#fragments + 1`
* `rootFieldCount_fuel_indep(_op)` — `Resolve.rootFieldCount`, fuel `depthFuel q`
* `reachesFragment_fuel_indep(_frag)`, `fragmentIsRecursive_fuel_indep` — `Codegen.reachesFragment`, fuel `walkFuel q`
* `collectSel_fuel_indep`, `collectSels_fuel_indep`, `allUsedTypes_fuel_indep` — `Codegen.collectSel`, fuel `walkFuel q`
* `usedInputIds_fuel_indep`, `collectVar_fuel_indep` — `Codegen.usedInputIds`, fuel `#inputs + 1`
* `containsWithoutIndirection_fuel_indep`, `inputIsRecursive_fuel_indep` —
  `Codegen.containsWithoutIndirection`, fuel `#inputs + 1`

Each has a general form `…_fuel_eq` (any two fuels above the *need* of the call give the same result).
-/
namespace GqlVerif
namespace C17F
open Codegen Resolve

/-! ## 0. generic fold lemmas -/

theorem foldl_congr_inv {α β : Type} (f g : β → α → β) (Inv : β → Prop) (l : List α)
    (hstep : ∀ b x, x ∈ l → Inv b → f b x = g b x ∧ Inv (f b x)) :
    ∀ b, Inv b → l.foldl f b = l.foldl g b := by
  induction l with
  | nil => intro b _; rfl
  | cons a l ih =>
    intro b hb
    have ⟨h1, h2⟩ := hstep b a (by simp) hb
    simp only [List.foldl_cons]
    rw [← h1]
    exact ih (fun b x hx hb => hstep b x (by simp [hx]) hb) _ h2

theorem foldlM_congr_inv {ε α β : Type} (f g : β → α → Except ε β) (Inv : β → Prop) (l : List α)
    (hstep : ∀ b x, x ∈ l → Inv b → f b x = g b x ∧ ∀ b', f b x = .ok b' → Inv b') :
    ∀ b, Inv b → l.foldlM f b = l.foldlM g b := by
  induction l with
  | nil => intro b _; rfl
  | cons a l ih =>
    intro b hb
    have ⟨h1, h2⟩ := hstep b a (by simp) hb
    simp only [List.foldlM_cons]
    rw [← h1]
    cases hfa : f b a with
    | error e => rfl
    | ok b1 =>
      simp only [bind, Except.bind]
      exact ih (fun b x hx hb => hstep b x (by simp [hx]) hb) _ (h2 b1 hfa)

/-- the fold of a monotone step is monotone (second component grows) -/
theorem foldl_snd_mono {α β γ : Type} (f : β × List γ → α → β × List γ) (l : List α)
    (hstep : ∀ acc x, x ∈ l → ∀ v ∈ acc.2, v ∈ (f acc x).2) :
    ∀ acc, ∀ v ∈ acc.2, v ∈ (l.foldl f acc).2 := by
  induction l with
  | nil => intro acc v hv; exact hv
  | cons a l ih =>
    intro acc v hv
    simp only [List.foldl_cons]
    exact ih (fun acc x hx => hstep acc x (by simp [hx])) _ v (hstep acc a (by simp) v hv)

/-! ## 1. `Resolve.containsTypenameAux` (fuel `#fragments + 1`) -/

theorem containsTypenameAux_fuel_eq (q : Query) :
    ∀ (fuel fuel' : Nat) (parent : TypeId) (visited : List Nat) (sels : List Sel),
      (C17.remaining q visited).length < fuel → (C17.remaining q visited).length < fuel' →
      containsTypenameAux q parent fuel visited sels = containsTypenameAux q parent fuel' visited sels := by
  intro fuel
  induction fuel with
  | zero => intro _ _ _ _ h; omega
  | succ n ih =>
    intro fuel' parent visited sels h1 h2
    cases fuel' with
    | zero => omega
    | succ m =>
      unfold containsTypenameAux
      congr 1
      funext sel
      cases sel with
      | typename => rfl
      | field a b c => rfl
      | inline a b => rfl
      | spread fid =>
        simp only
        cases hv : visited.contains fid
        · simp only [Bool.false_eq_true, ↓reduceIte]
          cases hf : q.fragments[fid]? with
          | none => rfl
          | some f =>
            simp only
            have hdec := C17.remaining_decreases q visited fid f hf hv
            rw [ih m f.on (fid :: visited) f.sels (by omega) (by omega)]
        · simp

/-- **`containsTypenameAux`**: above the fuel `Resolve.containsTypename` passes, the result is the
    value of `containsTypename` — for every query, type, selection set; no hypothesis -/
theorem containsTypenameAux_fuel_indep (q : Query) (parent : TypeId) (sels : List Sel) :
    ∀ fuel, q.fragments.length + 1 ≤ fuel →
      containsTypenameAux q parent fuel [] sels = containsTypename q parent sels := by
  intro fuel h
  unfold containsTypename
  have := C17.remaining_nil q
  exact containsTypenameAux_fuel_eq q _ _ parent [] sels (by omega) (by omega)

/-! ## 2. depth of selection sets: the two copies in the model agree -/

mutual
  theorem selDepth'_eq : ∀ x : Sel, selDepth' x = selDepth x
    | .field _ _ sub => by rw [selDepth', selDepth, selsDepth'_eq sub]
    | .inline _ sub => by rw [selDepth', selDepth, selsDepth'_eq sub]
    | .spread _ => by rw [selDepth', selDepth] <;> simp
    | .typename => by rw [selDepth', selDepth] <;> simp
  theorem selsDepth'_eq : ∀ l : List Sel, selsDepth' l = selsDepth l
    | [] => by rw [selsDepth', selsDepth]
    | x :: xs => by rw [selsDepth', selsDepth, selDepth'_eq x, selsDepth'_eq xs]
end

theorem depthFuel_eq_walkFuel (q : Query) : depthFuel q = walkFuel q := by
  unfold depthFuel walkFuel
  have h1 : (fun f : RFragment => selsDepth' f.sels) = (fun f => selsDepth f.sels) :=
    funext fun f => selsDepth'_eq f.sels
  have h2 : (fun o : ROperation => selsDepth' o.sels) = (fun o => selsDepth o.sels) :=
    funext fun o => selsDepth'_eq o.sels
  rw [h1, h2]

theorem selsDepth_pos_of_mem {x : Sel} {l : List Sel} (h : x ∈ l) : 1 ≤ selsDepth l :=
  Nat.le_trans (C02.selDepth_pos x) (C02.selDepth_le_of_mem h)

theorem selsDepth_field_lt {a : Option String} {fid : Nat} {sub l : List Sel} (h : Sel.field a fid sub ∈ l) :
    selsDepth sub < selsDepth l := by
  have := C02.selDepth_le_of_mem h
  rw [selDepth] at this
  omega

theorem selsDepth_inline_lt {t : TypeId} {sub l : List Sel} (h : Sel.inline t sub ∈ l) :
    selsDepth sub < selsDepth l := by
  have := C02.selDepth_le_of_mem h
  rw [selDepth] at this
  omega

/-- what a list-level walk needs: the depth of the set at hand plus a full body depth (`d + 1`) for
    every fragment that can still be entered.  The count of fragments not yet visited is `C02.unseen q.fragments.length`
    throughout; it appears as `C12Graph.remainingF` here, as `C02.unseenFrags` for `collectSel`
    (`unseenFrags_eq_remainingF`: `rfl`), as `C06Sound.unvisited` there, and as the length of the list `C17.remaining`
    (fixed by `Props/C17.lean`) for `containsTypenameAux`. -/
def need (q : Query) (d : Nat) (visited : List Nat) (sels : List Sel) : Nat :=
  selsDepth sels + C12Graph.remainingF q visited * (d + 1)

theorem need_mono (q : Query) (d : Nat) {v v' : List Nat} (h : ∀ n ∈ v, n ∈ v') (sels : List Sel) :
    need q d v' sels ≤ need q d v sels := by
  unfold need
  have := Nat.mul_le_mul_right (d + 1) (C12Graph.remainingF_mono q h)
  omega

/-- entering an unvisited fragment strictly lowers the need -/
theorem need_enter (q : Query) (d : Nat) (hd : ∀ f ∈ q.fragments, selsDepth f.sels ≤ d)
    {v : List Nat} {fid : Nat} {f : RFragment} (hf : q.fragments[fid]? = some f) (hv : fid ∉ v)
    {sels : List Sel} (hpos : 1 ≤ selsDepth sels) :
    need q d (fid :: v) f.sels < need q d v sels := by
  unfold need
  have hlt : fid < q.fragments.length := (List.getElem?_eq_some_iff.mp hf).1
  have h1 := C12Graph.remainingF_decreases q v fid hlt hv
  have h2 := hd f (List.mem_of_getElem? hf)
  have h3 := Nat.mul_le_mul_right (d + 1) (Nat.succ_le_of_lt h1)
  rw [Nat.succ_mul] at h3
  omega

theorem need_nil_lt_walkFuel (q : Query) (sels : List Sel) (h : selsDepth sels ≤ C02.maxDepth q) :
    need q (C02.maxDepth q) [] sels < walkFuel q := by
  unfold need
  rw [C12Graph.remainingF_nil, C02.walkFuel_eq]
  have h4 : (q.fragments.length + 1) * (C02.maxDepth q + 2) =
      q.fragments.length * (C02.maxDepth q + 1) + q.fragments.length + (C02.maxDepth q + 2) := by
    rw [Nat.succ_mul, Nat.mul_succ]
  omega

/-! ## 3. `Resolve.rootFieldCount` (fuel `depthFuel q`) -/

/-- the body of the fold in `Resolve.rootFieldCount` (the same step as `C06Sound.cstep`; this file does not import
    `C06Sound`) -/
def rfcStep (q : Query) (fuel : Nat) (acc : Nat × List Nat) (sel : Sel) : Nat × List Nat :=
  match sel with
  | .field _ _ _ => (acc.1 + 1, acc.2)
  | .typename => (acc.1 + 1, acc.2)
  | .inline _ sub =>
    let r := rootFieldCount q fuel acc.2 sub
    (acc.1 + r.1, r.2)
  | .spread fid =>
    if acc.2.contains fid then acc else
    match q.fragments[fid]? with
    | none => acc
    | some f =>
      let r := rootFieldCount q fuel (fid :: acc.2) f.sels
      (acc.1 + r.1, r.2)

theorem rfc_succ (q : Query) (fuel : Nat) (visited : List Nat) (sels : List Sel) :
    rootFieldCount q (fuel+1) visited sels = sels.foldl (rfcStep q fuel) (0, visited) := by
  rw [rootFieldCount]
  rfl

theorem rfc_mono (q : Query) : ∀ (fuel : Nat) (visited : List Nat) (sels : List Sel),
    ∀ v ∈ visited, v ∈ (rootFieldCount q fuel visited sels).2 := by
  intro fuel
  induction fuel with
  | zero => intro visited sels v hv; rw [rootFieldCount]; exact hv
  | succ n ih =>
    intro visited sels v hv
    rw [rfc_succ]
    refine foldl_snd_mono _ sels ?_ (0, visited) v hv
    intro acc x _ w hw
    unfold rfcStep
    cases x with
    | field a b c => exact hw
    | typename => exact hw
    | inline t sub => exact ih _ _ w hw
    | spread fid =>
      simp only
      split
      · exact hw
      · split
        · exact hw
        · exact ih _ _ w (List.mem_cons_of_mem _ hw)

theorem rootFieldCount_fuel_eq (q : Query) (d : Nat) (hd : ∀ f ∈ q.fragments, selsDepth f.sels ≤ d) :
    ∀ (fuel fuel' : Nat) (visited : List Nat) (sels : List Sel),
      need q d visited sels < fuel → need q d visited sels < fuel' →
      rootFieldCount q fuel visited sels = rootFieldCount q fuel' visited sels := by
  intro fuel
  induction fuel with
  | zero => intro _ _ _ h; omega
  | succ n ih =>
    intro fuel' visited sels h1 h2
    cases fuel' with
    | zero => omega
    | succ m =>
      rw [rfc_succ, rfc_succ]
      refine foldl_congr_inv _ _ (fun acc => ∀ v ∈ visited, v ∈ acc.2) sels ?_ (0, visited) (fun _ h => h)
      intro acc x hx hinv
      have hacc := need_mono q d hinv
      cases x with
      | field a b c => exact ⟨rfl, hinv⟩
      | typename => exact ⟨rfl, hinv⟩
      | inline t sub =>
        have hlt := selsDepth_inline_lt hx
        have hn : need q d acc.2 sub < need q d visited sels := by
          have := hacc sub
          unfold need at this ⊢; omega
        refine ⟨?_, fun v hv => ?_⟩
        · unfold rfcStep
          simp only
          rw [ih m acc.2 sub (by omega) (by omega)]
        · unfold rfcStep
          exact rfc_mono q _ _ _ v (hinv v hv)
      | spread fid =>
        unfold rfcStep
        simp only
        cases hc : acc.2.contains fid
        · simp only [Bool.false_eq_true, ↓reduceIte]
          cases hf : q.fragments[fid]? with
          | none => exact ⟨rfl, hinv⟩
          | some f =>
            simp only
            have hv : fid ∉ acc.2 := by simpa using hc
            have hn := need_enter q d hd hf hv (selsDepth_pos_of_mem hx)
            have := hacc sels
            refine ⟨?_, fun v hv' => ?_⟩
            · rw [ih m (fid :: acc.2) f.sels (by omega) (by omega)]
            · exact rfc_mono q _ _ _ v (List.mem_cons_of_mem _ (hinv v hv'))
        · simp only [↓reduceIte]
          exact ⟨trivial, hinv⟩

/-- **`rootFieldCount`**: above the fuel `validateSubscriptions` passes the result is fuel independent,
    for every selection set that is not deeper than the operations / fragment bodies of `q` -/
theorem rootFieldCount_fuel_indep (q : Query) (sels : List Sel) (hs : selsDepth sels ≤ C02.maxDepth q) :
    ∀ fuel, depthFuel q ≤ fuel →
      rootFieldCount q fuel [] sels = rootFieldCount q (depthFuel q) [] sels := by
  intro fuel h
  rw [depthFuel_eq_walkFuel] at h ⊢
  have := need_nil_lt_walkFuel q sels hs
  exact rootFieldCount_fuel_eq q _ (C02.frag_depth_le q) _ _ [] sels (by omega) (by omega)

/-- … in particular for the root selection set of every operation (the only call site) -/
theorem rootFieldCount_fuel_indep_op (q : Query) (o : ROperation) (ho : o ∈ q.operations) :
    ∀ fuel, depthFuel q ≤ fuel →
      rootFieldCount q fuel [] o.sels = rootFieldCount q (depthFuel q) [] o.sels :=
  rootFieldCount_fuel_indep q o.sels (C02.op_depth_le q o ho)

/-! ## 4. `Codegen.reachesFragment` (fuel `walkFuel q`) -/

theorem rf_mono (q : Query) (target : Nat) : ∀ (fuel : Nat) (visited : List Nat) (sels : List Sel),
    ∀ v ∈ visited, v ∈ (reachesFragment q target fuel visited sels).2 := by
  intro fuel
  induction fuel with
  | zero => intro visited sels v hv; rw [reachesFragment]; exact hv
  | succ n ih =>
    intro visited sels v hv
    rw [C12Graph.rf_succ]
    refine foldl_snd_mono _ sels ?_ (false, visited) v hv
    intro acc x _ w hw
    unfold C12Graph.rfStep
    split
    · exact hw
    · cases x with
      | field a b c => exact ih _ _ w hw
      | typename => exact hw
      | inline t sub => exact ih _ _ w hw
      | spread fid =>
        simp only
        split
        · exact hw
        · split
          · exact hw
          · split
            · exact hw
            · exact ih _ _ w (List.mem_cons_of_mem _ hw)

theorem reachesFragment_fuel_eq (q : Query) (target d : Nat) (hd : ∀ f ∈ q.fragments, selsDepth f.sels ≤ d) :
    ∀ (fuel fuel' : Nat) (visited : List Nat) (sels : List Sel),
      need q d visited sels < fuel → need q d visited sels < fuel' →
      reachesFragment q target fuel visited sels = reachesFragment q target fuel' visited sels := by
  intro fuel
  induction fuel with
  | zero => intro _ _ _ h; omega
  | succ n ih =>
    intro fuel' visited sels h1 h2
    cases fuel' with
    | zero => omega
    | succ m =>
      rw [C12Graph.rf_succ, C12Graph.rf_succ]
      refine foldl_congr_inv _ _ (fun acc => ∀ v ∈ visited, v ∈ acc.2) sels ?_ (false, visited) (fun _ h => h)
      intro acc x hx hinv
      have hacc := need_mono q d hinv
      unfold C12Graph.rfStep
      cases h1' : acc.1
      · simp only [Bool.false_eq_true, ↓reduceIte]
        cases x with
        | field a b sub =>
          have hlt := selsDepth_field_lt hx
          have hn : need q d acc.2 sub < need q d visited sels := by
            have := hacc sub
            unfold need at this ⊢; omega
          simp only
          rw [ih m acc.2 sub (by omega) (by omega)]
          exact ⟨by trivial, fun v hv => rf_mono q target _ _ _ v (hinv v hv)⟩
        | typename => exact ⟨by trivial, hinv⟩
        | inline t sub =>
          have hlt := selsDepth_inline_lt hx
          have hn : need q d acc.2 sub < need q d visited sels := by
            have := hacc sub
            unfold need at this ⊢; omega
          simp only
          rw [ih m acc.2 sub (by omega) (by omega)]
          exact ⟨by trivial, fun v hv => rf_mono q target _ _ _ v (hinv v hv)⟩
        | spread fid =>
          simp only
          split
          · exact ⟨by trivial, hinv⟩
          · cases hc : acc.2.contains fid
            · simp only [Bool.false_eq_true, ↓reduceIte]
              cases hf : q.fragments[fid]? with
              | none => exact ⟨by trivial, hinv⟩
              | some f =>
                simp only
                have hv : fid ∉ acc.2 := by simpa using hc
                have hn := need_enter q d hd hf hv (selsDepth_pos_of_mem hx)
                have := hacc sels
                rw [ih m (fid :: acc.2) f.sels (by omega) (by omega)]
                exact ⟨by trivial, fun v hv' => rf_mono q target _ _ _ v (List.mem_cons_of_mem _ (hinv v hv'))⟩
            · simp only [↓reduceIte]
              exact ⟨by trivial, hinv⟩
      · simp only [↓reduceIte]
        exact ⟨by trivial, hinv⟩

/-- **`reachesFragment`**: above `walkFuel q` the result (verdict *and* visited set) is fuel
    independent, for every target and every selection set not deeper than the bodies of `q` -/
theorem reachesFragment_fuel_indep (q : Query) (target : Nat) (sels : List Sel)
    (hs : selsDepth sels ≤ C02.maxDepth q) :
    ∀ fuel, walkFuel q ≤ fuel →
      reachesFragment q target fuel [] sels = reachesFragment q target (walkFuel q) [] sels := by
  intro fuel h
  have := need_nil_lt_walkFuel q sels hs
  exact reachesFragment_fuel_eq q target _ (C02.frag_depth_le q) _ _ [] sels (by omega) (by omega)

/-- … in particular for the body of every fragment (the only call site, `fragmentIsRecursive`) -/
theorem reachesFragment_fuel_indep_frag (q : Query) (target : Nat) (f : RFragment) (hf : f ∈ q.fragments) :
    ∀ fuel, walkFuel q ≤ fuel →
      reachesFragment q target fuel [] f.sels = reachesFragment q target (walkFuel q) [] f.sels :=
  reachesFragment_fuel_indep q target f.sels (C02.frag_depth_le q f hf)

/-- `fragmentIsRecursive` is the fuel-free verdict: any fuel `≥ walkFuel q` gives the same answer -/
theorem fragmentIsRecursive_fuel_indep (q : Query) (fid : Nat) :
    ∀ fuel, walkFuel q ≤ fuel →
      (match q.fragments[fid]? with
        | none => false
        | some f => (reachesFragment q fid fuel [] f.sels).1) = fragmentIsRecursive q fid := by
  intro fuel h
  unfold fragmentIsRecursive
  cases hf : q.fragments[fid]? with
  | none => rfl
  | some f =>
    simp only
    rw [reachesFragment_fuel_indep_frag q fid f (List.mem_of_getElem? hf) fuel h]

/-! ## 5. `Codegen.collectSel` (fuel `walkFuel q`) -/

theorem unseenFrags_eq_remainingF (q : Query) (u : UsedTypes) :
    C02.unseenFrags q u = C12Graph.remainingF q u.fragments := rfl

theorem collectSel_fuel_eq (s : Schema) (q : Query) (d : Nat) (hd : ∀ f ∈ q.fragments, selsDepth f.sels ≤ d) :
    ∀ (fuel fuel' : Nat) (u : UsedTypes) (sel : Sel),
      C02.fuelNeed q d u sel ≤ fuel → C02.fuelNeed q d u sel ≤ fuel' →
      collectSel s q fuel u sel = collectSel s q fuel' u sel := by
  intro fuel
  induction fuel with
  | zero =>
    intro _ u sel h
    have := C02.selDepth_pos sel
    unfold C02.fuelNeed at h; omega
  | succ n ih =>
    intro fuel' u sel h1 h2
    cases fuel' with
    | zero =>
      have := C02.selDepth_pos sel
      unfold C02.fuelNeed at h2; omega
    | succ m =>
      -- the fold over a sub-selection set, started in any state that has visited at least `u0`
      have hfold : ∀ (sub : List Sel) (u0 u1 : UsedTypes),
          (∀ x ∈ sub, C02.fuelNeed q d u0 x ≤ n ∧ C02.fuelNeed q d u0 x ≤ m) →
          C02.unseenFrags q u1 ≤ C02.unseenFrags q u0 →
          sub.foldlM (collectSel s q n) u1 = sub.foldlM (collectSel s q m) u1 := by
        intro sub u0 u1 hpre h01
        refine foldlM_congr_inv _ _ (fun b => C02.unseenFrags q b ≤ C02.unseenFrags q u0) sub ?_ u1 h01
        intro b x hx hb
        have hle : C02.fuelNeed q d b x ≤ C02.fuelNeed q d u0 x := by
          unfold C02.fuelNeed
          have := Nat.mul_le_mul_right (d + 1) hb
          omega
        have ⟨hn, hm⟩ := hpre x hx
        refine ⟨ih m b x (by omega) (by omega), fun b' hb' => ?_⟩
        have ⟨hleC, _⟩ := C02.collectSel_spec s q d hd n b x b' (by omega) hb'
        exact Nat.le_trans (C02.unseenFrags_le hleC.frags) hb
      cases sel with
      | typename => simp only [collectSel]
      | field a fid sub =>
        rw [collectSel.eq_2, collectSel.eq_2]
        cases hf : s.getField fid with
        | error e => rfl
        | ok f =>
          simp only [bind, Except.bind]
          apply hfold sub u
          · intro x hx
            have h3 := C02.selDepth_le_of_mem hx
            unfold C02.fuelNeed at h1 h2 ⊢
            rw [selDepth.eq_1] at h1 h2
            omega
          · exact C02.unseenFrags_le (C02.LeC.insertType s q u f.ty.id).frags
      | inline t sub =>
        rw [collectSel.eq_3, collectSel.eq_3]
        apply hfold sub u
        · intro x hx
          have h3 := C02.selDepth_le_of_mem hx
          unfold C02.fuelNeed at h1 h2 ⊢
          rw [selDepth.eq_2] at h1 h2
          omega
        · exact C02.unseenFrags_le (C02.LeC.insertType s q u t).frags
      | spread g =>
        rw [collectSel.eq_4, collectSel.eq_4]
        split
        · rfl
        · rename_i hc
          have hng : g ∉ u.fragments := by simpa using hc
          cases hf : q.getFragment g with
          | error e => rfl
          | ok f =>
            simp only [bind, Except.bind]
            have hf' := C02.getFragment_ok hf
            have hlt : g < q.fragments.length := (List.getElem?_eq_some_iff.mp hf').1
            have hdec := C12Graph.remainingF_decreases q u.fragments g hlt hng
            apply hfold f.sels { u with fragments := g :: u.fragments }
            · intro x hx
              have h3 := C02.selDepth_le_of_mem hx
              have h4 := hd f (List.mem_of_getElem? hf')
              have h5 := Nat.mul_le_mul_right (d + 1) (Nat.succ_le_of_lt hdec)
              rw [Nat.succ_mul] at h5
              unfold C02.fuelNeed at h1 h2 ⊢
              rw [unseenFrags_eq_remainingF] at h1 h2 ⊢
              dsimp only at ⊢
              have := C02.selDepth_pos (.spread g)
              omega
            · exact Nat.le_refl _

/-- **`collectSel`**: above `walkFuel q` the result is fuel independent — in every state `u` of the
    walk, for every selection not deeper than the bodies of `q`; errors included -/
theorem collectSel_fuel_indep (s : Schema) (q : Query) (sel : Sel) (hs : selDepth sel ≤ C02.maxDepth q) :
    ∀ fuel, walkFuel q ≤ fuel → ∀ u, collectSel s q fuel u sel = collectSel s q (walkFuel q) u sel := by
  intro fuel h u
  have hneed : C02.fuelNeed q (C02.maxDepth q) u sel ≤ walkFuel q := by
    have h2 : C02.unseenFrags q u ≤ q.fragments.length := C02.unseen_le_n _ _
    have h3 := Nat.mul_le_mul_right (C02.maxDepth q + 1) h2
    rw [C02.walkFuel_eq]
    unfold C02.fuelNeed
    have h4 : (q.fragments.length + 1) * (C02.maxDepth q + 2) =
        q.fragments.length * (C02.maxDepth q + 1) + q.fragments.length + (C02.maxDepth q + 2) := by
      rw [Nat.succ_mul, Nat.mul_succ]
    omega
  exact collectSel_fuel_eq s q _ (C02.frag_depth_le q) _ _ u sel (by omega) hneed

/-- the selection phase of `allUsedTypes` -/
theorem collectSels_fuel_indep (s : Schema) (q : Query) (sels : List Sel) (hs : selsDepth sels ≤ C02.maxDepth q) :
    ∀ fuel, walkFuel q ≤ fuel → ∀ u,
      sels.foldlM (collectSel s q fuel) u = sels.foldlM (collectSel s q (walkFuel q)) u := by
  intro fuel h u
  refine foldlM_congr_inv _ _ (fun _ => True) sels ?_ u trivial
  intro b x hx _
  exact ⟨collectSel_fuel_indep s q x (Nat.le_trans (C02.selDepth_le_of_mem hx) hs) fuel h b, fun _ _ => trivial⟩

/-! ## 6. `Codegen.usedInputIds` (fuel `#inputs + 1`) -/

theorem usedInputIds_fuel_eq (s : Schema) :
    ∀ (fuel fuel' : Nat) (u : UsedTypes) (i : StoredInput),
      C02.unseenInputs s u < fuel → C02.unseenInputs s u < fuel' →
      usedInputIds s fuel u i = usedInputIds s fuel' u i := by
  intro fuel
  induction fuel with
  | zero => intro _ _ _ h; omega
  | succ n ih =>
    intro fuel' u i h1 h2
    cases fuel' with
    | zero => omega
    | succ m =>
      rw [usedInputIds.eq_2, usedInputIds.eq_2]
      refine foldlM_congr_inv _ _ (fun b => C02.unseenInputs s b ≤ C02.unseenInputs s u) i.fields ?_ u
        (Nat.le_refl _)
      rintro b ⟨fname, ty⟩ _ hb
      have hins : ∀ t, C02.unseenInputs s (b.insertType t) ≤ C02.unseenInputs s u :=
        fun t => Nat.le_trans (C02.unseenInputs_le (fun x hx => C02.mem_insertType.mpr (.inr hx))) hb
      simp only
      cases hid : ty.id with
      | input iid =>
        simp only
        split
        · exact ⟨rfl, fun b' hb' => by cases hb'; exact hb⟩
        · rename_i hc
          cases hi : s.getInput iid with
          | error e => exact ⟨rfl, fun b' hb' => by simp [bind, Except.bind] at hb'⟩
          | ok i2 =>
            simp only [bind, Except.bind]
            have hi2' := C02.getInput_ok hi
            have hlt : iid < s.inputs.length := (List.getElem?_eq_some_iff.mp hi2').1
            have hnot : TypeId.input iid ∉ b.types := by simpa using hc
            have hdec : C02.unseenInputs s (b.insertType (.input iid)) < C02.unseenInputs s b := by
              apply C02.unseen_lt iid hlt
              · simpa using hnot
              · simp [C02.mem_insertType]
              · intro j hj
                simp only [List.contains_eq_mem, decide_eq_true_eq] at hj ⊢
                exact C02.mem_insertType.mpr (.inr hj)
            refine ⟨ih m _ i2 (by omega) (by omega), fun b' hb' => ?_⟩
            have ⟨hle, _⟩ := C02.usedInputIds_spec s n _ i2 b' (by omega) hb'
            exact Nat.le_trans (C02.unseenInputs_le hle.types) (hins _)
      | «enum» k => exact ⟨rfl, fun b' hb' => by cases hb'; exact hins _⟩
      | scalar k => exact ⟨rfl, fun b' hb' => by cases hb'; exact hins _⟩
      | object k => exact ⟨rfl, fun b' hb' => by cases hb'; exact hb⟩
      | interface k => exact ⟨rfl, fun b' hb' => by cases hb'; exact hb⟩
      | union k => exact ⟨rfl, fun b' hb' => by cases hb'; exact hb⟩

/-- **`usedInputIds`**: above the fuel `collectVar` passes, the result is fuel independent — for every
    schema, every state of the used set and every input; no hypothesis (ids out of range are errors) -/
theorem usedInputIds_fuel_indep (s : Schema) (u : UsedTypes) (i : StoredInput) :
    ∀ fuel, s.inputs.length + 1 ≤ fuel →
      usedInputIds s fuel u i = usedInputIds s (s.inputs.length + 1) u i := by
  intro fuel h
  have : C02.unseenInputs s u ≤ s.inputs.length := C02.unseen_le_n _ _
  exact usedInputIds_fuel_eq s _ _ u i (by omega) (by omega)

/-- `collectVar` with any larger fuel is `collectVar` -/
theorem collectVar_fuel_indep (s : Schema) (u : UsedTypes) (v : RVariable) :
    ∀ fuel, s.inputs.length + 1 ≤ fuel →
      (match v.ty.id with
        | .input iid => do
          let i ← s.getInput iid
          usedInputIds s fuel (u.insertType v.ty.id) i
        | .scalar _ | .enum _ => pure (u.insertType v.ty.id)
        | _ => pure u) = collectVar s u v := by
  intro fuel h
  unfold collectVar
  cases hid : v.ty.id with
  | input iid =>
    simp only
    cases hi : s.getInput iid with
    | error e => rfl
    | ok i => simp only [bind, Except.bind]; exact usedInputIds_fuel_indep s _ i fuel h
  | _ => rfl

/-- **`allUsedTypes`** computed with any larger fuels (selection walk `≥ walkFuel q`, input walk
    `≥ #inputs + 1`) is `allUsedTypes`: neither fuel of the used-types computation is ever felt -/
theorem allUsedTypes_fuel_indep (s : Schema) (q : Query) (op : Nat) :
    ∀ fuel, walkFuel q ≤ fuel →
      (do let o ← q.getOperation op
          let u ← o.sels.foldlM (collectSel s q fuel) {}
          (q.opVariables op).foldlM (collectVar s) u) = allUsedTypes s q op := by
  intro fuel h
  unfold allUsedTypes
  cases ho : q.getOperation op with
  | error e => rfl
  | ok o =>
    simp only [bind, Except.bind]
    have hmem : o ∈ q.operations := List.mem_of_getElem? (C02.getOperation_ok ho)
    rw [collectSels_fuel_indep s q o.sels (C02.op_depth_le q o hmem) fuel h]

/-! ## 7. `Codegen.containsWithoutIndirection` (fuel `#inputs + 1`; visited set keyed by *name*) -/

theorem cwi_mono (s : Schema) (target : Nat) : ∀ (fuel : Nat) (visited : List String) (input : StoredInput),
    ∀ v ∈ visited, v ∈ (containsWithoutIndirection s target fuel visited input).2 := by
  intro fuel
  induction fuel with
  | zero => intro visited input v hv; rw [containsWithoutIndirection]; exact hv
  | succ n ih =>
    intro visited input v hv
    rw [C12Graph.cwi_succ]
    refine foldl_snd_mono _ input.fields ?_ (false, input.name :: visited) v (List.mem_cons_of_mem _ hv)
    intro acc x _ w hw
    unfold C12Graph.cwiStep
    split
    · exact hw
    · split
      · exact hw
      · split
        · exact hw
        · split
          · exact hw
          · split
            · exact hw
            · split
              · exact hw
              · exact ih _ _ w hw

theorem containsWithoutIndirection_fuel_eq (s : Schema) (target : Nat) :
    ∀ (fuel fuel' : Nat) (visited : List String) (input : StoredInput),
      C12Graph.remaining s (input.name :: visited) < fuel →
      C12Graph.remaining s (input.name :: visited) < fuel' →
      containsWithoutIndirection s target fuel visited input =
        containsWithoutIndirection s target fuel' visited input := by
  intro fuel
  induction fuel with
  | zero => intro _ _ _ h; omega
  | succ n ih =>
    intro fuel' visited input h1 h2
    cases fuel' with
    | zero => omega
    | succ m =>
      rw [C12Graph.cwi_succ, C12Graph.cwi_succ]
      refine foldl_congr_inv _ _ (fun acc => ∀ v ∈ input.name :: visited, v ∈ acc.2) input.fields ?_
        (false, input.name :: visited) (fun _ h => h)
      intro acc x _ hinv
      refine ⟨?_, fun v hv => ?_⟩
      · unfold C12Graph.cwiStep
        cases h1' : acc.1 <;> simp only [Bool.false_eq_true, ↓reduceIte]
        cases h2' : x.2.isIndirected <;> simp only [Bool.false_eq_true, ↓reduceIte]
        cases h3' : x.2.id.asInput? with
        | none => rfl
        | some fid =>
          simp only
          cases h4' : (fid == target) <;> simp only [Bool.false_eq_true, ↓reduceIte]
          cases hi : s.inputs[fid]? with
          | none => rfl
          | some i =>
            simp only
            cases hc : acc.2.contains i.name <;> simp only [Bool.false_eq_true, ↓reduceIte]
            have hv : i.name ∉ acc.2 := by simpa using hc
            have hdec := C12Graph.remaining_decreases s acc.2 fid i hi hv
            have hle := C12Graph.remaining_mono s hinv
            exact ih m acc.2 i (by omega) (by omega)
      · have hstep : ∀ w ∈ acc.2, w ∈ (C12Graph.cwiStep s target n acc x).2 := by
          intro w hw
          unfold C12Graph.cwiStep
          split
          · exact hw
          · split
            · exact hw
            · split
              · exact hw
              · split
                · exact hw
                · split
                  · exact hw
                  · split
                    · exact hw
                    · exact cwi_mono s target _ _ _ w hw
        exact hstep v (hinv v hv)

/-- **`containsWithoutIndirection`**: above the fuel `inputIsRecursive` passes, the result (verdict
    *and* visited set) is fuel independent — for every schema, target, visited set and input; no
    hypothesis, although the visited set is keyed by name (duplicate names and ids out of range included) -/
theorem containsWithoutIndirection_fuel_indep (s : Schema) (target : Nat) (visited : List String)
    (input : StoredInput) :
    ∀ fuel, s.inputs.length + 1 ≤ fuel →
      containsWithoutIndirection s target fuel visited input =
        containsWithoutIndirection s target (s.inputs.length + 1) visited input := by
  intro fuel h
  have h1 : C12Graph.remaining s (input.name :: visited) ≤ s.inputs.length := by
    have := C12Graph.remaining_mono s (v := []) (v' := input.name :: visited) (fun _ h => by cases h)
    rw [C12Graph.remaining_nil] at this
    exact this
  exact containsWithoutIndirection_fuel_eq s target _ _ visited input (by omega) (by omega)

/-- `inputIsRecursive` is the fuel-free verdict -/
theorem inputIsRecursive_fuel_indep (s : Schema) (iid : Nat) :
    ∀ fuel, s.inputs.length + 1 ≤ fuel →
      (match s.inputs[iid]? with
        | none => false
        | some i => (containsWithoutIndirection s iid fuel [] i).1) = inputIsRecursive s iid := by
  intro fuel h
  unfold inputIsRecursive
  cases hf : s.inputs[iid]? with
  | none => rfl
  | some i =>
    simp only
    rw [containsWithoutIndirection_fuel_indep s iid [] i fuel h]

/-! ## 8. the side condition is needed; the theorems apply to cyclic documents; a spec-side walk that
is *not* fuel independent -/

/-- `rootFieldCount` / `reachesFragment` / `collectSel` on a selection set that is **deeper** than every
    body of `q` (never passed by the model): the fuel formula does not cover it, the result changes -/
theorem depth_hypothesis_needed :
    let q : Query := {}
    let deep : List Sel := [.inline (.object 0) [.inline (.object 0) [.inline (.object 0) [.typename, .spread 0]]]]
    depthFuel q = 3 ∧ walkFuel q = 3 ∧
    rootFieldCount q 3 [] deep = (0, []) ∧ rootFieldCount q 4 [] deep = (1, []) ∧
    reachesFragment q 0 3 [] deep = (false, []) ∧ reachesFragment q 0 4 [] deep = (true, []) := by
  decide

/-- `F0 { f { ...F1 } }`, `F1 { __typename ... on T { ...F0 } }`, `F2 { ...F0 }`; `query { ...F2 g }` -/
def cyc : Query :=
  { fragments := [ { name := "F0", on := .object 0, sels := [.field none 0 [.spread 1]] },
                   { name := "F1", on := .object 0, sels := [.typename, .inline (.object 0) [.spread 0]] },
                   { name := "F2", on := .object 0, sels := [.spread 0] } ],
    operations := [ { name := "Q", kind := .subscription, objectId := 0, sels := [.spread 2, .field none 1 []] } ] }

example : ∀ fuel, depthFuel cyc ≤ fuel → (rootFieldCount cyc fuel [] [.spread 2, .field none 1 []]).1 = 2 := by
  intro fuel h
  have := rootFieldCount_fuel_indep_op cyc _ (List.mem_singleton.mpr rfl) fuel h
  simp only at this
  rw [this]; decide

example : ∀ fuel, walkFuel cyc ≤ fuel →
    (match cyc.fragments[0]? with
      | none => false
      | some f => (reachesFragment cyc 0 fuel [] f.sels).1) = true := by
  intro fuel h
  rw [fragmentIsRecursive_fuel_indep cyc 0 fuel h]; decide

/-- **a walk of the model whose result does change above the fuel it is given** — on the *specification*
    side (`Valid.rootKeys`, no visited set, fuel `(#fragments+1)·(depth+1)+1` in `Valid.validDef`): on the
    cyclic fragment `fragment F on S { a ...F }` the key list keeps growing with the fuel.  `validDef`
    only looks at `eraseDups` of it (the set of keys, here `{a}` at both fuels); the set, and with it the
    verdict of the rule, *is* fuel independent: `C17F.rootKeys_mem_fuel_indep`,
    `C17F.validDef_subscription_fuel_indep` in `C17FuelSpec.lean`. -/
theorem rootKeys_not_fuel_indep :
    let ft : List (String × String × List QSel) := [("F", "S", [.field none "a" [], .spread "F"])]
    let sels : List QSel := [.spread "F"]
    let F := (ft.length + 1) * (Valid.qselsDepth sels + 1) + 1
    Valid.rootKeys ft F sels = ["a", "a", "a", "a"] ∧ Valid.rootKeys ft (F + 1) sels = ["a", "a", "a", "a", "a"] ∧
    (Valid.rootKeys ft F sels).eraseDups = (Valid.rootKeys ft (F + 1) sels).eraseDups := by
  decide

end C17F
end GqlVerif
