import GqlVerif.Model.StrLit
import GqlVerif.Proofs.C05Body
/-!
# C05 — the `QUERY` constant survives `quote!`'s string-literal escaping and rustc's lexer (`Model/StrLit.lean`)

Everything holds for every string `s` and every `p : Char → Bool` (the Unicode tables of `char::escape_debug`, a
parameter).  The pivot is the table-free relation `IsEscapeOf lit s` ("`lit` spells `s` character by character"): what
proc_macro2's fallback printer and rustc's own `proc_macro::Literal::string` emit satisfies it, and it is sound for
rustc's un-escaper (`unescape_of_isEscapeOf`, whatever printer produced the literal); the round trips, the meaning of
the driver request `(strlit tok src)` and the composition with `C05Body.body_of_generate` follow.  The last section
holds evaluated test vectors and negative witnesses.
-/

namespace GqlVerif
namespace C05L
open StrLit

/-! ## hex digits -/

theorem hexDigit_spec : ∀ d, d < 16 →
    hexVal? (hexDigit d) = some d ∧ hexDigit d ≠ '}' ∧ hexDigit d ≠ '_' := by decide

theorem horner_step (a d P m : Nat) : (a * 16 + d) * P + m = a * (P * 16) + (m + P * d) := by
  rw [Nat.add_mul, Nat.mul_assoc, Nat.mul_comm 16 P, Nat.mul_comm d P]
  ac_rfl

theorem scanU_hexFixed (k : Nat) : ∀ (n acc nd : Nat) (rest : List Char), nd + k ≤ 6 →
    scanU (hexFixed k n ++ '}' :: rest) acc nd = some (acc * 16 ^ k + n % 16 ^ k, rest) := by
  induction k with
  | zero => intro n acc nd rest _; simp [hexFixed, scanU, Nat.mod_one]
  | succ k ih =>
    intro n acc nd rest hle
    have hd : n / 16 ^ k % 16 < 16 := Nat.mod_lt _ (by decide)
    obtain ⟨h1, h2, h3⟩ := hexDigit_spec _ hd
    have hnd : nd < 6 := by omega
    simp only [hexFixed, List.cons_append, scanU, h1, h2, h3, if_false, hnd, if_true]
    rw [ih n _ _ rest (by omega), Nat.mod_pow_succ (x := n) (b := 16) (k := k), Nat.pow_succ]
    rw [horner_step]

theorem hexMore_spec (n : Nat) (h : n < 0x110000) : hexMore n + 1 ≤ 6 ∧ n < 16 ^ (hexMore n + 1) := by
  unfold hexMore
  split
  · exact ⟨by omega, by omega⟩
  · split
    · exact ⟨by omega, by omega⟩
    · split
      · exact ⟨by omega, by omega⟩
      · split
        · exact ⟨by omega, by omega⟩
        · split
          · exact ⟨by omega, by omega⟩
          · exact ⟨by omega, by omega⟩

theorem toNat_lt (c : Char) : c.toNat < 0x110000 := by
  have : c.toNat.isValidChar := c.valid
  unfold Nat.isValidChar at this
  omega

/-! ## `matchEscape` and `matchChar`, escape kind by escape kind

`split` and `simp` re-simplify the whole remaining `if` chain of `matchEscape` at every level; the chain is
therefore walked once, by hand, in `matchEscape_inv`, and everything else goes through the statements below. -/

theorem matchEscape_x (c h l : Char) (r : List Char) :
    matchEscape c 'x' (h :: l :: r) =
      match hexVal? h, hexVal? l with
      | some hv, some lv => if hv ≤ 7 ∧ c.toNat = hv * 16 + lv then some r else none
      | _, _ => none := rfl

theorem matchEscape_u (c d : Char) (r : List Char) :
    matchEscape c 'u' ('{' :: d :: r) =
      match hexVal? d with
      | some h =>
        match scanU r h 1 with
        | some (v, rest) => if v = c.toNat then some rest else none
        | none => none
      | none => none := rfl

theorem matchChar_raw {c : Char} (r : List Char) (h1 : c ≠ '\\') (h2 : c ≠ '"') (h3 : c ≠ '\r') :
    matchChar c (c :: r) = some r := by
  show (if c = '\\' then _ else if c = '"' ∨ c = '\r' then none else if c = c then some r else none) = _
  rw [if_neg h1, if_neg (fun h => h.elim h2 h3), if_pos rfl]

/-- inversion of `matchEscape` at a one-character escape `e` spelling `v` (`hs`: what `step` says of `e`; `hm`: the equation of
    `matchEscape` at `e`): a match means `c = v` and consumes nothing -/
theorem fixed_inv {e v : Char} (hs : step .bs e = some (.normal, some v))
    (hm : ∀ c t, matchEscape c e t = if c = v then some t else none) {c : Char} {r r' : List Char}
    (h : matchEscape c e r = some r') :
    step .bs e = some (.normal, some c) ∧ (∀ t, matchEscape c e t = some t) ∧ r = r' := by
  rw [hm] at h
  split at h
  · next hc =>
    cases h
    subst hc
    exact ⟨hs, fun t => by rw [hm, if_pos rfl], rfl⟩
  · cases h

/-- what `matchEscape c e r = some r'` means: a one-character escape that `step` reads as `c` (and then
    `matchEscape` accepts it before any text), `xHL` with `c = 0xHL ≤ 0x7F`, or `u{D…}` with value `c` -/
theorem matchEscape_inv {c e : Char} {r r' : List Char} (h : matchEscape c e r = some r') :
    (step .bs e = some (.normal, some c) ∧ (∀ t, matchEscape c e t = some t) ∧ r = r') ∨
    (∃ x l hv lv, e = 'x' ∧ r = x :: l :: r' ∧ hexVal? x = some hv ∧ hexVal? l = some lv ∧ hv ≤ 7 ∧
      c.toNat = hv * 16 + lv) ∨
    (∃ d t hd, e = 'u' ∧ r = '{' :: d :: t ∧ hexVal? d = some hd ∧ scanU t hd 1 = some (c.toNat, r')) := by
  by_cases hf : e ∈ ['n', 'r', 't', '\\', '0', '\'', '"']
  · simp only [List.mem_cons, List.not_mem_nil, or_false] at hf
    rcases hf with rfl | rfl | rfl | rfl | rfl | rfl | rfl <;> exact .inl (fixed_inv rfl (fun _ _ => rfl) h)
  simp only [List.mem_cons, List.not_mem_nil, or_false, not_or] at hf
  obtain ⟨h1, h2, h3, h4, h5, h6, h7⟩ := hf
  by_cases h8 : e = 'x'
  · subst h8
    match r, h with
    | [], h => cases h
    | [_], h => cases h
    | x :: l :: t, h =>
      rw [matchEscape_x] at h
      cases hx : hexVal? x with
      | none => simp only [hx] at h; cases h
      | some hv =>
        cases hl : hexVal? l with
        | none => simp only [hx, hl] at h; cases h
        | some lv =>
          simp only [hx, hl] at h
          split at h
          · next hc =>
            cases h
            exact .inr (.inl ⟨x, l, hv, lv, rfl, rfl, hx, hl, hc.1, hc.2⟩)
          · cases h
  by_cases h9 : e = 'u'
  · subst h9
    match r, h with
    | [], h => cases h
    | [_], h => cases h
    | b :: d :: t, h =>
      by_cases hb : b = '{'
      · subst hb
        rw [matchEscape_u] at h
        cases hd : hexVal? d with
        | none => simp only [hd] at h; cases h
        | some dv =>
          cases hs : scanU t dv 1 with
          | none => simp only [hd, hs] at h; cases h
          | some vr =>
            obtain ⟨v, rest⟩ := vr
            simp only [hd, hs] at h
            split at h
            · next hv =>
              cases h
              subst hv
              exact .inr (.inr ⟨d, t, dv, rfl, rfl, hd, hs⟩)
            · cases h
      · rw [show matchEscape c 'u' (b :: d :: t) = none from if_neg hb] at h
        cases h
  · unfold matchEscape at h
    rw [if_neg h1, if_neg h2, if_neg h3, if_neg h4, if_neg h5, if_neg h6, if_neg h7, if_neg h8, if_neg h9] at h
    cases h

/-! ## the printers' output is accepted by the relation -/

theorem matchEscape_u_hexOf (c : Char) (rest : List Char) :
    matchEscape c 'u' ('{' :: (hexOf c.toNat ++ '}' :: rest)) = some rest := by
  obtain ⟨h6, hlt⟩ := hexMore_spec c.toNat (toNat_lt c)
  have hd : c.toNat / 16 ^ hexMore c.toNat % 16 < 16 := Nat.mod_lt _ (by decide)
  obtain ⟨h1, _, _⟩ := hexDigit_spec _ hd
  have hval : c.toNat / 16 ^ hexMore c.toNat % 16 * 16 ^ hexMore c.toNat + c.toNat % 16 ^ hexMore c.toNat
      = c.toNat := by
    generalize hexMore c.toNat = m at hlt
    have := Nat.mod_pow_succ (x := c.toNat) (b := 16) (k := m)
    rw [Nat.mod_eq_of_lt hlt] at this
    rw [Nat.mul_comm]; omega
  show matchEscape c 'u' ('{' :: hexDigit _ :: (hexFixed (hexMore c.toNat) c.toNat ++ '}' :: rest)) = _
  rw [matchEscape_u]
  simp only [h1, scanU_hexFixed _ _ _ _ _ (by omega : 1 + hexMore c.toNat ≤ 6), hval, if_true]

theorem matchChar_escapeDebug (p : Char → Bool) (c : Char) (rest : List Char) :
    matchChar c (escapeDebug p c ++ rest) = some rest := by
  by_cases hc : c ∈ ['\x00', '\t', '\r', '\n', '\\', '"', '\'']
  · simp only [List.mem_cons, List.not_mem_nil, or_false] at hc
    rcases hc with rfl | rfl | rfl | rfl | rfl | rfl | rfl <;> rfl
  · simp only [List.mem_cons, List.not_mem_nil, or_false, not_or] at hc
    obtain ⟨h1, h2, h3, h4, h5, h6, h7⟩ := hc
    unfold escapeDebug
    rw [if_neg h1, if_neg h2, if_neg h3, if_neg h4, if_neg h5, if_neg h6, if_neg h7]
    by_cases hp : p c = true
    · rw [if_pos hp]
      simp only [List.cons_append, List.append_assoc]
      exact matchEscape_u_hexOf c rest
    · rw [if_neg hp]
      exact matchChar_raw rest h5 h6 h3

theorem matchChar_escChar (p : Char → Bool) (c : Char) (oct : Bool) (rest : List Char) :
    matchChar c (escChar p c oct ++ rest) = some rest := by
  unfold escChar
  by_cases h0 : c = '\x00'
  · subst h0
    cases oct <;> rfl
  rw [if_neg h0]
  by_cases hq : c = '\''
  · subst hq
    rfl
  rw [if_neg hq]
  exact matchChar_escapeDebug p c rest

/-- **the fallback printer's output satisfies the table-free relation**, whatever the Unicode tables say -/
theorem isEscapeOf_escapeWith (p : Char → Bool) (s : List Char) : IsEscapeOf (escapeWith p s) s = true := by
  induction s with
  | nil => rfl
  | cons c cs ih => simp only [escapeWith, IsEscapeOf, matchChar_escChar, ih]

/-- … and so does rustc's own `proc_macro::Literal::string` (always `\0`) -/
theorem isEscapeOf_escapeRustcWith (p : Char → Bool) (s : List Char) :
    IsEscapeOf (escapeRustcWith p s) s = true := by
  induction s with
  | nil => rfl
  | cons c cs ih =>
    have h : matchChar c ((if c = '\'' then ['\''] else escapeDebug p c) ++ escapeRustcWith p cs)
        = some (escapeRustcWith p cs) := by
      split
      · subst c; rfl
      · exact matchChar_escapeDebug p c _
    simp only [escapeRustcWith, IsEscapeOf, h, ih]

/-! ## soundness of the relation w.r.t. rustc's un-escaper -/

@[simp] theorem map_emit_none (x : Option (List Char)) : x.map (emit none) = x := by cases x <;> rfl
@[simp] theorem map_emit_some (c : Char) (x : Option (List Char)) :
    x.map (emit (some c)) = x.map (c :: ·) := by cases x <;> rfl

theorem run_step {st st' : St} {c : Char} {out : Option Char} (cs : List Char)
    (h : step st c = some (st', out)) : run st (c :: cs) = (run st' cs).map (emit out) := by
  simp only [run, h]

theorem run_reject {st : St} {c : Char} (cs : List Char) (h : step st c = none) : run st (c :: cs) = none := by
  simp only [run, h]

theorem run_un_close (acc nd : Nat) (cs : List Char) :
    run (.un acc nd) ('}' :: cs) =
      if acc.isValidChar then (run .normal cs).map (Char.ofNat acc :: ·) else none := by
  split
  · rename_i hv
    rw [run_step (st' := .normal) (out := some (Char.ofNat acc)) _ (by simp only [step, if_true, hv]), map_emit_some]
  · rename_i hv
    exact run_reject _ (by simp only [step, if_true, hv, if_false])

theorem run_un_underscore (acc nd : Nat) (cs : List Char) :
    run (.un acc nd) ('_' :: cs) = run (.un acc nd) cs := by
  rw [run_step (st' := .un acc nd) (out := none) _ (by simp [step]), map_emit_none]

theorem run_un_digit {c : Char} {h : Nat} (acc nd : Nat) (cs : List Char) (h1 : c ≠ '}') (h2 : c ≠ '_')
    (hh : hexVal? c = some h) (hnd : nd < 6) :
    run (.un acc nd) (c :: cs) = run (.un (acc * 16 + h) (nd + 1)) cs := by
  rw [run_step (st' := .un (acc * 16 + h) (nd + 1)) (out := none) _ (by simp [step, h1, h2, hh, hnd]), map_emit_none]

theorem scanU_run : ∀ (l : List Char) (acc nd v : Nat) (rest : List Char), scanU l acc nd = some (v, rest) →
    run (.un acc nd) l = if v.isValidChar then (run .normal rest).map (Char.ofNat v :: ·) else none := by
  intro l
  induction l with
  | nil => intro acc nd v rest h; simp [scanU] at h
  | cons c cs ih =>
    intro acc nd v rest h
    simp only [scanU] at h
    split at h
    · simp only [Option.some.injEq, Prod.mk.injEq] at h
      obtain ⟨rfl, rfl⟩ := h
      rename_i hc; subst hc
      exact run_un_close _ _ _
    · split at h
      · rename_i _ hc; subst hc
        rw [run_un_underscore]; exact ih _ _ _ _ h
      · split at h
        · split at h
          · rename_i h1 h2 _ hv hh hnd
            rw [run_un_digit _ _ _ h1 h2 hh hnd]; exact ih _ _ _ _ h
          · simp at h
        · simp at h

theorem run_bs_x {h l : Char} {hv lv : Nat} (r : List Char) (h1 : hexVal? h = some hv) (h2 : hexVal? l = some lv)
    (h7 : hv ≤ 7) :
    run .bs ('x' :: h :: l :: r) = (run .normal r).map (Char.ofNat (hv * 16 + lv) :: ·) := by
  rw [run_step (st' := .x1) (out := none) _ (by decide), map_emit_none,
    run_step (st' := .x2 hv) (out := none) _ (by simp only [step, h1, h7, if_true]), map_emit_none,
    run_step (st' := .normal) (out := some (Char.ofNat (hv * 16 + lv))) _ (by simp only [step, h2]), map_emit_some]

theorem run_bs_u {d : Char} {h : Nat} (r : List Char) (h1 : hexVal? d = some h) :
    run .bs ('u' :: '{' :: d :: r) = run (.un h 1) r := by
  rw [run_step (st' := .u0) (out := none) _ (by decide), map_emit_none,
    run_step (st' := .u1) (out := none) _ (by decide), map_emit_none,
    run_step (st' := .un h 1) (out := none) _ (by simp only [step, h1]), map_emit_none]

theorem matchEscape_run {c e : Char} {r r' : List Char} (h : matchEscape c e r = some r') :
    run .bs (e :: r) = (run .normal r').map (c :: ·) := by
  obtain ⟨hs, _, rfl⟩ | ⟨x, l, hv, lv, rfl, rfl, h1, h2, h7, hc⟩ | ⟨d, t, hd, rfl, rfl, h1, hs⟩ := matchEscape_inv h
  · rw [run_step _ hs, map_emit_some]
  · rw [run_bs_x _ h1 h2 h7, ← hc, Char.ofNat_toNat]
  · rw [run_bs_u _ h1, scanU_run _ _ _ _ _ hs, if_pos (show c.toNat.isValidChar from c.valid), Char.ofNat_toNat]

theorem matchChar_run {c : Char} {lit r : List Char} (h : matchChar c lit = some r) :
    run .normal lit = (run .normal r).map (c :: ·) := by
  cases lit with
  | nil => simp [matchChar] at h
  | cons d t =>
    simp only [matchChar] at h
    split at h
    · rename_i hd; subst hd
      cases t with
      | nil => simp at h
      | cons e t' =>
        rw [run_step (st' := .bs) (out := none) _ (by decide), map_emit_none]
        exact matchEscape_run h
    · split at h
      · simp at h
      · split at h
        · rename_i h1 h2 h3
          cases h; subst h3
          have hq : d ≠ '"' := fun e => h2 (Or.inl e)
          have hr : d ≠ '\r' := fun e => h2 (Or.inr e)
          rw [run_step (st' := .normal) (out := some d) _ (by simp [step, normalStep, h1, hq, hr]), map_emit_some]
        · simp at h

/-- **soundness of the relation**: whatever printer produced the literal, if `IsEscapeOf lit s` holds then rustc's
    value of the literal is `s` -/
theorem unescape_of_isEscapeOf {lit s : List Char} (h : IsEscapeOf lit s = true) : unescape lit = some s := by
  unfold unescape
  induction s generalizing lit with
  | nil =>
    simp only [IsEscapeOf, List.isEmpty_iff] at h
    subst h; rfl
  | cons c cs ih =>
    simp only [IsEscapeOf] at h
    split at h
    · rename_i r hm
      rw [matchChar_run hm, ih h]; rfl
    · simp at h

/-- **round trip of the fallback printer**, for every string and every Unicode table -/
theorem unescape_escapeWith (p : Char → Bool) (s : List Char) : unescape (escapeWith p s) = some s :=
  unescape_of_isEscapeOf (isEscapeOf_escapeWith p s)

/-- … and of rustc's own `proc_macro::Literal::string` (the derive path) -/
theorem unescape_escapeRustcWith (p : Char → Bool) (s : List Char) : unescape (escapeRustcWith p s) = some s :=
  unescape_of_isEscapeOf (isEscapeOf_escapeRustcWith p s)

/-! ## whole tokens -/

theorem litValue_quoted (lit : List Char) : litValue ('"' :: (lit ++ ['"'])) = unescape lit := by
  simp [litValue]

theorem cookedContent_quoted (lit : List Char) : cookedContent ('"' :: (lit ++ ['"'])) = some lit := by
  simp [cookedContent]

/-- the whole token `"…"` the fallback printer emits has the value `s` -/
theorem litValue_string_token (p : Char → Bool) (s : List Char) :
    litValue ('"' :: escapeWith p s ++ ['"']) = some s :=
  (litValue_quoted (escapeWith p s)).trans (unescape_escapeWith p s)

theorem litValue_stringToken (p : Char → Bool) (s : List Char) : litValue (stringToken p s) = some s :=
  litValue_string_token p s

theorem litValue_stringTokenRustc (p : Char → Bool) (s : List Char) : litValue (stringTokenRustc p s) = some s := by
  unfold stringTokenRustc; rw [litValue_quoted, unescape_escapeRustcWith]

/-! ## prefixes; a raw CR is rejected -/

theorem scanU_append (rest : List Char) : ∀ (l : List Char) (acc nd v : Nat) (r : List Char),
    scanU l acc nd = some (v, r) → scanU (l ++ rest) acc nd = some (v, r ++ rest) := by
  intro l
  induction l with
  | nil => intro acc nd v r h; simp [scanU] at h
  | cons c cs ih =>
    intro acc nd v r h
    simp only [scanU, List.cons_append] at h ⊢
    split at h
    · simp_all
    · split at h
      · simp only [*, if_true]; exact ih _ _ _ _ h
      · split at h
        · split at h
          · simp only [*, if_true, if_false]; exact ih _ _ _ _ h
          · simp at h
        · simp at h

theorem matchEscape_append {c e : Char} {r r' : List Char} (rest : List Char)
    (h : matchEscape c e r = some r') : matchEscape c e (r ++ rest) = some (r' ++ rest) := by
  obtain ⟨_, hm, rfl⟩ | ⟨x, l, hv, lv, rfl, rfl, h1, h2, h7, hc⟩ | ⟨d, t, hd, rfl, rfl, h1, hs⟩ := matchEscape_inv h
  · exact hm _
  · simp only [List.cons_append, matchEscape_x, h1, h2, h7, hc, and_self, if_true]
  · simp only [List.cons_append, matchEscape_u, h1, scanU_append rest _ _ _ _ _ hs, if_true]

theorem matchChar_append {c : Char} {lit r : List Char} (rest : List Char)
    (h : matchChar c lit = some r) : matchChar c (lit ++ rest) = some (r ++ rest) := by
  cases lit with
  | nil => simp [matchChar] at h
  | cons d t =>
    simp only [matchChar, List.cons_append] at h ⊢
    split at h
    · cases t with
      | nil => simp at h
      | cons e t' => simp only [*, if_true, List.cons_append] at h ⊢; exact matchEscape_append rest h
    · split at h
      · simp at h
      · split at h
        · simp_all
        · simp at h

/-- a correctly spelled prefix is un-escaped to what it spells, whatever follows -/
theorem run_append_of_isEscapeOf {pre s : List Char} (rest : List Char) (h : IsEscapeOf pre s = true) :
    run .normal (pre ++ rest) = (run .normal rest).map (s ++ ·) := by
  induction s generalizing pre with
  | nil =>
    simp only [IsEscapeOf, List.isEmpty_iff] at h
    subst h; simp
  | cons c cs ih =>
    simp only [IsEscapeOf] at h
    split at h
    · rename_i r hm
      rw [matchChar_run (matchChar_append rest hm), ih h, Option.map_map]; rfl
    · simp at h

theorem run_bare_cr (c : Char) (post : List Char) (hc : c ≠ '\n') : run .normal ('\r' :: c :: post) = none := by
  rw [run_step (st' := .cr) (out := none) _ (by decide), map_emit_none]
  exact run_reject _ (by simp [step, hc])

/-- **a bare CR inside a literal is rejected**: after any correctly spelled prefix, a raw CR that is not followed by
    LF (or ends the literal) makes rustc reject the literal — a printer that left CR raw would produce code that
    does not compile (it could not silently change the value) -/
theorem bare_cr_rejected {pre s : List Char} (h : IsEscapeOf pre s = true) :
    unescape (pre ++ ['\r']) = none ∧
    ∀ (c : Char) (post : List Char), c ≠ '\n' → unescape (pre ++ '\r' :: c :: post) = none := by
  unfold unescape
  refine ⟨?_, fun c post hc => ?_⟩
  · rw [run_append_of_isEscapeOf _ h]
    have : run .normal ['\r'] = none := by decide
    rw [this]; rfl
  · rw [run_append_of_isEscapeOf _ h, run_bare_cr c post hc]; rfl

/-! ## the driver's verdict -/

theorem isRawToken_quoted (l : List Char) : isRawToken ('"' :: l) = false := by
  simp [isRawToken]

/-- what `(ok)` of the driver request `(strlit tok src)` means -/
theorem check_ok_iff (tok src : List Char) :
    check tok src = .ok ↔
      litValue tok = some src ∧
        (isRawToken tok = true ∨ ∃ lit, cookedContent tok = some lit ∧ IsEscapeOf lit src = true) := by
  unfold check
  cases hv : litValue tok with
  | none => simp
  | some v =>
    by_cases hvs : v = src
    · subst hvs
      cases hr : isRawToken tok with
      | true => simp
      | false =>
        cases hc : cookedContent tok with
        | none => simp
        | some lit => cases hi : IsEscapeOf lit v <;> simp [hi]
    · simp [hvs]

/-- the fallback printer's token always gets `(ok)` -/
theorem check_stringToken (p : Char → Bool) (s : List Char) : check (stringToken p s) s = .ok := by
  rw [check_ok_iff]
  exact ⟨litValue_stringToken p s, Or.inr ⟨_, cookedContent_quoted _, isEscapeOf_escapeWith p s⟩⟩

theorem check_stringTokenRustc (p : Char → Bool) (s : List Char) : check (stringTokenRustc p s) s = .ok := by
  rw [check_ok_iff]
  exact ⟨litValue_stringTokenRustc p s, Or.inr ⟨_, cookedContent_quoted _, isEscapeOf_escapeRustcWith p s⟩⟩

/-! ## composed with C05: the request body's `query` after the literal round trip -/

/-- **`QUERY` (and `OPERATION_NAME`) survive `quote!`'s string-literal escaping and rustc's lexer**: for a module of
    `Codegen.generate`, the value rustc gives the emitted `pub const QUERY: &str = "…";` is the document text
    passed in, character for character; hence the body `build_query` serializes — built from the *compiled*
    constants `q`, `n` — carries the source text under `query` and the operation's name as written under
    `operationName`.  For every `p` (Unicode tables of `char::escape_debug`). -/
theorem query_constant_roundtrip (p : Char → Bool) (s : Schema) (cs : CaseFns) (o : Options) (text : String)
    (doc : QDoc) (ms : List Module) (M : Module) (v : Json)
    (h : Codegen.generate s cs o text doc = .ok ms) (hM : M ∈ ms) :
    litValue (stringToken p M.query.toList) = some text.toList ∧
    litValue (stringToken p M.operationName.toList) = some M.operationName.toList ∧
    ∀ q n : List Char,
      litValue (stringToken p M.query.toList) = some q →
      litValue (stringToken p M.operationName.toList) = some n →
      ∃ name, name ∈ Valid.opNames doc ∧ M.operationName = name ∧
        Envelope.serQueryBody { variables := v, query := String.ofList q, operationName := String.ofList n } =
          .obj [("variables", v), ("query", .str text), ("operationName", .str name)] := by
  obtain ⟨htext, _, i, _, _, _, _, hith, _⟩ := C05Body.body_of_generate s cs o text doc ms M h hM
  refine ⟨by rw [litValue_stringToken, htext], litValue_stringToken _ _, ?_⟩
  intro q n hq hn
  rw [litValue_stringToken] at hq hn
  cases hq; cases hn
  refine ⟨M.operationName, List.mem_of_getElem? hith, rfl, ?_⟩
  simp only [Envelope.serQueryBody, String.ofList_toList, htext]

/-- on the derive path (rustc's own `proc_macro::Literal::string`): the value of the emitted `QUERY` token is the document
    text (the first clause of `query_constant_roundtrip`) -/
theorem query_constant_roundtrip_rustc (p : Char → Bool) (s : Schema) (cs : CaseFns) (o : Options) (text : String)
    (doc : QDoc) (ms : List Module) (M : Module)
    (h : Codegen.generate s cs o text doc = .ok ms) (hM : M ∈ ms) :
    litValue (stringTokenRustc p M.query.toList) = some text.toList := by
  obtain ⟨htext, _⟩ := C05Body.body_of_generate s cs o text doc ms M h hM
  rw [litValue_stringTokenRustc, htext]

/-! ## instances and test vectors -/

/-- a stand-in for `escape_debug`'s tables on the characters used below: C0 controls, DEL, U+0301 (COMBINING ACUTE
    ACCENT, `Grapheme_Extend`), U+200B (ZERO WIDTH SPACE, `Cf`: not printable) -/
def pDemo (c : Char) : Bool := c.toNat < 0x20 || c.toNat == 0x7f || c.toNat == 0x301 || c.toNat == 0x200b

/-- `"`, `\`, CR LF, TAB, NUL before `7`, NUL before `8`, U+0301, U+200B, an emoji, braces, `'`, a `$variable` -/
def demo : List Char :=
  "query Q($a: String = \"x\\y\") {\r\n\tf(a: $a) # \x007 \x008 é ​ 😀 {'}\n}".toList

/-- the token text the fallback printer emits for `demo` -/
theorem demo_token :
    stringToken pDemo demo =
      ("\"query Q($a: String = \\\"x\\\\y\\\") {\\r\\n\\tf(a: $a) # \\x007 \\08 e\\u{301} \\u{200b} 😀 {'}\\n}\"").toList := by
  unfold demo
  -- the kernel identifies a literal with `String.ofList [c₁, …, cₙ]`, linearly; evaluating `toList` on it walks the
  -- UTF-8 bytes quadratically (`simp only` does not see a literal as `String.ofList _`, `rewrite` does)
  rewrite [String.toList_ofList, String.toList_ofList]
  decide +kernel

theorem demo_unescape : unescape (escapeWith pDemo demo) = some demo := unescape_escapeWith _ _
theorem demo_isEscapeOf : IsEscapeOf (escapeWith pDemo demo) demo = true := isEscapeOf_escapeWith _ _
theorem demo_litValue : litValue (stringToken pDemo demo) = some demo := litValue_stringToken _ _
theorem demo_check : check (stringToken pDemo demo) demo = .ok := check_stringToken _ _
/-- rustc's own printer on the same string: `\0` also before `7` -/
theorem demo_token_rustc :
    stringTokenRustc pDemo demo =
      ("\"query Q($a: String = \\\"x\\\\y\\\") {\\r\\n\\tf(a: $a) # \\07 \\08 e\\u{301} \\u{200b} 😀 {'}\\n}\"").toList := by
  unfold demo
  rewrite [String.toList_ofList, String.toList_ofList]
  decide +kernel
theorem demo_litValue_rustc : litValue (stringTokenRustc pDemo demo) = some demo := litValue_stringTokenRustc _ _
/-- with empty tables (nothing written as `\u{…}`) the token differs, the value does not -/
theorem demo_litValue_noTables : litValue (stringToken (fun _ => false) demo) = some demo := litValue_stringToken _ _
/-- with tables that escape everything they are asked about -/
theorem demo_litValue_allTables : litValue (stringToken (fun _ => true) demo) = some demo := litValue_stringToken _ _

/-- other legal spellings are accepted by the relation (upper-case hex, leading zeros, `_`, `\x`), e.g. from another
    printer version; a raw string token is evaluated by its own rule -/
theorem other_spellings :
    IsEscapeOf "\\u{00_41}\\x42\\u{1F600}\\u{301}\\'".toList "AB😀́'".toList = true ∧
    litValue "r#\"a\"b\\n\"#".toList = some "a\"b\\n".toList ∧
    check "r#\"a\"b\\n\"#".toList "a\"b\\n".toList = .ok ∧
    litValue "r\"a\r\nb\"".toList = some "a\nb".toList := by
  repeat rewrite [String.toList_ofList]
  decide +kernel

/-- what rustc rejects, `unescape` rejects: unknown escape, `\x80`, empty / leading-underscore / overlong /
    surrogate / out-of-range `\u{…}`, missing braces, a raw quote, a lone trailing backslash -/
theorem rejected_literals :
    unescape "\\a".toList = none ∧ unescape "\\x80".toList = none ∧ unescape "\\x7".toList = none ∧
    unescape "\\u{}".toList = none ∧ unescape "\\u{_41}".toList = none ∧ unescape "\\u{0000041}".toList = none ∧
    unescape "\\u{d800}".toList = none ∧ unescape "\\u{110000}".toList = none ∧ unescape "\\u41".toList = none ∧
    unescape "a\"b".toList = none ∧ unescape "abc\\".toList = none ∧ unescape "\\N".toList = none ∧
    unescape "\\u{10FFFF}\\u{00004_1__}\\x7F".toList = some [Char.ofNat 0x10FFFF, 'A', Char.ofNat 0x7f] := by
  repeat rewrite [String.toList_ofList]
  decide +kernel

/-- line continuation and CRLF (accepted by rustc, hence by `unescape`; not by `IsEscapeOf`: the driver answers
    `spelling`) -/
theorem continuation_and_crlf :
    unescape "a\\\n   \t\n\n  b".toList = some "ab".toList ∧
    unescape "a\\\r\n   b".toList = some "ab".toList ∧
    unescape "a\\\n \r b".toList = some "ab".toList ∧
    unescape "a\\\n\\\n  \\x41".toList = some "aA".toList ∧
    unescape "a\\\rb".toList = none ∧
    unescape "a\r\nb".toList = some "a\nb".toList ∧
    IsEscapeOf "a\r\nb".toList "a\nb".toList = false ∧
    check "\"a\\\n  b\"".toList "ab".toList = .spelling ∧
    check "\"a\\nb\"".toList "a\nc".toList = .value "a\nb".toList := by
  repeat rewrite [String.toList_ofList]
  decide +kernel

/-- **the `\0`-before-octal-digit rule is cosmetic.**  Rust has no octal escapes: `\07` is NUL followed by `7`, the
    same value as proc_macro2's `\x007`.  proc_macro2's own comment gives the reason for the rule — "circumvent
    clippy::octal_escapes lint" (the lint warns that `\07` *looks like* a C octal escape) — and rustc's
    `proc_macro::Literal::string` (`escapeRustcWith`) indeed writes `\0` there; both printers round-trip on every
    string (`unescape_escapeWith`, `unescape_escapeRustcWith`).  A printer without the rule would NOT change the
    value. -/
theorem nul_before_digit :
    unescape "\\07".toList = some ['\x00', '7'] ∧ unescape "\\x007".toList = some ['\x00', '7'] ∧
    IsEscapeOf "\\07".toList ['\x00', '7'] = true ∧ IsEscapeOf "\\x007".toList ['\x00', '7'] = true ∧
    escapeWith (fun _ => false) ['\x00', '7'] = "\\x007".toList ∧
    escapeRustcWith (fun _ => false) ['\x00', '7'] = "\\07".toList ∧
    escapeWith (fun _ => false) ['\x00', '8'] = "\\08".toList ∧
    escapeWith (fun _ => false) ['\x00'] = "\\0".toList := by decide +kernel

/-- concrete: `"a<CR>b"` is not a string literal; `"a<CR><LF>b"` is one — with the value `a<LF>b`: a printer that
    left CR LF raw WOULD silently change the value (the relation rejects that spelling, the driver reports it) -/
theorem bare_cr_witness :
    unescape ['a', '\r', 'b'] = none ∧ litValue ['"', 'a', '\r', 'b', '"'] = none ∧
    litValue ['"', 'a', '\r', '\n', 'b', '"'] = some ['a', '\n', 'b'] ∧
    check ['"', 'a', '\r', '\n', 'b', '"'] ['a', '\r', '\n', 'b'] = .value ['a', '\n', 'b'] ∧
    litValue ['r', '"', 'a', '\r', 'b', '"'] = none := by decide +kernel

end C05L
end GqlVerif
