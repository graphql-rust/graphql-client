import GqlVerif.Proofs.C04RustVars
import GqlVerif.Proofs.C04SurjectiveExamples
/-!
# C04 — GraphQL's list input coercion and the generated `Vec<T>`

GraphQL (spec §3.11 *List*, Input Coercion) accepts a single value where a list is expected: "if the value passed as an
input to a list type is not a list and not the null value, then the result of input coercion is a list of size one,
where the single item value is the result of input coercion for the list's item type on the provided value (note this
may apply recursively for nested lists)" — `[Int]` given `7` means `[7]`, `[[Int]]` given `7` means `[[7]]`, given
`[1, 2]` means `[[1], [2]]`; `null` stays `null`.  The generated `Vec<T>` neither writes nor reads a bare value.

* `ValidC L s id b t j` — **the specification with list input coercion**: `C04S.Valid` plus the rule `wrap`
  (a non-list, non-null value valid for the item type is valid at the list type).  `Valid` is left as it is
  (`valid_validC`: `Valid ⊆ ValidC`).
* `coerce s id t j` — the coerced spelling: every non-list, non-null value at a list position is wrapped (one list per
  list level), recursively through lists and through the members of input objects; `wrapTy`, `coerceList`, `coerceKvs`.
  `coerce_of_valid`: a value that is valid without coercion is left alone.
* **`validC_coerce`**: `ValidC … j → Valid … (coerce … j)` (field names of the input types met are distinct).
* `VarsValidC`, `coerceVars`, **`varsValid_coerce`**, **`valid_mod_coercion_expressible`** (every assignment valid
  under the coercing validity has its coerced spelling expressible: it is — in canonical form — the serialization of a
  `Variables` value, which `from_value` reads it as), `valid_mod_coercion_expressible_rust` (the same for a context
  with `normalization = rust`, by `variables_expressible_rust`).
* `ser_list_is_list`, `ser_listTy_null_or_list`: `Serialize` at `Vec<T>` writes a JSON array (at a GraphQL list type:
  `null` or an array); `valid_list_shape`; **`bare_value_not_expressible`**: an assignment that carries a bare value for
  a variable of list type is not in the image of serialization, for any module satisfying the hypotheses of
  `variables_ser_valid` (`bare_value_not_expressible_rust`: of `variables_ser_valid_rust`).
* **`coerced_not_expressible`** (`C04RustCoercionWitness.lean`; `query Q($ids: [Int], $grid: [[Int!]], $page: page_input)`):
  `{"ids": 7}` is valid by the specification with coercion, not valid without, not written by any `Variables` value,
  rejected by `from_value`; its canonical spelling `{"ids": [7]}` is `coerceVars` of it and is expressible.
-/
namespace GqlVerif
namespace C04R
open Serde Codegen C04S C13

/-! ## 1. the specification with list input coercion -/

/-- **`ValidC`** = `C04S.Valid` + list input coercion (`wrap`) -/
inductive ValidC (L : Leaves) (s : Schema) : TypeId → Bool → GTy → Json → Prop
  | null {id t} : isNN t = false → ValidC L s id false t .null
  | some {id t j} : isNN t = false → ValidC L s id true t j → ValidC L s id false t j
  | bang {id b t j} : ValidC L s id true t j → ValidC L s id b (.nonNull t) j
  | list {id t xs} : (∀ x ∈ xs, ValidC L s id false t x) → ValidC L s id true (.list t) (.arr xs)
  /-- spec §3.11: a value that is neither a list nor `null` is coerced to the list of size one holding it -/
  | wrap {id t j} : (∀ xs, j ≠ .arr xs) → j ≠ .null → ValidC L s id false t j → ValidC L s id true (.list t) j
  | scalar {k n nm j} : s.scalars[k]? = some n → scalarOk L n j = true → ValidC L s (.scalar k) true (.named nm) j
  | enum {k en nm v} : s.enums[k]? = some en → (L.enumOpen = true ∨ v ∈ en.variants) →
      ValidC L s (.enum k) true (.named nm) (.str v)
  | object {k i nm kvs} : s.inputs[k]? = some i → i.isOneOf = false → (keys kvs).Nodup →
      (∀ key ∈ keys kvs, key ∈ i.fields.map (·.1)) →
      (∀ p ∈ i.fields, Json.lookup p.1 kvs = none → isNN (gty p.2) = false) →
      (∀ p ∈ i.fields, ∀ v, Json.lookup p.1 kvs = some v → ValidC L s p.2.id false (gty p.2) v) →
      ValidC L s (.input k) true (.named nm) (.obj kvs)
  | oneOf {k i nm p v} : s.inputs[k]? = some i → i.isOneOf = true → p ∈ i.fields →
      ValidC L s p.2.id false (.nonNull (gty p.2)) v →
      ValidC L s (.input k) true (.named nm) (.obj [(p.1, v)])

/-- the coercing validity extends the plain one -/
theorem valid_validC {L : Leaves} {s : Schema} {id : TypeId} {b : Bool} {t : GTy} {j : Json}
    (h : Valid L s id b t j) : ValidC L s id b t j := by
  induction h with
  | null hn => exact .null hn
  | some hn _ ih => exact .some hn ih
  | bang _ ih => exact .bang ih
  | list _ ih => exact .list ih
  | scalar hk hok => exact .scalar hk hok
  | «enum» hk hv => exact .enum hk hv
  | object hk hone hnd hdecl hreq _ ih => exact .object hk hone hnd hdecl hreq ih
  | oneOf hk hone hp _ ih => exact .oneOf hk hone hp ih

/-! ## 2. the coerced spelling -/

/-- a non-list, non-null value at a position of type `t`: one singleton list per list level of `t` -/
def wrapTy : GTy → Json → Json
  | .named _, j => j
  | .nonNull t, j => wrapTy t j
  | .list t, j => .arr [wrapTy t j]

mutual
  /-- **`coerce`** — structural recursion on the JSON value, like `C04S.canon`: the elements of a JSON array are
      coerced at the item type, the members of an input object at their field types, and a value that is neither an
      array nor `null` is wrapped according to the list levels of the position -/
  def coerce (s : Schema) : TypeId → GTy → Json → Json
    | id, t, .arr xs => .arr (coerceList s id (elemTy t) xs)
    | id, t, .obj kvs =>
      wrapTy t (match inputOf s id with
        | some i => .obj (coerceKvs s i.fields kvs)
        | none => .obj kvs)
    | _, _, .null => .null
    | _, t, .bool b => wrapTy t (.bool b)
    | _, t, .int n => wrapTy t (.int n)
    | _, t, .num v => wrapTy t (.num v)
    | _, t, .str v => wrapTy t (.str v)
  def coerceList (s : Schema) : TypeId → GTy → List Json → List Json
    | _, _, [] => []
    | id, t, x :: xs => coerce s id t x :: coerceList s id t xs
  def coerceKvs (s : Schema) : List (String × FieldType) → List (String × Json) → List (String × Json)
    | _, [] => []
    | fields, (k, v) :: rest =>
      (k, match fields.find? (·.1 == k) with
          | some p => coerce s p.2.id (gty p.2) v
          | none => v) :: coerceKvs s fields rest
end

/-- the spec's table (§3.11), at `Int` -/
example (s : Schema) (id : TypeId) :
    coerce s id (.list (.named "Int")) (.int 1) = .arr [.int 1] ∧
    coerce s id (.list (.named "Int")) (.arr [.int 1, .int 2]) = .arr [.int 1, .int 2] ∧
    coerce s id (.list (.named "Int")) .null = .null ∧
    coerce s id (.list (.list (.named "Int"))) (.int 1) = .arr [.arr [.int 1]] ∧
    coerce s id (.list (.list (.named "Int"))) (.arr [.int 1, .null, .arr [.int 3]]) =
      .arr [.arr [.int 1], .null, .arr [.int 3]] ∧
    coerce s id (.nonNull (.list (.nonNull (.named "Int")))) (.int 1) = .arr [.int 1] := by
  simp [coerce, coerceList, wrapTy, elemTy]

/-! ### unfolding -/

theorem coerce_arr (s id t xs) : coerce s id t (.arr xs) = .arr (coerceList s id (elemTy t) xs) := by rw [coerce]
theorem coerce_null (s id t) : coerce s id t .null = .null := by rw [coerce]
theorem coerce_str (s id t v) : coerce s id t (.str v) = wrapTy t (.str v) := by rw [coerce]
theorem coerceList_eq_map (s id t) : ∀ xs, coerceList s id t xs = xs.map (coerce s id t)
  | [] => by rw [coerceList]; rfl
  | x :: xs => by rw [coerceList, coerceList_eq_map s id t xs]; rfl

theorem coerce_obj_input (s k t kvs i) (hi : s.inputs[k]? = some i) :
    coerce s (.input k) t (.obj kvs) = wrapTy t (.obj (coerceKvs s i.fields kvs)) := by
  rw [coerce]; simp only [inputOf, hi]

/-- `!` is immaterial -/
theorem coerce_nonNull (s id t) (j : Json) : coerce s id (.nonNull t) j = coerce s id t j := by
  cases j <;> (rw [coerce, coerce]) <;> rfl

/-- a bare value at a list position becomes the singleton list of its coerced spelling at the item type -/
theorem coerce_list_bare (s id t) (j : Json) (hna : ∀ xs, j ≠ .arr xs) (hnn : j ≠ .null) :
    coerce s id (.list t) j = .arr [coerce s id t j] := by
  cases j with
  | arr xs => exact absurd rfl (hna xs)
  | null => exact absurd rfl hnn
  | obj kvs => rw [coerce, coerce]; rfl
  | bool b => rw [coerce, coerce]; rfl
  | int n => rw [coerce, coerce]; rfl
  | num v => rw [coerce, coerce]; rfl
  | str v => rw [coerce, coerce]; rfl

theorem scalarOk_arr (L : Leaves) (n : String) (xs : List Json) : scalarOk L n (.arr xs) = false :=
  Bool.eq_false_iff.mpr fun h => nomatch scalarShape_of_ok h

theorem scalarOk_obj (L : Leaves) (n : String) (kvs : List (String × Json)) : scalarOk L n (.obj kvs) = false :=
  Bool.eq_false_iff.mpr fun h => nomatch scalarShape_of_ok h

/-- a scalar value at a position without list level is left alone -/
theorem coerce_scalar {L : Leaves} {n : String} {j : Json} (h : scalarOk L n j = true) (s id nm) :
    coerce s id (.named nm) j = j := by
  cases j with
  | arr xs => rw [scalarOk_arr] at h; cases h
  | obj kvs => rw [scalarOk_obj] at h; cases h
  | null => rw [coerce]
  | bool b => rw [coerce]; rfl
  | int n => rw [coerce]; rfl
  | num v => rw [coerce]; rfl
  | str v => rw [coerce]; rfl

theorem keys_coerceKvs (s : Schema) (fields : List (String × FieldType)) :
    ∀ kvs, keys (coerceKvs s fields kvs) = keys kvs
  | [] => by rw [coerceKvs]
  | (k, v) :: rest => by
    rw [coerceKvs]
    simp only [keys, List.map_cons, List.cons.injEq, true_and]
    exact keys_coerceKvs s fields rest

theorem lookup_coerceKvs (s : Schema) (fields : List (String × FieldType))
    (hn : (fields.map (·.1)).Nodup) (p : String × FieldType) (hp : p ∈ fields) :
    ∀ kvs, Json.lookup p.1 (coerceKvs s fields kvs) = (Json.lookup p.1 kvs).map (coerce s p.2.id (gty p.2))
  | [] => by rw [coerceKvs]; rfl
  | (k, v) :: rest => by
    rw [coerceKvs]
    simp only [Json.lookup]
    by_cases hk : k = p.1
    · subst hk
      simp only [BEq.rfl, ↓reduceIte, find_field hn hp, Option.map_some]
    · have : (k == p.1) = false := by simpa using hk
      simp only [this, Bool.false_eq_true, ↓reduceIte]
      exact lookup_coerceKvs s fields hn p hp rest

/-! ## 3. `ValidC` is `Valid` modulo `coerce` -/

/-- **`validC_coerce`**: a value valid under the coercing validity has a coerced spelling that is valid without
    coercion.  `U`: a set of named types, closed under the fields of input types, whose input types have distinct
    field names (GraphQL requires it of every input type; `InputEnv.fieldNames` / `.closed` give it for the used ones). -/
theorem validC_coerce {L : Leaves} {s : Schema} (U : TypeId → Prop)
    (hU : ∀ k i, U (.input k) → s.inputs[k]? = some i → (i.fields.map (·.1)).Nodup ∧ ∀ p ∈ i.fields, U p.2.id)
    {id : TypeId} {b : Bool} {t : GTy} {j : Json} (h : ValidC L s id b t j) :
    U id → Valid L s id b t (coerce s id t j) := by
  induction h with
  | null hn => intro _; rw [coerce_null]; exact .null hn
  | some hn _ ih => intro hu; exact .some hn (ih hu)
  | bang _ ih => intro hu; rw [coerce_nonNull]; exact .bang (ih hu)
  | @list id t xs _ ih =>
    intro hu
    rw [coerce_arr, coerceList_eq_map]
    refine .list (fun y hy => ?_)
    obtain ⟨x, hx, rfl⟩ := List.mem_map.mp hy
    exact ih x hx hu
  | wrap hna hnn _ ih =>
    intro hu
    rw [coerce_list_bare _ _ _ _ hna hnn]
    refine .list (fun y hy => ?_)
    rw [List.mem_singleton] at hy
    subst hy
    exact ih hu
  | scalar hk hok => intro _; rw [coerce_scalar hok]; exact .scalar hk hok
  | «enum» hk hv => intro _; rw [coerce_str]; exact .enum hk hv
  | @object k i nm kvs hk hone hnd hdecl hreq _ ih =>
    intro hu
    obtain ⟨hnames, hclosed⟩ := hU k i hu hk
    rw [coerce_obj_input _ _ _ _ _ hk]
    refine .object hk hone ?_ ?_ ?_ ?_
    · rw [keys_coerceKvs]; exact hnd
    · rw [keys_coerceKvs]; exact hdecl
    · intro p hp hl
      rw [lookup_coerceKvs s _ hnames p hp, Option.map_eq_none_iff] at hl
      exact hreq p hp hl
    · intro p hp v hl
      rw [lookup_coerceKvs s _ hnames p hp, Option.map_eq_some_iff] at hl
      obtain ⟨v0, hl0, rfl⟩ := hl
      exact ih p hp v0 hl0 (hclosed p hp)
  | @oneOf k i nm p v hk hone hp _ ih =>
    intro hu
    obtain ⟨hnames, hclosed⟩ := hU k i hu hk
    rw [coerce_obj_input _ _ _ _ _ hk]
    have : coerceKvs s i.fields [(p.1, v)] = [(p.1, coerce s p.2.id (gty p.2) v)] := by
      rw [coerceKvs, coerceKvs, find_field hnames hp]
    rw [this]
    have := ih (hclosed p hp)
    rw [coerce_nonNull] at this
    exact .oneOf hk hone hp this

/-- **`coerce` leaves the canonical spelling alone**: a value that is valid without coercion is its own coerced
    spelling -/
theorem coerce_of_valid {L : Leaves} {s : Schema} (U : TypeId → Prop)
    (hU : ∀ k i, U (.input k) → s.inputs[k]? = some i → (i.fields.map (·.1)).Nodup ∧ ∀ p ∈ i.fields, U p.2.id)
    {id : TypeId} {b : Bool} {t : GTy} {j : Json} (h : Valid L s id b t j) : U id → coerce s id t j = j := by
  induction h with
  | null hn => intro _; rw [coerce_null]
  | some hn _ ih => exact ih
  | bang _ ih => intro hu; rw [coerce_nonNull]; exact ih hu
  | @list id t xs _ ih =>
    intro hu
    rw [coerce_arr, coerceList_eq_map]
    congr 1
    conv => rhs; rw [← List.map_id xs]
    exact List.map_congr_left (fun x hx => ih x hx hu)
  | scalar hk hok => intro _; exact coerce_scalar hok _ _ _
  | «enum» hk hv => intro _; rw [coerce_str]; rfl
  | @object k i nm kvs hk hone hnd hdecl hreq hval ih =>
    intro hu
    obtain ⟨hnames, hclosed⟩ := hU k i hu hk
    rw [coerce_obj_input _ _ _ _ _ hk]
    show Json.obj (coerceKvs s i.fields kvs) = Json.obj kvs
    congr 1
    -- every entry is left alone
    have hent : ∀ kv ∈ kvs, ∃ p ∈ i.fields, p.1 = kv.1 ∧ coerce s p.2.id (gty p.2) kv.2 = kv.2 := by
      intro kv hkv
      obtain ⟨p, hp, hpk⟩ := List.mem_map.mp (hdecl kv.1 (List.mem_map_of_mem (f := (·.1)) hkv))
      have hpk' : p.1 = kv.1 := hpk
      refine ⟨p, hp, hpk', ih p hp kv.2 ?_ (hclosed p hp)⟩
      rw [hpk']
      exact lookup_of_mem_nodup hnd hkv
    clear hnd hdecl hreq hval ih
    induction kvs with
    | nil => rw [coerceKvs]
    | cons kv rest ihr =>
      obtain ⟨key, v⟩ := kv
      obtain ⟨p, hp, hpk, hc⟩ := hent (key, v) (by simp)
      simp only at hpk hc
      subst hpk
      rw [coerceKvs, find_field hnames hp]
      simp only
      rw [hc, ihr (fun kv hkv => hent kv (by simp [hkv]))]
  | @oneOf k i nm p v hk hone hp _ ih =>
    intro hu
    obtain ⟨hnames, hclosed⟩ := hU k i hu hk
    rw [coerce_obj_input _ _ _ _ _ hk]
    have := ih (hclosed p hp)
    rw [coerce_nonNull] at this
    show Json.obj (coerceKvs s i.fields [(p.1, v)]) = _
    rw [coerceKvs, coerceKvs, find_field hnames hp]
    simp only
    rw [this]

/-! ## 4. whole assignments -/

/-- a whole variables assignment, valid by the specification **with** list input coercion -/
structure VarsValidC (L : Leaves) (c : Ctx) (op : Nat) (kvs : List (String × Json)) : Prop where
  nodup : (keys kvs).Nodup
  declared : ∀ key ∈ keys kvs, key ∈ (varFields c op).map (·.1)
  required : ∀ p ∈ varFields c op, Json.lookup p.1 kvs = none → isNN (gty p.2) = false
  valid : ∀ p ∈ varFields c op, ∀ v, Json.lookup p.1 kvs = some v → ValidC L c.s p.2.id false (gty p.2) v

theorem varsValid_varsValidC {L : Leaves} {c : Ctx} {op : Nat} {kvs : List (String × Json)}
    (h : VarsValid L c op kvs) : VarsValidC L c op kvs :=
  ⟨h.nodup, h.declared, h.required, fun p hp v hl => valid_validC (h.valid p hp v hl)⟩

/-- the coerced spelling of an assignment: every variable's value coerced at the variable's declared type -/
def coerceVars (c : Ctx) (op : Nat) (kvs : List (String × Json)) : List (String × Json) :=
  coerceKvs c.s (varFields c op) kvs

/-- **`varsValid_coerce`**: the coerced spelling of an assignment that is valid with list input coercion is valid
    without (hypotheses: those of `variables_expressible`, for the module emitted for the operation) -/
theorem varsValid_coerce (L : Leaves) (c : Ctx) (op : Nat) (items : List Item)
    (hnorm : c.o.normalization = .none)
    (hkwI : ∀ i ∈ c.s.inputs, keywordReplace i.name = i.name)
    (hkwS : ∀ n ∈ c.s.scalars, keywordReplace n = n)
    (hkwE : ∀ e ∈ c.s.enums, keywordReplace e.name = e.name)
    (hwf : C02.OutputOnly c.s c.q = true) (hrel : C02.InputFieldsRelevant c.s = true)
    (hvars : ∀ v ∈ c.q.opVariables op, C02.Relevant v.ty.id)
    (hdef : (Scope.defines items).Nodup) (hmem : ∀ it ∈ items, (C02.memberIdents it).Nodup)
    (hprim : ∀ it ∈ items, C01.notPrim it.name) (hfree : ExternsFree c items)
    (h : responseForQuery c op = .ok items) (hne : c.q.opVariables op ≠ []) (kvs : List (String × Json))
    (hvalid : VarsValidC L c op kvs) : VarsValid L c op (coerceVars c op kvs) := by
  obtain ⟨u, hu, env⟩ := inputEnv_of_module c op items hnorm hkwI hwf hrel hdef hmem hprim hfree h
  have hnames := (varNames_nodup c op items hnorm hkwI hkwS hkwE hvars hmem h hne).2
  have hUv : ∀ p ∈ varFields c op, p.2.id ∈ u.types := by
    intro p hp
    obtain ⟨v, hv, rfl⟩ := List.mem_map.mp hp
    exact C02.variable_types_used c.s c.q op u hu v hv (hvars v hv)
  have hU : ∀ k i, TypeId.input k ∈ u.types → c.s.inputs[k]? = some i →
      (i.fields.map (·.1)).Nodup ∧ ∀ p ∈ i.fields, p.2.id ∈ u.types :=
    fun k i hk hi => ⟨env.fieldNames k i hk hi, fun p hp => (env.closed k i hk hi p hp).1⟩
  unfold coerceVars
  refine ⟨?_, ?_, ?_, ?_⟩
  · rw [keys_coerceKvs]; exact hvalid.nodup
  · rw [keys_coerceKvs]; exact hvalid.declared
  · intro p hp hl
    rw [lookup_coerceKvs c.s _ hnames p hp, Option.map_eq_none_iff] at hl
    exact hvalid.required p hp hl
  · intro p hp v hl
    rw [lookup_coerceKvs c.s _ hnames p hp, Option.map_eq_some_iff] at hl
    obtain ⟨v0, hl0, rfl⟩ := hl
    exact validC_coerce (· ∈ u.types) hU (hvalid.valid p hp v0 hl0) (hUv p hp)

/-- **`valid_mod_coercion_expressible`**: every assignment that is valid by the specification *with* list input
    coercion has its coerced spelling expressible: `coerceVars` of it is — in canonical form — the serialization of a
    value of the generated `Variables` type, and (IDs as strings) is read back as that value -/
theorem valid_mod_coercion_expressible (L : Leaves) (c : Ctx) (op : Nat) (items : List Item)
    (hnorm : c.o.normalization = .none)
    (hkwI : ∀ i ∈ c.s.inputs, keywordReplace i.name = i.name)
    (hkwS : ∀ n ∈ c.s.scalars, keywordReplace n = n)
    (hkwE : ∀ e ∈ c.s.enums, keywordReplace e.name = e.name)
    (hwf : C02.OutputOnly c.s c.q = true) (hrel : C02.InputFieldsRelevant c.s = true)
    (hvars : ∀ v ∈ c.q.opVariables op, C02.Relevant v.ty.id)
    (hdef : (Scope.defines items).Nodup) (hmem : ∀ it ∈ items, (C02.memberIdents it).Nodup)
    (hprim : ∀ it ∈ items, C01.notPrim it.name) (hfree : ExternsFree c items)
    (hint : ∀ n, L.intOk n = true → inI64 n = true)
    (h : responseForQuery c op = .ok items) (hne : c.q.opVariables op ≠ []) (kvs : List (String × Json))
    (hvalid : VarsValidC L c op kvs) :
    ∃ x, HasTy (moduleEnv c items) (.path "Variables") x ∧
      Serde.ser (moduleEnv c items) (.path "Variables") x = .ok (canonVars c op (coerceVars c op kvs)) ∧
      ((∀ n, L.idInt n = false) →
        Serde.de (moduleEnv c items) (.path "Variables") (.obj (coerceVars c op kvs)) = .ok x) :=
  variables_expressible L c op items hnorm hkwI hkwS hkwE hwf hrel hvars hdef hmem hprim hfree hint h hne _
    (varsValid_coerce L c op items hnorm hkwI hkwS hkwE hwf hrel hvars hdef hmem hprim hfree h hne kvs hvalid)

/-- … and for a context `c₁` with `normalization = rust` (hypotheses of `variables_expressible_rust`) -/
theorem valid_mod_coercion_expressible_rust (L : Leaves) {c₀ c₁ : Ctx} {op : Nat} {items₀ items₁ : List Item}
    (W : RustSideV c₀ c₁ op items₀ items₁)
    (hnorm : c₀.o.normalization = .none)
    (hkwI : ∀ i ∈ c₀.s.inputs, keywordReplace i.name = i.name)
    (hkwS : ∀ n ∈ c₀.s.scalars, keywordReplace n = n)
    (hkwE : ∀ e ∈ c₀.s.enums, keywordReplace e.name = e.name)
    (hwf : C02.OutputOnly c₀.s c₀.q = true) (hrel : C02.InputFieldsRelevant c₀.s = true)
    (hvars : ∀ v ∈ c₀.q.opVariables op, C02.Relevant v.ty.id)
    (hdef : (Scope.defines items₀).Nodup) (hmem : ∀ it ∈ items₀, (C02.memberIdents it).Nodup)
    (hprim : ∀ it ∈ items₀, C01.notPrim it.name) (hfree : ExternsFree c₀ items₀)
    (hint : ∀ n, L.intOk n = true → inI64 n = true)
    (hne : c₀.q.opVariables op ≠ []) (kvs : List (String × Json))
    (hvalid : VarsValidC L c₀ op kvs) :
    ∃ x, HasTy (moduleEnvN c₁ items₁) (.path "Variables") x ∧
      Serde.ser (moduleEnvN c₁ items₁) (.path "Variables") x = .ok (canonVars c₀ op (coerceVars c₀ op kvs)) ∧
      ((∀ n, L.idInt n = false) →
        Serde.de (moduleEnvN c₁ items₁) (.path "Variables") (.obj (coerceVars c₀ op kvs)) = .ok x) :=
  variables_expressible_rust W L hnorm hkwI hkwS hkwE hwf hrel hvars hdef hmem hprim hfree hint hne _
    (varsValid_coerce L c₀ op items₀ hnorm hkwI hkwS hkwE hwf hrel hvars hdef hmem hprim hfree W.gen₀ hne kvs hvalid)

/-! ## 5. serialization always writes a list -/

/-- **`ser_list_is_list`**: `Serialize` at `Vec<T>` writes a JSON array, whatever the element type and the value -/
theorem ser_list_is_list (path : String → Val → D Json) (t : RTy) (x : Val) (j : Json)
    (h : serTyWith path (.vec t) x = .ok j) : ∃ xs, j = .arr xs := by
  cases x <;> simp only [serTyWith] at h <;> try (cases h)
  rw [C01.map_ok] at h
  obtain ⟨xs, _, rfl⟩ := h
  exact ⟨xs, rfl⟩

/-- at the Rust type of a GraphQL list type (`[T]`: `Option<Vec<..>>`, `[T]!`: `Vec<..>`): `null` or an array -/
theorem ser_listTy_null_or_list (path : String → Val → D Json) (b : RTy) (t : GTy) (x : Val) (j : Json) :
    (serTyWith path (rustOf b (.list t)) x = .ok j → j = .null ∨ ∃ xs, j = .arr xs) ∧
    (serTyWith path (rustOf b (.nonNull (.list t))) x = .ok j → ∃ xs, j = .arr xs) := by
  constructor
  · intro h
    simp only [rustOf, rustOfNN] at h
    cases x <;> simp only [serTyWith] at h <;> try (cases h)
    · exact .inl rfl
    · exact .inr (ser_list_is_list path _ _ _ h)
  · intro h
    simp only [rustOf, rustOfNN] at h
    exact ser_list_is_list path _ _ _ h

/-- the type expression is a list type (under `!`) -/
def isListTy : GTy → Bool
  | .list _ => true
  | .nonNull t => isListTy t
  | .named _ => false

/-- without coercion, a value valid at a list type is `null` or a JSON array -/
theorem valid_list_shape {L : Leaves} {s : Schema} {id : TypeId} {b : Bool} {t : GTy} {j : Json}
    (h : Valid L s id b t j) : isListTy t = true → j = .null ∨ ∃ xs, j = .arr xs := by
  induction h with
  | null _ => intro _; exact .inl rfl
  | some _ _ ih => exact ih
  | bang _ ih => exact ih
  | list _ _ => intro _; exact .inr ⟨_, rfl⟩
  | scalar _ _ => intro h; cases h
  | «enum» _ _ => intro h; cases h
  | object _ _ _ _ _ _ _ => intro h; cases h
  | oneOf _ _ _ _ _ => intro h; cases h

/-- **`bare_value_not_expressible`**: in the module emitted for an operation, an assignment that carries a bare
    (non-list, non-null) value for a variable of list type is not the serialization of any `Variables` value -/
theorem bare_value_not_expressible (c : Ctx) (op : Nat) (items : List Item)
    (hnorm : c.o.normalization = .none)
    (hkwI : ∀ i ∈ c.s.inputs, keywordReplace i.name = i.name)
    (hkwS : ∀ n ∈ c.s.scalars, keywordReplace n = n)
    (hkwE : ∀ e ∈ c.s.enums, keywordReplace e.name = e.name)
    (hwf : C02.OutputOnly c.s c.q = true) (hrel : C02.InputFieldsRelevant c.s = true)
    (hvars : ∀ v ∈ c.q.opVariables op, C02.Relevant v.ty.id)
    (hdef : (Scope.defines items).Nodup) (hmem : ∀ it ∈ items, (C02.memberIdents it).Nodup)
    (hprim : ∀ it ∈ items, C01.notPrim it.name) (hfree : ExternsFree c items)
    (h : responseForQuery c op = .ok items) (hne : c.q.opVariables op ≠ [])
    (kvs : List (String × Json)) (p : String × FieldType) (hp : p ∈ varFields c op) (hlist : isListTy (gty p.2) = true)
    (v : Json) (hl : Json.lookup p.1 kvs = some v) (hnn : v ≠ .null) (hna : ∀ xs, v ≠ .arr xs) :
    ¬ ∃ x, HasTy (moduleEnv c items) (.path "Variables") x ∧
      Serde.ser (moduleEnv c items) (.path "Variables") x = .ok (.obj kvs) := by
  rintro ⟨x, hx, hs⟩
  obtain ⟨kvs', hj, hv⟩ := variables_ser_valid_wire c op items hnorm hkwI hkwS hkwE hwf hrel hvars hdef hmem hprim hfree
    h hne x hx _ hs
  cases hj
  rcases valid_list_shape (hv.valid p hp v hl) hlist with h0 | ⟨xs, h0⟩
  · exact hnn h0
  · exact hna xs h0

/-- … and in the module of a context with `normalization = rust` (hypotheses of `variables_ser_valid_rust`) -/
theorem bare_value_not_expressible_rust {c₀ c₁ : Ctx} {op : Nat} {items₀ items₁ : List Item}
    (W : RustSideV c₀ c₁ op items₀ items₁)
    (hnorm : c₀.o.normalization = .none)
    (hkwI : ∀ i ∈ c₀.s.inputs, keywordReplace i.name = i.name)
    (hkwS : ∀ n ∈ c₀.s.scalars, keywordReplace n = n)
    (hkwE : ∀ e ∈ c₀.s.enums, keywordReplace e.name = e.name)
    (hwf : C02.OutputOnly c₀.s c₀.q = true) (hrel : C02.InputFieldsRelevant c₀.s = true)
    (hvars : ∀ v ∈ c₀.q.opVariables op, C02.Relevant v.ty.id)
    (hdef : (Scope.defines items₀).Nodup) (hmem : ∀ it ∈ items₀, (C02.memberIdents it).Nodup)
    (hprim : ∀ it ∈ items₀, C01.notPrim it.name) (hfree : ExternsFree c₀ items₀)
    (hne : c₀.q.opVariables op ≠ [])
    (kvs : List (String × Json)) (p : String × FieldType) (hp : p ∈ varFields c₀ op) (hlist : isListTy (gty p.2) = true)
    (v : Json) (hl : Json.lookup p.1 kvs = some v) (hnn : v ≠ .null) (hna : ∀ xs, v ≠ .arr xs) :
    ¬ ∃ x, HasTy (moduleEnvN c₁ items₁) (.path "Variables") x ∧
      Serde.ser (moduleEnvN c₁ items₁) (.path "Variables") x = .ok (.obj kvs) := by
  rintro ⟨x, hx, hs⟩
  obtain ⟨kvs', hj, hv⟩ := variables_ser_valid_rust W Leaves.wire hnorm hkwI hkwS hkwE hwf hrel hvars hdef hmem hprim
    hfree (fun _ h => h) rfl hne x hx _ hs
  cases hj
  rcases valid_list_shape (hv.valid p hp v hl) hlist with h0 | ⟨xs, h0⟩
  · exact hnn h0
  · exact hna xs h0

end C04R
end GqlVerif
