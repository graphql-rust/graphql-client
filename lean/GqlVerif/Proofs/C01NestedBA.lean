import GqlVerif.Proofs.C01NestedGenXJ
/-!
# `NestedBOp`: the class and the closed form of the items

`NestedGen2Op` (`C01NestedGenX*`) plus, at a field of interface / union type, **(b)-spreads** `...G` with `G` a fragment on the
abstract type itself whose body is spread-free and made of `__typename` and interface-level scalar / enum fields (what
`VariantSpreadOp` allows for (b), without inline fragments inside `G`).  The generator emits one flattened member per
(b)-spread in the interface-level struct (`fieldsB`); the variant side is the one of `NestedGen2Op` on the selection set
without its (b)-spreads (`unB`).

The closed form is a derivation in `C02.CalcSel` (`calc_nestedB`): the object level as for `NestedOp` (`calcFields_sField`,
`calcFields_okSpread` of `C01NestedA`), an abstract position by `C02.CalcSel.abstract` with the per-variant loop of
`NestedGen2Op` (`calcSel_abstractB`).

The chain of theorems is proved for this class only (closed form, exact acceptance, acyclicity and the emitted module,
specification, losslessness); `C01NestedGenXE`, `C01NestedGenE`, `C01NestedAbsE` read off the results of the smaller classes
through `C01NestedBJ`, `C01NestedGenXJ`, `C01NestedGenJ`.
-/

namespace GqlVerif
namespace C01NB
open C03 Codegen C01 C01.E2E C01N C01NA C01NG C01NX

/-! ## the class -/

/-- the selection set without its (b)-spreads (spreads of fragments on the abstract type `ty` itself) -/
def unB (q : Query) (ty : TypeId) (sub : List Sel) : List Sel := sub.filter (fun x => !isBSpread q ty x)

/-- the (b)-spreads of the selection set -/
def bSels (q : Query) (ty : TypeId) (sub : List Sel) : List Sel := sub.filter (isBSpread q ty)

/-- the body of a (b)-fragment of the class: `__typename` and scalar / enum fields, nothing else -/
def bBodyOk (s : Schema) (q : Query) (o : Options) (sels : List Sel) : Bool :=
  sels.all (fun y => (isTypename y || isFieldSel y) && leafSel s q o y)

/-- a (b)-spread of the class: `fragOkB` (as in `VariantSpreadOp`), body `bBodyOk`, and none of its field keys is an
    interface-level field key of the position (`__typename` is shared) -/
def bOk (s : Schema) (q : Query) (o : Options) (ty : TypeId) (sub : List Sel) : Sel → Bool
  | .spread g => !isBSpread q ty (.spread g) ||
      (fragOkB s q o ty g && bBodyOk s q o (fragSels q g) &&
        (fieldKeys s (fragSels q g)).all (fun k => !(fieldKeys s (C01NG.ownSels sub)).contains k))
  | _ => true

/-- a selection set on the abstract type `ty`: without its (b)-spreads a selection set of `NestedGen2Op` (`absSubX`), and any
    number of (b)-spreads -/
def absSubB (ok : TypeId → Nat → Bool) (s : Schema) (q : Query) (o : Options) (ty : TypeId) (sub : List Sel) : Bool :=
  absSubX ok s q o ty (unB q ty sub) && sub.all (bOk s q o ty sub)

/-- a field of interface / union type with a selection set of the general kind -/
def absFieldB (ok : TypeId → Nat → Bool) (s : Schema) (q : Query) (o : Options) (sf : StoredField) (sub : List Sel) : Bool :=
  wfQuals sf.ty.quals && !(sf.deprecation.isSome && o.deprecation == .deny) && absTyOk s sf.ty.id &&
    absSubB ok s q o sf.ty.id sub

mutual
  /-- one selection of an object-level selection set on `parent` -/
  def aSel (ok : TypeId → Nat → Bool) (s : Schema) (q : Query) (o : Options) (parent : TypeId) : Sel → Bool
    | .field a fid sub =>
      match s.fields[fid]? with
      | none => false
      | some sf =>
        match sf.ty.id with
        | .object i =>
          wfQuals sf.ty.quals && !(sf.deprecation.isSome && o.deprecation == .deny) && (s.objects[i]?).isSome &&
            (match sub with
             | [.spread g] => ok (.object i) g
             | _ => aSels ok s q o (.object i) sub)
        | _ => sSel s q o false (.field a fid sub) || absFieldB ok s q o sf sub
    | .typename => true
    | .spread g => ok parent g
    | .inline _ _ => false
  def aSels (ok : TypeId → Nat → Bool) (s : Schema) (q : Query) (o : Options) (parent : TypeId) : List Sel → Bool
    | [] => true
    | x :: xs => aSel ok s q o parent x && aSels ok s q o parent xs
end

def aBody (ok : TypeId → Nat → Bool) (s : Schema) (q : Query) (o : Options) (parent : TypeId) (sels : List Sel) : Bool :=
  match sels with
  | [.spread g] => ok parent g
  | _ => aSels ok s q o parent sels

/-- **the class `NestedBOp`** (decidable) -/
def NestedBOp (c : Ctx) (op : ROperation) : Bool :=
  c.o.normalization == .none && (c.s.objects[op.objectId]?).isSome &&
  aBody (fragOkN c.s c.q c.o c.q.fragments.length) c.s c.q c.o (.object op.objectId) op.sels

/-! ## closed form -/

/-- the items of an abstract position: the struct with the interface-level fields, **one flattened member per (b)-spread**
    and the flattened `on` + the tagged enum `…On` (or the tagged enum alone), then per possible type the item of
    `NestedGen2Op` -/
def absItemsB (c : Ctx) (name pfx : String) (ty : TypeId) (sub : List Sel) : List Item :=
  renderType c name (fieldsB c pfx ty sub) (variantsV c pfx ty (marks c.q (unB c.q ty sub))) ++
    (vtsOfTy c.s ty).flatMap (fun vt => variantHeadX c pfx vt (unB c.q ty sub))

mutual
  def itemsA (c : Ctx) (pfx : String) : Sel → List Item
    | .field a fid sub =>
      match c.s.fields[fid]? with
      | none => []
      | some sf =>
        match sf.ty.id with
        | .object _ =>
          (match sub with
           | [.spread g] => [aliasItem (pfx ++ c.cs.camel (a.getD sf.name)) (fragName c g) false]
           | _ => .struct (pfx ++ c.cs.camel (a.getD sf.name)) c.respDerives c.serdeCrate
                    (fieldsOfF c (pfx ++ c.cs.camel (a.getD sf.name)) sub) ::
                  itemsAs c (pfx ++ c.cs.camel (a.getD sf.name)) sub)
        | ty =>
          if sSel c.s c.q c.o false (.field a fid sub) then itemsS c pfx (.field a fid sub)
          else absItemsB c (pfx ++ c.cs.camel (a.getD sf.name)) (pfx ++ c.cs.camel (a.getD sf.name)) ty sub
    | _ => []
  def itemsAs (c : Ctx) (pfx : String) : List Sel → List Item
    | [] => []
    | x :: xs => itemsA c pfx x ++ itemsAs c pfx xs
end

/-- **closed form** of the items of an object-level selection set -/
def bodyItemsA (c : Ctx) (name pfx : String) (sels : List Sel) : List Item :=
  match sels with
  | [.spread g] => [aliasItem name (fragName c g) false]
  | _ => .struct name c.respDerives c.serdeCrate (fieldsOfF c pfx sels) :: itemsAs c pfx sels

section Basic
variable {ok : TypeId → Nat → Bool} {s : Schema} {q : Query} {o : Options}

theorem aSels_cons {p : TypeId} {x : Sel} {xs : List Sel}
    (h : aSels ok s q o p (x :: xs) = true) : aSel ok s q o p x = true ∧ aSels ok s q o p xs = true := by
  simpa [aSels] using h

theorem aSels_mem {p : TypeId} : ∀ {sels : List Sel}, aSels ok s q o p sels = true →
    ∀ x ∈ sels, aSel ok s q o p x = true :=
  fun {sels} h => List.all_eq_true.mp (all_of_eqns (ps := aSels ok s q o p) rfl (fun _ _ => rfl) sels ▸ h)

theorem aBody_not_lone {p : TypeId} {sels : List Sel}
    (h : ∀ g, sels ≠ [Sel.spread g]) : aBody ok s q o p sels = aSels ok s q o p sels := by
  unfold aBody
  split
  · rename_i g; exact absurd rfl (h g)
  · rfl

theorem aBody_lone {p : TypeId} {g : Nat} : aBody ok s q o p [Sel.spread g] = ok p g := rfl

theorem bodyItemsA_not_lone (c : Ctx) (name pfx : String) {sels : List Sel} (h : ∀ g, sels ≠ [Sel.spread g]) :
    bodyItemsA c name pfx sels =
      .struct name c.respDerives c.serdeCrate (fieldsOfF c pfx sels) :: itemsAs c pfx sels := by
  unfold bodyItemsA
  split
  · rename_i g; exact absurd rfl (h g)
  · rfl

theorem aSel_obj {p : TypeId} {a : Option String} {fid : Nat} {sub : List Sel}
    {sf : StoredField} {i : Nat} (hsf : s.fields[fid]? = some sf) (hid : sf.ty.id = .object i)
    (h : aSel ok s q o p (.field a fid sub) = true) :
    wfQuals sf.ty.quals = true ∧ (sf.deprecation.isSome && o.deprecation == .deny) = false ∧
      (s.objects[i]?).isSome = true ∧ aBody ok s q o (.object i) sub = true := by
  rw [aSel] at h
  simp only [hsf, hid, Bool.and_eq_true] at h
  obtain ⟨⟨⟨hw, hdep⟩, hobj⟩, hb⟩ := h
  refine ⟨hw, ?_, hobj, hb⟩
  cases hd : (sf.deprecation.isSome && o.deprecation == .deny) with
  | false => rfl
  | true => simp [hd] at hdep

/-- a field of the class that is not object-typed: a field of `VariantSpreadOp`, or of the new kind -/
theorem aSel_nonobj {p : TypeId} {a : Option String} {fid : Nat} {sub : List Sel}
    {sf : StoredField} (hsf : s.fields[fid]? = some sf) (hno : ∀ i, sf.ty.id ≠ .object i)
    (h : aSel ok s q o p (.field a fid sub) = true) :
    sSel s q o false (.field a fid sub) = true ∨
      (sSel s q o false (.field a fid sub) = false ∧ absFieldB ok s q o sf sub = true) := by
  rw [aSel] at h
  simp only [hsf] at h
  have h' : (sSel s q o false (.field a fid sub) || absFieldB ok s q o sf sub) = true := by
    simpa [] using h
  cases hs : sSel s q o false (.field a fid sub) with
  | true => exact .inl rfl
  | false => rw [hs] at h'; exact .inr ⟨rfl, by simpa using h'⟩

theorem aSel_field_some {p : TypeId} {a : Option String} {fid : Nat} {sub : List Sel}
    (h : aSel ok s q o p (.field a fid sub) = true) : ∃ sf, s.fields[fid]? = some sf := by
  rw [aSel] at h
  cases hsf : s.fields[fid]? with
  | none => simp [hsf] at h
  | some sf => exact ⟨sf, rfl⟩

theorem absFieldB_parts {sf : StoredField} {sub : List Sel} (h : absFieldB ok s q o sf sub = true) :
    wfQuals sf.ty.quals = true ∧ (sf.deprecation.isSome && o.deprecation == .deny) = false ∧
      absHyp s sf.ty.id ∧ absSubB ok s q o sf.ty.id sub = true := by
  simp only [absFieldB, Bool.and_eq_true] at h
  obtain ⟨⟨⟨hw, hdep⟩, hty⟩, hsub⟩ := h
  refine ⟨hw, ?_, absTyOk_absHyp hty, hsub⟩
  cases hd : (sf.deprecation.isSome && o.deprecation == .deny) with
  | false => rfl
  | true => simp [hd] at hdep

end Basic
/-! ## the selection set of a position of the class -/

/-- what `bOk` says of a (b)-spread -/
structure BFrag (s : Schema) (q : Query) (o : Options) (ty : TypeId) (sub : List Sel) (g : Nat) : Prop where
  okB : fragOkB s q o ty g = true
  body : bBodyOk s q o (fragSels q g) = true
  keys : ∀ k ∈ fieldKeys s (fragSels q g), k ∉ fieldKeys s (C01NG.ownSels sub)

/-- what `absSubB` says, as propositions -/
structure SpecialB (ok : TypeId → Nat → Bool) (s : Schema) (q : Query) (o : Options) (ty : TypeId) (sub : List Sel) :
    Prop where
  x : SpecialX ok s q o ty (unB q ty sub)
  b : ∀ g, Sel.spread g ∈ sub → isBSpread q ty (.spread g) = true → BFrag s q o ty sub g

theorem absSubB_parts {ok : TypeId → Nat → Bool} {s : Schema} {q : Query} {o : Options} {ty : TypeId} {sub : List Sel}
    (h : absSubB ok s q o ty sub = true) : SpecialB ok s q o ty sub := by
  simp only [absSubB, Bool.and_eq_true, List.all_eq_true] at h
  refine ⟨absSubX_parts h.1, fun g hg hb => ?_⟩
  have := h.2 _ hg
  simp only [bOk, hb, Bool.not_true, Bool.false_or, Bool.and_eq_true, List.all_eq_true, Bool.not_eq_true'] at this
  exact ⟨this.1.1, this.1.2, fun k hk hm => by have := this.2 k hk; simp_all⟩

theorem mem_unB {q : Query} {ty : TypeId} {sub : List Sel} {x : Sel} :
    x ∈ unB q ty sub ↔ x ∈ sub ∧ isBSpread q ty x = false := by
  simp [unB, List.mem_filter]

theorem mem_bSels {q : Query} {ty : TypeId} {sub : List Sel} {x : Sel} :
    x ∈ bSels q ty sub ↔ x ∈ sub ∧ isBSpread q ty x = true := by
  simp [bSels, List.mem_filter]


theorem unB_eq_self {q : Query} {ty : TypeId} {sub : List Sel} (h : ∀ x ∈ sub, isBSpread q ty x = false) :
    unB q ty sub = sub := by
  unfold unB
  rw [List.filter_eq_self]
  intro x hx
  simp [h x hx]

theorem isBSpread_spread {q : Query} {ty : TypeId} {x : Sel} (h : isBSpread q ty x = true) :
    ∃ g f, x = .spread g ∧ q.fragments[g]? = some f ∧ f.on = ty := by
  cases x with
  | spread g =>
    simp only [isBSpread] at h
    cases hf : q.fragments[g]? with
    | none => simp [hf] at h
    | some f => simp only [hf, beq_iff_eq] at h; exact ⟨g, f, rfl, hf, h⟩
  | field a fid sub' => simp [isBSpread] at h
  | inline t sub' => simp [isBSpread] at h
  | typename => simp [isBSpread] at h

theorem vselsOfS_unB (q : Query) (ty : TypeId) : ∀ (sub : List Sel), vselsOfS q ty (unB q ty sub) = vselsOfS q ty sub
  | [] => rfl
  | x :: xs => by
    have ih := vselsOfS_unB q ty xs
    unfold vselsOfS unB at ih ⊢
    rw [List.filter_cons]
    cases hb : isBSpread q ty x with
    | false =>
      simp only [Bool.not_false, ↓reduceIte, List.filterMap_cons, ih]
    | true =>
      obtain ⟨g, f, rfl, hf, hon⟩ := isBSpread_spread hb
      simp only [Bool.not_true, Bool.false_eq_true, ↓reduceIte, List.filterMap_cons, ih]
      simp [vselOfS, hf, hon]

theorem SpecialB.tn {ok : TypeId → Nat → Bool} {s : Schema} {q : Query} {o : Options} {ty : TypeId} {sub : List Sel}
    (h : SpecialB ok s q o ty sub) : sub.any isTypename = true := by
  have := h.x.tn
  simp only [List.any_eq_true] at this ⊢
  obtain ⟨x, hx, hxt⟩ := this
  exact ⟨x, (mem_unB.mp hx).1, hxt⟩

theorem SpecialB.leaf {ok : TypeId → Nat → Bool} {s : Schema} {q : Query} {o : Options} {ty : TypeId} {sub : List Sel}
    (h : SpecialB ok s q o ty sub) : ∀ x ∈ sub, leafSel s q o x = true := by
  intro x hx
  cases hb : isBSpread q ty x with
  | true => obtain ⟨g, f, rfl, _, _⟩ := isBSpread_spread hb; rfl
  | false => exact h.x.leaf x (mem_unB.mpr ⟨hx, hb⟩)

/-- every spread of such a selection set: of a fragment on a possible type, or a (b)-spread -/
theorem SpecialB.spread {ok : TypeId → Nat → Bool} {s : Schema} {q : Query} {o : Options} {ty : TypeId} {sub : List Sel}
    (h : SpecialB ok s q o ty sub) (hok : OkSpec q ok) (hty : absHyp s ty) {g : Nat} (hg : Sel.spread g ∈ sub) :
    ∃ f, q.fragments[g]? = some f ∧ (f.on = ty → f.name ≠ "ID" ∧ fragmentIsRecursive q g = false) := by
  cases hb : isBSpread q ty (.spread g) with
  | true =>
    have hbf := h.b g hg hb
    obtain ⟨f, hf, hon, hname, _, _⟩ := fragOkB_parts hbf.okB
    exact ⟨f, hf, fun _ => ⟨hname, not_recursive_of_fragOkB hbf.okB⟩⟩
  | false =>
    obtain ⟨f, hf, hne⟩ := h.x.spread hok hty (mem_unB.mpr ⟨hg, hb⟩)
    exact ⟨f, hf, fun hon => absurd hon hne⟩

/-! ## the items of an abstract position of the class -/

section CalcAbs
variable (c : Ctx) (hn : c.o.normalization = .none) (ok : TypeId → Nat → Bool) (hok : OkSpec c.q ok)

include hn in
/-- the field loop: the interface-level fields and one flattened member per (b)-spread, no items -/
theorem calcFieldsB (pfx : String) (ty : TypeId) : ∀ (sub : List Sel), (∀ x ∈ sub, leafSel c.s c.q c.o x = true) →
    (∀ g, Sel.spread g ∈ sub → ∃ f, c.q.fragments[g]? = some f ∧
      (f.on = ty → f.name ≠ "ID" ∧ fragmentIsRecursive c.q g = false)) →
    C02.CalcFields c pfx ty sub (fieldsB c pfx ty sub) []
  | [], _, _ => .nil
  | x :: xs, hlf, hsp => by
    have ih := calcFieldsB pfx ty xs (fun y hy => hlf y (List.mem_cons_of_mem _ hy))
      (fun g hg => hsp g (List.mem_cons_of_mem _ hg))
    rw [fieldsB_cons]
    cases x with
    | field a fid sub' =>
      obtain ⟨sf, hsf, hw, hdep', _, hty⟩ := leafSel_field (hlf _ (List.mem_cons_self))
      rcases hty with ⟨k, sn, hid, hk⟩ | ⟨k, en, hid, hk⟩
      · have := C02.CalcFields.scalar (pfx := pfx) (ty := ty) (a := a) (sub := sub') (C02.getField_of hsf) hid (C02.getScalar_of hk)
          (by rw [hn, C02.fieldType_none]; exact renderField_tree c _ _ _ _ hw hdep') ih
        simpa [fieldOfSelB, fieldOfSelV, hsf, hid, leafNameV, hk] using
          (show C02.CalcFields c pfx ty _ (fieldOf c _ _ _ _ :: _) _ from this)
      · have := C02.CalcFields.enum (pfx := pfx) (ty := ty) (a := a) (sub := sub') (C02.getField_of hsf) hid (C02.getEnum_of hk)
          (by rw [hn, C02.fieldType_none]; exact renderField_tree c _ _ _ _ hw hdep') ih
        simpa [fieldOfSelB, fieldOfSelV, hsf, hid, leafNameV, hk] using
          (show C02.CalcFields c pfx ty _ (fieldOf c _ _ _ _ :: _) _ from this)
    | spread g =>
      obtain ⟨fr, hfr, hb⟩ := hsp g (List.mem_cons_self)
      by_cases hon : fr.on = ty
      · obtain ⟨hname, hrec⟩ := hb hon
        have := C02.CalcFields.spreadHere (C02.getFragment_of hfr) (by simp [hon])
          (by rw [hrec]; exact renderField_spread c fr hname) ih
        simpa [fieldOfSelB, hfr, hon] using (show C02.CalcFields c pfx ty _ (spreadField c fr :: _) _ from this)
      · simpa [fieldOfSelB, hfr, hon] using
          C02.CalcFields.spreadOther (pfx := pfx) (C02.getFragment_of hfr) (by simpa using hon) ih
    | inline t sub' => simpa [fieldOfSelB, fieldOfSelV] using C02.CalcFields.inline (t := t) (sub := sub') ih
    | typename => simpa [fieldOfSelB, fieldOfSelV] using C02.CalcFields.typename ih

include hn hok in
/-- **the items of an abstract position of the class**, as a derivation -/
theorem calcSel_abstractB (name pfx : String) (ty : TypeId) (sub : List Sel) (hty : absHyp c.s ty)
    (h : SpecialB ok c.s c.q c.o ty sub) : C02.CalcSel c name pfx ty sub (absItemsB c name pfx ty sub) := by
  have hns : ∀ g, sub ≠ [Sel.spread g] := by
    intro g hg
    have := h.tn
    subst hg
    simp [isTypename] at this
  have hv : variantsOf c.s ty = .ok (some (vtsOfTy c.s ty)) := by
    apply variantsOf_abs
    cases ty <;> simp only [absHyp] at hty ⊢ <;> trivial
  have hsp := fun g hg => h.spread hok hty (g := g) hg
  have hvar := C02.CalcVars.of_ok (calcVariants_X c hn ok hok name pfx ty (unB c.q ty sub) hty h.x _
    (fun _ _ hm => Nat.le_trans (Nat.le_add_left _ _) (inline_length_le_selsSize hm)) (vtsOfTy c.s ty) _ (Nat.le_refl _)
    (fun _ ht => ht))
  rw [vselsOfS_unB] at hvar
  simpa [absItemsB, variantsV, otherVariants] using C02.CalcSel.abstract hns hv
    (filterMapM_variantSelS c.q ty sub (fun g hg => (hsp g hg).imp fun _ hx => hx.1)) hvar
    (calcFieldsB c hn pfx ty sub h.leaf hsp)

end CalcAbs

/-! ## the closed form of the items for `NestedBOp` -/

section CalcA
variable (c : Ctx) (hn : c.o.normalization = .none) (ok : TypeId → Nat → Bool) (hok : OkSpec c.q ok)

/-- at a field that is not of object type: the items of the old class, or those of the abstract position -/
theorem itemsA_nonobj (pfx : String) (a : Option String) (fid : Nat) (sub : List Sel) (sf : StoredField)
    (hsf : c.s.fields[fid]? = some sf) (hno : ∀ i, sf.ty.id ≠ .object i) :
    itemsA c pfx (.field a fid sub) =
      if sSel c.s c.q c.o false (.field a fid sub) then itemsS c pfx (.field a fid sub)
      else absItemsB c (pfx ++ c.cs.camel (a.getD sf.name)) (pfx ++ c.cs.camel (a.getD sf.name)) sf.ty.id sub := by
  rw [itemsA]
  simp only [hsf]

theorem itemsA_old (pfx : String) (a : Option String) (fid : Nat) (sub : List Sel) (sf : StoredField)
    (hsf : c.s.fields[fid]? = some sf) (hno : ∀ i, sf.ty.id ≠ .object i)
    (hs : sSel c.s c.q c.o false (.field a fid sub) = true) :
    itemsA c pfx (.field a fid sub) = itemsS c pfx (.field a fid sub) := by
  rw [itemsA_nonobj c pfx a fid sub sf hsf hno, if_pos hs]

theorem itemsA_new (pfx : String) (a : Option String) (fid : Nat) (sub : List Sel) (sf : StoredField)
    (hsf : c.s.fields[fid]? = some sf) (hno : ∀ i, sf.ty.id ≠ .object i)
    (hs : sSel c.s c.q c.o false (.field a fid sub) = false) :
    itemsA c pfx (.field a fid sub) =
      absItemsB c (pfx ++ c.cs.camel (a.getD sf.name)) (pfx ++ c.cs.camel (a.getD sf.name)) sf.ty.id sub := by
  rw [itemsA_nonobj c pfx a fid sub sf hsf hno, hs]; rfl

/-- one selection of the class is one step of the field loop -/
def AStep (x : Sel) : Prop := ∀ (pfx : String) (i : Nat) (rest : List Sel) (fs : List RField) (items : List Item),
  aSel ok c.s c.q c.o (.object i) x = true → C02.CalcFields c pfx (.object i) rest fs items →
  C02.CalcFields c pfx (.object i) (x :: rest) ((fieldOfSelF c pfx x).toList ++ fs) (itemsA c pfx x ++ items)

theorem calcFields_nestedB {sels : List Sel} (H : ∀ y ∈ sels, AStep c ok y) (pfx : String) (i : Nat)
    (ht : aSels ok c.s c.q c.o (.object i) sels = true) :
    C02.CalcFields c pfx (.object i) sels (fieldsOfF c pfx sels) (itemsAs c pfx sels) := by
  induction sels with
  | nil => exact .nil
  | cons x rest ih =>
    rw [fieldsOfF_cons, itemsAs]
    exact H x List.mem_cons_self pfx i rest _ _ (aSels_cons ht).1
      (ih (fun y hy => H y (List.mem_cons_of_mem _ hy)) (aSels_cons ht).2)

include hok in
theorem calcBody_nestedB {sels : List Sel} (H : ∀ y ∈ sels, AStep c ok y) (name pfx : String) (i : Nat)
    (ht : aBody ok c.s c.q c.o (.object i) sels = true) :
    C02.CalcSel c name pfx (.object i) sels (bodyItemsA c name pfx sels) := by
  rcases lone_or_not sels with ⟨g, rfl⟩ | hnl
  · obtain ⟨fr, hfr, _, _, hrec⟩ := hok _ _ (ht : ok (.object i) g = true)
    have := C02.CalcSel.alias (c := c) (name := name) (pfx := pfx) (ty := .object i) (C02.getFragment_of hfr)
    simpa [bodyItemsA, fragName, hfr, hrec] using this
  · rw [bodyItemsA_not_lone c name pfx hnl]
    rw [aBody_not_lone hnl] at ht
    exact .object hnl (calcFields_nestedB c ok H pfx i ht)

include hn hok in
theorem aStep : ∀ x, AStep c ok x := by
  apply Sel.ind
  · intro a fid sub IH pfx i rest fs items hx hR
    obtain ⟨sf, hsf⟩ := aSel_field_some hx
    by_cases hobj : ∃ j, sf.ty.id = .object j
    · obtain ⟨j, hid⟩ := hobj
      obtain ⟨hw, hdep', _, hbody⟩ := aSel_obj hsf hid hx
      have hS := calcBody_nestedB c ok hok IH (pfx ++ c.cs.camel (a.getD sf.name)) (pfx ++ c.cs.camel (a.getD sf.name))
        j hbody
      have := C02.CalcFields.nested (C02.getField_of hsf) (by simp [hid]) (by simp [hid]) (by simp [hid])
        (renderField_tree c _ _ _ _ hw hdep') (hid ▸ hS) hR
      have hitems : itemsA c pfx (.field a fid sub) =
          bodyItemsA c (pfx ++ c.cs.camel (a.getD sf.name)) (pfx ++ c.cs.camel (a.getD sf.name)) sub := by
        rw [itemsA]; simp only [hsf, hid]; rfl
      rw [hitems]
      simpa [fieldOfSelF, fieldOfSelV, hsf, hid, leafNameV] using this
    · have hno : ∀ j, sf.ty.id ≠ .object j := fun j h => hobj ⟨j, h⟩
      rcases aSel_nonobj hsf hno hx with hs | ⟨hs, hnew⟩
      · rw [itemsA_old c pfx a fid sub sf hsf hno hs]
        exact calcFields_sField c hn pfx _ a fid sub sf hsf hno hs hR
      · -- a field of abstract type of the new kind
        rw [itemsA_new c pfx a fid sub sf hsf hno hs]
        obtain ⟨hw, hdep', hty, hsubA⟩ := absFieldB_parts hnew
        have hS := calcSel_abstractB c hn ok hok (pfx ++ c.cs.camel (a.getD sf.name))
          (pfx ++ c.cs.camel (a.getD sf.name)) sf.ty.id sub hty (absSubB_parts hsubA)
        have := C02.CalcFields.nested (C02.getField_of hsf)
          (fun e he => by rw [he] at hty; simp [absHyp] at hty) (fun k hk => by rw [hk] at hty; simp [absHyp] at hty)
          (fun k hk => by rw [hk] at hty; simp [absHyp] at hty) (renderField_tree c _ _ _ _ hw hdep') hS hR
        have hleaf : leafNameV c pfx (a.getD sf.name) sf.ty.id = some (pfx ++ c.cs.camel (a.getD sf.name)) := by
          revert hty; cases sf.ty.id <;> simp [absHyp, leafNameV]
        simpa [fieldOfSelF, fieldOfSelV, hsf, hleaf] using this
  · intro t sub _ pfx i rest fs items hx _
    simp [aSel] at hx
  · intro g pfx i rest fs items hx hR
    simpa [itemsA] using calcFields_okSpread c ok hok pfx i g (by simpa [aSel] using hx) hR
  · intro pfx i rest fs items _ hR
    simpa [fieldOfSelF, fieldOfSelV, itemsA] using C02.CalcFields.typename hR

include hn hok in
/-- **the closed form of the items of an object-level selection set of the class**, as a derivation -/
theorem calc_nestedB (name pfx : String) (i : Nat) {sels : List Sel}
    (ht : aBody ok c.s c.q c.o (.object i) sels = true) :
    C02.CalcSel c name pfx (.object i) sels (bodyItemsA c name pfx sels) :=
  calcBody_nestedB c ok hok (fun y _ => aStep c hn ok hok y) name pfx i ht

end CalcA

theorem nestedBOp_parts {c : Ctx} {op : ROperation} (h : NestedBOp c op = true) :
    c.o.normalization = .none ∧ (c.s.objects[op.objectId]?).isSome = true ∧
      aBody (fragOkN c.s c.q c.o c.q.fragments.length) c.s c.q c.o (.object op.objectId) op.sels = true := by
  simp only [NestedBOp, Bool.and_eq_true, beq_iff_eq] at h
  exact ⟨h.1.1, h.1.2, h.2⟩

/-- **`nestedb_items_shape`.**  For an operation of the class `NestedBOp` the response items are, in closed
    form, `bodyItemsA`: those of `nested_items_shape`, and at a field of abstract type of the general kind `absItemsB`: the
    struct of the interface-level fields, one flattened member per fragment spread on the abstract type itself and the
    flattened tagged enum `…On` (the tagged enum alone without fields and such spreads), and per selected possible type what
    `nestedgen2_items_shape` gives (`variantHeadX`). -/
theorem nestedb_items_shape (c : Ctx) (op : ROperation) (hop : op ∈ c.q.operations) (ht : NestedBOp c op = true) :
    responseItems c op = .ok (bodyItemsA c "ResponseData" (c.cs.camel op.name) op.sels) := by
  obtain ⟨hn, _, hsels⟩ := nestedBOp_parts ht
  exact (calc_nestedB c hn _ (fragOkN_spec c.s c.q c.o _) _ _ _ hsels).responseItems_eq hop

end C01NB
end GqlVerif
