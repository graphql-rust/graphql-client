import GqlVerif.Proofs.C07PermCodegenB
import GqlVerif.Proofs.CalcVariantsPushed
import GqlVerif.Proofs.CalcSim
/-!
# C07, type-order permutations (part C) — the `calc*` block under a renumbering of the type ids

The four mutually recursive, fuel-indexed functions `calcSelection` / `calcVariants` / `calcVariantSels` / `calcFields`
are compared on a context `c` and its renumbering `tC R t c` (`TypeIso R c.s t`).  The variants of an interface are
visited in object-id order, so the two runs visit them in different orders **and hand them different amounts of
fuel**; the comparison is therefore `ResF`: for *every* fuel `f'` of the second run, if the first run succeeds then the
second one either runs out of fuel or succeeds with an `ItemsPerm`-related result (`calc_rel`).  The renumbered context
is an instance of `C09.calc_sim` with the loose policy (`TypeIso.calcSim`); what is particular to permutations is the
loop over a permuted variant list, obtained from its single iterations at all smaller fuels (`variants_perm`).  The fuel
escape is closed at the top by `C02.responseItems_fuel_sufficient` / `C02.fragmentItems_fuel_sufficient` (`calcFuel` is
never exhausted): `responseItems_tiso`, `fragmentItems_tiso` (part D).
-/

namespace GqlVerif
namespace C07P
open Codegen
open C09 (oneV calcVariants_succ GRel CalcSim ORel OptRel)

/-- results of `calcFields` on the two sides: the same members, the items up to order -/
def Rel4 (a b : List RField × List Item) : Prop := b.1 = a.1 ∧ ItemsPerm a.2 b.2
/-- results of `calcVariantSels`: the same members and aliased fragments, the items up to order -/
def Rel3 (a b : List RField × List Item × List Item) : Prop := b.1 = a.1 ∧ ItemsPerm a.2.1 b.2.1 ∧ b.2.2 = a.2.2

section
variable {R : Ren} {t : Schema} (c : Ctx) (h : TypeIso R c.s t)

/-! `J1`, `J3`, `J4`: the members of `calc_rel` for `calcSelection`, `calcVariantSels`, `calcFields`, first run with fuel
`f`, second run with any fuel `f'`.  There is no `J2`: the loop of `calcVariants` over a permuted variant list is
`C09.SimVariants` (`variants_perm`). -/

def J1 (f : Nat) : Prop := ∀ name pfx ty sels f',
  ResF ItemsPerm (calcSelection c f name pfx ty sels) (calcSelection (tC R t c) f' name pfx (R.tid ty) (tSels R sels))
def J3 (f : Nat) : Prop := ∀ sname pfx vt mine f',
  ResF Rel3 (calcVariantSels c f sname pfx vt mine)
    (calcVariantSels (tC R t c) f' sname pfx (R.tid vt) (mine.map (renMap R).vsel))
def J4 (f : Nat) : Prop := ∀ pfx ty sels f',
  ResF Rel4 (calcFields c f pfx ty sels) (calcFields (tC R t c) f' pfx (R.tid ty) (tSels R sels))

include h

omit h in
theorem calcVariants_ok (name pfx : String) (vsels : List VariantSel) : ∀ (f : Nat) (vts : List TypeId)
    (r : List RVariant × List Item), calcVariants c f name pfx vsels vts = .ok r →
    ∃ qs : List (TypeId × (RVariant × List Item)), qs.map (·.1) = vts ∧
      (∀ q ∈ qs, ∃ g, g < f ∧ oneV c g pfx vsels q.1 = .ok q.2) ∧
      r = (qs.map (·.2.1), (qs.map (·.2.2)).flatten) := by
  intro f
  induction f with
  | zero => intro vts r hr; rw [calcVariants.eq_1] at hr; cases hr
  | succ f ih =>
    intro vts r hr
    cases vts with
    | nil =>
      rw [calcVariants.eq_2 _ _ _ _ _ (by omega)] at hr
      cases hr
      exact ⟨[], rfl, by simp, rfl⟩
    | cons vt rest =>
      rw [calcVariants_succ] at hr
      obtain ⟨a, ha, hr⟩ := C02.bind_ok hr
      obtain ⟨b, hb, hr⟩ := C02.bind_ok hr
      cases hr
      obtain ⟨qs, h1, h2, h3⟩ := ih rest b hb
      refine ⟨(vt, a) :: qs, by simp [h1], ?_, by simp [h3]⟩
      intro q hq
      simp only [List.mem_cons] at hq
      rcases hq with rfl | hq
      · exact ⟨f, by omega, ha⟩
      · obtain ⟨g, hg, hq⟩ := h2 q hq
        exact ⟨g, by omega, hq⟩

omit h in
/-- the per-variant loop of the second run, from per-variant facts that hold for every fuel -/
theorem calcVariants_compose (c' : Ctx) (name pfx : String) (vsels' : List VariantSel) :
    ∀ (ps : List (TypeId × (RVariant × List Item))),
    (∀ p ∈ ps, ∀ g', OOF (oneV c' g' pfx vsels' p.1) ∨ ∃ x', oneV c' g' pfx vsels' p.1 = .ok x' ∧ C09.VariantRel ItemsPerm p.2 x') →
    ∀ f', OOF (calcVariants c' f' name pfx vsels' (ps.map (·.1))) ∨
      ∃ r', calcVariants c' f' name pfx vsels' (ps.map (·.1)) = .ok r' ∧ r'.1 = ps.map (·.2.1) ∧
        ItemsPerm (ps.map (·.2.2)).flatten r'.2 := by
  intro ps
  induction ps with
  | nil =>
    intro _ f'
    cases f' with
    | zero => exact .inl ⟨_, calcVariants.eq_1 ..⟩
    | succ f' =>
      right
      exact ⟨([], []), calcVariants.eq_2 _ _ _ _ _ (by omega), rfl, .nil⟩
  | cons p ps ih =>
    intro hp f'
    cases f' with
    | zero => exact .inl ⟨_, calcVariants.eq_1 ..⟩
    | succ f' =>
      rw [List.map_cons, calcVariants_succ]
      rcases hp p (by simp) f' with ⟨w, hw⟩ | ⟨x', hx', hrel⟩
      · left; exact ⟨w, by rw [hw]; rfl⟩
      · rcases ih (fun q hq => hp q (by simp [hq])) f' with ⟨w, hw⟩ | ⟨r', hr', h1, h2⟩
        · left; exact ⟨w, by rw [hx', hw]; rfl⟩
        · right
          refine ⟨(x'.1 :: r'.1, x'.2 ++ r'.2), by rw [hx', hr']; rfl, ?_, ?_⟩
          · simp only [List.map_cons, hrel.1, h1]
          · simp only [List.map_cons, List.flatten_cons]
            exact ItemsPerm.append hrel.2 h2

omit h in
theorem perm_lift {α β} (φ : α → β) {l' : List β} {qs : List α} (hp : l'.Perm (qs.map φ)) :
    ∃ ps : List α, ps.Perm qs ∧ ps.map φ = l' := by
  generalize hb : qs.map φ = b at hp
  induction hp generalizing qs with
  | nil =>
    cases qs with
    | nil => exact ⟨[], .nil, rfl⟩
    | cons => cases hb
  | cons x _ ih =>
    cases qs with
    | nil => cases hb
    | cons q qs =>
      simp only [List.map_cons, List.cons.injEq] at hb
      obtain ⟨ps, h1, h2⟩ := ih hb.2
      exact ⟨q :: ps, h1.cons q, by simp [h2, hb.1]⟩
  | swap x y l =>
    cases qs with
    | nil => cases hb
    | cons q qs =>
      cases qs with
      | nil => cases hb
      | cons q2 qs =>
        simp only [List.map_cons, List.cons.injEq] at hb
        exact ⟨q2 :: q :: qs, .swap _ _ _, by simp [hb.1, hb.2.1, hb.2.2]⟩
  | trans _ _ ih1 ih2 =>
    obtain ⟨ps2, h1, h2⟩ := ih2 hb
    obtain ⟨ps1, h3, h4⟩ := ih1 h2
    exact ⟨ps1, h3.trans h1, h4⟩

omit h in
/-- the loop over a permuted variant list, from its single iterations at all smaller fuels -/
theorem variants_perm (f : Nat)
    (HV : ∀ g, g < f → ∀ g', C09.SimOneV .loose (renMap R) ItemsPerm c (tC R t c) g g') (f' : Nat) :
    C09.SimVariants .loose (renMap R) List.Perm (fun a b => b.Perm (a.map R.tid)) ItemsPerm c (tC R t c) f f' := by
  intro name pfx vsels vts vts' hp
  refine (GRel.loose_iff _ _).2 fun r hr => ?_
  obtain ⟨qs, h1, h2, h3⟩ := calcVariants_ok c name pfx vsels f vts r hr
  rw [← h1, List.map_map] at hp
  obtain ⟨ps, hps, hmap⟩ := perm_lift _ hp
  have key := calcVariants_compose (tC R t c) name pfx (vsels.map (renMap R).vsel)
    (ps.map fun q => (R.tid q.1, q.2)) (by
      intro p hp' g'
      obtain ⟨q, hq, rfl⟩ := List.mem_map.1 hp'
      obtain ⟨g, hg, hq'⟩ := h2 q (hps.mem_iff.1 hq)
      have := HV g hg g' pfx vsels q.1
      rw [renMap_ty] at this
      exact (GRel.loose_iff _ _).1 this q.2 hq') f'
  have e : (ps.map fun q => (R.tid q.1, q.2)).map (·.1) = vts' := by
    rw [← hmap, List.map_map]; rfl
  rw [e] at key
  rcases key with hw | ⟨r', hr', k1, k2⟩
  · exact .inl hw
  · refine .inr ⟨r', hr', ?_, ?_⟩
    · rw [h3, k1, List.map_map]
      exact (hps.map _).symm
    · rw [h3]
      simp only [List.map_map] at k2
      exact .trans (.of_perm ((hps.map _).symm.flatten)) k2

omit h in
theorem perm_isEmpty {α} {l l' : List α} (hp : l.Perm l') : l.isEmpty = l'.isEmpty := by
  have := hp.length_eq
  cases l <;> cases l' <;> simp_all

omit h in
theorem renderType_perm (name : String) (fs : List RField) {vs vs' : List RVariant} (hp : vs.Perm vs') :
    ItemsPerm (renderType c name fs vs) (renderType c name fs vs') := by
  unfold renderType
  rw [perm_isEmpty hp]
  split
  · exact .cons (.tagged _ _ _ _ hp) .nil
  · split
    · exact .refl _
    · exact .cons (.refl _) (.cons (.tagged _ _ _ _ hp) .nil)

/-- the variant lists: `none` for concrete types, otherwise a permutation of the renumbered list; same error -/
theorem variantsOf_tiso (ty : TypeId) :
    ORel (OptRel fun a b => b.Perm (a.map R.tid)) (variantsOf c.s ty) (variantsOf t (R.tid ty)) := by
  cases ty with
  | interface iid =>
    show (t.implementors (R.ifc iid)).map TypeId.object |>.Perm _
    rw [List.map_map]
    exact ((h.implementors iid).map TypeId.object).trans (List.Perm.of_eq (by simp [List.map_map, Function.comp_def, Ren.tid]))
  | union uid =>
    simp only [variantsOf, Ren.tid_union, h.getUnion]
    cases c.s.getUnion uid with
    | error e => rfl
    | ok u => exact List.Perm.refl _
  | object _ => trivial
  | scalar _ => trivial
  | «enum» _ => trivial
  | input _ => trivial

/-- the renumbered context answers every question of the `calc*` block as `c` does; the variants come in another order,
so the fuels differ and the second run may run out (`loose`) -/
theorem TypeIso.calcSim :
    CalcSim .loose (renMap R) Eq List.Perm (fun a b => b.Perm (a.map R.tid)) ItemsPerm c (tC R t c) where
  lawful := renMap_lawful h.inj
  reflF := fun _ => rfl
  appF := fun h1 h2 => by rw [h1, h2]
  nilI := ItemsPerm.refl _
  aliasI := fun _ _ _ => ItemsPerm.refl _
  appI := ItemsPerm.append
  reflV := List.Perm.refl
  appV := fun o hp => hp.append_right o
  cs := rfl
  otherVariant := rfl
  renderField_eq := rfl
  render := fun n fs fs' vs vs' e hp => by subst e; exact renderType_perm c n fs hp
  named := fun n _ g r quals fl bx dep =>
    ORel.refl (R := fun a b : Option RField => a.toList = b.toList) (fun _ => rfl) _
  getField := fun i => by
    show ORel _ _ (t.getField i)
    rw [h.getField]
    cases c.s.getField i with
    | error e => rfl
    | ok sf => exact ⟨rfl, rfl, by rw [renMap_ty]; rfl, rfl⟩
  getEnum := h.getEnum
  getScalar := h.getScalar
  typeName := fun ty => by rw [renMap_ty]; exact h.typeName ty
  variantsOf := fun ty => by rw [renMap_ty]; exact variantsOf_tiso c h ty
  frags := rfl
  isRec := fun g => fragmentIsRecursive_t R c.q g
  variants := fun f HV f' _ => variants_perm c f (fun g hg g' => HV g hg g' trivial) f'

theorem calc_rel : ∀ f, J1 (R := R) (t := t) c f ∧ J3 (R := R) (t := t) c f ∧ J4 (R := R) (t := t) c f := by
  intro f
  refine ⟨fun name pfx ty sels f' => ?_, fun sname pfx vt mine f' => ?_, fun pfx ty sels f' => ?_⟩
  · have := (C09.calc_sim (TypeIso.calcSim c h) f f' trivial).1 name pfx ty sels
    rw [renMap_ty] at this
    exact (GRel.loose_iff _ _).1 this
  · have := (C09.calc_sim (TypeIso.calcSim c h) f f' trivial).2.2.1 sname pfx vt mine
    rw [renMap_ty] at this
    exact ResF.mono ((GRel.loose_iff _ _).1 this) fun a b hab => ⟨hab.1.symm, hab.2.1, hab.2.2.1.symm⟩
  · have := (C09.calc_sim (TypeIso.calcSim c h) f f' trivial).2.2.2 pfx ty sels
    rw [renMap_ty] at this
    exact ResF.mono ((GRel.loose_iff _ _).1 this) fun a b hab => ⟨hab.1.symm, hab.2⟩

end

end C07P
end GqlVerif
