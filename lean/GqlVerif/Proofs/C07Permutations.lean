import GqlVerif.Proofs.C07ExtensionsCodegen
/-!
# C07 — type-order permutations within a kind

`type A … type B …` vs `type B … type A …` (in one rendering only): every id of the intermediate `Schema` changes —
the positions in the per-kind tables, the `TypeId`s inside field types, union variants, `implements` lists, field
parents, the name table and the roots, and (because fields are allocated owner by owner) the field ids.  So literal
equality of the two `Schema` values FAILS (`exP0`: two objects in the two orders); the schemas are isomorphic:

* `TypePerm` — per kind, the old ids in the new order (old id `i` becomes `idxOf i`); `Schema.mapTypes P` reorders the
  six per-kind tables and renumbers every type id (field ids kept); `Schema.renumber P s := (s.mapTypes P).normFields`
  then renumbers the field ids in owner order (`Schema.normFields` / `Schema.mapFields` of `C07Extensions`);
* `PermOf a a'` — the abstract schema `a'` lists the definitions of every kind in a permuted order;
  `permOf a a' : TypePerm` is the explicit renumbering (positions looked up by name);
* **`toSchema_perm`** — `a'.toSchema = a.toSchema.renumber (permOf a a')`, a literal equality; hence
  **`frontends_iso_perm`**: for *any* renderings (`IsSdlOf` / `IsIntroOf`: kinds interleaved in any way) of `a` and of
  `a'`, through either front-end, the second result is the first one mapped by `Schema.renumber (permOf a a')`.  Both
  steps of the renumbering are bijections on the ids in range (`permOf_perm`, `mapTypes_fieldOrder_perm`), and the
  field-renumbering half is invisible in the generated code (`codegen_perm_eq_mapTypes`), so what is left for
  `codegen_iso_perm` only concerns `mapTypes`.

The generated code: `Codegen.generate` on two schemas related by `Schema.renumber P` gives modules that are equal up
to the order of the items and of the variants of tagged enums.  The statement is written out here as the `Prop`
`CodegenIsoPermStatement`; it is proved in `Proofs/C07PermCodegenE.lean` (`C07P.codegen_iso_perm`), from the facts that
scalar / enum items are emitted in id order (`sortNat`), input items in table order, interface variants in object-id
order (`Schema.implementors`), while union variants keep the *declaration* order of the union, which `mapTypes` keeps.
What that relation means on the wire is `Proofs/C07PermCodegenSerde.lean` and `Proofs/C07PermCodegen.lean`.
-/

namespace GqlVerif
namespace C07

/-- the entries of `l` at the positions `σ`, in the order of `σ` -/
def pick {α} (σ : List Nat) (l : List α) : List α := σ.filterMap (fun i => l[i]?)

theorem pick_nil {α} (l : List α) : pick [] l = [] := rfl
theorem pick_cons {α} (i : Nat) (σ : List Nat) (l : List α) : pick (i :: σ) l = (l[i]?).toList ++ pick σ l := by
  simp only [pick, List.filterMap_cons]
  cases l[i]? <;> rfl
theorem pick_append {α} (σ τ : List Nat) (l : List α) : pick (σ ++ τ) l = pick σ l ++ pick τ l := by
  simp [pick, List.filterMap_append]
theorem pick_map {α β} (σ : List Nat) (l : List α) (f : α → β) : pick σ (l.map f) = (pick σ l).map f := by
  induction σ with
  | nil => rfl
  | cons i σ ih =>
    rw [pick_cons, pick_cons, ih, List.getElem?_map]
    cases l[i]? <;> simp
theorem pick_flatten {α} (segs : List (List Nat)) (l : List α) : pick segs.flatten l = segs.flatMap (pick · l) := by
  induction segs with
  | nil => rfl
  | cons g segs ih => simp [pick_append, ih]
theorem pick_range' {α} (A B C : List α) : pick (List.range' A.length B.length) (A ++ B ++ C) = B :=
  filterMap_getElem?_segment A B C

theorem getElem?_idxOf_key {α} (key : α → String) (l : List α) (hn : (l.map key).Nodup) (x : α) (hx : x ∈ l) :
    l[(l.map key).idxOf (key x)]? = some x := by
  have hmem : key x ∈ l.map key := List.mem_map.2 ⟨x, hx, rfl⟩
  have hlt := List.idxOf_lt_length_iff.2 hmem
  have hlt' : (l.map key).idxOf (key x) < l.length := by simpa using hlt
  rw [List.getElem?_eq_getElem hlt']
  have h1 : (l.map key)[(l.map key).idxOf (key x)] = key x := List.getElem_idxOf hlt
  rw [List.getElem_map] at h1
  exact congrArg some (nodup_map_inj key l hn _ (List.getElem_mem hlt') x hx h1)

/-- `oldIdx l l'` lists, for each entry of `l'`, its position in `l` (by key) -/
def oldIdx {α} (key : α → String) (l l' : List α) : List Nat := l'.map fun x => (l.map key).idxOf (key x)

theorem pick_oldIdx {α β} (key : α → String) (l l' : List α) (hn : (l.map key).Nodup) (hsub : ∀ x ∈ l', x ∈ l)
    (F : α → β) : pick (oldIdx key l l') (l.map F) = l'.map F := by
  induction l' with
  | nil => rfl
  | cons x l' ih =>
    rw [oldIdx, List.map_cons, pick_cons, List.getElem?_map, getElem?_idxOf_key key l hn x (hsub x (by simp))]
    simp only [Option.map_some, Option.toList_some, List.singleton_append, List.map_cons, List.cons.injEq, true_and]
    exact ih fun y hy => hsub y (by simp [hy])

theorem pick_oldIdx_zipIdx {α β} (key : α → String) (l l' : List α) (hn : (l.map key).Nodup) (hsub : ∀ x ∈ l', x ∈ l)
    (G : α × Nat → β) (k : Nat) :
    pick (oldIdx key l l') ((l.zipIdx k).map G) = l'.map fun x => G (x, k + (l.map key).idxOf (key x)) := by
  induction l' with
  | nil => rfl
  | cons x l' ih =>
    rw [oldIdx, List.map_cons, pick_cons, List.getElem?_map, List.getElem?_zipIdx,
      getElem?_idxOf_key key l hn x (hsub x (by simp))]
    simp only [Option.map_some, Option.toList_some, List.singleton_append, List.map_cons, List.cons.injEq, true_and]
    exact ih fun y hy => hsub y (by simp [hy])

theorem idxOf_oldIdx {α} (key : α → String) (l l' : List α) (hn : (l.map key).Nodup) (hsub : ∀ x ∈ l', x ∈ l)
    (x : α) (hx : x ∈ l) :
    (oldIdx key l l').idxOf ((l.map key).idxOf (key x)) = (l'.map key).idxOf (key x) := by
  induction l' with
  | nil => rfl
  | cons y l' ih =>
    simp only [oldIdx, List.map_cons, List.idxOf_cons]
    have hy := hsub y (by simp)
    by_cases hxy : key y = key x
    · simp [hxy]
    · have hne : (l.map key).idxOf (key y) ≠ (l.map key).idxOf (key x) := by
        intro h
        have h1 := getElem?_idxOf_key key l hn y hy
        have h2 := getElem?_idxOf_key key l hn x hx
        rw [h, h2] at h1
        exact hxy (by cases h1; rfl)
      have hb1 : ((l.map key).idxOf (key y) == (l.map key).idxOf (key x)) = false := by simpa using hne
      have hb2 : (key y == key x) = false := by simpa using hxy
      rw [hb1, hb2]
      simp only [cond_false]
      have := ih fun z hz => hsub z (by simp [hz])
      simp only [oldIdx] at this
      rw [this]

end C07
end GqlVerif

namespace GqlVerif

/-- per kind: the old ids in the new order (old id `i` becomes `idxOf i`) -/
structure TypePerm where
  scalars : List Nat
  enums : List Nat
  ifaces : List Nat
  objs : List Nat
  unions : List Nat
  inputs : List Nat
  deriving Repr, DecidableEq

namespace TypePerm
def tid (P : TypePerm) : TypeId → TypeId
  | .object i => .object (P.objs.idxOf i)
  | .scalar i => .scalar (P.scalars.idxOf i)
  | .interface i => .interface (P.ifaces.idxOf i)
  | .union i => .union (P.unions.idxOf i)
  | .enum i => .enum (P.enums.idxOf i)
  | .input i => .input (P.inputs.idxOf i)
def parent (P : TypePerm) : FieldParent → FieldParent
  | .object i => .object (P.objs.idxOf i)
  | .interface i => .interface (P.ifaces.idxOf i)
def ft (P : TypePerm) (t : FieldType) : FieldType := { t with id := P.tid t.id }
def field (P : TypePerm) (f : StoredField) : StoredField := { f with ty := P.ft f.ty, parent := P.parent f.parent }
end TypePerm

/-- renumber the type ids (and reorder the per-kind tables accordingly); field ids are kept -/
def Schema.mapTypes (P : TypePerm) (s : Schema) : Schema :=
  { objects := (C07.pick P.objs s.objects).map fun o => { o with implements := o.implements.map P.ifaces.idxOf }
    fields := s.fields.map P.field
    interfaces := C07.pick P.ifaces s.interfaces
    unions := (C07.pick P.unions s.unions).map fun u => { u with variants := u.variants.map P.tid }
    scalars := C07.pick P.scalars s.scalars
    enums := C07.pick P.enums s.enums
    inputs := (C07.pick P.inputs s.inputs).map fun i => { i with fields := i.fields.map fun p => (p.1, P.ft p.2) }
    names := s.names.map fun p => (p.1, P.tid p.2)
    queryType := s.queryType.map P.objs.idxOf
    mutationType := s.mutationType.map P.objs.idxOf
    subscriptionType := s.subscriptionType.map P.objs.idxOf }

/-- renumber the type ids, then the field ids in owner order -/
def Schema.renumber (P : TypePerm) (s : Schema) : Schema := (s.mapTypes P).normFields

namespace C07

/-- `a'` lists the definitions of every kind in a different order -/
structure PermOf (a a' : AS) : Prop where
  scalars : a'.scalars.Perm a.scalars
  enums : a'.enums.Perm a.enums
  interfaces : a'.interfaces.Perm a.interfaces
  objects : a'.objects.Perm a.objects
  unions : a'.unions.Perm a.unions
  inputs : a'.inputs.Perm a.inputs
  query : a'.query = a.query
  mutation : a'.mutation = a.mutation
  subscription : a'.subscription = a.subscription

/-- the renumbering between the schemas of `a` and `a'` -/
def permOf (a a' : AS) : TypePerm :=
  { scalars := List.range 5 ++ (oldIdx id a.scalars a'.scalars).map (5 + ·)
    enums := oldIdx (·.name) a.enums a'.enums
    ifaces := oldIdx (·.name) a.interfaces a'.interfaces
    objs := oldIdx (·.name) a.objects a'.objects
    unions := oldIdx (·.name) a.unions a'.unions
    inputs := oldIdx (·.name) a.inputs a'.inputs }

theorem namesInsert_map (f : TypeId → TypeId) (k : String) (v : TypeId) (l : List (String × TypeId)) :
    namesInsert k (f v) (l.map fun p => (p.1, f p.2)) = (namesInsert k v l).map fun p => (p.1, f p.2) := by
  induction l with
  | nil => rfl
  | cons p l ih =>
    obtain ⟨k', v'⟩ := p
    simp only [List.map_cons, namesInsert]
    split
    · rfl
    · split
      · rfl
      · simp only [List.map_cons, ih]

theorem insAll_map (f : TypeId → TypeId) (ps l : List (String × TypeId)) :
    insAll (ps.map fun p => (p.1, f p.2)) (l.map fun p => (p.1, f p.2)) = (insAll ps l).map fun p => (p.1, f p.2) := by
  induction ps generalizing l with
  | nil => rfl
  | cons p ps ih =>
    simp only [List.map_cons, insAll_cons]
    rw [namesInsert_map, ih]

theorem pairsFrom_idxOf (mk : Nat → TypeId) (ns : List String) (k : Nat) (hn : ns.Nodup) :
    pairsFrom mk ns k = ns.map fun n => (n, mk (k + ns.idxOf n)) := by
  induction ns generalizing k with
  | nil => rfl
  | cons n ns ih =>
    simp only [List.nodup_cons] at hn
    rw [pairsFrom_cons, ih (k + 1) hn.2]
    simp only [List.map_cons, List.idxOf_cons_self, Nat.add_zero, List.cons.injEq, true_and]
    apply List.map_congr_left
    intro m hm
    have : n ≠ m := fun h => hn.1 (h ▸ hm)
    have hb : (n == m) = false := by simpa using this
    simp only [List.idxOf_cons, hb, cond_false, Prod.mk.injEq, true_and]
    congr 1; omega


theorem pairs_kind_perm (mk : Nat → TypeId) (T : TypeId → TypeId) (σ : Nat → Nat) (htid : ∀ i, T (mk i) = mk (σ i))
    (ns ns' : List String) (k : Nat) (hn : ns.Nodup) (hp : ns'.Perm ns)
    (hσ : ∀ n ∈ ns, σ (k + ns.idxOf n) = k + ns'.idxOf n) :
    ((pairsFrom mk ns k).map fun p => (p.1, T p.2)).Perm (pairsFrom mk ns' k) := by
  rw [pairsFrom_idxOf mk ns k hn, pairsFrom_idxOf mk ns' k (hp.nodup_iff.2 hn), List.map_map]
  have : ns.map ((fun p : String × TypeId => (p.1, T p.2)) ∘ fun n => (n, mk (k + ns.idxOf n))) =
      ns.map fun n => (n, mk (k + ns'.idxOf n)) := by
    apply List.map_congr_left
    intro n hn'
    simp only [Function.comp, htid, hσ n hn']
  rw [this]
  exact hp.symm.map _

theorem idxOf_range_append (n i : Nat) (t : List Nat) (h : i < n) : (List.range n ++ t).idxOf i = i := by
  rw [List.idxOf_append, if_pos (by simpa using h), idxOf_range n i h]

theorem idxOf_map_add (c : Nat) (t : List Nat) (j : Nat) : (t.map (c + ·)).idxOf (c + j) = t.idxOf j := by
  induction t with
  | nil => rfl
  | cons x t ih =>
    simp only [List.map_cons, List.idxOf_cons, ih]
    by_cases hx : x = j
    · simp [hx]
    · have h1 : (c + x == c + j) = false := by simpa using hx
      have h2 : (x == j) = false := by simpa using hx
      rw [h1, h2]

theorem idxOf_scalars (t : List Nat) (j : Nat) :
    (List.range 5 ++ t.map (5 + ·)).idxOf (5 + j) = 5 + t.idxOf j := by
  rw [List.idxOf_append, if_neg (by simp), idxOf_map_add]
  simp; omega

theorem idxOf_oldIdx_name {α} (key : α → String) (l l' : List α) (hn : (l.map key).Nodup) (hp : l'.Perm l)
    (n : String) (hmem : n ∈ l.map key) :
    (oldIdx key l l').idxOf ((l.map key).idxOf n) = (l'.map key).idxOf n := by
  obtain ⟨x, hx, rfl⟩ := List.mem_map.1 hmem
  exact idxOf_oldIdx key l l' hn (fun y hy => hp.mem_iff.1 hy) x hx

theorem known_nodup_parts (a : AS) (hn : a.known.Nodup) :
    a.scalars.Nodup ∧ a.enumNames.Nodup ∧ a.ifaceNames.Nodup ∧ a.objNames.Nodup ∧ a.unionNames.Nodup ∧
      a.inputNames.Nodup := by
  simp only [AS.known, List.nodup_append] at hn
  exact ⟨hn.1.1.1.1.1.2.1, hn.1.1.1.1.2.1, hn.1.1.1.2.1, hn.1.1.2.1, hn.1.2.1, hn.2.1⟩

/-- **the name table of the permuted schema is the name table with the ids renumbered** -/
theorem names_perm (a a' : AS) (hn : a.known.Nodup) (hp : PermOf a a') :
    a'.names = a.names.map fun p => (p.1, (permOf a a').tid p.2) := by
  obtain ⟨hs, he, hi, ho, hu, hin⟩ := known_nodup_parts a hn
  have key := insAll_map (permOf a a').tid a.pairs []
  rw [AS.names, AS.names, List.map_nil] at *
  rw [← key]
  symm
  apply insAll_perm
  · simp only [AS.pairs, List.map_append]
    refine List.Perm.append (List.Perm.append (List.Perm.append (List.Perm.append (List.Perm.append
      (List.Perm.append ?_ ?_) ?_) ?_) ?_) ?_) ?_
    ·
      apply List.Perm.of_eq
      have : ∀ i, i < 5 → (permOf a a').tid (.scalar i) = .scalar i := by
        intro i hi'
        simp only [TypePerm.tid, permOf, idxOf_range_append 5 i _ hi']
      simp [Schema.defaultScalars, pairsFrom, List.zipIdx_cons, this]
    · exact pairs_kind_perm .scalar _ (permOf a a').scalars.idxOf (fun _ => rfl) a.scalars a'.scalars 5 hs hp.scalars
        (fun n hn' => by
          have := idxOf_oldIdx_name id a.scalars a'.scalars (by simpa using hs) hp.scalars n (by simpa using hn')
          simp only [List.map_id] at this
          simp only [permOf, idxOf_scalars, this])
    · exact pairs_kind_perm .enum _ (permOf a a').enums.idxOf (fun _ => rfl) a.enumNames a'.enumNames 0 he
        (hp.enums.map _) (fun n hn' => by
          have := idxOf_oldIdx_name (fun e : AEnum => e.name) a.enums a'.enums he hp.enums n hn'
          simpa [permOf, AS.enumNames] using this)
    · exact pairs_kind_perm .interface _ (permOf a a').ifaces.idxOf (fun _ => rfl) a.ifaceNames a'.ifaceNames 0 hi
        (hp.interfaces.map _) (fun n hn' => by
          have := idxOf_oldIdx_name (fun e : AIface => e.name) a.interfaces a'.interfaces hi hp.interfaces n hn'
          simpa [permOf, AS.ifaceNames] using this)
    · exact pairs_kind_perm .object _ (permOf a a').objs.idxOf (fun _ => rfl) a.objNames a'.objNames 0 ho
        (hp.objects.map _) (fun n hn' => by
          have := idxOf_oldIdx_name (fun e : AObj => e.name) a.objects a'.objects ho hp.objects n hn'
          simpa [permOf, AS.objNames] using this)
    · exact pairs_kind_perm .union _ (permOf a a').unions.idxOf (fun _ => rfl) a.unionNames a'.unionNames 0 hu
        (hp.unions.map _) (fun n hn' => by
          have := idxOf_oldIdx_name (fun e : AUnion => e.name) a.unions a'.unions hu hp.unions n hn'
          simpa [permOf, AS.unionNames] using this)
    · exact pairs_kind_perm .input _ (permOf a a').inputs.idxOf (fun _ => rfl) a.inputNames a'.inputNames 0 hin
        (hp.inputs.map _) (fun n hn' => by
          have := idxOf_oldIdx_name (fun e : AInput => e.name) a.inputs a'.inputs hin hp.inputs n hn'
          simpa [permOf, AS.inputNames] using this)
  · have : (a.pairs.map fun p => (p.1, (permOf a a').tid p.2)).map Prod.fst = a.pairs.map Prod.fst := by
      simp [List.map_map, Function.comp_def]
    rw [this, AS.pairs_keys]; exact hn



theorem pick_perm {α} (τ : List Nat) (l : List α) (h : τ.Perm (List.range l.length)) : (pick τ l).Perm l := by
  have h1 : (pick τ l).Perm (pick (List.range l.length) l) := h.filterMap _
  have h2 : pick (List.range l.length) l = l := by
    have := pick_range' [] l []
    simpa [List.range_eq_range'] using this
  rw [h2] at h1; exact h1

theorem map_idxOf_self {α} (key : α → String) (l : List α) (hn : (l.map key).Nodup) :
    (l.map fun x => (l.map key).idxOf (key x)) = List.range l.length := by
  apply List.ext_getElem
  · simp
  · intro i h1 h2
    have hi : i < (l.map key).length := by simpa using h1
    have := hn.idxOf_getElem i hi
    simp only [List.getElem_map, List.getElem_range] at this ⊢
    exact this

theorem oldIdx_perm {α} (key : α → String) (l l' : List α) (hn : (l.map key).Nodup) (hp : l'.Perm l) :
    (oldIdx key l l').Perm (List.range l.length) := by
  rw [← map_idxOf_self key l hn]
  exact hp.map _

theorem pick_map_add {α} (σ : List Nat) (A l : List α) : pick (σ.map (A.length + ·)) (A ++ l) = pick σ l := by
  induction σ with
  | nil => rfl
  | cons i σ ih =>
    rw [List.map_cons, pick_cons, pick_cons, ih, List.getElem?_append_right (by omega)]
    simp

theorem zipIdx_map_idxOf {α β} (key : α → String) (l : List α) (k : Nat) (hn : (l.map key).Nodup) (G : α × Nat → β) :
    (l.zipIdx k).map G = l.map fun x => G (x, k + (l.map key).idxOf (key x)) := by
  induction l generalizing k with
  | nil => rfl
  | cons x l ih =>
    simp only [List.map_cons, List.nodup_cons] at hn
    simp only [List.zipIdx_cons, List.map_cons, List.idxOf_cons_self, Nat.add_zero, List.cons.injEq, true_and]
    rw [ih (k + 1) hn.2]
    apply List.map_congr_left
    intro y hy
    have : key x ≠ key y := fun h => hn.1 (List.mem_map.2 ⟨y, hy, h.symm⟩)
    have hb : (key x == key y) = false := by simpa using this
    simp only [List.idxOf_cons, hb, cond_false]
    congr 2; omega


theorem namesGet_map (f : TypeId → TypeId) (n : String) (l : List (String × TypeId)) :
    namesGet n (l.map fun p => (p.1, f p.2)) = (namesGet n l).map f := by
  induction l with
  | nil => rfl
  | cons p l ih =>
    obtain ⟨k, v⟩ := p
    simp only [List.map_cons, namesGet]
    split
    · rfl
    · exact ih

section Look
variable (P : TypePerm) (N : List (String × TypeId))

theorem tyId_map (n : String) (h : ∃ id, namesGet n N = some id) :
    tyId (N.map fun p => (p.1, P.tid p.2)) n = P.tid (tyId N n) := by
  obtain ⟨id, h⟩ := h
  simp [tyId, namesGet_map, h]

theorem ftOf_map (t : GTy) (h : ∃ id, namesGet t.base N = some id) :
    ftOf (N.map fun p => (p.1, P.tid p.2)) t = P.ft (ftOf N t) := by
  simp [ftOf, TypePerm.ft, tyId_map P N _ h]

theorem ifaceId_map (n : String) (h : ∃ i, namesGet n N = some (.interface i)) :
    ifaceId (N.map fun p => (p.1, P.tid p.2)) n = P.ifaces.idxOf (ifaceId N n) := by
  obtain ⟨i, h⟩ := h
  simp only [ifaceId, namesGet_map, h]
  rfl

theorem rootId_map (r : Option String) :
    rootId (N.map fun p => (p.1, P.tid p.2)) r = (rootId N r).map P.objs.idxOf := by
  cases r with
  | none => rfl
  | some n =>
    simp only [rootId, Option.bind, namesGet_map]
    cases namesGet n N with
    | none => rfl
    | some id => cases id <;> rfl

theorem storedField_map (parent : FieldParent) (f : AField) (h : ∃ id, namesGet f.ty.base N = some id) :
    storedField (N.map fun p => (p.1, P.tid p.2)) (P.parent parent) f = P.field (storedField N parent f) := by
  simp [storedField, TypePerm.field, ftOf_map P N _ h]

end Look

theorem consec_pick_objs (N : List (String × TypeId)) (os : List AObj) (k : Nat) (pre post : List StoredField) :
    (consec pre.length (os.map (·.fields.length))).map (pick · (pre ++ objFields N k os ++ post)) =
      (os.zipIdx k).map fun p => p.1.fields.map (storedField N (.object p.2)) := by
  induction os generalizing k pre with
  | nil => rfl
  | cons o os ih =>
    simp only [List.map_cons, consec, objFields, List.zipIdx_cons, List.cons.injEq]
    constructor
    · have := pick_range' pre (o.fields.map (storedField N (.object k))) (objFields N (k + 1) os ++ post)
      simp only [List.length_map, List.append_assoc] at this ⊢
      exact this
    · have := ih (k + 1) (pre ++ o.fields.map (storedField N (.object k)))
      simp only [List.length_append, List.length_map, List.append_assoc] at this ⊢
      exact this

theorem consec_pick_ifaces (N : List (String × TypeId)) (is : List AIface) (k : Nat) (pre post : List StoredField) :
    (consec pre.length (is.map (·.fields.length))).map (pick · (pre ++ ifaceFields N k is ++ post)) =
      (is.zipIdx k).map fun p => p.1.fields.map (storedField N (.interface p.2)) := by
  induction is generalizing k pre with
  | nil => rfl
  | cons o os ih =>
    simp only [List.map_cons, consec, ifaceFields, List.zipIdx_cons, List.cons.injEq]
    constructor
    · have := pick_range' pre (o.fields.map (storedField N (.interface k))) (ifaceFields N (k + 1) os ++ post)
      simp only [List.length_map, List.append_assoc] at this ⊢
      exact this
    · have := ih (k + 1) (pre ++ o.fields.map (storedField N (.interface k)))
      simp only [List.length_append, List.length_map, List.append_assoc] at this ⊢
      exact this

theorem objFields_zipIdx (N : List (String × TypeId)) (os : List AObj) (k : Nat) :
    objFields N k os = ((os.zipIdx k).map fun p => p.1.fields.map (storedField N (.object p.2))).flatten := by
  induction os generalizing k with
  | nil => rfl
  | cons o os ih => simp [objFields, List.zipIdx_cons, ih]

theorem ifaceFields_zipIdx (N : List (String × TypeId)) (is : List AIface) (k : Nat) :
    ifaceFields N k is = ((is.zipIdx k).map fun p => p.1.fields.map (storedField N (.interface p.2))).flatten := by
  induction is generalizing k with
  | nil => rfl
  | cons o os ih => simp [ifaceFields, List.zipIdx_cons, ih]


@[simp] theorem consec_length (start : Nat) (ns : List Nat) : (consec start ns).length = ns.length := by
  induction ns generalizing start with
  | nil => rfl
  | cons n ns ih => simp [consec, ih]

theorem objStored_implements (N : List (String × TypeId)) (start : Nat) (os : List AObj) :
    (objStored N start os).map (·.implements) = os.map fun o => o.implements.map (ifaceId N) := by
  induction os generalizing start with
  | nil => rfl
  | cons o os ih => simp [objStored, ih]

theorem ifaceStored_names (start : Nat) (is : List AIface) : (ifaceStored start is).map (·.name) = is.map (·.name) := by
  induction is generalizing start with
  | nil => rfl
  | cons o os ih => simp [ifaceStored, ih]

section
variable (a a' : AS) (hw : WfAS a) (hp : PermOf a a')
include hw hp

theorem perm_enums : a'.enums.map storedEnum = pick (permOf a a').enums (a.enums.map storedEnum) := by
  obtain ⟨_, he, _⟩ := known_nodup_parts a hw.1
  exact (pick_oldIdx (fun e : AEnum => e.name) a.enums a'.enums he (fun x hx => hp.enums.mem_iff.1 hx) storedEnum).symm

theorem perm_scalars :
    Schema.defaultScalars ++ a'.scalars = pick (permOf a a').scalars (Schema.defaultScalars ++ a.scalars) := by
  obtain ⟨hs, _⟩ := known_nodup_parts a hw.1
  simp only [permOf, pick_append]
  have h1 : pick (List.range 5) (Schema.defaultScalars ++ a.scalars) = Schema.defaultScalars := by
    have := pick_range' [] Schema.defaultScalars a.scalars
    simpa [List.range_eq_range', Schema.defaultScalars] using this
  have h2 := pick_map_add (oldIdx id a.scalars a'.scalars) Schema.defaultScalars a.scalars
  have h3 := pick_oldIdx id a.scalars a'.scalars (by simpa using hs) (fun x hx => hp.scalars.mem_iff.1 hx) id
  simp only [List.map_id] at h3
  rw [h1, show Schema.defaultScalars.length = 5 from rfl] at *
  rw [h2, h3]

theorem perm_unions :
    a'.unions.map (storedUnion a'.names) =
      (pick (permOf a a').unions (a.unions.map (storedUnion a.names))).map fun u =>
        { u with variants := u.variants.map (permOf a a').tid } := by
  obtain ⟨_, _, _, _, hu, _⟩ := known_nodup_parts a hw.1
  have e : (permOf a a').unions = oldIdx (fun e : AUnion => e.name) a.unions a'.unions := rfl
  rw [e, pick_oldIdx (fun e : AUnion => e.name) a.unions a'.unions hu (fun x hx => hp.unions.mem_iff.1 hx),
    List.map_map, names_perm a a' hw.1 hp]
  apply List.map_congr_left
  intro u hu'
  have hu'' := hp.unions.mem_iff.1 hu'
  simp only [storedUnion, Function.comp, List.map_map, StoredUnion.mk.injEq, true_and]
  apply List.map_congr_left
  intro m hm
  rw [Function.comp_apply]
  exact tyId_map _ _ m ((lookups a hw.1).known m (hw.2.2.2.2.1 u hu'' m hm))

theorem perm_inputs :
    a'.inputs.map (storedInput a'.names) =
      (pick (permOf a a').inputs (a.inputs.map (storedInput a.names))).map fun i =>
        { i with fields := i.fields.map fun p => (p.1, (permOf a a').ft p.2) } := by
  obtain ⟨_, _, _, _, _, hin⟩ := known_nodup_parts a hw.1
  have e : (permOf a a').inputs = oldIdx (fun e : AInput => e.name) a.inputs a'.inputs := rfl
  rw [e, pick_oldIdx (fun e : AInput => e.name) a.inputs a'.inputs hin (fun x hx => hp.inputs.mem_iff.1 hx),
    List.map_map, names_perm a a' hw.1 hp]
  apply List.map_congr_left
  intro i hi'
  have hi'' := hp.inputs.mem_iff.1 hi'
  simp only [storedInput, Function.comp, List.map_map, StoredInput.mk.injEq, true_and, and_true]
  apply List.map_congr_left
  intro f hf
  simp only [Function.comp, Prod.mk.injEq, true_and]
  exact ftOf_map _ _ f.2 ((lookups a hw.1).known _ (hw.2.2.2.2.2 i hi'' f hf))

end

/-- the field-id segments of the interfaces / objects of `a`, in the order of `a'` -/
def segsI (a a' : AS) : List (List Nat) :=
  pick (permOf a a').ifaces (consec 0 (a.interfaces.map (·.fields.length)))
def segsO (a a' : AS) : List (List Nat) :=
  pick (permOf a a').objs (consec (a.interfaces.map (·.fields.length)).sum (a.objects.map (·.fields.length)))

section
variable (a a' : AS) (hw : WfAS a) (hp : PermOf a a')
include hw hp

theorem segsI_lengths : (segsI a a').map List.length = a'.interfaces.map (·.fields.length) := by
  obtain ⟨_, _, hi, _⟩ := known_nodup_parts a hw.1
  rw [segsI, ← pick_map, consec_map_length]
  exact pick_oldIdx (fun e : AIface => e.name) a.interfaces a'.interfaces hi (fun x hx => hp.interfaces.mem_iff.1 hx) _

theorem segsO_lengths : (segsO a a').map List.length = a'.objects.map (·.fields.length) := by
  obtain ⟨_, _, _, ho, _⟩ := known_nodup_parts a hw.1
  rw [segsO, ← pick_map, consec_map_length]
  exact pick_oldIdx (fun e : AObj => e.name) a.objects a'.objects ho (fun x hx => hp.objects.mem_iff.1 hx) _

theorem segs_perm : ((segsI a a').flatten ++ (segsO a a').flatten).Perm
    (List.range ((a.interfaces.map (·.fields.length)).sum + (a.objects.map (·.fields.length)).sum)) := by
  obtain ⟨_, _, hi, ho, _⟩ := known_nodup_parts a hw.1
  rw [List.range_eq_range', ← List.range'_append_1, ← consec_flatten 0, Nat.zero_add, ← consec_flatten]
  refine List.Perm.append (List.Perm.flatten ?_) (List.Perm.flatten ?_)
  · apply pick_perm
    rw [consec_length, List.length_map]
    exact oldIdx_perm (fun e : AIface => e.name) a.interfaces a'.interfaces hi hp.interfaces
  · apply pick_perm
    rw [consec_length, List.length_map]
    exact oldIdx_perm (fun e : AObj => e.name) a.objects a'.objects ho hp.objects

theorem segsI_contents :
    (segsI a a').map (pick · (ifaceFields a.names 0 a.interfaces ++ objFields a.names 0 a.objects)) =
      a'.interfaces.map fun i => i.fields.map (storedField a.names (.interface (a.ifaceNames.idxOf i.name))) := by
  obtain ⟨_, _, hi, _⟩ := known_nodup_parts a hw.1
  rw [segsI, ← pick_map]
  have := consec_pick_ifaces a.names a.interfaces 0 [] (objFields a.names 0 a.objects)
  simp only [List.length_nil, List.nil_append] at this
  rw [this]
  have := pick_oldIdx_zipIdx (fun e : AIface => e.name) a.interfaces a'.interfaces hi
    (fun x hx => hp.interfaces.mem_iff.1 hx)
    (fun p => p.1.fields.map (storedField a.names (.interface p.2))) 0
  simp only [Nat.zero_add] at this
  exact this

theorem segsO_contents :
    (segsO a a').map (pick · (ifaceFields a.names 0 a.interfaces ++ objFields a.names 0 a.objects)) =
      a'.objects.map fun o => o.fields.map (storedField a.names (.object (a.objNames.idxOf o.name))) := by
  obtain ⟨_, _, _, ho, _⟩ := known_nodup_parts a hw.1
  rw [segsO, ← pick_map]
  have := consec_pick_objs a.names a.objects 0 (ifaceFields a.names 0 a.interfaces) []
  simp only [ifaceFields_length, List.append_nil] at this
  rw [this]
  have := pick_oldIdx_zipIdx (fun e : AObj => e.name) a.objects a'.objects ho
    (fun x hx => hp.objects.mem_iff.1 hx)
    (fun p => p.1.fields.map (storedField a.names (.object p.2))) 0
  simp only [Nat.zero_add] at this
  exact this

end

section
variable (a a' : AS) (hw : WfAS a) (hp : PermOf a a')
include hw hp

theorem iface_pos (i : AIface) (hi : i ∈ a'.interfaces) :
    (permOf a a').ifaces.idxOf (a.ifaceNames.idxOf i.name) = a'.ifaceNames.idxOf i.name := by
  obtain ⟨_, _, hn, _⟩ := known_nodup_parts a hw.1
  exact idxOf_oldIdx (fun e : AIface => e.name) a.interfaces a'.interfaces hn
    (fun x hx => hp.interfaces.mem_iff.1 hx) i (hp.interfaces.mem_iff.1 hi)

theorem obj_pos (o : AObj) (ho : o ∈ a'.objects) :
    (permOf a a').objs.idxOf (a.objNames.idxOf o.name) = a'.objNames.idxOf o.name := by
  obtain ⟨_, _, _, hn, _⟩ := known_nodup_parts a hw.1
  exact idxOf_oldIdx (fun e : AObj => e.name) a.objects a'.objects hn
    (fun x hx => hp.objects.mem_iff.1 hx) o (hp.objects.mem_iff.1 ho)

theorem perm_fields :
    ifaceFields a'.names 0 a'.interfaces ++ objFields a'.names 0 a'.objects =
      pick ((segsI a a').flatten ++ (segsO a a').flatten)
        ((ifaceFields a.names 0 a.interfaces ++ objFields a.names 0 a.objects).map (permOf a a').field) := by
  obtain ⟨_, _, hi, ho, _⟩ := known_nodup_parts a hw.1
  have hi' : (a'.interfaces.map (fun e : AIface => e.name)).Nodup := (hp.interfaces.map _).nodup_iff.2 hi
  have ho' : (a'.objects.map (fun e : AObj => e.name)).Nodup := (hp.objects.map _).nodup_iff.2 ho
  have L := lookups a hw.1
  rw [pick_map, pick_append, pick_flatten, pick_flatten, List.flatMap_def, List.flatMap_def,
    segsI_contents a a' hw hp, segsO_contents a a' hw hp, List.map_append, List.map_flatten, List.map_flatten,
    List.map_map, List.map_map, ifaceFields_zipIdx, objFields_zipIdx,
    zipIdx_map_idxOf (fun e : AIface => e.name) a'.interfaces 0 hi',
    zipIdx_map_idxOf (fun e : AObj => e.name) a'.objects 0 ho', names_perm a a' hw.1 hp]
  congr 2
  · apply List.map_congr_left
    intro i hi''
    simp only [Function.comp, List.map_map, Nat.zero_add]
    apply List.map_congr_left
    intro f hf
    have hk := L.known _ (hw.2.1 i (hp.interfaces.mem_iff.1 hi'') f hf)
    rw [Function.comp, ← storedField_map _ _ _ _ hk]
    simp only [TypePerm.parent]
    rw [iface_pos a a' hw hp i hi'']; rfl
  · apply List.map_congr_left
    intro o ho''
    simp only [Function.comp, List.map_map, Nat.zero_add]
    apply List.map_congr_left
    intro f hf
    have hk := L.known _ (hw.2.2.1 o (hp.objects.mem_iff.1 ho'') f hf)
    rw [Function.comp, ← storedField_map _ _ _ _ hk]
    simp only [TypePerm.parent]
    rw [obj_pos a a' hw hp o ho'']; rfl

end

theorem sum_map_length {α} (l : List (List α)) : l.flatten.length = (l.map List.length).sum := by
  induction l with
  | nil => rfl
  | cons x l ih => simp [ih]

section
variable (a a' : AS) (hw : WfAS a) (hp : PermOf a a')

/-- objects of the type-renumbered schema -/
def mObjs : List StoredObject :=
  (pick (permOf a a').objs (objStored a.names (ifaceFields a.names 0 a.interfaces).length a.objects)).map fun o =>
    { o with implements := o.implements.map (permOf a a').ifaces.idxOf }
def mIfaces : List StoredInterface := pick (permOf a a').ifaces (ifaceStored 0 a.interfaces)

theorem mObjs_fields : (mObjs a a').map (·.fields) = segsO a a' := by
  simp only [mObjs, List.map_map, Function.comp_def]
  rw [← pick_map, objStored_fields, ifaceFields_length]; rfl

theorem mIfaces_fields : (mIfaces a a').map (·.fields) = segsI a a' := by
  rw [mIfaces, ← pick_map, ifaceStored_fields]; rfl

include hw hp

theorem mObjs_names : (mObjs a a').map (·.name) = a'.objects.map (·.name) := by
  obtain ⟨_, _, _, ho, _⟩ := known_nodup_parts a hw.1
  simp only [mObjs, List.map_map, Function.comp_def]
  rw [← pick_map, objStored_names]
  exact pick_oldIdx (fun e : AObj => e.name) a.objects a'.objects ho (fun x hx => hp.objects.mem_iff.1 hx) _

theorem mIfaces_names : (mIfaces a a').map (·.name) = a'.interfaces.map (·.name) := by
  obtain ⟨_, _, hi, _⟩ := known_nodup_parts a hw.1
  rw [mIfaces, ← pick_map, ifaceStored_names]
  exact pick_oldIdx (fun e : AIface => e.name) a.interfaces a'.interfaces hi (fun x hx => hp.interfaces.mem_iff.1 hx) _

theorem mObjs_implements :
    (mObjs a a').map (·.implements) = a'.objects.map fun o => o.implements.map (ifaceId a'.names) := by
  obtain ⟨_, _, _, ho, _⟩ := known_nodup_parts a hw.1
  have L := lookups a hw.1
  simp only [mObjs, List.map_map, Function.comp_def]
  have : (pick (permOf a a').objs (objStored a.names (ifaceFields a.names 0 a.interfaces).length a.objects)).map
      (fun o => o.implements.map (permOf a a').ifaces.idxOf) =
      ((pick (permOf a a').objs (objStored a.names (ifaceFields a.names 0 a.interfaces).length a.objects)).map
        (·.implements)).map (List.map (permOf a a').ifaces.idxOf) := by
    rw [List.map_map]; rfl
  have e : (permOf a a').objs = oldIdx (fun e : AObj => e.name) a.objects a'.objects := rfl
  rw [this, ← pick_map, objStored_implements, e,
    pick_oldIdx (fun e : AObj => e.name) a.objects a'.objects ho (fun x hx => hp.objects.mem_iff.1 hx),
    List.map_map, names_perm a a' hw.1 hp]
  apply List.map_congr_left
  intro o ho'
  simp only [Function.comp, List.map_map]
  apply List.map_congr_left
  intro n hn
  exact (ifaceId_map _ _ n (L.impl n (hw.2.2.2.1 o (hp.objects.mem_iff.1 ho') n hn))).symm

/-- **type-order permutations**: the schema of the permuted abstract schema is the schema of the original one with
the type ids renumbered (`permOf a a'`) and then the field ids renumbered in owner order -/
theorem toSchema_perm : a'.toSchema = a.toSchema.renumber (permOf a a') := by
  have hσ : (a.toSchema.mapTypes (permOf a a')).fieldOrder = (segsI a a').flatten ++ (segsO a a').flatten := by
    show (mIfaces a a').flatMap (·.fields) ++ (mObjs a a').flatMap (·.fields) = _
    rw [List.flatMap_def, List.flatMap_def, mObjs_fields, mIfaces_fields]
  have hnd : ((segsI a a').flatten ++ (segsO a a').flatten).Nodup :=
    (segs_perm a a' hw hp).nodup_iff.2 List.nodup_range
  have hlenI : (segsI a a').flatten.length = (ifaceFields a'.names 0 a'.interfaces).length := by
    rw [sum_map_length, segsI_lengths a a' hw hp, ifaceFields_length]
  have hO : objStored a'.names (ifaceFields a'.names 0 a'.interfaces).length a'.objects =
      (mObjs a a').map fun o =>
        { o with fields := o.fields.map ((segsI a a').flatten ++ (segsO a a').flatten).idxOf } := by
    apply objs_ext
    · rw [objStored_names, List.map_map]; exact (mObjs_names a a' hw hp).symm
    · have := map_idxOf_segments (segsI a a').flatten (segsO a a') [] (by rw [List.append_nil]; exact hnd)
      rw [List.append_nil, hlenI, segsO_lengths a a' hw hp] at this
      have key : ∀ τ : List Nat, (mObjs a a').map ((·.fields) ∘ fun o => { o with fields := o.fields.map τ.idxOf }) =
          (segsO a a').map (·.map τ.idxOf) := by
        intro τ; rw [← mObjs_fields, List.map_map]; rfl
      rw [objStored_fields, List.map_map, key]
      exact this.symm
    · rw [objStored_implements, List.map_map]; exact (mObjs_implements a a' hw hp).symm
  have hI : ifaceStored 0 a'.interfaces =
      (mIfaces a a').map fun i =>
        { i with fields := i.fields.map ((segsI a a').flatten ++ (segsO a a').flatten).idxOf } := by
    apply ifaces_ext
    · rw [ifaceStored_names, List.map_map]; exact (mIfaces_names a a' hw hp).symm
    · have := map_idxOf_segments [] (segsI a a') (segsO a a').flatten (by rw [List.nil_append]; exact hnd)
      rw [List.nil_append, List.length_nil, segsI_lengths a a' hw hp] at this
      have key : ∀ τ : List Nat, (mIfaces a a').map ((·.fields) ∘ fun i => { i with fields := i.fields.map τ.idxOf }) =
          (segsI a a').map (·.map τ.idxOf) := by
        intro τ; rw [← mIfaces_fields, List.map_map]; rfl
      rw [ifaceStored_fields, List.map_map, key]
      exact this.symm
  unfold Schema.renumber Schema.normFields
  rw [hσ]
  simp only [Schema.mapFields, Schema.mapTypes, AS.toSchema]
  rw [perm_fields a a' hw hp, hO, hI, perm_unions a a' hw hp, perm_scalars a a' hw hp, perm_enums a a' hw hp,
    perm_inputs a a' hw hp, names_perm a a' hw.1 hp, rootId_map, rootId_map, rootId_map, hp.query, hp.mutation,
    hp.subscription]
  rfl

end

theorem known_perm (a a' : AS) (hp : PermOf a a') : a'.known.Perm a.known := by
  simp only [AS.known, AS.enumNames, AS.ifaceNames, AS.objNames, AS.unionNames, AS.inputNames]
  exact ((((((List.Perm.refl _).append hp.scalars).append (hp.enums.map _)).append (hp.interfaces.map _)).append
    (hp.objects.map _)).append (hp.unions.map _)).append (hp.inputs.map _)

theorem wf_perm (a a' : AS) (hw : WfAS a) (hp : PermOf a a') : WfAS a' := by
  have hk := known_perm a a' hp
  obtain ⟨hn, hif, hof, him, hun, hinp⟩ := hw
  refine ⟨hk.nodup_iff.2 hn, ?_, ?_, ?_, ?_, ?_⟩
  · exact fun i hi f hf => hk.mem_iff.2 (hif i (hp.interfaces.mem_iff.1 hi) f hf)
  · exact fun o ho f hf => hk.mem_iff.2 (hof o (hp.objects.mem_iff.1 ho) f hf)
  · exact fun o ho n hn' => (hp.interfaces.map _).mem_iff.2 (him o (hp.objects.mem_iff.1 ho) n hn')
  · exact fun u hu m hm => hk.mem_iff.2 (hun u (hp.unions.mem_iff.1 hu) m hm)
  · exact fun i hi f hf => hk.mem_iff.2 (hinp i (hp.inputs.mem_iff.1 hi) f hf)

/-- every component of `permOf a a'` is a permutation of the ids of its kind, so `idxOf` is a bijection on them
(`idxOf_bijection`) -/
theorem permOf_perm (a a' : AS) (hw : WfAS a) (hp : PermOf a a') :
    (permOf a a').scalars.Perm (List.range a.toSchema.scalars.length) ∧
    (permOf a a').enums.Perm (List.range a.toSchema.enums.length) ∧
    (permOf a a').ifaces.Perm (List.range a.toSchema.interfaces.length) ∧
    (permOf a a').objs.Perm (List.range a.toSchema.objects.length) ∧
    (permOf a a').unions.Perm (List.range a.toSchema.unions.length) ∧
    (permOf a a').inputs.Perm (List.range a.toSchema.inputs.length) := by
  obtain ⟨hs, he, hi, ho, hu, hin⟩ := known_nodup_parts a hw.1
  refine ⟨?_, ?_, ?_, ?_, ?_, ?_⟩
  · have h1 := oldIdx_perm id a.scalars a'.scalars (by simpa using hs) hp.scalars
    have h2 := h1.map (5 + ·)
    simp only [permOf, AS.toSchema, List.length_append]
    rw [show Schema.defaultScalars.length = 5 from rfl, List.range_eq_range' (n := 5 + _), ← List.range'_append_1,
      List.range_eq_range']
    refine List.Perm.append_left _ ?_
    refine h2.trans (List.Perm.of_eq ?_)
    rw [List.range_eq_range', List.map_add_range']
  · simpa [permOf, AS.toSchema] using oldIdx_perm (fun e : AEnum => e.name) a.enums a'.enums he hp.enums
  · have := oldIdx_perm (fun e : AIface => e.name) a.interfaces a'.interfaces hi hp.interfaces
    have hl : (ifaceStored 0 a.interfaces).length = a.interfaces.length := by
      have := congrArg List.length (ifaceStored_names 0 a.interfaces); simpa using this
    simpa [permOf, AS.toSchema, hl] using this
  · simpa [permOf, AS.toSchema] using oldIdx_perm (fun e : AObj => e.name) a.objects a'.objects ho hp.objects
  · simpa [permOf, AS.toSchema] using oldIdx_perm (fun e : AUnion => e.name) a.unions a'.unions hu hp.unions
  · simpa [permOf, AS.toSchema] using oldIdx_perm (fun e : AInput => e.name) a.inputs a'.inputs hin hp.inputs

/-- **`frontends_iso_perm`**, SDL vs SDL: two SDL documents that list the definitions of each kind in different
orders give schemas related by the renumbering `permOf a a'` of the type ids followed by the renumbering of the
field ids in owner order -/
theorem frontends_iso_perm_sdl (a a' : AS) (doc doc' : SdlDoc) (hw : WfAS a) (hp : PermOf a a')
    (hd : IsSdlOf a doc) (hd' : IsSdlOf a' doc') :
    Sdl.fromSdl doc' = (Sdl.fromSdl doc).map (Schema.renumber (permOf a a')) := by
  rw [sdl_spec a doc hw hd, sdl_spec a' doc' (wf_perm a a' hw hp) hd', toSchema_perm a a' hw hp]; rfl

/-- introspection vs introspection -/
theorem frontends_iso_perm_intro (a a' : AS) (l l' : List (Option FullType)) (hw : WfAS a) (hp : PermOf a a')
    (hi : IsIntroOf a (l.filterMap id)) (hi' : IsIntroOf a' (l'.filterMap id)) :
    Intro.fromIntro true (some (introSchemaOf a' l')) =
      (Intro.fromIntro true (some (introSchemaOf a l))).map (Schema.renumber (permOf a a')) := by
  rw [intro_spec a l hw hi, intro_spec a' l' (wf_perm a a' hw hp) hi', toSchema_perm a a' hw hp]; rfl

/-- **`frontends_iso_perm`**: one front-end sees the definitions in one order, the other one in another order -/
theorem frontends_iso_perm (a a' : AS) (doc : SdlDoc) (l' : List (Option FullType)) (hw : WfAS a) (hp : PermOf a a')
    (hd : IsSdlOf a doc) (hi' : IsIntroOf a' (l'.filterMap id)) :
    Intro.fromIntro true (some (introSchemaOf a' l')) = (Sdl.fromSdl doc).map (Schema.renumber (permOf a a')) := by
  rw [sdl_spec a doc hw hd, intro_spec a' l' (wf_perm a a' hw hp) hi', toSchema_perm a a' hw hp]; rfl


theorem mapTypes_fieldOrder (a a' : AS) :
    (a.toSchema.mapTypes (permOf a a')).fieldOrder = (segsI a a').flatten ++ (segsO a a').flatten := by
  show (mIfaces a a').flatMap (·.fields) ++ (mObjs a a').flatMap (·.fields) = _
  rw [List.flatMap_def, List.flatMap_def, mObjs_fields, mIfaces_fields]

/-- after the type renumbering, the field ids in owner order are a permutation of all field ids: the second step
of `Schema.renumber` is a bijective renumbering of the field ids (`idxOf_bijection`, `mapFields_getElem?`) -/
theorem mapTypes_fieldOrder_perm (a a' : AS) (hw : WfAS a) (hp : PermOf a a') :
    (a.toSchema.mapTypes (permOf a a')).fieldOrder.Perm
      (List.range (a.toSchema.mapTypes (permOf a a')).fields.length) := by
  rw [mapTypes_fieldOrder]
  have : (a.toSchema.mapTypes (permOf a a')).fields.length =
      (a.interfaces.map (·.fields.length)).sum + (a.objects.map (·.fields.length)).sum := by
    simp [Schema.mapTypes, AS.toSchema]
  rw [this]
  exact segs_perm a a' hw hp


/-- the second half of `Schema.renumber` (field ids in owner order) does not change the generated code: the code
generated from the permuted schema is the code generated from the type-renumbered schema -/
theorem codegen_perm_eq_mapTypes (a a' : AS) (hw : WfAS a) (hp : PermOf a a')
    (cs : CaseFns) (o : Options) (queryText : String) (doc : QDoc) :
    Codegen.generate a'.toSchema cs o queryText doc =
      Codegen.generate (a.toSchema.mapTypes (permOf a a')) cs o queryText doc := by
  rw [toSchema_perm a a' hw hp]
  exact codegen_respects_field_renumbering
    (fieldIso_mapFields _ _ (mapTypes_fieldOrder_perm a a' hw hp)) cs o queryText doc

/-! ## the statement proved in `Proofs/C07PermCodegenE.lean` (`codegen_iso_perm : CodegenIsoPermStatement`)

The full goal, as a type-checked `Prop` (a *definition* here; the proof is `C07P.codegen_iso_perm`): the modules generated from the
two schemas agree up to the order of the items and of the variants of tagged enums.  By `codegen_perm_eq_mapTypes`
it only concerns `Schema.mapTypes`. -/

/-- elementwise relation of two lists of the same length -/
inductive AllRel {α β : Type} (R : α → β → Prop) : List α → List β → Prop
  | nil : AllRel R [] []
  | cons {x y xs ys} : R x y → AllRel R xs ys → AllRel R (x :: xs) (y :: ys)

/-- equal up to the order of the variants of a tagged enum -/
inductive ItemEqv : Item → Item → Prop
  | refl (i : Item) : ItemEqv i i
  | tagged (n : String) (d : List String) (c : Option String) (tag : String) {vs vs' : List RVariant} :
      vs.Perm vs' → ItemEqv (.tagged n d c tag vs) (.tagged n d c tag vs')

/-- equal up to the order of the items (and of tagged-enum variants) -/
def ItemsEqv (l l' : List Item) : Prop := ∃ m, AllRel ItemEqv l m ∧ m.Perm l'

def ModuleEqv (m m' : Module) : Prop :=
  m.modName = m'.modName ∧ m.vis = m'.vis ∧ m.structDecl = m'.structDecl ∧ m.operationName = m'.operationName ∧
  m.query = m'.query ∧ m.queryInclude = m'.queryInclude ∧ m.useSerde = m'.useSerde ∧ m.implFor = m'.implFor ∧
  ItemsEqv m.items m'.items

/-- the statement of `codegen_iso_perm` (proved in `Proofs/C07PermCodegenE.lean`) -/
def CodegenIsoPermStatement : Prop :=
  ∀ (a a' : AS), WfAS a → PermOf a a' → ∀ (cs : CaseFns) (o : Options) (queryText : String) (doc : QDoc)
    (ms : List Module), Codegen.generate a.toSchema cs o queryText doc = .ok ms →
      ∃ ms', Codegen.generate a'.toSchema cs o queryText doc = .ok ms' ∧ AllRel ModuleEqv ms ms'

/-- the smallest instance: two objects listed in the two orders -/
def exP0 : AS := { objects := [⟨"A", [], [⟨"a", .named "Int", none⟩]⟩, ⟨"B", [], [⟨"b", .named "A", none⟩]⟩], query := some "B" }
def exP0' : AS := { exP0 with objects := exP0.objects.reverse }

instance (a a' : AS) : Decidable (PermOf a a') :=
  decidable_of_iff (a'.scalars.Perm a.scalars ∧ a'.enums.Perm a.enums ∧ a'.interfaces.Perm a.interfaces ∧
    a'.objects.Perm a.objects ∧ a'.unions.Perm a.unions ∧ a'.inputs.Perm a.inputs ∧ a'.query = a.query ∧
    a'.mutation = a.mutation ∧ a'.subscription = a.subscription)
    ⟨fun ⟨h1, h2, h3, h4, h5, h6, h7, h8, h9⟩ => ⟨h1, h2, h3, h4, h5, h6, h7, h8, h9⟩,
     fun ⟨h1, h2, h3, h4, h5, h6, h7, h8, h9⟩ => ⟨h1, h2, h3, h4, h5, h6, h7, h8, h9⟩⟩

example : WfAS exP0 ∧ PermOf exP0 exP0' := by decide +kernel
/-- literal equality FAILS: object ids, the ids in field types, field ids, the root id all change -/
example : exP0'.toSchema ≠ exP0.toSchema := by decide +kernel
example : (exP0.toSchema.objects.map (·.name), exP0.toSchema.fields.map (fun f => (f.name, f.ty.id, f.parent)),
      exP0.toSchema.queryType) =
    (["A", "B"], [("a", .scalar 2, .object 0), ("b", .object 0, .object 1)], some 1) := by decide +kernel
example : (exP0'.toSchema.objects.map (·.name), exP0'.toSchema.fields.map (fun f => (f.name, f.ty.id, f.parent)),
      exP0'.toSchema.queryType) =
    (["B", "A"], [("b", .object 1, .object 0), ("a", .scalar 2, .object 1)], some 0) := by decide +kernel
example : permOf exP0 exP0' =
    { scalars := [0, 1, 2, 3, 4], enums := [], ifaces := [], objs := [1, 0], unions := [], inputs := [] } := by decide +kernel
/-- … and they agree after the renumbering (kernel evaluation, independent of the theorem) -/
example : exP0'.toSchema = exP0.toSchema.renumber (permOf exP0 exP0') := by decide +kernel

/-- the running example with every kind that has two or more definitions reordered -/
def exASp : AS :=
  { exAS with
    scalars := ["Url", "DateTime"]
    objects := [exAS.objects[1]!, exAS.objects[3]!, exAS.objects[0]!, exAS.objects[2]!]
    inputs := exAS.inputs.reverse }
def exASq : AS := { exAS with scalars := ["DateTime", "Url"] }

example : WfAS exASq ∧ PermOf exASq exASp := by decide +kernel
example : exASp.toSchema ≠ exASq.toSchema := by decide +kernel
example : exASp.toSchema = exASq.toSchema.renumber (permOf exASq exASp) := by decide +kernel

end C07
end GqlVerif
