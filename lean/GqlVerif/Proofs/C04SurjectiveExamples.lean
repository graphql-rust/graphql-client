import GqlVerif.Proofs.C04SurjectiveSerValid
/-!
# C04 — canonical form made explicit, the theorems at the two leaf conventions, executable checker, a concrete instance

* `assemble_keys`, `assemble_lookup`: the canonical object has the declared names in declaration order (minus the
  `null`s under `skip_serializing_none`) and agrees with the given object on every declared member ("absent" = `null`).
* `variables_expressible_graphql`, `variables_roundtrip_graphql` (`Leaves.graphqlStrIds`, `int32_sub_i64`),
  `variables_ser_valid_wire`: the module theorems at the specification's and at the wire's leaves;
  `C04RustCoercion.lean` rests on these and on `validB` / `named_sound`.
* `validB` / `varsValidB` with `validB_sound` / `varsValidB_sound`: a fuel-indexed executable checker for `Valid`.
* `exSchema` / `exQuery`: custom scalar, enum, list, a directly recursive (boxed) input type, a `@oneOf` input;
  `ex_hyps`: every hypothesis of the theorems holds on it; the theorems instantiated; the model's own
  `Serde.de` / `Serde.ser` evaluated on it.
* `id_written_as_string`, `int64_not_graphql_int`, `enum_other_not_declared`, `Deserialize` rejecting an integer ID:
  why `canon` maps integer IDs to strings, and why `ser_valid` is stated for 64-bit `Int` and open-world enums.
-/
namespace GqlVerif
namespace C04S
open Codegen Serde C13

/-! ## what `canon` changes, made explicit -/

theorem assemble_cons (skip : Bool) (q : String × FieldType) (qs : List (String × FieldType)) (kvs : List (String × Json)) :
    assemble skip (q :: qs) kvs =
      if skip && ((Json.lookup q.1 kvs).getD .null).isNull then assemble skip qs kvs
      else (q.1, (Json.lookup q.1 kvs).getD .null) :: assemble skip qs kvs := by
  simp only [assemble, List.filterMap_cons]
  cases (skip && ((Json.lookup q.1 kvs).getD .null).isNull) <;> simp

/-- keys of the canonical object: the declared names in declaration order; with `skip` those holding `null` (or
    absent) are left out — and only those -/
theorem assemble_keys (skip : Bool) (kvs : List (String × Json)) : ∀ (fields : List (String × FieldType)),
    keys (assemble skip fields kvs) =
      (fields.filter fun p => !(skip && ((Json.lookup p.1 kvs).getD .null).isNull)).map (·.1)
  | [] => rfl
  | p :: ps => by
    rw [assemble_cons, List.filter_cons]
    cases h : (skip && ((Json.lookup p.1 kvs).getD .null).isNull)
    · simp only [Bool.false_eq_true, ↓reduceIte, Bool.not_false, keys, List.map_cons]
      rw [← assemble_keys skip kvs ps]
    · simp only [↓reduceIte, Bool.not_true, Bool.false_eq_true]
      exact assemble_keys skip kvs ps

theorem lookup_assemble_none (skip : Bool) (kvs : List (String × Json)) (k : String)
    (fields : List (String × FieldType)) (hk : k ∉ fields.map (·.1)) :
    Json.lookup k (assemble skip fields kvs) = none := by
  apply C01.lookup_none_of_not_mem
  have := assemble_keys skip kvs fields
  unfold keys at this
  rw [this]
  intro hmem
  obtain ⟨p, hp, rfl⟩ := List.mem_map.mp hmem
  exact hk (List.mem_map_of_mem (List.mem_filter.mp hp).1)

/-- the canonical object agrees with the given one on every declared member, reading "absent" as `null`:
    `assemble` only reorders, and adds or drops `null` members -/
theorem assemble_lookup (skip : Bool) (kvs : List (String × Json)) :
    ∀ (fields : List (String × FieldType)), (fields.map (·.1)).Nodup → ∀ p ∈ fields,
      (Json.lookup p.1 (assemble skip fields kvs)).getD .null = (Json.lookup p.1 kvs).getD .null
  | [], _, p, hp => by simp at hp
  | q :: qs, hnd, p, hp => by
    simp only [List.map_cons, List.nodup_cons] at hnd
    rw [assemble_cons]
    by_cases hq : q.1 = p.1
    · cases hsk : (skip && ((Json.lookup q.1 kvs).getD .null).isNull)
      · simp [Json.lookup, hq]
      · simp only [↓reduceIte]
        rw [lookup_assemble_none skip kvs p.1 qs (hq ▸ hnd.1)]
        simp only [Bool.and_eq_true] at hsk
        rw [← hq, C01.isNull_eq _ hsk.2]
        rfl
    · have hp' : p ∈ qs := by
        rcases List.mem_cons.mp hp with h | h
        · exact absurd (by rw [h]) hq
        · exact h
      have hne : (q.1 == p.1) = false := by simpa using hq
      cases hsk : (skip && ((Json.lookup q.1 kvs).getD .null).isNull)
      · simp only [Bool.false_eq_true, ↓reduceIte, Json.lookup, hne]
        exact assemble_lookup skip kvs qs hnd.2 p hp'
      · simp only [↓reduceIte]
        exact assemble_lookup skip kvs qs hnd.2 p hp'

/-! ## the module theorems at the two leaf conventions (`Leaves.graphql`, `Leaves.wire`) -/

theorem int32_sub_i64 (n : Int) (h : int32Ok n = true) : inI64 n = true := by
  simp only [int32Ok, Bool.and_eq_true, decide_eq_true_eq] at h
  unfold inI64 i64Min i64Max
  simp only [Bool.and_eq_true, decide_eq_true_eq]
  omega

/-- the GraphQL specification's leaves with IDs given as strings (what `Deserialize` can read back) -/
def Leaves.graphqlStrIds : Leaves := { intOk := int32Ok, idInt := fun _ => false, enumOpen := false }

/-- **`variables_expressible` for the GraphQL specification's leaves** (pure existence form): every assignment that is
    valid by the specification (32-bit `Int`, closed enums, `ID` from a string or an integer) is — in canonical form —
    the serialization of a `Variables` value -/
theorem variables_expressible_graphql (c : Ctx) (op : Nat) (items : List Item)
    (hnorm : c.o.normalization = .none)
    (hkwI : ∀ i ∈ c.s.inputs, keywordReplace i.name = i.name)
    (hkwS : ∀ n ∈ c.s.scalars, keywordReplace n = n)
    (hkwE : ∀ e ∈ c.s.enums, keywordReplace e.name = e.name)
    (hwf : C02.OutputOnly c.s c.q = true) (hrel : C02.InputFieldsRelevant c.s = true)
    (hvars : ∀ v ∈ c.q.opVariables op, C02.Relevant v.ty.id)
    (hdef : (Scope.defines items).Nodup) (hmem : ∀ it ∈ items, (C02.memberIdents it).Nodup)
    (hprim : ∀ it ∈ items, C01.notPrim it.name) (hfree : ExternsFree c items)
    (h : responseForQuery c op = .ok items) (hne : c.q.opVariables op ≠ []) (kvs : List (String × Json))
    (hvalid : VarsValid Leaves.graphql c op kvs) :
    ∃ x, HasTy (moduleEnv c items) (.path "Variables") x ∧
      Serde.ser (moduleEnv c items) (.path "Variables") x = .ok (canonVars c op kvs) := by
  obtain ⟨x, hx, hs, _⟩ := variables_expressible Leaves.graphql c op items hnorm hkwI hkwS hkwE hwf hrel hvars hdef hmem
    hprim hfree int32_sub_i64 h hne kvs hvalid
  exact ⟨x, hx, hs⟩

/-- **the `Deserialize` form** (IDs given as strings): `from_value` reads the assignment as a `Variables` value and
    `to_value` writes that value as the canonical form of the assignment -/
theorem variables_roundtrip_graphql (c : Ctx) (op : Nat) (items : List Item)
    (hnorm : c.o.normalization = .none)
    (hkwI : ∀ i ∈ c.s.inputs, keywordReplace i.name = i.name)
    (hkwS : ∀ n ∈ c.s.scalars, keywordReplace n = n)
    (hkwE : ∀ e ∈ c.s.enums, keywordReplace e.name = e.name)
    (hwf : C02.OutputOnly c.s c.q = true) (hrel : C02.InputFieldsRelevant c.s = true)
    (hvars : ∀ v ∈ c.q.opVariables op, C02.Relevant v.ty.id)
    (hdef : (Scope.defines items).Nodup) (hmem : ∀ it ∈ items, (C02.memberIdents it).Nodup)
    (hprim : ∀ it ∈ items, C01.notPrim it.name) (hfree : ExternsFree c items)
    (h : responseForQuery c op = .ok items) (hne : c.q.opVariables op ≠ []) (kvs : List (String × Json))
    (hvalid : VarsValid Leaves.graphqlStrIds c op kvs) :
    ∃ x, Serde.de (moduleEnv c items) (.path "Variables") (.obj kvs) = .ok x ∧
      Serde.ser (moduleEnv c items) (.path "Variables") x = .ok (canonVars c op kvs) := by
  obtain ⟨x, _, hs, hd⟩ := variables_expressible Leaves.graphqlStrIds c op items hnorm hkwI hkwS hkwE hwf hrel hvars hdef
    hmem hprim hfree int32_sub_i64 h hne kvs hvalid
  exact ⟨x, hd (fun _ => rfl), hs⟩

/-- **`variables_ser_valid` for the wire leaves** (64-bit `Int`, open-world enums, `ID` as string) -/
theorem variables_ser_valid_wire (c : Ctx) (op : Nat) (items : List Item)
    (hnorm : c.o.normalization = .none)
    (hkwI : ∀ i ∈ c.s.inputs, keywordReplace i.name = i.name)
    (hkwS : ∀ n ∈ c.s.scalars, keywordReplace n = n)
    (hkwE : ∀ e ∈ c.s.enums, keywordReplace e.name = e.name)
    (hwf : C02.OutputOnly c.s c.q = true) (hrel : C02.InputFieldsRelevant c.s = true)
    (hvars : ∀ v ∈ c.q.opVariables op, C02.Relevant v.ty.id)
    (hdef : (Scope.defines items).Nodup) (hmem : ∀ it ∈ items, (C02.memberIdents it).Nodup)
    (hprim : ∀ it ∈ items, C01.notPrim it.name) (hfree : ExternsFree c items)
    (h : responseForQuery c op = .ok items) (hne : c.q.opVariables op ≠ [])
    (x : Val) (hx : HasTy (moduleEnv c items) (.path "Variables") x) (j : Json)
    (hs : Serde.ser (moduleEnv c items) (.path "Variables") x = .ok j) :
    ∃ kvs, j = .obj kvs ∧ VarsValid Leaves.wire c op kvs :=
  variables_ser_valid Leaves.wire c op items hnorm hkwI hkwS hkwE hwf hrel hvars hdef hmem hprim hfree (fun _ h => h) rfl
    h hne x hx j hs

/-! ## an executable checker for `Valid` (sound; used for the examples) -/

def namedB (L : Leaves) (s : Schema) (rec : TypeId → Bool → GTy → Json → Bool) (id : TypeId) (j : Json) : Bool :=
  match id with
  | .scalar k => (match s.scalars[k]? with
    | some n => scalarOk L n j
    | none => false)
  | .enum k => (match s.enums[k]?, j with
    | some en, .str v => L.enumOpen || en.variants.contains v
    | _, _ => false)
  | .input k => (match s.inputs[k]?, j with
    | some i, .obj kvs =>
      if i.isOneOf then
        (match kvs with
         | [(key, v)] => (match i.fields.find? (·.1 == key) with
           | some p => rec p.2.id false (.nonNull (gty p.2)) v
           | none => false)
         | _ => false)
      else
        EnumSpec.nodup (keys kvs) && (keys kvs).all (fun key => (i.fields.map (·.1)).contains key) &&
        i.fields.all (fun p => match Json.lookup p.1 kvs with
          | none => !isNN (gty p.2)
          | some v => rec p.2.id false (gty p.2) v)
    | _, _ => false)
  | _ => false

/-- the step of both checkers at a named type: `V` is closed under the six formers `Valid` and `C04R.ValidC` share
    there, and `rec` is sound for `V` -/
theorem named_sound {L : Leaves} {s : Schema} {V : TypeId → Bool → GTy → Json → Prop}
    {rec : TypeId → Bool → GTy → Json → Bool} (hrec : ∀ id b t j, rec id b t j = true → V id b t j)
    (ofNull : ∀ {id t}, isNN t = false → V id false t .null)
    (ofSome : ∀ {id t j}, isNN t = false → V id true t j → V id false t j)
    (ofScalar : ∀ {k n nm j}, s.scalars[k]? = some n → scalarOk L n j = true → V (.scalar k) true (.named nm) j)
    (ofEnum : ∀ {k en nm v}, s.enums[k]? = some en → (L.enumOpen = true ∨ v ∈ en.variants) →
      V (.enum k) true (.named nm) (.str v))
    (ofObject : ∀ {k i nm kvs}, s.inputs[k]? = some i → i.isOneOf = false → (keys kvs).Nodup →
      (∀ key ∈ keys kvs, key ∈ i.fields.map (·.1)) →
      (∀ p ∈ i.fields, Json.lookup p.1 kvs = none → isNN (gty p.2) = false) →
      (∀ p ∈ i.fields, ∀ v, Json.lookup p.1 kvs = some v → V p.2.id false (gty p.2) v) →
      V (.input k) true (.named nm) (.obj kvs))
    (ofOneOf : ∀ {k i nm p v}, s.inputs[k]? = some i → i.isOneOf = true → p ∈ i.fields →
      V p.2.id false (.nonNull (gty p.2)) v → V (.input k) true (.named nm) (.obj [(p.1, v)]))
    {id : TypeId} {b : Bool} {nm : String} {j : Json}
    (h : ((!b && j.isNull) || namedB L s rec id j) = true) : V id b (.named nm) j := by
  simp only [Bool.or_eq_true, Bool.and_eq_true, Bool.not_eq_true'] at h
  have hnamed : namedB L s rec id j = true → V id true (.named nm) j := by
    intro hn
    unfold namedB at hn
    cases id with
    | scalar k =>
      simp only at hn
      cases hk : s.scalars[k]? with
      | none => simp [hk] at hn
      | some n => simp only [hk] at hn; exact ofScalar hk hn
    | «enum» k =>
      simp only at hn
      cases hk : s.enums[k]? with
      | none => simp [hk] at hn
      | some en =>
        cases j <;> simp only [hk, Bool.false_eq_true] at hn
        simp only [Bool.or_eq_true, List.contains_iff_mem] at hn
        exact ofEnum hk hn
    | input k =>
      simp only at hn
      cases hk : s.inputs[k]? with
      | none => simp [hk] at hn
      | some i =>
        cases j <;> simp only [hk, Bool.false_eq_true] at hn
        rename_i kvs
        cases hone : i.isOneOf
        · simp only [hone, Bool.false_eq_true, ↓reduceIte, Bool.and_eq_true, List.all_eq_true,
            List.contains_iff_mem] at hn
          obtain ⟨⟨h1, h2⟩, h3⟩ := hn
          refine ofObject hk hone (C01.nodup_iff'.mp h1) h2 ?_ ?_
          · intro p hp hl
            have := h3 p hp
            simp only [hl, Bool.not_eq_true'] at this
            exact this
          · intro p hp v hl
            have := h3 p hp
            simp only [hl] at this
            exact hrec _ _ _ _ this
        · simp only [hone, ↓reduceIte] at hn
          match kvs, hn with
          | [(key, v)], hn =>
            simp only at hn
            cases hf : i.fields.find? (·.1 == key) with
            | none => simp [hf] at hn
            | some p =>
              simp only [hf] at hn
              have hpk : p.1 = key := by simpa using List.find?_some hf
              subst hpk
              exact ofOneOf hk hone (List.mem_of_find?_eq_some hf) (hrec _ _ _ _ hn)
    | object k => simp at hn
    | interface k => simp at hn
    | union k => simp at hn
  rcases h with ⟨hb, hn⟩ | h
  · subst hb; rw [C01.isNull_eq j hn]; exact ofNull rfl
  · cases b
    · exact ofSome rfl (hnamed h)
    · exact hnamed h

def validB (L : Leaves) (s : Schema) : Nat → TypeId → Bool → GTy → Json → Bool
  | 0, _, _, _, _ => false
  | f + 1, id, b, t, j =>
    match t with
    | .nonNull t' => validB L s f id true t' j
    | .list t' =>
      (!b && j.isNull) || (match j with
        | .arr xs => xs.all (validB L s f id false t')
        | _ => false)
    | .named _ => (!b && j.isNull) || namedB L s (validB L s f) id j

theorem validB_sound (L : Leaves) (s : Schema) : ∀ (f : Nat) (id : TypeId) (b : Bool) (t : GTy) (j : Json),
    validB L s f id b t j = true → Valid L s id b t j := by
  intro f
  induction f with
  | zero => intro id b t j h; simp [validB] at h
  | succ f ih =>
    intro id b t j h
    unfold validB at h
    cases t with
    | nonNull t' => exact .bang (ih id true t' j h)
    | list t' =>
      simp only [Bool.or_eq_true, Bool.and_eq_true, Bool.not_eq_true'] at h
      have harr : ∀ xs, xs.all (validB L s f id false t') = true → Valid L s id true (.list t') (.arr xs) := by
        intro xs hxs
        refine .list (fun x hx => ih id false t' x ?_)
        exact List.all_eq_true.mp hxs x hx
      rcases h with ⟨hb, hn⟩ | h
      · subst hb; rw [C01.isNull_eq j hn]; exact .null rfl
      · cases j <;> simp only [Bool.false_eq_true] at h
        rename_i xs
        cases b
        · exact .some rfl (harr xs h)
        · exact harr xs h
    | named nm => exact named_sound ih .null .some .scalar .enum .object .oneOf h


def varsValidB (L : Leaves) (c : Ctx) (op : Nat) (fuel : Nat) (kvs : List (String × Json)) : Bool :=
  EnumSpec.nodup (keys kvs) && (keys kvs).all (fun key => ((varFields c op).map (·.1)).contains key) &&
  (varFields c op).all (fun p => match Json.lookup p.1 kvs with
    | none => !isNN (gty p.2)
    | some v => validB L c.s fuel p.2.id false (gty p.2) v)

theorem varsValidB_sound (L : Leaves) (c : Ctx) (op : Nat) (fuel : Nat) (kvs : List (String × Json))
    (h : varsValidB L c op fuel kvs = true) : VarsValid L c op kvs := by
  simp only [varsValidB, Bool.and_eq_true, List.all_eq_true, List.contains_iff_mem] at h
  obtain ⟨⟨h1, h2⟩, h3⟩ := h
  refine ⟨C01.nodup_iff'.mp h1, h2, ?_, ?_⟩
  · intro p hp hl
    have := h3 p hp
    simp only [hl, Bool.not_eq_true'] at this
    exact this
  · intro p hp v hl
    have := h3 p hp
    simp only [hl] at this
    exact validB_sound L c.s _ _ _ _ _ this

/-! ## a concrete instance: all hypotheses hold, and what the theorems say on it

```graphql
scalar Date
enum Dir { UP DOWN }
input Filter { name: String!, when: Date, dir: Dir, tags: [String!], next: Filter, sel: Sel }
input Sel @oneOf { byId: ID, byName: String }
type Query { x: String }

query Q($f: Filter!, $n: Int) { x }
```
`Filter.next` is a direct cycle: the member is `Option<Box<Filter>>`. -/

def exSchema : Schema :=
  { objects := [{ name := "Query", fields := [0], implements := [] }],
    fields := [{ name := "x", ty := { id := .scalar 1, quals := [] }, parent := .object 0, deprecation := none }],
    scalars := Schema.defaultScalars ++ ["Date"],
    enums := [{ name := "Dir", variants := ["UP", "DOWN"] }],
    inputs := [{ name := "Filter", isOneOf := false,
                 fields := [("name", { id := .scalar 1, quals := [.required] }),
                            ("when", { id := .scalar 5, quals := [] }),
                            ("dir", { id := .enum 0, quals := [] }),
                            ("tags", { id := .scalar 1, quals := [.list, .required] }),
                            ("next", { id := .input 0, quals := [] }),
                            ("sel", { id := .input 1, quals := [] })] },
               { name := "Sel", isOneOf := true,
                 fields := [("byId", { id := .scalar 0, quals := [] }), ("byName", { id := .scalar 1, quals := [] })] }] }

def exQuery : Query :=
  { operations := [{ name := "Q", kind := .query, objectId := 0, sels := [.field none 0 []] }],
    variables := [{ opIdx := 0, name := "f", default := none, ty := { id := .input 0, quals := [.required] } },
                  { opIdx := 0, name := "n", default := none, ty := { id := .scalar 2, quals := [] } }] }

def exCtx (skip : Bool) : Ctx := { s := exSchema, q := exQuery, o := { skipNone := skip }, cs := ⟨id, id⟩ }

def exItems (skip : Bool) : List Item := ((responseForQuery (exCtx skip) 0).toOption).getD []

theorem exItems_ok (skip : Bool) : responseForQuery (exCtx skip) 0 = .ok (exItems skip) := by
  have h : ((responseForQuery (exCtx skip) 0).toOption).isSome = true := by cases skip <;> decide +kernel
  unfold exItems
  cases hr : responseForQuery (exCtx skip) 0 with
  | ok items => rfl
  | error e => simp [hr, Except.toOption] at h


instance : DecidablePred C02.Relevant := fun t => by
  cases t <;> unfold C02.Relevant <;> infer_instance

/-- **all hypotheses of `input_expressible` / `variables_expressible` / `ser_valid` hold on the instance** (with and
    without `skip_serializing_none`) -/
theorem ex_hyps (skip : Bool) :
    (exCtx skip).o.normalization = .none ∧
    (∀ i ∈ (exCtx skip).s.inputs, keywordReplace i.name = i.name) ∧
    (∀ n ∈ (exCtx skip).s.scalars, keywordReplace n = n) ∧
    (∀ e ∈ (exCtx skip).s.enums, keywordReplace e.name = e.name) ∧
    C02.OutputOnly (exCtx skip).s (exCtx skip).q = true ∧ C02.InputFieldsRelevant (exCtx skip).s = true ∧
    (∀ v ∈ (exCtx skip).q.opVariables 0, C02.Relevant v.ty.id) ∧
    (Scope.defines (exItems skip)).Nodup ∧ (∀ it ∈ exItems skip, (C02.memberIdents it).Nodup) ∧
    (∀ it ∈ exItems skip, C01.notPrim it.name) ∧ ExternsFree (exCtx skip) (exItems skip) := by
  unfold ExternsFree
  cases skip <;> decide +kernel

/-- `{"f": {"sel": {"byId": 7}, "name": "a", "next": {"name": "b"}, "tags": ["t"], "dir": "UP"}}` — members out of
    order, nullable ones missing, `n` missing, an integer ID, a nested value of the recursive type -/
def exKvs : List (String × Json) :=
  [("f", .obj [("sel", .obj [("byId", .int 7)]), ("name", .str "a"), ("next", .obj [("name", .str "b")]),
               ("tags", .arr [.str "t"]), ("dir", .str "UP")])]

/-- the assignment is valid by the GraphQL specification's leaves (32-bit `Int`, closed enums, integer IDs) -/
theorem exKvs_valid (skip : Bool) : VarsValid Leaves.graphql (exCtx skip) 0 exKvs :=
  varsValidB_sound _ _ _ 20 _ (by cases skip <;> decide +kernel)

/-- without `skip_serializing_none`: declaration order, every absent nullable member an explicit `null`, ID as string -/
example : canonVars (exCtx false) 0 exKvs =
    .obj [("f", .obj [("name", .str "a"), ("when", .null), ("dir", .str "UP"), ("tags", .arr [.str "t"]),
                      ("next", .obj [("name", .str "b"), ("when", .null), ("dir", .null), ("tags", .null),
                                     ("next", .null), ("sel", .null)]),
                      ("sel", .obj [("byId", .str "7")])]),
          ("n", .null)] := by rfl

/-- with it: the `null` members are gone, at every depth -/
example : canonVars (exCtx true) 0 exKvs =
    .obj [("f", .obj [("name", .str "a"), ("dir", .str "UP"), ("tags", .arr [.str "t"]),
                      ("next", .obj [("name", .str "b")]), ("sel", .obj [("byId", .str "7")])])] := by
  rfl

/-- **the theorem on the instance**: some `Variables` value is written as that canonical object -/
example (skip : Bool) : ∃ x, HasTy (moduleEnv (exCtx skip) (exItems skip)) (.path "Variables") x ∧
    Serde.ser (moduleEnv (exCtx skip) (exItems skip)) (.path "Variables") x = .ok (canonVars (exCtx skip) 0 exKvs) := by
  obtain ⟨h1, h2, h3, h4, h5, h6, h7, h8, h9, h10, h11⟩ := ex_hyps skip
  obtain ⟨x, hx, hs, _⟩ := variables_expressible Leaves.graphql (exCtx skip) 0 (exItems skip) h1 h2 h3 h4 h5 h6 h7 h8 h9
    h10 h11 int32_sub_i64 (exItems_ok skip) (by cases skip <;> decide) exKvs (exKvs_valid skip)
  exact ⟨x, hx, hs⟩

mutual
  /-- structural equality test on `Json` (the derived `BEq` does not reduce in the kernel) -/
  def jsonEqB : Json → Json → Bool
    | .null, .null => true
    | .bool a, .bool b => a == b
    | .int a, .int b => a == b
    | .num a, .num b => a == b
    | .str a, .str b => a == b
    | .arr xs, .arr ys => jsonsEqB xs ys
    | .obj xs, .obj ys => kvsEqB xs ys
    | _, _ => false
  def jsonsEqB : List Json → List Json → Bool
    | [], [] => true
    | x :: xs, y :: ys => jsonEqB x y && jsonsEqB xs ys
    | _, _ => false
  def kvsEqB : List (String × Json) → List (String × Json) → Bool
    | [], [] => true
    | (k, x) :: xs, (l, y) :: ys => k == l && jsonEqB x y && kvsEqB xs ys
    | _, _ => false
end

/-- … and the model's own `from_value` / `to_value` agree (IDs as strings): reading the assignment and writing the
    value back gives the canonical object -/
example : (match Serde.de (moduleEnv (exCtx true) (exItems true)) (.path "Variables")
      (.obj [("f", .obj [("sel", .obj [("byId", .str "7")]), ("name", .str "a"), ("next", .obj [("name", .str "b")]),
                         ("tags", .arr [.str "t"]), ("dir", .str "UP")])]) with
    | .ok x => (match Serde.ser (moduleEnv (exCtx true) (exItems true)) (.path "Variables") x with
      | .ok j => jsonEqB j (canonVars (exCtx true) 0 exKvs)
      | .error _ => false)
    | .error _ => false) = true := by decide +kernel

/-! ## what cannot be strengthened -/

/-- the module of the instance satisfies `InputEnv` -/
theorem ex_env (skip : Bool) : ∃ u, allUsedTypes (exCtx skip).s (exCtx skip).q 0 = .ok u ∧
    InputEnv (exCtx skip) (moduleEnv (exCtx skip) (exItems skip)) (· ∈ u.types) := by
  obtain ⟨h1, h2, _, _, h5, h6, _, h8, h9, h10, h11⟩ := ex_hyps skip
  exact inputEnv_of_module (exCtx skip) 0 (exItems skip) h1 h2 h5 h6 h8 h9 h10 h11 (exItems_ok skip)

/-- **an `ID` member is always written as a string**: the assignment `{"id": 7}`, valid by the specification, is
    expressible only up to `canon` (`7 ↦ "7"`), never literally -/
theorem id_written_as_string {c : Ctx} {e : Env} {U : TypeId → Prop} (env : InputEnv c e U) (x : Val) (fuel : Nat)
    (j : Json) (hx : HasTy e (.path "ID") x) (hs : serPath e fuel "ID" x = .ok j) : ∃ v, j = .str v := by
  obtain ⟨v, rfl⟩ := hasTy_string rfl (hasTy_alias (by decide) env.id hx)
  cases fuel with
  | zero => exact absurd hs (serPath_zero e _ _ _)
  | succ f => exact ⟨v, serPath_prim_inv e f _ _ _ j rfl hs⟩

/-- … and `Deserialize` for `Variables` rejects an integer ID (the input side has no `deserialize_with` helper):
    the `de` half of `input_expressible` needs IDs given as strings -/
example : (match Serde.de (moduleEnv (exCtx false) (exItems false)) (.path "ID") (.int 7) with
    | .ok _ => false
    | .error _ => true) = true := by decide +kernel

/-- **`ser_valid` is false for the specification's 32-bit `Int`**: `n = Some(2^40)` is a value of the member's type
    `Option<Int>`, `Int = i64`; it is written as the JSON number `1099511627776`, which is not a GraphQL `Int` -/
theorem int64_not_graphql_int :
    ∃ x, HasTy (moduleEnv (exCtx false) (exItems false)) (.opt (.path "Int")) x ∧
      (match Serde.ser (moduleEnv (exCtx false) (exItems false)) (.opt (.path "Int")) x with
       | .ok j => jsonEqB j (.int 1099511627776)
       | .error _ => false) = true ∧
      ¬ Valid Leaves.graphql exSchema (.scalar 2) false (.named "") (.int 1099511627776) := by
  obtain ⟨u, _, env⟩ := ex_env false
  refine ⟨.some (.int 1099511627776), .some (.alias (by decide) env.int (.i64 (by decide))), by decide +kernel, ?_⟩
  intro h
  cases h with
  | some _ h' =>
    cases h' with
    | scalar hn hok =>
      simp [exSchema, Schema.defaultScalars] at hn
      subst hn
      revert hok
      decide

/-- **`ser_valid` is false for closed enums**: `Dir::Other("SIDEWAYS")` is a value of the generated enum and is
    written as a string that is not one of the schema's value names -/
theorem enum_other_not_declared :
    ∃ x, HasTy (moduleEnv (exCtx false) (exItems false)) (.path "Dir") x ∧
      (match Serde.ser (moduleEnv (exCtx false) (exItems false)) (.path "Dir") x with
       | .ok j => jsonEqB j (.str "SIDEWAYS")
       | .error _ => false) = true ∧
      ¬ Valid Leaves.graphql exSchema (.enum 0) true (.named "") (.str "SIDEWAYS") := by
  obtain ⟨u, hu, env⟩ := ex_env false
  have hU : TypeId.enum 0 ∈ u.types := by
    have : (allUsedTypes exSchema exQuery 0).toOption.map (fun u => decide (TypeId.enum 0 ∈ u.types)) = some true := by
      decide +kernel
    change allUsedTypes exSchema exQuery 0 = .ok u at hu
    rw [hu] at this
    simpa [Except.toOption] using this
  obtain ⟨hp, hcase⟩ := env.enums 0 ⟨"Dir", ["UP", "DOWN"]⟩ hU rfl
  rcases hcase with ⟨hitem, _⟩ | ⟨_, hext⟩
  · rw [enumItem_eq] at hitem
    refine ⟨.enumOther "SIDEWAYS", .enumOther hp hitem, by decide +kernel, ?_⟩
    intro h
    cases h with
    | «enum» hen hv =>
      simp [exSchema] at hen
      subst hen
      rcases hv with hv | hv
      · exact absurd hv (by decide)
      · exact absurd hv (by decide)
  · exfalso
    revert hext
    decide +kernel

end C04S
end GqlVerif
