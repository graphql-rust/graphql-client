import GqlVerif.Model.Cache
/-!
C08: association maps under the per-map invariant `MInv` ("every entry is what the loader returns
for every path with that key"), `get_set_cached` under the invariant, and the path components of
`dir ++ "/" ++ name`.
-/
namespace GqlVerif
namespace C08
open Cache

section maps
variable {P K V : Type} [DecidableEq K]

/-- every entry of the map is the loader's value for every path that has the entry's key -/
def MInv (key : P → K) (load : P → Outcome V) (m : List (K × V)) : Prop :=
  ∀ p v, find m (key p) = some v → load p = .ok v

/-- the loader cannot tell two paths with the same key apart -/
def KeyFaithful (key : P → K) (load : P → Outcome V) : Prop :=
  ∀ p p', key p = key p' → load p = load p'

theorem MInv_nil (key : P → K) (load : P → Outcome V) : MInv key load [] := by
  intro p v h; simp [find] at h

theorem find_cons (m : List (K × V)) (k k' : K) (v : V) :
    find ((k, v) :: m) k' = if k = k' then some v else find m k' := by
  simp [find]

theorem insertGet_hit {m : List (K × V)} {k : K} {v v0 : V} (h : find m k = some v0) :
    insertGet m k v = (m, v0) := by simp [insertGet, h]

theorem insertGet_miss {m : List (K × V)} {k : K} {v : V} (h : find m k = none) :
    insertGet m k v = ((k, v) :: m, v) := by simp [insertGet, h]

/-- `entry(key).or_insert(value)` preserves the invariant and returns the loader's value -/
theorem insertGet_inv {key : P → K} {load : P → Outcome V} (hf : KeyFaithful key load)
    {m : List (K × V)} (hm : MInv key load m) {p : P} {v : V} (hv : load p = .ok v) :
    MInv key load (insertGet m (key p) v).1 ∧ load p = .ok (insertGet m (key p) v).2 := by
  cases h : find m (key p) with
  | some v0 =>
    rw [insertGet_hit h]
    exact ⟨hm, hm p v0 h⟩
  | none =>
    rw [insertGet_miss h]
    refine ⟨?_, hv⟩
    intro p' v' h'
    rw [find_cons] at h'
    by_cases hk : key p = key p'
    · simp [hk] at h'
      rw [← hf p p' hk, hv, h']
    · simp [hk] at h'
      exact hm p' v' h'

/-- under the invariant `get_set_cached` returns exactly what the loader returns -/
theorem getSet_result {key : P → K} {load : P → Outcome V} (hf : KeyFaithful key load)
    {m : List (K × V)} (hm : MInv key load m) (p : P) :
    (getSet m (key p) (load p)).2 = load p := by
  unfold getSet
  cases h : find m (key p) with
  | some v => simp [hm p v h]
  | none =>
    cases hl : load p with
    | error e => simp
    | ok v =>
      have := (insertGet_inv hf hm hl).2
      rw [hl] at this
      simp [← this]

theorem getSet_inv {key : P → K} {load : P → Outcome V} (hf : KeyFaithful key load)
    {m : List (K × V)} (hm : MInv key load m) (p : P) :
    MInv key load (getSet m (key p) (load p)).1 := by
  unfold getSet
  cases h : find m (key p) with
  | some v => simpa using hm
  | none =>
    cases hl : load p with
    | error e => simpa using hm
    | ok v => simpa using (insertGet_inv hf hm hl).1

/-- a failing load leaves the map exactly as it was -/
theorem getSet_error_unchanged {m : List (K × V)} {k : K} {load : Outcome V} {e : Err}
    (h : (getSet m k load).2 = .error e) : (getSet m k load).1 = m := by
  unfold getSet at h ⊢
  cases hf : find m k with
  | some v => simp
  | none =>
    cases hl : load with
    | error e => simp
    | ok v => simp [hf, hl] at h

end maps

/-! ## pointwise relation of two lists (programs / threads) -/

inductive Forall₂ {α β : Type} (r : α → β → Prop) : List α → List β → Prop
  | nil : Forall₂ r [] []
  | cons {a b as bs} : r a b → Forall₂ r as bs → Forall₂ r (a :: as) (b :: bs)

theorem Forall₂.imp {α β : Type} {r s : α → β → Prop} {as : List α} {bs : List β}
    (h : Forall₂ r as bs) (hrs : ∀ a b, r a b → s a b) : Forall₂ s as bs := by
  induction h with
  | nil => exact .nil
  | cons hab _ ih => exact .cons (hrs _ _ hab) ih

theorem Forall₂.length_eq {α β : Type} {r : α → β → Prop} {as : List α} {bs : List β}
    (h : Forall₂ r as bs) : as.length = bs.length := by
  induction h with
  | nil => rfl
  | cons _ _ ih => simp [ih]

theorem Forall₂.set {α β : Type} {r : α → β → Prop} {as : List α} {bs : List β} (h : Forall₂ r as bs)
    (i : Nat) (b : β) (hb : ∀ a, as[i]? = some a → r a b) : Forall₂ r as (bs.set i b) := by
  induction h generalizing i with
  | nil => exact .nil
  | cons hab hrest ih =>
    cases i with
    | zero => exact .cons (hb _ rfl) hrest
    | succ i => exact .cons hab (ih i (by intro a ha; exact hb a (by simpa using ha)))

theorem Forall₂.get {α β : Type} {r : α → β → Prop} {as : List α} {bs : List β} (h : Forall₂ r as bs)
    (i : Nat) (b : β) (hb : bs[i]? = some b) : ∃ a, as[i]? = some a ∧ r a b := by
  induction h generalizing i with
  | nil => simp at hb
  | cons hab _ ih =>
    cases i with
    | zero => simp at hb; subst hb; exact ⟨_, rfl, hab⟩
    | succ i => simpa using ih i (by simpa using hb)

/-! ## path components -/

theorem splitOn_ne_nil (sep : Char) (p : List Char) : splitOn sep p ≠ [] := by
  induction p with
  | nil => simp [splitOn]
  | cons c cs ih =>
    unfold splitOn
    split
    · simp
    · split <;> simp

theorem splitOn_append (sep : Char) (a b : List Char) :
    splitOn sep (a ++ sep :: b) = splitOn sep a ++ splitOn sep b := by
  induction a with
  | nil => simp [splitOn]
  | cons c cs ih =>
    by_cases hc : c = sep
    · simp [splitOn, hc] at ih ⊢
      exact ih
    · simp only [List.cons_append, splitOn, hc, if_false]
      rw [ih]
      cases h : splitOn sep cs with
      | nil => exact absurd h (splitOn_ne_nil sep cs)
      | cons s ss => simp

/-- the first segment of a non-empty directory prefix decides the leading marker -/
theorem head_splitOn_append (sep : Char) (a b : List Char) :
    (splitOn sep (a ++ sep :: b)).head? = (splitOn sep a).head? := by
  rw [splitOn_append]
  cases h : splitOn sep a with
  | nil => exact absurd h (splitOn_ne_nil sep a)
  | cons s ss => simp

/-- components of `dir/name` = components of `dir` followed by the normal segments of `name` -/
theorem components_join (d n : List Char) (hd : d ≠ []) :
    components (d ++ '/' :: n) = components d ++ (splitOn '/' n).filter isNormalSeg := by
  cases d with
  | nil => exact absurd rfl hd
  | cons c cs =>
    have hs := splitOn_append '/' (c :: cs) n
    have hh := head_splitOn_append '/' (c :: cs) n
    by_cases hc : c = '/'
    · subst hc
      simp only [components, List.cons_append] at *
      rw [hs]; simp [List.filter_append]
    · have e1 : components (c :: cs ++ '/' :: n) =
          (if (splitOn '/' (c :: cs ++ '/' :: n)).head? = some ['.'] then
            ['.'] :: (splitOn '/' (c :: cs ++ '/' :: n)).filter isNormalSeg
           else (splitOn '/' (c :: cs ++ '/' :: n)).filter isNormalSeg) := by
        simp only [components, List.cons_append]
        split
        · rename_i h; simp at h; exact absurd h.1 hc
        · rfl
      have e2 : components (c :: cs) =
          (if (splitOn '/' (c :: cs)).head? = some ['.'] then
            ['.'] :: (splitOn '/' (c :: cs)).filter isNormalSeg
           else (splitOn '/' (c :: cs)).filter isNormalSeg) := by
        simp only [components]
        split
        · rename_i h; simp at h; exact absurd h.1 hc
        · rfl
      rw [e1, e2, hh, hs, List.filter_append]
      split <;> simp

end C08
end GqlVerif
