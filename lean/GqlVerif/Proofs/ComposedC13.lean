import GqlVerif.Proofs.ComposedC11
import GqlVerif.Props.C12
/-!
# Composed C13 — one rule for the Rust type at every position

`C13.decorate_spec` is about `decorateType`; `C13.response_field_type` about `renderField … false false none` only.
Here the rule `rustOf` (non-null removes one `Option`, a list is a `Vec`, at every level) is stated on what the
generator emits at each of the four positions, for every context:

* response field — all flags of `renderField` (`Box` iff the `boxed` flag) and, composed through the field loop, with
  the leaf the normalized enum / scalar name or the path-named struct;
* variable — member `k` of `Variables` has the type `variableType` computes for variable `k`, which is `rustOf`
  (`C04.variable_type_rule`);
* input-object field — with `Box` exactly when the field's target is an input type the generator's DFS flags
  (`inputBoxed_iff_cycle`: a cycle of by-value input fields);
* `@oneOf` member — the payload is `rustOfNN` (non-null forced) of the declared nullable type; a member declared `T!`
  makes the generator panic (`double required annotation`) — this is the model's and the code's behaviour (the
  GraphQL spec requires `@oneOf` members to be nullable).
-/
namespace GqlVerif
namespace Composed
open Codegen C02 C13

def boxIf (b : Bool) (t : RTy) : RTy := if b then .box t else t

/-! ## response fields -/

/-- **response field, all flags**: the type of the member `renderField` emits is `rustOf` of the declared type
    expression over the given leaf, wrapped in `Box` iff `boxed` -/
theorem renderField_type_rule (c : Ctx) (g : Option String) (r ft : String) (t : GTy) (fl bx : Bool)
    (dep : Option (Option String)) (f : RField) (hw : wf t = true)
    (h : renderField c g r ft (GTy.quals t) fl bx dep = .ok (some f)) :
    f.ty = boxIf bx (rustOf (.path ft) t) := by
  obtain ⟨ty, hty, ⟨ho, _⟩ | ⟨f', ho, _, _, _, _, hfty⟩⟩ := renderField_cases h <;> cases ho
  rw [decorate_spec _ _ hw] at hty
  cases hty
  exact hfty

/-- the leaf type name of the member emitted for a field selection: normalized enum / scalar name, or the
    struct named by the path -/
def responseLeaf (c : Ctx) (pfx gname : String) (sf : StoredField) : Option String :=
  match sf.ty.id with
  | .enum e => (c.s.enums[e]?).map (fun en => c.o.normalization.fieldType c.cs en.name)
  | .scalar k => (c.s.scalars[k]?).map (fun sn => c.o.normalization.fieldType c.cs sn)
  | .input _ => none
  | _ => some (pfx ++ c.cs.camel gname)

/-- **response field, composed through the field loop**: the member `calcFields` emits for an (emitted) field
    selection whose schema type expression is `t` has type `rustOf leaf t` -/
theorem calcFields_field_type (c : Ctx) (f : Nat) (pfx : String) (ty : TypeId) (a : Option String) (fid : Nat)
    (sub rest : List Sel) (fs : List RField) (items : List Item) (sf : StoredField) (t : GTy)
    (hsf : c.s.fields[fid]? = some sf) (hq : sf.ty.quals = GTy.quals t) (hw : wf t = true)
    (hem : emitted c sf = true)
    (h : calcFields c (f + 1) pfx ty (.field a fid sub :: rest) = .ok (fs, items)) :
    ∃ fld fs' leaf, fs = fld :: fs' ∧ responseLeaf c pfx (a.getD sf.name) sf = some leaf ∧
      fld.ty = rustOf (.path leaf) t ∧ fld.wire = a.getD sf.name ∧ fld.flatten = false := by
  obtain ⟨sf', fld, its, fs', items', hsf', hr, rfl, rfl, hstep⟩ := calcFields_field_ok h
  rw [hsf] at hsf'
  cases hsf'
  have key : ∀ ft, renderField c (some (a.getD sf.name)) (keywordReplace (c.cs.snake (a.getD sf.name))) ft sf.ty.quals
      false false sf.deprecation = .ok fld →
      ∃ x, fld = some x ∧ x.ty = rustOf (.path ft) t ∧ x.wire = a.getD sf.name ∧ x.flatten = false := by
    intro ft hrf
    rcases renderField_ok hrf with ⟨_, h1, h2⟩ | ⟨x, rfl, _, hr', hfl, hren⟩
    · simp [emitted, h1, h2] at hem
    · rw [hq] at hrf
      exact ⟨x, rfl, renderField_type_rule c _ _ ft t false false _ x hw hrf,
        wire_of_rename _ _ x hr' (by simpa using hren), hfl⟩
  rcases hstep with ⟨e, en, he, hen, _, hrf⟩ | ⟨k, sn, hk, hsn, _, hrf⟩ | ⟨h1, h2, h3, hrf, _⟩
  · obtain ⟨x, rfl, hty, hwire, hfl⟩ := key _ hrf
    exact ⟨x, fs', _, rfl, by simp [responseLeaf, he, hen], hty, hwire, hfl⟩
  · obtain ⟨x, rfl, hty, hwire, hfl⟩ := key _ hrf
    exact ⟨x, fs', _, rfl, by simp [responseLeaf, hk, hsn], hty, hwire, hfl⟩
  · obtain ⟨x, rfl, hty, hwire, hfl⟩ := key _ hrf
    refine ⟨x, fs', _, rfl, ?_, hty, hwire, hfl⟩
    unfold responseLeaf
    split
    · rename_i e he; exact absurd he (h1 e)
    · rename_i k hk; exact absurd hk (h2 k)
    · rename_i i hi; exact absurd hi (h3 i)
    · rfl

/-! ## pointwise reading of a successful `mapM` (forward, by position; `C05.mapM_spec` is the converse reading, the inversion
lemmas by membership are in `Proofs/OutcomeLemmas.lean`) -/

theorem mapM_getElem {ε α β : Type} (f : α → Except ε β) :
    ∀ (l : List α) (r : List β), l.mapM f = .ok r → ∀ (k : Nat) (a : α), l[k]? = some a →
      ∃ b, r[k]? = some b ∧ f a = .ok b := by
  intro l
  induction l with
  | nil => intro r _ k a hk; simp at hk
  | cons x xs ih =>
    intro r hr k a hk
    rw [List.mapM_cons] at hr
    obtain ⟨b, hb, hr⟩ := bind_ok hr
    obtain ⟨bs, hbs, hr⟩ := bind_ok hr
    simp only [pure, Except.pure, Except.ok.injEq] at hr
    subst hr
    cases k with
    | zero => simp only [List.getElem?_cons_zero, Option.some.injEq] at hk; subst hk; exact ⟨b, rfl, hb⟩
    | succ k => simpa using ih bs hbs k a (by simpa using hk)

/-- entry `k` of a list `r` known through two projections: `p1` agrees with `h` on `l`, `p2` is what `g` computes on `l` -/
theorem getElem_of_map_mapM {ε α β γ δ : Type} {g : α → Except ε γ} {l : List α} {r : List β} {p1 : β → δ} {p2 : β → γ}
    {h : α → δ} (hn : r.map p1 = l.map h) (hty : l.mapM g = .ok (r.map p2)) {k : Nat} {a : α} (hk : l[k]? = some a) :
    ∃ b, r[k]? = some b ∧ p1 b = h a ∧ g a = .ok (p2 b) := by
  obtain ⟨t, ht, hg⟩ := mapM_getElem _ _ _ hty k a hk
  simp only [List.getElem?_map, Option.map_eq_some_iff] at ht
  obtain ⟨b, hb, rfl⟩ := ht
  refine ⟨b, hb, ?_, hg⟩
  have := congrArg (fun l => l[k]?) hn
  simp only [List.getElem?_map, hb, hk, Option.map_some, Option.some.injEq] at this
  exact this

/-! ## variables -/

/-- member `k` of the `Variables` struct has the type the generator computes for the `k`-th declared variable -/
theorem variable_member_type (c : Ctx) (op : Nat) (fs : List RField) (d : List String) (sc : Option String)
    (rest : List Item) (h : variablesItems c op = .ok (.struct "Variables" d sc fs :: rest))
    (k : Nat) (v : RVariable) (hv : (c.q.opVariables op)[k]? = some v) :
    ∃ f, fs[k]? = some f ∧ f.wire = v.name ∧ variableType c v = .ok f.ty := by
  rcases variablesItems_shape c op _ h with ⟨_, h'⟩ | ⟨_, fs', dfl, h', hw, hty, _⟩
  · simp at h'
  · simp only [List.cons.injEq, Item.struct.injEq] at h'
    obtain ⟨⟨-, -, -, rfl⟩, -⟩ := h'
    exact getElem_of_map_mapM hw hty hv

/-- **variable position**: the member of `Variables` for a variable declared with type expression `t` over the
    named type `tn` has the Rust type `rustOf` of `t` (leaf: the normalized, keyword-escaped type name) -/
theorem variable_member_rule (c : Ctx) (op : Nat) (fs : List RField) (d : List String) (sc : Option String)
    (rest : List Item) (h : variablesItems c op = .ok (.struct "Variables" d sc fs :: rest))
    (k : Nat) (v : RVariable) (hv : (c.q.opVariables op)[k]? = some v)
    (t : GTy) (tn : String) (hq : v.ty.quals = GTy.quals t) (hw : wf t = true) (hn : c.s.typeName v.ty.id = .ok tn) :
    ∃ f, fs[k]? = some f ∧ f.wire = v.name ∧
      f.ty = rustOf (.path (keywordReplace (c.o.normalization.fieldType c.cs tn))) t := by
  obtain ⟨f, hf, hwire, hty⟩ := variable_member_type c op fs d sc rest h k v hv
  rw [C04.variable_type_rule c v t tn hq hw hn] at hty
  exact ⟨f, hf, hwire, (Except.ok.inj hty).symm⟩

/-- the `default_*` function of a variable returns that variable's Rust type -/
theorem default_fn_type (c : Ctx) (op : Nat) (first : Item) (dfl : List (String × RTy)) (rest : List Item)
    (h : variablesItems c op = .ok (first :: .defaults dfl :: rest))
    (k : Nat) (v : RVariable) (hv : ((c.q.opVariables op).filter (·.default.isSome))[k]? = some v) :
    ∃ p, dfl[k]? = some p ∧ p.1 = "default_" ++ v.name ∧ variableType c v = .ok p.2 := by
  rcases variablesItems_shape c op _ h with ⟨_, h'⟩ | ⟨_, fs', dfl', h', _, _, hn, hty⟩
  · simp at h'
  · simp only [List.cons.injEq, Item.defaults.injEq] at h'
    obtain ⟨-, rfl, -⟩ := h'
    exact getElem_of_map_mapM hn hty hv

/-! ## input-object fields -/

/-- the `Box` decision of `inputFieldType`: the field's named type is an input object the DFS flags -/
def inputBoxed (c : Ctx) (ty : FieldType) : Bool :=
  match ty.id.asInput? with
  | some iid => inputIsRecursive c.s iid
  | none => false

theorem inputBoxed_iff (c : Ctx) (ty : FieldType) :
    inputBoxed c ty = true ↔ ∃ iid, ty.id = .input iid ∧ inputIsRecursive c.s iid = true := by
  unfold inputBoxed
  cases h : ty.id <;> simp [TypeId.asInput?]

/-- `Box` exactly where C12 says: on fields whose target lies on a cycle of by-value (not list-wrapped) input
    fields — `InputsWf` (distinct input names, ids in range) is needed for the ← direction only -/
theorem inputBoxed_iff_cycle (c : Ctx) (ty : FieldType) (hwf : C12Graph.InputsWf c.s) :
    inputBoxed c ty = true ↔ ∃ iid, ty.id = .input iid ∧ C12Graph.OnDirectCycle c.s iid := by
  rw [inputBoxed_iff]
  constructor
  · rintro ⟨iid, h1, h2⟩; exact ⟨iid, h1, C12.dfs_sound c.s iid h2⟩
  · rintro ⟨iid, h1, h2⟩; exact ⟨iid, h1, C12.dfs_complete c.s iid hwf h2⟩

/-- **input-field position**: `inputFieldType` at qualifiers `quals t` is `rustOf` of `t` over the normalized
    type name, in a `Box` exactly when `inputBoxed` -/
theorem inputFieldType_rule (c : Ctx) (ty : FieldType) (t : GTy) (tn : String) (hw : wf t = true)
    (hn : c.s.typeName ty.id = .ok tn) :
    inputFieldType c ty (GTy.quals t) =
      .ok (boxIf (inputBoxed c ty) (rustOf (.path (c.o.normalization.fieldType c.cs tn)) t)) := by
  unfold inputFieldType
  simp only [hn, bind, Except.bind, decorate_spec _ _ hw, pure, Except.pure]
  rfl

/-- member `k` of an emitted input struct has the type `inputFieldType` computes for the `k`-th schema field -/
theorem input_member_type (c : Ctx) (i : StoredInput) (n : String) (d : List String) (sc : Option String)
    (fs : List RField) (h : inputItem c i = .ok (.struct n d sc fs))
    (k : Nat) (fname : String) (ty : FieldType) (hk : i.fields[k]? = some (fname, ty)) :
    ∃ f, fs[k]? = some f ∧ f.wire = fname ∧ inputFieldType c ty ty.quals = .ok f.ty := by
  rcases inputItem_cases h with ⟨_, vs, _, h'⟩ | ⟨_, fs', hfs, h'⟩ <;> cases h'
  obtain ⟨f, hf, hb⟩ := mapM_getElem _ _ _ hfs k _ hk
  obtain ⟨t, ht, hb⟩ := bind_ok hb
  simp only [pure, Except.pure, Except.ok.injEq] at hb
  subst hb
  exact ⟨_, hf, C11.input_wire_is_graphql_name _ _ _ _, ht⟩

/-- **input-field position, composed on `inputItem`** -/
theorem input_member_rule (c : Ctx) (i : StoredInput) (n : String) (d : List String) (sc : Option String)
    (fs : List RField) (h : inputItem c i = .ok (.struct n d sc fs))
    (k : Nat) (fname : String) (ty : FieldType) (hk : i.fields[k]? = some (fname, ty))
    (t : GTy) (tn : String) (hq : ty.quals = GTy.quals t) (hw : wf t = true) (hn : c.s.typeName ty.id = .ok tn) :
    ∃ f, fs[k]? = some f ∧ f.wire = fname ∧
      f.ty = boxIf (inputBoxed c ty) (rustOf (.path (c.o.normalization.fieldType c.cs tn)) t) := by
  obtain ⟨f, hf, hwire, hty⟩ := input_member_type c i n d sc fs h k fname ty hk
  rw [hq, inputFieldType_rule c ty t tn hw hn] at hty
  exact ⟨f, hf, hwire, (Except.ok.inj hty).symm⟩

/-! ## `@oneOf` members -/

/-- variant `k` of an emitted `@oneOf` enum carries the type `inputFieldType` computes for the `k`-th schema
    field with a forced leading `!` -/
theorem oneOf_member_type (c : Ctx) (i : StoredInput) (n : String) (d : List String) (sc : Option String)
    (vs : List RVariant) (h : inputItem c i = .ok (.oneOf n d sc vs))
    (k : Nat) (fname : String) (ty : FieldType) (hk : i.fields[k]? = some (fname, ty)) :
    ∃ v r, vs[k]? = some v ∧ v.wire = fname ∧ v.payload = some r ∧
      inputFieldType c ty (.required :: ty.quals) = .ok r := by
  rcases inputItem_cases h with ⟨_, vs', hvs, h'⟩ | ⟨_, fs, _, h'⟩ <;> cases h'
  obtain ⟨v, hv, hb⟩ := mapM_getElem _ _ _ hvs k _ hk
  obtain ⟨t, ht, hb⟩ := bind_ok hb
  simp only [pure, Except.pure, Except.ok.injEq] at hb
  subst hb
  exact ⟨_, t, hv, C11.oneof_wire_is_graphql_name _ _ _, rfl, ht⟩

/-- **`@oneOf` position (non-null forced)**: a member declared with the nullable type expression `t` carries
    `rustOfNN` of `t` — the type of `t!` — boxed exactly when `inputBoxed` -/
theorem oneOf_member_rule (c : Ctx) (i : StoredInput) (n : String) (d : List String) (sc : Option String)
    (vs : List RVariant) (h : inputItem c i = .ok (.oneOf n d sc vs))
    (k : Nat) (fname : String) (ty : FieldType) (hk : i.fields[k]? = some (fname, ty))
    (t : GTy) (tn : String) (hq : ty.quals = GTy.quals t) (hw : wf t = true) (hnn : isNN t = false)
    (hn : c.s.typeName ty.id = .ok tn) :
    ∃ v, vs[k]? = some v ∧ v.wire = fname ∧
      v.payload = some (boxIf (inputBoxed c ty) (rustOfNN (.path (c.o.normalization.fieldType c.cs tn)) t)) := by
  obtain ⟨v, r, hv, hwire, hp, hty⟩ := oneOf_member_type c i n d sc vs h k fname ty hk
  have hw' : wf (.nonNull t) = true := by cases t <;> simp_all [wf, isNN]
  have : Qual.required :: ty.quals = GTy.quals (.nonNull t) := by rw [hq]; rfl
  rw [this, inputFieldType_rule c ty (.nonNull t) tn hw' hn] at hty
  refine ⟨v, hv, hwire, ?_⟩
  rw [hp, ← Except.ok.inj hty, rustOf]

/-- a `@oneOf` member declared non-null (`T!`, `[T]!`, …) makes `inputItem` panic: the forced `!` meets the declared
    one (`decorate_type`: "double required annotation").  GraphQL requires `@oneOf` members to be nullable; neither
    schema front-end checks it. -/
theorem oneOf_member_nonnull_panics (c : Ctx) (i : StoredInput) (fname : String) (ty : FieldType) (rest : List (String × FieldType))
    (t : GTy) (tn : String) (hone : i.isOneOf = true) (hf : i.fields = (fname, ty) :: rest)
    (hq : ty.quals = GTy.quals (.nonNull t)) (hw : wf t = true) (hn : c.s.typeName ty.id = .ok tn) :
    inputItem c i = .error (.panic "double required annotation") := by
  unfold inputItem
  simp only [hone, ↓reduceIte, hf, List.mapM_cons, bind, Except.bind]
  have : inputFieldType c ty (.required :: ty.quals) = .error (.panic "double required annotation") := by
    unfold inputFieldType
    simp only [hn, bind, Except.bind]
    have : Qual.required :: ty.quals = GTy.quals (.nonNull (.nonNull t)) := by rw [hq]; rfl
    rw [this, decorate_double_required_panics _ t hw]
  rw [this]

/-! ## non-vacuity -/

theorem ok_of_isSome {ε α} {x : Except ε α} (h : x.toOption.isSome = true) : ∃ a, x = .ok a := by
  cases x with
  | error e => cases h
  | ok a => exact ⟨a, rfl⟩

theorem length_two {α} : ∀ {l : List α}, l.length = 2 → ∃ a b, l = [a, b]
  | [a, b], _ => ⟨a, b, rfl⟩

theorem length_three {α} : ∀ {l : List α}, l.length = 3 → ∃ a b c, l = [a, b, c]
  | [a, b, c], _ => ⟨a, b, c, rfl⟩

/-- variable position on `kwCtx` (`$inArg: type!`, input object named by a keyword, `rust` normalization): the
    hypotheses of `variable_member_rule` hold and the member's type is the bare struct path -/
example : ∃ d sc fs rest, variablesItems kwCtx 0 = .ok (.struct "Variables" d sc fs :: rest) ∧
    ∃ f, fs[1]? = some f ∧ f.wire = "inArg" ∧ f.ty = .path "Ctype" := by
  obtain ⟨items, hv⟩ := ok_of_isSome (x := variablesItems kwCtx 0) (by decide +kernel)
  rcases variablesItems_shape kwCtx 0 items hv with ⟨he, _⟩ | ⟨_, fs, dfl, rfl, _⟩
  · exact absurd he (by decide +kernel)
  · obtain ⟨f, hf, hw, hty⟩ := variable_member_rule kwCtx 0 fs _ _ _ hv 1
      { opIdx := 0, name := "inArg", default := none, ty := { id := .input 0, quals := [.required] } } rfl
      (.nonNull (.named "type")) "type" rfl rfl rfl
    refine ⟨_, _, fs, _, hv, f, hf, ?_, ?_⟩
    · exact hw
    · rw [hty]
      have : keywordReplace (kwCtx.o.normalization.fieldType kwCtx.cs "type") = "Ctype" := by decide +kernel
      rw [this]; simp [rustOf, rustOfNN]

/-- a recursive input object: `input Node { next: Node  kids: [Node!]  tag: Int! }` and a `@oneOf` input over it -/
def recSchema : Schema :=
  { scalars := Schema.defaultScalars,
    inputs := [{ name := "Node", fields := [("next", { id := .input 0, quals := [] }),
                                            ("kids", { id := .input 0, quals := [.list, .required] }),
                                            ("tag", { id := .scalar 2, quals := [.required] })], isOneOf := false },
               { name := "Sel", fields := [("byNode", { id := .input 0, quals := [] }), ("byId", { id := .scalar 0, quals := [.list] })],
                 isOneOf := true },
               { name := "Bad", fields := [("a", { id := .scalar 2, quals := [.required] })], isOneOf := true }] }

def recCtx : Ctx := { s := recSchema, q := {}, o := {}, cs := ⟨id, id⟩ }

/-- input-field position: `next: Node` is `Box<Option<Node>>` (target on a by-value cycle), `kids: [Node!]` is
    `Option<Vec<Node>>` behind the same `Box` decision (the generator boxes by *target*), `tag: Int!` is `Int` -/
example : ∃ n d sc fs, inputItem recCtx recSchema.inputs[0] = .ok (.struct n d sc fs) ∧
    fs.map (·.ty) = [.box (.opt (.path "Node")), .box (.opt (.vec (.path "Node"))), .path "Int"] := by
  obtain ⟨it, hi⟩ := ok_of_isSome (x := inputItem recCtx recSchema.inputs[0]) (by decide +kernel)
  rcases (inputItem_wires recCtx _ it hi).2 with ⟨h, _⟩ | ⟨_, n, d, sc, fs, rfl⟩
  · exact absurd h (by decide)
  · refine ⟨n, d, sc, fs, hi, ?_⟩
    obtain ⟨f0, hf0, _, h0⟩ := input_member_rule recCtx _ n d sc fs hi 0 "next" _ rfl (.named "Node") "Node" rfl rfl rfl
    obtain ⟨f1, hf1, _, h1⟩ := input_member_rule recCtx _ n d sc fs hi 1 "kids" _ rfl (.list (.nonNull (.named "Node"))) "Node" rfl rfl rfl
    obtain ⟨f2, hf2, _, h2⟩ := input_member_rule recCtx _ n d sc fs hi 2 "tag" _ rfl (.nonNull (.named "Int")) "Int" rfl rfl rfl
    have hlen : fs.length = 3 := by
      have := congrArg List.length (inputItem_struct_wires recCtx _ n d sc fs hi)
      simp only [List.length_map] at this
      exact this.trans (by decide)
    have hb : inputBoxed recCtx { id := .input 0, quals := [] } = true := by decide +kernel
    have hb1 : inputBoxed recCtx { id := .input 0, quals := [.list, .required] } = true := by decide +kernel
    have hb2 : inputBoxed recCtx { id := .scalar 2, quals := [.required] } = false := by decide +kernel
    obtain ⟨a, b, c', rfl⟩ := length_three hlen
    simp only [List.getElem?_cons_zero, List.getElem?_cons_succ, Option.some.injEq] at hf0 hf1 hf2
    subst hf0 hf1 hf2
    simp only [List.map_cons, List.map_nil, h0, h1, h2]
    rw [hb, hb1, hb2]
    simp [boxIf, rustOf, rustOfNN, Normalization.fieldType, Normalization.camelCase, recCtx]

/-- `@oneOf` position: `byNode: Node` carries `Box<Node>` (non-null forced, boxed), `byId: [ID]` carries `Vec<Option<ID>>` -/
example : ∃ n d sc vs, inputItem recCtx recSchema.inputs[1] = .ok (.oneOf n d sc vs) ∧
    vs.map (·.payload) = [some (.box (.path "Node")), some (.vec (.opt (.path "ID")))] := by
  obtain ⟨it, hi⟩ := ok_of_isSome (x := inputItem recCtx recSchema.inputs[1]) (by decide +kernel)
  rcases (inputItem_wires recCtx _ it hi).2 with ⟨_, n, d, sc, vs, rfl⟩ | ⟨h, _⟩
  · refine ⟨n, d, sc, vs, hi, ?_⟩
    obtain ⟨v0, hv0, _, h0⟩ := oneOf_member_rule recCtx _ n d sc vs hi 0 "byNode" _ rfl (.named "Node") "Node" rfl rfl rfl rfl
    obtain ⟨v1, hv1, _, h1⟩ := oneOf_member_rule recCtx _ n d sc vs hi 1 "byId" _ rfl (.list (.named "ID")) "ID" rfl rfl rfl rfl
    have hlen : vs.length = 2 := by
      have := congrArg List.length (inputItem_oneOf_wires recCtx _ n d sc vs hi)
      simp only [List.length_map] at this
      exact this.trans (by decide)
    have hb : inputBoxed recCtx { id := .input 0, quals := [] } = true := by decide +kernel
    have hb1 : inputBoxed recCtx { id := .scalar 0, quals := [.list] } = false := by decide +kernel
    obtain ⟨a, b, rfl⟩ := length_two hlen
    simp only [List.getElem?_cons_zero, List.getElem?_cons_succ, Option.some.injEq] at hv0 hv1
    subst hv0 hv1
    simp only [List.map_cons, List.map_nil, h0, h1]
    rw [hb, hb1]
    simp [boxIf, rustOf, rustOfNN, Normalization.fieldType, Normalization.camelCase, recCtx]
  · exact absurd h (by decide)

/-- `@oneOf` member declared `Int!`: the generator panics -/
example : inputItem recCtx recSchema.inputs[2] = .error (.panic "double required annotation") :=
  oneOf_member_nonnull_panics recCtx _ "a" _ [] (.named "Int") "Int" rfl rfl rfl rfl rfl

end Composed
end GqlVerif
