import GqlVerif.Proofs.C01AbstractI
/-!
# C01 / C03 end to end, `RecFragmentOp` 1/4 (spreads inside fragment bodies, recursive fragments): class and closed form

`FragmentOp` (`C01AbstractF`–`I`) requires spread-free fragment bodies.  `RecFragmentOp` drops that: **the selection sets
below the fields of a fragment body are object-level selection sets of the class again** (lone spread ⇒ type
alias, otherwise struct with one `#[serde(flatten)]` member per spread), so a fragment may reach other
fragments and itself:

* `fragment F on T { name friend { ...F } }` (self recursion),
* `fragment A on T { x b { ...B } }  fragment B on U { y a { ...A } }` (mutual recursion),
* `fragment W on T { w { ...F other } }` (a non-recursive wrapper reaching a recursive fragment).

The generator puts `Box` on every spread of a fragment that can reach itself (`fragmentIsRecursive`): on the
flattened member and on the type alias of a lone spread (`aliasItem`).  The closed form below carries the
generator's own flag `fragmentIsRecursive c.q g` (characterised in `C12Graph.fragmentIsRecursive_iff`); the
serde theorems of `C01RecursiveB` / `D` hold whatever the flag is (`Box` is transparent).

**Class** (decidable, `RecFragmentOp`): as `FragmentOp`, with the condition on a spread reduced to the local one
(`spreadOk`: the fragment exists, is on the parent type itself, is not named `ID`) and, *for every fragment
reachable from the operation* (`usedFrags`, a closure computed by iteration and **checked** to be closed:
`closedFrags`), `fragBodyOk`: the fragment is on an existing object type, and its body is an object-level selection
set of the class **without a spread at its top level** (spreads only below fields).

Out of scope: a spread at the top level of a fragment body (`fragment W on T { ...F }`,
`fragment W on T { a ...F }`): the fragment struct then has flattened members itself and is read with serde's
*borrow* semantics when it is flattened in turn (for fragments that are not recursive: `NestedOp`, `C01NestedA`);
spreads at abstract positions (`VariantSpreadOp`, `C01VariantSpread`).
-/
namespace GqlVerif
namespace C01
namespace E2E
open Codegen

/-! ## the class -/

/-- the condition on a spread `...g` in a selection set on `parent`; a fragment named `ID` is excluded because the
    generator would attach the ID helper to the member -/
def spreadOk (q : Query) (parent : TypeId) (g : Nat) : Bool :=
  match q.fragments[g]? with
  | some f => f.on == parent && f.name != "ID"
  | none => false

mutual
  /-- one selection of an object-level selection set on `parent` (as `fSel`, spreads checked locally) -/
  def rSel (s : Schema) (q : Query) (o : Options) (parent : TypeId) : Sel → Bool
    | .field _ fid sub =>
      match s.fields[fid]? with
      | none => false
      | some sf =>
        wfQuals sf.ty.quals && !(sf.deprecation.isSome && o.deprecation == .deny) &&
        (match sf.ty.id with
         | .scalar k => (s.scalars[k]?).isSome && sub.isEmpty
         | .enum k => (s.enums[k]?).isSome && sub.isEmpty
         | .object i => (s.objects[i]?).isSome &&
            (match sub with
             | [.spread g] => spreadOk q (.object i) g
             | _ => rSels s q o (.object i) sub)
         | .interface k => (s.interfaces[k]?).isSome && vSels s o true sub && absOk s o (.interface k) sub
         | .union u => (s.unions[u]?).isSome && vSels s o true sub && absOk s o (.union u) sub
         | .input _ => false)
    | .typename => true
    | .spread g => spreadOk q parent g
    | .inline _ _ => false
  def rSels (s : Schema) (q : Query) (o : Options) (parent : TypeId) : List Sel → Bool
    | [] => true
    | x :: xs => rSel s q o parent x && rSels s q o parent xs
end

/-- an object-level selection set; a lone spread is a case of its own because the generator emits a type alias for
    it, not a struct -/
def rBody (s : Schema) (q : Query) (o : Options) (parent : TypeId) (sels : List Sel) : Bool :=
  match sels with
  | [.spread g] => spreadOk q parent g
  | _ => rSels s q o parent sels

theorem rSel_kinds {s : Schema} {q : Query} {o : Options} {p : TypeId} {a : Option String} {fid : Nat} {sub : List Sel}
    (h : rSel s q o p (.field a fid sub) = true) : ∃ sf, s.fields[fid]? = some sf ∧ wfQuals sf.ty.quals = true ∧
      (sf.deprecation.isSome && o.deprecation == .deny) = false ∧
      ((∃ i ob, sf.ty.id = .object i ∧ s.objects[i]? = some ob ∧ rBody s q o (.object i) sub = true) ∨
       ((∀ i, sf.ty.id ≠ .object i) ∧ vSel s o false (.field a fid sub) = true)) := by
  rw [rSel] at h
  cases hsf : s.fields[fid]? with
  | none => simp [hsf] at h
  | some sf =>
    have h0 := h
    simp only [hsf, Bool.and_eq_true, Bool.not_eq_true'] at h
    refine ⟨sf, rfl, h.1.1, h.1.2, ?_⟩
    cases hid : sf.ty.id with
    | object i =>
      simp only [hid, Bool.and_eq_true, Option.isSome_iff_exists] at h
      obtain ⟨_, ⟨ob, hob⟩, hb⟩ := h
      exact .inl ⟨i, ob, rfl, hob, hb⟩
    | input k => simp [hid] at h
    | _ =>
      refine .inr ⟨fun i hi => (by cases hi), ?_⟩
      rw [vSel]
      simpa [hsf, hid] using h0

/-- a fragment that may be reached: it is on an existing object type and its body is an object-level selection
    set of the class (below its fields: anything of the class, **including spreads of itself**) without a
    spread at its own top level -/
def fragBodyOk (s : Schema) (q : Query) (o : Options) (g : Nat) : Bool :=
  match q.fragments[g]? with
  | some f =>
    (match f.on with | .object i => (s.objects[i]?).isSome | _ => false) &&
    !f.sels.any isSpread && rSels s q o f.on f.sels
  | none => false

/-! ### the fragments reachable from a selection set -/

def addNew (acc new : List Nat) : List Nat :=
  new.foldl (fun a g => if a.contains g then a else a ++ [g]) acc

def closeFrags (q : Query) : Nat → List Nat → List Nat
  | 0, acc => acc
  | n + 1, acc => closeFrags q n (addNew acc (acc.flatMap (fun g => spreadIdss (fragSels q g))))

/-- the fragments reachable from `sels` (one round per fragment of the document is enough; that the result is
    closed is *checked* by the class, `closedFrags`, not assumed) -/
def usedFrags (q : Query) (sels : List Sel) : List Nat :=
  closeFrags q q.fragments.length (addNew [] (spreadIdss sels))

def closedFrags (q : Query) (G : List Nat) (sels : List Sel) : Bool :=
  (spreadIdss sels).all G.contains && G.all (fun g => (spreadIdss (fragSels q g)).all G.contains)

/-- **the class `RecFragmentOp`** (decidable): as `FragmentOp`, but the bodies of the reachable fragments are
    object-level selection sets of the class again below their fields (recursive fragments included) -/
def RecFragmentOp (c : Ctx) (op : ROperation) : Bool :=
  c.o.normalization == .none && (c.s.objects[op.objectId]?).isSome &&
  rBody c.s c.q c.o (.object op.objectId) op.sels &&
  closedFrags c.q (usedFrags c.q op.sels) op.sels &&
  (usedFrags c.q op.sels).all (fragBodyOk c.s c.q c.o)

/-! ## closed form -/

/-- the flattened member emitted for a spread of the fragment number `g`: boxed iff the generator finds the
    fragment recursive -/
def spreadFieldR (c : Ctx) (g : Nat) (f : RFragment) : RField :=
  { rust := keywordReplace (c.cs.snake f.name)
    ty := if fragmentIsRecursive c.q g then .box (.path f.name) else .path f.name
    flatten := true }

def fieldOfSelR (c : Ctx) (pfx : String) : Sel → Option RField
  | .spread g => (c.q.fragments[g]?).map (spreadFieldR c g)
  | x => fieldOfSelV c pfx x

def fieldsOfR (c : Ctx) (pfx : String) (sels : List Sel) : List RField := sels.filterMap (fieldOfSelR c pfx)

mutual
  def itemsR (c : Ctx) (pfx : String) : Sel → List Item
    | .field a fid sub =>
      match c.s.fields[fid]? with
      | none => []
      | some sf =>
        match sf.ty.id with
        | .object _ =>
          (match sub with
           | [.spread g] => [aliasItem (pfx ++ c.cs.camel (a.getD sf.name)) (fragName c g) (fragmentIsRecursive c.q g)]
           | _ => .struct (pfx ++ c.cs.camel (a.getD sf.name)) c.respDerives c.serdeCrate
                    (fieldsOfR c (pfx ++ c.cs.camel (a.getD sf.name)) sub) ::
                  itemsRs c (pfx ++ c.cs.camel (a.getD sf.name)) sub)
        | .interface k => absItemsV c (pfx ++ c.cs.camel (a.getD sf.name)) (pfx ++ c.cs.camel (a.getD sf.name)) (.interface k) sub
        | .union u => absItemsV c (pfx ++ c.cs.camel (a.getD sf.name)) (pfx ++ c.cs.camel (a.getD sf.name)) (.union u) sub
        | _ => []
    | _ => []
  def itemsRs (c : Ctx) (pfx : String) : List Sel → List Item
    | [] => []
    | x :: xs => itemsR c pfx x ++ itemsRs c pfx xs
end

/-- **closed form** of the items of an object-level selection set: a type alias (to `Box<F>` when `F` is
    recursive) for a lone spread; otherwise the struct (own fields and one flattened member per spread, `Box`ed
    when recursive, in selection order) and the nested items -/
def bodyItemsR (c : Ctx) (name pfx : String) (sels : List Sel) : List Item :=
  match sels with
  | [.spread g] => [aliasItem name (fragName c g) (fragmentIsRecursive c.q g)]
  | _ => .struct name c.respDerives c.serdeCrate (fieldsOfR c pfx sels) :: itemsRs c pfx sels

theorem spreadOk_parts {q : Query} {parent : TypeId} {g : Nat} (h : spreadOk q parent g = true) :
    ∃ f, q.fragments[g]? = some f ∧ f.on = parent ∧ f.name ≠ "ID" := by
  unfold spreadOk at h
  cases hf : q.fragments[g]? with
  | none => simp [hf] at h
  | some f =>
    simp only [hf, Bool.and_eq_true, beq_iff_eq, bne_iff_ne] at h
    exact ⟨f, rfl, h.1, h.2⟩

theorem renderField_spreadR (c : Ctx) (g : Nat) (f : RFragment) (hid : f.name ≠ "ID") :
    renderField c none (keywordReplace (c.cs.snake f.name)) f.name [.required] true (fragmentIsRecursive c.q g) none =
      .ok (some (spreadFieldR c g f)) := by
  unfold renderField
  cases h : fragmentIsRecursive c.q g <;>
    simp [decorateType, decorateStep, bind, Except.bind, pure, Except.pure, hid, spreadFieldR, Option.bind, h]

theorem rSels_eq_all (s : Schema) (q : Query) (o : Options) (p : TypeId) :
    ∀ sels, rSels s q o p sels = sels.all (rSel s q o p) :=
  all_of_eqns rfl (fun _ _ => rfl)

theorem rSels_cons {s : Schema} {q : Query} {o : Options} {p : TypeId} {x : Sel} {xs : List Sel}
    (h : rSels s q o p (x :: xs) = true) : rSel s q o p x = true ∧ rSels s q o p xs = true := by
  simpa [rSels] using h

theorem rSels_mem {s : Schema} {q : Query} {o : Options} {p : TypeId} : ∀ {sels : List Sel}, rSels s q o p sels = true →
    ∀ x ∈ sels, rSel s q o p x = true :=
  fun {sels} h => List.all_eq_true.mp (rSels_eq_all s q o p sels ▸ h)

theorem rBody_not_lone {s : Schema} {q : Query} {o : Options} {p : TypeId} {sels : List Sel}
    (h : ∀ g, sels ≠ [Sel.spread g]) : rBody s q o p sels = rSels s q o p sels := by
  unfold rBody
  split
  · rename_i g; exact absurd rfl (h g)
  · rfl

theorem rBody_lone {s : Schema} {q : Query} {o : Options} {p : TypeId} {g : Nat} :
    rBody s q o p [Sel.spread g] = spreadOk q p g := rfl

theorem bodyItemsR_not_lone (c : Ctx) (name pfx : String) {sels : List Sel} (h : ∀ g, sels ≠ [Sel.spread g]) :
    bodyItemsR c name pfx sels =
      .struct name c.respDerives c.serdeCrate (fieldsOfR c pfx sels) :: itemsRs c pfx sels := by
  unfold bodyItemsR
  split
  · rename_i g; exact absurd rfl (h g)
  · rfl

theorem fieldsOfR_cons (c : Ctx) (pfx : String) (x : Sel) (xs : List Sel) :
    fieldsOfR c pfx (x :: xs) = (fieldOfSelR c pfx x).toList ++ fieldsOfR c pfx xs := by
  unfold fieldsOfR
  rw [List.filterMap_cons]
  cases fieldOfSelR c pfx x <;> rfl

theorem not_lone_of_noTop {sels : List Sel} (h : sels.any isSpread = false) : ∀ g, sels ≠ [Sel.spread g] := by
  intro g hg; subst hg; simp [isSpread] at h

theorem fragBodyOk_parts {s : Schema} {q : Query} {o : Options} {g : Nat} (h : fragBodyOk s q o g = true) :
    ∃ f i, q.fragments[g]? = some f ∧ f.on = .object i ∧ (s.objects[i]?).isSome = true ∧
      f.sels.any isSpread = false ∧ rSels s q o (.object i) f.sels = true := by
  unfold fragBodyOk at h
  cases hf : q.fragments[g]? with
  | none => simp [hf] at h
  | some f =>
    simp only [hf, Bool.and_eq_true, Bool.not_eq_true'] at h
    obtain ⟨⟨h1, h2⟩, h3⟩ := h
    cases hon : f.on with
    | object i =>
      rw [hon] at h1 h3
      exact ⟨f, i, rfl, hon, h1, h2, h3⟩
    | scalar k => simp [hon] at h1
    | «enum» k => simp [hon] at h1
    | interface k => simp [hon] at h1
    | union k => simp [hon] at h1
    | input k => simp [hon] at h1

/-! ## the closed form of the emitted items for `RecFragmentOp` -/

section CalcR
variable (c : Ctx) (hn : c.o.normalization = .none)

/-- one selection of the class is one step of the field loop for a struct of an object type -/
def StepR (x : Sel) : Prop := ∀ (pfx : String) (i : Nat) (rest : List Sel) (fs : List RField) (items : List Item),
  rSel c.s c.q c.o (.object i) x = true → C02.CalcFields c pfx (.object i) rest fs items →
  C02.CalcFields c pfx (.object i) (x :: rest) ((fieldOfSelR c pfx x).toList ++ fs) (itemsR c pfx x ++ items)

theorem calcFieldsR {sels : List Sel} (H : ∀ y ∈ sels, StepR c y) (pfx : String) (i : Nat)
    (ht : rSels c.s c.q c.o (.object i) sels = true) :
    C02.CalcFields c pfx (.object i) sels (fieldsOfR c pfx sels) (itemsRs c pfx sels) := by
  induction sels with
  | nil => exact .nil
  | cons x rest ih =>
    rw [fieldsOfR_cons, itemsRs]
    exact H x List.mem_cons_self pfx i rest _ _ (rSels_cons ht).1
      (ih (fun y hy => H y (List.mem_cons_of_mem _ hy)) (rSels_cons ht).2)

theorem calcBodyR {sels : List Sel} (H : ∀ y ∈ sels, StepR c y) (name pfx : String) (i : Nat)
    (ht : rBody c.s c.q c.o (.object i) sels = true) :
    C02.CalcSel c name pfx (.object i) sels (bodyItemsR c name pfx sels) := by
  by_cases hsp : ∃ g, sels = [Sel.spread g]
  · obtain ⟨g, rfl⟩ := hsp
    have hok : spreadOk c.q (.object i) g = true := ht
    obtain ⟨fr, hfr, _, _⟩ := spreadOk_parts hok
    have := C02.CalcSel.alias (name := name) (pfx := pfx) (ty := .object i) (getFragment_of hfr)
    simpa [bodyItemsR, fragName, hfr] using this
  · have hsp' : ∀ g, sels ≠ [Sel.spread g] := fun g hg => hsp ⟨g, hg⟩
    rw [rBody_not_lone hsp'] at ht
    rw [bodyItemsR_not_lone c name pfx hsp']
    exact .object hsp' (calcFieldsR c H pfx i ht)

theorem itemsR_abs (c : Ctx) (pfx : String) (a : Option String) (fid : Nat) (sub : List Sel) (sf : StoredField)
    (hsf : c.s.fields[fid]? = some sf) (hno : ∀ i, sf.ty.id ≠ .object i) :
    itemsR c pfx (.field a fid sub) = itemsV c pfx (.field a fid sub) := by
  rw [itemsR, itemsV]
  simp only [hsf]
  cases hid : sf.ty.id <;> first | rfl | exact absurd hid (hno _)

include hn in
theorem stepR_all : ∀ x, StepR c x := by
  apply Sel.ind
  · intro a fid sub IH pfx i rest fs items hx hR
    obtain ⟨sf, hsf, hw, hdep, hk⟩ := rSel_kinds hx
    rcases hk with ⟨j, _, hid, _, hbody⟩ | ⟨hno, hv⟩
    · have hS := calcBodyR c IH (pfx ++ c.cs.camel (a.getD sf.name)) (pfx ++ c.cs.camel (a.getD sf.name)) j hbody
      have := C02.CalcFields.nested (getField_of hsf) (by simp [hid]) (by simp [hid]) (by simp [hid])
        (renderField_tree c (a.getD sf.name) _ _ _ hw hdep) (hid ▸ hS) hR
      have hitems : itemsR c pfx (.field a fid sub) =
          bodyItemsR c (pfx ++ c.cs.camel (a.getD sf.name)) (pfx ++ c.cs.camel (a.getD sf.name)) sub := by
        rw [itemsR]; simp only [hsf, hid]; rfl
      rw [hitems]
      simpa [fieldOfSelR, fieldOfSelV, hsf, hid, leafNameV] using this
    · -- a field of any other kind: the step of `VariantOp`, whose items are the same
      rw [itemsR_abs c pfx a fid sub sf hsf hno]
      exact stepV_all c hn (.field a fid sub) false pfx (.object i) rest fs items hv hR
  · intro t sub _ pfx i rest fs items hx _
    simp [rSel] at hx
  · intro g pfx i rest fs items hx hR
    have hok : spreadOk c.q (.object i) g = true := by simpa [rSel] using hx
    obtain ⟨fr, hfr, hon, hname⟩ := spreadOk_parts hok
    have := C02.CalcFields.spreadHere (getFragment_of hfr) (by simp [hon]) (renderField_spreadR c g fr hname) hR
    simpa [fieldOfSelR, hfr, itemsR] using this
  · intro pfx i rest fs items _ hR
    simpa [fieldOfSelR, fieldOfSelV, itemsR] using C02.CalcFields.typename hR

include hn in
theorem calc_rec (name pfx : String) (i : Nat) {sels : List Sel}
    (ht : rBody c.s c.q c.o (.object i) sels = true) :
    C02.CalcSel c name pfx (.object i) sels (bodyItemsR c name pfx sels) :=
  calcBodyR c (fun y _ => stepR_all c hn y) name pfx i ht

end CalcR

theorem recFragmentOp_parts {c : Ctx} {op : ROperation} (h : RecFragmentOp c op = true) :
    c.o.normalization = .none ∧ (c.s.objects[op.objectId]?).isSome = true ∧
      rBody c.s c.q c.o (.object op.objectId) op.sels = true ∧
      closedFrags c.q (usedFrags c.q op.sels) op.sels = true ∧
      ∀ g ∈ usedFrags c.q op.sels, fragBodyOk c.s c.q c.o g = true := by
  simp only [RecFragmentOp, Bool.and_eq_true, beq_iff_eq, List.all_eq_true] at h
  exact ⟨h.1.1.1.1, h.1.1.1.2, h.1.1.2, h.1.2, h.2⟩

/-- **`recfragment_items_shape`.**  For an operation of the class `RecFragmentOp` the response items
    are, in closed form: a type alias where a selection set is a lone spread (to `Box<F>` when the generator
    finds `F` recursive); otherwise one struct per object-level selection set with one `#[serde(flatten)]`
    member per spread (`Box<F>` when recursive), in selection order; abstract positions as in
    `variant_items_shape`. -/
theorem recfragment_items_shape (c : Ctx) (op : ROperation) (hop : op ∈ c.q.operations)
    (ht : RecFragmentOp c op = true) :
    responseItems c op = .ok (bodyItemsR c "ResponseData" (c.cs.camel op.name) op.sels) := by
  obtain ⟨hn, _, hsels, _, _⟩ := recFragmentOp_parts ht
  exact (calc_rec c hn _ _ _ hsels).responseItems_eq hop

/-- **… and the items of every fragment of the class** (`fragBodyOk`; in particular every fragment reachable from
    an operation of the class): the struct named like the fragment, with the fields of its body — one
    flattened member (boxed when recursive) per spread below its fields, aliases for lone spreads — and the
    nested items; prefix: the upper-camel-case fragment name -/
theorem recfragment_struct_shape (c : Ctx) (hn : c.o.normalization = .none) (g : Nat)
    (hok : fragBodyOk c.s c.q c.o g = true) :
    ∃ f, c.q.fragments[g]? = some f ∧
      fragmentItems c g = .ok (.struct f.name c.respDerives c.serdeCrate (fieldsOfR c (c.cs.camel f.name) f.sels) ::
        itemsRs c (c.cs.camel f.name) f.sels) := by
  obtain ⟨f, i, hf, hon, _, hnt, hv⟩ := fragBodyOk_parts hok
  refine ⟨f, hf, ?_⟩
  have hnl := not_lone_of_noTop hnt
  have := calc_rec c hn f.name (c.cs.camel f.name) i (by rw [rBody_not_lone hnl]; exact hv)
  rw [← hon, bodyItemsR_not_lone c f.name (c.cs.camel f.name) hnl] at this
  exact this.fragmentItems_eq hf

/-! ## the closed form does not need the restriction on fragment bodies

Both shape theorems only use that the selection set at hand is an object-level selection set of the class
(`rBody`): they hold verbatim for fragments **with spreads at the top level of their body** (nested flattened
members; a body that is a lone spread is a type alias).  Only the serde theorems (`C01RecursiveB`–`D`) need
`fragBodyOk`'s "no spread at the top level of a fragment body". -/

theorem recfragment_items_shape_gen (c : Ctx) (op : ROperation) (hop : op ∈ c.q.operations)
    (hn : c.o.normalization = .none) (hb : rBody c.s c.q c.o (.object op.objectId) op.sels = true) :
    responseItems c op = .ok (bodyItemsR c "ResponseData" (c.cs.camel op.name) op.sels) :=
  (calc_rec c hn _ _ _ hb).responseItems_eq hop

/-- the items of **any** fragment on an object type whose body is an object-level selection set of the class
    (spreads anywhere, recursion included): an alias for a lone spread, otherwise the struct with one (boxed when
    recursive) flattened member per spread and the nested items -/
theorem recfragment_struct_shape_gen (c : Ctx) (hn : c.o.normalization = .none) (g : Nat) (f : RFragment) (i : Nat)
    (hf : c.q.fragments[g]? = some f) (hon : f.on = .object i)
    (hb : rBody c.s c.q c.o (.object i) f.sels = true) :
    fragmentItems c g = .ok (bodyItemsR c f.name (c.cs.camel f.name) f.sels) := by
  have := calc_rec c hn f.name (c.cs.camel f.name) i hb
  rw [← hon] at this
  exact this.fragmentItems_eq hf

end E2E
end C01
end GqlVerif
