import GqlVerif.Proofs.C02CompleteGen
import GqlVerif.Proofs.C07Frontends
/-!
# C02 — the schema well-formedness hypotheses hold of everything the two front-ends produce

`resolve_complete` / `codegen_succeeds` assume `SchemaWf s` (ids in range) and `SchemaWfGen s`.  By
`C07.sdl_spec` / `C07.intro_spec` both front-ends return `a.toSchema` on every rendering of a well-formed abstract
schema `a` (`C07.WfAS`).  This file proves

* `schemaWf_toSchema : WfAS a → SchemaWf a.toSchema = true` — no further hypothesis;
* `schemaWfGen_toSchema : WfAS a → WfASGen a → SchemaWfGen a.toSchema = true`, where `WfASGen a` (decidable) states on
  the abstract schema what `WfAS` does not: output fields do not have input-object types, no type `T!!`, `@oneOf`
  input fields are nullable (the witnesses of `Proofs/C02CompleteGen.lean` show these are needed);
* `schemaWf_fromSdl`, `schemaWf_fromIntro` — the corollaries for `Sdl.fromSdl` on any SDL rendering and for
  `Intro.fromIntro` on any introspection rendering.
-/
namespace GqlVerif
namespace C02Frontends
open C07 C02Complete C02Gen

theorem mem_pairsFrom_range (mk : Nat → TypeId) (ns : List String) (k : Nat) (n : String) (id : TypeId)
    (h : (n, id) ∈ pairsFrom mk ns k) : ∃ i, k ≤ i ∧ i < k + ns.length ∧ id = mk i := by
  induction ns generalizing k with
  | nil => cases h
  | cons m ns ih =>
    rw [pairsFrom_cons, List.mem_cons] at h
    rcases h with h | h
    · cases h; exact ⟨k, Nat.le_refl _, by simp, rfl⟩
    · obtain ⟨i, h1, h2, h3⟩ := ih _ h
      exact ⟨i, by omega, by simp only [List.length_cons]; omega, h3⟩

@[simp] theorem ifaceStored_length (start : Nat) (is : List AIface) : (ifaceStored start is).length = is.length := by
  induction is generalizing start with
  | nil => rfl
  | cons i is ih => simp [ifaceStored, ih]

theorem mem_ifaceFields {N : List (String × TypeId)} {sf : StoredField} : ∀ {k : Nat} {is : List AIface},
    sf ∈ ifaceFields N k is → ∃ i ∈ is, ∃ f ∈ i.fields, sf.ty = ftOf N f.ty
  | _, [], h => by cases h
  | k, i :: is, h => by
    simp only [ifaceFields, List.mem_append, List.mem_map] at h
    rcases h with ⟨f, hf, rfl⟩ | h
    · exact ⟨i, List.mem_cons_self, f, hf, rfl⟩
    · obtain ⟨i', hi', r⟩ := mem_ifaceFields h
      exact ⟨i', List.mem_cons_of_mem _ hi', r⟩

theorem mem_objFields {N : List (String × TypeId)} {sf : StoredField} : ∀ {k : Nat} {os : List AObj},
    sf ∈ objFields N k os → ∃ o ∈ os, ∃ f ∈ o.fields, sf.ty = ftOf N f.ty
  | _, [], h => by cases h
  | k, o :: os, h => by
    simp only [objFields, List.mem_append, List.mem_map] at h
    rcases h with ⟨f, hf, rfl⟩ | h
    · exact ⟨o, List.mem_cons_self, f, hf, rfl⟩
    · obtain ⟨o', ho', r⟩ := mem_objFields h
      exact ⟨o', List.mem_cons_of_mem _ ho', r⟩

theorem ifaceStored_ids : ∀ (start : Nat) (is : List AIface), ∀ o ∈ ifaceStored start is, ∀ id ∈ o.fields,
    id < start + (is.map (·.fields.length)).sum
  | _, [], o, ho, _, _ => by cases ho
  | start, i :: is, o, ho, id, hid => by
    simp only [ifaceStored, List.mem_cons] at ho
    simp only [List.map_cons, List.sum_cons]
    rcases ho with rfl | ho
    · simp only [List.mem_range'_1] at hid; omega
    · have := ifaceStored_ids _ is o ho id hid; omega

theorem objStored_ids (N : List (String × TypeId)) : ∀ (start : Nat) (os : List AObj), ∀ o ∈ objStored N start os,
    ∀ id ∈ o.fields, id < start + (os.map (·.fields.length)).sum
  | _, [], o, ho, _, _ => by cases ho
  | start, x :: os, o, ho, id, hid => by
    simp only [objStored, List.mem_cons] at ho
    simp only [List.map_cons, List.sum_cons]
    rcases ho with rfl | ho
    · simp only [List.mem_range'_1] at hid; omega
    · have := objStored_ids N _ os o ho id hid; omega

theorem mem_namesInsert {k : String} {v : TypeId} {x : String × TypeId} : ∀ {l : List (String × TypeId)},
    x ∈ namesInsert k v l → x = (k, v) ∨ x ∈ l
  | [], h => by simp [namesInsert] at h; exact .inl h
  | (k', v') :: rest, h => by
    unfold namesInsert at h
    split at h
    · rcases List.mem_cons.mp h with h | h
      · exact .inl h
      · exact .inr h
    · split at h
      · rcases List.mem_cons.mp h with h | h
        · exact .inl h
        · exact .inr (List.mem_cons_of_mem _ h)
      · rcases List.mem_cons.mp h with h | h
        · exact .inr (h ▸ List.mem_cons_self)
        · rcases mem_namesInsert h with h | h
          · exact .inl h
          · exact .inr (List.mem_cons_of_mem _ h)

theorem mem_insAll {x : String × TypeId} : ∀ {ps l : List (String × TypeId)}, x ∈ insAll ps l → x ∈ ps ∨ x ∈ l
  | [], l, h => .inr h
  | p :: ps, l, h => by
    rw [insAll_cons] at h
    rcases mem_insAll h with h | h
    · exact .inl (List.mem_cons_of_mem _ h)
    · rcases mem_namesInsert h with h | h
      · exact .inl (h ▸ List.mem_cons_self)
      · exact .inr h

/-- every id of the name table of `a` points inside `a.toSchema` -/
theorem pairs_tyOk (a : AS) {n : String} {t : TypeId} (hm : (n, t) ∈ a.pairs) : tyOk a.toSchema t = true := by
  simp only [AS.pairs, List.mem_append] at hm
  rcases hm with (((((hm | hm) | hm) | hm) | hm) | hm) | hm <;>
    obtain ⟨i, h1, h2, rfl⟩ := mem_pairsFrom_range _ _ _ _ _ hm <;>
    simp only [tyOk, AS.toSchema, decide_eq_true_eq, List.length_append, List.length_map, ifaceStored_length,
      objStored_length, AS.enumNames, AS.ifaceNames, AS.objNames, AS.unionNames, AS.inputNames] at h2 ⊢ <;>
    (try simp only [Schema.defaultScalars, List.length_cons, List.length_nil] at h2 ⊢) <;> omega

theorem names_tyOk (a : AS) {n : String} {t : TypeId} (h : namesGet n a.names = some t) : tyOk a.toSchema t = true :=
  pairs_tyOk a (a.mem_pairs_of_get h)

theorem ftOf_tyOk (a : AS) (hn : a.known.Nodup) {t : GTy} (h : t.base ∈ a.known) :
    tyOk a.toSchema (ftOf a.names t).id = true := by
  obtain ⟨id, hid⟩ := a.get_of_known hn h
  simp only [ftOf, tyId, hid, Option.getD_some]
  exact names_tyOk a hid

/-- **`SchemaWf` holds of the schema both front-ends build for a well-formed abstract schema** -/
theorem schemaWf_toSchema (a : AS) (hw : WfAS a) : SchemaWf a.toSchema = true := by
  obtain ⟨hn, hif, hof, _, _, _⟩ := hw
  unfold SchemaWf
  simp only [Bool.and_eq_true, List.all_eq_true, decide_eq_true_eq]
  have hroot : ∀ r, rootOk a.toSchema (rootId a.names r) = true := by
    intro r
    unfold rootId
    cases r with
    | none => rfl
    | some n =>
      simp only [Option.bind_some]
      cases hg : namesGet n a.names with
      | none => rfl
      | some t =>
        cases t <;> simp only [Option.bind_some, TypeId.asObject?, rootOk]
        have := names_tyOk a hg
        simpa [tyOk] using this
  refine ⟨⟨⟨⟨⟨⟨?_, ?_⟩, ?_⟩, ?_⟩, hroot _⟩, hroot _⟩, hroot _⟩
  · intro sf hsf
    simp only [AS.toSchema, List.mem_append] at hsf
    rcases hsf with hsf | hsf
    · obtain ⟨i, hi, f, hf, hty⟩ := mem_ifaceFields hsf
      rw [hty]; exact ftOf_tyOk a hn (hif i hi f hf)
    · obtain ⟨o, ho, f, hf, hty⟩ := mem_objFields hsf
      rw [hty]; exact ftOf_tyOk a hn (hof o ho f hf)
  · intro o ho id hid
    have := objStored_ids a.names _ a.objects o ho id hid
    simpa [AS.toSchema] using this
  · intro o ho id hid
    have := ifaceStored_ids 0 a.interfaces o ho id hid
    simp only [AS.toSchema, List.length_append, ifaceFields_length, objFields_length]
    omega
  · rintro ⟨n, t⟩ hp
    have : (n, t) ∈ a.pairs := by
      rcases mem_insAll (show (n, t) ∈ insAll a.pairs [] from hp) with h | h
      · exact h
      · cases h
    exact pairs_tyOk a this


/-- what `SchemaWfGen` asks of an abstract schema, beyond `WfAS` (decidable): output fields do not have
    input-object types, no type `T!!`, `@oneOf` input fields are nullable -/
def WfASGen (a : AS) : Prop :=
  (∀ i ∈ a.interfaces, ∀ f ∈ i.fields, f.ty.base ∉ a.inputNames ∧ qualsOk f.ty.quals = true) ∧
  (∀ o ∈ a.objects, ∀ f ∈ o.fields, f.ty.base ∉ a.inputNames ∧ qualsOk f.ty.quals = true) ∧
  (∀ i ∈ a.inputs, ∀ p ∈ i.fields, qualsOk p.2.quals = true ∧
    (i.isOneOf = true → p.2.quals.head? ≠ some .required))

instance (a : AS) : Decidable (WfASGen a) := by unfold WfASGen; infer_instance

theorem ftOf_not_input (a : AS) (hn : a.known.Nodup) {t : GTy} (h : t.base ∈ a.known) (hni : t.base ∉ a.inputNames) :
    (ftOf a.names t).id.asInput?.isNone = true := by
  obtain ⟨id, hid⟩ := a.get_of_known hn h
  simp only [ftOf, tyId, hid, Option.getD_some]
  cases id with
  | input j =>
    exfalso
    have hm := a.mem_pairs_of_get hid
    simp only [AS.pairs, List.mem_append] at hm
    rcases hm with (((((hm | hm) | hm) | hm) | hm) | hm) | hm <;> have h' := mem_pairsFrom _ _ _ _ _ hm
    all_goals first
      | exact hni h'.1
      | (obtain ⟨_, j', hj⟩ := h'; cases hj)
  | _ => rfl

/-- **`SchemaWfGen` holds of `a.toSchema`** under `WfAS a` and `WfASGen a` -/
theorem schemaWfGen_toSchema (a : AS) (hw : WfAS a) (hg : WfASGen a) : SchemaWfGen a.toSchema = true := by
  obtain ⟨hn, hif, hof, _, hun, hinp⟩ := hw
  obtain ⟨gif, gof, ginp⟩ := hg
  unfold SchemaWfGen
  simp only [Bool.and_eq_true, List.all_eq_true]
  refine ⟨⟨?_, ?_⟩, ?_⟩
  · intro sf hsf
    simp only [AS.toSchema, List.mem_append] at hsf
    rcases hsf with hsf | hsf
    · obtain ⟨i, hi, f, hf, hty⟩ := mem_ifaceFields hsf
      rw [hty]
      exact ⟨ftOf_not_input a hn (hif i hi f hf) (gif i hi f hf).1, (gif i hi f hf).2⟩
    · obtain ⟨o, ho, f, hf, hty⟩ := mem_objFields hsf
      rw [hty]
      exact ⟨ftOf_not_input a hn (hof o ho f hf) (gof o ho f hf).1, (gof o ho f hf).2⟩
  · intro u hu v hv
    simp only [AS.toSchema, List.mem_map] at hu
    obtain ⟨au, hau, rfl⟩ := hu
    simp only [storedUnion, List.mem_map] at hv
    obtain ⟨m, hm, rfl⟩ := hv
    obtain ⟨id, hid⟩ := a.get_of_known hn (hun au hau m hm)
    simp only [tyId, hid, Option.getD_some]
    exact names_tyOk a hid
  · intro i hi p hp
    simp only [AS.toSchema, List.mem_map] at hi
    obtain ⟨ai, hai, rfl⟩ := hi
    simp only [storedInput, List.mem_map] at hp
    obtain ⟨ap, hap, rfl⟩ := hp
    have h1 := ftOf_tyOk a hn (hinp ai hai ap hap)
    have h2 := ginp ai hai ap hap
    simp only [ftOf] at h1 ⊢
    refine ⟨⟨h1, h2.1⟩, ?_⟩
    cases ho : ai.isOneOf with
    | false => simp [storedInput, ho]
    | true => simpa [storedInput, ho] using h2.2 ho

/-- the schema the SDL front-end returns on any SDL rendering of a well-formed abstract schema satisfies the
    hypotheses of `resolve_complete` / `codegen_succeeds` -/
theorem schemaWf_fromSdl (a : AS) (doc : SdlDoc) (hw : WfAS a) (hd : IsSdlOf a doc) :
    ∃ s, Sdl.fromSdl doc = .ok s ∧ SchemaWf s = true ∧ (WfASGen a → SchemaWfGen s = true) :=
  ⟨a.toSchema, sdl_spec a doc hw hd, schemaWf_toSchema a hw, schemaWfGen_toSchema a hw⟩

/-- the same for the introspection front-end -/
theorem schemaWf_fromIntro (a : AS) (l : List (Option FullType)) (hw : WfAS a) (hi : IsIntroOf a (l.filterMap id)) :
    ∃ s, Intro.fromIntro true (some (introSchemaOf a l)) = .ok s ∧ SchemaWf s = true ∧
      (WfASGen a → SchemaWfGen s = true) :=
  ⟨a.toSchema, intro_spec a l hw hi, schemaWf_toSchema a hw, schemaWfGen_toSchema a hw⟩

/-- non-vacuity: the Star-Wars-like abstract schema of `Proofs/C07Frontends.lean` (interface, union, `@oneOf` input,
    recursive input, custom scalar, deprecated field) satisfies both hypotheses -/
example : WfAS exAS ∧ WfASGen exAS := by decide

end C02Frontends
end GqlVerif
