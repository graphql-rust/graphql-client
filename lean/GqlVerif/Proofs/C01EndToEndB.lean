import GqlVerif.Proofs.C01EndToEndA
import GqlVerif.Props.C01
/-!
# C01 / C03 end to end, `TreeOp` 2/4: what the emitted structs accept, exactly

Scope as in `C01EndToEndA` (object-tree operations: no fragments, no inline fragments, no abstract types).

`conformsSelLoose s sels j` is the loose specification: like `conformsSel` but keys that are no selected
field's (among them `__typename`) are unconstrained.  Two further liberties are forced by the model of
serde (the statement of C03 does not list them; each is witnessed in `C01EndToEndW`):
an **absent key at a nullable position** reads as `None` (`missingField`), and a **JSON array at an object
position** is read positionally (`visit_seq` of the derived `Deserialize`; known finding `C03-struct-from-array`).

`struct_accepts_iff`: for every selection set of the class, every JSON value `j` and every fuel above
the depth of the selection tree, the emitted struct reads `j` successfully **iff** `conformsSelLoose`
(mutual induction `accSel` / `accSels` over the selection tree; `ok_iff_accepts` at every field).
`ScalarEnv`, `EnumEnv`, `StructEnv`, `envSels` are what it needs of the environment (discharged for the
environment of `responseForQuery` in `C01EndToEnd`).
-/

namespace GqlVerif
namespace C01
namespace E2E
open Serde Spec C13 C03 Codegen

/-! ## the loose specification (C03 side) -/

mutual
  /-- the value under a selected field's key -/
  def looseField (s : Schema) : Sel → Json → Bool
    | .field _ fid sub, v =>
      match s.fields[fid]? with
      | none => false
      | some sf =>
        match sf.ty.id with
        | .scalar k => (match s.scalars[k]? with
          | some n => accepts (scalarOk n) (gtyOf sf.ty.quals) v
          | none => false)
        | .enum k => (match s.enums[k]? with
          | some _ => accepts stringOk (gtyOf sf.ty.quals) v
          | none => false)
        | .object i => (match s.objects[i]? with
          | some _ => accepts (fun j => match j with
              | .obj kvs' => looseSels s sub kvs'
              | .arr xs => looseArr s sub xs
              | _ => false) (gtyOf sf.ty.quals) v
          | none => false)
        | _ => false
    | _, _ => true
  /-- an object: every selected field's key at most once; present with a conforming value, or absent
      at a nullable position; anything else (unknown keys, `__typename`) is unconstrained -/
  def looseSels (s : Schema) : List Sel → List (String × Json) → Bool
    | [], _ => true
    | .field a fid sub :: xs, kvs =>
      (match s.fields[fid]? with
       | none => false
       | some sf =>
         decide (countKey (a.getD sf.name) kvs ≤ 1) &&
         (match Json.lookup (a.getD sf.name) kvs with
          | none => nullableQ sf.ty.quals
          | some v => looseField s (.field a fid sub) v)) && looseSels s xs kvs
    | _ :: xs, kvs => looseSels s xs kvs
  /-- serde reads a struct from a JSON array positionally (`visit_seq`): one element per selected field,
      in selection order, surplus elements ignored -/
  def looseArr (s : Schema) : List Sel → List Json → Bool
    | [], _ => true
    | .field a fid sub :: xs, vs =>
      (match vs with
       | [] => false
       | v :: vs' => looseField s (.field a fid sub) v && looseArr s xs vs')
    | _ :: xs, vs => looseArr s xs vs
end

/-- what the generated `ResponseData` accepts -/
def conformsSelLoose (s : Schema) (sels : List Sel) : Json → Bool
  | .obj kvs => looseSels s sels kvs
  | .arr xs => looseArr s sels xs
  | _ => false


/-! ## what the theorems need of the environment -/

/-- how the scalar named `sn` is defined in `e`: the built-in aliases, or (custom scalar) an alias to an
    extern path that the consumer defines as `String` -/
def ScalarEnv (e : Env) (sn : String) : Prop :=
  if sn = "Int" then e.find "Int" = some (.alias "Int" false (.path "i64"))
  else if sn = "Float" then e.find "Float" = some (.alias "Float" false (.path "f64"))
  else if sn = "Boolean" then e.find "Boolean" = some (.alias "Boolean" false (.path "bool"))
  else if sn = "ID" then True
  else if sn = "String" then True
  else ∃ X, notPrim sn ∧ notPrim X ∧ e.find sn = some (.alias sn false (.path X)) ∧ e.find X = none ∧
    ∃ k, e.externs.find? (·.1 == X) = some (k, .path "String")

/-- the enum named `n` is a generated string enum with well-formed tables -/
def EnumEnv (e : Env) (n : String) : Prop :=
  notPrim n ∧ n ≠ "ID" ∧ ∃ n' d sp vs ser de, e.find n = some (.gqlEnum n' d sp vs ser de) ∧
    EnumSpec.tablesWf vs ser de = true

/-- the struct emitted for a selection set is what `name` resolves to; not named `ID`, because `fieldOf` attaches
    the ID helper by the *name* at the leaf of a field's type -/
def StructEnv (e : Env) (name : String) (fields : List RField) : Prop :=
  notPrim name ∧ name ≠ "ID" ∧ ∃ n d cr, e.find name = some (.struct n d cr fields)

mutual
  def envSel (e : Env) (c : Ctx) (pfx : String) : Sel → Prop
    | .field a fid sub =>
      match c.s.fields[fid]? with
      | none => True
      | some sf =>
        match sf.ty.id with
        | .scalar k => (match c.s.scalars[k]? with | some sn => ScalarEnv e sn | none => True)
        | .enum k => (match c.s.enums[k]? with | some en => EnumEnv e en.name | none => True)
        | .object _ =>
          StructEnv e (pfx ++ c.cs.camel (a.getD sf.name)) (fieldsOf c (pfx ++ c.cs.camel (a.getD sf.name)) sub) ∧
          envSels e c (pfx ++ c.cs.camel (a.getD sf.name)) sub
        | _ => True
    | _ => True
  def envSels (e : Env) (c : Ctx) (pfx : String) : List Sel → Prop
    | [] => True
    | x :: xs => envSel e c pfx x ∧ envSels e c pfx xs
end

/-! ## facts about the emitted field -/

theorem fieldOf_wire (c : Ctx) (g ft : String) (quals : List Qual) (dep : Option (Option String)) :
    (fieldOf c g ft quals dep).wire = g := by
  simp only [RField.wire, fieldOf, fieldRename]
  by_cases h : g = keywordReplace (c.cs.snake g)
  · simp [← h]
  · simp [h]

theorem isOption_rustOfNN (ft : String) : ∀ t : GTy, isOption (rustOfNN (.path ft) t) = false
  | .named _ => by simp [rustOfNN, isOption]
  | .list _ => by simp [rustOfNN, isOption]
  | .nonNull t => by rw [rustOfNN]; exact isOption_rustOfNN ft t

theorem isOption_rustOf (ft : String) : ∀ quals, isOption (rustOf (.path ft) (gtyOf quals)) = nullableQ quals
  | [] => by simp [gtyOf, rustOf, isOption, nullableQ]
  | .list :: qs => by simp [gtyOf, rustOf, isOption, nullableQ]
  | .required :: qs => by
    simp only [gtyOf, rustOf, nullableQ]
    exact isOption_rustOfNN ft _

theorem skipQ_nullable {quals : List Qual} (h : skipQ quals = true) : nullableQ quals = true := by
  cases quals <;> simp_all [skipQ, nullableQ]

theorem deField_id (path : String → Json → D Val) (c : Ctx) (g : String) (quals : List Qual)
    (dep : Option (Option String)) (j : Json) :
    deFieldWith path (fieldOf c g "ID" quals dep) j =
      deHelper (C16.idHelperFor (gtyOf quals)) (rustOf (.path "ID") (gtyOf quals)) j := by
  simp [deFieldWith, fieldOf]

theorem deField_plain (path : String → Json → D Val) (c : Ctx) (g ft : String) (hft : ft ≠ "ID") (quals : List Qual)
    (dep : Option (Option String)) (j : Json) :
    deFieldWith path (fieldOf c g ft quals dep) j = deTyWith path (rustOf (.path ft) (gtyOf quals)) j := by
  simp [deFieldWith, fieldOf, hft]

theorem missing_fieldOf (c : Ctx) (g ft : String) (quals : List Qual) (dep : Option (Option String)) :
    okB (missingField (fieldOf c g ft quals dep)) = nullableQ quals := by
  unfold missingField
  by_cases hid : ft = "ID"
  · cases hq : nullableQ quals <;> simp [fieldOf, hid, hq, okB, bad, pure, Except.pure]
  · have : isOption (fieldOf c g ft quals dep).ty = nullableQ quals := isOption_rustOf _ _
    cases hq : nullableQ quals <;> simp [hq] at this <;> simp [fieldOf, hid, hq, okB, bad, pure, Except.pure] <;>
      simp [fieldOf] at this <;> simp [this]

/-- the own-field loop, exact acceptance (duplicates of keys that are no field's are harmless) -/
theorem okB_deOwn' (path : String → Json → D Val) (kvs : List (String × Json)) :
    ∀ (fields : List RField), plain fields = true →
      okB (deOwnWith path fields kvs) =
        fields.all (fun f => decide (countKey f.wire kvs ≤ 1) && okB (readField path f kvs))
  | [], _ => rfl
  | f :: fs, hp => by
    obtain ⟨hf, hp'⟩ := plain_cons hp
    have ih := okB_deOwn' path kvs fs hp'
    rw [List.all_cons, ← ih]
    by_cases hc : countKey f.wire kvs ≤ 1
    · rw [deOwn_cons path f fs kvs hf hc]
      cases deOwnWith path fs kvs <;> cases readField path f kvs <;>
        simp [okB, bind, Except.bind, pure, Except.pure, hc]
    · have hc' : countKey f.wire kvs > 1 := by omega
      simp only [deOwnWith, hf, Bool.false_eq_true, ↓reduceIte, hc']
      cases deOwnWith path fs kvs <;> simp [okB, bind, Except.bind, bad, hc]


theorem okB_dePath_plain (e : Env) (b : Bool) (fd : Nat) (name n : String) (d : List String) (cr : Option String)
    (fields : List RField) (hp : notPrim name) (hfind : e.find name = some (.struct n d cr fields))
    (hpl : plain fields = true) (j : Json) :
    okB (dePath e b (fd + 1) name j) =
      (match j with
       | .obj kvs => fields.all (fun f => decide (countKey f.wire kvs ≤ 1) && okB (readField (dePath e b fd) f kvs))
       | .arr xs => decide (fields.length ≤ xs.length) &&
           (fields.zip xs).all (fun p => okB (deFieldWith (dePath e b fd) p.1 p.2))
       | _ => false) := by
  rw [dePath_struct e b fd name n d cr _ hp hfind]
  cases j with
  | obj kvs => rw [deStruct_obj, deStructMap_plain _ _ _ _ hpl, okB_map, okB_deOwn' _ _ _ hpl]
  | arr xs =>
    simp only [deStructWith, any_flatten_of_plain hpl, Bool.false_eq_true, ↓reduceIte]
    by_cases hlen : xs.length < fields.length
    · have : ¬ (fields.length ≤ xs.length) := by omega
      simp [hlen, this, okB, bad]
    · have : fields.length ≤ xs.length := by omega
      simp only [hlen, ↓reduceIte, okB_map, okB_mapM, this, decide_true, Bool.true_and]
      congr 1; funext p
      cases deFieldWith (dePath e b fd) p.1 p.2 <;> rfl
  | null => rfl
  | bool _ => rfl
  | int _ => rfl
  | num _ => rfl
  | str _ => rfl

theorem okB_dePath_flat_nonobj (e : Env) (b : Bool) (fd : Nat) (name n : String) (d : List String) (cr : Option String)
    (fields : List RField) (hp : notPrim name) (hfind : e.find name = some (.struct n d cr fields))
    (hany : fields.any (·.flatten) = true) (j : Json) (hj : ∀ kvs, j ≠ .obj kvs) :
    okB (dePath e b (fd + 1) name j) = false := by
  rw [dePath_struct e b fd name n d cr _ hp hfind]
  cases j with
  | obj kvs => exact absurd rfl (hj kvs)
  | arr xs => simp only [deStructWith, hany, ↓reduceIte]; rfl
  | null => rfl
  | bool _ => rfl
  | int _ => rfl
  | num _ => rfl
  | str _ => rfl

/-! ## leaves -/

/-- fuel counts hops to named types: a custom scalar costs two (its alias, then the extern), `Int` / `Float` /
    `Boolean` one (the built-in alias), `String` and enums none; hence the `+ 3` / `+ 2` / `+ 1` below -/
theorem dePath_custom (e : Env) (b : Bool) (fd : Nat) (sn X k : String) (hp : notPrim sn) (hX : notPrim X)
    (h1 : e.find sn = some (.alias sn false (.path X))) (h2 : e.find X = none)
    (h3 : e.externs.find? (·.1 == X) = some (k, .path "String")) (j : Json) :
    dePath e b (fd + 3) sn j = dePath e b (fd + 1) "String" j := by
  rw [dePath]; simp only [dePrim_none hp, h1, deTyWith]
  rw [dePath]; simp only [dePrim_none hX, h2, h3, deTyWith]

theorem scalarOk_other {sn : String} (h1 : sn ≠ "Int") (h2 : sn ≠ "Float") (h3 : sn ≠ "Boolean") (h4 : sn ≠ "ID") :
    scalarOk sn = stringOk := by
  simp [scalarOk, h1, h2, h3, h4]

theorem leaf_scalar (e : Env) (sn : String) (he : ScalarEnv e sn) (hid : sn ≠ "ID") (b : Bool) (fd : Nat) (j : Json) :
    okB (dePath e b (fd + 3) sn j) = scalarOk sn j := by
  unfold ScalarEnv at he
  by_cases h1 : sn = "Int"
  · subst h1; simp only [↓reduceIte] at he
    rw [leaf_int e b (fd + 1) he]; simp [scalarOk]
  by_cases h2 : sn = "Float"
  · subst h2; simp only [h1, ↓reduceIte] at he
    rw [leaf_float e b (fd + 1) he]; simp [scalarOk]
  by_cases h3 : sn = "Boolean"
  · subst h3; simp only [h1, h2, ↓reduceIte] at he
    rw [leaf_boolean e b (fd + 1) he]; simp [scalarOk]
  by_cases h5 : sn = "String"
  · subst h5
    rw [leaf_string e b (fd + 2)]; simp [scalarOk]
  simp only [h1, h2, h3, hid, h5, ↓reduceIte] at he
  obtain ⟨X, hp, hX, hf1, hf2, k, hf3⟩ := he
  rw [dePath_custom e b fd sn X k hp hX hf1 hf2 hf3, leaf_string e b fd, scalarOk_other h1 h2 h3 hid]

theorem leaf_scalar_rt (e : Env) (sn : String) (he : ScalarEnv e sn) (hid : sn ≠ "ID") (b : Bool) (fd fs : Nat)
    (j : Json) (v : Val) (h : dePath e b (fd + 3) sn j = .ok v) : serPath e (fs + 1) sn v = .ok j := by
  unfold ScalarEnv at he
  by_cases h1 : sn = "Int"
  · subst h1; simp only [↓reduceIte] at he
    exact leaf_int_rt e b (fd + 1) fs he j v h
  by_cases h2 : sn = "Float"
  · subst h2; simp only [h1, ↓reduceIte] at he
    exact leaf_float_rt e b (fd + 1) fs he j v h
  by_cases h3 : sn = "Boolean"
  · subst h3; simp only [h1, h2, ↓reduceIte] at he
    exact leaf_boolean_rt e b (fd + 1) fs he j v h
  by_cases h5 : sn = "String"
  · subst h5
    exact leaf_string_rt e b (fd + 2) fs j v h
  simp only [h1, h2, h3, hid, h5, ↓reduceIte] at he
  obtain ⟨X, hp, hX, hf1, hf2, k, hf3⟩ := he
  rw [dePath_custom e b fd sn X k hp hX hf1 hf2 hf3] at h
  rw [dePath] at h
  cases j <;> simp [dePrim, bad, pure, Except.pure] at h
  subst h
  exact serPath_prim e fs _ _ _ rfl


/-! ## acceptance, exactly -/

theorem fieldOfSel_some {c : Ctx} {pfx : String} {x : Sel} {f : RField} (h : fieldOfSel c pfx x = some f) :
    ∃ g ft quals dep, f = fieldOf c g ft quals dep := by
  cases x with
  | field a fid sub =>
    simp only [fieldOfSel] at h
    split at h
    · cases h
    · split at h
      · cases h
      · exact ⟨_, _, _, _, (Option.some.inj h).symm⟩
  | spread g => cases h
  | inline t sub => cases h
  | typename => cases h

theorem plain_fieldsOf (c : Ctx) (pfx : String) : ∀ sels, plain (fieldsOf c pfx sels) = true := fun sels =>
  List.all_eq_true.mpr fun f hf => by
    obtain ⟨x, _, hx⟩ := List.mem_filterMap.mp hf
    obtain ⟨_, _, _, _, rfl⟩ := fieldOfSel_some hx
    rfl

section Acc
variable (e : Env) (c : Ctx)

def AccSel (pfx : String) (x : Sel) : Prop :=
  treeSel c.s c.o x = true → envSel e c pfx x → ∀ f, fieldOfSel c pfx x = some f →
    ∀ b fd, selDepth x + 2 ≤ fd → ∀ v, okB (deFieldWith (dePath e b fd) f v) = looseField c.s x v

/-- both ways serde reads a struct: by key from an object, positionally (`zip`) from an array.  The second half is
    carried through the induction because a nested struct may be given as an array at any depth. -/
def AccSels (pfx : String) (sels : List Sel) : Prop :=
  treeSels c.s c.o sels = true → envSels e c pfx sels → ∀ b fd, selsDepth sels + 2 ≤ fd →
    (∀ kvs, (fieldsOf c pfx sels).all (fun f => decide (countKey f.wire kvs ≤ 1) &&
        okB (readField (dePath e b fd) f kvs)) = looseSels c.s sels kvs) ∧
    (∀ xs, (decide ((fieldsOf c pfx sels).length ≤ xs.length) &&
        ((fieldsOf c pfx sels).zip xs).all (fun p => okB (deFieldWith (dePath e b fd) p.1 p.2))) =
          looseArr c.s sels xs)

theorem accStruct (pfx name : String) (sels : List Sel) (H : AccSels e c pfx sels)
    (ht : treeSels c.s c.o sels = true) (henv : envSels e c pfx sels)
    (hs : StructEnv e name (fieldsOf c pfx sels)) (b : Bool) (fd : Nat) (hfd : selsDepth sels + 3 ≤ fd) (j : Json) :
    okB (dePath e b fd name j) = conformsSelLoose c.s sels j := by
  obtain ⟨hp, _, n, d, cr, hfind⟩ := hs
  obtain ⟨fd', rfl⟩ : ∃ k, fd = k + 1 := ⟨fd - 1, by omega⟩
  obtain ⟨H1, H2⟩ := H ht henv b fd' (by omega)
  rw [okB_dePath_plain e b fd' name n d cr _ hp hfind (plain_fieldsOf c pfx sels)]
  cases j <;> simp [H1, H2, conformsSelLoose]


theorem fieldOfSel_tree (c : Ctx) (pfx : String) (a : Option String) (fid : Nat) (sub : List Sel)
    (ht : treeSel c.s c.o (.field a fid sub) = true) :
    ∃ sf ft, c.s.fields[fid]? = some sf ∧ leafName c pfx (a.getD sf.name) sf.ty.id = some ft ∧
      fieldOfSel c pfx (.field a fid sub) = some (fieldOf c (a.getD sf.name) ft sf.ty.quals sf.deprecation) ∧
      wfQuals sf.ty.quals = true := by
  obtain ⟨sf, hsf, hw, _, hk⟩ := treeSel_kinds ht
  rcases hk with ⟨k, n, hid, hk, _⟩ | ⟨k, en, hid, hk, _⟩ | ⟨i, ob, hid, _⟩
  · exact ⟨sf, n, hsf, by simp [leafName, hid, hk], by simp [fieldOfSel, hsf, leafName, hid, hk], hw⟩
  · exact ⟨sf, en.name, hsf, by simp [leafName, hid, hk], by simp [fieldOfSel, hsf, leafName, hid, hk], hw⟩
  · exact ⟨sf, pfx ++ c.cs.camel (a.getD sf.name), hsf, by simp [leafName, hid],
      by simp [fieldOfSel, hsf, leafName, hid], hw⟩

/-- `looseField` is mutual with `looseSels` / `looseArr` and so has to spell `conformsSelLoose` out as a lambda; this
    folds it back (likewise `strictLambda`, `canonLambda` and their twins in the later classes) -/
theorem looseLambda (s : Schema) (sub : List Sel) :
    (fun j => match j with
      | Json.obj kvs' => looseSels s sub kvs'
      | Json.arr xs => looseArr s sub xs
      | _ => false) = conformsSelLoose s sub := by
  funext j; cases j <;> rfl


mutual
  theorem accSel : ∀ (x : Sel) (pfx : String), AccSel e c pfx x
    | .field a fid sub, pfx => by
      intro ht henv f hf b fd hfd v
      have IH := accSels sub
      rw [selDepth] at hfd
      obtain ⟨fd', rfl⟩ : ∃ k, fd = k + 3 := ⟨fd - 3, by omega⟩
      obtain ⟨sf, hsf, hw, _, hk⟩ := treeSel_kinds ht
      have hwf : wf (gtyOf sf.ty.quals) = true := by rw [wf_gtyOf]; exact hw
      rw [envSel] at henv
      rw [looseField]
      rcases hk with ⟨k, sn, hid, hk, _⟩ | ⟨k, en, hid, hk, _⟩ | ⟨i, o, hid, hk, hsub, _⟩
      · simp only [hsf, hid, hk] at henv ⊢
        simp only [fieldOfSel, hsf, leafName, hid, hk, Option.some.injEq] at hf
        subst hf
        by_cases hID : sn = "ID"
        · subst hID
          rw [deField_id, C16.id_field_iff _ hwf]
          simp [scalarOk]
        · rw [deField_plain _ _ _ _ hID]
          exact (ok_iff_accepts _ sn (scalarOk sn) (leaf_scalar e sn henv hID b fd') _ hwf).2 v
      · simp only [hsf, hid, hk] at henv ⊢
        simp only [fieldOfSel, hsf, leafName, hid, hk, Option.some.injEq, Option.map_some] at hf
        subst hf
        obtain ⟨hp, hID, n', d, sp, vs, ser, de, hfind, _⟩ := henv
        rw [deField_plain _ _ _ _ hID]
        exact (ok_iff_accepts _ en.name stringOk
          (leaf_enum e b (fd' + 2) en.name n' d sp vs ser de hp hfind) _ hwf).2 v
      · simp only [hsf, hid, hk] at henv ⊢
        simp only [fieldOfSel, hsf, leafName, hid, Option.some.injEq] at hf
        subst hf
        obtain ⟨hs, hesub⟩ := henv
        rw [deField_plain _ _ _ _ hs.2.1, looseLambda]
        exact (ok_iff_accepts _ _ (conformsSelLoose c.s sub)
          (accStruct e c _ _ sub (IH _) hsub hesub hs b (fd' + 3) (by omega)) _ hwf).2 v
    | .spread g, pfx => by intro ht; simp [treeSel] at ht
    | .inline t sub, pfx => by intro ht; simp [treeSel] at ht
    | .typename, pfx => by intro _ _ f hf; cases hf
  theorem accSels : ∀ (sels : List Sel) (pfx : String), AccSels e c pfx sels
    | [], pfx => by
      intro _ _ b fd _
      exact ⟨fun kvs => by simp [fieldsOf, looseSels], fun xs => by simp [fieldsOf, looseArr]⟩
    | x :: xs, pfx => by
      intro ht henv b fd hfd
      obtain ⟨hx, hxs⟩ := treeSels_cons ht
      rw [envSels] at henv
      rw [selsDepth] at hfd
      obtain ⟨I1, I2⟩ := accSels xs pfx hxs henv.2 b fd (by omega)
      have IX := accSel x pfx hx henv.1
      cases x with
      | field a fid sub =>
        obtain ⟨sf, ft, hsf, _, hf, hw⟩ := fieldOfSel_tree c pfx a fid sub hx
        have IXf := IX _ hf b fd (by omega)
        have hfs : fieldsOf c pfx (.field a fid sub :: xs) =
            fieldOf c (a.getD sf.name) ft sf.ty.quals sf.deprecation :: fieldsOf c pfx xs := by
          simp [fieldsOf, hf]
        refine ⟨fun kvs => ?_, fun vs => ?_⟩
        · rw [hfs, List.all_cons, I1 kvs, looseSels]
          simp only [hsf, fieldOf_wire, readField]
          cases hl : Json.lookup (a.getD sf.name) kvs with
          | none => simp only [missing_fieldOf]
          | some v => simp only [IXf v]
        · rw [hfs]
          cases vs with
          | nil => rw [looseArr]; simp
          | cons v vs' =>
            rw [looseArr]
            simp only [List.length_cons, List.zip_cons_cons, List.all_cons, IXf v, ← I2 vs',
              Nat.add_le_add_iff_right]
            cases looseField c.s (.field a fid sub) v <;> simp
      | spread g => simp [treeSel] at hx
      | inline t sub => simp [treeSel] at hx
      | typename =>
        have hfs : fieldsOf c pfx (.typename :: xs) = fieldsOf c pfx xs := by
          have h1 : fieldOfSel c pfx .typename = none := rfl
          simp [fieldsOf, h1]
        refine ⟨fun kvs => ?_, fun vs => ?_⟩
        · rw [hfs, I1 kvs]; simp [looseSels]
        · rw [hfs, I2 vs]; simp [looseArr]
end

end Acc


theorem struct_accepts_iff (e : Env) (c : Ctx) (pfx name : String) (sels : List Sel)
    (ht : treeSels c.s c.o sels = true) (henv : envSels e c pfx sels)
    (hs : StructEnv e name (fieldsOf c pfx sels)) (b : Bool) (fd : Nat) (hfd : selsDepth sels + 3 ≤ fd) (j : Json) :
    okB (dePath e b fd name j) = conformsSelLoose c.s sels j :=
  accStruct e c pfx name sels (accSels e c sels pfx) ht henv hs b fd hfd j

/-! ## strict ⇒ loose -/

/-- the value under a selected field's key, strict reading (the `accepts …` expression of `confSel`) -/
def strictField (s : Schema) : Sel → Json → Bool
  | .field _ fid sub, v =>
    match s.fields[fid]? with
    | none => false
    | some sf =>
      match sf.ty.id with
      | .scalar k => (match s.scalars[k]? with
        | some n => accepts (scalarOk n) (gtyOf sf.ty.quals) v
        | none => false)
      | .enum k => (match s.enums[k]? with
        | some _ => accepts stringOk (gtyOf sf.ty.quals) v
        | none => false)
      | .object i => (match s.objects[i]? with
        | some o => accepts (conformsSel s o.name sub) (gtyOf sf.ty.quals) v
        | none => false)
      | _ => false
  | _, _ => false

theorem strictLambda (s : Schema) (tn : String) (sub : List Sel) :
    (fun j => match j with
      | Json.obj kvs' => EnumSpec.nodup (kvs'.map (·.1)) && kvs'.all (fun kv => (respKeys s sub).contains kv.1) &&
          confSels s tn sub kvs'
      | _ => false) = conformsSel s tn sub := by
  funext j; cases j <;> rfl

theorem confSel_field (s : Schema) (tn : String) (a : Option String) (fid : Nat) (sub : List Sel)
    (kvs : List (String × Json)) :
    confSel s tn (.field a fid sub) kvs =
      (match s.fields[fid]? with
       | none => false
       | some sf =>
         match Json.lookup (a.getD sf.name) kvs with
         | none => false
         | some v => strictField s (.field a fid sub) v) := by
  rw [confSel]
  cases hsf : s.fields[fid]? with
  | none => rfl
  | some sf =>
    simp only []
    cases Json.lookup (a.getD sf.name) kvs with
    | none => rfl
    | some v =>
      simp only [strictField, hsf]
      cases hid : sf.ty.id <;> simp only [] <;> rfl

theorem confSels_mem {s : Schema} {tn : String} {kvs : List (String × Json)} :
    ∀ {sels : List Sel}, confSels s tn sels kvs = true → ∀ x ∈ sels, confSel s tn x kvs = true :=
  fun {sels} h => List.all_eq_true.mp
    (all_of_eqns (ps := fun l => confSels s tn l kvs) (p := fun x => confSel s tn x kvs) rfl (fun _ _ => rfl) sels ▸ h)


mutual
  theorem strict_loose_field (s : Schema) : ∀ (x : Sel) (v : Json), strictField s x v = true → looseField s x v = true
    | .field a fid sub, v => by
      intro h
      have IH := strict_loose_sels s sub
      simp only [strictField] at h
      rw [looseField]
      cases hsf : s.fields[fid]? with
      | none => simp [hsf] at h
      | some sf =>
        simp only [hsf] at h ⊢
        cases hid : sf.ty.id <;> simp only [hid] at h ⊢ <;> try exact h
        rename_i i
        cases ho : s.objects[i]? with
        | none => simp [ho] at h
        | some o =>
          simp only [ho] at h ⊢
          rw [looseLambda]
          refine (accepts_mono _ _ ?_ _).2 v h
          intro j hj
          cases j with
          | obj kvs =>
            simp only [conformsSel, Bool.and_eq_true] at hj
            exact IH o.name kvs (countKey_le_one_of_nodup (nodup_iff'.mp hj.1.1)) hj.2
          | null => simp [conformsSel] at hj
          | bool _ => simp [conformsSel] at hj
          | int _ => simp [conformsSel] at hj
          | num _ => simp [conformsSel] at hj
          | str _ => simp [conformsSel] at hj
          | arr _ => simp [conformsSel] at hj
    | .spread _, _ => by intro h; simp [strictField] at h
    | .inline _ _, _ => by intro h; simp [strictField] at h
    | .typename, _ => by intro h; simp [strictField] at h
  theorem strict_loose_sels (s : Schema) : ∀ (sels : List Sel) (tn : String) (kvs : List (String × Json)),
      (∀ k, countKey k kvs ≤ 1) → confSels s tn sels kvs = true → looseSels s sels kvs = true
    | [], _, _, _, _ => by simp [looseSels]
    | x :: xs, tn, kvs, hc, h => by
      rw [confSels, Bool.and_eq_true] at h
      have ih := strict_loose_sels s xs tn kvs hc h.2
      cases x with
      | field a fid sub =>
        have hx := h.1
        rw [confSel_field] at hx
        rw [looseSels, ih, Bool.and_true]
        cases hsf : s.fields[fid]? with
        | none => simp [hsf] at hx
        | some sf =>
          simp only [hsf] at hx ⊢
          cases hl : Json.lookup (a.getD sf.name) kvs with
          | none => simp [hl] at hx
          | some v =>
            simp only [hl] at hx ⊢
            simp [hc, strict_loose_field s _ v hx]
      | spread g => simpa [looseSels] using ih
      | inline t sub => simpa [looseSels] using ih
      | typename => simpa [looseSels] using ih
end

theorem conforms_loose (s : Schema) (tn : String) (sels : List Sel) (j : Json)
    (h : conformsSel s tn sels j = true) : conformsSelLoose s sels j = true := by
  cases j with
  | obj kvs =>
    simp only [conformsSel, Bool.and_eq_true] at h
    exact strict_loose_sels s sels tn kvs (countKey_le_one_of_nodup (nodup_iff'.mp h.1.1)) h.2
  | null => simp [conformsSel] at h
  | bool _ => simp [conformsSel] at h
  | int _ => simp [conformsSel] at h
  | num _ => simp [conformsSel] at h
  | str _ => simp [conformsSel] at h
  | arr _ => simp [conformsSel] at h

end E2E
end C01
end GqlVerif
