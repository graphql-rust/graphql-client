/-!
# Look-up of a word in a table of spellings

The option parsers of the model are `if` chains over fixed words; the tables regenerated from the Rust source are lists of
(spelling, variant name).  `find?_bind_cons` peels one arm off such a table.
-/
namespace GqlVerif

theorem find?_bind_cons {α : Type} (w ks : List Char) (k v : String) (tbl : List (String × String))
    (f : String → Option α) (hk : k.toList = ks) :
    (((k, v) :: tbl).find? (fun p => p.1.toList == w)).bind (fun p => f p.2) =
      if w = ks then f v else (tbl.find? (fun p => p.1.toList == w)).bind (fun p => f p.2) := by
  subst hk
  by_cases h : w = k.toList
  · subst h
    simp
  · have : (k.toList == w) = false := by rw [beq_eq_false_iff_ne]; exact fun e => h e.symm
    simp [List.find?, this, h]

end GqlVerif
