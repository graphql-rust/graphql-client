import GqlVerif.Proofs.C01MixedA
/-!
# C01 / C03 end to end (`MixedOp`): what the emitted types accept, exactly

`conformsLooseM s q o b sels j` is the exact acceptance predicate of the type emitted for an object-level selection set of the
class: as `conformsLooseF` (own fields `looseOwnM`, one flattened member per spread `looseMemF`, a lone spread is the fragment
struct itself); a field of scalar / enum / interface / union type accepts what `looseFieldS` says (`VariantSpreadOp`: spreads
at the abstract position, parts (a), (b), (c)).  `envSelM` is what the theorems need of the environment.

Decidable side condition `keysOkM`: **keys disjoint between a fragment and its siblings** in every object-level selection set
(as `keysOkF`; the conditions at abstract positions are part of the class, `absOkS`).

`bodyM_accepts_iff`: acceptance is exactly `conformsLooseM`, by induction over the selection tree; object positions by
`accStructM` (a struct with flattened members, `deStructMap_flat`), all other fields by `accSelS` of `C01VariantSpreadB`.
The specification is `conformsV` on `expandSels c.q sels`, as for both classes; `conformsM_loose`: conforming ⇒ accepted.
-/

namespace GqlVerif
namespace C01M
open Serde Spec C13 C03 Codegen C01 C01.E2E

mutual
  def looseFieldM (s : Schema) (q : Query) (o : Options) (b : Bool) : Sel → Json → Bool
    | .field a fid sub, v =>
      match s.fields[fid]? with
      | none => false
      | some sf =>
        match sf.ty.id with
        | .object i => (match s.objects[i]? with
          | some _ => accepts (fun j =>
              match sub with
              | [.spread g] => conformsLooseV s o b (fragSels q g) j      -- type alias of the fragment struct
              | _ => match j with
                | .obj kvs' => looseOwnM s q o b sub kvs' && looseMemF s q o sub kvs'
                | .arr xs => !sub.any isSpread && looseArrM s q o b sub xs
                | _ => false) (gtyOf sf.ty.quals) v
          | none => false)
        | _ => looseFieldS s q o b (.field a fid sub) v
    | _, _ => true
  /-- the own fields of the struct (spreads contribute no own field) -/
  def looseOwnM (s : Schema) (q : Query) (o : Options) (b : Bool) : List Sel → List (String × Json) → Bool
    | [], _ => true
    | .field a fid sub :: xs, kvs =>
      (match s.fields[fid]? with
       | none => false
       | some sf =>
         decide (countKey (a.getD sf.name) kvs ≤ 1) &&
         (match Json.lookup (a.getD sf.name) kvs with
          | none => nullableQ sf.ty.quals
          | some v => looseFieldM s q o b (.field a fid sub) v)) && looseOwnM s q o b xs kvs
    | _ :: xs, kvs => looseOwnM s q o b xs kvs
  def looseArrM (s : Schema) (q : Query) (o : Options) (b : Bool) : List Sel → List Json → Bool
    | [], _ => true
    | .field a fid sub :: xs, vs =>
      (match vs with
       | [] => false
       | v :: vs' => looseFieldM s q o b (.field a fid sub) v && looseArrM s q o b xs vs')
    | _ :: xs, vs => looseArrM s q o b xs vs
end

/-- what the type emitted for an object-level selection set of `MixedOp` accepts -/
def conformsLooseM (s : Schema) (q : Query) (o : Options) (b : Bool) (sels : List Sel) (j : Json) : Bool :=
  match sels with
  | [.spread g] => conformsLooseV s o b (fragSels q g) j
  | _ => match j with
    | .obj kvs' => looseOwnM s q o b sels kvs' && looseMemF s q o sels kvs'
    | .arr xs => !sels.any isSpread && looseArrM s q o b sels xs
    | _ => false

theorem looseLambdaM (s : Schema) (q : Query) (o : Options) (b : Bool) (sub : List Sel) :
    (fun j =>
      match sub with
      | [.spread g] => conformsLooseV s o b (fragSels q g) j
      | _ => match j with
        | .obj kvs' => looseOwnM s q o b sub kvs' && looseMemF s q o sub kvs'
        | .arr xs => !sub.any isSpread && looseArrM s q o b sub xs
        | _ => false) = conformsLooseM s q o b sub := by
  funext j; unfold conformsLooseM; rfl

mutual
  def envSelM (e : Env) (c : Ctx) (pfx : String) : Sel → Prop
    | .field a fid sub =>
      match c.s.fields[fid]? with
      | none => True
      | some sf =>
        match sf.ty.id with
        | .object _ =>
          (match sub with
           | [.spread g] => AliasEnv e (pfx ++ c.cs.camel (a.getD sf.name)) (fragName c g) ∧ FragEnv e c g
           | _ => StructEnv e (pfx ++ c.cs.camel (a.getD sf.name)) (fieldsOfF c (pfx ++ c.cs.camel (a.getD sf.name)) sub) ∧
                  envSelsM e c (pfx ++ c.cs.camel (a.getD sf.name)) sub)
        | _ => envSelS e c pfx (.field a fid sub)
    | .spread g => FragEnv e c g
    | _ => True
  def envSelsM (e : Env) (c : Ctx) (pfx : String) : List Sel → Prop
    | [] => True
    | x :: xs => envSelM e c pfx x ∧ envSelsM e c pfx xs
end

mutual
  /-- **keys disjoint between a fragment and its siblings** (and between fragments), in every object-level selection set -/
  def keysOkM (s : Schema) (q : Query) : Sel → Bool
    | .field _ fid sub =>
      (match (s.fields[fid]?).map (fun sf => sf.ty.id) with
       | some (TypeId.object _) => EnumSpec.nodup (expKeys s q sub) && keysOksM s q sub
       | _ => true)
    | _ => true
  def keysOksM (s : Schema) (q : Query) : List Sel → Bool
    | [] => true
    | x :: xs => keysOkM s q x && keysOksM s q xs
end

theorem fieldOfSelV_m (c : Ctx) (pfx : String) (p : TypeId) (a : Option String) (fid : Nat) (sub : List Sel)
    (ht : mSel c.s c.q c.o p (.field a fid sub) = true) :
    ∃ sf ft, c.s.fields[fid]? = some sf ∧ leafNameV c pfx (a.getD sf.name) sf.ty.id = some ft ∧
      fieldOfSelV c pfx (.field a fid sub) = some (fieldOf c (a.getD sf.name) ft sf.ty.quals sf.deprecation) ∧
      wfQuals sf.ty.quals = true := by
  obtain ⟨sf, hsf, hk⟩ := mSel_kinds ht
  rcases hk with ⟨i, hid, hw, _, _, _⟩ | ⟨hno, hs⟩
  · exact ⟨sf, pfx ++ c.cs.camel (a.getD sf.name), hsf, by simp [leafNameV, hid], by simp [fieldOfSelV, hsf, leafNameV, hid], hw⟩
  · exact fieldOfSelV_s c pfx false a fid sub hs

theorem resolves_of_mSels {c : Ctx} {pfx : String} {p : TypeId} {sels : List Sel}
    (ht : mSels c.s c.q c.o p sels = true) : Resolves c pfx sels := by
  refine ⟨fun a fid sub hx => ?_, fun g hx => ?_⟩
  · obtain ⟨sf, ft, hsf, _, hf, hw⟩ := fieldOfSelV_m c pfx p a fid sub (mSels_mem ht _ hx)
    exact ⟨sf, ft, hsf, hf, hw⟩
  · have hok : fragOk c.s c.q c.o p g = true := by simpa [mSel] using mSels_mem ht _ hx
    obtain ⟨fr, hfr, _⟩ := fragOk_parts hok
    exact ⟨fr, hfr⟩

theorem own_fieldsOfM (c : Ctx) (pfx : String) (p : TypeId) : ∀ (sels : List Sel), mSels c.s c.q c.o p sels = true →
    (fieldsOfF c pfx sels).filter (fun f => !f.flatten) = fieldsOfV c pfx sels :=
  fun sels _ => filter_fieldsOfF c pfx sels

theorem envSelsM_mem {e : Env} {c : Ctx} {pfx : String} : ∀ {sels : List Sel}, envSelsM e c pfx sels →
    ∀ x ∈ sels, envSelM e c pfx x :=
  fun {sels} => (forall_mem_of_eqns (Ps := envSelsM e c pfx) (by rw [envSelsM]; trivial) (fun _ _ => by rw [envSelsM]) sels).mp

theorem envSelM_spread {e : Env} {c : Ctx} {pfx : String} {g : Nat} : envSelM e c pfx (.spread g) = FragEnv e c g := by
  rw [envSelM]

/-- the struct of a selection set reads exactly the keys of the expanded selection set, and its flattened members are
    plain struct items -/
theorem readKeys_fieldsOfM (e : Env) (c : Ctx) (pfx : String) (p : TypeId) (sels : List Sel)
    (ht : mSels c.s c.q c.o p sels = true) (henv : envSelsM e c pfx sels) :
    (fieldsOfF c pfx sels).flatMap (readKeys (memberKeys e)) = expKeys c.s c.q sels ∧
    ∀ g ∈ fieldsOfF c pfx sels, g.flatten = true → MemberOk e g := by
  have hm : ∀ g fr, Sel.spread g ∈ sels → c.q.fragments[g]? = some fr →
      memberKeys e (spreadField c fr) = fieldKeys c.s fr.sels ∧ MemberOk e (spreadField c fr) := by
    intro g fr hx hfr
    have hok : fragOk c.s c.q c.o p g = true := by simpa [mSel] using mSels_mem ht _ hx
    obtain ⟨fr', hfr', _, _, hv, _⟩ := fragOk_parts hok
    obtain rfl : fr' = fr := Option.some.inj (hfr'.symm.trans hfr)
    obtain ⟨hmf, hmok⟩ := memberFields_spread e c g fr' hfr (envSelM_spread ▸ envSelsM_mem henv _ hx)
    exact ⟨by unfold memberKeys; rw [hmf, wire_fieldsOfV c _ false fr'.sels hv], hmok⟩
  refine ⟨readKeys_fieldsOfF_of e c pfx sels (resolves_of_mSels ht) (fun g fr hx hfr => (hm g fr hx hfr).1), ?_⟩
  intro g hg hfl
  obtain ⟨gid, fr, hx, hfr, rfl⟩ := mem_fieldsOfF_flatten hg hfl
  exact (hm gid fr hx hfr).2

/-- from "the keys of the expanded selection set are pairwise distinct" to the hypotheses of `deStructMap_flat` -/
theorem flat_hypsM (e : Env) (c : Ctx) (pfx : String) (p : TypeId) : ∀ (sels : List Sel),
    mSels c.s c.q c.o p sels = true → envSelsM e c pfx sels → (expKeys c.s c.q sels).Nodup →
    (∀ g ∈ fieldsOfF c pfx sels, g.flatten = true → MemberOk e g ∧ ∀ k ∈ memberKeys e g, k ∈ expKeys c.s c.q sels) ∧
    (∀ f ∈ fieldsOfF c pfx sels, f.flatten = false → f.wire ∈ expKeys c.s c.q sels) ∧
    (∀ g ∈ fieldsOfF c pfx sels, g.flatten = true → ∀ k ∈ memberKeys e g,
      k ∉ ((fieldsOfF c pfx sels).filter (fun f => !f.flatten)).map (·.wire)) ∧
    (fieldsOfF c pfx sels).Pairwise (fun g g' => g.flatten = true → g'.flatten = true →
      ∀ k ∈ memberKeys e g', k ∉ memberKeys e g) :=
  fun sels ht henv hnd =>
    have ⟨hK, hok⟩ := readKeys_fieldsOfM e c pfx p sels ht henv
    flat_hyps_of_readKeys hK hok hnd


theorem conformsLooseM_not_lone {s : Schema} {q : Query} {o : Options} {b : Bool} {sels : List Sel}
    (h : ∀ g, sels ≠ [Sel.spread g]) (j : Json) :
    conformsLooseM s q o b sels j =
      (match j with
       | .obj kvs' => looseOwnM s q o b sels kvs' && looseMemF s q o sels kvs'
       | .arr xs => !sels.any isSpread && looseArrM s q o b sels xs
       | _ => false) := by
  unfold conformsLooseM
  split
  · rename_i g; exact absurd rfl (h g)
  · rfl

section AccM
variable (e : Env) (c : Ctx)

theorem accMemM (pfx : String) (p : TypeId) : ∀ (sels : List Sel), mSels c.s c.q c.o p sels = true →
    envSelsM e c pfx sels → ∀ fuel, 2 * depthsF c.q sels ≤ fuel → ∀ kvs,
    ((fieldsOfF c pfx sels).filter (·.flatten)).all
        (fun g => okB (deOwnWith (dePath e true fuel) (memberFields e g) kvs)) = looseMemF c.s c.q c.o sels kvs
  | [], _, _, _, _, _ => rfl
  | x :: xs, ht, henv, fuel, hfuel, kvs => by
    obtain ⟨hx, hxs⟩ := mSels_cons ht
    rw [envSelsM] at henv
    rw [depthsF] at hfuel
    have ih := accMemM pfx p xs hxs henv.2 fuel (by omega) kvs
    rw [fieldsOfF_cons, List.filter_append, List.all_append, ih]
    cases x with
    | field a fid sub =>
      obtain ⟨sf, ft, _, _, hf, _⟩ := fieldOfSelV_m c pfx p a fid sub hx
      rw [fieldOfSelF_field, hf]; simp [fieldOf, looseMemF]
    | spread g =>
      have hok : fragOk c.s c.q c.o p g = true := by simpa [mSel] using hx
      obtain ⟨fr, hfr, _, _, hv, _⟩ := fragOk_parts hok
      have hfe : FragEnv e c g := envSelM_spread ▸ henv.1
      obtain ⟨hmf, _⟩ := memberFields_spread e c g fr hfr hfe
      have henvV : envSelsV e c (c.cs.camel fr.name) fr.sels := by
        have := hfe; unfold FragEnv at this; rw [hfr] at this; exact this.2
      rw [depthF] at hfuel
      have hsels : fragSels c.q g = fr.sels := by simp [fragSels, hfr]
      rw [hsels] at hfuel
      have hacc := (accSelsV e c fr.sels (c.cs.camel fr.name) false hv henvV true fuel (by omega)).1 kvs
      rw [looseMemF.eq_2, hsels, ← hacc]
      have hflt : (fieldOfSelF c pfx (.spread g)).toList.filter (·.flatten) = [spreadField c fr] := by
        simp [fieldOfSelF, hfr, spreadField]
      rw [hflt]
      simp only [List.all_cons, List.all_nil, Bool.and_true, hmf, okB_deOwn' _ _ _ (plain_fieldsOfV c _ fr.sels)]
    | inline t sub => simp [mSel] at hx
    | typename => simp [fieldOfSelF, fieldOfSelV, looseMemF]

def AccSelM (pfx : String) (x : Sel) : Prop :=
  ∀ p, mSel c.s c.q c.o p x = true → envSelM e c pfx x → keysOkM c.s c.q x = true → ∀ f, fieldOfSelV c pfx x = some f →
    ∀ b fd, 2 * depthF c.q x + 1 ≤ fd → ∀ v, okB (deFieldWith (dePath e b fd) f v) = looseFieldM c.s c.q c.o b x v

def AccSelsM (pfx : String) (sels : List Sel) : Prop :=
  ∀ p, mSels c.s c.q c.o p sels = true → envSelsM e c pfx sels → keysOksM c.s c.q sels = true →
    ∀ b fd, 2 * depthsF c.q sels + 1 ≤ fd →
    (∀ kvs, (fieldsOfV c pfx sels).all (fun f => decide (countKey f.wire kvs ≤ 1) &&
        okB (readField (dePath e b fd) f kvs)) = looseOwnM c.s c.q c.o b sels kvs) ∧
    (∀ xs, (decide ((fieldsOfV c pfx sels).length ≤ xs.length) &&
        ((fieldsOfV c pfx sels).zip xs).all (fun p => okB (deFieldWith (dePath e b fd) p.1 p.2))) =
          looseArrM c.s c.q c.o b sels xs)

theorem accStructM (pfx name : String) (p : TypeId) (sels : List Sel) (H : AccSelsM e c pfx sels)
    (hnl : ∀ g, sels ≠ [Sel.spread g])
    (ht : mSels c.s c.q c.o p sels = true) (henv : envSelsM e c pfx sels) (hko : keysOksM c.s c.q sels = true)
    (hkeys : EnumSpec.nodup (expKeys c.s c.q sels) = true)
    (hs : StructEnv e name (fieldsOfF c pfx sels)) (b : Bool) (fd : Nat) (hfd : 2 * depthsF c.q sels + 2 ≤ fd) (j : Json) :
    okB (dePath e b fd name j) = conformsLooseM c.s c.q c.o b sels j := by
  obtain ⟨hp, _, n, d, cr, hfind⟩ := hs
  rw [conformsLooseM_not_lone hnl]
  have hown := filter_fieldsOfF c pfx sels
  have hany := any_flatten_fieldsOfF (pfx := pfx) (resolves_of_mSels ht)
  have hpl := plain_fieldsOfV c pfx sels
  cases hsp : sels.any isSpread
  · -- no spread: a plain struct
    obtain ⟨fd', rfl⟩ : ∃ k, fd = k + 1 := ⟨fd - 1, by omega⟩
    obtain ⟨H1, H2⟩ := H p ht henv hko b fd' (by omega)
    have hplain : fieldsOfF c pfx sels = fieldsOfV c pfx sels := by
      rw [← hown, List.filter_eq_self.mpr]
      intro f hf
      rw [hsp] at hany
      simpa using List.any_eq_false.mp hany f hf
    rw [hplain] at hfind
    rw [okB_dePath_plain e b fd' name n d cr _ hp hfind hpl]
    cases j <;> simp [H1, H2, looseMemF_nospread c.s c.q c.o _ sels hsp]
  · -- flattened members
    obtain ⟨fd', rfl⟩ : ∃ k, fd = k + 2 := ⟨fd - 2, by omega⟩
    obtain ⟨H1, _⟩ := H p ht henv hko b (fd' + 1) (by omega)
    rw [hsp] at hany
    obtain ⟨h1, _, h3, h4⟩ := flat_hypsM e c pfx p sels ht henv (nodup_iff'.mp hkeys)
    cases j with
    | obj kvs =>
      rw [dePath_struct e b (fd' + 1) name n d cr _ hp hfind, deStruct_obj,
        deStructMap_flat e fd' _ _ kvs hany (fun g hg hf => (h1 g hg hf).1) h3 h4, okB_bind2, hown,
        okB_deOwn' _ _ _ hpl, H1 kvs, okB_flatVals, accMemM e c pfx p sels ht henv fd' (by omega) kvs]
    | _ => exact okB_dePath_flat_nonobj e b (fd' + 1) name n d cr _ hp hfind hany _ (fun _ h => by cases h)

end AccM

/-- what the name of an object-level selection set resolves to: the alias of the fragment struct (lone spread) or
    the struct with the flattened members -/
def BodyEnvM (e : Env) (c : Ctx) (name pfx : String) (sels : List Sel) : Prop :=
  match sels with
  | [.spread g] => AliasEnv e name (fragName c g) ∧ FragEnv e c g
  | _ => StructEnv e name (fieldsOfF c pfx sels) ∧ envSelsM e c pfx sels

theorem bodyEnvM_not_lone {e : Env} {c : Ctx} {name pfx : String} {sels : List Sel} (hnl : ∀ g, sels ≠ [Sel.spread g])
    (h : BodyEnvM e c name pfx sels) : StructEnv e name (fieldsOfF c pfx sels) ∧ envSelsM e c pfx sels := by
  unfold BodyEnvM at h
  revert h
  split
  · exact fun _ => absurd rfl (hnl _)
  · exact id

theorem keysOkM_obj {s : Schema} {q : Query} {a : Option String} {fid : Nat} {sub : List Sel} {sf : StoredField} {i : Nat}
    (hsf : s.fields[fid]? = some sf) (hid : sf.ty.id = .object i) (h : keysOkM s q (.field a fid sub) = true) :
    EnumSpec.nodup (expKeys s q sub) = true ∧ keysOksM s q sub = true := by
  rw [keysOkM] at h
  simp only [hsf, hid, Option.map_some, Bool.and_eq_true] at h
  exact h

theorem envSelM_obj {e : Env} {c : Ctx} {pfx : String} {a : Option String} {fid : Nat} {sub : List Sel} {sf : StoredField}
    {i : Nat} (hsf : c.s.fields[fid]? = some sf) (hid : sf.ty.id = .object i) (h : envSelM e c pfx (.field a fid sub)) :
    BodyEnvM e c (pfx ++ c.cs.camel (a.getD sf.name)) (pfx ++ c.cs.camel (a.getD sf.name)) sub := by
  rw [envSelM] at h
  simp only [hsf, hid] at h
  exact h

theorem envSelM_nonobj {e : Env} {c : Ctx} {pfx : String} {a : Option String} {fid : Nat} {sub : List Sel}
    {sf : StoredField} (hsf : c.s.fields[fid]? = some sf) (hno : ∀ i, sf.ty.id ≠ .object i)
    (h : envSelM e c pfx (.field a fid sub)) : envSelS e c pfx (.field a fid sub) := by
  rw [envSelM] at h
  simp only [hsf] at h
  cases hid : sf.ty.id with
  | object i => exact absurd hid (hno i)
  | scalar k => simpa only [hid] using h
  | «enum» k => simpa only [hid] using h
  | interface k => simpa only [hid] using h
  | union k => simpa only [hid] using h
  | input k => simpa only [hid] using h

theorem looseFieldM_nonobj {s : Schema} {q : Query} {o : Options} {b : Bool} {a : Option String} {fid : Nat}
    {sub : List Sel} {sf : StoredField} (hsf : s.fields[fid]? = some sf) (hno : ∀ i, sf.ty.id ≠ .object i) (v : Json) :
    looseFieldM s q o b (.field a fid sub) v = looseFieldS s q o b (.field a fid sub) v := by
  rw [looseFieldM]
  simp only [hsf]

section AccM2
variable (e : Env) (c : Ctx)

mutual
  theorem accSelM : ∀ (x : Sel) (pfx : String), AccSelM e c pfx x
    | .field a fid sub, pfx => by
      intro p ht henv hko f hf b fd hfd v
      have IH := accSelsM sub
      obtain ⟨sf, hsf, hk⟩ := mSel_kinds ht
      rcases hk with ⟨i, hid, hw, _, hobjs, hbody⟩ | ⟨hno, hs⟩
      · rw [depthF] at hfd
        have hwf : wf (gtyOf sf.ty.quals) = true := by rw [wf_gtyOf]; exact hw
        have henv := envSelM_obj hsf hid henv
        have hko := keysOkM_obj hsf hid hko
        rw [looseFieldM]
        simp only [hsf, hid]
        cases hk : c.s.objects[i]? with
        | none => simp [hk] at hobjs
        | some ob =>
          simp only []
          simp only [fieldOfSelV, hsf, leafNameV, hid, Option.some.injEq] at hf
          subst hf
          rw [looseLambdaM]
          by_cases hsp : ∃ g, sub = [Sel.spread g]
          · obtain ⟨g, rfl⟩ := hsp
            unfold BodyEnvM at henv
            simp only at henv
            rw [deField_plain _ _ _ _ henv.1.2.1]
            have hdep : depthsF c.q [Sel.spread g] = selsDepth (fragSels c.q g) + 1 := by
              simp [depthsF, depthF]
            rw [hdep] at hfd
            exact (ok_iff_accepts _ _ (conformsLooseM c.s c.q c.o b [Sel.spread g])
              (accAliasF e c _ (.object i) g hbody henv.1 henv.2 b fd (by omega)) _ hwf).2 v
          · have hnl : ∀ g, sub ≠ [Sel.spread g] := fun g hg => hsp ⟨g, hg⟩
            have henv' := bodyEnvM_not_lone hnl henv
            rw [mBody_not_lone hnl] at hbody
            rw [deField_plain _ _ _ _ henv'.1.2.1]
            exact (ok_iff_accepts _ _ (conformsLooseM c.s c.q c.o b sub)
              (accStructM e c _ _ (.object i) sub (IH _) hnl hbody henv'.2 hko.2 hko.1 henv'.1 b fd (by omega)) _ hwf).2 v
      · -- scalar / enum / abstract: as in `VariantSpreadOp`
        rw [looseFieldM_nonobj hsf hno]
        exact accSelS e c _ pfx false hs (envSelM_nonobj hsf hno henv) f hf b fd hfd v
    | .spread g, pfx => by intro _ _ _ _ f hf; cases hf
    | .inline t sub, pfx => by intro _ _ _ _ f hf; cases hf
    | .typename, pfx => by intro _ _ _ _ f hf; cases hf
  theorem accSelsM : ∀ (sels : List Sel) (pfx : String), AccSelsM e c pfx sels
    | [], pfx => by
      intro _ _ _ _ b fd _
      exact ⟨fun kvs => by simp [fieldsOfV, looseOwnM], fun xs => by simp [fieldsOfV, looseArrM]⟩
    | x :: xs, pfx => by
      intro p ht henv hko b fd hfd
      obtain ⟨hx, hxs⟩ := mSels_cons ht
      rw [envSelsM] at henv
      rw [keysOksM, Bool.and_eq_true] at hko
      rw [depthsF] at hfd
      obtain ⟨I1, I2⟩ := accSelsM xs pfx p hxs henv.2 hko.2 b fd (by omega)
      have IX := accSelM x pfx p hx henv.1 hko.1
      cases x with
      | field a fid sub =>
        obtain ⟨sf, ft, hsf, _, hf, hw⟩ := fieldOfSelV_m c pfx p a fid sub hx
        have IXf := IX _ hf b fd (by omega)
        have hfs := fieldsOfV_cons_field c pfx _ xs _ hf
        refine ⟨fun kvs => ?_, fun vs => ?_⟩
        · rw [hfs, List.all_cons, I1 kvs, looseOwnM.eq_2]
          simp only [hsf, fieldOf_wire, readField]
          cases hl : Json.lookup (a.getD sf.name) kvs with
          | none => simp only [missing_fieldOf]
          | some v => simp only [IXf v]
        · rw [hfs]
          cases vs with
          | nil => rw [looseArrM.eq_2]; simp
          | cons v vs' =>
            rw [looseArrM.eq_3]
            simp only [List.length_cons, List.zip_cons_cons, List.all_cons, IXf v, ← I2 vs',
              Nat.add_le_add_iff_right]
            cases looseFieldM c.s c.q c.o b (.field a fid sub) v <;> simp
      | spread g =>
        have hfs := fieldsOfV_cons_none c pfx (.spread g) xs rfl
        refine ⟨fun kvs => ?_, fun vs => ?_⟩
        · rw [hfs, I1 kvs]; simp [looseOwnM]
        · rw [hfs, I2 vs]; simp [looseArrM]
      | inline t sub => simp [mSel] at hx
      | typename =>
        have hfs := fieldsOfV_cons_none c pfx .typename xs rfl
        refine ⟨fun kvs => ?_, fun vs => ?_⟩
        · rw [hfs, I1 kvs]; simp [looseOwnM]
        · rw [hfs, I2 vs]; simp [looseArrM]
end

end AccM2

/-- **the type emitted for an object-level selection set of `MixedOp` accepts exactly `conformsLooseM`** -/
theorem bodyM_accepts_iff (e : Env) (c : Ctx) (pfx name : String) (p : TypeId) (sels : List Sel)
    (ht : mBody c.s c.q c.o p sels = true) (henv : BodyEnvM e c name pfx sels)
    (hko : keysOksM c.s c.q sels = true) (hkeys : EnumSpec.nodup (expKeys c.s c.q sels) = true)
    (b : Bool) (fd : Nat) (hfd : 2 * depthsF c.q sels + 2 ≤ fd) (j : Json) :
    okB (dePath e b fd name j) = conformsLooseM c.s c.q c.o b sels j := by
  by_cases hsp : ∃ g, sels = [Sel.spread g]
  · obtain ⟨g, rfl⟩ := hsp
    unfold BodyEnvM at henv
    simp only at henv
    have hdep : depthsF c.q [Sel.spread g] = selsDepth (fragSels c.q g) + 1 := by simp [depthsF, depthF]
    rw [hdep] at hfd
    exact accAliasF e c _ p g ht henv.1 henv.2 b fd (by omega) j
  · have hnl : ∀ g, sels ≠ [Sel.spread g] := fun g hg => hsp ⟨g, hg⟩
    have henv' := bodyEnvM_not_lone hnl henv
    rw [mBody_not_lone hnl] at ht
    exact accStructM e c pfx name p sels (accSelsM e c sels pfx) hnl ht henv'.2 hko hkeys henv'.1 b fd hfd j


/-! ## the specification side: a spread is an inline fragment with the fragment's type condition -/

section SLM
variable (s : Schema) (q : Query) (o : Options)

def SLBodyM (sels : List Sel) : Prop :=
  ∀ b i j, mBody s q o (.object i) sels = true → conformsV s i (expandSels q sels) j = true →
    conformsLooseM s q o b sels j = true

theorem slMemM (i : Nat) (kvs : List (String × Json)) (hc : ∀ k, countKey k kvs ≤ 1) : ∀ (sels : List Sel),
    mSels s q o (.object i) sels = true → confSelsV s i (expandSels q sels) kvs = true →
    looseMemF s q o sels kvs = true
  | [], _, _ => by simp [looseMemF]
  | x :: xs, ht, h => by
    obtain ⟨hx, hxs⟩ := mSels_cons ht
    rw [expandSels, confSelsV, Bool.and_eq_true] at h
    have ih := slMemM i kvs hc xs hxs h.2
    cases x with
    | spread g =>
      have hok : fragOk s q o (.object i) g = true := by simpa [mSel] using hx
      obtain ⟨fr, hfr, hon, _, hv, _⟩ := fragOk_parts hok
      have h1 := h.1
      simp only [expandSel, hfr, confSelV, hon, fragApplies, beq_self_eq_true, Bool.not_true, Bool.false_or] at h1
      rw [looseMemF.eq_2, ih, Bool.and_true]
      have : fragSels q g = fr.sels := by simp [fragSels, hfr]
      rw [this]
      exact slSels s o fr.sels false true i kvs hv hc h1
    | field a fid sub => exact ih
    | inline t sub => exact ih
    | typename => exact ih

theorem slBodyM_of (sels : List Sel)
    (IHown : ∀ b i kvs, mSels s q o (.object i) sels = true → (∀ k, countKey k kvs ≤ 1) →
      confSelsV s i (expandSels q sels) kvs = true → looseOwnM s q o b sels kvs = true) : SLBodyM s q o sels := by
  intro b i j ht hc
  by_cases hsp : ∃ g, sels = [Sel.spread g]
  · obtain ⟨g, rfl⟩ := hsp
    have hok : fragOk s q o (.object i) g = true := ht
    obtain ⟨fr, hfr, hon, _, hv, _⟩ := fragOk_parts hok
    have hsels : fragSels q g = fr.sels := by simp [fragSels, hfr]
    simp only [conformsLooseM, hsels]
    exact conformsV_loose s o b i fr.sels j hv (conformsV_lone s q i g fr hfr hon j hc)
  · have hnl : ∀ g, sels ≠ [Sel.spread g] := fun g hg => hsp ⟨g, hg⟩
    rw [mBody_not_lone hnl] at ht
    rw [conformsLooseM_not_lone hnl]
    obtain ⟨kvs, rfl, hnd, hconf⟩ := conformsV_obj hc
    have hcnt := countKey_le_one_of_nodup hnd
    simp only [IHown b i kvs ht hcnt hconf, slMemM s q o i kvs hcnt sels ht hconf, Bool.and_self]

mutual
  theorem slFieldM : ∀ (x : Sel) (p : TypeId) (b : Bool) (v : Json), mSel s q o p x = true →
      strictFieldV s (expandSel q x) v = true → looseFieldM s q o b x v = true
    | .field a fid sub, p, b, v => by
      intro ht h
      have IH := slOwnM sub
      obtain ⟨sf, hsf, hk⟩ := mSel_kinds ht
      rcases hk with ⟨i, hid, _, _, hobjs, hbody⟩ | ⟨hno, hs⟩
      · simp only [expandSel, strictFieldV] at h
        rw [looseFieldM]
        simp only [hsf, hid] at h ⊢
        cases ho : s.objects[i]? with
        | none => simp [ho] at hobjs
        | some ob =>
          simp only []
          rw [looseLambdaM]
          refine (accepts_mono _ _ ?_ _).2 v h
          intro j hj
          simp only [conformsAt, List.any_eq_true, List.mem_range, Bool.and_eq_true, fragApplies, beq_iff_eq] at hj
          obtain ⟨rt, _, hrt, hc⟩ := hj
          subst hrt
          exact slBodyM_of s q o sub (fun b' i' kvs h1 h2 h3 => IH (.object i') b' i' kvs h1 h2 h3) b i j hbody hc
      · rw [looseFieldM_nonobj hsf hno]
        exact slFieldS s q o _ false b v hs h
    | .spread _, _, _, _ => by intro _ _; simp [looseFieldM]
    | .inline _ _, _, _, _ => by intro ht; simp [mSel] at ht
    | .typename, _, _, _ => by intro _ _; simp [looseFieldM]
  theorem slOwnM : ∀ (sels : List Sel) (p : TypeId) (b : Bool) (i : Nat) (kvs : List (String × Json)),
      mSels s q o p sels = true → (∀ k, countKey k kvs ≤ 1) →
      confSelsV s i (expandSels q sels) kvs = true → looseOwnM s q o b sels kvs = true
    | [], _, _, _, _, _, _, _ => by simp [looseOwnM]
    | x :: xs, p, b, i, kvs, ht, hc, h => by
      obtain ⟨hx, hxs⟩ := mSels_cons ht
      rw [expandSels, confSelsV, Bool.and_eq_true] at h
      have ih := slOwnM xs p b i kvs hxs hc h.2
      cases x with
      | field a fid sub =>
        have hcx := h.1
        rw [expandSel, confSelV_field] at hcx
        rw [looseOwnM.eq_2, ih, Bool.and_true]
        cases hsf : s.fields[fid]? with
        | none => simp [hsf] at hcx
        | some sf =>
          simp only [hsf] at hcx ⊢
          cases hl : Json.lookup (a.getD sf.name) kvs with
          | none => simp [hl] at hcx
          | some v =>
            simp only [hl] at hcx ⊢
            have := slFieldM (.field a fid sub) p b v hx (by rw [expandSel]; exact hcx)
            simp [hc, this]
      | spread g => exact ih
      | inline t sub => simp [mSel] at hx
      | typename => exact ih
end

/-- every response conforming to the specification (on the expanded selection set) is accepted -/
theorem conformsM_loose (b : Bool) (i : Nat) (sels : List Sel) (j : Json)
    (ht : mBody s q o (.object i) sels = true) (h : conformsV s i (expandSels q sels) j = true) :
    conformsLooseM s q o b sels j = true :=
  slBodyM_of s q o sels (fun b' i' kvs h1 h2 h3 => slOwnM s q o sels (.object i') b' i' kvs h1 h2 h3) b i j ht h

end SLM

end C01M
end GqlVerif
