import GqlVerif.Proofs.C01NestedF
import GqlVerif.Proofs.C01NestedG
/-!
# `NestedOp`: losslessness — the canonical form, what is needed of a fragment, congruence

The definitions the round-trip theorem speaks of; the theorem itself, `bodyA_lossless`, is in `C01AliasFragH`.

* `canonSelN cent s q skip sels j` — the allowed differences: as `canonSelM`, but **at the position of a spread the entries
  the fragment struct writes** (`cent g kvs`, defined by recursion on the rank in `C01NestedI`); a lone spread: the
  fragment's own canonical form `cwhole cent g`;
* `FragRT e c ex cent KN g` — what the theorems need of a spread fragment: its struct, read from a conforming object from
  which entries with keys outside `KN` may have been removed, is written back as `cent g kvs`;
* `RTSelN`, `RTSelsN` — the round trip of the emitted field(s) of a selection (set), for every large enough fuel.

`looseFieldN`, `conformsLooseN`, `canonFieldN`, `canonSelN`, `expKeysN`, `keysOkN` depend on their parameters `whole` / `cent` /
`KN` only through the fragments spread in the selection set (congruence relative to `nSel`, and `objSpreads_ok`): this is
what the agreement files of both classes (`C01NestedJ`, `C01AliasFragJ`) rest on.  That last block of the file ("congruence
in the parameters") is part of what the two classes share and therefore declares into namespace `C01AF`, not `C01N`; it
stands here because the functions it speaks of are defined here and `C01AliasFragH` imports this file.

Additional decidable side condition: `rustOkSelsN` (Rust field names — own fields, flattened members — pairwise distinct
in every struct at object positions; `rustOkSelD` elsewhere).
-/

namespace GqlVerif
namespace C01N
open Serde Codegen C01 C01.E2E

/-! ## the allowed differences -/

/-- the canonical form of the struct of the fragment `g` -/
def cwhole (cent : Nat → List (String × Json) → List (String × Json)) (g : Nat) : Json → Json
  | .obj kvs => .obj (cent g kvs)
  | j => j

mutual
  def canonFieldN (cent : Nat → List (String × Json) → List (String × Json)) (s : Schema) (q : Query) (skip : Bool) :
      Sel → Json → Json
    | .field a fid sub, v =>
      match s.fields[fid]? with
      | none => v
      | some sf =>
        match sf.ty.id with
        | .object _ => canon (fun j =>
            match sub with
            | [.spread g] => cwhole cent g j
            | _ => match j with
              | .obj kvs => .obj (canonEntriesN cent s q skip sub kvs)
              | j => j) (gtyOf sf.ty.quals) v
        | _ => canonFieldD s q skip (.field a fid sub) v
    | _, v => v
  /-- own entries and, **at the position of each spread**, the entries the fragment struct writes, in selection order -/
  def canonEntriesN (cent : Nat → List (String × Json) → List (String × Json)) (s : Schema) (q : Query) (skip : Bool) :
      List Sel → List (String × Json) → List (String × Json)
    | [], _ => []
    | .field a fid sub :: xs, kvs =>
      (match s.fields[fid]? with
       | none => []
       | some sf =>
         match Json.lookup (a.getD sf.name) kvs with
         | some v =>
           if skip && skipQ sf.ty.quals && v.isNull then []
           else [(a.getD sf.name, canonFieldN cent s q skip (.field a fid sub) v)]
         | none => if skip && skipQ sf.ty.quals then [] else [(a.getD sf.name, Json.null)]) ++
        canonEntriesN cent s q skip xs kvs
    | .spread g :: xs, kvs => cent g kvs ++ canonEntriesN cent s q skip xs kvs
    | _ :: xs, kvs => canonEntriesN cent s q skip xs kvs
end

/-- **`canonSelN`**: what the serializer writes for a conforming response `j` (before `serde_json::to_value` merges
    repeated keys) -/
def canonSelN (cent : Nat → List (String × Json) → List (String × Json)) (s : Schema) (q : Query) (skip : Bool)
    (sels : List Sel) (j : Json) : Json :=
  match sels with
  | [.spread g] => cwhole cent g j
  | _ => match j with
    | .obj kvs => .obj (canonEntriesN cent s q skip sels kvs)
    | j => j

theorem canonLambdaN (cent : Nat → List (String × Json) → List (String × Json)) (s : Schema) (q : Query) (skip : Bool)
    (sub : List Sel) :
    (fun j =>
      match sub with
      | [.spread g] => cwhole cent g j
      | _ => match j with
        | .obj kvs => .obj (canonEntriesN cent s q skip sub kvs)
        | j => j) = canonSelN cent s q skip sub := by
  funext j; unfold canonSelN; rfl

theorem canonSelN_not_lone {cent : Nat → List (String × Json) → List (String × Json)} {s : Schema} {q : Query}
    {skip : Bool} {sels : List Sel} (h : ∀ g, sels ≠ [Sel.spread g]) (j : Json) :
    canonSelN cent s q skip sels j =
      (match j with | .obj kvs => .obj (canonEntriesN cent s q skip sels kvs) | j => j) := by
  unfold canonSelN
  split
  · exact absurd rfl (h _)
  · rfl

theorem canonFieldN_nonobj {cent : Nat → List (String × Json) → List (String × Json)} {s : Schema} {q : Query}
    {skip : Bool} {a : Option String} {fid : Nat}
    {sub : List Sel} {sf : StoredField} (hsf : s.fields[fid]? = some sf) (hno : ∀ i, sf.ty.id ≠ .object i) (v : Json) :
    canonFieldN cent s q skip (.field a fid sub) v = canonFieldD s q skip (.field a fid sub) v := by
  rw [canonFieldN]
  simp only [hsf]

/-! ## Rust field names -/

mutual
  def rustOkSelN (c : Ctx) : Sel → Bool
    | .field a fid sub =>
      (match (c.s.fields[fid]?).map (fun sf => sf.ty.id) with
       | some (TypeId.object _) =>
         (match sub with
          | [.spread _] => true
          | _ => EnumSpec.nodup (rustNamesF c sub) && rustOkSelsN c sub)
       | _ => rustOkSelD c (.field a fid sub))
    | _ => true
  def rustOkSelsN (c : Ctx) : List Sel → Bool
    | [] => true
    | x :: xs => rustOkSelN c x && rustOkSelsN c xs
end

theorem rustOkSelsN_mem {c : Ctx} : ∀ {sels : List Sel}, rustOkSelsN c sels = true →
    ∀ x ∈ sels, rustOkSelN c x = true :=
  fun {sels} h => List.all_eq_true.mp (all_of_eqns (ps := rustOkSelsN c) rfl (fun _ _ => rfl) sels ▸ h)

theorem keysOksN_mem {KN : String → List String} {c : Ctx} : ∀ {sels : List Sel}, keysOksN KN c sels = true →
    ∀ x ∈ sels, keysOkN KN c x = true :=
  fun {sels} h => List.all_eq_true.mp (all_of_eqns (ps := keysOksN KN c) rfl (fun _ _ => rfl) sels ▸ h)

theorem rustOkSelN_obj {c : Ctx} {a : Option String} {fid : Nat} {sub : List Sel} {sf : StoredField} {i : Nat}
    (hsf : c.s.fields[fid]? = some sf) (hid : sf.ty.id = .object i) (hnl : ∀ g, sub ≠ [Sel.spread g])
    (h : rustOkSelN c (.field a fid sub) = true) :
    rustOkSelsN c sub = true ∧ EnumSpec.nodup (rustNamesF c sub) = true := by
  unfold rustOkSelN at h
  simp only [hsf, hid, Option.map_some] at h
  have : (EnumSpec.nodup (rustNamesF c sub) && rustOkSelsN c sub) = true := by
    revert h
    exact id
  rw [Bool.and_eq_true] at this
  exact ⟨this.2, this.1⟩

theorem rustOkSelN_nonobj {c : Ctx} {a : Option String} {fid : Nat} {sub : List Sel} {sf : StoredField}
    (hsf : c.s.fields[fid]? = some sf) (hno : ∀ i, sf.ty.id ≠ .object i) (h : rustOkSelN c (.field a fid sub) = true) :
    rustOkSelD c (.field a fid sub) = true := by
  unfold rustOkSelN at h
  simp only [hsf, Option.map_some] at h
  cases hid : sf.ty.id with
  | object i => exact absurd hid (hno i)
  | scalar k => simpa only [hid] using h
  | «enum» k => simpa only [hid] using h
  | interface k => simpa only [hid] using h
  | union k => simpa only [hid] using h
  | input k => simpa only [hid] using h

theorem expandSelsW_mem (ex : Nat → Sel) : ∀ {sels : List Sel} {x : Sel}, x ∈ sels → expandSelW ex x ∈ expandSelsW ex sels
  | [], _, h => by simp at h
  | y :: ys, x, h => by
    rw [expandSelsW]
    rcases List.mem_cons.mp h with rfl | h'
    · simp
    · exact List.mem_cons_of_mem _ (expandSelsW_mem ex h')

/-! ## what is needed of a spread fragment (`FragRT`); the round trip of the flattened members; `RTSelN` -/

/-- **what the theorems need of a spread fragment, for the round trip** -/
structure FragRT (e : Env) (c : Ctx) (ex : Nat → Sel) (cent : Nat → List (String × Json) → List (String × Json))
    (KN : String → List String) (g : Nat) : Prop where
  rt : ∃ N, ∀ fd fs, N ≤ fd → N ≤ fs → ∀ b i kvs (L : List String) v, fragOn c.q g = .object i →
    (kvs.map (·.1)).Nodup → (∀ k ∈ L, k ∉ KN (fragName c g)) → confSelV c.s i (ex g) kvs = true →
    dePath e b fd (fragName c g) (.obj (kvs.filter (fun kv => !L.contains kv.1))) = .ok v →
    serPath e fs (fragName c g) v = .ok (.obj (cent g kvs))

section RTN
variable (e : Env) (c : Ctx) (ok : TypeId → Nat → Bool) (KN : String → List String)
  (fenv : Nat → Prop) (ex : Nat → Sel) (cent : Nat → List (String × Json) → List (String × Json))

section FieldsOfN
variable {ok} {c} (hok : OkSpec c.q ok)

include hok in
theorem rust_fieldsOfN (pfx : String) (p : TypeId) : ∀ (sels : List Sel), nSels ok c.s c.q c.o p sels = true →
    (fieldsOfF c pfx sels).map (·.rust) = rustNamesF c sels :=
  fun sels ht => rust_fieldsOfF c pfx sels (resolves_of_nSels hok ht)

theorem mem_fieldsOfV_n {pfx : String} {p : TypeId} {sels : List Sel} {f : RField}
    (hf : f ∈ fieldsOfV c pfx sels) (ht : nSels ok c.s c.q c.o p sels = true) :
    ∃ a fid sub sf ft, Sel.field a fid sub ∈ sels ∧ c.s.fields[fid]? = some sf ∧
      fieldOfSelV c pfx (.field a fid sub) = some f ∧
      f = fieldOf c (a.getD sf.name) ft sf.ty.quals sf.deprecation ∧ wfQuals sf.ty.quals = true := by
  obtain ⟨x, hx, hfx⟩ := List.mem_filterMap.mp hf
  obtain ⟨a, fid, sub, _, _, rfl, _, _⟩ := fieldOfSelV_some hfx
  obtain ⟨sf, ft, hsf, _, hf', hw⟩ := fieldOfSelV_n pfx p a fid sub (nSels_mem ht _ hx)
  exact ⟨a, fid, sub, sf, ft, hx, hsf, hfx, Option.some.inj (hfx.symm.trans hf'), hw⟩

theorem mem_fieldsOfN_flatten (_hok : OkSpec c.q ok) {pfx : String} {p : TypeId} : ∀ {sels : List Sel} {g : RField},
    g ∈ fieldsOfF c pfx sels → nSels ok c.s c.q c.o p sels = true → g.flatten = true →
    ∃ gid fr, Sel.spread gid ∈ sels ∧ c.q.fragments[gid]? = some fr ∧ g = spreadField c fr :=
  fun hg _ hfl => mem_fieldsOfF_flatten hg hfl

include hok in
/-- the entries the struct writes are `canonEntriesN` (the struct was read from `kvs'`, which agrees with `kvs` on the own
    keys) -/
theorem flatMap_entriesN_canon (cent : Nat → List (String × Json) → List (String × Json)) (pfx : String) (p : TypeId)
    (fc : RField → Json → Json) (mc : RField → List (String × Json)) (kvs' kvs : List (String × Json)) :
    ∀ (sels : List Sel), nSels ok c.s c.q c.o p sels = true →
    (∀ k ∈ fieldKeys c.s sels, Json.lookup k kvs' = Json.lookup k kvs) →
    (∀ a fid sub, Sel.field a fid sub ∈ sels → ∀ f, fieldOfSelV c pfx (.field a fid sub) = some f →
      ∀ v, fc f v = canonFieldN cent c.s c.q c.o.skipNone (.field a fid sub) v) →
    (∀ g fr, Sel.spread g ∈ sels → c.q.fragments[g]? = some fr → mc (spreadField c fr) = cent g kvs) →
    (fieldsOfF c pfx sels).flatMap (entriesF fc mc kvs') = canonEntriesN cent c.s c.q c.o.skipNone sels kvs
  | [], _, _, _, _ => by simp [fieldsOfF, canonEntriesN]
  | x :: xs, ht, hlk, hfc, hmc => by
    obtain ⟨hx, hxs⟩ := nSels_cons ht
    have ih := flatMap_entriesN_canon cent pfx p fc mc kvs' kvs xs hxs
      (fun k hk => hlk k (by
        simp only [fieldKeys, List.filterMap_cons] at hk ⊢
        cases fieldKey c.s x <;> simp [hk]))
      (fun a fid sub hm => hfc a fid sub (List.mem_cons_of_mem _ hm))
      (fun g fr hm => hmc g fr (List.mem_cons_of_mem _ hm))
    rw [fieldsOfF_cons, List.flatMap_append, ih]
    cases x with
    | field a fid sub =>
      obtain ⟨sf, ft, hsf, _, hf, _⟩ := fieldOfSelV_n pfx p a fid sub hx
      rw [fieldOfSelF_field, hf, canonEntriesN.eq_2]
      simp only [Option.toList, List.flatMap_cons, List.flatMap_nil, List.append_nil, entriesF, fieldOf,
        Bool.false_eq_true, ↓reduceIte]
      have := expectOut_cons fc (fieldOf c (a.getD sf.name) ft sf.ty.quals sf.deprecation) [] kvs'
      simp only [fieldOf] at this
      rw [this]
      simp only [hsf, expectOut, List.filterMap_nil, List.append_nil]
      have hw := fieldOf_wire c (a.getD sf.name) ft sf.ty.quals sf.deprecation
      simp only [fieldOf] at hw
      simp only [hw, Bool.and_assoc]
      have hfc' := hfc a fid sub (by simp) _ hf
      simp only [fieldOf] at hfc'
      rw [hlk (a.getD sf.name) (by simp [fieldKeys, fieldKey, hsf])]
      cases Json.lookup (a.getD sf.name) kvs with
      | none => rfl
      | some v => simp only [hfc' v]
    | spread g =>
      have hokg : ok p g = true := by simpa [nSel] using hx
      obtain ⟨fr, hfr, _⟩ := hok _ _ hokg
      rw [canonEntriesN.eq_3]
      simp [fieldOfSelF, hfr, entriesF, spreadField]
      rw [← hmc g fr (by simp) hfr]; rfl
    | inline t sub => simp [nSel] at hx
    | typename => simp [fieldOfSelF, fieldOfSelV, canonEntriesN]

end FieldsOfN

variable (hok : OkSpec c.q ok) (hfr : ∀ p g, ok p g = true → fenv g → FragRT e c ex cent KN g)

include hok hfr in
/-- the round trips of the spread fragments of a selection set, with one bound on the fuel -/
theorem rtMemN_of (i : Nat) : ∀ (sels : List Sel), (∀ g, Sel.spread g ∈ sels → ok (.object i) g = true ∧ fenv g) →
    ∃ N, ∀ g, Sel.spread g ∈ sels → ∀ fd fs, N ≤ fd → N ≤ fs →
      ∀ b kvs (L : List String) v, (kvs.map (·.1)).Nodup → (∀ k ∈ L, k ∉ KN (fragName c g)) →
      confSelV c.s i (ex g) kvs = true →
      dePath e b fd (fragName c g) (.obj (kvs.filter (fun kv => !L.contains kv.1))) = .ok v →
      serPath e fs (fragName c g) v = .ok (.obj (cent g kvs))
  | [], _ => ⟨0, fun g hg => by simp at hg⟩
  | x :: xs, hsp => by
    obtain ⟨N, ih⟩ := rtMemN_of i xs (fun g hg => hsp g (List.mem_cons_of_mem _ hg))
    by_cases hx : ∃ g, x = Sel.spread g
    · obtain ⟨g, rfl⟩ := hx
      obtain ⟨hokg, hfg⟩ := hsp g List.mem_cons_self
      obtain ⟨fr, hfrg, hon, _, _⟩ := hok _ _ hokg
      have hfon : fragOn c.q g = .object i := by simp [fragOn, hfrg, hon]
      obtain ⟨Ng, hrt⟩ := (hfr _ g hokg hfg).rt
      refine ⟨max N Ng, fun g' hg' fd fs hfd hfs b kvs L v hnd hL hc hd => ?_⟩
      rcases List.mem_cons.mp hg' with heq | hg''
      · cases heq
        exact hrt fd fs (by omega) (by omega) b i kvs L v hfon hnd hL hc hd
      · exact ih g' hg'' fd fs (by omega) (by omega) b kvs L v hnd hL hc hd
    · exact ⟨N, fun g' hg' => ih g' ((List.mem_cons.mp hg').resolve_left (fun h => hx ⟨g', h.symm⟩))⟩

include hok hfr in
theorem rtMemN (pfx : String) (i : Nat) (sels : List Sel) (ht : nSels ok c.s c.q c.o (.object i) sels = true)
    (henv : envSelsN fenv e c pfx sels) : ∃ N, ∀ g, Sel.spread g ∈ sels → ∀ fd fs, N ≤ fd → N ≤ fs →
      ∀ b kvs (L : List String) v, (kvs.map (·.1)).Nodup → (∀ k ∈ L, k ∉ KN (fragName c g)) →
      confSelV c.s i (ex g) kvs = true →
      dePath e b fd (fragName c g) (.obj (kvs.filter (fun kv => !L.contains kv.1))) = .ok v →
      serPath e fs (fragName c g) v = .ok (.obj (cent g kvs)) :=
  rtMemN_of e c ok KN fenv ex cent hok hfr i sels (spreads_of_nSels ht henv)

def RTSelN (pfx : String) (x : Sel) : Prop :=
  ∀ p, nSel ok c.s c.q c.o p x = true → envSelN fenv e c pfx x → keysOkN KN c x = true → rustOkSelN c x = true →
    ∀ f, fieldOfSelV c pfx x = some f → ∃ N, ∀ b fd fs, N ≤ fd → N ≤ fs →
      ∀ v y, strictFieldV c.s (expandSelW ex x) v = true → deFieldWith (dePath e b fd) f v = .ok y →
        serTyWith (serPath e fs) f.ty y = .ok (canonFieldN cent c.s c.q c.o.skipNone x v)

def RTSelsN (pfx : String) (sels : List Sel) : Prop :=
  ∀ p, nSels ok c.s c.q c.o p sels = true → envSelsN fenv e c pfx sels → keysOksN KN c sels = true →
    rustOkSelsN c sels = true → ∃ N, ∀ x ∈ sels, ∀ f, fieldOfSelV c pfx x = some f → ∀ b fd fs, N ≤ fd → N ≤ fs →
      ∀ v y, strictFieldV c.s (expandSelW ex x) v = true → deFieldWith (dePath e b fd) f v = .ok y →
        serTyWith (serPath e fs) f.ty y = .ok (canonFieldN cent c.s c.q c.o.skipNone x v)

end RTN

end C01N

namespace C01AF
open Serde Codegen C01 C01.E2E C01N

/-! ## congruence in the parameters, on a selection set of the class -/

section Congr
variable (s : Schema) (q : Query) (o : Options) (ok : TypeId → Nat → Bool) (w1 w2 : Nat → Bool → Json → Bool)
  (c1 c2 : Nat → List (String × Json) → List (String × Json))

theorem looseMemN_congr (hw : ∀ p g, ok p g = true → ∀ b j, w1 g b j = w2 g b j) (p : TypeId) : ∀ (sels : List Sel),
    nSels ok s q o p sels = true → ∀ kvs, looseMemN w1 sels kvs = looseMemN w2 sels kvs
  | [], _, _ => rfl
  | x :: xs, ht, kvs => by
    obtain ⟨hx, hxs⟩ := nSels_cons ht
    have ih := looseMemN_congr hw p xs hxs kvs
    cases x with
    | spread g =>
      have hok : ok p g = true := by simpa [nSel] using hx
      rw [looseMemN, looseMemN, ih, hw p g hok]
    | field a fid sub => simpa [looseMemN] using ih
    | inline t sub => simp [nSel] at hx
    | typename => simpa [looseMemN] using ih

mutual
  theorem looseFieldN_congr : ∀ (x : Sel) (p : TypeId) (b : Bool) (v : Json),
      (∀ p g, ok p g = true → ∀ b j, w1 g b j = w2 g b j) →
      nSel ok s q o p x = true → looseFieldN w1 s q o b x v = looseFieldN w2 s q o b x v
    | .field a fid sub, p, b, v => by
      intro hw ht
      have IH1 := looseOwnN_congr sub
      have IH2 := looseArrN_congr sub
      obtain ⟨sf, hsf⟩ := nSel_field_some ht
      rw [looseFieldN, looseFieldN]
      simp only [hsf]
      cases hid : sf.ty.id with
      | object i =>
        obtain ⟨_, _, _, hbody⟩ := nSel_obj hsf hid ht
        simp only []
        cases s.objects[i]? with
        | none => rfl
        | some ob =>
          simp only []
          rw [looseLambdaN, looseLambdaN]
          congr 1
          funext j
          rcases lone_or_not sub with hsp | hnl
          · obtain ⟨g, rfl⟩ := hsp
            simp only [conformsLooseN]
            exact hw _ g hbody b j
          · rw [nBody_not_lone hnl] at hbody
            rw [conformsLooseN_not_lone hnl, conformsLooseN_not_lone hnl]
            cases j with
            | obj kvs =>
              simp only [IH1 _ b kvs hw hbody, looseMemN_congr s q o ok w1 w2 hw _ sub hbody kvs]
            | arr xs => simp only [IH2 _ b xs hw hbody]
            | null => rfl
            | bool _ => rfl
            | int _ => rfl
            | num _ => rfl
            | str _ => rfl
      | scalar k => rfl
      | «enum» k => rfl
      | interface k => rfl
      | union k => rfl
      | input k => rfl
    | .spread g, _, _, _ => by intro _ _; simp [looseFieldN]
    | .inline t sub, _, _, _ => by intro _ _; simp [looseFieldN]
    | .typename, _, _, _ => by intro _ _; simp [looseFieldN]
  theorem looseOwnN_congr : ∀ (sels : List Sel) (p : TypeId) (b : Bool) (kvs : List (String × Json)),
      (∀ p g, ok p g = true → ∀ b j, w1 g b j = w2 g b j) →
      nSels ok s q o p sels = true → looseOwnN w1 s q o b sels kvs = looseOwnN w2 s q o b sels kvs
    | [], _, _, _ => by intro _ _; rw [looseOwnN, looseOwnN]
    | x :: xs, p, b, kvs => by
      intro hw ht
      obtain ⟨hx, hxs⟩ := nSels_cons ht
      have ih := looseOwnN_congr xs p b kvs hw hxs
      cases x with
      | field a fid sub =>
        rw [looseOwnN.eq_2, looseOwnN.eq_2, ih]
        cases hsf : s.fields[fid]? with
        | none => rfl
        | some sf =>
          simp only []
          cases Json.lookup (a.getD sf.name) kvs with
          | none => rfl
          | some v => simp only [looseFieldN_congr (.field a fid sub) p b v hw hx]
      | spread g => simpa [looseOwnN] using ih
      | inline t sub => simp [nSel] at hx
      | typename => simpa [looseOwnN] using ih
  theorem looseArrN_congr : ∀ (sels : List Sel) (p : TypeId) (b : Bool) (vs : List Json),
      (∀ p g, ok p g = true → ∀ b j, w1 g b j = w2 g b j) →
      nSels ok s q o p sels = true → looseArrN w1 s q o b sels vs = looseArrN w2 s q o b sels vs
    | [], _, _, _ => by intro _ _; rw [looseArrN, looseArrN]
    | x :: xs, p, b, vs => by
      intro hw ht
      obtain ⟨hx, hxs⟩ := nSels_cons ht
      cases x with
      | field a fid sub =>
        cases vs with
        | nil => rw [looseArrN.eq_2, looseArrN.eq_2]
        | cons v vs' =>
          rw [looseArrN.eq_3, looseArrN.eq_3, looseFieldN_congr (.field a fid sub) p b v hw hx,
            looseArrN_congr xs p b vs' hw hxs]
      | spread g => simpa [looseArrN] using looseArrN_congr xs p b vs hw hxs
      | inline t sub => simp [nSel] at hx
      | typename => simpa [looseArrN] using looseArrN_congr xs p b vs hw hxs
end

theorem conformsLooseN_congr (hw : ∀ p g, ok p g = true → ∀ b j, w1 g b j = w2 g b j) (p : TypeId) (sels : List Sel)
    (ht : nBody ok s q o p sels = true) (b : Bool) (j : Json) :
    conformsLooseN w1 s q o b sels j = conformsLooseN w2 s q o b sels j := by
  rcases lone_or_not sels with hsp | hnl
  · obtain ⟨g, rfl⟩ := hsp
    simp only [conformsLooseN]
    exact hw p g ht b j
  · rw [nBody_not_lone hnl] at ht
    rw [conformsLooseN_not_lone hnl, conformsLooseN_not_lone hnl]
    cases j with
    | obj kvs =>
      simp only [looseOwnN_congr s q o ok w1 w2 sels p b kvs hw ht, looseMemN_congr s q o ok w1 w2 hw p sels ht kvs]
    | arr xs => simp only [looseArrN_congr s q o ok w1 w2 sels p b xs hw ht]
    | null => rfl
    | bool _ => rfl
    | int _ => rfl
    | num _ => rfl
    | str _ => rfl

mutual
  theorem canonFieldN_congr (skip : Bool) : ∀ (x : Sel) (p : TypeId) (v : Json),
      (∀ p g, ok p g = true → ∀ kvs, c1 g kvs = c2 g kvs) →
      nSel ok s q o p x = true → canonFieldN c1 s q skip x v = canonFieldN c2 s q skip x v
    | .field a fid sub, p, v => by
      intro hc ht
      have IH := canonEntriesN_congr skip sub
      obtain ⟨sf, hsf⟩ := nSel_field_some ht
      rw [canonFieldN, canonFieldN]
      simp only [hsf]
      cases hid : sf.ty.id with
      | object i =>
        obtain ⟨_, _, _, hbody⟩ := nSel_obj hsf hid ht
        simp only []
        rw [canonLambdaN, canonLambdaN]
        congr 1
        funext j
        rcases lone_or_not sub with hsp | hnl
        · obtain ⟨g, rfl⟩ := hsp
          simp only [canonSelN]
          cases j with
          | obj kvs => simp only [cwhole, hc _ g hbody kvs]
          | arr xs => rfl
          | null => rfl
          | bool _ => rfl
          | int _ => rfl
          | num _ => rfl
          | str _ => rfl
        · rw [nBody_not_lone hnl] at hbody
          rw [canonSelN_not_lone hnl, canonSelN_not_lone hnl]
          cases j with
          | obj kvs => simp only [IH _ kvs hc hbody]
          | arr xs => rfl
          | null => rfl
          | bool _ => rfl
          | int _ => rfl
          | num _ => rfl
          | str _ => rfl
      | scalar k => rfl
      | «enum» k => rfl
      | interface k => rfl
      | union k => rfl
      | input k => rfl
    | .spread g, _, _ => by intro _ _; simp [canonFieldN]
    | .inline t sub, _, _ => by intro _ _; simp [canonFieldN]
    | .typename, _, _ => by intro _ _; simp [canonFieldN]
  theorem canonEntriesN_congr (skip : Bool) : ∀ (sels : List Sel) (p : TypeId) (kvs : List (String × Json)),
      (∀ p g, ok p g = true → ∀ kvs, c1 g kvs = c2 g kvs) →
      nSels ok s q o p sels = true → canonEntriesN c1 s q skip sels kvs = canonEntriesN c2 s q skip sels kvs
    | [], _, _ => by intro _ _; rw [canonEntriesN, canonEntriesN]
    | x :: xs, p, kvs => by
      intro hc ht
      obtain ⟨hx, hxs⟩ := nSels_cons ht
      have ih := canonEntriesN_congr skip xs p kvs hc hxs
      cases x with
      | field a fid sub =>
        rw [canonEntriesN.eq_2, canonEntriesN.eq_2, ih]
        cases hsf : s.fields[fid]? with
        | none => rfl
        | some sf =>
          simp only []
          cases Json.lookup (a.getD sf.name) kvs with
          | none => rfl
          | some v => simp only [canonFieldN_congr skip (.field a fid sub) p v hc hx]
      | spread g =>
        have hok : ok p g = true := by simpa [nSel] using hx
        rw [canonEntriesN.eq_3, canonEntriesN.eq_3, ih, hc p g hok]
      | inline t sub => simp [nSel] at hx
      | typename => simpa [canonEntriesN] using ih
end

theorem canonSelN_congr (hc : ∀ p g, ok p g = true → ∀ kvs, c1 g kvs = c2 g kvs) (skip : Bool) (p : TypeId)
    (sels : List Sel) (ht : nBody ok s q o p sels = true) (j : Json) :
    canonSelN c1 s q skip sels j = canonSelN c2 s q skip sels j := by
  rcases lone_or_not sels with hsp | hnl
  · obtain ⟨g, rfl⟩ := hsp
    simp only [canonSelN]
    cases j with
    | obj kvs => simp only [cwhole, hc p g ht kvs]
    | arr xs => rfl
    | null => rfl
    | bool _ => rfl
    | int _ => rfl
    | num _ => rfl
    | str _ => rfl
  · rw [nBody_not_lone hnl] at ht
    rw [canonSelN_not_lone hnl, canonSelN_not_lone hnl]
    cases j with
    | obj kvs => simp only [canonEntriesN_congr s q o ok c1 c2 skip sels p kvs hc ht]
    | arr xs => rfl
    | null => rfl
    | bool _ => rfl
    | int _ => rfl
    | num _ => rfl
    | str _ => rfl

end Congr

section CongrK
variable (c : Ctx) (ok : TypeId → Nat → Bool) (K1 K2 : String → List String)
  (hk : ∀ p g, ok p g = true → K1 (fragName c g) = K2 (fragName c g))

include hk in
theorem expKeysN_congr (p : TypeId) : ∀ (sels : List Sel), nSels ok c.s c.q c.o p sels = true →
    expKeysN K1 c sels = expKeysN K2 c sels
  | [], _ => rfl
  | x :: xs, ht => by
    obtain ⟨hx, hxs⟩ := nSels_cons ht
    have ih := expKeysN_congr p xs hxs
    cases x with
    | field a fid sub => cases hsf : c.s.fields[fid]? <;> simp [expKeysN, ih, hsf]
    | spread g =>
      have hok : ok p g = true := by simpa [nSel] using hx
      simp only [expKeysN, ih, hk p g hok]
    | inline t sub => simp [nSel] at hx
    | typename => simp only [expKeysN, ih]

mutual
  theorem keysOkN_congr : ∀ (x : Sel) (p : TypeId),
      (∀ p g, ok p g = true → K1 (fragName c g) = K2 (fragName c g)) →
      nSel ok c.s c.q c.o p x = true → keysOkN K1 c x = keysOkN K2 c x
    | .field a fid sub, p => by
      intro hk ht
      have IH := keysOksN_congr sub
      obtain ⟨sf, hsf⟩ := nSel_field_some ht
      rw [keysOkN, keysOkN]
      simp only [hsf, Option.map_some]
      cases hid : sf.ty.id with
      | object i =>
        obtain ⟨_, _, _, hbody⟩ := nSel_obj hsf hid ht
        have hm := nSels_of_nBody hbody
        simp only [expKeysN_congr c ok K1 K2 hk _ sub hm, IH _ hk hm]
      | scalar k => rfl
      | «enum» k => rfl
      | interface k => rfl
      | union k => rfl
      | input k => rfl
    | .spread g, _ => by intro _ _; rfl
    | .inline _ _, _ => by intro _ _; rfl
    | .typename, _ => by intro _ _; rfl
  theorem keysOksN_congr : ∀ (sels : List Sel) (p : TypeId),
      (∀ p g, ok p g = true → K1 (fragName c g) = K2 (fragName c g)) →
      nSels ok c.s c.q c.o p sels = true → keysOksN K1 c sels = keysOksN K2 c sels
    | [], _ => by intro _ _; rfl
    | x :: xs, p => by
      intro hk ht
      obtain ⟨hx, hxs⟩ := nSels_cons ht
      rw [keysOksN, keysOksN, keysOkN_congr x p hk hx, keysOksN_congr xs p hk hxs]
end

end CongrK

mutual
  /-- the spreads at object positions of a selection set of the class satisfy `ok` -/
  theorem objSpreads_ok (ok : TypeId → Nat → Bool) (s : Schema) (q : Query) (o : Options) : ∀ (x : Sel) (p : TypeId),
      nSel ok s q o p x = true → ∀ g ∈ objSpreads s x, ∃ p', ok p' g = true
    | .field a fid sub, p => by
      intro ht g hg
      have IH := objSpreadss_ok ok s q o sub
      obtain ⟨sf, hsf⟩ := nSel_field_some ht
      rw [objSpreads] at hg
      simp only [hsf] at hg
      cases hid : sf.ty.id with
      | object i =>
        obtain ⟨_, _, _, hbody⟩ := nSel_obj hsf hid ht
        simp only [hid] at hg
        exact IH _ (nSels_of_nBody hbody) g hg
      | scalar k => simp [hid] at hg
      | «enum» k => simp [hid] at hg
      | interface k => simp [hid] at hg
      | union k => simp [hid] at hg
      | input k => simp [hid] at hg
    | .spread g', p => by
      intro ht g hg
      simp only [objSpreads, List.mem_singleton] at hg
      subst hg
      exact ⟨p, by simpa [nSel] using ht⟩
    | .inline _ _, _ => by intro ht; simp [nSel] at ht
    | .typename, _ => by intro _ g hg; simp [objSpreads] at hg
  theorem objSpreadss_ok (ok : TypeId → Nat → Bool) (s : Schema) (q : Query) (o : Options) : ∀ (sels : List Sel) (p : TypeId),
      nSels ok s q o p sels = true → ∀ g ∈ objSpreadss s sels, ∃ p', ok p' g = true
    | [], _ => by intro _ g hg; simp [objSpreadss] at hg
    | x :: xs, p => by
      intro ht g hg
      obtain ⟨hx, hxs⟩ := nSels_cons ht
      rw [objSpreadss, List.mem_append] at hg
      rcases hg with hg | hg
      · exact objSpreads_ok ok s q o x p hx g hg
      · exact objSpreadss_ok ok s q o xs p hxs g hg
end

end C01AF
end GqlVerif
