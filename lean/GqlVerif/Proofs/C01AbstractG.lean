import GqlVerif.Proofs.C01AbstractF
/-!
# C01 / C03 end to end, `FragmentOp` 2/5: flattened members; the exact acceptance predicate and the specification

* `deStructMap_flat` (serde): the reader of a struct with own fields and **any number of** flattened members that are
  plain struct items (`MemberOk`), as one equation — the instance of `deStructMap_flat_with` of `C01Layers` (L4) for
  such members; the one behind `Box` is in `C01RecursiveB`.  That the emitted struct reads exactly the keys of the expanded
  selection set is `readKeys_fieldsOfM` / `flat_hypsM` of `C01MixedB` (`flat_hyps`, in `C01AbstractM`, is its case).
* `conformsLooseF s q o b sels j` — the exact acceptance predicate: own fields as before (`looseOwnF`), every
  spread's fragment struct reads *its* fields from the same object **as buffered content** (`looseMemF`); a JSON
  array is read positionally only by a struct without flattened member; a lone spread is the fragment
  struct itself (type alias).
* `AccSelF`, `BodyEnv`, `keysOksF` / `expKeys` — what acceptance is stated with; the decidable side condition is **keys
  disjoint between a fragment and its siblings** (and between the fragments of one selection set).  `accAliasF`: the
  alias of a lone spread.  `accSelF`, `bodyF_accepts_iff`: `C01AbstractM` (instances of the `MixedOp` theorems).
* specification: `expandSels q sels` replaces every spread by the inline fragment `... on T { body }` (GraphQL
  §6.4.3: CollectFields treats both alike); `conformsF_loose` (`conformsV s rt (expandSels q sels) j →
  conformsLooseF …`): `C01AbstractM`.
-/
namespace GqlVerif
namespace C01
namespace E2E
open Serde Spec C03 Codegen

/-! ## serde: flattened members that are plain struct items -/

protected theorem takeKeys_snd (keys : List String) :
    ∀ buf : Buf, present (takeKeys keys buf).2 = (present buf).filter (fun kv => !keys.contains kv.1) :=
  C01.takeKeys_snd keys

protected theorem filter_filter_disjoint (kvs : List (String × Json)) (K G : List String) (h : ∀ k ∈ G, k ∉ K) :
    (kvs.filter (fun kv => !K.contains kv.1)).filter (fun kv => G.contains kv.1) =
      kvs.filter (fun kv => G.contains kv.1) :=
  C01.filter_filter_disjoint kvs K G h

protected theorem deOwn_filter_flatten (path : String → Json → D Val) (kvs : List (String × Json)) :
    ∀ (fs : List RField), deOwnWith path fs kvs = deOwnWith path (fs.filter (fun f => !f.flatten)) kvs :=
  C01.deOwn_filter_flatten path kvs

/-- the fields of the struct a flattened member points to -/
def memberFields (e : Env) (g : RField) : List RField :=
  match g.ty with
  | .path q => (match e.find q with | some (.struct _ _ _ G) => G | _ => [])
  | _ => []

def memberKeys (e : Env) (g : RField) : List String := (memberFields e g).map (·.wire)

/-- the member is a plain struct item of the environment -/
def MemberOk (e : Env) (g : RField) : Prop :=
  ∃ q n d c, g.ty = .path q ∧ e.find q = some (.struct n d c (memberFields e g)) ∧ plain (memberFields e g) = true

/-- what the flattened members read, each from the **whole** object -/
def flatVals (e : Env) (fuel : Nat) (kvs : List (String × Json)) : List RField → D (List (String × Val)) :=
  wholeVals (fun g => Val.record <$> deOwnWith (dePath e true fuel) (memberFields e g) kvs)

theorem MemberOk.takesKeys {e : Env} {g : RField} (fuel : Nat) (h : MemberOk e g) :
    TakesKeys (deFlat e (fuel + 1)) (fun _ => dePath e true fuel) (memberFields e) g := by
  obtain ⟨q, n, d, c, hty, hfind, hpl⟩ := h
  exact fun buf => by rw [hty, deFlat_plain_struct e fuel q n d c _ buf hfind hpl]

/-- **the reader of a struct with flattened plain-struct members, as one equation** -/
theorem deStructMap_flat (e : Env) (fuel : Nat) (pathD : String → Json → D Val) (fields : List RField)
    (kvs : List (String × Json)) (hany : fields.any (·.flatten) = true)
    (hok : ∀ g ∈ fields, g.flatten = true → MemberOk e g)
    (hown : ∀ g ∈ fields, g.flatten = true → ∀ k ∈ memberKeys e g,
      k ∉ (fields.filter (fun f => !f.flatten)).map (·.wire))
    (hpw : fields.Pairwise (fun g g' => g.flatten = true → g'.flatten = true →
      ∀ k ∈ memberKeys e g', k ∉ memberKeys e g)) :
    deStructMapWith pathD (deFlat e (fuel + 1)) fields kvs =
      (do let own ← deOwnWith pathD (fields.filter (fun f => !f.flatten)) kvs
          let fl ← flatVals e fuel kvs fields
          pure (.record (fields.filterMap fun f => (own ++ fl).find? (·.1 == f.rust)))) :=
  deStructMap_flat_with _ (fun _ => dePath e true fuel) (memberFields e) pathD fields kvs hany
    (fun g hg hf => (hok g hg hf).takesKeys fuel) hown hpw

theorem okB_flatVals (e : Env) (fuel : Nat) (kvs : List (String × Json)) (fs : List RField) :
    okB (flatVals e fuel kvs fs) =
      (fs.filter (·.flatten)).all (fun g => okB (deOwnWith (dePath e true fuel) (memberFields e g) kvs)) := by
  rw [flatVals, okB_wholeVals]
  simp only [okB_map]


/-! ## the exact acceptance predicate for `FragmentOp` -/

def fragSels (q : Query) (g : Nat) : List Sel :=
  match q.fragments[g]? with
  | some f => f.sels
  | none => []

def isSpread : Sel → Bool
  | .spread _ => true
  | _ => false

mutual
  def looseFieldF (s : Schema) (q : Query) (o : Options) (b : Bool) : Sel → Json → Bool
    | .field a fid sub, v =>
      match s.fields[fid]? with
      | none => false
      | some sf =>
        match sf.ty.id with
        | .object i => (match s.objects[i]? with
          | some _ => accepts (fun j =>
              match sub with
              | [.spread g] => conformsLooseV s o b (fragSels q g) j      -- type alias of the fragment struct
              | _ => match j with
                | .obj kvs' => looseOwnF s q o b sub kvs' && looseMemF s q o sub kvs'
                | .arr xs => !sub.any isSpread && looseArrF s q o b sub xs
                | _ => false) (gtyOf sf.ty.quals) v
          | none => false)
        | _ => looseFieldV s o b (.field a fid sub) v
    | _, _ => true
  /-- the own fields of the struct (spreads contribute no own field) -/
  def looseOwnF (s : Schema) (q : Query) (o : Options) (b : Bool) : List Sel → List (String × Json) → Bool
    | [], _ => true
    | .field a fid sub :: xs, kvs =>
      (match s.fields[fid]? with
       | none => false
       | some sf =>
         decide (countKey (a.getD sf.name) kvs ≤ 1) &&
         (match Json.lookup (a.getD sf.name) kvs with
          | none => nullableQ sf.ty.quals
          | some v => looseFieldF s q o b (.field a fid sub) v)) && looseOwnF s q o b xs kvs
    | _ :: xs, kvs => looseOwnF s q o b xs kvs
  def looseArrF (s : Schema) (q : Query) (o : Options) (b : Bool) : List Sel → List Json → Bool
    | [], _ => true
    | .field a fid sub :: xs, vs =>
      (match vs with
       | [] => false
       | v :: vs' => looseFieldF s q o b (.field a fid sub) v && looseArrF s q o b xs vs')
    | _ :: xs, vs => looseArrF s q o b xs vs
  /-- the flattened members: each fragment struct reads its fields from the same object, as buffered content -/
  def looseMemF (s : Schema) (q : Query) (o : Options) : List Sel → List (String × Json) → Bool
    | [], _ => true
    | .spread g :: xs, kvs => looseSelsV s o true (fragSels q g) kvs && looseMemF s q o xs kvs
    | _ :: xs, kvs => looseMemF s q o xs kvs
end

/-- what the type emitted for an object-level selection set of `FragmentOp` accepts -/
def conformsLooseF (s : Schema) (q : Query) (o : Options) (b : Bool) (sels : List Sel) (j : Json) : Bool :=
  match sels with
  | [.spread g] => conformsLooseV s o b (fragSels q g) j
  | _ => match j with
    | .obj kvs' => looseOwnF s q o b sels kvs' && looseMemF s q o sels kvs'
    | .arr xs => !sels.any isSpread && looseArrF s q o b sels xs
    | _ => false

/-! ## environment -/

def AliasEnv (e : Env) (name target : String) : Prop :=
  notPrim name ∧ name ≠ "ID" ∧ ∃ n pub, e.find name = some (.alias n pub (.path target))

/-- the struct of the fragment `g` (and its nested items) are what its name resolves to -/
def FragEnv (e : Env) (c : Ctx) (g : Nat) : Prop :=
  match c.q.fragments[g]? with
  | some f => StructEnv e f.name (fieldsOfV c (c.cs.camel f.name) f.sels) ∧ envSelsV e c (c.cs.camel f.name) f.sels
  | none => True

mutual
  def envSelF (e : Env) (c : Ctx) (pfx : String) : Sel → Prop
    | .field a fid sub =>
      match c.s.fields[fid]? with
      | none => True
      | some sf =>
        match sf.ty.id with
        | .object _ =>
          (match sub with
           | [.spread g] => AliasEnv e (pfx ++ c.cs.camel (a.getD sf.name)) (fragName c g) ∧ FragEnv e c g
           | _ => StructEnv e (pfx ++ c.cs.camel (a.getD sf.name)) (fieldsOfF c (pfx ++ c.cs.camel (a.getD sf.name)) sub) ∧
                  envSelsF e c (pfx ++ c.cs.camel (a.getD sf.name)) sub)
        | _ => envSelV e c pfx (.field a fid sub)
    | .spread g => FragEnv e c g
    | _ => True
  def envSelsF (e : Env) (c : Ctx) (pfx : String) : List Sel → Prop
    | [] => True
    | x :: xs => envSelF e c pfx x ∧ envSelsF e c pfx xs
end

mutual
  /-- depth of the selection tree, following spreads into the fragment bodies -/
  def depthF (q : Query) : Sel → Nat
    | .field _ _ sub => depthsF q sub + 1
    | .inline _ sub => depthsF q sub + 1
    | .spread g => selsDepth (fragSels q g) + 1
    | .typename => 1
  def depthsF (q : Query) : List Sel → Nat
    | [] => 0
    | x :: xs => max (depthF q x) (depthsF q xs)
end

mutual
  theorem depthF_noSpread (q : Query) : ∀ (x : Sel), noSpread x = true → depthF q x = selDepth x
    | .field a fid sub => by
      intro h; rw [noSpread] at h; rw [depthF, selDepth, depthsF_noSpreads q sub h]
    | .inline t sub => by
      intro h; rw [noSpread] at h; rw [depthF, selDepth, depthsF_noSpreads q sub h]
    | .spread g => by intro h; simp [noSpread] at h
    | .typename => by intro _; simp [depthF, selDepth]
  theorem depthsF_noSpreads (q : Query) : ∀ (sels : List Sel), noSpreads sels = true → depthsF q sels = selsDepth sels
    | [] => by intro _; simp [depthsF, selsDepth]
    | x :: xs => by
      intro h
      rw [noSpreads, Bool.and_eq_true] at h
      rw [depthsF, selsDepth, depthF_noSpread q x h.1, depthsF_noSpreads q xs h.2]
end

/-- response keys of the expanded selection set (spreads replaced by the fragment's field keys) -/
def expKeys (s : Schema) (q : Query) : List Sel → List String
  | [] => []
  | .field a fid _ :: xs => (match s.fields[fid]? with | some sf => [a.getD sf.name] | none => []) ++ expKeys s q xs
  | .spread g :: xs => fieldKeys s (fragSels q g) ++ expKeys s q xs
  | _ :: xs => expKeys s q xs

mutual
  /-- **keys disjoint between a fragment and its siblings** (and between fragments), at every level -/
  def keysOkF (s : Schema) (q : Query) : Sel → Bool
    | .field _ _ sub => EnumSpec.nodup (expKeys s q sub) && keysOksF s q sub
    | _ => true
  def keysOksF (s : Schema) (q : Query) : List Sel → Bool
    | [] => true
    | x :: xs => keysOkF s q x && keysOksF s q xs
end


/-! ## facts about the emitted fields -/

theorem fieldOfSelF_field (c : Ctx) (pfx : String) (a : Option String) (fid : Nat) (sub : List Sel) :
    fieldOfSelF c pfx (.field a fid sub) = fieldOfSelV c pfx (.field a fid sub) := rfl

/-- every `.field` of the class yields a field; same data as for `VariantOp` -/
theorem fieldOfSelV_f (c : Ctx) (pfx : String) (p : TypeId) (a : Option String) (fid : Nat) (sub : List Sel)
    (ht : fSel c.s c.q c.o p (.field a fid sub) = true) :
    ∃ sf ft, c.s.fields[fid]? = some sf ∧ leafNameV c pfx (a.getD sf.name) sf.ty.id = some ft ∧
      fieldOfSelV c pfx (.field a fid sub) = some (fieldOf c (a.getD sf.name) ft sf.ty.quals sf.deprecation) ∧
      wfQuals sf.ty.quals = true := by
  obtain ⟨sf, hsf, hw, _, hk⟩ := fSel_kinds ht
  rcases hk with ⟨i, _, hid, _⟩ | ⟨_, hv⟩
  · exact ⟨sf, pfx ++ c.cs.camel (a.getD sf.name), hsf, by simp [leafNameV, hid],
      by simp [fieldOfSelV, hsf, leafNameV, hid], hw⟩
  · exact fieldOfSelV_v c pfx false a fid sub hv

theorem fSels_mem {s : Schema} {q : Query} {o : Options} {p : TypeId} : ∀ {sels : List Sel}, fSels s q o p sels = true →
    ∀ x ∈ sels, fSel s q o p x = true :=
  fun {sels} h => List.all_eq_true.mp (fSels_eq_all s q o p sels ▸ h)

/-! ### the shape of the emitted field list

`fieldsOfF` is a `filterMap`: a `.field` selection emits `fieldOf …` (never flattened), a `.spread` emits the member of its
fragment (always flattened), nothing else emits.  What a class adds is that its fields and spreads resolve (`Resolves`). -/

/-- what `fieldOfSelF` emits: an own field as `fieldOfSelV` does, or the member of a spread fragment -/
theorem fieldOfSelF_some {c : Ctx} {pfx : String} {x : Sel} {f : RField} (h : fieldOfSelF c pfx x = some f) :
    (fieldOfSelV c pfx x = some f ∧ f.flatten = false) ∨
    ∃ g fr, x = .spread g ∧ c.q.fragments[g]? = some fr ∧ f = spreadField c fr := by
  have own : fieldOfSelV c pfx x = some f → fieldOfSelV c pfx x = some f ∧ f.flatten = false := fun h' => by
    obtain ⟨_, _, _, _, _, _, _, rfl⟩ := fieldOfSelV_some h'
    exact ⟨h', rfl⟩
  cases x with
  | spread g =>
    cases hfr : c.q.fragments[g]? with
    | none => simp [fieldOfSelF, hfr] at h
    | some fr =>
      simp only [fieldOfSelF, hfr, Option.map_some, Option.some.injEq] at h
      exact .inr ⟨g, fr, rfl, hfr, h.symm⟩
  | field a fid sub => exact .inl (own h)
  | inline t sub => exact .inl (own h)
  | typename => exact .inl (own h)

/-- the own (non-flattened) fields of the struct are `fieldsOfV` of the selection set -/
theorem filter_fieldsOfF (c : Ctx) (pfx : String) : ∀ (sels : List Sel),
    (fieldsOfF c pfx sels).filter (fun f => !f.flatten) = fieldsOfV c pfx sels
  | [] => rfl
  | x :: xs => by
    have ih := filter_fieldsOfF c pfx xs
    unfold fieldsOfF fieldsOfV at ih ⊢
    rw [List.filterMap_cons, List.filterMap_cons]
    cases hF : fieldOfSelF c pfx x with
    | none =>
      have hV : fieldOfSelV c pfx x = none := by
        cases x with
        | spread g => rfl
        | field a fid sub => exact hF
        | inline t sub => exact hF
        | typename => exact hF
      simp only [hV]; exact ih
    | some f =>
      rcases fieldOfSelF_some hF with ⟨hV, hfl⟩ | ⟨g, fr, rfl, _, rfl⟩
      · simp only [hV, List.filter_cons, hfl, Bool.not_false, ↓reduceIte, ih]
      · have hV : fieldOfSelV c pfx (.spread g) = none := rfl
        have hfl : (spreadField c fr).flatten = true := rfl
        simp only [hV, List.filter_cons, hfl, Bool.not_true, Bool.false_eq_true, ↓reduceIte]; exact ih

theorem own_fieldsOfF (c : Ctx) (pfx : String) (p : TypeId) : ∀ (sels : List Sel), fSels c.s c.q c.o p sels = true →
    (fieldsOfF c pfx sels).filter (fun f => !f.flatten) = fieldsOfV c pfx sels :=
  fun sels _ => filter_fieldsOfF c pfx sels

/-- a flattened member of the struct is the member of a spread fragment -/
theorem mem_fieldsOfF_flatten {c : Ctx} {pfx : String} {sels : List Sel} {g : RField}
    (hg : g ∈ fieldsOfF c pfx sels) (hfl : g.flatten = true) :
    ∃ gid fr, Sel.spread gid ∈ sels ∧ c.q.fragments[gid]? = some fr ∧ g = spreadField c fr := by
  obtain ⟨x, hx, hF⟩ := List.mem_filterMap.mp hg
  rcases fieldOfSelF_some hF with ⟨_, h⟩ | ⟨gid, fr, rfl, hfr, rfl⟩
  · rw [h] at hfl; cases hfl
  · exact ⟨gid, fr, hx, hfr, rfl⟩

/-- what the field list needs of a class: every `.field` emits a field (of well-formed modifiers), every `.spread` names a
    fragment -/
structure Resolves (c : Ctx) (pfx : String) (sels : List Sel) : Prop where
  field : ∀ a fid sub, Sel.field a fid sub ∈ sels → ∃ sf ft, c.s.fields[fid]? = some sf ∧
    fieldOfSelV c pfx (.field a fid sub) = some (fieldOf c (a.getD sf.name) ft sf.ty.quals sf.deprecation) ∧
    wfQuals sf.ty.quals = true
  spread : ∀ g, Sel.spread g ∈ sels → ∃ fr, c.q.fragments[g]? = some fr

theorem Resolves.tail {c : Ctx} {pfx : String} {x : Sel} {xs : List Sel} (h : Resolves c pfx (x :: xs)) :
    Resolves c pfx xs :=
  ⟨fun a fid sub hx => h.field a fid sub (List.mem_cons_of_mem _ hx), fun g hx => h.spread g (List.mem_cons_of_mem _ hx)⟩

theorem any_flatten_fieldsOfF {c : Ctx} {pfx : String} {sels : List Sel} (R : Resolves c pfx sels) :
    (fieldsOfF c pfx sels).any (·.flatten) = sels.any isSpread := by
  rw [Bool.eq_iff_iff, List.any_eq_true, List.any_eq_true]
  constructor
  · rintro ⟨g, hg, hfl⟩
    obtain ⟨gid, _, hx, _, _⟩ := mem_fieldsOfF_flatten hg hfl
    exact ⟨_, hx, rfl⟩
  · rintro ⟨x, hx, hsp⟩
    cases x with
    | spread g =>
      obtain ⟨fr, hfr⟩ := R.spread g hx
      exact ⟨spreadField c fr, List.mem_filterMap.mpr ⟨_, hx, by simp [fieldOfSelF, hfr]⟩, rfl⟩
    | field a fid sub => cases hsp
    | inline t sub => cases hsp
    | typename => cases hsp

theorem mem_fieldsOfV_of {c : Ctx} {pfx : String} {sels : List Sel} {f : RField} (R : Resolves c pfx sels)
    (hf : f ∈ fieldsOfV c pfx sels) :
    ∃ a fid sub sf ft, Sel.field a fid sub ∈ sels ∧ c.s.fields[fid]? = some sf ∧
      fieldOfSelV c pfx (.field a fid sub) = some f ∧
      f = fieldOf c (a.getD sf.name) ft sf.ty.quals sf.deprecation ∧ wfQuals sf.ty.quals = true := by
  obtain ⟨x, hx, hfx⟩ := List.mem_filterMap.mp hf
  obtain ⟨a, fid, sub, _, _, rfl, _, _⟩ := fieldOfSelV_some hfx
  obtain ⟨sf, ft, hsf, hf', hw⟩ := R.field a fid sub hx
  exact ⟨a, fid, sub, sf, ft, hx, hsf, hfx, Option.some.inj (hfx.symm.trans hf'), hw⟩

theorem memberFields_spread (e : Env) (c : Ctx) (g : Nat) (f : RFragment) (hf : c.q.fragments[g]? = some f)
    (he : FragEnv e c g) :
    memberFields e (spreadField c f) = fieldsOfV c (c.cs.camel f.name) f.sels ∧ MemberOk e (spreadField c f) := by
  unfold FragEnv at he
  rw [hf] at he
  obtain ⟨⟨_, _, n, d, cr, hfind⟩, _⟩ := he
  have h1 : memberFields e (spreadField c f) = fieldsOfV c (c.cs.camel f.name) f.sels := by
    simp [memberFields, spreadField, hfind]
  exact ⟨h1, f.name, n, d, cr, rfl, by rw [h1]; exact hfind, by rw [h1]; exact plain_fieldsOfV _ _ _⟩

theorem envSelsF_mem {e : Env} {c : Ctx} {pfx : String} : ∀ {sels : List Sel}, envSelsF e c pfx sels →
    ∀ x ∈ sels, envSelF e c pfx x :=
  fun {sels} => (forall_mem_of_eqns (by rw [envSelsF]; trivial) (fun _ _ => by rw [envSelsF]) sels).mp

/-- the struct of a selection set reads exactly the keys of the expanded selection set, when every member reads the
    field keys of its fragment -/
theorem readKeys_fieldsOfF_of (e : Env) (c : Ctx) (pfx : String) : ∀ (sels : List Sel), Resolves c pfx sels →
    (∀ g fr, Sel.spread g ∈ sels → c.q.fragments[g]? = some fr →
      memberKeys e (spreadField c fr) = fieldKeys c.s fr.sels) →
    (fieldsOfF c pfx sels).flatMap (readKeys (memberKeys e)) = expKeys c.s c.q sels
  | [], _, _ => by simp [fieldsOfF, expKeys]
  | x :: xs, R, hk => by
    rw [fieldsOfF_cons, List.flatMap_append,
      readKeys_fieldsOfF_of e c pfx xs R.tail (fun g fr hx => hk g fr (List.mem_cons_of_mem _ hx))]
    cases x with
    | field a fid sub =>
      obtain ⟨sf, ft, hsf, hf, _⟩ := R.field a fid sub (by simp)
      have hnf : (fieldOf c (a.getD sf.name) ft sf.ty.quals sf.deprecation).flatten = false := rfl
      rw [fieldOfSelF_field, hf]
      simp [expKeys, hsf, readKeys, hnf, fieldOf_wire]
    | spread g =>
      obtain ⟨fr, hfr⟩ := R.spread g (by simp)
      simp [fieldOfSelF, hfr, expKeys, fragSels, readKeys, spreadField, ← hk g fr (by simp) hfr]
    | inline t sub => simp [fieldOfSelF, fieldOfSelV, expKeys]
    | typename => simp [fieldOfSelF, fieldOfSelV, expKeys]

/-! ## acceptance, exactly -/

theorem vSel_of_fSel_nonobj {s : Schema} {q : Query} {o : Options} {p : TypeId} {a : Option String} {fid : Nat}
    {sub : List Sel} {sf : StoredField} (h : fSel s q o p (.field a fid sub) = true) (hsf : s.fields[fid]? = some sf)
    (hno : ∀ i, sf.ty.id ≠ .object i) : vSel s o false (.field a fid sub) = true := by
  obtain ⟨sf', hsf', _, _, hk⟩ := fSel_kinds h
  obtain rfl : sf' = sf := Option.some.inj (hsf'.symm.trans hsf)
  rcases hk with ⟨i, _, hid, _⟩ | ⟨_, hv⟩
  · exact absurd hid (hno i)
  · exact hv

theorem conformsLooseF_not_lone {s : Schema} {q : Query} {o : Options} {b : Bool} {sels : List Sel}
    (h : ∀ g, sels ≠ [Sel.spread g]) (j : Json) :
    conformsLooseF s q o b sels j =
      (match j with
       | .obj kvs' => looseOwnF s q o b sels kvs' && looseMemF s q o sels kvs'
       | .arr xs => !sels.any isSpread && looseArrF s q o b sels xs
       | _ => false) := by
  unfold conformsLooseF
  split
  · rename_i g; exact absurd rfl (h g)
  · rfl

theorem looseMemF_nospread (s : Schema) (q : Query) (o : Options) (kvs : List (String × Json)) :
    ∀ (sels : List Sel), sels.any isSpread = false → looseMemF s q o sels kvs = true
  | [], _ => by simp [looseMemF]
  | x :: xs, h => by
    simp only [List.any_cons, Bool.or_eq_false_iff] at h
    have ih := looseMemF_nospread s q o kvs xs h.2
    cases x with
    | spread g => have := h.1; simp [isSpread] at this
    | field a fid sub => simpa [looseMemF] using ih
    | inline t sub => simpa [looseMemF] using ih
    | typename => simpa [looseMemF] using ih

section AccF
variable (e : Env) (c : Ctx)

def AccSelF (pfx : String) (x : Sel) : Prop :=
  ∀ p, fSel c.s c.q c.o p x = true → envSelF e c pfx x → keysOkF c.s c.q x = true → ∀ f, fieldOfSelV c pfx x = some f →
    ∀ b fd, 2 * depthF c.q x + 1 ≤ fd → ∀ v, okB (deFieldWith (dePath e b fd) f v) = looseFieldF c.s c.q c.o b x v

/-- a lone spread: the type alias of the fragment struct accepts what that struct accepts -/
theorem accAliasF (name : String) (p : TypeId) (g : Nat) (hok : fragOk c.s c.q c.o p g = true)
    (ha : AliasEnv e name (fragName c g)) (hf : FragEnv e c g) (b : Bool) (fd : Nat)
    (hfd : 2 * selsDepth (fragSels c.q g) + 3 ≤ fd) (j : Json) :
    okB (dePath e b fd name j) = conformsLooseV c.s c.o b (fragSels c.q g) j := by
  obtain ⟨fr, hfr, _, _, hv, _⟩ := fragOk_parts hok
  obtain ⟨hp, _, n, pub, hfind⟩ := ha
  unfold FragEnv at hf
  rw [hfr] at hf
  have hsels : fragSels c.q g = fr.sels := by simp [fragSels, hfr]
  have hname : fragName c g = fr.name := by simp [fragName, hfr]
  rw [hsels] at hfd ⊢
  rw [hname] at hfind
  obtain ⟨fd', rfl⟩ : ∃ k, fd = k + 1 := ⟨fd - 1, by omega⟩
  have : dePath e b (fd' + 1) name j = dePath e b fd' fr.name j := by
    rw [dePath]; simp only [dePrim_none hp, hfind, deTyWith]
  rw [this]
  exact structV_accepts_iff e c _ _ fr.sels false hv hf.2 hf.1 b fd' (by omega) j

end AccF


theorem fBody_lone {s : Schema} {q : Query} {o : Options} {p : TypeId} {g : Nat} :
    fBody s q o p [Sel.spread g] = fragOk s q o p g := rfl

/-- what the name of an object-level selection set resolves to: the alias of the fragment struct (lone spread) or
    the struct with the flattened members -/
def BodyEnv (e : Env) (c : Ctx) (name pfx : String) (sels : List Sel) : Prop :=
  match sels with
  | [.spread g] => AliasEnv e name (fragName c g) ∧ FragEnv e c g
  | _ => StructEnv e name (fieldsOfF c pfx sels) ∧ envSelsF e c pfx sels

/-! ## the specification side: a spread is an inline fragment with the fragment's type condition -/

mutual
  /-- GraphQL §6.4.3 CollectFields treats a fragment spread like an inline fragment with the fragment's type
      condition and selection set.  (Fragment bodies are taken as they are: the class has spread-free bodies.) -/
  def expandSel (q : Query) : Sel → Sel
    | .field a fid sub => .field a fid (expandSels q sub)
    | .inline t sub => .inline t (expandSels q sub)
    | .spread g => (match q.fragments[g]? with | some f => .inline f.on f.sels | none => .spread g)
    | .typename => .typename
  def expandSels (q : Query) : List Sel → List Sel
    | [] => []
    | x :: xs => expandSel q x :: expandSels q xs
end

theorem expandSels_append (q : Query) : ∀ (xs ys : List Sel), expandSels q (xs ++ ys) = expandSels q xs ++ expandSels q ys
  | [], ys => by simp [expandSels]
  | x :: xs, ys => by rw [List.cons_append, expandSels, expandSels, expandSels_append q xs ys, List.cons_append]

mutual
  theorem expandSel_noSpread (q : Query) : ∀ (x : Sel), noSpread x = true → expandSel q x = x
    | .field a fid sub => by intro h; rw [noSpread] at h; rw [expandSel, expandSels_noSpreads q sub h]
    | .inline t sub => by intro h; rw [noSpread] at h; rw [expandSel, expandSels_noSpreads q sub h]
    | .spread g => by intro h; simp [noSpread] at h
    | .typename => by intro _; rfl
  theorem expandSels_noSpreads (q : Query) : ∀ (sels : List Sel), noSpreads sels = true → expandSels q sels = sels
    | [] => by intro _; rfl
    | x :: xs => by
      intro h
      rw [noSpreads, Bool.and_eq_true] at h
      rw [expandSels, expandSel_noSpread q x h.1, expandSels_noSpreads q xs h.2]
end

/-- a conforming response object of a lone spread is one of the fragment's body -/
theorem conformsV_lone (s : Schema) (q : Query) (i g : Nat) (fr : RFragment) (hfr : q.fragments[g]? = some fr)
    (hon : fr.on = .object i) (j : Json) (hc : conformsV s i (expandSels q [Sel.spread g]) j = true) :
    conformsV s i fr.sels j = true := by
  obtain ⟨kvs, rfl, -, -⟩ := conformsV_obj hc
  simp only [expandSels, expandSel, hfr, conformsV, keysSelsV, keysSelV, hon, fragApplies, beq_self_eq_true,
    ↓reduceIte, List.append_nil, confSelsV, confSelV, Bool.not_true, Bool.false_or, Bool.and_true] at hc ⊢
  exact hc

end E2E
end C01
end GqlVerif
