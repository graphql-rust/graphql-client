import GqlVerif.Proofs.C01AliasFragI
import GqlVerif.Proofs.C01MixedSchema
import GqlVerif.Proofs.C01VariantSpreadEval
import GqlVerif.Proofs.SpecEval
/-!
# `AliasFragOp`: generated modules with a type-alias fragment that is itself spread

`fragment Inner on Dog { barks }  fragment Mid on Dog { ...Inner }  fragment Outer on Dog { name ...Mid }`
`query Q { dog { __typename ...Outer } }` (`af`): the module has `type Mid = Inner;` and
`struct Outer { name, #[serde(flatten)] Mid: Mid }` — a flattened member whose type is an alias of a struct.  In
`AliasFragOp`, not in `NestedOp`.  Also: two alias hops (`af2`: `Mid2 = Mid = Inner`, `Outer { name ...Mid2 }`), and an alias
chain at a non-flattened position (`af3`: `query Q { dog { ...Mid } }`, `Qdog = Mid = Inner`).
-/
set_option linter.unusedSimpArgs false
set_option linter.unusedTactic false

namespace GqlVerif
namespace C01AF
open Serde Spec C13 C03 Codegen C01 C01.E2E C01M C01N

def afOp (dog : List Sel) : ROperation :=
  { name := "Q", kind := .query, objectId := 0, sels := [.field none 0 dog] }

/-- `Inner { barks }`, `Mid { ...Inner }`, `Outer { name ...Mid }`, `Mid2 { ...Mid }`, `Outer2 { name ...Mid2 }` -/
def afQuery (dog : List Sel) : Query :=
  { operations := [afOp dog]
    fragments := [{ name := "Inner", on := .object 1, sels := [.field none 3 []] },
                  { name := "Mid", on := .object 1, sels := [.spread 0] },
                  { name := "Outer", on := .object 1, sels := [.field none 2 [], .spread 1] },
                  { name := "Mid2", on := .object 1, sels := [.spread 1] },
                  { name := "Outer2", on := .object 1, sels := [.field none 2 [], .spread 3] }] }

def afCtx (dog : List Sel) : Ctx := { s := mxSchema, q := afQuery dog, o := {}, cs := ⟨id, id⟩ }

/-- `dog { __typename ...Outer }` -/
def afDog : List Sel := [.typename, .spread 2]
/-- `dog { __typename ...Outer2 }` (two alias hops) -/
def af2Dog : List Sel := [.typename, .spread 4]
/-- `dog { ...Mid }` (`Qdog = Mid = Inner`) -/
def af3Dog : List Sel := [.spread 1]

def afItems : List Item := okOr (responseForQuery (afCtx afDog) 0)
def af2Items : List Item := okOr (responseForQuery (afCtx af2Dog) 0)
def af3Items : List Item := okOr (responseForQuery (afCtx af3Dog) 0)

theorem af_gen : responseForQuery (afCtx afDog) 0 = .ok afItems := gen_of_isOk (by decide +kernel)
theorem af2_gen : responseForQuery (afCtx af2Dog) 0 = .ok af2Items := gen_of_isOk (by decide +kernel)
theorem af3_gen : responseForQuery (afCtx af3Dog) 0 = .ok af3Items := gen_of_isOk (by decide +kernel)

theorem af_class : AliasFragOp (afCtx afDog) (afOp afDog) = true := by decide +kernel
theorem af2_class : AliasFragOp (afCtx af2Dog) (afOp af2Dog) = true := by decide +kernel
theorem af3_class : AliasFragOp (afCtx af3Dog) (afOp af3Dog) = true := by decide +kernel
/-- the operations are not in `NestedOp` -/
theorem af_not_N : NestedOp (afCtx afDog) (afOp afDog) = false := by decide +kernel
theorem af2_not_N : NestedOp (afCtx af2Dog) (afOp af2Dog) = false := by decide +kernel
theorem af3_not_N : NestedOp (afCtx af3Dog) (afOp af3Dog) = false := by decide +kernel

theorem af_names : fragNamesOk (afCtx afDog) = true := by decide +kernel
theorem af2_names : fragNamesOk (afCtx af2Dog) = true := by decide +kernel
theorem af3_names : fragNamesOk (afCtx af3Dog) = true := by decide +kernel
theorem af_keys : aliasKeysOk (afCtx afDog) (afOp afDog) = true := by decide +kernel
theorem af2_keys : aliasKeysOk (afCtx af2Dog) (afOp af2Dog) = true := by decide +kernel
theorem af3_keys : aliasKeysOk (afCtx af3Dog) (afOp af3Dog) = true := by decide +kernel
theorem af_rust : aliasRustOk (afCtx afDog) (afOp afDog) = true := by decide +kernel
theorem af2_rust : aliasRustOk (afCtx af2Dog) (afOp af2Dog) = true := by decide +kernel
theorem af3_rust : aliasRustOk (afCtx af3Dog) (afOp af3Dog) = true := by decide +kernel
theorem af_ok : moduleOk (afCtx afDog) afItems = true := by decide +kernel
theorem af2_ok : moduleOk (afCtx af2Dog) af2Items = true := by decide +kernel
theorem af3_ok : moduleOk (afCtx af3Dog) af3Items = true := by decide +kernel

/-- the emitted types: `Mid` is the alias of `Inner`; `Outer` is a struct with the own field `name` and the flattened
    member `Mid` **of the alias type `Mid`**; `Qdog` is a struct with the flattened member `Outer` -/
theorem af_items_shape :
    ((moduleEnv (afCtx afDog) afItems).find "Mid" == some (.alias "Mid" true (.path "Inner"))) &&
    ((moduleEnv (afCtx afDog) afItems).find "Outer" ==
      some (.struct "Outer" ["Deserialize"] (some "::serde")
        [{ rust := "name", ty := .path "String" },
         { rust := "Mid", ty := .path "Mid", flatten := true }])) &&
    ((moduleEnv (afCtx afDog) afItems).find "Qdog" ==
      some (.struct "Qdog" ["Deserialize"] (some "::serde")
        [{ rust := "Outer", ty := .path "Outer", flatten := true }])) &&
    ((moduleEnv (afCtx af2Dog) af2Items).find "Mid2" == some (.alias "Mid2" true (.path "Mid"))) &&
    ((moduleEnv (afCtx af2Dog) af2Items).find "Outer2" ==
      some (.struct "Outer2" ["Deserialize"] (some "::serde")
        [{ rust := "name", ty := .path "String" },
         { rust := "Mid2", ty := .path "Mid2", flatten := true }])) &&
    ((moduleEnv (afCtx af3Dog) af3Items).find "Qdog" == some (.alias "Qdog" true (.path "Mid"))) = true := by
  decide +kernel

/-- C03 on the modules: what `ResponseData` accepts, exactly -/
theorem af_precise (j : Json) :
    okB (Serde.de (moduleEnv (afCtx afDog) afItems) (.path "ResponseData") j) =
      conformsLooseN (wholeA (afCtx afDog) 5) mxSchema (afQuery afDog) {} false (afOp afDog).sels j :=
  aliasfrag_precise_iff (afCtx afDog) 0 (afOp afDog) afItems rfl af_class af_names af_keys af_gen af_ok j

theorem af2_precise (j : Json) :
    okB (Serde.de (moduleEnv (afCtx af2Dog) af2Items) (.path "ResponseData") j) =
      conformsLooseN (wholeA (afCtx af2Dog) 5) mxSchema (afQuery af2Dog) {} false (afOp af2Dog).sels j :=
  aliasfrag_precise_iff (afCtx af2Dog) 0 (afOp af2Dog) af2Items rfl af2_class af2_names af2_keys af2_gen af2_ok j

def afJson : Json :=
  .obj [("dog", .obj [("__typename", .str "Dog"), ("name", .str "Rex"), ("barks", .bool true)])]
def af3Json : Json := .obj [("dog", .obj [("barks", .bool true)])]

theorem af_conforms : conformsOpN (afCtx afDog) (afOp afDog) afJson = true := by
  rw [conformsOpN, conformsV_eq_K]
  decide +kernel
theorem af2_conforms : conformsOpN (afCtx af2Dog) (afOp af2Dog) afJson = true := by
  rw [conformsOpN, conformsV_eq_K]
  decide +kernel
theorem af3_conforms : conformsOpN (afCtx af3Dog) (afOp af3Dog) af3Json = true := by
  rw [conformsOpN, conformsV_eq_K]
  decide +kernel

theorem af_accepts :
    ∃ v, Serde.de (moduleEnv (afCtx afDog) afItems) (.path "ResponseData") afJson = .ok v :=
  aliasfrag_accepts (afCtx afDog) 0 (afOp afDog) afItems rfl af_class af_names af_keys af_gen af_ok afJson af_conforms

/-! ## concrete round trips -/

abbrev A1 : Ctx := afCtx afDog
abbrev A2 : Ctx := afCtx af2Dog
abbrev A3 : Ctx := afCtx af3Dog

/-- `Mid` (fragment 1) is new at rank `1` (its body is the lone spread of the spread-free `Inner`), `Outer` (fragment 2)
    at rank `2`, `Mid2` (3) at rank `2`, `Outer2` (4) at rank `3` -/
abbrev afRanks (c : Ctx) : Prop :=
    fragOkA c.s c.q c.o 0 (fragOn c.q 1) 1 = false ∧ fragOkA c.s c.q c.o 1 (fragOn c.q 1) 1 = true ∧
    fragOkA c.s c.q c.o 1 (fragOn c.q 2) 2 = false ∧ fragOkA c.s c.q c.o 2 (fragOn c.q 2) 2 = true ∧
    fragOkA c.s c.q c.o 1 (fragOn c.q 3) 3 = false ∧ fragOkA c.s c.q c.o 2 (fragOn c.q 3) 3 = true ∧
    fragOkA c.s c.q c.o 2 (fragOn c.q 4) 4 = false ∧ fragOkA c.s c.q c.o 3 (fragOn c.q 4) 4 = true

theorem af_ranks : afRanks A1 := by decide +kernel
theorem af2_ranks : afRanks A2 := by decide +kernel
theorem af3_ranks : afRanks A3 := by decide +kernel

/-- the entries a fragment's type writes: `Outer` its own entry `name`, then the entries of the alias `Mid` — those of
    `Inner` -/
theorem af_cent (dog : List Sel) (hr : afRanks (afCtx dog)) (kvs : List (String × Json)) :
    (centA (afCtx dog) 5 2 kvs = canonEntriesN (centA (afCtx dog) 1) mxSchema (afQuery dog) false
        (fragSels (afQuery dog) 2) kvs) ∧
    (centA (afCtx dog) 1 1 kvs = canonEntriesN (centA (afCtx dog) 0) mxSchema (afQuery dog) false
        (fragSels (afQuery dog) 1) kvs) ∧
    (centA (afCtx dog) 0 0 kvs = canonEntriesV mxSchema false (fragSels (afQuery dog) 0) kvs) ∧
    (centA (afCtx dog) 5 4 kvs = canonEntriesN (centA (afCtx dog) 2) mxSchema (afQuery dog) false
        (fragSels (afQuery dog) 4) kvs) ∧
    (centA (afCtx dog) 2 3 kvs = canonEntriesN (centA (afCtx dog) 1) mxSchema (afQuery dog) false
        (fragSels (afQuery dog) 3) kvs) ∧
    (centA (afCtx dog) 5 1 kvs = centA (afCtx dog) 1 1 kvs) := by
  obtain ⟨m0, m1, o1, o2, n1, n2, p2, p3⟩ := hr
  refine ⟨?_, ?_, ?_, ?_, ?_, ?_⟩
  · rw [centA_of_le (afCtx dog) (r0 := 2) (by exact o2) 5 (by omega), centA,
      if_neg (by rw [o1]; simp)]; rfl
  · rw [centA, if_neg (by rw [m0]; simp)]; rfl
  · rw [centA]; rfl
  · rw [centA_of_le (afCtx dog) (r0 := 3) (by exact p3) 5 (by omega), centA,
      if_neg (by rw [p2]; simp)]; rfl
  · rw [centA, if_neg (by rw [n1]; simp)]; rfl
  · exact centA_of_le (afCtx dog) (r0 := 1) (by exact m1) 5 (by omega) kvs

set_option maxRecDepth 8000 in
/-- the canonical form of the payload: the own entry `name` of `Outer`, then the entry `barks` that comes through the alias
    `Mid` from `Inner` (`__typename` is not read at an object position, and not written back) -/
theorem af_canon_abs (dog : List Sel) (g2 g1 : Nat) (cent cent1 cent0 : Nat → List (String × Json) → List (String × Json))
    (hdog : dog = [.typename, .spread g2])
    (h2 : ∀ kvs, cent g2 kvs = canonEntriesN cent1 mxSchema (afQuery dog) false [.field none 2 [], .spread g1] kvs)
    (h1 : ∀ kvs, cent1 g1 kvs = cent0 0 kvs)
    (h0 : ∀ kvs, cent0 0 kvs = canonEntriesV mxSchema false (fragSels (afQuery dog) 0) kvs) :
    normJson (canonSelN cent mxSchema (afQuery dog) false (afOp dog).sels afJson) =
      .obj [("dog", .obj [("name", .str "Rex"), ("barks", .bool true)])] := by
  subst hdog
  simp only [afJson] at h0 h1 h2 ⊢
  simp only [canonSelN, canonEntriesN, canonFieldN, cwhole, afOp, h2]
  simp [canonSelN, canonEntriesN, canonFieldN, cwhole, h1, h0, afCtx,
    canonSelM, canonEntriesM, canonFieldM, canonSelV, canonSelD, canonEntriesD, canonFieldD, loneG, canonEntriesBD,
    canonVarD, onNamed, absEntries, absRest, hasStruct, isBSpread, isFieldSel, canonAbsV, canonEntriesV, canonFieldV,
    canonInlV, tagName, fragSels, afOp, afQuery, mxSchema, objName, rtName, fieldKeys, fieldKey, Json.lookup, canon, canonNN,
    gtyOf, Json.isNull, skipQ, normJson, normKvs, normList, Json.normObj, Json.insert]

theorem af_canon : normJson (canonSelN (centA A1 5) mxSchema (afQuery afDog) false (afOp afDog).sels afJson) =
    .obj [("dog", .obj [("name", .str "Rex"), ("barks", .bool true)])] :=
  af_canon_abs afDog 2 1 (centA A1 5) (centA A1 1) (centA A1 0) rfl (fun kvs => (af_cent afDog af_ranks kvs).1)
    (fun kvs => by rw [(af_cent afDog af_ranks kvs).2.1]; simp [canonEntriesN, fragSels, afQuery])
    (fun kvs => (af_cent afDog af_ranks kvs).2.2.1)

theorem af2_canon : normJson (canonSelN (centA A2 5) mxSchema (afQuery af2Dog) false (afOp af2Dog).sels afJson) =
    .obj [("dog", .obj [("name", .str "Rex"), ("barks", .bool true)])] :=
  af_canon_abs af2Dog 4 3 (centA A2 5) (centA A2 2) (centA A2 0) rfl (fun kvs => (af_cent af2Dog af2_ranks kvs).2.2.2.1)
    (fun kvs => by
      rw [(af_cent af2Dog af2_ranks kvs).2.2.2.2.1]
      have : canonEntriesN (centA (afCtx af2Dog) 1) mxSchema (afQuery af2Dog) false (fragSels (afQuery af2Dog) 3) kvs =
          centA (afCtx af2Dog) 1 1 kvs := by simp [canonEntriesN, fragSels, afQuery]
      rw [this, (af_cent af2Dog af2_ranks kvs).2.1]; simp [canonEntriesN, fragSels, afQuery])
    (fun kvs => (af_cent af2Dog af2_ranks kvs).2.2.1)

set_option maxRecDepth 8000 in
theorem af3_canon_abs (cent : Nat → List (String × Json) → List (String × Json))
    (h : ∀ kvs, cent 1 kvs = canonEntriesV mxSchema false (fragSels (afQuery af3Dog) 0) kvs) :
    normJson (canonSelN cent mxSchema (afQuery af3Dog) false (afOp af3Dog).sels af3Json) =
      .obj [("dog", .obj [("barks", .bool true)])] := by
  simp only [af3Dog, af3Json] at h ⊢
  simp only [canonSelN, canonEntriesN, canonFieldN, cwhole, afOp]
  simp [canonSelN, canonEntriesN, canonFieldN, cwhole, h, afCtx,
    canonSelM, canonEntriesM, canonFieldM, canonSelV, canonSelD, canonEntriesD, canonFieldD, loneG, canonEntriesBD,
    canonVarD, onNamed, absEntries, absRest, hasStruct, isBSpread, isFieldSel, canonAbsV, canonEntriesV, canonFieldV,
    canonInlV, tagName, fragSels, afOp, afQuery, mxSchema, objName, rtName, fieldKeys, fieldKey, Json.lookup, canon, canonNN,
    gtyOf, Json.isNull, skipQ, normJson, normKvs, normList, Json.normObj, Json.insert]

theorem af3_canon : normJson (canonSelN (centA A3 5) mxSchema (afQuery af3Dog) false (afOp af3Dog).sels af3Json) =
    .obj [("dog", .obj [("barks", .bool true)])] :=
  af3_canon_abs (centA A3 5) (fun kvs => by
    rw [(af_cent af3Dog af3_ranks kvs).2.2.2.2.2, (af_cent af3Dog af3_ranks kvs).2.1]
    have : canonEntriesN (centA (afCtx af3Dog) 0) mxSchema (afQuery af3Dog) false (fragSels (afQuery af3Dog) 1) kvs =
        centA (afCtx af3Dog) 0 0 kvs := by simp [canonEntriesN, fragSels, afQuery]
    rw [this, (af_cent af3Dog af3_ranks kvs).2.2.1])

/-- **`aliasfrag_roundtrip` on the generated module** (`struct Outer { name, #[serde(flatten)] Mid: Mid }`,
    `type Mid = Inner;`): the payload is accepted and written back -/
theorem af_roundtrip :
    Serde.roundtrip (moduleEnv (afCtx afDog) afItems) (.path "ResponseData") afJson =
      .ok (.obj [("dog", .obj [("name", .str "Rex"), ("barks", .bool true)])]) := by
  rw [aliasfrag_roundtrip (afCtx afDog) 0 (afOp afDog) afItems rfl af_class af_names af_keys af_rust af_gen af_ok
    afJson af_conforms]
  exact congrArg Except.ok af_canon

/-- … with two alias hops (`type Mid2 = Mid; type Mid = Inner;`, the flattened member `Mid2: Mid2`) -/
theorem af2_roundtrip :
    Serde.roundtrip (moduleEnv (afCtx af2Dog) af2Items) (.path "ResponseData") afJson =
      .ok (.obj [("dog", .obj [("name", .str "Rex"), ("barks", .bool true)])]) := by
  rw [aliasfrag_roundtrip (afCtx af2Dog) 0 (afOp af2Dog) af2Items rfl af2_class af2_names af2_keys af2_rust af2_gen af2_ok
    afJson af2_conforms]
  exact congrArg Except.ok af2_canon

/-- … and an alias chain at a non-flattened position (`type Qdog = Mid; type Mid = Inner;`) -/
theorem af3_roundtrip :
    Serde.roundtrip (moduleEnv (afCtx af3Dog) af3Items) (.path "ResponseData") af3Json =
      .ok (.obj [("dog", .obj [("barks", .bool true)])]) := by
  rw [aliasfrag_roundtrip (afCtx af3Dog) 0 (afOp af3Dog) af3Items rfl af3_class af3_names af3_keys af3_rust af3_gen af3_ok
    af3Json af3_conforms]
  exact congrArg Except.ok af3_canon

/-! ## the side conditions are needed (witnesses through an alias hop) -/

def kOpA : ROperation := { name := "Q", kind := .query, objectId := 0, sels := [.field none 0 [.spread 2]] }
/-- `fragment Inner on Dog { name }  fragment Mid on Dog { ...Inner }  fragment Outer on Dog { name ...Mid }`
    `query Q { dog { ...Outer } }` -/
def kQueryA : Query :=
  { operations := [kOpA]
    fragments := [{ name := "Inner", on := .object 1, sels := [.field none 2 []] },
                  { name := "Mid", on := .object 1, sels := [.spread 0] },
                  { name := "Outer", on := .object 1, sels := [.field none 2 [], .spread 1] }] }
def kCtxA : Ctx := { s := mxSchema, q := kQueryA, o := {}, cs := ⟨id, id⟩ }
def kItemsA : List Item := okOr (responseForQuery kCtxA 0)
def kJsonA : Json := .obj [("dog", .obj [("name", .str "Rex")])]

theorem kA_conforms : conformsOpN kCtxA kOpA kJsonA = true := by
  rw [conformsOpN, conformsV_eq_K]
  decide +kernel

/-- **`aliasKeysOk` is needed**: the fragment `Outer` selects `name`, and so does `Inner`, which `Outer` reaches through the
    type alias `Mid`; the operation is in `AliasFragOp`, every other hypothesis of `aliasfrag_accepts` holds, the response
    conforms — and is rejected (`missing field name`: the struct `Outer` took the entry, its flattened member of the alias
    type `Mid` does not see it any more) -/
theorem aliasfrag_keys_needed :
    AliasFragOp kCtxA kOpA = true ∧ aliasKeysOk kCtxA kOpA = false ∧ fragNamesOk kCtxA = true ∧
    aliasRustOk kCtxA kOpA = true ∧ AcyclicM.spreadCheck kCtxA.q = true ∧
    responseForQuery kCtxA 0 = .ok kItemsA ∧ moduleOk kCtxA kItemsA = true ∧ conformsOpN kCtxA kOpA kJsonA = true ∧
    okB (Serde.de (moduleEnv kCtxA kItemsA) (.path "ResponseData") kJsonA) = false :=
  have h : (AliasFragOp kCtxA kOpA = true ∧ aliasKeysOk kCtxA kOpA = false ∧ fragNamesOk kCtxA = true ∧
      aliasRustOk kCtxA kOpA = true ∧ AcyclicM.spreadCheck kCtxA.q = true) ∧ isOkO (responseForQuery kCtxA 0) = true ∧
      moduleOk kCtxA kItemsA = true ∧
      okB (Serde.de (moduleEnv kCtxA kItemsA) (.path "ResponseData") kJsonA) = false := by decide +kernel
  ⟨h.1.1, h.1.2.1, h.1.2.2.1, h.1.2.2.2.1, h.1.2.2.2.2, gen_of_isOk h.2.1, h.2.2.1, kA_conforms, h.2.2.2⟩

def rOpA : ROperation := { name := "Q", kind := .query, objectId := 0, sels := [.field none 0 [.spread 2]] }
/-- `fragment Inner on Dog { barks }  fragment Mid on Dog { ...Inner }  fragment Outer on Dog { Mid: name ...Mid }`
    `query Q { dog { ...Outer } }` -/
def rQueryA : Query :=
  { operations := [rOpA]
    fragments := [{ name := "Inner", on := .object 1, sels := [.field none 3 []] },
                  { name := "Mid", on := .object 1, sels := [.spread 0] },
                  { name := "Outer", on := .object 1, sels := [.field (some "Mid") 2 [], .spread 1] }] }
def rCtxA : Ctx := { s := mxSchema, q := rQueryA, o := {}, cs := ⟨id, id⟩ }
def rItemsA : List Item := okOr (responseForQuery rCtxA 0)
def rJsonA : Json := .obj [("dog", .obj [("Mid", .str "Rex"), ("barks", .bool true)])]

theorem rA_conforms : conformsOpN rCtxA rOpA rJsonA = true := by
  rw [conformsOpN, conformsV_eq_K]
  decide +kernel

/-- **`aliasRustOk` is needed**: the own field of `Outer` with the alias `Mid` and the flattened member for `...Mid` (of the
    alias type `Mid`) get the same Rust name; every other hypothesis of `aliasfrag_roundtrip` holds, the response conforms —
    and the round trip fails (rustc would reject the struct) -/
theorem aliasfrag_rust_needed :
    AliasFragOp rCtxA rOpA = true ∧ aliasKeysOk rCtxA rOpA = true ∧ fragNamesOk rCtxA = true ∧
    aliasRustOk rCtxA rOpA = false ∧ AcyclicM.spreadCheck rCtxA.q = true ∧
    responseForQuery rCtxA 0 = .ok rItemsA ∧ moduleOk rCtxA rItemsA = true ∧ conformsOpN rCtxA rOpA rJsonA = true ∧
    okB (Serde.roundtrip (moduleEnv rCtxA rItemsA) (.path "ResponseData") rJsonA) = false :=
  have h : (AliasFragOp rCtxA rOpA = true ∧ aliasKeysOk rCtxA rOpA = true ∧ fragNamesOk rCtxA = true ∧
      aliasRustOk rCtxA rOpA = false ∧ AcyclicM.spreadCheck rCtxA.q = true) ∧ isOkO (responseForQuery rCtxA 0) = true ∧
      moduleOk rCtxA rItemsA = true ∧
      okB (Serde.roundtrip (moduleEnv rCtxA rItemsA) (.path "ResponseData") rJsonA) = false := by decide +kernel
  ⟨h.1.1, h.1.2.1, h.1.2.2.1, h.1.2.2.2.1, h.1.2.2.2.2, gen_of_isOk h.2.1, h.2.2.1, rA_conforms, h.2.2.2⟩

/-- an alias cycle is outside the class: `fragment A on Dog { ...B }  fragment B on Dog { ...A }  query Q { dog { ...A } }` -/
def cyOp : ROperation := { name := "Q", kind := .query, objectId := 0, sels := [.field none 0 [.spread 0]] }
def cyQuery : Query :=
  { operations := [cyOp]
    fragments := [{ name := "A", on := .object 1, sels := [.spread 1] },
                  { name := "B", on := .object 1, sels := [.spread 0] }] }
def cyCtx : Ctx := { s := mxSchema, q := cyQuery, o := {}, cs := ⟨id, id⟩ }
theorem alias_cycle_not_in_class : AliasFragOp cyCtx cyOp = false := by decide +kernel

end C01AF
end GqlVerif
