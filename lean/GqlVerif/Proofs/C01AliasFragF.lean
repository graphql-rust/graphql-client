import GqlVerif.Proofs.C01AliasFragE
import GqlVerif.Proofs.C01NestedF
/-!
# `AliasFragOp`: the specification side; `aliasfrag_accepts`

The specification is the one of `C01NestedF`: `conformsOpN c op j` — `conformsV` on the root selection set with every spread
read as the inline fragment `... on T { body }`, recursively (`exN`, `c.q.fragments.length` levels deep: an alias hop
`fragment A on T { ...B }` is one level).

`specA`, by induction on the rank: a response that conforms to the expanded fragment is accepted by the fragment's type
(lone-spread body: the inline fragment `... on T { ... on T { body of the target } }`); **`aliasfrag_accepts`**: every
conforming response is accepted by the emitted `ResponseData`.
-/

namespace GqlVerif
namespace C01AF
open Serde Spec C13 C03 Codegen C01 C01.E2E C01M C01N

/-- an inline fragment whose type condition is the runtime type is transparent for `conformsV` -/
theorem conformsV_inline_self (s : Schema) (i : Nat) (sub : List Sel) (j : Json) :
    conformsV s i [.inline (.object i) sub] j = conformsV s i sub j := by
  cases j with
  | obj kvs =>
    simp only [conformsV, keysSelsV, keysSelV, fragApplies, beq_self_eq_true,
      ↓reduceIte, List.append_nil, confSelsV, confSelV, Bool.not_true, Bool.false_or, Bool.and_true]
  | null => rfl
  | bool _ => rfl
  | int _ => rfl
  | num _ => rfl
  | str _ => rfl
  | arr _ => rfl

/-- **a response conforming to the expanded fragment is accepted by the fragment's type** (by induction on the rank) -/
theorem specA (c : Ctx) : ∀ (r i g : Nat), fragOkA c.s c.q c.o r (.object i) g = true → ∀ r', r ≤ r' →
    (∀ kvs, (∀ k, countKey k kvs ≤ 1) → confSelV c.s i (exN c.q r' g) kvs = true →
      wholeA c r g true (.obj kvs) = true) ∧
    (∀ b j, conformsV c.s i [exN c.q r' g] j = true → wholeA c r g b j = true)
  | 0, i, g => by
    intro h r' hr'
    rw [fragOkA] at h
    rw [wholeA_zero]
    exact specN c 0 i g (by rw [fragOkN]; exact h) r' hr'
  | r + 1, i, g => by
    intro h r' hr'
    have IH := specA c r
    by_cases hold : fragOkA c.s c.q c.o r (.object i) g = true
    · obtain ⟨fr, hfr, hon, _, _⟩ := fragOkA_spec c.s c.q c.o r _ g hold
      have hfon : fragOn c.q g = .object i := by simp [fragOn, hfr, hon]
      have hw : ∀ b j, wholeA c (r + 1) g b j = wholeA c r g b j := by
        intro b j; rw [wholeA, hfon, if_pos hold]
      obtain ⟨h1, h2⟩ := IH i g hold r' (by omega)
      exact ⟨fun kvs hc hh => by rw [hw]; exact h1 kvs hc hh, fun b j hh => by rw [hw]; exact h2 b j hh⟩
    · have holdf : fragOkA c.s c.q c.o r (.object i) g = false := by simpa using hold
      rw [fragOkA, holdf, Bool.false_or] at h
      obtain ⟨fr, hfr, hon, _, _, hb⟩ := fragNewA_parts h
      have hfon : fragOn c.q g = .object i := by simp [fragOn, hfr, hon]
      have hsels : fragSels c.q g = fr.sels := by simp [fragSels, hfr]
      have hw : ∀ b j, wholeA c (r + 1) g b j = conformsLooseN (wholeA c r) c.s c.q c.o b fr.sels j := by
        intro b j; rw [wholeA, hfon, if_neg hold, hsels]
      obtain ⟨r'', rfl⟩ : ∃ k, r' = k + 1 := ⟨r' - 1, by omega⟩
      have hex : exN c.q (r'' + 1) g = .inline (.object i) (expandSelsW (exN c.q r'') fr.sels) := by
        simp [exN, hfr, hon]
      rw [hon] at hb
      have hexA : ∀ g', FragOkAny c.s c.q c.o g' → exN c.q r'' g' = expandSel c.q (.spread g') :=
        fun g' hg' => exN_fragOkAny hg' r''
      have hmem := fun i' g' (hg' : fragOkA c.s c.q c.o r (.object i') g' = true) => (IH i' g' hg' r'' (by omega)).1
      have hali := fun i' g' (hg' : fragOkA c.s c.q c.o r (.object i') g' = true) => (IH i' g' hg' r'' (by omega)).2
      rw [hex]
      rcases lone_or_not fr.sels with hsp | hnl
      · -- a lone spread: the type alias accepts what its target accepts
        obtain ⟨g', hg'⟩ := hsp
        rw [hg'] at hb hw
        have hokg' : fragOkA c.s c.q c.o r (.object i) g' = true := hb
        have hw' : ∀ b j, wholeA c (r + 1) g b j = wholeA c r g' b j := by intro b j; rw [hw]; rfl
        have hexp : expandSelsW (exN c.q r'') fr.sels = [exN c.q r'' g'] := by
          rw [hg']; simp [expandSelsW, expandSelW]
        rw [hexp]
        refine ⟨fun kvs hc h1 => ?_, fun b j hc => ?_⟩
        · rw [hw']
          simp only [confSelV, fragApplies, beq_self_eq_true, Bool.not_true, Bool.false_or, confSelsV,
            Bool.and_true] at h1
          exact hmem i g' hokg' kvs hc h1
        · rw [hw']
          rw [conformsV_inline_self] at hc
          exact hali i g' hokg' b j hc
      · rw [nBody_not_lone hnl] at hb
        have key : ∀ b kvs, (∀ k, countKey k kvs ≤ 1) → confSelsV c.s i (expandSelsW (exN c.q r'') fr.sels) kvs = true →
            conformsLooseN (wholeA c r) c.s c.q c.o b fr.sels (.obj kvs) = true := by
          intro b kvs hc hh
          rw [conformsLooseN_not_lone hnl]
          simp only [Bool.and_eq_true]
          exact ⟨slOwnN c.s c.q c.o _ (wholeA c r) (exN c.q r'') fr.sels _ b i kvs hexA hmem hali hb hc hh,
            slMemN c.s c.q c.o _ (wholeA c r) (exN c.q r'') hmem i kvs hc fr.sels hb hh⟩
        refine ⟨fun kvs hc h1 => ?_, fun b j hc => ?_⟩
        · simp only [confSelV, fragApplies, beq_self_eq_true, Bool.not_true, Bool.false_or] at h1
          rw [hw]
          exact key true kvs hc h1
        · rw [hw]
          rw [conformsV_inline_self] at hc
          obtain ⟨kvs, rfl, hnd, hconf⟩ := conformsV_obj hc
          exact key b kvs (countKey_le_one_of_nodup hnd) hconf

theorem conformsOpA_loose (c : Ctx) (op : ROperation) (ht : AliasFragOp c op = true) (b : Bool) (j : Json)
    (h : conformsOpN c op j = true) :
    conformsLooseN (wholeA c c.q.fragments.length) c.s c.q c.o b op.sels j = true := by
  obtain ⟨_, _, hsels⟩ := aliasFragOp_parts ht
  exact conformsN_loose c.s c.q c.o _ (wholeA c c.q.fragments.length) (exN c.q c.q.fragments.length)
    (fun g hg => exN_fragOkAny hg _)
    (fun i g hg => (specA c _ i g hg _ (Nat.le_refl _)).1)
    (fun i g hg => (specA c _ i g hg _ (Nat.le_refl _)).2) b op.objectId op.sels j hsels h

/-- **`aliasfrag_accepts`.**  Every conforming response is accepted by the emitted `ResponseData`. -/
theorem aliasfrag_accepts (c : Ctx) (opIdx : Nat) (op : ROperation) (items : List Item)
    (hop : c.q.operations[opIdx]? = some op) (ht : AliasFragOp c op = true) (hnd : fragNamesOk c = true)
    (hk : aliasKeysOk c op = true)
    (hgen : responseForQuery c opIdx = .ok items) (hok : moduleOk c items = true)
    (j : Json) (hc : conformsOpN c op j = true) :
    ∃ v, Serde.de (moduleEnv c items) (.path "ResponseData") j = .ok v := by
  exact Top.accepts_of_iff (aliasfrag_precise_iff c opIdx op items hop ht hnd hk hgen hok j)
    (conformsOpA_loose c op ht false j hc)

end C01AF
end GqlVerif
