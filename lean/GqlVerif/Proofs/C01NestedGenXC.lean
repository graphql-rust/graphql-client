import GqlVerif.Proofs.C01NestedGenXA
/-!
# `NestedGen2Op`: the acceptance predicate, the environment, the key condition

* `looseTagX` / `looseAbsX`: what the type(s) emitted at a field of abstract type of the general kind accept, exactly;
  `looseFieldA` / `looseOwnA` / `looseArrA`, `conformsLooseA`: the same for an object-level selection set of the class;
* `EnvAbsX`, `envSelA` / `envSelsA`: what the theorems need of the environment; `keysOkA`: `keysOkN`, and at a position of the
  general kind the keys read through one possible type pairwise distinct;
* `AccSelA`: the statement of exact acceptance for one selection (`accSelA`, in `C01NestedGenXE` from the class above).
-/

namespace GqlVerif
namespace C01NX
open Serde Spec C13 C03 Codegen C01 C01.E2E C01M C01N C01NA C01NG

/-! ## the exact acceptance predicate -/

/-- what a selection on the variant contributes to the variant struct, as selections on the possible type -/
def varPartS : Sel → List Sel
  | .spread g => [.spread g]
  | .inline t isub => if isBody (.inline t isub) then isub else []
  | _ => []

/-- the variant struct of `vt` as an object-level selection set on `vt`: the fields of the inline fragments with fields and
    the direct spreads in selection order, then the aliased fragments -/
def varSelsOf (ms : List Sel) : List Sel := ms.flatMap varPartS ++ (ms.filterMap aliasInl).map Sel.spread

def varSels (q : Query) (vt : TypeId) (sub : List Sel) : List Sel := varSelsOf (mineOf q vt sub)

/-- what the variant of the possible type `vt` accepts (of the other entries): with an inline fragment with fields on `vt` the
    struct of those fields and the flattened members; otherwise as in `NestedAbsOp` (`payA`) -/
def payX (whole : Nat → Bool → Json → Bool) (s : Schema) (q : Query) (o : Options) (sub : List Sel) (vt : TypeId)
    (rest : List (String × Json)) : Bool :=
  if (mineOf q vt sub).any isBody then
    looseSelsS s q o true (C01NG.ownSels (varSels q vt sub)) rest && looseMemN whole (varSels q vt sub) rest
  else payA whole q (strip (unbody sub)) vt rest

/-- what the type(s) emitted for a selection set of the general kind on the abstract type `ty` accept -/
def looseTagX (whole : Nat → Bool → Json → Bool) (s : Schema) (q : Query) (o : Options) (b : Bool) (ty : TypeId)
    (sub : List Sel) : Json → Bool
  | .obj kvs =>
    if (C01NG.ownSels sub).isEmpty then tagOkV s o b (vtsOfTy s ty) (payX whole s q o sub) kvs
    else looseSelsS s q o b (C01NG.ownSels sub) kvs &&
      tagOkV s o true (vtsOfTy s ty) (payX whole s q o sub) (restG s sub kvs)
  | _ => false

/-- … and the field of abstract type -/
def looseAbsX (whole : Nat → Bool → Json → Bool) (s : Schema) (q : Query) (o : Options) (b : Bool) (sf : StoredField)
    (sub : List Sel) (v : Json) : Bool :=
  accepts (looseTagX whole s q o b sf.ty.id sub) (gtyOf sf.ty.quals) v

mutual
  def looseFieldA (whole : Nat → Bool → Json → Bool) (s : Schema) (q : Query) (o : Options) (b : Bool) : Sel → Json → Bool
    | .field a fid sub, v =>
      match s.fields[fid]? with
      | none => false
      | some sf =>
        match sf.ty.id with
        | .object i => (match s.objects[i]? with
          | some _ => accepts (fun j =>
              match sub with
              | [.spread g] => whole g b j      -- type alias of the fragment struct
              | _ => match j with
                | .obj kvs' => looseOwnA whole s q o b sub kvs' && looseMemN whole sub kvs'
                | .arr xs => !sub.any isSpread && looseArrA whole s q o b sub xs
                | _ => false) (gtyOf sf.ty.quals) v
          | none => false)
        | _ => if sSel s q o false (.field a fid sub) then looseFieldS s q o b (.field a fid sub) v
               else looseAbsX whole s q o b sf sub v
    | _, _ => true
  /-- the own fields of the struct (spreads contribute no own field) -/
  def looseOwnA (whole : Nat → Bool → Json → Bool) (s : Schema) (q : Query) (o : Options) (b : Bool) :
      List Sel → List (String × Json) → Bool
    | [], _ => true
    | .field a fid sub :: xs, kvs =>
      (match s.fields[fid]? with
       | none => false
       | some sf =>
         decide (countKey (a.getD sf.name) kvs ≤ 1) &&
         (match Json.lookup (a.getD sf.name) kvs with
          | none => nullableQ sf.ty.quals
          | some v => looseFieldA whole s q o b (.field a fid sub) v)) && looseOwnA whole s q o b xs kvs
    | _ :: xs, kvs => looseOwnA whole s q o b xs kvs
  def looseArrA (whole : Nat → Bool → Json → Bool) (s : Schema) (q : Query) (o : Options) (b : Bool) :
      List Sel → List Json → Bool
    | [], _ => true
    | .field a fid sub :: xs, vs =>
      (match vs with
       | [] => false
       | v :: vs' => looseFieldA whole s q o b (.field a fid sub) v && looseArrA whole s q o b xs vs')
    | _ :: xs, vs => looseArrA whole s q o b xs vs
end

/-- what the type emitted for an object-level selection set of `NestedGen2Op` accepts -/
def conformsLooseA (whole : Nat → Bool → Json → Bool) (s : Schema) (q : Query) (o : Options) (b : Bool) (sels : List Sel)
    (j : Json) : Bool :=
  match sels with
  | [.spread g] => whole g b j
  | _ => match j with
    | .obj kvs' => looseOwnA whole s q o b sels kvs' && looseMemN whole sels kvs'
    | .arr xs => !sels.any isSpread && looseArrA whole s q o b sels xs
    | _ => false

theorem looseLambdaA (whole : Nat → Bool → Json → Bool) (s : Schema) (q : Query) (o : Options) (b : Bool) (sub : List Sel) :
    (fun j =>
      match sub with
      | [.spread g] => whole g b j
      | _ => match j with
        | .obj kvs' => looseOwnA whole s q o b sub kvs' && looseMemN whole sub kvs'
        | .arr xs => !sub.any isSpread && looseArrA whole s q o b sub xs
        | _ => false) = conformsLooseA whole s q o b sub := by
  funext j; unfold conformsLooseA; rfl

theorem conformsLooseA_not_lone {whole : Nat → Bool → Json → Bool} {s : Schema} {q : Query} {o : Options} {b : Bool}
    {sels : List Sel} (h : ∀ g, sels ≠ [Sel.spread g]) (j : Json) :
    conformsLooseA whole s q o b sels j =
      (match j with
       | .obj kvs' => looseOwnA whole s q o b sels kvs' && looseMemN whole sels kvs'
       | .arr xs => !sels.any isSpread && looseArrA whole s q o b sels xs
       | _ => false) := by
  unfold conformsLooseA
  split
  · rename_i g; exact absurd rfl (h g)
  · rfl

/-! ## environment, keys -/

/-- the fragment name is not a Rust keyword (the member of a variant struct is named without `keyword_replace`, the member
    of an object-level struct with it) -/
def kwOk (c : Ctx) (g : Nat) : Bool :=
  keywordReplace (c.cs.snake (fragName c g)) == c.cs.snake (fragName c g)

/-- the item of the variant of `vt` -/
def VarEnvX (fenv : Nat → Prop) (e : Env) (c : Ctx) (name : String) (vt : TypeId) (sub : List Sel) : Prop :=
  if (mineOf c.q vt sub).any isBody = true then
    StructEnv e (name ++ "On" ++ objName c.s vt) (varFieldsX c name (mineOf c.q vt sub)) ∧
      envSelsS e c name (C01NG.ownSels (varSels c.q vt sub)) ∧ ∀ g ∈ memFrags c.q vt sub, fenv g
  else VarEnvA fenv e c name vt (strip (unbody sub))

/-- the environment of a position of the general kind -/
def EnvAbsX (fenv : Nat → Prop) (e : Env) (c : Ctx) (name : String) (ty : TypeId) (sub : List Sel) : Prop :=
  AbsEnv e name (fieldsOfV c name sub) (variantsV c name ty (marks c.q sub)) ∧
  envSelsS e c name (C01NG.ownSels sub) ∧
  ∀ vt ∈ vtsOfTy c.s ty, VarEnvX fenv e c name vt sub

/-- the keys read on the variant of `vt` pairwise distinct; with an inline fragment with fields: also no selected fragment
    is named by a Rust keyword -/
def varKeysOk (KN : String → List String) (c : Ctx) (vt : TypeId) (sub : List Sel) : Bool :=
  if (mineOf c.q vt sub).any isBody then
    EnumSpec.nodup (expKeysN KN c (varSels c.q vt sub)) && (memFrags c.q vt sub).all (kwOk c)
  else EnumSpec.nodup (memKeys KN c vt (strip (unbody sub)))

mutual
  /-- **keys disjoint between a fragment and its siblings** at object level (as `keysOkN`), and **between the fragments
      selected on one possible type** at a position of the new kind -/
  def keysOkA (KN : String → List String) (c : Ctx) : Sel → Bool
    | .field a fid sub =>
      (match (c.s.fields[fid]?).map (fun sf => sf.ty.id) with
       | some (TypeId.object _) => EnumSpec.nodup (expKeysN KN c sub) && keysOksA KN c sub
       | some ty =>
         if sSel c.s c.q c.o false (.field a fid sub) then true
         else (vtsOfTy c.s ty).all (fun vt => varKeysOk KN c vt sub)
       | none => true)
    | _ => true
  def keysOksA (KN : String → List String) (c : Ctx) : List Sel → Bool
    | [] => true
    | x :: xs => keysOkA KN c x && keysOksA KN c xs
end

mutual
  def envSelA (fenv : Nat → Prop) (e : Env) (c : Ctx) (pfx : String) : Sel → Prop
    | .field a fid sub =>
      match c.s.fields[fid]? with
      | none => True
      | some sf =>
        match sf.ty.id with
        | .object _ =>
          (match sub with
           | [.spread g] => AliasEnv e (pfx ++ c.cs.camel (a.getD sf.name)) (fragName c g) ∧ fenv g
           | _ => StructEnv e (pfx ++ c.cs.camel (a.getD sf.name)) (fieldsOfF c (pfx ++ c.cs.camel (a.getD sf.name)) sub) ∧
                  envSelsA fenv e c (pfx ++ c.cs.camel (a.getD sf.name)) sub)
        | ty => if sSel c.s c.q c.o false (.field a fid sub) = true then envSelS e c pfx (.field a fid sub)
                else EnvAbsX fenv e c (pfx ++ c.cs.camel (a.getD sf.name)) ty sub
    | .spread g => fenv g
    | _ => True
  def envSelsA (fenv : Nat → Prop) (e : Env) (c : Ctx) (pfx : String) : List Sel → Prop
    | [] => True
    | x :: xs => envSelA fenv e c pfx x ∧ envSelsA fenv e c pfx xs
end

/-- what the name of an object-level selection set resolves to -/
def BodyEnvA (fenv : Nat → Prop) (e : Env) (c : Ctx) (name pfx : String) (sels : List Sel) : Prop :=
  match sels with
  | [.spread g] => AliasEnv e name (fragName c g) ∧ fenv g
  | _ => StructEnv e name (fieldsOfF c pfx sels) ∧ envSelsA fenv e c pfx sels

/-! ## facts about the emitted fields -/

theorem envSelsA_mem {fenv : Nat → Prop} {e : Env} {c : Ctx} {pfx : String} : ∀ {sels : List Sel},
    envSelsA fenv e c pfx sels → ∀ x ∈ sels, envSelA fenv e c pfx x
  | [], _, _, hx => by simp at hx
  | y :: ys, h, x, hx => by
    rw [envSelsA] at h
    rcases List.mem_cons.mp hx with rfl | hx'
    · exact h.1
    · exact envSelsA_mem h.2 x hx'

theorem envSelA_spread {fenv : Nat → Prop} {e : Env} {c : Ctx} {pfx : String} {g : Nat} :
    envSelA fenv e c pfx (.spread g) = fenv g := by
  rw [envSelA]

theorem keysOkA_obj {KN : String → List String} {c : Ctx} {a : Option String} {fid : Nat} {sub : List Sel}
    {sf : StoredField} {i : Nat}
    (hsf : c.s.fields[fid]? = some sf) (hid : sf.ty.id = .object i) (h : keysOkA KN c (.field a fid sub) = true) :
    EnumSpec.nodup (expKeysN KN c sub) = true ∧ keysOksA KN c sub = true := by
  rw [keysOkA] at h
  simp only [hsf, hid, Option.map_some, Bool.and_eq_true] at h
  exact h

theorem keysOkA_new {KN : String → List String} {c : Ctx} {a : Option String} {fid : Nat} {sub : List Sel}
    {sf : StoredField} (hsf : c.s.fields[fid]? = some sf) (hno : ∀ i, sf.ty.id ≠ .object i)
    (hs : sSel c.s c.q c.o false (.field a fid sub) = false) (h : keysOkA KN c (.field a fid sub) = true) :
    ∀ vt ∈ vtsOfTy c.s sf.ty.id, varKeysOk KN c vt sub = true := by
  rw [keysOkA] at h
  simp only [hsf, Option.map_some] at h
  have h' : (vtsOfTy c.s sf.ty.id).all (fun vt => varKeysOk KN c vt sub) = true := by
    simpa only [hs, Bool.false_eq_true, if_false] using h
  intro vt hvt
  simp only [List.all_eq_true] at h'
  exact h' vt hvt

theorem envSelA_obj {fenv : Nat → Prop} {e : Env} {c : Ctx} {pfx : String} {a : Option String} {fid : Nat}
    {sub : List Sel} {sf : StoredField}
    {i : Nat} (hsf : c.s.fields[fid]? = some sf) (hid : sf.ty.id = .object i) (h : envSelA fenv e c pfx (.field a fid sub)) :
    BodyEnvA fenv e c (pfx ++ c.cs.camel (a.getD sf.name)) (pfx ++ c.cs.camel (a.getD sf.name)) sub := by
  rw [envSelA] at h
  simp only [hsf, hid] at h
  exact h

theorem envSelA_old {fenv : Nat → Prop} {e : Env} {c : Ctx} {pfx : String} {a : Option String} {fid : Nat}
    {sub : List Sel}
    {sf : StoredField} (hsf : c.s.fields[fid]? = some sf) (hno : ∀ i, sf.ty.id ≠ .object i)
    (hs : sSel c.s c.q c.o false (.field a fid sub) = true)
    (h : envSelA fenv e c pfx (.field a fid sub)) : envSelS e c pfx (.field a fid sub) := by
  rw [envSelA] at h
  simp only [hsf] at h
  simpa only [hs, if_true] using h

theorem envSelA_new {fenv : Nat → Prop} {e : Env} {c : Ctx} {pfx : String} {a : Option String} {fid : Nat}
    {sub : List Sel}
    {sf : StoredField} (hsf : c.s.fields[fid]? = some sf) (hno : ∀ i, sf.ty.id ≠ .object i)
    (hs : sSel c.s c.q c.o false (.field a fid sub) = false)
    (h : envSelA fenv e c pfx (.field a fid sub)) : EnvAbsX fenv e c (pfx ++ c.cs.camel (a.getD sf.name)) sf.ty.id sub := by
  rw [envSelA] at h
  simp only [hsf] at h
  simpa only [hs, Bool.false_eq_true, if_false] using h

theorem looseFieldA_old {whole : Nat → Bool → Json → Bool} {s : Schema} {q : Query} {o : Options} {b : Bool}
    {a : Option String} {fid : Nat}
    {sub : List Sel} {sf : StoredField} (hsf : s.fields[fid]? = some sf) (hno : ∀ i, sf.ty.id ≠ .object i)
    (hs : sSel s q o false (.field a fid sub) = true) (v : Json) :
    looseFieldA whole s q o b (.field a fid sub) v = looseFieldS s q o b (.field a fid sub) v := by
  rw [looseFieldA]
  simp only [hsf]
  simp only [hs, if_true]

theorem looseFieldA_new {whole : Nat → Bool → Json → Bool} {s : Schema} {q : Query} {o : Options} {b : Bool}
    {a : Option String} {fid : Nat}
    {sub : List Sel} {sf : StoredField} (hsf : s.fields[fid]? = some sf) (hno : ∀ i, sf.ty.id ≠ .object i)
    (hs : sSel s q o false (.field a fid sub) = false) (v : Json) :
    looseFieldA whole s q o b (.field a fid sub) v = looseAbsX whole s q o b sf sub v := by
  rw [looseFieldA]
  simp only [hsf]
  simp only [hs, Bool.false_eq_true, if_false]

theorem exists_uniform {α : Type} (P : α → Nat → Prop) (hmono : ∀ a n m, n ≤ m → P a n → P a m) :
    ∀ (l : List α), (∀ a ∈ l, ∃ n, P a n) → ∃ n, ∀ a ∈ l, P a n :=
  C01NA.exists_uniform P hmono

theorem pairwise_of_nodup_flatMap {α β : Type} (f : α → List β) : ∀ (l : List α), (l.flatMap f).Nodup →
    l.Pairwise (fun a b => ∀ k ∈ f b, k ∉ f a) :=
  C01NA.pairwise_of_nodup_flatMap f

theorem ownSels_cons_field (a : Option String) (fid : Nat) (sub' : List Sel) (xs : List Sel) :
    C01NG.ownSels (Sel.field a fid sub' :: xs) = Sel.field a fid sub' :: C01NG.ownSels xs :=
  C01NG.ownSels_cons_field a fid sub' xs

theorem ownSels_cons_other {x : Sel} (h : isFieldSel x = false) (xs : List Sel) : C01NG.ownSels (x :: xs) = C01NG.ownSels xs :=
  C01NG.ownSels_cons_other h xs

theorem fieldsOfV_ownSels (c : Ctx) (pfx : String) : ∀ (sub : List Sel), fieldsOfV c pfx (C01NG.ownSels sub) = fieldsOfV c pfx sub :=
  C01NG.fieldsOfV_ownSels c pfx

theorem sSels_ownSels {s : Schema} {q : Query} {o : Options} : ∀ (sub : List Sel),
    (∀ x ∈ sub, leafSel s q o x = true) → sSels s q o true (C01NG.ownSels sub) = true :=
  C01NG.sSels_ownSels

theorem fieldsOfV_isEmpty {c : Ctx} (pfx : String) {sub : List Sel} (h : ∀ x ∈ sub, leafSel c.s c.q c.o x = true) :
    (fieldsOfV c pfx sub).isEmpty = (C01NG.ownSels sub).isEmpty :=
  C01NG.fieldsOfV_isEmpty pfx h

/-! ## acceptance, exactly -/

section AccA
variable (e : Env) (c : Ctx) (ok : TypeId → Nat → Bool) (whole : Nat → Bool → Json → Bool) (KN : String → List String)
  (fenv : Nat → Prop) (hok : OkSpec c.q ok) (hfa : ∀ p g, ok p g = true → fenv g → FragAcc e c whole KN g)

def AccSelA (pfx : String) (x : Sel) : Prop :=
  ∀ p, aSel ok c.s c.q c.o p x = true → envSelA fenv e c pfx x → keysOkA KN c x = true →
    ∀ f, fieldOfSelV c pfx x = some f →
    ∃ N, ∀ b fd, N ≤ fd → ∀ v, okB (deFieldWith (dePath e b fd) f v) = looseFieldA whole c.s c.q c.o b x v

theorem looseMemN_spreads (whole : Nat → Bool → Json → Bool) (kvs : List (String × Json)) : ∀ (gs : List Nat),
    looseMemN whole (gs.map Sel.spread) kvs = gs.all (fun g => whole g true (.obj kvs)) :=
  C01NA.looseMemN_spreads whole kvs

/-- **a struct that consists of flattened members for the structs of the fragments `gs`** (a variant struct) accepts an
    object iff every fragment's struct accepts it -/
theorem accMembersA (name : String) (gs : List Nat) (hne : gs ≠ []) (hs : StructEnv e name (gs.map (memField c)))
    (hfa' : ∀ g ∈ gs, FragAcc e c whole KN g) (hkeys : (gs.flatMap (fun g => KN (fragName c g))).Nodup) :
    ∃ N, ∀ b fd, N ≤ fd → ∀ kvs, okB (dePath e b fd name (.obj kvs)) = gs.all (fun g => whole g true (.obj kvs)) :=
  C01NA.accMembersA e c whole KN name gs hne hs hfa' hkeys


end AccA

theorem bodyEnvA_not_lone {fenv : Nat → Prop} {e : Env} {c : Ctx} {name pfx : String} {sels : List Sel}
    (hnl : ∀ g, sels ≠ [Sel.spread g]) (h : BodyEnvA fenv e c name pfx sels) :
    StructEnv e name (fieldsOfF c pfx sels) ∧ envSelsA fenv e c pfx sels := by
  unfold BodyEnvA at h
  revert h
  split
  · exact fun _ => absurd rfl (hnl _)
  · exact id

theorem fieldOfSelV_a {ok : TypeId → Nat → Bool} {c : Ctx} (pfx : String) (p : TypeId) (a : Option String) (fid : Nat) (sub : List Sel)
    (ht : aSel ok c.s c.q c.o p (.field a fid sub) = true) :
    ∃ sf ft, c.s.fields[fid]? = some sf ∧ leafNameV c pfx (a.getD sf.name) sf.ty.id = some ft ∧
      fieldOfSelV c pfx (.field a fid sub) = some (fieldOf c (a.getD sf.name) ft sf.ty.quals sf.deprecation) ∧
      wfQuals sf.ty.quals = true := by
  obtain ⟨sf, hsf⟩ := aSel_field_some ht
  by_cases hobj : ∃ i, sf.ty.id = .object i
  · obtain ⟨i, hid⟩ := hobj
    obtain ⟨hw, _, _, _⟩ := aSel_obj hsf hid ht
    exact ⟨sf, pfx ++ c.cs.camel (a.getD sf.name), hsf, by simp [leafNameV, hid], by simp [fieldOfSelV, hsf, leafNameV, hid], hw⟩
  · have hno : ∀ i, sf.ty.id ≠ .object i := fun i h => hobj ⟨i, h⟩
    rcases aSel_nonobj hsf hno ht with hs | ⟨_, hnew⟩
    · exact fieldOfSelV_s c pfx false a fid sub hs
    · obtain ⟨hw, _, hty, _⟩ := absFieldX_parts hnew
      cases hid : sf.ty.id with
      | object i => exact absurd hid (hno i)
      | scalar k => rw [hid] at hty; exact absurd hty (by simp [absHyp])
      | «enum» k => rw [hid] at hty; exact absurd hty (by simp [absHyp])
      | input k => rw [hid] at hty; exact absurd hty (by simp [absHyp])
      | interface k =>
        exact ⟨sf, pfx ++ c.cs.camel (a.getD sf.name), hsf, by simp [leafNameV, hid],
          by simp [fieldOfSelV, hsf, leafNameV, hid], hw⟩
      | union k =>
        exact ⟨sf, pfx ++ c.cs.camel (a.getD sf.name), hsf, by simp [leafNameV, hid],
          by simp [fieldOfSelV, hsf, leafNameV, hid], hw⟩

end C01NX
end GqlVerif
