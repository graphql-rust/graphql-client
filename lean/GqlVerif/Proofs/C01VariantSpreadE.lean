import GqlVerif.Proofs.C01VariantSpreadD
/-!
# C01 end to end: fragment spreads at abstract positions (`VariantSpreadOp`): `variantspread_lossless` / `variantspread_roundtrip`

* `rtAbsStruct` — round trip of the struct at an abstract position **with flattened members for fragments on the abstract
  type itself**, given the round trips of its own fields, of each member and of the flattened `on`: `deStruct_borrow_finds`
  (reading), `ser_flat` (writing `own ++ members ++ [on]` in declaration order); also the struct of `NestedBOp`;
* `rtMemB` — the flattened member for a fragment on the abstract type itself, read from the entries the own fields left
  (`rtAbsV_w`); `rtAbsD` — the type(s) emitted at an abstract position: `rtAbsStruct` with `rtMemB` (each member) and
  `rtTaggedD` (the flattened `on`);
* `structD_lossless` — by induction over the selection tree (`rtSelD`);
* **`variantspread_lossless` / `variantspread_roundtrip`**, for the whole class `VariantSpreadOp` (parts (a) and (b)):
  `Serde.roundtrip (moduleEnv c items) ResponseData j = .ok (normJson (canonSelD … j))`;
* a lone spread of a fragment on the abstract type itself (`hero { ...CF }`): through the type alias (`rtAliasB`);
* `canonSelD_noB`: without spreads of fragments on the abstract type itself `canonSelD = canonSelS` (the closed form of `C01VariantSpreadC`,
  a `to_value` normal form), and `rustOkSelsS` gives `rustOkSelsD`: `rtSelS`, `variantspread_lossless_partial` /
  `variantspread_roundtrip_partial` (round trip `= .ok (canonSelS … j)`); `ws_roundtripH` / `ws_roundtripD` in `C01VariantSpreadEW`;
* `variantspread_b_rust_names_needed`, `variantspread_b_merge_loses_fields`, `variantspread_b_inline_merge_loses_fields`:
  the side conditions are needed (`C01VariantSpreadEW`; the last two: a key with two readers — the fourth part of `absOkS` — loses data).
What `normJson (canonSelD … j)` is relative to `j`: `variantspread_content` of `C01VariantSpreadH`.
-/

namespace GqlVerif
namespace C01
namespace E2E
open Serde C13 Codegen

section RTE
variable (e : Env) (c : Ctx)

theorem respKeys_filter_field (s : Schema) : ∀ (sub : List Sel), respKeys s (sub.filter isFieldSel) = fieldKeys s sub
  | [] => rfl
  | x :: xs => by
    have ih := respKeys_filter_field s xs
    unfold respKeys fieldKeys at ih ⊢
    cases x with
    | field a fid sub' => rw [List.filter_cons_of_pos rfl, List.filterMap_cons, List.filterMap_cons, ih]; rfl
    | spread g => rw [List.filter_cons_of_neg (by simp [isFieldSel]), ih]; rfl
    | inline t sub' => rw [List.filter_cons_of_neg (by simp [isFieldSel]), ih]; rfl
    | typename => rw [List.filter_cons_of_neg (by simp [isFieldSel]), ih]; rfl

/-- **round trip of the struct at an abstract position** — own fields, a flattened member per fragment on the abstract type
    itself, the flattened `on` — from the round trips of its parts.  The members and `on` read `rest`, the entries the own
    fields left; nothing is asked of the spreads and inline fragments of `sub` beyond `hmem` and `hon`. -/
theorem rtAbsStruct (pfx name : String) (ty : TypeId) (sub : List Sel) (vs : List RVariant) (hS : FieldsS c true sub)
    (hkn : (fieldKeys c.s sub).Nodup) (hrn : EnumSpec.nodup (rustNamesB c ty sub ++ ["on"]) = true)
    (hs : StructEnv e name (fieldsB c pfx ty sub ++ [onField name])) (hsT : TaggedEnv e (name ++ "On") vs)
    (hbm : ∀ g ∈ fieldsB c pfx ty sub, g.flatten = true → Borrows e g)
    (b : Bool) (fd fs : Nat) (kvs rest : List (String × Json)) (hnd : (kvs.map (·.1)).Nodup)
    (hrest : rest = kvs.filter (fun kv => !(fieldKeys c.s sub).contains kv.1))
    (hown : ∀ a fid sub' sf ft, Sel.field a fid sub' ∈ sub → c.s.fields[fid]? = some sf →
      fieldOfSelV c pfx (.field a fid sub') = some (fieldOf c (a.getD sf.name) ft sf.ty.quals sf.deprecation) → ∀ jv x,
      Json.lookup (a.getD sf.name) kvs = some jv →
      deFieldWith (dePath e b (fd + 1)) (fieldOf c (a.getD sf.name) ft sf.ty.quals sf.deprecation) jv = .ok x →
      serTyWith (serPath e (fs + 1)) (fieldOf c (a.getD sf.name) ft sf.ty.quals sf.deprecation).ty x =
        .ok (canonFieldD c.s c.q c.o.skipNone (.field a fid sub') jv))
    (hmem : ∀ g fr, Sel.spread g ∈ sub → c.q.fragments[g]? = some fr → fr.on = ty → ∀ y,
      dePath e true (fd + 1) fr.name (.obj rest) = .ok y →
      serPath e (fs + 1) fr.name y = .ok (canonAbsV c.s c.o.skipNone fr.sels (.obj rest)))
    (on : List (String × Json))
    (hon : ∀ y, dePath e true (fd + 1) (name ++ "On") (.obj rest) = .ok y →
      serPath e (fs + 1) (name ++ "On") y = .ok (.obj on))
    (w : Val) (hd : dePath e b (fd + 2) name (.obj kvs) = .ok w) :
    serPath e (fs + 2) name w = .ok (.obj (canonEntriesBD c.s c.q c.o.skipNone ty rest sub kvs ++ on)) := by
  subst hrest
  obtain ⟨hp, _, n, d, cr, hfind⟩ := hs
  obtain ⟨hpT, _, n', d', cr', hfind'⟩ := hsT
  have hcnt := countKey_le_one_of_nodup hnd
  have hany : (fieldsB c pfx ty sub ++ [onField name]).any (·.flatten) = true := by simp [onField]
  have hb : ∀ g ∈ fieldsB c pfx ty sub ++ [onField name], g.flatten = true → Borrows e g := by
    intro g hg hfl
    rcases List.mem_append.mp hg with hg | hg
    · exact hbm g hg hfl
    · simp only [List.mem_singleton] at hg
      subst hg
      exact ⟨name ++ "On", rfl, hpT, .inl ⟨n', d', cr', _, _, hfind'⟩⟩
  have hownF : (fieldsB c pfx ty sub ++ [onField name]).filter (fun f => !f.flatten) = fieldsOfV c pfx sub := by
    rw [List.filter_append, own_fieldsB c pfx ty sub]; simp [onField]
  have hrest : kvs.filter (fun kv => !((fieldsOfV c pfx sub).map (·.wire)).contains kv.1) =
      kvs.filter (fun kv => !(fieldKeys c.s sub).contains kv.1) := by
    rw [wire_fieldsOfV_fieldsS c pfx true sub hS]
  have hrust : ((fieldsB c pfx ty sub ++ [onField name]).map (·.rust)).Nodup := by
    rw [List.map_append, rust_fieldsB_fieldsS c pfx ty sub hS]
    exact nodup_iff'.mp hrn
  rw [dePath_struct e b (fd + 1) name n d cr _ hp hfind, deStruct_obj] at hd
  obtain ⟨vals, rfl, hownf, hmemf⟩ := deStruct_borrow_finds e fd _ _ kvs hcnt hrust hany hb w hd
  rw [hownF, hrest] at hmemf
  have hmemrt : ∀ gid fr, Sel.spread gid ∈ sub → c.q.fragments[gid]? = some fr → fr.on = ty →
      ∃ y, vals.find? (·.1 == (spreadField c fr).rust) = some ((spreadField c fr).rust, y) ∧
        serTyWith (serPath e (fs + 1)) (spreadField c fr).ty y =
          .ok (.obj (absEntries (canonAbsV c.s c.o.skipNone fr.sels
            (.obj (kvs.filter (fun kv => !(fieldKeys c.s sub).contains kv.1)))))) := by
    intro gid fr hm hfr hon'
    have hgmem : spreadField c fr ∈ fieldsB c pfx ty sub ++ [onField name] :=
      List.mem_append_left _ (List.mem_filterMap.mpr ⟨_, hm, by simp [fieldOfSelB, hfr, hon']⟩)
    obtain ⟨y, hy, hfindg⟩ := hmemf _ hgmem rfl
    refine ⟨y, hfindg, ?_⟩
    rw [show serTyWith (serPath e (fs + 1)) (spreadField c fr).ty y = serPath e (fs + 1) fr.name y from rfl,
      hmem gid fr hm hfr hon' y hy]
    rfl
  have honrt : ∃ y, vals.find? (·.1 == (onField name).rust) = some ((onField name).rust, y) ∧
      serTyWith (serPath e (fs + 1)) (onField name).ty y = .ok (.obj on) := by
    obtain ⟨y, hy, hfindg⟩ := hmemf (onField name) (by simp) rfl
    exact ⟨y, hfindg, hon y hy⟩
  let mc : RField → List (String × Json) := fun g =>
    match vals.find? (·.1 == g.rust) with
    | some (_, y) => (match serTyWith (serPath e (fs + 1)) g.ty y with | .ok (.obj o) => o | _ => [])
    | none => []
  have hmc : ∀ gid fr, Sel.spread gid ∈ sub → c.q.fragments[gid]? = some fr → fr.on = ty →
      mc (spreadField c fr) = absEntries (canonAbsV c.s c.o.skipNone fr.sels
        (.obj (kvs.filter (fun kv => !(fieldKeys c.s sub).contains kv.1)))) := by
    intro gid fr hm hfr hon'
    obtain ⟨y, hf, hser⟩ := hmemrt gid fr hm hfr hon'
    simp only [mc, hf, hser]
  have hmcon : mc (onField name) = on := by
    obtain ⟨y, hf, hser⟩ := honrt
    simp only [mc, hf, hser]
  have hfcanon : ∀ a fid sub', Sel.field a fid sub' ∈ sub → ∀ f,
      fieldOfSelV c pfx (.field a fid sub') = some f →
      ∀ v, fcanonOfD c.s c.q c.o.skipNone (sub.filter isFieldSel) f v =
        canonFieldD c.s c.q c.o.skipNone (.field a fid sub') v := by
    intro a fid sub' hx f hfx v
    obtain ⟨sf, ft, hsf, _, hf', _⟩ := fieldOfSelV_s c pfx true a fid sub' (hS a fid sub' hx)
    rw [hf'] at hfx
    cases hfx
    unfold fcanonOfD
    rw [fieldOf_wire, find_respKey c.s _ _ (by rw [respKeys_filter_field]; exact hkn) _
      (List.mem_filter.mpr ⟨hx, rfl⟩) (by simp [respKey, hsf])]
  have hnonfl : ∀ f ∈ fieldsB c pfx ty sub ++ [onField name], f.flatten = false → f ∈ fieldsOfV c pfx sub := by
    intro f hf hfl
    rw [← hownF]; exact List.mem_filter.mpr ⟨hf, by simp [hfl]⟩
  rw [serPath_struct e (fs + 1) name n d cr _ hfind,
    ser_flat (dePath e b (fd + 1)) (serPath e (fs + 1)) (fcanonOfD c.s c.q c.o.skipNone (sub.filter isFieldSel)) mc kvs vals
      (fieldsB c pfx ty sub ++ [onField name]) hownf ?_ ?_ ?_ ?_]
  · rw [List.flatMap_append, flatMap_entriesF_B_fieldsS c pfx ty _ _ mc kvs sub hS hfcanon hmc]
    simp only [List.flatMap_cons, List.flatMap_nil, List.append_nil, entriesF, onField, ↓reduceIte]
    have := hmcon
    simp only [onField] at this
    rw [this]
    rfl
  · intro f hf hfl jv x hl hdx
    obtain ⟨a, fid, sub', sf, ft, hx, hsf, hfx, rfl, _⟩ := mem_fieldsOfV_fieldsS (hnonfl f hf hfl) hS
    rw [fieldOf_wire] at hl
    rw [hfcanon a fid sub' hx _ hfx jv]
    exact hown a fid sub' sf ft hx hsf hfx jv x hl hdx
  · exact fun f hf hfl => (optionAttrs_fieldsOfV c pfx sub).unit f (hnonfl f hf hfl)
  · exact fun f hf hfl => (optionAttrs_fieldsOfV c pfx sub).default f (hnonfl f hf hfl)
  · intro g hg hfl
    rcases List.mem_append.mp hg with hg | hg
    · obtain ⟨gid, fr, hm, hfr, hon', rfl⟩ := mem_fieldsB_flatten hg hfl
      obtain ⟨y, hf, hser⟩ := hmemrt gid fr hm hfr hon'
      exact ⟨y, hf, by rw [hser, hmc gid fr hm hfr hon']⟩
    · simp only [List.mem_singleton] at hg
      subst hg
      obtain ⟨y, hf, hser⟩ := honrt
      exact ⟨y, hf, by rw [hser, hmcon]⟩

/-- **round trip of the flattened member for a fragment on the abstract type itself**, read from `kvs.filter p`, the entries
    the own fields left (`accMemB`, `slMemB` are its counterparts for acceptance and for strict ⇒ loose): `rtAbsV_w` on an
    object with other keys -/
theorem rtMemB (ty : TypeId) (hty : absHyp c.s ty) {gid : Nat} {fr : RFragment} (hfr : c.q.fragments[gid]? = some fr)
    (hon : fr.on = ty) (hokB : fragOkB c.s c.q c.o ty gid = true) (hfe : FragEnvS e c gid)
    (hrog : rustOkFragB c gid = true) (fd fs : Nat) (hfd : 2 * depthF c.q (.spread gid) + 1 ≤ fd)
    (hfs : 2 * depthF c.q (.spread gid) ≤ fs) (rt : Nat) (kvs : List (String × Json)) (hnd : (kvs.map (·.1)).Nodup)
    (p : String × Json → Bool) (hpt : ∀ v, p ("__typename", v) = true)
    (hkeep : ∀ k ∈ deepKeys c.s fr.sels, ∀ v, p (k, v) = true) (hconf : confSelsV c.s rt fr.sels kvs = true)
    (htag : Json.lookup "__typename" kvs = some (.str (rtName c.s rt))) (hmem : TypeId.object rt ∈ vtsOfTy c.s ty)
    (y : Val) (hy : dePath e true fd fr.name (.obj (kvs.filter p)) = .ok y) :
    serPath e fs fr.name y = .ok (canonAbsV c.s c.o.skipNone fr.sels (.obj (kvs.filter p))) := by
  obtain ⟨fr', hfr', _, _, hv, hokf⟩ := fragOkB_parts hokB
  rw [hfr] at hfr'; cases hfr'
  unfold FragEnvS at hfe
  rw [hfr] at hfe
  have hisabs : fr.on.isAbstract = true := by rw [hon]; exact isAbstract_of_absHyp hty
  simp only [hisabs, ↓reduceIte] at hfe
  rw [hon] at hfe
  have hsels : fragSels c.q gid = fr.sels := by simp [fragSels, hfr]
  simp only [rustOkFragB, hsels, Bool.and_eq_true] at hrog
  rw [depthF, hsels] at hfd hfs
  exact rtAbsV_w e c (c.cs.camel fr.name) fr.name ty fr.sels
    (fun x hx => (rtSelsV e c fr.sels _ x hx).1) (fun x hx => (rtSelsV e c fr.sels _ x hx).2)
    hv hokf hfe.2 hrog.2 hrog.1 hfe.1 true fd fs (by omega) (by omega) rt (kvs.filter p)
    ((List.filter_sublist.map _).nodup hnd) (by rw [confSelsV_filter c.s rt _ kvs hpt fr.sels hkeep]; exact hconf)
    (by rw [lookup_filter _ _ hpt]; exact htag) hmem y hy

/-- **round trip of the type(s) emitted at an abstract position**, members for fragments on the abstract type itself
    included -/
theorem rtAbsD (pfx name : String) (ty : TypeId) (sub : List Sel) (H : ∀ x ∈ sub, RTSelD e c pfx x)
    (HI : ∀ t isub, Sel.inline t isub ∈ sub → ∀ x ∈ isub, RTSelD e c (pfx ++ "On" ++ c.cs.camel (objName c.s t)) x)
    (hty : absHyp c.s ty) (ht : sSels c.s c.q c.o true sub = true) (hok : absOkS c.s c.q c.o ty sub = true)
    (henv : envSelsS e c pfx sub) (hve : ∀ vt ∈ vtsOfTy c.s ty, VarEnv e c pfx vt sub)
    (hro : rustOkSelsD c sub = true) (hrn : EnumSpec.nodup (rustNamesB c ty sub ++ ["on"]) = true)
    (hrv : ∀ vt ∈ vtsOfTy c.s ty, (varRust c vt sub).Nodup)
    (hs : AbsEnv e name (fieldsB c pfx ty sub) (variantsV c pfx ty (marks c.q sub))) (b : Bool) (fd fs : Nat)
    (hfd : 2 * depthsF c.q sub + 3 ≤ fd) (hfs : 2 * depthsF c.q sub + 2 ≤ fs) (j : Json) (w : Val)
    (hc : conformsAt c.s ty (expandSels c.q sub) j = true) (hd : dePath e b fd name j = .ok w) :
    serPath e fs name w = .ok (canonAbsD c.s c.q c.o.skipNone ty sub j) := by
  obtain ⟨hok1, _, _⟩ := absOkS_parts hok
  have hsp := spreadsA_abs hty hok
  obtain ⟨rt, kvs, rfl, hnd, hconf, htag, hmem, happ⟩ := abs_conf_factsD hty hok1 hc
  obtain ⟨htn, hrk, _, _, _, _, _, hexcl⟩ := absOk2_parts hok1
  have hemp := isEmpty_fieldsB c pfx ty sub ht
  have htagName : tagName kvs = rtName c.s rt := by simp [tagName, htag]
  unfold AbsEnv at hs
  simp only [canonAbsD, htagName]
  cases hF : hasStruct c.q ty sub
  · -- the tagged enum alone
    rw [hF] at hemp
    simp only [hemp, Bool.not_false, ↓reduceIte] at hs
    obtain ⟨fd', rfl⟩ : ∃ k, fd = k + 1 := ⟨fd - 1, by omega⟩
    obtain ⟨fs', rfl⟩ : ∃ k, fs = k + 1 := ⟨fs - 1, by omega⟩
    rw [dePath_tagged e b fd' name _ _ _ _ _ hs.1 hs.2.2.choose_spec.choose_spec.choose_spec] at hd
    have hkf : kvs = kvs.filter (fun _ => true) := (List.filter_eq_self.mpr (fun _ _ => rfl)).symm
    rw [hkf] at hd
    have := (rtTaggedD e c pfx name ty sub HI hty ht hok henv hve hro hrv hs rt kvs hnd hconf htag hmem (fun _ => true)
      (fun _ => rfl) (fun _ _ _ => rfl) b fd' fs' (by omega) (by omega) w hd).2
    rw [this, canonEntriesBD_nostruct c.s c.q _ ty _ kvs sub hF]; rfl
  · -- the struct: own fields, members for fragments on the abstract type itself, the flattened `on`
    rw [hF] at hemp
    simp only [hemp, Bool.not_true, Bool.false_eq_true, ↓reduceIte] at hs
    obtain ⟨hsS, hsT⟩ := hs
    have ⟨hpT, _, n', d', cr', hfind'⟩ := hsT
    obtain ⟨fd', rfl⟩ : ∃ k, fd = k + 2 := ⟨fd - 2, by omega⟩
    obtain ⟨fs', rfl⟩ : ∃ k, fs = k + 2 := ⟨fs - 2, by omega⟩
    have hnf := typename_not_fieldKey c.s sub htn hrk
    have hrestq : absRest c.s c.q ty sub kvs = kvs.filter (fun kv => !(fieldKeys c.s sub).contains kv.1) := by
      simp [absRest, hF]
    have hqt : ∀ v : Json, (fun kv : String × Json => !(fieldKeys c.s sub).contains kv.1) ("__typename", v) = true := by
      intro v; simpa using hnf
    refine rtAbsStruct e c pfx name ty sub _ (fieldsS_of_sSels ht)
      ((fieldKeys_sublist c.s sub).nodup (nodup_iff'.mp hrk)) hrn hsS hsT
      (accMemB e c pfx ty hty sub hsp henv fd' (by omega) (absRest c.s c.q ty sub kvs)).1
      b fd' fs' kvs _ hnd hrestq ?_ ?_ _ ?_ w hd
    · intro a fid sub' sf ft hx hsf hfx jv x hl hdx
      have hst : strictFieldV c.s (expandSel c.q (.field a fid sub')) jv = true :=
        (fieldsOkS_of_conf hnd hconf).2 a fid sub' hx sf hsf jv hl
      have hdep := depthsF_mem c.q hx
      exact H _ hx true (sSels_mem ht _ hx) (envSelsS_mem henv _ hx) (rustOkSelsD_mem hro _ hx) _ hfx b (fd' + 1)
        (fs' + 1) (by omega) (by omega) jv x hst hdx
    · -- a member for a fragment on the abstract type itself
      intro gid fr hm hfr hon y hy
      obtain ⟨hokB, _, _, hkB⟩ := absOkS_onB hty hok hm hfr hon
      have hisabs : fr.on.isAbstract = true := by rw [hon]; exact isAbstract_of_absHyp hty
      have hdep := depthsF_mem c.q hm
      rw [hrestq] at hy ⊢
      exact rtMemB e c ty hty hfr hon hokB (envSelsS_mem henv _ hm)
        (by simpa [rustOkSelD, hfr, hisabs] using rustOkSelsD_mem hro _ hm) (fd' + 1) (fs' + 1) (by omega) (by omega) rt kvs
        hnd _ hqt (fun k hk v => by simpa using hkB k hk)
        (by simpa [expandSel, hfr, confSelV, hon, happ] using confSelsV_mem hconf _ (expandSels_mem c.q hm)) htag hmem y hy
    · intro y hy
      rw [dePath_tagged e true fd' _ n' d' cr' _ _ hpT hfind', hrestq] at hy
      exact (rtTaggedD e c pfx (name ++ "On") ty sub HI hty ht hok henv hve hro hrv hsT rt kvs hnd hconf htag hmem
        (fun kv => !(fieldKeys c.s sub).contains kv.1) hqt
        (by
          intro k hk v
          have : k ∉ fieldKeys c.s sub := fun h' => hk (fieldKeys_sub_respKeys c.s sub k h')
          simpa using this)
        true fd' fs' (by omega) (by omega) y hy).2


theorem fieldTy_of {c : Ctx} {fid : Nat} {sf : StoredField} (hsf : c.s.fields[fid]? = some sf) :
    fieldTy c fid = sf.ty.id := by
  simp [fieldTy, hsf]

/-- a response object of a lone spread of a fragment on the abstract type itself is one of the fragment's body -/
theorem conformsAt_lone (s : Schema) (q : Query) (ty : TypeId) (g : Nat) (fr : RFragment)
    (hfr : q.fragments[g]? = some fr) (hon : fr.on = ty)
    (j : Json) (hc : conformsAt s ty (expandSels q [Sel.spread g]) j = true) : conformsAt s ty fr.sels j = true := by
  simp only [conformsAt, List.any_eq_true, List.mem_range, Bool.and_eq_true] at hc ⊢
  obtain ⟨rt, hrt, happ, hc⟩ := hc
  refine ⟨rt, hrt, happ, ?_⟩
  obtain ⟨kvs, rfl, -, -⟩ := conformsV_obj hc
  simpa only [expandSels, expandSel, hfr, conformsV, keysSelsV, keysSelV, hon, happ, ↓reduceIte, List.append_nil,
    confSelsV, confSelV, Bool.not_true, Bool.false_or, Bool.and_true] using hc

/-- round trip through the type alias of a lone spread of a fragment on the abstract type itself -/
theorem rtAliasB (name : String) (ty : TypeId) (g : Nat) (fr : RFragment) (hfr : c.q.fragments[g]? = some fr)
    (hty : absHyp c.s ty) (hok : fragOkB c.s c.q c.o ty g = true)
    (ha : AliasEnv e name (fragName c g)) (hf : FragEnvS e c g) (hro : rustOkFragB c g = true) (b : Bool) (fd fs : Nat)
    (hfd : 2 * selsDepth fr.sels + 4 ≤ fd) (hfs : 2 * selsDepth fr.sels + 4 ≤ fs) (j : Json) (w : Val)
    (hc : conformsAt c.s ty (expandSels c.q [Sel.spread g]) j = true) (hd : dePath e b fd name j = .ok w) :
    serPath e fs name w = .ok (canonAbsV c.s c.o.skipNone fr.sels j) := by
  obtain ⟨fr', hfr', hon, _, hv, hokf⟩ := fragOkB_parts hok
  rw [hfr] at hfr'; cases hfr'
  obtain ⟨hp, _, n, pub, hfind⟩ := ha
  unfold FragEnvS at hf
  rw [hfr] at hf
  have hisabs : fr.on.isAbstract = true := by
    rw [hon]; exact isAbstract_of_absHyp hty
  rw [hon] at hisabs
  simp only [hon, hisabs, ↓reduceIte] at hf
  have hsels : fragSels c.q g = fr.sels := by simp [fragSels, hfr]
  have hname : fragName c g = fr.name := by simp [fragName, hfr]
  simp only [rustOkFragB, hsels, Bool.and_eq_true] at hro
  rw [hname] at hfind
  obtain ⟨fd', rfl⟩ : ∃ k, fd = k + 1 := ⟨fd - 1, by omega⟩
  obtain ⟨fs', rfl⟩ : ∃ k, fs = k + 2 := ⟨fs - 2, by omega⟩
  have hd' : dePath e b fd' fr.name j = .ok w := by
    rw [dePath] at hd; simpa only [dePrim_none hp, hfind, deTyWith] using hd
  rw [serPath_alias e name fr.name n pub hfind]
  exact rtAbsV e c (c.cs.camel fr.name) fr.name ty fr.sels
    (fun x hx => (rtSelsV e c fr.sels _ x hx).1) (fun x hx => (rtSelsV e c fr.sels _ x hx).2) hty hv hokf hf.2 hro.2 hro.1
    hf.1 b fd' (fs' + 1) (by omega) (by omega) j w (conformsAt_lone c.s c.q ty g fr hfr hon j hc) hd'

theorem rtSelD : ∀ (x : Sel) (pfx : String), RTSelD e c pfx x := by
  intro x
  induction x using Sel.indInl with
  | spread g => intro pfx _ _ _ _ f hf; cases hf
  | inline t isub _ => intro pfx _ _ _ _ f hf; cases hf
  | typename => intro pfx _ _ _ _ f hf; cases hf
  | field a fid sub IHs IHIs =>
    intro pfx abs ht henv hro f hf b fd fs hfd hfs v y hst hd
    have IH : ∀ pfx, ∀ x ∈ sub, RTSelD e c pfx x := fun pfx x hx => IHs x hx pfx
    have IHI : ∀ t isub, Sel.inline t isub ∈ sub → ∀ pfx, ∀ x ∈ isub, RTSelD e c pfx x :=
      fun t isub hm pfx x hx => IHIs t isub hm x hx pfx
    rw [depthF] at hfd hfs
    obtain ⟨fd', rfl⟩ : ∃ k, fd = k + 3 := ⟨fd - 3, by omega⟩
    obtain ⟨fs', rfl⟩ : ∃ k, fs = k + 1 := ⟨fs - 1, by omega⟩
    obtain ⟨sf, hsf, hw, _, hk⟩ := sSel_kinds ht
    have hwf : wf (gtyOf sf.ty.quals) = true := by rw [wf_gtyOf]; exact hw
    rw [envSelS] at henv
    rw [rustOkSelD, Bool.and_eq_true, Bool.and_eq_true, isAbsField_of hsf, vtsOfField_of hsf, fieldTy_of hsf] at hro
    simp only [expandSel, strictFieldV] at hst
    rw [canonFieldD]
    rcases hk with ⟨k, sn, hid, hk, _⟩ | ⟨k, en, hid, hk, _⟩ | ⟨i, ob, hid, hk, hsub, hkeys⟩ |
      ⟨k, hid, hty, hsub, hokL⟩ | ⟨k, hid, hty, hsub, hokL⟩
    · simp only [hsf, hid, hk] at henv hst ⊢
      simp only [fieldOfSelV, hsf, leafNameV, hid, hk, Option.some.injEq] at hf
      subst hf
      by_cases hID : sn = "ID"
      · subst hID
        simp only [↓reduceIte]
        exact field_roundtrip_id _ _ (fun s => serPath_prim e fs' "ID" (.str s) (.str s) rfl) _
          (gtyOf sf.ty.quals) (by simp [fieldOf]) rfl hwf v y hd
      · simp only [hID, ↓reduceIte]
        have := field_roundtrip_plain (dePath e b (fd' + 3)) (serPath e (fs' + 1)) _ sn (gtyOf sf.ty.quals) id
          (by simp [fieldOf, hID]) rfl hwf (leaf_scalar_rt e sn henv hID b fd' fs') v y hd
        rwa [(canon_id _).2 v] at this
    · simp only [hsf, hid, hk] at henv hst ⊢
      simp only [fieldOfSelV, hsf, leafNameV, hid, hk, Option.some.injEq, Option.map_some] at hf
      subst hf
      obtain ⟨hp, hID, n', d, sp, vs, ser, de, hfind, hwft⟩ := henv
      have := field_roundtrip_plain (dePath e b (fd' + 3)) (serPath e (fs' + 1)) _ en.name (gtyOf sf.ty.quals) id
        (by simp [fieldOf, hID]) rfl hwf
        (leaf_enum_rt e b (fd' + 2) fs' en.name n' d sp vs ser de hp hfind hwft) v y hd
      rwa [(canon_id _).2 v] at this
    · simp only [hsf, hid] at henv hst ⊢
      simp only [fieldOfSelV, hsf, leafNameV, hid, Option.some.injEq] at hf
      subst hf
      obtain ⟨hs, hesub⟩ := henv
      rw [deField_plain _ _ _ _ hs.2.1] at hd
      rw [canonLambdaD]
      simp only [hid, TypeId.isAbstract, Bool.false_eq_true, ↓reduceIte, List.append_nil] at hro
      refine (leaf_roundtrip_on (dePath e b (fd' + 3)) (serPath e (fs' + 1)) _
        (conformsAt c.s (.object i) (expandSels c.q sub)) (canonSelD c.s c.q c.o.skipNone sub) ?_ _ hwf).2 v y hst hd
      intro j w hc hdw
      simp only [conformsAt, List.any_eq_true, List.mem_range, Bool.and_eq_true] at hc
      obtain ⟨rt, _, _, hcv⟩ := hc
      obtain ⟨kvs, rfl, hnd, hconf⟩ := conformsV_obj hcv
      rw [rustNamesB_noSpread c _ sub (no_spread_of_sSels hsub)] at hro
      exact rtStructD e c _ _ sub (fun x hx => IH _ x hx) false hsub hesub hro.1.2 hro.1.1 hkeys hs b _ _
        (by omega) (by omega) kvs (fieldsOkS_of_conf hnd hconf) w hdw
    all_goals
      simp only [hsf, hid] at henv hst ⊢
      simp only [fieldOfSelV, hsf, leafNameV, hid, Option.some.injEq] at hf
      subst hf
      rcases absOkL_cases hokL with ⟨hok, hlg⟩ | ⟨g, rfl, hokB⟩
      · simp only [hlg] at henv ⊢
        obtain ⟨hs, hve, hesub⟩ := henv
        have hID : pfx ++ c.cs.camel (a.getD sf.name) ≠ "ID" := by
          unfold AbsEnv at hs; split at hs
          · exact hs.2.1
          · exact hs.1.2.1
        rw [deField_plain _ _ _ _ hID] at hd
        rw [canonLambdaAbsD]
        simp only [hid, TypeId.isAbstract, ↓reduceIte, List.all_eq_true] at hro
        refine (leaf_roundtrip_on (dePath e b (fd' + 3)) (serPath e (fs' + 1)) _
          (conformsAt c.s _ (expandSels c.q sub)) (canonAbsD c.s c.q c.o.skipNone _ sub) ?_ _ hwf).2 v y hst hd
        intro j w hc hdw
        exact rtAbsD e c _ _ _ sub (fun x hx => IH _ x hx) (fun t isub hm x hx => IHI t isub hm _ x hx)
          hty hsub hok hesub hve hro.1.2 hro.1.1 (fun vt hvt => nodup_iff'.mp (hro.2 vt hvt)) hs b _ _
          (by omega) (by omega) j w hc hdw
      · -- a lone spread of a fragment on the abstract type itself: through the type alias
        simp only [loneG_lone] at henv ⊢
        obtain ⟨fr, hfr, hon, _⟩ := fragOkB_parts hokB
        simp only [hfr]
        rw [deField_plain _ _ _ _ henv.1.2.1] at hd
        have hdep : depthsF c.q [Sel.spread g] = selsDepth fr.sels + 1 := by simp [depthsF, depthF, fragSels, hfr]
        rw [hdep] at hfd hfs
        have hisabs : fr.on.isAbstract = true := by rw [hon]; rfl
        have hrog : rustOkFragB c g = true := by
          have := hro.1.2
          simpa [rustOkSelsD, rustOkSelD, hfr, hisabs] using this
        refine (leaf_roundtrip_on (dePath e b (fd' + 3)) (serPath e (fs' + 1)) _
          (conformsAt c.s _ (expandSels c.q [Sel.spread g])) (canonAbsV c.s c.o.skipNone fr.sels) ?_ _ hwf).2 v y hst hd
        intro j w hc hdw
        exact rtAliasB e c _ _ g fr hfr hty hokB henv.1 henv.2 hrog b _ _ (by omega) (by omega) j w hc hdw

theorem rtSelsD : ∀ (sels : List Sel) (pfx : String), ∀ x ∈ sels, RTSelD e c pfx x :=
  fun _ pfx x _ => rtSelD e c x pfx

/-- the fields of the bodies of the inline fragments of a selection set -/
theorem rtInlD : ∀ (sels : List Sel) (t : TypeId) (isub : List Sel), Sel.inline t isub ∈ sels →
    ∀ pfx, ∀ x ∈ isub, RTSelD e c pfx x :=
  fun _ _ _ _ pfx x _ => rtSelD e c x pfx

/-- **round trip of the struct emitted for an object-level selection set** of the class `VariantSpreadOp` -/
theorem structD_lossless (pfx name : String) (sels : List Sel)
    (ht : sSels c.s c.q c.o false sels = true) (henv : envSelsS e c pfx sels)
    (hro : rustOkSelsD c sels = true)
    (hrn : EnumSpec.nodup (rustNames c sels) = true)
    (hkeys : EnumSpec.nodup (respKeys c.s sels) = true)
    (hs : StructEnv e name (fieldsOfV c pfx sels)) (b : Bool) (fd fs : Nat)
    (hfd : 2 * depthsF c.q sels + 2 ≤ fd) (hfs : 2 * depthsF c.q sels + 1 ≤ fs) (rt : Nat) (j : Json) (v : Val)
    (hc : conformsV c.s rt (expandSels c.q sels) j = true) (hd : dePath e b fd name j = .ok v) :
    serPath e fs name v = .ok (canonSelD c.s c.q c.o.skipNone sels j) := by
  obtain ⟨kvs, rfl, hnd, hconf⟩ := conformsV_obj hc
  exact rtStructD e c pfx name sels (fun x hx => rtSelsD e c sels pfx x hx) false ht henv hro hrn hkeys hs b fd fs
    hfd hfs kvs (fieldsOkS_of_conf hnd hconf) v hd


end RTE

/-- Rust field names pairwise distinct in every emitted struct, members for fragments on abstract types and `on` included
    (decidable; implies `spreadRustOk`'s `rustOkSelsS` part on the class) -/
def spreadRustOkD (c : Ctx) (op : ROperation) : Bool :=
  rustOkSelsD c op.sels && EnumSpec.nodup (rustNames c op.sels)

/-- **losslessness at the top level** (generic environment), for the whole class -/
theorem top_losslessD (e : Env) (c : Ctx) (op : ROperation) (ht : VariantSpreadOp c op = true) (he : TopEnvS e c op)
    (hro : rustOkSelsD c op.sels = true) (hrn : EnumSpec.nodup (rustNames c op.sels) = true)
    (rt : Nat) (j : Json) (v : Val) (hc : conformsV c.s rt (expandSels c.q op.sels) j = true)
    (hd : Serde.de e (.path "ResponseData") j = .ok v) :
    Serde.ser e (.path "ResponseData") v = .ok (normJson (canonSelD c.s c.q c.o.skipNone op.sels j)) := by
  obtain ⟨_, _, hsels, hkeys⟩ := variantSpreadOp_parts ht
  exact Top.ser_norm he.size
    (fun fd fs hfd hfs => structD_lossless e c _ "ResponseData" op.sels hsels he.sub hro hrn hkeys he.root false fd fs
      (by omega) (by omega) rt j v hc) hd

/-- **`variantspread_lossless`**, for the whole class `VariantSpreadOp` (spreads of fragments on possible types *and* on the
    abstract type itself).  A conforming response that was read is written back as `normJson (canonSelD … j)`:
    `canonSelD` is what the serializer writes (at an abstract position: interface-level entries and, at the position of each
    spread of a fragment on the abstract type itself, that fragment's entries — its fields, `__typename`, its inline
    fragment's entries for the runtime type — then `__typename` and the entries of the selections on the runtime type);
    `normJson` is `serde_json::to_value`'s "a repeated key keeps its first position and its last value". -/
theorem variantspread_lossless (c : Ctx) (opIdx : Nat) (op : ROperation) (items : List Item)
    (hop : c.q.operations[opIdx]? = some op) (ht : VariantSpreadOp c op = true)
    (hgen : responseForQuery c opIdx = .ok items) (hok : moduleOk c items = true)
    (hr : spreadRustOkD c op = true)
    (j : Json) (hc : conformsOpS c op j = true) (v : Val)
    (hd : Serde.de (moduleEnv c items) (.path "ResponseData") j = .ok v) :
    Serde.ser (moduleEnv c items) (.path "ResponseData") v =
      .ok (normJson (canonSelD c.s c.q c.o.skipNone op.sels j)) := by
  simp only [spreadRustOkD, Bool.and_eq_true] at hr
  exact top_losslessD (moduleEnv c items) c op ht (topEnvS_of_module hop ht hgen hok) hr.1 hr.2 _ j v hc hd

theorem variantspread_roundtrip (c : Ctx) (opIdx : Nat) (op : ROperation) (items : List Item)
    (hop : c.q.operations[opIdx]? = some op) (ht : VariantSpreadOp c op = true)
    (hgen : responseForQuery c opIdx = .ok items) (hok : moduleOk c items = true)
    (hr : spreadRustOkD c op = true) (j : Json) (hc : conformsOpS c op j = true) :
    Serde.roundtrip (moduleEnv c items) (.path "ResponseData") j =
      .ok (normJson (canonSelD c.s c.q c.o.skipNone op.sels j)) :=
  Top.roundtrip_of (variantspread_accepts c opIdx op items hop ht hgen hok j hc)
    (variantspread_lossless c opIdx op items hop ht hgen hok hr j hc)

/-- what a GraphQL server returns for a `Human` hero with a `Droid` buddy (the two selections of `buddy` merged) -/
def mgJson : Json :=
  .obj [("hero", .obj [("__typename", .str "Human"),
    ("buddy", .obj [("__typename", .str "Droid"), ("primaryFunction", .str "beep")])])]

/-! ## without spreads of fragments on the abstract type itself: the closed form of `C01VariantSpreadC` -/

theorem canonEntriesD_eq (s : Schema) (q : Query) (skip : Bool) (kvs : List (String × Json)) (sels : List Sel)
    (h : ∀ a fid sub, Sel.field a fid sub ∈ sels → ∀ v, canonFieldD s q skip (.field a fid sub) v =
      canonFieldS s q skip (.field a fid sub) v) :
    canonEntriesD s q skip sels kvs = canonEntriesS s q skip sels kvs := by
  rw [canonEntriesD_flat, canonEntriesS_flat]; exact fieldEntries_congr h

theorem canonEntriesBD_eq (s : Schema) (q : Query) (skip : Bool) (ty : TypeId) (rest kvs : List (String × Json))
    (sub : List Sel) (hnb : noBAt q ty sub = true)
    (h : ∀ a fid sub', Sel.field a fid sub' ∈ sub → ∀ v, canonFieldD s q skip (.field a fid sub') v =
      canonFieldS s q skip (.field a fid sub') v) :
    canonEntriesBD s q skip ty rest sub kvs = canonEntriesS s q skip sub kvs := by
  rw [canonEntriesBD_flat, canonEntriesS_flat, ← fieldEntries_congr h]
  refine flatMap_congr_mem (fun x hx => ?_)
  -- no spread of `sub` is of a fragment on `ty`
  have hx' : isBSpread q ty x = false := by
    simp only [noBAt, Bool.not_eq_true', List.any_eq_false] at hnb
    simpa using hnb x hx
  cases x with
  | spread g =>
    simp only [fragEntries, spreadEntries, fieldEntry, List.nil_append]
    cases hf : q.fragments[g]? with
    | none => rfl
    | some f => simp only [isBSpread, hf] at hx'; simp [hx']
  | _ => simp [fragEntries, spreadEntries]

theorem canonVarD_eq_S (s : Schema) (q : Query) (skip : Bool) (n : String) (kvs : List (String × Json)) (sub : List Sel)
    (hi : ∀ t isub, Sel.inline t isub ∈ sub → canonEntriesD s q skip isub kvs = canonEntriesS s q skip isub kvs)
    (hs : ∀ g f, Sel.spread g ∈ sub → q.fragments[g]? = some f → ∃ i, f.on = .object i) :
    canonVarD s q skip n sub kvs = canonVarS s q skip n sub kvs := by
  rw [canonVarD_flat, canonVarS_flat]
  refine flatMap_congr_mem (fun x hx => append_congr (inlEntries_congr ?_) (fragEntries_congr ?_))
  · rintro t isub rfl; exact ⟨rfl, fun _ => hi t isub hx⟩
  · rintro g f rfl hf
    obtain ⟨i, hon⟩ := hs g f hx hf
    simp [onNamed, hon]

theorem canonSel_of_entries {s : Schema} {q : Query} {skip : Bool} {sels : List Sel}
    (h : ∀ kvs, canonEntriesD s q skip sels kvs = canonEntriesS s q skip sels kvs) (j : Json) :
    canonSelD s q skip sels j = canonSelS s q skip sels j := by
  cases j with
  | obj kvs => simp only [canonSelD, canonSelS, h kvs]
  | null => rfl
  | bool _ => rfl
  | int _ => rfl
  | num _ => rfl
  | str _ => rfl
  | arr _ => rfl

section NoB
variable (s : Schema) (q : Query) (o : Options) (skip : Bool)

theorem canonAbs_noB (ty : TypeId) (sub : List Sel) (hok : absOkS s q o ty sub = true)
    (hnb : noBAt q ty sub = true)
    (hF : ∀ a fid sub', Sel.field a fid sub' ∈ sub → ∀ v, canonFieldD s q skip (.field a fid sub') v =
      canonFieldS s q skip (.field a fid sub') v)
    (hI : ∀ t isub, Sel.inline t isub ∈ sub → ∀ kvs, canonEntriesD s q skip isub kvs = canonEntriesS s q skip isub kvs) :
    canonAbsD s q skip ty sub = canonAbsS s q skip sub := by
  funext j
  cases j with
  | obj kvs =>
    simp only [canonAbsD, canonAbsS]
    rw [canonEntriesBD_eq s q skip ty _ kvs sub hnb hF,
      canonVarD_eq_S s q skip _ kvs sub (fun t isub hm => hI t isub hm kvs) (fun g f hg hf => by
        obtain ⟨vt, f', hvt, _, hf', hon, _⟩ := spread_onA hok hnb g hg
        rw [hf] at hf'; cases hf'
        obtain ⟨hok1, _, _⟩ := absOkS_parts hok
        obtain ⟨_, _, hobj, _⟩ := absOk2_parts hok1
        obtain ⟨i, rfl, _⟩ := hobj vt hvt
        exact ⟨i, hon⟩)]
  | null => rfl
  | bool _ => rfl
  | int _ => rfl
  | num _ => rfl
  | str _ => rfl
  | arr _ => rfl

mutual
  theorem canonD_noB_sel : ∀ (x : Sel) (abs : Bool), sSel s q o abs x = true → noBSel s q x = true →
      (∀ v, canonFieldD s q skip x v = canonFieldS s q skip x v) ∧
      (∀ t isub, x = .inline t isub → ∀ kvs, canonEntriesD s q skip isub kvs = canonEntriesS s q skip isub kvs)
    | .field a fid sub, abs => by
      intro ht hnbx
      refine ⟨?_, fun t isub h => by cases h⟩
      intro v
      have IH := canonD_noB_sels sub
      obtain ⟨sf, hsf, _, _, hk⟩ := sSel_kinds ht
      rw [noBSel, Bool.and_eq_true] at hnbx
      rw [canonFieldD, canonFieldS]
      rcases hk with ⟨k, sn, hid, hk, _⟩ | ⟨k, en, hid, hk, _⟩ | ⟨i, ob, hid, hk, hsub, _⟩ |
        ⟨k, hid, hty, hsub, hokL⟩ | ⟨k, hid, hty, hsub, hokL⟩
      · simp only [hsf, hid, hk]
      · simp only [hsf, hid]
      · simp only [hsf, hid]
        obtain ⟨hF, _⟩ := IH false hsub hnbx.2
        rw [canonLambdaD, canonLambdaS]
        congr 1
        funext j
        exact canonSel_of_entries (fun kvs => canonEntriesD_eq s q skip kvs sub hF) j
      all_goals
        simp only [hsf, hid, TypeId.isAbstract, Bool.not_true, Bool.false_or] at hnbx ⊢
        obtain ⟨hF, hI⟩ := IH true hsub hnbx.2
        obtain ⟨hok, hlg⟩ := (absOkL_cases hokL).resolve_right (fun ⟨g, hg, hokB⟩ => by
          subst hg
          rw [noBAt_lone_false hokB] at hnbx
          cases hnbx.1)
        simp only [hlg]
        rw [canonLambdaAbsD, canonLambdaAbsS, canonAbs_noB s q o skip _ sub hok hnbx.1 hF hI]
    | .spread g, _ => by
      intro _ _
      exact ⟨fun v => by simp [canonFieldD, canonFieldS], fun t isub h => by cases h⟩
    | .inline t isub, abs => by
      intro ht hnbx
      simp only [sSel, Bool.and_eq_true] at ht
      rw [noBSel] at hnbx
      refine ⟨fun v => by simp [canonFieldD, canonFieldS], ?_⟩
      intro t' isub' h kvs
      cases h
      exact canonEntriesD_eq s q skip kvs isub (canonD_noB_sels isub false ht.1.2 hnbx).1
    | .typename, _ => by
      intro _ _
      exact ⟨fun v => by simp [canonFieldD, canonFieldS], fun t isub h => by cases h⟩
  theorem canonD_noB_sels : ∀ (sels : List Sel) (abs : Bool), sSels s q o abs sels = true → noBSels s q sels = true →
      (∀ a fid sub, Sel.field a fid sub ∈ sels → ∀ v, canonFieldD s q skip (.field a fid sub) v =
        canonFieldS s q skip (.field a fid sub) v) ∧
      (∀ t isub, Sel.inline t isub ∈ sels → ∀ kvs, canonEntriesD s q skip isub kvs = canonEntriesS s q skip isub kvs)
    | [], _ => by intro _ _; exact ⟨fun _ _ _ h => by simp at h, fun _ _ h => by simp at h⟩
    | x :: xs, abs => by
      intro ht hnbs
      obtain ⟨hx, hxs⟩ := sSels_cons ht
      rw [noBSels, Bool.and_eq_true] at hnbs
      obtain ⟨h1, h2⟩ := canonD_noB_sel x abs hx hnbs.1
      obtain ⟨i1, i2⟩ := canonD_noB_sels xs abs hxs hnbs.2
      constructor
      · intro a fid sub hm v
        rcases List.mem_cons.mp hm with heq | hm'
        · rw [heq]; exact h1 v
        · exact i1 a fid sub hm' v
      · intro t isub hm kvs
        rcases List.mem_cons.mp hm with heq | hm'
        · exact h2 t isub heq.symm kvs
        · exact i2 t isub hm' kvs
end

end NoB

theorem canonSelD_eq_S (s : Schema) (q : Query) (o : Options) (skip : Bool) (sels : List Sel) (abs : Bool)
    (hs : sSels s q o abs sels = true) (hnb : noBSels s q sels = true) (j : Json) :
    canonSelD s q skip sels j = canonSelS s q skip sels j :=
  canonSel_of_entries
    (fun kvs => canonEntriesD_eq s q skip kvs sels (canonD_noB_sels s q o skip sels abs hs hnb).1) j

/-- without spreads of fragments on the abstract type itself, `canonSelD` is the closed form `canonSelS` of `C01VariantSpreadC` -/
theorem canonSelD_noB (c : Ctx) (op : ROperation) (ht : VariantSpreadOp c op = true) (hnb : noBSpreads c op = true)
    (j : Json) : canonSelD c.s c.q c.o.skipNone op.sels j = canonSelS c.s c.q c.o.skipNone op.sels j :=
  canonSelD_eq_S c.s c.q c.o c.o.skipNone op.sels false (variantSpreadOp_parts ht).2.2.1 hnb j

/-! ## … and its side condition: without such spreads `rustOkSelsS` is `rustOkSelsD` -/

/-- a selection that is not itself a spread (whether a spread is one of a fragment on the abstract type is seen at the
    position, not at the spread) -/
theorem rustOkSelD_of_S (c : Ctx) : ∀ (x : Sel) (abs : Bool), sSel c.s c.q c.o abs x = true →
    noBSel c.s c.q x = true → rustOkSelS c x = true → (∀ g, x ≠ .spread g) → rustOkSelD c x = true := by
  intro x
  induction x using Sel.ind with
  | spread g => intro _ _ _ _ h; exact absurd rfl (h g)
  | typename => intro _ _ _ _ _; rw [rustOkSelD]
  | inline t isub IH =>
    intro abs ht hnb hro _
    simp only [sSel, Bool.and_eq_true] at ht
    rw [noBSel] at hnb
    rw [rustOkSelS] at hro
    rw [rustOkSelD, rustOkSelsD_eq_all, List.all_eq_true]
    intro y hy
    exact IH y hy false (sSels_mem ht.1.2 _ hy) (noBSels_mem hnb _ hy) (rustOkSelsS_mem hro _ hy)
      (fun g h => no_spread_of_sSels ht.1.2 g (h ▸ hy))
  | field a fid sub IH =>
    intro abs ht hnb hro _
    rw [sSel] at ht
    rw [noBSel, Bool.and_eq_true] at hnb
    rw [rustOkSelS, Bool.and_eq_true, Bool.and_eq_true] at hro
    rw [rustOkSelD, Bool.and_eq_true, Bool.and_eq_true]
    cases hsf : c.s.fields[fid]? with
    | none => simp [hsf] at ht
    | some sf =>
      simp only [hsf, Bool.and_eq_true] at ht hnb
      obtain ⟨_, hty⟩ := ht
      rw [fieldTy_of hsf]
      -- at an object position there is no spread; at an abstract one every spread is on a possible type
      have obj : sSels c.s c.q c.o false sub = true →
          (EnumSpec.nodup (rustNamesB c sf.ty.id sub ++ if isAbsField c fid = true then ["on"] else []) = true ∧
            rustOkSelsD c sub = true) ∧
          ((vtsOfField c fid).all fun vt => EnumSpec.nodup (varRust c vt sub)) = true := by
        intro hs
        refine ⟨⟨by rw [rustNamesB_noSpread c _ sub (no_spread_of_sSels hs)]; exact hro.1.1, ?_⟩, hro.2⟩
        rw [rustOkSelsD_eq_all, List.all_eq_true]
        intro y hy
        exact IH y hy false (sSels_mem hs _ hy) (noBSels_mem hnb.2 _ hy) (rustOkSelsS_mem hro.1.2 _ hy)
          (fun g h => no_spread_of_sSels hs g (h ▸ hy))
      have absp : absHyp c.s sf.ty.id → sSels c.s c.q c.o true sub = true → absOkL c.s c.q c.o sf.ty.id sub = true →
          (EnumSpec.nodup (rustNamesB c sf.ty.id sub ++ if isAbsField c fid = true then ["on"] else []) = true ∧
            rustOkSelsD c sub = true) ∧
          ((vtsOfField c fid).all fun vt => EnumSpec.nodup (varRust c vt sub)) = true := by
        intro hab hs hokL
        have hnbA : noBAt c.q sf.ty.id sub = true := by simpa [isAbstract_of_absHyp hab] using hnb.1
        have hok : absOkS c.s c.q c.o sf.ty.id sub = true := by
          rcases absOkL_cases hokL with ⟨hok, _⟩ | ⟨g, rfl, hokB⟩
          · exact hok
          · rw [noBAt_lone_false hokB] at hnbA; cases hnbA
        refine ⟨⟨by rw [rustNamesB_noB c _ sub hnbA]; exact hro.1.1, ?_⟩, hro.2⟩
        rw [rustOkSelsD_eq_all, List.all_eq_true]
        intro y hy
        have hroy := rustOkSelsS_mem hro.1.2 _ hy
        cases y with
        | spread g =>
          obtain ⟨vt, f, hvt, _, hf, hon, _⟩ := spread_onA hok hnbA g hy
          obtain ⟨hok1, _, _⟩ := absOkS_parts hok
          obtain ⟨_, _, hobj, _⟩ := absOk2_parts hok1
          obtain ⟨i, rfl, _⟩ := hobj vt hvt
          rw [rustOkSelS] at hroy
          simp only [rustOkSelD, hf, hon, TypeId.isAbstract, Bool.false_eq_true, ↓reduceIte, hroy]
        | field a' fid' sub' =>
          exact IH _ hy true (sSels_mem hs _ hy) (noBSels_mem hnb.2 _ hy) hroy (fun g h => nomatch h)
        | inline t' isub' =>
          exact IH _ hy true (sSels_mem hs _ hy) (noBSels_mem hnb.2 _ hy) hroy (fun g h => nomatch h)
        | typename => rw [rustOkSelD]
      cases hid : sf.ty.id with
      | scalar k =>
        simp only [hid, Bool.and_eq_true, List.isEmpty_iff] at hty
        rw [hid] at obj; rw [hty.2] at obj ⊢; exact obj rfl
      | «enum» k =>
        simp only [hid, Bool.and_eq_true, List.isEmpty_iff] at hty
        rw [hid] at obj; rw [hty.2] at obj ⊢; exact obj rfl
      | object i => simp only [hid, Bool.and_eq_true] at hty; rw [hid] at obj; exact obj hty.1.2
      | interface k => simp only [hid, Bool.and_eq_true] at hty; rw [hid] at absp; exact absp hty.1.1 hty.1.2 hty.2
      | union k => simp only [hid, Bool.and_eq_true] at hty; rw [hid] at absp; exact absp hty.1.1 hty.1.2 hty.2
      | input k => simp [hid] at hty

theorem rustOkSelsD_of_S (c : Ctx) (sels : List Sel) (hs : sSels c.s c.q c.o false sels = true)
    (hnb : noBSels c.s c.q sels = true) (hro : rustOkSelsS c sels = true) : rustOkSelsD c sels = true := by
  rw [rustOkSelsD_eq_all, List.all_eq_true]
  intro y hy
  exact rustOkSelD_of_S c y false (sSels_mem hs _ hy) (noBSels_mem hnb _ hy) (rustOkSelsS_mem hro _ hy)
    (fun g h => no_spread_of_sSels hs g (h ▸ hy))

/-! ## the round trip in the closed form of `C01VariantSpreadC` -/

section RTS
variable (e : Env) (c : Ctx)

theorem rtSelS : ∀ (x : Sel) (pfx : String), RTSelS e c pfx x := by
  intro x pfx abs ht henv hro hnbx f hf b fd fs hfd hfs v y hst hd
  have hns : ∀ g, x ≠ .spread g := by
    intro g h
    subst h
    cases hf
  have h := rtSelD e c x pfx abs ht henv (rustOkSelD_of_S c x abs ht hnbx hro hns) f hf b fd fs hfd hfs v y hst hd
  rwa [(canonD_noB_sel c.s c.q c.o c.o.skipNone x abs ht hnbx).1 v] at h

/-- the fields of the bodies of the inline fragments of a selection set -/
theorem rtInlS : ∀ (sels : List Sel) (t : TypeId) (isub : List Sel), Sel.inline t isub ∈ sels →
    ∀ pfx, ∀ x ∈ isub, RTSelS e c pfx x :=
  fun _ _ _ _ pfx x _ => rtSelS e c x pfx

theorem rtSelsS : ∀ (sels : List Sel) (pfx : String), ∀ x ∈ sels, RTSelS e c pfx x :=
  fun _ pfx x _ => rtSelS e c x pfx

/-- **round trip of the struct emitted for an object-level selection set** of the class `VariantSpreadOp` -/
theorem structS_lossless (pfx name : String) (sels : List Sel)
    (ht : sSels c.s c.q c.o false sels = true) (henv : envSelsS e c pfx sels)
    (hro : rustOkSelsS c sels = true) (hnbs : noBSels c.s c.q sels = true)
    (hrn : EnumSpec.nodup (rustNames c sels) = true)
    (hkeys : EnumSpec.nodup (respKeys c.s sels) = true)
    (hs : StructEnv e name (fieldsOfV c pfx sels)) (b : Bool) (fd fs : Nat)
    (hfd : 2 * depthsF c.q sels + 2 ≤ fd) (hfs : 2 * depthsF c.q sels + 1 ≤ fs) (rt : Nat) (j : Json) (v : Val)
    (hc : conformsV c.s rt (expandSels c.q sels) j = true) (hd : dePath e b fd name j = .ok v) :
    serPath e fs name v = .ok (canonSelS c.s c.q c.o.skipNone sels j) := by
  rw [← canonSelD_eq_S c.s c.q c.o c.o.skipNone sels false ht hnbs j]
  exact structD_lossless e c pfx name sels ht henv (rustOkSelsD_of_S c sels ht hnbs hro) hrn hkeys hs b fd fs hfd hfs rt j v
    hc hd

end RTS

/-- **losslessness at the top level** (generic environment) -/
theorem top_losslessS (e : Env) (c : Ctx) (op : ROperation) (ht : VariantSpreadOp c op = true) (he : TopEnvS e c op)
    (hro : rustOkSelsS c op.sels = true) (hrn : EnumSpec.nodup (rustNames c op.sels) = true)
    (hnb : noBSels c.s c.q op.sels = true)
    (rt : Nat) (j : Json) (v : Val) (hc : conformsV c.s rt (expandSels c.q op.sels) j = true)
    (hd : Serde.de e (.path "ResponseData") j = .ok v) :
    Serde.ser e (.path "ResponseData") v = .ok (canonSelS c.s c.q c.o.skipNone op.sels j) := by
  obtain ⟨_, _, hsels, hkeys⟩ := variantSpreadOp_parts ht
  have h := top_losslessD e c op ht he (rustOkSelsD_of_S c op.sels hsels hnb hro) hrn rt j v hc hd
  rwa [canonSelD_eq_S c.s c.q c.o c.o.skipNone op.sels false hsels hnb j,
    norm_canonSelS c.s c.q c.o c.o.skipNone rt op.sels j hsels hnb hkeys hc] at h

/-- **`variantspread_lossless`, for part (a)** (`noBSpreads`).  A conforming response that was read is written back as
    `canonSelS … j`: the closed form of `variantspread_lossless` where no fragment on the abstract type itself is spread. -/
theorem variantspread_lossless_partial (c : Ctx) (opIdx : Nat) (op : ROperation) (items : List Item)
    (hop : c.q.operations[opIdx]? = some op) (ht : VariantSpreadOp c op = true) (hnb : noBSpreads c op = true)
    (hgen : responseForQuery c opIdx = .ok items) (hok : moduleOk c items = true)
    (hr : spreadRustOk c op = true)
    (j : Json) (hc : conformsOpS c op j = true) (v : Val)
    (hd : Serde.de (moduleEnv c items) (.path "ResponseData") j = .ok v) :
    Serde.ser (moduleEnv c items) (.path "ResponseData") v = .ok (canonSelS c.s c.q c.o.skipNone op.sels j) := by
  simp only [spreadRustOk, Bool.and_eq_true] at hr
  exact top_losslessS (moduleEnv c items) c op ht (topEnvS_of_module hop ht hgen hok) hr.1 hr.2 hnb _ j v hc hd

/-- both in one statement: `roundtrip j = canonSelS j` -/
theorem variantspread_roundtrip_partial (c : Ctx) (opIdx : Nat) (op : ROperation) (items : List Item)
    (hop : c.q.operations[opIdx]? = some op) (ht : VariantSpreadOp c op = true) (hnb : noBSpreads c op = true)
    (hgen : responseForQuery c opIdx = .ok items) (hok : moduleOk c items = true)
    (hr : spreadRustOk c op = true) (j : Json) (hc : conformsOpS c op j = true) :
    Serde.roundtrip (moduleEnv c items) (.path "ResponseData") j = .ok (canonSelS c.s c.q c.o.skipNone op.sels j) :=
  Top.roundtrip_of (variantspread_accepts c opIdx op items hop ht hgen hok j hc)
    (variantspread_lossless_partial c opIdx op items hop ht hnb hgen hok hr j hc)

/-- … which `serde_json::to_value` leaves alone: for part (a) the theorem of this file gives the closed form of
    `variantspread_roundtrip_partial` -/
theorem variantspread_roundtrip_noB (c : Ctx) (opIdx : Nat) (op : ROperation) (items : List Item)
    (hop : c.q.operations[opIdx]? = some op) (ht : VariantSpreadOp c op = true) (hnb : noBSpreads c op = true)
    (hgen : responseForQuery c opIdx = .ok items) (hok : moduleOk c items = true)
    (hr : spreadRustOkD c op = true) (j : Json) (hc : conformsOpS c op j = true) :
    Serde.roundtrip (moduleEnv c items) (.path "ResponseData") j = .ok (canonSelS c.s c.q c.o.skipNone op.sels j) := by
  obtain ⟨_, _, hsels, hkeys⟩ := variantSpreadOp_parts ht
  rw [variantspread_roundtrip c opIdx op items hop ht hgen hok hr j hc, canonSelD_noB c op ht hnb j,
    norm_canonSelS c.s c.q c.o c.o.skipNone _ op.sels j hsels hnb hkeys hc]

end E2E
end C01
end GqlVerif
