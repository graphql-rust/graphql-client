import GqlVerif.Proofs.C04DefaultsRustModule
import GqlVerif.Proofs.C04DefaultsWitness
/-!
# C04 under `normalization = rust` — default literals: a worked instance, and the side conditions on witnesses

The schema of `C04RustExamples.lean` (`scalar date_time`, `enum sort_order { asc desc }`, `input page_input { first: Int,
after: ID, order: sort_order!, since: date_time, ids: [ID!], next: page_input }` — `next` boxed) with

```graphql
query Q($page: page_input = {order: desc, first: 3, ids: "a", next: {order: asc, since: null}},
        $order: sort_order = asc, $orders: [sort_order!] = desc, $since: date_time = "2020", $limit: Int! = 5,
        $plain: Int) { x }
```
Under `rust` the bodies say `PageInput { .. order: SortOrder::Desc .. }`, `Some(SortOrder::Asc)`, `Some(vec![SortOrder::Desc])`
where the `none` module says `page_input { .. order: sort_order::desc .. }`, … (`dr_bodies`: both lists, they differ).

* `dr_side`, `dr_hyps`, `dr_valid`: every hypothesis of `default_typechecks_rust'` / `default_value_correct_rust'`;
  `dr_typechecks`, `dr_value_correct`: the theorems on the instance; `dr_run`: the model's own evaluation in the `rust`
  module — each body type-checks and is written as the coerced canonical default (`dr_expected`);
  `dr_raw_names_fail`: the `none` bodies do **not** type-check in the `rust` module (the renaming is not vacuous).
* `wx_enum_idents` — **`EnumIdentsInjective` is needed**: two enum values that merge under `rust` (`foo_bar`, `fooBar` ↦
  `FooBar`); the default `fooBar` is rendered `Some(ColorKind::FooBar)`, which (in the model, where the first variant of
  that name wins) denotes the *other* value: it is written as `"foo_bar"`, not as the declared default `"fooBar"`.
  Every other hypothesis holds.
* `wx_names` — **`NamesInjective` is needed**: an input type whose name starts with `__` is *defined* under its
  camel-cased name and *referenced* under its raw name (`Normalization.fieldType` keeps `__…`); the literal
  `Page { .. }` (a well-typed `__page { .. }` under `none`) does not type-check at `Option<__page>`.
* `nx_keyword_variant` — why `valueToLiteral_rename` asks for `enumOk`: the *invalid* default `type` for
  `enum kind { type_ }` is rendered `kind::type_` under `none` — which names the variant of the value `type_`:
  **an invalid default that type-checks** — and `Kind::type_` under `rust`, which names nothing.
-/
namespace GqlVerif
namespace C04DR
open Codegen C04S C04R C04D C09N
open C01.E2E (noNorm)

/-! ## the instance -/

def drPage : Value :=
  .obj [("order", .enum "desc"), ("first", .int 3), ("ids", .str "a"),
        ("next", .obj [("order", .enum "asc"), ("since", .null)])]

def drVars : List RVariable :=
  [{ opIdx := 0, name := "page", default := some drPage, ty := { id := .input 0, quals := [] } },
   { opIdx := 0, name := "order", default := some (.enum "asc"), ty := { id := .enum 0, quals := [] } },
   { opIdx := 0, name := "orders", default := some (.enum "desc"), ty := { id := .enum 0, quals := [.list, .required] } },
   { opIdx := 0, name := "since", default := some (.str "2020"), ty := { id := .scalar 5, quals := [] } },
   { opIdx := 0, name := "limit", default := some (.int 5), ty := { id := .scalar 2, quals := [.required] } },
   { opIdx := 0, name := "plain", default := none, ty := { id := .scalar 2, quals := [] } }]

def drQuery : Query :=
  { operations := [{ name := "Q", kind := .query, objectId := 0, sels := [.field none 0 []] }], variables := drVars }

/-- the context: `normalization = rust` -/
def drC₁ : Ctx :=
  { s := rxSchema, q := drQuery, o := { normalization := .rust }, cs := { snake := id, camel := tblCamel rxTbl } }

def drItems₀ : List Item := itemsOf (noNorm drC₁)
def drItems₁ : List Item := itemsOf drC₁
def drEnv₀ : Env := moduleEnv (noNorm drC₁) drItems₀
def drEnv₁ : Env := moduleEnvN drC₁ drItems₁

/-- **the side conditions of the wire invariant hold** -/
theorem dr_side : RustSideV (noNorm drC₁) drC₁ 0 drItems₀ drItems₁ :=
  RustSideV.of_itemsOf (by decide +kernel)

/-- **the hypotheses of the `none` theorems hold of `noNorm drC₁` and its module** -/
theorem dr_hyps :
    (∀ i ∈ drC₁.s.inputs, keywordReplace i.name = i.name) ∧
    (∀ n ∈ drC₁.s.scalars, keywordReplace n = n) ∧
    (∀ e ∈ drC₁.s.enums, keywordReplace e.name = e.name) ∧
    C02.OutputOnly drC₁.s drC₁.q = true ∧ C02.InputFieldsRelevant drC₁.s = true ∧
    (∀ v ∈ drC₁.q.opVariables 0, C02.Relevant v.ty.id) ∧
    (Scope.defines drItems₀).Nodup ∧ (∀ it ∈ drItems₀, (C02.memberIdents it).Nodup) ∧
    (∀ it ∈ drItems₀, C01.notPrim it.name) ∧ ExternsFree (noNorm drC₁) drItems₀ ∧ drC₁.o.externEnums = [] := by
  unfold ExternsFree
  decide +kernel

/-- every default of the instance is valid for its declared type (with list input coercion: `orders`, `page.ids`),
    satisfies `kindOk` and nests fewer than 64 levels -/
theorem dr_valid : ∀ v ∈ drC₁.q.opVariables 0, defaultOkB Leaves.graphql rxSchema v = true := by
  have hall : ∀ v ∈ drVars, defaultOkB Leaves.graphql rxSchema v = true := by decide +kernel
  intro v hv
  exact hall v (List.mem_filter.mp hv).1

/-- the inner `page_input { order: asc, since: null }`, under the names of the two modules -/
def drInner (inp en asc : String) : LitExpr :=
  .struct inp [("first", .none), ("after", .none), ("order", .path en asc), ("since", .none), ("ids", .none),
               ("next", .box .none)]

/-- the bodies, as a function of the names `normalization` changes -/
def drBodies (inp en asc desc : String) : List (String × LitExpr) :=
  [("default_page", .some (.struct inp
      [("first", .some (.int 3)), ("after", .none), ("order", .path en desc), ("since", .none),
       ("ids", .some (.vec [.str "a"])), ("next", .box (.some (drInner inp en asc)))])),
   ("default_order", .some (.path en asc)),
   ("default_orders", .some (.vec [.path en desc])),
   ("default_since", .some (.str "2020")),
   ("default_limit", .int 5)]

/-- **the bodies under `none` and under `rust`**: the same shape, other names -/
theorem dr_bodies :
    (match defaultBodies (noNorm drC₁) 0 with
     | .ok bs => bodiesEqB bs (drBodies "page_input" "sort_order" "asc" "desc")
     | .error _ => false) = true ∧
    (match defaultBodies drC₁ 0 with
     | .ok bs => bodiesEqB bs (drBodies "PageInput" "SortOrder" "Asc" "Desc")
     | .error _ => false) = true := by decide +kernel

/-- **`default_typechecks_rust'` on the instance**: every `default_*` body of the `rust` module type-checks at the
    variable's type (`Option<PageInput>`, `Option<SortOrder>`, `Option<Vec<SortOrder>>`, `Option<DateTime>`, `Int`) -/
theorem dr_typechecks (v : RVariable) (hv : v ∈ drC₁.q.opVariables 0) (d : Value) (hd : v.default = some d) :
    ∃ lit t x, valueToLiteral drC₁ 64 d v.ty.id v.ty.quals = .ok lit ∧ lit.hasCompileError = false ∧
      variableType drC₁ v = .ok t ∧ evalLit drEnv₁ lit t = some x ∧ HasTy drEnv₁ t x := by
  obtain ⟨h1, h2, h3, h4, h5, h6, h7, h8, h9, h10, h11⟩ := dr_hyps
  obtain ⟨hv1, hv2, hv3⟩ := defaultOkB_sound (dr_valid v hv) hd
  exact default_typechecks_rust' Leaves.graphql drC₁ 0 drItems₀ drItems₁ dr_side h1 h2 h3 h4 h5 h6 h7 h8 h9 h10
    int32_sub_i64 rfl h11 v hv d hv1 hv2 hv3

/-- **`default_value_correct_rust'` on the instance** -/
theorem dr_value_correct (v : RVariable) (hv : v ∈ drC₁.q.opVariables 0) (d : Value) (hd : v.default = some d) :
    ∃ lit t x, valueToLiteral drC₁ 64 d v.ty.id v.ty.quals = .ok lit ∧ variableType drC₁ v = .ok t ∧
      evalLit drEnv₁ lit t = some x ∧
      Serde.ser drEnv₁ t x =
        .ok (canon rxSchema false v.ty.id (gty v.ty) (coerce rxSchema v.ty.id (gty v.ty) (valueJson d))) := by
  obtain ⟨h1, h2, h3, h4, h5, h6, h7, h8, h9, h10, h11⟩ := dr_hyps
  obtain ⟨hv1, hv2, hv3⟩ := defaultOkB_sound (dr_valid v hv) hd
  obtain ⟨lit, t, x, hl, _, ht, hx, _⟩ := dr_typechecks v hv d hd
  exact ⟨lit, t, x, hl, ht, hx, default_value_correct_rust' Leaves.graphql drC₁ 0 drItems₀ drItems₁ dr_side h1 h2 h3 h4 h5
    h6 h7 h8 h9 h10 int32_sub_i64 rfl h11 v hv d hv1 hv2 hv3 lit t x hl ht hx⟩

/-- the declared defaults, coerced to the declared type, in canonical form — no Rust name occurs in them -/
def drExpected : List Json :=
  [.obj [("first", .int 3), ("after", .null), ("order", .str "desc"), ("since", .null), ("ids", .arr [.str "a"]),
         ("next", .obj [("first", .null), ("after", .null), ("order", .str "asc"), ("since", .null), ("ids", .null),
                        ("next", .null)])],
   .str "asc", .arr [.str "desc"], .str "2020", .int 5]

/-- **the model's own run in the `rust` module**: each body type-checks and is written as the expected JSON -/
theorem dr_run : ((drVars.take 5).zip drExpected).all (fun p => runDefault drC₁ drEnv₁ p.1 p.2) = true := by
  decide +kernel

/-- the right-hand sides of `dr_value_correct`, computed -/
theorem dr_expected : ((drVars.take 5).zip drExpected).all (fun p =>
    match p.1.default with
    | none => false
    | some d => jsonEqB (canon rxSchema false p.1.ty.id (gty p.1.ty) (coerce rxSchema p.1.ty.id (gty p.1.ty) (valueJson d)))
        p.2) = true := by
  decide +kernel

/-- the literal type-checks at `t` in `e` -/
def typechecksAt (e : Env) (r : Outcome LitExpr) (t : Outcome RTy) : Bool :=
  match r, t with
  | .ok lit, .ok t => !lit.hasCompileError && (evalLit e lit t).isSome
  | _, _ => false

/-- **the renaming is not vacuous**: the bodies rendered under `none` (`page_input { .. }`, `sort_order::asc`) do not
    type-check in the `rust` module, those rendered under `rust` do -/
theorem dr_raw_names_fail :
    ((drVars.take 3).all fun v => match v.default with
      | none => false
      | some d =>
        typechecksAt drEnv₁ (valueToLiteral drC₁ 64 d v.ty.id v.ty.quals) (variableType drC₁ v) &&
        !typechecksAt drEnv₁ (valueToLiteral (noNorm drC₁) 64 d v.ty.id v.ty.quals) (variableType drC₁ v)) = true := by
  decide +kernel

/-! ## `EnumIdentsInjective` is needed -/

/-- `scalar date_time`, `scalar url`, `enum color_kind { foo_bar fooBar }`, … (`C09N.w1Schema`) with
    `query Q($c: color_kind = fooBar) { color at until }` -/
def wxQuery : Query :=
  { operations := [{ name := "Q", kind := .query, objectId := 0,
                     sels := [.field none 0 [], .field none 1 [], .field none 2 []] }],
    variables := [{ opIdx := 0, name := "c", default := some (.enum "fooBar"), ty := { id := .enum 0, quals := [] } }] }

def wxC₁ : Ctx := { s := w1Schema, q := wxQuery, o := { normalization := .rust }, cs := { snake := id, camel := tblCamel w1Tbl } }
def wxItems₀ : List Item := itemsOf (noNorm wxC₁)
def wxItems₁ : List Item := itemsOf wxC₁
def wxVar : RVariable := { opIdx := 0, name := "c", default := some (.enum "fooBar"), ty := { id := .enum 0, quals := [] } }

/-- every hypothesis of `default_value_correct_rust'` but `EnumIdentsInjective` holds (the default is valid, `kindOk`);
    under `none` the body `Some(color_kind::fooBar)` is written as the declared default `"fooBar"`; under `rust` the body
    `Some(ColorKind::FooBar)` type-checks (in the model) and is written as `"foo_bar"` -/
theorem wx_enum_idents :
    IdStable (noNorm wxC₁) wxC₁ ∧
    responseForQuery (noNorm wxC₁) 0 = .ok wxItems₀ ∧ responseForQuery wxC₁ 0 = .ok wxItems₁ ∧
    NamesInjective (moduleEnv (noNorm wxC₁) wxItems₀) (moduleEnvN wxC₁ wxItems₁) ∧
    FieldsWF (moduleEnv (noNorm wxC₁) wxItems₀) ∧
    ¬ EnumIdentsInjective (noNorm wxC₁) wxC₁ ∧
    (Scope.defines wxItems₀).Nodup ∧ (∀ it ∈ wxItems₀, (C02.memberIdents it).Nodup) ∧
    (∀ it ∈ wxItems₀, C01.notPrim it.name) ∧
    defaultOkB Leaves.graphql w1Schema wxVar = true ∧
    runDefault (noNorm wxC₁) (moduleEnv (noNorm wxC₁) wxItems₀) wxVar (.str "fooBar") = true ∧
    runDefault wxC₁ (moduleEnvN wxC₁ wxItems₁) wxVar (.str "foo_bar") = true ∧
    runDefault wxC₁ (moduleEnvN wxC₁ wxItems₁) wxVar (.str "fooBar") = false :=
  ⟨by decide +kernel, itemsOf_ok (by decide +kernel), itemsOf_ok (by decide +kernel), by decide +kernel⟩

/-- … and the remaining hypotheses of the theorems hold in `wx_enum_idents` (the instance `wxC₁`) -/
theorem wx_hyps :
    (∀ i ∈ wxC₁.s.inputs, keywordReplace i.name = i.name) ∧
    (∀ n ∈ wxC₁.s.scalars, keywordReplace n = n) ∧
    (∀ e ∈ wxC₁.s.enums, keywordReplace e.name = e.name) ∧
    C02.OutputOnly wxC₁.s wxC₁.q = true ∧ C02.InputFieldsRelevant wxC₁.s = true ∧
    (∀ v ∈ wxC₁.q.opVariables 0, C02.Relevant v.ty.id) ∧ ExternsFree (noNorm wxC₁) wxItems₀ ∧
    wxC₁.o.externEnums = [] := by
  unfold ExternsFree
  decide +kernel

/-! ## `NamesInjective` is needed -/

/-- `input __page { first: Int }`, `query Q($p: __page = {first: 3}) { x }` -/
def wnSchema : Schema :=
  { rxSchema with inputs := [{ name := "__page", isOneOf := false, fields := [("first", { id := .scalar 2, quals := [] })] }] }

def wnVar : RVariable :=
  { opIdx := 0, name := "p", default := some (.obj [("first", .int 3)]), ty := { id := .input 0, quals := [] } }

def wnQuery : Query :=
  { operations := [{ name := "Q", kind := .query, objectId := 0, sels := [.field none 0 []] }], variables := [wnVar] }

def wnC₁ : Ctx :=
  { s := wnSchema, q := wnQuery, o := { normalization := .rust },
    cs := { snake := id, camel := tblCamel (("__page", "Page") :: rxTbl) } }
def wnItems₀ : List Item := itemsOf (noNorm wnC₁)
def wnItems₁ : List Item := itemsOf wnC₁

/-- (the instance `wnSchema` / `wnC₁`, with `wn_hyps`) both modules are generated, `IdStable`, `EnumIdentsInjective`,
    `FieldsWF` hold, the default is valid; the `none`
    body `Some(__page { first: Some(3) })` type-checks and is written as the default; the name `__page` corresponds to
    both `Page` (the definition) and `__page` (the references): `NamesInjective` fails, and the `rust` body
    `Some(Page { first: Some(3) })` does **not** type-check at the variable's type `Option<__page>` -/
theorem wx_names :
    IdStable (noNorm wnC₁) wnC₁ ∧
    responseForQuery (noNorm wnC₁) 0 = .ok wnItems₀ ∧ responseForQuery wnC₁ 0 = .ok wnItems₁ ∧
    EnumIdentsInjective (noNorm wnC₁) wnC₁ ∧ FieldsWF (moduleEnv (noNorm wnC₁) wnItems₀) ∧
    ¬ NamesInjective (moduleEnv (noNorm wnC₁) wnItems₀) (moduleEnvN wnC₁ wnItems₁) ∧
    defaultOkB Leaves.graphql wnSchema wnVar = true ∧
    runDefault (noNorm wnC₁) (moduleEnv (noNorm wnC₁) wnItems₀) wnVar (.obj [("first", .int 3)]) = true ∧
    isOkLit (.some (.struct "Page" [("first", .some (.int 3))])) (valueToLiteral wnC₁ 64 (.obj [("first", .int 3)]) (.input 0) [])
      = true ∧
    (match variableType wnC₁ wnVar with | .ok t => t == .opt (.path "__page") | .error _ => false) = true ∧
    typechecksAt (moduleEnvN wnC₁ wnItems₁) (valueToLiteral wnC₁ 64 (.obj [("first", .int 3)]) (.input 0) [])
      (variableType wnC₁ wnVar) = false :=
  ⟨by decide +kernel, itemsOf_ok (by decide +kernel), itemsOf_ok (by decide +kernel), by decide +kernel⟩

/-- … and the remaining hypotheses of the theorems hold in `wx_names` -/
theorem wn_hyps :
    (∀ i ∈ wnC₁.s.inputs, keywordReplace i.name = i.name) ∧
    (∀ n ∈ wnC₁.s.scalars, keywordReplace n = n) ∧
    (∀ e ∈ wnC₁.s.enums, keywordReplace e.name = e.name) ∧
    C02.OutputOnly wnC₁.s wnC₁.q = true ∧ C02.InputFieldsRelevant wnC₁.s = true ∧
    (∀ v ∈ wnC₁.q.opVariables 0, C02.Relevant v.ty.id) ∧
    (Scope.defines wnItems₀).Nodup ∧ (∀ it ∈ wnItems₀, (C02.memberIdents it).Nodup) ∧
    (∀ it ∈ wnItems₀, C01.notPrim it.name) ∧ ExternsFree (noNorm wnC₁) wnItems₀ ∧ wnC₁.o.externEnums = [] := by
  unfold ExternsFree
  decide +kernel

/-! ## why `valueToLiteral_rename` asks for `enumOk` -/

/-- `enum kind { type_ }` -/
def nkSchema : Schema := { rxSchema with enums := [{ name := "kind", variants := ["type_"] }] }

def nkVar : RVariable := { opIdx := 0, name := "k", default := some (.enum "type"), ty := { id := .enum 0, quals := [] } }

def nkQuery : Query :=
  { operations := [{ name := "Q", kind := .query, objectId := 0, sels := [.field none 0 []] }], variables := [nkVar] }

def nkC₁ : Ctx :=
  { s := nkSchema, q := nkQuery, o := { normalization := .rust },
    cs := { snake := id, camel := tblCamel [("kind", "Kind"), ("type_", "Type")] } }
def nkItems₀ : List Item := itemsOf (noNorm nkC₁)
def nkItems₁ : List Item := itemsOf nkC₁

/-- the default `type` is **not** a value of `enum kind { type_ }` (`validCB` rejects, `enumOk` fails); under `none` it
    is rendered `Some(kind::type_)` — `keyword_replace("type")` — which is the variant of the value `type_`: it
    type-checks and is written as `"type_"` (an invalid default the generator accepts silently); under `rust` it is
    rendered `Some(Kind::type_)`, which names no variant of `Kind { Type }`: the two identifiers of a literal that is not
    a value of the enum are unrelated to the positions of the enum's variants -/
theorem nx_keyword_variant :
    responseForQuery (noNorm nkC₁) 0 = .ok nkItems₀ ∧ responseForQuery nkC₁ 0 = .ok nkItems₁ ∧
    EnumIdentsInjective (noNorm nkC₁) nkC₁ ∧
    NamesInjective (moduleEnv (noNorm nkC₁) nkItems₀) (moduleEnvN nkC₁ nkItems₁) ∧
    defaultOkB Leaves.graphql nkSchema nkVar = false ∧ enumOk nkSchema (.enum 0) (.enum "type") = false ∧
    isOkLit (.some (.path "kind" "type_")) (valueToLiteral (noNorm nkC₁) 64 (.enum "type") (.enum 0) []) = true ∧
    runDefault (noNorm nkC₁) (moduleEnv (noNorm nkC₁) nkItems₀) nkVar (.str "type_") = true ∧
    isOkLit (.some (.path "Kind" "type_")) (valueToLiteral nkC₁ 64 (.enum "type") (.enum 0) []) = true ∧
    typechecksAt (moduleEnvN nkC₁ nkItems₁) (valueToLiteral nkC₁ 64 (.enum "type") (.enum 0) []) (variableType nkC₁ nkVar)
      = false :=
  ⟨itemsOf_ok (by decide +kernel), itemsOf_ok (by decide +kernel), by decide +kernel⟩

end C04DR
end GqlVerif
