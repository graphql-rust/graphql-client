import GqlVerif.Proofs.C01TopLevel
import GqlVerif.Proofs.SerdeFuel

/-! `C01TopLevel` for classes whose struct-level theorems hold "from some fuel on": in an environment with fuel independence
(`SerdeFuel.EnvOK`, `EnvOKS`) that is enough for `Serde.de` / `Serde.ser`. -/

namespace GqlVerif
namespace C01
namespace Top
open Serde C03

variable {e : Env}

theorem de_iff_ok {loose : Bool → Json → Bool} (hE : SerdeFuel.EnvOK e)
    (acc : ∃ N, ∀ b fd, N ≤ fd → ∀ j, okB (dePath e b fd "ResponseData" j) = loose b j) (j : Json) :
    okB (Serde.de e (.path "ResponseData") j) = loose false j := by
  obtain ⟨N, hN⟩ := acc
  rw [show Serde.de e (.path "ResponseData") j = dePath e false (deFuel e j) "ResponseData" j from rfl,
    ← SerdeFuel.dePath_fuel_indep hE false "ResponseData" j (max N (deFuel e j)) (Nat.le_max_right _ _)]
  exact hN false _ (Nat.le_max_left _ _) j

theorem ser_norm_ok {canon : Json → Json} {spec : Json → Prop} (hE : SerdeFuel.EnvOK e) (hS : SerdeFuel.EnvOKS e)
    (rt : ∃ N, ∀ b fd fs, N ≤ fd → N ≤ fs → ∀ j v, spec j → dePath e b fd "ResponseData" j = .ok v →
      serPath e fs "ResponseData" v = .ok (canon j))
    {j : Json} {v : Val} (hc : spec j) (hd : Serde.de e (.path "ResponseData") j = .ok v) :
    Serde.ser e (.path "ResponseData") v = .ok (normJson (canon j)) := by
  obtain ⟨N, hN⟩ := rt
  rw [show Serde.de e (.path "ResponseData") j = dePath e false (deFuel e j) "ResponseData" j from rfl,
    ← SerdeFuel.dePath_fuel_indep hE false "ResponseData" j (max N (deFuel e j)) (Nat.le_max_right _ _)] at hd
  have hser := hN false _ (max N (SerdeFuel.serFuel e v)) (Nat.le_max_left _ _) (Nat.le_max_left _ _) j v hc hd
  rw [← SerdeFuel.ser_fuel_indep hS (.path "ResponseData") v (max N (SerdeFuel.serFuel e v)) (Nat.le_max_right _ _)]
  rw [show serTy e (max N (SerdeFuel.serFuel e v)) (.path "ResponseData") v =
    serPath e (max N (SerdeFuel.serFuel e v)) "ResponseData" v from rfl, hser]
  rfl

end Top
end C01
end GqlVerif
