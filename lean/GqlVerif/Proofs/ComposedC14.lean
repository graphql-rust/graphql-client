import GqlVerif.Proofs.ComposedC11
/-!
# Composed C14 — a payload key that no member names is ignored, end to end

`C14.omitted_field_key_ignored` / `omitted_key_not_taken` are about `deOwnWith` / `takeKeys` with the extra entry at
the head.  Here, on the serde model's own struct / named-type readers, for the extra key at ANY position (and any
number of occurrences: `eraseKey k` removes every entry whose key is `k`).

Plain-struct path (`deStructWith` on a struct without flatten members, `dePath` at such a struct): the hypothesis is
that `k` is not the wire name of a non-flatten member.

Flatten-buffer path: `read_alike` is the argument for any relation on entry lists that every reader respects
(`ReadAlike`); its instance for `eraseKey` is `erase_readAlike`, and `denied_key_ignored_flatten` is `read_alike` at it.  For every environment, fuel, named type `p`
and payload object: if `KeyFree e k p` — no struct *reachable from `p` at the same JSON object level* (through
flattened members, newtype-variant payloads of tagged enums, aliases, extern aliases: `Reach`) has a non-flatten
member with wire name `k`, no reachable tagged enum uses `k` as its tag, and no `@oneOf` enum is reachable — then
`dePath e b fuel p (.obj kvs) = dePath e b fuel p (.obj (eraseKey k kvs))`: the extra entry stays in the flatten buffer,
is seen by every borrowing member (tagged `on`, nested flatten structs), and changes nothing.  Also for `deFlat`
(same value, the buffer handed on differs only by the extra entries) and `deTyWith`.

The statement on the top-level `Serde.de` is *conditional* on fuel-independence of the smaller payload (`de` computes
its fuel from the payload, so the two sides run with different fuel; fuel-independence of `dePath` is proved in
`SerdeFuel`, which builds on this file).

The hypotheses are needed: `k` = the tag of a flattened tagged enum (duplicate tag ⇒ error); `k` = wire name of a
member of a flattened fragment struct (it is captured); an `@oneOf` enum.
-/
namespace GqlVerif
namespace Composed
open Serde

/-! ## removing a key -/

def eraseKey (k : String) (kvs : List (String × Json)) : List (String × Json) := kvs.filter (fun kv => kv.1 != k)

theorem eraseKey_insert (k : String) (v : Json) (pre post : List (String × Json)) :
    eraseKey k (pre ++ (k, v) :: post) = eraseKey k (pre ++ post) := by
  simp [eraseKey, List.filter_append]

theorem eraseKey_of_absent (k : String) (kvs : List (String × Json)) (h : ∀ kv ∈ kvs, kv.1 ≠ k) : eraseKey k kvs = kvs := by
  unfold eraseKey
  rw [List.filter_eq_self]
  intro kv hkv
  simpa using h kv hkv

theorem countKey_erase (k w : String) (kvs : List (String × Json)) (h : w ≠ k) :
    countKey w (eraseKey k kvs) = countKey w kvs :=
  C01.countKey_filter _ w (fun _ => by simpa using h) kvs

theorem lookup_erase (k w : String) (kvs : List (String × Json)) (h : w ≠ k) :
    Json.lookup w (eraseKey k kvs) = Json.lookup w kvs :=
  C01.lookup_filter _ w (fun _ => by simpa using h) kvs

theorem eraseKey_filter (k : String) (q : String × Json → Bool) (kvs : List (String × Json)) :
    eraseKey k (kvs.filter q) = (eraseKey k kvs).filter q := by
  unfold eraseKey
  rw [List.filter_filter, List.filter_filter]
  apply List.filter_congr
  intro x _
  exact Bool.and_comm _ _

/-! ## the plain-struct path -/

/-- the own members never see an entry whose key is not one of their wire names — wherever it is in the payload -/
theorem deOwnWith_erase (path : String → Json → D Val) (fields : List RField) (k : String) (kvs : List (String × Json))
    (hk : ∀ f ∈ fields, f.flatten = false → f.wire ≠ k) :
    deOwnWith path fields (eraseKey k kvs) = deOwnWith path fields kvs := by
  induction fields with
  | nil => rfl
  | cons f fs ih =>
    have ih' := ih (fun f' hf' => hk f' (List.mem_cons_of_mem _ hf'))
    cases hfl : f.flatten
    · have hf : f.wire ≠ k := hk f List.mem_cons_self hfl
      simp only [deOwnWith, ih', hfl, countKey_erase k f.wire kvs hf, lookup_erase k f.wire kvs hf]
    · simp only [deOwnWith, ih', hfl, ↓reduceIte]

/-- **plain struct, any position**: for a struct without flatten members, a payload object deserializes to the same
    `Val` (or the same error) with and without the entries of a key `k` that is no member's wire name -/
theorem denied_key_ignored_struct (path : String → Json → D Val) (flat : RTy → Buf → D (Val × Buf))
    (fields : List RField) (k : String) (kvs : List (String × Json))
    (hnf : fields.any (·.flatten) = false) (hk : ∀ f ∈ fields, f.wire ≠ k) :
    deStructWith path flat fields (.obj kvs) = deStructWith path flat fields (.obj (eraseKey k kvs)) := by
  simp only [deStructWith, deStructMapWith, hnf, deOwnWith_erase path fields k kvs (fun f hf _ => hk f hf),
    Bool.false_eq_true, ↓reduceIte]

/-- insertion form: an additional entry `(k, v)` at any position -/
theorem denied_key_ignored_struct_insert (path : String → Json → D Val) (flat : RTy → Buf → D (Val × Buf))
    (fields : List RField) (k : String) (v : Json) (pre post : List (String × Json))
    (hnf : fields.any (·.flatten) = false) (hk : ∀ f ∈ fields, f.wire ≠ k) :
    deStructWith path flat fields (.obj (pre ++ (k, v) :: post)) = deStructWith path flat fields (.obj (pre ++ post)) := by
  rw [denied_key_ignored_struct path flat fields k (pre ++ (k, v) :: post) hnf hk,
      denied_key_ignored_struct path flat fields k (pre ++ post) hnf hk, eraseKey_insert]

/-- `dePrim` looks at the constructor of a JSON container only -/
theorem dePrim_obj (p : String) (kvs kvs' : List (String × Json)) : dePrim p (.obj kvs) = dePrim p (.obj kvs') := rfl

/-- the same through the named-type reader `dePath` (any fuel, buffered or not) -/
theorem denied_key_ignored_dePath (e : Env) (b : Bool) (fuel : Nat) (p n : String) (d : List String) (sc : Option String)
    (fields : List RField) (k : String) (v : Json) (pre post : List (String × Json))
    (hfind : e.find p = some (.struct n d sc fields))
    (hnf : fields.any (·.flatten) = false) (hk : ∀ f ∈ fields, f.wire ≠ k) :
    dePath e b fuel p (.obj (pre ++ (k, v) :: post)) = dePath e b fuel p (.obj (pre ++ post)) := by
  cases fuel with
  | zero => rw [dePath, dePath]
  | succ f =>
    rw [dePath, dePath, dePrim_obj p (pre ++ (k, v) :: post) (pre ++ post)]
    split
    · rfl
    · simp only [hfind]
      exact denied_key_ignored_struct_insert _ _ fields k v pre post hnf hk

/-! ## removing a key from the flatten buffer -/

/-- the buffer without the (untaken) entries of key `k` -/
def eraseBuf (k : String) (buf : Buf) : Buf :=
  buf.filter (fun | some kv => kv.1 != k | none => true)

theorem present_eraseBuf (k : String) (buf : Buf) : present (eraseBuf k buf) = eraseKey k (present buf) := by
  induction buf with
  | nil => rfl
  | cons x rest ih =>
    unfold present eraseBuf eraseKey at *
    cases x with
    | none => simpa [List.filter_cons] using ih
    | some kv =>
      by_cases hk : kv.1 = k
      · simpa [List.filter_cons, hk] using ih
      · simp only [List.filter_cons, bne_iff_ne, ne_eq, hk, not_false_eq_true, ↓reduceIte,
          List.filterMap_cons, id_eq, List.cons.injEq, true_and]
        exact ih

theorem eraseBuf_map_some (k : String) (kvs : List (String × Json)) :
    eraseBuf k (kvs.map some) = (eraseKey k kvs).map some := by
  induction kvs with
  | nil => rfl
  | cons kv rest ih =>
    unfold eraseBuf eraseKey at *
    by_cases hk : kv.1 = k
    · simpa [List.filter_cons, hk] using ih
    · simp only [List.map_cons, List.filter_cons, bne_iff_ne, ne_eq, hk, not_false_eq_true, ↓reduceIte,
        List.cons.injEq, true_and]
      exact ih

/-- a key nobody recognises is never taken, wherever it is in the buffer -/
theorem takeKeys_erase (keys : List String) (k : String) (hk : k ∉ keys) (buf : Buf) :
    takeKeys keys (eraseBuf k buf) = ((takeKeys keys buf).1, eraseBuf k (takeKeys keys buf).2) := by
  induction buf with
  | nil => rfl
  | cons x rest ih =>
    cases x with
    | none =>
      have : eraseBuf k (none :: rest) = none :: eraseBuf k rest := by simp [eraseBuf]
      rw [this]
      simp only [takeKeys, ih]
      simp [eraseBuf]
    | some kv =>
      obtain ⟨k', v⟩ := kv
      by_cases hkk : k' = k
      · subst hkk
        have h1 : eraseBuf k' (some (k', v) :: rest) = eraseBuf k' rest := by simp [eraseBuf]
        have h2 : keys.contains k' = false := by simpa using hk
        rw [h1, ih]
        simp only [takeKeys, h2, Bool.false_eq_true, ↓reduceIte]
        simp [eraseBuf]
      · have h1 : eraseBuf k (some (k', v) :: rest) = some (k', v) :: eraseBuf k rest := by
          simp [eraseBuf, hkk]
        rw [h1]
        simp only [takeKeys, ih]
        split <;> simp [eraseBuf, hkk]

/-! ## reachability at the same JSON object level -/

/-- the named types an item reads from the *same* JSON object as itself: flattened members, newtype-variant payloads,
    alias targets (leaf through `Option` / `Box`; `Vec` over-approximates) -/
def sameLevel : Item → List String
  | .struct _ _ _ fs => (fs.filter (·.flatten)).map (fun f => Scope.leaf f.ty)
  | .tagged _ _ _ _ vs => vs.filterMap (fun v => v.payload.map Scope.leaf)
  | .alias _ _ t => [Scope.leaf t]
  | _ => []

/-- the item does not name `k`: no non-flatten member with wire name `k`, tag different from `k`; an `@oneOf` enum
    (externally tagged, exactly one key) is sensitive to every key -/
def itemOK (k : String) : Item → Bool
  | .struct _ _ _ fs => fs.all (fun f => f.flatten || f.wire != k)
  | .tagged _ _ _ tag _ => tag != k
  | .oneOf .. => false
  | _ => true

/-- `q` is read from the same JSON object as `p` -/
inductive Reach (e : Env) : String → String → Prop
  | refl (p : String) : Reach e p p
  | item {p q r : String} {it : Item} : e.find p = some it → q ∈ sameLevel it → Reach e q r → Reach e p r
  | extern {p r : String} {x : String × RTy} : e.find p = none → e.externs.find? (·.1 == p) = some x →
      Reach e (Scope.leaf x.2) r → Reach e p r

/-- **the reachability predicate**: nothing that reads the JSON object of `p` names the key `k` -/
def KeyFree (e : Env) (k : String) (p : String) : Prop :=
  ∀ q, Reach e p q → ∀ it, e.find q = some it → itemOK k it = true

theorem KeyFree.extern {e : Env} {k p : String} {x : String × RTy} (h : KeyFree e k p) (hf : e.find p = none)
    (hx : e.externs.find? (·.1 == p) = some x) : KeyFree e k (Scope.leaf x.2) :=
  fun r hr => h r (.extern hf hx hr)

theorem KeyFree.ok {e : Env} {k p : String} {it : Item} (h : KeyFree e k p) (hf : e.find p = some it) :
    itemOK k it = true := h p (.refl p) it hf

/-! ## payloads that every reader reads alike

The argument below is the same whether entries nobody names are removed (`eraseKey`) or the value of an entry is
replaced by one every reader of its key reads alike (`C14GeneratedSwap`): a relation `R` on entry lists with a companion
`RB` on flatten buffers, respected by everything the struct reader does with the entries, and an item predicate `P` that
holds of every item reading the object. -/

/-- `P` holds of every item read from the same JSON object as `p` -/
def ReachAll (e : Env) (P : Item → Prop) (p : String) : Prop :=
  ∀ q, Reach e p q → ∀ it, e.find q = some it → P it

theorem ReachAll.here {e : Env} {P : Item → Prop} {p : String} {it : Item} (h : ReachAll e P p)
    (hf : e.find p = some it) : P it := h p (.refl p) it hf

theorem ReachAll.item {e : Env} {P : Item → Prop} {p q : String} {it : Item} (h : ReachAll e P p)
    (hf : e.find p = some it) (hq : q ∈ sameLevel it) : ReachAll e P q :=
  fun r hr => h r (.item hf hq hr)

theorem ReachAll.extern {e : Env} {P : Item → Prop} {p : String} {x : String × RTy} (h : ReachAll e P p)
    (hf : e.find p = none) (hx : e.externs.find? (·.1 == p) = some x) : ReachAll e P (Scope.leaf x.2) :=
  fun r hr => h r (.extern hf hx hr)

/-- related results of reading one flattened member: same value (or same error), related buffers handed on -/
def RelBuf (RB : Buf → Buf → Prop) (r r' : D (Val × Buf)) : Prop :=
  match r, r' with
  | .ok a, .ok a' => a.1 = a'.1 ∧ RB a.2 a'.2
  | .error x, .error x' => x = x'
  | _, _ => False

/-- what the argument needs of `R`, `RB` and `P` -/
structure ReadAlike (e : Env) (P : Item → Prop) (R : List (String × Json) → List (String × Json) → Prop)
    (RB : Buf → Buf → Prop) : Prop where
  filterKey : ∀ (q : String → Bool) {l l'}, R l l' → R (l.filter (fun kv => q kv.1)) (l'.filter (fun kv => q kv.1))
  mapSome : ∀ {l l'}, R l l' → RB (l.map some) (l'.map some)
  present : ∀ {b b'}, RB b b' → R (present b) (present b')
  /-- the own members read related entries alike -/
  own : ∀ {n d sc fields}, P (.struct n d sc fields) → ∀ (b : Bool) (fuel : Nat) {l l'}, R l l' →
    deOwnWith (dePath e b fuel) fields l = deOwnWith (dePath e b fuel) fields l'
  /-- a struct without flattened members takes related entries out of related buffers -/
  takeKeys : ∀ {n d sc fields}, P (.struct n d sc fields) → fields.any (·.flatten) = false → ∀ {b b'}, RB b b' →
    R (takeKeys (fields.map (·.wire)) b).1 (takeKeys (fields.map (·.wire)) b').1 ∧
    RB (takeKeys (fields.map (·.wire)) b).2 (takeKeys (fields.map (·.wire)) b').2
  /-- the tag entry is found alike -/
  tag : ∀ {n d sc tag vs}, P (.tagged n d sc tag vs) → ∀ {l l'}, R l l' →
    countKey tag l = countKey tag l' ∧ Json.lookup tag l = Json.lookup tag l'
  noOneOf : ∀ {n d sc vs}, ¬ P (.oneOf n d sc vs)

section Alike
variable {R : List (String × Json) → List (String × Json) → Prop} {RB : Buf → Buf → Prop}

theorem relBuf_map {r r' : D Val} (h : r = r') {b b' : Buf} (hb : RB b b') :
    RelBuf RB (do let x ← r; pure (x, b)) (do let x ← r'; pure (x, b')) := by
  subst h
  unfold RelBuf
  cases r with
  | error x => rfl
  | ok a => exact ⟨rfl, hb⟩

/-- flattened members, each reading related buffers alike and handing on related buffers -/
theorem deFlatsWith_alike (flat : RTy → Buf → D (Val × Buf)) : ∀ (fs : List RField),
    (∀ f ∈ fs, f.flatten = true → ∀ b b', RB b b' → RelBuf RB (flat f.ty b) (flat f.ty b')) →
    ∀ b b', RB b b' → deFlatsWith flat fs b = deFlatsWith flat fs b'
  | [], _, _, _, _ => rfl
  | f :: fs, hF, b, b', hb => by
    have ih := deFlatsWith_alike flat fs (fun f' hf' => hF f' (List.mem_cons_of_mem _ hf'))
    cases hfl : f.flatten
    · simp only [deFlatsWith, hfl, Bool.not_false, ↓reduceIte]
      exact ih b b' hb
    · simp only [deFlatsWith, hfl, Bool.not_true, Bool.false_eq_true, ↓reduceIte]
      have hr := hF f List.mem_cons_self hfl b b' hb
      unfold RelBuf at hr
      cases h1 : flat f.ty b with
      | error x =>
        cases h2 : flat f.ty b' with
        | error x' => rw [h1, h2] at hr; simp only at hr; rw [hr]
        | ok a' => rw [h1, h2] at hr; exact hr.elim
      | ok a =>
        cases h2 : flat f.ty b' with
        | error x' => rw [h1, h2] at hr; exact hr.elim
        | ok a' =>
          rw [h1, h2] at hr
          obtain ⟨x, bx⟩ := a
          obtain ⟨x', bx'⟩ := a'
          simp only at hr
          obtain ⟨rfl, hbx⟩ := hr
          simp only [bind, Except.bind, ih bx bx' hbx]

theorem deTyWith_obj_alike (path : String → Json → D Val) : ∀ (t : RTy),
    (∀ l l', R l l' → path (Scope.leaf t) (.obj l) = path (Scope.leaf t) (.obj l')) →
    ∀ l l', R l l' → deTyWith path t (.obj l) = deTyWith path t (.obj l') := by
  intro t
  induction t with
  | path p => intro h l l' hl; simp only [deTyWith]; exact h l l' hl
  | opt t ih => intro h l l' hl; simp only [deTyWith, Json.isNull, Bool.false_eq_true, ↓reduceIte, ih h l l' hl]
  | vec t _ => intro _ l l' _; simp only [deTyWith]
  | box t ih => intro h l l' hl; simp only [deTyWith]; exact ih h l l' hl

/-- internally tagged enum: the tag entry is found alike; a newtype variant hands the remaining entries to its payload
    type, which must read them alike -/
theorem deTaggedWith_alike (pathB : String → Json → D Val) (b : Bool) (tag : String) (vs : List RVariant)
    {l l' : List (String × Json)} (hc : countKey tag l = countKey tag l') (hl : Json.lookup tag l = Json.lookup tag l')
    (hP : ∀ x ∈ vs, ∀ t, x.payload = some t →
      deTyWith pathB t (.obj (l.filter (fun kv => kv.1 != tag))) = deTyWith pathB t (.obj (l'.filter (fun kv => kv.1 != tag)))) :
    deTaggedWith pathB b tag vs l = deTaggedWith pathB b tag vs l' := by
  unfold deTaggedWith
  rw [hc, hl]
  have hpick : ∀ x ∈ vs,
      (if x.other then (pure (.variant x.name none) : D Val) else
        match x.payload with
        | none => pure (.variant x.name none)
        | some t => (fun y => Val.variant x.name (some y)) <$> deTyWith pathB t (.obj (l.filter (fun kv => kv.1 != tag)))) =
      (if x.other then (pure (.variant x.name none) : D Val) else
        match x.payload with
        | none => pure (.variant x.name none)
        | some t => (fun y => Val.variant x.name (some y)) <$> deTyWith pathB t (.obj (l'.filter (fun kv => kv.1 != tag)))) := by
    intro x hx
    cases hp : x.payload with
    | none => rfl
    | some t => simp only [hP x hx t hp]
  split
  · rfl
  · simp only []
    split
    · rename_i name _
      cases hf : vs.find? (fun x => !x.other && x.wire == name) with
      | none => rfl
      | some x => exact hpick x (List.mem_of_find?_eq_some hf)
    · rename_i n _
      split
      · rfl
      · split
        · rfl
        · cases hg : vs[n.toNat]? with
          | none => rfl
          | some x => exact hpick x (List.mem_of_getElem? hg)
    · rfl
  · rfl

variable {e : Env} {P : Item → Prop} (A : ReadAlike e P R RB)
include A

/-- **related payload objects are read alike** at every named type all of whose same-object readers satisfy `P`
    (`dePath`, any fuel, buffered or not), and a flattened member reads related buffers alike -/
theorem read_alike : ∀ fuel,
    (∀ p b l l', ReachAll e P p → R l l' → dePath e b fuel p (.obj l) = dePath e b fuel p (.obj l')) ∧
    (∀ t buf buf', ReachAll e P (Scope.leaf t) → RB buf buf' → RelBuf RB (deFlat e fuel t buf) (deFlat e fuel t buf')) := by
  intro fuel
  induction fuel with
  | zero =>
    refine ⟨?_, ?_⟩
    · intro p b l l' _ _; rw [dePath, dePath]
    · intro t buf buf' _ _; rw [deFlat, deFlat]; exact rfl
  | succ f ih =>
    obtain ⟨H1, H2⟩ := ih
    have hTy : ∀ b t, ReachAll e P (Scope.leaf t) → ∀ l l', R l l' →
        deTyWith (dePath e b f) t (.obj l) = deTyWith (dePath e b f) t (.obj l') :=
      fun b t hg => deTyWith_obj_alike _ t (fun l l' hl => H1 _ b l l' hg hl)
    have hFlat : ∀ {p n d sc fields}, ReachAll e P p → e.find p = some (.struct n d sc fields) →
        ∀ g ∈ fields, g.flatten = true → ReachAll e P (Scope.leaf g.ty) := by
      intro p n d sc fields hg hfind g hm hfl
      refine hg.item hfind ?_
      simp only [sameLevel, List.mem_map, List.mem_filter]
      exact ⟨g, ⟨hm, hfl⟩, rfl⟩
    have hStruct : ∀ b p n d sc fields, ReachAll e P p → e.find p = some (.struct n d sc fields) → ∀ l l', R l l' →
        deStructMapWith (dePath e b f) (deFlat e f) fields l = deStructMapWith (dePath e b f) (deFlat e f) fields l' := by
      intro b p n d sc fields hg hfind l l' hl
      unfold deStructMapWith
      rw [A.own (hg.here hfind) b f hl]
      have hb := A.mapSome (A.filterKey (fun k => !((fields.filter (!·.flatten)).map (·.wire)).contains k) hl)
      simp only [deFlatsWith_alike (RB := RB) (deFlat e f) fields
        (fun g hm hfl bb bb' hbb => H2 g.ty bb bb' (hFlat hg hfind g hm hfl) hbb) _ _ hb]
    have hTagged : ∀ b p n d sc tag vs, ReachAll e P p → e.find p = some (.tagged n d sc tag vs) → ∀ l l', R l l' →
        deTaggedWith (dePath e true f) b tag vs l = deTaggedWith (dePath e true f) b tag vs l' := by
      intro b p n d sc tag vs hg hfind l l' hl
      obtain ⟨hc, hlk⟩ := A.tag (hg.here hfind) hl
      refine deTaggedWith_alike _ b tag vs hc hlk (fun x hx t ht => ?_)
      refine hTy true t (hg.item hfind ?_) _ _ (A.filterKey (fun k => k != tag) hl)
      simp only [sameLevel, List.mem_filterMap]
      exact ⟨x, hx, by simp [ht]⟩
    refine ⟨?_, ?_⟩
    · intro p b l l' hg hl
      rw [dePath, dePath, dePrim_obj p l l']
      split
      · rfl
      · cases hfind : e.find p with
        | none =>
          simp only []
          cases hx : e.externs.find? (·.1 == p) with
          | none => rfl
          | some x =>
            obtain ⟨x1, t⟩ := x
            exact hTy b t (hg.extern hfind hx) l l' hl
        | some it =>
          cases it with
          | alias n pub t =>
            simp only []
            exact hTy b t (hg.item hfind (by simp [sameLevel])) l l' hl
          | struct n d sc fields =>
            simp only [deStructWith]
            exact hStruct b p n d sc fields hg hfind l l' hl
          | tagged n d sc tag vs =>
            simp only []
            exact hTagged b p n d sc tag vs hg hfind l l' hl
          | oneOf n d sc vs => exact (A.noOneOf (hg.here hfind)).elim
          | _ => rfl
    · intro t buf buf' hg hb
      cases t with
      | box t => rw [deFlat, deFlat]; exact H2 t buf buf' hg hb
      | opt t => simp only [deFlat]; exact rfl
      | vec t => simp only [deFlat]; exact rfl
      | path p =>
        rw [deFlat, deFlat]
        have hg' : ReachAll e P p := hg
        cases hfind : e.find p with
        | none => exact rfl
        | some it =>
          cases it with
          | alias n pub t => simp only []; exact H2 t buf buf' (hg'.item hfind (by simp [sameLevel])) hb
          | struct n d sc fields =>
            simp only []
            cases hany : fields.any (·.flatten)
            · simp only [Bool.false_eq_true, ↓reduceIte]
              obtain ⟨ht1, ht2⟩ := A.takeKeys (hg'.here hfind) hany hb
              rw [A.own (hg'.here hfind) true f ht1]
              cases deOwnWith (dePath e true f) fields (takeKeys (fields.map (·.wire)) buf').1 with
              | error x => exact rfl
              | ok a => exact ⟨rfl, ht2⟩
            · simp only [↓reduceIte]
              exact relBuf_map (hStruct true p n d sc fields hg' hfind _ _ (A.present hb)) hb
          | tagged n d sc tag vs =>
            simp only []
            exact relBuf_map (hTagged true p n d sc tag vs hg' hfind _ _ (A.present hb)) hb
          | _ => exact rfl

end Alike

/-! ## the flatten-buffer path: the instance for `eraseKey` -/

/-- the entries taken out of a buffer have recognised keys -/
theorem takeKeys_fst_mem (keys : List String) (buf : Buf) (kv : String × Json) (h : kv ∈ (takeKeys keys buf).1) :
    kv.1 ∈ keys := by
  rw [C01.takeKeys_fst] at h; simpa using (List.mem_filter.mp h).2

/-- removing the entries of a key no reader names carries `read_alike` -/
theorem erase_readAlike (e : Env) (k : String) :
    ReadAlike e (fun it => itemOK k it = true) (fun l l' => l = eraseKey k l') (fun b b' => b = eraseBuf k b') where
  filterKey q _ l' h := by rw [h]; exact (eraseKey_filter k _ l').symm
  mapSome h := by rw [h]; exact (eraseBuf_map_some k _).symm
  present h := by rw [h]; exact present_eraseBuf k _
  own hP b fuel _ l' h := by
    simp only [itemOK, List.all_eq_true, Bool.or_eq_true, bne_iff_ne, ne_eq] at hP
    rw [h]
    exact deOwnWith_erase _ _ k l' (fun f hf hfl => (hP f hf).resolve_left (by simp [hfl]))
  takeKeys := @fun _ _ _ fields hP hany _ b' hb => by
    simp only [itemOK, List.all_eq_true, Bool.or_eq_true, bne_iff_ne, ne_eq] at hP
    have hnot : k ∉ fields.map (·.wire) := fun hm => by
      obtain ⟨f, hf, hw⟩ := List.mem_map.mp hm
      have hfl : f.flatten = false := by simpa using List.any_eq_false.mp hany f hf
      exact (hP f hf).resolve_left (by simp [hfl]) hw
    rw [hb, takeKeys_erase _ k hnot b']
    refine ⟨(eraseKey_of_absent k _ (fun kv hkv hk => hnot ?_)).symm, rfl⟩
    rw [← hk]
    exact takeKeys_fst_mem _ b' kv hkv
  tag := @fun _ _ _ tag _ hP _ l' h => by
    have htag : tag ≠ k := by simpa [itemOK] using hP
    rw [h]
    exact ⟨countKey_erase k _ l' htag, lookup_erase k _ l' htag⟩
  noOneOf hP := by simp [itemOK] at hP

/-- a flattened member read from a buffer without the entries of `k`: what `RelBuf` says in that case -/
theorem relBuf_erase {k : String} {r r' : D (Val × Buf)} (h : RelBuf (fun b b' => b = eraseBuf k b') r r') :
    r = (fun x => (x.1, eraseBuf k x.2)) <$> r' := by
  unfold RelBuf at h
  cases r with
  | error x =>
    cases r' with
    | error x' => simp only at h; rw [h]; rfl
    | ok a' => exact h.elim
  | ok a =>
    cases r' with
    | error x' => exact h.elim
    | ok a' =>
      obtain ⟨a1, a2⟩ := a
      simp only at h
      rw [h.1, h.2]
      rfl

/-- **the flatten-buffer path** (and every other shape of named type): a payload object read at the named type `p`
    gives the same `Val` — or the same error — with and without the entries of a key `k` that nothing reading this
    JSON object names (`KeyFree`): the extra entries stay in the flatten buffer, every borrowing member (tagged `on`,
    nested flatten struct) sees them, none is affected.  Any environment, fuel, `buffered` flag, key position and
    multiplicity. -/
theorem denied_key_ignored_flatten (e : Env) (k : String) (b : Bool) (fuel : Nat) (p : String)
    (kvs : List (String × Json)) (hkf : KeyFree e k p) :
    dePath e b fuel p (.obj kvs) = dePath e b fuel p (.obj (eraseKey k kvs)) :=
  ((read_alike (erase_readAlike e k) fuel).1 p b _ kvs hkf rfl).symm

/-- insertion form -/
theorem denied_key_ignored_flatten_insert (e : Env) (k : String) (v : Json) (b : Bool) (fuel : Nat) (p : String)
    (pre post : List (String × Json)) (hkf : KeyFree e k p) :
    dePath e b fuel p (.obj (pre ++ (k, v) :: post)) = dePath e b fuel p (.obj (pre ++ post)) := by
  rw [denied_key_ignored_flatten e k b fuel p _ hkf, denied_key_ignored_flatten e k b fuel p (pre ++ post) hkf,
    eraseKey_insert]

/-- one flattened member read from a buffer: same value, and the buffer it hands on differs only by the extra entries -/
theorem deFlat_erase (e : Env) (k : String) (fuel : Nat) (t : RTy) (buf : Buf) (hkf : KeyFree e k (Scope.leaf t)) :
    deFlat e fuel t (eraseBuf k buf) = (fun r => (r.1, eraseBuf k r.2)) <$> deFlat e fuel t buf :=
  relBuf_erase ((read_alike (erase_readAlike e k) fuel).2 t _ buf hkf rfl)

/-- at a type expression (`Option` / `Box` around the named type) -/
theorem denied_key_ignored_deTy (e : Env) (k : String) (b : Bool) (fuel : Nat) (t : RTy)
    (kvs : List (String × Json)) (hkf : KeyFree e k (Scope.leaf t)) :
    deTy e b fuel t (.obj kvs) = deTy e b fuel t (.obj (eraseKey k kvs)) :=
  (deTyWith_obj_alike (R := fun l l' => l = eraseKey k l') _ t
    (fun _ l' hl => (read_alike (erase_readAlike e k) fuel).1 _ b _ l' hkf hl) _ kvs rfl).symm

/-- top level (`Serde.de` computes its fuel from the payload): equal results *provided* the smaller payload is read
    alike with the fuel of the larger one — fuel-independence of `dePath` above `deFuel` (`SerdeFuel.de_fuel_indep`) gives exactly this -/
theorem denied_key_ignored_de_of_fuel (e : Env) (k : String) (t : RTy) (kvs : List (String × Json))
    (hkf : KeyFree e k (Scope.leaf t))
    (hfuel : deTy e false (deFuel e (.obj kvs)) t (.obj (eraseKey k kvs)) =
             deTy e false (deFuel e (.obj (eraseKey k kvs))) t (.obj (eraseKey k kvs))) :
    de e t (.obj kvs) = de e t (.obj (eraseKey k kvs)) := by
  unfold de
  rw [denied_key_ignored_deTy e k false _ t kvs hkf, hfuel]

/-- `KeyFree` from a decidable global condition: no item of the environment names `k` (and there is no `@oneOf` enum) -/
theorem keyFree_of_all (e : Env) (k p : String) (h : e.items.all (itemOK k) = true) : KeyFree e k p := by
  intro q _ it hf
  have hm : it ∈ e.items := List.mem_of_find?_eq_some hf
  exact List.all_eq_true.mp h it hm

/-! ## non-vacuity: a generated module with flatten members, the key of a denied field -/

/-- the module the generator emits for the rich query of `C02Response` under `deny` (25 items; `when: Date @deprecated`
    is selected and omitted) -/
def denyItems : List Item := (Codegen.responseForQuery denyCtx 0).toOption.getD []

def denyEnv : Env := { items := denyItems, externs := [("Ext", .path "String"), ("super::Date", .path "String")] }

/-- the module has structs with flatten members (fragment spreads, `on`), tagged enums with newtype variants, aliases;
    `when` is nobody's key there, while in the module generated under `warn` it is a member of `ResponseData` -/
example : denyItems.length = 25 ∧
    denyItems.filterMap (fun | .struct n _ _ fs => if fs.any (·.flatten) then some n else none | _ => none) =
      ["AnimalF", "ResponseData", "Qanimal", "QanimalOnDog"] ∧
    denyItems.all (itemOK "when") = true ∧
    ((Codegen.responseForQuery C02.richCtx 0).toOption.getD []).all (itemOK "when") = false := by decide +kernel

theorem denyEnv_keyFree (p : String) : KeyFree denyEnv "when" p :=
  keyFree_of_all _ _ _ (by decide +kernel)

/-- `denied_key_ignored_flatten` applied on the generated module: `Qanimal` (own member `name`, flattened tagged `on`
    whose `Dog` variant is a struct with a flattened fragment struct) reads a payload with the denied key `when` in the
    middle exactly as without it — and successfully -/
example :
    dePath denyEnv false 6 "Qanimal" (.obj [("__typename", .str "Dog"), ("when", .str "2020"), ("name", .str "Rex"), ("barks", .bool true)]) =
    dePath denyEnv false 6 "Qanimal" (.obj [("__typename", .str "Dog"), ("name", .str "Rex"), ("barks", .bool true)]) ∧
    (dePath denyEnv false 6 "Qanimal" (.obj [("__typename", .str "Dog"), ("name", .str "Rex"), ("barks", .bool true)])).toOption.isSome = true :=
  ⟨denied_key_ignored_flatten_insert denyEnv "when" (.str "2020") false 6 "Qanimal" [("__typename", .str "Dog")]
      [("name", .str "Rex"), ("barks", .bool true)] (denyEnv_keyFree _), by decide +kernel⟩

/-! ## the hypotheses are needed -/

/-- a struct with an own member, a flattened fragment struct and a flattened tagged enum -/
def wEnv : Env :=
  { items := [.struct "A" [] none [{ rust := "x", ty := .path "String" }, { rust := "frag", ty := .path "F", flatten := true },
                                   { rust := "on", ty := .path "AOn", flatten := true }],
              .struct "F" [] none [{ rust := "w", ty := .opt (.path "String") }],
              .tagged "AOn" [] none "__typename" [{ name := "Dog" }, { name := "Cat", payload := some (.path "F") }],
              .oneOf "O" [] none [{ name := "A", payload := some (.path "String") }]] }

/-- `k` = wire name of a member of a *flattened* struct (not a member of the struct itself): the entry is captured by
    the flattened member — "no own member is called `k`" is not enough on the flatten path -/
theorem flattened_member_key_matters :
    (∀ f ∈ ([{ rust := "x", ty := .path "String" }, { rust := "frag", ty := .path "F", flatten := true },
              { rust := "on", ty := .path "AOn", flatten := true }] : List RField), f.flatten = false → f.wire ≠ "w") ∧
    dePath wEnv false 3 "A" (.obj [("x", .str "1"), ("__typename", .str "Dog")]) =
      .ok (.record [("x", .str "1"), ("frag", .record [("w", .unit)]), ("on", .variant "Dog" none)]) ∧
    dePath wEnv false 3 "A" (.obj [("x", .str "1"), ("w", .str "v"), ("__typename", .str "Dog")]) =
      .ok (.record [("x", .str "1"), ("frag", .record [("w", .some (.str "v"))]), ("on", .variant "Dog" none)]) ∧
    ¬ KeyFree wEnv "w" "A" := by
  refine ⟨by decide, rfl, rfl, fun h => ?_⟩
  have := h "F" (.item (p := "A") (q := "F") rfl (by decide) (.refl _)) _ rfl
  exact absurd this (by decide)

/-- `k` = the tag of a flattened tagged enum: a second tag entry is a duplicate field -/
theorem tag_key_matters :
    dePath wEnv false 3 "A" (.obj [("x", .str "1"), ("__typename", .str "Dog"), ("__typename", .str "Dog")]) =
      .error (.mismatch "duplicate field __typename") ∧
    ¬ KeyFree wEnv "__typename" "A" := by
  refine ⟨rfl, fun h => ?_⟩
  have := h "AOn" (.item (p := "A") (q := "AOn") rfl (by decide) (.refl _)) _ rfl
  exact absurd this (by decide)

/-- an `@oneOf` enum (externally tagged: exactly one key) is sensitive to every additional key -/
theorem oneOf_key_matters :
    dePath wEnv false 3 "O" (.obj [("A", .str "1")]) = .ok (.variant "A" (some (.str "1"))) ∧
    dePath wEnv false 3 "O" (.obj [("A", .str "1"), ("zzz", .null)]) = .error (.mismatch "expected a map with a single key") :=
  ⟨rfl, rfl⟩

end Composed
end GqlVerif
