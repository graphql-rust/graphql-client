import GqlVerif.Proofs.CalcVariantsPushed
import GqlVerif.Proofs.C01VariantSpreadF
/-!
# On the classes of C01 the alias-or-struct decision by `pushedAny` is the one by the rendered fields

The classes whose operations reach `calcVariants` with selections on a variant are `VariantOp` (`vSel` / `vSels`,
`Proofs/C01AbstractA.lean`), `VariantSpreadOp` (`sSel` / `sSels`, `Proofs/C01VariantSpreadA.lean`) and `VariantSpreadOp2`
(`sSels` of the normalized selection set, `Proofs/C01VariantSpreadF.lean`).  (`TreeOp`, `FragmentOp`, `RecFragmentOp`
and the `deny` classes `TreeOpD` / `FragOpD` have object positions only: no variant struct; the abstract positions of
`MixedOp` are stated with the `sSel` of `VariantSpreadOp`.)
Each of the three selection predicates carries, for every field selection, the conjunct
`!(sf.deprecation.isSome && o.deprecation == .deny)` — which is `selDenied c x = false`.  So `Pushed.noDeniedV` holds for the
variant selections these classes hand to `calcVariants`, and there `pushedAny c.q vt mine = !r.1.isEmpty`
(`Pushed.pushedAny_eq_of_noDenied`): "some field was pushed" is "some field is rendered".
-/
namespace GqlVerif
namespace Pushed
open Codegen C01.E2E

theorem selDenied_field {c : Ctx} {a : Option String} {fid : Nat} {sub : List Sel} {sf : StoredField}
    (hsf : c.s.fields[fid]? = some sf) (h : (!(sf.deprecation.isSome && c.o.deprecation == .deny)) = true) :
    selDenied c (.field a fid sub) = false := by
  simp only [selDenied, hsf, denied]
  cases hd : (sf.deprecation.isSome && c.o.deprecation == .deny) with
  | false => rfl
  | true => rw [hd] at h; cases h

theorem vSel_not_denied {c : Ctx} {abs : Bool} {x : Sel} (h : vSel c.s c.o abs x = true) : selDenied c x = false := by
  cases x with
  | field a fid sub =>
    rw [vSel] at h
    cases hsf : c.s.fields[fid]? with
    | none => simp [hsf] at h
    | some sf =>
      simp only [hsf, Bool.and_eq_true] at h
      exact selDenied_field hsf h.1.2
  | _ => rfl

theorem vSels_not_denied {c : Ctx} {abs : Bool} {sels : List Sel} (h : vSels c.s c.o abs sels = true) :
    sels.any (selDenied c) = false := by
  rw [List.any_eq_false]
  intro x hx
  simp [vSel_not_denied (vSels_mem h x hx)]

theorem sSel_not_denied {c : Ctx} {abs : Bool} {x : Sel} (h : sSel c.s c.q c.o abs x = true) : selDenied c x = false := by
  cases x with
  | field a fid sub =>
    rw [sSel] at h
    cases hsf : c.s.fields[fid]? with
    | none => simp [hsf] at h
    | some sf =>
      simp only [hsf, Bool.and_eq_true] at h
      exact selDenied_field hsf h.1.2
  | _ => rfl

theorem sSels_not_denied {c : Ctx} {abs : Bool} {sels : List Sel} (h : sSels c.s c.q c.o abs sels = true) :
    sels.any (selDenied c) = false := by
  rw [List.any_eq_false]
  intro x hx
  simp [sSel_not_denied (sSels_mem h x hx)]

theorem noDeniedV_filter {c : Ctx} {mine : List VariantSel} (p : VariantSel → Bool) (h : noDeniedV c mine = true) :
    noDeniedV c (mine.filter p) = true := by
  simp only [noDeniedV, List.all_eq_true] at h ⊢
  exact fun v hv => h v (List.mem_filter.mp hv).1

/-- **`VariantOp`**: nothing denied among the selections on a variant -/
theorem noDeniedV_vselsOf {c : Ctx} {sels : List Sel} (h : vSels c.s c.o true sels = true) :
    noDeniedV c (vselsOf sels) = true := by
  simp only [noDeniedV, List.all_eq_true]
  intro v hv
  obtain ⟨x, hx, hxv⟩ := List.mem_filterMap.mp hv
  cases x with
  | inline t sub =>
    simp only [vselOf, Option.some.injEq] at hxv
    subst hxv
    have := vSels_mem h _ hx
    simp only [vSel, Bool.and_eq_true] at this
    simp [vSels_not_denied this.1.2]
  | _ => simp [vselOf] at hxv

/-- **`VariantSpreadOp`**: nothing denied among the selections on a variant -/
theorem noDeniedV_vselsOfS {c : Ctx} {ty : TypeId} {sels : List Sel} (h : sSels c.s c.q c.o true sels = true) :
    noDeniedV c (vselsOfS c.q ty sels) = true := by
  simp only [noDeniedV, List.all_eq_true]
  intro v hv
  obtain ⟨x, hx, hxv⟩ := List.mem_filterMap.mp hv
  cases x with
  | inline t sub =>
    simp only [vselOfS, Option.some.injEq] at hxv
    subst hxv
    have := sSels_mem h _ hx
    simp only [sSel, Bool.and_eq_true] at this
    simp [sSels_not_denied this.1.2]
  | spread g =>
    simp only [vselOfS] at hxv
    cases hfr : c.q.fragments[g]? with
    | none => simp [hfr] at hxv
    | some f =>
      simp only [hfr] at hxv
      split at hxv
      · cases hxv
      · simp only [Option.some.injEq] at hxv
        subst hxv; rfl
  | field a fid sub => simp [vselOfS] at hxv
  | typename => simp [vselOfS] at hxv

/-- whether a selection is a denied field does not depend on what is selected below it -/
theorem selDenied_normSel (c : Ctx) (x : Sel) : selDenied c (normSel x) = selDenied c x := by
  cases x with
  | field a fid sub => rw [normSel_field]; rfl
  | inline t sub => rw [normSel_inline]; rfl
  | spread g => rw [normSel]
  | typename => rw [normSel]

/-- **`VariantSpreadOp2`** (the class is stated on the normalized selection set): nothing denied in the selection set as
    written -/
theorem normSels_not_denied {c : Ctx} {abs : Bool} {sels : List Sel}
    (h : sSels c.s c.q c.o abs (normSels sels) = true) : sels.any (selDenied c) = false := by
  rw [List.any_eq_false]
  intro x hx
  cases ha : aliasInl x with
  | some g =>
    obtain ⟨t, rfl⟩ := aliasInl_some ha
    simp [selDenied]
  | none =>
    have hm : normSel x ∈ normSels sels := List.mem_append_left _ (mem_keepN_of hx ha)
    have := sSel_not_denied (sSels_mem h _ hm)
    rw [selDenied_normSel] at this
    simp [this]

theorem noDeniedV_vselsOfS_norm {c : Ctx} {ty : TypeId} {sels : List Sel}
    (h : sSels c.s c.q c.o true (normSels sels) = true) : noDeniedV c (vselsOfS c.q ty sels) = true := by
  simp only [noDeniedV, List.all_eq_true]
  intro v hv
  obtain ⟨x, hx, hxv⟩ := List.mem_filterMap.mp hv
  cases x with
  | inline t sub =>
    simp only [vselOfS, Option.some.injEq] at hxv
    subst hxv
    cases ha : aliasInl (Sel.inline t sub) with
    | some g =>
      obtain ⟨t', he⟩ := aliasInl_some ha
      cases he
      simp [selDenied]
    | none =>
      have hm : normSel (.inline t sub) ∈ normSels sels := List.mem_append_left _ (mem_keepN_of hx ha)
      have := sSels_mem h _ hm
      rw [normSel_inline] at this
      simp only [sSel, Bool.and_eq_true] at this
      simp [normSels_not_denied this.1.2]
  | spread g =>
    simp only [vselOfS] at hxv
    cases hfr : c.q.fragments[g]? with
    | none => simp [hfr] at hxv
    | some f =>
      simp only [hfr] at hxv
      split at hxv
      · cases hxv
      · simp only [Option.some.injEq] at hxv
        subst hxv; rfl
  | field a fid sub => simp [vselOfS] at hxv
  | typename => simp [vselOfS] at hxv

/-! ## the decision on the three classes -/

/-- **`VariantOp`**: at an abstract position of the class, for every variant `vt`, `has_fields` of the variant struct is
    "some field is rendered": the decision of `calcVariants` is the one by the rendered fields -/
theorem variantOp_decision {c : Ctx} {sels : List Sel} (h : vSels c.s c.o true sels = true) (vt : TypeId)
    {fuel : Nat} {sname pfx : String} {r : List RField × List Item × List Item}
    (hr : calcVariantSels c fuel sname pfx vt ((vselsOf sels).filter (fun v => v.typeId == vt)) = .ok r) :
    pushedAny c.q vt ((vselsOf sels).filter (fun v => v.typeId == vt)) = !r.1.isEmpty :=
  pushedAny_eq_of_noDenied hr (noDeniedV_filter _ (noDeniedV_vselsOf h))

/-- **`VariantSpreadOp`**: the same -/
theorem variantSpreadOp_decision {c : Ctx} {ty : TypeId} {sels : List Sel} (h : sSels c.s c.q c.o true sels = true)
    (vt : TypeId) {fuel : Nat} {sname pfx : String} {r : List RField × List Item × List Item}
    (hr : calcVariantSels c fuel sname pfx vt ((vselsOfS c.q ty sels).filter (fun v => v.typeId == vt)) = .ok r) :
    pushedAny c.q vt ((vselsOfS c.q ty sels).filter (fun v => v.typeId == vt)) = !r.1.isEmpty :=
  pushedAny_eq_of_noDenied hr (noDeniedV_filter _ (noDeniedV_vselsOfS h))

/-- **`VariantSpreadOp2`**: the same (the class hypothesis is on the normalized selection set) -/
theorem variantSpreadOp2_decision {c : Ctx} {ty : TypeId} {sels : List Sel}
    (h : sSels c.s c.q c.o true (normSels sels) = true)
    (vt : TypeId) {fuel : Nat} {sname pfx : String} {r : List RField × List Item × List Item}
    (hr : calcVariantSels c fuel sname pfx vt ((vselsOfS c.q ty sels).filter (fun v => v.typeId == vt)) = .ok r) :
    pushedAny c.q vt ((vselsOfS c.q ty sels).filter (fun v => v.typeId == vt)) = !r.1.isEmpty :=
  pushedAny_eq_of_noDenied hr (noDeniedV_filter _ (noDeniedV_vselsOfS_norm h))

end Pushed
end GqlVerif
