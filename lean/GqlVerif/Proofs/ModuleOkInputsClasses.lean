import GqlVerif.Proofs.ModuleOkInputs
import GqlVerif.Proofs.AcyclicModulesClasses
import GqlVerif.Proofs.C14GeneratedAcyclic
/-!
# the headline end-to-end theorems with the side condition on the INPUT

Each theorem below is the theorem of the same name without `_inputs` (`mixed_roundtrip_on_F'` and
`C14G.denied_field_payload_same'` with their prime), with `moduleOk c items = true` (a condition on
the emitted module) replaced by `MOK.ModuleOkIn c opIdx = true` (`Proofs/ModuleOkInputs.lean`: a decidable condition on
schema, resolved query, options and case functions), through `MOK.moduleOk_of_inputs`.  `ModuleOkIn` is class-free: no
`*_items_shape` theorem is used.  `with_inputs` is the same composition for any other statement.
-/

namespace GqlVerif
namespace MOK
open Codegen C01 C01.E2E C01M C03 Serde

theorem with_inputs {P : Prop} {c : Ctx} {opIdx : Nat} {items : List Item}
    (hgen : responseForQuery c opIdx = .ok items) (hok : ModuleOkIn c opIdx = true)
    (k : moduleOk c items = true → P) : P :=
  k (moduleOk_of_inputs c opIdx items hgen hok)

/-! ## C01: round trips -/

theorem variant_roundtrip_inputs (c : Ctx) (opIdx : Nat) (op : ROperation) (items : List Item)
    (hop : c.q.operations[opIdx]? = some op) (ht : VariantOp c op = true)
    (hgen : responseForQuery c opIdx = .ok items) (hok : ModuleOkIn c opIdx = true)
    (hro : rustOkSelsV c op.sels = true) (hrn : EnumSpec.nodup (rustNames c op.sels) = true)
    (j : Json) (hc : conformsOpV c op j = true) :
    Serde.roundtrip (moduleEnv c items) (.path "ResponseData") j = .ok (canonSelV c.s c.o.skipNone op.sels j) :=
  variant_roundtrip c opIdx op items hop ht hgen (moduleOk_of_inputs c opIdx items hgen hok) hro hrn j hc

theorem fragment_roundtrip_inputs (c : Ctx) (opIdx : Nat) (op : ROperation) (items : List Item)
    (hop : c.q.operations[opIdx]? = some op) (ht : FragmentOp c op = true) (hk : fragKeysOk c op = true)
    (hr : fragRustOk c op = true)
    (hgen : responseForQuery c opIdx = .ok items) (hok : ModuleOkIn c opIdx = true)
    (j : Json) (hc : conformsOpF c op j = true) :
    Serde.roundtrip (moduleEnv c items) (.path "ResponseData") j = .ok (canonSelF c.s c.q c.o.skipNone op.sels j) :=
  fragment_roundtrip c opIdx op items hop ht hk hr hgen (moduleOk_of_inputs c opIdx items hgen hok) j hc

theorem mixed_roundtrip_inputs (c : Ctx) (opIdx : Nat) (op : ROperation) (items : List Item)
    (hop : c.q.operations[opIdx]? = some op) (ht : MixedOp c op = true) (hk : mixedKeysOk c op = true)
    (hr : mixedRustOk c op = true)
    (hgen : responseForQuery c opIdx = .ok items) (hok : ModuleOkIn c opIdx = true)
    (j : Json) (hc : conformsOpM c op j = true) :
    Serde.roundtrip (moduleEnv c items) (.path "ResponseData") j =
      .ok (normJson (canonSelM c.s c.q c.o.skipNone op.sels j)) :=
  mixed_roundtrip c opIdx op items hop ht hk hr hgen (moduleOk_of_inputs c opIdx items hgen hok) j hc

theorem variantspread_roundtrip_inputs (c : Ctx) (opIdx : Nat) (op : ROperation) (items : List Item)
    (hop : c.q.operations[opIdx]? = some op) (ht : VariantSpreadOp c op = true)
    (hgen : responseForQuery c opIdx = .ok items) (hok : ModuleOkIn c opIdx = true)
    (hr : spreadRustOkD c op = true) (j : Json) (hc : conformsOpS c op j = true) :
    Serde.roundtrip (moduleEnv c items) (.path "ResponseData") j =
      .ok (normJson (canonSelD c.s c.q c.o.skipNone op.sels j)) :=
  variantspread_roundtrip c opIdx op items hop ht hgen (moduleOk_of_inputs c opIdx items hgen hok) hr j hc

theorem variantspread_roundtrip_content_inputs (c : Ctx) (opIdx : Nat) (op : ROperation) (items : List Item)
    (hop : c.q.operations[opIdx]? = some op) (ht : VariantSpreadOp c op = true)
    (hgen : responseForQuery c opIdx = .ok items) (hok : ModuleOkIn c opIdx = true)
    (hr : spreadRustOkD c op = true) (j : Json) (hc : conformsOpS c op j = true) :
    ∃ j', Serde.roundtrip (moduleEnv c items) (.path "ResponseData") j = .ok j' ∧ SameContent c.o.skipNone j j' :=
  variantspread_roundtrip_content c opIdx op items hop ht hgen (moduleOk_of_inputs c opIdx items hgen hok) hr j hc

theorem mixed_roundtrip_on_F_inputs (c : Ctx) (opIdx : Nat) (op : ROperation) (items : List Item)
    (hop : c.q.operations[opIdx]? = some op) (ht : FragmentOp c op = true) (hk : fragKeysOk c op = true)
    (hr : fragRustOk c op = true)
    (hgen : responseForQuery c opIdx = .ok items) (hok : ModuleOkIn c opIdx = true)
    (j : Json) (hc : conformsOpF c op j = true) :
    Serde.roundtrip (moduleEnv c items) (.path "ResponseData") j =
        .ok (normJson (canonSelM c.s c.q c.o.skipNone op.sels j)) ∧
      normJson (canonSelM c.s c.q c.o.skipNone op.sels j) = canonSelF c.s c.q c.o.skipNone op.sels j :=
  mixed_roundtrip_on_F' c opIdx op items hop ht hk hr hgen (moduleOk_of_inputs c opIdx items hgen hok) j hc

/-! ## C03: exact acceptance -/

theorem variant_precise_iff_inputs (c : Ctx) (opIdx : Nat) (op : ROperation) (items : List Item)
    (hop : c.q.operations[opIdx]? = some op) (ht : VariantOp c op = true)
    (hgen : responseForQuery c opIdx = .ok items) (hok : ModuleOkIn c opIdx = true) (j : Json) :
    okB (Serde.de (moduleEnv c items) (.path "ResponseData") j) = conformsLooseV c.s c.o false op.sels j :=
  variant_precise_iff c opIdx op items hop ht hgen (moduleOk_of_inputs c opIdx items hgen hok) j

theorem fragment_precise_iff_inputs (c : Ctx) (opIdx : Nat) (op : ROperation) (items : List Item)
    (hop : c.q.operations[opIdx]? = some op) (ht : FragmentOp c op = true) (hk : fragKeysOk c op = true)
    (hgen : responseForQuery c opIdx = .ok items) (hok : ModuleOkIn c opIdx = true) (j : Json) :
    okB (Serde.de (moduleEnv c items) (.path "ResponseData") j) = conformsLooseF c.s c.q c.o false op.sels j :=
  fragment_precise_iff c opIdx op items hop ht hk hgen (moduleOk_of_inputs c opIdx items hgen hok) j

theorem mixed_precise_iff_inputs (c : Ctx) (opIdx : Nat) (op : ROperation) (items : List Item)
    (hop : c.q.operations[opIdx]? = some op) (ht : MixedOp c op = true) (hk : mixedKeysOk c op = true)
    (hgen : responseForQuery c opIdx = .ok items) (hok : ModuleOkIn c opIdx = true) (j : Json) :
    okB (Serde.de (moduleEnv c items) (.path "ResponseData") j) = conformsLooseM c.s c.q c.o false op.sels j :=
  mixed_precise_iff c opIdx op items hop ht hk hgen (moduleOk_of_inputs c opIdx items hgen hok) j

theorem variantspread_precise_iff_inputs (c : Ctx) (opIdx : Nat) (op : ROperation) (items : List Item)
    (hop : c.q.operations[opIdx]? = some op) (ht : VariantSpreadOp c op = true)
    (hgen : responseForQuery c opIdx = .ok items) (hok : ModuleOkIn c opIdx = true) (j : Json) :
    okB (Serde.de (moduleEnv c items) (.path "ResponseData") j) = conformsLooseS c.s c.q c.o false op.sels j :=
  variantspread_precise_iff c opIdx op items hop ht hgen (moduleOk_of_inputs c opIdx items hgen hok) j

/-! ## C17 / C14 -/

theorem class_module_envOK_inputs {c : Ctx} {opIdx : Nat} {op : ROperation} {items : List Item}
    (hop : c.q.operations[opIdx]? = some op) (hc : AcyclicM.InClass c op)
    (hgen : responseForQuery c opIdx = .ok items) (hok : ModuleOkIn c opIdx = true) :
    SerdeFuel.EnvOK (moduleEnv c items) ∧ SerdeFuel.EnvOKS (moduleEnv c items) :=
  AcyclicM.class_module_envOK hop hc hgen (moduleOk_of_inputs c opIdx items hgen hok)

theorem class_de_never_out_of_fuel_inputs {c : Ctx} {opIdx : Nat} {op : ROperation} {items : List Item}
    (hop : c.q.operations[opIdx]? = some op) (hc : AcyclicM.InClass c op)
    (hgen : responseForQuery c opIdx = .ok items) (hok : ModuleOkIn c opIdx = true) (t : RTy) (j : Json) :
    Serde.de (moduleEnv c items) t j ≠ .error (.unmodelled "fuel") :=
  AcyclicM.class_de_never_out_of_fuel hop hc hgen (moduleOk_of_inputs c opIdx items hgen hok) t j

theorem class_de_fuel_indep_inputs {c : Ctx} {opIdx : Nat} {op : ROperation} {items : List Item}
    (hop : c.q.operations[opIdx]? = some op) (hc : AcyclicM.InClass c op)
    (hgen : responseForQuery c opIdx = .ok items) (hok : ModuleOkIn c opIdx = true) (t : RTy) (j : Json) (fuel : Nat)
    (hf : deFuel (moduleEnv c items) j ≤ fuel) :
    deTy (moduleEnv c items) false fuel t j = Serde.de (moduleEnv c items) t j :=
  AcyclicM.class_de_fuel_indep hop hc hgen (moduleOk_of_inputs c opIdx items hgen hok) t j fuel hf

theorem class_roundtrip_never_out_of_fuel_inputs {c : Ctx} {opIdx : Nat} {op : ROperation} {items : List Item}
    (hop : c.q.operations[opIdx]? = some op) (hc : AcyclicM.InClass c op)
    (hgen : responseForQuery c opIdx = .ok items) (hok : ModuleOkIn c opIdx = true) (t : RTy) (j : Json) :
    Serde.roundtrip (moduleEnv c items) t j ≠ .error (.unmodelled "fuel") :=
  AcyclicM.class_roundtrip_never_out_of_fuel hop hc hgen (moduleOk_of_inputs c opIdx items hgen hok) t j

theorem denied_field_payload_same_inputs (c : Ctx) (opIdx : Nat) (op : ROperation) (items : List Item)
    (hop : c.q.operations[opIdx]? = some op) (ht : C14G.TreeOpD c op = true)
    (hgen : responseForQuery c opIdx = .ok items) (hok : ModuleOkIn c opIdx = true) (j : Json) :
    Serde.de (moduleEnv c items) (.path "ResponseData") j =
      Serde.de (moduleEnv c items) (.path "ResponseData") (C14G.eraseDenied c op j) :=
  C14G.denied_field_payload_same' c opIdx op items hop ht hgen (moduleOk_of_inputs c opIdx items hgen hok) j

/-! ## a non-trivial instance: nested selections, an enum, a fragment

`enum Mood { HAPPY SAD type }  type Human { name: String!  height: Float  friend: Human  mood: Mood }
 type Query { hero: Human }`, identity case functions, default options. -/

def pxSchema : Schema :=
  { objects := [{ name := "Query", fields := [0], implements := [] },
                { name := "Human", fields := [1, 2, 3, 4], implements := [] }]
    fields := [{ name := "hero", ty := { id := .object 1, quals := [] }, parent := .object 0, deprecation := none },
               { name := "name", ty := { id := .scalar 1, quals := [.required] }, parent := .object 1, deprecation := none },
               { name := "height", ty := { id := .scalar 3, quals := [] }, parent := .object 1, deprecation := none },
               { name := "friend", ty := { id := .object 1, quals := [] }, parent := .object 1, deprecation := none },
               { name := "mood", ty := { id := .enum 0, quals := [] }, parent := .object 1, deprecation := none }]
    scalars := ["ID", "String", "Int", "Float", "Boolean"]
    enums := [{ name := "Mood", variants := ["HAPPY", "SAD", "type"] }] }

/-- `query Q { hero { ...Basics friend { height best: friend { mood } ...Basics } } }` -/
def pxOp : ROperation :=
  { name := "Q", kind := .query, objectId := 0,
    sels := [.field none 0 [.spread 0,
      .field none 3 [.field none 2 [], .field (some "best") 3 [.field none 4 []], .spread 0]]] }

/-- `fragment Basics on Human { name mood __typename }` -/
def pxQuery : Query :=
  { operations := [pxOp]
    fragments := [{ name := "Basics", on := .object 1, sels := [.field none 1 [], .field none 4 [], .typename] }] }

def pxCtx : Ctx := { s := pxSchema, q := pxQuery, o := {}, cs := ⟨id, id⟩ }

theorem px_class : FragmentOp pxCtx pxOp = true ∧ fragKeysOk pxCtx pxOp = true ∧ fragRustOk pxCtx pxOp = true := by
  refine ⟨?_, ?_, ?_⟩ <;> decide +kernel

/-- **the input-level predicate holds** (evaluated on schema + query, not on the module) -/
theorem px_in : ModuleOkIn pxCtx 0 = true := by decide +kernel

/-- the item names it examines -/
example : (allUsedTypes pxCtx.s pxCtx.q 0).toOption.map (fun u => itemNames pxCtx u pxOp 0) =
    some ["Boolean", "Float", "Int", "ID", "Mood", "Variables", "Basics", "ResponseData", "Qhero", "Qherofriend",
      "Qherofriendbest"] := by
  decide +kernel

theorem px_gen : (responseForQuery pxCtx 0).toOption.isSome = true := by decide +kernel

def pxJson : Json :=
  .obj [("hero", .obj [("__typename", .str "Human"), ("name", .str "Luke"), ("mood", .str "HAPPY"),
      ("friend", .obj [("height", .num "1.7"), ("best", .obj [("mood", .str "GRUMPY")]), ("name", .str "Han"),
                       ("mood", .null), ("__typename", .str "Human")])])]

theorem px_conforms : conformsOpF pxCtx pxOp pxJson = true := by
  rw [conformsOpF, conformsV_eq_K]
  decide +kernel

def pxCanon : Json :=
  .obj [("hero", .obj [("name", .str "Luke"), ("mood", .str "HAPPY"),
      ("friend", .obj [("height", .num "1.7"), ("best", .obj [("mood", .str "GRUMPY")]), ("name", .str "Han"),
                       ("mood", .null)])])]

theorem px_canon : canonSelF pxCtx.s pxCtx.q pxCtx.o.skipNone pxOp.sels pxJson = pxCanon := by
  simp [canonSelF, canonEntriesF, canonFieldF, canonEntriesV, canonFieldV, canon, canonNN, gtyOf, fragSels,
    pxCtx, pxSchema, pxOp, pxQuery, pxJson, pxCanon, Json.lookup, skipQ, Json.isNull]

/-- **`fragment_roundtrip_inputs` applies**: whatever module `responseForQuery` emits for the operation, the response
    (unknown enum value `GRUMPY`, `null` enum, `__typename` at two depths) round-trips to `pxCanon`; the module is never
    inspected — the side condition is `px_in` -/
theorem px_roundtrip (items : List Item) (hgen : responseForQuery pxCtx 0 = .ok items) :
    Serde.roundtrip (moduleEnv pxCtx items) (.path "ResponseData") pxJson = .ok pxCanon := by
  rw [← px_canon]
  exact fragment_roundtrip_inputs pxCtx 0 pxOp items rfl px_class.1 px_class.2.1 px_class.2.2 hgen px_in pxJson
    px_conforms

/-- … and generation does succeed -/
example : ∃ items, responseForQuery pxCtx 0 = .ok items ∧ moduleOk pxCtx items = true ∧
    Serde.roundtrip (moduleEnv pxCtx items) (.path "ResponseData") pxJson = .ok pxCanon := by
  cases hgen : responseForQuery pxCtx 0 with
  | error e =>
    have := px_gen
    rw [hgen] at this; cases this
  | ok items => exact ⟨items, rfl, moduleOk_of_inputs pxCtx 0 items hgen px_in, px_roundtrip items hgen⟩

/-- the same operation with the alias `best` replaced by a second path to the same name
    (`query Q { hero { ...Basics friend { height friend { mood } } herofriend: hero { friend { name } } } }`): still in the
    class, generation succeeds, `ModuleOkIn` is false (`Qherofriendfriend` twice) -/
example :
    let op : ROperation := { pxOp with sels :=
      [.field none 0 [.spread 0, .field none 3 [.field none 2 [], .field none 3 [.field none 4 []]]],
       .field (some "herofriend") 0 [.field none 3 [.field none 1 []]]] }
    let c : Ctx := { pxCtx with q := { pxQuery with operations := [op] } }
    FragmentOp c op = true ∧ (responseForQuery c 0).toOption.isSome = true ∧ ModuleOkIn c 0 = false := by
  refine ⟨?_, ?_, ?_⟩ <;> decide +kernel

end MOK
end GqlVerif
