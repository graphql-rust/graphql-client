import GqlVerif.Proofs.C02MembersModule
import GqlVerif.Proofs.C01EndToEndW
/-!
# `moduleOk` (the side condition of every end-to-end theorem) from the INPUT

`C01.E2E.moduleOk c items` is a decidable condition on the EMITTED module.  This file gives the decidable
predicate `ModuleOkIn c op` on the input (schema `c.s`, resolved query `c.q`, options `c.o`, case functions
`c.cs`) and proves, class-free and with no hypothesis but that generation succeeds,

  `moduleOk_iff_inputs : responseForQuery c op = .ok items → (moduleOk c items = true ↔ ModuleOkIn c op = true)`.

`ModuleOkIn c op`, conjunct by conjunct (`u` the used set `allUsedTypes c.s c.q op`, `o` the operation):

1. `C02.NoClash c op` — the names of `C02.moduleNames c u o` (built-in aliases, custom scalars, enums, inputs,
   `Variables`, fragment names with their path-named nested types, `ResponseData` with its path-named nested
   types: `C02.selectionNames`, a function of schema + selection tree + `camel`) are pairwise distinct;
2. when the operation declares variables, no such name is `"<impl Variables>"` — an artefact of the model:
   `Item.name (.defaults _) = "<impl Variables>"` and `moduleOk` speaks of `Item.name`;
3. no name of `moduleNames` is one of `String` / `i64` / `f64` / `bool` (`notPrim`);
4. no custom-scalar extern path (`customExterns c`) is a primitive name or an item name;
5. for every USED, non-extern enum: the schema's value names pairwise distinct and their normalized Rust
   identifiers (`enumVariantIdent`) pairwise distinct (`enumItem_tablesWf_iff`: exactly `EnumSpec.tablesWf` of
   the emitted tables);
6. `c.o.externEnums = []`.
-/

namespace GqlVerif
namespace MOK
open Codegen C02 C02M C01 C01.E2E C03

/-! ## the predicate on the input -/

/-- the used enums that are generated (not extern), in id order (as `C02.enumNames` / `C02M.enumMembers`) -/
def usedEnums (c : Ctx) (u : UsedTypes) : List StoredEnum :=
  ((sortNat (u.types.filterMap TypeId.asEnum?)).filterMap (fun k => c.s.enums[k]?)).filter
    (fun e => !c.o.externEnums.contains e.name)

def enumValuesOk (c : Ctx) (e : StoredEnum) : Bool :=
  decide e.variants.Nodup && decide (e.variants.map (enumVariantIdent c.o.normalization c.cs)).Nodup

/-- the one item whose `Item.name` is not a defined type name: `impl Variables { default_* }`, emitted exactly when
    the operation declares variables -/
def implNames (c : Ctx) (op : Nat) : List String :=
  if (c.q.opVariables op).isEmpty then [] else ["<impl Variables>"]

/-- `Item.name` of every item of the module (up to order): the defined names `C02.moduleNames` and `implNames` -/
def itemNames (c : Ctx) (u : UsedTypes) (o : ROperation) (op : Nat) : List String :=
  moduleNames c u o ++ implNames c op

/-- **the side condition of the end-to-end theorems, on the input** -/
def ModuleOkIn (c : Ctx) (op : Nat) : Bool :=
  match allUsedTypes c.s c.q op, c.q.operations[op]? with
  | .ok u, some o =>
    NoClash c op &&
    (implNames c op).all (fun n => !(moduleNames c u o).contains n) &&
    (moduleNames c u o).all (fun n => decide (notPrim n)) &&
    (customExterns c).all (fun x => decide (notPrim x.1) && (itemNames c u o op).all (fun n => n != x.1)) &&
    (usedEnums c u).all (enumValuesOk c) &&
    c.o.externEnums.isEmpty
  | _, _ => false

/-! ## the enum tables -/

/-- the table check of `moduleOk` on one item -/
def tablesOk : Item → Bool
  | .gqlEnum _ _ _ vs ser de => EnumSpec.tablesWf vs ser de
  | _ => true

def ordinary : Item → Bool
  | .gqlEnum .. => false
  | .defaults _ => false
  | _ => true

theorem ordinary_tablesOk {it : Item} (h : ordinary it = true) : tablesOk it = true := by
  cases it <;> first | rfl | simp [ordinary] at h

theorem ordinary_defines {it : Item} (h : ordinary it = true) : Scope.itemDefines it = some it.name := by
  cases it <;> first | rfl | simp [ordinary] at h

/-- **the emitted tables are well-formed exactly when the value names and their identifiers are distinct**
    (the converse of `C10.codegen_tables_wf` included) -/
theorem enumItem_tablesWf_iff (c : Ctx) (e : StoredEnum) : tablesOk (enumItem c e) = enumValuesOk c e := by
  have h1 : ∀ l : List String, EnumSpec.nodup l = decide l.Nodup := by
    intro l
    rw [Bool.eq_iff_iff, nodup_iff']
    simp
  simp only [tablesOk, enumItem, EnumSpec.tablesWf, enumValuesOk, List.map_map, Function.comp_def, List.map_id',
    h1, beq_self_eq_true, Bool.and_true]

/-! ## `Item.name` of the items of the module -/

theorem ordinary_renderType (c : Ctx) (n : String) (fs : List RField) (vs : List RVariant) :
    ∀ it ∈ renderType c n fs vs, ordinary it = true := by
  intro it hit
  rcases renderType_cases c n fs vs with e | e | e <;> rw [e] at hit <;>
    simp only [List.mem_cons, List.not_mem_nil, or_false] at hit
  · subst hit; rfl
  · subst hit; rfl
  · rcases hit with rfl | rfl <;> rfl

theorem calc_ordinary (c : Ctx) {fuel : Nat} {name pfx : String} {ty : TypeId} {sels : List Sel} {items : List Item}
    (h : calcSelection c fuel name pfx ty sels = .ok items) : ∀ it ∈ items, ordinary it = true :=
  calc_shape (P := fun it => ordinary it = true) (fun n t b => by cases b <;> rfl) (ordinary_renderType c) h

theorem map_name_of_ordinary {l : List Item} (h : ∀ it ∈ l, ordinary it = true) : l.map (·.name) = Scope.defines l :=
  (defines_eq_map_name (fun it hit => ordinary_defines (h it hit))).symm

theorem inputItem_ordinary {c : Ctx} {i : StoredInput} {it : Item} (h : inputItem c i = .ok it) : ordinary it = true := by
  rcases inputItem_cases h with ⟨_, vs, _, rfl⟩ | ⟨_, fs, _, rfl⟩ <;> rfl

theorem variablesItems_split {c : Ctx} {op : Nat} {V : List Item} (h : variablesItems c op = .ok V) :
    V.map (·.name) = "Variables" :: implNames c op ∧ ∀ it ∈ V, tablesOk it = true := by
  unfold implNames
  rcases variablesItems_cases h with ⟨hemp, rfl⟩ | ⟨hemp, fs, dfl, _, _, rfl⟩
  · rw [if_pos (by rw [hemp]; rfl)]
    exact ⟨rfl, by simp [tablesOk]⟩
  · rw [if_neg (by simpa using hemp)]
    exact ⟨rfl, by simp [tablesOk]⟩

theorem enumItems_eq {c : Ctx} {u : UsedTypes} {E : List Item} (h : enumItems c u = .ok E) :
    E = (usedEnums c u).map (enumItem c) := by
  obtain ⟨es, hes, rfl⟩ := enumItems_cases h
  rw [mapM_eq_filterMap (g := fun k => c.s.enums[k]?) (fun a b hb => getEnum_ok hb) hes]
  rfl

/-- **the emitted module, seen from the input**: `Item.name` of its items is a permutation of `itemNames`, and the
    generated enums are `enumItem` of the used enums, every other item passing the table check trivially -/
theorem module_item_names (c : Ctx) (op : Nat) (items : List Item) (h : responseForQuery c op = .ok items) :
    ∃ u o, allUsedTypes c.s c.q op = .ok u ∧ c.q.operations[op]? = some o ∧
      (items.map (·.name)).Perm (itemNames c u o op) ∧
      (items.all tablesOk = (usedEnums c u).all (enumValuesOk c)) := by
  obtain ⟨u, S, E, F, I, V, o, R, hu, hS, hE, hF, hI, hV, ho, hR, rfl⟩ := responseForQuery_ok_full h
  have hFp : ∀ it ∈ F.flatten, ordinary it = true := by
    intro it hit
    obtain ⟨its, hits, hit⟩ := List.mem_flatten.mp hit
    obtain ⟨g, _, hfi⟩ := mapM_ok_mem hF its hits
    obtain ⟨fr, _, hc⟩ := fragmentItems_ok hfi
    exact calc_ordinary c hc it hit
  refine ⟨u, o, hu, ho, ?_, ?_⟩
  · have hSn : S.map (·.name) = scalarNames c u := by
      rw [← scalarItems_names hS, defines_eq_map_name (scalarItems_itemDefines hS)]
    have hEn : E.map (·.name) = enumNames c u := by
      rw [← enumItems_names hE, defines_eq_map_name (enumItems_itemDefines hE)]
    have hIn : I.map (·.name) = inputNames c u := by
      rw [← inputItems_names hI, defines_eq_map_name (inputItems_itemDefines hI)]
    have hFn : F.flatten.map (·.name) = (sortNat u.fragments).flatMap (fragmentNames c) := by
      rw [map_name_of_ordinary hFp, mapM_defines_flatten (fun a its ha => fragmentItems_names ha) hF]
    have hRn : R.map (·.name) =
        selectionNames c "ResponseData" (c.cs.camel o.name) (.object o.objectId) o.sels := by
      unfold responseItems at hR
      rw [map_name_of_ordinary (calc_ordinary c hR), calc_names hR]
    simp only [List.map_append, hSn, hEn, hIn, (variablesItems_split hV).1, hFn, hRn, itemNames, moduleNames]
    have hb : builtinAliases.map (·.name) = ["Boolean", "Float", "Int", "ID"] := rfl
    rw [hb]
    simp only [List.append_assoc, List.cons_append, List.nil_append]
    repeat apply List.Perm.cons
    repeat apply List.Perm.append_left
    apply List.Perm.cons
    exact List.perm_append_comm.trans (by rw [List.append_assoc])
  · have hB : builtinAliases.all tablesOk = true := by decide
    have hSt : S.all tablesOk = true := by
      refine List.all_eq_true.mpr ?_
      obtain ⟨ns, _, rfl⟩ := scalarItems_cases hS
      intro it hit
      obtain ⟨n, _, rfl⟩ := List.mem_map.mp hit
      rfl
    have hIt : I.all tablesOk = true := by
      refine List.all_eq_true.mpr ?_
      intro it hit
      obtain ⟨_, _, _, _, hx⟩ := inputItems_origin hI it hit
      exact ordinary_tablesOk (inputItem_ordinary hx)
    have hVt : V.all tablesOk = true := List.all_eq_true.mpr (variablesItems_split hV).2
    have hFt : F.flatten.all tablesOk = true := List.all_eq_true.mpr fun it hit => ordinary_tablesOk (hFp it hit)
    have hRt : R.all tablesOk = true := by
      refine List.all_eq_true.mpr ?_
      unfold responseItems at hR
      exact fun it hit => ordinary_tablesOk (calc_ordinary c hR it hit)
    have hEt : E.all tablesOk = (usedEnums c u).all (enumValuesOk c) := by
      rw [enumItems_eq hE, List.all_map]
      congr 1
      funext e
      exact enumItem_tablesWf_iff c e
    simp only [List.all_append, hB, hSt, hIt, hVt, hFt, hRt, hEt, Bool.true_and, Bool.and_true]

/-! ## `moduleOk` ⇔ `ModuleOkIn` -/

/-- `moduleOk`, with its first three conjuncts as propositions about the list of item names -/
theorem moduleOk_iff_names (c : Ctx) (items : List Item) :
    moduleOk c items = true ↔
      ((items.map (·.name)).Nodup ∧ (∀ n ∈ items.map (·.name), notPrim n) ∧
       (∀ x ∈ customExterns c, notPrim x.1 ∧ ∀ n ∈ items.map (·.name), n ≠ x.1)) ∧
      items.all tablesOk = true ∧ c.o.externEnums = [] := by
  have ht : moduleOk c items =
      (EnumSpec.nodup (items.map (·.name)) &&
      items.all (fun it => decide (notPrim it.name)) &&
      (customExterns c).all (fun x => decide (notPrim x.1) && items.all (fun it => it.name != x.1)) &&
      items.all tablesOk &&
      c.o.externEnums.isEmpty) := rfl
  rw [ht]
  simp only [Bool.and_eq_true, List.all_eq_true, decide_eq_true_eq, List.isEmpty_iff, nodup_iff', List.mem_map,
    forall_exists_index, and_imp, forall_apply_eq_imp_iff₂, bne_iff_ne, ne_eq]
  constructor
  · rintro ⟨⟨⟨⟨a, b⟩, d⟩, e⟩, f⟩
    exact ⟨⟨a, b, d⟩, e, f⟩
  · rintro ⟨⟨a, b, d⟩, e, f⟩
    exact ⟨⟨⟨⟨a, b⟩, d⟩, e⟩, f⟩

/-- **`moduleOk` of the emitted module ⇔ `ModuleOkIn` of the input**, whenever `responseForQuery` succeeds (no
    other hypothesis: every context, normalization, case functions, operation) -/
theorem moduleOk_iff_inputs (c : Ctx) (op : Nat) (items : List Item) (h : responseForQuery c op = .ok items) :
    moduleOk c items = true ↔ ModuleOkIn c op = true := by
  obtain ⟨u, o, hu, ho, hperm, htab⟩ := module_item_names c op items h
  rw [moduleOk_iff_names, htab]
  have hmem : ∀ n, n ∈ items.map (·.name) ↔ n ∈ itemNames c u o op := fun n => hperm.mem_iff
  have hnc : NoClash c op = true ↔ (moduleNames c u o).Nodup := by
    unfold NoClash
    simp only [hu, ho, decide_eq_true_eq]
  have himplnd : (implNames c op).Nodup := by
    unfold implNames; split <;> simp
  have himplnp : ∀ n ∈ implNames c op, notPrim n := by
    intro n hn
    unfold implNames at hn
    split at hn
    · simp at hn
    · simp only [List.mem_singleton] at hn
      subst hn; decide
  unfold ModuleOkIn
  simp only [hu, ho, Bool.and_eq_true, List.all_eq_true, decide_eq_true_eq, List.isEmpty_iff, hnc,
    Bool.not_eq_true', bne_iff_ne, ne_eq]
  rw [hperm.nodup_iff]
  simp only [hmem]
  unfold itemNames
  rw [List.nodup_append]
  simp only [List.mem_append]
  constructor
  · rintro ⟨⟨⟨hnd, _, hdis⟩, hnp, hext⟩, htb, hee⟩
    refine ⟨⟨⟨⟨⟨hnd, ?_⟩, fun n hn => hnp n (.inl hn)⟩, hext⟩, htb⟩, hee⟩
    intro n hn
    cases hc : (moduleNames c u o).contains n
    · rfl
    · exact absurd rfl (hdis n (by simpa using hc) n hn)
  · rintro ⟨⟨⟨⟨⟨hnd, hdis⟩, hnp⟩, hext⟩, htb⟩, hee⟩
    refine ⟨⟨⟨hnd, himplnd, ?_⟩, ?_, hext⟩, htb, hee⟩
    · intro a ha b hb hab
      subst hab
      have := hdis a hb
      simp [ha] at this
    · rintro n (hn | hn)
      · exact hnp n hn
      · exact himplnp n hn

/-- the direction the end-to-end theorems use -/
theorem moduleOk_of_inputs (c : Ctx) (op : Nat) (items : List Item) (h : responseForQuery c op = .ok items)
    (hin : ModuleOkIn c op = true) : moduleOk c items = true :=
  (moduleOk_iff_inputs c op items h).mpr hin

theorem moduleOk_eq_inputs (c : Ctx) (op : Nat) (items : List Item) (h : responseForQuery c op = .ok items) :
    moduleOk c items = ModuleOkIn c op := by
  rw [Bool.eq_iff_iff]
  exact moduleOk_iff_inputs c op items h

/-! ## `ModuleOkIn`, part by part -/

theorem moduleOkIn_iff (c : Ctx) (op : Nat) (u : UsedTypes) (o : ROperation)
    (hu : allUsedTypes c.s c.q op = .ok u) (ho : c.q.operations[op]? = some o) :
    ModuleOkIn c op = true ↔
      (moduleNames c u o).Nodup ∧
      ((c.q.opVariables op) ≠ [] → "<impl Variables>" ∉ moduleNames c u o) ∧
      (∀ n ∈ moduleNames c u o, notPrim n) ∧
      (∀ x ∈ customExterns c, notPrim x.1 ∧ ∀ n ∈ itemNames c u o op, n ≠ x.1) ∧
      (∀ e ∈ usedEnums c u, e.variants.Nodup ∧ (e.variants.map (enumVariantIdent c.o.normalization c.cs)).Nodup) ∧
      c.o.externEnums = [] := by
  have hnc : NoClash c op = true ↔ (moduleNames c u o).Nodup := by
    unfold NoClash
    simp only [hu, ho, decide_eq_true_eq]
  have himpl : (∀ n ∈ implNames c op, (moduleNames c u o).contains n = false) ↔
      ((c.q.opVariables op) ≠ [] → "<impl Variables>" ∉ moduleNames c u o) := by
    unfold implNames
    cases hv : c.q.opVariables op <;> simp
  unfold ModuleOkIn
  simp only [hu, ho, Bool.and_eq_true, List.all_eq_true, decide_eq_true_eq, List.isEmpty_iff, hnc,
    Bool.not_eq_true', bne_iff_ne, ne_eq, himpl, enumValuesOk]
  constructor
  · rintro ⟨⟨⟨⟨⟨a, b⟩, d⟩, e⟩, f⟩, g⟩; exact ⟨a, b, d, e, f, g⟩
  · rintro ⟨a, b, d, e, f, g⟩; exact ⟨⟨⟨⟨⟨a, b⟩, d⟩, e⟩, f⟩, g⟩

theorem moduleOkIn_noClash {c : Ctx} {op : Nat} (h : ModuleOkIn c op = true) : NoClash c op = true := by
  unfold ModuleOkIn at h
  split at h
  · simp only [Bool.and_eq_true] at h
    exact h.1.1.1.1.1
  · cases h

/-! ## the tree class with the input-level hypothesis -/

theorem tree_accepts_inputs (c : Ctx) (opIdx : Nat) (op : ROperation) (items : List Item)
    (hop : c.q.operations[opIdx]? = some op) (ht : TreeOp c op = true)
    (hgen : responseForQuery c opIdx = .ok items) (hok : ModuleOkIn c opIdx = true)
    (j : Json) (hc : conformsOp c op j = true) :
    ∃ v, Serde.de (moduleEnv c items) (.path "ResponseData") j = .ok v :=
  tree_accepts c opIdx op items hop ht hgen (moduleOk_of_inputs c opIdx items hgen hok) j hc

theorem tree_roundtrip_inputs (c : Ctx) (opIdx : Nat) (op : ROperation) (items : List Item)
    (hop : c.q.operations[opIdx]? = some op) (ht : TreeOp c op = true)
    (hgen : responseForQuery c opIdx = .ok items) (hok : ModuleOkIn c opIdx = true)
    (hro : rustOkSels c op.sels = true) (hrn : EnumSpec.nodup (rustNames c op.sels) = true)
    (j : Json) (hc : conformsOp c op j = true) :
    Serde.roundtrip (moduleEnv c items) (.path "ResponseData") j = .ok (canonSel c.s c.o.skipNone op.sels j) :=
  tree_roundtrip c opIdx op items hop ht hgen (moduleOk_of_inputs c opIdx items hgen hok) hro hrn j hc

theorem tree_precise_iff_inputs (c : Ctx) (opIdx : Nat) (op : ROperation) (items : List Item)
    (hop : c.q.operations[opIdx]? = some op) (ht : TreeOp c op = true)
    (hgen : responseForQuery c opIdx = .ok items) (hok : ModuleOkIn c opIdx = true) (j : Json) :
    okB (Serde.de (moduleEnv c items) (.path "ResponseData") j) = conformsSelLoose c.s op.sels j :=
  tree_precise_iff c opIdx op items hop ht hgen (moduleOk_of_inputs c opIdx items hgen hok) j

/-! ## instances -/

/-- `type Query { animal: Animal }  type Animal { owner: Owner  name: String }  type Owner { id: ID }` -/
def ceSchema : Schema :=
  { objects := [{ name := "Query", fields := [0], implements := [] },
                { name := "Animal", fields := [1, 2], implements := [] },
                { name := "Owner", fields := [3], implements := [] }]
    fields := [{ name := "animal", ty := { id := .object 1, quals := [] }, parent := .object 0, deprecation := none },
               { name := "owner", ty := { id := .object 2, quals := [] }, parent := .object 1, deprecation := none },
               { name := "name", ty := { id := .scalar 1, quals := [] }, parent := .object 1, deprecation := none },
               { name := "id", ty := { id := .scalar 0, quals := [] }, parent := .object 2, deprecation := none }]
    scalars := Schema.defaultScalars }

/-- `query Q { animal { owner { id } } animalowner: animal { name } }` (docs/REVIEW_3.md, finding 3) -/
def ceOp : ROperation :=
  { name := "Q", kind := .query, objectId := 0,
    sels := [.field none 0 [.field none 1 [.field none 3 []]], .field (some "animalowner") 0 [.field none 2 []]] }

def ceCtx : Ctx := { s := ceSchema, q := { operations := [ceOp] }, o := {}, cs := ⟨id, id⟩ }

/-- **the reviewer's counterexample**: the operation is in the class `TreeOp`, generation succeeds, and the input-level
    predicate is FALSE — through `NoClash` alone: the two selection paths `Q/animal/owner` and `Q/animalowner`
    concatenate to the one item name `Qanimalowner`; every other conjunct holds -/
theorem reviewer_counterexample :
    TreeOp ceCtx ceOp = true ∧ (responseForQuery ceCtx 0).toOption.isSome = true ∧
    ModuleOkIn ceCtx 0 = false ∧ NoClash ceCtx 0 = false ∧
    (allUsedTypes ceCtx.s ceCtx.q 0).toOption.map (fun u => moduleNames ceCtx u ceOp) =
      some ["Boolean", "Float", "Int", "ID", "Variables", "ResponseData", "Qanimal", "Qanimalowner", "Qanimalowner"] := by
  refine ⟨?_, ?_, ?_, ?_, ?_⟩ <;> decide +kernel

/-- so `moduleOk` fails on the module that IS emitted for it (by the equivalence, not by evaluating the module) -/
theorem reviewer_counterexample_output :
    ∃ items, responseForQuery ceCtx 0 = .ok items ∧ moduleOk ceCtx items = false := by
  cases hgen : responseForQuery ceCtx 0 with
  | error e =>
    have := reviewer_counterexample.2.1
    rw [hgen] at this; cases this
  | ok items =>
    refine ⟨items, rfl, ?_⟩
    rw [moduleOk_eq_inputs ceCtx 0 items hgen]
    exact reviewer_counterexample.2.2.1

/-- with an alias that does not collide (`pet: animal { name }`) the predicate holds -/
example : ModuleOkIn { ceCtx with q := { operations := [{ ceOp with
    sels := [.field none 0 [.field none 1 [.field none 3 []]], .field (some "pet") 0 [.field none 2 []]] }] } } 0 = true := by
  decide +kernel

/-- the two-level module of `C01EndToEndW` (nested selections, an alias, a deprecated field of an enum one of whose values is a Rust
    keyword, a custom scalar with its extern, a list of objects) passes the input-level predicate … -/
theorem ex_in : ModuleOkIn exCtx 0 = true := by decide +kernel

/-- … and `tree_roundtrip_inputs` applies to it: `to_value (from_value exJson) = exCanon`, the side condition
    discharged on the input -/
example : Serde.roundtrip (moduleEnv exCtx exItems) (.path "ResponseData") exJson = .ok exCanon := by
  rw [← ex_canon]
  exact tree_roundtrip_inputs exCtx 0 exOp exItems rfl ex_tree ex_gen ex_in ex_rust.1 ex_rust.2 exJson ex_conforms

/-- the rich sample of `C02Response` has an extern enum: the predicate is false on it (conjunct 6), and true once the
    enum is generated instead -/
example : ModuleOkIn richCtx 0 = false ∧ ModuleOkIn { richCtx with o := {} } 0 = true := by
  constructor <;> decide +kernel

/-- **two enum values equal after normalization** (`C02M.enumCtx`, a C02 finding): conjunct 5 fails, `NoClash` holds -/
example : ModuleOkIn enumCtx 0 = false ∧ NoClash enumCtx 0 = true ∧ ModuleOkIn { enumCtx with o := {} } 0 = true := by
  refine ⟨?_, ?_, ?_⟩ <;> decide +kernel

end MOK
end GqlVerif
