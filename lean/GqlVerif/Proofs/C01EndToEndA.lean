import GqlVerif.Proofs.C01Layers
import GqlVerif.Proofs.CalcRelation
import GqlVerif.Proofs.SelInduction
/-!
# C01 / C03 end to end, `TreeOp` 1/4: specification, class, closed form of the emitted items

**Scope.**  Operations whose selection tree consists of `.field` selections (with or without alias) and
`.typename` only; every selected field with a sub-selection has an *object* type, leaf fields have
scalar / enum types.  **Fragment spreads, inline fragments and abstract (interface / union) positions are
out of scope** of this file and of `C01EndToEndB` / `C` (they are where the known findings `C01-overlap`,
`C01-dropped-fragment`, `C03-typename-index` live).

`conformsSel s tn sels j` is the **specification**, written from the GraphQL spec §6.4.2 "Executing
selection sets" / §6.4.3 "Value completion" (not from the generator): `j` is an object without
duplicate keys whose entries are exactly one per selected response key (alias or field name; for
`__typename` the name `tn` of the object type as a string); each value conforms to the field's type
expression (`Spec.accepts`: `null` only at nullable positions, lists exactly at list positions) with, at
the leaves: `Int` = integer within i64 (the GraphQL spec says 32 bit; i64 ⊇ i32, so every spec-conforming
value is covered), `Float` = number, `String` = string, `Boolean`, `ID` = string or i64 integer,
enum = any string, custom scalar = string (the consumer's type is taken to be `String`, as the harness
does), object type = recursively `conformsSel` of the sub-selection.

`tree_items_shape`: for every operation of the class (`TreeOp`, a `Bool`) `responseItems` returns the closed form
`structItems`.  The proof builds a `C02.CalcSel` derivation (`CalcRelation`), one `TreeStep` per selection;
`CalcSel.responseItems_eq` takes care of the fuel.
-/

namespace GqlVerif
namespace C01
namespace E2E
open Spec C13 Codegen

/-- qualifier list (outer to inner, as stored in the schema) → type expression; the named type at the
    leaf is irrelevant to `Spec.accepts`, `C13.rustOf`, `C13.wf`, `canon` and is elided -/
def gtyOf : List Qual → GTy
  | [] => .named "_"
  | .required :: qs => .nonNull (gtyOf qs)
  | .list :: qs => .list (gtyOf qs)

/-- no `!!` (`C13.wf` on the qualifier list; `decorate_type` panics on it, neither parser produces it) -/
def wfQuals : List Qual → Bool
  | [] => true
  | .list :: qs => wfQuals qs
  | .required :: qs => (match qs with | .required :: _ => false | _ => true) && wfQuals qs

def nullableQ : List Qual → Bool
  | [] => true
  | q :: _ => q != .required

/-- the positions `skip_serializing_none` marks: nullable with at least one modifier (`renderField`) -/
def skipQ : List Qual → Bool
  | [] => false
  | q :: _ => q != .required

/-- the values of the scalar named `n`: `Int` = integer within i64 (⊇ the 32 bits of the GraphQL spec),
    `Float` = number, `Boolean`, `ID` = string or i64 integer, `String` and every custom scalar = string -/
def scalarOk (n : String) : Json → Bool :=
  if n = "Int" then intOk else if n = "Float" then floatOk else if n = "Boolean" then boolOk
  else if n = "ID" then idOk else stringOk

/-- the response key of a selection: alias, else field name; `__typename` for `.typename` -/
def respKey (s : Schema) : Sel → Option String
  | .field a fid _ => (s.fields[fid]?).map (fun sf => a.getD sf.name)
  | .typename => some "__typename"
  | _ => none

def respKeys (s : Schema) (sels : List Sel) : List String := sels.filterMap (respKey s)

mutual
  /-- the entry an object of type `tn` must carry for one selection (GraphQL spec §6.4.2, §6.4.3) -/
  def confSel (s : Schema) (tn : String) : Sel → List (String × Json) → Bool
    | .field a fid sub, kvs =>
      match s.fields[fid]? with
      | none => false
      | some sf =>
        match Json.lookup (a.getD sf.name) kvs with
        | none => false
        | some v =>
          match sf.ty.id with
          | .scalar k => (match s.scalars[k]? with
            | some n => accepts (scalarOk n) (gtyOf sf.ty.quals) v
            | none => false)
          | .enum k => (match s.enums[k]? with
            | some _ => accepts stringOk (gtyOf sf.ty.quals) v
            | none => false)
          | .object i => (match s.objects[i]? with
            | some o => accepts (fun j => match j with
                | .obj kvs' => EnumSpec.nodup (kvs'.map (·.1)) && kvs'.all (fun kv => (respKeys s sub).contains kv.1) &&
                    confSels s o.name sub kvs'
                | _ => false) (gtyOf sf.ty.quals) v
            | none => false)
          | _ => false
    -- the only place where the name `tn` of the object type matters: an object type has no runtime subtypes
    | .typename, kvs => (match Json.lookup "__typename" kvs with | some (.str n) => n == tn | _ => false)
    | _, _ => false
  def confSels (s : Schema) (tn : String) : List Sel → List (String × Json) → Bool
    | [], _ => true
    | x :: xs, kvs => confSel s tn x kvs && confSels s tn xs kvs
end

/-- **the specification**: `j` is the response object of the selection set `sels` on the object type
    named `tn`: an object without duplicate keys, whose keys are all response keys of `sels`, carrying a
    conforming entry for every selection (so: exactly one entry per response key, order irrelevant) -/
def conformsSel (s : Schema) (tn : String) (sels : List Sel) : Json → Bool
  | .obj kvs => EnumSpec.nodup (kvs.map (·.1)) && kvs.all (fun kv => (respKeys s sels).contains kv.1) &&
      confSels s tn sels kvs
  | _ => false


/-! ## closed form of the emitted items -/

/-- the type name at the leaf of a field's Rust type: scalar alias / enum name / nested struct name
    (path rule: prefix of the enclosing struct ++ upper-camel-case response key) -/
def leafName (c : Ctx) (pfx g : String) : TypeId → Option String
  | .scalar k => c.s.scalars[k]?
  | .enum k => (c.s.enums[k]?).map (·.name)
  | .object _ => some (pfx ++ c.cs.camel g)
  | _ => none

/-- the field emitted for response key `g`, leaf type name `ft`, modifiers `quals` -/
def fieldOf (c : Ctx) (g ft : String) (quals : List Qual) (dep : Option (Option String)) : RField :=
  { rust := keywordReplace (c.cs.snake g)
    rename := fieldRename g (keywordReplace (c.cs.snake g))
    ty := rustOf (.path ft) (gtyOf quals)
    flatten := false
    skipNone := c.o.skipNone && skipQ quals
    deserWith := if ft = "ID" then some (C16.idHelperFor (gtyOf quals)) else none
    default := decide (ft = "ID") && nullableQ quals
    deprecated := match dep, c.o.deprecation with
      | some msg, .warn => some msg
      | _, _ => none }

def fieldOfSel (c : Ctx) (pfx : String) : Sel → Option RField
  | .field a fid _ =>
    match c.s.fields[fid]? with
    | none => none
    | some sf =>
      match leafName c pfx (a.getD sf.name) sf.ty.id with
      | none => none
      | some ft => some (fieldOf c (a.getD sf.name) ft sf.ty.quals sf.deprecation)
  | _ => none

def fieldsOf (c : Ctx) (pfx : String) (sels : List Sel) : List RField := sels.filterMap (fieldOfSel c pfx)

mutual
  def itemsOfSel (c : Ctx) (pfx : String) : Sel → List Item
    | .field a fid sub =>
      match c.s.fields[fid]? with
      | none => []
      | some sf =>
        match sf.ty.id with
        | .object _ =>
          .struct (pfx ++ c.cs.camel (a.getD sf.name)) c.respDerives c.serdeCrate
              (fieldsOf c (pfx ++ c.cs.camel (a.getD sf.name)) sub) ::
            itemsOfSels c (pfx ++ c.cs.camel (a.getD sf.name)) sub
        | _ => []
    | _ => []
  def itemsOfSels (c : Ctx) (pfx : String) : List Sel → List Item
    | [] => []
    | x :: xs => itemsOfSel c pfx x ++ itemsOfSels c pfx xs
end

/-- **closed form**: the struct `name` of the selection set, followed by the structs of its nested
    selection sets (depth first, in selection order) -/
def structItems (c : Ctx) (name pfx : String) (sels : List Sel) : List Item :=
  .struct name c.respDerives c.serdeCrate (fieldsOf c pfx sels) :: itemsOfSels c pfx sels

/-! ## the class -/

mutual
  /-- one selection of the class: a field that exists, without `!!`, not (deprecated and denied); of
      scalar / enum type without sub-selection, or of object type with a sub-selection of the class whose
      response keys are pairwise distinct; or `__typename` -/
  def treeSel (s : Schema) (o : Options) : Sel → Bool
    | .field _ fid sub =>
      match s.fields[fid]? with
      | none => false
      | some sf =>
        wfQuals sf.ty.quals && !(sf.deprecation.isSome && o.deprecation == .deny) &&
        (match sf.ty.id with
         | .scalar k => (s.scalars[k]?).isSome && sub.isEmpty
         | .enum k => (s.enums[k]?).isSome && sub.isEmpty
         | .object i => (s.objects[i]?).isSome && treeSels s o sub && EnumSpec.nodup (respKeys s sub)
         | _ => false)
    | .typename => true
    | _ => false
  def treeSels (s : Schema) (o : Options) : List Sel → Bool
    | [] => true
    | x :: xs => treeSel s o x && treeSels s o xs
end

/-- **the class** (decidable): normalization `none`, the root object exists, the selection tree is in the
    class, root response keys pairwise distinct -/
def TreeOp (c : Ctx) (op : ROperation) : Bool :=
  c.o.normalization == .none && (c.s.objects[op.objectId]?).isSome &&
  treeSels c.s c.o op.sels && EnumSpec.nodup (respKeys c.s op.sels)


/-! ## `responseItems` returns the closed form -/

theorem quals_gtyOf : ∀ qs, GTy.quals (gtyOf qs) = qs
  | [] => rfl
  | .required :: qs => by simp [gtyOf, GTy.quals, quals_gtyOf qs]
  | .list :: qs => by simp [gtyOf, GTy.quals, quals_gtyOf qs]

theorem wf_gtyOf : ∀ qs, wf (gtyOf qs) = wfQuals qs
  | [] => rfl
  | .list :: qs => by simp [gtyOf, wf, wfQuals, wf_gtyOf qs]
  | .required :: qs => by
    cases qs with
    | nil => simp [gtyOf, wf, wfQuals]
    | cons q qs' =>
      cases q with
      | required => simp [gtyOf, wf, wfQuals]
      | list =>
        have := wf_gtyOf (.list :: qs')
        simp only [gtyOf, wf, wfQuals] at this ⊢
        simp [this]

theorem renderField_tree (c : Ctx) (g ft : String) (quals : List Qual) (dep : Option (Option String))
    (hw : wfQuals quals = true) (hdep : (dep.isSome && c.o.deprecation == .deny) = false) :
    renderField c (some g) (keywordReplace (c.cs.snake g)) ft quals false false dep =
      .ok (some (fieldOf c g ft quals dep)) := by
  unfold renderField
  have hd := decorate_spec (.path ft) (gtyOf quals) (by rw [wf_gtyOf]; exact hw)
  rw [quals_gtyOf] at hd
  rw [hd]
  have hhelper : (if !(ft == "ID") then none
      else if quals.contains .list then some "graphql_client::serde_with::deserialize_nested_id"
      else if quals.contains .required then some "graphql_client::serde_with::deserialize_id"
      else some "graphql_client::serde_with::deserialize_option_id") =
      (if ft = "ID" then some (C16.idHelperFor (gtyOf quals)) else none) := by
    unfold C16.idHelperFor
    rw [quals_gtyOf]
    by_cases hid : ft = "ID"
    · simp only [hid, beq_self_eq_true, Bool.not_true, Bool.false_eq_true, ↓reduceIte]
      split
      · rfl
      · split <;> rfl
    · simp [hid]
  simp only [bind, Except.bind]
  rw [hhelper]
  unfold fieldOf
  -- what is left are the two matches on the head of `quals` and the one on the deprecation strategy
  cases dep with
  | none => cases c.o.deprecation <;> cases quals <;> rfl
  | some m =>
    cases hs : c.o.deprecation with
    | deny => simp [hs] at hdep
    | allow => cases quals <;> rfl
    | warn => cases quals <;> rfl

theorem treeSels_eq_all (s : Schema) (o : Options) : ∀ sels, treeSels s o sels = sels.all (treeSel s o) :=
  all_of_eqns rfl (fun _ _ => rfl)

theorem treeSels_cons {s : Schema} {o : Options} {x : Sel} {xs : List Sel} (h : treeSels s o (x :: xs) = true) :
    treeSel s o x = true ∧ treeSels s o xs = true := by
  simpa [treeSels] using h

theorem treeSel_kinds {s : Schema} {o : Options} {a : Option String} {fid : Nat} {sub : List Sel}
    (h : treeSel s o (.field a fid sub) = true) : ∃ sf, s.fields[fid]? = some sf ∧ wfQuals sf.ty.quals = true ∧
      (sf.deprecation.isSome && o.deprecation == .deny) = false ∧
      ((∃ k n, sf.ty.id = .scalar k ∧ s.scalars[k]? = some n ∧ sub = []) ∨
       (∃ k en, sf.ty.id = .enum k ∧ s.enums[k]? = some en ∧ sub = []) ∨
       (∃ i ob, sf.ty.id = .object i ∧ s.objects[i]? = some ob ∧ treeSels s o sub = true ∧
          EnumSpec.nodup (respKeys s sub) = true)) := by
  rw [treeSel] at h
  cases hsf : s.fields[fid]? with
  | none => simp [hsf] at h
  | some sf =>
    simp only [hsf, Bool.and_eq_true, Bool.not_eq_true'] at h
    obtain ⟨⟨hw, hdep⟩, hty⟩ := h
    refine ⟨sf, rfl, hw, hdep, ?_⟩
    cases hid : sf.ty.id with
    | scalar k =>
      simp only [hid, Bool.and_eq_true, List.isEmpty_iff, Option.isSome_iff_exists] at hty
      obtain ⟨⟨n, hn⟩, rfl⟩ := hty
      exact .inl ⟨k, n, rfl, hn, rfl⟩
    | «enum» k =>
      simp only [hid, Bool.and_eq_true, List.isEmpty_iff, Option.isSome_iff_exists] at hty
      obtain ⟨⟨en, hen⟩, rfl⟩ := hty
      exact .inr (.inl ⟨k, en, rfl, hen, rfl⟩)
    | object i =>
      simp only [hid, Bool.and_eq_true, Option.isSome_iff_exists] at hty
      obtain ⟨⟨⟨ob, hob⟩, hsub⟩, hkeys⟩ := hty
      exact .inr (.inr ⟨i, ob, rfl, hob, hsub, hkeys⟩)
    | _ => simp [hid] at hty

theorem getField_of {s : Schema} {i : Nat} {x : StoredField} (h : s.fields[i]? = some x) : s.getField i = .ok x :=
  C02.getField_of h
theorem getScalar_of {s : Schema} {i : Nat} {x : String} (h : s.scalars[i]? = some x) : s.getScalar i = .ok x :=
  C02.getScalar_of h
theorem getEnum_of {s : Schema} {i : Nat} {x : StoredEnum} (h : s.enums[i]? = some x) : s.getEnum i = .ok x :=
  C02.getEnum_of h

section Calc
variable (c : Ctx) (hn : c.o.normalization = .none)

theorem treeSels_not_spread {s : Schema} {o : Options} {sels : List Sel} (ht : treeSels s o sels = true) (g : Nat) :
    sels ≠ [Sel.spread g] := by
  rintro rfl; simp [treeSels, treeSel] at ht

/-- one selection of the class is one step of the field loop -/
def TreeStep (x : Sel) : Prop := ∀ (pfx : String) (ty : TypeId) (rest : List Sel) (fs : List RField)
  (items : List Item), treeSel c.s c.o x = true → C02.CalcFields c pfx ty rest fs items →
  C02.CalcFields c pfx ty (x :: rest) ((fieldOfSel c pfx x).toList ++ fs) (itemsOfSel c pfx x ++ items)

theorem calcFields_tree {sels : List Sel} (H : ∀ y ∈ sels, TreeStep c y) (pfx : String) (ty : TypeId)
    (ht : treeSels c.s c.o sels = true) :
    C02.CalcFields c pfx ty sels (fieldsOf c pfx sels) (itemsOfSels c pfx sels) := by
  induction sels with
  | nil => exact .nil
  | cons x rest ih =>
    have := H x List.mem_cons_self pfx ty rest _ _ (treeSels_cons ht).1
      (ih (fun y hy => H y (List.mem_cons_of_mem _ hy)) (treeSels_cons ht).2)
    rw [itemsOfSels, fieldsOf, List.filterMap_cons]
    cases h : fieldOfSel c pfx x <;> simpa [h, fieldsOf] using this

include hn in
theorem treeStep : ∀ x, TreeStep c x := by
  apply Sel.ind
  · intro a fid sub IH pfx ty rest fs items hx hR
    obtain ⟨sf, hsf, hw, hdep, hk⟩ := treeSel_kinds hx
    have hfld := fun ft => renderField_tree c (a.getD sf.name) ft _ _ hw hdep
    rcases hk with ⟨k, sn, hid, hk, _⟩ | ⟨k, en, hid, hk, _⟩ | ⟨i, _, hid, _, hsub, _⟩
    · have := C02.CalcFields.scalar (sub := sub) (getField_of hsf) hid (getScalar_of hk) (hfld _) hR
      simpa [hn, C02.fieldType_none, itemsOfSel, fieldOfSel, hsf, hid, leafName, hk] using this
    · have := C02.CalcFields.enum (sub := sub) (getField_of hsf) hid (getEnum_of hk) (hfld _) hR
      simpa [hn, C02.fieldType_none, itemsOfSel, fieldOfSel, hsf, hid, leafName, hk] using this
    · have hS := C02.CalcSel.object (name := pfx ++ c.cs.camel (a.getD sf.name)) (treeSels_not_spread hsub)
        (calcFields_tree c IH (pfx ++ c.cs.camel (a.getD sf.name)) (.object i) hsub)
      have := C02.CalcFields.nested (getField_of hsf) (by simp [hid]) (by simp [hid]) (by simp [hid]) (hfld _)
        (hid ▸ hS) hR
      simpa [itemsOfSel, fieldOfSel, hsf, hid, leafName] using this
  · intro t sub _ pfx ty rest fs items hx _
    simp [treeSel] at hx
  · intro g pfx ty rest fs items hx _
    simp [treeSel] at hx
  · intro pfx ty rest fs items _ hR
    have h1 : fieldOfSel c pfx .typename = none := rfl
    simpa [itemsOfSel, h1] using C02.CalcFields.typename hR

include hn in
theorem calc_tree (name pfx : String) (i : Nat) {sels : List Sel} (ht : treeSels c.s c.o sels = true) :
    C02.CalcSel c name pfx (.object i) sels (structItems c name pfx sels) :=
  .object (treeSels_not_spread ht) (calcFields_tree c (fun y _ => treeStep c hn y) pfx (.object i) ht)

end Calc


theorem calcFuel_ge (c : Ctx) (op : ROperation) (hop : op ∈ c.q.operations) :
    2 * selsSize op.sels + 2 ≤ calcFuel c.s c.q := by
  have h1 : selsSize op.sels ≤ C02.totalSize c.q := by
    apply C02.le_foldl_add
    left
    simp only [List.mem_append, List.mem_map]
    exact .inr ⟨op, hop, rfl⟩
  rw [C02.calcFuel_eq, C02.walkFuel_eq]
  obtain ⟨K, hK⟩ : ∃ K, K = C02.totalSize c.q + c.s.objects.length + C02.maxUnion c.s + 4 := ⟨_, rfl⟩
  rw [← hK]
  have h2 : 2 ≤ (c.q.fragments.length + 1) * (C02.maxDepth c.q + 2) + 1 := by
    have : 1 * 2 ≤ (c.q.fragments.length + 1) * (C02.maxDepth c.q + 2) := Nat.mul_le_mul (by omega) (by omega)
    omega
  have h3 := Nat.mul_le_mul_right K h2
  omega

/-- for an operation of the class the response items are, in closed form: one struct per selection set
    (named by the path rule), one field per selected field -/
theorem tree_items_shape (c : Ctx) (op : ROperation) (hop : op ∈ c.q.operations) (ht : TreeOp c op = true) :
    responseItems c op = .ok (structItems c "ResponseData" (c.cs.camel op.name) op.sels) := by
  simp only [TreeOp, Bool.and_eq_true, beq_iff_eq] at ht
  obtain ⟨⟨⟨hn, _⟩, hsels⟩, _⟩ := ht
  exact (calc_tree c hn _ _ _ hsels).responseItems_eq hop

end E2E
end C01
end GqlVerif
