import GqlVerif.Proofs.C01MixedG
/-!
# C01 end to end (`MixedOp`, `MixedOp2`): what `canonSelM` is, relative to the response (`SameContent`)

`mixed_lossless` / `mixed_roundtrip` (`C01MixedD`) state the result of the round trip as `normJson (canonSelM … j)`, a closed
form computed from the response `j` and the selection set.  This file relates that closed form to `j` itself by
`SameContent` (`C01VariantSpreadH`), a relation **defined independently of the generator, of serde and of the selection set**:
every entry of the output is an entry of the input under the same key (recursively `SameContent`), every key of the input is
in the output except `__typename` and — under skip-none — `null` members, an integer may come back as its decimal string, key
order is free, the output has no repeated key.

`mixed_content` needs no side condition: `mixedKeysOk` / `mixedRustOk` are not needed for the closed form, only for "the closed
form is the round trip" (`mixed_roundtrip_content`: **no selected data is lost, nothing is invented**, under the hypotheses of
`mixed_roundtrip`).  The same for `MixedOp2`, with the specification of the operation as written.  On `VariantSpreadOp` /
`FragmentOp` the statement is the one about `canonSelD` / `canonSelF` (`canonSelM_eq_D`, `canonSelM_eq_F`):
`variantspread_content` is an instance, and `fragment_roundtrip_content` follows.

Object positions: `sc_bodyM` (own entries `FieldsSCM`, the entries of each spread fragment by `scEntriesV` of `C01VariantSpreadH`; a lone
spread by `sc_objV_rt`); fields of scalar / enum / abstract type: `scFieldD` of `C01VariantSpreadH` (`canonFieldM_nonobj`).
Instances and the negative witness: `C01MixedContentW`.
-/

namespace GqlVerif
namespace C01M
open Serde Codegen C01 C01.E2E

/-! ## the entries of an object-level selection set -/

/-- what is proved of every field of an object-level selection set of the class -/
def FieldsSCM (s : Schema) (q : Query) (skip : Bool) (sels : List Sel) (kvs : List (String × Json)) : Prop :=
  ∀ a fid sub, Sel.field a fid sub ∈ sels → ∀ sf, s.fields[fid]? = some sf →
    ∃ v, Json.lookup (a.getD sf.name) kvs = some v ∧
      SameContent skip v (normJson (canonFieldM s q skip (.field a fid sub) v))

/-- every entry `canonEntriesM` writes is an entry of the response object: the own entries from `FieldsSCM`, the entries
    written at the position of a spread from the same fact about the fragment's body -/
theorem fromEntriesM {s : Schema} {q : Query} {skip : Bool} {kvs : List (String × Json)} (sels : List Sel)
    (H : FieldsSCM s q skip sels kvs)
    (HS : ∀ g, Sel.spread g ∈ sels → From skip kvs (canonEntriesV s skip (fragSels q g) kvs)) :
    From skip kvs (canonEntriesM s q skip sels kvs) := by
  rw [canonEntriesM_flat]
  refine From.flatMap (fun x hx => From.append (from_fieldEntry H x hx) ?_)
  intro k w hm
  obtain ⟨g, rfl, hm'⟩ := mem_spreadEntries.mp hm
  exact HS g hx k w hm'

/-- every selected own field's key is written, unless its value is a skipped `null` -/
theorem covEntriesM {s : Schema} {q : Query} {skip : Bool} {kvs : List (String × Json)} (sels : List Sel) (k : String)
    (hk : k ∈ fieldKeys s sels) (v : Json) (hl : Json.lookup k kvs = some v) :
    (skip = true ∧ v = .null) ∨ k ∈ (canonEntriesM s q skip sels kvs).map (·.1) := by
  rw [canonEntriesM_flat]; exact cov_fieldEntry (fun _ _ h => List.mem_append_left _ h) sels k hk v hl

/-- the entries of a spread fragment are among those `canonEntriesM` writes -/
theorem subEntriesM {s : Schema} {q : Query} {skip : Bool} {kvs : List (String × Json)} {sels : List Sel} {g : Nat}
    (hm : Sel.spread g ∈ sels) (kv : String × Json) (hkv : kv ∈ canonEntriesV s skip (fragSels q g) kvs) :
    kv ∈ canonEntriesM s q skip sels kvs := by
  rw [canonEntriesM_flat]
  exact List.mem_flatMap.mpr ⟨_, hm, List.mem_append_right _ (mem_spreadEntries.mpr ⟨g, rfl, hkv⟩)⟩

/-! ## an object-level selection set -/

section ContentM
variable (s : Schema) (q : Query) (o : Options) (skip : Bool)

/-- a spread in an object-level selection set of the class, on a conforming response object: the fragment, and its body
    conforms -/
theorem spread_partsM (i : Nat) (sels : List Sel) (ht : mSels s q o (.object i) sels = true)
    (kvs : List (String × Json)) (hconf : confSelsV s i (expandSels q sels) kvs = true) (g : Nat)
    (hm : Sel.spread g ∈ sels) :
    ∃ fr, q.fragments[g]? = some fr ∧ fr.on = .object i ∧ fragSels q g = fr.sels ∧ vSels s o false fr.sels = true ∧
      confSelsV s i fr.sels kvs = true := by
  have hx := mSels_mem ht _ hm
  have hokg : fragOk s q o (.object i) g = true := by simpa [mSel] using hx
  obtain ⟨fr, hfr, hon, _, hv, _⟩ := fragOk_parts hokg
  refine ⟨fr, hfr, hon, by simp [fragSels, hfr], hv, ?_⟩
  have := confSelsV_mem hconf _ (expandSels_mem q hm)
  simpa [expandSel, hfr, confSelV, hon, fragApplies] using this

/-- **the canonical form at an object position of `MixedOp` has the content of the response object**, given that of its own
    fields -/
theorem sc_bodyM (sels : List Sel)
    (IHe : ∀ p kvs, mSels s q o p sels = true → ConfAtS s q sels kvs → FieldsSCM s q skip sels kvs)
    (i : Nat) (j : Json) (ht : mBody s q o (.object i) sels = true)
    (hc : conformsV s i (expandSels q sels) j = true) :
    SameContent skip j (normJson (canonSelM s q skip sels j)) := by
  by_cases hsp : ∃ g, sels = [Sel.spread g]
  · -- a lone spread: the type alias of the fragment struct
    obtain ⟨g, rfl⟩ := hsp
    have hok : fragOk s q o (.object i) g = true := ht
    obtain ⟨fr, hfr, hon, _, hv, _⟩ := fragOk_parts hok
    have hsels : fragSels q g = fr.sels := by simp [fragSels, hfr]
    have hcm : canonSelM s q skip [Sel.spread g] j = canonSelV s skip fr.sels j := by
      rw [← hsels]; rfl
    rw [hcm]
    exact sc_objV_rt s skip fr.sels (no_inline_of_vSels hv) (fun kvs h => scFieldsV s o skip fr.sels false kvs hv h) i j
      (conformsV_lone s q i g fr hfr hon j hc)
  · have hnl : ∀ g, sels ≠ [Sel.spread g] := fun g hg => hsp ⟨g, hg⟩
    rw [mBody_not_lone hnl] at ht
    rw [canonSelM_not_lone hnl]
    obtain ⟨kvs, rfl, -, -⟩ := conformsV_obj hc
    simp only [conformsV, Bool.and_eq_true, List.all_eq_true] at hc
    obtain ⟨⟨_, hkeys⟩, hconf⟩ := hc
    apply sc_obj
    · -- every written entry is an entry of the response
      refine fromEntriesM sels (IHe _ kvs ht (confAtS_of_conf hconf)) ?_
      intro g hm
      obtain ⟨fr, _, _, hsels, hv, hcg⟩ := spread_partsM s q o i sels ht kvs hconf g hm
      rw [hsels]
      exact scEntriesV s o skip fr.sels false kvs hv (confAtV_of_conf hcg)
    · -- every entry of the response is written
      intro k v hl
      have hk : k ∈ keysSelsV s i (expandSels q sels) := by simpa using hkeys (k, v) (jlookup_mem hl)
      rcases mem_keysSelsV hk with h | h | ⟨t', isub', hmi, happi, hki⟩
      · exact .inl h
      · rw [fieldKeys_expandSels] at h
        rcases covEntriesM (q := q) (skip := skip) sels k h v hl with h' | h'
        · exact .inr (.inl h')
        · exact .inr (.inr h')
      · obtain ⟨x, hx, he⟩ := mem_expandSels q hmi
        cases x with
        | field a fid sub' => rw [expandSel] at he; cases he
        | typename => rw [expandSel] at he; cases he
        | inline t isub => have := mSels_mem ht _ hx; simp [mSel] at this
        | spread g =>
          obtain ⟨fr, hfr, _, hsels, hv, _⟩ := spread_partsM s q o i sels ht kvs hconf g hx
          rw [expandSel] at he
          simp only [hfr, Sel.inline.injEq] at he
          obtain ⟨rfl, rfl⟩ := he
          rcases mem_keysSelsV_obj (no_inline_of_vSels hv) hki with h | h
          · exact .inl h
          · rcases covEntriesV (skip := skip) fr.sels k h v hl with h' | h'
            · exact .inr (.inl h')
            · refine .inr (.inr ?_)
              obtain ⟨kv, hkv, hkk⟩ := List.mem_map.mp h'
              have := subEntriesM (s := s) (q := q) (skip := skip) (kvs := kvs) hx kv (by rw [hsels]; exact hkv)
              exact List.mem_map.mpr ⟨kv, this, hkk⟩

theorem scFieldsM_of (sels : List Sel)
    (H : ∀ x ∈ sels, ∀ (p : TypeId) (v : Json), mSel s q o p x = true →
      strictFieldV s (expandSel q x) v = true → SameContent skip v (normJson (canonFieldM s q skip x v)))
    (p : TypeId) (kvs : List (String × Json)) (ht : mSels s q o p sels = true) (hc : ConfAtS s q sels kvs) :
    FieldsSCM s q skip sels kvs := by
  intro a fid sub hm sf hsf
  obtain ⟨v, hl, hst⟩ := hc a fid sub hm sf hsf
  exact ⟨v, hl, H _ hm p v (mSels_mem ht _ hm) hst⟩

/-- the value of a field of the class: an object-typed field by `sc_bodyM` on its sub-selection, every other field is a
    field of `VariantSpreadOp` (`scFieldD` of `C01VariantSpreadH`) -/
theorem scFieldM : ∀ (x : Sel) (p : TypeId) (v : Json), mSel s q o p x = true →
    strictFieldV s (expandSel q x) v = true → SameContent skip v (normJson (canonFieldM s q skip x v)) := by
  intro x
  induction x using Sel.ind with
  | spread g =>
    intro _ _ _ h
    rw [expandSel] at h
    cases hf : q.fragments[g]? with
    | none => simp [hf, strictFieldV] at h
    | some f => simp [hf, strictFieldV] at h
  | inline _ _ _ => intro _ _ ht; simp [mSel] at ht
  | typename => intro _ _ _ h; simp [expandSel, strictFieldV] at h
  | field a fid sub IH =>
    intro p v ht hst
    have IHe := scFieldsM_of s q o skip sub IH
    obtain ⟨sf, hsf, hk⟩ := mSel_kinds ht
    rcases hk with ⟨i, hid, _, _, _, hbody⟩ | ⟨hno, hs⟩
    · simp only [expandSel, strictFieldV] at hst
      rw [canonFieldM]
      simp only [hsf, hid] at hst ⊢
      rw [canonLambdaM]
      refine (sc_canon (conformsAt s (.object i) (expandSels q sub)) (canonSelM s q skip sub) ?_ _).2 v hst
      intro j hj
      simp only [conformsAt, List.any_eq_true, List.mem_range, Bool.and_eq_true, fragApplies, beq_iff_eq] at hj
      obtain ⟨rt, _, hrt, hc⟩ := hj
      subst hrt
      exact sc_bodyM s q o skip sub (fun p' kvs h1 h2 => IHe p' kvs h1 h2) i j hbody hc
    · rw [canonFieldM_nonobj hsf hno]
      exact scFieldD s q o skip (.field a fid sub) false v hs hst

theorem scFieldsM : ∀ (sels : List Sel) (p : TypeId) (kvs : List (String × Json)),
    mSels s q o p sels = true → ConfAtS s q sels kvs → FieldsSCM s q skip sels kvs :=
  fun sels => scFieldsM_of s q o skip sels (fun x _ => scFieldM s q o skip x)

/-- the content theorem for an object-level selection set of the class (any `skip`) -/
theorem bodyM_content (sels : List Sel) (i : Nat) (j : Json) (ht : mBody s q o (.object i) sels = true)
    (hc : conformsV s i (expandSels q sels) j = true) :
    SameContent skip j (normJson (canonSelM s q skip sels j)) :=
  sc_bodyM s q o skip sels (fun p kvs h1 h2 => scFieldsM s q o skip sels p kvs h1 h2) i j ht hc

end ContentM

/-- **`mixed_content`.**  For an operation of the class `MixedOp` and a response `j` that conforms to it, the closed form
    `normJson (canonSelM … j)` of `mixed_lossless` / `mixed_roundtrip` has the content of `j` (`SameContent`: up to key order,
    integer `ID` → string, `__typename` dropped, `null` dropped under skip-none).  No side condition is needed here. -/
theorem mixed_content (c : Ctx) (op : ROperation) (ht : MixedOp c op = true) (j : Json)
    (hc : conformsOpM c op j = true) :
    SameContent c.o.skipNone j (normJson (canonSelM c.s c.q c.o.skipNone op.sels j)) :=
  bodyM_content c.s c.q c.o c.o.skipNone op.sels op.objectId j (mixedOp_parts ht).2.2 hc

/-- **`mixed_roundtrip_content`.**  The round trip of a conforming response through the emitted `ResponseData` returns a
    response with the same content: no selected data is lost, nothing is invented (hypotheses: those of
    `mixed_roundtrip`). -/
theorem mixed_roundtrip_content (c : Ctx) (opIdx : Nat) (op : ROperation) (items : List Item)
    (hop : c.q.operations[opIdx]? = some op) (ht : MixedOp c op = true) (hk : mixedKeysOk c op = true)
    (hr : mixedRustOk c op = true)
    (hgen : responseForQuery c opIdx = .ok items) (hok : moduleOk c items = true)
    (j : Json) (hc : conformsOpM c op j = true) :
    ∃ out, Serde.roundtrip (moduleEnv c items) (.path "ResponseData") j = .ok out ∧ SameContent c.o.skipNone j out :=
  ⟨_, mixed_roundtrip c opIdx op items hop ht hk hr hgen hok j hc, mixed_content c op ht j hc⟩

/-- **`mixed2_content`.**  The same for `MixedOp2` (aliased inline fragments `... on T { ...F }` at abstract positions): the
    closed form of `mixed2_roundtrip` (on the normalized selection set) has the content of every response that conforms to
    the operation **as written**. -/
theorem mixed2_content (c : Ctx) (op : ROperation) (ht : MixedOp2 c op = true) (j : Json)
    (hc : conformsOpM c op j = true) :
    SameContent c.o.skipNone j (normJson (canonSelM c.s c.q c.o.skipNone (normSels op.sels) j)) := by
  obtain ⟨hwf, _, _, _, ht'⟩ := mixedOp2_parts ht
  have hc' : conformsOpM c (normOp op) j = true := by rw [conformsOpM_norm hwf]; exact hc
  exact mixed_content c (normOp op) ht' j hc'

/-- **`mixed2_roundtrip_content`** (hypotheses: those of `mixed2_roundtrip`) -/
theorem mixed2_roundtrip_content (c : Ctx) (opIdx : Nat) (op : ROperation) (items : List Item)
    (hop : c.q.operations[opIdx]? = some op) (ht : MixedOp2 c op = true) (hk : mixedKeysOk c (normOp op) = true)
    (hr : mixedRustOk c (normOp op) = true)
    (hgen : responseForQuery c opIdx = .ok items) (hok : moduleOk c items = true)
    (j : Json) (hc : conformsOpM c op j = true) :
    ∃ out, Serde.roundtrip (moduleEnv c items) (.path "ResponseData") j = .ok out ∧ SameContent c.o.skipNone j out :=
  ⟨_, mixed2_roundtrip c opIdx op items hop ht hk hr hgen hok j hc, mixed2_content c op ht j hc⟩

/-! ## on `VariantSpreadOp` and on `FragmentOp` -/

/-- on `VariantSpreadOp` the statement is `variantspread_content` (`canonSelM_eq_D`) -/
theorem mixed_content_on_S (c : Ctx) (op : ROperation) (ht : VariantSpreadOp c op = true) (j : Json)
    (hc : conformsOpS c op j = true) :
    SameContent c.o.skipNone j (normJson (canonSelD c.s c.q c.o.skipNone op.sels j)) := by
  rw [← canonSelM_eq_D c op ht]
  exact mixed_content c op (mixedOp_of_variantSpreadOp c op ht) j hc

/-- on `FragmentOp` the statement is about `canonSelF` (`canonSelM_eq_F`): the content theorem for `fragment_roundtrip` -/
theorem mixed_content_on_F (c : Ctx) (op : ROperation) (ht : FragmentOp c op = true) (j : Json)
    (hc : conformsOpF c op j = true) :
    SameContent c.o.skipNone j (normJson (canonSelF c.s c.q c.o.skipNone op.sels j)) := by
  rw [← canonSelM_eq_F c op ht]
  exact mixed_content c op (mixedOp_of_fragmentOp c op ht) j hc

/-- … hence for the round trip of `FragmentOp` (hypotheses of `fragment_roundtrip`) -/
theorem fragment_roundtrip_content (c : Ctx) (opIdx : Nat) (op : ROperation) (items : List Item)
    (hop : c.q.operations[opIdx]? = some op) (ht : FragmentOp c op = true) (hk : fragKeysOk c op = true)
    (hr : fragRustOk c op = true)
    (hgen : responseForQuery c opIdx = .ok items) (hok : moduleOk c items = true)
    (j : Json) (hc : conformsOpF c op j = true) :
    ∃ out, Serde.roundtrip (moduleEnv c items) (.path "ResponseData") j = .ok out ∧ SameContent c.o.skipNone j out :=
  mixed_roundtrip_content c opIdx op items hop (mixedOp_of_fragmentOp c op ht) (mixedKeysOk_of_fragKeysOk c op hk)
    (mixedRustOk_of_fragRustOk c op ht hr) hgen hok j hc

end C01M
end GqlVerif
