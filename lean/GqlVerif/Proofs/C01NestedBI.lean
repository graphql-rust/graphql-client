import GqlVerif.Proofs.C01NestedBH
/-!
# `NestedBOp`: `nestedb_lossless`, `nestedb_roundtrip`

The rank recursion of `C01NestedI` (`centN`, `rustSideN`, `fragRTN`) is about fragments only and is used as it is.

* `nestedBSideOk` (decidable): `sideOkSelsA` at the operation's own levels, Rust names of the root struct, `rustSideN` of every
  spread fragment (object positions and positions of the new kind);
* **`nestedb_roundtrip`** —
  `Serde.roundtrip (moduleEnv c items) ResponseData j = .ok (normJson (canonSelA (centN c R) … j))` for every conforming `j`.
-/

namespace GqlVerif
namespace C01NB
open Serde Spec C13 C03 Codegen C01 C01.E2E C01M C01N C01NA C01NG C01NX

/-- Rust field names pairwise distinct in every struct at an object position of the operation and in the structs of the
    spread fragments, recursively; at an abstract position of the new kind (`sideOkSelA`): no fragment selected on a possible
    type reads a key consumed at the position (`posKeys`), the Rust names of the position's own struct and `on` pairwise
    distinct (`rustNamesB ++ ["on"]`), those of every variant struct pairwise distinct (`varSideOk`), `rustOkFragB` for every
    (b)-spread; `rustSideN` also for the fragments selected at those positions (`aSpreadss`) (decidable) -/
def nestedBSideOk (c : Ctx) (op : ROperation) : Bool :=
  sideOkSelsA (KNn c c.q.fragments.length) c op.sels && EnumSpec.nodup (rustNamesF c op.sels) &&
  (aSpreadss c.s c.q c.o op.sels).all (rustSideN c c.q.fragments.length)

/-- no key has two readers at the abstract positions with (b)-spreads of the operation (`bDisjOk`; decidable).  Not a hypothesis
    of `nestedb_roundtrip`: without it the equation still holds, `normJson` then merges the entries of the key read twice. -/
def nestedBDisjOk (c : Ctx) (op : ROperation) : Bool := disjOksA (KNn c c.q.fragments.length) c op.sels

/-- **losslessness at the top level** (generic environment) -/
theorem top_losslessA (e : Env) (c : Ctx) (op : ROperation) (ht : NestedBOp c op = true) (hnd : fragNamesOk c = true)
    (hk : nestedBKeysOk c op = true) (hr : nestedBSideOk c op = true) (he : TopEnvA e c op) (hS : SerdeFuel.EnvOKS e)
    (j : Json) (v : Val) (hc : conformsOpN c op j = true) (hd : Serde.de e (.path "ResponseData") j = .ok v) :
    Serde.ser e (.path "ResponseData") v =
      .ok (normJson (canonSelA (centN c c.q.fragments.length) c.s c.q c.o op.sels j)) := by
  obtain ⟨_, _, hsels⟩ := nestedBOp_parts ht
  simp only [nestedBKeysOk, Bool.and_eq_true, List.all_eq_true] at hk
  simp only [nestedBSideOk, Bool.and_eq_true, List.all_eq_true] at hr
  obtain ⟨⟨hko, hkeys⟩, hsub⟩ := hk
  obtain ⟨⟨hros, hrn⟩, hrsub⟩ := hr
  have hfa : ∀ p' g', fragOkN c.s c.q c.o c.q.fragments.length p' g' = true →
      (FragEnvN e c c.q.fragments.length g' ∧
        (fragSideN c c.q.fragments.length g' = true ∧ rustSideN c c.q.fragments.length g' = true)) →
      FragAcc e c (wholeN c c.q.fragments.length) (KNn c c.q.fragments.length) g' :=
    fun p' g' h1 h2 => fragAccN e c hnd _ p' g' h1 h2.1 h2.2.1
  have hfrt : ∀ p' g', fragOkN c.s c.q c.o c.q.fragments.length p' g' = true →
      (FragEnvN e c c.q.fragments.length g' ∧
        (fragSideN c c.q.fragments.length g' = true ∧ rustSideN c c.q.fragments.length g' = true)) →
      FragRT e c (exN c.q c.q.fragments.length) (centN c c.q.fragments.length) (KNn c c.q.fragments.length) g' :=
    fun p' g' h1 h2 => fragRTN e c hnd _ p' g' h1 h2.1 h2.2.1 h2.2.2 _ (Nat.le_refl _)
  exact Top.ser_norm_ok (spec := fun j => conformsOpN c op j = true) he.ok hS
    (bodyA_lossless e c _ (wholeN c c.q.fragments.length) (KNn c c.q.fragments.length) _
      (exN c.q c.q.fragments.length) (centN c c.q.fragments.length) (fragOkN_spec c.s c.q c.o _) hfa hfrt
      (fun g hg => exN_fragOkAny hg _) (c.cs.camel op.name) "ResponseData" op.objectId op.sels hsels
      (bodyEnvA_and (P := fun g' => fragSideN c c.q.fragments.length g' = true ∧
          rustSideN c c.q.fragments.length g' = true) he.root (fun g' hg' => ⟨hsub g' hg', hrsub g' hg'⟩))
      hko hkeys hros hrn) hc hd

/-- **`nestedb_lossless`.**  A conforming response that was read is written back as `normJson (canonSelA … j)`. -/
theorem nestedb_lossless (c : Ctx) (opIdx : Nat) (op : ROperation) (items : List Item)
    (hop : c.q.operations[opIdx]? = some op) (ht : NestedBOp c op = true) (hnd : fragNamesOk c = true)
    (hk : nestedBKeysOk c op = true) (hr : nestedBSideOk c op = true)
    (hgen : responseForQuery c opIdx = .ok items) (hok : moduleOk c items = true)
    (j : Json) (hc : conformsOpN c op j = true) (v : Val)
    (hd : Serde.de (moduleEnv c items) (.path "ResponseData") j = .ok v) :
    Serde.ser (moduleEnv c items) (.path "ResponseData") v =
      .ok (normJson (canonSelA (centN c c.q.fragments.length) c.s c.q c.o op.sels j)) :=
  top_losslessA (moduleEnv c items) c op ht hnd hk hr
    (topEnvA_of_module hop ht hgen hok) (nestedb_module_envOK hop ht hgen hok).2 j v hc hd

/-- **`nestedb_roundtrip`**: both in one statement -/
theorem nestedb_roundtrip (c : Ctx) (opIdx : Nat) (op : ROperation) (items : List Item)
    (hop : c.q.operations[opIdx]? = some op) (ht : NestedBOp c op = true) (hnd : fragNamesOk c = true)
    (hk : nestedBKeysOk c op = true) (htag : absTagOk c op = true) (hr : nestedBSideOk c op = true)
    (hgen : responseForQuery c opIdx = .ok items) (hok : moduleOk c items = true)
    (j : Json) (hc : conformsOpN c op j = true) :
    Serde.roundtrip (moduleEnv c items) (.path "ResponseData") j =
      .ok (normJson (canonSelA (centN c c.q.fragments.length) c.s c.q c.o op.sels j)) :=
  Top.roundtrip_of (nestedb_accepts c opIdx op items hop ht hnd hk htag hgen hok j hc)
    (nestedb_lossless c opIdx op items hop ht hnd hk hr hgen hok j hc)

end C01NB
end GqlVerif
