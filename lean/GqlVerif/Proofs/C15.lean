import GqlVerif.Model.EnvelopeSpec
/-! Options, lists, object members as the derive loop reads them (`field`), leaf types and numerals: what the round-trip
and acceptance theorems of `Props/C15.lean` are assembled from. -/
namespace GqlVerif
namespace Envelope
open Spec

/-! ## nulls and options -/

theorem isNull_iff (j : Json) : isNull j = true ↔ j = .null := by
  cases j <;> simp [isNull]

theorem isNull_false_of_ne {j : Json} (h : j ≠ .null) : isNull j = false := by
  cases j <;> simp_all [isNull]

theorem deOpt_null (f : Json → Option α) : deOpt f .null = some none := by
  simp [deOpt, isNull]

theorem deOpt_of_not_null (f : Json → Option α) {j : Json} (h : isNull j = false) :
    deOpt f j = (f j).map some := by
  simp [deOpt, h]

/-- `de ∘ ser` on an `Option` member, given the payload round trips and is never written as `null` -/
theorem deOpt_serOpt {f : Json → Option α} {g : α → Json} {p : α → Bool} (o : Option α)
    (hnn : ∀ a, isNull (g a) = false) (hrt : ∀ a, p a = true → f (g a) = some a)
    (hp : optAll p o = true) : deOpt f (serOpt g o) = some o := by
  cases o with
  | none => simp [serOpt, deOpt_null]
  | some a =>
    have := hrt a (by simpa [optAll] using hp)
    simp [serOpt, deOpt_of_not_null f (hnn a), this]

/-! ## lists -/

theorem mapOpt_map {f : Json → Option α} {g : α → Json} {p : α → Bool}
    (hrt : ∀ a, p a = true → f (g a) = some a) :
    ∀ (xs : List α), xs.all p = true → mapOpt f (xs.map g) = some xs
  | [], _ => by simp [mapOpt]
  | x :: xs, h => by
    have h' : p x = true ∧ xs.all p = true := by simpa [List.all_cons] using h
    simp [mapOpt, hrt x h'.1, mapOpt_map hrt xs h'.2]

/-! ## objects: occurrences, count, lookup -/

theorem countKey_eq_length (k : String) : ∀ kvs : JMap, countKey k kvs = (occurrences k kvs).length
  | [] => by simp [countKey, occurrences]
  | (k', v) :: rest => by
    have ih := countKey_eq_length k rest
    by_cases h : k' = k
    · simp [countKey, occurrences, h] at ih ⊢; omega
    · simp [countKey, occurrences, h] at ih ⊢; omega

theorem lookup_eq_head? (k : String) : ∀ kvs : JMap, Json.lookup k kvs = (occurrences k kvs).head?
  | [] => by simp [Json.lookup, occurrences]
  | (k', v) :: rest => by
    have ih := lookup_eq_head? k rest
    by_cases h : k' = k
    · simp [Json.lookup, occurrences, h]
    · simp [Json.lookup, occurrences, h] at ih ⊢; exact ih

/-- a key that occurs at most once is read by the derive loop exactly as `lookup` reads it -/
theorem field_of_count_le_one {k : String} {kvs : JMap} (h : countKey k kvs ≤ 1) :
    field k kvs = some (Json.lookup k kvs) := by
  rw [countKey_eq_length] at h
  rw [lookup_eq_head?]
  unfold field
  match hocc : occurrences k kvs with
  | [] => simp
  | [v] => simp
  | _ :: _ :: _ => simp [hocc] at h

/-- a key that occurs twice is a `duplicate field` error -/
theorem field_of_count_ge_two {k : String} {kvs : JMap} (h : 2 ≤ countKey k kvs) : field k kvs = none := by
  rw [countKey_eq_length] at h
  unfold field
  match hocc : occurrences k kvs with
  | [] => simp [hocc] at h
  | [v] => simp [hocc] at h
  | _ :: _ :: _ => rfl

/-! ## maps -/

theorem insert_append_new (k : String) (v : Json) :
    ∀ acc : JMap, hasKey k acc = false → Json.insert k v acc = acc ++ [(k, v)]
  | [], _ => by simp [Json.insert]
  | (k', v') :: rest, h => by
    have h' : ¬ k' = k ∧ hasKey k rest = false := by simpa [hasKey] using h
    simp [Json.insert, h'.1, insert_append_new k v rest h'.2]

theorem hasKey_append (k : String) : ∀ (a b : JMap), hasKey k (a ++ b) = (hasKey k a || hasKey k b)
  | [], b => by simp [hasKey]
  | (k', _) :: rest, b => by simp [hasKey, hasKey_append k rest b, Bool.or_assoc]

theorem foldl_insert_distinct :
    ∀ (kvs acc : JMap), distinctKeys kvs = true → (∀ kv ∈ kvs, hasKey kv.1 acc = false) →
      kvs.foldl (fun acc (kv : String × Json) => Json.insert kv.1 kv.2 acc) acc = acc ++ kvs
  | [], acc, _, _ => by simp
  | (k, v) :: rest, acc, hd, hacc => by
    have hd' : hasKey k rest = false ∧ distinctKeys rest = true := by simpa [distinctKeys] using hd
    have hk : hasKey k acc = false := hacc (k, v) (by simp)
    simp only [List.foldl_cons]
    rw [insert_append_new k v acc hk]
    rw [foldl_insert_distinct rest (acc ++ [(k, v)]) hd'.2]
    · simp
    · intro kv hkv
      rw [hasKey_append]
      have h1 := hacc kv (by simp [hkv])
      have h2 : hasKey kv.1 [(k, v)] = false := by
        have : ¬ k = kv.1 := by
          intro heq
          have : hasKey k rest = true := by
            subst heq
            clear hd hd' hacc hk h1
            induction rest with
            | nil => simp at hkv
            | cons hd tl ih =>
              rcases List.mem_cons.mp hkv with h | h
              · subst h; simp [hasKey]
              · simp [hasKey, ih h]
          simp [this] at hd'
        simp [hasKey, this]
      simp [h1, h2]

/-- an object with distinct member names is kept as it is by the map deserialiser -/
theorem normObj_of_distinct (kvs : JMap) (h : distinctKeys kvs = true) : Json.normObj kvs = kvs := by
  have := foldl_insert_distinct kvs [] h (by intro kv _; simp [hasKey])
  simpa [Json.normObj] using this

theorem deMap_obj (m : JMap) (h : distinctKeys m = true) : deMap (.obj m) = some m := by
  simp [deMap, normObj_of_distinct m h]

/-! ## round trips of the leaf types -/

theorem deI32_int {n : Int} (h : inI32 n = true) : deI32 (.int n) = some n := by
  simp [deI32, h]

theorem deLocation_ser (l : Location) (h : l.wf = true) : deLocation (serLocation l) = some l := by
  have h' : inI32 l.line = true ∧ inI32 l.column = true := by simpa [Location.wf] using h
  simp [serLocation, deLocation, reqMember, field, occurrences, deI32_int h'.1, deI32_int h'.2]

theorem dePathFragment_ser (f : PathFragment) (h : f.wf = true) :
    dePathFragment (serPathFragment f) = some f := by
  cases f with
  | key s => simp [serPathFragment, dePathFragment, deString]
  | index n =>
    have h' : inI32 n = true := by simpa [PathFragment.wf] using h
    simp [serPathFragment, dePathFragment, deString, deI32_int h']

theorem deError_ser (e : Error) (h : e.wf = true) : deError (serError e) = some e := by
  obtain ⟨msg, locs, path, ext⟩ := e
  have h' : optAll (fun ls => ls.all Location.wf) locs = true ∧
      optAll (fun fs => fs.all PathFragment.wf) path = true ∧ optAll distinctKeys ext = true := by
    simpa [Error.wf, and_assoc] using h
  have hl : deOpt (deVec deLocation) (serOpt (fun ls => Json.arr (ls.map serLocation)) locs) = some locs :=
    deOpt_serOpt (p := fun ls => ls.all Location.wf) locs (fun _ => rfl)
      (fun ls hls => by simpa [deVec] using mapOpt_map deLocation_ser ls hls) h'.1
  have hp : deOpt (deVec dePathFragment) (serOpt (fun fs => Json.arr (fs.map serPathFragment)) path) = some path :=
    deOpt_serOpt (p := fun fs => fs.all PathFragment.wf) path (fun _ => rfl)
      (fun fs hfs => by simpa [deVec] using mapOpt_map dePathFragment_ser fs hfs) h'.2.1
  have hx : deOpt deMap (serOpt Json.obj ext) = some ext :=
    deOpt_serOpt (p := distinctKeys) ext (fun _ => rfl) deMap_obj h'.2.2
  simp [serError, deError, reqMember, optMember, field, occurrences, deOptField, deString, hl, hp, hx]

theorem deResponse_ser {δ : Type} (deData : Json → Option δ) (serData : δ → Json) (wfData : δ → Bool)
    (hnn : ∀ d, isNull (serData d) = false) (hrt : ∀ d, wfData d = true → deData (serData d) = some d)
    (r : Response δ) (h : r.wf wfData = true) :
    deResponse deData (serResponse serData r) = some r := by
  obtain ⟨data, errs, ext⟩ := r
  have h' : optAll wfData data = true ∧ optAll (fun es => es.all Error.wf) errs = true ∧
      optAll distinctKeys ext = true := by
    simpa [Response.wf, and_assoc] using h
  have hd : deOpt deData (serOpt serData data) = some data := deOpt_serOpt data hnn hrt h'.1
  have he : deOpt (deVec deError) (serOpt (fun es => Json.arr (es.map serError)) errs) = some errs :=
    deOpt_serOpt (p := fun es => es.all Error.wf) errs (fun _ => rfl)
      (fun es hes => by simpa [deVec] using mapOpt_map deError_ser es hes) h'.2.1
  have hx : deOpt deMap (serOpt Json.obj ext) = some ext :=
    deOpt_serOpt (p := distinctKeys) ext (fun _ => rfl) deMap_obj h'.2.2
  simp [serResponse, deResponse, optMember, field, occurrences, deOptField, hd, he, hx]

/-! ## acceptance of the grammar -/

theorem mapOpt_pres {f : Json → Option α} {p : Json → Bool} {R : α → Json → Prop} :
    ∀ (js : List Json), (∀ v ∈ js, p v = true → ∃ a, f v = some a ∧ R a v) → js.all p = true →
      ∃ as, mapOpt f js = some as ∧ ListPres R as js
  | [], _, _ => ⟨[], by simp [mapOpt], by simp [ListPres]⟩
  | j :: js, hp, h => by
    have h' : p j = true ∧ js.all p = true := by simpa [List.all_cons] using h
    obtain ⟨a, ha, hR⟩ := hp j (by simp) h'.1
    obtain ⟨as, has, hRs⟩ := mapOpt_pres js (fun v hv => hp v (by simp [hv])) h'.2
    exact ⟨a :: as, by simp [mapOpt, ha, has], by simp [ListPres, hR, hRs]⟩

theorem deVec_pres {f : Json → Option α} {p : Json → Bool} {R : α → Json → Prop}
    (hp : ∀ v, p v = true → ∃ a, f v = some a ∧ R a v) (j : Json) (h : specListOf p j = true) :
    ∃ as, deVec f j = some as ∧ ArrPres R as j := by
  cases j with
  | arr js =>
    obtain ⟨as, has, hR⟩ := mapOpt_pres (R := R) js (fun v _ => hp v) (by simpa [specListOf] using h)
    exact ⟨as, by simpa [deVec] using has, js, rfl, hR⟩
  | _ => simp [specListOf] at h

theorem optMember_pres {f : Json → Option α} {p : Json → Bool} {R : α → Json → Prop}
    (hp : ∀ v, p v = true → ∃ a, f v = some a ∧ R a v) (k : String) (kvs : JMap)
    (h : optMemberOk k p kvs = true) :
    ∃ o, optMember f k kvs = some o ∧ OptPres R o (Json.lookup k kvs) := by
  unfold optMemberOk at h
  have hc : countKey k kvs ≤ 1 := by
    have := (Bool.and_eq_true _ _).mp h |>.1
    simpa using this
  have hm := (Bool.and_eq_true _ _).mp h |>.2
  unfold optMember
  rw [field_of_count_le_one hc]
  cases hl : Json.lookup k kvs with
  | none => exact ⟨none, by simp [deOptField], by simp [OptPres]⟩
  | some v =>
    rw [hl] at hm
    by_cases hn : isNull v = true
    · have : v = .null := (isNull_iff v).mp hn
      subst this
      exact ⟨none, by simp [deOptField, deOpt_null], by simp [OptPres]⟩
    · have hn' : isNull v = false := by simpa using hn
      have hpv : p v = true := by simpa [hn'] using hm
      obtain ⟨a, ha, hR⟩ := hp v hpv
      refine ⟨some a, by simp [deOptField, deOpt_of_not_null f hn', ha], ?_⟩
      have : v ≠ .null := fun e => by simp [e, isNull] at hn'
      simp [OptPres, this, hR]

theorem reqMember_pres {f : Json → Option α} {p : Json → Bool}
    (k : String) (kvs : JMap) (h : reqMemberOk k p kvs = true) :
    ∃ v, Json.lookup k kvs = some v ∧ p v = true ∧ reqMember f k kvs = f v := by
  unfold reqMemberOk at h
  have hc : countKey k kvs = 1 := by
    have := (Bool.and_eq_true _ _).mp h |>.1
    simpa using this
  have hm := (Bool.and_eq_true _ _).mp h |>.2
  unfold reqMember
  rw [field_of_count_le_one (by omega)]
  cases hl : Json.lookup k kvs with
  | none => simp [hl] at hm
  | some v => exact ⟨v, rfl, by simpa [hl] using hm, rfl⟩

theorem specInt_de {v : Json} (h : specInt v = true) : ∃ n, v = .int n ∧ deI32 v = some n := by
  cases v with
  | int n => exact ⟨n, rfl, by simpa [specInt, deI32] using h⟩
  | _ => simp [specInt] at h

theorem specString_de {v : Json} (h : specString v = true) : ∃ s, v = .str s ∧ deString v = some s := by
  cases v with
  | str s => exact ⟨s, rfl, rfl⟩
  | _ => simp [specString] at h

theorem specLocation_pres (j : Json) (h : specLocation j = true) :
    ∃ l, deLocation j = some l ∧ LocPres l j := by
  cases j with
  | obj kvs =>
    have h' : reqMemberOk "line" specInt kvs = true ∧ reqMemberOk "column" specInt kvs = true := by
      simpa [specLocation] using h
    obtain ⟨vl, hll, hpl, hrl⟩ := reqMember_pres (f := deI32) "line" kvs h'.1
    obtain ⟨vc, hlc, hpc, hrc⟩ := reqMember_pres (f := deI32) "column" kvs h'.2
    obtain ⟨l, rfl, hdl⟩ := specInt_de hpl
    obtain ⟨c, rfl, hdc⟩ := specInt_de hpc
    exact ⟨⟨l, c⟩, by simp [deLocation, hrl, hrc, hdl, hdc], by simp [LocPres, member, hll, hlc]⟩
  | _ => simp [specLocation] at h

theorem specPathEntry_pres (j : Json) (h : specPathEntry j = true) :
    ∃ f, dePathFragment j = some f ∧ FragPres f j := by
  cases j with
  | str s => exact ⟨.key s, by simp [dePathFragment, deString], by simp [FragPres]⟩
  | int n =>
    have : inI32 n = true := by simpa [specPathEntry, specString, specInt] using h
    exact ⟨.index n, by simp [dePathFragment, deString, deI32, this], by simp [FragPres]⟩
  | _ => simp [specPathEntry, specString, specInt] at h

theorem specObject_pres (j : Json) (h : specObject j = true) : ∃ m, deMap j = some m ∧ MapPres m j := by
  cases j with
  | obj m => exact ⟨m, deMap_obj m (by simpa [specObject] using h), rfl⟩
  | _ => simp [specObject] at h

theorem specError_pres (j : Json) (h : specError j = true) : ∃ e, deError j = some e ∧ ErrorPres e j := by
  cases j with
  | obj kvs =>
    have h' : reqMemberOk "message" specString kvs = true ∧
        optMemberOk "locations" (specListOf specLocation) kvs = true ∧
        optMemberOk "path" (specListOf specPathEntry) kvs = true ∧
        optMemberOk "extensions" specObject kvs = true := by
      simpa [specError, and_assoc] using h
    obtain ⟨vm, hlm, hpm, hrm⟩ := reqMember_pres (f := deString) "message" kvs h'.1
    obtain ⟨msg, rfl, hdm⟩ := specString_de hpm
    obtain ⟨l, hl, hRl⟩ := optMember_pres (f := deVec deLocation) (R := ArrPres LocPres)
      (deVec_pres specLocation_pres) "locations" kvs h'.2.1
    obtain ⟨p, hp, hRp⟩ := optMember_pres (f := deVec dePathFragment) (R := ArrPres FragPres)
      (deVec_pres specPathEntry_pres) "path" kvs h'.2.2.1
    obtain ⟨x, hx, hRx⟩ := optMember_pres (f := deMap) (R := MapPres) specObject_pres "extensions" kvs h'.2.2.2
    exact ⟨⟨msg, l, p, x⟩, by simp [deError, hrm, hdm, hl, hp, hx], by
      simp only [ErrorPres, member]; exact ⟨hlm, hRl, hRp, hRx⟩⟩
  | _ => simp [specError] at h

theorem specBody_pres (j : Json) (h : specBody j = true) :
    ∃ r, deResponseObj j = some r ∧ ResponsePres r j := by
  cases j with
  | obj kvs =>
    have h' : optMemberOk "data" specObject kvs = true ∧
        optMemberOk "errors" (specListOf specError) kvs = true ∧
        optMemberOk "extensions" specObject kvs = true := by
      simpa [specBody, and_assoc] using h
    obtain ⟨d, hd, hRd⟩ := optMember_pres (f := deMap) (R := MapPres) specObject_pres "data" kvs h'.1
    obtain ⟨e, he, hRe⟩ := optMember_pres (f := deVec deError) (R := ArrPres ErrorPres)
      (deVec_pres specError_pres) "errors" kvs h'.2.1
    obtain ⟨x, hx, hRx⟩ := optMember_pres (f := deMap) (R := MapPres) specObject_pres "extensions" kvs h'.2.2
    exact ⟨⟨d, e, x⟩, by simp [deResponseObj, deResponse, hd, he, hx], by
      simp only [ResponsePres, member]; exact ⟨hRd, hRe, hRx⟩⟩
  | _ => simp [specBody] at h

/-! ## decimal numerals -/

theorem digitChar_eq (d : Nat) (h : d < 10) : digitChar d = Nat.digitChar d := by
  match d, h with
  | 0, _ | 1, _ | 2, _ | 3, _ | 4, _ | 5, _ | 6, _ | 7, _ | 8, _ | 9, _ => rfl

theorem natDigits_eq_toDigits (n : Nat) : natDigits n = Nat.toDigits 10 n := by
  induction n using Nat.strongRecOn with
  | _ n ih =>
    rw [natDigits]
    by_cases h : n < 10
    · simp [h, Nat.toDigits_of_lt_base h, digitChar_eq n h]
    · have hq : 0 < n / 10 := by omega
      have hr : n % 10 < 10 := by omega
      have := Nat.toDigits_append_toDigits (b := 10) (n := n / 10) (d := n % 10) (by omega) hq hr
      rw [Nat.toDigits_of_lt_base hr] at this
      have hn : 10 * (n / 10) + n % 10 = n := by omega
      rw [hn] at this
      simp [h, ih (n / 10) (by omega), digitChar_eq _ hr, this]

theorem decimal_eq_toString (n : Int) : decimal n = toString n := by
  cases n with
  | ofNat n => simp [decimal, natDigits_eq_toDigits, toString, Int.repr, Nat.repr]
  | negSucc n => simp [decimal, natDigits_eq_toDigits, toString, Int.repr, Nat.repr]

theorem digitValue_digitChar (d : Nat) (h : d < 10) : (digitChar d).toNat - 48 = d := by
  match d, h with
  | 0, _ | 1, _ | 2, _ | 3, _ | 4, _ | 5, _ | 6, _ | 7, _ | 8, _ | 9, _ => rfl

theorem digitsValue_natDigits (n : Nat) : digitsValue (natDigits n) = n := by
  induction n using Nat.strongRecOn with
  | _ n ih =>
    rw [natDigits]
    by_cases h : n < 10
    · simp [h, digitsValue, digitValue_digitChar n h]
    · have hr : n % 10 < 10 := by omega
      have := ih (n / 10) (by omega)
      simp only [digitsValue] at this
      simp only [h, if_false, digitsValue, List.foldl_append, List.foldl_cons, List.foldl_nil, this,
        digitValue_digitChar _ hr]
      omega

/-! ## join -/

theorem joinWith_eq_intercalate (sep : String) : ∀ xs : List String, joinWith sep xs = String.intercalate sep xs
  | [] => by rw [joinWith, String.intercalate_nil]
  | [x] => by rw [joinWith, String.intercalate_singleton]
  | x :: y :: rest => by
    rw [joinWith, String.intercalate_cons_cons, joinWith_eq_intercalate sep (y :: rest)]

end Envelope
end GqlVerif
