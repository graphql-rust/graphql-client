import GqlVerif.Proofs.AcyclicModulesDec
import GqlVerif.Proofs.C12Items
/-!
# the four end-to-end classes need no acyclicity hypothesis

For an operation of `TreeOp`, `VariantOp`, `FragmentOp` or `RecFragmentOp` every fragment REACHABLE from the operation
has no spread at the top level of its body (`TreeOp` / `VariantOp`: no fragment is reachable; `FragmentOp`: bodies are
spread-free; `RecFragmentOp`: `fragBodyOk` — spreads only below fields).  Hence `ReachRanked c.q op.sels (fun _ => 0)`
and, by `module_acyclic_of_reachRanked`, the emitted module is `Acyclic`, `EnvOK`, `EnvOKS`; `Serde.de` never returns the
fuel error on it and does not depend on the fuel — with NO per-module check (`acyclicCheck`) and no hypothesis on the
unused fragments of the document.
-/
namespace GqlVerif
namespace AcyclicM
open Codegen Serde SerdeFuel C01.E2E

/-- spreads reachable from `sels` stay inside a set that contains the spreads of `sels` and is closed under the spreads
    of the bodies of its members -/
theorem reach_in_closed (q : Query) (G : Nat → Prop) (hcl : ∀ g, G g → ∀ h ∈ spreadIdss (fragSels q g), G h) :
    ∀ {sels : List Sel} {x : Sel}, C02.Reach q sels x → (∀ h ∈ spreadIdss sels, G h) → ∀ g ∈ spreadIds x, G g := by
  intro sels x hr
  induction hr with
  | here hm => exact fun h g hg => h g (spreadIds_sub_of_mem hm g hg)
  | field hm _ ih =>
    exact fun h => ih (fun g hg => h g (spreadIds_sub_of_mem hm g (by rw [spreadIds]; exact hg)))
  | inline hm _ ih =>
    exact fun h => ih (fun g hg => h g (spreadIds_sub_of_mem hm g (by rw [spreadIds]; exact hg)))
  | spread hm hf _ ih =>
    rename_i g' f x' hr'
    intro h
    have hg' : G g' := h g' (spreadIds_sub_of_mem hm g' (by simp [spreadIds]))
    refine ih (fun g hg => hcl g' hg' g ?_)
    unfold fragSels; rw [hf]; exact hg

theorem reach_spread_in_closed (q : Query) (G : Nat → Prop) (hcl : ∀ g, G g → ∀ h ∈ spreadIdss (fragSels q g), G h)
    {sels : List Sel} (h0 : ∀ h ∈ spreadIdss sels, G h) {g : Nat} (hr : C02.Reach q sels (.spread g)) : G g :=
  reach_in_closed q G hcl hr h0 g (by simp [spreadIds])

/-- reachable fragments without a top-level spread: the constant rank works -/
theorem reachRanked_of_no_top_spread {q : Query} {sels : List Sel}
    (h : ∀ g, C02.Reach q sels (.spread g) → ∀ f, q.fragments[g]? = some f → ∀ x, Sel.spread x ∉ f.sels) :
    ReachRanked q sels (fun _ => 0) := by
  intro g hg f hf x hx
  exact absurd (mem_topSpreads.mp (jumpSpreads_sub_top q f x hx)) (h g hg f hf x)

theorem no_spread_of_noSpreads {sels : List Sel} (h : noSpreads sels = true) (x : Nat) : Sel.spread x ∉ sels := by
  intro hm
  have := noSpreads_mem h _ hm
  simp [noSpread] at this

/-! ## the classes -/

theorem fragmentOp_reachRanked {c : Ctx} {op : ROperation} (h : FragmentOp c op = true) :
    ReachRanked c.q op.sels (fun _ => 0) := by
  obtain ⟨_, _, hb⟩ := fragmentOp_parts h
  refine reachRanked_of_no_top_spread (fun g hg f hf x => ?_)
  -- every reachable fragment is `fragOk` for some parent
  have hG : ∃ i, fragOk c.s c.q c.o (.object i) g = true := by
    refine reach_spread_in_closed c.q (fun g => ∃ i, fragOk c.s c.q c.o (.object i) g = true) ?_ ?_ hg
    · rintro g' ⟨i, hok⟩ x hx
      obtain ⟨f', hf', _, _, hv, _⟩ := fragOk_parts hok
      have := spreadIdss_noSpreads _ (noSpreads_of_vSels c.s c.o f'.sels false hv)
      have e : fragSels c.q g' = f'.sels := by unfold fragSels; rw [hf']
      rw [e, this] at hx
      cases hx
    · intro x hx
      unfold fBody at hb
      split at hb
      · rename_i g' heq
        rw [heq] at hx
        simp only [spreadIdss, spreadIds, List.append_nil, List.mem_singleton] at hx
        subst hx
        exact ⟨_, hb⟩
      · exact fragOk_of_spreadIdss c.s c.q c.o op.sels _ hb x hx
  obtain ⟨i, hok⟩ := hG
  obtain ⟨f', hf', _, _, hv, _⟩ := fragOk_parts hok
  rw [hf] at hf'; cases hf'
  exact no_spread_of_noSpreads (noSpreads_of_vSels c.s c.o f.sels false hv) x

theorem variantOp_reachRanked {c : Ctx} {op : ROperation} (h : VariantOp c op = true) :
    ReachRanked c.q op.sels (fun _ => 0) :=
  fragmentOp_reachRanked (fragmentOp_of_variantOp c op h)

theorem treeOp_reachRanked {c : Ctx} {op : ROperation} (h : TreeOp c op = true) :
    ReachRanked c.q op.sels (fun _ => 0) :=
  variantOp_reachRanked (variantOp_of_treeOp c op h)

theorem recFragmentOp_reachRanked {c : Ctx} {op : ROperation} (h : RecFragmentOp c op = true) :
    ReachRanked c.q op.sels (fun _ => 0) := by
  obtain ⟨_, _, _, hcl, hall⟩ := recFragmentOp_parts h
  obtain ⟨h0, hcl'⟩ := closedFrags_parts hcl
  refine reachRanked_of_no_top_spread (fun g hg f hf x hx => ?_)
  have hG : g ∈ usedFrags c.q op.sels := reach_spread_in_closed c.q (· ∈ usedFrags c.q op.sels) hcl' h0 hg
  obtain ⟨f', _, hf', _, _, hns, _⟩ := fragBodyOk_parts (hall g hG)
  rw [hf] at hf'; cases hf'
  have : f.sels.any isSpread = true := List.any_eq_true.mpr ⟨_, hx, rfl⟩
  rw [hns] at this; cases this

/-- the four end-to-end classes -/
def InClass (c : Ctx) (op : ROperation) : Prop :=
  TreeOp c op = true ∨ VariantOp c op = true ∨ FragmentOp c op = true ∨ RecFragmentOp c op = true

instance (c : Ctx) (op : ROperation) : Decidable (InClass c op) := by unfold InClass; infer_instance

theorem inClass_reachRanked {c : Ctx} {op : ROperation} (h : InClass c op) : ReachRanked c.q op.sels (fun _ => 0) := by
  rcases h with h | h | h | h
  · exact treeOp_reachRanked h
  · exact variantOp_reachRanked h
  · exact fragmentOp_reachRanked h
  · exact recFragmentOp_reachRanked h

/-- **the emitted module of an operation of any of the four classes is `Acyclic`**: no acyclicity hypothesis, no
    per-module check -/
theorem class_module_acyclic {c : Ctx} {opIdx : Nat} {op : ROperation} {items : List Item}
    (hop : c.q.operations[opIdx]? = some op) (hc : InClass c op)
    (hgen : responseForQuery c opIdx = .ok items) (hok : moduleOk c items = true) :
    ∃ d, Acyclic (moduleEnv c items) d :=
  module_acyclic_of_reachRanked hgen hok hop (inClass_reachRanked hc)

/-- the reach-restricted form, for operations outside the classes (e.g. same-level spread chains `F → G → H`);
    `module_envOK` has the decidable document-level hypothesis `SpreadAcyclic` instead -/
theorem module_envOK_of_reachRanked {c : Ctx} {opIdx : Nat} {op : ROperation} {items : List Item} {r : Nat → Nat}
    (hop : c.q.operations[opIdx]? = some op) (hr : ReachRanked c.q op.sels r)
    (hgen : responseForQuery c opIdx = .ok items) (hok : moduleOk c items = true) :
    EnvOK (moduleEnv c items) ∧ EnvOKS (moduleEnv c items) := by
  obtain ⟨d, hd⟩ := module_acyclic_of_reachRanked hgen hok hop hr
  exact module_envOK_of_acyclic hgen hd

theorem class_module_envOK {c : Ctx} {opIdx : Nat} {op : ROperation} {items : List Item}
    (hop : c.q.operations[opIdx]? = some op) (hc : InClass c op)
    (hgen : responseForQuery c opIdx = .ok items) (hok : moduleOk c items = true) :
    EnvOK (moduleEnv c items) ∧ EnvOKS (moduleEnv c items) :=
  module_envOK_of_reachRanked hop (inClass_reachRanked hc) hgen hok

/-- `de` on the module of an operation of the classes is never the fuel error -/
theorem class_de_never_out_of_fuel {c : Ctx} {opIdx : Nat} {op : ROperation} {items : List Item}
    (hop : c.q.operations[opIdx]? = some op) (hc : InClass c op)
    (hgen : responseForQuery c opIdx = .ok items) (hok : moduleOk c items = true) (t : RTy) (j : Json) :
    de (moduleEnv c items) t j ≠ .error (.unmodelled "fuel") :=
  de_never_out_of_fuel (class_module_envOK hop hc hgen hok).1 t j

/-- … and is fuel independent -/
theorem class_de_fuel_indep {c : Ctx} {opIdx : Nat} {op : ROperation} {items : List Item}
    (hop : c.q.operations[opIdx]? = some op) (hc : InClass c op)
    (hgen : responseForQuery c opIdx = .ok items) (hok : moduleOk c items = true) (t : RTy) (j : Json) (fuel : Nat)
    (hf : deFuel (moduleEnv c items) j ≤ fuel) :
    deTy (moduleEnv c items) false fuel t j = de (moduleEnv c items) t j :=
  de_fuel_indep (class_module_envOK hop hc hgen hok).1 t j fuel hf

theorem class_roundtrip_never_out_of_fuel {c : Ctx} {opIdx : Nat} {op : ROperation} {items : List Item}
    (hop : c.q.operations[opIdx]? = some op) (hc : InClass c op)
    (hgen : responseForQuery c opIdx = .ok items) (hok : moduleOk c items = true) (t : RTy) (j : Json) :
    roundtrip (moduleEnv c items) t j ≠ .error (.unmodelled "fuel") :=
  roundtrip_never_out_of_fuel (class_module_envOK hop hc hgen hok).1 (class_module_envOK hop hc hgen hok).2 t j

/-! ## non-vacuity -/

/-- the recursive-fragment document `C12I.cT` of `C12Items` (`fragment Tree on Node { id child { ...Tree } }`,
    `fragment Wrap on Node { kind ...Tree }` — a genuine same-level spread `Wrap → Tree` —, `fragment Leaf`): it is
    `SameLevelAcyclic` (decided by evaluation), its module is emitted and passes `moduleOk`, so it is `Acyclic`, and `de`
    never runs out of fuel on it — although `Wrap` (a spread at the top level of a fragment body) puts the operation
    outside the four classes -/
example : SameLevelAcyclic C12I.cT.q := by decide

example : ¬ SameLevelRanked C12I.cT.q (fun _ => 0) := by
  intro h
  exact Nat.lt_irrefl 0 (h 1 _ rfl 0 (by decide))

example : ∃ items, responseForQuery C12I.cT 0 = .ok items ∧ moduleOk C12I.cT items = true ∧
    (∃ d, Acyclic (moduleEnv C12I.cT items) d) ∧
    ∀ t j, de (moduleEnv C12I.cT items) t j ≠ .error (.unmodelled "fuel") := by
  cases hgen : responseForQuery C12I.cT 0 with
  | error e =>
    have : (responseForQuery C12I.cT 0).toOption.isSome = true := by decide +kernel
    rw [hgen] at this; cases this
  | ok items =>
    have hok : moduleOk C12I.cT items = true := by
      have : (match responseForQuery C12I.cT 0 with
        | .ok items => moduleOk C12I.cT items
        | .error _ => false) = true := by decide +kernel
      rw [hgen] at this; exact this
    have ha : SameLevelAcyclic C12I.cT.q := by decide
    exact ⟨items, rfl, hok, module_acyclic hgen hok ha,
      module_de_never_out_of_fuel hgen hok ha.spreadAcyclic⟩

/-- **for every `n`** the same-level chain `F1 → F2 → … → Fn` (`Fn` spreads `F1` below a field) of `gCtx n`
    (`SerdeFuelWitness`) is ranked by `i ↦ n - i` (`SerdeFuelWitness` evaluates `acyclicCheck` at `n = 16` only) -/
theorem gCtx_sameLevelRanked (n : Nat) : SameLevelRanked (gCtx n).q (fun i => n - i) := by
  intro g f hf x hx
  simp only [gCtx, gFrags] at hf
  rw [List.getElem?_append] at hf
  split at hf
  · rename_i hlt
    simp only [List.length_map, List.length_range] at hlt
    rw [List.getElem?_map, List.getElem?_range hlt] at hf
    simp only [Option.map_some, Option.some.injEq] at hf
    subst hf
    simp only [sameLevel, List.mem_singleton] at hx
    subst hx
    show n - (g + 1) < n - g
    omega
  · rename_i hge
    simp only [List.length_map, List.length_range] at hge hf
    cases hk : g - (n - 1) with
    | zero =>
      rw [hk] at hf
      simp only [List.getElem?_cons_zero, Option.some.injEq] at hf
      subst hf
      simp [sameLevel] at hx
    | succ k => rw [hk] at hf; simp at hf

/-- hence, for every `n`, whatever module the generator emits for `gCtx n` is `Acyclic` and `de` never runs out of fuel
    on it (the operation is in none of the four classes: `F1` has a spread at the top level of its body) -/
theorem gCtx_module_ok (n : Nat) (items : List Item) (hgen : responseForQuery (gCtx n) 0 = .ok items)
    (hok : moduleOk (gCtx n) items = true) :
    (∃ d, Acyclic (moduleEnv (gCtx n) items) d) ∧
    ∀ t j, de (moduleEnv (gCtx n) items) t j ≠ .error (.unmodelled "fuel") :=
  ⟨module_acyclic hgen hok ⟨_, gCtx_sameLevelRanked n⟩,
   module_de_never_out_of_fuel hgen hok (SameLevelAcyclic.spreadAcyclic ⟨_, gCtx_sameLevelRanked n⟩)⟩

example : ¬ InClass (gCtx 16) gOp := by decide +kernel

/-- `fragment F on Human { height ...G }  fragment G on Query { me { height } ...F }  query Q { me { ...F } }`: the two
    fragments spread each other at the same level, but on DIFFERENT type conditions — `calcFields` drops both members -/
def mixCtx : Ctx :=
  { s := gSchema,
    q := { operations := [gOp],
           fragments := [{ name := "F", on := .object 1, sels := [.field none 2 [], .spread 1] },
                         { name := "G", on := .object 0, sels := [.field none 0 [.field none 2 []], .spread 0] }] },
    o := {}, cs := ⟨id, id⟩ }

/-- **`SameLevelAcyclic` is sufficient, not necessary; `SpreadAcyclic` is strictly weaker**: this document is not
    `SameLevelAcyclic`, it is `SpreadAcyclic`, its module is emitted, passes `moduleOk` and is `Acyclic` -/
theorem mix_spreadAcyclic_only :
    ¬ SameLevelAcyclic mixCtx.q ∧ SpreadAcyclic mixCtx.q ∧
    ∃ items, responseForQuery mixCtx 0 = .ok items ∧ moduleOk mixCtx items = true ∧
      ∃ d, Acyclic (moduleEnv mixCtx items) d := by
  have h1 : ¬ SameLevelAcyclic mixCtx.q := by decide +kernel
  have h2 : SpreadAcyclic mixCtx.q := by decide +kernel
  refine ⟨h1, h2, ?_⟩
  cases hgen : responseForQuery mixCtx 0 with
  | error e =>
    have : (responseForQuery mixCtx 0).toOption.isSome = true := by decide +kernel
    rw [hgen] at this; cases this
  | ok items =>
    have hok : moduleOk mixCtx items = true := by
      have : (match responseForQuery mixCtx 0 with
        | .ok items => moduleOk mixCtx items
        | .error _ => false) = true := by decide +kernel
      rw [hgen] at this; exact this
    exact ⟨items, rfl, hok, module_acyclic' hgen hok h2⟩

/-- the end-to-end example of `C01EndToEndW` is in the class `TreeOp` -/
example : InClass exCtx exOp := by decide +kernel

end AcyclicM
end GqlVerif
