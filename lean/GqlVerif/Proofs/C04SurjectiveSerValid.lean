import GqlVerif.Proofs.C04SurjectiveModule
/-!
# C04 — `ser_valid`: what a value of the generated type is written as is valid for the declared type

`ser_valid_named` (induction on the fuel of `serPath`, i.e. on the nesting of named types in the value) with
`wrap_valid` (induction on the type expression) and `struct_valid` (the key set and the members of a plain struct);
`HasTy` inversion lemmas.  Needs the **wire** leaves: `inI64 n → L.intOk n` and `L.enumOpen = true` — for the
specification's 32-bit `Int` and closed enums the statement is false (`int64_not_graphql_int`,
`enum_other_not_declared` in the examples file).  A declared enum variant is written as a declared value name.
-/
namespace GqlVerif
namespace C04S
open Codegen Serde C13

/-! ## inversion of `HasTy` -/

theorem hasTy_opt {e : Env} {r : RTy} {x : Val} (h : HasTy e (.opt r) x) :
    x = .unit ∨ ∃ y, x = .some y ∧ HasTy e r y := by
  cases h with
  | none => exact .inl rfl
  | some h => exact .inr ⟨_, rfl, h⟩

theorem hasTy_vec {e : Env} {r : RTy} {x : Val} (h : HasTy e (.vec r) x) :
    ∃ xs, x = .list xs ∧ ∀ y ∈ xs, HasTy e r y := by
  cases h with
  | vec h => exact ⟨_, rfl, h⟩

theorem hasTy_box {e : Env} {r : RTy} {x : Val} (h : HasTy e (.box r) x) : HasTy e r x := by
  cases h with
  | box h => exact h

theorem hasTy_string {e : Env} {p : String} {x : Val} (hp : p = "String") (h : HasTy e (.path p) x) :
    ∃ v, x = .str v := by
  generalize hr : RTy.path p = r at h
  cases h <;> cases hr
  case string => exact ⟨_, rfl⟩
  all_goals first
    | exact absurd hp (by decide)
    | exact absurd hp (by assumption : C01.notPrim _).1


theorem hasTy_i64 {e : Env} {p : String} {x : Val} (hp : p = "i64") (h : HasTy e (.path p) x) :
    ∃ n, x = .int n ∧ inI64 n = true := by
  generalize hr : RTy.path p = r at h
  cases h <;> cases hr
  case i64 hn => exact ⟨_, rfl, hn⟩
  all_goals first
    | exact absurd hp (by decide)
    | exact absurd hp (by assumption : C01.notPrim _).2.1

theorem hasTy_f64 {e : Env} {p : String} {x : Val} (hp : p = "f64") (h : HasTy e (.path p) x) :
    ∃ j, x = .float j ∧ Spec.floatOk j = true := by
  generalize hr : RTy.path p = r at h
  cases h <;> cases hr
  case f64 hn => exact ⟨_, rfl, hn⟩
  all_goals first
    | exact absurd hp (by decide)
    | exact absurd hp (by assumption : C01.notPrim _).2.2.1

theorem hasTy_bool {e : Env} {p : String} {x : Val} (hp : p = "bool") (h : HasTy e (.path p) x) :
    ∃ b, x = .bool b := by
  generalize hr : RTy.path p = r at h
  cases h <;> cases hr
  case bool => exact ⟨_, rfl⟩
  all_goals first
    | exact absurd hp (by decide)
    | exact absurd hp (by assumption : C01.notPrim _).2.2.2

/-- the shape of a value at a named type that is not one of the four leaves, by what the name resolves to -/
theorem hasTy_named {e : Env} {p : String} {x : Val} (hnp : C01.notPrim p) (h : HasTy e (.path p) x) :
    (∃ n pub t, e.find p = some (.alias n pub t) ∧ HasTy e t x) ∨
    (∃ q t, e.find p = none ∧ e.externs.find? (·.1 == p) = some (q, t) ∧ HasTy e t x) ∨
    (∃ n d sc fs vals, e.find p = some (.struct n d sc fs) ∧ x = .record vals ∧ vals.map (·.1) = fs.map (·.rust) ∧
      ∀ f ∈ fs, HasTy e f.ty (C01.valOf vals f.rust)) ∨
    (∃ n d sc, e.find p = some (.unitStruct n d sc) ∧ x = .unit) ∨
    (∃ n d sp vs ser de, e.find p = some (.gqlEnum n d sp vs ser de) ∧
      ((∃ name, name ∈ vs ∧ x = .variant name none) ∨ ∃ v, x = .enumOther v)) ∨
    (∃ n d sc vs var t y, e.find p = some (.oneOf n d sc vs) ∧ var ∈ vs ∧ var.payload = some t ∧ HasTy e t y ∧
      x = .variant var.name (some y)) := by
  generalize hr : RTy.path p = r at h
  cases h <;> cases hr
  case string => exact absurd rfl hnp.1
  case i64 => exact absurd rfl hnp.2.1
  case f64 => exact absurd rfl hnp.2.2.1
  case bool => exact absurd rfl hnp.2.2.2
  case «alias» => exact .inl ⟨_, _, _, by assumption, by assumption⟩
  case «extern» => exact .inr (.inl ⟨_, _, by assumption, by assumption, by assumption⟩)
  case struct => exact .inr (.inr (.inl ⟨_, _, _, _, _, by assumption, rfl, by assumption, by assumption⟩))
  case unitStruct => exact .inr (.inr (.inr (.inl ⟨_, _, _, by assumption, rfl⟩)))
  case enumVariant =>
    exact .inr (.inr (.inr (.inr (.inl ⟨_, _, _, _, _, _, by assumption, .inl ⟨_, by assumption, rfl⟩⟩))))
  case enumOther =>
    exact .inr (.inr (.inr (.inr (.inl ⟨_, _, _, _, _, _, by assumption, .inr ⟨_, rfl⟩⟩))))
  case oneOf =>
    exact .inr (.inr (.inr (.inr (.inr ⟨_, _, _, _, _, _, _, by assumption, by assumption, by assumption,
      by assumption, rfl⟩))))

theorem hasTy_alias {e : Env} {p n : String} {pub : Bool} {t : RTy} {x : Val} (hnp : C01.notPrim p)
    (hf : e.find p = some (.alias n pub t)) (h : HasTy e (.path p) x) : HasTy e t x := by
  rcases hasTy_named hnp h with ⟨_, _, _, hf', h'⟩ | ⟨_, _, hf', _⟩ | ⟨_, _, _, _, _, hf', _⟩ | ⟨_, _, _, hf', _⟩ |
    ⟨_, _, _, _, _, _, hf', _⟩ | ⟨_, _, _, _, _, _, _, hf', _⟩ <;> rw [hf] at hf' <;> cases hf'
  exact h'

theorem hasTy_extern {e : Env} {p q : String} {t : RTy} {x : Val} (hnp : C01.notPrim p)
    (hf : e.find p = none) (hx : e.externs.find? (·.1 == p) = some (q, t)) (h : HasTy e (.path p) x) : HasTy e t x := by
  rcases hasTy_named hnp h with ⟨_, _, _, hf', h'⟩ | ⟨_, _, hf', hx', h'⟩ | ⟨_, _, _, _, _, hf', _⟩ | ⟨_, _, _, hf', _⟩ |
    ⟨_, _, _, _, _, _, hf', _⟩ | ⟨_, _, _, _, _, _, _, hf', _⟩ <;> rw [hf] at hf' <;> cases hf'
  rw [hx] at hx'; cases hx'
  exact h'

theorem hasTy_struct {e : Env} {p n : String} {d : List String} {sc : Option String} {fs : List RField} {x : Val}
    (hnp : C01.notPrim p) (hf : e.find p = some (.struct n d sc fs)) (h : HasTy e (.path p) x) :
    ∃ vals, x = .record vals ∧ vals.map (·.1) = fs.map (·.rust) ∧ ∀ f ∈ fs, HasTy e f.ty (C01.valOf vals f.rust) := by
  rcases hasTy_named hnp h with ⟨_, _, _, hf', h'⟩ | ⟨_, _, hf', _⟩ | ⟨_, _, _, _, vals, hf', h1, h2, h3⟩ | ⟨_, _, _, hf', _⟩ |
    ⟨_, _, _, _, _, _, hf', _⟩ | ⟨_, _, _, _, _, _, _, hf', _⟩ <;> rw [hf] at hf' <;> cases hf'
  exact ⟨vals, h1, h2, h3⟩

theorem hasTy_enum {e : Env} {p n : String} {d : List String} {sp : String} {vs : List String}
    {ser de : List (String × String)} {x : Val}
    (hnp : C01.notPrim p) (hf : e.find p = some (.gqlEnum n d sp vs ser de)) (h : HasTy e (.path p) x) :
    (∃ name, name ∈ vs ∧ x = .variant name none) ∨ ∃ v, x = .enumOther v := by
  rcases hasTy_named hnp h with ⟨_, _, _, hf', h'⟩ | ⟨_, _, hf', _⟩ | ⟨_, _, _, _, _, hf', _⟩ | ⟨_, _, _, hf', _⟩ |
    ⟨_, _, _, _, _, _, hf', h'⟩ | ⟨_, _, _, _, _, _, _, hf', _⟩ <;> rw [hf] at hf' <;> cases hf'
  exact h'

theorem hasTy_oneOf {e : Env} {p n : String} {d : List String} {sc : Option String} {vs : List RVariant} {x : Val}
    (hnp : C01.notPrim p) (hf : e.find p = some (.oneOf n d sc vs)) (h : HasTy e (.path p) x) :
    ∃ var t y, var ∈ vs ∧ var.payload = some t ∧ HasTy e t y ∧ x = .variant var.name (some y) := by
  rcases hasTy_named hnp h with ⟨_, _, _, hf', h'⟩ | ⟨_, _, hf', _⟩ | ⟨_, _, _, _, _, hf', _⟩ | ⟨_, _, _, hf', _⟩ |
    ⟨_, _, _, _, _, _, hf', _⟩ | ⟨_, _, _, _, var, t, y, hf', h1, h2, h3, h4⟩ <;> rw [hf] at hf' <;> cases hf'
  exact ⟨var, t, y, h1, h2, h3, h4⟩


/-! ## what is written is valid -/

theorem all2_right_mem {α β} {R : α → β → Prop} : ∀ {xs : List α} {ys : List β}, C01.All2 R xs ys →
    ∀ y ∈ ys, ∃ x ∈ xs, R x y
  | _, _, .nil, y, hy => by simp at hy
  | _, _, .cons h rest, y, hy => by
    rcases List.mem_cons.mp hy with rfl | hy
    · exact ⟨_, by simp, h⟩
    · obtain ⟨x, hx, hr⟩ := all2_right_mem rest y hy
      exact ⟨x, by simp [hx], hr⟩

/-- wrappers: if the named type only writes valid values, so does every `Option` / `Vec` nesting over it -/
theorem wrap_valid (L : Leaves) (s : Schema) (e : Env) (pathS : String → Val → D Json) (id : TypeId) (tn : String)
    (hleaf : ∀ x j nm, HasTy e (.path tn) x → pathS tn x = .ok j → Valid L s id true (.named nm) j) :
    ∀ t : GTy, wf t = true →
      (∀ x j, HasTy e (rustOfNN (.path tn) t) x → serTyWith pathS (rustOfNN (.path tn) t) x = .ok j →
        Valid L s id true t j) ∧
      (∀ x j, HasTy e (rustOf (.path tn) t) x → serTyWith pathS (rustOf (.path tn) t) x = .ok j →
        Valid L s id false t j) := by
  intro t
  have lift : ∀ (t : GTy), isNN t = false →
      (∀ x j, HasTy e (rustOfNN (.path tn) t) x → serTyWith pathS (rustOfNN (.path tn) t) x = .ok j →
        Valid L s id true t j) →
      ∀ x j, HasTy e (rustOf (.path tn) t) x → serTyWith pathS (rustOf (.path tn) t) x = .ok j →
        Valid L s id false t j := by
    intro t hn hnn x j hx hs
    rw [rustOf_opt _ hn] at hx hs
    rcases hasTy_opt hx with rfl | ⟨y, rfl, hy⟩
    · simp only [serTyWith, pure, Except.pure, Except.ok.injEq] at hs
      subst hs
      exact .null hn
    · exact .some hn (hnn y j hy hs)
  induction t with
  | named n =>
    intro _
    have hnn : ∀ x j, HasTy e (rustOfNN (.path tn) (.named n)) x →
        serTyWith pathS (rustOfNN (.path tn) (.named n)) x = .ok j → Valid L s id true (.named n) j :=
      fun x j hx hs => by
        simp only [rustOfNN] at hx hs
        exact hleaf x j n hx hs
    exact ⟨hnn, lift _ rfl hnn⟩
  | list t ih =>
    intro hw
    obtain ⟨_, ih2⟩ := ih (by simpa [wf] using hw)
    have hnn : ∀ x j, HasTy e (rustOfNN (.path tn) (.list t)) x →
        serTyWith pathS (rustOfNN (.path tn) (.list t)) x = .ok j → Valid L s id true (.list t) j := by
      intro x j hx hs
      simp only [rustOfNN] at hx hs
      obtain ⟨xs, rfl, hall⟩ := hasTy_vec hx
      obtain ⟨vs, js, hv, rfl, h2⟩ := C01.ser_vec_ok pathS _ _ j hs
      cases hv
      refine .list ?_
      intro y hy
      obtain ⟨v, hv, hvy⟩ := all2_right_mem h2 y hy
      exact ih2 v y (hall v hv) hvy
    exact ⟨hnn, lift _ rfl hnn⟩
  | nonNull t ih =>
    intro hw
    obtain ⟨ih1, _⟩ := ih (wf_nonNull hw)
    refine ⟨fun x j hx hs => ?_, fun x j hx hs => ?_⟩
    · simp only [rustOfNN] at hx hs
      exact .bang (ih1 x j hx hs)
    · simp only [rustOf] at hx hs
      exact .bang (ih1 x j hx hs)

theorem lookup_isSome_of_mem : ∀ {kvs : List (String × Json)} {k : String}, k ∈ kvs.map (·.1) →
    ∃ v, Json.lookup k kvs = some v
  | [], _, h => by simp at h
  | (k', v') :: rest, k, h => by
    simp only [Json.lookup]
    by_cases hk : k' = k
    · subst hk; exact ⟨v', by simp⟩
    · have : (k' == k) = false := by simpa using hk
      simp only [this, Bool.false_eq_true, ↓reduceIte]
      simp only [List.map_cons, List.mem_cons] at h
      rcases h with rfl | h
      · exact absurd rfl hk
      · exact lookup_isSome_of_mem h

theorem eq_of_key_eq {α} (key : α → String) : ∀ {l : List α}, (l.map key).Nodup → ∀ {a b : α}, a ∈ l → b ∈ l →
    key a = key b → a = b :=
  fun hnd _ _ ha hb hk => C02.nodup_map_inj key _ hnd _ ha _ hb hk

theorem serPath_zero (e : Env) (p : String) (x : Val) (j : Json) : serPath e 0 p x ≠ .ok j := by
  unfold serPath; simp [unmodelled]


theorem serPath_prim_inv (e : Env) (f : Nat) (p : String) (x : Val) (out j : Json) (hx : serPrim x = some out)
    (h : serPath e (f + 1) p x = .ok j) : j = out := by
  rw [C01.serPath_prim e f p x out hx] at h
  cases h; rfl

/-- a field / member type: through the optional `Box` -/
theorem field_valid (L : Leaves) (c : Ctx) (e : Env) (pathS : String → Val → D Json) (id : TypeId) (tn : String)
    (htn : c.s.typeName id = .ok tn)
    (hleaf : ∀ x j nm, HasTy e (.path tn) x → pathS tn x = .ok j → Valid L c.s id true (.named nm) j)
    (t : GTy) (hw : wf t = true) (x : Val) (j : Json)
    (hx : HasTy e (fieldRTy c id t) x) (hs : serTyWith pathS (fieldRTy c id t) x = .ok j) :
    Valid L c.s id false t j := by
  unfold fieldRTy at hx hs
  rw [C02.tnOf_ok htn] at hx hs
  cases hb : boxed c id
  · simp only [hb, Bool.false_eq_true, ↓reduceIte] at hx hs
    exact (wrap_valid L c.s e pathS id tn hleaf t hw).2 x j hx hs
  · simp only [hb, ↓reduceIte] at hx hs
    exact (wrap_valid L c.s e pathS id tn hleaf t hw).2 x j (hasTy_box hx) hs

/-- **what a plain struct over the field list `fields` writes is a valid input object**: distinct keys, all of them
    declared, every absent member nullable, every written member valid -/
theorem struct_valid (L : Leaves) (s : Schema) (e : Env) (pathS : String → Val → D Json)
    (fields : List (String × FieldType)) (F : String × FieldType → RField)
    (hF : ∀ p ∈ fields, (F p).wire = p.1 ∧ (F p).flatten = false ∧ ((F p).skipNone = true → isNN (gty p.2) = false))
    (hnames : (fields.map (·.1)).Nodup) (vals : List (String × Val))
    (hall : ∀ p ∈ fields, HasTy e (F p).ty (C01.valOf vals (F p).rust))
    (out : List (String × Json)) (hout : serFieldsWith pathS (fields.map F) vals = .ok out)
    (hfield : ∀ p ∈ fields, ∀ x j, HasTy e (F p).ty x → serTyWith pathS (F p).ty x = .ok j →
      Valid L s p.2.id false (gty p.2) j) :
    (keys out).Nodup ∧ (∀ key ∈ keys out, key ∈ fields.map (·.1)) ∧
    (∀ p ∈ fields, Json.lookup p.1 out = none → isNN (gty p.2) = false) ∧
    (∀ p ∈ fields, ∀ v, Json.lookup p.1 out = some v → Valid L s p.2.id false (gty p.2) v) := by
  have hplain : C01.plain (fields.map F) = true := plain_map _ _ (fun p hp => (hF p hp).2.1)
  have hwire : (fields.map F).map (·.wire) = fields.map (·.1) := by
    rw [List.map_map]; exact List.map_congr_left (fun p hp => (hF p hp).1)
  have hkeys := C01.ser_keys_exact _ _ vals out hplain hout
  have hall2 := ((C01.ser_fields_iff _ vals _ out hplain).mp hout).2
  refine ⟨?_, ?_, ?_, ?_⟩
  · exact C01.ser_keys_nodup _ _ vals out hplain (by rw [hwire]; exact hnames) hout
  · intro key hkey
    rw [← hwire]
    have : key ∈ out.map (·.1) := hkey
    rw [hkeys] at this
    obtain ⟨g, hg, rfl⟩ := List.mem_map.mp this
    exact List.mem_map_of_mem (List.mem_filter.mp hg).1
  · intro p hpm hl
    have hnk : p.1 ∉ out.map (·.1) := fun hk => by
      obtain ⟨v, hv⟩ := lookup_isSome_of_mem hk
      rw [hl] at hv; cases hv
    rw [hkeys] at hnk
    have hsk : C01.skipped vals (F p) = true := by
      cases hsk : C01.skipped vals (F p)
      · exfalso
        apply hnk
        rw [← (hF p hpm).1]
        exact List.mem_map_of_mem (List.mem_filter.mpr ⟨List.mem_map_of_mem hpm, by simp [hsk]⟩)
      · rfl
    have : (F p).skipNone = true := by
      simp only [C01.skipped, Bool.and_eq_true] at hsk; exact hsk.1
    exact (hF p hpm).2.2 this
  · intro p hpm v hl
    obtain ⟨g, hg, hgk, hgs⟩ := all2_right_mem hall2 (p.1, v) (SerdeFuel.lookup_mem hl)
    obtain ⟨p', hp', rfl⟩ := List.mem_map.mp (List.mem_filter.mp hg).1
    rw [(hF p' hp').1] at hgk
    have hpp : p' = p := eq_of_key_eq (·.1) hnames hp' hpm hgk.symm
    subst hpp
    exact hfield p' hpm _ v (hall p' hpm) hgs

/-- **core of `ser_valid`**: a value of the Rust type emitted for a used named type is written as a JSON value
    that is valid for that type (64-bit `Int`, open-world enums) -/
theorem ser_valid_named (L : Leaves) (c : Ctx) (e : Env) (U : TypeId → Prop) (env : InputEnv c e U)
    (hL : ∀ n, inI64 n = true → L.intOk n = true) (hopen : L.enumOpen = true) :
    ∀ (fuel : Nat) (id : TypeId) (tn : String) (x : Val) (j : Json) (nm : String), U id → C02.Relevant id →
      c.s.typeName id = .ok tn → HasTy e (.path tn) x → serPath e fuel tn x = .ok j →
      Valid L c.s id true (.named nm) j := by
  intro fuel
  induction fuel with
  | zero => intro id tn x j nm _ _ _ _ h; exact absurd h (serPath_zero e tn x j)
  | succ f ih =>
    intro id tn x j nm hU hr htn hx hs
    cases id with
    | object k => exact absurd hr (by simp [C02.Relevant])
    | interface k => exact absurd hr (by simp [C02.Relevant])
    | union k => exact absurd hr (by simp [C02.Relevant])
    | scalar k =>
      have hn := C02.getScalar_ok htn
      by_cases h1 : tn = "Int"
      · subst h1
        obtain ⟨m, rfl, hm⟩ := hasTy_i64 rfl (hasTy_alias (by decide) env.int hx)
        cases serPath_prim_inv e f _ _ _ j rfl hs
        exact .scalar hn (by simpa [scalarOk] using hL m hm)
      by_cases h2 : tn = "Float"
      · subst h2
        obtain ⟨m, rfl, hm⟩ := hasTy_f64 rfl (hasTy_alias (by decide) env.float hx)
        cases serPath_prim_inv e f _ _ _ j rfl hs
        exact .scalar hn (by simpa [scalarOk] using hm)
      by_cases h3 : tn = "Boolean"
      · subst h3
        obtain ⟨m, rfl⟩ := hasTy_bool rfl (hasTy_alias (by decide) env.boolean hx)
        cases serPath_prim_inv e f _ _ _ j rfl hs
        exact .scalar hn (by simp [scalarOk, Spec.boolOk])
      by_cases h4 : tn = "ID"
      · subst h4
        obtain ⟨m, rfl⟩ := hasTy_string rfl (hasTy_alias (by decide) env.id hx)
        cases serPath_prim_inv e f _ _ _ j rfl hs
        exact .scalar hn (by simp [scalarOk])
      have hstr : ∃ m, x = .str m := by
        by_cases h5 : tn = "String"
        · exact hasTy_string h5 hx
        · have hnd : tn ∉ Schema.defaultScalars := by simp [Schema.defaultScalars, h1, h2, h3, h4, h5]
          obtain ⟨hp, q, hq, hfn, hfq, hxq⟩ := env.custom k tn hU hn hnd
          exact hasTy_string rfl (hasTy_extern hq hfq hxq (hasTy_alias hp hfn hx))
      obtain ⟨m, rfl⟩ := hstr
      cases serPath_prim_inv e f _ _ _ j rfl hs
      exact .scalar hn (by simp [scalarOk, h1, h2, h3, h4, Spec.stringOk])
    | «enum» k =>
      obtain ⟨en, hen, rfl⟩ := typeName_enum htn
      obtain ⟨hp, hcase⟩ := env.enums k en hU hen
      rcases hcase with ⟨hitem, _⟩ | ⟨hnone, hext⟩
      · rw [enumItem_eq] at hitem
        rcases hasTy_enum hp hitem hx with ⟨name, hname, rfl⟩ | ⟨v, rfl⟩
        · rw [serPath_enum e f _ _ _ _ _ _ _ _ hitem] at hs
          cases hfd : (en.variants.map fun v => (variantIdent c v, v)).find? (·.1 == name) with
          | none => simp [hfd, unmodelled] at hs
          | some ab =>
            obtain ⟨a, b⟩ := ab
            simp only [hfd, Except.ok.injEq] at hs
            subst hs
            have := List.mem_of_find?_eq_some hfd
            obtain ⟨v, hv, hvab⟩ := List.mem_map.mp this
            cases hvab
            exact .enum hen (.inr hv)
        · cases serPath_prim_inv e f _ _ _ j rfl hs
          exact .enum hen (.inl hopen)
      · obtain ⟨m, rfl⟩ := hasTy_string rfl (hasTy_extern hp hnone hext hx)
        cases serPath_prim_inv e f _ _ _ j rfl hs
        exact .enum hen (.inl hopen)
    | input k =>
      obtain ⟨i, hi, rfl⟩ := C02.typeName_input htn
      obtain ⟨hp, hfind⟩ := env.inputs k i hU hi
      have hcl := env.closed k i hU hi
      have hnames := env.fieldNames k i hU hi
      have hleaf : ∀ p ∈ i.fields, ∀ tn', c.s.typeName p.2.id = .ok tn' → ∀ x j nm, HasTy e (.path tn') x →
          serPath e f tn' x = .ok j → Valid L c.s p.2.id true (.named nm) j :=
        fun p hpm tn' htn' x j nm hx hs => ih p.2.id tn' x j nm (hcl p hpm).1 (hcl p hpm).2.1 htn' hx hs
      unfold inputItemSpec at hfind
      cases hone : i.isOneOf
      · rw [if_neg (by simp [hone])] at hfind
        obtain ⟨vals, rfl, hv, hall⟩ := hasTy_struct hp hfind hx
        rw [C01.serPath_struct e f _ _ _ _ _ hfind, C01.map_ok] at hs
        obtain ⟨out, hout, rfl⟩ := hs
        obtain ⟨h1, h2, h3, h4⟩ := struct_valid L c.s e (serPath e f) i.fields (inputField c)
          (fun p _ => ⟨inputField_wire c p, rfl, fun hsk => by
            simp only [inputField, isOptional_eq, Bool.and_eq_true, Bool.not_eq_true'] at hsk
            exact hsk.2⟩)
          hnames vals (fun p hpm => hall _ (List.mem_map_of_mem hpm)) out hout
          (fun p hpm x j hx hs => by
            obtain ⟨_, _, hw, _, tn', htn'⟩ := hcl p hpm
            exact field_valid L c e (serPath e f) p.2.id tn' htn' (hleaf p hpm tn' htn') (gty p.2) hw x j hx hs)
        exact .object hi hone h1 h2 h3 h4
      · rw [if_pos hone] at hfind
        obtain ⟨var, t, y, hvar, hpay, hy, rfl⟩ := hasTy_oneOf hp hfind hx
        obtain ⟨var', t', pv, jv, hpv, hfd, hpay', hser, rfl⟩ :=
          C01.oneof_single_key e f _ _ _ _ _ _ _ j hfind hs
        cases hpv
        have hvn := (env.members k i hU hi).2 hone
        have : (i.fields.map (inputVariant c)).find? (fun y => y.name == var.name) = some var :=
          find_by_key (·.name) _ (by rw [List.map_map]; exact hvn) _ hvar
        rw [this] at hfd; cases hfd
        rw [hpay] at hpay'; cases hpay'
        obtain ⟨p, hpm, rfl⟩ := List.mem_map.mp hvar
        rw [inputVariant_wire]
        obtain ⟨_, _, hw, hnn, tn', htn'⟩ := hcl p hpm
        simp only [inputVariant, Option.some.injEq] at hpay
        subst hpay
        exact .oneOf hi hone hpm
          (field_valid L c e (serPath e f) p.2.id tn' htn' (hleaf p hpm tn' htn') _ (wf_nonNull_of hw (hnn hone)) _ jv hy hser)


/-! ## `ser_valid` -/

theorem lookup_of_mem_nodup : ∀ {kvs : List (String × Json)} {k : String} {v : Json}, (keys kvs).Nodup → (k, v) ∈ kvs →
    Json.lookup k kvs = some v
  | [], _, _, _, h => by simp at h
  | (k', v') :: rest, k, v, hnd, h => by
    simp only [keys, List.map_cons, List.nodup_cons] at hnd
    simp only [Json.lookup]
    rcases List.mem_cons.mp h with h | h
    · cases h; simp
    · have hne : k' ≠ k := fun heq => hnd.1 (heq ▸ List.mem_map_of_mem (f := (·.1)) h)
      have : (k' == k) = false := by simpa using hne
      simp only [this, Bool.false_eq_true, ↓reduceIte]
      exact lookup_of_mem_nodup hnd.2 h

theorem scalarOk_norm {L : Leaves} {n : String} {j : Json} (h : scalarOk L n j = true) : normJson j = j := by
  cases scalarShape_of_ok h <;> rfl

/-- a valid value is in `serde_json::Value` normal form (no object carries a key twice) -/
theorem valid_norm {L : Leaves} {s : Schema} {id : TypeId} {b : Bool} {t : GTy} {j : Json}
    (h : Valid L s id b t j) : normJson j = j := by
  induction h with
  | null _ => rfl
  | some _ _ ih => exact ih
  | bang _ ih => exact ih
  | list _ ih => rw [normJson, normList_eq_self _ ih]
  | scalar _ hok => exact scalarOk_norm hok
  | «enum» _ _ => rfl
  | @object k i nm kvs hi hone hk hsub habs hpres ih =>
    rw [normJson, normKvs_eq_self, C01.normObj_of_nodup _ hk]
    intro kv hkv
    obtain ⟨key, v⟩ := kv
    have hl := lookup_of_mem_nodup hk hkv
    obtain ⟨p, hp, hpk⟩ := List.mem_map.mp (hsub key (List.mem_map_of_mem (f := (·.1)) hkv))
    have hpk' : p.1 = key := hpk
    subst hpk'
    exact ih p hp v hl
  | oneOf _ _ _ _ ih =>
    rw [normJson, normKvs, normKvs, ih]
    rfl

/-- **`ser_valid`, per variable.**  Every value `x` of the Rust type of the member emitted for a declared variable
    is written by `serde_json::to_value` as a JSON value that is valid for the variable's declared type: non-null
    positions are never `null`, lists at list positions, input-object keys are distinct declared field names with
    every absent member nullable, `@oneOf` objects have exactly one non-null member, enum values are strings
    (declared names for declared variants), scalars are of their kind (`Int`: 64-bit). -/
theorem ser_valid (L : Leaves) (c : Ctx) (op : Nat) (items : List Item)
    (hnorm : c.o.normalization = .none)
    (hkwI : ∀ i ∈ c.s.inputs, keywordReplace i.name = i.name)
    (hkwS : ∀ n ∈ c.s.scalars, keywordReplace n = n)
    (hkwE : ∀ e ∈ c.s.enums, keywordReplace e.name = e.name)
    (hwf : C02.OutputOnly c.s c.q = true) (hrel : C02.InputFieldsRelevant c.s = true)
    (hvars : ∀ v ∈ c.q.opVariables op, C02.Relevant v.ty.id)
    (hdef : (Scope.defines items).Nodup) (hmem : ∀ it ∈ items, (C02.memberIdents it).Nodup)
    (hprim : ∀ it ∈ items, C01.notPrim it.name) (hfree : ExternsFree c items)
    (hL : ∀ n, inI64 n = true → L.intOk n = true) (hopen : L.enumOpen = true)
    (h : responseForQuery c op = .ok items)
    (v : RVariable) (hv : v ∈ c.q.opVariables op) (t : RTy) (ht : variableType c v = .ok t)
    (x : Val) (hx : HasTy (moduleEnv c items) t x) (j : Json) (hs : Serde.ser (moduleEnv c items) t x = .ok j) :
    Valid L c.s v.ty.id false (gty v.ty) j := by
  obtain ⟨u, hu, env⟩ := inputEnv_of_module c op items hnorm hkwI hwf hrel hdef hmem hprim hfree h
  obtain ⟨hw, rfl⟩ := variableType_inv hnorm (fun tn htn => kw_typeName hkwI hkwS hkwE (hvars v hv) htn) ht
  have hU : v.ty.id ∈ u.types := C02.variable_types_used c.s c.q op u hu v hv (hvars v hv)
  obtain ⟨tn, htn⟩ : ∃ tn, c.s.typeName v.ty.id = .ok tn := by
    unfold variableType at ht
    obtain ⟨tn, htn, _⟩ := C02.bind_ok ht
    exact ⟨tn, htn⟩
  unfold Serde.ser serTy at hs
  rw [C01.map_ok] at hs
  obtain ⟨j0, hj0, rfl⟩ := hs
  have hval : Valid L c.s v.ty.id false (gty v.ty) j0 := by
    simp only [R, Bool.false_eq_true, ↓reduceIte, C02.tnOf_ok htn] at hx hj0
    exact (wrap_valid L c.s _ _ v.ty.id tn
      (fun x j nm hx hs => ser_valid_named L c _ _ env hL hopen _ v.ty.id tn x j nm hU (hvars v hv) htn hx hs)
      (gty v.ty) hw).2 x j0 hx hj0
  rw [valid_norm hval]
  exact hval

/-- **`ser_valid`, whole struct.**  Every value of the generated `Variables` struct is written as a JSON object
    that is a valid variables assignment of the operation (`VarsValid`). -/
theorem variables_ser_valid (L : Leaves) (c : Ctx) (op : Nat) (items : List Item)
    (hnorm : c.o.normalization = .none)
    (hkwI : ∀ i ∈ c.s.inputs, keywordReplace i.name = i.name)
    (hkwS : ∀ n ∈ c.s.scalars, keywordReplace n = n)
    (hkwE : ∀ e ∈ c.s.enums, keywordReplace e.name = e.name)
    (hwf : C02.OutputOnly c.s c.q = true) (hrel : C02.InputFieldsRelevant c.s = true)
    (hvars : ∀ v ∈ c.q.opVariables op, C02.Relevant v.ty.id)
    (hdef : (Scope.defines items).Nodup) (hmem : ∀ it ∈ items, (C02.memberIdents it).Nodup)
    (hprim : ∀ it ∈ items, C01.notPrim it.name) (hfree : ExternsFree c items)
    (hL : ∀ n, inI64 n = true → L.intOk n = true) (hopen : L.enumOpen = true)
    (h : responseForQuery c op = .ok items) (hne : c.q.opVariables op ≠ [])
    (x : Val) (hx : HasTy (moduleEnv c items) (.path "Variables") x) (j : Json)
    (hs : Serde.ser (moduleEnv c items) (.path "Variables") x = .ok j) :
    ∃ kvs, j = .obj kvs ∧ VarsValid L c op kvs := by
  obtain ⟨u, hu, env⟩ := inputEnv_of_module c op items hnorm hkwI hwf hrel hdef hmem hprim hfree h
  obtain ⟨_, _, _, _, _, V, _, _, _, _, _, _, _, hV, _, _, _⟩ := C02.responseForQuery_ok_full h
  obtain ⟨hhead, hwfv⟩ := variablesItems_head hnorm
    (fun v hv tn htn => kw_typeName hkwI hkwS hkwE (hvars v hv) htn) hV hne
  have hfind := find_variables c op items hdef h V _ hV hhead rfl
  have hnames := (varNames_nodup c op items hnorm hkwI hkwS hkwE hvars hmem h hne).2
  obtain ⟨vals, rfl, hvm, hall⟩ := hasTy_struct (by decide) hfind hx
  unfold Serde.ser serTy at hs
  rw [C01.map_ok] at hs
  obtain ⟨j0, hj0, rfl⟩ := hs
  obtain ⟨f, hf⟩ := C04Keys.ser_fuel (moduleEnv c items) (.record vals)
  rw [hf] at hj0
  change serPath (moduleEnv c items) (f + 1) "Variables" (.record vals) = .ok j0 at hj0
  rw [C01.serPath_struct _ f _ _ _ _ _ hfind, C01.map_ok] at hj0
  obtain ⟨out, hout, rfl⟩ := hj0
  obtain ⟨h1, h2, h3, h4⟩ := struct_valid L c.s (moduleEnv c items) (serPath (moduleEnv c items) f) (varFields c op)
    (varMember c)
    (fun p _ => ⟨C11.input_wire_is_graphql_name _ _ _ _, rfl, fun hsk => by
      simp only [varMember, Bool.and_eq_true, Bool.not_eq_true'] at hsk
      exact hsk.2⟩)
    hnames vals (fun p hpm => hall _ (List.mem_map_of_mem hpm)) out hout
    (by
      intro p hpm x j hx hs
      obtain ⟨v, hv, rfl⟩ := List.mem_map.mp hpm
      have hU : v.ty.id ∈ u.types := C02.variable_types_used c.s c.q op u hu v hv (hvars v hv)
      obtain ⟨fs, _, hallm⟩ := C04Keys.variables_struct c op V hV hne
      obtain ⟨_, t, ht, _⟩ := all2_left_mem hallm v hv
      obtain ⟨tn, htn⟩ : ∃ tn, c.s.typeName v.ty.id = .ok tn := by
        unfold variableType at ht
        obtain ⟨tn, htn, _⟩ := C02.bind_ok ht
        exact ⟨tn, htn⟩
      simp only [varMember, R, Bool.false_eq_true, ↓reduceIte, C02.tnOf_ok htn] at hx hs
      exact (wrap_valid L c.s _ _ v.ty.id tn
        (fun x j nm hx hs => ser_valid_named L c _ _ env hL hopen _ v.ty.id tn x j nm hU (hvars v hv) htn hx hs)
        (gty v.ty) (hwfv _ hpm)).2 x j hx hs)
  refine ⟨out, ?_, ⟨h1, h2, h3, h4⟩⟩
  rw [normJson, normKvs_eq_self, C01.normObj_of_nodup _ h1]
  intro kv hkv
  obtain ⟨key, v⟩ := kv
  have hl := lookup_of_mem_nodup h1 hkv
  obtain ⟨p, hp, hpk⟩ := List.mem_map.mp (h2 key (List.mem_map_of_mem (f := (·.1)) hkv))
  have hpk' : p.1 = key := hpk
  subst hpk'
  exact valid_norm (h4 p hp v hl)

end C04S
end GqlVerif
