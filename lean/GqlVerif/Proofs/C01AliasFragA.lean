import GqlVerif.Proofs.C01NestedA
/-!
# `AliasFragOp`: type-alias fragments that are themselves spread — the class and the closed form of the items

`NestedOp` lets the body of a fragment spread at an object position spread further fragments, but the body must not be a LONE
spread (`fragNew … !isLone f.sels`): for `fragment Mid on Dog { ...Inner }` the generator emits `type Mid = Inner;`, and a
struct that spreads `...Mid` gets `#[serde(flatten)] mid: Mid` — a flattened member whose type is an ALIAS of a struct.
`AliasFragOp` lifts that restriction:

* `fragNewA ok …` — as `fragNew`, but the body is an `nBody` (a lone spread of an allowed fragment on the same type, or an
  `nSels` selection set);
* `fragOkA s q o r parent g` — rank-indexed as `fragOkN`: rank `0` is `fragOk` (spread-free body), rank `r + 1` adds
  `fragNewA (fragOkA r)`.  A chain of alias hops `A = B = C …` descends in rank, so it ends in a fragment with a non-lone
  body (rank `0` is spread-free), and the spread graph is acyclic by construction;
* `AliasFragOp c op` (decidable): the root selection set is an `nBody` over the fragments of rank `c.q.fragments.length`.

The closed form is `bodyItemsM`, from `calc_nested` with `fragOkA_spec` (`aliasfrag_items_shape`; `aliasfrag_fragment_shape`: a
type alias if the body is a lone spread); `NestedOp ⊆ AliasFragOp` (`aliasFragOp_of_nestedOp`).
-/

namespace GqlVerif
namespace C01AF
open Serde Spec C13 C03 Codegen C01 C01.E2E C01M C01N

/-- the fragment `g` is on `parent`, not named `ID`, not flagged recursive (no `Box`), and its body is a lone spread of an
    allowed fragment (a type alias) or an object-level selection set whose spreads satisfy `ok` -/
def fragNewA (ok : TypeId → Nat → Bool) (s : Schema) (q : Query) (o : Options) (parent : TypeId) (g : Nat) : Bool :=
  match q.fragments[g]? with
  | some f => f.on == parent && f.name != "ID" && !fragmentIsRecursive q g && nBody ok s q o f.on f.sels
  | none => false

/-- **fragments that may be spread at an object position, by rank** (lone-spread bodies allowed from rank `1` on) -/
def fragOkA (s : Schema) (q : Query) (o : Options) : Nat → TypeId → Nat → Bool
  | 0, p, g => fragOk s q o p g
  | r + 1, p, g => fragOkA s q o r p g || fragNewA (fragOkA s q o r) s q o p g

def AliasFragOp (c : Ctx) (op : ROperation) : Bool :=
  c.o.normalization == .none && (c.s.objects[op.objectId]?).isSome &&
  nBody (fragOkA c.s c.q c.o c.q.fragments.length) c.s c.q c.o (.object op.objectId) op.sels

theorem fragOkA_succ {s : Schema} {q : Query} {o : Options} {r : Nat} {p : TypeId} {g : Nat}
    (h : fragOkA s q o r p g = true) : fragOkA s q o (r + 1) p g = true := by
  rw [fragOkA, h]; rfl

theorem fragOkA_le {s : Schema} {q : Query} {o : Options} {r r' : Nat} (hle : r ≤ r') {p : TypeId} {g : Nat}
    (h : fragOkA s q o r p g = true) : fragOkA s q o r' p g = true := by
  induction hle with
  | refl => exact h
  | step _ ih => exact fragOkA_succ ih

theorem fragOkA_zero {s : Schema} {q : Query} {o : Options} {r : Nat} {p : TypeId} {g : Nat}
    (h : fragOk s q o p g = true) : fragOkA s q o r p g = true :=
  fragOkA_le (Nat.zero_le r) (by rw [fragOkA]; exact h)

theorem fragOkA_cases {s : Schema} {q : Query} {o : Options} : ∀ {r : Nat} {p : TypeId} {g : Nat},
    fragOkA s q o r p g = true → fragOk s q o p g = true ∨ ∃ r', r' < r ∧ fragNewA (fragOkA s q o r') s q o p g = true
  | 0, p, g, h => .inl (by rw [fragOkA] at h; exact h)
  | r + 1, p, g, h => by
    rw [fragOkA, Bool.or_eq_true] at h
    rcases h with h | h
    · rcases fragOkA_cases h with h' | ⟨r', hr', h'⟩
      · exact .inl h'
      · exact .inr ⟨r', by omega, h'⟩
    · exact .inr ⟨r, by omega, h⟩

theorem fragNewA_parts {ok : TypeId → Nat → Bool} {s : Schema} {q : Query} {o : Options} {p : TypeId} {g : Nat}
    (h : fragNewA ok s q o p g = true) :
    ∃ f, q.fragments[g]? = some f ∧ f.on = p ∧ f.name ≠ "ID" ∧ fragmentIsRecursive q g = false ∧
      nBody ok s q o f.on f.sels = true := by
  unfold fragNewA at h
  cases hf : q.fragments[g]? with
  | none => simp [hf] at h
  | some f =>
    simp only [hf, Bool.and_eq_true, beq_iff_eq, bne_iff_ne, Bool.not_eq_true'] at h
    exact ⟨f, rfl, h.1.1.1, h.1.1.2, h.1.2, h.2⟩

theorem fragOkA_spec (s : Schema) (q : Query) (o : Options) (r : Nat) : OkSpec q (fragOkA s q o r) := by
  intro p g h
  rcases fragOkA_cases h with h' | ⟨r', _, h'⟩
  · obtain ⟨f, hf, hon, hname, _, _⟩ := fragOk_parts h'
    exact ⟨f, hf, hon, hname, not_recursive_of_fragOk h'⟩
  · obtain ⟨f, hf, hon, hname, hrec, _⟩ := fragNewA_parts h'
    exact ⟨f, hf, hon, hname, hrec⟩

theorem aliasFragOp_parts {c : Ctx} {op : ROperation} (h : AliasFragOp c op = true) :
    c.o.normalization = .none ∧ (c.s.objects[op.objectId]?).isSome = true ∧
      nBody (fragOkA c.s c.q c.o c.q.fragments.length) c.s c.q c.o (.object op.objectId) op.sels = true := by
  simp only [AliasFragOp, Bool.and_eq_true, beq_iff_eq] at h
  exact ⟨h.1.1, h.1.2, h.2⟩

/-- **`aliasfrag_items_shape`.**  For an operation of the class `AliasFragOp` the response items are, in closed
    form, those of `nested_items_shape` / `mixed_items_shape` (`bodyItemsM` never looks into a fragment body) -/
theorem aliasfrag_items_shape (c : Ctx) (op : ROperation) (hop : op ∈ c.q.operations) (ht : AliasFragOp c op = true) :
    responseItems c op = .ok (bodyItemsM c "ResponseData" (c.cs.camel op.name) op.sels) := by
  obtain ⟨hn, _, hsels⟩ := aliasFragOp_parts ht
  exact (calc_nested c hn _ (fragOkA_spec c.s c.q c.o _) _ _ _ hsels).responseItems_eq hop

/-- **the items of a spread fragment of any rank**: `bodyItemsM` of its own body — **the type alias
    `type F = G;` if the body is the lone spread `...G`**, otherwise the struct with one flattened member per spread -/
theorem aliasfrag_fragment_shape (c : Ctx) (hn : c.o.normalization = .none) (r : Nat) (i g : Nat)
    (hok : fragOkA c.s c.q c.o r (.object i) g = true) :
    ∃ f, c.q.fragments[g]? = some f ∧ f.on = .object i ∧
      fragmentItems c g = .ok (bodyItemsM c f.name (c.cs.camel f.name) f.sels) := by
  have key : ∀ f, c.q.fragments[g]? = some f → f.on = .object i → ∀ r',
      nBody (fragOkA c.s c.q c.o r') c.s c.q c.o (.object i) f.sels = true →
      fragmentItems c g = .ok (bodyItemsM c f.name (c.cs.camel f.name) f.sels) := by
    intro f hf hon r' hb
    exact C02.CalcSel.fragmentItems_eq hf (hon ▸ calc_nested c hn _ (fragOkA_spec c.s c.q c.o r') _ _ i hb)
  rcases fragOkA_cases hok with h' | ⟨r', _, h'⟩
  · obtain ⟨f, hf, hon, _, hv, _⟩ := fragOk_parts h'
    refine ⟨f, hf, hon, key f hf hon 0 ?_⟩
    have hm : mSels c.s c.q c.o (.object i) f.sels = true :=
      mSels_of_fSels c.s c.q c.o f.sels _ (fSels_of_vSels c.s c.q c.o f.sels _ hv)
    have hnl : ∀ g', f.sels ≠ [Sel.spread g'] := by
      intro g' hg'
      have := noSpreads_of_vSels c.s c.o f.sels false hv
      rw [hg'] at this
      simp [noSpreads, noSpread] at this
    rw [nBody_not_lone hnl]
    have : fragOkA c.s c.q c.o 0 = fragOk c.s c.q c.o := by funext p g'; rw [fragOkA]
    rw [this, nSels_fragOk]
    exact hm
  · obtain ⟨f, hf, hon, _, _, hb⟩ := fragNewA_parts h'
    rw [hon] at hb
    exact ⟨f, hf, hon, key f hf hon r' hb⟩

/-! ## `NestedOp ⊆ AliasFragOp` -/

theorem fragOkA_of_fragOkN (s : Schema) (q : Query) (o : Options) : ∀ (r : Nat) (p : TypeId) (g : Nat),
    fragOkN s q o r p g = true → fragOkA s q o r p g = true
  | 0, p, g, h => by rw [fragOkN] at h; rw [fragOkA]; exact h
  | r + 1, p, g, h => by
    rw [fragOkN, Bool.or_eq_true] at h
    rw [fragOkA, Bool.or_eq_true]
    rcases h with h | h
    · exact .inl (fragOkA_of_fragOkN s q o r p g h)
    · right
      obtain ⟨f, hf, hon, hname, hrec, hnl, hb⟩ := fragNew_parts h
      unfold fragNewA
      simp only [hf, hon, beq_self_eq_true, hrec, Bool.not_false, Bool.and_true, Bool.true_and, Bool.and_eq_true,
        bne_iff_ne]
      refine ⟨hname, ?_⟩
      rw [nBody_not_lone hnl, ← hon]
      exact nSels_mono (fun p' g' hg' => fragOkA_of_fragOkN s q o r p' g' hg') s q o f.sels f.on hb

theorem aliasFragOp_of_nestedOp (c : Ctx) (op : ROperation) (h : NestedOp c op = true) : AliasFragOp c op = true := by
  obtain ⟨hn, ho, hb⟩ := nestedOp_parts h
  simp only [AliasFragOp, Bool.and_eq_true, beq_iff_eq]
  exact ⟨⟨hn, ho⟩, nBody_mono (fun p g hg => fragOkA_of_fragOkN c.s c.q c.o _ p g hg) hb⟩

/-- on `NestedOp` the closed form is the same (it is the same function) -/
theorem aliasfrag_items_eq_N (c : Ctx) (op : ROperation) (hop : op ∈ c.q.operations) (h : NestedOp c op = true) :
    responseItems c op = .ok (bodyItemsM c "ResponseData" (c.cs.camel op.name) op.sels) :=
  aliasfrag_items_shape c op hop (aliasFragOp_of_nestedOp c op h)

end C01AF
end GqlVerif
