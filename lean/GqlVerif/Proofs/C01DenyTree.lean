import GqlVerif.Proofs.C14GeneratedAcyclic
/-!
# C01 / C03 end to end under `deny`, object-tree operations (`TreeOpD`): acceptance, exact acceptance

`C01.E2E.TreeOp` excludes a selection of a deprecated field while the strategy is `deny`.  `C14G.TreeOpD` (`C14GeneratedTree`) allows
it: the field has **no member** in the generated struct, the server still sends its key.

The generated types are the types of `pruneOp c op`: the operation with the denied selections removed at every depth of
the *kept* tree.  The members the generator emits for `sels` under `deny` (`fieldsOfD`, the closed form of
`C14GeneratedTree`) are the members of the `TreeOp` closed form of the pruned selection (`fieldsOf_prune`), and the
structs of the pruned tree are among the emitted ones (`itemsOfSels_prune_sublist`).  The emitted module has MORE items:
the struct of the sub-selection of a denied object-typed field is dead code (`C14G.Witness.dead_struct_emitted`) — so
the module under `deny` is NOT the module under `allow` for the pruned operation; the transfer goes through the generic
`TopEnv` theorems instead (`topEnvD_of_module`).

Hypotheses: `TreeOpD c op`, `TreeOp c (pruneOp c op)` (the pruned operation is in the class `TreeOp`: this adds to
`TreeOpD` only that the response keys of the kept selections *and `__typename`* are pairwise distinct — inherited from
`TreeOp`), `responseForQuery c i = .ok items`, `moduleOk c items`.
-/

namespace GqlVerif
namespace C01
namespace Deny
open Serde C03 Codegen C01.E2E C14G

/-! ## the pruned selection -/

mutual
  /-- a selection with the denied field selections removed (at every depth below kept fields) -/
  def pruneSel (c : Ctx) : Sel → List Sel
    | .field a fid sub =>
      match c.s.fields[fid]? with
      | some sf => if isDenied c sf then [] else [.field a fid (pruneSels c sub)]
      | none => [.field a fid (pruneSels c sub)]
    | .inline t sub => [.inline t (pruneSels c sub)]
    | .spread g => [.spread g]
    | .typename => [.typename]
  def pruneSels (c : Ctx) : List Sel → List Sel
    | [] => []
    | x :: xs => pruneSel c x ++ pruneSels c xs
end

/-- **the operation the generated types are the types of**: the denied selections removed -/
def pruneOp (c : Ctx) (op : ROperation) : ROperation := { op with sels := pruneSels c op.sels }

theorem pruneSel_kept {c : Ctx} {a : Option String} {fid : Nat} {sub : List Sel} {sf : StoredField}
    (hsf : c.s.fields[fid]? = some sf) (hd : isDenied c sf = false) :
    pruneSel c (.field a fid sub) = [.field a fid (pruneSels c sub)] := by
  rw [pruneSel]; simp [hsf, hd]

theorem pruneSel_denied {c : Ctx} {a : Option String} {fid : Nat} {sub : List Sel} {sf : StoredField}
    (hsf : c.s.fields[fid]? = some sf) (hd : isDenied c sf = true) :
    pruneSel c (.field a fid sub) = [] := by
  rw [pruneSel]; simp [hsf, hd]

theorem pruneSel_field (c : Ctx) (a : Option String) (fid : Nat) (sub : List Sel) :
    pruneSel c (.field a fid sub) = [] ∨ pruneSel c (.field a fid sub) = [.field a fid (pruneSels c sub)] := by
  rw [pruneSel]
  cases c.s.fields[fid]? with
  | none => exact .inr rfl
  | some sf =>
    simp only []
    split
    · exact .inl rfl
    · exact .inr rfl

theorem pruneSel_typename (c : Ctx) : pruneSel c .typename = [.typename] := by rw [pruneSel]

theorem isDenied_false_of {c : Ctx} (h : c.o.deprecation ≠ .deny) (sf : StoredField) : isDenied c sf = false := by
  simp [isDenied, h]

/-! ## members: `fieldsOf` of the pruned selection = `fieldsOfD` of the selection -/

theorem fieldsOf_pruneSel (c : Ctx) (pfx : String) (x : Sel) :
    fieldsOf c pfx (pruneSel c x) = (fieldOfSelD c pfx x).toList := by
  cases x with
  | field a fid sub =>
    cases hsf : c.s.fields[fid]? with
    | none => rw [pruneSel]; simp [hsf, fieldsOf, fieldOfSel, fieldOfSelD]
    | some sf =>
      by_cases hd : isDenied c sf = true
      · rw [pruneSel_denied hsf hd]; simp [fieldsOf, fieldOfSelD, hsf, hd]
      · have hd' : isDenied c sf = false := by simpa using hd
        rw [pruneSel_kept hsf hd']
        simp only [fieldsOf, List.filterMap_cons, List.filterMap_nil, fieldOfSel, fieldOfSelD, hsf, hd',
          Bool.false_eq_true, ↓reduceIte]
        cases leafName c pfx (a.getD sf.name) sf.ty.id <;> rfl
  | inline t sub => rw [pruneSel]; simp [fieldsOf, fieldOfSel, fieldOfSelD]
  | spread g => rw [pruneSel]; simp [fieldsOf, fieldOfSel, fieldOfSelD]
  | typename => rw [pruneSel]; simp [fieldsOf, fieldOfSel, fieldOfSelD]

theorem fieldsOf_append (c : Ctx) (pfx : String) (xs ys : List Sel) :
    fieldsOf c pfx (xs ++ ys) = fieldsOf c pfx xs ++ fieldsOf c pfx ys := by
  simp [fieldsOf]

/-- **the members emitted under `deny` are the members of the pruned selection** -/
theorem fieldsOf_prune (c : Ctx) (pfx : String) : ∀ sels : List Sel,
    fieldsOf c pfx (pruneSels c sels) = fieldsOfD c pfx sels
  | [] => by rw [pruneSels]; rfl
  | x :: xs => by
    rw [pruneSels, fieldsOf_append, fieldsOf_pruneSel, fieldsOf_prune c pfx xs]
    simp only [fieldsOfD, List.filterMap_cons]
    cases fieldOfSelD c pfx x <;> rfl

/-! ## items: the structs of the pruned tree are among the emitted structs -/

theorem itemsOfSels_append (c : Ctx) (pfx : String) : ∀ xs ys : List Sel,
    itemsOfSels c pfx (xs ++ ys) = itemsOfSels c pfx xs ++ itemsOfSels c pfx ys
  | [], ys => by simp [itemsOfSels]
  | x :: xs, ys => by
    rw [List.cons_append, itemsOfSels, itemsOfSels, itemsOfSels_append c pfx xs ys, List.append_assoc]

mutual
  theorem itemsOfSel_prune_sublist (c : Ctx) : ∀ (x : Sel) (pfx : String),
      (itemsOfSels c pfx (pruneSel c x)).Sublist (itemsOfSelD c pfx x)
    | .field a fid sub, pfx => by
      have IH := itemsOfSels_prune_sublist c sub
      rcases pruneSel_field c a fid sub with hp | hp
      · rw [hp]; simp [itemsOfSels]
      · rw [hp, itemsOfSels, itemsOfSels, List.append_nil, itemsOfSel, itemsOfSelD]
        cases c.s.fields[fid]? with
        | none => simp
        | some sf =>
          simp only []
          cases sf.ty.id with
          | object i =>
            simp only []
            rw [fieldsOf_prune]
            exact List.Sublist.cons_cons _ (IH _)
          | _ => simp
    | .inline t sub, pfx => by rw [pruneSel]; simp [itemsOfSels, itemsOfSel, itemsOfSelD]
    | .spread g, pfx => by rw [pruneSel]; simp [itemsOfSels, itemsOfSel, itemsOfSelD]
    | .typename, pfx => by rw [pruneSel]; simp [itemsOfSels, itemsOfSel, itemsOfSelD]
  theorem itemsOfSels_prune_sublist (c : Ctx) : ∀ (xs : List Sel) (pfx : String),
      (itemsOfSels c pfx (pruneSels c xs)).Sublist (itemsOfSelsD c pfx xs)
    | [], _ => by rw [pruneSels]; simp [itemsOfSels, itemsOfSelsD]
    | x :: xs, pfx => by
      rw [pruneSels, itemsOfSels_append, itemsOfSelsD]
      exact List.Sublist.append (itemsOfSel_prune_sublist c x pfx) (itemsOfSels_prune_sublist c xs pfx)
end

/-! ## the environment of the module emitted for `op`, seen from the pruned operation -/

theorem treeSels_append {s : Schema} {o : Options} : ∀ {xs ys : List Sel},
    treeSels s o (xs ++ ys) = true ↔ treeSels s o xs = true ∧ treeSels s o ys = true
  | [], ys => by simp [treeSels]
  | x :: xs, ys => by
    rw [List.cons_append, treeSels, treeSels, Bool.and_eq_true, Bool.and_eq_true, treeSels_append (xs := xs), and_assoc]

theorem envSels_append {e : Env} {c : Ctx} {pfx : String} : ∀ {xs ys : List Sel},
    envSels e c pfx xs → envSels e c pfx ys → envSels e c pfx (xs ++ ys)
  | [], _, _, h => h
  | x :: xs, ys, h1, h2 => by
    rw [envSels] at h1
    rw [List.cons_append, envSels]
    exact ⟨h1.1, envSels_append h1.2 h2⟩

section EnvP
variable {c : Ctx} {items : List Item} {u : UsedTypes} {root : List Sel} (M : ModFacts c items u root)
include M

-- the list half uses `M` only through the element half
set_option linter.unusedSectionVars false
mutual
  theorem envSelP_of : ∀ (x : Sel) (pfx : String), treeSels c.s c.o (pruneSel c x) = true →
      (∀ it ∈ itemsOfSelD c pfx x, it ∈ items) → C02.Reach c.q root x →
      envSels (moduleEnv c items) c pfx (pruneSel c x)
    | .field a fid sub, pfx => by
      intro ht hit hr
      have IH := envSelsP_of sub
      rcases pruneSel_field c a fid sub with hp | hp
      · rw [hp]; simp [envSels]
      · rw [hp] at ht ⊢
        obtain ⟨sf, hsf, _, _, hty⟩ := treeSel_kinds (treeSels_cons ht).1
        have hused : sf.ty.id ∈ u.types := M.used _ hr sf hsf
        rw [itemsOfSelD] at hit
        rw [envSels, envSel]
        simp only [hsf] at hit ⊢
        refine ⟨?_, by simp [envSels]⟩
        rcases hty with ⟨k, sn, hid, hk, _⟩ | ⟨k, en, hid, hk, _⟩ | ⟨i, ob, hid, _, hsub, _⟩
        · simp only [hid, hk] at hused ⊢
          exact scalarEnv_of M k sn hk hused
        · simp only [hid, hk] at hused ⊢
          exact enumEnv_of M k en hk hused
        · simp only [hid] at hit ⊢
          refine ⟨?_, IH _ hsub (fun it h => hit it (by simp [h])) (fun y hy => reach_step hr hy)⟩
          rw [fieldsOf_prune]
          exact structEnv_of M _ _ (hit _ (by simp))
    | .inline t sub, _ => by
      intro ht; rw [pruneSel] at ht; simp [treeSels, treeSel] at ht
    | .spread g, _ => by
      intro ht; rw [pruneSel] at ht; simp [treeSels, treeSel] at ht
    | .typename, _ => by
      intro _ _ _; rw [pruneSel]; simp [envSels, envSel]
  theorem envSelsP_of : ∀ (sels : List Sel) (pfx : String), treeSels c.s c.o (pruneSels c sels) = true →
      (∀ it ∈ itemsOfSelsD c pfx sels, it ∈ items) → (∀ x ∈ sels, C02.Reach c.q root x) →
      envSels (moduleEnv c items) c pfx (pruneSels c sels)
    | [], _ => by intro _ _ _; rw [pruneSels]; simp [envSels]
    | x :: xs, pfx => by
      intro ht hit hr
      rw [pruneSels] at ht ⊢
      obtain ⟨hx, hxs⟩ := treeSels_append.mp ht
      rw [itemsOfSelsD] at hit
      exact envSels_append (envSelP_of x pfx hx (fun it h => hit it (by simp [h])) (hr x (by simp)))
        (envSelsP_of xs pfx hxs (fun it h => hit it (by simp [h])) (fun y hy => hr y (by simp [hy])))
end
set_option linter.unusedSectionVars true

end EnvP

theorem pruneOp_name (c : Ctx) (op : ROperation) : (pruneOp c op).name = op.name := rfl
theorem pruneOp_sels (c : Ctx) (op : ROperation) : (pruneOp c op).sels = pruneSels c op.sels := rfl
theorem pruneOp_objectId (c : Ctx) (op : ROperation) : (pruneOp c op).objectId = op.objectId := rfl

/-- **the module emitted for `op` under `deny` is an environment for the pruned operation** (`TopEnv` of the `TreeOp`
    theorems): `ResponseData` and the struct of every kept selection set resolve to the `TreeOp` closed form of the
    pruned selection -/
theorem topEnvD_of_module {c : Ctx} {opIdx : Nat} {op : ROperation} {items : List Item}
    (hop : c.q.operations[opIdx]? = some op) (ht : TreeOpD c op = true) (hp : TreeOp c (pruneOp c op) = true)
    (hgen : responseForQuery c opIdx = .ok items) (hok : moduleOk c items = true) :
    TopEnv (moduleEnv c items) c (pruneOp c op) := by
  obtain ⟨hn, _, hsels, _⟩ := treeOp_parts hp
  obtain ⟨u, F, _, _, M, hsub, _, hlen⟩ :=
    module_tail hop hn hgen hok (tree_items_shapeD c op (List.mem_of_getElem? hop) ht)
  rw [pruneOp_sels] at hsels
  refine ⟨?_, ?_, ?_⟩
  · rw [pruneOp_name, pruneOp_sels, fieldsOf_prune]
    exact structEnv_of M _ _ (hsub _ (by simp [structItemsD]))
  · rw [pruneOp_name, pruneOp_sels]
    exact envSelsP_of M op.sels _ hsels (fun it h => hsub it (by simp [structItemsD, h])) (fun x hx => .here hx)
  · rw [pruneOp_name, pruneOp_sels]
    have := (itemsOfSels_prune_sublist c op.sels (c.cs.camel op.name)).length_le
    simp only [structItemsD, List.length_cons] at hlen
    omega

/-! ## exact acceptance (C03) -/

/-- **`treeD_precise_iff` (C03 under `deny`).**  The `ResponseData` emitted for `op` accepts `j` **iff** `j` conforms
    loosely to the selection with the denied fields removed: the denied keys — like every unselected key — are
    unconstrained (present or not, any value, any number of times), everything else as in `tree_precise_iff`. -/
theorem treeD_precise_iff (c : Ctx) (opIdx : Nat) (op : ROperation) (items : List Item)
    (hop : c.q.operations[opIdx]? = some op) (ht : TreeOpD c op = true) (hp : TreeOp c (pruneOp c op) = true)
    (hgen : responseForQuery c opIdx = .ok items) (hok : moduleOk c items = true) (j : Json) :
    okB (Serde.de (moduleEnv c items) (.path "ResponseData") j) = conformsSelLoose c.s (pruneSels c op.sels) j :=
  top_accepts_iff (moduleEnv c items) c (pruneOp c op) hp (topEnvD_of_module hop ht hp hgen hok) j

/-- the same, on the erased payload: … iff the payload **with the denied keys erased at every depth**
    (`C14G.eraseDenied`) conforms loosely to the pruned selection -/
theorem treeD_precise_iff_erased (c : Ctx) (opIdx : Nat) (op : ROperation) (items : List Item)
    (hop : c.q.operations[opIdx]? = some op) (ht : TreeOpD c op = true) (hp : TreeOp c (pruneOp c op) = true)
    (hgen : responseForQuery c opIdx = .ok items) (hok : moduleOk c items = true) (j : Json) :
    okB (Serde.de (moduleEnv c items) (.path "ResponseData") j) =
      conformsSelLoose c.s (pruneSels c op.sels) (eraseDenied c op j) := by
  rw [denied_field_payload_same' c opIdx op items hop ht hgen hok j]
  exact treeD_precise_iff c opIdx op items hop ht hp hgen hok _

/-- so erasing the denied keys does not change loose conformance to the pruned selection (a fact about the two
    specification-side functions, obtained through the generated module) -/
theorem conformsSelLoose_eraseDenied (c : Ctx) (opIdx : Nat) (op : ROperation) (items : List Item)
    (hop : c.q.operations[opIdx]? = some op) (ht : TreeOpD c op = true) (hp : TreeOp c (pruneOp c op) = true)
    (hgen : responseForQuery c opIdx = .ok items) (hok : moduleOk c items = true) (j : Json) :
    conformsSelLoose c.s (pruneSels c op.sels) (eraseDenied c op j) = conformsSelLoose c.s (pruneSels c op.sels) j := by
  rw [← treeD_precise_iff_erased c opIdx op items hop ht hp hgen hok j,
    treeD_precise_iff c opIdx op items hop ht hp hgen hok j]

theorem treeD_precise (c : Ctx) (opIdx : Nat) (op : ROperation) (items : List Item)
    (hop : c.q.operations[opIdx]? = some op) (ht : TreeOpD c op = true) (hp : TreeOp c (pruneOp c op) = true)
    (hgen : responseForQuery c opIdx = .ok items) (hok : moduleOk c items = true) (j : Json) (v : Val)
    (hd : Serde.de (moduleEnv c items) (.path "ResponseData") j = .ok v) :
    conformsSelLoose c.s (pruneSels c op.sels) j = true :=
  Top.precise_of_iff (treeD_precise_iff c opIdx op items hop ht hp hgen hok j) hd

/-! ## acceptance (C01): strict on the selection as written ⟹ loose on the pruned selection -/

theorem looseSels_append (s : Schema) (kvs : List (String × Json)) : ∀ xs ys : List Sel,
    looseSels s (xs ++ ys) kvs = (looseSels s xs kvs && looseSels s ys kvs)
  | [], ys => by simp [looseSels]
  | x :: xs, ys => by
    have ih := looseSels_append s kvs xs ys
    cases x with
    | field a fid sub => rw [List.cons_append, looseSels.eq_2, looseSels.eq_2, ih, Bool.and_assoc]
    | inline t sub => rw [List.cons_append]; simpa [looseSels] using ih
    | spread g => rw [List.cons_append]; simpa [looseSels] using ih
    | typename => rw [List.cons_append]; simpa [looseSels] using ih

theorem conformsSel_obj {s : Schema} {tn : String} {sels : List Sel} {j : Json} (h : conformsSel s tn sels j = true) :
    ∃ kvs, j = .obj kvs ∧ EnumSpec.nodup (kvs.map (·.1)) = true ∧
      kvs.all (fun kv => (respKeys s sels).contains kv.1) = true ∧ confSels s tn sels kvs = true := by
  cases j with
  | obj kvs =>
    simp only [conformsSel, Bool.and_eq_true] at h
    exact ⟨kvs, rfl, h.1.1, h.1.2, h.2⟩
  | _ => simp [conformsSel] at h

/-- a selection with its sub-selection pruned (whether the selection itself is kept is `pruneSel`'s business) -/
def pruneSub (c : Ctx) : Sel → Sel
  | .field a fid sub => .field a fid (pruneSels c sub)
  | x => x

mutual
  theorem strict_loose_prune_sel (c : Ctx) : ∀ (x : Sel) (v : Json),
      strictField c.s x v = true → looseField c.s (pruneSub c x) v = true
    | .field a fid sub, v => by
      intro h
      have IH := strict_loose_prune_sels c sub
      simp only [strictField] at h
      rw [pruneSub, looseField]
      cases hsf : c.s.fields[fid]? with
      | none => simp [hsf] at h
      | some sf =>
        simp only [hsf] at h ⊢
        cases hid : sf.ty.id <;> simp only [hid] at h ⊢ <;> try exact h
        rename_i i
        cases ho : c.s.objects[i]? with
        | none => simp [ho] at h
        | some o =>
          simp only [ho] at h ⊢
          rw [looseLambda]
          refine (accepts_mono _ _ ?_ _).2 v h
          intro j hj
          obtain ⟨kvs, rfl, hnd, _, hconf⟩ := conformsSel_obj hj
          exact IH o.name kvs (countKey_le_one_of_nodup (nodup_iff'.mp hnd)) hconf
    | .spread _, _ => by intro h; simp [strictField] at h
    | .inline _ _, _ => by intro h; simp [strictField] at h
    | .typename, _ => by intro h; simp [strictField] at h
  theorem strict_loose_prune_sels (c : Ctx) : ∀ (sels : List Sel) (tn : String) (kvs : List (String × Json)),
      (∀ k, countKey k kvs ≤ 1) → confSels c.s tn sels kvs = true → looseSels c.s (pruneSels c sels) kvs = true
    | [], _, _, _, _ => by rw [pruneSels]; simp [looseSels]
    | .field a fid sub :: xs, tn, kvs, hc, h => by
      rw [confSels, Bool.and_eq_true] at h
      have ih := strict_loose_prune_sels c xs tn kvs hc h.2
      rw [pruneSels, looseSels_append, ih, Bool.and_true]
      have hx := h.1
      rw [confSel_field] at hx
      cases hsf : c.s.fields[fid]? with
      | none => simp [hsf] at hx
      | some sf =>
        by_cases hd : isDenied c sf = true
        · rw [pruneSel_denied hsf hd]; simp [looseSels]
        · have hd' : isDenied c sf = false := by simpa using hd
          rw [pruneSel_kept hsf hd', looseSels.eq_2]
          simp only [hsf] at hx ⊢
          cases hl : Json.lookup (a.getD sf.name) kvs with
          | none => simp [hl] at hx
          | some v =>
            simp only [hl] at hx ⊢
            have := strict_loose_prune_sel c (.field a fid sub) v hx
            rw [pruneSub] at this
            simp [hc, this, looseSels]
    | .spread g :: xs, _, _, _, h => by simp [confSels, confSel] at h
    | .inline t sub :: xs, _, _, _, h => by simp [confSels, confSel] at h
    | .typename :: xs, tn, kvs, hc, h => by
      rw [confSels, Bool.and_eq_true] at h
      rw [pruneSels, looseSels_append, strict_loose_prune_sels c xs tn kvs hc h.2, Bool.and_true, pruneSel_typename]
      simp [looseSels]
end

theorem strict_loose_prune_field (c : Ctx) : ∀ (a : Option String) (fid : Nat) (sub : List Sel) (v : Json),
    strictField c.s (.field a fid sub) v = true → looseField c.s (.field a fid (pruneSels c sub)) v = true :=
  fun a fid sub v => strict_loose_prune_sel c (.field a fid sub) v

/-- **a response conforming to the selection as written conforms loosely to the pruned selection** (no hypothesis) -/
theorem conformsSel_loose_prune (c : Ctx) (tn : String) (sels : List Sel) (j : Json)
    (h : conformsSel c.s tn sels j = true) : conformsSelLoose c.s (pruneSels c sels) j = true := by
  obtain ⟨kvs, rfl, hnd, _, hconf⟩ := conformsSel_obj h
  exact strict_loose_prune_sels c sels tn kvs (countKey_le_one_of_nodup (nodup_iff'.mp hnd)) hconf

/-- **`treeD_accepts` (C01 under `deny`, acceptance).**  Every response that conforms to the operation AS WRITTEN
    (`conformsOp`: one entry per selected response key — the denied fields included, the server sends them) is
    accepted by the `ResponseData` emitted under `deny`. -/
theorem treeD_accepts (c : Ctx) (opIdx : Nat) (op : ROperation) (items : List Item)
    (hop : c.q.operations[opIdx]? = some op) (ht : TreeOpD c op = true) (hp : TreeOp c (pruneOp c op) = true)
    (hgen : responseForQuery c opIdx = .ok items) (hok : moduleOk c items = true)
    (j : Json) (hc : conformsOp c op j = true) :
    ∃ v, Serde.de (moduleEnv c items) (.path "ResponseData") j = .ok v :=
  Top.accepts_of_iff (treeD_precise_iff c opIdx op items hop ht hp hgen hok j) (conformsSel_loose_prune c _ _ _ hc)

/-- … and so is a payload conforming to the pruned operation (no entry for the denied fields): the case the
    losslessness theorems reduce to after erasing the denied keys -/
theorem treeD_accepts_pruned (c : Ctx) (opIdx : Nat) (op : ROperation) (items : List Item)
    (hop : c.q.operations[opIdx]? = some op) (ht : TreeOpD c op = true) (hp : TreeOp c (pruneOp c op) = true)
    (hgen : responseForQuery c opIdx = .ok items) (hok : moduleOk c items = true)
    (j : Json) (hc : conformsOp c (pruneOp c op) j = true) :
    ∃ v, Serde.de (moduleEnv c items) (.path "ResponseData") j = .ok v :=
  Top.accepts_of_iff (treeD_precise_iff c opIdx op items hop ht hp hgen hok j) (conforms_loose _ _ _ _ hc)

end Deny
end C01
end GqlVerif
