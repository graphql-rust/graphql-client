import GqlVerif.Proofs.SerdeFuelMono
import GqlVerif.Proofs.SerdeBasics
import GqlVerif.Model.Scope
import GqlVerif.Proofs.OutcomeLemmas
/-!
# how much fuel the serde model needs; above it the fuel never matters

`Ranked e c cf K`: a certificate that the *same-level* jumps of the environment (jumps to a named type that do not
consume JSON input: alias → target, extern alias → target, struct → flattened member, `Box` hops of `deFlat`) are
well-founded, with at most `K` of them in a row: `c : String → Nat` (named type read by `dePath`) and
`cf : String → Nat` (named type read by `deFlat`; a `Box` around a flattened member / alias target costs one unit
there) strictly decrease along each of them, and `c p < K`.  `RankedS e c K` is the part serialization needs.

Under `Ranked e c cf K` the need of `dePath e b _ p j` is `jsonSize j * K + c p + 1` (`(bufSize buf + 1) * K + tyCost cf t + 1`
for `deFlat`; `valSize v * K + c p + 1` for `serPath`, under `RankedS`): at or above it the result is never the
fuel-exhaustion error (`*_nf`), and any two fuels give the same result, value or error, buffered or not (`*_fuel_eq`).
-/
namespace GqlVerif
namespace SerdeFuel
open Serde

/-! ## sizes -/

theorem kvsSize_filter_le (q : String × Json → Bool) : ∀ (kvs : List (String × Json)), kvsSize (kvs.filter q) ≤ kvsSize kvs
  | [] => Nat.le_refl _
  | (k, v) :: rest => by
    have ih := kvsSize_filter_le q rest
    rw [List.filter_cons]
    split
    · rw [kvsSize, kvsSize]; omega
    · rw [kvsSize]; omega

theorem kvsSize_filter_lt (tag : String) : ∀ (kvs : List (String × Json)), 1 ≤ countKey tag kvs →
    kvsSize (kvs.filter (·.1 != tag)) + 1 ≤ kvsSize kvs
  | [], h => by simp [countKey] at h
  | (k, v) :: rest, h => by
    rw [List.filter_cons, kvsSize]
    by_cases hk : k = tag
    · subst hk
      have h1 := kvsSize_filter_le (·.1 != k) rest
      have h2 := jsonSize_pos v
      simp only [bne_self_eq_false, Bool.false_eq_true, ↓reduceIte]
      omega
    · have hc : 1 ≤ countKey tag rest := by
        have hb : (k == tag) = false := by simpa using hk
        simpa [countKey, List.filter_cons, hb] using h
      have ih := kvsSize_filter_lt tag rest hc
      have hb : (k != tag) = true := by simpa using hk
      simp only [hb, ↓reduceIte]
      rw [kvsSize]; omega

/-- the payload left in a flatten buffer -/
def bufSize (buf : Buf) : Nat := kvsSize (present buf)

theorem present_cons_none (buf : Buf) : present (none :: buf) = present buf := by
  simp [present]

theorem present_cons_some (kv : String × Json) (buf : Buf) : present (some kv :: buf) = kv :: present buf := by
  simp [present]

theorem takeKeys_size (keys : List String) : ∀ (buf : Buf),
    kvsSize (takeKeys keys buf).1 ≤ bufSize buf ∧ bufSize (takeKeys keys buf).2 ≤ bufSize buf
  | [] => by simp [takeKeys, bufSize, present, kvsSize]
  | none :: rest => by
    have ih := takeKeys_size keys rest
    simp only [takeKeys, bufSize, present_cons_none] at ih ⊢
    exact ih
  | some (k, v) :: rest => by
    have ih := takeKeys_size keys rest
    simp only [takeKeys, bufSize, present_cons_some, kvsSize] at ih ⊢
    split
    · simp only [kvsSize, present_cons_none]; omega
    · simp only [kvsSize, present_cons_some]; omega

/-! ## no building block produces the fuel-exhaustion error by itself -/

theorem nf_unmodelled_lit {α : Type} {w : String} (h : w ≠ "fuel") : NF (unmodelled w : D α) := by
  intro h'
  injection h' with h'
  injection h' with h'
  exact h h'

theorem nf_mapM {α β : Type} {f : α → D β} : ∀ (xs : List α), (∀ x ∈ xs, NF (f x)) → NF (xs.mapM f)
  | [], _ => nf_ok _
  | x :: xs, h => by
    rw [List.mapM_cons]
    refine nf_bind (h x List.mem_cons_self) (fun y _ => ?_)
    exact nf_bind (nf_mapM xs (fun z hz => h z (List.mem_cons_of_mem _ hz))) (fun _ _ => nf_pure _)

theorem deIntOrString_nf (j : Json) : NF (deIntOrString j) := by
  unfold deIntOrString
  split
  · split
    · exact nf_pure _
    · exact nf_bad _
  · exact nf_pure _
  · exact nf_bad _

theorem deNestedId_nf : ∀ (t : RTy) (j : Json), NF (deNestedId t j)
  | .path _, j => by simp only [deNestedId]; exact deIntOrString_nf j
  | .box t, j => by simp only [deNestedId]; exact deNestedId_nf t j
  | .opt t, j => by
    simp only [deNestedId]
    split
    · exact nf_pure _
    · exact nf_map.mpr (deNestedId_nf t j)
  | .vec t, j => by
    cases j with
    | arr xs =>
      simp only [deNestedId]
      exact nf_map.mpr (nf_mapM xs (fun x _ => deNestedId_nf t x))
    | _ => exact nf_bad _

theorem deHelper_nf (h : String) (ty : RTy) (j : Json) : NF (deHelper h ty j) := by
  unfold deHelper
  split
  · exact deIntOrString_nf j
  · split
    · split
      · exact nf_pure _
      · exact nf_map.mpr (deIntOrString_nf j)
    · split
      · exact deNestedId_nf ty j
      · refine nf_unmodelled_lit (fun hh => ?_)
        have := congrArg String.toList hh
        simp at this

theorem missingField_nf (f : RField) : NF (missingField f) := by
  unfold missingField
  split
  · exact nf_pure _
  · split
    · exact nf_bad _
    · split
      · exact nf_pure _
      · exact nf_bad _

theorem dePrim_nf {p : String} {j : Json} {r : D Val} (h : dePrim p j = some r) : NF r := by
  unfold dePrim at h
  split at h
  · cases h; split <;> first | exact nf_pure _ | exact nf_bad _
  · split at h
    · cases h
      split
      · split <;> first | exact nf_pure _ | exact nf_bad _
      · exact nf_bad _
    · split at h
      · cases h; split <;> first | exact nf_pure _ | exact nf_bad _
      · split at h
        · cases h; split <;> first | exact nf_pure _ | exact nf_bad _
        · cases h

/-! ## the building blocks: no fuel error if the named-type reader has none on smaller payloads -/

section With
variable {path : String → Json → D Val}

theorem deTyWith_nf : ∀ (t : RTy) (j : Json), (∀ j', jsonSize j' ≤ jsonSize j → NF (path (Scope.leaf t) j')) →
    NF (deTyWith path t j)
  | .path p, j, h => by simp only [deTyWith]; exact h j (Nat.le_refl _)
  | .box t, j, h => by simp only [deTyWith]; exact deTyWith_nf t j h
  | .opt t, j, h => by
    simp only [deTyWith]
    split
    · exact nf_pure _
    · exact nf_map.mpr (deTyWith_nf t j h)
  | .vec t, j, h => by
    cases j with
    | arr xs =>
      simp only [deTyWith]
      refine nf_map.mpr (nf_mapM xs (fun x hx => deTyWith_nf t x (fun j' hj' => h j' ?_)))
      have := jsonSize_le_of_mem hx
      rw [jsonSize]; omega
    | _ => exact nf_bad _

theorem deFieldWith_nf (f : RField) (j : Json) (h : ∀ j', jsonSize j' ≤ jsonSize j → NF (path (Scope.leaf f.ty) j')) :
    NF (deFieldWith path f j) := by
  unfold deFieldWith
  cases f.deserWith with
  | some hh => exact deHelper_nf hh f.ty j
  | none => exact deTyWith_nf f.ty j h

theorem deOwnWith_nf : ∀ (fs : List RField) (kvs : List (String × Json)),
    (∀ f ∈ fs, f.flatten = false → ∀ j, jsonSize j ≤ kvsSize kvs → NF (deFieldWith path f j)) →
    NF (deOwnWith path fs kvs)
  | [], _, _ => nf_pure _
  | f :: fs, kvs, h => by
    rw [deOwnWith.eq_2]
    refine nf_bind (deOwnWith_nf fs kvs (fun f' hf' => h f' (List.mem_cons_of_mem _ hf'))) (fun rest _ => ?_)
    split
    · exact nf_pure _
    · rename_i hfl
      split
      · exact nf_bad _
      · cases hl : Json.lookup f.wire kvs with
        | none => exact nf_bind (missingField_nf f) (fun _ _ => nf_pure _)
        | some j =>
          refine nf_bind (h f List.mem_cons_self (by simpa using hfl) j (lookup_size hl)) (fun _ _ => nf_pure _)

theorem deTaggedWith_nf (b : Bool) (tag : String) (vs : List RVariant) (kvs : List (String × Json))
    (h : ∀ v ∈ vs, ∀ t, v.payload = some t → ∀ j', jsonSize j' ≤ kvsSize kvs → NF (deTyWith path t j')) :
    NF (deTaggedWith path b tag vs kvs) := by
  unfold deTaggedWith
  split
  · exact nf_bad _
  · rename_i hc
    have hsz : jsonSize (.obj (kvs.filter (·.1 != tag))) ≤ kvsSize kvs := by
      have := kvsSize_filter_lt tag kvs (by omega)
      rw [jsonSize]; omega
    have hpick : ∀ v ∈ vs,
        NF (if v.other then (pure (.variant v.name none) : D Val) else
            match v.payload with
            | none => pure (.variant v.name none)
            | some t => (fun x => Val.variant v.name (some x)) <$> deTyWith path t (.obj (kvs.filter (·.1 != tag)))) := by
      intro v hv
      split
      · exact nf_pure _
      · cases hp : v.payload with
        | none => exact nf_pure _
        | some t => exact nf_map.mpr (h v hv t hp _ hsz)
    simp only []
    split
    · rename_i name _
      cases hf : vs.find? (fun v => !v.other && v.wire == name) with
      | none =>
        simp only []
        split
        · exact nf_pure _
        · exact nf_bad _
      | some v => exact hpick v (List.mem_of_find?_eq_some hf)
    · rename_i n _
      split
      · exact nf_bad _
      · split
        · exact nf_bad _
        · cases hg : vs[n.toNat]? with
          | none =>
            simp only []
            split
            · exact nf_pure _
            · exact nf_bad _
          | some v => exact hpick v (List.mem_of_getElem? hg)
    · exact nf_bad _
  · exact nf_bad _

end With

theorem deFlatsWith_nf {flat : RTy → Buf → D (Val × Buf)} (n : Nat)
    (hsz : ∀ t buf r, flat t buf = .ok r → bufSize r.2 ≤ bufSize buf) :
    ∀ (fs : List RField), (∀ f ∈ fs, f.flatten = true → ∀ buf, bufSize buf ≤ n → NF (flat f.ty buf)) →
      ∀ buf, bufSize buf ≤ n → NF (deFlatsWith flat fs buf)
  | [], _, _, _ => nf_pure _
  | f :: fs, h, buf, hb => by
    have ih := deFlatsWith_nf n hsz fs (fun f' hf' => h f' (List.mem_cons_of_mem _ hf'))
    rw [deFlatsWith.eq_2]
    split
    · exact ih buf hb
    · rename_i hfl
      refine nf_bind (h f List.mem_cons_self (by simpa using hfl) buf hb) (fun r hr => ?_)
      have := hsz f.ty buf r hr
      exact nf_bind (ih r.2 (by omega)) (fun _ _ => nf_pure _)

theorem deStructMapWith_nf {path : String → Json → D Val} {flat : RTy → Buf → D (Val × Buf)}
    (hsz : ∀ t buf r, flat t buf = .ok r → bufSize r.2 ≤ bufSize buf)
    (fields : List RField) (kvs : List (String × Json))
    (hown : ∀ f ∈ fields, f.flatten = false → ∀ j, jsonSize j ≤ kvsSize kvs → NF (deFieldWith path f j))
    (hflat : ∀ f ∈ fields, f.flatten = true → ∀ buf, bufSize buf ≤ kvsSize kvs → NF (flat f.ty buf)) :
    NF (deStructMapWith path flat fields kvs) := by
  unfold deStructMapWith
  refine nf_bind (deOwnWith_nf fields kvs hown) (fun own _ => ?_)
  split
  · refine nf_bind (deFlatsWith_nf (kvsSize kvs) hsz fields hflat _ ?_) (fun _ _ => nf_pure _)
    unfold bufSize
    rw [present_map_some]
    exact kvsSize_filter_le _ kvs
  · exact nf_pure _

theorem deStructWith_nf {path : String → Json → D Val} {flat : RTy → Buf → D (Val × Buf)}
    (hsz : ∀ t buf r, flat t buf = .ok r → bufSize r.2 ≤ bufSize buf)
    (fields : List RField) (j : Json)
    (hown : ∀ f ∈ fields, f.flatten = false → ∀ j', jsonSize j' + 1 ≤ jsonSize j → NF (deFieldWith path f j'))
    (hflat : ∀ f ∈ fields, f.flatten = true → ∀ buf, bufSize buf + 1 ≤ jsonSize j → NF (flat f.ty buf)) :
    NF (deStructWith path flat fields j) := by
  unfold deStructWith
  cases j with
  | obj kvs =>
    refine deStructMapWith_nf hsz fields kvs (fun f hf hfl j' hj' => hown f hf hfl j' ?_)
      (fun f hf hfl buf hb => hflat f hf hfl buf ?_)
    · rw [jsonSize]; omega
    · rw [jsonSize]; omega
  | arr xs =>
    simp only []
    split
    · exact nf_bad _
    · rename_i hany
      split
      · exact nf_bad _
      · refine nf_map.mpr (nf_mapM _ (fun fx hfx => ?_))
        obtain ⟨f, x⟩ := fx
        have hf : f ∈ fields := (List.of_mem_zip hfx).1
        have hx : x ∈ xs := (List.of_mem_zip hfx).2
        have hfl : f.flatten = false := by
          cases hh : f.flatten with
          | false => rfl
          | true => exact absurd (List.any_eq_true.mpr ⟨f, hf, hh⟩) hany
        refine nf_bind (hown f hf hfl x ?_) (fun _ _ => nf_pure _)
        have := jsonSize_le_of_mem hx
        rw [jsonSize]; omega
  | _ => exact nf_bad _

/-- a flattened member never hands on more than it received -/
theorem deFlat_size (e : Env) : ∀ (fuel : Nat) (t : RTy) (buf : Buf) (r : Val × Buf),
    deFlat e fuel t buf = .ok r → bufSize r.2 ≤ bufSize buf := by
  intro fuel
  induction fuel with
  | zero => intro t buf r h; rw [deFlat] at h; cases h
  | succ n ih =>
    intro t buf r h
    cases t with
    | box t => rw [deFlat] at h; exact ih t buf r h
    | opt t => simp only [deFlat] at h; cases h
    | vec t => simp only [deFlat] at h; cases h
    | path p =>
      rw [deFlat] at h
      split at h
      · exact ih _ buf r h
      · split at h
        · obtain ⟨v, _, h⟩ := C02.bind_ok h
          cases h; exact Nat.le_refl _
        · obtain ⟨own, _, h⟩ := C02.bind_ok h
          cases h
          exact (takeKeys_size _ buf).2
      · obtain ⟨v, _, h⟩ := C02.bind_ok h
        cases h; exact Nat.le_refl _
      · cases h

/-! ## the certificate -/

/-- cost of a type expression in flatten / alias-target position: the cost of its named type plus one per `Box`
    (`deFlat` spends one unit of fuel per `Box`) -/
def tyCost (c : String → Nat) : RTy → Nat
  | .path p => c p
  | .box t => tyCost c t + 1
  | .opt t => tyCost c t
  | .vec t => tyCost c t

theorem leaf_le_tyCost (c : String → Nat) : ∀ t : RTy, c (Scope.leaf t) ≤ tyCost c t
  | .path p => Nat.le_refl _
  | .box t => by have := leaf_le_tyCost c t; simp only [Scope.leaf, tyCost]; omega
  | .opt t => by simpa only [Scope.leaf, tyCost] using leaf_le_tyCost c t
  | .vec t => by simpa only [Scope.leaf, tyCost] using leaf_le_tyCost c t

/-- **the hypothesis on the environment**: two ranks, `c` for a named type read from JSON (`dePath`) and `cf` for a
    named type read as a flattened member (`deFlat`, where every `Box` costs a unit of fuel).  `c` strictly decreases
    from an alias / extern alias to its target and from a struct to its flattened members, `cf` from an alias to its
    target and from a struct to its flattened members (`Box`es counted: `tyCost cf`); `c` stays below `K`. -/
structure Ranked (e : Env) (c cf : String → Nat) (K : Nat) : Prop where
  bound : ∀ p, c p < K
  alias : ∀ p n pub t, e.find p = some (.alias n pub t) → c (Scope.leaf t) < c p
  extern : ∀ p x, e.find p = none → e.externs.find? (·.1 == p) = some x → c (Scope.leaf x.2) < c p
  flat : ∀ p n d sc fields, e.find p = some (.struct n d sc fields) → ∀ f ∈ fields, f.flatten = true → tyCost cf f.ty < c p
  aliasF : ∀ p n pub t, e.find p = some (.alias n pub t) → tyCost cf t < cf p
  flatF : ∀ p n d sc fields, e.find p = some (.struct n d sc fields) → ∀ f ∈ fields, f.flatten = true →
    tyCost cf f.ty < cf p

/-- one rank for both positions (every `Box` in an alias target counted) is a certificate -/
theorem Ranked.of_single {e : Env} {c : String → Nat} {K : Nat} (bound : ∀ p, c p < K)
    (alias : ∀ p n pub t, e.find p = some (.alias n pub t) → tyCost c t < c p)
    (extern : ∀ p x, e.find p = none → e.externs.find? (·.1 == p) = some x → c (Scope.leaf x.2) < c p)
    (flat : ∀ p n d sc fields, e.find p = some (.struct n d sc fields) → ∀ f ∈ fields, f.flatten = true → tyCost c f.ty < c p) :
    Ranked e c c K :=
  ⟨bound, fun p n pub t h => Nat.lt_of_le_of_lt (leaf_le_tyCost c t) (alias p n pub t h), extern, flat, alias, flat⟩

/-- the part of the certificate serialization needs: `c` decreases from an alias (extern alias) to its target's named
    type (serialization spends no fuel on `Box`) -/
structure RankedS (e : Env) (c : String → Nat) (K : Nat) : Prop where
  bound : ∀ p, c p < K
  alias : ∀ p n pub t, e.find p = some (.alias n pub t) → c (Scope.leaf t) < c p
  extern : ∀ p x, e.find p = none → e.externs.find? (·.1 == p) = some x → c (Scope.leaf x.2) < c p

theorem Ranked.toS {e : Env} {c cf : String → Nat} {K : Nat} (hr : Ranked e c cf K) : RankedS e c K :=
  ⟨hr.bound, hr.alias, hr.extern⟩

/-- one more level of the payload covers the rank of any type -/
theorem Ranked.need_le_succ_mul {e : Env} {c cf : String → Nat} {K : Nat} (hr : Ranked e c cf K) (p : String) (j : Json)
    {fuel : Nat} (hf : (jsonSize j + 1) * K ≤ fuel) : jsonSize j * K + c p + 1 ≤ fuel := by
  have := hr.bound p
  rw [Nat.succ_mul] at hf
  omega

/-! ## never out of fuel above the need -/

theorem mul_succ_le {a b K : Nat} (h : a + 1 ≤ b) : a * K + K ≤ b * K := by
  have := Nat.mul_le_mul_right K h
  rw [Nat.succ_mul] at this
  exact this

theorem de_nf {e : Env} {c cf : String → Nat} {K : Nat} (hr : Ranked e c cf K) : ∀ (fuel : Nat),
    (∀ b p j, jsonSize j * K + c p + 1 ≤ fuel → NF (dePath e b fuel p j)) ∧
    (∀ t buf, (bufSize buf + 1) * K + tyCost cf t + 1 ≤ fuel → NF (deFlat e fuel t buf)) := by
  intro fuel
  induction fuel with
  | zero => exact ⟨fun b p j h => by omega, fun t buf h => by omega⟩
  | succ n ih =>
    obtain ⟨ihP, ihF⟩ := ih
    -- a type expression read at the same level
    have hTy : ∀ b t j, jsonSize j * K + c (Scope.leaf t) + 1 ≤ n → NF (deTyWith (dePath e b n) t j) := by
      intro b t j h
      refine deTyWith_nf t j (fun j' hj' => ihP b _ j' ?_)
      have := Nat.mul_le_mul_right K hj'
      omega
    -- a type expression read one level down
    have hTy' : ∀ b t j, jsonSize j * K + K ≤ n → NF (deTyWith (dePath e b n) t j) := by
      intro b t j h
      have := hr.bound (Scope.leaf t)
      exact hTy b t j (by omega)
    have hField : ∀ b f j, jsonSize j * K + K ≤ n → NF (deFieldWith (dePath e b n) f j) := by
      intro b f j h
      have := hr.bound (Scope.leaf f.ty)
      refine deFieldWith_nf f j (fun j' hj' => ihP b _ j' ?_)
      have := Nat.mul_le_mul_right K hj'
      omega
    refine ⟨fun b p j h => ?_, fun t buf h => ?_⟩
    · rw [dePath]
      split
      · rename_i r hprim; exact dePrim_nf hprim
      · cases hfind : e.find p with
        | none =>
          simp only []
          cases hx : e.externs.find? (·.1 == p) with
          | none =>
            refine nf_unmodelled_lit (fun hh => ?_)
            have := congrArg String.toList hh
            simp at this
          | some x =>
            have := hr.extern p x hfind hx
            exact hTy b x.2 j (by omega)
        | some it =>
          cases it with
          | alias n' pub t =>
            have h1 := hr.alias p n' pub t hfind
            exact hTy b t j (by omega)
          | struct n' d sc fields =>
            simp only []
            refine deStructWith_nf (deFlat_size e n) fields j (fun f _ _ j' hj' => hField b f j' ?_)
              (fun f hf hfl buf hb => ihF f.ty buf ?_)
            · have := mul_succ_le (K := K) hj'; omega
            · have h1 := hr.flat p n' d sc fields hfind f hf hfl
              have := Nat.mul_le_mul_right K hb
              omega
          | unitStruct n' d sc =>
            simp only []
            split
            · exact nf_pure _
            · exact nf_bad _
          | tagged n' d sc tag vs =>
            simp only []
            cases j with
            | obj kvs =>
              refine deTaggedWith_nf b tag vs kvs (fun v _ t _ j' hj' => hTy' true t j' ?_)
              have : jsonSize j' + 1 ≤ jsonSize (.obj kvs) := by rw [jsonSize]; omega
              have := mul_succ_le (K := K) this; omega
            | arr xs => exact nf_unmodelled_lit (by decide)
            | _ => exact nf_bad _
          | gqlEnum n' d sp vs ser de =>
            simp only []
            split
            · split
              · exact nf_pure _
              · exact nf_pure _
            · exact nf_bad _
          | oneOf n' d sc vs =>
            simp only []
            split
            · rename_i k v _
              split
              · split
                · refine nf_map.mpr (hTy' b _ v ?_)
                  have : jsonSize v + 1 ≤ jsonSize (.obj [(k, v)]) := by simp only [jsonSize, kvsSize]; omega
                  have := mul_succ_le (K := K) this; omega
                · exact nf_unmodelled_lit (by decide)
              · exact nf_bad _
            · exact nf_bad _
          | defaults fns => exact nf_unmodelled_lit (by decide)
    · cases t with
      | box t =>
        rw [deFlat]
        refine ihF t buf ?_
        simp only [tyCost] at h; omega
      | opt t => simp only [deFlat]; exact nf_unmodelled_lit (by decide)
      | vec t => simp only [deFlat]; exact nf_unmodelled_lit (by decide)
      | path p =>
        rw [deFlat]
        simp only [tyCost] at h
        have hK : bufSize buf * K + K ≤ n := by
          have : (bufSize buf + 1) * K = bufSize buf * K + K := Nat.succ_mul _ _
          omega
        have hno : ∀ α : Type, NF (unmodelled ("flatten of " ++ p) : D α) := by
          intro α
          refine nf_unmodelled_lit (fun hh => ?_)
          have := congrArg String.toList hh
          simp at this
        cases hfind : e.find p with
        | none => exact hno _
        | some it =>
          cases it with
          | alias n' pub t' =>
            have h1 := hr.aliasF p n' pub t' hfind
            exact ihF t' buf (by omega)
          | struct n' d sc fields =>
            simp only []
            split
            · refine nf_bind ?_ (fun _ _ => nf_pure _)
              refine deStructMapWith_nf (deFlat_size e n) fields _ (fun f _ _ j' hj' => hField true f j' ?_)
                (fun f hf hfl buf' hb => ihF f.ty buf' ?_)
              · have : jsonSize j' ≤ bufSize buf := hj'
                have := Nat.mul_le_mul_right K this; omega
              · have h1 := hr.flatF p n' d sc fields hfind f hf hfl
                have : bufSize buf' ≤ bufSize buf := hb
                have := Nat.mul_le_mul_right K (Nat.add_le_add_right this 1)
                omega
            · refine nf_bind ?_ (fun _ _ => nf_pure _)
              refine deOwnWith_nf fields _ (fun f _ _ j' hj' => hField true f j' ?_)
              have := (takeKeys_size (fields.map (·.wire)) buf).1
              have : jsonSize j' ≤ bufSize buf := by omega
              have := Nat.mul_le_mul_right K this; omega
          | tagged n' d sc tag vs =>
            refine nf_bind ?_ (fun _ _ => nf_pure _)
            refine deTaggedWith_nf true tag vs _ (fun v _ t _ j' hj' => hTy' true t j' ?_)
            have : jsonSize j' ≤ bufSize buf := hj'
            have := Nat.mul_le_mul_right K this; omega
          | unitStruct n' d sc => exact hno _
          | gqlEnum n' d sp vs ser de => exact hno _
          | oneOf n' d sc vs => exact hno _
          | defaults fns => exact hno _

theorem dePath_nf {e : Env} {c cf : String → Nat} {K : Nat} (hr : Ranked e c cf K) (b : Bool) (fuel : Nat) (p : String) (j : Json)
    (h : jsonSize j * K + c p + 1 ≤ fuel) : dePath e b fuel p j ≠ .error fuelErr :=
  (de_nf hr fuel).1 b p j h

theorem deFlat_nf {e : Env} {c cf : String → Nat} {K : Nat} (hr : Ranked e c cf K) (fuel : Nat) (t : RTy) (buf : Buf)
    (h : (bufSize buf + 1) * K + tyCost cf t + 1 ≤ fuel) : deFlat e fuel t buf ≠ .error fuelErr :=
  (de_nf hr fuel).2 t buf h

theorem deTy_nf {e : Env} {c cf : String → Nat} {K : Nat} (hr : Ranked e c cf K) (b : Bool) (fuel : Nat) (t : RTy) (j : Json)
    (h : jsonSize j * K + c (Scope.leaf t) + 1 ≤ fuel) : deTy e b fuel t j ≠ .error fuelErr := by
  refine deTyWith_nf t j (fun j' hj' => dePath_nf hr b fuel _ j' ?_)
  have := Nat.mul_le_mul_right K hj'
  omega

/-- `deStructWith_nf` specialised to the struct reader as `dePath` calls it for a struct item `p` of the environment
    (`fuel` is what is left after the jump to `p`): the primed name is an instance, not a variant -/
theorem deStructWith_nf' {e : Env} {c cf : String → Nat} {K : Nat} (hr : Ranked e c cf K) (b : Bool) (fuel : Nat)
    {p n : String} {d : List String} {sc : Option String} {fields : List RField}
    (hfind : e.find p = some (.struct n d sc fields)) (j : Json) (h : jsonSize j * K + c p ≤ fuel) :
    deStructWith (dePath e b fuel) (deFlat e fuel) fields j ≠ .error fuelErr := by
  refine deStructWith_nf (deFlat_size e fuel) fields j (fun f _ _ j' hj' => ?_) (fun f hf hfl buf hb => ?_)
  · refine deFieldWith_nf f j' (fun j'' hj'' => dePath_nf hr b fuel _ j'' ?_)
    have h1 := hr.bound (Scope.leaf f.ty)
    have h2 := mul_succ_le (K := K) hj'
    have h3 := Nat.mul_le_mul_right K hj''
    omega
  · refine deFlat_nf hr fuel f.ty buf ?_
    have h1 := hr.flat p n d sc fields hfind f hf hfl
    have h2 := Nat.mul_le_mul_right K hb
    omega

/-! ## above the need the fuel does not matter -/

theorem eq_of_nf_le {α : Type} (f : Nat → D α) (hmono : ∀ {n m : Nat}, n ≤ m → Le (f n) (f m)) {need fuel fuel' : Nat}
    (hnf : NF (f need)) (h1 : need ≤ fuel) (h2 : need ≤ fuel') : f fuel = f fuel' := by
  rw [hmono h1 hnf, hmono h2 hnf]

theorem dePath_fuel_eq {e : Env} {c cf : String → Nat} {K : Nat} (hr : Ranked e c cf K) (b : Bool) (fuel fuel' : Nat)
    (p : String) (j : Json) (h1 : jsonSize j * K + c p + 1 ≤ fuel) (h2 : jsonSize j * K + c p + 1 ≤ fuel') :
    dePath e b fuel p j = dePath e b fuel' p j :=
  eq_of_nf_le (fun n => dePath e b n p j) (fun h => dePath_le e b h p j) (dePath_nf hr b _ p j (Nat.le_refl _)) h1 h2

theorem deFlat_fuel_eq {e : Env} {c cf : String → Nat} {K : Nat} (hr : Ranked e c cf K) (fuel fuel' : Nat)
    (t : RTy) (buf : Buf) (h1 : (bufSize buf + 1) * K + tyCost cf t + 1 ≤ fuel)
    (h2 : (bufSize buf + 1) * K + tyCost cf t + 1 ≤ fuel') :
    deFlat e fuel t buf = deFlat e fuel' t buf :=
  eq_of_nf_le (fun n => deFlat e n t buf) (fun h => deFlat_le e h t buf) (deFlat_nf hr _ t buf (Nat.le_refl _)) h1 h2

theorem deTy_fuel_eq {e : Env} {c cf : String → Nat} {K : Nat} (hr : Ranked e c cf K) (b : Bool) (fuel fuel' : Nat)
    (t : RTy) (j : Json) (h1 : jsonSize j * K + c (Scope.leaf t) + 1 ≤ fuel)
    (h2 : jsonSize j * K + c (Scope.leaf t) + 1 ≤ fuel') :
    deTy e b fuel t j = deTy e b fuel' t j :=
  eq_of_nf_le (fun n => deTy e b n t j) (fun h => deTyWith_le (fun p j => dePath_le e b h p j) t j)
    (deTy_nf hr b _ t j (Nat.le_refl _)) h1 h2

theorem deStructWith_fuel_eq {e : Env} {c cf : String → Nat} {K : Nat} (hr : Ranked e c cf K) (b : Bool) (fuel fuel' : Nat)
    {p n : String} {d : List String} {sc : Option String} {fields : List RField}
    (hfind : e.find p = some (.struct n d sc fields)) (j : Json)
    (h1 : jsonSize j * K + c p ≤ fuel) (h2 : jsonSize j * K + c p ≤ fuel') :
    deStructWith (dePath e b fuel) (deFlat e fuel) fields j = deStructWith (dePath e b fuel') (deFlat e fuel') fields j :=
  eq_of_nf_le (fun n => deStructWith (dePath e b n) (deFlat e n) fields j)
    (fun h => deStructWith_le (fun p j => dePath_le e b h p j) (fun t buf => deFlat_le e h t buf) fields j)
    (deStructWith_nf' hr b _ hfind j (Nat.le_refl _)) h1 h2

/-! ## serialization -/

theorem valSize_le_of_find {vals : List (String × Val)} {q : String × Val → Bool} {nv : String × Val}
    (h : vals.find? q = some nv) : valSize nv.2 ≤ fieldsSize vals :=
  valSize_le_of_field (n := nv.1) (List.mem_of_find?_eq_some h)

section SerWith
variable {path : String → Val → D Json}

theorem serTyWith_nf : ∀ (t : RTy) (v : Val), (∀ v', valSize v' ≤ valSize v → NF (path (Scope.leaf t) v')) →
    NF (serTyWith path t v)
  | .path p, v, h => by simp only [serTyWith]; exact h v (Nat.le_refl _)
  | .box t, v, h => by simp only [serTyWith]; exact serTyWith_nf t v h
  | .opt t, v, h => by
    cases v with
    | some x =>
      simp only [serTyWith]
      refine serTyWith_nf t x (fun v' hv' => h v' ?_)
      simp only [valSize]; omega
    | unit => exact nf_pure _
    | _ => exact nf_unmodelled_lit (by decide)
  | .vec t, v, h => by
    cases v with
    | list xs =>
      simp only [serTyWith]
      refine nf_map.mpr (nf_mapM xs (fun x hx => serTyWith_nf t x (fun v' hv' => h v' ?_)))
      have := valSize_le_of_mem hx
      simp only [valSize]; omega
    | _ => exact nf_unmodelled_lit (by decide)

theorem serFieldsWith_nf : ∀ (fs : List RField) (vals : List (String × Val)),
    (∀ f ∈ fs, ∀ v, valSize v ≤ fieldsSize vals → NF (serTyWith path f.ty v)) → NF (serFieldsWith path fs vals)
  | [], _, _ => nf_pure _
  | f :: fs, vals, h => by
    rw [serFieldsWith.eq_2]
    refine nf_bind (serFieldsWith_nf fs vals (fun f' hf' => h f' (List.mem_cons_of_mem _ hf'))) (fun rest _ => ?_)
    cases hfd : vals.find? (·.1 == f.rust) with
    | none =>
      refine nf_unmodelled_lit (fun hh => ?_)
      have := congrArg String.toList hh
      simp at this
    | some nv =>
      have hv := h f List.mem_cons_self nv.2 (valSize_le_of_find hfd)
      simp only []
      split
      · refine nf_bind hv (fun x _ => ?_)
        split
        · exact nf_pure _
        · exact nf_bad _
      · split
        · exact nf_pure _
        · exact nf_bind hv (fun _ _ => nf_pure _)

end SerWith

theorem ser_nf {e : Env} {c : String → Nat} {K : Nat} (hr : RankedS e c K) : ∀ (fuel : Nat) (p : String) (v : Val),
    valSize v * K + c p + 1 ≤ fuel → NF (serPath e fuel p v) := by
  intro fuel
  induction fuel with
  | zero => intro p v h; omega
  | succ n ih =>
    intro p v h
    have hTy : ∀ t v', valSize v' * K + c (Scope.leaf t) + 1 ≤ n → NF (serTyWith (serPath e n) t v') := by
      intro t v' h'
      refine serTyWith_nf t v' (fun v'' hv'' => ih _ v'' ?_)
      have := Nat.mul_le_mul_right K hv''
      omega
    have hTy' : ∀ t v', valSize v' + 1 ≤ valSize v → NF (serTyWith (serPath e n) t v') := by
      intro t v' h'
      have h1 := hr.bound (Scope.leaf t)
      have h2 := mul_succ_le (K := K) h'
      exact hTy t v' (by omega)
    rw [serPath]
    split
    · exact nf_pure _
    · cases hfind : e.find p with
      | none =>
        simp only []
        cases hx : e.externs.find? (·.1 == p) with
        | none =>
          refine nf_unmodelled_lit (fun hh => ?_)
          have := congrArg String.toList hh
          simp at this
        | some x =>
          have := hr.extern p x hfind hx
          exact hTy x.2 v (by omega)
      | some it =>
        cases it with
        | alias n' pub t =>
          have h1 := hr.alias p n' pub t hfind
          exact hTy t v (by omega)
        | struct n' d sc fields =>
          simp only []
          cases v with
          | record vals =>
            refine nf_map.mpr (serFieldsWith_nf fields vals (fun f _ v' hv' => hTy' f.ty v' ?_))
            simp only [valSize]; omega
          | _ => exact nf_unmodelled_lit (by decide)
        | unitStruct n' d sc => exact nf_pure _
        | tagged n' d sc tag vs =>
          simp only []
          cases v with
          | variant name payload =>
            simp only []
            split
            · exact nf_pure _
            · rename_i var pv _ _
              split
              · refine nf_bind (hTy' _ pv (by simp only [valSize]; omega)) (fun x _ => ?_)
                split
                · exact nf_pure _
                · exact nf_unmodelled_lit (by decide)
              · exact nf_unmodelled_lit (by decide)
            · exact nf_unmodelled_lit (by decide)
          | _ => exact nf_unmodelled_lit (by decide)
        | gqlEnum n' d sp vs ser de =>
          simp only []
          split
          · split
            · exact nf_pure _
            · exact nf_unmodelled_lit (by decide)
          · exact nf_unmodelled_lit (by decide)
        | oneOf n' d sc vs =>
          simp only []
          split
          · rename_i name pv _
            split
            · split
              · exact nf_bind (hTy' _ pv (by simp only [valSize]; omega)) (fun _ _ => nf_pure _)
              · exact nf_unmodelled_lit (by decide)
            · exact nf_unmodelled_lit (by decide)
          · exact nf_unmodelled_lit (by decide)
        | defaults fns => exact nf_unmodelled_lit (by decide)

theorem serTy_nf {e : Env} {c : String → Nat} {K : Nat} (hr : RankedS e c K) (fuel : Nat) (t : RTy) (v : Val)
    (h : valSize v * K + c (Scope.leaf t) + 1 ≤ fuel) : serTy e fuel t v ≠ .error fuelErr := by
  refine serTyWith_nf t v (fun v' hv' => ser_nf hr fuel _ v' ?_)
  have := Nat.mul_le_mul_right K hv'
  omega

theorem serPath_fuel_eq {e : Env} {c : String → Nat} {K : Nat} (hr : RankedS e c K) (fuel fuel' : Nat)
    (p : String) (v : Val) (h1 : valSize v * K + c p + 1 ≤ fuel) (h2 : valSize v * K + c p + 1 ≤ fuel') :
    serPath e fuel p v = serPath e fuel' p v :=
  eq_of_nf_le (fun n => serPath e n p v) (fun h => serPath_le e h p v) (ser_nf hr _ p v (Nat.le_refl _)) h1 h2

theorem serTy_fuel_eq {e : Env} {c : String → Nat} {K : Nat} (hr : RankedS e c K) (fuel fuel' : Nat)
    (t : RTy) (v : Val) (h1 : valSize v * K + c (Scope.leaf t) + 1 ≤ fuel)
    (h2 : valSize v * K + c (Scope.leaf t) + 1 ≤ fuel') :
    serTy e fuel t v = serTy e fuel' t v :=
  eq_of_nf_le (fun n => serTy e n t v) (fun h => serTyWith_le (fun p v => serPath_le e h p v) t v)
    (serTy_nf hr _ t v (Nat.le_refl _)) h1 h2

end SerdeFuel
end GqlVerif
