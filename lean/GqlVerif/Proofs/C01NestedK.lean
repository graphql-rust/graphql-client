import GqlVerif.Proofs.C01NestedD
/-!
# `NestedOp`: the class makes the spread graph of the reachable fragments acyclic

`NestedOp` is defined through ranks, so no cycle of same-type spreads passes through a fragment reachable from the operation:
the emitted module is `Acyclic`, `EnvOK`, `EnvOKS` with **no acyclicity hypothesis on the document**
(`AcyclicM.module_envOK_of_reachRanked`, `nested_module_envOK`).

`reachRanked_of_ranks` is stated for any family `okr r` that starts with spread-free fragments, grows with `r` and admits at
rank `r + 1` only fragments whose body is over rank `r`: the reachable fragments are ranked by the first rank at which they
are in the class (`firstOk`; `rhoN` for `fragOkN`).  `AliasFragOp` uses it with `fragOkA` (`C01AliasFragK`).
-/

namespace GqlVerif
namespace C01N
open Serde Spec C13 C03 Codegen C01 C01.E2E C01M

mutual
  theorem spreadIds_classN (ok : TypeId → Nat → Bool) (s : Schema) (q : Query) (o : Options) : ∀ (x : Sel) (p : Nat),
      nSel ok s q o (.object p) x = true → ∀ g ∈ spreadIds x, FragOkAny s q o g ∨ ∃ p', ok (.object p') g = true
    | .field a fid sub, p => by
      intro ht g hg
      have IH := spreadIdss_classN ok s q o sub
      obtain ⟨sf, hsf⟩ := nSel_field_some ht
      by_cases hobj : ∃ i, sf.ty.id = .object i
      · obtain ⟨i, hid⟩ := hobj
        obtain ⟨_, _, _, hbody⟩ := nSel_obj hsf hid ht
        rw [spreadIds] at hg
        rcases lone_or_not sub with hsp | hnl
        · obtain ⟨g', rfl⟩ := hsp
          simp only [spreadIdss, spreadIds, List.append_nil, List.mem_singleton] at hg
          subst hg
          exact .inr ⟨i, hbody⟩
        · rw [nBody_not_lone hnl] at hbody
          exact IH i hbody g hg
      · have hno : ∀ i, sf.ty.id ≠ .object i := fun i h => hobj ⟨i, h⟩
        exact .inl (fragOk_of_spreadIdS s q o _ false (nSel_nonobj hsf hno ht) g hg (by simp))
    | .spread g', p => by
      intro ht g hg
      simp only [spreadIds, List.mem_singleton] at hg
      subst hg
      exact .inr ⟨p, by simpa [nSel] using ht⟩
    | .inline _ _, _ => by intro ht; simp [nSel] at ht
    | .typename, _ => by intro _ g hg; simp [spreadIds] at hg
  theorem spreadIdss_classN (ok : TypeId → Nat → Bool) (s : Schema) (q : Query) (o : Options) :
      ∀ (sels : List Sel) (p : Nat), nSels ok s q o (.object p) sels = true →
      ∀ g ∈ spreadIdss sels, FragOkAny s q o g ∨ ∃ p', ok (.object p') g = true
    | [], _ => by intro _ g hg; simp [spreadIdss] at hg
    | x :: xs, p => by
      intro ht g hg
      obtain ⟨hx, hxs⟩ := nSels_cons ht
      rw [spreadIdss, List.mem_append] at hg
      rcases hg with hg | hg
      · exact spreadIds_classN ok s q o x p hx g hg
      · exact spreadIdss_classN ok s q o xs p hxs g hg
end

theorem spreadIdss_class_body {ok : TypeId → Nat → Bool} {s : Schema} {q : Query} {o : Options} {p : Nat}
    {sels : List Sel} (h : nBody ok s q o (.object p) sels = true) :
    ∀ g ∈ spreadIdss sels, FragOkAny s q o g ∨ ∃ p', ok (.object p') g = true := by
  rcases lone_or_not sels with hsp | hnl
  · obtain ⟨g', rfl⟩ := hsp
    intro g hg
    simp only [spreadIdss, spreadIds, List.append_nil, List.mem_singleton] at hg
    subst hg
    exact .inr ⟨p, h⟩
  · rw [nBody_not_lone hnl] at h
    exact spreadIdss_classN ok s q o sels p h

/-! ## the first rank -/

/-- scanning down from `n`: one more than the last `r < n` at which `P` fails (`0` if there is none) -/
def firstOk (P : Nat → Bool) : Nat → Nat
  | 0 => 0
  | n + 1 => if P n then firstOk P n else n + 1

theorem firstOk_le {P : Nat → Bool} (hmono : ∀ r, P r = true → P (r + 1) = true) {r : Nat} (hr : P r = true) :
    ∀ n, firstOk P n ≤ r
  | 0 => Nat.zero_le _
  | n + 1 => by
    rw [firstOk]
    split
    · exact firstOk_le hmono hr n
    · rename_i hn
      have hmono' : ∀ k, P (r + k) = true := by
        intro k; induction k with
        | zero => exact hr
        | succ k ih => exact hmono _ ih
      by_cases hle : r ≤ n
      · obtain ⟨k, rfl⟩ : ∃ k, n = r + k := ⟨n - r, by omega⟩
        exact absurd (hmono' k) hn
      · omega

theorem firstOk_cases {P : Nat → Bool} : ∀ n, P n = true →
    (firstOk P (n + 1) = 0 ∧ P 0 = true) ∨ ∃ r0, firstOk P (n + 1) = r0 + 1 ∧ P r0 = false ∧ P (r0 + 1) = true
  | 0, h => .inl ⟨by rw [firstOk, if_pos h, firstOk], h⟩
  | n + 1, h => by
    rw [firstOk, if_pos h]
    cases hn : P n
    · exact .inr ⟨n, by rw [firstOk]; simp [hn], hn, h⟩
    · exact firstOk_cases n hn

/-- a selection set of the class spreads, at its own top level, fragments that satisfy `ok` -/
theorem nBody_spread_mem {ok : TypeId → Nat → Bool} {s : Schema} {q : Query} {o : Options} {p : TypeId} {sels : List Sel}
    {h : Nat} (hb : nBody ok s q o p sels = true) (hmem : Sel.spread h ∈ sels) : ok p h = true := by
  rcases lone_or_not sels with ⟨g', rfl⟩ | hnl
  · simp only [List.mem_singleton, Sel.spread.injEq] at hmem
    subst hmem
    exact hb
  · rw [nBody_not_lone hnl] at hb
    simpa [nSel] using nSels_mem hb _ hmem

/-- **fragments that enter a class rank by rank are ranked along same-type spreads**: `okr 0` are spread-free fragments,
    `okr` grows with the rank, and a fragment new at rank `r + 1` has a body over the fragments of rank `r`; the rank of a
    fragment is the first one at which it is in the class.  Of the selection set only this is used: every fragment spread in
    it, at any depth, is spread-free or of rank `R`. -/
theorem reachRanked_of_ranks (c : Ctx) (okr : Nat → TypeId → Nat → Bool) (R : Nat) (sels : List Sel)
    (hspec : ∀ r, OkSpec c.q (okr r))
    (hzero : ∀ p g, okr 0 p g = true → fragOk c.s c.q c.o p g = true)
    (hmono : ∀ r p g, okr r p g = true → okr (r + 1) p g = true)
    (hnew : ∀ r p g, okr r p g = false → okr (r + 1) p g = true →
      ∃ f, c.q.fragments[g]? = some f ∧ f.on = p ∧ nBody (okr r) c.s c.q c.o f.on f.sels = true)
    (hroot : ∀ h ∈ spreadIdss sels, FragOkAny c.s c.q c.o h ∨ ∃ p', okr R (.object p') h = true) :
    AcyclicM.ReachRanked c.q sels (fun g => firstOk (fun r => okr r (fragOn c.q g) g) (R + 1)) := by
  have hle : ∀ {r r' p g}, r ≤ r' → okr r p g = true → okr r' p g = true := by
    intro r r' p g hrr h
    induction hrr with
    | refl => exact h
    | step _ ih => exact hmono _ _ _ ih
  -- a fragment of the class is spread-free, or new at some rank below `R`
  have hcases : ∀ {p g}, okr R p g = true → fragOk c.s c.q c.o p g = true ∨
      ∃ r0, r0 < R ∧ firstOk (fun r => okr r p g) (R + 1) = r0 + 1 ∧
        ∃ f, c.q.fragments[g]? = some f ∧ f.on = p ∧ nBody (okr r0) c.s c.q c.o f.on f.sels = true := by
    intro p g hg
    rcases firstOk_cases (P := fun r => okr r p g) R hg with ⟨_, h00⟩ | ⟨r0, hrho, hno, hyes⟩
    · exact .inl (hzero p g h00)
    · refine .inr ⟨r0, ?_, hrho, hnew r0 p g hno hyes⟩
      by_cases hlt : r0 < R
      · exact hlt
      · have := hle (show R ≤ r0 by omega) hg
        rw [hno] at this; cases this
  -- the fragments reachable from the selection set
  let G : Nat → Prop := fun g => FragOkAny c.s c.q c.o g ∨ ∃ i, okr R (.object i) g = true
  have hfree : ∀ g, FragOkAny c.s c.q c.o g → ∀ f, c.q.fragments[g]? = some f → ∀ h, Sel.spread h ∉ f.sels := by
    intro g hg f hf h
    rcases hg with ⟨i, hg⟩ | ⟨ty, _, hg⟩
    · obtain ⟨f', hf', _, _, hv, _⟩ := fragOk_parts hg
      rw [hf] at hf'; cases hf'
      exact no_spread_of_vSels hv h
    · obtain ⟨f', hf', _, _, hv, _⟩ := fragOkB_parts hg
      rw [hf] at hf'; cases hf'
      exact no_spread_of_vSels hv h
  have hfree' : ∀ g, FragOkAny c.s c.q c.o g → spreadIdss (fragSels c.q g) = [] := by
    intro g hg
    rcases hg with ⟨i, hg⟩ | ⟨ty, _, hg⟩
    · obtain ⟨f, hf, _, _, hv, _⟩ := fragOk_parts hg
      have : fragSels c.q g = f.sels := by simp [fragSels, hf]
      rw [this]; exact spreadIdss_noSpreads f.sels (noSpreads_of_vSels c.s c.o f.sels false hv)
    · obtain ⟨f, hf, _, _, hv, _⟩ := fragOkB_parts hg
      have : fragSels c.q g = f.sels := by simp [fragSels, hf]
      rw [this]; exact spreadIdss_noSpreads f.sels (noSpreads_of_vSels c.s c.o f.sels true hv)
  have hcl : ∀ g, G g → ∀ h ∈ spreadIdss (fragSels c.q g), G h := by
    intro g hg h hh
    rcases hg with hg | ⟨i, hg⟩
    · rw [hfree' g hg] at hh; cases hh
    · rcases hcases hg with hg0 | ⟨r0, hr0, _, f, hf, hon, hb⟩
      · rw [hfree' g (.inl ⟨i, hg0⟩)] at hh; cases hh
      · have : fragSels c.q g = f.sels := by simp [fragSels, hf]
        rw [this] at hh
        rw [hon] at hb
        rcases spreadIdss_class_body hb h hh with h1 | ⟨p', h1⟩
        · exact .inl h1
        · exact .inr ⟨p', hle (by omega) h1⟩
  intro g hr f hf h hh
  have hG : G g := AcyclicM.reach_spread_in_closed c.q G hcl hroot hr
  have hmem : Sel.spread h ∈ f.sels := AcyclicM.mem_topSpreads.mp (AcyclicM.jumpSpreads_sub_top c.q f h hh)
  rcases hG with hg | ⟨i, hg⟩
  · exact absurd hmem (hfree g hg f hf h)
  · obtain ⟨f', hf', hon, _, _⟩ := hspec _ _ g hg
    rw [hf] at hf'; cases hf'
    have hfon : fragOn c.q g = .object i := by simp [fragOn, hf, hon]
    rcases hcases hg with hg0 | ⟨r0, _, hrho, f', hf', _, hb⟩
    · exact absurd hmem (hfree g (.inl ⟨i, hg0⟩) f hf h)
    · rw [hf] at hf'; cases hf'
      have hokh : okr r0 f.on h = true := nBody_spread_mem hb hmem
      obtain ⟨fh, hfh, honh, _, _⟩ := hspec _ _ h hokh
      have hfonh : fragOn c.q h = f.on := by simp [fragOn, hfh, honh]
      have hle' : firstOk (fun r => okr r (fragOn c.q h) h) (R + 1) ≤ r0 :=
        firstOk_le (P := fun r => okr r (fragOn c.q h) h) (fun r => hmono r _ h) (by rw [hfonh]; exact hokh) _
      show firstOk (fun r => okr r (fragOn c.q h) h) (R + 1) < firstOk (fun r => okr r (fragOn c.q g) g) (R + 1)
      rw [hfon, hrho]
      omega

/-- the first rank at which the fragment `g` is in the class -/
def rhoN (c : Ctx) (g : Nat) : Nat :=
  firstOk (fun r => fragOkN c.s c.q c.o r (fragOn c.q g) g) (c.q.fragments.length + 1)

/-- the ladder `fragOkN`: from a selection set whose spread fragments are spread-free or of the top rank, the reachable
    fragments are ranked by `rhoN` -/
theorem reachRanked_fragOkN (c : Ctx) (sels : List Sel)
    (hroot : ∀ h ∈ spreadIdss sels, FragOkAny c.s c.q c.o h ∨
      ∃ p', fragOkN c.s c.q c.o c.q.fragments.length (.object p') h = true) :
    AcyclicM.ReachRanked c.q sels (rhoN c) :=
  reachRanked_of_ranks c (fragOkN c.s c.q c.o) _ sels (fragOkN_spec c.s c.q c.o)
    (fun p g h => by rw [fragOkN] at h; exact h) (fun _ _ _ => fragOkN_succ)
    (fun r p g hno hyes => by
      rw [fragOkN, hno, Bool.false_or] at hyes
      obtain ⟨f, hf, hon, _, _, hnl, hb⟩ := fragNew_parts hyes
      exact ⟨f, hf, hon, by rw [nBody_not_lone hnl]; exact hb⟩)
    hroot

/-- **the reachable fragments of an operation of `NestedOp` are ranked along same-type spreads** -/
theorem nested_reachRanked (c : Ctx) (op : ROperation) (ht : NestedOp c op = true) :
    AcyclicM.ReachRanked c.q op.sels (rhoN c) :=
  reachRanked_fragOkN c op.sels (spreadIdss_class_body (nestedOp_parts ht).2.2)

/-- **the module of an operation of `NestedOp` is `EnvOK` and `EnvOKS`** (no fuel exhaustion, fuel independence), with no
    acyclicity hypothesis on the document -/
theorem nested_module_envOK {c : Ctx} {opIdx : Nat} {op : ROperation} {items : List Item}
    (hop : c.q.operations[opIdx]? = some op) (ht : NestedOp c op = true)
    (hgen : responseForQuery c opIdx = .ok items) (hok : moduleOk c items = true) :
    SerdeFuel.EnvOK (moduleEnv c items) ∧ SerdeFuel.EnvOKS (moduleEnv c items) :=
  AcyclicM.module_envOK_of_reachRanked hop (nested_reachRanked c op ht) hgen hok

end C01N
end GqlVerif
