import GqlVerif.Props.C04
import GqlVerif.Proofs.C02Response
/-!
# Composed C11 — the wire names of what the generator emits

`Props/C11.lean` proves `wire = GraphQL name` for a record literal / for one call of `renderField`.  Here the
same fact is stated on the model's own generator functions, for all contexts (schema, query, options, case
functions), no bound on sizes: the input structs and `@oneOf` enums (`Codegen.inputItem` / `inputItems`), the
`Variables` struct and its `default_*` functions (`Codegen.variablesItems`), the field loop of `calculate_selection`
(`Codegen.calcFields`, which calls `renderField`) and, composed through `renderType` / `calcSelection` /
`responseItems` / `fragmentItems`, every struct of the response side — including the per-variant structs, which merge
several inline fragments — and the variants of the tagged enums.
-/
namespace GqlVerif
namespace Composed
open Codegen C02

/-- `C02.mapM_ok_map` with the list explicit -/
theorem mapM_map_of {ε α β γ : Type} (f : α → Except ε β) (g : β → γ) (h : α → γ)
    (hf : ∀ a b, f a = .ok b → g b = h a) : ∀ (l : List α) (r : List β), l.mapM f = .ok r → r.map g = l.map h :=
  fun _ _ hr => mapM_ok_map g h hf hr

/-! ## input objects -/

def memberWires : Item → List String
  | .struct _ _ _ fs => fs.map (·.wire)
  | .oneOf _ _ _ vs => vs.map (·.wire)
  | .tagged _ _ _ _ vs => vs.map (·.wire)
  | _ => []

/-- **input struct**: the members' wire names are the schema's input-field names, in order -/
theorem inputItem_struct_wires (c : Ctx) (i : StoredInput) (n : String) (d : List String) (sc : Option String)
    (fs : List RField) (h : inputItem c i = .ok (.struct n d sc fs)) :
    fs.map (·.wire) = i.fields.map (·.1) := by
  rcases inputItem_cases h with ⟨_, vs, _, h'⟩ | ⟨_, fs', hfs, h'⟩ <;> cases h'
  refine mapM_bind_pure_map (·.wire) (·.1) (fun p t _ => ?_) hfs
  exact C11.input_wire_is_graphql_name _ _ _ _

/-- **`@oneOf` enum**: the variants' wire names are the schema's input-field names, in order -/
theorem inputItem_oneOf_wires (c : Ctx) (i : StoredInput) (n : String) (d : List String) (sc : Option String)
    (vs : List RVariant) (h : inputItem c i = .ok (.oneOf n d sc vs)) :
    vs.map (·.wire) = i.fields.map (·.1) := by
  rcases inputItem_cases h with ⟨_, vs', hvs, h'⟩ | ⟨_, fs, _, h'⟩ <;> cases h'
  refine mapM_bind_pure_map (·.wire) (·.1) (fun p t _ => ?_) hvs
  exact C11.oneof_wire_is_graphql_name _ _ _

/-- what `inputItem` returns is a struct (not `@oneOf`) or a `oneOf` enum (`@oneOf`), and in both cases the
    members' wire names are the schema's field names -/
theorem inputItem_wires (c : Ctx) (i : StoredInput) (it : Item) (h : inputItem c i = .ok it) :
    memberWires it = i.fields.map (·.1) ∧
    ((i.isOneOf = true ∧ ∃ n d sc vs, it = .oneOf n d sc vs) ∨ (i.isOneOf = false ∧ ∃ n d sc fs, it = .struct n d sc fs)) := by
  have hshape : (i.isOneOf = true ∧ ∃ n d sc vs, it = .oneOf n d sc vs) ∨
      (i.isOneOf = false ∧ ∃ n d sc fs, it = .struct n d sc fs) :=
    (inputItem_cases h).imp (fun ⟨ho, vs, _, he⟩ => ⟨ho, _, _, _, vs, he⟩) (fun ⟨ho, fs, _, he⟩ => ⟨ho, _, _, _, fs, he⟩)
  refine ⟨?_, hshape⟩
  rcases hshape with ⟨_, n, d, sc, vs, rfl⟩ | ⟨_, n, d, sc, fs, rfl⟩
  · exact inputItem_oneOf_wires c i n d sc vs h
  · exact inputItem_struct_wires c i n d sc fs h

/-- the input items of a module: each one is the item of a schema input object whose id is in the used set,
    with that input's field names on the wire -/
theorem inputItems_wires (c : Ctx) (u : UsedTypes) (items : List Item) (h : inputItems c u = .ok items) :
    ∀ it ∈ items, ∃ i k, c.s.inputs[k]? = some i ∧ (TypeId.input k) ∈ u.types ∧ inputItem c i = .ok it ∧
      memberWires it = i.fields.map (·.1) := by
  intro it hit
  obtain ⟨k, i, hu, hk, hfx⟩ := inputItems_origin h it hit
  exact ⟨i, k, hk, hu, hfx, (inputItem_wires c i it hfx).1⟩

/-! ## a successful `filterMapM` / `mapM` read through a map (generic; the other inversion lemmas: `Proofs/OutcomeLemmas.lean`) -/

theorem filterMapM_spec {ε α β γ : Type} (f : α → Except ε (Option β)) (p : α → Bool) (g : β → γ) (h : α → γ)
    (hnone : ∀ a, f a = .ok none → p a = false)
    (hsome : ∀ a b, f a = .ok (some b) → p a = true ∧ g b = h a) :
    ∀ (l : List α) (r : List β), l.filterMapM f = .ok r → r.map g = (l.filter p).map h := by
  intro l
  induction l with
  | nil => intro r hr; simp [pure, Except.pure] at hr; subst hr; rfl
  | cons a l ih =>
    intro r hr
    rw [List.filterMapM_cons] at hr
    obtain ⟨o, ho, hr⟩ := bind_ok hr
    cases o with
    | none =>
      simp only [] at hr
      rw [List.filter_cons, hnone a ho]
      exact ih r hr
    | some b =>
      simp only [] at hr
      obtain ⟨bs, hbs, hr⟩ := bind_ok hr
      simp only [pure, Except.pure, Except.ok.injEq] at hr
      subst hr
      obtain ⟨hp, hg⟩ := hsome a b ho
      rw [List.filter_cons, hp]
      simp [hg, ih bs hbs]

theorem mapM_mapM_of {ε α β γ : Type} (f : α → Except ε β) (g : β → γ) (k : α → Except ε γ)
    (hf : ∀ a b, f a = .ok b → k a = .ok (g b)) :
    ∀ (l : List α) (r : List β), l.mapM f = .ok r → l.mapM k = .ok (r.map g) := by
  intro l
  induction l with
  | nil => intro r hr; simp [List.mapM_nil, pure, Except.pure] at hr; subst hr; rfl
  | cons a l ih =>
    intro r hr
    rw [List.mapM_cons] at hr
    obtain ⟨b, hb, hr⟩ := bind_ok hr
    obtain ⟨bs, hbs, hr⟩ := bind_ok hr
    simp only [pure, Except.pure, Except.ok.injEq] at hr
    subst hr
    rw [List.mapM_cons, hf a b hb, ih bs hbs]
    rfl

theorem filterMapM_mapM_of {ε α β γ : Type} (f : α → Except ε (Option β)) (p : α → Bool) (g : β → γ)
    (k : α → Except ε γ)
    (hnone : ∀ a, f a = .ok none → p a = false)
    (hsome : ∀ a b, f a = .ok (some b) → p a = true ∧ k a = .ok (g b)) :
    ∀ (l : List α) (r : List β), l.filterMapM f = .ok r → (l.filter p).mapM k = .ok (r.map g) := by
  intro l
  induction l with
  | nil => intro r hr; simp [pure, Except.pure] at hr; subst hr; rfl
  | cons a l ih =>
    intro r hr
    rw [List.filterMapM_cons] at hr
    obtain ⟨o, ho, hr⟩ := bind_ok hr
    cases o with
    | none =>
      simp only [] at hr
      rw [List.filter_cons, hnone a ho]
      exact ih r hr
    | some b =>
      simp only [] at hr
      obtain ⟨bs, hbs, hr⟩ := bind_ok hr
      simp only [pure, Except.pure, Except.ok.injEq] at hr
      subst hr
      obtain ⟨hp, hk⟩ := hsome a b ho
      rw [List.filter_cons, hp]
      simp only [↓reduceIte]
      rw [List.mapM_cons, hk, ih bs hbs]
      rfl

/-! ## variables -/

/-- the two shapes of `variablesItems`, completely: the unit struct when nothing is declared; otherwise the
    `Variables` struct — one member per declared variable, in order, the variable's GraphQL name on the wire, the
    Rust type `variableType` — followed by the `default_*` functions, one per variable that has a default value,
    in order, named `default_<GraphQL name>`, returning the variable's Rust type -/
theorem variablesItems_shape (c : Ctx) (op : Nat) (items : List Item) (h : variablesItems c op = .ok items) :
    (c.q.opVariables op = [] ∧ items = [.unitStruct "Variables" (allVariableDerives c.o) c.serdeCrate]) ∨
    (c.q.opVariables op ≠ [] ∧ ∃ fs dfl,
      items = [.struct "Variables" (allVariableDerives c.o) c.serdeCrate fs, .defaults dfl] ∧
      fs.map (·.wire) = (c.q.opVariables op).map (·.name) ∧
      (c.q.opVariables op).mapM (variableType c) = .ok (fs.map (·.ty)) ∧
      dfl.map (·.1) = ((c.q.opVariables op).filter (·.default.isSome)).map (fun v => "default_" ++ v.name) ∧
      ((c.q.opVariables op).filter (·.default.isSome)).mapM (variableType c) = .ok (dfl.map (·.2))) := by
  rcases variablesItems_cases h with ⟨hemp, rfl⟩ | ⟨hemp, fs, dfl, hfs, hdfl, rfl⟩
  · exact .inl ⟨hemp, rfl⟩
  · refine .inr ⟨hemp, fs, dfl, rfl, ?_, ?_, ?_, ?_⟩
    · refine mapM_bind_pure_map (·.wire) (·.name) (fun v t _ => ?_) hfs
      exact C11.input_wire_is_graphql_name _ _ _ _
    · refine mapM_mapM_of _ _ _ ?_ _ _ hfs
      intro v b hb
      obtain ⟨t, ht, hb⟩ := bind_ok hb
      simp only [pure, Except.pure, Except.ok.injEq] at hb
      subst hb
      exact ht
    · refine filterMapM_spec _ _ _ _ ?_ ?_ _ _ hdfl
      · intro v hv
        cases hd : v.default with
        | none => rfl
        | some d =>
          simp only [hd] at hv
          obtain ⟨t, _, hv⟩ := bind_ok hv
          obtain ⟨_, _, hv⟩ := bind_ok hv
          simp [pure, Except.pure] at hv
      · intro v b hv
        cases hd : v.default with
        | none => simp [hd, pure, Except.pure] at hv
        | some d =>
          simp only [hd] at hv
          obtain ⟨t, _, hv⟩ := bind_ok hv
          obtain ⟨_, _, hv⟩ := bind_ok hv
          simp only [pure, Except.pure, Except.ok.injEq, Option.some.injEq] at hv
          subst hv
          exact ⟨rfl, rfl⟩
    · refine filterMapM_mapM_of _ _ _ _ ?_ ?_ _ _ hdfl
      · intro v hv
        cases hd : v.default with
        | none => rfl
        | some d =>
          simp only [hd] at hv
          obtain ⟨t, _, hv⟩ := bind_ok hv
          obtain ⟨_, _, hv⟩ := bind_ok hv
          simp [pure, Except.pure] at hv
      · intro v b hv
        cases hd : v.default with
        | none => simp [hd, pure, Except.pure] at hv
        | some d =>
          simp only [hd] at hv
          obtain ⟨t, ht, hv⟩ := bind_ok hv
          obtain ⟨_, _, hv⟩ := bind_ok hv
          simp only [pure, Except.pure, Except.ok.injEq, Option.some.injEq] at hv
          subst hv
          exact ⟨rfl, ht⟩

/-- **`Variables`**: one member per declared variable, in order, the GraphQL name on the wire
    (`C04.variables_fields_are_declared` without its `≠ []` hypothesis: when no variable is declared the item is the
    unit struct, which has no members) -/
theorem variablesItems_wires (c : Ctx) (op : Nat) (fs : List RField) (d : List String) (sc : Option String)
    (rest : List Item) (h : variablesItems c op = .ok (.struct "Variables" d sc fs :: rest)) :
    fs.map (·.wire) = (c.q.opVariables op).map (·.name) := by
  rcases variablesItems_shape c op _ h with ⟨_, h'⟩ | ⟨_, fs', dfl, h', hw, _⟩
  · simp at h'
  · simp only [List.cons.injEq, Item.struct.injEq] at h'
    obtain ⟨⟨-, -, -, rfl⟩, -⟩ := h'
    exact hw

/-- the `default_*` helper functions: named after the GraphQL variable names (not the Rust identifiers), one per
    variable that declares a default, in declaration order -/
theorem variablesItems_default_names (c : Ctx) (op : Nat) (first : Item) (dfl : List (String × RTy)) (rest : List Item)
    (h : variablesItems c op = .ok (first :: .defaults dfl :: rest)) :
    dfl.map (·.1) = ((c.q.opVariables op).filter (·.default.isSome)).map (fun v => "default_" ++ v.name) := by
  rcases variablesItems_shape c op _ h with ⟨_, h'⟩ | ⟨_, fs', dfl', h', _, _, hn, _⟩
  · simp at h'
  · simp only [List.cons.injEq, Item.defaults.injEq] at h'
    obtain ⟨-, rfl, -⟩ := h'
    exact hn

/-! ## response structs -/

/-- everything `renderField` decides, in one statement: the result is `none` exactly for a deprecated field under
    `deny`; otherwise a member with the given Rust identifier and flatten flag whose wire name is the GraphQL
    name it was given (when it was given one) -/
theorem renderField_ok {c : Ctx} {g : Option String} {r ft : String} {quals : List Qual} {fl bx : Bool}
    {dep : Option (Option String)} {o : Option RField}
    (h : renderField c g r ft quals fl bx dep = .ok o) :
    (o = none ∧ dep.isSome = true ∧ c.o.deprecation = .deny) ∨
    (∃ f, o = some f ∧ ¬ (dep.isSome = true ∧ c.o.deprecation = .deny) ∧ f.rust = r ∧ f.flatten = fl ∧
      f.rename = g.bind (fun g => fieldRename g r)) := by
  obtain ⟨_, _, h⟩ := renderField_cases h
  exact h.imp id (fun ⟨f, ho, hn, hr, hfl, hren, _⟩ => ⟨f, ho, hn, hr, hfl, hren⟩)

theorem wire_of_rename (g r : String) (f : RField) (hr : f.rust = r) (hn : f.rename = fieldRename g r) : f.wire = g := by
  unfold RField.wire fieldRename at *
  rw [hn, hr]
  by_cases hg : g = r <;> simp [hg]

def ownWiresOf (fs : List RField) : List String := (fs.filter (fun f => !f.flatten)).map (·.wire)

theorem ownWiresOf_append (a b : List RField) : ownWiresOf (a ++ b) = ownWiresOf a ++ ownWiresOf b := by
  simp [ownWiresOf, List.filter_append]

/-- is the field emitted?  (`deny` omits deprecated fields) -/
def emitted (c : Ctx) (sf : StoredField) : Bool := !(sf.deprecation.isSome && decide (c.o.deprecation = .deny))

/-- the response keys a selection list asks for at its own level and that the generated struct keeps:
    alias (or field name) of every field selection that `deny` does not omit, in order -/
def ownWires (c : Ctx) : List Sel → List String
  | [] => []
  | .field a fid _ :: rest =>
    (match c.s.fields[fid]? with
     | some sf => if emitted c sf then [a.getD sf.name] else []
     | none => []) ++ ownWires c rest
  | _ :: rest => ownWires c rest

/-- one call of `renderField` as made by the field loop: non-flatten, with a GraphQL name -/
theorem renderField_named_wires {c : Ctx} {g r ft : String} {quals : List Qual} {bx : Bool} {sf : StoredField}
    {o : Option RField} (h : renderField c (some g) r ft quals false bx sf.deprecation = .ok o) :
    ownWiresOf o.toList = if emitted c sf then [g] else [] := by
  rcases renderField_ok h with ⟨rfl, h1, h2⟩ | ⟨f, rfl, hn, hr, hfl, hren⟩
  · simp [ownWiresOf, emitted, h1, h2]
  · have he : emitted c sf = true := by
      unfold emitted
      cases h1 : sf.deprecation.isSome
      · rfl
      · by_cases h2 : c.o.deprecation = .deny
        · exact absurd ⟨h1, h2⟩ hn
        · simp [h2]
    simp only [he, ↓reduceIte, ownWiresOf, Option.toList_some, List.filter_cons, hfl, Bool.not_false, List.filter_nil,
      List.map_cons, List.map_nil, List.cons.injEq, and_true]
    exact wire_of_rename g r f hr (by simpa using hren)

/-- a flattened member (fragment spread) contributes no own key -/
theorem renderField_flat_wires {c : Ctx} {g : Option String} {r ft : String} {quals : List Qual} {bx : Bool}
    {dep : Option (Option String)} {o : Option RField}
    (h : renderField c g r ft quals true bx dep = .ok o) : ownWiresOf o.toList = [] := by
  rcases renderField_ok h with ⟨rfl, _, _⟩ | ⟨f, rfl, _, _, hfl, _⟩
  · rfl
  · simp [ownWiresOf, hfl]

/-- **the field loop of `calculate_selection`**: the wire names of the non-flatten members `calcFields` emits
    (through `renderField`) are exactly the aliases / field names of the emitted field selections, in order —
    for every context, fuel, prefix, parent type and selection list -/
theorem calcFields_wires (c : Ctx) : ∀ (sels : List Sel) (fuel : Nat) (pfx : String) (ty : TypeId)
    (fs : List RField) (items : List Item),
    calcFields c fuel pfx ty sels = .ok (fs, items) → ownWiresOf fs = ownWires c sels := by
  intro sels
  induction sels with
  | nil =>
    intro fuel pfx ty fs items h
    cases fuel with
    | zero => rw [calcFields.eq_1] at h; cases h
    | succ f =>
      rw [calcFields.eq_2 _ _ _ _ (by omega)] at h
      simp only [pure, Except.pure, Except.ok.injEq, Prod.mk.injEq] at h
      obtain ⟨rfl, -⟩ := h
      rfl
  | cons x rest ih =>
    intro fuel pfx ty fs items h
    cases fuel with
    | zero => rw [calcFields.eq_1] at h; cases h
    | succ f =>
      cases x with
      | field a fid sub =>
        obtain ⟨sf, fld, its, fs', items', hsf, hr, rfl, rfl, hstep⟩ := calcFields_field_ok h
        rw [ownWiresOf_append, ih _ _ _ _ _ hr]
        simp only [ownWires, hsf]
        congr 1
        rcases hstep with ⟨_, _, _, _, _, hrf⟩ | ⟨_, _, _, _, _, hrf⟩ | ⟨_, _, _, hrf, _⟩ <;>
          exact renderField_named_wires hrf
      | spread g =>
        obtain ⟨fr, fs', _, hr, hcase⟩ := calcFields_spread_ok h
        rcases hcase with ⟨_, rfl⟩ | ⟨_, fld, hfld, rfl⟩
        · simpa [ownWires] using ih _ _ _ _ _ hr
        · rw [ownWiresOf_append, renderField_flat_wires hfld, ih _ _ _ _ _ hr]
          simp [ownWires]
      | inline t sub =>
        rw [calcFields.eq_5 _ _ _ _ _ _ (by simp) (by simp)] at h
        simpa [ownWires] using ih _ _ _ _ _ h
      | typename =>
        rw [calcFields.eq_5 _ _ _ _ _ _ (by simp) (by simp)] at h
        simpa [ownWires] using ih _ _ _ _ _ h

/-- `renderType` adds at most the flattened `on` member: a struct it emits is named `name` and has the own
    keys of the member list it was given -/
theorem renderType_struct {c : Ctx} {name : String} {fs : List RField} {vs : List RVariant} {n : String}
    {d : List String} {sc : Option String} {fs' : List RField}
    (h : Item.struct n d sc fs' ∈ renderType c name fs vs) : n = name ∧ ownWiresOf fs' = ownWiresOf fs := by
  rcases renderType_cases c name fs vs with e | e | e <;> rw [e] at h
  · simp at h
  · simp only [List.mem_singleton, Item.struct.injEq] at h
    obtain ⟨rfl, -, -, rfl⟩ := h
    exact ⟨rfl, rfl⟩
  · simp only [List.mem_cons, Item.struct.injEq, List.not_mem_nil, or_false, reduceCtorEq] at h
    obtain ⟨rfl, -, -, rfl⟩ := h
    exact ⟨rfl, by simp [ownWiresOf]⟩

/-- **the struct of a selection set** (`calcSelection`, composed through `calcFields` and `renderType`): unless
    the selection set is a lone fragment spread (then the item is a type alias), the items start with the
    rendering of the type `name`; every struct in it is named `name` and its non-flatten members have exactly
    the wire names `ownWires c sels`.  This covers `ResponseData`, the fragment structs and the struct of
    every composite field. -/
theorem calcSelection_root_wires (c : Ctx) (fuel : Nat) (name pfx : String) (ty : TypeId) (sels : List Sel)
    (items : List Item) (hsp : ∀ g, sels ≠ [Sel.spread g])
    (h : calcSelection c fuel name pfx ty sels = .ok items) :
    ∃ rfields rvariants tail, items = renderType c name rfields rvariants ++ tail ∧
      ownWiresOf rfields = ownWires c sels ∧
      ∀ n d sc fs, Item.struct n d sc fs ∈ renderType c name rfields rvariants →
        n = name ∧ ownWiresOf fs = ownWires c sels := by
  cases fuel with
  | zero => rw [calcSelection.eq_1] at h; cases h
  | succ f =>
    obtain ⟨rv, vi, rf, fi, _, hfl, rfl⟩ := calcSelection_ok hsp h
    have hw := calcFields_wires c _ _ _ _ _ _ hfl
    refine ⟨rf, rv, vi ++ fi, by simp, hw, ?_⟩
    intro n d sc fs hm
    obtain ⟨h1, h2⟩ := renderType_struct hm
    exact ⟨h1, h2.trans hw⟩

/-- **`ResponseData`**: `responseItems` starts with the struct `ResponseData`, whose non-flatten members carry
    exactly the aliases / names of the operation's top-level field selections (minus those `deny` omits), in
    order (flattened members, i.e. fragment spreads on the root type, are not counted) -/
theorem responseData_wires (c : Ctx) (op : ROperation) (items : List Item)
    (hsp : ∀ g, op.sels ≠ [Sel.spread g]) (h : responseItems c op = .ok items) :
    ∃ fs tail, items = .struct "ResponseData" c.respDerives c.serdeCrate fs :: tail ∧
      ownWiresOf fs = ownWires c op.sels := by
  unfold responseItems at h
  cases hf : calcFuel c.s c.q with
  | zero => rw [hf, calcSelection.eq_1] at h; cases h
  | succ f =>
    rw [hf] at h
    obtain ⟨rv, vi, rf, fi, hvp, hfl, rfl⟩ := calcSelection_ok hsp h
    have hw := calcFields_wires c _ _ _ _ _ _ hfl
    rcases hvp with ⟨_, rfl, rfl⟩ | ⟨vts, _, _, hv, _⟩
    · refine ⟨rf, fi, ?_, hw⟩
      simp [renderType]
    · simp [variantsOf, pure, Except.pure] at hv

/-- lone spread at the root: `ResponseData` is a type alias of the fragment struct (no members of its own) -/
theorem responseData_alias (c : Ctx) (op : ROperation) (g : Nat) (items : List Item)
    (hsp : op.sels = [Sel.spread g]) (h : responseItems c op = .ok items) :
    ∃ fr, c.q.fragments[g]? = some fr ∧ items = [aliasItem "ResponseData" fr.name (fragmentIsRecursive c.q g)] := by
  unfold responseItems at h
  rw [hsp] at h
  cases hf : calcFuel c.s c.q with
  | zero => rw [hf, calcSelection.eq_1] at h; cases h
  | succ f => rw [hf] at h; exact calcSelection_single_ok h

/-- **fragment structs**: the items of fragment `g` start with the rendering of the type named after the fragment;
    every struct in it has that name and exactly the own keys of the fragment's selection list -/
theorem fragment_struct_wires (c : Ctx) (g : Nat) (fr : RFragment) (items : List Item)
    (hfr : c.q.fragments[g]? = some fr) (hsp : ∀ g', fr.sels ≠ [Sel.spread g'])
    (h : fragmentItems c g = .ok items) :
    ∃ rfields rvariants tail, items = renderType c fr.name rfields rvariants ++ tail ∧
      ownWiresOf rfields = ownWires c fr.sels ∧
      ∀ n d sc fs, Item.struct n d sc fs ∈ renderType c fr.name rfields rvariants →
        n = fr.name ∧ ownWiresOf fs = ownWires c fr.sels := by
  obtain ⟨fr', hfr', h⟩ := fragmentItems_ok h
  cases hfr.symm.trans hfr'
  exact calcSelection_root_wires c _ _ _ _ _ _ hsp h

/-! ## every struct of the response side: no foreign key -/

mutual
  /-- alias-or-field names of all field selections of a selection tree (through sub-selections and inline
      fragments; a fragment spread contributes nothing: its struct is emitted by `fragmentItems`) -/
  def selWires (c : Ctx) : Sel → List String
    | .field a fid sub => (match c.s.fields[fid]? with | some sf => [a.getD sf.name] | none => []) ++ selsWires c sub
    | .inline _ sub => selsWires c sub
    | _ => []
  def selsWires (c : Ctx) : List Sel → List String
    | [] => []
    | x :: xs => selWires c x ++ selsWires c xs
end

def vselWires (c : Ctx) : VariantSel → List String
  | .inline _ sub => selsWires c sub
  | .spread _ _ => []

def vselsWires (c : Ctx) (vs : List VariantSel) : List String := vs.flatMap (vselWires c)

def WiresIn (W : List String) (it : Item) : Prop :=
  ∀ n d sc fs, it = .struct n d sc fs → ∀ f ∈ fs, f.flatten = false → f.wire ∈ W

theorem WiresIn.mono {W W' : List String} {it : Item} (h : WiresIn W it) (hs : ∀ w ∈ W, w ∈ W') : WiresIn W' it :=
  fun n d sc fs e f hf hfl => hs _ (h n d sc fs e f hf hfl)

theorem WiresIn.alias (W : List String) (n t : String) (b : Bool) : WiresIn W (aliasItem n t b) := by
  intro _ _ _ _ e; cases b <;> cases e

theorem mem_ownWiresOf {fs : List RField} {f : RField} (hf : f ∈ fs) (hfl : f.flatten = false) :
    f.wire ∈ ownWiresOf fs := by
  simp only [ownWiresOf, List.mem_map, List.mem_filter]
  exact ⟨f, ⟨hf, by simp [hfl]⟩, rfl⟩

theorem selWires_mem_of_mem (c : Ctx) {x : Sel} {sels : List Sel} (hx : x ∈ sels) :
    ∀ w ∈ selWires c x, w ∈ selsWires c sels := by
  induction sels with
  | nil => cases hx
  | cons y ys ih =>
    intro w hw
    simp only [selsWires, List.mem_append]
    rcases List.mem_cons.mp hx with rfl | hx
    · exact .inl hw
    · exact .inr (ih hx w hw)

theorem ownWires_sub_selsWires (c : Ctx) (sels : List Sel) : ∀ w ∈ ownWires c sels, w ∈ selsWires c sels := by
  induction sels with
  | nil => intro w hw; cases hw
  | cons x xs ih =>
    intro w hw
    cases x with
    | field a fid sub =>
      simp only [ownWires, List.mem_append] at hw
      simp only [selsWires, selWires, List.mem_append]
      rcases hw with hw | hw
      · refine .inl (.inl ?_)
        cases hf : c.s.fields[fid]? with
        | none => simp [hf] at hw
        | some sf =>
          simp only [hf] at hw ⊢
          split at hw
          · exact hw
          · cases hw
      · exact .inr (ih w hw)
    | inline t sub => simp only [ownWires] at hw; simp only [selsWires, List.mem_append]; exact .inr (ih w hw)
    | spread g => simp only [ownWires] at hw; simp only [selsWires, List.mem_append]; exact .inr (ih w hw)
    | typename => simp only [ownWires] at hw; simp only [selsWires, List.mem_append]; exact .inr (ih w hw)

theorem vselWires_mem_of_mem (c : Ctx) {x : VariantSel} {vs : List VariantSel} (hx : x ∈ vs) :
    ∀ w ∈ vselWires c x, w ∈ vselsWires c vs := by
  intro w hw
  simp only [vselsWires, List.mem_flatMap]
  exact ⟨x, hx, hw⟩

theorem vselsWires_cons (c : Ctx) (x : VariantSel) (vs : List VariantSel) :
    vselsWires c (x :: vs) = vselWires c x ++ vselsWires c vs := by
  simp [vselsWires]

/-- members made from aliased fragments are all flattened -/
theorem aliasMember_flat {c : Ctx} {n t : String} {b : Bool} {fs : List RField}
    (h : aliasMember c (aliasItem n t b) = .ok fs) : ∀ f ∈ fs, f.flatten = true := by
  rw [aliasMember_aliasItem] at h
  obtain ⟨fld, hfld, h⟩ := bind_ok h
  simp only [pure, Except.pure, Except.ok.injEq] at h
  subst h
  intro f hf
  rcases renderField_ok hfld with ⟨rfl, _, _⟩ | ⟨f', rfl, _, _, hfl, _⟩
  · cases hf
  · simp only [Option.toList_some, List.mem_singleton] at hf
    subst hf; exact hfl

theorem renderType_wiresIn {c : Ctx} {name : String} {fs : List RField} {vs : List RVariant} {W : List String}
    (h : ∀ f ∈ fs, f.flatten = false → f.wire ∈ W) : ∀ it ∈ renderType c name fs vs, WiresIn W it := by
  intro it hit n d sc fs' e f hf hfl
  subst e
  have := (renderType_struct hit).2
  have hm := mem_ownWiresOf hf hfl
  rw [this] at hm
  simp only [ownWiresOf, List.mem_map, List.mem_filter] at hm
  obtain ⟨f0, ⟨hf0, hfl0⟩, hw⟩ := hm
  rw [← hw]
  exact h f0 hf0 (by simpa using hfl0)

section Mem
variable (c : Ctx)

/-- the four conjuncts of `calc_wires_mem`, one per `calc*` function, at fuel `fuel`: the items `calcSelection` emits name no
    wire outside the selection tree -/
def WStmt1 (fuel : Nat) : Prop := ∀ name pfx ty sels items,
  calcSelection c fuel name pfx ty sels = .ok items → ∀ it ∈ items, WiresIn (selsWires c sels) it
/-- … the items `calcVariants` emits -/
def WStmt2 (fuel : Nat) : Prop := ∀ name pfx vsels vts vs items,
  calcVariants c fuel name pfx vsels vts = .ok (vs, items) → ∀ it ∈ items, WiresIn (vselsWires c vsels) it
/-- … the fields and items `calcVariantSels` emits; what it returns as aliases are alias items -/
def WStmt3 (fuel : Nat) : Prop := ∀ sname pfx vt mine fs items al,
  calcVariantSels c fuel sname pfx vt mine = .ok (fs, items, al) →
    (∀ f ∈ fs, f.flatten = false → f.wire ∈ vselsWires c mine) ∧
    (∀ it ∈ items, WiresIn (vselsWires c mine) it) ∧
    (∀ a ∈ al, ∃ n t b, a = aliasItem n t b)
/-- … the fields and items `calcFields` emits -/
def WStmt4 (fuel : Nat) : Prop := ∀ pfx ty sels fs items,
  calcFields c fuel pfx ty sels = .ok (fs, items) →
    (∀ f ∈ fs, f.flatten = false → f.wire ∈ selsWires c sels) ∧ ∀ it ∈ items, WiresIn (selsWires c sels) it

variable {c}

/-- **no foreign key in any response struct** — simultaneous induction over the four `calc*` functions: every
    non-flatten member of every struct item they emit has, as wire name, the alias-or-field name of a field
    selection occurring in the selection tree at hand -/
theorem calc_wires_mem : ∀ fuel, WStmt1 c fuel ∧ WStmt2 c fuel ∧ WStmt3 c fuel ∧ WStmt4 c fuel := by
  intro fuel
  induction fuel with
  | zero =>
    refine ⟨?_, ?_, ?_, ?_⟩
    · intro _ _ _ _ _ h; rw [calcSelection.eq_1] at h; cases h
    · intro _ _ _ _ _ _ h; rw [calcVariants.eq_1] at h; cases h
    · intro _ _ _ _ _ _ _ h; rw [calcVariantSels.eq_1] at h; cases h
    · intro _ _ _ _ _ h; rw [calcFields.eq_1] at h; cases h
  | succ f ih =>
    obtain ⟨H1, H2, H3, H4⟩ := ih
    refine ⟨?_, ?_, ?_, ?_⟩
    · intro name pfx ty sels items h
      by_cases hsp : ∃ g, sels = [Sel.spread g]
      · obtain ⟨g, rfl⟩ := hsp
        obtain ⟨fr, _, rfl⟩ := calcSelection_single_ok h
        intro it hit
        simp only [List.mem_singleton] at hit
        subst hit; exact WiresIn.alias _ _ _ _
      · obtain ⟨rv, vi, rf, fi, hvp, hfl, rfl⟩ := calcSelection_ok (fun g hg => hsp ⟨g, hg⟩) h
        obtain ⟨h4a, h4b⟩ := H4 _ _ _ _ _ hfl
        intro it hit
        simp only [List.mem_append] at hit
        rcases hit with (hit | hit) | hit
        · exact renderType_wiresIn h4a it hit
        · rcases hvp with ⟨_, _, rfl⟩ | ⟨vts, vsels, r, _, hvs, hr, _, rfl⟩
          · cases hit
          · refine (H2 _ _ _ _ r.1 r.2 hr it hit).mono ?_
            intro w hw
            simp only [vselsWires, List.mem_flatMap] at hw
            obtain ⟨x, hx, hw⟩ := hw
            cases x with
            | inline t sub =>
              exact selWires_mem_of_mem c ((variantSels_origin hvs).1 t sub hx) w (by simpa [selWires, vselWires] using hw)
            | spread g fr => cases hw
        · exact h4b it hit
    · intro name pfx vsels vts vs items h
      cases vts with
      | nil =>
        rw [calcVariants.eq_2 _ _ _ _ _ (by omega)] at h
        simp only [pure, Except.pure, Except.ok.injEq, Prod.mk.injEq] at h
        obtain ⟨_, rfl⟩ := h
        intro it hit; cases hit
      | cons vt rest =>
        obtain ⟨vname, thisV, thisItems, vs', items', _, hr, rfl, rfl, hstep⟩ := calcVariants_ok h
        intro it hit
        rcases List.mem_append.mp hit with hit | hit
        · have hsub : ∀ w ∈ vselsWires c (vsels.filter (fun v => v.typeId == vt)), w ∈ vselsWires c vsels := by
            intro w hw
            simp only [vselsWires, List.mem_flatMap, List.mem_filter] at hw ⊢
            obtain ⟨x, ⟨hx, _⟩, hw⟩ := hw
            exact ⟨x, hx, hw⟩
          rcases hstep with ⟨_, _, rfl⟩ | ⟨_, _, hstep⟩
          · cases hit
          · rcases hstep with ⟨g, fr, _, rfl⟩ | ⟨r, hr0, hstep⟩
            · simp only [List.mem_singleton] at hit
              subst hit; exact WiresIn.alias _ _ _ _
            · obtain ⟨r0, r1, r2⟩ := H3 _ _ _ _ r.1 r.2.1 r.2.2 hr0
              rcases hstep with ⟨a, _, hal, rfl⟩ | ⟨_, extra, hex, rfl⟩
              · rcases List.mem_cons.mp hit with rfl | hit
                · obtain ⟨n, t, b, rfl⟩ := r2 _ (by rw [hal]; exact List.mem_cons_self)
                  exact WiresIn.alias _ _ _ _
                · exact (r1 it hit).mono hsub
              · rcases List.mem_append.mp hit with hit | hit
                · refine (renderType_wiresIn ?_ it hit).mono hsub
                  intro f0 hf0 hfl0
                  rcases List.mem_append.mp hf0 with hf0 | hf0
                  · exact r0 f0 hf0 hfl0
                  · exfalso
                    obtain ⟨l, hl, hf0⟩ := List.mem_flatten.mp hf0
                    obtain ⟨a, ha, hfa⟩ := mapM_ok_mem hex l hl
                    obtain ⟨n, t, b, rfl⟩ := r2 a ha
                    have := aliasMember_flat hfa f0 hf0
                    rw [this] at hfl0; cases hfl0
                · exact (r1 it hit).mono hsub
        · exact H2 _ _ _ _ _ _ hr it hit
    · intro sname pfx vt mine fs items al h
      cases mine with
      | nil =>
        rw [calcVariantSels.eq_2 _ _ _ _ _ (by omega)] at h
        simp only [pure, Except.pure, Except.ok.injEq, Prod.mk.injEq] at h
        obtain ⟨rfl, rfl, rfl⟩ := h
        exact ⟨fun f hf => (by cases hf), fun it hit => (by cases hit), fun it hit => (by cases hit)⟩
      | cons x rest =>
        cases x with
        | inline t sub =>
          obtain ⟨tn, fs0, items0, al0, fs', items', al', _, hr, rfl, rfl, rfl, hstep⟩ := calcVariantSels_inline_ok h
          obtain ⟨ih0, ih1, ih2⟩ := H3 _ _ _ _ _ _ _ hr
          have hR : ∀ w ∈ vselsWires c rest, w ∈ vselsWires c (VariantSel.inline t sub :: rest) := by
            intro w hw; rw [vselsWires_cons]; exact List.mem_append_right _ hw
          have hL : ∀ w ∈ selsWires c sub, w ∈ vselsWires c (VariantSel.inline t sub :: rest) := by
            intro w hw; rw [vselsWires_cons]; exact List.mem_append_left _ hw
          rcases hstep with ⟨g, fr, _, _, rfl, rfl, rfl⟩ | ⟨_, hfl, rfl⟩
          · refine ⟨fun f0 hf0 hfl0 => hR _ (ih0 f0 (by simpa using hf0) hfl0),
              fun it hit => (ih1 it (by simpa using hit)).mono hR, fun a ha => ?_⟩
            rcases List.mem_append.mp ha with ha | ha
            · simp only [List.mem_singleton] at ha
              exact ⟨_, _, _, ha⟩
            · exact ih2 a ha
          · obtain ⟨h4a, h4b⟩ := H4 _ _ _ _ _ hfl
            refine ⟨fun f0 hf0 hfl0 => ?_, fun it hit => ?_, fun a ha => ih2 a (by simpa using ha)⟩
            · rcases List.mem_append.mp hf0 with hf0 | hf0
              · exact hL _ (h4a f0 hf0 hfl0)
              · exact hR _ (ih0 f0 hf0 hfl0)
            · rcases List.mem_append.mp hit with hit | hit
              · exact (h4b it hit).mono hL
              · exact (ih1 it hit).mono hR
        | spread g fr =>
          obtain ⟨fld, fs', hfld, hr, rfl⟩ := calcVariantSels_spread_ok h
          obtain ⟨ih0, ih1, ih2⟩ := H3 _ _ _ _ _ _ _ hr
          have hR : ∀ w ∈ vselsWires c rest, w ∈ vselsWires c (VariantSel.spread g fr :: rest) := by
            intro w hw; rw [vselsWires_cons]; exact List.mem_append_right _ hw
          refine ⟨fun f0 hf0 hfl0 => ?_, fun it hit => (ih1 it hit).mono hR, ih2⟩
          rcases List.mem_append.mp hf0 with hf0 | hf0
          · exfalso
            rcases renderField_ok hfld with ⟨rfl, _, _⟩ | ⟨f', rfl, _, _, hfl', _⟩
            · cases hf0
            · simp only [Option.toList_some, List.mem_singleton] at hf0
              subst hf0; rw [hfl'] at hfl0; cases hfl0
          · exact hR _ (ih0 f0 hf0 hfl0)
    · intro pfx ty sels fs items h
      refine ⟨fun f0 hf0 hfl0 => ?_, ?_⟩
      · have := calcFields_wires c _ _ _ _ _ _ h
        exact ownWires_sub_selsWires c sels _ (this ▸ mem_ownWiresOf hf0 hfl0)
      · cases sels with
        | nil =>
          rw [calcFields.eq_2 _ _ _ _ (by omega)] at h
          simp only [pure, Except.pure, Except.ok.injEq, Prod.mk.injEq] at h
          obtain ⟨_, rfl⟩ := h
          intro it hit; cases hit
        | cons x rest =>
          have hR : ∀ w ∈ selsWires c rest, w ∈ selsWires c (x :: rest) := by
            intro w hw; simp only [selsWires, List.mem_append]; exact .inr hw
          cases x with
          | field a fid sub =>
            obtain ⟨sf, fld, its, fs', items', _, hr, rfl, rfl, hstep⟩ := calcFields_field_ok h
            intro it hit
            rcases List.mem_append.mp hit with hit | hit
            · rcases hstep with ⟨_, _, _, _, rfl, _⟩ | ⟨_, _, _, _, rfl, _⟩ | ⟨_, _, _, _, hits⟩
              · cases hit
              · cases hit
              · refine (H1 _ _ _ _ _ hits it hit).mono ?_
                intro w hw
                simp only [selsWires, selWires, List.mem_append]
                exact .inl (.inr hw)
            · exact ((H4 _ _ _ _ _ hr).2 it hit).mono hR
          | spread g =>
            obtain ⟨fr, fs', _, hr, _⟩ := calcFields_spread_ok h
            exact fun it hit => ((H4 _ _ _ _ _ hr).2 it hit).mono hR
          | inline t sub =>
            rw [calcFields.eq_5 _ _ _ _ _ _ (by simp) (by simp)] at h
            exact fun it hit => ((H4 _ _ _ _ _ h).2 it hit).mono hR
          | typename =>
            rw [calcFields.eq_5 _ _ _ _ _ _ (by simp) (by simp)] at h
            exact fun it hit => ((H4 _ _ _ _ _ h).2 it hit).mono hR

end Mem

/-- every struct among the response items of an operation: each non-flatten member's wire name is the
    alias-or-field name of a field selection of the operation's selection tree -/
theorem responseItems_wires_mem (c : Ctx) (op : ROperation) (items : List Item) (h : responseItems c op = .ok items) :
    ∀ it ∈ items, WiresIn (selsWires c op.sels) it :=
  (calc_wires_mem (c := c) _).1 _ _ _ _ _ h

/-- the same for the items of a fragment -/
theorem fragmentItems_wires_mem (c : Ctx) (g : Nat) (fr : RFragment) (items : List Item)
    (hfr : c.q.fragments[g]? = some fr) (h : fragmentItems c g = .ok items) :
    ∀ it ∈ items, WiresIn (selsWires c fr.sels) it := by
  obtain ⟨fr', hfr', h⟩ := fragmentItems_ok h
  cases hfr.symm.trans hfr'
  exact (calc_wires_mem (c := c) _).1 _ _ _ _ _ h

/-! ## the per-variant structs, exactly -/

/-- own keys asked for by the selections on one variant: those of every inline fragment's selection list (a spread
    of a fragment on the variant contributes a flattened member, no own key) -/
def vselsOwnWires (c : Ctx) (vs : List VariantSel) : List String :=
  vs.flatMap (fun | .inline _ sub => ownWires c sub | .spread _ _ => [])

/-- the members contributed to a variant struct by its selections: their own keys, exactly and in order; and the
    aliases set aside for lone spreads are named like the struct -/
theorem calcVariantSels_wires_aliases (c : Ctx) : ∀ (mine : List VariantSel) (fuel : Nat) (sname pfx : String)
    (vt : TypeId) (fs : List RField) (items al : List Item),
    calcVariantSels c fuel sname pfx vt mine = .ok (fs, items, al) →
      ownWiresOf fs = vselsOwnWires c mine ∧ ∀ a ∈ al, ∃ t b, a = aliasItem sname t b := by
  intro mine
  induction mine with
  | nil =>
    intro fuel sname pfx vt fs items al h
    cases fuel with
    | zero => rw [calcVariantSels.eq_1] at h; cases h
    | succ f =>
      rw [calcVariantSels.eq_2 _ _ _ _ _ (by omega)] at h
      simp only [pure, Except.pure, Except.ok.injEq, Prod.mk.injEq] at h
      obtain ⟨rfl, -, rfl⟩ := h
      exact ⟨rfl, fun a ha => nomatch ha⟩
  | cons x rest ih =>
    intro fuel sname pfx vt fs items al h
    cases fuel with
    | zero => rw [calcVariantSels.eq_1] at h; cases h
    | succ f =>
      cases x with
      | inline t sub =>
        obtain ⟨tn, fs0, items0, al0, fs', items', al', _, hr, rfl, rfl, rfl, hstep⟩ := calcVariantSels_inline_ok h
        obtain ⟨ihw, iha⟩ := ih _ _ _ _ _ _ _ hr
        rw [ownWiresOf_append, ihw]
        simp only [vselsOwnWires, List.flatMap_cons]
        rcases hstep with ⟨g, fr, rfl, _, rfl, _, rfl⟩ | ⟨_, hfl, rfl⟩
        · refine ⟨rfl, fun a ha => ?_⟩
          rcases List.mem_cons.mp ha with rfl | ha
          · exact ⟨_, _, rfl⟩
          · exact iha a ha
        · exact ⟨congrArg (· ++ _) (calcFields_wires c _ _ _ _ _ _ hfl), iha⟩
      | spread g fr =>
        obtain ⟨fld, fs', hfld, hr, rfl⟩ := calcVariantSels_spread_ok h
        obtain ⟨ihw, iha⟩ := ih _ _ _ _ _ _ _ hr
        rw [ownWiresOf_append, renderField_flat_wires hfld, ihw]
        exact ⟨by simp [vselsOwnWires], iha⟩

theorem calcVariantSels_wires (c : Ctx) (mine : List VariantSel) (fuel : Nat) (sname pfx : String) (vt : TypeId)
    (fs : List RField) (items al : List Item) (h : calcVariantSels c fuel sname pfx vt mine = .ok (fs, items, al)) :
    ownWiresOf fs = vselsOwnWires c mine :=
  (calcVariantSels_wires_aliases c mine fuel sname pfx vt fs items al h).1

theorem ownWiresOf_flat {fs : List RField} (h : ∀ f ∈ fs, f.flatten = true) : ownWiresOf fs = [] := by
  simp only [ownWiresOf, List.map_eq_nil_iff, List.filter_eq_nil_iff]
  intro f hf
  simp [h f hf]

/-- **one iteration of the per-variant loop** (`calcVariants`): for the variant `vt` (named `vname`), with `mine` the
    selections on it, the items it contributes are: nothing (no selection); a type alias `<pfx>On<vname>` of a fragment
    struct (one spread, or nothing but one aliased fragment); or the rendering of the struct `<pfx>On<vname>` whose
    non-flatten members have exactly the own keys of the inline fragments on `vt`, in order — followed by nested items -/
theorem calcVariants_step_wires (c : Ctx) (f : Nat) (name pfx : String) (vsels : List VariantSel) (vt : TypeId)
    (rest : List TypeId) (vs : List RVariant) (items : List Item)
    (h : calcVariants c (f + 1) name pfx vsels (vt :: rest) = .ok (vs, items)) :
    ∃ vname thisItems items' vs', c.s.typeName vt = .ok vname ∧ items = thisItems ++ items' ∧
      calcVariants c f name pfx vsels rest = .ok (vs', items') ∧
      (thisItems = [] ∨
       (∃ t b tail, thisItems = aliasItem (pfx ++ "On" ++ vname) t b :: tail) ∨
       (∃ fields tail, thisItems = renderType c (pfx ++ "On" ++ vname) fields [] ++ tail ∧
          ownWiresOf fields = vselsOwnWires c (vsels.filter (fun v => v.typeId == vt)) ∧
          ∀ n d sc fs', Item.struct n d sc fs' ∈ renderType c (pfx ++ "On" ++ vname) fields [] →
            n = pfx ++ "On" ++ vname ∧ ownWiresOf fs' = vselsOwnWires c (vsels.filter (fun v => v.typeId == vt)))) := by
  obtain ⟨vname, thisV, thisItems, vs', items', hvn, hr, _, rfl, hstep⟩ := calcVariants_ok h
  refine ⟨vname, thisItems, items', vs', hvn, rfl, hr, ?_⟩
  rcases hstep with ⟨_, _, rfl⟩ | ⟨_, _, hstep⟩
  · exact .inl rfl
  · rcases hstep with ⟨g, fr, _, rfl⟩ | ⟨r, hr0, hstep⟩
    · exact .inr (.inl ⟨_, _, [], rfl⟩)
    · obtain ⟨hw, hal⟩ := calcVariantSels_wires_aliases c _ _ _ _ _ _ _ _ hr0
      rcases hstep with ⟨a, _, hal1, rfl⟩ | ⟨_, extra, hex, rfl⟩
      · obtain ⟨t, b, rfl⟩ := hal a (by rw [hal1]; exact List.mem_cons_self)
        exact .inr (.inl ⟨t, b, _, rfl⟩)
      · have hflat : ownWiresOf extra.flatten = [] := by
          apply ownWiresOf_flat
          intro f0 hf0
          obtain ⟨l, hl, hf0⟩ := List.mem_flatten.mp hf0
          obtain ⟨a, ha, hfa⟩ := mapM_ok_mem hex l hl
          obtain ⟨t, b, rfl⟩ := hal a ha
          exact aliasMember_flat hfa f0 hf0
        have hfields : ownWiresOf (r.1 ++ extra.flatten) = vselsOwnWires c (vsels.filter (fun v => v.typeId == vt)) := by
          rw [ownWiresOf_append, hflat, List.append_nil, hw]
        refine .inr (.inr ⟨r.1 ++ extra.flatten, r.2.1, rfl, hfields, ?_⟩)
        intro n d sc fs' hm
        obtain ⟨h1, h2⟩ := renderType_struct hm
        exact ⟨h1, h2.trans hfields⟩

/-- the variants of a `__typename`-tagged enum: one per possible type, in order, the schema's type name on the wire
    (before the optional `Unknown` catch-all that `calcSelection` appends) -/
theorem calcVariants_variant_wires (c : Ctx) : ∀ (vts : List TypeId) (fuel : Nat) (name pfx : String)
    (vsels : List VariantSel) (vs : List RVariant) (items : List Item),
    calcVariants c fuel name pfx vsels vts = .ok (vs, items) →
      vts.mapM c.s.typeName = .ok (vs.map (·.wire)) ∧ ∀ v ∈ vs, v.other = false := by
  intro vts
  induction vts with
  | nil =>
    intro fuel name pfx vsels vs items h
    cases fuel with
    | zero => rw [calcVariants.eq_1] at h; cases h
    | succ f =>
      rw [calcVariants.eq_2 _ _ _ _ _ (by omega)] at h
      simp only [pure, Except.pure, Except.ok.injEq, Prod.mk.injEq] at h
      obtain ⟨rfl, -⟩ := h
      exact ⟨rfl, fun v hv => by cases hv⟩
  | cons vt rest ih =>
    intro fuel name pfx vsels vs items h
    cases fuel with
    | zero => rw [calcVariants.eq_1] at h; cases h
    | succ f =>
      obtain ⟨vname, thisV, thisItems, vs', items', hvn, hr, rfl, rfl, hstep⟩ := calcVariants_ok h
      obtain ⟨ih1, ih2⟩ := ih _ _ _ _ _ _ hr
      have hv : thisV.wire = vname ∧ thisV.other = false := by
        rcases hstep with ⟨_, rfl, _⟩ | ⟨_, rfl, _⟩ <;> exact ⟨rfl, rfl⟩
      refine ⟨?_, fun v hv' => ?_⟩
      · rw [List.mapM_cons, hvn, ih1]
        simp only [bind, Except.bind, pure, Except.pure, List.map_cons, hv.1]
      · rcases List.mem_cons.mp hv' with rfl | hv'
        · exact hv.2
        · exact ih2 v hv'

/-! ## non-vacuity: the hypotheses hold on concrete, non-trivial contexts -/

/-- keyword-named input object with keyword-named / camel-case fields, a `@oneOf` input, variables named by
    keywords, two with defaults; `rust` normalization with case functions that really change names -/
def kwSchema : Schema :=
  { scalars := Schema.defaultScalars,
    inputs := [{ name := "type", fields := [("Type", { id := .scalar 2, quals := [] }), ("fooBar", { id := .scalar 2, quals := [.required] }),
                                            ("self", { id := .input 1, quals := [.list] })], isOneOf := false },
               { name := "Pick", fields := [("self", { id := .scalar 2, quals := [] }), ("b", { id := .input 0, quals := [] })],
                 isOneOf := true }] }

def kwQuery : Query :=
  { operations := [{ name := "Q", kind := .query, objectId := 0, sels := [] }],
    variables := [{ opIdx := 0, name := "type", default := some (.int 1), ty := { id := .scalar 2, quals := [] } },
                  { opIdx := 0, name := "inArg", default := none, ty := { id := .input 0, quals := [.required] } },
                  { opIdx := 0, name := "Loop", default := some (.obj [("self", .int 3)]), ty := { id := .input 1, quals := [] } }] }

def kwCtx : Ctx :=
  { s := kwSchema, q := kwQuery, o := { normalization := .rust }, cs := ⟨fun s => s.toLower, fun s => "C" ++ s⟩ }

def structParts : Outcome Item → Option (String × List RField)
  | .ok (.struct n _ _ fs) => some (n, fs)
  | _ => none

theorem structParts_some {r : Outcome Item} {n : String} {fs : List RField} (h : structParts r = some (n, fs)) :
    ∃ d sc, r = .ok (.struct n d sc fs) := by
  unfold structParts at h
  split at h
  · simp only [Option.some.injEq, Prod.mk.injEq] at h
    obtain ⟨rfl, rfl⟩ := h
    exact ⟨_, _, rfl⟩
  · cases h

def oneOfParts : Outcome Item → Option (String × List RVariant)
  | .ok (.oneOf n _ _ vs) => some (n, vs)
  | _ => none

theorem oneOfParts_some {r : Outcome Item} {n : String} {vs : List RVariant} (h : oneOfParts r = some (n, vs)) :
    ∃ d sc, r = .ok (.oneOf n d sc vs) := by
  unfold oneOfParts at h
  split at h
  · simp only [Option.some.injEq, Prod.mk.injEq] at h
    obtain ⟨rfl, rfl⟩ := h
    exact ⟨_, _, rfl⟩
  · cases h

/-- the hypothesis of `inputItem_struct_wires` holds on `kwCtx` (Rust identifiers `type_`, `foobar`, `self_` all differ
    from the GraphQL names), and the theorem gives the wire names -/
example : ∃ n d sc fs, inputItem kwCtx { name := "type", fields := [("Type", { id := .scalar 2, quals := [] }),
      ("fooBar", { id := .scalar 2, quals := [.required] }), ("self", { id := .input 1, quals := [.list] })], isOneOf := false }
      = .ok (.struct n d sc fs) ∧ n = "Ctype" ∧ fs.map (·.rust) = ["type_", "foobar", "self_"] ∧
      fs.map (·.wire) = ["Type", "fooBar", "self"] := by
  have h : (structParts (inputItem kwCtx { name := "type", fields := [("Type", { id := .scalar 2, quals := [] }),
      ("fooBar", { id := .scalar 2, quals := [.required] }), ("self", { id := .input 1, quals := [.list] })], isOneOf := false })).map
      (fun p => (p.1, p.2.map (·.rust))) = some ("Ctype", ["type_", "foobar", "self_"]) := by decide +kernel
  cases hp : structParts (inputItem kwCtx { name := "type", fields := [("Type", { id := .scalar 2, quals := [] }),
      ("fooBar", { id := .scalar 2, quals := [.required] }), ("self", { id := .input 1, quals := [.list] })], isOneOf := false }) with
  | none => rw [hp] at h; cases h
  | some p =>
    obtain ⟨n, fs⟩ := p
    rw [hp] at h
    simp only [Option.map_some, Option.some.injEq, Prod.mk.injEq] at h
    obtain ⟨d, sc, hi⟩ := structParts_some hp
    exact ⟨n, d, sc, fs, hi, h.1, h.2, inputItem_struct_wires _ _ _ _ _ _ hi⟩

/-- … and of `inputItem_oneOf_wires` (variants `Cself`, `Cb`) -/
example : ∃ n d sc vs, inputItem kwCtx { name := "Pick", fields := [("self", { id := .scalar 2, quals := [] }),
      ("b", { id := .input 0, quals := [] })], isOneOf := true } = .ok (.oneOf n d sc vs) ∧
      vs.map (·.name) = ["Cself", "Cb"] ∧ vs.map (·.wire) = ["self", "b"] := by
  have h : (oneOfParts (inputItem kwCtx { name := "Pick", fields := [("self", { id := .scalar 2, quals := [] }),
      ("b", { id := .input 0, quals := [] })], isOneOf := true })).map (fun p => p.2.map (·.name)) = some ["Cself", "Cb"] := by
    decide +kernel
  cases hp : oneOfParts (inputItem kwCtx { name := "Pick", fields := [("self", { id := .scalar 2, quals := [] }),
      ("b", { id := .input 0, quals := [] })], isOneOf := true }) with
  | none => rw [hp] at h; cases h
  | some p =>
    obtain ⟨n, vs⟩ := p
    rw [hp] at h
    simp only [Option.map_some, Option.some.injEq] at h
    obtain ⟨d, sc, hi⟩ := oneOfParts_some hp
    exact ⟨n, d, sc, vs, hi, h, inputItem_oneOf_wires _ _ _ _ _ _ hi⟩

/-- `variablesItems` succeeds on `kwCtx` (three variables, Rust identifiers `type_`, `inarg`, `loop_`; two
    `default_*` functions) and `variablesItems_shape` gives wire names and function names -/
example : ∃ fs dfl, variablesItems kwCtx 0 = .ok [.struct "Variables" (allVariableDerives kwCtx.o) kwCtx.serdeCrate fs, .defaults dfl] ∧
    fs.map (·.rust) = ["type_", "inarg", "loop_"] ∧ fs.map (·.wire) = ["type", "inArg", "Loop"] ∧
    dfl.map (·.1) = ["default_type", "default_Loop"] := by
  have hok : (variablesItems kwCtx 0).toOption.map (fun its => its.map memberWires) = some [["type", "inArg", "Loop"], []] := by
    decide +kernel
  cases hv : variablesItems kwCtx 0 with
  | error e => rw [hv] at hok; cases hok
  | ok items =>
    rcases variablesItems_shape kwCtx 0 items hv with ⟨he, _⟩ | ⟨_, fs, dfl, rfl, hw, _, hn, _⟩
    · exact absurd he (by decide +kernel)
    · refine ⟨fs, dfl, rfl, ?_, hw.trans (by decide +kernel), hn.trans (by decide +kernel)⟩
      have : ((variablesItems kwCtx 0).toOption.bind List.head?).map
          (fun it => match it with | .struct _ _ _ fs => fs.map (·.rust) | _ => []) = some ["type_", "inarg", "loop_"] := by
        decide +kernel
      rw [hv] at this
      simpa [Except.toOption] using this

/-- the rich context of `C02Response` (interface, union, fragments spread in every position, aliases, a deprecated field)
    under `deny` -/
def denyCtx : Ctx := { richCtx with o := { richCtx.o with deprecation := .deny } }

/-- `responseItems` on `denyCtx`: the hypotheses of `responseData_wires` hold; the aliases `pets`, `animal2` are on the
    wire and the deprecated `when` is gone -/
example : (∀ g, richQuery.operations[0].sels ≠ [Sel.spread g]) ∧
    (responseItems denyCtx richQuery.operations[0]).toOption.isSome = true ∧
    ownWires denyCtx richQuery.operations[0].sels = ["animal", "pets", "animal2", "kind", "ext"] ∧
    ownWires richCtx richQuery.operations[0].sels = ["animal", "pets", "animal2", "kind", "when", "ext"] := by
  refine ⟨fun g h => by simp [richQuery] at h, by decide +kernel, by decide +kernel, by decide +kernel⟩

example : ∃ fs tail, responseItems denyCtx richQuery.operations[0] =
      .ok (.struct "ResponseData" denyCtx.respDerives denyCtx.serdeCrate fs :: tail) ∧
    ownWiresOf fs = ["animal", "pets", "animal2", "kind", "ext"] := by
  cases h : responseItems denyCtx richQuery.operations[0] with
  | error e =>
    have : (responseItems denyCtx richQuery.operations[0]).toOption.isSome = true := by decide +kernel
    rw [h] at this; cases this
  | ok items =>
    obtain ⟨fs, tail, rfl, hw⟩ := responseData_wires denyCtx _ items (fun g h => by simp [richQuery] at h) h
    exact ⟨fs, tail, rfl, hw.trans (by decide +kernel)⟩

end Composed
end GqlVerif
