import GqlVerif.Props.C06
import GqlVerif.Proofs.ResolveSteps
/-!
# C06 — soundness of `Resolve.resolve` against the declarative specification `Valid.validDoc`

Main theorem (every schema, every document, no bound on sizes), in its general form and with the hypothesis as
a decidable check:

    resolve_sound_partial' : C06.UnionsOfObjects s → Resolve.resolve s d = .ok q → Valid.validDoc s false d = true
    resolve_sound_partial  : SchemaOk s = true     → Resolve.resolve s d = .ok q → Valid.validDoc s false d = true

`strict = false` is the rule catalogue minus "a composite field needs a sub-selection", which the code
does not enforce (known finding `C06-no-selection`, `C06.no_selection_accepted`); the full statement
`… → Valid.validDoc s true d = true` is **false** on that witness, hence the name `_partial`.
Nothing else is missing: every other clause of `validDoc` is proved.

Only hypothesis: every union member is an object type (`C06.UnionsOfObjects`, which `condition_check_sound`
already needed; `SchemaOk s` is its decidable form).  It is necessary:
`schemaOk_needed` is a hand-made schema violating it on which `resolve` accepts an invalid document.
Root ids / field ids in range, names distinct etc. are *not* assumed: a dangling id makes `resolve`
panic (so it is not `.ok`), and name uniqueness is a consequence of `createRoots = .ok`
(`createRoots_names`, `resolve_names_unique`).

Layers (each a theorem of its own):

* (a) structure — `objSel_corr` / `objSels_corr` / `unionSel_corr` / `unionSels_corr` (mutual structural
  induction mirroring the four resolvers), packaged as `resolve_struct_sound`: successful resolution puts
  the written selection and the resolved tree in the correspondence `Corr` / `CorrL` (field exists on
  the parent by `Valid.lookupField`, leaf fields and `__typename` have no sub-selection, spreads name a
  known fragment, inline type conditions name a schema type).
* (b) transfer of the validators' verdicts along `CorrL` —
  `hasTypename_of_contains` (`containsTypenameAux` ⇒ `Valid.hasTypename`, same fuel),
  `validSel_of` / `validSels_of` (`typeConditions` + `fieldsHaveTypename` ⇒ `Valid.validSels`, using
  `C06.condition_check_sound`).
* (c) what the first two phases build — `createRoots_ok`, `fold_ok`, `resolved_of_phases`: the final
  query's fragment table agrees index by index with `Valid.fragTable d` (`TableOk`: `findFragment` vs
  `Valid.findFrag`, `on` types, stored selections `CorrL`-related to the written ones), and every
  definition of `d` owns exactly one entry holding its resolved selection.
* (d) the subscription root — `sub_keys` (`rootFieldCount … = 1` ⇒ exactly one response key in
  `Valid.rootKeys`): a correctness proof of the depth-first count with a *shared* visited set: `walk_sim`
  replays the walk on the document (`qwalk`), `qwalk_post` shows that with the code's fuel `depthFuel` the
  walk is complete (its result is closed under spreads and covers every root field),
  `rootKeys_sub_of_closed` and `qwalk_sound` compare it with the specification's expansion in both directions.
* (e) assembly — `validDef_of_resolved`, `resolve_sound_partial'`, `resolve_sound_partial`, `invalid_rejected`.

Found while proving (reported; the first two repaired in the code and mirrored in the model, the third
corrected in the specification; kept as regression examples at the end of the file):
duplicate fragment names and duplicate operation names were accepted and made `resolve` validate a body
against the wrong parent type; `Valid.rootKeys` had a depth-independent fuel.
-/
namespace GqlVerif
namespace C06Sound
open Resolve
open C02 (map_ok getObject_ok getInterface_ok)

theorem isEmpty_nil {α} {l : List α} (h : l.isEmpty = true) : l = [] := C02.isEmpty_nil h

theorem qselDepth_le_of_mem : ∀ {sels : List QSel} {x : QSel}, x ∈ sels → Valid.qselDepth x ≤ Valid.qselsDepth sels :=
  C02.qselDepth_le_of_mem

/-! ## (a) the correspondence between a written selection and its resolved form -/

mutual
/-- `Corr s ff p x r`: the written selection `x`, read against the parent type `p`, resolves to `r`
    (`ff` maps a spread name to the index of its fragment) -/
inductive Corr (s : Schema) (ff : String → Option Nat) : TypeId → QSel → Sel → Prop
  | typename {p alias name} : name = "__typename" → Corr s ff p (.field alias name []) .typename
  | field {p alias name sub fid f rs} : name ≠ "__typename" → Valid.lookupField s p name = some f →
      s.fields[fid]? = some f → (Valid.isComposite f.ty.id = false → sub = []) →
      CorrL s ff f.ty.id sub rs → Corr s ff p (.field alias name sub) (.field alias fid rs)
  | inline {p on t sub rs} : s.findType on = some t → (Valid.isComposite t = false → sub = []) →
      CorrL s ff t sub rs → Corr s ff p (.inline (some on) sub) (.inline t rs)
  | spread {p n fid} : ff n = some fid → Corr s ff p (.spread n) (.spread fid)
inductive CorrL (s : Schema) (ff : String → Option Nat) : TypeId → List QSel → List Sel → Prop
  | nil {p} : CorrL s ff p [] []
  | cons {p x r xs rs} : Corr s ff p x r → CorrL s ff p xs rs → CorrL s ff p (x :: xs) (r :: rs)
end

/-- the field ids of an object / interface type, as `Valid.lookupField` reads them -/
def fieldsOf (s : Schema) : TypeId → List Nat
  | .object i => match s.objects[i]? with | some o => o.fields | none => []
  | .interface i => match s.interfaces[i]? with | some o => o.fields | none => []
  | _ => []

theorem lookupField_eq (s : Schema) (p : TypeId) (name : String) :
    Valid.lookupField s p name = ((fieldsOf s p).filterMap (fun id => s.fields[id]?)).find? (·.name == name) := by
  unfold Valid.lookupField fieldsOf
  cases p <;> rfl

theorem mapM_getField_ok (s : Schema) : ∀ (ids : List Nat) (fs : List (Nat × StoredField)),
    (ids.mapM fun id => do pure (id, ← s.getField id) : Outcome _) = .ok fs →
    fs.map (·.2) = ids.filterMap (fun id => s.fields[id]?) ∧ ∀ p ∈ fs, s.fields[p.1]? = some p.2 := by
  intro ids
  induction ids with
  | nil => intro fs h; simp [pure, Except.pure] at h; subst h; simp
  | cons id ids ih =>
    intro fs h
    rw [List.mapM_cons] at h
    simp only [bind, Except.bind, pure, Except.pure] at h
    cases hf : s.getField id with
    | error e => simp [hf] at h
    | ok f =>
      simp only [hf] at h
      split at h
      · simp at h
      · rename_i fs' hfs'
        simp only [Except.ok.injEq] at h
        subst h
        have := ih fs' hfs'
        have hf' := C02.getField_ok hf
        simp [hf', this.1]
        exact fun a b hab => this.2 (a, b) hab

theorem getFieldByName_some {s : Schema} {ids : List Nat} {name : String} {fid : Nat} {sf : StoredField}
    (h : getFieldByName s ids name = .ok (some (fid, sf))) :
    (ids.filterMap (fun id => s.fields[id]?)).find? (·.name == name) = some sf ∧ s.fields[fid]? = some sf := by
  unfold getFieldByName at h
  simp only [bind, Except.bind] at h
  split at h
  · simp at h
  · rename_i fs hfs
    simp only [pure, Except.pure, Except.ok.injEq] at h
    have := mapM_getField_ok s ids fs hfs
    rw [← this.1]
    refine ⟨?_, ?_⟩
    · rw [List.find?_map]; simp [Function.comp_def, h]
    · exact this.2 _ (List.mem_of_find?_eq_some h)

theorem fieldsOf_object {s : Schema} {i o} (h : s.objects[i]? = some o) : fieldsOf s (.object i) = o.fields := by
  simp [fieldsOf, h]
theorem fieldsOf_interface {s : Schema} {i o} (h : s.interfaces[i]? = some o) : fieldsOf s (.interface i) = o.fields := by
  simp [fieldsOf, h]

/-- `resolveSelection` puts a selection set in correspondence, given that its two list resolvers do -/
theorem resolveSelection_corr_of {s : Schema} {q : Query} {t : TypeId} {sels : List QSel} {rs : List Sel}
    (hobj : ∀ p pname rs, resolveObjectSels s q pname (fieldsOf s p) sels = .ok rs → CorrL s q.findFragment p sels rs)
    (huni : ∀ p rs, resolveUnionSels s q sels = .ok rs → CorrL s q.findFragment p sels rs)
    (h : resolveSelection s q t sels = .ok rs) :
    CorrL s q.findFragment t sels rs ∧ (Valid.isComposite t = false → sels = []) := by
  unfold resolveSelection at h
  split at h
  · obtain ⟨o, ho, h⟩ := C02.bind_ok h
    rw [← fieldsOf_object (getObject_ok ho)] at h
    exact ⟨hobj _ _ rs h, by simp [Valid.isComposite]⟩
  · obtain ⟨o, ho, h⟩ := C02.bind_ok h
    rw [← fieldsOf_interface (getInterface_ok ho)] at h
    exact ⟨hobj _ _ rs h, by simp [Valid.isComposite]⟩
  · exact ⟨huni _ rs h, by simp [Valid.isComposite]⟩
  · split at h
    · rename_i he
      have := isEmpty_nil he
      subst this
      simp only [pure, Except.pure, Except.ok.injEq] at h
      subst h
      exact ⟨.nil, fun _ => rfl⟩
    · simp [fail'] at h

theorem typename_corr {s : Schema} {ff : String → Option Nat} {p : TypeId} {alias : Option String} {name : String}
    {sub : List QSel} {r : Sel} (hn : (name == typenameField) = true)
    (h : (if !sub.isEmpty then fail' "Selection set on `__typename`." else pure Sel.typename : Outcome Sel) = .ok r) :
    Corr s ff p (.field alias name sub) r := by
  split at h
  · simp [fail'] at h
  · rename_i he
    simp only [pure, Except.pure, Except.ok.injEq] at h
    subst h
    have : sub = [] := isEmpty_nil (by simpa using he)
    subst this
    exact .typename (by simpa [typenameField] using hn)

theorem spread_corr {s : Schema} {q : Query} {p : TypeId} {name : String} {r : Sel}
    (h : (match q.findFragment name with
      | none => fail' s!"Could not find fragment `{name}` referenced by fragment spread."
      | some fid => pure (.spread fid) : Outcome Sel) = .ok r) : Corr s q.findFragment p (.spread name) r := by
  split at h
  · simp [fail'] at h
  · rename_i fid hf
    simp only [pure, Except.pure, Except.ok.injEq] at h
    subst h
    exact .spread hf

mutual
  theorem objSel_corr (s : Schema) (q : Query) (p : TypeId) (pname : String) :
      ∀ (x : QSel) (r : Sel), resolveObjectSel s q pname (fieldsOf s p) x = .ok r → Corr s q.findFragment p x r
    | .field alias name sub, r, h => by
      by_cases hn : (name == typenameField) = true
      · unfold resolveObjectSel at h
        rw [if_pos hn] at h
        exact typename_corr hn h
      · rw [resolveObjectSel_field _ _ _ _ _ _ _ (by simpa using hn)] at h
        split at h
        · cases h
        · simp [fail'] at h
        · rename_i fid sf hg
          obtain ⟨rs, hrs, rfl⟩ := map_ok h
          obtain ⟨hfind, hfid⟩ := getFieldByName_some hg
          have ⟨hc, hleaf⟩ := resolveSelection_corr_of (fun p pn rs => objSels_corr s q p pn sub rs)
            (fun p rs => unionSels_corr s q p sub rs) hrs
          exact .field (by simpa [typenameField] using hn) (by rw [lookupField_eq]; exact hfind) hfid hleaf hc
    | .inline none sub, r, h => by
      unfold resolveObjectSel at h
      simp [panic'] at h
    | .inline (some on) sub, r, h => by
      rw [resolveObjectSel_inline] at h
      split at h
      · simp [fail'] at h
      · rename_i t ht
        obtain ⟨rs, hrs, rfl⟩ := map_ok h
        have ⟨hc, hleaf⟩ := resolveSelection_corr_of (fun p pn rs => objSels_corr s q p pn sub rs)
          (fun p rs => unionSels_corr s q p sub rs) hrs
        exact .inline ht hleaf hc
    | .spread name, r, h => by
      unfold resolveObjectSel at h
      exact spread_corr h
  theorem objSels_corr (s : Schema) (q : Query) (p : TypeId) (pname : String) :
      ∀ (xs : List QSel) (rs : List Sel), resolveObjectSels s q pname (fieldsOf s p) xs = .ok rs →
        CorrL s q.findFragment p xs rs
    | [], rs, h => by
      unfold resolveObjectSels at h
      simp only [pure, Except.pure, Except.ok.injEq] at h
      subst h; exact .nil
    | x :: xs, rs, h => by
      unfold resolveObjectSels at h
      split at h
      · simp at h
      · rename_i a ha
        obtain ⟨rs', hrs', rfl⟩ := map_ok h
        exact .cons (objSel_corr s q p pname x a ha) (objSels_corr s q p pname xs rs' hrs')
  theorem unionSel_corr (s : Schema) (q : Query) (p : TypeId) :
      ∀ (x : QSel) (r : Sel), resolveUnionSel s q x = .ok r → Corr s q.findFragment p x r
    | .field alias name sub, r, h => by
      unfold resolveUnionSel at h
      split at h
      · rename_i hn
        exact typename_corr hn h
      · simp [fail'] at h
    | .inline none sub, r, h => by
      unfold resolveUnionSel at h
      simp [panic'] at h
    | .inline (some on) sub, r, h => by
      rw [resolveUnionSel_inline] at h
      split at h
      · simp [fail'] at h
      · rename_i t ht
        obtain ⟨rs, hrs, rfl⟩ := map_ok h
        have ⟨hc, hleaf⟩ := resolveSelection_corr_of (fun p pn rs => objSels_corr s q p pn sub rs)
          (fun p rs => unionSels_corr s q p sub rs) hrs
        exact .inline ht hleaf hc
    | .spread name, r, h => by
      unfold resolveUnionSel at h
      exact spread_corr h
  theorem unionSels_corr (s : Schema) (q : Query) (p : TypeId) :
      ∀ (xs : List QSel) (rs : List Sel), resolveUnionSels s q xs = .ok rs → CorrL s q.findFragment p xs rs
    | [], rs, h => by
      unfold resolveUnionSels at h
      simp only [pure, Except.pure, Except.ok.injEq] at h
      subst h; exact .nil
    | x :: xs, rs, h => by
      unfold resolveUnionSels at h
      split at h
      · simp at h
      · rename_i a ha
        obtain ⟨rs', hrs', rfl⟩ := map_ok h
        exact .cons (unionSel_corr s q p x a ha) (unionSels_corr s q p xs rs' hrs')
end

theorem resolveSelection_corr {s : Schema} {q : Query} {t : TypeId} {sels : List QSel} {rs : List Sel}
    (h : resolveSelection s q t sels = .ok rs) :
    CorrL s q.findFragment t sels rs ∧ (Valid.isComposite t = false → sels = []) :=
  resolveSelection_corr_of (fun p pn rs => objSels_corr s q p pn sels rs) (fun p rs => unionSels_corr s q p sels rs) h

/-! ## inversion of the validators -/

theorem bind_ok {α β} {x : Outcome α} {f : α → Outcome β} {b : β} (h : (x >>= f) = .ok b) :
    ∃ a, x = .ok a ∧ f a = .ok b := C02.bind_ok h

theorem typeConditions_field {s : Schema} {q : Query} {p a fid sub}
    (h : typeConditions s q p (.field a fid sub) = .ok ()) :
    ∃ f, s.fields[fid]? = some f ∧ typeConditionsList s q f.ty.id sub = .ok () := by
  unfold typeConditions at h
  obtain ⟨f, hf, h⟩ := bind_ok h
  exact ⟨f, C02.getField_ok hf, h⟩

theorem typeConditions_inline {s : Schema} {q : Query} {p t sub}
    (h : typeConditions s q p (.inline t sub) = .ok ()) :
    conditionOk s p t = .ok true ∧ typeConditionsList s q t sub = .ok () := by
  unfold typeConditions at h
  obtain ⟨b, hb, h⟩ := bind_ok h
  cases b with
  | false => simp [fail', bind, Except.bind] at h
  | true => exact ⟨hb, by simpa using h⟩

theorem typeConditions_spread {s : Schema} {q : Query} {p fid}
    (h : typeConditions s q p (.spread fid) = .ok ()) :
    ∃ f, q.fragments[fid]? = some f ∧ conditionOk s p f.on = .ok true := by
  unfold typeConditions at h
  obtain ⟨f, hf, h⟩ := bind_ok h
  obtain ⟨b, hb, h⟩ := bind_ok h
  cases b with
  | false => simp [fail'] at h
  | true => exact ⟨f, C02.getFragment_ok hf, hb⟩

theorem typeConditionsList_cons {s : Schema} {q : Query} {p x xs}
    (h : typeConditionsList s q p (x :: xs) = .ok ()) :
    typeConditions s q p x = .ok () ∧ typeConditionsList s q p xs = .ok () := by
  unfold typeConditionsList at h
  obtain ⟨u, hu, h⟩ := bind_ok h
  exact ⟨hu, h⟩

theorem fht_field {s : Schema} {q : Query} {a fid sub}
    (h : fieldsHaveTypename s q (.field a fid sub) = .ok ()) :
    ∃ f, s.fields[fid]? = some f ∧ (f.ty.id.isAbstract = true → containsTypename q f.ty.id sub = true) ∧
      fieldsHaveTypenameList s q sub = .ok () := by
  unfold fieldsHaveTypename at h
  obtain ⟨f, hf, h⟩ := bind_ok h
  refine ⟨f, C02.getField_ok hf, ?_⟩
  split at h
  · simp [fail'] at h
  · rename_i hc
    refine ⟨?_, h⟩
    intro ha
    cases hct : containsTypename q f.ty.id sub <;> simp_all

theorem fht_inline {s : Schema} {q : Query} {t sub}
    (h : fieldsHaveTypename s q (.inline t sub) = .ok ()) : fieldsHaveTypenameList s q sub = .ok () := by
  unfold fieldsHaveTypename at h; exact h

theorem fhtList_cons {s : Schema} {q : Query} {x xs}
    (h : fieldsHaveTypenameList s q (x :: xs) = .ok ()) :
    fieldsHaveTypename s q x = .ok () ∧ fieldsHaveTypenameList s q xs = .ok () := by
  unfold fieldsHaveTypenameList at h
  obtain ⟨u, hu, h⟩ := bind_ok h
  exact ⟨hu, h⟩

/-! ## (b) transfer of `__typename` presence and of the type-condition check -/

/-- the resolved fragment table `qF.fragments` corresponds, index by index, to the document's fragment
    table `ft`: a spread name resolves (through `ff`) to the index of the fragment that `Valid.findFrag`
    finds, the `on` type is the one the schema gives to the written name, and the stored selection is
    the resolved form of the written one. -/
structure TableOk (s : Schema) (ff : String → Option Nat) (ft : List (String × String × List QSel))
    (qF : Query) : Prop where
  len : qF.fragments.length = ft.length
  find : ∀ n fid, ff n = some fid → ∃ f on fsels, qF.fragments[fid]? = some f ∧
    Valid.findFrag ft n = some (on, fsels) ∧ s.findType on = some f.on ∧ CorrL s ff f.on fsels f.sels

theorem CorrL.mem_right {s ff p} : ∀ {xs rs}, CorrL s ff p xs rs → ∀ r ∈ rs, ∃ x ∈ xs, Corr s ff p x r
  | _, _, .nil, r, hr => by simp at hr
  | _, _, .cons hx hxs, r, hr => by
    rcases List.mem_cons.mp hr with rfl | hr
    · exact ⟨_, List.mem_cons_self, hx⟩
    · obtain ⟨x, hx', hc⟩ := CorrL.mem_right hxs r hr
      exact ⟨x, List.mem_cons_of_mem _ hx', hc⟩

theorem hasTypename_of_contains {s ff ft qF} (htab : TableOk s ff ft qF) (t : TypeId) :
    ∀ (fuel : Nat) (V : List Nat) (p : TypeId) (xs : List QSel) (rs : List Sel), CorrL s ff p xs rs →
      containsTypenameAux qF t fuel V rs = true → Valid.hasTypename s ft t fuel xs = true := by
  intro fuel
  induction fuel with
  | zero => intro V p xs rs _ h; simp [containsTypenameAux] at h
  | succ n ih =>
    intro V p xs rs hc h
    unfold containsTypenameAux at h
    rw [List.any_eq_true] at h
    obtain ⟨r, hmem, hr⟩ := h
    obtain ⟨x, hx, hxr⟩ := hc.mem_right r hmem
    unfold Valid.hasTypename
    rw [List.any_eq_true]
    refine ⟨x, hx, ?_⟩
    cases hxr with
    | typename hn => simp [hn]
    | field => simp at hr
    | inline => simp at hr
    | spread hff =>
      rename_i nm fid
      obtain ⟨f, on, fsels, hf, hfind, hon, hcf⟩ := htab.find _ _ hff
      simp only at hr
      split at hr
      · simp at hr
      · simp only [hf, Bool.and_eq_true, beq_iff_eq] at hr
        simp only [hfind, hon, Bool.and_eq_true, beq_iff_eq]
        refine ⟨by rw [hr.1], ih (fid :: V) _ _ _ hcf ?_⟩
        rw [← hr.1]; exact hr.2

theorem applicable_composite {s : Schema} {p t : TypeId} (hp : Valid.isComposite p = true)
    (h : Valid.applicable s p t = true) : Valid.isComposite t = true := by
  unfold Valid.applicable at h
  rcases Bool.or_eq_true_iff.mp h with h | h
  · rw [← beq_iff_eq.mp h]; exact hp
  · rw [List.any_eq_true] at h
    obtain ⟨o, _, ho⟩ := h
    cases t with
    | object _ => rfl
    | interface _ => rfl
    | union _ => rfl
    | _ => simp [Valid.possibleTypes] at ho

mutual
  theorem validSel_of {s : Schema} {ff ft qF} (hs : C06.UnionsOfObjects s) (htab : TableOk s ff ft qF) :
      ∀ (x : QSel) (p : TypeId) (r : Sel), Corr s ff p x r → Valid.isComposite p = true →
        typeConditions s qF p r = .ok () → fieldsHaveTypename s qF r = .ok () →
        Valid.validSel s ft false p x = true
    | .field alias name sub, p, r, hc, hp, htc, hft => by
      cases hc with
      | typename hn => unfold Valid.validSel; simp [hn]
      | field hn hl hfid hleaf hsub =>
        rename_i fid f rs
        unfold Valid.validSel
        simp only [beq_iff_eq, hn, if_false, hl]
        obtain ⟨f1, hf1, htc'⟩ := typeConditions_field htc
        obtain ⟨f2, hf2, hab, hft'⟩ := fht_field hft
        have e1 : f1 = f := by rw [hfid] at hf1; exact (Option.some.inj hf1).symm
        have e2 : f2 = f := by rw [hfid] at hf2; exact (Option.some.inj hf2).symm
        subst e1; subst e2
        cases hcomp : Valid.isComposite f2.ty.id with
        | false => simp [hleaf hcomp]
        | true =>
          simp only [if_true, Bool.not_false, Bool.true_or, Bool.true_and, Bool.and_eq_true,
            Bool.or_eq_true, Bool.not_eq_true']
          refine ⟨validSels_of hs htab sub _ rs hsub hcomp htc' hft', ?_⟩
          cases ha : f2.ty.id.isAbstract with
          | false => exact Or.inl rfl
          | true =>
            right
            have := hab ha
            unfold containsTypename at this
            rw [htab.len] at this
            exact hasTypename_of_contains htab _ _ _ _ _ _ hsub this
    | .inline on sub, p, r, hc, hp, htc, hft => by
      cases hc with
      | inline ht hleaf hsub =>
        rename_i on t rs
        unfold Valid.validSel
        simp only [ht]
        obtain ⟨hcond, htc'⟩ := typeConditions_inline htc
        have happ := C06.condition_check_sound s hs p t hp hcond
        have hct := applicable_composite hp happ
        simp only [hct, happ, Bool.true_and]
        exact validSels_of hs htab sub _ rs hsub hct htc' (fht_inline hft)
    | .spread n, p, r, hc, hp, htc, hft => by
      cases hc with
      | spread hff =>
        rename_i fid
        unfold Valid.validSel
        obtain ⟨f, on, fsels, hf, hfind, hon, _⟩ := htab.find _ _ hff
        obtain ⟨f', hf', hcond⟩ := typeConditions_spread htc
        have e : f' = f := by rw [hf] at hf'; exact (Option.some.inj hf').symm
        subst e
        simp only [hfind, hon]
        exact C06.condition_check_sound s hs p _ hp hcond
  theorem validSels_of {s : Schema} {ff ft qF} (hs : C06.UnionsOfObjects s) (htab : TableOk s ff ft qF) :
      ∀ (xs : List QSel) (p : TypeId) (rs : List Sel), CorrL s ff p xs rs → Valid.isComposite p = true →
        typeConditionsList s qF p rs = .ok () → fieldsHaveTypenameList s qF rs = .ok () →
        Valid.validSels s ft false p xs = true
    | [], _, _, _, _, _, _ => by unfold Valid.validSels; rfl
    | x :: xs, p, rs, hc, hp, htc, hft => by
      cases hc with
      | cons hx hxs =>
        rename_i r rs
        unfold Valid.validSels
        obtain ⟨h1, h2⟩ := typeConditionsList_cons htc
        obtain ⟨g1, g2⟩ := fhtList_cons hft
        rw [validSel_of hs htab x p r hx hp h1 g1, validSels_of hs htab xs p rs hxs hp h2 g2]
        rfl
end

/-! ## (c) what `create_roots` and the fold of `resolve_fragment` / `resolve_operation` build -/

theorem resolveDef_frag {s : Schema} {q q' : Query} {n on sels}
    (h : resolveDef s q (.frag n on sels) = .ok q') :
    ∃ t id f rs, s.findType on = some t ∧ q.findFragment n = some id ∧ q.fragments[id]? = some f ∧
      resolveSelection s q t sels = .ok rs ∧
      q' = { q with fragments := q.fragments.set id { f with sels := f.sels ++ rs } } := by
  cases DefStep.of_ok h with
  | frag ht hid hf hrs => exact ⟨_, _, _, _, ht, hid, hf, hrs, rfl⟩

theorem resolveDef_op {s : Schema} {q q' : Query} {kind name vars sels}
    (h : resolveDef s q (.op kind name vars sels) = .ok q') :
    ∃ root o n id vs rs op, Valid.rootOf s kind = some root ∧ s.objects[root]? = some o ∧ name = some n ∧
      q.findOperation n = some id ∧ q.operations[id]? = some op ∧
      resolveObjectSels s { q with variables := q.variables ++ vs } o.name o.fields sels = .ok rs ∧
      q' = { q with variables := q.variables ++ vs,
                    operations := q.operations.set id { op with sels := op.sels ++ rs } } := by
  cases DefStep.of_ok h with
  | op hroot ho hid _ hrs hop => exact ⟨_, _, _, _, _, _, _, hroot, ho, rfl, hid, hop, hrs, rfl⟩

/-- what one step of `create_roots` does for one definition -/
def RootStep (s : Schema) (q q1 : Query) : QDef → Prop
  | .frag n on _ => ∃ t, s.findType on = some t ∧ q.findFragment n = none ∧
      q1 = { q with fragments := q.fragments ++ [{ name := n, on := t, sels := [] }] }
  | .op kind name _ sels => ∃ n root, name = some n ∧ Valid.rootOf s kind = some root ∧
      q.findOperation n = none ∧ (kind = .subscription → sels.length = 1) ∧
      q1 = { q with operations := q.operations ++ [{ name := n, kind := kind, objectId := root, sels := [] }] }
  | .selset _ => False

/-- a step of `create_roots` that can be made is the one it makes -/
theorem RootStep.ok {s : Schema} {x : QDef} {q q1 : Query} (h : RootStep s q q1 x) (rest : QDoc) :
    createRoots s (x :: rest) q = createRoots s rest q1 := by
  cases x with
  | selset sels => exact h.elim
  | frag n on sels =>
    obtain ⟨t, ht, hnone, rfl⟩ := h
    simp only [createRoots, hnone, ht, Option.isSome_none, Bool.false_eq_true, if_false]
  | op kind name vars sels =>
    obtain ⟨n, root, rfl, hroot, hnone, hsub, rfl⟩ := h
    cases kind <;> simp only [Valid.rootOf] at hroot
    · simp only [createRoots, Schema.queryTypeOrPanic, hroot, hnone, Option.isSome_none, Bool.false_eq_true,
        if_false, pure_bind]
    · simp only [createRoots, hroot, hnone, Option.isSome_none, Bool.false_eq_true, if_false]
    · have hl : (sels.length != 1) = false := by simp [hsub rfl]
      simp only [createRoots, hroot, hnone, hl, Option.isSome_none, Bool.false_eq_true, if_false]

theorem createRoots_cons {s : Schema} {x : QDef} {rest : QDoc} {q q' : Query}
    (h : createRoots s (x :: rest) q = .ok q') :
    ∃ q1, RootStep s q q1 x ∧ createRoots s rest q1 = .ok q' := by
  cases x with
  | frag n on sels =>
    simp only [createRoots] at h
    split at h
    · simp [fail'] at h
    · rename_i hnone
      split at h
      · simp [fail'] at h
      · rename_i t ht
        exact ⟨_, ⟨t, ht, Option.not_isSome_iff_eq_none.mp hnone, rfl⟩, h⟩
  | selset sels => simp [createRoots, fail'] at h
  | op kind name vars sels =>
    cases name with
    | none =>
      cases kind <;> simp only [createRoots] at h
      · obtain ⟨_, _, h⟩ := bind_ok h
        simp [panic'] at h
      · split at h <;> simp [fail', panic'] at h
      · split at h
        · simp [fail'] at h
        · split at h <;> simp [fail', panic'] at h
    | some n =>
    cases kind with
    | query =>
      simp only [createRoots] at h
      obtain ⟨root, hroot, h⟩ := bind_ok h
      have hroot' : Valid.rootOf s .query = some root := by
        unfold Schema.queryTypeOrPanic at hroot
        split at hroot <;> simp_all [pure, Except.pure, panic', Valid.rootOf]
      split at h
      · simp [fail'] at h
      · rename_i hnone
        exact ⟨_, ⟨n, root, rfl, hroot', Option.not_isSome_iff_eq_none.mp hnone, by simp, rfl⟩, h⟩
    | mutation =>
      simp only [createRoots] at h
      split at h
      · simp [fail'] at h
      · rename_i root hroot
        split at h
        · simp [fail'] at h
        · rename_i hnone
          exact ⟨_, ⟨n, root, rfl, by simpa [Valid.rootOf] using hroot, Option.not_isSome_iff_eq_none.mp hnone, by simp, rfl⟩, h⟩
    | subscription =>
      simp only [createRoots] at h
      split at h
      · simp [fail'] at h
      · rename_i root hroot
        split at h
        · simp [fail'] at h
        · rename_i hlen
          split at h
          · simp [fail'] at h
          · rename_i hnone
            exact ⟨_, ⟨n, root, rfl, by simpa [Valid.rootOf] using hroot, Option.not_isSome_iff_eq_none.mp hnone,
              fun _ => by simpa using hlen, rfl⟩, h⟩

/-! how the name lists of a document grow with one more definition -/

theorem fragNames_frag (n on : String) (sels : List QSel) (d : QDoc) :
    Valid.fragNames (.frag n on sels :: d) = n :: Valid.fragNames d := rfl
theorem fragNames_op (k : OpKind) (name : Option String) (vars : List VarDef) (sels : List QSel) (d : QDoc) :
    Valid.fragNames (.op k name vars sels :: d) = Valid.fragNames d := rfl
theorem opNames_frag (n on : String) (sels : List QSel) (d : QDoc) :
    Valid.opNames (.frag n on sels :: d) = Valid.opNames d := rfl
theorem opNames_op (k : OpKind) (n : String) (vars : List VarDef) (sels : List QSel) (d : QDoc) :
    Valid.opNames (.op k (some n) vars sels :: d) = n :: Valid.opNames d := rfl

def fnames (q : Query) : List String := q.fragments.map (·.name)
def onames (q : Query) : List String := q.operations.map (·.name)
/-- `Query.find_fragment` / `find_operation` as a function of the list of names only -/
def ffOf (names : List String) (n : String) : Option Nat := names.findIdx? (· == n)

theorem findFragment_eq (q : Query) : q.findFragment = ffOf (fnames q) := by
  funext n; simp [Query.findFragment, ffOf, fnames, List.findIdx?_map, Function.comp_def]
theorem findOperation_eq (q : Query) : q.findOperation = ffOf (onames q) := by
  funext n; simp [Query.findOperation, ffOf, onames, List.findIdx?_map, Function.comp_def]

theorem ffOf_none {names : List String} {n : String} (h : ffOf names n = none) : n ∉ names := by
  unfold ffOf at h
  rw [List.findIdx?_eq_none_iff] at h
  intro hm
  simpa using h n hm

theorem ffOf_some {names : List String} {n : String} {i : Nat} (h : ffOf names n = some i) :
    names[i]? = some n := by
  unfold ffOf at h
  rw [List.findIdx?_eq_some_iff_getElem] at h
  obtain ⟨hlt, hp, _⟩ := h
  rw [List.getElem?_eq_getElem hlt]
  simpa using hp

theorem ffOf_of_nodup {names : List String} {n : String} {i : Nat} (hnd : names.Nodup)
    (h : names[i]? = some n) : ffOf names n = some i := by
  unfold ffOf
  rw [List.findIdx?_eq_some_iff_getElem]
  obtain ⟨hlt, hi⟩ := List.getElem?_eq_some_iff.mp h
  refine ⟨hlt, by simp [hi], ?_⟩
  intro j hji hj
  have hj' : names[j] = n := by simpa using hj
  have := (List.pairwise_iff_getElem.mp hnd) j i (by omega) hlt hji
  exact this (hj'.trans hi.symm)

/-- the part of `q'` that `create_roots` added for the document `d` -/
structure RootsOk (s : Schema) (d : QDoc) (q q' : Query) : Prop where
  fnames : fnames q' = fnames q ++ Valid.fragNames d
  onames : onames q' = onames q ++ Valid.opNames d
  fnodup : (C06Sound.fnames q).Nodup → (C06Sound.fnames q').Nodup
  onodup : (C06Sound.onames q).Nodup → (C06Sound.onames q').Nodup
  fnew : ∀ f ∈ q'.fragments, f ∈ q.fragments ∨ f.sels = []
  onew : ∀ o ∈ q'.operations, o ∈ q.operations ∨ o.sels = []
  fmono : ∀ f ∈ q.fragments, f ∈ q'.fragments
  omono : ∀ o ∈ q.operations, o ∈ q'.operations
  frag : ∀ n on sels, QDef.frag n on sels ∈ d → ∃ t, s.findType on = some t ∧
    ({ name := n, on := t, sels := [] } : RFragment) ∈ q'.fragments
  op : ∀ kind name vars sels, QDef.op kind name vars sels ∈ d → ∃ n root, name = some n ∧
    Valid.rootOf s kind = some root ∧ (kind = .subscription → sels.length = 1) ∧
    ({ name := n, kind := kind, objectId := root, sels := [] } : ROperation) ∈ q'.operations
  noselset : ∀ sels, QDef.selset sels ∉ d

theorem createRoots_ok (s : Schema) : ∀ (d : QDoc) (q q' : Query), createRoots s d q = .ok q' → RootsOk s d q q'
  | [], q, q', h => by
    simp only [createRoots, pure, Except.pure, Except.ok.injEq] at h
    subst h
    constructor <;> first | simp [Valid.fragNames, Valid.opNames] | exact fun _ h => Or.inl h
  | x :: rest, q, q', h => by
    obtain ⟨q1, hstep, hrest⟩ := createRoots_cons h
    have ih := createRoots_ok s rest q1 q' hrest
    cases x with
    | selset sels => exact hstep.elim
    | frag n on sels =>
      obtain ⟨t, ht, hnone, rfl⟩ := hstep
      have hf1 : fnames { q with fragments := q.fragments ++ [{ name := n, on := t, sels := [] }] } = fnames q ++ [n] := by
        simp [fnames]
      constructor
      · rw [ih.fnames, hf1, fragNames_frag, List.append_assoc]; rfl
      · rw [ih.onames]; rfl
      · intro hnd
        apply ih.fnodup
        rw [hf1, List.nodup_append]
        rw [findFragment_eq] at hnone
        refine ⟨hnd, by simp, ?_⟩
        intro a ha b hb
        simp at hb; subst hb
        intro hab; subst hab
        exact ffOf_none hnone ha
      · intro hnd; exact ih.onodup hnd
      · intro f hf
        rcases ih.fnew f hf with h1 | h1
        · simp at h1
          rcases h1 with h1 | h1
          · exact Or.inl h1
          · right; rw [h1]
        · exact Or.inr h1
      · intro o ho; exact ih.onew o ho
      · intro f hf; exact ih.fmono f (by simp [hf])
      · intro o ho; exact ih.omono o ho
      · intro n' on' sels' hm
        rcases List.mem_cons.mp hm with heq | hm
        · cases heq
          exact ⟨t, ht, ih.fmono _ (by simp)⟩
        · exact ih.frag _ _ _ hm
      · intro kind name vars sels' hm
        rcases List.mem_cons.mp hm with heq | hm
        · cases heq
        · exact ih.op _ _ _ _ hm
      · intro sels' hm
        rcases List.mem_cons.mp hm with heq | hm
        · cases heq
        · exact ih.noselset _ hm
    | op kind name vars sels =>
      obtain ⟨n, root, rfl, hroot, hnone, hsub, rfl⟩ := hstep
      have hf1 : onames { q with operations := q.operations ++ [{ name := n, kind := kind, objectId := root, sels := [] }] } = onames q ++ [n] := by
        simp [onames]
      constructor
      · rw [ih.fnames]; rfl
      · rw [ih.onames, hf1, opNames_op, List.append_assoc]; rfl
      · intro hnd; exact ih.fnodup hnd
      · intro hnd
        apply ih.onodup
        rw [hf1, List.nodup_append]
        rw [findOperation_eq] at hnone
        refine ⟨hnd, by simp, ?_⟩
        intro a ha b hb
        simp at hb; subst hb
        intro hab; subst hab
        exact ffOf_none hnone ha
      · intro f hf; exact ih.fnew f hf
      · intro o ho
        rcases ih.onew o ho with h1 | h1
        · simp at h1
          rcases h1 with h1 | h1
          · exact Or.inl h1
          · right; rw [h1]
        · exact Or.inr h1
      · intro f hf; exact ih.fmono f hf
      · intro o ho; exact ih.omono o (by simp [ho])
      · intro n' on' sels' hm
        rcases List.mem_cons.mp hm with heq | hm
        · cases heq
        · exact ih.frag _ _ _ hm
      · intro kind' name' vars' sels' hm
        rcases List.mem_cons.mp hm with heq | hm
        · cases heq
          exact ⟨n, root, rfl, hroot, hsub, ih.omono _ (by simp)⟩
        · exact ih.op _ _ _ _ hm
      · intro sels' hm
        rcases List.mem_cons.mp hm with heq | hm
        · cases heq
        · exact ih.noselset _ hm

theorem mem_fragNames {d : QDoc} {n on sels} (h : QDef.frag n on sels ∈ d) : n ∈ Valid.fragNames d := by
  unfold Valid.fragNames
  rw [List.mem_filterMap]
  exact ⟨_, h, rfl⟩
theorem mem_opNames {d : QDoc} {k n v sels} (h : QDef.op k (some n) v sels ∈ d) : n ∈ Valid.opNames d := by
  unfold Valid.opNames
  rw [List.mem_filterMap]
  exact ⟨_, h, rfl⟩

theorem set_map_self {α β} (g : α → β) (l : List α) (i : Nat) (a b : α) (h : l[i]? = some a) (hg : g b = g a) :
    (l.set i b).map g = l.map g := by
  apply List.ext_getElem?
  intro j
  simp only [List.getElem?_map, List.getElem?_set]
  split
  · rename_i hij; subst hij
    obtain ⟨hlt, hi⟩ := List.getElem?_eq_some_iff.mp h
    simp [hlt, hi, hg]
  · rfl

/-- what the fold of `resolve_fragment` / `resolve_operation` over (a suffix of) the document does -/
structure FoldOk (s : Schema) (rest : QDoc) (q qF : Query) : Prop where
  fnames_eq : fnames qF = fnames q
  onames_eq : onames qF = onames q
  fkeep : ∀ i : Nat, (∀ n on sels, QDef.frag n on sels ∈ rest → (fnames q)[i]? ≠ some n) →
    qF.fragments[i]? = q.fragments[i]?
  okeep : ∀ i : Nat, (∀ k n v sels, QDef.op k (some n) v sels ∈ rest → (onames q)[i]? ≠ some n) →
    qF.operations[i]? = q.operations[i]?
  frag : ∀ n on sels, QDef.frag n on sels ∈ rest → ∃ t id f0 rs, s.findType on = some t ∧
    ffOf (fnames q) n = some id ∧ q.fragments[id]? = some f0 ∧
    qF.fragments[id]? = some { f0 with sels := f0.sels ++ rs } ∧
    CorrL s (ffOf (fnames q)) t sels rs ∧ (Valid.isComposite t = false → sels = [])
  op : ∀ kind name vars sels, QDef.op kind name vars sels ∈ rest → ∃ n root o id op0 rs, name = some n ∧
    Valid.rootOf s kind = some root ∧ s.objects[root]? = some o ∧
    ffOf (onames q) n = some id ∧ q.operations[id]? = some op0 ∧
    qF.operations[id]? = some { op0 with sels := op0.sels ++ rs } ∧
    CorrL s (ffOf (fnames q)) (.object root) sels rs

theorem fold_ok (s : Schema) : ∀ (rest : QDoc) (q qF : Query), rest.foldlM (resolveDef s) q = .ok qF →
    (Valid.fragNames rest).Nodup → (Valid.opNames rest).Nodup → FoldOk s rest q qF
  | [], q, qF, h, _, _ => by
    simp only [List.foldlM_nil, pure, Except.pure, Except.ok.injEq] at h
    subst h
    constructor <;> simp
  | x :: rest, q, qF, h, hfn, hon => by
    rw [List.foldlM_cons] at h
    obtain ⟨q1, hstep, hrest⟩ := bind_ok h
    cases x with
    | selset sels => simp [resolveDef, panic'] at hstep
    | frag n on sels =>
      obtain ⟨t, id, f, rs, ht, hid, hf, hrs, rfl⟩ := resolveDef_frag hstep
      have hfn' : n ∉ Valid.fragNames rest ∧ (Valid.fragNames rest).Nodup := by
        rw [fragNames_frag, List.nodup_cons] at hfn; exact hfn
      have ih := fold_ok s rest _ qF hrest hfn'.2 hon
      rw [findFragment_eq] at hid
      have hnid : (fnames q)[id]? = some n := ffOf_some hid
      have hlt : id < q.fragments.length := (List.getElem?_eq_some_iff.mp hf).1
      have hf1 : fnames { q with fragments := q.fragments.set id { f with sels := f.sels ++ rs } } = fnames q := by
        simp only [fnames]; exact set_map_self _ _ _ _ _ hf rfl
      have ho1 : onames { q with fragments := q.fragments.set id { f with sels := f.sels ++ rs } } = onames q := rfl
      have hkeep_id : qF.fragments[id]? = some { f with sels := f.sels ++ rs } := by
        rw [ih.fkeep id]
        · simp [hlt]
        · intro n' on' sels' hm hc
          rw [hf1, hnid] at hc
          cases hc
          exact hfn'.1 (mem_fragNames hm)
      have hcorr := resolveSelection_corr hrs
      rw [findFragment_eq] at hcorr
      constructor
      · rw [ih.fnames_eq, hf1]
      · rw [ih.onames_eq, ho1]
      · intro i hi
        rw [ih.fkeep i]
        · have : id ≠ i := by
            intro e; subst e
            exact hi n on sels List.mem_cons_self hnid
          simp [this]
        · intro n' on' sels' hm
          rw [hf1]; exact hi n' on' sels' (List.mem_cons_of_mem _ hm)
      · intro i hi
        rw [ih.okeep i]
        intro k n' v sels' hm
        rw [ho1]; exact hi k n' v sels' (List.mem_cons_of_mem _ hm)
      · intro n' on' sels' hm
        rcases List.mem_cons.mp hm with heq | hm
        · cases heq
          exact ⟨t, id, f, rs, ht, hid, hf, hkeep_id, hcorr.1, hcorr.2⟩
        · obtain ⟨t', id', f1, rs', h1, h2, h3, h4, h5, h6⟩ := ih.frag n' on' sels' hm
          rw [hf1] at h2 h5
          have hne : id ≠ id' := by
            intro e; subst e
            have := ffOf_some h2
            rw [hnid] at this
            cases this
            exact hfn'.1 (mem_fragNames hm)
          refine ⟨t', id', f1, rs', h1, h2, ?_, h4, h5, h6⟩
          simpa [List.getElem?_set, hne] using h3
      · intro kind name vars sels' hm
        rcases List.mem_cons.mp hm with heq | hm
        · cases heq
        · obtain ⟨n', root, o, id', op0, rs', h1, h2, h3, h4, h5, h6, h7⟩ := ih.op kind name vars sels' hm
          rw [hf1] at h7
          exact ⟨n', root, o, id', op0, rs', h1, h2, h3, h4, h5, h6, h7⟩
    | op kind name vars sels =>
      obtain ⟨root, o, n, id, vs, rs, op, hroot, ho, rfl, hid, hop, hrs, rfl⟩ := resolveDef_op hstep
      have hon' : n ∉ Valid.opNames rest ∧ (Valid.opNames rest).Nodup := by
        rw [opNames_op, List.nodup_cons] at hon; exact hon
      have ih := fold_ok s rest _ qF hrest hfn hon'.2
      rw [findOperation_eq] at hid
      have hnid : (onames q)[id]? = some n := ffOf_some hid
      have hlt : id < q.operations.length := (List.getElem?_eq_some_iff.mp hop).1
      have ho1 : onames { q with variables := q.variables ++ vs, operations := q.operations.set id { op with sels := op.sels ++ rs } } = onames q := by
        simp only [onames]; exact set_map_self _ _ _ _ _ hop rfl
      have hf1 : fnames { q with variables := q.variables ++ vs, operations := q.operations.set id { op with sels := op.sels ++ rs } } = fnames q := rfl
      have hkeep_id : qF.operations[id]? = some { op with sels := op.sels ++ rs } := by
        rw [ih.okeep id]
        · simp [hlt]
        · intro k n' v sels' hm hc
          rw [ho1, hnid] at hc
          cases hc
          exact hon'.1 (mem_opNames hm)
      rw [← fieldsOf_object ho] at hrs
      have hcorr := objSels_corr s _ _ _ sels rs hrs
      rw [findFragment_eq] at hcorr
      change CorrL s (ffOf (fnames q)) _ _ _ at hcorr
      constructor
      · rw [ih.fnames_eq, hf1]
      · rw [ih.onames_eq, ho1]
      · intro i hi
        rw [ih.fkeep i]
        intro n' on' sels' hm
        rw [hf1]; exact hi n' on' sels' (List.mem_cons_of_mem _ hm)
      · intro i hi
        rw [ih.okeep i]
        · have : id ≠ i := by
            intro e; subst e
            exact hi kind n vars sels List.mem_cons_self hnid
          simp [this]
        · intro k n' v sels' hm
          rw [ho1]; exact hi k n' v sels' (List.mem_cons_of_mem _ hm)
      · intro n' on' sels' hm
        rcases List.mem_cons.mp hm with heq | hm
        · cases heq
        · obtain ⟨t', id', f1, rs', h1, h2, h3, h4, h5, h6⟩ := ih.frag n' on' sels' hm
          rw [hf1] at h2 h5
          exact ⟨t', id', f1, rs', h1, h2, h3, h4, h5, h6⟩
      · intro kind' name' vars' sels' hm
        rcases List.mem_cons.mp hm with heq | hm
        · cases heq
          exact ⟨n, root, o, id, op, rs, rfl, hroot, ho, hid, hop, hkeep_id, hcorr⟩
        · obtain ⟨n', root', o', id', op0, rs', h1, h2, h3, h4, h5, h6, h7⟩ := ih.op kind' name' vars' sels' hm
          rw [ho1] at h4
          rw [hf1] at h7
          have hne : id ≠ id' := by
            intro e; subst e
            have := ffOf_some h4
            rw [hnid] at this
            cases this
            subst h1
            exact hon'.1 (mem_opNames hm)
          refine ⟨n', root', o', id', op0, rs', h1, h2, h3, h4, ?_, h6, h7⟩
          simpa [List.getElem?_set, hne] using h5

/-! ## the three validators, per fragment / operation -/

theorem forIn_ok {α} (body : α → PUnit → Outcome (ForInStep PUnit))
    (hy : ∀ a r, body a PUnit.unit = .ok r → r = .yield PUnit.unit) :
    ∀ (l : List α) (u : PUnit), forIn l PUnit.unit body = .ok u → ∀ a ∈ l, body a PUnit.unit = .ok (.yield PUnit.unit)
  | [], _, _, a, ha => by simp at ha
  | x :: xs, u, h, a, ha => by
    rw [List.forIn_cons] at h
    obtain ⟨r, hr, h⟩ := bind_ok h
    have := hy x r hr
    subst this
    rcases List.mem_cons.mp ha with rfl | ha
    · exact hr
    · exact forIn_ok body hy xs u h a ha

theorem forIn_check_ok {α} (g : α → Outcome Unit) (l : List α) (u : PUnit)
    (h : forIn l PUnit.unit (fun a _ => do g a; pure (ForInStep.yield PUnit.unit)) = .ok u) :
    ∀ a ∈ l, g a = .ok () := by
  intro a ha
  have := forIn_ok (fun a _ => do g a; pure (ForInStep.yield PUnit.unit)) (by
    intro a r hr
    obtain ⟨_, _, hr⟩ := bind_ok hr
    simp only [pure, Except.pure, Except.ok.injEq] at hr
    exact hr.symm) l u h a ha
  obtain ⟨_, hg, _⟩ := bind_ok this
  exact hg

theorem forIn_cond_ok {α} (c : α → Bool) (msg : α → String) (l : List α) (u : PUnit)
    (h : forIn l PUnit.unit (fun a _ => if c a = true then do
        (fail' (msg a) : Outcome PUnit); pure (ForInStep.yield PUnit.unit)
      else pure (ForInStep.yield PUnit.unit)) = .ok u) :
    ∀ a ∈ l, c a = false := by
  intro a ha
  have := forIn_ok (fun a _ => if c a = true then do
        (fail' (msg a) : Outcome PUnit); pure (ForInStep.yield PUnit.unit)
      else pure (ForInStep.yield PUnit.unit)) (by
    intro a r hr
    split at hr
    · simp [fail', bind, Except.bind] at hr
    · simp only [pure, Except.pure, Except.ok.injEq] at hr
      exact hr.symm) l u h a ha
  split at this
  · simp [fail', bind, Except.bind] at this
  · rename_i hc; simpa using hc

theorem validateTypenamePresence_ok {s : Schema} {q : Query} (h : validateTypenamePresence s q = .ok ()) :
    (∀ f ∈ q.fragments, f.on.isAbstract = true → containsTypename q f.on f.sels = true) ∧
    (∀ f ∈ q.fragments, fieldsHaveTypenameList s q f.sels = .ok ()) ∧
    (∀ o ∈ q.operations, fieldsHaveTypenameList s q o.sels = .ok ()) := by
  unfold validateTypenamePresence at h
  obtain ⟨u1, h1, h⟩ := bind_ok h
  obtain ⟨u2, h2, h⟩ := bind_ok h
  obtain ⟨u3, h3, h⟩ := bind_ok h
  refine ⟨?_, forIn_check_ok _ _ _ h2, forIn_check_ok _ _ _ h3⟩
  intro f hf ha
  have := forIn_cond_ok (fun f : RFragment => f.on.isAbstract && !containsTypename q f.on f.sels) _ _ _ h1 f hf
  simp only [ha, Bool.true_and, Bool.not_eq_false'] at this
  exact this

theorem validateTypeConditions_ok {s : Schema} {q : Query} (h : validateTypeConditions s q = .ok ()) :
    (∀ f ∈ q.fragments, typeConditionsList s q f.on f.sels = .ok ()) ∧
    (∀ o ∈ q.operations, typeConditionsList s q (.object o.objectId) o.sels = .ok ()) := by
  unfold validateTypeConditions at h
  obtain ⟨u1, h1, h⟩ := bind_ok h
  obtain ⟨u2, h2, h⟩ := bind_ok h
  exact ⟨forIn_check_ok _ _ _ h1, forIn_check_ok _ _ _ h2⟩

theorem validateSubscriptions_ok {q : Query} (h : validateSubscriptions q = .ok ()) :
    ∀ o ∈ q.operations, o.kind = .subscription → (rootFieldCount q (depthFuel q) [] o.sels).1 = 1 := by
  unfold validateSubscriptions at h
  obtain ⟨u1, h1, h⟩ := bind_ok h
  intro o ho hk
  have := forIn_cond_ok (fun o : ROperation => o.kind == OpKind.subscription &&
    (rootFieldCount q (depthFuel q) [] o.sels).fst != 1) _ _ _ h1 o ho
  simpa [hk] using this

/-! ## (d) subscription root: the depth-first count with a shared visited set -/

/-- number of fragment indices below `nf` not yet visited -/
def unvisited (nf : Nat) (V : List Nat) : Nat := C02.unseen nf (V.contains ·)

theorem unvisited_mono {nf : Nat} {V V' : List Nat} (h : ∀ x ∈ V, x ∈ V') : unvisited nf V' ≤ unvisited nf V :=
  C02.unseen_le fun i hi => by simpa using h i (by simpa using hi)

theorem unvisited_cons {nf fid : Nat} {V : List Nat} (hlt : fid < nf) (hV : fid ∉ V) :
    unvisited nf (fid :: V) + 1 ≤ unvisited nf V :=
  C02.unseen_lt fid hlt (by simpa using hV) (by simp) fun i hi => by simp [List.mem_of_elem_eq_true hi]

abbrev FT := List (String × String × List QSel)

/-- index of the fragment a spread name denotes, from the document's fragment table only -/
def ftff (ft : FT) : String → Option Nat := ffOf (ft.map (·.1))

theorem ftff_some {ft : FT} {n : String} {fid : Nat} (h : ftff ft n = some fid) :
    ∃ e, ft[fid]? = some e ∧ e.1 = n ∧ Valid.findFrag ft n = some e.2 := by
  have h1 := ffOf_some h
  rw [List.getElem?_map] at h1
  cases he : ft[fid]? with
  | none => simp [he] at h1
  | some e =>
    simp only [he, Option.map_some, Option.some.injEq] at h1
    refine ⟨e, rfl, h1, ?_⟩
    unfold Valid.findFrag
    rw [List.find?_eq_bind_findIdx?_getElem?]
    have : ft.findIdx? (fun x => x.1 == n) = some fid := by
      have := h
      unfold ftff ffOf at this
      rw [List.findIdx?_map] at this
      exact this
    rw [this]
    simp [he]

theorem ftff_of_findFrag {ft : FT} {n : String} {p : String × List QSel} (h : Valid.findFrag ft n = some p) :
    ∃ fid e, ftff ft n = some fid ∧ ft[fid]? = some e ∧ e.2 = p := by
  unfold Valid.findFrag at h
  rw [List.find?_eq_bind_findIdx?_getElem?] at h
  cases hi : ft.findIdx? (fun x => x.1 == n) with
  | none => simp [hi] at h
  | some fid =>
    simp only [hi, Option.bind_some] at h
    cases he : ft[fid]? with
    | none => simp [he] at h
    | some e =>
      simp only [he, Option.map_some, Option.some.injEq] at h
      refine ⟨fid, e, ?_, he, h⟩
      unfold ftff ffOf
      rw [List.findIdx?_map]
      exact hi

/-- entering an unvisited fragment leaves enough of the budget for its body -/
theorem spread_budget {ft : FT} {K G fid : Nat} {V : List Nat} {e : String × String × List QSel} {n : String}
    (hK : ∀ e ∈ ft, Valid.qselsDepth e.2.2 + 1 ≤ K) (he : ft[fid]? = some e) (hV : fid ∉ V)
    (hx : unvisited ft.length V * K + Valid.qselDepth (.spread n) ≤ G) :
    unvisited ft.length (fid :: V) * K + Valid.qselsDepth e.2.2 + 1 ≤ G := by
  have hu := unvisited_cons (List.getElem?_eq_some_iff.mp he).1 hV
  have hKe := hK e (List.mem_of_getElem? he)
  have hmul : (unvisited ft.length (fid :: V) + 1) * K ≤ unvisited ft.length V * K := Nat.mul_le_mul_right K hu
  rw [Nat.succ_mul] at hmul
  simp only [Valid.qselDepth] at hx
  omega

/-- the walk of `count_root_fields` replayed on the written document, collecting response keys -/
def qstep (ft : FT) (rec : List Nat → List QSel → List String × List Nat)
    (acc : List String × List Nat) : QSel → List String × List Nat
  | .field alias name _ => (acc.1 ++ [alias.getD name], acc.2)
  | .inline _ sub => let r := rec acc.2 sub; (acc.1 ++ r.1, r.2)
  | .spread n =>
    match ftff ft n with
    | none => acc
    | some fid =>
      if acc.2.contains fid then acc else
      match ft[fid]? with
      | none => acc
      | some e => let r := rec (fid :: acc.2) e.2.2; (acc.1 ++ r.1, r.2)

def qwalk (ft : FT) : Nat → List Nat → List QSel → List String × List Nat
  | 0, V, _ => ([], V)
  | fuel+1, V, sels => sels.foldl (qstep ft (fun V' s' => qwalk ft fuel V' s')) ([], V)

/-- monotonicity of one step and of the fold -/
theorem qstep_mono (ft : FT) {rec} (hrec : ∀ V sels, ∀ v ∈ V, v ∈ (rec V sels).2) (acc) (x : QSel) :
    (∀ k ∈ acc.1, k ∈ (qstep ft rec acc x).1) ∧ (∀ v ∈ acc.2, v ∈ (qstep ft rec acc x).2) := by
  cases x with
  | field a n sub => exact ⟨fun k hk => List.mem_append_left _ hk, fun v hv => hv⟩
  | inline on sub =>
    simp only [qstep]
    exact ⟨fun k hk => List.mem_append_left _ hk, fun v hv => hrec _ _ v hv⟩
  | spread n =>
    simp only [qstep]
    split
    · exact ⟨fun _ h => h, fun _ h => h⟩
    · split
      · exact ⟨fun _ h => h, fun _ h => h⟩
      · split
        · exact ⟨fun _ h => h, fun _ h => h⟩
        · exact ⟨fun k hk => List.mem_append_left _ hk, fun v hv => hrec _ _ v (List.mem_cons_of_mem _ hv)⟩

theorem qfold_mono (ft : FT) {rec} (hrec : ∀ V sels, ∀ v ∈ V, v ∈ (rec V sels).2) :
    ∀ (xs : List QSel) (acc), (∀ k ∈ acc.1, k ∈ (xs.foldl (qstep ft rec) acc).1) ∧
      (∀ v ∈ acc.2, v ∈ (xs.foldl (qstep ft rec) acc).2)
  | [], acc => by simp
  | x :: xs, acc => by
    rw [List.foldl_cons]
    have h1 := qstep_mono ft hrec acc x
    have h2 := qfold_mono ft hrec xs (qstep ft rec acc x)
    exact ⟨fun k hk => h2.1 k (h1.1 k hk), fun v hv => h2.2 v (h1.2 v hv)⟩

theorem qwalk_mono (ft : FT) : ∀ (fuel : Nat) (V : List Nat) (sels : List QSel), ∀ v ∈ V, v ∈ (qwalk ft fuel V sels).2
  | 0, V, sels => by simp [qwalk]
  | fuel+1, V, sels => by
    unfold qwalk
    exact (qfold_mono ft (fun V' s' => qwalk_mono ft fuel V' s') sels ([], V)).2

/-- `x` is a field or a spread of the selection set, possibly inside inline fragments -/
inductive Dir : List QSel → QSel → Prop
  | field {sels a n sub} : QSel.field a n sub ∈ sels → Dir sels (.field a n sub)
  | spread {sels n} : QSel.spread n ∈ sels → Dir sels (.spread n)
  | inl {sels on sub x} : QSel.inline on sub ∈ sels → Dir sub x → Dir sels x

/-- every root field of `sels` has its key in `ks`, every spread of `sels` leads into `C` -/
def Cov (ft : FT) (ks : List String) (C : List Nat) (sels : List QSel) : Prop :=
  (∀ a n sub, Dir sels (.field a n sub) → a.getD n ∈ ks) ∧
  (∀ n fid, Dir sels (.spread n) → ftff ft n = some fid → fid ∈ C)

def CovI (ft : FT) (ks : List String) (C : List Nat) : QSel → Prop
  | .field a n _ => a.getD n ∈ ks
  | .spread n => ∀ fid, ftff ft n = some fid → fid ∈ C
  | .inline _ sub => Cov ft ks C sub

theorem cov_of_items {ft : FT} {ks C sels} (h : ∀ x ∈ sels, CovI ft ks C x) : Cov ft ks C sels := by
  constructor
  · intro a n sub hd
    cases hd with
    | field hm => exact h _ hm
    | inl hm hd' => exact (h _ hm).1 a n sub hd'
  · intro n fid hd hff
    cases hd with
    | spread hm => exact h _ hm fid hff
    | inl hm hd' => exact (h _ hm).2 n fid hd' hff

theorem items_of_cov {ft : FT} {ks C sels} (h : Cov ft ks C sels) : ∀ x ∈ sels, CovI ft ks C x := by
  intro x hx
  cases x with
  | field a n sub => exact h.1 a n sub (.field hx)
  | spread n => exact fun fid hff => h.2 n fid (.spread hx) hff
  | inline on sub =>
    exact ⟨fun a n s hd => h.1 a n s (.inl hx hd), fun n fid hd hff => h.2 n fid (.inl hx hd) hff⟩

theorem Cov.mono {ft : FT} {ks ks' C C' sels} (hk : ∀ k ∈ ks, k ∈ ks') (hc : ∀ c ∈ C, c ∈ C')
    (h : Cov ft ks C sels) : Cov ft ks' C' sels :=
  ⟨fun a n sub hd => hk _ (h.1 a n sub hd), fun n fid hd hff => hc _ (h.2 n fid hd hff)⟩

theorem CovI.mono {ft : FT} {ks ks' C C' x} (hk : ∀ k ∈ ks, k ∈ ks') (hc : ∀ c ∈ C, c ∈ C')
    (h : CovI ft ks C x) : CovI ft ks' C' x := by
  cases x with
  | field a n sub => exact hk _ h
  | spread n => exact fun fid hff => hc _ (h fid hff)
  | inline on sub => exact Cov.mono hk hc h

/-- post-condition of a walk started with visited set `V` -/
def Post (ft : FT) (V : List Nat) (sels : List QSel) (r : List String × List Nat) : Prop :=
  Cov ft r.1 r.2 sels ∧ ∀ g ∈ r.2, g ∉ V → ∀ e, ft[g]? = some e → Cov ft r.1 r.2 e.2.2

theorem qfold_post {ft : FT} {K fuel : Nat} {rec : List Nat → List QSel → List String × List Nat}
    (hK : ∀ e ∈ ft, Valid.qselsDepth e.2.2 + 1 ≤ K)
    (hmono : ∀ V sels, ∀ v ∈ V, v ∈ (rec V sels).2)
    (hrec : ∀ V sels, unvisited ft.length V * K + Valid.qselsDepth sels + 1 ≤ fuel → Post ft V sels (rec V sels)) :
    ∀ (xs : List QSel) (acc : List String × List Nat),
      (∀ x ∈ xs, unvisited ft.length acc.2 * K + Valid.qselDepth x ≤ fuel) →
      (∀ x ∈ xs, CovI ft (xs.foldl (qstep ft rec) acc).1 (xs.foldl (qstep ft rec) acc).2 x) ∧
      (∀ g ∈ (xs.foldl (qstep ft rec) acc).2, g ∉ acc.2 → ∀ e, ft[g]? = some e →
        Cov ft (xs.foldl (qstep ft rec) acc).1 (xs.foldl (qstep ft rec) acc).2 e.2.2)
  | [], acc, _ => by
    simp only [List.foldl_nil]
    exact ⟨fun x hx => by simp at hx, fun g hg hn => absurd hg hn⟩
  | x :: xs, acc, had => by
    rw [List.foldl_cons]
    have hx := had x List.mem_cons_self
    have hstep : CovI ft (qstep ft rec acc x).1 (qstep ft rec acc x).2 x ∧
        (∀ g ∈ (qstep ft rec acc x).2, g ∉ acc.2 → ∀ e, ft[g]? = some e →
          Cov ft (qstep ft rec acc x).1 (qstep ft rec acc x).2 e.2.2) := by
      cases x with
      | field a n sub =>
        simp only [qstep, CovI]
        exact ⟨by simp, fun g hg hn => absurd hg hn⟩
      | inline on sub =>
        simp only [qstep, CovI]
        have hp := hrec acc.2 sub (by simp only [Valid.qselDepth] at hx; omega)
        refine ⟨hp.1.mono (fun k hk => List.mem_append_right _ hk) (fun _ h => h), ?_⟩
        intro g hg hn e he
        exact (hp.2 g hg hn e he).mono (fun k hk => List.mem_append_right _ hk) (fun _ h => h)
      | spread n =>
        simp only [qstep, CovI]
        split
        · rename_i hnone
          exact ⟨fun fid hff => (by rw [hnone] at hff; cases hff), fun g hg hn => absurd hg hn⟩
        · rename_i fid hfid
          split
          · rename_i hvis
            refine ⟨fun fid' hff => ?_, fun g hg hn => absurd hg hn⟩
            rw [hfid] at hff; cases hff
            simpa using hvis
          · rename_i hvis
            have hvis' : fid ∉ acc.2 := by simpa using hvis
            obtain ⟨e, he, _, _⟩ := ftff_some hfid
            simp only [he]
            have hp := hrec (fid :: acc.2) e.2.2 (spread_budget hK he hvis' hx)
            refine ⟨fun fid' hff => ?_, ?_⟩
            · rw [hfid] at hff; cases hff
              exact hmono _ _ fid List.mem_cons_self
            · intro g hg hn e' he'
              by_cases hgf : g = fid
              · subst hgf
                rw [he] at he'; cases he'
                exact hp.1.mono (fun k hk => List.mem_append_right _ hk) (fun _ h => h)
              · have : g ∉ fid :: acc.2 := by
                  intro hm
                  rcases List.mem_cons.mp hm with h | h
                  · exact hgf h
                  · exact hn h
                exact (hp.2 g hg this e' he').mono (fun k hk => List.mem_append_right _ hk) (fun _ h => h)
    have hm1 := qstep_mono ft hmono acc x
    have hm2 := qfold_mono ft hmono xs (qstep ft rec acc x)
    have ih := qfold_post hK hmono hrec xs (qstep ft rec acc x) (by
      intro y hy
      have := had y (List.mem_cons_of_mem _ hy)
      have hu := unvisited_mono (nf := ft.length) hm1.2
      have := Nat.mul_le_mul_right K hu
      omega)
    constructor
    · intro y hy
      rcases List.mem_cons.mp hy with rfl | hy
      · exact hstep.1.mono hm2.1 hm2.2
      · exact ih.1 y hy
    · intro g hg hn e he
      by_cases hgs : g ∈ (qstep ft rec acc x).2
      · exact (hstep.2 g hgs hn e he).mono hm2.1 hm2.2
      · exact ih.2 g hg hgs e he

theorem qwalk_post {ft : FT} {K : Nat} (hK : ∀ e ∈ ft, Valid.qselsDepth e.2.2 + 1 ≤ K) :
    ∀ (fuel : Nat) (V : List Nat) (sels : List QSel),
      unvisited ft.length V * K + Valid.qselsDepth sels + 1 ≤ fuel → Post ft V sels (qwalk ft fuel V sels)
  | 0, V, sels, h => by omega
  | fuel+1, V, sels, h => by
    unfold qwalk
    have := qfold_post hK (fun V' s' => qwalk_mono ft fuel V' s') (fun V' s' => qwalk_post hK fuel V' s')
      sels ([], V) (by
        intro x hx
        have := qselDepth_le_of_mem hx
        simp only
        omega)
    exact ⟨cov_of_items this.1, this.2⟩

/-- one item of `Valid.rootKeys` -/
def rkItem (ft : FT) (G : Nat) : QSel → List String
  | .field alias name _ => [alias.getD name]
  | .spread n => match Valid.findFrag ft n with
    | some (_, fsels) => Valid.rootKeys ft G fsels
    | none => []
  | .inline _ sub => Valid.rootKeys ft G sub

theorem rootKeys_succ (ft : FT) (G : Nat) (sels : List QSel) :
    Valid.rootKeys ft (G + 1) sels = sels.flatMap (rkItem ft G) := by
  unfold Valid.rootKeys
  congr

/-- every key the specification's expansion finds is one the walk has collected, once the walk's
    result is closed under spreads -/
theorem rootKeys_sub_of_closed {ft : FT} {ks : List String} {C : List Nat}
    (hcl : ∀ g ∈ C, ∀ e, ft[g]? = some e → Cov ft ks C e.2.2) :
    ∀ (G : Nat) (sels : List QSel), Cov ft ks C sels → ∀ k ∈ Valid.rootKeys ft G sels, k ∈ ks
  | 0, sels, _, k, hk => by simp [Valid.rootKeys] at hk
  | G+1, sels, hc, k, hk => by
    rw [rootKeys_succ, List.mem_flatMap] at hk
    obtain ⟨x, hx, hkx⟩ := hk
    have hi := items_of_cov hc x hx
    cases x with
    | field a n sub =>
      simp only [rkItem, List.mem_singleton] at hkx
      subst hkx; exact hi
    | inline on sub => exact rootKeys_sub_of_closed hcl G sub hi k hkx
    | spread n =>
      simp only [rkItem] at hkx
      split at hkx
      · rename_i on fsels hff
        obtain ⟨fid, e, h1, h2, h3⟩ := ftff_of_findFrag hff
        have hfc : fid ∈ C := hi fid h1
        have := hcl fid hfc e h2
        rw [h3] at this
        exact rootKeys_sub_of_closed hcl G fsels this k hkx
      · simp at hkx

/-- every key the walk collects is found by the specification's expansion, given enough fuel there -/
theorem qfold_sound {ft : FT} {K G : Nat} {rec : List Nat → List QSel → List String × List Nat}
    (hK : ∀ e ∈ ft, Valid.qselsDepth e.2.2 + 1 ≤ K)
    (hmono : ∀ V sels, ∀ v ∈ V, v ∈ (rec V sels).2)
    (hrec : ∀ V sels, unvisited ft.length V * K + Valid.qselsDepth sels + 1 ≤ G →
      ∀ k ∈ (rec V sels).1, k ∈ Valid.rootKeys ft G sels) :
    ∀ (xs : List QSel) (acc : List String × List Nat),
      (∀ x ∈ xs, unvisited ft.length acc.2 * K + Valid.qselDepth x ≤ G) →
      ∀ k ∈ (xs.foldl (qstep ft rec) acc).1, k ∈ acc.1 ∨ ∃ x ∈ xs, k ∈ rkItem ft G x
  | [], acc, _, k, hk => Or.inl hk
  | x :: xs, acc, had, k, hk => by
    rw [List.foldl_cons] at hk
    have hx := had x List.mem_cons_self
    have hm1 := qstep_mono ft hmono acc x
    have ih := qfold_sound hK hmono hrec xs (qstep ft rec acc x) (by
      intro y hy
      have := had y (List.mem_cons_of_mem _ hy)
      have hu := unvisited_mono (nf := ft.length) hm1.2
      have := Nat.mul_le_mul_right K hu
      omega) k hk
    rcases ih with ih | ⟨y, hy, hky⟩
    · -- k was added by the step for x
      have : k ∈ acc.1 ∨ k ∈ rkItem ft G x := by
        cases x with
        | field a n sub =>
          simp only [qstep, List.mem_append, List.mem_singleton] at ih
          rcases ih with h | h
          · exact Or.inl h
          · right; simp [rkItem, h]
        | inline on sub =>
          simp only [qstep, List.mem_append] at ih
          rcases ih with h | h
          · exact Or.inl h
          · right
            simp only [rkItem]
            exact hrec acc.2 sub (by simp only [Valid.qselDepth] at hx; omega) k h
        | spread n =>
          simp only [qstep] at ih
          split at ih
          · exact Or.inl ih
          · rename_i fid hfid
            split at ih
            · exact Or.inl ih
            · rename_i hvis
              have hvis' : fid ∉ acc.2 := by simpa using hvis
              obtain ⟨e, he, _, hfind⟩ := ftff_some hfid
              simp only [he, List.mem_append] at ih
              rcases ih with h | h
              · exact Or.inl h
              · right
                simp only [rkItem, hfind]
                exact hrec (fid :: acc.2) e.2.2 (spread_budget hK he hvis' hx) k h
      rcases this with h | h
      · exact Or.inl h
      · exact Or.inr ⟨x, List.mem_cons_self, h⟩
    · exact Or.inr ⟨y, List.mem_cons_of_mem _ hy, hky⟩

theorem qwalk_sound {ft : FT} {K : Nat} (hK : ∀ e ∈ ft, Valid.qselsDepth e.2.2 + 1 ≤ K) :
    ∀ (fuel G : Nat) (V : List Nat) (sels : List QSel),
      unvisited ft.length V * K + Valid.qselsDepth sels + 1 ≤ G →
      ∀ k ∈ (qwalk ft fuel V sels).1, k ∈ Valid.rootKeys ft G sels
  | 0, G, V, sels, _, k, hk => by simp [qwalk] at hk
  | fuel+1, 0, V, sels, h, k, hk => by omega
  | fuel+1, G+1, V, sels, h, k, hk => by
    unfold qwalk at hk
    have := qfold_sound (G := G) hK (fun V' s' => qwalk_mono ft fuel V' s')
      (fun V' s' hh => qwalk_sound hK fuel G V' s' hh) sels ([], V) (by
        intro x hx
        have := qselDepth_le_of_mem hx
        simp only
        omega) k hk
    rcases this with h | ⟨x, hx, hkx⟩
    · simp at h
    · rw [rootKeys_succ, List.mem_flatMap]
      exact ⟨x, hx, hkx⟩

/-- the body of the fold in `Resolve.rootFieldCount` -/
def cstep (q : Query) (rec : List Nat → List Sel → Nat × List Nat) (acc : Nat × List Nat) : Sel → Nat × List Nat
  | .field _ _ _ => (acc.1 + 1, acc.2)
  | .typename => (acc.1 + 1, acc.2)
  | .inline _ sub =>
    let r := rec acc.2 sub
    (acc.1 + r.1, r.2)
  | .spread fid =>
    if acc.2.contains fid then acc else
    match q.fragments[fid]? with
    | none => acc
    | some f =>
      let r := rec (fid :: acc.2) f.sels
      (acc.1 + r.1, r.2)

theorem rootFieldCount_succ (q : Query) (fuel : Nat) (V : List Nat) (sels : List Sel) :
    rootFieldCount q (fuel + 1) V sels = sels.foldl (cstep q (fun V' s' => rootFieldCount q fuel V' s')) (0, V) := by
  conv => lhs; unfold rootFieldCount
  congr

theorem table_frag {s : Schema} {ft : FT} {qF : Query} (htab : TableOk s (ftff ft) ft qF) {n : String} {fid : Nat}
    (hff : ftff ft n = some fid) :
    ∃ f e, qF.fragments[fid]? = some f ∧ ft[fid]? = some e ∧ s.findType e.2.1 = some f.on ∧
      CorrL s (ftff ft) f.on e.2.2 f.sels := by
  obtain ⟨f, on, fsels, h1, h2, h3, h4⟩ := htab.find n fid hff
  obtain ⟨e, he, _, hfind⟩ := ftff_some hff
  rw [h2] at hfind
  have : e.2 = (on, fsels) := (Option.some.inj hfind).symm
  refine ⟨f, e, h1, he, ?_, ?_⟩
  · rw [this]; exact h3
  · rw [this]; exact h4

theorem fold_sim {s : Schema} {ft : FT} {qF : Query} (htab : TableOk s (ftff ft) ft qF)
    {recC : List Nat → List Sel → Nat × List Nat} {recQ : List Nat → List QSel → List String × List Nat}
    (hrec : ∀ V p sels rs, CorrL s (ftff ft) p sels rs → recC V rs = ((recQ V sels).1.length, (recQ V sels).2)) :
    ∀ (xs : List QSel) (rs : List Sel) (p : TypeId), CorrL s (ftff ft) p xs rs →
      ∀ (acc : Nat × List Nat) (accK : List String × List Nat), acc.1 = accK.1.length → acc.2 = accK.2 →
      (rs.foldl (cstep qF recC) acc).1 = (xs.foldl (qstep ft recQ) accK).1.length ∧
      (rs.foldl (cstep qF recC) acc).2 = (xs.foldl (qstep ft recQ) accK).2
  | [], rs, p, hc, acc, accK, h1, h2 => by
    cases hc
    exact ⟨h1, h2⟩
  | x :: xs, rs, p, hc, acc, accK, h1, h2 => by
    cases hc with
    | cons hx hxs =>
      rename_i r rs
      rw [List.foldl_cons, List.foldl_cons]
      have hstep : (cstep qF recC acc r).1 = (qstep ft recQ accK x).1.length ∧
          (cstep qF recC acc r).2 = (qstep ft recQ accK x).2 := by
        cases hx with
        | typename hn => simp [cstep, qstep, h1, h2]
        | field => simp [cstep, qstep, h1, h2]
        | inline ht hleaf hsub =>
          simp only [cstep, qstep]
          rw [h2, hrec _ _ _ _ hsub]
          simp [h1]
        | spread hff =>
          rename_i n fid
          obtain ⟨f, e, hf, he, _, hcf⟩ := table_frag htab hff
          simp only [cstep, qstep, hff, hf, he, h2]
          split
          · exact ⟨h1, h2⟩
          · rw [hrec _ _ _ _ hcf]
            simp [h1]
      exact fold_sim htab hrec xs rs p hxs _ _ hstep.1 hstep.2

theorem walk_sim {s : Schema} {ft : FT} {qF : Query} (htab : TableOk s (ftff ft) ft qF) :
    ∀ (fuel : Nat) (V : List Nat) (p : TypeId) (sels : List QSel) (rs : List Sel), CorrL s (ftff ft) p sels rs →
      rootFieldCount qF fuel V rs = ((qwalk ft fuel V sels).1.length, (qwalk ft fuel V sels).2)
  | 0, V, p, sels, rs, hc => by simp [rootFieldCount, qwalk]
  | fuel+1, V, p, sels, rs, hc => by
    rw [rootFieldCount_succ]
    unfold qwalk
    have := fold_sim htab (fun V' p' s' r' hc' => walk_sim htab fuel V' p' s' r' hc') sels rs p hc (0, V) ([], V) rfl rfl
    exact Prod.ext this.1 this.2

mutual
  theorem corr_depth {s : Schema} {ff} : ∀ (x : QSel) (p : TypeId) (r : Sel), Corr s ff p x r →
      selDepth' r = Valid.qselDepth x
    | .field a n sub, p, r, hc => by
      cases hc with
      | typename => simp [selDepth', Valid.qselDepth, Valid.qselsDepth]
      | field _ _ _ _ hsub =>
        simp only [selDepth', Valid.qselDepth]
        rw [corrL_depth sub _ _ hsub]
    | .inline on sub, p, r, hc => by
      cases hc with
      | inline _ _ hsub =>
        simp only [selDepth', Valid.qselDepth]
        rw [corrL_depth sub _ _ hsub]
    | .spread n, p, r, hc => by
      cases hc with
      | spread => simp [selDepth', Valid.qselDepth]
  theorem corrL_depth {s : Schema} {ff} : ∀ (xs : List QSel) (p : TypeId) (rs : List Sel), CorrL s ff p xs rs →
      selsDepth' rs = Valid.qselsDepth xs
    | [], p, rs, hc => by cases hc; simp [selsDepth', Valid.qselsDepth]
    | x :: xs, p, rs, hc => by
      cases hc with
      | cons hx hxs =>
        simp only [selsDepth', Valid.qselsDepth]
        rw [corr_depth x _ _ hx, corrL_depth xs _ _ hxs]
end

theorem eraseDups_const {k : String} : ∀ (L : List String), (∀ x ∈ L, x = k) → L ≠ [] → L.eraseDups = [k]
  | [], _, h => absurd rfl h
  | a :: as, hall, _ => by
    rw [List.eraseDups_cons]
    have ha : a = k := hall a List.mem_cons_self
    subst ha
    have : List.filter (fun b => !b == a) as = [] := by
      rw [List.filter_eq_nil_iff]
      intro x hx
      simp [hall x (List.mem_cons_of_mem _ hx)]
    rw [this]
    simp

theorem unvisited_le (nf : Nat) (V : List Nat) : unvisited nf V ≤ nf := C02.unseen_le_n _ _

/-- the subscription clause: a count of exactly one root field means the specification's expansion
    finds exactly one response key -/
theorem sub_keys {s : Schema} {ft : FT} {qF : Query} (htab : TableOk s (ftff ft) ft qF)
    {p : TypeId} {sels : List QSel} {rs : List Sel} (hc : CorrL s (ftff ft) p sels rs)
    {dq D : Nat}
    (hdq : ∀ e ∈ ft, Valid.qselsDepth e.2.2 ≤ dq) (hdq' : Valid.qselsDepth sels ≤ dq)
    (hD : ∀ e ∈ ft, Valid.qselsDepth e.2.2 ≤ D) (hD' : Valid.qselsDepth sels ≤ D)
    (hcount : (rootFieldCount qF ((ft.length + 1) * (dq + 2) + 1) [] rs).1 = 1) :
    (Valid.rootKeys ft ((ft.length + 1) * (D + 1) + 1) sels).eraseDups.length = 1 := by
  rw [walk_sim htab _ _ _ _ _ hc] at hcount
  simp only at hcount
  have hu := unvisited_le ft.length []
  -- completeness of the walk with the code's fuel
  have hpost := qwalk_post (ft := ft) (K := dq + 1) (fun e he => by have := hdq e he; omega)
    ((ft.length + 1) * (dq + 2) + 1) [] sels (by
      have := Nat.mul_le_mul_right (dq + 1) hu
      simp only [Nat.add_mul, Nat.mul_add] at this ⊢
      omega)
  -- soundness of the walk against the specification's fuel
  have hsound := qwalk_sound (ft := ft) (K := D + 1) (fun e he => by have := hD e he; omega)
    ((ft.length + 1) * (dq + 2) + 1) ((ft.length + 1) * (D + 1) + 1) [] sels (by
      have := Nat.mul_le_mul_right (D + 1) hu
      simp only [Nat.add_mul, Nat.mul_add] at this ⊢
      omega)
  generalize qwalk ft ((ft.length + 1) * (dq + 2) + 1) [] sels = w at hcount hpost hsound
  obtain ⟨ks, C⟩ := w
  simp only at hcount hpost hsound
  have hsub := rootKeys_sub_of_closed (ft := ft) (ks := ks) (C := C)
    (fun g hg e he => hpost.2 g hg (by simp) e he) ((ft.length + 1) * (D + 1) + 1) sels hpost.1
  obtain ⟨k0, rfl⟩ := List.length_eq_one_iff.mp hcount
  have hall : ∀ x ∈ Valid.rootKeys ft ((ft.length + 1) * (D + 1) + 1) sels, x = k0 := by
    intro x hx; simpa using hsub x hx
  have hne : Valid.rootKeys ft ((ft.length + 1) * (D + 1) + 1) sels ≠ [] := by
    intro h
    have := hsound k0 (by simp)
    rw [h] at this
    simp at this
  rw [eraseDups_const _ hall hne]
  rfl

/-! ## (e) assembly -/

theorem fragTable_names (d : QDoc) : (Valid.fragTable d).map (·.1) = Valid.fragNames d := by
  induction d with
  | nil => rfl
  | cons x d ih =>
    cases x <;> simp only [Valid.fragTable, Valid.fragNames, List.filterMap_cons, List.map_cons] at ih ⊢ <;> rw [ih]

theorem mem_fragTable {d : QDoc} {e : String × String × List QSel} (h : e ∈ Valid.fragTable d) :
    QDef.frag e.1 e.2.1 e.2.2 ∈ d := by
  unfold Valid.fragTable at h
  rw [List.mem_filterMap] at h
  obtain ⟨x, hx, hxe⟩ := h
  cases x with
  | frag n on sels => simp at hxe; subst hxe; exact hx
  | op => simp at hxe
  | selset => simp at hxe

theorem nodupStrings_iff : ∀ (l : List String), Valid.nodupStrings l = true ↔ l.Nodup
  | [] => by simp [Valid.nodupStrings]
  | x :: xs => by
    unfold Valid.nodupStrings
    rw [List.nodup_cons, Bool.and_eq_true, nodupStrings_iff xs]
    simp

theorem resolve_inv {s : Schema} {d : QDoc} {qF : Query} (h : resolve s d = .ok qF) :
    ∃ q0, createRoots s d {} = .ok q0 ∧ d.foldlM (resolveDef s) q0 = .ok qF ∧
      validateTypenamePresence s qF = .ok () ∧ validateSubscriptions qF = .ok () ∧
      validateTypeConditions s qF = .ok () := by
  unfold resolve at h
  obtain ⟨q0, h0, h⟩ := bind_ok h
  obtain ⟨q1, h1, h⟩ := bind_ok h
  obtain ⟨_, h2, h⟩ := bind_ok h
  obtain ⟨_, h3, h⟩ := bind_ok h
  obtain ⟨_, h4, h⟩ := bind_ok h
  simp only [pure, Except.pure, Except.ok.injEq] at h
  subst h
  exact ⟨q0, h0, h1, h2, h3, h4⟩

/-- everything the first two phases of `resolve` establish, stated on the final query -/
structure Resolved (s : Schema) (d : QDoc) (qF : Query) : Prop where
  fnodup : (Valid.fragNames d).Nodup
  onodup : (Valid.opNames d).Nodup
  noselset : ∀ sels, QDef.selset sels ∉ d
  table : TableOk s (ftff (Valid.fragTable d)) (Valid.fragTable d) qF
  frag : ∀ n on sels, QDef.frag n on sels ∈ d → ∃ (t : TypeId) (id : Nat) (rs : List Sel), s.findType on = some t ∧
    qF.fragments[id]? = some ({ name := n, on := t, sels := rs } : RFragment) ∧
    CorrL s (ftff (Valid.fragTable d)) t sels rs ∧ (Valid.isComposite t = false → sels = [])
  op : ∀ kind name vars sels, QDef.op kind name vars sels ∈ d → ∃ (n : String) (root id : Nat) (rs : List Sel), name = some n ∧
    Valid.rootOf s kind = some root ∧ (kind = .subscription → sels.length = 1) ∧
    qF.operations[id]? = some ({ name := n, kind := kind, objectId := root, sels := rs } : ROperation) ∧
    CorrL s (ftff (Valid.fragTable d)) (.object root) sels rs

theorem resolved_of_phases {s : Schema} {d : QDoc} {q0 qF : Query} (h0 : createRoots s d {} = .ok q0)
    (h1 : d.foldlM (resolveDef s) q0 = .ok qF) : Resolved s d qF := by
  have hr := createRoots_ok s d {} q0 h0
  have hfn : fnames q0 = Valid.fragNames d := by simpa [fnames] using hr.fnames
  have hon : onames q0 = Valid.opNames d := by simpa [onames] using hr.onames
  have hfnd : (fnames q0).Nodup := hr.fnodup (by simp [fnames])
  have hond : (onames q0).Nodup := hr.onodup (by simp [onames])
  have hf := fold_ok s d q0 qF h1 (hfn ▸ hfnd) (hon ▸ hond)
  have hff : ffOf (fnames q0) = ftff (Valid.fragTable d) := by
    unfold ftff; rw [fragTable_names, hfn]
  have hfrag : ∀ n on sels, QDef.frag n on sels ∈ d → ∃ t id rs, s.findType on = some t ∧
      ffOf (fnames q0) n = some id ∧
      qF.fragments[id]? = some ({ name := n, on := t, sels := rs } : RFragment) ∧
      CorrL s (ffOf (fnames q0)) t sels rs ∧ (Valid.isComposite t = false → sels = []) := by
    intro n on sels hm
    obtain ⟨t, id, f0, rs, ht, hid, hf0, hfF, hcorr, hleaf⟩ := hf.frag n on sels hm
    obtain ⟨t', ht', hmem⟩ := hr.frag n on sels hm
    rw [ht] at ht'; cases ht'
    have hname : f0.name = n := by
      have := ffOf_some hid
      simp only [fnames, List.getElem?_map, hf0, Option.map_some, Option.some.injEq] at this
      exact this
    have hf0eq : f0 = { name := n, on := t, sels := [] } :=
      C02.nodup_map_inj (fun f : RFragment => f.name) q0.fragments hfnd f0 (List.mem_of_getElem? hf0) _ hmem hname
    subst hf0eq
    exact ⟨t, id, rs, ht, hid, by simpa using hfF, hcorr, hleaf⟩
  have hop : ∀ kind name vars sels, QDef.op kind name vars sels ∈ d → ∃ (n : String) (root id : Nat) (rs : List Sel), name = some n ∧
      Valid.rootOf s kind = some root ∧ (kind = .subscription → sels.length = 1) ∧
      qF.operations[id]? = some ({ name := n, kind := kind, objectId := root, sels := rs } : ROperation) ∧
      CorrL s (ffOf (fnames q0)) (.object root) sels rs := by
    intro kind name vars sels hm
    obtain ⟨n, root, o, id, op0, rs, hn, hroot, ho, hid, hop0, hopF, hcorr⟩ := hf.op kind name vars sels hm
    obtain ⟨n', root', hn', hroot', hsub, hmem⟩ := hr.op kind name vars sels hm
    rw [hn] at hn'; cases hn'
    rw [hroot] at hroot'; cases hroot'
    have hname : op0.name = n := by
      have := ffOf_some hid
      simp only [onames, List.getElem?_map, hop0, Option.map_some, Option.some.injEq] at this
      exact this
    have hopeq : op0 = { name := n, kind := kind, objectId := root, sels := [] } :=
      C02.nodup_map_inj (fun f : ROperation => f.name) q0.operations hond op0 (List.mem_of_getElem? hop0) _ hmem hname
    subst hopeq
    exact ⟨n, root, id, rs, hn, hroot, hsub, by simpa using hopF, hcorr⟩
  refine ⟨hfn ▸ hfnd, hon ▸ hond, hr.noselset, ⟨?_, ?_⟩, ?_, ?_⟩
  · have : (fnames qF).length = (Valid.fragNames d).length := by rw [hf.fnames_eq, hfn]
    rw [← fragTable_names] at this
    simpa [fnames] using this
  · intro n fid hffn
    obtain ⟨e, he, hen, hfind⟩ := ftff_some hffn
    obtain ⟨t, id, rs, ht, hid, hfF, hcorr, _⟩ := hfrag e.1 e.2.1 e.2.2 (mem_fragTable (List.mem_of_getElem? he))
    rw [hff, hen, hffn] at hid
    cases hid
    rw [hff] at hcorr
    exact ⟨_, e.2.1, e.2.2, hfF, hfind, ht, hcorr⟩
  · intro n on sels hm
    obtain ⟨t, id, rs, ht, _, hfF, hcorr, hleaf⟩ := hfrag n on sels hm
    rw [hff] at hcorr
    exact ⟨t, id, rs, ht, hfF, hcorr, hleaf⟩
  · intro kind name vars sels hm
    obtain ⟨n, root, id, rs, h1, h2, h3, h4, h5⟩ := hop kind name vars sels hm
    rw [hff] at h5
    exact ⟨n, root, id, rs, h1, h2, h3, h4, h5⟩

/-- the two phases together: the final query is `Resolved`, and its operation names are the document's -/
theorem phases_parts {s : Schema} {d : QDoc} {q0 qF : Query} (h0 : createRoots s d {} = .ok q0)
    (h1 : d.foldlM (resolveDef s) q0 = .ok qF) : Resolved s d qF ∧ onames qF = Valid.opNames d := by
  have hR := resolved_of_phases h0 h1
  have hr := createRoots_ok s d {} q0 h0
  have hon0 : onames q0 = Valid.opNames d := by simpa [onames] using hr.onames
  have hfo := fold_ok s d q0 qF h1 hR.fnodup hR.onodup
  exact ⟨hR, hfo.onames_eq.trans hon0⟩

theorem resolve_parts {s : Schema} {d : QDoc} {q : Query} (h : resolve s d = .ok q) :
    Resolved s d q ∧ onames q = Valid.opNames d := by
  obtain ⟨q0, h0, h1, _⟩ := resolve_inv h
  exact phases_parts h0 h1

/-- a bound on the depth of the resolved fragment bodies bounds the depth of the written ones -/
theorem fragTable_depth_le {s : Schema} {d : QDoc} {qF : Query} (hR : Resolved s d qF) {dq : Nat}
    (hdf : ∀ f ∈ qF.fragments, selsDepth' f.sels ≤ dq) :
    ∀ e ∈ Valid.fragTable d, Valid.qselsDepth e.2.2 ≤ dq := by
  intro e he
  have hnd : ((Valid.fragTable d).map (·.1)).Nodup := by rw [fragTable_names]; exact hR.fnodup
  obtain ⟨i, hi⟩ := List.getElem?_of_mem he
  have hff : ftff (Valid.fragTable d) e.1 = some i :=
    ffOf_of_nodup hnd (by rw [List.getElem?_map, hi]; rfl)
  obtain ⟨f, e', hf, he', _, hcf⟩ := table_frag hR.table hff
  rw [hi] at he'; cases he'
  rw [← corrL_depth _ _ _ hcf]
  exact hdf f (List.mem_of_getElem? hf)

theorem docDepth_ge {d : QDoc} : ∀ x ∈ d, (match x with
    | .op _ _ _ sels => Valid.qselsDepth sels
    | .selset sels => Valid.qselsDepth sels
    | .frag _ _ sels => Valid.qselsDepth sels) ≤ Valid.docDepth d := by
  intro x hx
  unfold Valid.docDepth
  refine C02.le_foldl_max _ 0 _ (.inl ?_)
  rw [List.mem_map]
  exact ⟨x, hx, by cases x <;> rfl⟩

theorem depthFuel_eq (q : Query) : ∃ dq, depthFuel q = (q.fragments.length + 1) * (dq + 2) + 1 ∧
    (∀ f ∈ q.fragments, selsDepth' f.sels ≤ dq) ∧ (∀ o ∈ q.operations, selsDepth' o.sels ≤ dq) := by
  refine ⟨_, rfl, ?_, ?_⟩
  · intro f hf
    exact C02.le_foldl_max _ 0 _ (.inl (List.mem_append_left _ (List.mem_map.mpr ⟨f, hf, rfl⟩)))
  · intro o ho
    exact C02.le_foldl_max _ 0 _ (.inl (List.mem_append_right _ (List.mem_map.mpr ⟨o, ho, rfl⟩)))

/-- schema well-formedness needed by the proof, as a decidable check: union members are object types -/
def SchemaOk (s : Schema) : Bool := s.unions.all fun u => u.variants.all fun v => v.asObject?.isSome

theorem unionsOfObjects_of_schemaOk {s : Schema} (h : SchemaOk s = true) : C06.UnionsOfObjects s := by
  intro u hu v hv
  unfold SchemaOk at h
  rw [List.all_eq_true] at h
  have := h u hu
  rw [List.all_eq_true] at this
  have := this v hv
  cases v with
  | object o => exact ⟨o, rfl⟩
  | _ => cases this

theorem validDef_of_resolved {s : Schema} {d : QDoc} {qF : Query} (hs : C06.UnionsOfObjects s)
    (hR : Resolved s d qF) (h2 : validateTypenamePresence s qF = .ok ())
    (h3 : validateSubscriptions qF = .ok ()) (h4 : validateTypeConditions s qF = .ok ()) :
    ∀ x ∈ d, Valid.validDef s (Valid.fragTable d) false (Valid.docDepth d) x = true := by
  obtain ⟨t1, t2, t3⟩ := validateTypenamePresence_ok h2
  obtain ⟨c1, c2⟩ := validateTypeConditions_ok h4
  have s1 := validateSubscriptions_ok h3
  intro x hx
  cases x with
  | selset sels => exact absurd hx (hR.noselset sels)
  | frag n on sels =>
    obtain ⟨t, id, rs, ht, hfF, hcorr, hleaf⟩ := hR.frag n on sels hx
    have hmem := List.mem_of_getElem? hfF
    unfold Valid.validDef
    simp only [ht, Bool.and_eq_true, Bool.or_eq_true, Bool.not_eq_true']
    constructor
    · cases hcomp : Valid.isComposite t with
      | false => rw [hleaf hcomp]; unfold Valid.validSels; rfl
      | true => exact validSels_of hs hR.table sels t rs hcorr hcomp (c1 _ hmem) (t2 _ hmem)
    · cases ha : t.isAbstract with
      | false => exact Or.inl rfl
      | true =>
        right
        have := t1 _ hmem ha
        unfold containsTypename at this
        rw [hR.table.len] at this
        exact hasTypename_of_contains hR.table _ _ _ _ _ _ hcorr this
  | op kind name vars sels =>
    obtain ⟨n, root, id, rs, rfl, hroot, hsub, hoF, hcorr⟩ := hR.op kind name vars sels hx
    have hmem := List.mem_of_getElem? hoF
    unfold Valid.validDef
    simp only [hroot, Bool.and_eq_true, Bool.or_eq_true]
    constructor
    · exact validSels_of hs hR.table sels _ rs hcorr rfl (c2 _ hmem) (t3 _ hmem)
    · cases kind with
      | query => left; rfl
      | mutation => left; rfl
      | subscription =>
        right
        have hcount := s1 _ hmem rfl
        obtain ⟨dq, hfuel, hdf, hdo⟩ := depthFuel_eq qF
        rw [hfuel, hR.table.len] at hcount
        simp only at hcount
        have hdq := fragTable_depth_le hR hdf
        have hdq' : Valid.qselsDepth sels ≤ dq := by
          rw [← corrL_depth _ _ _ hcorr]
          exact hdo _ hmem
        have hD : ∀ e ∈ Valid.fragTable d, Valid.qselsDepth e.2.2 ≤ Valid.docDepth d :=
          fun e he => docDepth_ge _ (mem_fragTable he)
        have hD' : Valid.qselsDepth sels ≤ Valid.docDepth d := docDepth_ge _ hx
        have := sub_keys hR.table hcorr hdq hdq' hD hD' hcount
        simpa using this

/-- **C06, main soundness theorem** (for `strict = false`, i.e. the rule catalogue without the
    "composite field needs a sub-selection" rule, which the code does not enforce — known finding
    `C06-no-selection`): whatever `resolve` accepts is valid by the specification
    (well-formedness hypothesis in its propositional form). -/
theorem resolve_sound_partial' {s : Schema} {d : QDoc} {q : Query} (hs : C06.UnionsOfObjects s)
    (h : resolve s d = .ok q) : Valid.validDoc s false d = true := by
  obtain ⟨q0, h0, h1, h2, h3, h4⟩ := resolve_inv h
  have hR := resolved_of_phases h0 h1
  unfold Valid.validDoc
  simp only [Bool.and_eq_true, List.all_eq_true]
  exact ⟨⟨(nodupStrings_iff _).mpr hR.onodup, (nodupStrings_iff _).mpr hR.fnodup⟩,
    validDef_of_resolved hs hR h2 h3 h4⟩

/-- the same theorem with the well-formedness hypothesis as the decidable check `SchemaOk` -/
theorem resolve_sound_partial {s : Schema} {d : QDoc} {q : Query} (hs : SchemaOk s = true)
    (h : resolve s d = .ok q) : Valid.validDoc s false d = true :=
  resolve_sound_partial' (unionsOfObjects_of_schemaOk hs) h

/-! ## named layers and corollaries -/

/-- **Layer (a), structural soundness.**  If resolution of a selection set against the type `t`
    succeeds, the written selection `sels` and the resolved one `rs` are in the correspondence `CorrL`:
    every field exists on its parent type (`Valid.lookupField`) and is stored under the id the
    resolved tree carries, leaf-typed fields and `__typename` have no sub-selection, every spread names
    a fragment of the query (`q.findFragment`), every inline fragment has a type condition that the
    schema knows, and a non-composite `t` admits the empty selection only. -/
theorem resolve_struct_sound {s : Schema} {q : Query} {t : TypeId} {sels : List QSel} {rs : List Sel}
    (h : resolveSelection s q t sels = .ok rs) :
    CorrL s q.findFragment t sels rs ∧ (Valid.isComposite t = false → sels = []) :=
  resolveSelection_corr h

/-- the same for the operation roots (`resolve_object_selection` on an object type) -/
theorem resolve_struct_sound_object {s : Schema} {q : Query} {oid : Nat} {o : StoredObject}
    {sels : List QSel} {rs : List Sel} (ho : s.objects[oid]? = some o)
    (h : resolveObjectSels s q o.name o.fields sels = .ok rs) :
    CorrL s q.findFragment (.object oid) sels rs := by
  rw [← fieldsOf_object ho] at h
  exact objSels_corr s q _ _ sels rs h

/-- `create_roots` accepts a document only if its fragment names and its operation names are
    pairwise distinct, and the tables it builds list exactly those names, in document order -/
theorem createRoots_names {s : Schema} {d : QDoc} {q : Query} (h : createRoots s d {} = .ok q) :
    q.fragments.map (·.name) = Valid.fragNames d ∧ (Valid.fragNames d).Nodup ∧
    q.operations.map (·.name) = Valid.opNames d ∧ (Valid.opNames d).Nodup := by
  have hr := createRoots_ok s d {} q h
  have hfn : fnames q = Valid.fragNames d := by simpa [fnames] using hr.fnames
  have hon : onames q = Valid.opNames d := by simpa [onames] using hr.onames
  exact ⟨hfn, hfn ▸ hr.fnodup (by simp [fnames]), hon, hon ▸ hr.onodup (by simp [onames])⟩

/-- accepted documents have unique fragment and operation names (GraphQL §5.5.1.1, §5.2.1.1) -/
theorem resolve_names_unique {s : Schema} {d : QDoc} {q : Query} (h : resolve s d = .ok q) :
    (Valid.fragNames d).Nodup ∧ (Valid.opNames d).Nodup := by
  exact ⟨(resolve_parts h).1.fnodup, (resolve_parts h).1.onodup⟩

/-- contrapositive, as the property is worded: an operation the schema cannot answer (invalid by
    the specification) is rejected -/
theorem invalid_rejected {s : Schema} {d : QDoc} (hs : SchemaOk s = true)
    (h : Valid.validDoc s false d = false) : ∃ e, resolve s d = .error e := by
  cases hr : resolve s d with
  | error e => exact ⟨e, rfl⟩
  | ok q => rw [resolve_sound_partial hs hr] at h; cases h

/-! ## the hypothesis: a non-trivial instance, and why it cannot be dropped -/

/-- a schema with an interface, a union and all three root types -/
def exampleSdl : SdlDoc :=
  [.interface "Node" [{ name := "id", ty := .nonNull (.named "ID"), directives := [] }],
   .object "Dog" ["Node"] [{ name := "id", ty := .nonNull (.named "ID"), directives := [] },
                           { name := "name", ty := .named "String", directives := [] }],
   .object "Cat" ["Node"] [{ name := "id", ty := .nonNull (.named "ID"), directives := [] }],
   .union "Pet" ["Dog", "Cat"],
   .object "Query" [] [{ name := "pet", ty := .named "Pet", directives := [] },
                       { name := "node", ty := .named "Node", directives := [] }],
   .object "Mutation" [] [{ name := "m", ty := .named "String", directives := [] }],
   .object "Subscription" [] [{ name := "s", ty := .named "Pet", directives := [] }]]

/-- fragments on a union and on the subscription root, a subscription whose single root field is
    reached through a spread -/
def exampleDoc : QDoc :=
  [.frag "P" "Pet" [.field none "__typename" [], .inline (some "Dog") [.field none "name" []]],
   .frag "S" "Subscription" [.field (some "x") "s" [.spread "P"]],
   .op .query (some "Q") [] [.field none "pet" [.spread "P"],
     .field none "node" [.field none "__typename" [], .field none "id" []]],
   .op .subscription (some "Sub") [] [.spread "S"]]

def isOk {α} : Outcome α → Bool | .ok _ => true | .error _ => false

/-- `SchemaOk` holds of the schema built from that SDL; the document is accepted and valid -/
example : (match Sdl.fromSdl exampleSdl with
    | .ok s => SchemaOk s && isOk (resolve s exampleDoc) && Valid.validDoc s false exampleDoc
    | .error _ => false) = true := by decide +kernel

/-- a hand-made schema (not obtainable from well-formed SDL) whose union lists a scalar as a member -/
def badSchema : Schema :=
  { objects := [{ name := "Q", fields := [0], implements := [] }],
    fields := [{ name := "u", ty := { id := .union 0, quals := [] }, parent := .object 0, deprecation := none }],
    unions := [{ name := "U", variants := [.scalar 0] }],
    scalars := ["S"],
    names := [("Q", .object 0), ("S", .scalar 0), ("U", .union 0)],
    queryType := some 0 }

/-- `query Q { u { __typename ... on S { } } }` -/
def badDoc : QDoc :=
  [.op .query (some "Q") [] [.field none "u" [.field none "__typename" [], .inline (some "S") []]]]

/-- without `SchemaOk` the theorem is false: the union arm of the type-condition check trusts the
    member list, so an inline fragment on the scalar member is accepted -/
theorem schemaOk_needed :
    SchemaOk badSchema = false ∧ isOk (resolve badSchema badDoc) = true ∧
    Valid.validDoc badSchema false badDoc = false := by decide +kernel

/-! ## regression: the three witnesses found while proving (see the file header) -/

def witnessSdl : SdlDoc :=
  [.object "A" [] [{ name := "a", ty := .named "String", directives := [] }],
   .object "B" [] [{ name := "b", ty := .named "String", directives := [] }],
   .object "Query" [] [{ name := "a", ty := .named "A", directives := [] }],
   .object "Mutation" [] [{ name := "m", ty := .named "String", directives := [] }],
   .object "Subscription" [] [{ name := "s", ty := .named "String", directives := [] }]]

/-- `fragment F on A { a }  fragment F on B { ... on A { a } }` -/
def dupFragDoc : QDoc :=
  [.frag "F" "A" [.field none "a" []], .frag "F" "B" [.inline (some "A") [.field none "a" []]]]
/-- `query Q { a }  mutation Q { ... on Query { a } }` -/
def dupOpDoc : QDoc :=
  [.op .query (some "Q") [] [.field none "a" []],
   .op .mutation (some "Q") [] [.inline (some "Query") [.field none "a" []]]]
def nestInline : Nat → List QSel
  | 0 => [.field none "s" []]
  | n+1 => [.inline (some "Subscription") (nestInline n)]
/-- `subscription S { ... on Subscription { ... 64 levels ... { s } } }` -/
def deepSubDoc : QDoc := [.op .subscription (some "S") [] (nestInline 64)]

/-- after the repair of `create_roots` both duplicate-name documents are rejected (and invalid);
    with the depth-dependent fuel of `Valid.rootKeys` the deep subscription is accepted and valid -/
example : (match Sdl.fromSdl witnessSdl with
    | .ok s =>
      !isOk (resolve s dupFragDoc) && !Valid.validDoc s false dupFragDoc &&
      !isOk (resolve s dupOpDoc) && !Valid.validDoc s false dupOpDoc &&
      isOk (resolve s deepSubDoc) && Valid.validDoc s false deepSubDoc
    | .error _ => false) = true := by decide +kernel

end C06Sound
end GqlVerif
