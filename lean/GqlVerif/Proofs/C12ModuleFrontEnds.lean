import GqlVerif.Proofs.C12Module
import GqlVerif.Proofs.C12FrontEnds
/-!
# C12, whole module — hypotheses on the schema document

`C12FE.module_input_items_acyclic_of_sdl` (the input CHUNK of the module w.r.t. itself) restated for the **whole**
module: `InputsWf` and `MentionsFaithful` are discharged from the schema document as in
`C12FrontEnds.lean` (`sdlInputNames doc` pairwise distinct, `noCollision`); what remains are the executable checks on
(schema, query, options): `respNamesOk` (or `NoClash` + `respLeafFree`) and `fixedNamesFree` — the latter also from the
coarser, names-only `namesFree` (`fixedNamesFree_of_namesFree`, `module_items_acyclic_of_sdl_names`).
-/
namespace GqlVerif
namespace C12Mod
open Codegen C12I C12FE
open Relation (TransGen)

theorem module_items_acyclic_of_sdl {doc : SdlDoc} {s : Schema} (o : Options) (cs : CaseFns)
    (h : Sdl.fromSdl doc = .ok s) (hnd : (sdlInputNames doc).Nodup)
    (hnc : noCollision o cs (sdlInputNames doc) (sdlOtherNames doc) = true)
    (q : Query) (op : Nat) (items : List Item)
    (hresp : respNamesOk { s := s, q := q, o := o, cs := cs } op = true)
    (hfix : fixedNamesFree { s := s, q := q, o := o, cs := cs } op = true)
    (hgen : responseForQuery { s := s, q := q, o := o, cs := cs } op = .ok items) :
    ¬ ∃ a, TransGen (containsByValue items) a a :=
  module_items_acyclic { s := s, q := q, o := o, cs := cs } op items (fromSdl_inputsWf h hnd)
    (mentionsFaithful_of_noCollision (c := { s := s, q := q, o := o, cs := cs }) (fromSdl_inputs_names h)
      (fromSdl_otherNames h) hnc) hresp hfix hgen

theorem module_items_acyclic_of_intro {ro : Bool} {src : Option IntroSchema} {s : Schema} (o : Options) (cs : CaseFns)
    (h : Intro.fromIntro ro src = .ok s) (hnd : (introInputNames (introTypesOf src)).Nodup)
    (hnc : noCollision o cs (introInputNames (introTypesOf src)) (introOtherNames (introTypesOf src)) = true)
    (q : Query) (op : Nat) (items : List Item)
    (hresp : respNamesOk { s := s, q := q, o := o, cs := cs } op = true)
    (hfix : fixedNamesFree { s := s, q := q, o := o, cs := cs } op = true)
    (hgen : responseForQuery { s := s, q := q, o := o, cs := cs } op = .ok items) :
    ¬ ∃ a, TransGen (containsByValue items) a a :=
  module_items_acyclic { s := s, q := q, o := o, cs := cs } op items (fromIntro_inputsWf h hnd)
    (mentionsFaithful_of_noCollision (c := { s := s, q := q, o := o, cs := cs }) (fromIntro_facts h).2
      (fromIntro_facts h).1.other hnc) hresp hfix hgen

theorem module_items_acyclic_of_json {ro : Bool} {j : Json} {s : Schema} (o : Options) (cs : CaseFns)
    (h : Intro.fromJson ro j = .ok s) (hnd : (introInputNames (jsonTypesOf ro j)).Nodup)
    (hnc : noCollision o cs (introInputNames (jsonTypesOf ro j)) (introOtherNames (jsonTypesOf ro j)) = true)
    (q : Query) (op : Nat) (items : List Item)
    (hresp : respNamesOk { s := s, q := q, o := o, cs := cs } op = true)
    (hfix : fixedNamesFree { s := s, q := q, o := o, cs := cs } op = true)
    (hgen : responseForQuery { s := s, q := q, o := o, cs := cs } op = .ok items) :
    ¬ ∃ a, TransGen (containsByValue items) a a :=
  module_items_acyclic { s := s, q := q, o := o, cs := cs } op items (fromJson_inputsWf h hnd)
    (mentionsFaithful_of_noCollision (c := { s := s, q := q, o := o, cs := cs }) (fromJson_facts h).2
      (fromJson_facts h).1.other hnc) hresp hfix hgen

/-! ## `fixedNamesFree` from a check on type NAMES only

`namesFree` adds the fixed names to the name-level collision check.  It does not
look at which fields are held by value nor at which inputs are used: no type that occurs as the type of a field of an
`input` of the schema, or of a variable of the operation, is rendered — plainly or keyword-escaped — as `Variables` or
as the name of a fragment / response item (`ResponseData`, `Frag`, `QField`, …); and no used input item, `Variables`,
fragment or response item is named like the target of a leaf alias (`bool`, `f64`, `i64`, `String`, `m::T`).
(Object / interface / union names are deliberately not in the list: `fragment Node on Node` is fine.) -/

/-- the names of the types of all input fields of the schema and of the variables of the operation -/
def refTypeNames (c : Ctx) (op : Nat) : List String :=
  (c.s.inputs.flatMap fun i => i.fields.filterMap fun f => (c.s.typeName f.2.id).toOption) ++
  (c.q.opVariables op).filterMap fun v => (c.s.typeName v.ty.id).toOption

def namesFree (c : Ctx) (op : Nat) : Bool :=
  match allUsedTypes c.s c.q op, c.q.operations[op]? with
  | .ok u, some o =>
    (leafRefs c u).all (fun n => !(C02.inputNames c u ++ "Variables" :: frNames c u o).contains n) &&
    (refTypeNames c op).all (fun tn =>
      !("Variables" :: frNames c u o).contains (mention c tn) &&
      !("Variables" :: frNames c u o).contains (keywordReplace (mention c tn)))
  | _, _ => true

theorem inputRefs_spec {c : Ctx} {u : UsedTypes} {op : Nat} {n : String} (h : n ∈ inputRefs c u) :
    ∃ tn ∈ refTypeNames c op, n = mention c tn := by
  simp only [inputRefs, List.mem_flatMap, List.mem_filterMap] at h
  obtain ⟨x, hx, f, hf, hn⟩ := h
  rw [List.mem_filter, List.mem_zipIdx_iff_getElem?] at hx
  split at hn
  · cases hn
  · split at hn
    · rename_i tn htn
      refine ⟨tn, List.mem_append_left _ ?_, by simpa using hn.symm⟩
      simp only [List.mem_flatMap, List.mem_filterMap]
      exact ⟨x.1, List.mem_of_getElem? hx.1, f, hf, by simp [htn, Except.toOption]⟩
    · cases hn

theorem varRefs_spec {c : Ctx} {op : Nat} {n : String} (h : n ∈ varRefs c op) :
    ∃ tn ∈ refTypeNames c op, n = keywordReplace (mention c tn) := by
  simp only [varRefs, List.mem_filterMap] at h
  obtain ⟨v, hv, hn⟩ := h
  split at hn
  · cases hn
  · split at hn
    · rename_i tn htn
      refine ⟨tn, List.mem_append_right _ ?_, by simpa using hn.symm⟩
      simp only [List.mem_filterMap]
      exact ⟨v, hv, by simp [htn, Except.toOption]⟩
    · cases hn

theorem fixedNamesFree_of_namesFree {c : Ctx} {op : Nat} (h : namesFree c op = true) :
    fixedNamesFree c op = true := by
  unfold fixedNamesFree
  unfold namesFree at h
  split
  · rename_i u o hu ho
    simp only [hu, ho, Bool.and_eq_true, List.all_eq_true] at h ⊢
    obtain ⟨h1, h2⟩ := h
    refine ⟨⟨h1, fun n hn => ?_⟩, fun n hn => ?_⟩
    · obtain ⟨tn, htn, rfl⟩ := inputRefs_spec (op := op) hn
      exact (h2 tn htn).1
    · obtain ⟨tn, htn, rfl⟩ := varRefs_spec hn
      exact (h2 tn htn).2
  · rfl

/-- **whole module, SDL front-end, name-level hypotheses**: `noCollision` over the type names of the document,
    `namesFree`, `NoClash` (no type name defined twice in the module) and `respLeafFree` -/
theorem module_items_acyclic_of_sdl_names {doc : SdlDoc} {s : Schema} (o : Options) (cs : CaseFns)
    (h : Sdl.fromSdl doc = .ok s) (hnd : (sdlInputNames doc).Nodup)
    (hnc : noCollision o cs (sdlInputNames doc) (sdlOtherNames doc) = true)
    (q : Query) (op : Nat) (items : List Item)
    (hclash : C02.NoClash { s := s, q := q, o := o, cs := cs } op = true)
    (hlf : respLeafFree { s := s, q := q, o := o, cs := cs } op = true)
    (hfree : namesFree { s := s, q := q, o := o, cs := cs } op = true)
    (hgen : responseForQuery { s := s, q := q, o := o, cs := cs } op = .ok items) :
    ¬ ∃ a, TransGen (containsByValue items) a a :=
  module_items_acyclic_of_sdl o cs h hnd hnc q op items (respNamesOk_of_noClash hclash hlf)
    (fixedNamesFree_of_namesFree hfree) hgen

/-- the rich sample of `C02Response.lean` passes the name-level check -/
example : namesFree C02.richCtx 0 = true := by decide +kernel

end C12Mod
end GqlVerif
