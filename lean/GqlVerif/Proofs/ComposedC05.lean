import GqlVerif.Proofs.C05Body
/-!
# Composed C05 — operation selection on `Codegen.generate`

CLI / library mode: what the model (and `generate_module_token_stream_inner`) does when `operationName = some n` and
no operation's normalized name equals `n`.  It is **not** an error; exactly as without a selection, one module per
operation of the document is generated, in document order (the code's `.or_else(|| all operations)` fallback; contrast
`C05.derive_no_fallback`).  Note that `n` is compared *as given* with the *normalized* operation names.

Derive mode is stated under the hypothesis the real derive always establishes
(`operationName = structIdent = some ident`): success means exactly one module, generated for the first operation whose
normalized name is the struct's identifier, with `impl GraphQLQuery for <ident>`, no struct declaration, the
operation's own name as `OPERATION_NAME` and the document text as `QUERY`; when no operation normalizes to the
identifier, the error that names the struct and lists the defined operations (never another operation's module).
-/
namespace GqlVerif
namespace Composed
open Codegen

theorem selectOperation_none_iff (c : Ctx) (name : String) :
    selectOperation c name = none ↔ ∀ op ∈ c.q.operations, c.o.normalization.operation c.cs op.name ≠ name := by
  unfold selectOperation
  rw [List.findIdx?_eq_none_iff]
  simp

/-- everything `generatedModule` fixes besides the items -/
theorem generatedModule_fields (c : Ctx) (text operation : String) (m : Module)
    (h : generatedModule c text operation = .ok m) :
    m.operationName = operation ∧ m.query = text ∧ m.implFor = c.o.normalization.operation c.cs operation ∧
    m.structDecl = (if c.o.mode == .cli then some (c.o.normalization.operation c.cs operation) else none) ∧
    m.modName = c.cs.snake operation ∧
    ∃ root, selectOperation c (c.o.normalization.operation c.cs operation) = some root ∧
      responseForQuery c root = .ok m.items := by
  obtain ⟨root, items, hs, hr, rfl⟩ := C05.generatedModule_inv h
  exact ⟨rfl, rfl, rfl, rfl, rfl, root, hs, hr⟩

/-- **CLI / library mode, explicit name that matches nothing — the exact behaviour**: the same computation as without
    a selection (all operations, document order); no error is raised for the unmatched name -/
theorem cli_unmatched_name_generates_all_eq (s : Schema) (cs : CaseFns) (o : Options) (text : String) (d : QDoc)
    (q : Query) (n : String) (hmode : o.mode = .cli) (hq : Resolve.resolve s d = .ok q)
    (hname : o.operationName = some n) (hsel : selectOperation { s, q, o, cs } n = none) :
    generate s cs o text d =
      (List.range q.operations.length).mapM (fun i => do
        let op ← q.getOperation i
        generatedModule { s, q, o, cs } text op.name) := by
  unfold generate
  simp only [hq, bind, Except.bind, hname, Option.bind, hsel, hmode, pure, Except.pure]

/-- … hence one module per operation, the `i`-th for the `i`-th operation of the document -/
theorem cli_unmatched_name_generates_all (s : Schema) (cs : CaseFns) (o : Options) (text : String) (d : QDoc)
    (q : Query) (n : String) (ms : List Module) (hmode : o.mode = .cli) (hq : Resolve.resolve s d = .ok q)
    (hname : o.operationName = some n)
    (hnomatch : ∀ op ∈ q.operations, o.normalization.operation cs op.name ≠ n)
    (h : generate s cs o text d = .ok ms) :
    ms.length = q.operations.length ∧
    ∀ (i : Nat) (m : Module), ms[i]? = some m →
      ∃ op : ROperation, q.operations[i]? = some op ∧ m.operationName = op.name ∧ m.query = text ∧
        m.implFor = o.normalization.operation cs op.name := by
  have hsel : selectOperation { s, q, o, cs } n = none := (selectOperation_none_iff _ n).mpr hnomatch
  rw [cli_unmatched_name_generates_all_eq s cs o text d q n hmode hq hname hsel] at h
  obtain ⟨hlen, hall⟩ := C05.mapM_spec _ _ ms h
  refine ⟨by simpa using hlen, ?_⟩
  intro i m hi
  obtain ⟨j, hj, hfj⟩ := hall i m hi
  have hij : j = i := by
    obtain ⟨_, heq⟩ := List.getElem?_eq_some_iff.mp hj
    simpa using heq.symm
  subst hij
  cases hop : Query.getOperation q j with
  | error e => simp [hop, bind, Except.bind] at hfj
  | ok op =>
    simp only [hop, bind, Except.bind] at hfj
    obtain ⟨h1, h2, h3, _⟩ := generatedModule_fields _ _ _ _ hfj
    exact ⟨op, C05Body.getOperation_ok hop, h1, h2, h3⟩

/-- the same inputs in derive mode are an error (`C05.derive_no_fallback`): the fallback is specific to CLI / library mode -/
theorem derive_unmatched_is_error (s : Schema) (cs : CaseFns) (o : Options) (text : String) (d : QDoc)
    (q : Query) (n : String) (hmode : o.mode = .derive) (hq : Resolve.resolve s d = .ok q)
    (hname : o.operationName = some n) (hsel : selectOperation { s, q, o, cs } n = none) :
    ∃ msg, generate s cs o text d = .error (.error msg) :=
  ⟨_, C05.derive_no_fallback s cs o text d q hmode hq (by simp [hname, hsel])⟩

/-- kernel-evaluated instance: the document `query getA { a } query GetA { b }`, no normalization, CLI mode,
    `--selected-operation Nope`: both operations are generated, in order; with `getA` only the first -/
theorem cli_unmatched_witness :
    (match Sdl.fromSdl C05Body.clashSdl with
     | .ok s =>
       decide ((match generate s C05Body.clashCs { operationName := some "Nope" } "TEXT" C05Body.clashDoc with
        | .ok ms => ms.map (·.operationName)
        | .error _ => []) = ["getA", "GetA"]) &&
       decide ((match generate s C05Body.clashCs { operationName := some "getA" } "TEXT" C05Body.clashDoc with
        | .ok ms => ms.map (·.operationName)
        | .error _ => []) = ["getA"]) &&
       (match generate s C05Body.clashCs { mode := .derive, operationName := some "Nope", structIdent := some "Nope" } "TEXT"
            C05Body.clashDoc with
        | .ok _ => false
        | .error _ => true)
     | .error _ => false) = true := by decide +kernel

/-! ## derive mode: the statement is about the struct's identifier -/

/-- **derive, success**: under `operationName = structIdent = some ident` (what `#[derive(GraphQLQuery)]` passes),
    a successful generation is exactly one module: for the first operation whose normalized name is the struct's
    identifier; the trait is implemented for that identifier and no struct is declared -/
theorem derive_uses_struct_ident (s : Schema) (cs : CaseFns) (o : Options) (text : String) (d : QDoc) (q : Query)
    (ms : List Module) (ident : String) (hmode : o.mode = .derive) (hq : Resolve.resolve s d = .ok q)
    (hident : o.structIdent = some ident) (hsame : o.operationName = o.structIdent)
    (h : generate s cs o text d = .ok ms) :
    ∃ (i : Nat) (op : ROperation) (m : Module), ms = [m] ∧ q.operations[i]? = some op ∧
      o.normalization.operation cs op.name = ident ∧
      (∀ j, j < i → ∀ opj, q.operations[j]? = some opj → o.normalization.operation cs opj.name ≠ ident) ∧
      m.operationName = op.name ∧ m.query = text ∧ m.implFor = ident ∧ m.structDecl = none := by
  obtain ⟨name, i, op, m, hname, hi, hget, rfl, _, _⟩ := C05.derive_selects_named s cs o text d q ms hmode hq h
  have hn : name = ident := by
    rw [hsame, hident] at hname
    exact (Option.some.inj hname).symm
  subst hn
  obtain ⟨op', hget', hnorm, hfirst⟩ := C05.selectOperation_spec { s, q, o, cs } name i hi
  have : op' = op := by
    have h1 : q.operations[i]? = some op' := hget'
    rw [hget] at h1
    exact (Option.some.inj h1).symm
  subst this
  unfold generate at h
  simp only [hq, bind, Except.bind, hname, Option.bind, hi, pure, Except.pure] at h
  rw [List.mapM_cons, List.mapM_nil] at h
  simp only [bind, Except.bind, pure, Except.pure] at h
  cases hop : Query.getOperation q i with
  | error e => simp [hop] at h
  | ok op'' =>
    have : op'' = op' := by
      have h1 := C05Body.getOperation_ok hop
      rw [hget] at h1
      exact (Option.some.inj h1).symm
    subst this
    simp only [hop] at h
    cases hm : generatedModule { s, q, o, cs } text op''.name with
    | error e => simp [hm] at h
    | ok m' =>
      simp only [hm, Except.ok.injEq, List.cons.injEq, and_true] at h
      subst h
      obtain ⟨h1, h2, h3, h4, _⟩ := generatedModule_fields _ _ _ _ hm
      refine ⟨i, op'', m', rfl, hget, hnorm, hfirst, h1, h2, ?_, ?_⟩
      · rw [h3]; exact hnorm
      · rw [h4]; simp [hmode]

/-- **derive, no match**: under the same hypothesis, when no operation's normalized name is the struct's identifier
    generation fails with the error that names the struct and lists the defined operations — no module of another
    operation is ever produced -/
theorem derive_struct_no_fallback (s : Schema) (cs : CaseFns) (o : Options) (text : String) (d : QDoc) (q : Query)
    (ident : String) (hmode : o.mode = .derive) (hq : Resolve.resolve s d = .ok q)
    (hident : o.structIdent = some ident) (hsame : o.operationName = o.structIdent)
    (hnomatch : ∀ op ∈ q.operations, o.normalization.operation cs op.name ≠ ident) :
    generate s cs o text d = .error (.error
      ("The struct name does not match any defined operation in the query file.\nStruct name: " ++
        ident ++ "\nDefined operations: " ++ ", ".intercalate (q.operations.map (·.name)))) := by
  have hsel : selectOperation { s, q, o, cs } ident = none := (selectOperation_none_iff _ ident).mpr hnomatch
  have := C05.derive_no_fallback s cs o text d q hmode hq (by rw [hsame, hident]; simp [hsel])
  rw [this, hident]
  rfl

/-- derive, converse of the above: if an operation normalizes to the identifier, selection does not fail (it picks the
    first such, `C05.selectOperation_spec`); later stages may still fail -/
theorem derive_struct_selects_first (s : Schema) (cs : CaseFns) (o : Options) (q : Query) (ident : String) (op : ROperation)
    (hident : o.structIdent = some ident) (hsame : o.operationName = o.structIdent)
    (hop : op ∈ q.operations) (hnorm : o.normalization.operation cs op.name = ident) :
    ∃ i, o.operationName.bind (selectOperation { s, q, o, cs }) = some i := by
  rw [hsame, hident]
  simp only [Option.bind]
  cases hsel : selectOperation { s, q, o, cs } ident with
  | some i => exact ⟨i, rfl⟩
  | none => exact absurd hnorm ((selectOperation_none_iff _ ident).mp hsel op hop)

end Composed
end GqlVerif
