import GqlVerif.Proofs.C01AliasFragH
/-!
# `NestedOp`: the rank recursion for the round trip; `nested_lossless`, `nested_roundtrip`

* `centN c r g kvs` — the entries the struct of the fragment `g` writes for the object `kvs`: rank `0` `canonEntriesV` of its
  (spread-free) body, a fragment new at rank `r + 1` `canonEntriesN (centN c r)` of its body — own entries and, at the
  position of each spread of the body, the entries of that fragment;
* `rustSideN c r g` — decidable side condition: Rust field names pairwise distinct in the struct of the fragment `g` and
  below, recursively.

`fragRTN` gives `FragRT e c (exN c.q r') (centN c r) (KNn c r) g` for every `r' ≥ r`, by induction on the rank;
**`nested_roundtrip`**: `Serde.roundtrip (moduleEnv c items) ResponseData j = .ok (normJson (canonSelN (centN c R) … j))` for
every conforming `j`.
-/

namespace GqlVerif
namespace C01N
open Serde Spec C13 C03 Codegen C01 C01.E2E C01M

/-- **the entries the struct of the fragment `g` writes** -/
def centN (c : Ctx) : Nat → Nat → List (String × Json) → List (String × Json)
  | 0, g, kvs => canonEntriesV c.s c.o.skipNone (fragSels c.q g) kvs
  | r + 1, g, kvs =>
    if fragOkN c.s c.q c.o r (fragOn c.q g) g then centN c r g kvs
    else canonEntriesN (centN c r) c.s c.q c.o.skipNone (fragSels c.q g) kvs

/-- **Rust field names pairwise distinct in the struct of the fragment `g`** and in the structs below (decidable) -/
def rustSideN (c : Ctx) : Nat → Nat → Bool
  | 0, g => rustOkFrag c g
  | r + 1, g =>
    if fragOkN c.s c.q c.o r (fragOn c.q g) g then rustSideN c r g
    else rustOkSelsN c (fragSels c.q g) && EnumSpec.nodup (rustNamesF c (fragSels c.q g)) &&
      (objSpreadss c.s (fragSels c.q g)).all (rustSideN c r)

theorem centN_zero (c : Ctx) : centN c 0 = fun g kvs => canonEntriesV c.s c.o.skipNone (fragSels c.q g) kvs := by
  funext g kvs; rw [centN]

theorem FragRT.congr {e : Env} {c : Ctx} {ex : Nat → Sel} {cent cent' : Nat → List (String × Json) → List (String × Json)}
    {KN KN' : String → List String} {g : Nat} (fr : FragRT e c ex cent KN g) (hc : ∀ kvs, cent' g kvs = cent g kvs)
    (hk : KN' (fragName c g) = KN (fragName c g)) : FragRT e c ex cent' KN' g := by
  obtain ⟨N, h⟩ := fr.rt
  refine ⟨⟨N, fun fd fs hfd hfs b i kvs L v hfon hnd hL hcf hd => ?_⟩⟩
  rw [hc]
  exact h fd fs hfd hfs b i kvs L v hfon hnd (by rw [← hk]; exact hL) hcf hd

section RTN
variable (e : Env) (c : Ctx) (ok : TypeId → Nat → Bool) (whole : Nat → Bool → Json → Bool) (KN : String → List String)
  (fenv : Nat → Prop) (ex : Nat → Sel) (cent : Nat → List (String × Json) → List (String × Json))

/-- `rtSelA` for fragments whose name resolves to a struct item -/
theorem rtSelN : ∀ (x : Sel) (pfx : String), OkSpec c.q ok →
      (∀ p g, ok p g = true → fenv g → FragAcc e c whole KN g) →
      (∀ p g, ok p g = true → fenv g → FragRT e c ex cent KN g) →
      (∀ g, FragOkAny c.s c.q c.o g → ex g = expandSel c.q (.spread g)) → RTSelN e c ok KN fenv ex cent pfx x :=
  fun x pfx hok hfa hfr hexA =>
    C01AF.rtSelA e c ok whole KN fenv ex cent x pfx hok (fun p g h f => .of_fragAcc (hfa p g h f)) hfr hexA

theorem rtSelsN : ∀ (sels : List Sel) (pfx : String), OkSpec c.q ok →
      (∀ p g, ok p g = true → fenv g → FragAcc e c whole KN g) →
      (∀ p g, ok p g = true → fenv g → FragRT e c ex cent KN g) →
      (∀ g, FragOkAny c.s c.q c.o g → ex g = expandSel c.q (.spread g)) → RTSelsN e c ok KN fenv ex cent pfx sels :=
  fun sels pfx hok hfa hfr hexA =>
    C01AF.rtSelsA e c ok whole KN fenv ex cent sels pfx hok (fun p g h f => .of_fragAcc (hfa p g h f)) hfr hexA

variable (hok : OkSpec c.q ok) (hfa : ∀ p g, ok p g = true → fenv g → FragAcc e c whole KN g)
  (hfr : ∀ p g, ok p g = true → fenv g → FragRT e c ex cent KN g)
  (hexA : ∀ g, FragOkAny c.s c.q c.o g → ex g = expandSel c.q (.spread g))

include hok hfa hfr in
/-- **round trip of the struct of an object-level selection set with spreads of fragments of the class** -/
theorem rtStructN (pfx name : String) (i : Nat) (sels : List Sel) (H : RTSelsN e c ok KN fenv ex cent pfx sels)
    (ht : nSels ok c.s c.q c.o (.object i) sels = true) (henv : envSelsN fenv e c pfx sels)
    (hko : keysOksN KN c sels = true) (hkeys : EnumSpec.nodup (expKeysN KN c sels) = true)
    (hro : rustOkSelsN c sels = true) (hrn : EnumSpec.nodup (rustNamesF c sels) = true)
    (hs : StructEnv e name (fieldsOfF c pfx sels)) :
    ∃ N, ∀ b fd fs, N ≤ fd → N ≤ fs → ∀ kvs (L0 : List String) v, (kvs.map (·.1)).Nodup →
      (∀ k ∈ L0, k ∉ expKeysN KN c sels) → confSelsV c.s i (expandSelsW ex sels) kvs = true →
      dePath e b fd name (.obj (kvs.filter (fun kv => !L0.contains kv.1))) = .ok v →
      serPath e fs name v = .ok (.obj (canonEntriesN cent c.s c.q c.o.skipNone sels kvs)) :=
  C01AF.rtStructA e c ok whole KN fenv ex cent hok (fun p g h f => .of_fragAcc (hfa p g h f)) hfr pfx name i sels H ht henv
    hko hkeys hro hrn hs

include hok hfa hfr hexA in
/-- **round trip of the type emitted for an object-level selection set of `NestedOp`** (from some fuel on) -/
theorem bodyN_lossless (pfx name : String) (i : Nat) (sels : List Sel)
    (ht : nBody ok c.s c.q c.o (.object i) sels = true) (henv : BodyEnvN fenv e c name pfx sels)
    (hko : keysOksN KN c sels = true) (hkeys : EnumSpec.nodup (expKeysN KN c sels) = true)
    (hro : rustOkSelsN c sels = true) (hrn : EnumSpec.nodup (rustNamesF c sels) = true) :
    ∃ N, ∀ b fd fs, N ≤ fd → N ≤ fs → ∀ j v, conformsV c.s i (expandSelsW ex sels) j = true →
      dePath e b fd name j = .ok v → serPath e fs name v = .ok (canonSelN cent c.s c.q c.o.skipNone sels j) :=
  C01AF.bodyA_lossless e c ok whole KN fenv ex cent hok (fun p g h f => .of_fragAcc (hfa p g h f)) hfr hexA pfx name i sels ht
    henv hko hkeys hro hrn

end RTN

/-- **round trip of the struct of a fragment of rank `r`** (by induction on the rank) -/
theorem fragRTN (e : Env) (c : Ctx) (hnd : fragNamesOk c = true) : ∀ (r : Nat) (p : TypeId) (g : Nat),
    fragOkN c.s c.q c.o r p g = true → FragEnvN e c r g → fragSideN c r g = true → rustSideN c r g = true →
    ∀ r', r ≤ r' → FragRT e c (exN c.q r') (centN c r) (KNn c r) g
  | 0, p, g => by
    intro h henv _ hro r' _
    rw [fragOkN] at h
    obtain ⟨fr, hfr, hon, _, hv, hkeys⟩ := fragOk_parts h
    have hname : fragName c g = fr.name := by simp [fragName, hfr]
    have hsels : fragSels c.q g = fr.sels := by simp [fragSels, hfr]
    have hid : idOf c.q fr.name = g := idOf_name hnd hfr
    have hKN : KNn c 0 fr.name = fieldKeys c.s fr.sels := by rw [KNn, hid, hsels]
    have hfon0 : fragOn c.q g = fr.on := by simp [fragOn, hfr]
    rw [FragEnvN] at henv
    unfold FragEnv at henv
    rw [hfr] at henv
    obtain ⟨hs, henvV⟩ := henv
    rw [rustSideN] at hro
    simp only [rustOkFrag, hsels, Bool.and_eq_true] at hro
    obtain ⟨hp, hne, n, d, cr, hfind⟩ := hs
    refine ⟨⟨2 * selsDepth fr.sels + 2, fun fd fs hfd hfs b i kvs L v hfon hndk hL hcf hd => ?_⟩⟩
    rw [hname] at hL hd ⊢
    rw [hKN] at hL
    rw [exN_spreadfree c.q r' g fr hfr (noSpreads_of_vSels c.s c.o fr.sels false hv)] at hcf
    have hon' : fr.on = .object i := by rw [← hfon0]; exact hfon
    simp only [confSelV, hon', fragApplies, beq_self_eq_true, Bool.not_true, Bool.false_or] at hcf
    obtain ⟨fd', rfl⟩ : ∃ k, fd = k + 1 := ⟨fd - 1, by omega⟩
    have hpl := plain_fieldsOfV c (c.cs.camel fr.name) fr.sels
    have hd' : dePath e b (fd' + 1) fr.name (.obj kvs) = .ok v := by
      rw [dePath_struct e b fd' fr.name n d cr _ hp hfind, deStruct_obj, deStructMap_plain _ _ _ _ hpl] at hd ⊢
      rw [deOwn_filter_not _ L kvs _ (fun f hf _ hfL => hL _ hfL (by
        rw [← wire_fieldsOfV c _ false fr.sels hv]; exact List.mem_map_of_mem hf))] at hd
      exact hd
    simp only [centN, hsels]
    exact rtStructV e c _ _ fr.sels (fun x hx => (rtSelsV e c fr.sels _ x hx).1) false hv henvV hro.2 hro.1 hkeys
      ⟨hp, hne, n, d, cr, hfind⟩ b (fd' + 1) fs (by omega) (by omega) kvs ⟨hndk, strictAt_of_conf hcf⟩ _ hd'
  | r + 1, p, g => by
    intro h henv hside hro r' hr'
    have IH := fragRTN e c hnd r
    by_cases hold : fragOkN c.s c.q c.o r p g = true
    · obtain ⟨fr, hfr, hon, _, _⟩ := fragOkN_spec c.s c.q c.o r p g hold
      have hfon : fragOn c.q g = p := by simp [fragOn, hfr, hon]
      have hname : fragName c g = fr.name := by simp [fragName, hfr]
      have hid : idOf c.q fr.name = g := idOf_name hnd hfr
      rw [FragEnvN, hfon, if_pos hold] at henv
      rw [fragSideN, hfon, if_pos hold] at hside
      rw [rustSideN, hfon, if_pos hold] at hro
      refine (IH p g hold henv hside hro r' (by omega)).congr (fun kvs => ?_) ?_
      · rw [centN, hfon, if_pos hold]
      · rw [hname, KNn, hid, hfon, if_pos hold]
    · have holdf : fragOkN c.s c.q c.o r p g = false := by simpa using hold
      rw [fragOkN, holdf, Bool.false_or] at h
      obtain ⟨fr, hfr, hon, _, _, hnl, hb⟩ := fragNew_parts h
      have hfon : fragOn c.q g = p := by simp [fragOn, hfr, hon]
      have hname : fragName c g = fr.name := by simp [fragName, hfr]
      have hsels : fragSels c.q g = fr.sels := by simp [fragSels, hfr]
      have hid : idOf c.q fr.name = g := idOf_name hnd hfr
      have hKN : KNn c (r + 1) fr.name = expKeysN (KNn c r) c fr.sels := by
        rw [KNn, hid, hfon, if_neg hold, hsels]
      have hce : ∀ kvs, centN c (r + 1) g kvs = canonEntriesN (centN c r) c.s c.q c.o.skipNone fr.sels kvs := by
        intro kvs; rw [centN, hfon, if_neg hold, hsels]
      by_cases hpo : ∃ i, p = .object i
      · obtain ⟨i, rfl⟩ := hpo
        obtain ⟨r'', rfl⟩ : ∃ k, r' = k + 1 := ⟨r' - 1, by omega⟩
        have hex : exN c.q (r'' + 1) g = .inline fr.on (expandSelsW (exN c.q r'') fr.sels) := by simp [exN, hfr]
        rw [FragEnvN, hfon, if_neg hold] at henv
        simp only [hfr] at henv
        rw [fragSideN, hfon] at hside
        simp only [holdf, Bool.false_eq_true, ↓reduceIte, hsels, Bool.and_eq_true, List.all_eq_true] at hside
        rw [rustSideN, hfon] at hro
        simp only [holdf, Bool.false_eq_true, ↓reduceIte, hsels, Bool.and_eq_true, List.all_eq_true] at hro
        obtain ⟨⟨hko, hkeys⟩, hsub⟩ := hside
        obtain ⟨⟨hros, hrn⟩, hrsub⟩ := hro
        obtain ⟨hs, henvs⟩ := henv
        have hok := fragOkN_spec c.s c.q c.o r
        have hfa : ∀ p' g', fragOkN c.s c.q c.o r p' g' = true →
            (FragEnvN e c r g' ∧ (fragSideN c r g' = true ∧ rustSideN c r g' = true)) →
            FragAcc e c (wholeN c r) (KNn c r) g' :=
          fun p' g' h1 h2 => fragAccN e c hnd r p' g' h1 h2.1 h2.2.1
        have hfrt : ∀ p' g', fragOkN c.s c.q c.o r p' g' = true →
            (FragEnvN e c r g' ∧ (fragSideN c r g' = true ∧ rustSideN c r g' = true)) →
            FragRT e c (exN c.q r'') (centN c r) (KNn c r) g' :=
          fun p' g' h1 h2 => IH p' g' h1 h2.1 h2.2.1 h2.2.2 r'' (by omega)
        have hexA : ∀ g', FragOkAny c.s c.q c.o g' → exN c.q r'' g' = expandSel c.q (.spread g') :=
          fun g' hg' => exN_fragOkAny hg' r''
        have henvs' := envSelsN_and (P := fun g' => fragSideN c r g' = true ∧ rustSideN c r g' = true) fr.sels _ henvs
          (fun g' hg' => ⟨hsub g' hg', hrsub g' hg'⟩)
        rw [hon] at hb
        have hfaA := fun p' g' h1 h2 => C01AF.FragAccA.of_fragAcc (hfa p' g' h1 h2)
        obtain ⟨N, hN⟩ := C01AF.rtStructA e c _ (wholeN c r) (KNn c r) _ (exN c.q r'') (centN c r) hok hfaA hfrt
          (c.cs.camel fr.name) fr.name i fr.sels
          (C01AF.rtSelsA e c _ (wholeN c r) (KNn c r) _ (exN c.q r'') (centN c r) fr.sels _ hok hfaA hfrt hexA) hb henvs' hko hkeys
          hros hrn hs
        refine ⟨⟨N, fun fd fs hfd hfs b i' kvs L v hfon' hndk hL hcf hd => ?_⟩⟩
        have hi : i' = i := by
          rw [hfon] at hfon'; injection hfon' with h; exact h.symm
        subst hi
        rw [hname] at hL hd ⊢
        rw [hKN] at hL
        rw [hex] at hcf
        simp only [confSelV, hon, fragApplies, beq_self_eq_true, Bool.not_true, Bool.false_or] at hcf
        rw [hce]
        exact hN b fd fs hfd hfs kvs L v hndk hL hcf hd
      · refine ⟨⟨0, fun fd fs _ _ b i kvs L v hfon' => ?_⟩⟩
        exact absurd ⟨i, hfon.symm.trans hfon'⟩ hpo

/-- Rust field names pairwise distinct in every struct at an object position of the operation and in the structs of the
    spread fragments, recursively (decidable) -/
def nestedRustOk (c : Ctx) (op : ROperation) : Bool :=
  rustOkSelsN c op.sels && EnumSpec.nodup (rustNamesF c op.sels) &&
  (objSpreadss c.s op.sels).all (rustSideN c c.q.fragments.length)

theorem top_losslessN (e : Env) (c : Ctx) (op : ROperation) (ht : NestedOp c op = true) (hnd : fragNamesOk c = true)
    (hk : nestedKeysOk c op = true) (hr : nestedRustOk c op = true) (he : TopEnvN e c op) (hS : SerdeFuel.EnvOKS e)
    (j : Json) (v : Val) (hc : conformsOpN c op j = true) (hd : Serde.de e (.path "ResponseData") j = .ok v) :
    Serde.ser e (.path "ResponseData") v =
      .ok (normJson (canonSelN (centN c c.q.fragments.length) c.s c.q c.o.skipNone op.sels j)) := by
  obtain ⟨_, _, hsels⟩ := nestedOp_parts ht
  simp only [nestedKeysOk, Bool.and_eq_true, List.all_eq_true] at hk
  simp only [nestedRustOk, Bool.and_eq_true, List.all_eq_true] at hr
  obtain ⟨⟨hko, hkeys⟩, hsub⟩ := hk
  obtain ⟨⟨hros, hrn⟩, hrsub⟩ := hr
  have hfa : ∀ p' g', fragOkN c.s c.q c.o c.q.fragments.length p' g' = true →
      (FragEnvN e c c.q.fragments.length g' ∧
        (fragSideN c c.q.fragments.length g' = true ∧ rustSideN c c.q.fragments.length g' = true)) →
      FragAcc e c (wholeN c c.q.fragments.length) (KNn c c.q.fragments.length) g' :=
    fun p' g' h1 h2 => fragAccN e c hnd _ p' g' h1 h2.1 h2.2.1
  have hfrt : ∀ p' g', fragOkN c.s c.q c.o c.q.fragments.length p' g' = true →
      (FragEnvN e c c.q.fragments.length g' ∧
        (fragSideN c c.q.fragments.length g' = true ∧ rustSideN c c.q.fragments.length g' = true)) →
      FragRT e c (exN c.q c.q.fragments.length) (centN c c.q.fragments.length) (KNn c c.q.fragments.length) g' :=
    fun p' g' h1 h2 => fragRTN e c hnd _ p' g' h1 h2.1 h2.2.1 h2.2.2 _ (Nat.le_refl _)
  exact Top.ser_norm_ok (spec := fun j => conformsOpN c op j = true) he.ok hS
    (C01AF.bodyA_lossless e c _ (wholeN c c.q.fragments.length) (KNn c c.q.fragments.length) _
      (exN c.q c.q.fragments.length) (centN c c.q.fragments.length) (fragOkN_spec c.s c.q c.o _)
      (fun p' g' h1 h2 => .of_fragAcc (hfa p' g' h1 h2)) hfrt
      (fun g hg => exN_fragOkAny hg _) (c.cs.camel op.name) "ResponseData" op.objectId op.sels hsels
      (bodyEnvN_and (P := fun g' => fragSideN c c.q.fragments.length g' = true ∧
          rustSideN c c.q.fragments.length g' = true) he.root (fun g' hg' => ⟨hsub g' hg', hrsub g' hg'⟩))
      hko hkeys hros hrn) hc hd

/-- **`nested_lossless`.**  A conforming response that was read is written back as `normJson (canonSelN … j)`.
    `canonSelN` is what the serializer writes before `serde_json::to_value` merges repeated keys; at an abstract position a
    key can be written twice (`__typename`: by a spread fragment on the abstract type itself and by the tag), hence
    `normJson`, as in `variantspread_lossless` and `mixed_lossless`.  `tree_lossless` / `fragment_lossless` state the
    canonical form itself: there it has no repeated key (`normJson_obj_fixed`). -/
theorem nested_lossless (c : Ctx) (opIdx : Nat) (op : ROperation) (items : List Item)
    (hop : c.q.operations[opIdx]? = some op) (ht : NestedOp c op = true) (hnd : fragNamesOk c = true)
    (hk : nestedKeysOk c op = true) (hr : nestedRustOk c op = true)
    (hgen : responseForQuery c opIdx = .ok items) (hok : moduleOk c items = true)
    (j : Json) (hc : conformsOpN c op j = true) (v : Val)
    (hd : Serde.de (moduleEnv c items) (.path "ResponseData") j = .ok v) :
    Serde.ser (moduleEnv c items) (.path "ResponseData") v =
      .ok (normJson (canonSelN (centN c c.q.fragments.length) c.s c.q c.o.skipNone op.sels j)) :=
  top_losslessN (moduleEnv c items) c op ht hnd hk hr
    (topEnvN_of_module hop ht hgen hok) (nested_module_envOK hop ht hgen hok).2 j v hc hd

theorem nested_roundtrip (c : Ctx) (opIdx : Nat) (op : ROperation) (items : List Item)
    (hop : c.q.operations[opIdx]? = some op) (ht : NestedOp c op = true) (hnd : fragNamesOk c = true)
    (hk : nestedKeysOk c op = true) (hr : nestedRustOk c op = true)
    (hgen : responseForQuery c opIdx = .ok items) (hok : moduleOk c items = true)
    (j : Json) (hc : conformsOpN c op j = true) :
    Serde.roundtrip (moduleEnv c items) (.path "ResponseData") j =
      .ok (normJson (canonSelN (centN c c.q.fragments.length) c.s c.q c.o.skipNone op.sels j)) :=
  Top.roundtrip_of (nested_accepts c opIdx op items hop ht hnd hk hgen hok j hc)
    (nested_lossless c opIdx op items hop ht hnd hk hr hgen hok j hc)

end C01N
end GqlVerif
