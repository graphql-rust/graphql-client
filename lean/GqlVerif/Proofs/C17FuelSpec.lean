import GqlVerif.Proofs.OutcomeLemmas
/-!
# C17 — fuel independence of the *specification-side* walks (`Valid.hasTypename`, `Valid.rootKeys`)

The two fuel-indexed walks of the C06 rule catalogue (`Model/Valid.lean`) follow fragment spreads
**without** a visited set.  On cyclic fragments the recursion is genuinely cut by the fuel, so fuel
independence is not a matter of a decreasing measure: it holds because a shortest witness path never
enters the same fragment name twice.

* `hasTypename_fuel_indep` — `∀ fuel ≥ ft.length + 1, hasTypename s ft t fuel sels = hasTypename s ft t (ft.length + 1) sels`
  (the fuel `validSel` / `validDef` pass), for every schema, fragment table (duplicate names, cycles,
  unknown names included), type and selection set; no hypothesis.
* `rootKeys_mem_fuel_indep` — the *set* of root keys is fuel independent above `(ft.length+1)·(d+1)+1`
  when `d` bounds the nesting depth of the fragment bodies and of the selection set (the *list* is not:
  `C17F.rootKeys_not_fuel_indep` in `C17Fuel.lean`); `eraseDups_length_one_iff`: the subscription rule only
  reads the set; `subscription_rule_fuel_indep`, `validDef_subscription_fuel_indep` — the verdict of the rule
  with exactly the fragment table, depth and fuel expression `Valid.validDoc` hands to `validDef`.

Method: each walk is written once with a visited set of fragment names that is consulted only under a guard (`hW`,
`rkW`): unguarded it is the specification's walk, guarded (`hG`, `rkG`) the one that can be counted.  It is monotone in
the fuel and gets no weaker when the guard is relaxed (`hW_mono`, `rkW_mono`), and every positive answer of the
unguarded walk at *any* fuel is reproduced by the guarded one within its need (`ht_to_guarded`, `rk_to_guarded`: strong
induction on the fuel; a witness that re-enters a visited fragment is replayed with strictly less fuel).
-/
namespace GqlVerif
namespace C17F
open Valid

/-- the fragment table of `Valid` (as `C06Sound.FT`; this file imports only the specification) -/
abbrev FT := List (String × String × List QSel)

/-- the search with a visited set of fragment names, consulted only under `guard` (proof device): without the guard
    it is the specification's `hasTypename`, with it the search the counting argument is about -/
def hW (s : Schema) (ft : FT) (t : TypeId) (guard : Bool) : Nat → List String → List QSel → Bool
  | 0, _, _ => false
  | fuel+1, visited, sels =>
    sels.any fun
      | .field _ name _ => name == "__typename"
      | .spread n =>
        if guard && visited.contains n then false else
        match findFrag ft n with
        | some (on, fsels) => s.findType on == some t && hW s ft t guard fuel (n :: visited) fsels
        | none => false
      | .inline _ _ => false

theorem hasTypename_eq_hW (s : Schema) (ft : FT) (t : TypeId) :
    ∀ (fuel : Nat) (visited : List String) (sels : List QSel),
      hasTypename s ft t fuel sels = hW s ft t false fuel visited sels := by
  intro fuel
  induction fuel with
  | zero => intro v sels; rfl
  | succ n ih =>
    intro v sels
    rw [hasTypename, hW]
    congr 1
    funext x
    cases x with
    | field a name sub => rfl
    | inline on sub => rfl
    | spread n' =>
      simp only [Bool.false_and, Bool.false_eq_true, ↓reduceIte]
      cases findFrag ft n' with
      | none => rfl
      | some p => simp only [ih (n' :: v)]

/-- more fuel, and a weaker guard (none, or the same with fewer names visited), keep a positive answer -/
theorem hW_mono (s : Schema) (ft : FT) (t : TypeId) {g g' : Bool} :
    ∀ (fuel fuel' : Nat) (v v' : List String) (sels : List QSel), fuel ≤ fuel' →
      (g' = true → g = true ∧ ∀ n ∈ v', n ∈ v) →
      hW s ft t g fuel v sels = true → hW s ft t g' fuel' v' sels = true := by
  intro fuel
  induction fuel with
  | zero => intro _ v _ sels _ _ h; simp [hW] at h
  | succ n ih =>
    intro fuel' v v' sels hle hg h
    cases fuel' with
    | zero => omega
    | succ m =>
      rw [hW, List.any_eq_true] at h ⊢
      obtain ⟨x, hx, hfx⟩ := h
      refine ⟨x, hx, ?_⟩
      cases x with
      | field a name sub => exact hfx
      | inline on sub => exact hfx
      | spread n' =>
        simp only at hfx ⊢
        split at hfx
        · cases hfx
        · rename_i hnb
          have hnb' : ¬ (g' && v'.contains n') = true := by
            intro hb
            simp only [Bool.and_eq_true, List.contains_iff_mem] at hb hnb
            exact hnb ⟨(hg hb.1).1, (hg hb.1).2 _ hb.2⟩
          rw [if_neg hnb']
          cases hf : findFrag ft n' with
          | none => simp [hf] at hfx
          | some p =>
            obtain ⟨on, fsels⟩ := p
            simp only [hf, Bool.and_eq_true] at hfx ⊢
            refine ⟨hfx.1, ih m _ _ fsels (by omega) (fun h' => ⟨(hg h').1, fun k hk => ?_⟩) hfx.2⟩
            rcases List.mem_cons.mp hk with rfl | hk
            · exact List.mem_cons_self
            · exact List.mem_cons_of_mem _ ((hg h').2 k hk)

abbrev hG (s : Schema) (ft : FT) (t : TypeId) := hW s ft t true

theorem ht_mono_le (s : Schema) (ft : FT) (t : TypeId) {fuel fuel' : Nat} (hle : fuel ≤ fuel') (sels : List QSel)
    (h : hasTypename s ft t fuel sels = true) : hasTypename s ft t fuel' sels = true := by
  rw [hasTypename_eq_hW s ft t _ []] at h ⊢
  exact hW_mono s ft t _ _ _ _ sels hle (fun h' => nomatch h') h

theorem hG_mono_le (s : Schema) (ft : FT) (t : TypeId) {fuel fuel' : Nat} (hle : fuel ≤ fuel')
    (visited : List String) (sels : List QSel)
    (h : hG s ft t fuel visited sels = true) : hG s ft t fuel' visited sels = true :=
  hW_mono s ft t _ _ _ _ sels hle (fun _ => ⟨rfl, fun _ h => h⟩) h

/-- the guarded search is below the unguarded one at the same fuel -/
theorem hG_le (s : Schema) (ft : FT) (t : TypeId) (fuel : Nat) (visited : List String) (sels : List QSel)
    (h : hG s ft t fuel visited sels = true) : hasTypename s ft t fuel sels = true := by
  rw [hasTypename_eq_hW s ft t _ visited]
  exact hW_mono s ft t _ _ _ _ sels (Nat.le_refl _) (fun h' => nomatch h') h

/-- entries of the fragment table whose name has not been visited -/
def remN (ft : FT) (visited : List String) : Nat := ft.countP (fun e => !visited.contains e.1)

theorem findFrag_mem {ft : FT} {n : String} {p : String × List QSel} (h : findFrag ft n = some p) :
    ∃ e ∈ ft, e.1 = n ∧ e.2 = p := by
  unfold findFrag at h
  cases hf : ft.find? (·.1 == n) with
  | none => simp [hf] at h
  | some e =>
    refine ⟨e, List.mem_of_find?_eq_some hf, by simpa using List.find?_some hf, ?_⟩
    simpa [hf] using h

theorem remN_decreases {ft : FT} {visited : List String} {n : String} {p : String × List QSel}
    (h : findFrag ft n = some p) (hv : visited.contains n = false) :
    remN ft (n :: visited) < remN ft visited := by
  obtain ⟨e, he, hen, _⟩ := findFrag_mem h
  unfold remN
  have hv' : n ∉ visited := by simpa using hv
  apply C17.countP_lt _ _ _ e he
  · simp [hen, hv']
  · simp [hen]
  · intro y hy
    simp only [List.contains_cons, Bool.not_eq_true', Bool.or_eq_false_iff] at hy
    simpa using hy.2

/-- every positive answer of the unguarded search, at any fuel, is reproduced by the guarded search within
    `#unvisited + 1` levels — or it went through a visited fragment, with strictly less fuel -/
theorem ht_to_guarded (s : Schema) (ft : FT) (t : TypeId) :
    ∀ (fuel : Nat) (visited : List String) (sels : List QSel), hasTypename s ft t fuel sels = true →
      hG s ft t (remN ft visited + 1) visited sels = true ∨
      ∃ m ∈ visited, ∃ f', f' < fuel ∧ ∃ on fsels, findFrag ft m = some (on, fsels) ∧
        (s.findType on == some t) = true ∧ hasTypename s ft t f' fsels = true := by
  intro fuel
  induction fuel using Nat.strongRecOn with
  | ind fuel IH =>
    intro visited sels h
    cases fuel with
    | zero => simp [hasTypename] at h
    | succ k =>
      have h0 := h
      rw [hasTypename, List.any_eq_true] at h
      obtain ⟨x, hx, hfx⟩ := h
      cases x with
      | inline on sub => simp at hfx
      | field a name sub =>
        left
        rw [hG, hW, List.any_eq_true]
        exact ⟨_, hx, hfx⟩
      | spread n =>
        simp only at hfx
        cases hf : findFrag ft n with
        | none => simp [hf] at hfx
        | some p =>
          obtain ⟨on, fsels⟩ := p
          simp only [hf, Bool.and_eq_true] at hfx
          obtain ⟨hon, hbody⟩ := hfx
          cases hc : visited.contains n with
          | true =>
            right
            exact ⟨n, by simpa using hc, k, Nat.lt_succ_self k, on, fsels, hf, hon, hbody⟩
          | false =>
            rcases IH k (Nat.lt_succ_self k) (n :: visited) fsels hbody with hl | ⟨m, hm, f', hf', on', fsels', hfm, hon', hb'⟩
            · left
              rw [hG, hW, List.any_eq_true]
              refine ⟨_, hx, ?_⟩
              simp only [hc, Bool.and_false, Bool.false_eq_true, ↓reduceIte, hf, Bool.and_eq_true]
              have hdec := remN_decreases hf hc
              exact ⟨hon, hG_mono_le s ft t (by omega) _ _ hl⟩
            · rcases List.mem_cons.mp hm with rfl | hm'
              · -- the witness re-entered `n`: the same selection set succeeds with less fuel
                rw [hf] at hfm
                cases hfm
                have hagain : hasTypename s ft t (f' + 1) sels = true := by
                  rw [hasTypename, List.any_eq_true]
                  refine ⟨_, hx, ?_⟩
                  simp only [hf, Bool.and_eq_true]
                  exact ⟨hon, hb'⟩
                rcases IH (f' + 1) (by omega) visited sels hagain with hl | ⟨m', hm'', f'', hf'', rest⟩
                · exact .inl hl
                · exact .inr ⟨m', hm'', f'', by omega, rest⟩
              · right
                exact ⟨m, hm', f', by omega, on', fsels', hfm, hon', hb'⟩

/-- **`Valid.hasTypename`**: above the fuel the specification passes (`#fragment-table entries + 1`) the
    verdict is fuel independent — for every schema, fragment table, type and selection set; no hypothesis -/
theorem hasTypename_fuel_indep (s : Schema) (ft : FT) (t : TypeId) (sels : List QSel) :
    ∀ fuel, ft.length + 1 ≤ fuel →
      hasTypename s ft t fuel sels = hasTypename s ft t (ft.length + 1) sels := by
  intro fuel hle
  have hrem : remN ft [] = ft.length := by simp [remN]
  cases h1 : hasTypename s ft t fuel sels with
  | true =>
    rcases ht_to_guarded s ft t fuel [] sels h1 with hg | ⟨m, hm, _⟩
    · rw [hrem] at hg
      exact (hG_le s ft t _ [] sels hg).symm
    · cases hm
  | false =>
    cases h2 : hasTypename s ft t (ft.length + 1) sels with
    | false => rfl
    | true => rw [ht_mono_le s ft t hle sels h2] at h1; cases h1

/-- the fuel does cut the recursion on cyclic fragments (the theorem is not a decreasing-measure fact):
    on `fragment F on I { ...F }` the search never finds `__typename` and descends as long as it has fuel -/
theorem hasTypename_cyclic_false :
    ∀ fuel, hasTypename {} [("F", "I", [.spread "F"])] (.interface 0) fuel [.spread "F"] = false := by
  intro fuel
  induction fuel with
  | zero => rfl
  | succ n _ => simp [hasTypename, findFrag, Schema.findType, namesGet]

/-- … and on `fragment F on I { ...F __typename }` (schema with `I` = interface 0) it answers `true` from
    fuel 2 on; `hasTypename_fuel_indep` applies (fuel `#fragments + 1 = 2`) -/
example : ∀ fuel, 2 ≤ fuel →
    hasTypename { names := [("I", .interface 0)] } [("F", "I", [.spread "F", .field none "__typename" []])]
      (.interface 0) fuel [.spread "F"] = true := by
  intro fuel h
  rw [hasTypename_fuel_indep _ [("F", "I", [.spread "F", .field none "__typename" []])] _ _ fuel (by simpa using h)]
  decide

/-! ## `Valid.rootKeys` (subscription rule of the specification; fuel `(#fragments+1)·(depth+1)+1`) -/

/-- one item of `Valid.rootKeys` (as `C06Sound.rkItem`) -/
def rkStep (ft : FT) (fuel : Nat) : QSel → List String
  | .field alias name _ => [alias.getD name]
  | .spread n => match findFrag ft n with
    | some (_, fsels) => rootKeys ft fuel fsels
    | none => []
  | .inline _ sub => rootKeys ft fuel sub

theorem rk_succ (ft : FT) (fuel : Nat) (sels : List QSel) :
    rootKeys ft (fuel + 1) sels = sels.flatMap (rkStep ft fuel) := by
  rw [rootKeys]
  rfl

/-- `rootKeys` with a visited set of fragment names, consulted only under `guard` (proof device): without the guard it
    is the specification's `rootKeys` -/
def rkW (ft : FT) (guard : Bool) : Nat → List String → List QSel → List String
  | 0, _, _ => []
  | fuel+1, visited, sels => sels.flatMap fun
    | .field alias name _ => [alias.getD name]
    | .spread n =>
      if guard && visited.contains n then [] else
      match findFrag ft n with
      | some (_, fsels) => rkW ft guard fuel (n :: visited) fsels
      | none => []
    | .inline _ sub => rkW ft guard fuel visited sub

theorem rootKeys_eq_rkW (ft : FT) :
    ∀ (fuel : Nat) (visited : List String) (sels : List QSel), rootKeys ft fuel sels = rkW ft false fuel visited sels := by
  intro fuel
  induction fuel with
  | zero => intro v sels; rfl
  | succ n ih =>
    intro v sels
    rw [rootKeys, rkW]
    congr 1
    funext x
    cases x with
    | field a name sub => rfl
    | inline on sub => exact ih v sub
    | spread n' =>
      simp only [Bool.false_and, Bool.false_eq_true, ↓reduceIte]
      cases findFrag ft n' with
      | none => rfl
      | some p => exact ih (n' :: v) _

/-- more fuel, and a weaker guard (none, or the same with fewer names visited), keep every key -/
theorem rkW_mono (ft : FT) (k : String) {g g' : Bool} :
    ∀ (fuel fuel' : Nat) (v v' : List String) (sels : List QSel), fuel ≤ fuel' →
      (g' = true → g = true ∧ ∀ n ∈ v', n ∈ v) → k ∈ rkW ft g fuel v sels → k ∈ rkW ft g' fuel' v' sels := by
  intro fuel
  induction fuel with
  | zero => intro _ v _ sels _ _ h; simp [rkW] at h
  | succ n ih =>
    intro fuel' v v' sels hle hg h
    cases fuel' with
    | zero => omega
    | succ m =>
      rw [rkW, List.mem_flatMap] at h ⊢
      obtain ⟨x, hx, hk⟩ := h
      refine ⟨x, hx, ?_⟩
      cases x with
      | field a name sub => exact hk
      | inline on sub => exact ih m _ _ sub (by omega) hg hk
      | spread n' =>
        simp only at hk ⊢
        split at hk
        · cases hk
        · rename_i hnb
          have hnb' : ¬ (g' && v'.contains n') = true := by
            intro hb
            simp only [Bool.and_eq_true, List.contains_iff_mem] at hb hnb
            exact hnb ⟨(hg hb.1).1, (hg hb.1).2 _ hb.2⟩
          rw [if_neg hnb']
          cases hf : findFrag ft n' with
          | none => simp [hf] at hk
          | some p =>
            simp only [hf] at hk ⊢
            refine ih m _ _ _ (by omega) (fun h' => ⟨(hg h').1, fun j hj => ?_⟩) hk
            rcases List.mem_cons.mp hj with rfl | hj
            · exact List.mem_cons_self
            · exact List.mem_cons_of_mem _ ((hg h').2 j hj)

abbrev rkG (ft : FT) := rkW ft true

theorem rk_mono_le (ft : FT) (k : String) {fuel fuel' : Nat} (hle : fuel ≤ fuel') (sels : List QSel)
    (h : k ∈ rootKeys ft fuel sels) : k ∈ rootKeys ft fuel' sels := by
  rw [rootKeys_eq_rkW ft _ []] at h ⊢
  exact rkW_mono ft k _ _ _ _ sels hle (fun h' => nomatch h') h

theorem rkG_mono_le (ft : FT) (k : String) {fuel fuel' : Nat} (hle : fuel ≤ fuel')
    (visited : List String) (sels : List QSel) (h : k ∈ rkG ft fuel visited sels) :
    k ∈ rkG ft fuel' visited sels :=
  rkW_mono ft k _ _ _ _ sels hle (fun _ => ⟨rfl, fun _ h => h⟩) h

theorem rkG_le (ft : FT) (k : String) (fuel : Nat) (visited : List String) (sels : List QSel)
    (h : k ∈ rkG ft fuel visited sels) : k ∈ rootKeys ft fuel sels := by
  rw [rootKeys_eq_rkW ft _ visited]
  exact rkW_mono ft k _ _ _ _ sels (Nat.le_refl _) (fun h' => nomatch h') h

theorem qselDepth_pos (x : QSel) : 1 ≤ qselDepth x := by
  cases x <;> simp [qselDepth]

/-- what the guarded walk needs (minus one): depth of the set at hand plus a full body depth per entry
    of the fragment table that can still be entered -/
def needK (ft : FT) (d : Nat) (visited : List String) (sels : List QSel) : Nat :=
  qselsDepth sels + remN ft visited * (d + 1)

theorem rk_to_guarded (ft : FT) (d : Nat) (hd : ∀ e ∈ ft, qselsDepth e.2.2 ≤ d) (k : String) :
    ∀ (fuel : Nat) (visited : List String) (sels : List QSel), k ∈ rootKeys ft fuel sels →
      k ∈ rkG ft (needK ft d visited sels + 1) visited sels ∨
      ∃ m ∈ visited, ∃ f', f' < fuel ∧ ∃ on fsels, findFrag ft m = some (on, fsels) ∧
        k ∈ rootKeys ft f' fsels := by
  intro fuel
  induction fuel using Nat.strongRecOn with
  | ind fuel IH =>
    intro visited sels h
    cases fuel with
    | zero => simp [rootKeys] at h
    | succ j =>
      rw [rk_succ, List.mem_flatMap] at h
      obtain ⟨x, hx, hk⟩ := h
      have hxd := C02.qselDepth_le_of_mem hx
      cases x with
      | field a name sub =>
        left
        rw [rkG, rkW, List.mem_flatMap]
        exact ⟨_, hx, hk⟩
      | inline on sub =>
        simp only [rkStep] at hk
        rw [qselDepth] at hxd
        rcases IH j (Nat.lt_succ_self j) visited sub hk with hl | ⟨m, hm, f', hf', rest⟩
        · left
          rw [rkG, rkW, List.mem_flatMap]
          refine ⟨_, hx, ?_⟩
          simp only
          exact rkG_mono_le ft k (by unfold needK; omega) _ _ hl
        · exact .inr ⟨m, hm, f', by omega, rest⟩
      | spread n =>
        simp only [rkStep] at hk
        rw [qselDepth] at hxd
        cases hf : findFrag ft n with
        | none => simp [hf] at hk
        | some p =>
          obtain ⟨on, fsels⟩ := p
          simp only [hf] at hk
          cases hc : visited.contains n with
          | true =>
            right
            exact ⟨n, by simpa using hc, j, Nat.lt_succ_self j, on, fsels, hf, hk⟩
          | false =>
            rcases IH j (Nat.lt_succ_self j) (n :: visited) fsels hk with hl | ⟨m, hm, f', hf', on', fsels', hfm, hb'⟩
            · left
              rw [rkG, rkW, List.mem_flatMap]
              refine ⟨_, hx, ?_⟩
              simp only [hc, Bool.and_false, Bool.false_eq_true, ↓reduceIte, hf]
              have hdec := remN_decreases hf hc
              obtain ⟨e, he, _, he2⟩ := findFrag_mem hf
              have hbody : qselsDepth fsels ≤ d := by
                have := hd e he
                rw [he2] at this
                exact this
              have h3 := Nat.mul_le_mul_right (d + 1) (Nat.succ_le_of_lt hdec)
              rw [Nat.succ_mul] at h3
              exact rkG_mono_le ft k (by unfold needK; omega) _ _ hl
            · rcases List.mem_cons.mp hm with rfl | hm'
              · rw [hf] at hfm
                cases hfm
                have hagain : k ∈ rootKeys ft (f' + 1) sels := by
                  rw [rk_succ, List.mem_flatMap]
                  refine ⟨_, hx, ?_⟩
                  simp only [rkStep, hf]
                  exact hb'
                rcases IH (f' + 1) (by omega) visited sels hagain with hl | ⟨m', hm'', f'', hf'', rest⟩
                · exact .inl hl
                · exact .inr ⟨m', hm'', f'', by omega, rest⟩
              · exact .inr ⟨m, hm', f', by omega, on', fsels', hfm, hb'⟩

/-- **`Valid.rootKeys`, as a set**: above the fuel the specification passes, the *set* of root keys is
    fuel independent (the list is not: `rootKeys_not_fuel_indep`).  `d` bounds the nesting depth of the
    fragment bodies and of the selection set at hand (in `validDef`: `docDepth`). -/
theorem rootKeys_mem_fuel_indep (ft : FT) (d : Nat) (hd : ∀ e ∈ ft, qselsDepth e.2.2 ≤ d)
    (sels : List QSel) (hs : qselsDepth sels ≤ d) :
    ∀ fuel, (ft.length + 1) * (d + 1) + 1 ≤ fuel → ∀ k,
      k ∈ rootKeys ft fuel sels ↔ k ∈ rootKeys ft ((ft.length + 1) * (d + 1) + 1) sels := by
  intro fuel hle k
  constructor
  · intro h
    rcases rk_to_guarded ft d hd k fuel [] sels h with hg | ⟨m, hm, _⟩
    · have h1 := rkG_le ft k _ [] sels hg
      refine rk_mono_le ft k ?_ sels h1
      have hrem : remN ft [] = ft.length := by simp [remN]
      unfold needK
      rw [hrem, Nat.succ_mul]
      omega
    · cases hm
  · exact rk_mono_le ft k hle sels

theorem eraseDups_eq_nil_iff (l : List String) : l.eraseDups = [] ↔ l = [] := by
  cases l with
  | nil => simp
  | cons a as => simp [List.eraseDups_cons]

/-- `eraseDups.length == 1` says: exactly one distinct key — a property of the *set* of keys -/
theorem eraseDups_length_one_iff (l : List String) :
    (l.eraseDups.length == 1) = true ↔ ∃ a, a ∈ l ∧ ∀ b ∈ l, b = a := by
  cases l with
  | nil => simp
  | cons a as =>
    rw [List.eraseDups_cons]
    simp only [List.length_cons, beq_iff_eq, Nat.add_eq_right, List.length_eq_zero_iff, eraseDups_eq_nil_iff,
      List.filter_eq_nil_iff]
    constructor
    · intro h
      refine ⟨a, List.mem_cons_self, fun b hb => ?_⟩
      rcases List.mem_cons.mp hb with rfl | hb
      · rfl
      · have := h b hb
        simpa using this
    · rintro ⟨a', _, hall⟩ b hb
      have h1 := hall a List.mem_cons_self
      have h2 := hall b (List.mem_cons_of_mem _ hb)
      simp [h1, h2]

/-- **the subscription rule of the specification is fuel independent** above the fuel `validDef` passes -/
theorem subscription_rule_fuel_indep (ft : FT) (d : Nat) (hd : ∀ e ∈ ft, qselsDepth e.2.2 ≤ d)
    (sels : List QSel) (hs : qselsDepth sels ≤ d) :
    ∀ fuel, (ft.length + 1) * (d + 1) + 1 ≤ fuel →
      ((rootKeys ft fuel sels).eraseDups.length == 1) =
        ((rootKeys ft ((ft.length + 1) * (d + 1) + 1) sels).eraseDups.length == 1) := by
  intro fuel hle
  have hmem := rootKeys_mem_fuel_indep ft d hd sels hs fuel hle
  rw [Bool.eq_iff_iff, eraseDups_length_one_iff, eraseDups_length_one_iff]
  constructor
  · rintro ⟨a, ha, hall⟩
    exact ⟨a, (hmem a).mp ha, fun b hb => hall b ((hmem b).mpr hb)⟩
  · rintro ⟨a, ha, hall⟩
    exact ⟨a, (hmem a).mpr ha, fun b hb => hall b ((hmem b).mp hb)⟩

/-- … with exactly the fuel expression, fragment table and depth `Valid.validDoc` hands to `validDef`:
    for every operation of the document -/
theorem validDef_subscription_fuel_indep (doc : QDoc) (kind : OpKind) (name : Option String)
    (vars : List VarDef) (sels : List QSel) (hop : QDef.op kind name vars sels ∈ doc) :
    ∀ fuel, ((fragTable doc).length + 1) * (docDepth doc + 1) + 1 ≤ fuel →
      ((rootKeys (fragTable doc) fuel sels).eraseDups.length == 1) =
        ((rootKeys (fragTable doc) (((fragTable doc).length + 1) * (docDepth doc + 1) + 1) sels).eraseDups.length == 1) := by
  apply subscription_rule_fuel_indep
  · intro e he
    unfold fragTable at he
    rw [List.mem_filterMap] at he
    obtain ⟨df, hdf, hde⟩ := he
    cases df with
    | frag n on fs =>
      simp only [Option.some.injEq] at hde
      subst hde
      unfold docDepth
      apply C02.le_foldl_max
      left
      exact List.mem_map.mpr ⟨_, hdf, rfl⟩
    | op _ _ _ _ => simp at hde
    | selset _ => simp at hde
  · unfold docDepth
    apply C02.le_foldl_max
    left
    exact List.mem_map.mpr ⟨_, hop, rfl⟩

end C17F
end GqlVerif
