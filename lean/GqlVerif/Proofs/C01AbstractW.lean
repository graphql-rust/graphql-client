import GqlVerif.Proofs.C01Abstract
import GqlVerif.Proofs.C01AbstractSchema
import GqlVerif.Proofs.SpecEval

/-! `VariantOp` end to end on a concrete module (`vxCtx`); C03 at abstract positions, witnesses. -/

namespace GqlVerif
namespace C01
namespace E2E
open Serde Spec C13 C03 Codegen

/-! ## a concrete module: the class and every side condition are satisfiable, the theorems apply

`{ hero { __typename name ... on Human { height buddy { __typename ... on Droid { primaryFunction } } }
          ... on Droid { primaryFunction } }
   search { __typename ... on Human { height } } }`
with `hero : Character` (interface, implemented by `Human`, `Droid`), `search : [SearchResult!]!` and
`buddy : SearchResult` (union of `Human`, `Droid`). -/

def vxOp : ROperation :=
  { name := "Q", kind := .query, objectId := 0,
    sels := [.field none 0 [.typename, .field none 1 [],
               .inline (.object 1) [.field none 2 [], .field none 5 [.typename, .inline (.object 2) [.field none 3 []]]],
               .inline (.object 2) [.field none 3 []]],
             .field none 4 [.typename, .inline (.object 1) [.field none 2 []]]] }

def vxQuery : Query := { operations := [vxOp] }
def vxCtx : Ctx := { s := vxSchema, q := vxQuery, o := {}, cs := ⟨id, id⟩ }


theorem vx_variant : VariantOp vxCtx vxOp = true := by decide +kernel

def vxUsed : UsedTypes :=
  { types := [.object 2, .union 0, .scalar 3, .object 1, .scalar 1, .interface 0], fragments := [] }

theorem vx_used : allUsedTypes vxSchema vxQuery 0 = .ok vxUsed := by rfl

/-- the emitted module, in closed form (the response part by `variant_items_shape`) -/
def vxItems : List Item :=
  builtinAliases ++ [] ++ [] ++ [] ++ [.unitStruct "Variables" ["Serialize"] (some "::serde")] ++ [] ++
    structItemsV vxCtx "ResponseData" "Q" vxOp.sels

theorem vx_scalars : scalarItems vxCtx vxUsed = .ok [] := by rfl
theorem vx_enums : enumItems vxCtx vxUsed = .ok [] := by rfl
theorem vx_inputs : inputItems vxCtx vxUsed = .ok [] := by rfl
theorem vx_vars : variablesItems vxCtx 0 = .ok [.unitStruct "Variables" ["Serialize"] (some "::serde")] := by rfl
theorem vx_frags : (sortNat vxUsed.fragments).mapM (fragmentItems vxCtx) = .ok [] := by rfl

theorem vx_gen : responseForQuery vxCtx 0 = .ok vxItems := by
  have hresp := variant_items_shape vxCtx vxOp (by simp [vxCtx, vxQuery]) vx_variant
  unfold responseForQuery
  simp only [show vxCtx.s = vxSchema from rfl, show vxCtx.q = vxQuery from rfl, vx_used, vx_scalars, vx_enums,
    vx_inputs, vx_vars, vx_frags, bind, Except.bind]
  rw [show vxQuery.getOperation 0 = .ok vxOp from rfl]
  simp only [hresp]
  rfl


theorem vx_ok : moduleOk vxCtx vxItems = true := by decide +kernel

theorem vx_rust : rustOkSelsV vxCtx vxOp.sels = true ∧ EnumSpec.nodup (rustNames vxCtx vxOp.sels) = true := by
  decide +kernel

def vxJson : Json :=
  .obj [("search", .arr [.obj [("__typename", .str "Droid")],
                         .obj [("height", .null), ("__typename", .str "Human")]]),
        ("hero", .obj [("__typename", .str "Human"), ("height", .num "1.72"),
                       ("buddy", .obj [("primaryFunction", .str "astromech"), ("__typename", .str "Droid")]),
                       ("name", .str "Luke")])]

def vxCanon : Json :=
  .obj [("hero", .obj [("name", .str "Luke"), ("__typename", .str "Human"), ("height", .num "1.72"),
                       ("buddy", .obj [("__typename", .str "Droid"), ("primaryFunction", .str "astromech")])]),
        ("search", .arr [.obj [("__typename", .str "Droid")],
                         .obj [("__typename", .str "Human"), ("height", .null)]])]

theorem vx_conforms : conformsOpV vxCtx vxOp vxJson = true := by
  rw [conformsOpV, conformsV_eq_K]
  decide +kernel

theorem vx_canon : canonSelV vxCtx.s vxCtx.o.skipNone vxOp.sels vxJson = vxCanon := by
  simp [canonSelV, canonEntriesV, canonFieldV, canonInlV, canon, canonNN, gtyOf, vxCtx, vxSchema, vxOp, vxJson, vxCanon,
    Json.lookup, skipQ, Json.isNull, tagName, objName, rtName]

/-- `variant_accepts` + `variant_lossless` on the concrete module: `to_value (from_value vxJson) = vxCanon` -/
example : Serde.roundtrip (moduleEnv vxCtx vxItems) (.path "ResponseData") vxJson = .ok vxCanon := by
  rw [← vx_canon]
  exact variant_roundtrip vxCtx 0 vxOp vxItems rfl vx_variant vx_gen vx_ok vx_rust.1 vx_rust.2 vxJson vx_conforms

theorem vx_precise (j : Json) :
    okB (Serde.de (moduleEnv vxCtx vxItems) (.path "ResponseData") j) =
      conformsLooseV vxSchema {} false vxOp.sels j :=
  variant_precise_iff vxCtx 0 vxOp vxItems rfl vx_variant vx_gen vx_ok j

macro "looseV_eval" : tactic => `(tactic|
  simp [conformsLooseV, looseSelsV, looseArrV, looseFieldV, loosePayV, tagOkV, vxSchema, vxOp, Json.lookup, accepts,
    acceptsNN, gtyOf, scalarOk, floatOk, stringOk, Json.isNull, nullableQ, countKey, isFieldSel, fieldKeys, fieldKey,
    vtsOfTy, Schema.implementors, List.zipIdx, objName, rtName])

/-- **`C03-typename-index`, witness 1**: at `hero` (interface-level field `name`: the enum is the flattened,
    hence buffered, `on`) the integer tag `0` is accepted and selects `Human` -/
theorem int_tag_flattened_accepted :
    okB (Serde.de (moduleEnv vxCtx vxItems) (.path "ResponseData")
      (.obj [("hero", .obj [("__typename", .int 0), ("name", .str "x")]), ("search", .arr [])])) = true := by
  rw [vx_precise]; looseV_eval

/-- **witness 2**: at `buddy` (no interface-level field, but below the abstract position `hero`: buffered) the
    integer tag `1` is accepted -/
theorem int_tag_nested_accepted :
    okB (Serde.de (moduleEnv vxCtx vxItems) (.path "ResponseData")
      (.obj [("hero", .obj [("__typename", .str "Human"), ("name", .str "x"),
               ("buddy", .obj [("__typename", .int 1)])]), ("search", .arr [])])) = true := by
  rw [vx_precise]; looseV_eval

/-- **witness 3**: at `search` (no interface-level field, reached from `ResponseData` directly) an integer tag
    is rejected -/
theorem int_tag_direct_rejected :
    okB (Serde.de (moduleEnv vxCtx vxItems) (.path "ResponseData")
      (.obj [("hero", .null), ("search", .arr [.obj [("__typename", .int 0)]])])) = false := by
  rw [vx_precise]; looseV_eval

/-- rejected: unknown `__typename` (no `fragmentsOtherVariant`) -/
example : okB (Serde.de (moduleEnv vxCtx vxItems) (.path "ResponseData")
    (.obj [("hero", .null), ("search", .arr [.obj [("__typename", .str "Alien")]])])) = false := by
  rw [vx_precise]; looseV_eval
/-- rejected: missing `__typename` -/
example : okB (Serde.de (moduleEnv vxCtx vxItems) (.path "ResponseData")
    (.obj [("hero", .obj [("name", .str "x")]), ("search", .arr [])])) = false := by
  rw [vx_precise]; looseV_eval
/-- rejected: `__typename` of the wrong kind -/
example : okB (Serde.de (moduleEnv vxCtx vxItems) (.path "ResponseData")
    (.obj [("hero", .obj [("name", .str "x"), ("__typename", .bool true)]), ("search", .arr [])])) = false := by
  rw [vx_precise]; looseV_eval
/-- rejected: the variant's own payload does not fit (`height` must be a number) — the known tag selects its
    own variant, not another one that would fit -/
example : okB (Serde.de (moduleEnv vxCtx vxItems) (.path "ResponseData")
    (.obj [("hero", .null), ("search", .arr [.obj [("__typename", .str "Human"), ("height", .str "tall")]])])) = false := by
  rw [vx_precise]; looseV_eval
/-- accepted: a known tag of a unit variant with arbitrary other keys -/
example : okB (Serde.de (moduleEnv vxCtx vxItems) (.path "ResponseData")
    (.obj [("hero", .null), ("search", .arr [.obj [("__typename", .str "Droid"), ("zzz", .int 1)]])])) = true := by
  rw [vx_precise]; looseV_eval
/-- rejected: a JSON array at an abstract position (unlike at an object position) -/
example : okB (Serde.de (moduleEnv vxCtx vxItems) (.path "ResponseData")
    (.obj [("hero", .arr [.str "x"]), ("search", .arr [])])) = false := by
  rw [vx_precise]; looseV_eval

/-- with `fragmentsOtherVariant` an unknown tag is accepted (predicate level; `abs_tag_selects` gives `Unknown`) -/
example : conformsLooseAbs vxSchema { otherVariant := true } false (.union 0) [.typename]
    (.obj [("__typename", .str "Alien")]) = true := by
  simp [conformsLooseAbs, looseSelsV, tagOkV, countKey, Json.lookup, isFieldSel, vtsOfTy, vxSchema, objName, rtName]

/-- the exclusion hypothesis of `absOk` is necessary: with `name` selected both at the interface level and inside
    `... on Human`, the class predicate fails … -/
example : absOk vxSchema {} (.interface 0)
    [.typename, .field none 1 [], .inline (.object 1) [.field none 1 [], .field none 2 []]] = false := by
  decide +kernel
/-- … and the emitted types lose the key: `C01.overlap_loses_key` (same shape, module of `C01Layers`) -/
example : Serde.de overlapEnv (.path "QAnimal") overlapJson = .error (.mismatch "missing field name") :=
  overlap_loses_key

end E2E
end C01
end GqlVerif
