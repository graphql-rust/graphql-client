import GqlVerif.Proofs.C12Graph
import GqlVerif.Proofs.C02Response
import GqlVerif.Model.Sdl
/-!
# C12 — every generated type has finite size, stated on the emitted items

`Props/C12.lean` proves acyclicity of two abstract edge relations of the model (`byValue s` on input
ids, `byValueF q` on fragment ids).  This file states the property on what is **emitted**: the `Item`s
(`Model/Rust.lean`) returned by `Codegen.inputItems`, `Codegen.fragmentItems`, `Codegen.responseItems`.

`containsByValue items a b` — the item named `a` has a member (struct field, enum-variant payload, alias
target) whose type holds the item named `b` **by value**: `T` and `Option<T>` are by-value, `Vec<T>` and
`Box<T>` are indirections (`byValueLeaf`).  A Rust type has finite size iff this relation has no cycle.

* **(i)** `input_items_acyclic` — for `inputItems c u = .ok items` (any used set `u`), under `InputsWf c.s`
  (distinct input names, ids in range: `dfs_complete` needs it) and `MentionsFaithful c` (a field type
  whose rendered name is the item name of an input type *is* that input type: name resolution in the
  emitted module agrees with the schema; executable), `¬ ∃ a, TransGen (containsByValue items) a a`.
  `responseForQuery_input_items_acyclic`: the same for the input part of an emitted module.
  `mentionsFaithful_needed`: without it the relation on the emitted items is cyclic (keyword escaping
  merges `type` and `type_`).
* **(ii)** `calc_fwd` — in the item list of any `calcSelection` call every by-value reference goes to an item
  *later* in the list, to a scalar / enum leaf, or to the struct of a non-recursive fragment spread below
  (the instance of `C02.calc_refs` for by-value containment).
  `response_items_acyclic` — for any list of blocks, each `fragmentItems c g` or `responseItems c o`,
  closed under spreads, with pairwise distinct item names and no item named like a scalar / enum leaf:
  no by-value cycle (cross-block edges project onto `C12Graph.byValueF`, `fragment_boxed_acyclic'`).
  `module_response_items_acyclic` (shape `F.flatten ++ R`), `module_response_items_acyclic_of_check`
  (hypotheses as one executable `respCheck`), `responseForQuery_response_items_acyclic` (closure discharged
  by `allUsedTypes`).
  Necessity: `fragment_named_String_cyclic` — a fragment called `String` gives `struct String { name: String }`,
  a by-value cycle on the emitted items of a *valid* document with no name defined twice (`hleaf` excludes it);
  `distinct_names_needed` (path collision `type Qx = Qx;`), `closure_needed`.
-/
namespace GqlVerif
namespace C12I
open Codegen C12Graph
open Relation (TransGen)

/-! ## 0. by-value containment on items -/

/-- the type name an `RTy` holds **by value** (`T`, `Option<T>`); `Vec<_>` and `Box<_>` are indirections -/
def byValueLeaf : RTy → Option String
  | .path p => some p
  | .opt t => byValueLeaf t
  | .vec _ => none
  | .box _ => none

/-- the type names an item holds by value (unit structs, C-like enums and the `default_*` functions hold none) -/
def byValueRefs : Item → List String
  | .struct _ _ _ fs => fs.filterMap (fun f => byValueLeaf f.ty)
  | .tagged _ _ _ _ vs => vs.filterMap (fun v => v.payload.bind byValueLeaf)
  | .oneOf _ _ _ vs => vs.filterMap (fun v => v.payload.bind byValueLeaf)
  | .alias _ _ t => (byValueLeaf t).toList
  | _ => []

/-- item `a` of `items` has a member whose type holds item `b` of `items` by value -/
def containsByValue (items : List Item) (a b : String) : Prop :=
  ∃ it ∈ items, it.name = a ∧ b ∈ byValueRefs it ∧ b ∈ items.map Item.name

/-- the larger relation that does not ask `b` to be an item: it has the same cycles -/
def mentionsByValue (items : List Item) (a b : String) : Prop :=
  ∃ it ∈ items, it.name = a ∧ b ∈ byValueRefs it

theorem mentionsByValue_cycle {items : List Item} {a b : String} (h : TransGen (mentionsByValue items) a b)
    (hb : b ∈ items.map Item.name) : TransGen (containsByValue items) a b := by
  induction h with
  | single h =>
    obtain ⟨it, hit, hn, hr⟩ := h
    exact .single ⟨it, hit, hn, hr, hb⟩
  | tail h1 h2 ih =>
    obtain ⟨it, hit, hn, hr⟩ := h2
    exact .tail (ih (List.mem_map.mpr ⟨it, hit, hn⟩)) ⟨it, hit, hn, hr, hb⟩

theorem acyclic_iff (items : List Item) :
    (¬ ∃ a, TransGen (containsByValue items) a a) ↔ ¬ ∃ a, TransGen (mentionsByValue items) a a := by
  constructor
  · rintro h ⟨a, ha⟩
    obtain ⟨b, ⟨it, hit, hn, _⟩, _⟩ := TransGen.head'_iff.mp ha
    exact h ⟨a, mentionsByValue_cycle ha (List.mem_map.mpr ⟨it, hit, hn⟩)⟩
  · rintro h ⟨a, ha⟩
    exact h ⟨a, TransGen.mono (fun _ _ ⟨it, hit, hn, hr, _⟩ => ⟨it, hit, hn, hr⟩) _ _ ha⟩

/-! ### `decorateType`: the by-value leaf -/

/-- the body of `FieldType.isIndirected`, on the qualifiers alone -/
def hasList (quals : List Qual) : Bool := quals.any (· == .list)

theorem decorateFold_byValue : ∀ (l : List Qual) (st st' : RTy × Bool),
    l.foldlM decorateStep st = .ok st' →
    byValueLeaf st'.1 = if hasList l then none else byValueLeaf st.1 := by
  intro l
  induction l with
  | nil =>
    intro st st' h
    simp only [List.foldlM_nil, pure, Except.pure, Except.ok.injEq] at h
    subst h; simp [hasList]
  | cons q l ih =>
    intro st st' h
    rw [List.foldlM_cons] at h
    obtain ⟨st1, hq, h⟩ := C02.bind_ok h
    have := ih st1 st' h
    rw [this]
    obtain ⟨t, nn⟩ := st
    cases nn <;> cases q <;>
      simp only [decorateStep, pure, Except.pure, Except.ok.injEq, panic'] at hq <;>
      first
        | (subst hq; simp [hasList, byValueLeaf])
        | cases hq

theorem decorateType_byValue {p : String} {quals : List Qual} {t : RTy}
    (h : decorateType (.path p) quals = .ok t) :
    byValueLeaf t = if hasList quals then none else some p := by
  unfold decorateType at h
  obtain ⟨st, hst, h⟩ := C02.bind_ok h
  have := decorateFold_byValue _ _ _ hst
  simp only [pure, Except.pure, Except.ok.injEq] at h
  subst h
  have hl : hasList quals.reverse = hasList quals := by simp [hasList]
  rw [hl] at this
  simp only [byValueLeaf] at this
  split <;> simpa [byValueLeaf] using this

/-! ## (i) input items -/

/-- the name of the item emitted for an input type -/
def itemName (c : Ctx) (i : StoredInput) : String :=
  keywordReplace (c.o.normalization.inputName c.cs i.name)

/-- the name under which a field type is mentioned -/
def mention (c : Ctx) (tn : String) : String := c.o.normalization.fieldType c.cs tn

/-- name resolution in the emitted module agrees with the schema: if the rendered type name of a field
    of an input type is the item name of the input type `j`, the field's type *is* input `j`.
    (Executable; implied by "distinct schema types get distinct Rust names and `keywordReplace` does
    not move an input name onto another type's name".) -/
def mentionsFaithful (c : Ctx) : Bool :=
  c.s.inputs.all fun i => i.fields.all fun f =>
    match c.s.typeName f.2.id with
    | .ok tn => c.s.inputs.zipIdx.all fun p => mention c tn != itemName c p.1 || decide (f.2.id = .input p.2)
    | .error _ => true

def MentionsFaithful (c : Ctx) : Prop := mentionsFaithful c = true
instance (c : Ctx) : Decidable (MentionsFaithful c) := inferInstanceAs (Decidable (_ = true))

theorem MentionsFaithful.spec {c : Ctx} (h : MentionsFaithful c) {i : StoredInput} (hi : i ∈ c.s.inputs)
    {f : String × FieldType} (hf : f ∈ i.fields) {tn : String} (htn : c.s.typeName f.2.id = .ok tn)
    {j : Nat} {ij : StoredInput} (hj : c.s.inputs[j]? = some ij) (hm : mention c tn = itemName c ij) :
    f.2.id = .input j := by
  unfold MentionsFaithful mentionsFaithful at h
  simp only [List.all_eq_true] at h
  have h1 := h i hi f hf
  rw [htn] at h1
  simp only [List.all_eq_true] at h1
  have h2 := h1 (ij, j) (by rw [List.mem_zipIdx_iff_getElem?]; simpa using hj)
  simpa [hm] using h2

theorem inputFieldType_byValue {c : Ctx} {ty : FieldType} {quals : List Qual} {t : RTy} {n : String}
    (h : inputFieldType c ty quals = .ok t) (hn : byValueLeaf t = some n) :
    ∃ tn, c.s.typeName ty.id = .ok tn ∧ n = mention c tn ∧ hasList quals = false ∧
      targetRecursive c.s ty = false := by
  obtain ⟨tn, t0, htn, hdec, _, hr⟩ := inputFieldType_shape c ty quals t h
  have hbv := decorateType_byValue hdec
  cases hrec : targetRecursive c.s ty with
  | true => rw [hrec] at hr; simp only [↓reduceIte] at hr; subst hr; simp [byValueLeaf] at hn
  | false =>
    rw [hrec] at hr; simp only [Bool.false_eq_true, ↓reduceIte] at hr; subst hr
    rw [hbv] at hn
    cases hl : hasList quals with
    | true => simp [hl] at hn
    | false =>
      simp only [hl, Bool.false_eq_true, ↓reduceIte, Option.some.injEq] at hn
      exact ⟨tn, htn, hn.symm, rfl, rfl⟩

/-- the by-value references of the item emitted for an input type come from its non-list fields whose
    target is not a recursive input -/
theorem inputItem_byValueRefs {c : Ctx} {i : StoredInput} {item : Item} (h : inputItem c i = .ok item) :
    ∀ n ∈ byValueRefs item, ∃ p ∈ i.fields, ∃ tn, c.s.typeName p.2.id = .ok tn ∧ n = mention c tn ∧
      p.2.isIndirected = false ∧ targetRecursive c.s p.2 = false := by
  intro n hn
  simp only [byValueRefs] at hn
  rcases C02.inputItem_cases h with ⟨_, vs, hm, rfl⟩ | ⟨_, fs, hm, rfl⟩ <;>
  · simp only [List.mem_filterMap] at hn
    obtain ⟨x, hx, hxn⟩ := hn
    obtain ⟨p, hp, t, ht, rfl⟩ := C02.mapM_bind_pure_mem hm x hx
    simp only [Option.bind_some] at hxn
    obtain ⟨tn, htn, hmn, hl, hrec⟩ := inputFieldType_byValue ht hxn
    exact ⟨p, hp, tn, htn, hmn, by simpa [hasList, FieldType.isIndirected] using hl, hrec⟩

/-- the source of a by-value edge between emitted input items -/
theorem edge_src {c : Ctx} {u : UsedTypes} {items : List Item} (h : inputItems c u = .ok items)
    {a b : String} (hab : mentionsByValue items a b) :
    ∃ (ja : Nat) (ia : StoredInput), c.s.inputs[ja]? = some ia ∧ itemName c ia = a ∧
      ∃ f ∈ ia.fields, ∃ tn, c.s.typeName f.2.id = .ok tn ∧ b = mention c tn ∧
        f.2.isIndirected = false ∧ targetRecursive c.s f.2 = false := by
  obtain ⟨it, hit, hn, hb⟩ := hab
  obtain ⟨k, i, _, hi, hf⟩ := C02.inputItems_origin h it hit
  refine ⟨k, i, hi, ?_, inputItem_byValueRefs hf b hb⟩
  rw [← hn, C02.inputItem_name hf]; rfl

/-- a by-value edge between emitted input items into the item of input `jb` is a `byValue` edge of the
    model's graph -/
theorem edge_lift {c : Ctx} (hf : MentionsFaithful c) {u : UsedTypes} {items : List Item}
    (h : inputItems c u = .ok items) {a b : String} (hab : mentionsByValue items a b)
    {jb : Nat} {ib : StoredInput} (hjb : c.s.inputs[jb]? = some ib) (hb : itemName c ib = b) :
    ∃ (ja : Nat) (ia : StoredInput), c.s.inputs[ja]? = some ia ∧ itemName c ia = a ∧ byValue c.s ja jb := by
  obtain ⟨ja, ia, hja, hna, f, hfm, tn, htn, hm, hind, hrec⟩ := edge_src h hab
  have hid : f.2.id = .input jb :=
    hf.spec (List.mem_of_getElem? hja) hfm htn hjb (by rw [← hm, hb])
  refine ⟨ja, ia, hja, hna, ⟨ia, hja, f, hfm, hid, hind⟩, ?_⟩
  have : targetRecursive c.s f.2 = inputIsRecursive c.s jb := by
    unfold targetRecursive
    rw [asInput?_eq_some.mpr hid]
  rw [← this]; exact hrec

theorem path_lift {c : Ctx} (hf : MentionsFaithful c) {u : UsedTypes} {items : List Item}
    (h : inputItems c u = .ok items) {a b : String} (hab : TransGen (mentionsByValue items) a b) :
    ∀ {jb : Nat} {ib : StoredInput}, c.s.inputs[jb]? = some ib → itemName c ib = b →
      ∃ (ja : Nat) (ia : StoredInput), c.s.inputs[ja]? = some ia ∧ itemName c ia = a ∧
        TransGen (byValue c.s) ja jb := by
  induction hab with
  | single hab =>
    intro jb ib hjb hb
    obtain ⟨ja, ia, hja, hna, hbv⟩ := edge_lift hf h hab hjb hb
    exact ⟨ja, ia, hja, hna, .single hbv⟩
  | tail _ hmb ih =>
    intro jb ib hjb hb
    obtain ⟨jm, im, hjm, hnm, hbv⟩ := edge_lift hf h hmb hjb hb
    obtain ⟨ja, ia, hja, hna, hp⟩ := ih hjm hnm
    exact ⟨ja, ia, hja, hna, .tail hp hbv⟩

/-- **(i)** the input items the generator emits contain each other by value without cycle: every
    emitted input struct / `@oneOf` enum has finite size.
    Hypotheses: `InputsWf c.s` — input names pairwise distinct and input ids in range (the generator's DFS
    is keyed by name: `C12.dfs_complete`); `MentionsFaithful c` — Rust name resolution agrees with the schema. -/
theorem input_items_acyclic (c : Ctx) (u : UsedTypes) (items : List Item)
    (hwf : InputsWf c.s) (hf : MentionsFaithful c) (h : inputItems c u = .ok items) :
    ¬ ∃ a, TransGen (containsByValue items) a a := by
  rw [acyclic_iff]
  rintro ⟨a, ha⟩
  -- `a` is the item of some input `j0` (first edge) …
  obtain ⟨b, hab, _⟩ := TransGen.head'_iff.mp ha
  obtain ⟨j0, i0, hj0, hn0, _⟩ := edge_src h hab
  -- … the cycle lifts to a `byValue` path `ja →⁺ j0` with `ja` also named `a` …
  obtain ⟨ja, ia, hja, hna, hp⟩ := path_lift hf h ha hj0 hn0
  -- … and the last edge mentions `a`, so faithfulness identifies `ja` and `j0`
  obtain ⟨m, _, hma⟩ := TransGen.tail'_iff.mp ha
  obtain ⟨jm, im, hjm, _, f, hfm, tn, htn, hmn, _, _⟩ := edge_src h hma
  have e1 : f.2.id = .input j0 := hf.spec (List.mem_of_getElem? hjm) hfm htn hj0 (by rw [← hmn, hn0])
  have e2 : f.2.id = .input ja := hf.spec (List.mem_of_getElem? hjm) hfm htn hja (by rw [← hmn, hna])
  have : ja = j0 := by rw [e1] at e2; injection e2 with e2; exact e2.symm
  subst this
  exact C12Graph.boxed_acyclic c.s hwf ⟨ja, hp⟩

/-- **(i), on the module `responseForQuery` emits**: its input items are `inputItems c u` for the used set
    `u = allUsedTypes …`, and they contain each other by value without cycle -/
theorem responseForQuery_input_items_acyclic (c : Ctx) (op : Nat) (items : List Item)
    (hwf : InputsWf c.s) (hf : MentionsFaithful c) (h : responseForQuery c op = .ok items) :
    ∃ (u : UsedTypes) (pre I post : List Item), allUsedTypes c.s c.q op = .ok u ∧ inputItems c u = .ok I ∧
      items = pre ++ I ++ post ∧ ¬ ∃ a, TransGen (containsByValue I) a a := by
  obtain ⟨u, S, E, F, I, V, o, R, hu, _, _, _, hI, _, _, _, rfl⟩ := C02.responseForQuery_ok_full h
  exact ⟨u, builtinAliases ++ S ++ E, I, V ++ F.flatten ++ R, hu, hI, by simp only [List.append_assoc],
    input_items_acyclic c u I hwf hf hI⟩

/-! ## (ii) fragment and response items -/

/-- the names under which scalar and enum types are mentioned by response fields -/
def LeafNames (c : Ctx) : List String :=
  (c.s.scalars ++ c.s.enums.map (·.name)).map (mention c)

theorem byValueLeaf_eq_leaf {t : RTy} {n : String} (h : byValueLeaf t = some n) : Scope.leaf t = n := by
  induction t with
  | path p => simpa [byValueLeaf, Scope.leaf] using h
  | opt t ih => exact ih (by simpa [byValueLeaf] using h)
  | vec t _ => simp [byValueLeaf] at h
  | box t _ => simp [byValueLeaf] at h

/-- a rendered field holds its type by value only if it was not boxed -/
theorem renderField_byValue {c : Ctx} {g : Option String} {r ft : String} {quals : List Qual} {fl bx : Bool}
    {dep : Option (Option String)} {o : Option RField}
    (h : renderField c g r ft quals fl bx dep = .ok o) :
    ∀ f ∈ o.toList, ∀ n, byValueLeaf f.ty = some n → n = ft ∧ bx = false := by
  intro f hf n hn
  have hl := C02.renderField_leaf h f hf
  refine ⟨by rw [← byValueLeaf_eq_leaf hn, hl], ?_⟩
  cases bx with
  | false => rfl
  | true =>
    cases o with
    | none => simp at hf
    | some fld =>
      simp only [Option.toList_some, List.mem_singleton] at hf
      subst hf
      have := renderField_box_iff c g r ft quals fl true dep f h
      cases hty : f.ty <;> simp [hty, isBox] at this
      simp [hty, byValueLeaf] at hn

theorem aliasItem_byValueRefs (n t : String) (b : Bool) :
    byValueRefs (aliasItem n t b) = if b then [] else [t] := by
  cases b <;> rfl

theorem aliasItem_name (n t : String) (b : Bool) : (aliasItem n t b).name = n := by
  cases b <;> rfl

theorem mem_names_of_defines {items : List Item} {n : String} (h : n ∈ Scope.defines items) :
    n ∈ items.map Item.name := by
  simp only [Scope.defines, List.mem_filterMap] at h
  obtain ⟨it, hit, hd⟩ := h
  refine List.mem_map.mpr ⟨it, hit, ?_⟩
  cases it <;> simp [Scope.itemDefines] at hd <;> exact hd

section Calc
variable (c : Ctx) (P : Nat → Prop)

/-- by-value references that leave the block: a scalar / enum leaf, or the struct of a fragment that is
    spread here (`P`) and is not recursive (a recursive one is only ever mentioned under `Box`) -/
def Ext (n : String) : Prop :=
  n ∈ LeafNames c ∨
  ∃ g fr, c.q.fragments[g]? = some fr ∧ fr.name = n ∧ fragmentIsRecursive c.q g = false ∧ P g

/-- the spreads below these selections are in `P` -/
def Sp (sels : List Sel) : Prop := ∀ g, SpreadsIn sels g → P g

structure VSp (vsels : List VariantSel) : Prop where
  inl : ∀ t sub, VariantSel.inline t sub ∈ vsels → Sp P sub
  spr : ∀ g fr, VariantSel.spread g fr ∈ vsels → P g ∧ c.q.fragments[g]? = some fr

variable {c P}

theorem Sp.inline {sels : List Sel} {t : TypeId} {sub : List Sel} (h : Sp P sels)
    (hm : .inline t sub ∈ sels) : Sp P sub := fun g hg => h g (.inline hm hg)

theorem Sp.spread {sels : List Sel} {g : Nat} (h : Sp P sels) (hm : .spread g ∈ sels) : P g := h g (.here hm)

theorem VSp.filter {l : List VariantSel} (p : VariantSel → Bool) (h : VSp c P l) : VSp c P (l.filter p) :=
  ⟨fun t sub hm => h.inl t sub (List.mem_filter.mp hm).1, fun g fr hm => h.spr g fr (List.mem_filter.mp hm).1⟩

/-- from `C02.Sub` to `SpreadsIn`: a spread below a member of the selection set (`spreadsIn_sub` is the converse) -/
theorem spreadsIn_of_sub {x y : Sel} (h : C02.Sub x y) :
    ∀ {sels : List Sel} {g : Nat}, x ∈ sels → y = .spread g → SpreadsIn sels g := by
  induction h with
  | refl x => exact fun hx hy => .here (hy ▸ hx)
  | field hm _ ih => exact fun hx hy => .field hx (ih hm hy)
  | inline hm _ ih => exact fun hx hy => .inline hx (ih hm hy)

theorem Sp.pre {sels : List Sel} (h : Sp P sels) : C02.Pre (fun x => ∀ g, x = .spread g → P g) sels :=
  fun _ hx _ hxy g hy => h g (spreadsIn_of_sub hxy hx hy)

variable (c P)

/-- by-value containment as a notion of reference: a member counts when it is not boxed -/
theorem refSys_byValue :
    C02.RefSys c (fun x => ∀ g, x = .spread g → P g) byValueRefs byValueLeaf (· = false) (Ext c P) where
  leaf := fun _ _ h => byValueLeaf_eq_leaf h
  struct := by
    intro nm d sc fs n hn
    simp only [byValueRefs, List.mem_filterMap] at hn
    exact hn
  tagged := by
    intro nm d sc tg vs n hn
    simp only [byValueRefs, List.mem_filterMap] at hn
    obtain ⟨v, hv, hvn⟩ := hn
    cases hp : v.payload with
    | none => simp [hp] at hvn
    | some t =>
      exact ⟨v, hv, t, hp, by simpa [hp] using hvn⟩
  aliasRef := by
    intro nm t b n hn
    rw [aliasItem_byValueRefs] at hn
    cases b with
    | true => cases hn
    | false => exact ⟨List.mem_singleton.mp hn, rfl⟩
  field := fun h f hf n hn => renderField_byValue h f hf n hn
  enum := fun _ _ _ _ _ en _ _ _ hen => .inl (by
    simp only [LeafNames, List.map_append, List.map_map, List.mem_append, List.mem_map]
    exact .inr ⟨en, List.mem_of_getElem? hen, rfl⟩)
  scalar := fun _ _ _ _ _ sn _ _ _ hsn => .inl (by
    simp only [LeafNames, List.map_append, List.map_map, List.mem_append, List.mem_map]
    exact .inl ⟨sn, List.mem_of_getElem? hsn, rfl⟩)
  frag := fun g fr hK hfr hrec => .inr ⟨g, fr, hfr, rfl, hrec, hK g rfl⟩

variable {c P}

/-- **order of the emitted items**: in the item list of any `calcSelection` call every by-value reference goes to
    an item later in the same list, to a scalar / enum leaf, or to a non-recursive fragment spread below
    the selections at hand (`C02.calc_refs` for by-value containment) -/
theorem calc_fwd {fuel : Nat} {name pfx : String} {ty : TypeId} {sels : List Sel} {items : List Item}
    (hsp : Sp P sels) (h : calcSelection c fuel name pfx ty sels = .ok items) :
    C02.FwdR byValueRefs (Ext c P) items :=
  C02.calc_refs (refSys_byValue c P) (C02.CalcSel.of_ok h) hsp.pre

end Calc

/-! ### blocks: the items of one fragment / one operation -/

/-- a relation whose edges either stay inside a block and increase a measure, or follow an acyclic
    relation between blocks, is acyclic -/
theorem acyclic_of_projection {α β : Type} (R : α → α → Prop) (S : β → β → Prop) (π : α → β) (m : α → Nat)
    (hedge : ∀ a b, R a b → (π a = π b ∧ m a < m b) ∨ S (π a) (π b))
    (hS : ¬ ∃ t, TransGen S t t) : ¬ ∃ a, TransGen R a a := by
  have key : ∀ a b, TransGen R a b → (π a = π b ∧ m a < m b) ∨ TransGen S (π a) (π b) := by
    intro a b h
    induction h with
    | single h => exact (hedge _ _ h).imp id .single
    | tail _ h2 ih =>
      rcases ih with ⟨e1, l1⟩ | t1
      · rcases hedge _ _ h2 with ⟨e2, l2⟩ | s2
        · exact .inl ⟨e1.trans e2, Nat.lt_trans l1 l2⟩
        · exact .inr (.single (e1 ▸ s2))
      · rcases hedge _ _ h2 with ⟨e2, _⟩ | s2
        · exact .inr (e2 ▸ t1)
        · exact .inr (.tail t1 s2)
  rintro ⟨a, ha⟩
  rcases key a a ha with ⟨_, l⟩ | t
  · exact Nat.lt_irrefl _ l
  · exact hS ⟨_, t⟩

/-- the root of a block of response items -/
inductive Root where
  | frag (g : Nat)
  | op (o : ROperation)

namespace Root
/-- the model function that emits the block -/
def items (c : Ctx) : Root → Outcome (List Item)
  | .frag g => fragmentItems c g
  | .op o => responseItems c o
def sels (c : Ctx) : Root → List Sel
  | .frag g => match c.q.fragments[g]? with | some f => f.sels | none => []
  | .op o => o.sels
def tag : Root → Option Nat
  | .frag g => some g
  | .op _ => none
end Root

/-- by-value edges between blocks: a fragment's struct holds a non-recursive fragment it spreads; the
    response holds fragments; nothing holds the response -/
def blockEdge (q : Query) : Option Nat → Option Nat → Prop
  | some r, some g => byValueF q r g
  | none, some _ => True
  | _, none => False

theorem blockEdge_acyclic (q : Query) : ¬ ∃ t, TransGen (blockEdge q) t t := by
  have key : ∀ x y, TransGen (blockEdge q) x y → ∀ r g, x = some r → y = some g → TransGen (byValueF q) r g := by
    intro x y h
    induction h with
    | single h =>
      intro r g hx hy; subst hx hy
      exact .single h
    | @tail m y' h1 h2 ih =>
      intro r g hx hy; subst hy
      cases m with
      | none =>
        -- a path into `none` is impossible
        exfalso
        rcases TransGen.tail'_iff.mp h1 with ⟨z, _, hz⟩
        cases z <;> exact hz
      | some m' => exact .tail (ih r m' hx rfl) h2
  rintro ⟨t, ht⟩
  cases t with
  | none =>
    rcases TransGen.tail'_iff.mp ht with ⟨z, _, hz⟩
    cases z <;> exact hz
  | some r => exact fragment_boxed_acyclic' q ⟨r, key _ _ ht r r rfl rfl⟩

/-- the items of one block are ordered: by-value references go forward, to a leaf, or to a
    non-recursive fragment spread (at any depth) in the block's root selection set -/
theorem block_fwd {c : Ctx} {r : Root} {its : List Item} (h : r.items c = .ok its) :
    C02.FwdR byValueRefs (Ext c (fun g => SpreadsIn (r.sels c) g)) its := by
  cases r with
  | frag g =>
    obtain ⟨fr, hfr, hc⟩ := C02.fragmentItems_ok h
    have : Root.sels c (.frag g) = fr.sels := by simp [Root.sels, hfr]
    rw [this]
    exact calc_fwd (P := fun g => SpreadsIn fr.sels g) (fun _ h => h) hc
  | op o =>
    exact calc_fwd (P := fun g => SpreadsIn o.sels g) (fun _ h => h) h

theorem block_frag_name {c : Ctx} {g : Nat} {its : List Item} (h : fragmentItems c g = .ok its)
    {fr : RFragment} (hfr : c.q.fragments[g]? = some fr) : fr.name ∈ its.map Item.name := by
  obtain ⟨fr', hfr', hc⟩ := C02.fragmentItems_ok h
  rw [hfr] at hfr'; cases hfr'
  exact mem_names_of_defines (C02.calcSelection_defines_name hc)

/-! ### position of a name in a list of blocks with pairwise distinct names -/

abbrev Block := Root × List Item

def allItems (bl : List Block) : List Item := bl.flatMap (·.2)

def blockOf (bl : List Block) (a : String) : Option Nat :=
  match bl.find? (fun b => (b.2.map Item.name).contains a) with
  | some b => b.1.tag
  | none => none

def posOf (bl : List Block) (a : String) : Nat := ((allItems bl).map Item.name).idxOf a

theorem find_block {bl : List Block} (hnd : ((allItems bl).map Item.name).Nodup) {B : Block} (hB : B ∈ bl)
    {a : String} (ha : a ∈ B.2.map Item.name) :
    bl.find? (fun b => (b.2.map Item.name).contains a) = some B := by
  induction bl with
  | nil => cases hB
  | cons b0 rest ih =>
    simp only [allItems, List.flatMap_cons, List.map_append] at hnd
    have hnd' := List.nodup_append.mp hnd
    rw [List.find?_cons]
    cases hc : (b0.2.map Item.name).contains a with
    | true =>
      simp only
      rcases List.mem_cons.mp hB with rfl | hB'
      · rfl
      · exfalso
        have h1 : a ∈ b0.2.map Item.name := by simpa using hc
        have h2 : a ∈ (rest.flatMap (·.2)).map Item.name := by
          obtain ⟨it, hit, rfl⟩ := List.mem_map.mp ha
          exact List.mem_map.mpr ⟨it, List.mem_flatMap.mpr ⟨B, hB', hit⟩, rfl⟩
        exact hnd'.2.2 a h1 a h2 rfl
    | false =>
      simp only
      rcases List.mem_cons.mp hB with rfl | hB'
      · exfalso
        have : a ∉ B.2.map Item.name := by simpa using hc
        exact this ha
      · exact ih hnd'.2.1 hB'

theorem idxOf_lt_of_split {L1 L2 : List String} {a b : String} (hnd : (L1 ++ a :: L2).Nodup) (hb : b ∈ L2) :
    (L1 ++ a :: L2).idxOf a < (L1 ++ a :: L2).idxOf b := by
  induction L1 with
  | nil =>
    simp only [List.nil_append] at hnd ⊢
    have hne : a ≠ b := fun e => (List.nodup_cons.mp hnd).1 (e ▸ hb)
    rw [List.idxOf_cons_self, List.idxOf_cons]
    simp only [beq_eq_false_iff_ne.mpr hne, cond_false]
    omega
  | cons x L1 ih =>
    simp only [List.cons_append] at hnd ⊢
    have ⟨hx, hnd'⟩ := List.nodup_cons.mp hnd
    have hxa : x ≠ a := fun e => hx (by simp [e])
    have hxb : x ≠ b := fun e => hx (by subst e; exact List.mem_append_right _ (List.mem_cons_of_mem _ hb))
    rw [List.idxOf_cons, List.idxOf_cons]
    simp only [beq_eq_false_iff_ne.mpr hxa, beq_eq_false_iff_ne.mpr hxb, cond_false]
    have := ih hnd'
    omega

/-- **(ii), general form.**  `bl` is any list of blocks, each the output of `fragmentItems c g` or
    `responseItems c o`.  Hypotheses:
    * `hnd` — item names pairwise distinct (no type defined twice; `C02.defines_nodup_iff`);
    * `hclosed` — every fragment spread (at any depth) in the root selection set of a block has its own
      block (what `allUsedTypes` guarantees for `u.fragments`);
    * `hleaf` — no item is named like a scalar / enum leaf (`String`, `Int`, an enum name, …).
    Then the emitted items contain each other by value without cycle. -/
theorem response_items_acyclic (c : Ctx) (bl : List Block)
    (hbl : ∀ B ∈ bl, B.1.items c = .ok B.2)
    (hnd : ((allItems bl).map Item.name).Nodup)
    (hclosed : ∀ B ∈ bl, ∀ g, SpreadsIn (B.1.sels c) g → ∃ B' ∈ bl, B'.1 = .frag g)
    (hleaf : ∀ it ∈ allItems bl, it.name ∉ LeafNames c) :
    ¬ ∃ a, TransGen (containsByValue (allItems bl)) a a := by
  refine acyclic_of_projection _ (blockEdge c.q) (blockOf bl) (posOf bl) ?_ (blockEdge_acyclic c.q)
  rintro a b ⟨it, hit, hna, hb, hbn⟩
  obtain ⟨B, hB, hitB⟩ := List.mem_flatMap.mp hit
  obtain ⟨pre, post, hsplit⟩ := List.append_of_mem hitB
  have hfwd := block_fwd (hbl B hB)
  rw [hsplit] at hfwd
  have haB : a ∈ B.2.map Item.name := List.mem_map.mpr ⟨it, hitB, hna⟩
  have hπa : blockOf bl a = B.1.tag := by
    unfold blockOf; rw [find_block hnd hB haB]
  rcases (hfwd.split b hb).imp mem_names_of_defines id with hpost | hleafb | ⟨g, fr, hfr, hname, hrec, hsp⟩
  · -- the reference stays in the block and goes forward
    left
    have hbB : b ∈ B.2.map Item.name := by
      rw [hsplit]; simp only [List.map_append, List.map_cons, List.mem_append, List.mem_cons]
      exact .inr (.inr hpost)
    have hπb : blockOf bl b = B.1.tag := by
      unfold blockOf; rw [find_block hnd hB hbB]
    refine ⟨hπa.trans hπb.symm, ?_⟩
    obtain ⟨bl1, bl2, hbl12⟩ := List.append_of_mem hB
    have hnames : (allItems bl).map Item.name =
        ((allItems bl1).map Item.name ++ pre.map Item.name) ++ a ::
          (post.map Item.name ++ (allItems bl2).map Item.name) := by
      rw [hbl12]
      simp only [allItems, List.flatMap_append, List.flatMap_cons, List.map_append, hsplit, List.map_cons, hna,
        List.append_assoc, List.cons_append]
    unfold posOf
    rw [hnames] at hnd ⊢
    exact idxOf_lt_of_split hnd (List.mem_append_left _ hpost)
  · -- a leaf name is not an item name
    exfalso
    obtain ⟨it', hit', hn'⟩ := List.mem_map.mp hbn
    exact hleaf it' hit' (hn' ▸ hleafb)
  · -- the struct of a non-recursive fragment spread in this block
    right
    obtain ⟨B', hB', htag⟩ := hclosed B hB g hsp
    have hitems : fragmentItems c g = .ok B'.2 := by
      have := hbl B' hB'
      rw [htag] at this; exact this
    have hbB' : b ∈ B'.2.map Item.name := hname ▸ block_frag_name hitems hfr
    have hπb : blockOf bl b = some g := by
      unfold blockOf; rw [find_block hnd hB' hbB']
      show B'.1.tag = some g
      rw [htag]; rfl
    rw [hπa, hπb]
    cases hr : B.1 with
    | op o => trivial
    | frag r =>
      refine ⟨?_, hrec⟩
      rw [hr] at hsp
      simp only [Root.sels] at hsp
      cases hq : c.q.fragments[r]? with
      | none =>
        rw [hq] at hsp
        obtain ⟨sel, hm, _⟩ := hsp.exists_mem
        cases hm
      | some f => rw [hq] at hsp; exact ⟨f, hq, hsp⟩

/-! ### the shape `responseForQuery` emits: `F.flatten ++ R` -/

theorem frag_blocks {c : Ctx} : ∀ (fids : List Nat) (F : List (List Item)),
    fids.mapM (fragmentItems c) = .ok F →
    ∃ bl : List Block, allItems bl = F.flatten ∧ (∀ B ∈ bl, B.1.items c = .ok B.2) ∧
      (∀ B ∈ bl, ∃ g ∈ fids, B.1 = .frag g) ∧ (∀ g ∈ fids, ∃ B ∈ bl, B.1 = .frag g)
  | [], F, h => by
    simp only [List.mapM_nil, pure, Except.pure, Except.ok.injEq] at h
    subst h
    exact ⟨[], rfl, fun _ h => (by cases h), fun _ h => (by cases h), fun _ h => (by cases h)⟩
  | g :: gs, F, h => by
    rw [List.mapM_cons] at h
    obtain ⟨its, hits, h⟩ := C02.bind_ok h
    obtain ⟨F', hF', h⟩ := C02.bind_ok h
    simp only [pure, Except.pure, Except.ok.injEq] at h
    subst h
    obtain ⟨bl, h1, h2, h3, h4⟩ := frag_blocks gs F' hF'
    refine ⟨(.frag g, its) :: bl, ?_, ?_, ?_, ?_⟩
    · simp only [allItems, List.flatMap_cons, List.flatten_cons] at h1 ⊢
      rw [h1]
    · intro B hB
      rcases List.mem_cons.mp hB with rfl | hB
      · exact hits
      · exact h2 B hB
    · intro B hB
      rcases List.mem_cons.mp hB with rfl | hB
      · exact ⟨g, List.mem_cons_self, rfl⟩
      · obtain ⟨g', hg', e⟩ := h3 B hB
        exact ⟨g', List.mem_cons_of_mem _ hg', e⟩
    · intro g' hg'
      rcases List.mem_cons.mp hg' with rfl | hg'
      · exact ⟨_, List.mem_cons_self, rfl⟩
      · obtain ⟨B, hB, e⟩ := h4 g' hg'
        exact ⟨B, List.mem_cons_of_mem _ hB, e⟩

/-- **(ii), module shape**: the fragment items of the fragments `fids` followed by the response items of
    an operation — what `responseForQuery` emits with `fids = sortNat u.fragments` -/
theorem module_response_items_acyclic (c : Ctx) (fids : List Nat) (F : List (List Item)) (o : ROperation)
    (R : List Item)
    (hF : fids.mapM (fragmentItems c) = .ok F) (hR : responseItems c o = .ok R)
    (hnd : ((F.flatten ++ R).map Item.name).Nodup)
    (hclosedF : ∀ g ∈ fids, ∀ f, c.q.fragments[g]? = some f → ∀ h, SpreadsIn f.sels h → h ∈ fids)
    (hclosedO : ∀ h, SpreadsIn o.sels h → h ∈ fids)
    (hleaf : ∀ it ∈ F.flatten ++ R, it.name ∉ LeafNames c) :
    ¬ ∃ a, TransGen (containsByValue (F.flatten ++ R)) a a := by
  obtain ⟨bl, h1, h2, h3, h4⟩ := frag_blocks fids F hF
  have hall : allItems (bl ++ [(Root.op o, R)]) = F.flatten ++ R := by
    simp only [allItems, List.flatMap_append, List.flatMap_cons, List.flatMap_nil, List.append_nil] at h1 ⊢
    rw [h1]
  rw [← hall] at hnd hleaf ⊢
  refine response_items_acyclic c _ ?_ hnd ?_ hleaf
  · intro B hB
    rcases List.mem_append.mp hB with hB | hB
    · exact h2 B hB
    · simp only [List.mem_singleton] at hB
      subst hB; exact hR
  · intro B hB g hsp
    have : g ∈ fids := by
      rcases List.mem_append.mp hB with hB | hB
      · obtain ⟨r, hr, e⟩ := h3 B hB
        rw [e] at hsp
        simp only [Root.sels] at hsp
        cases hq : c.q.fragments[r]? with
        | none =>
          rw [hq] at hsp
          obtain ⟨sel, hm, _⟩ := hsp.exists_mem
          cases hm
        | some f => rw [hq] at hsp; exact hclosedF r hr f hq g hsp
      · simp only [List.mem_singleton] at hB
        subst hB
        exact hclosedO g hsp
    obtain ⟨B', hB', e⟩ := h4 g this
    exact ⟨B', List.mem_append_left _ hB', e⟩

/-- from `SpreadsIn` to `C02.Sub`: the converse of `spreadsIn_of_sub` -/
theorem spreadsIn_sub {sels : List Sel} {g : Nat} (h : SpreadsIn sels g) :
    ∃ x ∈ sels, C02.Sub x (.spread g) := by
  induction h with
  | here h => exact ⟨_, h, .refl _⟩
  | field hm _ ih =>
    obtain ⟨x, hx, hs⟩ := ih
    exact ⟨_, hm, .field hx hs⟩
  | inline hm _ ih =>
    obtain ⟨x, hx, hs⟩ := ih
    exact ⟨_, hm, .inline hx hs⟩

/-- **(ii), on the module `responseForQuery` emits**: the module ends with the fragment items of the used
    fragments and the response items of the operation; the closure hypothesis is discharged by
    `allUsedTypes` (`C02.used_covered`); what remains are the two naming hypotheses -/
theorem responseForQuery_response_items_acyclic (c : Ctx) (op : Nat) (items : List Item)
    (h : responseForQuery c op = .ok items) :
    ∃ (u : UsedTypes) (o : ROperation) (pre : List Item) (F : List (List Item)) (R : List Item),
      allUsedTypes c.s c.q op = .ok u ∧ c.q.operations[op]? = some o ∧
      (sortNat u.fragments).mapM (fragmentItems c) = .ok F ∧ responseItems c o = .ok R ∧
      items = pre ++ (F.flatten ++ R) ∧
      (((F.flatten ++ R).map Item.name).Nodup → (∀ it ∈ F.flatten ++ R, it.name ∉ LeafNames c) →
        ¬ ∃ a, TransGen (containsByValue (F.flatten ++ R)) a a) := by
  obtain ⟨u, S, E, F, I, V, o, R, hu, _, _, hF, _, _, ho, hR, rfl⟩ := C02.responseForQuery_ok_full h
  refine ⟨u, o, builtinAliases ++ S ++ E ++ I ++ V, F, R, hu, ho, hF, hR, by simp only [List.append_assoc],
    fun hnd hleaf => ?_⟩
  have ⟨hroot, hfr⟩ := C02.used_covered hu ho
  refine module_response_items_acyclic c _ F o R hF hR hnd ?_ ?_ hleaf
  · intro g hg f hf k hk
    rw [C02.mem_sortNat] at hg ⊢
    obtain ⟨x, hx, hs⟩ := spreadsIn_sub hk
    exact hfr g hg f hf x hx _ hs
  · intro k hk
    rw [C02.mem_sortNat]
    obtain ⟨x, hx, hs⟩ := spreadsIn_sub hk
    exact hroot x hx _ hs

/-! ### the hypotheses of (ii) in executable form -/

mutual
  /-- the fragments spread below a selection (any depth, under fields and inline fragments) -/
  def selSpreads : Sel → List Nat
    | .field _ _ sub => selsSpreads sub
    | .inline _ sub => selsSpreads sub
    | .spread g => [g]
    | .typename => []
  def selsSpreads : List Sel → List Nat
    | [] => []
    | x :: xs => selSpreads x ++ selsSpreads xs
end

theorem mem_selsSpreads_of_mem {x : Sel} {g : Nat} : ∀ {l : List Sel}, x ∈ l → g ∈ selSpreads x → g ∈ selsSpreads l
  | [], h, _ => by cases h
  | y :: ys, h, hg => by
    rw [selsSpreads]
    rcases List.mem_cons.mp h with rfl | h
    · exact List.mem_append_left _ hg
    · exact List.mem_append_right _ (mem_selsSpreads_of_mem h hg)

theorem mem_selsSpreads {sels : List Sel} {g : Nat} (h : SpreadsIn sels g) : g ∈ selsSpreads sels := by
  induction h with
  | here hm => exact mem_selsSpreads_of_mem hm (by simp [selSpreads])
  | field hm _ ih => exact mem_selsSpreads_of_mem hm (by rw [selSpreads]; exact ih)
  | inline hm _ ih => exact mem_selsSpreads_of_mem hm (by rw [selSpreads]; exact ih)

/-- the three hypotheses of `module_response_items_acyclic`, decided on the emitted items -/
def respCheck (c : Ctx) (fids : List Nat) (o : ROperation) : Bool :=
  (match fids.mapM (fragmentItems c), responseItems c o with
    | .ok F, .ok R =>
      decide (((F.flatten ++ R).map Item.name).Nodup) &&
      (F.flatten ++ R).all (fun it => !(LeafNames c).contains it.name)
    | _, _ => false) &&
  fids.all (fun g => match c.q.fragments[g]? with
    | some f => (selsSpreads f.sels).all (fun h => fids.contains h)
    | none => true) &&
  (selsSpreads o.sels).all (fun h => fids.contains h)

/-- **(ii), decidable hypotheses** -/
theorem module_response_items_acyclic_of_check (c : Ctx) (fids : List Nat) (F : List (List Item)) (o : ROperation)
    (R : List Item) (hF : fids.mapM (fragmentItems c) = .ok F) (hR : responseItems c o = .ok R)
    (hchk : respCheck c fids o = true) :
    ¬ ∃ a, TransGen (containsByValue (F.flatten ++ R)) a a := by
  unfold respCheck at hchk
  rw [hF, hR] at hchk
  simp only [Bool.and_eq_true, decide_eq_true_eq, List.all_eq_true, Bool.not_eq_true',
    List.contains_eq_mem, decide_eq_false_iff_not] at hchk
  obtain ⟨⟨⟨hnd, hleaf⟩, hcf⟩, hco⟩ := hchk
  refine module_response_items_acyclic c fids F o R hF hR hnd ?_ ?_ hleaf
  · intro g hg f hf h hsp
    have := hcf g hg
    rw [hf] at this
    simp only [List.all_eq_true, decide_eq_true_eq] at this
    exact this h (mem_selsSpreads hsp)
  · intro h hsp
    simpa using hco h (mem_selsSpreads hsp)

/-! ## examples and necessity witnesses -/

/-- `input A { a: A, b: [A!], c: B!, n: Int }  input B { a: A }  input W @oneOf { a: A, w: L }  input L { l: [L] }`
    — `A` and `B` are genuinely recursive (`A → A`, `A → B → A`), `W` is a wrapper onto the cycle (lasso),
    `L` recurses only through a list -/
def exAB : Schema :=
  { scalars := Schema.defaultScalars,
    inputs := [ { name := "A", fields := [("a", { id := .input 0, quals := [] }),
                                          ("b", { id := .input 0, quals := [.list, .required] }),
                                          ("c", { id := .input 1, quals := [.required] }),
                                          ("n", { id := .scalar 2, quals := [] })], isOneOf := false },
                { name := "B", fields := [("a", { id := .input 0, quals := [] })], isOneOf := false },
                { name := "W", fields := [("a", { id := .input 0, quals := [] }),
                                          ("w", { id := .input 3, quals := [] })], isOneOf := true },
                { name := "L", fields := [("l", { id := .input 3, quals := [.list] })], isOneOf := false } ] }

def uAll : UsedTypes := { types := [.input 0, .input 1, .input 2, .input 3] }

example : InputsWf exAB := by decide
example : MentionsFaithful (exCtx exAB) := by decide +kernel
example : inputIsRecursive exAB 0 = true ∧ inputIsRecursive exAB 1 = true ∧
    inputIsRecursive exAB 2 = false ∧ inputIsRecursive exAB 3 = false := by decide

/-- the emitted items: names and by-value references (`A` holds nothing by value but `Int`: all three
    input-typed fields are boxed or behind `Vec`; the wrapper `W` holds `L` but not `A`) -/
example : (inputItems (exCtx exAB) uAll).toOption.map (fun its => its.map fun it => (it.name, byValueRefs it)) =
    some [("A", ["Int"]), ("B", []), ("W", ["L"]), ("L", [])] := by decide +kernel

/-- (i) applied to a genuinely recursive schema -/
example : ∀ items, inputItems (exCtx exAB) uAll = .ok items →
    ¬ ∃ a, TransGen (containsByValue items) a a :=
  fun items h => input_items_acyclic _ _ _ (by decide) (by decide +kernel) h

/-- a self loop, decidably -/
def hasSelfLoop (items : List Item) (a : String) : Bool :=
  items.any (fun it => it.name == a && (byValueRefs it).contains a)

theorem selfLoop_cycle {items : List Item} {a : String} (h : hasSelfLoop items a = true) :
    TransGen (containsByValue items) a a := by
  simp only [hasSelfLoop, List.any_eq_true, Bool.and_eq_true, beq_iff_eq, List.contains_eq_mem,
    decide_eq_true_eq] at h
  obtain ⟨it, hit, hn, hr⟩ := h
  exact .single ⟨it, hit, hn, hr, List.mem_map.mpr ⟨it, hit, hn⟩⟩

/-- a two-cycle, decidably -/
def hasTwoCycle (items : List Item) (a b : String) : Bool :=
  items.any (fun it => it.name == a && (byValueRefs it).contains b) &&
  items.any (fun it => it.name == b && (byValueRefs it).contains a)

theorem twoCycle_cycle {items : List Item} {a b : String} (h : hasTwoCycle items a b = true) :
    TransGen (containsByValue items) a a := by
  simp only [hasTwoCycle, List.any_eq_true, Bool.and_eq_true, beq_iff_eq, List.contains_eq_mem,
    decide_eq_true_eq] at h
  obtain ⟨⟨it, hit, hn, hr⟩, ⟨it', hit', hn', hr'⟩⟩ := h
  exact .tail (.single ⟨it, hit, hn, hr, List.mem_map.mpr ⟨it', hit', hn'⟩⟩)
    ⟨it', hit', hn', hr', List.mem_map.mpr ⟨it, hit, hn⟩⟩

/-- `input type { a: A! }  input type_ { }  input A { t: type_! }`: no cycle in the schema (nothing is
    boxed), but `keyword_replace` renames the struct of `type` to `type_` -/
def kwSchema : Schema :=
  { inputs := [ { name := "type", fields := [("a", { id := .input 2, quals := [.required] })], isOneOf := false },
                { name := "type_", fields := [], isOneOf := false },
                { name := "A", fields := [("t", { id := .input 1, quals := [.required] })], isOneOf := false } ] }

/-- **`MentionsFaithful` is needed for (i)**: a well-formed, cycle-free schema whose emitted input items
    contain each other by value in a cycle (`struct type_ { a: A }`, `struct type_ {}`, `struct A { t: type_ }`;
    the module does not compile either: `type_` is defined twice) -/
theorem mentionsFaithful_needed :
    InputsWf kwSchema ∧ ¬ MentionsFaithful (exCtx kwSchema) ∧
    (∀ i, inputIsRecursive kwSchema i = false) ∧
    ∃ items, inputItems (exCtx kwSchema) { types := [.input 0, .input 1, .input 2] } = .ok items ∧
      TransGen (containsByValue items) "type_" "type_" := by
  refine ⟨by decide, by decide +kernel, ?_, ?_⟩
  · intro i
    match i with
    | 0 | 1 | 2 => decide
    | n + 3 => rfl
  · have h : (match inputItems (exCtx kwSchema) { types := [.input 0, .input 1, .input 2] } with
        | .ok items => hasTwoCycle items "type_" "A"
        | .error _ => false) = true := by decide +kernel
    split at h
    · rename_i items hi
      exact ⟨items, hi, twoCycle_cycle h⟩
    · cases h

/-- `type Query { node: Node, name: String }  type Node { id: ID!, child: Node, kind: Kind }  enum Kind { A }` -/
def sT : Schema :=
  { objects := [{ name := "Query", fields := [0, 1], implements := [] },
                { name := "Node", fields := [2, 3, 4], implements := [] }],
    fields := [{ name := "node", ty := { id := .object 1, quals := [] }, parent := .object 0, deprecation := none },
               { name := "name", ty := { id := .scalar 1, quals := [] }, parent := .object 0, deprecation := none },
               { name := "id", ty := { id := .scalar 0, quals := [.required] }, parent := .object 1, deprecation := none },
               { name := "child", ty := { id := .object 1, quals := [] }, parent := .object 1, deprecation := none },
               { name := "kind", ty := { id := .enum 0, quals := [] }, parent := .object 1, deprecation := none }],
    scalars := Schema.defaultScalars,
    enums := [{ name := "Kind", variants := ["A"] }],
    queryType := some 0 }

/-- `fragment Tree on Node { id child { ...Tree } }` (recursive), `fragment Wrap on Node { kind ...Tree }`
    (wrapper onto the cycle: lasso), `fragment Leaf on Node { id }`;
    `query Q { node { ...Wrap child { ...Leaf id } } name }` -/
def qT : Query :=
  { fragments := [ { name := "Tree", on := .object 1, sels := [.field none 2 [], .field none 3 [.spread 0]] },
                   { name := "Wrap", on := .object 1, sels := [.field none 4 [], .spread 0] },
                   { name := "Leaf", on := .object 1, sels := [.field none 2 []] } ],
    operations := [ { name := "Q", kind := .query, objectId := 0,
                      sels := [.field none 0 [.spread 1, .field none 3 [.spread 2, .field none 2 []]],
                               .field none 1 []] } ] }

def cT : Ctx := { s := sT, q := qT, o := {}, cs := ⟨id, id⟩ }
def opT : ROperation :=
  { name := "Q", kind := .query, objectId := 0,
    sels := [.field none 0 [.spread 1, .field none 3 [.spread 2, .field none 2 []]], .field none 1 []] }

example : fragmentIsRecursive qT 0 = true ∧ fragmentIsRecursive qT 1 = false ∧ fragmentIsRecursive qT 2 = false := by
  decide

/-- the emitted items: names and by-value references (`Treechild = Box<Tree>` and the flattened `tree`
    member of `Wrap` hold nothing by value) -/
example : (do let F ← [0, 1, 2].mapM (fragmentItems cT)
              let R ← responseItems cT opT
              pure ((F.flatten ++ R).map fun (it : Item) => (it.name, byValueRefs it))).toOption =
    some [("Tree", ["ID", "Treechild"]), ("Treechild", []), ("Wrap", ["Kind"]), ("Leaf", ["ID"]),
          ("ResponseData", ["Qnode", "String"]), ("Qnode", ["Wrap", "Qnodechild"]),
          ("Qnodechild", ["Leaf", "ID"])] := by decide +kernel

/-- (ii) applied to a document with a recursive fragment and a wrapper around it -/
example : ∀ F R, [0, 1, 2].mapM (fragmentItems cT) = .ok F → responseItems cT opT = .ok R →
    ¬ ∃ a, TransGen (containsByValue (F.flatten ++ R)) a a :=
  fun F R hF hR => module_response_items_acyclic_of_check cT [0, 1, 2] F opT R hF hR (by decide +kernel)

/-- `type Query { name: String! }`;  `fragment String on Query { name }  query Q { ...String }` -/
def strSdl : SdlDoc := [.object "Query" [] [{ name := "name", ty := .nonNull (.named "String"), directives := [] }]]
def strDoc : QDoc := [.frag "String" "Query" [.field none "name" []], .op .query (some "Q") [] [.spread "String"]]

/-- **a valid document whose emitted items are cyclic by value** (`hleaf` is needed, and it is not
    implied by "no name defined twice": the module defines no `String`).  A fragment named `String`
    is accepted by the validator and by `Codegen.generate`; the module contains
    `struct String { name: String }` — in Rust a type of infinite size (rustc E0072). -/
theorem fragment_named_String_cyclic :
    ∃ s ms, Sdl.fromSdl strSdl = .ok s ∧ Valid.validDoc s true strDoc = true ∧
      generate s ⟨id, id⟩ {} "" strDoc = .ok ms ∧
      ∀ m ∈ ms, (Scope.defines m.items).Nodup ∧ TransGen (containsByValue m.items) "String" "String" := by
  have h : (match Sdl.fromSdl strSdl with
      | .ok s => Valid.validDoc s true strDoc &&
        (match generate s ⟨id, id⟩ {} "" strDoc with
          | .ok ms => ms.all (fun m => decide (Scope.defines m.items).Nodup && hasSelfLoop m.items "String")
          | .error _ => false)
      | .error _ => false) = true := by decide +kernel
  split at h
  · rename_i s hs
    rw [Bool.and_eq_true] at h
    obtain ⟨h1, h2⟩ := h
    split at h2
    · rename_i ms hms
      refine ⟨s, ms, hs, h1, hms, fun m hm => ?_⟩
      have := List.all_eq_true.mp h2 m hm
      rw [Bool.and_eq_true, decide_eq_true_eq] at this
      exact ⟨this.1, selfLoop_cycle this.2⟩
    · cases h2
  · cases h

/-- `fragment Qx on Node { id }`;  `query Q { x: node { ...Qx } }` -/
def qClash : Query :=
  { fragments := [ { name := "Qx", on := .object 1, sels := [.field none 2 []] } ],
    operations := [ { name := "Q", kind := .query, objectId := 0, sels := [.field (some "x") 0 [.spread 0]] } ] }

/-- **distinct item names are needed for (ii)**: the selection `x { ...Qx }` of operation `Q` is rendered
    as the alias `type Qx = Qx;` next to the fragment's `struct Qx` (all other hypotheses hold) -/
theorem distinct_names_needed :
    let c : Ctx := { s := sT, q := qClash, o := {}, cs := ⟨id, id⟩ }
    let o : ROperation := { name := "Q", kind := .query, objectId := 0, sels := [.field (some "x") 0 [.spread 0]] }
    ∃ F R, [0].mapM (fragmentItems c) = .ok F ∧ responseItems c o = .ok R ∧
      ¬ ((F.flatten ++ R).map Item.name).Nodup ∧
      (∀ it ∈ F.flatten ++ R, it.name ∉ LeafNames c) ∧
      TransGen (containsByValue (F.flatten ++ R)) "Qx" "Qx" := by
  intro c o
  have h : (match [0].mapM (fragmentItems c), responseItems c o with
      | .ok F, .ok R =>
        !decide (((F.flatten ++ R).map Item.name).Nodup) &&
        (F.flatten ++ R).all (fun it => !(LeafNames c).contains it.name) &&
        hasSelfLoop (F.flatten ++ R) "Qx"
      | _, _ => false) = true := by decide +kernel
  split at h
  · rename_i F R hF hR
    simp only [Bool.and_eq_true, Bool.not_eq_true', decide_eq_false_iff_not, List.all_eq_true,
      List.contains_eq_mem] at h
    exact ⟨F, R, hF, hR, h.1.1, fun it hit => h.1.2 it hit, selfLoop_cycle h.2⟩
  · cases h

/-- `fragment Qx on Node { id }`;  `query Q { x: node { id ...Qx } }`, with the fragment's own items left out -/
def qOpen : Query :=
  { fragments := [ { name := "Qx", on := .object 1, sels := [.field none 2 []] } ],
    operations := [ { name := "Q", kind := .query, objectId := 0,
                      sels := [.field (some "x") 0 [.field none 2 [], .spread 0]] } ] }

/-- **closure under spreads is needed for (ii)**: if the block of a spread fragment is missing, its name
    can resolve to another item — here `struct Qx { id, qx: Qx }` (names distinct, no leaf name) -/
theorem closure_needed :
    let c : Ctx := { s := sT, q := qOpen, o := {}, cs := ⟨id, id⟩ }
    let o : ROperation := { name := "Q", kind := .query, objectId := 0,
                            sels := [.field (some "x") 0 [.field none 2 [], .spread 0]] }
    ∃ R, responseItems c o = .ok R ∧ (R.map Item.name).Nodup ∧ (∀ it ∈ R, it.name ∉ LeafNames c) ∧
      TransGen (containsByValue R) "Qx" "Qx" := by
  intro c o
  have h : (match responseItems c o with
      | .ok R => decide ((R.map Item.name).Nodup) && R.all (fun it => !(LeafNames c).contains it.name) &&
                 hasSelfLoop R "Qx"
      | _ => false) = true := by decide +kernel
  split at h
  · rename_i R hR
    simp only [Bool.and_eq_true, decide_eq_true_eq, List.all_eq_true, Bool.not_eq_true',
      List.contains_eq_mem, decide_eq_false_iff_not] at h
    exact ⟨R, hR, h.1.1, fun it hit => h.1.2 it hit, selfLoop_cycle h.2⟩
  · cases h

end C12I
end GqlVerif
