import GqlVerif.Proofs.C01VariantSpreadE
/-!
# C01 / C03 end to end: spreads at object positions **and** at abstract positions (`MixedOp`, `MixedOp2`): the classes, the closed
form of the emitted items

`FragmentOp` (`C01AbstractF`) allows named fragment spreads in object-level selection sets, `VariantSpreadOp`
(`C01VariantSpreadA`) allows them in selection sets on interface / union typed fields; the two classes are incomparable.
`MixedOp` contains both:

* an **object-level selection set** (the root selection set, the sub-selections of object-typed fields, at any nesting
  depth below object-typed fields) is what `FragmentOp` allows: fields, `__typename`, spreads of fragments on the parent
  type itself (`fragOk`: non-recursive, body a spread-free selection set of `VariantOp`), or a lone spread (type alias);
* a field of **scalar / enum / interface / union** type is what `VariantSpreadOp` allows at that field (`sSel … false`):
  at an abstract position spreads of fragments on a possible type (a) and on the abstract type itself (b), a lone spread
  of a fragment on the abstract type itself (c); the bodies of inline fragments and the sub-selections of object-typed
  fields *below an abstract position* are those of `VariantSpreadOp` (no object-level spreads there).

So a spread at an object position and a spread at an abstract position may occur in the same operation, e.g.
`query Q { dog { ...DogFields } animal { __typename ...AnimalName ...DogFields } }` (generated module: `C01MixedW`).
With the aliased inline fragment `... on Dog { ...DogFields }` in place of `...DogFields` the operation is in `MixedOp2`: the
normalized operation (`normSels`, as for `VariantSpreadOp2`) is in `MixedOp`, the aliased inline fragments are well-formed
(`aliasWfSels`, `aliasOkSels`), and **no aliased inline fragment stands in an object-level selection set** (`oiSels`: there the
generator ignores inline fragments altogether, `mixed2_oi_needed` of `C01MixedW`).

The closed form `bodyItemsM` (the shape of `itemsF` at object positions, `itemsS` at the other fields) is proved for `MixedOp2`
as a derivation of `C02.CalcSel` (`calc_mixed2`); `MixedOp` is the case with nothing to normalize.
-/

namespace GqlVerif
namespace C01M
open Codegen C01 C01.E2E

mutual
  /-- one selection of an object-level selection set on `parent` -/
  def mSel (s : Schema) (q : Query) (o : Options) (parent : TypeId) : Sel → Bool
    | .field a fid sub =>
      match s.fields[fid]? with
      | none => false
      | some sf =>
        match sf.ty.id with
        | .object i =>
          wfQuals sf.ty.quals && !(sf.deprecation.isSome && o.deprecation == .deny) && (s.objects[i]?).isSome &&
            (match sub with
             | [.spread g] => fragOk s q o (.object i) g
             | _ => mSels s q o (.object i) sub)
        | _ => sSel s q o false (.field a fid sub)
    | .typename => true
    | .spread g => fragOk s q o parent g
    | .inline _ _ => false
  def mSels (s : Schema) (q : Query) (o : Options) (parent : TypeId) : List Sel → Bool
    | [] => true
    | x :: xs => mSel s q o parent x && mSels s q o parent xs
end

/-- the body of an object-level selection set: a lone spread (type alias) or a selection set of the class -/
def mBody (s : Schema) (q : Query) (o : Options) (parent : TypeId) (sels : List Sel) : Bool :=
  match sels with
  | [.spread g] => fragOk s q o parent g
  | _ => mSels s q o parent sels

/-- **the class `MixedOp`** (decidable): object-level selection sets as in `FragmentOp` (spreads of fragments on the parent
    type), every field of scalar / enum / interface / union type as in `VariantSpreadOp` (spreads at abstract positions) -/
def MixedOp (c : Ctx) (op : ROperation) : Bool :=
  c.o.normalization == .none && (c.s.objects[op.objectId]?).isSome &&
  mBody c.s c.q c.o (.object op.objectId) op.sels

mutual
  def itemsM (c : Ctx) (pfx : String) : Sel → List Item
    | .field a fid sub =>
      match c.s.fields[fid]? with
      | none => []
      | some sf =>
        match sf.ty.id with
        | .object _ =>
          (match sub with
           | [.spread g] => [aliasItem (pfx ++ c.cs.camel (a.getD sf.name)) (fragName c g) false]
           | _ => .struct (pfx ++ c.cs.camel (a.getD sf.name)) c.respDerives c.serdeCrate
                    (fieldsOfF c (pfx ++ c.cs.camel (a.getD sf.name)) sub) ::
                  itemsMs c (pfx ++ c.cs.camel (a.getD sf.name)) sub)
        | _ => itemsS c pfx (.field a fid sub)
    | _ => []
  def itemsMs (c : Ctx) (pfx : String) : List Sel → List Item
    | [] => []
    | x :: xs => itemsM c pfx x ++ itemsMs c pfx xs
end

/-- **closed form** of the items of an object-level selection set: a type alias for a lone spread; otherwise the struct
    (own fields and one flattened member per spread, in selection order) and the nested items -/
def bodyItemsM (c : Ctx) (name pfx : String) (sels : List Sel) : List Item :=
  match sels with
  | [.spread g] => [aliasItem name (fragName c g) false]
  | _ => .struct name c.respDerives c.serdeCrate (fieldsOfF c pfx sels) :: itemsMs c pfx sels

theorem mSels_cons {s : Schema} {q : Query} {o : Options} {p : TypeId} {x : Sel} {xs : List Sel}
    (h : mSels s q o p (x :: xs) = true) : mSel s q o p x = true ∧ mSels s q o p xs = true := by
  simpa [mSels] using h

theorem mSels_mem {s : Schema} {q : Query} {o : Options} {p : TypeId} : ∀ {sels : List Sel}, mSels s q o p sels = true →
    ∀ x ∈ sels, mSel s q o p x = true :=
  fun {sels} h => List.all_eq_true.mp (all_of_eqns (ps := mSels s q o p) (by rw [mSels]) (fun _ _ => by rw [mSels]) sels ▸ h)

theorem mBody_not_lone {s : Schema} {q : Query} {o : Options} {p : TypeId} {sels : List Sel}
    (h : ∀ g, sels ≠ [Sel.spread g]) : mBody s q o p sels = mSels s q o p sels := by
  unfold mBody
  split
  · rename_i g; exact absurd rfl (h g)
  · rfl

theorem mBody_lone {s : Schema} {q : Query} {o : Options} {p : TypeId} {g : Nat} :
    mBody s q o p [Sel.spread g] = fragOk s q o p g := rfl

theorem bodyItemsM_not_lone (c : Ctx) (name pfx : String) {sels : List Sel} (h : ∀ g, sels ≠ [Sel.spread g]) :
    bodyItemsM c name pfx sels =
      .struct name c.respDerives c.serdeCrate (fieldsOfF c pfx sels) :: itemsMs c pfx sels := by
  unfold bodyItemsM
  split
  · rename_i g; exact absurd rfl (h g)
  · rfl

theorem mSel_obj {s : Schema} {q : Query} {o : Options} {p : TypeId} {a : Option String} {fid : Nat} {sub : List Sel}
    {sf : StoredField} {i : Nat} (hsf : s.fields[fid]? = some sf) (hid : sf.ty.id = .object i)
    (h : mSel s q o p (.field a fid sub) = true) :
    wfQuals sf.ty.quals = true ∧ (sf.deprecation.isSome && o.deprecation == .deny) = false ∧
      (s.objects[i]?).isSome = true ∧ mBody s q o (.object i) sub = true := by
  rw [mSel] at h
  simp only [hsf, hid, Bool.and_eq_true] at h
  obtain ⟨⟨⟨hw, hdep⟩, hobj⟩, hb⟩ := h
  refine ⟨hw, ?_, hobj, hb⟩
  cases hd : (sf.deprecation.isSome && o.deprecation == .deny) with
  | false => rfl
  | true => simp [hd] at hdep

theorem mSel_nonobj {s : Schema} {q : Query} {o : Options} {p : TypeId} {a : Option String} {fid : Nat} {sub : List Sel}
    {sf : StoredField} (hsf : s.fields[fid]? = some sf) (hno : ∀ i, sf.ty.id ≠ .object i)
    (h : mSel s q o p (.field a fid sub) = true) : sSel s q o false (.field a fid sub) = true := by
  rw [mSel] at h
  simp only [hsf] at h
  cases hid : sf.ty.id with
  | object i => exact absurd hid (hno i)
  | scalar k => simpa [hid] using h
  | «enum» k => simpa [hid] using h
  | interface k => simpa [hid] using h
  | union k => simpa [hid] using h
  | input k => simpa [hid] using h

theorem mSel_field_some {s : Schema} {q : Query} {o : Options} {p : TypeId} {a : Option String} {fid : Nat} {sub : List Sel}
    (h : mSel s q o p (.field a fid sub) = true) : ∃ sf, s.fields[fid]? = some sf := by
  rw [mSel] at h
  cases hsf : s.fields[fid]? with
  | none => simp [hsf] at h
  | some sf => exact ⟨sf, rfl⟩

theorem mSel_kinds {s : Schema} {q : Query} {o : Options} {p : TypeId} {a : Option String} {fid : Nat} {sub : List Sel}
    (h : mSel s q o p (.field a fid sub) = true) : ∃ sf, s.fields[fid]? = some sf ∧
      ((∃ i, sf.ty.id = .object i ∧ wfQuals sf.ty.quals = true ∧
          (sf.deprecation.isSome && o.deprecation == .deny) = false ∧ (s.objects[i]?).isSome = true ∧
          mBody s q o (.object i) sub = true) ∨
       ((∀ i, sf.ty.id ≠ .object i) ∧ sSel s q o false (.field a fid sub) = true)) := by
  obtain ⟨sf, hsf⟩ := mSel_field_some h
  refine ⟨sf, hsf, ?_⟩
  by_cases hobj : ∃ i, sf.ty.id = .object i
  · obtain ⟨i, hid⟩ := hobj
    exact .inl ⟨i, hid, mSel_obj hsf hid h⟩
  · have hno : ∀ i, sf.ty.id ≠ .object i := fun i h => hobj ⟨i, h⟩
    exact .inr ⟨hno, mSel_nonobj hsf hno h⟩

theorem itemsM_nonobj (c : Ctx) (pfx : String) (a : Option String) (fid : Nat) (sub : List Sel) (sf : StoredField)
    (hsf : c.s.fields[fid]? = some sf) (hno : ∀ i, sf.ty.id ≠ .object i) :
    itemsM c pfx (.field a fid sub) = itemsS c pfx (.field a fid sub) := by
  rw [itemsM]
  simp only [hsf]

theorem mixedOp_parts {c : Ctx} {op : ROperation} (h : MixedOp c op = true) :
    c.o.normalization = .none ∧ (c.s.objects[op.objectId]?).isSome = true ∧
      mBody c.s c.q c.o (.object op.objectId) op.sels = true := by
  simp only [MixedOp, Bool.and_eq_true, beq_iff_eq] at h
  exact ⟨h.1.1, h.1.2, h.2⟩

/-! ## `MixedOp2`: aliased inline fragments `... on T { ...F }` at abstract positions, normalized away -/

/-- no aliased inline fragment `... on T { ...F }` among these selections -/
def noAliasHere (sels : List Sel) : Bool := sels.all (fun x => (aliasInl x).isNone)

mutual
  /-- no aliased inline fragment in the object-level selection sets below this selection (object-typed fields, at any
      nesting depth below object-typed fields) -/
  def oiSel (s : Schema) : Sel → Bool
    | .field _ fid sub =>
      (match (s.fields[fid]?).map (fun sf => sf.ty.id) with
       | some (TypeId.object _) => noAliasHere sub && oiSels s sub
       | _ => true)
    | _ => true
  def oiSels (s : Schema) : List Sel → Bool
    | [] => true
    | x :: xs => oiSel s x && oiSels s xs
end

/-- the normalized operation is in `MixedOp`; aliased inline fragments are well-formed and stand at abstract positions only -/
def MixedOp2 (c : Ctx) (op : ROperation) : Bool :=
  aliasWfSels c.q op.sels && aliasOkSels c op.sels && noAliasHere op.sels && oiSels c.s op.sels && MixedOp c (normOp op)

theorem mixedOp2_parts {c : Ctx} {op : ROperation} (h : MixedOp2 c op = true) :
    aliasWfSels c.q op.sels = true ∧ aliasOkSels c op.sels = true ∧ noAliasHere op.sels = true ∧
      oiSels c.s op.sels = true ∧ MixedOp c (normOp op) = true := by
  simpa [MixedOp2, and_assoc] using h

/-! ## normalization of an object-level selection set without aliased inline fragment -/

theorem noAliasHere_cons {x : Sel} {xs : List Sel} (h : noAliasHere (x :: xs) = true) :
    aliasInl x = none ∧ noAliasHere xs = true := by
  simp only [noAliasHere, List.all_cons, Bool.and_eq_true, Option.isNone_iff_eq_none] at h
  exact ⟨h.1, by simpa [noAliasHere] using h.2⟩

theorem movedN_of_noAliasHere {sels : List Sel} (h : noAliasHere sels = true) : movedN sels = [] := by
  apply movedN_no_alias
  intro x hx
  simp only [noAliasHere, List.all_eq_true, Option.isNone_iff_eq_none] at h
  exact h x hx

theorem normSels_of_noAliasHere {sels : List Sel} (h : noAliasHere sels = true) : normSels sels = keepN sels := by
  simp [normSels, movedN_of_noAliasHere h]

theorem keepN_lone {sels : List Sel} (h : noAliasHere sels = true) (g : Nat) :
    keepN sels = [Sel.spread g] ↔ sels = [Sel.spread g] := by
  constructor
  · intro hk
    cases sels with
    | nil => simp [keepN] at hk
    | cons x xs =>
      obtain ⟨hx, hxs⟩ := noAliasHere_cons h
      rw [keepN_cons_keep hx] at hk
      injection hk with h1 h2
      cases xs with
      | cons y ys =>
        obtain ⟨hy, _⟩ := noAliasHere_cons hxs
        rw [keepN_cons_keep hy] at h2; cases h2
      | nil =>
        cases x with
        | spread g' => rw [normSel] at h1; rw [h1]
        | field a fid sub => rw [normSel_field] at h1; cases h1
        | inline t sub => rw [normSel_inline] at h1; cases h1
        | typename => rw [normSel] at h1; cases h1
  · intro hs
    subst hs
    rw [keepN_cons_keep (by simp [aliasInl])]
    simp [keepN, normSel]

theorem oiSels_cons {s : Schema} {x : Sel} {xs : List Sel} (h : oiSels s (x :: xs) = true) :
    oiSel s x = true ∧ oiSels s xs = true := by
  simpa [oiSels] using h

theorem oiSel_obj {s : Schema} {a : Option String} {fid : Nat} {sub : List Sel} {sf : StoredField} {i : Nat}
    (hsf : s.fields[fid]? = some sf) (hid : sf.ty.id = .object i) (h : oiSel s (.field a fid sub) = true) :
    noAliasHere sub = true ∧ oiSels s sub = true := by
  rw [oiSel] at h
  simpa [hsf, hid] using h

/-! ## the emitted items of `MixedOp2` (`mixed2_items_shape`) -/

section StepsM
variable (c : Ctx) (hn : c.o.normalization = .none)

/-- a selection at an object position of the class is one step of the field loop -/
def StepM (x : Sel) : Prop := ∀ (pfx : String) (i : Nat) (rest : List Sel) (fs : List RField) (items : List Item),
  oiSel c.s x = true → mSel c.s c.q c.o (.object i) (normSel x) = true → aliasOkSel c x = true →
  C02.CalcFields c pfx (.object i) rest fs items →
  C02.CalcFields c pfx (.object i) (x :: rest) ((fieldOfSelF c pfx (normSel x)).toList ++ fs)
    (itemsM c pfx (normSel x) ++ items)

theorem calcFieldsM {sels : List Sel} (H : ∀ y ∈ sels, StepM c y) (pfx : String) (i : Nat)
    (hna : noAliasHere sels = true) (hoi : oiSels c.s sels = true)
    (ht : mSels c.s c.q c.o (.object i) (keepN sels) = true) (hal : aliasOkSels c sels = true) :
    C02.CalcFields c pfx (.object i) sels (fieldsOfF c pfx (keepN sels)) (itemsMs c pfx (keepN sels)) := by
  induction sels with
  | nil => exact .nil
  | cons x rest ih =>
    obtain ⟨hax, hnar⟩ := noAliasHere_cons hna
    obtain ⟨hoix, hoir⟩ := oiSels_cons hoi
    obtain ⟨halx, halr⟩ := aliasOkSels_cons hal
    rw [keepN_cons_keep hax] at ht ⊢
    obtain ⟨hx, hrest⟩ := mSels_cons ht
    rw [fieldsOfF_cons, itemsMs]
    exact H x List.mem_cons_self pfx i rest _ _ hoix hx halx
      (ih (fun y hy => H y (List.mem_cons_of_mem _ hy)) hnar hoir hrest halr)

/-- an object-level selection set: the type alias of a lone spread, or one struct -/
theorem calcBodyM {sels : List Sel} (H : ∀ y ∈ sels, StepM c y) (name pfx : String) (i : Nat)
    (hna : noAliasHere sels = true) (hoi : oiSels c.s sels = true)
    (ht : mBody c.s c.q c.o (.object i) (keepN sels) = true) (hal : aliasOkSels c sels = true) :
    C02.CalcSel c name pfx (.object i) sels (bodyItemsM c name pfx (keepN sels)) := by
  by_cases hsp : ∃ g, sels = [Sel.spread g]
  · obtain ⟨g, rfl⟩ := hsp
    rw [(keepN_lone hna g).mpr rfl] at ht ⊢
    have hok : fragOk c.s c.q c.o (.object i) g = true := ht
    obtain ⟨fr, hfr, _, _, _, _⟩ := fragOk_parts hok
    have := C02.CalcSel.alias (name := name) (pfx := pfx) (ty := .object i) (getFragment_of hfr)
    simpa [bodyItemsM, fragName, hfr, not_recursive_of_fragOk hok] using this
  · have hspk : ∀ g, keepN sels ≠ [Sel.spread g] := fun g hg => hsp ⟨g, (keepN_lone hna g).mp hg⟩
    rw [mBody_not_lone hspk] at ht
    rw [bodyItemsM_not_lone c name pfx hspk]
    exact .object (fun g hg => hsp ⟨g, hg⟩) (calcFieldsM c H pfx i hna hoi ht hal)

include hn in
theorem stepM_all : ∀ x, StepM c x := by
  apply Sel.ind
  · intro a fid sub IH pfx i rest fs items hoix hx halx hR
    rw [normSel_field] at hx ⊢
    rw [aliasOkSel, Bool.and_eq_true] at halx
    obtain ⟨sf, hsf⟩ := mSel_field_some hx
    simp only [hsf] at halx
    by_cases hobj : ∃ j, sf.ty.id = .object j
    · obtain ⟨j, hid⟩ := hobj
      obtain ⟨hw, hdep, _, hbody⟩ := mSel_obj hsf hid hx
      obtain ⟨hnas, hois⟩ := oiSel_obj hsf hid hoix
      rw [normSels_of_noAliasHere hnas] at hbody ⊢
      have hS := calcBodyM c IH (pfx ++ c.cs.camel (a.getD sf.name)) (pfx ++ c.cs.camel (a.getD sf.name)) j hnas hois
        hbody halx.2
      have hitems : itemsM c pfx (.field a fid (keepN sub)) =
          bodyItemsM c (pfx ++ c.cs.camel (a.getD sf.name)) (pfx ++ c.cs.camel (a.getD sf.name)) (keepN sub) := by
        rw [itemsM]; simp only [hsf, hid]; rfl
      have := C02.CalcFields.nested (getField_of hsf) (by simp [hid]) (by simp [hid]) (by simp [hid])
        (renderField_tree c (a.getD sf.name) _ _ _ hw hdep) (hid ▸ hS) hR
      rw [hitems]
      simpa [fieldOfSelF, fieldOfSelV, hsf, hid, leafNameV] using this
    · have hno : ∀ j, sf.ty.id ≠ .object j := fun j h => hobj ⟨j, h⟩
      have hs := mSel_nonobj hsf hno hx
      rw [itemsM_nonobj c pfx a fid _ sf hsf hno]
      obtain ⟨sf', hsf', hw, hdep, hk⟩ := sSel_kinds hs
      rw [hsf] at hsf'; cases hsf'
      have hfld := fun ft => renderField_tree c (a.getD sf.name) ft _ _ hw hdep
      rcases hk with ⟨k, sn, hid, hk, _⟩ | ⟨k, en, hid, hk, _⟩ | ⟨j, _, hid, _⟩ |
        ⟨k, hid, hty, hsub, hokL⟩ | ⟨k, hid, hty, hsub, hokL⟩
      · have := C02.CalcFields.scalar (sub := sub) (getField_of hsf) hid (getScalar_of hk) (hfld _) hR
        simpa [hn, C02.fieldType_none, itemsS, fieldOfSelF, fieldOfSelV, hsf, hid, leafNameV, hk] using this
      · have := C02.CalcFields.enum (sub := sub) (getField_of hsf) hid (getEnum_of hk) (hfld _) hR
        simpa [hn, C02.fieldType_none, itemsS, fieldOfSelF, fieldOfSelV, hsf, hid, leafNameV, hk] using this
      · exact absurd hid (hno j)
      all_goals
        simp only [hid] at halx
        have hS := calc_variantspread2_abs c hn (pfx ++ c.cs.camel (a.getD sf.name)) (pfx ++ c.cs.camel (a.getD sf.name))
          _ hty hsub hokL halx.1 halx.2
        have := C02.CalcFields.nested (getField_of hsf) (by simp [hid]) (by simp [hid]) (by simp [hid]) (hfld _)
          (hid ▸ hS) hR
        simpa [itemsS, fieldOfSelF, fieldOfSelV, hsf, hid, leafNameV, absItemsS, absItemsL, normSels] using this
  · intro t sub _ pfx i rest fs items _ hx
    rw [normSel_inline] at hx; simp [mSel] at hx
  · intro g pfx i rest fs items _ hx _ hR
    have hns : normSel (.spread g) = .spread g := by rw [normSel]
    rw [hns] at hx ⊢
    have hok : fragOk c.s c.q c.o (.object i) g = true := by simpa [mSel] using hx
    obtain ⟨fr, hfr, hon, hname, _, _⟩ := fragOk_parts hok
    have := C02.CalcFields.spreadHere (getFragment_of hfr) (by simp [hon])
      (by rw [not_recursive_of_fragOk hok]; exact renderField_spread c fr hname) hR
    simpa [fieldOfSelF, hfr, itemsM] using this
  · intro pfx i rest fs items _ _ _ hR
    have hns : normSel .typename = .typename := by rw [normSel]
    simpa [hns, fieldOfSelF, fieldOfSelV, itemsM] using C02.CalcFields.typename hR

include hn in
theorem calc_mixed2 (name pfx : String) (i : Nat) {sels : List Sel} (hna : noAliasHere sels = true)
    (hoi : oiSels c.s sels = true) (ht : mBody c.s c.q c.o (.object i) (keepN sels) = true)
    (hal : aliasOkSels c sels = true) :
    C02.CalcSel c name pfx (.object i) sels (bodyItemsM c name pfx (keepN sels)) :=
  calcBodyM c (fun y _ => stepM_all c hn y) name pfx i hna hoi ht hal

end StepsM

/-- **`mixed2_items_shape`.**  For an operation of the class `MixedOp2` the response items are those of
    `mixed_items_shape` for the normalized selection set. -/
theorem mixed2_items_shape (c : Ctx) (op : ROperation) (hop : op ∈ c.q.operations) (ht : MixedOp2 c op = true) :
    responseItems c op = .ok (bodyItemsM c "ResponseData" (c.cs.camel op.name) (normSels op.sels)) := by
  obtain ⟨_, hal, hna, hoi, ht'⟩ := mixedOp2_parts ht
  obtain ⟨hn, _, hsels⟩ := mixedOp_parts ht'
  rw [normOp_sels, normOp_objectId, normSels_of_noAliasHere hna] at hsels
  rw [normSels_of_noAliasHere hna]
  exact (calc_mixed2 c hn _ _ _ hna hoi hsels hal).responseItems_eq hop

/-! ## `MixedOp ⊆ MixedOp2`: an operation of `MixedOp` has nothing to normalize -/

theorem noAliasHere_of {sels : List Sel} (h : ∀ x ∈ sels, aliasInl x = none) : noAliasHere sels = true := by
  simp only [noAliasHere, List.all_eq_true, Option.isNone_iff_eq_none]
  exact h

mutual
  theorem noAliasM_sel (c : Ctx) : ∀ (x : Sel) (p : TypeId), mSel c.s c.q c.o p x = true →
      normSel x = x ∧ aliasOkSel c x = true ∧ aliasWfSel c.q x = true ∧ aliasInl x = none ∧ oiSel c.s x = true
    | .field a fid sub, p => by
      intro ht
      have IH := noAliasM_sels c sub
      obtain ⟨sf, hsf, hk⟩ := mSel_kinds ht
      rcases hk with ⟨i, hid, _, _, _, hbody⟩ | ⟨hno, hs⟩
      · have key : NoAliasAt c sub ∧ oiSels c.s sub = true := by
          by_cases hsp : ∃ g, sub = [Sel.spread g]
          · obtain ⟨g, rfl⟩ := hsp
            refine ⟨⟨by simp [normSels, keepN, movedN, normSel, aliasInl], by simp [aliasOkSels, aliasOkSel],
              by simp [aliasWfSels, aliasWfSel], fun x hx => by simp at hx; subst hx; rfl⟩, by simp [oiSels, oiSel]⟩
          · have hnl : ∀ g, sub ≠ [Sel.spread g] := fun g hg => hsp ⟨g, hg⟩
            rw [mBody_not_lone hnl] at hbody
            exact IH _ hbody
        obtain ⟨⟨h1, h2, h3, h4⟩, h5⟩ := key
        refine ⟨by rw [normSel_field, h1], ?_, by rw [aliasWfSel]; exact h3, rfl, ?_⟩
        · rw [aliasOkSel]
          simp only [hsf, Bool.and_eq_true]
          exact ⟨aliasAt_of_noAlias c _ sub h4, h2⟩
        · rw [oiSel]
          simp only [hsf, hid, Option.map_some, Bool.and_eq_true]
          exact ⟨noAliasHere_of h4, h5⟩
      · obtain ⟨h1, h2, h3, h4⟩ := noAlias_sel c _ false hs
        refine ⟨h1, h2, h3, h4, ?_⟩
        rw [oiSel]
        simp only [hsf, Option.map_some]
        cases hid : sf.ty.id with
        | object i => exact absurd hid (hno i)
        | scalar k => rfl
        | «enum» k => rfl
        | interface k => rfl
        | union k => rfl
        | input k => rfl
    | .spread g, _ => by
      intro _; exact ⟨by rw [normSel], by simp [aliasOkSel], by simp [aliasWfSel], rfl, by simp [oiSel]⟩
    | .inline _ _, _ => by intro ht; simp [mSel] at ht
    | .typename, _ => by
      intro _; exact ⟨by rw [normSel], by simp [aliasOkSel], by simp [aliasWfSel], rfl, by simp [oiSel]⟩
  theorem noAliasM_sels (c : Ctx) : ∀ (sels : List Sel) (p : TypeId), mSels c.s c.q c.o p sels = true →
      NoAliasAt c sels ∧ oiSels c.s sels = true
    | [], _ => by intro _; exact ⟨⟨rfl, rfl, rfl, fun x hx => by simp at hx⟩, rfl⟩
    | x :: xs, p => by
      intro ht
      obtain ⟨hx, hxs⟩ := mSels_cons ht
      obtain ⟨a1, a2, a3, a4, a5⟩ := noAliasM_sel c x p hx
      obtain ⟨⟨b1, b2, b3, b4⟩, b5⟩ := noAliasM_sels c xs p hxs
      have hall : ∀ y ∈ x :: xs, aliasInl y = none := by
        intro y hy
        rcases List.mem_cons.mp hy with h | h
        · rw [h]; exact a4
        · exact b4 y h
      refine ⟨⟨?_, by rw [aliasOkSels, a2, b2]; rfl, by rw [aliasWfSels, a3, b3]; rfl, hall⟩, by rw [oiSels, a5, b5]; rfl⟩
      unfold normSels at b1 ⊢
      rw [movedN_no_alias _ hall, List.append_nil, keepN_cons_keep a4, a1]
      rw [movedN_no_alias _ b4, List.append_nil] at b1
      rw [b1]
end

theorem noAliasM_body (c : Ctx) (sels : List Sel) (p : TypeId) (h : mBody c.s c.q c.o p sels = true) :
    NoAliasAt c sels ∧ oiSels c.s sels = true := by
  by_cases hsp : ∃ g, sels = [Sel.spread g]
  · obtain ⟨g, rfl⟩ := hsp
    exact ⟨⟨by simp [normSels, keepN, movedN, normSel, aliasInl], by simp [aliasOkSels, aliasOkSel],
      by simp [aliasWfSels, aliasWfSel], fun x hx => by simp at hx; subst hx; rfl⟩, by simp [oiSels, oiSel]⟩
  · have hnl : ∀ g, sels ≠ [Sel.spread g] := fun g hg => hsp ⟨g, hg⟩
    rw [mBody_not_lone hnl] at h
    exact noAliasM_sels c sels p h

/-- **the class only grows**: `MixedOp ⊆ MixedOp2`, with the same statements (`normSels op.sels = op.sels`) -/
theorem mixedOp2_of_mixedOp (c : Ctx) (op : ROperation) (h : MixedOp c op = true) :
    MixedOp2 c op = true ∧ normOp op = op := by
  obtain ⟨_, _, hsels⟩ := mixedOp_parts h
  obtain ⟨⟨h1, h2, h3, h4⟩, h5⟩ := noAliasM_body c op.sels _ hsels
  have hno : normOp op = op := by unfold normOp; rw [h1]
  refine ⟨?_, hno⟩
  unfold MixedOp2
  rw [hno, h, h2, h3, h5, noAliasHere_of h4]
  rfl

/-- **`mixed_items_shape`.**  For an operation of the class `MixedOp` the response items are, in closed form:
    at object positions as `fragment_items_shape` (a type alias for a lone spread, otherwise one struct with one
    `#[serde(flatten)]` member per spread), at fields of abstract type as `variantspread_items_shape` (`itemsS`). -/
theorem mixed_items_shape (c : Ctx) (op : ROperation) (hop : op ∈ c.q.operations) (ht : MixedOp c op = true) :
    responseItems c op = .ok (bodyItemsM c "ResponseData" (c.cs.camel op.name) op.sels) := by
  obtain ⟨h2, hno⟩ := mixedOp2_of_mixedOp c op ht
  have := mixed2_items_shape c op hop h2
  rwa [← normOp_sels, hno] at this

/-! ## the class contains `FragmentOp` and `VariantSpreadOp` -/

mutual
  theorem mSel_of_fSel (s : Schema) (q : Query) (o : Options) : ∀ (x : Sel) (p : TypeId), fSel s q o p x = true →
      mSel s q o p x = true
    | .field a fid sub, p => by
      intro h
      have IH := mSels_of_fSels s q o sub
      cases hsf : s.fields[fid]? with
      | none => rw [fSel] at h; simp [hsf] at h
      | some sf =>
        by_cases hobj : ∃ i, sf.ty.id = .object i
        · obtain ⟨i, hid⟩ := hobj
          rw [fSel] at h
          rw [mSel]
          simp only [hsf, hid, Bool.and_eq_true] at h ⊢
          refine ⟨⟨h.1, h.2.1⟩, ?_⟩
          have hb : fBody s q o (.object i) sub = true := h.2.2
          by_cases hsp : ∃ g, sub = [Sel.spread g]
          · obtain ⟨g, rfl⟩ := hsp; exact hb
          · have hnl : ∀ g, sub ≠ [Sel.spread g] := fun g hg => hsp ⟨g, hg⟩
            rw [fBody_not_lone hnl] at hb
            have := IH _ hb
            split
            · exact absurd rfl (hnl _)
            · exact this
        · have hno : ∀ i, sf.ty.id ≠ .object i := fun i h => hobj ⟨i, h⟩
          have hv := vSel_of_fSel_nonobj h hsf hno
          have hs := sSel_of_vSel s q o _ false hv
          rw [mSel]
          simp only [hsf]
          cases hid : sf.ty.id with
          | object i => exact absurd hid (hno i)
          | scalar k => exact hs
          | «enum» k => exact hs
          | interface k => exact hs
          | union k => exact hs
          | input k => exact hs
    | .spread g, p => by intro h; simpa [fSel, mSel] using h
    | .inline _ _, _ => by intro h; simp [fSel] at h
    | .typename, _ => by intro _; simp [mSel]
  theorem mSels_of_fSels (s : Schema) (q : Query) (o : Options) : ∀ (sels : List Sel) (p : TypeId),
      fSels s q o p sels = true → mSels s q o p sels = true
    | [], _ => by intro _; rfl
    | x :: xs, p => by
      intro h
      obtain ⟨hx, hxs⟩ := fSels_cons h
      rw [mSels, mSel_of_fSel s q o x p hx, mSels_of_fSels s q o xs p hxs]; rfl
end

theorem mBody_of_fBody {s : Schema} {q : Query} {o : Options} {p : TypeId} {sels : List Sel}
    (h : fBody s q o p sels = true) : mBody s q o p sels = true := by
  by_cases hsp : ∃ g, sels = [Sel.spread g]
  · obtain ⟨g, rfl⟩ := hsp; exact h
  · have hnl : ∀ g, sels ≠ [Sel.spread g] := fun g hg => hsp ⟨g, hg⟩
    rw [fBody_not_lone hnl] at h
    rw [mBody_not_lone hnl]
    exact mSels_of_fSels s q o sels p h

theorem mixedOp_of_fragmentOp (c : Ctx) (op : ROperation) (h : FragmentOp c op = true) : MixedOp c op = true := by
  obtain ⟨hn, ho, hb⟩ := fragmentOp_parts h
  simp only [MixedOp, Bool.and_eq_true, beq_iff_eq]
  exact ⟨⟨hn, ho⟩, mBody_of_fBody hb⟩

mutual
  theorem mSel_of_sSel (s : Schema) (q : Query) (o : Options) : ∀ (x : Sel) (p : TypeId), sSel s q o false x = true →
      mSel s q o p x = true
    | .field a fid sub, p => by
      intro h
      have IH := mSels_of_sSels s q o sub
      cases hsf : s.fields[fid]? with
      | none => rw [sSel] at h; simp [hsf] at h
      | some sf =>
        rw [mSel]
        simp only [hsf]
        cases hid : sf.ty.id with
        | object i =>
          rw [sSel] at h
          simp only [hsf, hid, Bool.and_eq_true] at h ⊢
          refine ⟨⟨h.1, h.2.1.1⟩, ?_⟩
          have hnl := not_lone_spread_S h.2.1.2
          have := IH (.object i) h.2.1.2
          split
          · rename_i g; exact absurd rfl (fun hh => hnl g hh)
          · exact this
        | scalar k => exact h
        | «enum» k => exact h
        | interface k => exact h
        | union k => exact h
        | input k => exact h
    | .spread g, _ => by intro h; simp [sSel] at h
    | .inline _ _, _ => by intro h; simp [sSel] at h
    | .typename, _ => by intro _; simp [mSel]
  theorem mSels_of_sSels (s : Schema) (q : Query) (o : Options) : ∀ (sels : List Sel) (p : TypeId),
      sSels s q o false sels = true → mSels s q o p sels = true
    | [], _ => by intro _; rfl
    | x :: xs, p => by
      intro h
      obtain ⟨hx, hxs⟩ := sSels_cons h
      rw [mSels, mSel_of_sSel s q o x p hx, mSels_of_sSels s q o xs p hxs]; rfl
end

theorem mBody_of_sSels {s : Schema} {q : Query} {o : Options} {p : TypeId} {sels : List Sel}
    (h : sSels s q o false sels = true) : mBody s q o p sels = true := by
  have hnl : ∀ g, sels ≠ [Sel.spread g] := fun g hg => not_lone_spread_S h g hg
  rw [mBody_not_lone hnl]
  exact mSels_of_sSels s q o sels p h

theorem mixedOp_of_variantSpreadOp (c : Ctx) (op : ROperation) (h : VariantSpreadOp c op = true) :
    MixedOp c op = true := by
  obtain ⟨hn, ho, hb, _⟩ := variantSpreadOp_parts h
  simp only [MixedOp, Bool.and_eq_true, beq_iff_eq]
  exact ⟨⟨hn, ho⟩, mBody_of_sSels hb⟩

theorem bodyItemsM_eq_F (c : Ctx) (op : ROperation) (hop : op ∈ c.q.operations) (h : FragmentOp c op = true) :
    bodyItemsM c "ResponseData" (c.cs.camel op.name) op.sels =
      bodyItemsF c "ResponseData" (c.cs.camel op.name) op.sels := by
  have h1 := mixed_items_shape c op hop (mixedOp_of_fragmentOp c op h)
  rw [fragment_items_shape c op hop h] at h1
  exact (Except.ok.inj h1).symm

theorem bodyItemsM_eq_S (c : Ctx) (op : ROperation) (hop : op ∈ c.q.operations) (h : VariantSpreadOp c op = true) :
    bodyItemsM c "ResponseData" (c.cs.camel op.name) op.sels =
      structItemsS c "ResponseData" (c.cs.camel op.name) op.sels := by
  have h1 := mixed_items_shape c op hop (mixedOp_of_variantSpreadOp c op h)
  rw [variantspread_items_shape c op hop h] at h1
  exact (Except.ok.inj h1).symm

end C01M
end GqlVerif
