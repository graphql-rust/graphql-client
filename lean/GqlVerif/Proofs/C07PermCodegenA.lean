import GqlVerif.Proofs.C07Permutations
import GqlVerif.Proofs.ResolveSim
/-!
# C07, type-order permutations (part A) — `Resolve.resolve` commutes with a renumbering of the TYPE ids

`Proofs/C07Permutations.lean`: listing the definitions of a kind in another order renumbers the type ids of the
intermediate `Schema` (`Schema.mapTypes`).  This file sets up the abstract notion and the first half of the argument:

* `Ren` — one map `Nat → Nat` per kind (and one for the owner recorded in a stored field, which nothing reads); `Ren.tid` the induced map on `TypeId`; `Ren.Inj` — all six maps injective
  (on **all** naturals: the concrete renumbering `renOf` of `C07PermCodegenE` is the identity outside the tables, so that no
  "id in range" invariant has to be carried through the resolved query);
* `TypeIso R s t` — `t` is `s` with the type ids renumbered by `R` and the per-kind tables reordered accordingly
  (look-ups commute: `t.objects[R.obj i]? = s.objects[i]?.map R.object`, …; the field table keeps its order; the object
  and the input tables are permutations of the renumbered tables);
* `tQ R` — the renumbering of a resolved query (inline conditions, fragment conditions, operation roots, variable
  types; field ids and fragment ids are untouched);
* **`resolve_tiso`** — `Resolve.resolve t doc = (Resolve.resolve s doc).map (tQ R)`: an equality of outcomes, errors
  included, for every document.

The selection block of the resolver and its validation passes are those of `Proofs/ResolveSim.lean` for the instance
`TypeIso.schemaSim` (`renSchemaMap R`); the assembly (`opBody_tiso` … `resolve_tiso`) is proved here.
-/

namespace GqlVerif
namespace C07P
open Resolve Codegen C07

/-- a renumbering of the ids of every kind -/
structure Ren where
  obj : Nat → Nat
  sc : Nat → Nat
  ifc : Nat → Nat
  un : Nat → Nat
  en : Nat → Nat
  inp : Nat → Nat
  /-- what happens to the owner recorded in a stored field (never read by `resolve` / `generate`) -/
  par : FieldParent → FieldParent

namespace Ren
def tid (R : Ren) : TypeId → TypeId
  | .object i => .object (R.obj i)
  | .scalar i => .scalar (R.sc i)
  | .interface i => .interface (R.ifc i)
  | .union i => .union (R.un i)
  | .enum i => .enum (R.en i)
  | .input i => .input (R.inp i)
def parent (R : Ren) : FieldParent → FieldParent := R.par
def ft (R : Ren) (t : FieldType) : FieldType := { t with id := R.tid t.id }
def field (R : Ren) (f : StoredField) : StoredField := { f with ty := R.ft f.ty, parent := R.parent f.parent }
def object (R : Ren) (o : StoredObject) : StoredObject := { o with implements := o.implements.map R.ifc }
def union (R : Ren) (u : StoredUnion) : StoredUnion := { u with variants := u.variants.map R.tid }
def input (R : Ren) (i : StoredInput) : StoredInput := { i with fields := i.fields.map fun p => (p.1, R.ft p.2) }

structure Inj (R : Ren) : Prop where
  obj : ∀ i j, R.obj i = R.obj j → i = j
  sc : ∀ i j, R.sc i = R.sc j → i = j
  ifc : ∀ i j, R.ifc i = R.ifc j → i = j
  un : ∀ i j, R.un i = R.un j → i = j
  en : ∀ i j, R.en i = R.en j → i = j
  inp : ∀ i j, R.inp i = R.inp j → i = j

theorem Inj.tid {R : Ren} (h : R.Inj) : ∀ a b, R.tid a = R.tid b → a = b := by
  intro a b hab
  cases a <;> cases b <;> simp only [Ren.tid] at hab <;> (try (exact TypeId.noConfusion hab))
  · rw [h.obj _ _ (TypeId.object.inj hab)]
  · rw [h.sc _ _ (TypeId.scalar.inj hab)]
  · rw [h.ifc _ _ (TypeId.interface.inj hab)]
  · rw [h.un _ _ (TypeId.union.inj hab)]
  · rw [h.en _ _ (TypeId.enum.inj hab)]
  · rw [h.inp _ _ (TypeId.input.inj hab)]

theorem tid_object (R : Ren) (i : Nat) : R.tid (.object i) = .object (R.obj i) := rfl
theorem tid_scalar (R : Ren) (i : Nat) : R.tid (.scalar i) = .scalar (R.sc i) := rfl
theorem tid_interface (R : Ren) (i : Nat) : R.tid (.interface i) = .interface (R.ifc i) := rfl
theorem tid_union (R : Ren) (i : Nat) : R.tid (.union i) = .union (R.un i) := rfl
theorem tid_enum (R : Ren) (i : Nat) : R.tid (.enum i) = .enum (R.en i) := rfl
theorem tid_input (R : Ren) (i : Nat) : R.tid (.input i) = .input (R.inp i) := rfl
@[simp] theorem tid_isAbstract (R : Ren) (a : TypeId) : (R.tid a).isAbstract = a.isAbstract := by cases a <;> rfl
@[simp] theorem ft_quals (R : Ren) (t : FieldType) : (R.ft t).quals = t.quals := rfl
@[simp] theorem ft_id (R : Ren) (t : FieldType) : (R.ft t).id = R.tid t.id := rfl
@[simp] theorem field_name (R : Ren) (f : StoredField) : (R.field f).name = f.name := rfl
@[simp] theorem field_ty (R : Ren) (f : StoredField) : (R.field f).ty = R.ft f.ty := rfl
@[simp] theorem field_dep (R : Ren) (f : StoredField) : (R.field f).deprecation = f.deprecation := rfl
@[simp] theorem object_name (R : Ren) (o : StoredObject) : (R.object o).name = o.name := rfl
@[simp] theorem object_fields (R : Ren) (o : StoredObject) : (R.object o).fields = o.fields := rfl
@[simp] theorem object_implements (R : Ren) (o : StoredObject) : (R.object o).implements = o.implements.map R.ifc := rfl
@[simp] theorem union_name (R : Ren) (o : StoredUnion) : (R.union o).name = o.name := rfl
@[simp] theorem union_variants (R : Ren) (o : StoredUnion) : (R.union o).variants = o.variants.map R.tid := rfl
@[simp] theorem input_name (R : Ren) (o : StoredInput) : (R.input o).name = o.name := rfl
@[simp] theorem input_isOneOf (R : Ren) (o : StoredInput) : (R.input o).isOneOf = o.isOneOf := rfl
@[simp] theorem input_fields (R : Ren) (o : StoredInput) :
    (R.input o).fields = o.fields.map fun p => (p.1, R.ft p.2) := rfl
end Ren

/-- `t` is `s` with the type ids renumbered by `R` -/
structure TypeIso (R : Ren) (s t : Schema) : Prop where
  inj : R.Inj
  fields : t.fields = s.fields.map R.field
  objAt : ∀ i, t.objects[R.obj i]? = (s.objects[i]?).map R.object
  ifcAt : ∀ i, t.interfaces[R.ifc i]? = s.interfaces[i]?
  unAt : ∀ i, t.unions[R.un i]? = (s.unions[i]?).map R.union
  scAt : ∀ i, t.scalars[R.sc i]? = s.scalars[i]?
  enAt : ∀ i, t.enums[R.en i]? = s.enums[i]?
  inpAt : ∀ i, t.inputs[R.inp i]? = (s.inputs[i]?).map R.input
  objsPerm : t.objects.zipIdx.Perm (s.objects.zipIdx.map fun p => (R.object p.1, R.obj p.2))
  inpsPerm : t.inputs.zipIdx.Perm (s.inputs.zipIdx.map fun p => (R.input p.1, R.inp p.2))
  names : t.names = s.names.map fun p => (p.1, R.tid p.2)
  queryType : t.queryType = s.queryType.map R.obj
  mutationType : t.mutationType = s.mutationType.map R.obj
  subscriptionType : t.subscriptionType = s.subscriptionType.map R.obj

/-! ## the renumbering of a resolved query -/

mutual
  def tSel (R : Ren) : Sel → Sel
    | .field a fid sub => .field a fid (tSels R sub)
    | .inline t sub => .inline (R.tid t) (tSels R sub)
    | .spread f => .spread f
    | .typename => .typename
  def tSels (R : Ren) : List Sel → List Sel
    | [] => []
    | x :: xs => tSel R x :: tSels R xs
end

theorem tSels_eq_map (R : Ren) (l : List Sel) : tSels R l = l.map (tSel R) := by
  induction l with
  | nil => rfl
  | cons x l ih => rw [tSels, ih]; rfl

def tFrag (R : Ren) (f : RFragment) : RFragment := { f with on := R.tid f.on, sels := tSels R f.sels }
def tOp (R : Ren) (o : ROperation) : ROperation := { o with objectId := R.obj o.objectId, sels := tSels R o.sels }
def tVar (R : Ren) (v : RVariable) : RVariable := { v with ty := R.ft v.ty }
def tQ (R : Ren) (q : Query) : Query :=
  { fragments := q.fragments.map (tFrag R), operations := q.operations.map (tOp R), variables := q.variables.map (tVar R) }

/-- the renumbering of the type ids as a `SelMap`: field ids stay -/
def renMap (R : Ren) : C09.SelMap := ⟨id, R.obj, R.sc, R.ifc, R.un, R.en, R.inp, tSel R, tSels R, tFrag R⟩

theorem renMap_ty (R : Ren) : (renMap R).ty = R.tid := by funext t; cases t <;> rfl

theorem renMap_lawful {R : Ren} (hR : R.Inj) : (renMap R).Lawful where
  ty_inj := by rw [renMap_ty]; exact hR.tid
  sels_eq_map := tSels_eq_map R
  sel_field := fun _ _ _ => rfl
  sel_inline := fun _ _ => by rw [renMap_ty]; rfl
  sel_spread := fun _ => rfl
  sel_typename := rfl
  frag_name := fun _ => rfl
  frag_on := fun _ => by rw [renMap_ty]; rfl

theorem Ren.Inj.tid_beq {R : Ren} (h : R.Inj) (a b : TypeId) : (R.tid a == R.tid b) = (a == b) := by
  have := (renMap_lawful h).ty_beq a b
  rwa [renMap_ty] at this

theorem Ren.Inj.contains_tid {R : Ren} (h : R.Inj) (l : List TypeId) (a : TypeId) :
    (l.map R.tid).contains (R.tid a) = l.contains a := by
  have := (renMap_lawful h).contains_ty l a
  rwa [renMap_ty] at this

/-- stored fields and objects mention the renumbered type ids; interfaces stay -/
def renSchemaMap (R : Ren) : C09.SchemaMap :=
  { toSelMap := renMap R, field := R.field, object := R.object, iface := id, union := R.union, op := tOp R, query := tQ R }

section Acc
variable {R : Ren} {s t : Schema} (h : TypeIso R s t)
include h

theorem TypeIso.getField (i : Nat) : t.getField i = (s.getField i).map R.field := by
  simp only [Schema.getField, h.fields, List.getElem?_map]
  cases s.fields[i]? <;> rfl

theorem TypeIso.getObject (i : Nat) : t.getObject (R.obj i) = (s.getObject i).map R.object := by
  simp only [Schema.getObject, h.objAt]
  cases s.objects[i]? <;> rfl

theorem TypeIso.getInterface (i : Nat) : t.getInterface (R.ifc i) = s.getInterface i := by
  simp only [Schema.getInterface, h.ifcAt]

theorem TypeIso.getUnion (i : Nat) : t.getUnion (R.un i) = (s.getUnion i).map R.union := by
  simp only [Schema.getUnion, h.unAt]
  cases s.unions[i]? <;> rfl

theorem TypeIso.getScalar (i : Nat) : t.getScalar (R.sc i) = s.getScalar i := by
  simp only [Schema.getScalar, h.scAt]

theorem TypeIso.getEnum (i : Nat) : t.getEnum (R.en i) = s.getEnum i := by
  simp only [Schema.getEnum, h.enAt]

theorem TypeIso.getInput (i : Nat) : t.getInput (R.inp i) = (s.getInput i).map R.input := by
  simp only [Schema.getInput, h.inpAt]
  cases s.inputs[i]? <;> rfl

theorem TypeIso.findType (n : String) : t.findType n = (s.findType n).map R.tid := by
  simp only [Schema.findType, h.names, namesGet_map]

theorem TypeIso.findTypeId (n : String) : t.findTypeId n = (s.findTypeId n).map R.tid := by
  simp only [Schema.findTypeId, h.findType]
  cases s.findType n <;> rfl

theorem TypeIso.resolveFieldType (g : GTy) : resolveFieldType t g = (resolveFieldType s g).map R.ft := by
  simp only [GqlVerif.resolveFieldType, h.findTypeId]
  cases s.findTypeId g.base <;> rfl

theorem TypeIso.queryTypeOrPanic : t.queryTypeOrPanic = s.queryTypeOrPanic.map R.obj := by
  simp only [Schema.queryTypeOrPanic, h.queryType]
  cases s.queryType <;> rfl

theorem TypeIso.typeName (id : TypeId) : t.typeName (R.tid id) = s.typeName id := by
  cases id <;> simp only [Ren.tid_object, Ren.tid_scalar, Ren.tid_interface, Ren.tid_union, Ren.tid_enum, Ren.tid_input, Schema.typeName, h.getObject, h.getInterface, h.getUnion, h.getEnum, h.getInput,
    h.getScalar]
  · cases s.getObject _ <;> rfl
  · cases s.getUnion _ <;> rfl
  · cases s.getInput _ <;> rfl

theorem TypeIso.objects_length : t.objects.length = s.objects.length := by
  have := h.objsPerm.length_eq
  simpa using this

theorem TypeIso.inputs_length : t.inputs.length = s.inputs.length := by
  have := h.inpsPerm.length_eq
  simpa using this

/-- the implementors of an interface: the same objects, in the order of the new object ids -/
theorem TypeIso.implementors (i : Nat) : (t.implementors (R.ifc i)).Perm ((s.implementors i).map R.obj) := by
  simp only [Schema.implementors]
  have h1 := (h.objsPerm.filter (fun x => x.1.implements.contains (R.ifc i))).map (·.2)
  refine h1.trans (List.Perm.of_eq ?_)
  rw [List.filter_map, List.map_map, List.map_map]
  congr 1
  apply List.filter_congr
  intro p _
  simp only [Function.comp, Ren.object_implements]
  exact (renMap_lawful h.inj).contains_ifc _ _

end Acc


/-! ## measures, look-ups and fragment recursion of the renumbered query -/

variable (R : Ren)

mutual
  theorem selDepth'_t : ∀ x : Sel, selDepth' (tSel R x) = selDepth' x
    | .field a fid sub => by simp only [tSel, selDepth', selsDepth'_t sub]
    | .inline t sub => by simp only [tSel, selDepth', selsDepth'_t sub]
    | .spread f => rfl
    | .typename => rfl
  theorem selsDepth'_t : ∀ l : List Sel, selsDepth' (tSels R l) = selsDepth' l
    | [] => rfl
    | x :: xs => by simp only [tSels, selsDepth', selDepth'_t x, selsDepth'_t xs]
end

mutual
  theorem selDepth_t : ∀ x : Sel, selDepth (tSel R x) = selDepth x
    | .field a fid sub => by simp only [tSel, selDepth, selsDepth_t sub]
    | .inline t sub => by simp only [tSel, selDepth, selsDepth_t sub]
    | .spread f => rfl
    | .typename => rfl
  theorem selsDepth_t : ∀ l : List Sel, selsDepth (tSels R l) = selsDepth l
    | [] => rfl
    | x :: xs => by simp only [tSels, selsDepth, selDepth_t x, selsDepth_t xs]
end

mutual
  theorem selSize_t : ∀ x : Sel, selSize (tSel R x) = selSize x
    | .field a fid sub => by simp only [tSel, selSize, selsSize_t sub]
    | .inline t sub => by simp only [tSel, selSize, selsSize_t sub]
    | .spread f => rfl
    | .typename => rfl
  theorem selsSize_t : ∀ l : List Sel, selsSize (tSels R l) = selsSize l
    | [] => rfl
    | x :: xs => by simp only [tSels, selsSize, selSize_t x, selsSize_t xs]
end

@[simp] theorem tQ_fragments (q : Query) : (tQ R q).fragments = q.fragments.map (tFrag R) := rfl
@[simp] theorem tQ_operations (q : Query) : (tQ R q).operations = q.operations.map (tOp R) := rfl
@[simp] theorem tQ_variables (q : Query) : (tQ R q).variables = q.variables.map (tVar R) := rfl
@[simp] theorem tFrag_sels (f : RFragment) : (tFrag R f).sels = tSels R f.sels := rfl
@[simp] theorem tFrag_on (f : RFragment) : (tFrag R f).on = R.tid f.on := rfl
@[simp] theorem tFrag_name (f : RFragment) : (tFrag R f).name = f.name := rfl
@[simp] theorem tOp_sels (f : ROperation) : (tOp R f).sels = tSels R f.sels := rfl
@[simp] theorem tOp_name (f : ROperation) : (tOp R f).name = f.name := rfl
@[simp] theorem tOp_kind (f : ROperation) : (tOp R f).kind = f.kind := rfl
@[simp] theorem tOp_objectId (f : ROperation) : (tOp R f).objectId = R.obj f.objectId := rfl
@[simp] theorem tVar_name (v : RVariable) : (tVar R v).name = v.name := rfl
@[simp] theorem tVar_opIdx (v : RVariable) : (tVar R v).opIdx = v.opIdx := rfl
@[simp] theorem tVar_default (v : RVariable) : (tVar R v).default = v.default := rfl
@[simp] theorem tVar_ty (v : RVariable) : (tVar R v).ty = R.ft v.ty := rfl

theorem walkFuel_t (q : Query) : walkFuel (tQ R q) = walkFuel q := by
  simp [walkFuel, List.map_map, Function.comp_def, selsDepth_t]

theorem depthFuel_t (q : Query) : depthFuel (tQ R q) = depthFuel q := by
  simp [depthFuel, List.map_map, Function.comp_def, selsDepth'_t]

theorem findFragment_t (q : Query) (n : String) : (tQ R q).findFragment n = q.findFragment n := by
  simp [Query.findFragment, List.findIdx?_map, Function.comp_def]

theorem findOperation_t (q : Query) (n : String) : (tQ R q).findOperation n = q.findOperation n := by
  simp [Query.findOperation, List.findIdx?_map, Function.comp_def]

theorem getFragment_t (q : Query) (i : Nat) : (tQ R q).getFragment i = (q.getFragment i).map (tFrag R) := by
  simp only [Query.getFragment, tQ_fragments, List.getElem?_map]
  cases q.fragments[i]? <;> rfl

theorem getOperation_t (q : Query) (i : Nat) : (tQ R q).getOperation i = (q.getOperation i).map (tOp R) := by
  simp only [Query.getOperation, tQ_operations, List.getElem?_map]
  cases q.operations[i]? <;> rfl

theorem opVariables_t (q : Query) (i : Nat) : (tQ R q).opVariables i = (q.opVariables i).map (tVar R) := by
  simp only [Query.opVariables, tQ_variables, List.filter_map]
  rfl

theorem foldl_tSels {β} (l : List Sel) (f f' : β → Sel → β) (init : β) (h : ∀ b, ∀ x ∈ l, f' b (tSel R x) = f b x) :
    (tSels R l).foldl f' init = l.foldl f init := by
  induction l generalizing init with
  | nil => rfl
  | cons x l ih =>
    simp only [tSels, List.foldl_cons, h init x (by simp)]
    exact ih _ fun b y hy => h b y (by simp [hy])

theorem reachesFragment_t (q : Query) (target : Nat) (fuel : Nat) : ∀ (visited : List Nat) (sels : List Sel),
    reachesFragment (tQ R q) target fuel visited (tSels R sels) = reachesFragment q target fuel visited sels := by
  induction fuel with
  | zero => intro _ _; rfl
  | succ fuel ih =>
    intro visited sels
    unfold reachesFragment
    apply foldl_tSels
    intro acc x _
    cases x with
    | field a fid sub => simp only [tSel, ih]
    | typename => rfl
    | inline t sub => simp only [tSel, ih]
    | spread fid =>
      simp only [tSel, tQ_fragments, List.getElem?_map]
      cases q.fragments[fid]? with
      | none => rfl
      | some f => simp only [Option.map_some, tFrag_sels, ih]

theorem fragmentIsRecursive_t (q : Query) (fid : Nat) :
    fragmentIsRecursive (tQ R q) fid = fragmentIsRecursive q fid := by
  simp only [fragmentIsRecursive, tQ_fragments, List.getElem?_map, walkFuel_t]
  cases q.fragments[fid]? with
  | none => rfl
  | some f => simp only [Option.map_some, tFrag_sels, reachesFragment_t]

/-! ## the instance of `C09.SchemaSim`; the selection block and the validation passes from it -/

theorem renSchemaMap_laws {R : Ren} (hR : R.Inj) : (renSchemaMap R).Laws where
  sel := renMap_lawful hR
  frag_sels := fun _ => rfl
  op_sels := fun _ => rfl
  op_kind := fun _ => rfl
  op_objectId := fun _ => rfl
  query_fragments := fun _ => rfl
  query_operations := fun _ => rfl
  depthFuel := depthFuel_t R
  walkFuel := walkFuel_t R

section
variable {R : Ren} {s t : Schema} (h : TypeIso R s t)
include h

theorem TypeIso.schemaSim : C09.SchemaSim (renSchemaMap R) s t where
  laws := renSchemaMap_laws h.inj
  field_name := fun _ => rfl
  field_ty := fun _ => by rw [show (renSchemaMap R).ty = R.tid from renMap_ty R]; rfl
  object_name := fun _ => rfl
  object_fields := fun o => (List.map_id o.fields).symm
  object_implements := fun _ => rfl
  iface_name := fun _ => rfl
  iface_fields := fun i => (List.map_id i.fields).symm
  union_variants := fun u => by rw [show (renSchemaMap R).ty = R.tid from renMap_ty R]; rfl
  getField := h.getField
  getObject := h.getObject
  getInterface := fun i => (h.getInterface i).trans (C09.outcome_map_id _).symm
  getUnion := h.getUnion
  implementors := h.implementors
  findType := fun n => by rw [show (renSchemaMap R).ty = R.tid from renMap_ty R]; exact h.findType n

theorem objSel_tiso (q q' : Query) (hq : ∀ n, q'.findFragment n = q.findFragment n) :
    ∀ (x : QSel) (pname : String) (fields : List Nat),
      resolveObjectSel t q' pname fields x = (resolveObjectSel s q pname fields x).map (tSel R) :=
  fun x pname fields => by
    have := C09.objSel_sim h.schemaSim q q' hq x pname fields
    rwa [show fields.map (renSchemaMap R).fld = fields from List.map_id fields] at this
theorem objSels_tiso (q q' : Query) (hq : ∀ n, q'.findFragment n = q.findFragment n) :
    ∀ (xs : List QSel) (pname : String) (fields : List Nat),
      resolveObjectSels t q' pname fields xs = (resolveObjectSels s q pname fields xs).map (tSels R) :=
  fun xs pname fields => by
    have := C09.objSels_sim h.schemaSim q q' hq xs pname fields
    rwa [show fields.map (renSchemaMap R).fld = fields from List.map_id fields] at this
theorem unionSel_tiso (q q' : Query) (hq : ∀ n, q'.findFragment n = q.findFragment n) :
    ∀ (x : QSel), resolveUnionSel t q' x = (resolveUnionSel s q x).map (tSel R) :=
  C09.unionSel_sim h.schemaSim q q' hq

theorem validateSubscriptions_t (q : Query) : validateSubscriptions (tQ R q) = validateSubscriptions q :=
  C09.validateSubscriptions_sim (renSchemaMap_laws h.inj) q

theorem fieldsHaveTypename_tiso (q : Query) : ∀ x : Sel,
    fieldsHaveTypename t (tQ R q) (tSel R x) = fieldsHaveTypename s q x :=
  C09.fieldsHaveTypename_sim h.schemaSim q

theorem validateTypenamePresence_tiso (q : Query) :
    validateTypenamePresence t (tQ R q) = validateTypenamePresence s q :=
  C09.validateTypenamePresence_sim h.schemaSim q

theorem typeConditions_tiso (q : Query) : ∀ (x : Sel) (parent : TypeId),
    typeConditions t (tQ R q) (R.tid parent) (tSel R x) = typeConditions s q parent x := fun x parent => by
  have := C09.typeConditions_sim h.schemaSim q x parent
  rwa [show (renSchemaMap R).ty = R.tid from renMap_ty R] at this

theorem validateTypeConditions_tiso (q : Query) :
    validateTypeConditions t (tQ R q) = validateTypeConditions s q :=
  C09.validateTypeConditions_sim h.schemaSim q

end

/-! ## the assembly of `Resolve.resolve` -/

theorem tSels_append (R : Ren) (a b : List Sel) : tSels R (a ++ b) = tSels R a ++ tSels R b := by
  simp [tSels_eq_map]

section
variable {R : Ren} {s t : Schema} (h : TypeIso R s t)
include h

theorem resolveSelection_tiso (q q' : Query) (hq : ∀ n, q'.findFragment n = q.findFragment n) (on : TypeId)
    (sels : List QSel) :
    resolveSelection t q' (R.tid on) sels = (resolveSelection s q on sels).map (tSels R) := by
  have := C09.resolveSelection_sim h.schemaSim q q' hq on sels
  rwa [show (renSchemaMap R).ty = R.tid from renMap_ty R] at this

theorem resolveVariables_tiso (op : Nat) (vars : List VarDef) :
    resolveVariables t op vars = (resolveVariables s op vars).map (List.map (tVar R)) := by
  unfold resolveVariables
  induction vars with
  | nil => rfl
  | cons v vars ih =>
    rw [List.mapM_cons, List.mapM_cons, ih, h.resolveFieldType]
    generalize List.mapM (fun v => do
      let ty ← resolveFieldType s v.ty
      pure ({ opIdx := op, name := v.name, default := v.default, ty := ty } : RVariable)) vars = M
    cases resolveFieldType s v.ty <;> cases M <;> rfl

theorem opRoot_tiso (kind : OpKind) : opRoot t kind = (opRoot s kind).map R.obj := by
  cases kind <;> simp only [opRoot, h.queryTypeOrPanic, h.mutationType, h.subscriptionType]
  · cases s.mutationType <;> rfl
  · cases s.subscriptionType <;> rfl

theorem opBody_tiso (q : Query) (name : Option String) (vars : List VarDef) (sels : List QSel) (on : Nat) :
    opBody t (tQ R q) name vars sels (R.obj on) = (opBody s q name vars sels on).map (tQ R) := by
  simp only [opBody, h.getObject, findOperation_t, resolveVariables_tiso h]
  cases s.getObject on with
  | error e => rfl
  | ok o =>
    cases name with
    | none => rfl
    | some n =>
      cases hfo : q.findOperation n with
      | none => simp only [Except.map, bind, Except.bind, pure, Except.pure, hfo]; rfl
      | some id =>
        simp only [Except.map, bind, Except.bind, pure, Except.pure, hfo]
        cases resolveVariables s id vars with
        | error e => rfl
        | ok vs =>
          simp only [Ren.object_name, Ren.object_fields]
          rw [objSels_tiso h { q with variables := q.variables ++ vs }
            { tQ R q with variables := (tQ R q).variables ++ vs.map (tVar R) } (fun n => findFragment_t R q n) sels
            o.name o.fields]
          cases resolveObjectSels s { q with variables := q.variables ++ vs } o.name o.fields sels with
          | error e => rfl
          | ok rs =>
            simp only [Except.map, tQ_operations, List.getElem?_map]
            cases q.operations[id]? with
            | none => rfl
            | some op =>
              simp only [Option.map_some, tQ, List.map_set, tOp, tSels_append, List.map_append]

theorem resolveDef_tiso (q : Query) (d : QDef) : resolveDef t (tQ R q) d = (resolveDef s q d).map (tQ R) := by
  cases d with
  | selset sels => rfl
  | frag name on sels =>
    simp only [resolveDef, h.findType, findFragment_t]
    cases s.findType on with
    | none => rfl
    | some ty =>
      cases q.findFragment name with
      | none => rfl
      | some id =>
        simp only [Option.map]
        rw [resolveSelection_tiso h q (tQ R q) (findFragment_t R q) ty sels]
        cases resolveSelection s q ty sels with
        | error e => rfl
        | ok rs =>
          simp only [Except.map, bind, Except.bind, tQ_fragments, List.getElem?_map]
          cases q.fragments[id]? with
          | none => rfl
          | some f =>
            simp only [Option.map_some, pure, Except.pure, tQ, List.map_set, tFrag, tSels_append]
  | op kind name vars sels =>
    rw [resolveDef_op_eq, resolveDef_op_eq, opRoot_tiso h]
    cases opRoot s kind with
    | error e => rfl
    | ok on => exact opBody_tiso h q name vars sels on

theorem createRoots_tiso (doc : QDoc) (q : Query) :
    createRoots t doc (tQ R q) = (createRoots s doc q).map (tQ R) := by
  induction doc generalizing q with
  | nil => rfl
  | cons d doc ih =>
    cases d with
    | selset sels => rfl
    | frag name on sels =>
      simp only [createRoots, findFragment_t, h.findType]
      split
      · rfl
      · cases s.findType on with
        | none => rfl
        | some ty =>
          simp only [Option.map]
          rw [← ih]
          congr 1; simp [tQ, tFrag, tSels]
    | op kind name vars sels =>
      cases kind with
      | query =>
        simp only [createRoots, h.queryTypeOrPanic, findOperation_t]
        cases s.queryTypeOrPanic with
        | error e => rfl
        | ok on =>
          cases name with
          | none => rfl
          | some n =>
            simp only [Except.map, bind, Except.bind]
            split
            · rfl
            · refine Eq.trans ?_ (ih _); congr 1; simp [tQ, tOp, tSels]
      | mutation =>
        simp only [createRoots, h.mutationType, findOperation_t]
        cases s.mutationType with
        | none => rfl
        | some on =>
          cases name with
          | none => rfl
          | some n =>
            simp only [Option.map]
            split
            · rfl
            · rw [← ih]; congr 1; simp [tQ, tOp, tSels]
      | subscription =>
        simp only [createRoots, h.subscriptionType, findOperation_t]
        cases s.subscriptionType with
        | none => rfl
        | some on =>
          simp only [Option.map]
          split
          · rfl
          · cases name with
            | none => rfl
            | some n =>
              simp only []
              split
              · rfl
              · rw [← ih]; congr 1; simp [tQ, tOp, tSels]

theorem foldlM_resolveDef_tiso (doc : QDoc) (q : Query) :
    doc.foldlM (resolveDef t) (tQ R q) = (doc.foldlM (resolveDef s) q).map (tQ R) := by
  induction doc generalizing q with
  | nil => rfl
  | cons d doc ih =>
    simp only [List.foldlM_cons, resolveDef_tiso h]
    cases resolveDef s q d with
    | error e => rfl
    | ok q2 => exact ih q2

theorem resolve_tiso (doc : QDoc) : resolve t doc = (resolve s doc).map (tQ R) := by
  unfold resolve
  have h0 := createRoots_tiso h doc {}
  rw [show tQ R ({} : Query) = {} from rfl] at h0
  rw [h0]
  cases createRoots s doc {} with
  | error e => rfl
  | ok q0 =>
    simp only [Except.map, bind, Except.bind, foldlM_resolveDef_tiso h]
    cases List.foldlM (resolveDef s) q0 doc with
    | error e => rfl
    | ok q =>
      simp only [validateTypenamePresence_tiso h, validateSubscriptions_t h, validateTypeConditions_tiso h]
      cases validateTypenamePresence s q with
      | error e => rfl
      | ok _ =>
        cases validateSubscriptions q with
        | error e => rfl
        | ok _ => cases validateTypeConditions s q <;> rfl

end

end C07P
end GqlVerif
