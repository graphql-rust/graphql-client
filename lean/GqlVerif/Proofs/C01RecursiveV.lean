import GqlVerif.Proofs.C01RecursiveC
import GqlVerif.Proofs.C01AbstractSchema
/-!
# C01 / C03, spreads at abstract positions: what the model does on concrete shapes

This file belongs to the instances of `VariantSpreadOp`, not to `RecFragmentOp`: the universally quantified `variantspread_*`
theorems are in `C01VariantSpread*`.  It imports `C01RecursiveC` only because the specification side of `vsBad_conforms` is written
with `expandR`, the expansion of spreads to a given depth, which is defined there.  It records, on
the model's own functions and a concrete schema (`vxSchema` of `C01AbstractSchema`: `interface Character { name }`,
`Human implements Character { name height }`, `Droid implements Character { name primaryFunction }`):

* **a defect of the pinned generator, repaired in /repo** (`fix:` commit 78c01b5, DESIGN.md §10.3b): when one of the
  selections on a variant is an inline fragment whose body is a lone spread (`... on Human { ...HF }`) *together with
  other members* (here the sibling spread `...HG` on `Human`), the variant struct became a type alias of `HF` and every
  other selection on the same variant was dropped.  With the fix of `calcVariants` (`aliasMember`) the variant struct keeps
  the ordinary members and gets one more `#[serde(flatten)]` member for the aliased fragment (`vsBad_items`): the
  round trip of a *conforming* response keeps `height` (`variantspread_alias_keeps_sibling`, C01) and a response whose
  `height` (selected through `HG`) has the wrong scalar kind is rejected (`variantspread_alias_rejects_wrong_kind`, C03).
* three shapes the fix leaves as they were, evaluated on the model (`decide +kernel`, no general theorem): a lone spread on a
  possible type (variant payload = type alias of the fragment struct), two spreads on the same possible type (variant
  struct with two flattened members), a spread on the abstract type itself (flattened next to the `on` enum; both the
  fragment's own `on` enum and the outer one read `__typename` — tagged enums borrow — and after
  `serde_json::to_value` normalisation it is written once).
-/
namespace GqlVerif
namespace C01
namespace E2E
open C03 Codegen

/-- `HF on Human { name }`, `HG on Human { height }`, `CF on Character { name __typename }`;
    `query Q { hero { <sels> } }` -/
def vsQuery (sels : List Sel) : Query :=
  { operations := [{ name := "Q", kind := .query, objectId := 0, sels := [.field none 0 sels] }]
    fragments := [{ name := "HF", on := .object 1, sels := [.field none 1 []] },
                  { name := "HG", on := .object 1, sels := [.field none 2 []] },
                  { name := "CF", on := .interface 0, sels := [.field none 1 [], .typename] }] }

def vsCtx (sels : List Sel) : Ctx := { s := vxSchema, q := vsQuery sels, o := {}, cs := ⟨id, id⟩ }

/-- `hero { __typename ... on Human { ...HF } ...HG }` -/
def vsBad : List Sel := [.typename, .inline (.object 1) [.spread 0], .spread 1]

/-- the variant struct of `Human` is a struct with two flattened members: the ordinary member `HG` followed by the
    member made from the aliased fragment `HF` (before the fix: the alias `type QheroOnHuman = HF`) -/
theorem vsBad_items :
    (match responseForQuery (vsCtx vsBad) 0 with
     | .ok items =>
       (match (moduleEnv (vsCtx vsBad) items).find "QheroOnHuman" with
        | some (.struct _ _ _ [f, g]) => f.flatten && g.flatten && f.ty == .path "HG" && g.ty == .path "HF"
        | _ => false)
     | .error _ => false) = true := by decide +kernel

/-- a response that conforms to the specification (Human: `name` through `HF`, `height` through `HG`) -/
def vsJson : Json := .obj [("hero", .obj [("__typename", .str "Human"), ("name", .str "x"), ("height", .num "1.8")])]

theorem vsBad_conforms :
    conformsV vxSchema 0 ([Sel.field none 0 vsBad].map (expandR (vsQuery vsBad) 4)) vsJson = true := by
  rw [conformsV_eq_K]
  decide +kernel

/-- (C01) the round trip of the conforming response keeps `height`: with the fix the sibling `...HG` is not dropped
    (members in struct order: `HG`, then `HF`).  Before the fix the statement was the negative witness
    `variantspread_alias_drops_sibling` of DESIGN.md §10.3b. -/
theorem variantspread_alias_keeps_sibling :
    (match responseForQuery (vsCtx vsBad) 0 with
     | .ok items =>
       (match Serde.roundtrip (moduleEnv (vsCtx vsBad) items) (.path "ResponseData") vsJson with
        | .ok (.obj [("hero", .obj [("__typename", .str "Human"), ("height", .num "1.8"), ("name", .str "x")])]) => true
        | _ => false)
     | .error _ => false) = true := by decide +kernel

/-- (C03) a string under the `Float` key `height` is rejected; before the fix it was accepted, `height` not being
    read at all -/
theorem variantspread_alias_rejects_wrong_kind :
    (match responseForQuery (vsCtx vsBad) 0 with
     | .ok items =>
       !okB (Serde.de (moduleEnv (vsCtx vsBad) items) (.path "ResponseData")
         (.obj [("hero", .obj [("__typename", .str "Human"), ("name", .str "x"), ("height", .str "tall")])]))
     | .error _ => false) = true := by decide +kernel

/-! ## shapes the fix leaves as they were, on the model

`moduleEnv c items` takes of `c` only the schema's scalars and `scalarsModule` (`customExterns`), the same for every
`vsCtx sels`: `moduleEnv (vsCtx []) items` is the environment of the context the module was generated with. -/

/-- `hero { __typename ...HF }`: the variant payload is the alias `type QheroOnHuman = HF`; round trip exact -/
example :
    (match responseForQuery (vsCtx [.typename, .spread 0]) 0 with
     | .ok items =>
       (match (moduleEnv (vsCtx []) items).find "QheroOnHuman" with
        | some (.alias _ _ (.path "HF")) => true
        | _ => false) &&
       (match Serde.roundtrip (moduleEnv (vsCtx []) items) (.path "ResponseData")
          (.obj [("hero", .obj [("__typename", .str "Human"), ("name", .str "x")])]) with
        | .ok (.obj [("hero", .obj [("__typename", .str "Human"), ("name", .str "x")])]) => true
        | _ => false)
     | .error _ => false) = true := by decide +kernel

/-- `hero { __typename ...HF ...HG }`: the variant struct has two flattened members; round trip exact; a wrong scalar
    kind under `height` is rejected -/
example :
    (match responseForQuery (vsCtx [.typename, .spread 0, .spread 1]) 0 with
     | .ok items =>
       (match (moduleEnv (vsCtx []) items).find "QheroOnHuman" with
        | some (.struct _ _ _ [f, g]) => f.flatten && g.flatten && f.ty == .path "HF" && g.ty == .path "HG"
        | _ => false) &&
       (match Serde.roundtrip (moduleEnv (vsCtx []) items) (.path "ResponseData")
          (.obj [("hero", .obj [("__typename", .str "Human"), ("name", .str "x"), ("height", .num "1.8")])]) with
        | .ok (.obj [("hero", .obj [("__typename", .str "Human"), ("name", .str "x"), ("height", .num "1.8")])]) => true
        | _ => false) &&
       !okB (Serde.de (moduleEnv (vsCtx []) items) (.path "ResponseData")
          (.obj [("hero", .obj [("__typename", .str "Human"), ("name", .str "x"), ("height", .str "tall")])]))
     | .error _ => false) = true := by decide +kernel

/-- `hero { __typename ...CF }` (`CF` on the interface itself): `Qhero { #[flatten] CF: CF, #[flatten] on: QheroOn }`,
    `CF { name, #[flatten] on: CFOn }`; both tagged enums read `__typename`; it is written once -/
example :
    (match responseForQuery (vsCtx [.typename, .spread 2]) 0 with
     | .ok items =>
       (match (moduleEnv (vsCtx []) items).find "Qhero" with
        | some (.struct _ _ _ [f, g]) => f.flatten && g.flatten && f.ty == .path "CF" && g.ty == .path "QheroOn"
        | _ => false) &&
       (match Serde.roundtrip (moduleEnv (vsCtx []) items) (.path "ResponseData")
          (.obj [("hero", .obj [("__typename", .str "Human"), ("name", .str "x")])]) with
        | .ok (.obj [("hero", .obj [("name", .str "x"), ("__typename", .str "Human")])]) => true
        | _ => false)
     | .error _ => false) = true := by decide +kernel

end E2E
end C01
end GqlVerif
