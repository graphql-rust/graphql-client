import GqlVerif.Props.C10
/-!
# C10 — the other half of "bijection": deserialize ∘ serialize on the values of the enum type

`Props/C10.lean` proves `serialize (deserialize s) = s` for all strings (so `deserialize` is injective).
This file proves the converse on the VALUES of the generated type, and says exactly where it stops:

* every value of the generated enum type (a declared variant, or `Other(s)` for any `s`) serializes
  (`serialize_total`): `Serialize` never fails;
* a declared variant survives a round trip through the wire: `deserialize (serialize v) = v`
  (`variant_roundtrip`), and so does `Other(s)` when `s` is not a schema value (`other_roundtrip`);
* the image of `deserialize` is exactly the set of *canonical* values — declared variants and
  `Other(s)` with `s` not a schema value (`deserialize_canonical`, `canonical_iff_image`) — and the two
  functions are mutually inverse between all strings and the canonical values (`string_value_bijection`);
* the one non-canonical kind of value, `Other(w)` built BY HAND by the user with a schema value `w`,
  serializes to `w` and comes back as the variant (`handmade_other_collapses`): the property's
  "bijection" is between strings and what deserialization can produce, not all Rust values.
-/
namespace GqlVerif
namespace C10
open EnumSpec

/-- a value of the generated enum type: a declared variant or `Other(_)` -/
def isValue (vs : List String) : EVal → Prop
  | .variant ident => ident ∈ vs
  | .other _ => True

/-- canonical: what deserialization can produce -/
def canonical (vs : List String) (de : List (String × String)) : EVal → Prop
  | .variant ident => ident ∈ vs
  | .other s => s ∉ de.map (·.1)

theorem variant_has_arm {vs ser de} (h : tablesWf vs ser de = true) {ident : String} (hi : ident ∈ vs) :
    ∃ w, (w, ident) ∈ de := by
  obtain ⟨-, -, hvs, -⟩ := wf_parts h
  subst hvs
  obtain ⟨p, hp, rfl⟩ := List.mem_map.mp hi
  exact ⟨p.1, hp⟩

theorem serialize_total {vs ser de} (h : tablesWf vs ser de = true) (v : EVal) (hv : isValue vs v) :
    ∃ w, serE ser v = some w := by
  cases v with
  | other s => exact ⟨s, rfl⟩
  | variant ident =>
    obtain ⟨w, hw⟩ := variant_has_arm h hv
    exact ⟨w, (schema_value_own_variant h hw).2⟩

theorem variant_roundtrip {vs ser de} (h : tablesWf vs ser de = true) {ident w : String} (hi : ident ∈ vs)
    (hs : serE ser (.variant ident) = some w) : deE de w = .variant ident := by
  obtain ⟨w', hw'⟩ := variant_has_arm h hi
  have := schema_value_own_variant h hw'
  rw [this.2] at hs
  cases hs
  exact this.1

theorem other_roundtrip (ser de : List (String × String)) {s : String} (hs : s ∉ de.map (·.1)) :
    serE ser (.other s) = some s ∧ deE de s = .other s :=
  ⟨rfl, unknown_string_is_other de s hs⟩

theorem deserialize_canonical {vs ser de} (h : tablesWf vs ser de = true) (s : String) :
    canonical vs de (deE de s) := by
  obtain ⟨-, -, hvs, -⟩ := wf_parts h
  unfold deE
  cases hf : de.find? (·.1 == s) with
  | none =>
    simp only [canonical]
    intro hm
    obtain ⟨p, hp, rfl⟩ := List.mem_map.mp hm
    have := List.find?_eq_none.mp hf p hp
    simp at this
  | some p =>
    obtain ⟨w, ident⟩ := p
    simp only [canonical]
    subst hvs
    exact List.mem_map.mpr ⟨(w, ident), List.mem_of_find?_eq_some hf, rfl⟩

theorem canonical_roundtrip {vs ser de} (h : tablesWf vs ser de = true) (v : EVal) (hc : canonical vs de v) :
    ∃ w, serE ser v = some w ∧ deE de w = v := by
  cases v with
  | other s => exact ⟨s, rfl, unknown_string_is_other de s hc⟩
  | variant ident =>
    obtain ⟨w, hw⟩ := variant_has_arm h hc
    have := schema_value_own_variant h hw
    exact ⟨w, this.2, this.1⟩

theorem canonical_iff_image {vs ser de} (h : tablesWf vs ser de = true) (v : EVal) :
    canonical vs de v ↔ ∃ s, deE de s = v := by
  constructor
  · intro hc
    obtain ⟨w, -, hw⟩ := canonical_roundtrip h v hc
    exact ⟨w, hw⟩
  · rintro ⟨s, rfl⟩
    exact deserialize_canonical h s

/-- **strings ↔ canonical values**: `deserialize` and `serialize` are mutually inverse -/
theorem string_value_bijection {vs ser de} (h : tablesWf vs ser de = true) :
    (∀ s : String, canonical vs de (deE de s) ∧ serE ser (deE de s) = some s) ∧
    (∀ v : EVal, canonical vs de v → ∃ w, serE ser v = some w ∧ deE de w = v) :=
  ⟨fun s => ⟨deserialize_canonical h s, roundtrip_all_strings h s⟩, fun v hc => canonical_roundtrip h v hc⟩

/-- where the bijection stops: a hand-made `Other(w)` with a schema value `w` is a value of the type,
    is not canonical, serializes to `w`, and comes back as the variant -/
theorem handmade_other_collapses {vs ser de} (h : tablesWf vs ser de = true) {w ident : String}
    (hm : (w, ident) ∈ de) :
    isValue vs (.other w) ∧ ¬ canonical vs de (.other w) ∧ serE ser (.other w) = some w ∧
      deE de w = .variant ident ∧ deE de w ≠ .other w := by
  have := schema_value_own_variant h hm
  refine ⟨trivial, ?_, rfl, this.1, ?_⟩
  · simp only [canonical]
    exact fun hn => hn (List.mem_map.mpr ⟨(w, ident), hm, rfl⟩)
  · rw [this.1]; exact fun hh => by cases hh

-- non-vacuity on concrete tables (keyword-escaped and renamed variants)
example : let de := [("where", "where_"), ("self", "self_"), ("red", "Red")]
    deE de "red" = .variant "Red" ∧ deE de "Red" = .other "Red" ∧
    serE [("where_", "where"), ("self_", "self"), ("Red", "red")] (.other "red") = some "red" := by decide

end C10
end GqlVerif
