import GqlVerif.Proofs.C01VariantSpreadE
import GqlVerif.Proofs.C01VariantSpreadW

/-! `variantspread_roundtrip` on the modules of `C01VariantSpreadW`; the side condition `spreadRustOkD` and the fourth part of
`absOkS` (no field key has two readers) are needed. -/

namespace GqlVerif
namespace C01
namespace E2E
open Serde Spec C13 C03 Codegen

/-! ## the module with spreads of fragments on the interface itself (`bsSels` of `C01VariantSpreadW`) -/

theorem bs_rustD : spreadRustOkD (bsCtx bsSels) (wsOp bsSels) = true := by decide +kernel

set_option maxRecDepth 8000 in
theorem bs_canonD :
    normJson (canonSelD vxSchema (bsQuery bsSels) false (wsOp bsSels).sels bsJsonH) =
      .obj [("hero", .obj [("name", .str "x"), ("__typename", .str "Human"), ("height", .num "1.8"),
                           ("h2", .num "1.8"), ("buddy", .null)])] := by
  simp [canonSelD, canonEntriesD, canonFieldD, loneG, canonEntriesBD, canonVarD, onNamed, absEntries, absRest, hasStruct,
    isBSpread, isFieldSel, canonAbsV, canonEntriesV, canonFieldV, canonInlV, tagName, wsOp, bsQuery, bsSels, bsJsonH,
    vxSchema, objName, rtName, fieldKeys, fieldKey, Json.lookup, canon, canonNN, gtyOf, Json.isNull, skipQ,
    normJson, normKvs, Json.normObj, Json.insert]

/-- `variantspread_roundtrip` on the module with spreads of fragments on the interface itself: the fragments' entries at
    the positions of their spreads, `__typename` and `height` (selected through `CI`'s inline fragment only here) written once.
    `variantspread_b_roundtrip` of `C01VariantSpreadW` (there by evaluation) is this instance. -/
theorem bs_roundtripH :
    Serde.roundtrip (moduleEnv (bsCtx bsSels) bsItems) (.path "ResponseData") bsJsonH =
      .ok (.obj [("hero", .obj [("name", .str "x"), ("__typename", .str "Human"), ("height", .num "1.8"),
                                ("h2", .num "1.8"), ("buddy", .null)])]) := by
  rw [variantspread_roundtrip (bsCtx bsSels) 0 (wsOp bsSels) bsItems rfl bs_class bs_gen bs_ok bs_rustD bsJsonH
    bs_conformsH]
  exact congrArg Except.ok bs_canonD

/-! ## `variantspread_roundtrip` on the module `wsSels` of `C01VariantSpreadW` (part (a)) -/

theorem ws_rustD : spreadRustOkD (wsCtx wsSels) (wsOp wsSels) = true := by decide +kernel

set_option maxRecDepth 8000 in
/-- without spreads of fragments on the abstract type itself nothing is repeated: the same closed form as `ws_canonH` -/
theorem ws_canonD :
    normJson (canonSelD vxSchema (wsQuery wsSels) false (wsOp wsSels).sels wsJsonH) =
      .obj [("hero", .obj [("name", .str "x"), ("__typename", .str "Human"), ("h2", .num "1.8"), ("height", .num "1.8"),
                           ("buddy", .obj [("__typename", .str "Droid")])])] := by
  simp [canonSelD, canonEntriesD, canonFieldD, loneG, canonEntriesBD, canonVarD, onNamed,
    canonEntriesV, canonFieldV, canonInlV, tagName, wsOp, wsQuery, wsSels, wsJsonH,
    vxSchema, objName, rtName, Json.lookup, canon, canonNN, gtyOf, Json.isNull, skipQ,
    normJson, normKvs, Json.normObj, Json.insert]

example :
    Serde.roundtrip (moduleEnv (wsCtx wsSels) wsItems) (.path "ResponseData") wsJsonH =
      .ok (.obj [("hero", .obj [("name", .str "x"), ("__typename", .str "Human"), ("h2", .num "1.8"),
                                ("height", .num "1.8"), ("buddy", .obj [("__typename", .str "Droid")])])]) := by
  rw [variantspread_roundtrip (wsCtx wsSels) 0 (wsOp wsSels) wsItems rfl ws_class ws_gen ws_ok ws_rustD wsJsonH
    ws_conformsH]
  exact congrArg Except.ok ws_canonD

/-! ## `spreadRustOkD`: the part about the members for fragments on the abstract type itself is needed -/

/-- `fragment on on Character { name __typename }`, `query Q { hero { __typename ...on } }` (case functions: identity):
    the member for the fragment and the flattened tagged enum are both called `on` -/
def onQuery (sels : List Sel) : Query :=
  { operations := [{ name := "Q", kind := .query, objectId := 0, sels := [.field none 0 sels] }]
    fragments := [{ name := "on", on := .interface 0, sels := [.field none 1 [], .typename] }] }

def onCtx (sels : List Sel) : Ctx := { s := vxSchema, q := onQuery sels, o := {}, cs := ⟨id, id⟩ }

def onSels : List Sel := [.typename, .spread 0]

/-- the operation is in the class, `spreadRustOk` (which does not look at the members for fragments on the abstract type
    itself) holds, `spreadRustOkD` does not … -/
example : VariantSpreadOp (onCtx onSels) (wsOp onSels) = true ∧ spreadRustOk (onCtx onSels) (wsOp onSels) = true ∧
    spreadRustOkD (onCtx onSels) (wsOp onSels) = false := by
  refine ⟨by decide +kernel, by decide +kernel, by decide +kernel⟩

/-- … and `variantspread_roundtrip` fails: the module is generated and `moduleOk`, the response conforms and is accepted, but
    the struct `Qhero { on: on, on: QheroOn }` (which does not compile as Rust) cannot be written back in the model — the
    value found under the name `on` for the second member is the first member's -/
theorem variantspread_b_rust_names_needed :
    isOkO (responseForQuery (onCtx onSels) 0) = true ∧
    moduleOk (onCtx onSels) (okOr (responseForQuery (onCtx onSels) 0)) = true ∧
    conformsOpS (onCtx onSels) (wsOp onSels) wsJsonN = true ∧
    okB (Serde.roundtrip (moduleEnv (onCtx onSels) (okOr (responseForQuery (onCtx onSels) 0))) (.path "ResponseData")
      wsJsonN) = false := by
  refine ⟨by decide +kernel, by decide +kernel, ?_, by decide +kernel⟩
  rw [conformsOpS, conformsV_eq_K]
  decide +kernel

/-! ## "no field key has two readers" (fourth part of `absOkS`) is needed

The emitted types do not merge fields (known finding `C01-overlap`), and neither does the specification `conformsOpS`: a
key selected twice with different sub-selections is read by the first reader only, whose type drops what the other
sub-selection asked for. -/

/-- `fragment CI on Character { __typename ... on Human { buddy { __typename } } }`,
    `fragment CJ on Character { __typename ... on Human { buddy { __typename ... on Droid { primaryFunction } } } }` -/
def mgQuery (sels : List Sel) : Query :=
  { operations := [{ name := "Q", kind := .query, objectId := 0, sels := [.field none 0 sels] }]
    fragments := [{ name := "CI", on := .interface 0,
                    sels := [.typename, .inline (.object 1) [.field none 5 [.typename]]] },
                  { name := "CJ", on := .interface 0,
                    sels := [.typename, .inline (.object 1) [.field none 5 [.typename,
                      .inline (.object 2) [.field none 3 []]]]] }] }

def mgCtx (sels : List Sel) : Ctx := { s := vxSchema, q := mgQuery sels, o := {}, cs := ⟨id, id⟩ }

/-- `hero { __typename ...CJ ...CI }` -/
def mgSels : List Sel := [.typename, .spread 1, .spread 0]

/-- `hero { __typename ...CJ ... on Human { buddy { __typename } } }` -/
def mgSelsI : List Sel := [.typename, .spread 1, .inline (.object 1) [.field none 5 [.typename]]]

/-- **two fragments on the abstract type itself that select the same key** (`buddy`, with different sub-selections): the
    class excludes the operation — only by its fourth condition (for `Human` the key `buddy` has two readers); the module
    is generated, `moduleOk`, `spreadRustOkD`; the server's (merged) payload is not even described by the specification
    without field merging; and the emitted types **lose data**: `primaryFunction` is gone after the round trip (both members
    read `buddy`, each with its own type; both write it, and `serde_json::to_value` keeps the last value — that of `CI`.
    With the spreads in the order `...CI ...CJ` the value of `CJ` is kept) -/
theorem variantspread_b_merge_loses_fields :
    VariantSpreadOp (mgCtx mgSels) (wsOp mgSels) = false ∧
    EnumSpec.nodup (bKeys vxSchema (mgQuery mgSels) (.interface 0) (.object 1) mgSels ++
      varKeys vxSchema (mgQuery mgSels) (.object 1) mgSels) = false ∧
    isOkO (responseForQuery (mgCtx mgSels) 0) = true ∧
    moduleOk (mgCtx mgSels) (okOr (responseForQuery (mgCtx mgSels) 0)) = true ∧
    spreadRustOkD (mgCtx mgSels) (wsOp mgSels) = true ∧
    conformsOpS (mgCtx mgSels) (wsOp mgSels) mgJson = false ∧
    (match Serde.roundtrip (moduleEnv (mgCtx mgSels) (okOr (responseForQuery (mgCtx mgSels) 0))) (.path "ResponseData")
        mgJson with
     | .ok (.obj [("hero", .obj [("__typename", .str "Human"), ("buddy", .obj [("__typename", .str "Droid")])])]) => true
     | _ => false) = true := by
  refine ⟨by decide +kernel, by decide +kernel, by decide +kernel, by decide +kernel, by decide +kernel, ?_,
    by decide +kernel⟩
  rw [conformsOpS, conformsV_eq_K]
  decide +kernel

/-- **… and a fragment on the abstract type itself and an inline fragment that select the same key**: excluded by the
    same condition; the variant struct's own field `buddy` (without `primaryFunction`) is written last: the same loss -/
theorem variantspread_b_inline_merge_loses_fields :
    VariantSpreadOp (mgCtx mgSelsI) (wsOp mgSelsI) = false ∧
    EnumSpec.nodup (bKeys vxSchema (mgQuery mgSelsI) (.interface 0) (.object 1) mgSelsI ++
      varKeys vxSchema (mgQuery mgSelsI) (.object 1) mgSelsI) = false ∧
    isOkO (responseForQuery (mgCtx mgSelsI) 0) = true ∧
    moduleOk (mgCtx mgSelsI) (okOr (responseForQuery (mgCtx mgSelsI) 0)) = true ∧
    spreadRustOkD (mgCtx mgSelsI) (wsOp mgSelsI) = true ∧
    conformsOpS (mgCtx mgSelsI) (wsOp mgSelsI) mgJson = false ∧
    (match Serde.roundtrip (moduleEnv (mgCtx mgSelsI) (okOr (responseForQuery (mgCtx mgSelsI) 0))) (.path "ResponseData")
        mgJson with
     | .ok (.obj [("hero", .obj [("__typename", .str "Human"), ("buddy", .obj [("__typename", .str "Droid")])])]) => true
     | _ => false) = true := by
  refine ⟨by decide +kernel, by decide +kernel, by decide +kernel, by decide +kernel, by decide +kernel, ?_,
    by decide +kernel⟩
  rw [conformsOpS, conformsV_eq_K]
  decide +kernel

/-- `variantspread_roundtrip` on the concrete module: the variant struct writes the inline fragment's field and the
    fragments' fields in selection order -/
theorem ws_roundtripH :
    Serde.roundtrip (moduleEnv (wsCtx wsSels) wsItems) (.path "ResponseData") wsJsonH =
      .ok (canonSelS vxSchema (wsQuery wsSels) false (wsOp wsSels).sels wsJsonH) :=
  variantspread_roundtrip_partial (wsCtx wsSels) 0 (wsOp wsSels) wsItems rfl ws_class ws_nob ws_gen ws_ok ws_rust wsJsonH
    ws_conformsH

theorem ws_roundtripD :
    Serde.roundtrip (moduleEnv (wsCtx wsSels) wsItems) (.path "ResponseData") wsJsonD =
      .ok (canonSelS vxSchema (wsQuery wsSels) false (wsOp wsSels).sels wsJsonD) :=
  variantspread_roundtrip_partial (wsCtx wsSels) 0 (wsOp wsSels) wsItems rfl ws_class ws_nob ws_gen ws_ok ws_rust wsJsonD
    ws_conformsD

end E2E
end C01
end GqlVerif
