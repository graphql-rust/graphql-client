import GqlVerif.Proofs.C07PermCodegenE
import GqlVerif.Proofs.C07PermCodegenSerde
/-!
# C07 — type-order permutations: the generated code, and its wire behaviour (DESIGN.md §10.3c, row P31)

`codegen_iso_perm_wire` puts `C07P.codegen_iso_perm` (the code) and `C07P.moduleEqv_serde` (the wire) together: the modules generated from two abstract schemas that list the
definitions of each kind in different orders are pairwise `ModuleEqv`, and — for every choice of the externally
defined types, provided the module passes the decidable check `EnvOK` (distinct item names, distinguishable variants) —
they serialize every value identically and deserialize identically every JSON document that carries no integer
under a `__typename`-like tag key.
-/
namespace GqlVerif
namespace C07P
open Codegen C07

theorem allRel_imp {α β : Type} {Rel S : α → β → Prop} (hi : ∀ a b, Rel a b → S a b) {l : List α} {l' : List β}
    (h : AllRel Rel l l') : AllRel S l l' := by
  induction h with
  | nil => exact .nil
  | cons hx _ ih => exact .cons (hi _ _ hx) ih

/-- what `ModuleEqv` means on the wire -/
def SameWire (m m' : Module) : Prop :=
  ∀ externs : List (String × RTy), EnvOK { items := m.items, externs := externs } = true →
    (∀ t v, Serde.ser { items := m'.items, externs := externs } t v =
      Serde.ser { items := m.items, externs := externs } t v) ∧
    (∀ t j, good (tagsOf { items := m.items, externs := externs }) j = true →
      Serde.de { items := m'.items, externs := externs } t j =
        Serde.de { items := m.items, externs := externs } t j)

/-- **C07 for type-order permutations, code and wire** -/
theorem codegen_iso_perm_wire (a a' : AS) (hw : WfAS a) (hp : PermOf a a') (cs : CaseFns) (o : Options)
    (queryText : String) (doc : QDoc) (ms : List Module)
    (hms : Codegen.generate a.toSchema cs o queryText doc = .ok ms) :
    ∃ ms', Codegen.generate a'.toSchema cs o queryText doc = .ok ms' ∧
      AllRel (fun m m' => ModuleEqv m m' ∧ SameWire m m') ms ms' := by
  obtain ⟨ms', h1, h2⟩ := codegen_iso_perm a a' hw hp cs o queryText doc ms hms
  exact ⟨ms', h1, allRel_imp (fun m m' h => ⟨h, fun externs hok => moduleEqv_serde h externs hok⟩) h2⟩

end C07P
end GqlVerif
