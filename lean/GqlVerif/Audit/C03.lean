import GqlVerif.Props.C03
import GqlVerif.Proofs.C01EndToEnd
import GqlVerif.Proofs.C01AbstractI
import GqlVerif.Proofs.C01AbstractM
import GqlVerif.Proofs.C01RecursiveE
import GqlVerif.Proofs.C01RecursiveV
import GqlVerif.Proofs.C01Rust
import GqlVerif.Proofs.C01VariantSpread
import GqlVerif.Proofs.C01VariantSpreadG
import GqlVerif.Proofs.C01RustSpread
import GqlVerif.Proofs.C01DenyTreeClass
import GqlVerif.Proofs.C01DenyFragWitness
import GqlVerif.Proofs.C01MixedE
import GqlVerif.Proofs.C01MixedF
import GqlVerif.Proofs.C01MixedG
import GqlVerif.Proofs.ModuleOkInputsMore
import GqlVerif.Proofs.ModuleOkInputsClasses
import GqlVerif.Proofs.C01NestedW
import GqlVerif.Proofs.C01NestedAbsW
import GqlVerif.Proofs.C01AliasFragW
import GqlVerif.Proofs.C01NestedGenW
import GqlVerif.Proofs.C01NestedGenXW
import GqlVerif.Proofs.C01NestedBW
import GqlVerif.Proofs.C01EndToEndW
import GqlVerif.Proofs.C01AbstractW
import GqlVerif.Proofs.C01AbstractIW
import GqlVerif.Proofs.C01VariantSpreadW
import GqlVerif.Proofs.C01VariantSpreadEW
import GqlVerif.Proofs.C01VariantSpreadGW
import GqlVerif.Proofs.C01MixedW
open GqlVerif.C03
#print axioms ok_iff_accepts
#print axioms null_at_non_null_rejected
#print axioms non_list_rejected
#print axioms leaf_int
#print axioms leaf_float
#print axioms leaf_boolean
#print axioms leaf_string
#print axioms leaf_enum
#print axioms int_position
#print axioms string_position
#print axioms known_tag_own_variant
#print axioms unknown_tag_rejected
#print axioms unknown_tag_other
#print axioms missing_tag_rejected
#print axioms integer_tag_buffered_vs_direct
-- exact acceptance of the generated ResponseData for tree-shaped operations (Proofs/C01EndToEnd*.lean)
#print axioms GqlVerif.C01.E2E.tree_precise_iff
#print axioms GqlVerif.C01.E2E.tree_precise
#print axioms GqlVerif.C01.E2E.struct_accepts_iff
#print axioms GqlVerif.C01.E2E.array_at_object_position_accepted
#print axioms GqlVerif.C01.E2E.absent_nullable_key_accepted
-- exact acceptance at abstract positions and with fragments (Proofs/C01Abstract*.lean)
#print axioms GqlVerif.C01.E2E.variant_precise_iff
#print axioms GqlVerif.C01.E2E.variant_precise
#print axioms GqlVerif.C01.E2E.abs_tag_count
#print axioms GqlVerif.C01.E2E.abs_tag_kind
#print axioms GqlVerif.C01.E2E.abs_tag_unknown
#print axioms GqlVerif.C01.E2E.abs_tag_known
#print axioms GqlVerif.C01.E2E.abs_tag_selects
#print axioms GqlVerif.C01.E2E.abs_tag_int
#print axioms GqlVerif.C01.E2E.abs_tag_int_direct_rejected
#print axioms GqlVerif.C01.E2E.fragment_precise_iff
#print axioms GqlVerif.C01.E2E.fragment_precise
-- recursive fragments (Proofs/C01Recursive*.lean)
#print axioms GqlVerif.C01.E2E.recfragment_precise_iff
#print axioms GqlVerif.C01.E2E.recfragment_precise
#print axioms GqlVerif.C01.E2E.conformsLooseR_stable
-- under `normalization = rust` (Proofs/C01Rust.lean)
#print axioms GqlVerif.C01.E2E.transfer_okB
#print axioms GqlVerif.C01.E2E.tree_precise_iff_rust
#print axioms GqlVerif.C01.E2E.variant_precise_iff_rust
#print axioms GqlVerif.C01.E2E.fragment_precise_iff_rust
#print axioms GqlVerif.C01.E2E.recfragment_precise_iff_rust
-- named fragment spreads at abstract positions (Proofs/C01VariantSpread*.lean; `variantspread_alias_rejects_wrong_kind`: Proofs/C01RecursiveV.lean)
#print axioms GqlVerif.C01.E2E.variantspread_precise_iff
#print axioms GqlVerif.C01.E2E.variantspread_precise
#print axioms GqlVerif.C01.E2E.ws_precise
#print axioms GqlVerif.C01.E2E.bs_precise
#print axioms GqlVerif.C01.E2E.variantspread_alias_rejects_wrong_kind
-- exact acceptance for the extended classes (Proofs/C01VariantSpread{G,GW}.lean)
#print axioms GqlVerif.C01.E2E.variantspread2_precise_iff
#print axioms GqlVerif.C01.E2E.variantspread2_precise
#print axioms GqlVerif.C01.E2E.mi_precise
#print axioms GqlVerif.C01.E2E.ls_precise
#print axioms GqlVerif.C01.E2E.a2_precise
-- under normalization rust (Proofs/C01RustSpread.lean)
#print axioms GqlVerif.C01.E2E.variantspread_precise_iff_rust
#print axioms GqlVerif.C01.E2E.variantspread2_precise_iff_rust
-- exact acceptance under deny (Proofs/C01Deny*.lean)
#print axioms GqlVerif.C01.Deny.treeD_precise_iff
#print axioms GqlVerif.C01.Deny.treeD_precise_iff_erased
#print axioms GqlVerif.C01.Deny.treeR_precise_iff
#print axioms GqlVerif.C01.Deny.fragD_precise_iff
#print axioms GqlVerif.C01.Deny.wd_precise
#print axioms GqlVerif.C01.Deny.fd_precise
-- MixedOp / MixedOp2 (Proofs/C01Mixed*.lean, P38): exact acceptance
#print axioms GqlVerif.C01M.mixed_precise_iff
#print axioms GqlVerif.C01M.mixed_precise
#print axioms GqlVerif.C01M.mixed2_precise_iff
#print axioms GqlVerif.C01M.mx_precise
-- exact acceptance with the side condition on the INPUT (Proofs/ModuleOkInputs*.lean, P42)
#print axioms GqlVerif.MOK.moduleOk_iff_inputs
#print axioms GqlVerif.MOK.tree_precise_iff_inputs
#print axioms GqlVerif.MOK.variant_precise_iff_inputs
#print axioms GqlVerif.MOK.fragment_precise_iff_inputs
#print axioms GqlVerif.MOK.mixed_precise_iff_inputs
#print axioms GqlVerif.MOK.variantspread_precise_iff_inputs
#print axioms GqlVerif.MOK.recfragment_precise_iff_inputs
#print axioms GqlVerif.MOK.variantspread2_precise_iff_inputs
-- NestedOp (P45)
#print axioms GqlVerif.C01N.nested_precise_iff
#print axioms GqlVerif.C01N.nx_precise
#print axioms GqlVerif.C01N.nx2_precise
-- NestedAbsOp (P46)
#print axioms GqlVerif.C01NA.nestedabs_precise_iff
#print axioms GqlVerif.C01NA.na_precise
-- AliasFragOp (P48)
#print axioms GqlVerif.C01AF.aliasfrag_precise_iff
#print axioms GqlVerif.C01AF.af_precise
-- NestedGenOp / NestedGen2Op (P47)
#print axioms GqlVerif.C01NG.nestedgen_precise_iff
#print axioms GqlVerif.C01NG.ng_precise
#print axioms GqlVerif.C01NX.nestedgen2_precise_iff
-- NestedBOp (P49)
#print axioms GqlVerif.C01NB.nestedb_precise_iff
#print axioms GqlVerif.C01NB.nestedb_precise
#print axioms GqlVerif.C01NB.nb_precise
