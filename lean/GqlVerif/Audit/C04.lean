import GqlVerif.Props.C04
import GqlVerif.Proofs.C04Keys
import GqlVerif.Proofs.C04SurjectiveExamples
import GqlVerif.Proofs.C04SurjectiveSerValid
import GqlVerif.Proofs.C04RustExamples
import GqlVerif.Proofs.C04RustCoercionWitness
import GqlVerif.Proofs.C04DefaultsLit
import GqlVerif.Proofs.C04DefaultsWitness
import GqlVerif.Proofs.C04DefaultsRustWitness
open GqlVerif.C04
#print axioms GqlVerif.C01.ser_fields_iff
#print axioms variables_fields_are_declared
#print axioms variable_type_rule
#print axioms skip_none_step
#print axioms no_skip_step
#print axioms none_is_null
#print axioms oneof_single_key
#print axioms unit_variables_null
#print axioms unit_struct_is_null
#print axioms GqlVerif.C01.ser_keys_exact
#print axioms GqlVerif.C01.ser_keys_nodup
#print axioms GqlVerif.C01.ser_keys_all
#print axioms GqlVerif.C01.oneof_keys
-- key set of the serialized Variables struct, from the generator (Proofs/C04Keys.lean)
#print axioms GqlVerif.C04Keys.variablesItems_inv
#print axioms GqlVerif.C04Keys.variables_keys
#print axioms GqlVerif.C04Keys.variables_keys_exact
#print axioms GqlVerif.C04Keys.variables_keys_all_iff
#print axioms GqlVerif.C04Keys.variables_keys_any_value
#print axioms GqlVerif.C04Keys.variables_unit
#print axioms GqlVerif.C04Keys.variables_keys_of_assignment
#print axioms GqlVerif.C04Keys.distinct_names_needed
#print axioms GqlVerif.C04Keys.distinct_members_needed
-- every valid assignment is expressible; every value serializes to a valid assignment (Proofs/C04Surjective*.lean)
#print axioms GqlVerif.C04S.express_core
#print axioms GqlVerif.C04S.inputEnv_of_module
#print axioms GqlVerif.C04S.input_expressible
#print axioms GqlVerif.C04S.variables_expressible
#print axioms GqlVerif.C04S.no_variables_expressible
#print axioms GqlVerif.C04S.ser_valid
#print axioms GqlVerif.C04S.variables_ser_valid
#print axioms GqlVerif.C04S.int64_not_graphql_int
#print axioms GqlVerif.C04S.enum_other_not_declared
#print axioms GqlVerif.C04S.id_written_as_string
-- variables under normalization rust; GraphQL's single-value-to-list coercion (Proofs/C04Rust*.lean)
#print axioms GqlVerif.C04R.hasTy_rename
#print axioms GqlVerif.C04R.hasTy_rename_ser
#print axioms GqlVerif.C04R.hasTy_rename_back
#print axioms GqlVerif.C04R.variables_expressible_rust
#print axioms GqlVerif.C04R.variables_ser_valid_rust
#print axioms GqlVerif.C04R.no_variables_expressible_rust
#print axioms GqlVerif.C04R.variables_expressible_rust'
#print axioms GqlVerif.C04R.variables_ser_valid_rust'
#print axioms GqlVerif.C04R.rx_expressible
#print axioms GqlVerif.C04R.rx_differ
#print axioms GqlVerif.C04R.valid_validC
#print axioms GqlVerif.C04R.validC_coerce
#print axioms GqlVerif.C04R.coerce_of_valid
#print axioms GqlVerif.C04R.varsValid_coerce
#print axioms GqlVerif.C04R.valid_mod_coercion_expressible
#print axioms GqlVerif.C04R.valid_mod_coercion_expressible_rust
#print axioms GqlVerif.C04R.ser_list_is_list
#print axioms GqlVerif.C04R.ser_listTy_null_or_list
#print axioms GqlVerif.C04R.valid_list_shape
#print axioms GqlVerif.C04R.bare_value_not_expressible
#print axioms GqlVerif.C04R.bare_value_not_expressible_rust
#print axioms GqlVerif.C04R.coerced_not_expressible
#print axioms GqlVerif.C04R.cx_expressible
#print axioms GqlVerif.C04R.cx_expressible_rust
-- the literal expressions of the default_* constructors (Proofs/C04DefaultsLit.lean, about Model/DefaultLit.lean; compared with the emitted code on every run)
#print axioms GqlVerif.C04D.valueToLiteral_literalOk
#print axioms GqlVerif.C04D.valueToLiteral_ok_iff_literalOk
#print axioms GqlVerif.C04D.valueToLiteral_error_iff_literalOk
#print axioms GqlVerif.C04D.defaultBodies_names
#print axioms GqlVerif.C04D.defaultBodies_names_of_ok
-- the literal denotes the declared default at the declared type (Proofs/C04Defaults{Eval,Core,Module,Witness}.lean)
#print axioms GqlVerif.C04D.literal_core
#print axioms GqlVerif.C04D.default_typechecks
#print axioms GqlVerif.C04D.default_value_correct
#print axioms GqlVerif.C04D.default_body_mem
#print axioms GqlVerif.C04D.dx_typechecks
#print axioms GqlVerif.C04D.dx_value_correct
#print axioms GqlVerif.C04D.dx_run
#print axioms GqlVerif.C04D.nx_wrong_kind
#print axioms GqlVerif.C04D.nx_object_at_scalar
#print axioms GqlVerif.C04D.nx_enum
#print axioms GqlVerif.C04D.nx_missing_required
#print axioms GqlVerif.C04D.nx_oneOf
#print axioms GqlVerif.C04D.nx_unknown_field_dropped
#print axioms GqlVerif.C04D.null_default_panics
-- default literals under normalization rust (Proofs/C04DefaultsRust*.lean, P39)
#print axioms GqlVerif.C04DR.default_typechecks_rust
#print axioms GqlVerif.C04DR.default_value_correct_rust
#print axioms GqlVerif.C04DR.default_typechecks_rust'
#print axioms GqlVerif.C04DR.default_value_correct_rust'
#print axioms GqlVerif.C04DR.default_good_rust
#print axioms GqlVerif.C04DR.valueToLiteral_rename
#print axioms GqlVerif.C04DR.valueToLiteral_fail_alike
#print axioms GqlVerif.C04DR.evalLit_rename
#print axioms GqlVerif.C04DR.resolveTy_ren
#print axioms GqlVerif.C04DR.hasCompileError_rel
#print axioms GqlVerif.C04DR.enumOk_of_validC
#print axioms GqlVerif.C04DR.name_facts
#print axioms GqlVerif.C04DR.enum_facts
#print axioms GqlVerif.C04DR.variableType_tyRen
#print axioms GqlVerif.C04DR.dr_side
#print axioms GqlVerif.C04DR.dr_hyps
#print axioms GqlVerif.C04DR.dr_valid
#print axioms GqlVerif.C04DR.dr_bodies
#print axioms GqlVerif.C04DR.dr_typechecks
#print axioms GqlVerif.C04DR.dr_value_correct
#print axioms GqlVerif.C04DR.dr_run
#print axioms GqlVerif.C04DR.dr_expected
#print axioms GqlVerif.C04DR.dr_raw_names_fail
#print axioms GqlVerif.C04DR.wx_enum_idents
#print axioms GqlVerif.C04DR.wx_hyps
#print axioms GqlVerif.C04DR.wx_names
#print axioms GqlVerif.C04DR.wn_hyps
#print axioms GqlVerif.C04DR.nx_keyword_variant
