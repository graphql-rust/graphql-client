import GqlVerif.Props.C07
import GqlVerif.Proofs.C07Frontends
import GqlVerif.Proofs.C07ExtensionsCodegen
import GqlVerif.Proofs.C07Permutations
import GqlVerif.Proofs.C07PermCodegen
open GqlVerif.C07
#print axioms wrapped_equal
#print axioms absent_eq_null
#print axioms field_type_agree
#print axioms deprecation_agree
#print axioms deprecation_first_directive
#print axioms one_of_agree
#print axioms roots_agree
-- whole-schema agreement of the two front-ends (Proofs/C07Frontends.lean)
#print axioms sdl_spec
#print axioms intro_spec
#print axioms frontends_equal_of_renderings
#print axioms frontends_equal
#print axioms parseIntro_json
#print axioms frontends_equal_json
-- `extend type` blocks and type-order permutations (Proofs/C07Extensions*.lean, C07Permutations.lean; `sdl_spec_ext`: Proofs/C07Frontends.lean)
#print axioms sdl_spec_ext
#print axioms frontends_iso_ext_of_renderings
#print axioms frontends_iso_ext_json
#print axioms frontends_equal_ext_iff
#print axioms frontends_equal_ext
#print axioms resolve_iso
#print axioms codegen_respects_field_renumbering
#print axioms codegen_equal_ext_of_renderings
#print axioms codegen_equal_ext_json
#print axioms toSchema_perm
#print axioms frontends_iso_perm
#print axioms codegen_perm_eq_mapTypes
#print axioms GqlVerif.C07.idxOf_bijection
-- type-order permutations: generated modules equal up to the order of items and variants; the statement is `C07.CodegenIsoPermStatement` (Proofs/C07Permutations.lean), proved in Proofs/C07PermCodegen*.lean
#print axioms GqlVerif.C07P.codegen_iso_perm
#print axioms GqlVerif.C07P.codegen_iso_perm_iff
#print axioms GqlVerif.C07P.codegen_iso_perm_frontends
#print axioms GqlVerif.C07P.codegen_iso_perm_wire
#print axioms GqlVerif.C07P.codegen_perm_not_equal
#print axioms GqlVerif.C07P.resolve_tiso
#print axioms GqlVerif.C07P.codegen_tiso
#print axioms GqlVerif.C07P.itemsPerm_iff_itemsEqv
#print axioms GqlVerif.C07P.calc_rel
#print axioms GqlVerif.C07P.allUsedTypes_tiso
#print axioms GqlVerif.C07P.typeIso_mapTypes
#print axioms GqlVerif.C07P.closed_toSchema
#print axioms GqlVerif.C07P.itemsPerm_ser_eq
#print axioms GqlVerif.C07P.itemsPerm_de_eq
#print axioms GqlVerif.C07P.itemsPerm_roundtrip_eq
#print axioms GqlVerif.C07P.de_every_json_false
#print axioms GqlVerif.C07P.de_int_tag_differs
#print axioms GqlVerif.C07P.envOK_names_needed
#print axioms GqlVerif.C07P.envOK_variant_names_needed
#print axioms GqlVerif.C07P.envOK_wires_needed
#print axioms GqlVerif.C07P.envOK_other_needed
