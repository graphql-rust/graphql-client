import GqlVerif.Props.C17
import GqlVerif.Proofs.C02Closure
import GqlVerif.Proofs.C17Fuel
import GqlVerif.Proofs.C17FuelSpec
import GqlVerif.Proofs.SerdeFuelWitness
import GqlVerif.Proofs.SerdeFuelCodegen
import GqlVerif.Proofs.AcyclicModulesClasses
import GqlVerif.Proofs.ModuleOkInputsClasses
import GqlVerif.Proofs.C01NestedK
import GqlVerif.Proofs.C01NestedAbsE
import GqlVerif.Proofs.C01AliasFragK
import GqlVerif.Proofs.C01NestedGenE
import GqlVerif.Proofs.C01NestedGenXE
import GqlVerif.Proofs.C01NestedBE
open GqlVerif.C17
#print axioms search_guarded_eq
#print axioms search_guarded_total
#print axioms search_unguarded_diverges
#print axioms search_guarded_on_cycle
-- the fuel the model hands to the code-generation walks is never exhausted (Proofs/C02Closure.lean)
#print axioms GqlVerif.C02.walkFuel_sufficient
#print axioms GqlVerif.C02.responseItems_fuel_sufficient
#print axioms GqlVerif.C02.fragmentItems_fuel_sufficient
#print axioms GqlVerif.C02.responseForQuery_fuel
-- fuel independence, on the model's own functions: above the fuel the model passes the result no longer depends on the
-- fuel, so the fuel-0 defaults of these walks are never what a caller sees (Proofs/C17Fuel.lean, C17FuelSpec.lean)
#print axioms GqlVerif.C17F.containsTypenameAux_fuel_indep
#print axioms GqlVerif.C17F.depthFuel_eq_walkFuel
#print axioms GqlVerif.C17F.rootFieldCount_fuel_indep
#print axioms GqlVerif.C17F.rootFieldCount_fuel_indep_op
#print axioms GqlVerif.C17F.reachesFragment_fuel_indep
#print axioms GqlVerif.C17F.reachesFragment_fuel_indep_frag
#print axioms GqlVerif.C17F.fragmentIsRecursive_fuel_indep
#print axioms GqlVerif.C17F.collectSel_fuel_eq
#print axioms GqlVerif.C17F.collectSel_fuel_indep
#print axioms GqlVerif.C17F.collectSels_fuel_indep
#print axioms GqlVerif.C17F.allUsedTypes_fuel_indep
#print axioms GqlVerif.C17F.usedInputIds_fuel_indep
#print axioms GqlVerif.C17F.collectVar_fuel_indep
#print axioms GqlVerif.C17F.containsWithoutIndirection_fuel_indep
#print axioms GqlVerif.C17F.inputIsRecursive_fuel_indep
#print axioms GqlVerif.C17F.depth_hypothesis_needed
#print axioms GqlVerif.C17F.hasTypename_fuel_indep
#print axioms GqlVerif.C17F.rootKeys_mem_fuel_indep
#print axioms GqlVerif.C17F.subscription_rule_fuel_indep
#print axioms GqlVerif.C17F.validDef_subscription_fuel_indep
#print axioms GqlVerif.C17F.rootKeys_not_fuel_indep
-- the serde model's fuel: monotone, and never exhausted / irrelevant above what `de` / `ser` pass on acyclic environments with at most one Box per member (Proofs/SerdeFuel*.lean)
#print axioms GqlVerif.SerdeFuel.dePath_mono
#print axioms GqlVerif.SerdeFuel.deFlat_mono
#print axioms GqlVerif.SerdeFuel.deTy_mono
#print axioms GqlVerif.SerdeFuel.serPath_mono
#print axioms GqlVerif.SerdeFuel.serTy_mono
#print axioms GqlVerif.SerdeFuel.dePath_fuel_eq
#print axioms GqlVerif.SerdeFuel.deFlat_fuel_eq
#print axioms GqlVerif.SerdeFuel.deTy_fuel_eq
#print axioms GqlVerif.SerdeFuel.serPath_fuel_eq
#print axioms GqlVerif.SerdeFuel.serTy_fuel_eq
#print axioms GqlVerif.SerdeFuel.deTy_fuel_indep
#print axioms GqlVerif.SerdeFuel.dePath_fuel_indep
#print axioms GqlVerif.SerdeFuel.deFlat_fuel_indep
#print axioms GqlVerif.SerdeFuel.de_fuel_indep
#print axioms GqlVerif.SerdeFuel.de_never_out_of_fuel
#print axioms GqlVerif.SerdeFuel.serTy_fuel_indep
#print axioms GqlVerif.SerdeFuel.ser_fuel_indep
#print axioms GqlVerif.SerdeFuel.ser_never_out_of_fuel
#print axioms GqlVerif.SerdeFuel.roundtrip_fuel_indep
#print axioms GqlVerif.SerdeFuel.roundtrip_never_out_of_fuel
#print axioms GqlVerif.SerdeFuel.de_stable
#print axioms GqlVerif.SerdeFuel.ser_stable
#print axioms GqlVerif.SerdeFuel.envOK_of_check
#print axioms GqlVerif.SerdeFuel.envOK_of_acyclic
#print axioms GqlVerif.SerdeFuel.envOKS_of_acyclic
#print axioms GqlVerif.SerdeFuel.responseForQuery_boxBound
#print axioms GqlVerif.SerdeFuel.module_boxBound
#print axioms GqlVerif.SerdeFuel.module_envOK_of_acyclic
#print axioms GqlVerif.SerdeFuel.module_envOK_of_check
#print axioms GqlVerif.SerdeFuel.generated_module_fuel_exhausted
#print axioms GqlVerif.SerdeFuel.generated_module_read
#print axioms GqlVerif.SerdeFuel.generated_module_never_out_of_fuel
#print axioms GqlVerif.SerdeFuel.box_fuel_matters
#print axioms GqlVerif.SerdeFuel.alias_cycle_always_out_of_fuel
#print axioms GqlVerif.SerdeFuel.spread_cycle_module_not_acyclic
#print axioms GqlVerif.SerdeFuel.e2e_example_modules_ok
#print axioms GqlVerif.SerdeFuel.e2e_example_modules_acyclic
-- Acyclic (moduleEnv …) from the document: same-level spread graph acyclic; no per-module check for the end-to-end classes (Proofs/AcyclicModules*.lean)
#print axioms GqlVerif.AcyclicM.calc_jumps
#print axioms GqlVerif.AcyclicM.used_fragments_reachable
#print axioms GqlVerif.AcyclicM.modFacts
#print axioms GqlVerif.AcyclicM.acyclic_of_facts
#print axioms GqlVerif.AcyclicM.module_acyclic_of_reachRanked
#print axioms GqlVerif.AcyclicM.graphCheck_iff
#print axioms GqlVerif.AcyclicM.sameLevelCheck_iff
#print axioms GqlVerif.AcyclicM.spreadCheck_iff
#print axioms GqlVerif.AcyclicM.module_acyclic
#print axioms GqlVerif.AcyclicM.module_acyclic'
#print axioms GqlVerif.AcyclicM.module_envOK
#print axioms GqlVerif.AcyclicM.module_de_never_out_of_fuel
#print axioms GqlVerif.AcyclicM.module_de_fuel_indep
#print axioms GqlVerif.AcyclicM.module_ser_never_out_of_fuel
#print axioms GqlVerif.AcyclicM.module_roundtrip_never_out_of_fuel
#print axioms GqlVerif.AcyclicM.module_denied_key_ignored
#print axioms GqlVerif.AcyclicM.treeOp_reachRanked
#print axioms GqlVerif.AcyclicM.variantOp_reachRanked
#print axioms GqlVerif.AcyclicM.fragmentOp_reachRanked
#print axioms GqlVerif.AcyclicM.recFragmentOp_reachRanked
#print axioms GqlVerif.AcyclicM.class_module_acyclic
#print axioms GqlVerif.AcyclicM.class_module_envOK
#print axioms GqlVerif.AcyclicM.class_de_never_out_of_fuel
#print axioms GqlVerif.AcyclicM.class_de_fuel_indep
#print axioms GqlVerif.AcyclicM.class_roundtrip_never_out_of_fuel
#print axioms GqlVerif.AcyclicM.spread_cycle_not_sameLevelAcyclic
#print axioms GqlVerif.AcyclicM.gCtx_sameLevelRanked
#print axioms GqlVerif.AcyclicM.mix_spreadAcyclic_only
-- the class theorems with the remaining hypothesis on the INPUT (docs/REVIEW_3.md finding 3; Proofs/ModuleOkInputs.lean, ModuleOkInputsClasses.lean, P42)
#print axioms GqlVerif.MOK.moduleOk_iff_inputs
#print axioms GqlVerif.MOK.reviewer_counterexample
#print axioms GqlVerif.MOK.class_module_envOK_inputs
#print axioms GqlVerif.MOK.class_de_never_out_of_fuel_inputs
#print axioms GqlVerif.MOK.class_de_fuel_indep_inputs
#print axioms GqlVerif.MOK.class_roundtrip_never_out_of_fuel_inputs
-- NestedOp: the module environment is acyclic, from the class alone (P45)
#print axioms GqlVerif.C01N.nested_reachRanked
#print axioms GqlVerif.C01N.nested_module_envOK
-- NestedAbsOp (P46)
#print axioms GqlVerif.C01NA.nestedabs_module_envOK
-- AliasFragOp (P48)
#print axioms GqlVerif.C01AF.aliasfrag_module_envOK
-- NestedGenOp / NestedGen2Op (P47)
#print axioms GqlVerif.C01NG.nestedgen_module_envOK
#print axioms GqlVerif.C01NX.nestedgen2_module_envOK
-- NestedBOp (P49)
#print axioms GqlVerif.C01NB.nestedb_module_envOK
