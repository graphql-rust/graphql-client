import GqlVerif.Props.C01
import GqlVerif.Proofs.C01EndToEnd
import GqlVerif.Proofs.C01AbstractI
import GqlVerif.Proofs.C01AbstractM
import GqlVerif.Proofs.C01RecursiveE
import GqlVerif.Proofs.C01RecursiveV
import GqlVerif.Proofs.C01Rust
import GqlVerif.Proofs.C01VariantSpread
import GqlVerif.Proofs.C01VariantSpreadE
import GqlVerif.Proofs.C01VariantSpreadG
import GqlVerif.Proofs.C01RustSpread
import GqlVerif.Proofs.C01DenyTreeClass
import GqlVerif.Proofs.C01DenyFragWitness
import GqlVerif.Proofs.C01MixedE
import GqlVerif.Proofs.C01MixedF
import GqlVerif.Proofs.C01MixedG
import GqlVerif.Proofs.ModuleOkInputsMore
import GqlVerif.Proofs.ModuleOkInputsClasses
import GqlVerif.Proofs.C01MixedContentW
import GqlVerif.Proofs.C01MixedContentSkip
import GqlVerif.Proofs.C01NestedW
import GqlVerif.Proofs.C01NestedL
import GqlVerif.Proofs.C01NestedAbsW
import GqlVerif.Proofs.C01NestedAbsJ
import GqlVerif.Proofs.C01AliasFragW
import GqlVerif.Proofs.C01AliasFragJ
import GqlVerif.Proofs.C01NestedGenW
import GqlVerif.Proofs.C01NestedGenJ
import GqlVerif.Proofs.C01NestedGenXW
import GqlVerif.Proofs.C01NestedGenXJ
import GqlVerif.Proofs.C01NestedRich
import GqlVerif.Proofs.C01NestedBW
import GqlVerif.Proofs.C01NestedBJ
import GqlVerif.Proofs.C01EndToEndW
import GqlVerif.Proofs.C01AbstractW
import GqlVerif.Proofs.C01AbstractIW
import GqlVerif.Proofs.C01VariantSpreadW
import GqlVerif.Proofs.C01VariantSpreadEW
import GqlVerif.Proofs.C01VariantSpreadGW
import GqlVerif.Proofs.C01MixedW
open GqlVerif.C01
#print axioms accepts_mono
#print axioms conforming_int_accepted
#print axioms conforming_string_accepted
#print axioms conforming_id_accepted
#print axioms int_roundtrip_leaf
#print axioms string_roundtrip_leaf
#print axioms id_canonical_leaf
#print axioms leaf_roundtrip
#print axioms leaf_lossless
#print axioms int_position_rt
#print axioms string_position_rt
#print axioms enum_position_rt
#print axioms id_field_roundtrip
#print axioms struct_accepts
#print axioms struct_roundtrip
#print axioms struct_roundtrip_lookup
#print axioms struct_roundtrip_keys
#print axioms unknown_keys_ignored
#print axioms struct_roundtrip_path
#print axioms struct_position_roundtrip
#print axioms tagged_read
#print axioms tagged_roundtrip
#print axioms flatten_eq
#print axioms flatten_take_roundtrip
#print axioms flatten_roundtrip
#print axioms overlap_loses_key
#print axioms overlap_loses_key_silently
#print axioms disjoint_control
-- end to end from the code generator, for tree-shaped operations (Proofs/C01EndToEnd*.lean)
#print axioms GqlVerif.C01.E2E.tree_items_shape
#print axioms GqlVerif.C01.E2E.tree_module_shape
#print axioms GqlVerif.C01.E2E.fieldOf_shape
#print axioms GqlVerif.C01.E2E.tree_accepts
#print axioms GqlVerif.C01.E2E.tree_lossless
#print axioms GqlVerif.C01.E2E.tree_roundtrip
-- abstract positions (interfaces / unions with inline fragments) and named fragments (Proofs/C01Abstract*.lean)
#print axioms GqlVerif.C01.E2E.variant_items_shape
#print axioms GqlVerif.C01.E2E.variant_accepts
#print axioms GqlVerif.C01.E2E.variant_lossless
#print axioms GqlVerif.C01.E2E.variant_roundtrip
#print axioms GqlVerif.C01.E2E.fragment_items_shape
#print axioms GqlVerif.C01.E2E.fragment_struct_shape
#print axioms GqlVerif.C01.E2E.fragment_accepts
#print axioms GqlVerif.C01.E2E.fragment_lossless
#print axioms GqlVerif.C01.E2E.fragment_roundtrip
#print axioms GqlVerif.C01.E2E.fragment_overlap_loses_key
#print axioms GqlVerif.C01.E2E.variantOp_of_treeOp
#print axioms GqlVerif.C01.E2E.fragmentOp_of_variantOp
-- recursive fragments (Box) and spreads inside fragment bodies (Proofs/C01Recursive*.lean)
#print axioms GqlVerif.C01.E2E.recfragment_items_shape
#print axioms GqlVerif.C01.E2E.recfragment_struct_shape
#print axioms GqlVerif.C01.E2E.recfragment_accepts
#print axioms GqlVerif.C01.E2E.recfragment_lossless
#print axioms GqlVerif.C01.E2E.recfragment_roundtrip
#print axioms GqlVerif.C01.E2E.canonR_stable
-- the same end-to-end statements for a context with `normalization = rust`, by transfer (Proofs/C01Rust.lean)
#print axioms GqlVerif.C01.E2E.transfer_accepts
#print axioms GqlVerif.C01.E2E.transfer_roundtrip
#print axioms GqlVerif.C01.E2E.tree_accepts_rust
#print axioms GqlVerif.C01.E2E.tree_lossless_rust
#print axioms GqlVerif.C01.E2E.variant_accepts_rust
#print axioms GqlVerif.C01.E2E.variant_lossless_rust
#print axioms GqlVerif.C01.E2E.fragment_accepts_rust
#print axioms GqlVerif.C01.E2E.fragment_lossless_rust
#print axioms GqlVerif.C01.E2E.recfragment_accepts_rust
#print axioms GqlVerif.C01.E2E.recfragment_lossless_rust
-- the defect repaired by 78c01b5, as a positive statement on the repaired model (Proofs/C01RecursiveV.lean)
#print axioms GqlVerif.C01.E2E.variantspread_alias_keeps_sibling
-- named fragment spreads at abstract positions (Proofs/C01VariantSpread*.lean)
#print axioms GqlVerif.C01.E2E.variantSpreadOp_of_variantOp
#print axioms GqlVerif.C01.E2E.variantspread_items_shape
#print axioms GqlVerif.C01.E2E.variantspread_module_shape
#print axioms GqlVerif.C01.E2E.variantspread_accepts
#print axioms GqlVerif.C01.E2E.variantspread_lossless_partial
#print axioms GqlVerif.C01.E2E.variantspread_roundtrip_partial
#print axioms GqlVerif.C01.E2E.variantspread_b_roundtrip
#print axioms GqlVerif.C01.E2E.variantspread_overlap_interface_loses_key
#print axioms GqlVerif.C01.E2E.variantspread_overlap_variant_loses_key
#print axioms GqlVerif.C01.E2E.variantspread_b_overlap_loses_key
#print axioms GqlVerif.C01.E2E.ws_items_shape
#print axioms GqlVerif.C01.E2E.ws_roundtripH
#print axioms GqlVerif.C01.E2E.bs_items_shape
-- lossless for the whole class VariantSpreadOp, (a) and (b) spreads (Proofs/C01VariantSpreadD.lean, E.lean, EW.lean; `rtAbsV_w`: Proofs/C01AbstractC.lean)
#print axioms GqlVerif.C01.E2E.variantspread_lossless
#print axioms GqlVerif.C01.E2E.variantspread_roundtrip
#print axioms GqlVerif.C01.E2E.variantspread_roundtrip_noB
#print axioms GqlVerif.C01.E2E.canonSelD_noB
#print axioms GqlVerif.C01.E2E.deStruct_borrow_finds
#print axioms GqlVerif.C01.E2E.rtAbsV_w
#print axioms GqlVerif.C01.E2E.rtAbsD
#print axioms GqlVerif.C01.E2E.bs_roundtripH
#print axioms GqlVerif.C01.E2E.variantspread_b_rust_names_needed
-- class tightened after the independent review (no key with two readers at an abstract position), content theorem, class extensions (Proofs/C01VariantSpread{A,EW,F,G,GW,H}.lean)
#print axioms GqlVerif.C01.E2E.absOkS_disjoint
#print axioms GqlVerif.C01.E2E.variantspread_b_merge_loses_fields
#print axioms GqlVerif.C01.E2E.variantspread_b_inline_merge_loses_fields
#print axioms GqlVerif.C01.E2E.variantspread_content
#print axioms GqlVerif.C01.E2E.variantspread_roundtrip_content
#print axioms GqlVerif.C01.E2E.merge_loss_not_sameContent
#print axioms GqlVerif.C01.E2E.mi_items_shape
#print axioms GqlVerif.C01.E2E.mi_roundtrip
#print axioms GqlVerif.C01.E2E.variantspread_two_inline_overlap_dup_field
#print axioms GqlVerif.C01.E2E.ls_items_shape
#print axioms GqlVerif.C01.E2E.ls_roundtrip
#print axioms GqlVerif.C01.E2E.variantspread_lone_possible_type_rejects
#print axioms GqlVerif.C01.E2E.variantSpreadOp2_of_variantSpreadOp
#print axioms GqlVerif.C01.E2E.variantspread2_items_shape
#print axioms GqlVerif.C01.E2E.conformsV_norm
#print axioms GqlVerif.C01.E2E.variantspread2_accepts
#print axioms GqlVerif.C01.E2E.variantspread2_lossless
#print axioms GqlVerif.C01.E2E.variantspread2_roundtrip
#print axioms GqlVerif.C01.E2E.variantspread2_content
#print axioms GqlVerif.C01.E2E.variantspread2_roundtrip_content
#print axioms GqlVerif.C01.E2E.a2_items_shape
#print axioms GqlVerif.C01.E2E.a2_roundtripH
#print axioms GqlVerif.C01.E2E.variantspread2_alias_keeps_sibling
#print axioms GqlVerif.C01.E2E.variantspread2_alias_type_needed
#print axioms GqlVerif.C01.E2E.variantspread2_edge_needed
-- VariantSpreadOp / VariantSpreadOp2 under normalization rust, by transfer (Proofs/C01RustSpread.lean)
#print axioms GqlVerif.C01.E2E.variantspread_accepts_rust
#print axioms GqlVerif.C01.E2E.variantspread_roundtrip_rust
#print axioms GqlVerif.C01.E2E.variantspread_lossless_rust
#print axioms GqlVerif.C01.E2E.variantspread_content_rust
#print axioms GqlVerif.C01.E2E.variantspread_roundtrip_noB_rust
#print axioms GqlVerif.C01.E2E.variantspread2_accepts_rust
#print axioms GqlVerif.C01.E2E.variantspread2_roundtrip_rust
#print axioms GqlVerif.C01.E2E.variantspread2_lossless_rust
#print axioms GqlVerif.C01.E2E.variantspread2_content_rust
#print axioms GqlVerif.C01.E2E.ns_roundtrip_rust
#print axioms GqlVerif.C01.E2E.ns2_roundtrip_rust
#print axioms GqlVerif.C01.E2E.ns_items_differ
-- the end-to-end theorems under deny: a denied field is omitted from the types while the server still sends it (Proofs/C01Deny*.lean)
#print axioms GqlVerif.C01.Deny.topEnvD_of_module
#print axioms GqlVerif.C01.Deny.treeD_accepts
#print axioms GqlVerif.C01.Deny.treeD_lossless
#print axioms GqlVerif.C01.Deny.treeD_roundtrip
#print axioms GqlVerif.C01.Deny.treeD_roundtrip_of_erased
#print axioms GqlVerif.C01.Deny.treeOpR_unfold
#print axioms GqlVerif.C01.Deny.treeOpR_of_treeOp
#print axioms GqlVerif.C01.Deny.treeR_accepts
#print axioms GqlVerif.C01.Deny.treeR_lossless
#print axioms GqlVerif.C01.Deny.treeR_roundtrip
#print axioms GqlVerif.C01.Deny.fragD_accepts
#print axioms GqlVerif.C01.Deny.fragD_lossless
#print axioms GqlVerif.C01.Deny.fragD_roundtrip
#print axioms GqlVerif.C01.Deny.fragOpD_envOK
#print axioms GqlVerif.C01.Deny.wd_roundtrip
#print axioms GqlVerif.C01.Deny.wd_roundtrip_dirty
#print axioms GqlVerif.C01.Deny.fd_roundtrip
#print axioms GqlVerif.C01.Deny.lone_spread_matters
#print axioms GqlVerif.C01.Deny.sibling_key_covered
#print axioms GqlVerif.C01.Deny.tn_condition_artifact
-- MixedOp / MixedOp2: spreads at object positions AND at abstract positions of one operation (Proofs/C01Mixed*.lean, P38)
#print axioms GqlVerif.C01M.mixed_items_shape
#print axioms GqlVerif.C01M.mixed_accepts
#print axioms GqlVerif.C01M.mixed_lossless
#print axioms GqlVerif.C01M.mixed_roundtrip
#print axioms GqlVerif.C01M.mixedOp_of_fragmentOp
#print axioms GqlVerif.C01M.mixedOp_of_variantSpreadOp
#print axioms GqlVerif.C01M.mixedKeysOk_of_fragKeysOk
#print axioms GqlVerif.C01M.mixedKeysOk_of_variantSpreadOp
#print axioms GqlVerif.C01M.mixedRustOk_of_fragRustOk
#print axioms GqlVerif.C01M.mixedRustOk_of_spreadRustOkD
#print axioms GqlVerif.C01M.conformsOpM_eq_F
#print axioms GqlVerif.C01M.conformsOpM_eq_S
#print axioms GqlVerif.C01M.bodyItemsM_eq_F
#print axioms GqlVerif.C01M.bodyItemsM_eq_S
#print axioms GqlVerif.C01M.canonSelM_eq_F
#print axioms GqlVerif.C01M.canonSelM_eq_D
#print axioms GqlVerif.C01M.mixed_roundtrip_on_S
#print axioms GqlVerif.C01M.mixed_roundtrip_on_F'
#print axioms GqlVerif.C01M.mx_not_F
#print axioms GqlVerif.C01M.mx_not_S
#print axioms GqlVerif.C01M.mx_class
#print axioms GqlVerif.C01M.mx_items_shape
#print axioms GqlVerif.C01M.mx_acceptsCat
#print axioms GqlVerif.C01M.mx_roundtrip
#print axioms GqlVerif.C01M.mx2_roundtrip
#print axioms GqlVerif.C01M.mixed2_items_shape
#print axioms GqlVerif.C01M.mixed2_accepts
#print axioms GqlVerif.C01M.mixed2_lossless
#print axioms GqlVerif.C01M.mixed2_roundtrip
#print axioms GqlVerif.C01M.mixedOp2_of_mixedOp
#print axioms GqlVerif.C01M.mixedOp2_of_variantSpreadOp2
#print axioms GqlVerif.C01M.ex_not_F
#print axioms GqlVerif.C01M.ex_not_S
#print axioms GqlVerif.C01M.ex_not_S2
#print axioms GqlVerif.C01M.ex_not_M
#print axioms GqlVerif.C01M.ex_roundtrip
#print axioms GqlVerif.C01M.mixed_keys_needed
#print axioms GqlVerif.C01M.mixed_rust_needed
#print axioms GqlVerif.C01M.mixed2_oi_needed
-- moduleOk, the side condition of every end-to-end theorem, as a decidable predicate on the INPUT (Proofs/ModuleOkInputs*.lean, P42)
#print axioms GqlVerif.MOK.enumItem_tablesWf_iff
#print axioms GqlVerif.MOK.module_item_names
#print axioms GqlVerif.MOK.moduleOk_iff_inputs
#print axioms GqlVerif.MOK.moduleOk_of_inputs
#print axioms GqlVerif.MOK.moduleOk_eq_inputs
#print axioms GqlVerif.MOK.moduleOkIn_iff
#print axioms GqlVerif.MOK.moduleOkIn_noClash
#print axioms GqlVerif.MOK.with_inputs
#print axioms GqlVerif.MOK.reviewer_counterexample
#print axioms GqlVerif.MOK.reviewer_counterexample_output
#print axioms GqlVerif.MOK.ex_in
#print axioms GqlVerif.MOK.px_class
#print axioms GqlVerif.MOK.px_in
#print axioms GqlVerif.MOK.px_roundtrip
#print axioms GqlVerif.MOK.tree_roundtrip_inputs
#print axioms GqlVerif.MOK.tree_accepts_inputs
#print axioms GqlVerif.MOK.variant_roundtrip_inputs
#print axioms GqlVerif.MOK.fragment_roundtrip_inputs
#print axioms GqlVerif.MOK.mixed_roundtrip_inputs
#print axioms GqlVerif.MOK.variantspread_roundtrip_inputs
#print axioms GqlVerif.MOK.variantspread_roundtrip_content_inputs
#print axioms GqlVerif.MOK.mixed_roundtrip_on_F_inputs
#print axioms GqlVerif.MOK.recfragment_roundtrip_inputs
#print axioms GqlVerif.MOK.variantspread2_roundtrip_inputs
#print axioms GqlVerif.MOK.treeD_roundtrip_inputs
#print axioms GqlVerif.MOK.treeD_roundtrip_of_erased_inputs
#print axioms GqlVerif.MOK.treeR_roundtrip_inputs
#print axioms GqlVerif.MOK.fragD_roundtrip_inputs
#print axioms GqlVerif.MOK.tree_roundtrip_rust_inputs
#print axioms GqlVerif.MOK.variant_roundtrip_rust_inputs
#print axioms GqlVerif.MOK.fragment_roundtrip_rust_inputs
#print axioms GqlVerif.MOK.recfragment_roundtrip_rust_inputs
#print axioms GqlVerif.MOK.variantspread_roundtrip_rust_inputs
#print axioms GqlVerif.MOK.variantspread2_roundtrip_rust_inputs
-- content theorem for MixedOp / MixedOp2 / FragmentOp (Proofs/C01MixedContent*.lean, P43)
#print axioms GqlVerif.C01M.bodyM_content
#print axioms GqlVerif.C01M.mixed_content
#print axioms GqlVerif.C01M.mixed_roundtrip_content
#print axioms GqlVerif.C01M.mixed2_content
#print axioms GqlVerif.C01M.mixed2_roundtrip_content
#print axioms GqlVerif.C01M.mixed_content_on_S
#print axioms GqlVerif.C01M.mixed_content_on_F
#print axioms GqlVerif.C01M.fragment_roundtrip_content
#print axioms GqlVerif.C01M.mx_roundtrip_content
#print axioms GqlVerif.C01M.mx_content
#print axioms GqlVerif.C01M.mx2_roundtrip_content
#print axioms GqlVerif.C01M.ex_roundtrip_content
#print axioms GqlVerif.C01M.ex_content
#print axioms GqlVerif.C01M.sameContent_mx_barks
#print axioms GqlVerif.C01M.mx_barks_survives
#print axioms GqlVerif.C01M.keys_loss_not_sameContent
#print axioms GqlVerif.C01M.k_roundtrip
#print axioms GqlVerif.C01M.mixed_keys_needed_content
#print axioms GqlVerif.C01M.oi_loss_not_sameContent
#print axioms GqlVerif.C01M.mixed2_oi_needed_content
#print axioms GqlVerif.C01M.sk_roundtrip_content
#print axioms GqlVerif.C01M.sk_roundtrip
#print axioms GqlVerif.C01M.sk_content
#print axioms GqlVerif.C01M.sk_not_content_noskip
-- NestedOp: fragment bodies that spread further fragments, to any depth, at object positions (Proofs/C01Nested*.lean, P45)
#print axioms GqlVerif.C01N.nested_items_shape
#print axioms GqlVerif.C01N.nested_fragment_shape
#print axioms GqlVerif.C01N.nestedOp_of_mixedOp
#print axioms GqlVerif.C01N.nested_accepts
#print axioms GqlVerif.C01N.nested_lossless
#print axioms GqlVerif.C01N.nested_roundtrip
#print axioms GqlVerif.C01N.canonSelN_eq_M
#print axioms GqlVerif.C01N.conformsOpN_eq_M
#print axioms GqlVerif.C01N.conformsLooseN_eq_M
#print axioms GqlVerif.C01N.nestedKeysOk_of_mixed
#print axioms GqlVerif.C01N.nestedRustOk_of_mixed
#print axioms GqlVerif.C01N.nested_roundtrip_on_M
#print axioms GqlVerif.C01N.okB_deStructMapN
#print axioms GqlVerif.C01N.deStructN_finds
#print axioms GqlVerif.C01N.nx_roundtrip
#print axioms GqlVerif.C01N.nx2_roundtrip
#print axioms GqlVerif.C01N.n3_roundtrip
#print axioms GqlVerif.C01N.nx2_accepts
#print axioms GqlVerif.C01N.nx2_items_shape
#print axioms GqlVerif.C01N.n3_items_shape
#print axioms GqlVerif.C01N.nested_keys_needed
#print axioms GqlVerif.C01N.nested_rust_needed
-- NestedAbsOp: nested fragments spread at abstract positions (Proofs/C01NestedAbs*.lean, P46)
#print axioms GqlVerif.C01NA.nestedabs_items_shape
#print axioms GqlVerif.C01NA.nestedabs_accepts
#print axioms GqlVerif.C01NA.nestedabs_lossless
#print axioms GqlVerif.C01NA.nestedabs_roundtrip
#print axioms GqlVerif.C01NA.nestedAbsOp_of_nestedOp
#print axioms GqlVerif.C01NA.bodyItemsA_eq_M
#print axioms GqlVerif.C01NA.conformsLooseA_eq_N
#print axioms GqlVerif.C01NA.canonSelA_eq_N
#print axioms GqlVerif.C01NA.nestedAbsKeysOk_eq_N
#print axioms GqlVerif.C01NA.nestedAbsSideOk_eq_N
#print axioms GqlVerif.C01NA.absTagOk_of_nestedOp
#print axioms GqlVerif.C01NA.nestedabs_roundtrip_on_nestedOp
#print axioms GqlVerif.C01NA.na_class
#print axioms GqlVerif.C01NA.na_not_N
#print axioms GqlVerif.C01NA.na_items_shape
#print axioms GqlVerif.C01NA.na_roundtrip
#print axioms GqlVerif.C01NA.na_roundtrip_eval
#print axioms GqlVerif.C01NA.na_roundtrip_cat
#print axioms GqlVerif.C01NA.na_accepts
#print axioms GqlVerif.C01NA.nc_items_shape
#print axioms GqlVerif.C01NA.nc_roundtrip
#print axioms GqlVerif.C01NA.nestedabs_tag_needed
#print axioms GqlVerif.C01NA.nestedabs_variant_keys_needed
-- AliasFragOp: fragments whose whole body is one spread (type aliases), themselves spread (Proofs/C01AliasFrag*.lean, P48)
#print axioms GqlVerif.C01AF.deFlat_chain
#print axioms GqlVerif.C01AF.dePath_chain
#print axioms GqlVerif.C01AF.serPath_chain
#print axioms GqlVerif.C01AF.memSpec_struct
#print axioms GqlVerif.C01AF.memSpec_chain
#print axioms GqlVerif.C01AF.okB_deStructMapA
#print axioms GqlVerif.C01AF.deStructA_finds
#print axioms GqlVerif.C01AF.aliasfrag_items_shape
#print axioms GqlVerif.C01AF.aliasfrag_fragment_shape
#print axioms GqlVerif.C01AF.aliasFragOp_of_nestedOp
#print axioms GqlVerif.C01AF.aliasfrag_accepts
#print axioms GqlVerif.C01AF.aliasfrag_lossless
#print axioms GqlVerif.C01AF.aliasfrag_roundtrip
#print axioms GqlVerif.C01AF.aliasKeysOk_eq_N
#print axioms GqlVerif.C01AF.aliasRustOk_eq_N
#print axioms GqlVerif.C01AF.aliasfrag_roundtrip_on_N
#print axioms GqlVerif.C01AF.alias_cycle_not_in_class
#print axioms GqlVerif.C01AF.af_class
#print axioms GqlVerif.C01AF.af_not_N
#print axioms GqlVerif.C01AF.af_items_shape
#print axioms GqlVerif.C01AF.af_accepts
#print axioms GqlVerif.C01AF.af_roundtrip
#print axioms GqlVerif.C01AF.aliasfrag_keys_needed
#print axioms GqlVerif.C01AF.aliasfrag_rust_needed
-- NestedGenOp / NestedGen2Op: nested fragments at abstract positions that also have interface-level fields / inline fragments with fields of their own (Proofs/C01NestedGen*.lean, P47)
#print axioms GqlVerif.C01NG.nestedgen_items_shape
#print axioms GqlVerif.C01NG.nestedgen_accepts
#print axioms GqlVerif.C01NG.nestedgen_lossless
#print axioms GqlVerif.C01NG.nestedgen_roundtrip
#print axioms GqlVerif.C01NG.nestedGenOp_of_nestedAbsOp
#print axioms GqlVerif.C01NG.bodyItemsA_eq_A
#print axioms GqlVerif.C01NG.conformsLooseA_eq_A
#print axioms GqlVerif.C01NG.canonSelA_eq_A
#print axioms GqlVerif.C01NG.nestedGenKeysOk_eq_A
#print axioms GqlVerif.C01NG.nestedGenSideOk_eq_A
#print axioms GqlVerif.C01NG.absTagOk_eq_A
#print axioms GqlVerif.C01NG.nestedgen_roundtrip_on_nestedAbsOp
#print axioms GqlVerif.C01NG.ng_class
#print axioms GqlVerif.C01NG.ng_not_A
#print axioms GqlVerif.C01NG.ng_items_shape
#print axioms GqlVerif.C01NG.ng_accepts
#print axioms GqlVerif.C01NG.ng_roundtrip_canon
#print axioms GqlVerif.C01NG.ng_roundtrip_eval
#print axioms GqlVerif.C01NG.ng_canon_value
#print axioms GqlVerif.C01NG.nestedgen_poskeys_needed
#print axioms GqlVerif.C01NX.nestedgen2_items_shape
#print axioms GqlVerif.C01NX.nestedgen2_accepts
#print axioms GqlVerif.C01NX.nestedgen2_lossless
#print axioms GqlVerif.C01NX.nestedgen2_roundtrip
#print axioms GqlVerif.C01NX.nestedGen2Op_of_nestedGenOp
#print axioms GqlVerif.C01NX.nestedGen2Op_of_nestedAbsOp
#print axioms GqlVerif.C01NX.bodyItemsA_eq_G
#print axioms GqlVerif.C01NX.conformsLooseA_eq_G
#print axioms GqlVerif.C01NX.canonSelA_eq_G
#print axioms GqlVerif.C01NX.nestedGen2KeysOk_eq_G
#print axioms GqlVerif.C01NX.nestedGen2SideOk_eq_G
#print axioms GqlVerif.C01NX.absTagOk_eq_G
#print axioms GqlVerif.C01NX.nestedgen2_roundtrip_on_nestedGenOp
#print axioms GqlVerif.C01NX.nestedgen2_roundtrip_on_nestedAbsOp
#print axioms GqlVerif.C01NX.nx_class
#print axioms GqlVerif.C01NX.nx_not_G
#print axioms GqlVerif.C01NX.nx_not_A
#print axioms GqlVerif.C01NX.nx_items_shape
#print axioms GqlVerif.C01NX.nx_accepts
#print axioms GqlVerif.C01NX.nx_roundtrip_canon
#print axioms GqlVerif.C01NX.nx_roundtrip_eval
#print axioms GqlVerif.C01NX.nx_canon_value
#print axioms GqlVerif.C01NX.nestedgen2_overlap_needed
-- instances cited in the text (docs/REVIEW_5.md findings 2, 3)
#print axioms GqlVerif.C01NA.nb_class
#print axioms GqlVerif.C01NA.nb_not_N
#print axioms GqlVerif.C01NA.nb_roundtrip
#print axioms GqlVerif.C01AF.af2_class
#print axioms GqlVerif.C01AF.af2_not_N
#print axioms GqlVerif.C01AF.af2_roundtrip
#print axioms GqlVerif.C01AF.af3_class
#print axioms GqlVerif.C01AF.af3_not_N
#print axioms GqlVerif.C01AF.af3_roundtrip
#print axioms GqlVerif.C01N.Rich.rich1_hyps
#print axioms GqlVerif.C01N.Rich.rich2_hyps
-- NestedBOp: spreads of fragments on the abstract type itself next to nested spreads (Proofs/C01NestedB*.lean, P49)
#print axioms GqlVerif.C01NB.nestedb_items_shape
#print axioms GqlVerif.C01NB.nestedb_accepts
#print axioms GqlVerif.C01NB.nestedb_lossless
#print axioms GqlVerif.C01NB.nestedb_roundtrip
#print axioms GqlVerif.C01NB.nestedBOp_of_nestedGen2Op
#print axioms GqlVerif.C01NB.bodyItemsA_eq_X
#print axioms GqlVerif.C01NB.conformsLooseA_eq_X_op
#print axioms GqlVerif.C01NB.canonSelA_eq_X
#print axioms GqlVerif.C01NB.nestedBKeysOk_eq_X
#print axioms GqlVerif.C01NB.nestedBSideOk_eq_X
#print axioms GqlVerif.C01NB.absTagOk_eq_X
#print axioms GqlVerif.C01NB.nestedb_roundtrip_on_nestedGen2Op
#print axioms GqlVerif.C01NB.nb_class
#print axioms GqlVerif.C01NB.nb_not_X
#print axioms GqlVerif.C01NB.nb_not_S
#print axioms GqlVerif.C01NB.nb_items_shape
#print axioms GqlVerif.C01NB.nb_accepts
#print axioms GqlVerif.C01NB.nb_roundtrip_eval
#print axioms GqlVerif.C01NB.nb_roundtrip_canon
#print axioms GqlVerif.C01NB.nb_canon_value
#print axioms GqlVerif.C01NB.nb_roundtrip_eval_cat
#print axioms GqlVerif.C01NB.nb_disj
#print axioms GqlVerif.C01NB.nestedb_b_overlap_needed
#print axioms GqlVerif.C01NB.nestedb_rust_names_needed
#print axioms GqlVerif.C01NB.nestedb_disj_not_needed
