import GqlVerif.Props.C14
import GqlVerif.Proofs.ComposedC14
import GqlVerif.Proofs.SerdeFuelWitness
import GqlVerif.Proofs.C14GeneratedWitness
import GqlVerif.Proofs.C14GeneratedFragWitness
import GqlVerif.Proofs.C01DenyFragWitness
import GqlVerif.Proofs.CalcVariantsPushedClasses
import GqlVerif.Proofs.ModuleOkInputsClasses
open GqlVerif.C14
#print axioms dep_table
#print axioms never_omitted_unless_denied
#print axioms never_marked_unless_warned
#print axioms front_ends_agree
#print axioms omitted_field_key_ignored
#print axioms omitted_key_not_taken
-- a key no member names is ignored: plain structs at any key position, and through flatten under KeyFree (Proofs/ComposedC14.lean)
#print axioms GqlVerif.Composed.deOwnWith_erase
#print axioms GqlVerif.Composed.denied_key_ignored_struct
#print axioms GqlVerif.Composed.denied_key_ignored_struct_insert
#print axioms GqlVerif.Composed.denied_key_ignored_dePath
#print axioms GqlVerif.Composed.denied_key_ignored_flatten
#print axioms GqlVerif.Composed.denied_key_ignored_flatten_insert
#print axioms GqlVerif.Composed.denied_key_ignored_deTy
#print axioms GqlVerif.Composed.deFlat_erase
#print axioms GqlVerif.Composed.keyFree_of_all
#print axioms GqlVerif.Composed.denied_key_ignored_de_of_fuel
#print axioms GqlVerif.Composed.flattened_member_key_matters
#print axioms GqlVerif.Composed.tag_key_matters
#print axioms GqlVerif.Composed.oneOf_key_matters
-- the top-level Serde.de form, unconditional in the fuel (Proofs/SerdeFuel.lean, Proofs/SerdeFuelWitness.lean)
#print axioms GqlVerif.SerdeFuel.denied_key_ignored_de
#print axioms GqlVerif.SerdeFuel.denied_key_ignored_de_ty
#print axioms GqlVerif.SerdeFuel.denied_key_ignored_de_of_nf
#print axioms GqlVerif.SerdeFuel.denied_key_not_ignored_without_rank
#print axioms GqlVerif.SerdeFuel.denyEnv_denied_key_ignored
-- a denied field's key is ignored, for every emitted module of the classes and at every depth (Proofs/C14Generated*.lean)
#print axioms GqlVerif.C14G.keyFreeCheck_sound
#print axioms GqlVerif.C14G.keyFreeCheck_complete
#print axioms GqlVerif.C14G.keyFreeCheck_iff
#print axioms GqlVerif.C14G.mem_reachSet_iff
#print axioms GqlVerif.C14G.swap_dePath
#print axioms GqlVerif.C14G.sim_sound
#print axioms GqlVerif.C14G.sim_de
#print axioms GqlVerif.C14G.sim_de_of_nf
#print axioms GqlVerif.C14G.treeOpD_of_treeOp
#print axioms GqlVerif.C14G.tree_items_shapeD
#print axioms GqlVerif.C14G.fieldsOfD_wires
#print axioms GqlVerif.C14G.denied_field_keyFree
#print axioms GqlVerif.C14G.unselected_key_keyFree
#print axioms GqlVerif.C14G.kept_key_not_keyFree
#print axioms GqlVerif.C14G.not_kept_of_nodup_respKeys
#print axioms GqlVerif.C14G.denied_field_payload_same'
#print axioms GqlVerif.C14G.denied_field_payload_same
#print axioms GqlVerif.C14G.denied_field_payload_same_dePath
#print axioms GqlVerif.C14G.tree_module_acyclic
#print axioms GqlVerif.C14G.tree_module_envOK
#print axioms GqlVerif.C14G.tree_de_never_out_of_fuel
#print axioms GqlVerif.C14G.frag_items_shapeD
#print axioms GqlVerif.C14G.frag_struct_shapeD
#print axioms GqlVerif.C14G.fragOpD_of_treeOpD
#print axioms GqlVerif.C14G.fragnode_keyFree
#print axioms GqlVerif.C14G.denied_field_keyFree_frag
#print axioms GqlVerif.C14G.collected_key_not_keyFree
#print axioms GqlVerif.C14G.denied_field_payload_same_frag
-- instances and necessity witnesses
#print axioms GqlVerif.C14G.Witness.w_instance
#print axioms GqlVerif.C14G.Witness.sibling_key_matters
#print axioms GqlVerif.C14G.Witness.dead_struct_emitted
#print axioms GqlVerif.C14G.FragWitness.f_instance
-- with the fuel condition discharged for the fragment class (Proofs/C01DenyFrag.lean)
#print axioms GqlVerif.C01.Deny.denied_field_payload_same_frag'
#print axioms GqlVerif.C01.Deny.fragOpD_envOK
-- the alias-or-struct decision of a variant struct follows `has_fields` (pushed, not rendered fields): docs/REVIEW_3.md finding 1, P41
#print axioms GqlVerif.Pushed.pushedAny_false_fields
#print axioms GqlVerif.Pushed.fields_nil_pushedAny_false
#print axioms GqlVerif.Pushed.pushedAny_eq_of_noDenied
#print axioms GqlVerif.Pushed.decision_eq_old
#print axioms GqlVerif.Pushed.fields_nil_iff
#print axioms GqlVerif.Pushed.noDeniedV_of_not_deny
#print axioms GqlVerif.Pushed.deny_variant_struct_keeps_flatten
#print axioms GqlVerif.Pushed.allow_variant_struct_two_members
#print axioms GqlVerif.Pushed.old_decision_alias
#print axioms GqlVerif.Pushed.variantOp_decision
#print axioms GqlVerif.Pushed.variantSpreadOp_decision
#print axioms GqlVerif.Pushed.variantSpreadOp2_decision
-- (P42)
#print axioms GqlVerif.MOK.denied_field_payload_same_inputs
